/-
  Lemmas for C06: what a read returns depends only on the frame position and the store bytes; seek results;
  two reads in a row against one.
-/
import SfProofs.HandleContract
import SfProofs.HandlePres
namespace Sf

/-- two handles describe the same opened file (everything a read looks at except the positions) -/
structure SameFile (h1 h2 : H) : Prop where
  enc : h1.enc = h2.enc
  conv : h1.conv = h2.conv
  ch : h1.ch = h2.ch
  frames : h1.frames = h2.frames
  dataoffset : h1.dataoffset = h2.dataoffset
  mode : h1.mode = h2.mode

theorem SameFile.refl (h : H) : SameFile h h := ⟨rfl, rfl, rfl, rfl, rfl, rfl⟩

theorem SameFile.itemStream {h1 h2 : H} (sf : SameFile h1 h2) (bytes : List Byte) (ty : Ty) :
    itemStream h1 bytes ty = itemStream h2 bytes ty := by
  unfold Sf.itemStream; rw [sf.enc, sf.conv, sf.dataoffset]

theorem stepRead_sameFile (h : H) (s : Store) (ty : Ty) (fc : Bool) (n : Int) :
    SameFile h (stepRead h s ty fc n).1 := by
  obtain ⟨a, b, c, d, e, f, _⟩ := stepRead_keeps h s ty fc n
  exact ⟨c.symm, d.symm, b.symm, a.symm, e.symm, f.symm⟩

/-- On read-only handles the result of a read is a function of the frame position and the store bytes. -/
theorem read_out_depends (h1 h2 : H) (s1 s2 : Store) (ty : Ty) (fc : Bool) (n : Int)
    (hi1 : HInv h1 s1) (hi2 : HInv h2 s2) (hm : h1.mode = .r) (sf : SameFile h1 h2)
    (hpos : h1.rpos = h2.rpos) (hbytes : s1.bytes = s2.bytes) (herr : h1.error = h2.error) :
    (stepRead h1 s1 ty fc n).2.2 = (stepRead h2 s2 ty fc n).2.2 := by
  have hm2 : h2.mode = .r := by rw [← sf.mode]; exact hm
  have hlen : reqLen h1 fc n = reqLen h2 fc n := reqLen_congr sf.ch fc n
  by_cases h0 : n = 0
  · subst h0; rw [stepRead_zero, stepRead_zero, herr]
  by_cases hneg : n < 0
  · rw [stepRead_neg _ _ _ _ _ hneg, stepRead_neg _ _ _ _ _ hneg]
  have hn : 0 < n := by omega
  have hw1 : h1.mode ≠ .w := by rw [hm]; decide
  have hw2 : h2.mode ≠ .w := by rw [hm2]; decide
  by_cases ha : fc = true ∨ n % (h1.ch : Int) = 0
  · have ha2 : fc = true ∨ n % (h2.ch : Int) = 0 := by rw [← sf.ch]; exact ha
    by_cases he : h1.frames ≤ h1.rpos
    · have he2 : h2.frames ≤ h2.rpos := by rw [← sf.frames, ← hpos]; exact he
      rw [stepRead_eof _ _ _ _ _ hn hw1 ha he, stepRead_eof _ _ _ _ _ hn hw2 ha2 he2, hlen]
    · have he1 : h1.rpos < h1.frames := by omega
      have he2 : h2.rpos < h2.frames := by rw [← sf.frames, ← hpos]; exact he1
      obtain ⟨R1, A1, O1, _, hR1, _, hO1, hp1, _, hrp1⟩ := rmode_nat h1 s1 hi1 hm he1
      obtain ⟨R2, A2, O2, _, hR2, _, hO2, hp2, _, hrp2⟩ := rmode_nat h2 s2 hi2 hm2 he2
      have hgot : readGot h1 s1 (reqLen h2 fc n) = readGot h2 s2 (reqLen h2 fc n) := by
        unfold readGot
        have : s1.pos = s2.pos := by
          rw [hp1, hp2, ← sf.enc, ← sf.ch]
          have : R1 = R2 := by have := hpos; rw [hR1, hR2] at this; omega
          have : O1 = O2 := by have := sf.dataoffset; rw [hO1, hO2] at this; omega
          subst_vars; rfl
        rw [hrp1, hrp2, this, hbytes]
        simp only [H.nb, sf.enc]
      obtain ⟨c1, hc1, _, _, e1⟩ := stepRead_count h1 s1 ty fc n hn hw1 ha he1 hi1.ch_pos hi1.nb_pos
      obtain ⟨c2, hc2, _, _, e2⟩ := stepRead_count h2 s2 ty fc n hn hw2 ha2 he2 hi2.ch_pos hi2.nb_pos
      rw [hlen, hgot, sf.enc, sf.frames, hpos, sf.ch, ← hc2] at hc1
      subst hc1
      rw [e1, e2]
      simp only [hlen, hgot, sf.enc, sf.conv, sf.ch, sf.frames, hpos]
  · obtain ⟨hf, hna⟩ := not_aligned_of fc n h1.ch ha
    subst hf
    have hna2 : n % (h2.ch : Int) ≠ 0 := by rw [← sf.ch]; exact hna
    rw [stepRead_align _ _ _ _ hn hw1 hna, stepRead_align _ _ _ _ hn hw2 hna2]

theorem seek_result_any (h : H) (s : Store) (off whence : Int) :
    ((stepSeek h s off whence).2.2.ret = -1 ∧ (stepSeek h s off whence).2.2.err ≠ 0 ∧
      (stepSeek h s off whence).1 = { h with error := (stepSeek h s off whence).2.2.err } ∧
      (stepSeek h s off whence).2.1 = s) ∨
    (∃ b, seekBase h whence = some b ∧ (stepSeek h s off whence).2.2.ret = b + off ∧
      (stepSeek h s off whence).2.2.err = 0 ∧ (stepSeek h s off whence).1.error = 0 ∧
      (stepSeek h s off whence).2.1.bytes = s.bytes ∧ (HInv h s → 0 ≤ b + off)) := by
  rcases stepSeek_cases h s off whence with ⟨e, he, eq⟩ | ⟨b, hb, ht, _, _, eq⟩ | ⟨b, hb, _, h0, _, _, _, eq⟩
  · left; rw [eq]; exact ⟨rfl, he, rfl, rfl⟩
  · right; rw [eq]
    have hoff : off = 0 := ht.1
    refine ⟨b, hb, by simp [seekTell, hoff], rfl, rfl, rfl, fun hi => ?_⟩
    subst hoff
    have hr := hi.rpos_nn; have hw := hi.wpos_nn
    unfold seekBase at hb
    rcases ht.2 with ⟨w, _⟩ | w | w <;> subst w <;> simp at hb <;> (try split at hb) <;> omega
  · right; rw [eq]
    refine ⟨b, hb, rfl, rfl, ?_, rfl, fun _ => h0⟩
    obtain ⟨rp, wp, lo, e, _⟩ := seekMoveH_fields h (seekWm whence) (b + off)
    rw [e]

/-- a successful seek on a read-only handle: the read position is the value returned, nothing else a read looks at
    changes -/
theorem seek_success_rmode (h : H) (s : Store) (off whence : Int) (hi : HInv h s) (hm : h.mode = .r)
    (hok : (stepSeek h s off whence).2.2.err = 0) :
    (stepSeek h s off whence).1.rpos = (stepSeek h s off whence).2.2.ret ∧
    SameFile h (stepSeek h s off whence).1 ∧ (stepSeek h s off whence).2.1.bytes = s.bytes ∧
    (stepSeek h s off whence).1.error = 0 ∧
    0 ≤ (stepSeek h s off whence).2.2.ret ∧ (stepSeek h s off whence).2.2.ret ≤ h.frames := by
  have hr := hi.rd hm
  rcases stepSeek_cases h s off whence with ⟨e, he, eq⟩ | ⟨b, hb, ht, n1, _, eq⟩ | ⟨b, hb, _, h0, hfr, n1, _, eq⟩
  · rw [eq] at hok; exact absurd hok he
  · rw [eq]
    have hb' : b = h.rpos := by
      unfold seekBase at hb
      rcases ht.2 with ⟨w, _⟩ | w | w
      · subst w; simp [hm] at hb; omega
      · subst w; simp at hb; omega
      · subst w; exfalso; exact n1 ⟨by unfold seekWm; decide, hm⟩
    subst hb'
    exact ⟨rfl, ⟨rfl, rfl, rfl, rfl, rfl, rfl⟩, rfl, rfl, hi.rpos_nn, hr.rpos_le⟩
  · obtain ⟨wp, e, _⟩ := seekMoveH_rmode h whence (b + off) hm n1
    rw [eq, e]
    exact ⟨rfl, ⟨rfl, rfl, rfl, rfl, rfl, rfl⟩, rfl, rfl, h0, hfr hm⟩

/-- `sf_seek (k, SEEK_SET)`, for both cursors or (`| SFM_READ`) the read cursor alone, on a handle that can read -/
theorem seek_set_read (h : H) (s : Store) (k whence : Int) (hw : whence = 0 ∨ whence = 0x10) (hi : HInv h s) (hm : h.mode ≠ .w)
    (hk0 : 0 ≤ k) (hk : h.mode = .r → k ≤ h.frames) :
    (stepSeek h s k whence).1.rpos = k ∧ SameFile h (stepSeek h s k whence).1 ∧ (stepSeek h s k whence).2.1.bytes = s.bytes ∧
    HInv (stepSeek h s k whence).1 (stepSeek h s k whence).2.1 := by
  have hi' := HInv_stepSeek h s k whence hi
  have e : stepSeek h s k whence = (seekMoveH h whence k, defaultSeek h s k, { ret := k, err := 0 }) := by
    have : ¬ (k < 0 ∨ (h.mode = .r ∧ k > h.frames)) := fun c => c.elim (by omega) fun ⟨m, c⟩ => by have := hk m; omega
    rw [stepSeek_eq_spec]
    rcases hw with rfl | rfl <;> simp [seekSpec, seekWm, seekBase, seekIsTell, hm, this]
  rw [e] at hi' ⊢
  -- either whence moves the read cursor
  rcases seekMoveH_cases h whence k (by omega) with ⟨_, _, e'⟩ | ⟨nr, _, _⟩ | ⟨_, _, e'⟩
  · rw [e'] at hi' ⊢; exact ⟨rfl, ⟨rfl, rfl, rfl, rfl, rfl, rfl⟩, rfl, hi'⟩
  · exact absurd (hw.elim (fun w => .inr (.inr ⟨w, hm⟩)) .inl) nr
  · rw [e'] at hi' ⊢; exact ⟨rfl, ⟨rfl, rfl, rfl, rfl, rfl, rfl⟩, rfl, hi'⟩

theorem seek_cur_zero_r (h : H) (s : Store) (hm : h.mode = .r) :
    stepSeek h s 0 1 = ({ h with error := 0 }, s, { ret := h.rpos, err := 0 }) := by
  rw [stepSeek_eq_spec]; simp [seekSpec, seekWm, seekBase, seekIsTell, seekTell, hm]

theorem reqLen_add (h : H) (fc : Bool) (a b : Int) : reqLen h fc (a + b) = reqLen h fc a + reqLen h fc b := by
  unfold reqLen; split
  · exact Int.add_mul _ _ _
  · rfl

/-- `ma + mb` frames cut at `A` = `ma` cut at `A`, then `mb` cut at what the first cut left -/
theorem min_add_split (ma mb R A R' A' : Nat) (h1 : R' = R + min ma A) (h2 : R' + A' = R + A) :
    min (ma + mb) A = min ma A + min mb A' := by
  omega

/-- reading `ma` frames and then `mb` frames = reading `ma + mb` frames, on a read-only handle -/
theorem partition_core (h : H) (s : Store) (ty : Ty) (fc : Bool) (a b : Int) (hi : HInv h s) (hm : h.mode = .r)
    (ha0 : 0 < a) (hb0 : 0 < b) (haa : fc = true ∨ a % (h.ch : Int) = 0) (hab : fc = true ∨ b % (h.ch : Int) = 0)
    (ma mb : Nat) (hla : reqLen h fc a = (ma : Int) * (h.ch : Int)) (hlb : reqLen h fc b = (mb : Int) * (h.ch : Int)) :
    let r1 := stepRead h s ty fc a
    let r2 := stepRead r1.1 r1.2.1 ty fc b
    let r3 := stepRead h s ty fc (a + b)
    ∃ d1 d2 : Nat,
      r1.2.2.ret = (if fc then (d1 : Int) else ((d1 * h.ch : Nat) : Int)) ∧
      r2.2.2.ret = (if fc then (d2 : Int) else ((d2 * h.ch : Nat) : Int)) ∧
      r3.2.2.ret = (if fc then ((d1 + d2 : Nat) : Int) else (((d1 + d2) * h.ch : Nat) : Int)) ∧
      r2.1.rpos = r3.1.rpos ∧
      r1.2.2.data.take (d1 * h.ch) ++ r2.2.2.data.take (d2 * h.ch) = r3.2.2.data.take ((d1 + d2) * h.ch) := by
  intro r1 r2 r3
  have hi1 : HInv r1.1 r1.2.1 := HInv_stepRead h s ty fc a hi
  have sf1 : SameFile h r1.1 := stepRead_sameFile h s ty fc a
  have hm1 : r1.1.mode = .r := by rw [← sf1.mode]; exact hm
  obtain ⟨_ret_nn, _ret_le, _ret_zero, _len, _rpos, (hb1 : r1.2.1.bytes = s.bytes)⟩ := read_contract_any h s ty fc a hi
  have hab1 : fc = true ∨ b % (r1.1.ch : Int) = 0 := by rw [← sf1.ch]; exact hab
  have hlb1 : reqLen r1.1 fc b = (mb : Int) * (r1.1.ch : Int) := by
    rw [← sf1.ch, ← hlb]; exact (reqLen_congr sf1.ch fc b).symm
  have hab3 : fc = true ∨ (a + b) % (h.ch : Int) = 0 := by
    rcases haa with x | x
    · exact Or.inl x
    · rcases hab with y | y
      · exact Or.inl y
      · right; exact Int.emod_eq_zero_of_dvd (Int.dvd_add (Int.dvd_of_emod_eq_zero x) (Int.dvd_of_emod_eq_zero y))
  have hl3 : reqLen h fc (a + b) = ((ma + mb : Nat) : Int) * (h.ch : Int) := by
    rw [reqLen_add, hla, hlb]; push_cast; rw [Int.add_mul]
  obtain ⟨R, A, hR, hF, p1, q1, _, _, d1⟩ := read_rmode_nat h s ty fc a hi hm ha0 haa ma hla
  obtain ⟨R', A', hR', hF', p2, q2, _, _, d2⟩ := read_rmode_nat r1.1 r1.2.1 ty fc b hi1 hm1 hb0 hab1 mb hlb1
  obtain ⟨R3, A3, hR3, hF3, p3, q3, _, _, d3⟩ := read_rmode_nat h s ty fc (a + b) hi hm (by omega) hab3 (ma + mb) hl3
  -- `R3, A3` are `R, A` again, and the second read starts where the first ended, with `A'` frames left
  have eR3 : R3 = R := Int.ofNat.inj (hR3.symm.trans hR)
  subst eR3
  have eA3 : A3 = A := Nat.add_left_cancel (Int.ofNat.inj (hF3.symm.trans hF))
  subst eA3
  have eR' : R' = R3 + min ma A3 := Int.ofNat.inj (hR'.symm.trans p1)
  have eA' : R' + A' = R3 + A3 := Int.ofNat.inj (hF'.symm.trans (sf1.frames.symm.trans hF))
  have hsum : min (ma + mb) A3 = min ma A3 + min mb A' := min_add_split ma mb R3 A3 R' A' eR' eA'
  refine ⟨min ma A3, min mb A', q1, ?_, ?_, ?_, ?_⟩
  · rw [q2, ← sf1.ch]
  · rw [q3, hsum]
  · rw [p2, p3, eR', hsum, Nat.add_assoc]
  · have d3' : r3.2.2.data.take ((min ma A3 + min mb A') * h.ch) =
        ((itemStream h s.bytes ty).drop (R3 * h.ch)).take ((min ma A3 + min mb A') * h.ch) := by
      rw [← hsum]; exact d3
    have d2' : r2.2.2.data.take (min mb A' * h.ch) =
        ((itemStream h s.bytes ty).drop (R3 * h.ch + min ma A3 * h.ch)).take (min mb A' * h.ch) := by
      have := d2
      rw [← sf1.ch, hb1, ← SameFile.itemStream sf1, eR', Nat.add_mul] at this
      exact this
    rw [d1, d2', d3', Nat.add_mul, List.take_add, List.drop_drop]

end Sf
