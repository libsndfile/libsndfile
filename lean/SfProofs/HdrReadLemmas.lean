/-
  The header cache reading a well-formed file: fields read back from a prefix-relative position (the "zipper" lemmas, and
  the reads that start from a cache that is ahead of the reader), and, proved from them, the same at a cursor.
-/
import SfModel.HdrRead
import SfProofs.Fields
namespace Sf.HdrRd
open Sf

/-- a reader that has consumed exactly `k` bytes without a short read and holds `e` bytes in the cache -/
def Rd.mk3 (k e : Nat) : Rd := ⟨k, e, false⟩

theorem rdN_at {bs pre fld rest : List Byte} {e n : Nat} (hb : bs = pre ++ (fld ++ rest)) (hn : n = fld.length) :
    rdN bs ⟨pre.length, e, false⟩ n = (some fld, n, ⟨pre.length + n, max e (pre.length + n), false⟩) := by
  subst hb; subst hn
  unfold rdN
  by_cases h : pre.length + fld.length ≤ e
  · simp only [h, if_true, List.drop_left, List.take_left]
    have : max e (pre.length + fld.length) = e := by omega
    rw [this]
  · have h2 : (!false) = true ∧ pre.length + fld.length ≤ (pre ++ (fld ++ rest)).length := by simp
    have : max e (pre.length + fld.length) = pre.length + fld.length := by omega
    rw [this]
    simp [h]

theorem rdRaw_at {bs pre fld rest : List Byte} {e n : Nat} (hb : bs = pre ++ (fld ++ rest)) (hn : n = fld.length) :
    rdRaw bs ⟨pre.length, e, false⟩ n = (fld, ⟨pre.length + n, max e (pre.length + n), false⟩) := by
  unfold rdRaw; rw [rdN_at hb hn]

theorem rdSeq_mid (flds : List (List Byte)) : ∀ (pre rest : List Byte) (e : Nat), pre.length ≤ e →
    rdSeq (pre ++ (flds.flatten ++ rest)) (flds.map List.length) ⟨pre.length, e, false⟩ =
      (flds, ⟨pre.length + flds.flatten.length, max e (pre.length + flds.flatten.length), false⟩) := by
  induction flds with
  | nil => intro pre rest e he; simp [rdSeq]; omega
  | cons f fs ih =>
    intro pre rest e he
    have hb : pre ++ ((f :: fs).flatten ++ rest) = pre ++ (f ++ (fs.flatten ++ rest)) := by simp
    have hb2 : pre ++ ((f :: fs).flatten ++ rest) = (pre ++ f) ++ (fs.flatten ++ rest) := by simp
    simp only [List.map_cons, rdSeq]
    rw [rdRaw_at hb rfl]
    simp only
    have hl : pre.length + f.length = (pre ++ f).length := by simp
    rw [hl, hb2, ih (pre ++ f) rest (max e (pre ++ f).length) (by omega)]
    simp only [List.length_append, List.flatten_cons, Prod.mk.injEq, true_and, Rd.mk.injEq, and_true]
    constructor <;> omega

theorem rdSeq_at {bs pre rest : List Byte} (flds : List (List Byte)) {ns : List Nat} {e : Nat}
    (hb : bs = pre ++ (flds.flatten ++ rest)) (hn : ns = flds.map List.length) (he : pre.length ≤ e) :
    rdSeq bs ns ⟨pre.length, e, false⟩ = (flds, ⟨pre.length + flds.flatten.length, max e (pre.length + flds.flatten.length), false⟩) := by
  subst hb; subst hn; exact rdSeq_mid flds pre rest e he

theorem skip_fwd (bs : List Byte) (k e p : Nat) (h : k + p ≤ bs.length) (he : e ≤ bs.length) :
    skip bs ⟨k, e, false⟩ (p : Int) = ⟨k + p, max e (k + p), false⟩ := by
  unfold skip
  have h0 : ¬ ((p : Int) < 0) := by omega
  simp only [h0, if_false, Int.toNat_natCast]
  by_cases h1 : k + p ≤ e
  · simp only [h1, if_true]
    have : max e (k + p) = e := by omega
    rw [this]
  · simp only [h1, if_false, Bool.false_eq_true]
    have : min (k + p - e) (bs.length - e) = k + p - e := by omega
    rw [this]
    have h2 : e + (k + p - e) = k + p := by omega
    have h3 : max e (k + p) = k + p := by omega
    rw [h2, h3]

theorem ftell_ok (bs : List Byte) (k e : Nat) : ftell bs ⟨k, e, false⟩ = e := by simp [ftell]

end Sf.HdrRd

/-! the header cache (`Sf.HdrRd`) reading at a cursor: with `bs.drop p = field ++ rest` and a reader that
  stands at `p` with nothing cached beyond it, a read returns the field and stands at its end.  (The prefix forms are
  above; these are what the chunk walks of CAF and W64 and the MAT5 reader are followed with.) -/

namespace Sf.HdrRd
open Sf Sf.Cursor

/-- a reader at offset `p` of a file read strictly front to back -/
abbrev Rd.at (p : Nat) : Rd := ⟨p, p, false⟩

theorem rdN_drop {bs fld rest : List Byte} {p n : Nat} (hd : bs.drop p = fld ++ rest) (hn : fld.length = n) (h0 : 0 < n) :
    rdN bs (.at p) n = (some fld, n, .at (p + n)) := by
  obtain ⟨hb, hp⟩ := split_at hd (by rw [List.length_append]; omega)
  have := rdN_at (e := p) hb hn.symm
  rw [hp, Nat.max_eq_right (by omega)] at this
  exact this

theorem rdBE_drop {bs fld rest : List Byte} {p n : Nat} (hd : bs.drop p = fld ++ rest) (hn : fld.length = n) (h0 : 0 < n) :
    rdBE bs (.at p) n = (ofBE fld, .at (p + n)) := by
  unfold rdBE; rw [rdN_drop hd hn h0]

theorem rdLE_drop {bs fld rest : List Byte} {p n : Nat} (hd : bs.drop p = fld ++ rest) (hn : fld.length = n) (h0 : 0 < n) :
    rdLE bs (.at p) n = (ofLE fld, .at (p + n)) := by
  unfold rdLE; rw [rdN_drop hd hn h0]

theorem rdSeq_drop {bs rest : List Byte} (flds : List (List Byte)) {ns : List Nat} {p L : Nat} (hd : bs.drop p = flds.flatten ++ rest)
    (hn : ns = flds.map List.length) (hL : flds.flatten.length = L) (h0 : 0 < L) :
    rdSeq bs ns (.at p) = (flds, .at (p + L)) := by
  obtain ⟨hb, hp⟩ := split_at hd (by rw [List.length_append]; omega)
  have := rdSeq_at (e := p) flds hb hn (by omega)
  rw [hp, hL, Nat.max_eq_right (by omega)] at this
  exact this

theorem skip_at (bs : List Byte) (p k : Nat) (h : p + k ≤ bs.length) : skip bs (.at p) (k : Int) = .at (p + k) := by
  rw [skip_fwd bs p p k h (by omega), Nat.max_eq_right (by omega)]

theorem ftell_at (bs : List Byte) (p : Nat) : ftell bs (.at p) = p := ftell_ok bs p p

theorem rdRaw_drop {bs fld rest : List Byte} {p n : Nat} (hd : bs.drop p = fld ++ rest) (hn : fld.length = n) (h0 : 0 < n) :
    rdRaw bs (.at p) n = (fld, .at (p + n)) := by
  unfold rdRaw; rw [rdN_drop hd hn h0]

theorem rdSeq_next {bs rest : List Byte} (flds : List (List Byte)) {ns : List Nat} {p L : Nat} (hd : bs.drop p = flds.flatten ++ rest)
    (hn : ns = flds.map List.length) (hL : flds.flatten.length = L) (h0 : 0 < L) :
    rdSeq bs ns (.at p) = (flds, .at (p + L)) ∧ bs.drop (p + L) = rest :=
  ⟨rdSeq_drop flds hd hn hL h0, drop_at hd hL⟩

end Sf.HdrRd
