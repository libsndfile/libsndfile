/-
  SD2: the resource-fork parser is safe for arbitrary fork bytes (helpers of SfProps/C04Sd2.lean): every read lies
  inside the fork, and the loop bound of the model is never reached — iteration k of the string loop needs
  item_offset + 12 k + 1 < len, so the parser makes at most len / 12 + 1 iterations.  The same walk through the string
  loop shows that it never overwrites a number it has stored (`Kept`): what SfProofs/Sd2Walk.lean needs of the iterations
  that follow the three 'STR ' resources.
-/
import SfProofs.Sd2Bounded
namespace Sf.Sd2
open Sf Sf.Small2 Prog

variable {L : Nat}

theorem Prog.Safe.mono {P Q : α → Prop} {p : Prog α} (h : Safe L P p) (hpq : ∀ a, P a → Q a) : Safe L Q p := by
  induction h with
  | pure a ha => exact Safe.pure a (hpq a ha)
  | read i k hi _ ih => exact Safe.read i k hi ih

/-- What the string loop answers from state `s`: it ends by itself, and once the three numbers are all set no later
    iteration changes them (parse_str_rsrc stores each of them only while it is still 0). -/
def Kept (s : LoopSt) (r : Option LoopSt) : Prop :=
  ∃ s', r = some s' ∧ (s.size ≠ 0 → s.rate ≠ 0 → s.ch ≠ 0 → s'.size = s.size ∧ s'.rate = s.rate ∧ s'.ch = s.ch)

theorem Kept.same (s : LoopSt) (so dO dL : Int) : Kept s (some { s with strOff := so, dataOff := dO, dataLen := dL }) :=
  ⟨_, rfl, fun _ _ _ => ⟨rfl, rfl, rfl⟩⟩

/-- the string loop in bounds; with enough fuel for the iterations that remain its answer is `Kept` -/
theorem strLoopK_safe (dOff itemOff : Int) (hi : 0 ≤ itemOff) :
    ∀ (fuel : Nat) (k : Int) (s : LoopSt), 0 ≤ k → (L : Int) / 12 + 2 ≤ fuel + k → 1 ≤ fuel →
      Safe L (Kept s) (strLoopK L dOff itemOff fuel k s)
  | 0, _, _, _, _, h => by omega
  | fuel + 1, k, s, hk, hf, _ => by
    rw [strLoopK]
    refine Safe.ite (fun _ => Safe.ret _ ⟨s, rfl, fun _ _ _ => ⟨rfl, rfl, rfl⟩⟩) (fun _ => ?_)
    refine Safe.bind (rdChar_safe _) (fun slen _ => ?_)
    refine Safe.bind (rdStr_safe _ _) (fun _ _ => ?_)
    refine Safe.ite (fun _ => Safe.ret _ (Kept.same s _ s.dataOff s.dataLen)) (fun hid => ?_)
    refine Safe.bind (rdShort_safe _) (fun id _ => ?_)
    refine Safe.bind (rdInt_safe _) (fun rel _ => ?_)
    refine Safe.ite (fun _ => Safe.ret _ (Kept.same s _ _ s.dataLen)) (fun _ => ?_)
    refine Safe.bind (rdInt_safe _) (fun dl _ => ?_)
    refine Safe.ite (fun _ => Safe.ret _ (Kept.same s _ _ _)) (fun _ => ?_)
    refine Safe.bind (rdChar_safe _) (fun vlen _ => ?_)
    refine Safe.bind (rdStr_safe _ _) (fun value _ => ?_)
    refine Safe.ite (fun _ => Safe.ret _ (Kept.same s _ _ _)) (fun _ => ?_)
    -- the item of this iteration lay inside the fork (`hid`): fewer than len / 12 iterations have been made
    refine (strLoopK_safe dOff itemOff hi fuel _ _ (by omega) (by push_cast at hf ⊢; omega) (by push_cast at hf; omega)).mono ?_
    -- a number is stored only while it is 0: with all three set the next state has the numbers of `s`
    rintro r ⟨s', rfl, h⟩
    refine ⟨s', rfl, fun h1 h2 h3 => ?_⟩
    rw [if_neg (fun h => h1 h.2), if_neg (fun h => h2 h.2), if_neg (fun h => h3 h.2)] at h
    exact h h1 h2 h3

theorem finish_ne_fuel (s : LoopSt) : finish s ≠ .fuel := by
  unfold finish
  dsimp only
  repeat (first | (intro h; cases h) | split)

theorem parseStr_safe (dOff itemOff strOff : Int) (hi : 0 ≤ itemOff) : Safe L (· ≠ PRes.fuel) (parseStr L dOff itemOff strOff) := by
  unfold parseStr
  refine Safe.bind (strLoopK_safe dOff itemOff hi _ 0 _ (by omega) ?_ (by unfold loopFuel; omega)) (fun r hr => ?_)
  · unfold loopFuel
    have : ((L : Int).toNat / 12 + 2 : Nat) = (L / 12 + 2 : Nat) := by simp
    rw [this]; push_cast; omega
  · obtain ⟨s, rfl, _⟩ := hr
    exact Safe.ret _ (finish_ne_fuel s)

theorem typeLoop_safe (dOff typeOff itemOff strOff : Int) (hi : 0 ≤ itemOff) :
    ∀ (n : Nat) (k : Int), Safe L (· ≠ PRes.fuel) (typeLoop L dOff typeOff itemOff strOff n k)
  | 0, _ => Safe.ret _ (by simp)
  | n + 1, k => by
    rw [typeLoop]
    refine Safe.bind (rdMarker_safe _) (fun m _ => ?_)
    refine Safe.ite (fun _ => ?_) (fun _ => typeLoop_safe dOff typeOff itemOff strOff hi n _)
    exact Safe.bind (rdShort_safe _) (fun _ _ => parseStr_safe _ _ _ hi)

theorem parseFork_safe : Safe L (· ≠ PRes.fuel) (parseFork L) := by
  unfold parseFork
  refine Safe.bind (rdInt_safe _) (fun d0 _ => ?_)
  refine Safe.bind (rdInt_safe _) (fun m0 _ => ?_)
  refine Safe.bind (rdInt_safe _) (fun dl0 _ => ?_)
  refine Safe.bind (rdInt_safe _) (fun ml0 _ => ?_)
  refine Safe.bind (Q := fun _ => True) ?_ (fun q _ => ?_)
  · refine Safe.ite (fun _ => ?_) (fun _ => Safe.ret _ trivial)
    refine Safe.bind (rdInt_safe _) (fun a _ => ?_)
    refine Safe.bind (rdInt_safe _) (fun b _ => ?_)
    refine Safe.bind (rdInt_safe _) (fun c _ => ?_)
    exact Safe.bind (rdInt_safe _) (fun d _ => Safe.ret _ trivial)
  · obtain ⟨dOff, mOff, dLen, mLen⟩ := q
    refine Safe.ite (fun _ => Safe.ret _ (by simp)) (fun _ => ?_)
    refine Safe.ite (fun _ => Safe.ret _ (by simp)) (fun _ => ?_)
    refine Safe.ite (fun _ => Safe.ret _ (by simp)) (fun _ => ?_)
    refine Safe.ite (fun _ => Safe.ret _ (by simp)) (fun _ => ?_)
    refine Safe.ite (fun _ => Safe.ret _ (by simp)) (fun _ => ?_)
    refine Safe.ite (fun _ => Safe.ret _ (by simp)) (fun _ => ?_)
    refine Safe.bind (rdShort_safe _) (fun so _ => ?_)
    refine Safe.ite (fun _ => Safe.ret _ (by simp)) (fun _ => ?_)
    refine Safe.bind (rdShort_safe _) (fun tc _ => ?_)
    refine Safe.ite (fun _ => Safe.ret _ (by simp)) (fun _ => ?_)
    refine Safe.ite (fun _ => Safe.ret _ (by simp)) (fun h => ?_)
    exact typeLoop_safe _ _ _ _ (by omega) _ _

end Sf.Sd2
