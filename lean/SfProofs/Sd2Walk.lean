/-
  SD2: the walk of sd2_parse_rsrc_fork / parse_str_rsrc over the fork the writer makes, for EVERY accepted configuration
  (`parse_written`; SfProps/C04Sd2.lean and C04Sd2All.lean state it as properties).  `stage1` = the header tests, the map
  fields and the type list up to the call of parse_str_rsrc; `iter` = one iteration of the string loop on a Pascal-string
  resource; `item_reads` = the reference-list reads of iterations 0, 1, 2.  After those the three numbers are set, and the
  rest of the loop (whatever it reads) keeps them: `Kept` of SfProofs/Sd2Fuel.lean, proved for arbitrary bytes.
  Hypotheses that are equations between `Prog.eval` terms are kept away from `omega` (its kernel check would unfold the
  whole fork): arithmetic facts are proved after `clear`, the item reads live in the structure `ItemReads`.
-/
import SfProofs.Sd2Eval
import SfProofs.Sd2Fuel
namespace Sf.Sd2.Walk
open Sf Sf.Small2 Sf.Sd2 Sf.Sd2.Prog
open Sf.Pvf (digits)

theorem eval_Pure (g : Nat → Byte) (a : α) : (Pure.pure a : Prog α).eval g = a := rfl

theorem head_ints (f : Nat → Byte) (c : Cfg) (hn : c.name.length ≤ 200) (len : Int) (hlen : 16 < len) (hm : mapOff c < 2147483648) (hd : dataLen c < 2147483648) :
    (rdInt len 0).eval (G f c) = 256 ∧ (rdInt len 4).eval (G f c) = (mapOff c : Int) ∧
    (rdInt len 8).eval (G f c) = (dataLen c : Int) ∧ (rdInt len 12).eval (G f c) = 147 := by
  have h := (rsrc_parts f c hn).1
  exact ⟨eval_rdInt_at (G f c) (rsrcWith f c) (fun _ => rfl) len 0 _ 256 rfl (by omega) (by omega) (h.trans (((FieldAt.head _ _).app _).app _)),
    eval_rdInt_at (G f c) (rsrcWith f c) (fun _ => rfl) len 4 _ (mapOff c) rfl (by omega) hm (h.trans (((FieldAt.last _ _ 4 (be32_length _)).app _).app _)),
    eval_rdInt_at (G f c) (rsrcWith f c) (fun _ => rfl) len 8 _ (dataLen c) rfl (by omega) hd (h.trans ((FieldAt.last _ _ 8 (by simp [be32_length])).app _)),
    eval_rdInt_at (G f c) (rsrcWith f c) (fun _ => rfl) len 12 _ 147 rfl (by omega) (by omega) (h.trans (FieldAt.last _ _ 12 (by simp [be32_length])))⟩

theorem isPrint_digit (b : Nat) (h : 48 ≤ b ∧ b ≤ 57) : isPrint b = true := by
  have h1 := h.1; have h2 := h.2
  simp only [isPrint, decide_eq_true_eq]
  exact ⟨Nat.le_trans (by decide : 32 ≤ 48) h1, Nat.le_trans h2 (by decide : 57 ≤ 126)⟩

theorem no_photoshop : ∀ (t : List Byte), (∀ b ∈ t, b ≠ 80) → hasInfix (asc "Photoshop") t = false
  | [], _ => by decide
  | b :: t, h => by
    have hb : b ≠ 80 := h b (List.mem_cons_self ..)
    have ih := no_photoshop t (fun x hx => h x (List.mem_cons_of_mem _ hx))
    have e : asc "Photoshop" = 80 :: asc "hotoshop" := by decide
    unfold hasInfix
    rw [ih, e]
    simp [List.isPrefixOf]
    intro h; exact absurd h.symm hb

theorem digits_chars (n : Nat) : ∀ b ∈ digits n, isPrint b = true ∧ b ≠ 80 := by
  intro b hb
  have := Sf.Pvf.digits_all _ b hb
  exact ⟨isPrint_digit b this, fun h => by subst h; omega⟩

theorem rateText_chars (c : Cfg) : ∀ b ∈ rateText c, isPrint b = true ∧ b ≠ 80 := by
  intro b hb
  unfold rateText at hb
  rw [List.mem_append] at hb
  rcases hb with hb | hb
  · exact digits_chars _ b hb
  · rw [rateTail_eq] at hb
    simp at hb
    rcases hb with rfl | rfl <;> decide

theorem map_short (f : Nat → Byte) (c : Cfg) (hn : c.name.length ≤ 200) (len off : Int) (hlen : len = (mapOff c : Int) + 147) (u v : Nat) (hu : u + 1 < 147)
    (ho : off = (mapOff c : Int) + u) (hv : v < 65536) (hat : FieldAt (mapRegion f c) u (be16 (v : Int))) : (rdShort len off).eval (G f c) = v :=
  eval_rdShort_at (G f c) (rsrcWith f c) (fun _ => rfl) len off (mapOff c + u) v (by omega) (by omega) hv ((rsrc_parts f c hn).2.2.trans hat)

theorem map_int (f : Nat → Byte) (c : Cfg) (hn : c.name.length ≤ 200) (len off : Int) (hlen : len = (mapOff c : Int) + 147) (u v : Nat) (hu : u + 3 < 147)
    (ho : off = (mapOff c : Int) + u) (hv : v < 2147483648) (hat : FieldAt (mapRegion f c) u (be32 (v : Int))) : (rdInt len off).eval (G f c) = v :=
  eval_rdInt_at (G f c) (rsrcWith f c) (fun _ => rfl) len off (mapOff c + u) v (by omega) (by omega) hv ((rsrc_parts f c hn).2.2.trans hat)

/-- sd2_parse_rsrc_fork up to the call of parse_str_rsrc -/
theorem stage1 (f : Nat → Byte) (c : Cfg) (hn : c.name.length ≤ 200) (len : Int) (hlen : len = (mapOff c : Int) + 147) (hd : dataLen c < 1000) :
    (parseFork len).eval (G f c) = (parseStr len 256 ((mapOff c : Int) + 46) ((mapOff c : Int) + 106)).eval (G f c) := by
  have hmo := (layout c).1
  obtain ⟨h0, h4, h8, h12⟩ := head_ints f c hn len (by omega) (by omega) (by omega)
  unfold parseFork
  simp only [eval_bind, h0, h4, h8, h12]
  rw [if_neg (by omega : ¬ ((256 : Int) = 333319 ∧ (mapOff c : Int) = 131072))]
  simp only [eval_Pure]
  have w1 : wrapS 32 (256 + (dataLen c : Int)) = (mapOff c : Int) := by rw [wrapS_of_range 32 _ (by omega) (by omega)]; omega
  have w2 : wrapS 32 ((mapOff c : Int) + 147) = len := by rw [wrapS_of_range 32 _ (by omega) (by omega)]; omega
  have n1 : ¬ ((256 : Int) > len) := by omega
  have n2 : ¬ ((mapOff c : Int) > len) := by omega
  have n3 : ¬ ((dataLen c : Int) > len) := by omega
  have n4 : ¬ ((147 : Int) > len) := by omega
  have n5 : ¬ ((mapOff c : Int) + 28 ≥ len) := by omega
  simp only [n1, n2, n3, n4, n5, w1, w2, ne_eq, not_true_eq_false, or_self, if_false]
  have eso : (rdShort len ((mapOff c : Int) + 26)).eval (G f c) = 106 :=
    map_short f c hn len _ hlen 26 106 (by omega) rfl (by omega) (map_seg f c 4 (by decide))
  have etc : (rdShort len ((mapOff c : Int) + 28)).eval (G f c) = 1 :=
    map_short f c hn len _ hlen 28 1 (by omega) rfl (by omega) (map_seg f c 5 (by decide))
  simp only [eval_bind, eso]
  have n6 : ¬ ((mapOff c : Int) + 106 > len) := by omega
  have n7 : ¬ ((1 : Int) + 1 < 1) := by omega
  have n8 : ¬ ((mapOff c : Int) + 30 + (1 + 1) * 8 < 0 ∨ (mapOff c : Int) + 30 + (1 + 1) * 8 > len) := by omega
  simp only [n6, if_false]
  simp only [eval_bind, etc]
  simp only [n7, n8, if_false]
  have e2 : ((1 : Int) + 1).toNat = 1 + 1 := by decide
  rw [e2, typeLoop]
  have em : (rdMarker len ((mapOff c : Int) + 30 + 0 * 8)).eval (G f c) = some [0x53, 0x54, 0x52, 0x20] := by
    have hS : FieldAt (rsrcWith f c) (mapOff c + 30) (asc "STR ") := (rsrc_parts f c hn).2.2.trans (map_seg f c 6 (by decide))
    have g0 := hS.getD 0 (by decide)
    have g1 := hS.getD 1 (by decide)
    have g2 := hS.getD 2 (by decide)
    have g3 := hS.getD 3 (by decide)
    rw [eval_rdMarker (G f c) len _ (mapOff c + 30) (by omega) (by omega)]
    simp only [G, g0, g1, g2, g3]
    rfl
  simp only [eval_bind, em, if_true]
  have e46 : (mapOff c : Int) + 30 + (1 + 1) * 8 = (mapOff c : Int) + 46 := by clear eso etc em h0 h4 h8 h12; omega
  rw [e46]

/-- an iteration of the string loop whose item points at a resource of `dl` bytes lying at data offset `off` that begins
    with the Pascal string `t` -/
theorem iter (f : Nat → Byte) (c : Cfg) (len : Int) (hlen : len = (mapOff c : Int) + 147) (itemOff : Int) (fuel : Nat) (k : Int)
    (s : LoopSt) (off id : Nat) (t pad : List Byte) (dl : Nat) (hdl : dl = t.length + 1 + pad.length)
    (hcont : s.dataOff + s.dataLen < len)
    (hid : ¬ (itemOff + k * 12 < 0 ∨ itemOff + k * 12 + 1 ≥ len))
    (e_id : (rdShort len (itemOff + k * 12)).eval (G f c) = (id : Int))
    (e_rel : (rdInt len (itemOff + k * 12 + 4)).eval (G f c) = (off : Int))
    (hoff : off + dl + 4 ≤ dataLen c)
    (hd : dataLen c < 1000)
    (v : List Byte) (hpad : v = pstr t ++ pad) (hat : FieldAt (rsrcWith f c) (256 + off) (entry v))
    (ht : t.length ≤ 31) (hp : ∀ b ∈ t, isPrint b = true ∧ b ≠ 80) :
    ∃ so, (strLoopK len 256 itemOff (fuel + 1) k s).eval (G f c) =
      (strLoopK len 256 itemOff fuel (k + 1)
        (upd { s with strOff := so, dataOff := ((256 + off : Nat) : Int), dataLen := (dl : Int) } (id : Int) t)).eval (G f c) := by
  have hmo := (layout c).1
  -- the data offset read from the item: no wrap, and inside the fork
  have hw : wrapS 32 (256 + (off : Int)) = ((256 + off : Nat) : Int) := by
    clear e_id e_rel hid hcont; rw [wrapS_of_range 32 _ (by omega) (by omega)]; omega
  have a4 : ¬ (((256 + off : Nat) : Int) < 0 ∨ ((256 + off : Nat) : Int) > len) := by clear e_id e_rel hid hcont; omega
  have a5 : ((256 + off : Nat) : Int) + t.length + 6 < len := by clear e_id e_rel hid hcont; omega
  have a6 : ¬ ((dl : Int) < 0 ∨ (dl : Int) > len) := by clear e_id e_rel hid hcont; omega
  obtain ⟨r1, r2, r3⟩ := entry_reads (G f c) (rsrcWith f c) (fun _ => rfl) len (256 + off) t pad ht (fun b hb => (hp b hb).1) a5 dl hdl
    (by omega) v hpad hat
  have := strLoopK_step (G f c) len 256 itemOff fuel k s id off dl t hcont hid e_id e_rel
    (by rw [hw]; exact a4) (by rw [hw]; exact r1) a6 (by rw [hw, r2]; exact r3) (no_photoshop t (fun b hb => (hp b hb).2))
  rw [hw] at this
  exact this

/-- what the first three iterations read from the reference list (a structure, so that `omega` does not look inside) -/
structure ItemReads (f : Nat → Byte) (c : Cfg) (len : Int) : Prop where
  i0 : (rdShort len ((mapOff c : Int) + 46 + 0 * 12)).eval (G f c) = ((1000 : Nat) : Int)
  j0 : (rdInt len ((mapOff c : Int) + 46 + 0 * 12 + 4)).eval (G f c) = ((off0 c : Nat) : Int)
  i1 : (rdShort len ((mapOff c : Int) + 46 + 1 * 12)).eval (G f c) = ((1001 : Nat) : Int)
  j1 : (rdInt len ((mapOff c : Int) + 46 + 1 * 12 + 4)).eval (G f c) = ((off1 c : Nat) : Int)
  i2 : (rdShort len ((mapOff c : Int) + 46 + 2 * 12)).eval (G f c) = ((1002 : Nat) : Int)
  j2 : (rdInt len ((mapOff c : Int) + 46 + 2 * 12 + 4)).eval (G f c) = ((off2 c : Nat) : Int)

theorem item_reads (f : Nat → Byte) (c : Cfg) (hn : c.name.length ≤ 200) (len : Int) (hlen : len = (mapOff c : Int) + 147) (hd : dataLen c < 1000) :
    ItemReads f c len := by
  obtain ⟨hmo, -, hdl, hoff3, hoff2, -, hoff0⟩ := layout c
  have I0 : FieldAt (mapRegion f c) 46 (item f (mapOff c + 46) 1000 0 (off0 c)) := map_seg f c 12 (by decide)
  have I1 : FieldAt (mapRegion f c) 58 (item f (mapOff c + 58) 1001 12 (off1 c)) := map_seg f c 13 (by decide)
  have I2 : FieldAt (mapRegion f c) 70 (item f (mapOff c + 70) 1002 24 (off2 c)) := map_seg f c 14 (by decide)
  refine ⟨?_, ?_, ?_, ?_, ?_, ?_⟩
  · exact map_short f c hn len _ hlen _ 1000 (by omega) (by omega) (by omega) (I0.trans (item_fields ..).1)
  · exact map_int f c hn len _ hlen _ (off0 c) (by omega) (by omega) (by omega) (I0.trans (item_fields ..).2)
  · exact map_short f c hn len _ hlen _ 1001 (by omega) (by omega) (by omega) (I1.trans (item_fields ..).1)
  · exact map_int f c hn len _ hlen _ (off1 c) (by omega) (by omega) (by omega) (I1.trans (item_fields ..).2)
  · exact map_short f c hn len _ hlen _ 1002 (by omega) (by omega) (by omega) (I2.trans (item_fields ..).1)
  · exact map_int f c hn len _ hlen _ (off2 c) (by omega) (by omega) (by omega) (I2.trans (item_fields ..).2)

theorem upd_size (s1 : LoopSt) (v : List Byte) (h : s1.size = 0) : upd s1 ((1000 : Nat) : Int) v = { s1 with size := strtol v } := by
  simp [upd, h]
theorem upd_rate (s1 : LoopSt) (v : List Byte) (h : s1.rate = 0) : upd s1 ((1001 : Nat) : Int) v = { s1 with rate := strtol v } := by
  simp [upd, h]
theorem upd_ch (s1 : LoopSt) (v : List Byte) (h : s1.ch = 0) : upd s1 ((1002 : Nat) : Int) v = { s1 with ch := strtol v } := by
  simp [upd, h]

/-- The string loop on the writer's fork ends with the three numbers of the configuration.  Iterations 0, 1, 2 find the
    resources 'STR ' 1000 / 1001 / 1002 and store sample size, rate and channel count; from then on all three are set and
    nothing the loop reads afterwards ('sdML' 1000, the fifth item nobody writes, the name area read as an item) can
    change them (`Kept`). -/
theorem loop_walk (f : Nat → Byte) (c : Cfg) (hc : c.wf) (L : Nat) (hlen : (L : Int) = (mapOff c : Int) + 147) (n : Nat) (hfuel : (L : Int) / 12 + 2 ≤ n + 3)
    (so0 : Int) :
    ∃ s', (strLoopK L 256 ((mapOff c : Int) + 46) (n + 3) 0 { strOff := so0 }).eval (G f c) = some s' ∧
      s'.size = c.size ∧ s'.rate = c.rate ∧ s'.ch = c.ch := by
  have htot := total_le c hc
  obtain ⟨hs1, hs4, hc1, hc2, hr1, hr2, hn⟩ := hc
  have ls := Sf.Pvf.digits_length_le 1 c.size (by omega) (by omega)
  have lr := Sf.Pvf.digits_length_le 10 c.rate (by omega) (by omega)
  have lc := Sf.Pvf.digits_length_le 4 c.ch (by omega) (by omega)
  have e7 : (asc ".000000").length = 7 := by rw [rateTail_eq]; rfl
  have lrt : (rateText c).length = (digits c.rate).length + 7 := by unfold rateText; rw [List.length_append, e7]
  have lst : (sizeText c).length ≤ 1 := ls
  have lct : (chText c).length ≤ 4 := lc
  obtain ⟨hmo, -, hdl, hoff3, hoff2, hoff1, hoff0⟩ := layout c
  have hd : dataLen c < 1000 := by omega
  have hn3 : 1 ≤ n := by omega
  -- the rest of the loop, from a state in which the three numbers are set
  have rest := fun s => (strLoopK_safe (L := L) 256 ((mapOff c : Int) + 46) (by omega) n 3 s (by omega) hfuel hn3).run_fst (G f c)
  generalize hL : (L : Int) = len at hlen rest ⊢
  have R := item_reads f c hn len hlen hd
  obtain ⟨D0, D1, D2⟩ := data_entries c
  have hD := (rsrc_parts f c hn).2.1
  have k1 : (0 : Int) + 1 = 1 := rfl
  have k2 : (1 : Int) + 1 = 2 := rfl
  have k3 : (2 : Int) + 1 = 3 := rfl
  -- iteration 0: 'STR ' 1000 = the sample size
  obtain ⟨s0, e0⟩ := iter f c len hlen _ (n + 2) 0 { strOff := so0 } (off0 c) 1000 (sizeText c) [] ((sizeText c).length + 1) rfl
    (by show (0 : Int) + 0 < len; omega) (by omega) R.i0 R.j0 (by omega) hd
    _ (List.append_nil _).symm (hD.trans D0) (by omega) (digits_chars c.size)
  rw [e0, k1, upd_size _ _ rfl]
  dsimp only
  -- iteration 1: 'STR ' 1001 = the sample rate
  obtain ⟨s1, e1⟩ := iter f c len hlen _ (n + 1) 1 { strOff := s0, dataOff := ((256 + off0 c : Nat) : Int), dataLen := (((sizeText c).length + 1 : Nat) : Int), size := strtol (sizeText c) }
    (off1 c) 1001 (rateText c) [] ((rateText c).length + 1) rfl
    (by show ((256 + off0 c : Nat) : Int) + (((sizeText c).length + 1 : Nat) : Int) < len; omega) (by omega) R.i1 R.j1 (by omega) hd
    _ (List.append_nil _).symm (hD.trans D1) (by omega) (rateText_chars c)
  rw [e1, k2, upd_rate _ _ rfl]
  dsimp only
  -- iteration 2: 'STR ' 1002 = the channel count
  obtain ⟨s2, e2⟩ := iter f c len hlen _ n 2 { strOff := s1, dataOff := ((256 + off1 c : Nat) : Int), dataLen := (((rateText c).length + 1 : Nat) : Int), size := strtol (sizeText c), rate := strtol (rateText c) }
    (off2 c) 1002 (chText c) [] ((chText c).length + 1) rfl
    (by show ((256 + off1 c : Nat) : Int) + (((rateText c).length + 1 : Nat) : Int) < len; omega) (by omega) R.i2 R.j2 (by omega) hd
    _ (List.append_nil _).symm (hD.trans D2) (by omega) (digits_chars c.ch)
  rw [e2, k3, upd_ch _ _ rfl]
  dsimp only
  rw [show strtol (sizeText c) = (c.size : Int) from strtol_digits_alone c.size (by omega), strtol_rateText c hr2,
    show strtol (chText c) = (c.ch : Int) from strtol_digits_alone c.ch (by omega)]
  obtain ⟨s', e, h⟩ := rest { strOff := s2, dataOff := ((256 + off2 c : Nat) : Int), dataLen := (((chText c).length + 1 : Nat) : Int), size := c.size, rate := c.rate, ch := c.ch }
  rw [run_fst] at e
  exact ⟨s', e, h (by show (c.size : Int) ≠ 0; omega) (by show (c.rate : Int) ≠ 0; omega) (by show (c.ch : Int) ≠ 0; omega)⟩

theorem finish_written (c : Cfg) (hs : 1 ≤ c.size ∧ c.size ≤ 4) (s : LoopSt) (h1 : s.size = c.size) (h2 : s.rate = c.rate) (h3 : s.ch = c.ch) :
    finish s = .ok { size := c.size, rate := c.rate, ch := c.ch } := by
  unfold finish
  rw [h1, h2, h3]
  have h1 : ¬ ((c.rate : Int) ≤ 4 ∧ (c.size : Int) > 4) := by omega
  simp only [h1, if_false]
  rw [if_neg (by omega), if_neg (by omega), if_pos (by omega)]

/-- The resource fork sd2_write_rsrc_fork writes for any accepted configuration, over ANY background (what the bytes nobody
    writes hold plays no part), is parsed back to exactly that sample size, rate and channel count.  The walk: header longs,
    map fields, the 'STR ' type, then the string loop (`loop_walk`). -/
theorem parse_written_on (f : Nat → Byte) (c : Cfg) (hc : c.wf) : parseRsrc (rsrcWith f c) = .ok { size := c.size, rate := c.rate, ch := c.ch } := by
  have htot := total_le c hc
  have hn := hc.name_le
  obtain ⟨hmo, htt, -⟩ := layout c
  unfold parseRsrc parseRun
  rw [run_fst, rsrcWith_length f c hn]
  change (parseFork ((total c : Nat) : Int)).eval (G f c) = _
  have hlen : ((total c : Nat) : Int) = (mapOff c : Int) + 147 := by omega
  rw [stage1 f c hn _ hlen (by omega)]
  obtain ⟨n, hfuel⟩ : ∃ n, loopFuel ((total c : Nat) : Int) = n + 3 := ⟨loopFuel ((total c : Nat) : Int) - 3, by unfold loopFuel; omega⟩
  obtain ⟨s', e, h1, h2, h3⟩ := loop_walk f c hc (total c) hlen n (by unfold loopFuel at hfuel; omega) ((mapOff c : Int) + 106)
  unfold parseStr
  rw [eval_bind, hfuel, e]
  exact finish_written c ⟨hc.1, hc.2.1⟩ s' h1 h2 h3

theorem parse_written (c : Cfg) (hc : c.wf) : parseRsrc (rsrc c) = .ok { size := c.size, rate := c.rate, ch := c.ch } :=
  parse_written_on _ c hc

end Sf.Sd2.Walk
