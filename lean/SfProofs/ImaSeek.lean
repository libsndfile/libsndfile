/-
  SfProofs.ImaSeek — the decoded stream of an IMA ADPCM file as a function of the item index (`item`, `slice`), and `ima_read_block` as written
  (lean/SfModel/ImaSeek.lean `readLoop`) against the generic block reader's loop over the same blocks (`asReader`, `readLoop_asReader`): what
  SfProofs/BlockReader.lean proves of that loop holds of this one.  Property theorems: lean/SfProps/C06ImaSeek.lean.
-/
import SfModel.ImaSeek
import SfProofs.BlockReader
namespace Sf.ImaSeek

/-- item `i` of the decoded stream of the file (frame-major, channel-minor), 0 behind its end -/
def item (c : Cfg) (i : Nat) : Int := (c.src (i / (c.spb * c.ch) * c.unit)).getD (i % (c.spb * c.ch)) 0

/-- items [p, p + n) of the stream -/
def slice (c : Cfg) (p n : Nat) : List Int := (List.range n).map fun i => item c (p + i)

theorem slice_append (c : Cfg) (p n m : Nat) : slice c p (n + m) = slice c p n ++ slice c (p + n) m := by
  simp [slice, List.range_add, List.map_append, Nat.add_assoc]

/-- a file of `nb` blocks as a generic block reader has it (its block `k` starts at packet `k * unit`) -/
def asReader (c : Cfg) (nb : Nat) : Block.Reader := { spb := c.spb, ch := c.ch, frames := nb * c.spb, src := fun k => c.src (k * c.unit) }

theorem slice_asReader (c : Cfg) (nb p n : Nat) : (asReader c nb).slice p n = slice c p n := by
  unfold Block.Reader.slice slice
  apply List.map_congr_left
  intro i _
  rw [Block.Proofs.itemAt_eq]
  rfl

theorem decode_next (c : Cfg) (nb : Nat) (h : c.Wf nb) (b cnt : Nat) (hb : b + 2 ≤ nb) :
    decodeBlock c (atBlock c b cnt) = atBlock c (b + 1) 0 := by
  have hbl := h.blocks
  have e : (b + 1 + 1) * c.unit = (b + 1) * c.unit + c.unit := by rw [Nat.add_mul (b + 1) 1, Nat.one_mul]
  have : ¬ ((b + 1) * c.unit + c.unit > nb * c.unit) := by
    have h2 : (b + 2) * c.unit ≤ nb * c.unit := Nat.mul_le_mul_right _ hb
    have e2 : (b + 2) * c.unit = (b + 1) * c.unit + c.unit := e
    omega
  simp [decodeBlock, atBlock, hbl, this, e]

theorem readLoop_zero (c : Cfg) (fuel : Nat) (s : St) : readLoop c fuel s 0 = (s, [], 0) := by
  cases fuel <;> simp [readLoop, zeros]

theorem readLoop_in_block (c : Cfg) (fuel b cnt n : Nat) (hc : cnt < c.spb) (hn : n ≠ 0) :
    readLoop c (fuel + 1) (atBlock c b cnt) n =
      let k := min ((c.spb - cnt) * c.ch) n
      let r := readLoop c fuel (atBlock c b (cnt + k / c.ch)) (n - k)
      (r.1, ((c.src (b * c.unit)).drop (cnt * c.ch)).take k ++ r.2.1, k + r.2.2) := by
  have hc' : ¬ c.spb ≤ cnt := by omega
  simp only [readLoop, hn, if_false, atBlock, ge_iff_le, hc', and_false]

/-- the lazy state at a block end with a block behind it: the pass decodes that block first -/
theorem readLoop_lazy (c : Cfg) (nb : Nat) (h : c.Wf nb) (fuel b n : Nat) (hb : b + 2 ≤ nb) (hn : n ≠ 0) :
    readLoop c (fuel + 1) (atBlock c b c.spb) n = readLoop c (fuel + 1) (atBlock c (b + 1) 0) n := by
  have hA : ¬ (c.blocks ≤ (atBlock c b c.spb).blockcount) := by
    have : (b + 2) * c.unit ≤ nb * c.unit := Nat.mul_le_mul_right _ hb
    have e : (b + 2) * c.unit = (b + 1) * c.unit + c.unit := by
      rw [show b + 2 = b + 1 + 1 from rfl, Nat.add_mul (b + 1) 1, Nat.one_mul]
    have := h.unit_pos
    simp [atBlock, h.blocks]; omega
  have hsc : (atBlock c b c.spb).samplecount = c.spb := rfl
  have hsc0 : (atBlock c (b + 1) 0).samplecount = 0 := rfl
  rw [readLoop, readLoop]
  simp only [hn, if_false, ge_iff_le, hsc, hsc0, Nat.le_refl, if_true, decode_next c nb h b c.spb hb, Nat.not_le.mpr h.spb_pos,
    and_true, and_false, hA]

/-- `ima_read_block` as written IS the generic block reader's loop over `asReader`, the C's counters (in the C's unit) standing for the block
    index, from any state a handle can be in (block `b` loaded, `cnt ≤ spb` of its frames consumed — `cnt = spb`: the lazy state at a block
    end) and for every request -/
theorem readLoop_asReader (c : Cfg) (nb : Nat) (h : c.Wf nb) : ∀ (fuel b cnt n : Nat), cnt ≤ c.spb → b < nb →
    ∃ b' cnt' d t, cnt' ≤ c.spb ∧ b' < nb ∧
      (asReader c nb).readLoop fuel ⟨b, cnt, c.src (b * c.unit)⟩ n = (⟨b', cnt', c.src (b' * c.unit)⟩, d, t) ∧
      readLoop c fuel (atBlock c b cnt) n = (atBlock c b' cnt', d, t) := by
  have hs := h.spb_pos
  intro fuel
  induction fuel with
  | zero => intro b cnt n hc hb; exact ⟨b, cnt, _, _, hc, hb, rfl, rfl⟩
  | succ fuel ih =>
    intro b cnt n hc hb
    by_cases hn : n = 0
    · exact ⟨b, cnt, [], 0, hc, hb, by simp [Block.Reader.readLoop, hn], by simp [readLoop, hn]⟩
    -- both loops stop in the lazy state behind the last block, and nowhere else
    have hstop : (c.blocks ≤ (b + 1) * c.unit ∧ c.spb ≤ cnt) ↔ nb * c.spb ≤ b * c.spb + cnt := by
      rw [h.blocks, Nat.mul_le_mul_right_iff h.unit_pos]
      rcases Nat.lt_or_ge (b + 1) nb with h2 | h2
      · have := Nat.mul_le_mul_right c.spb (show b + 2 ≤ nb from h2)
        rw [Nat.add_mul] at this
        omega
      · obtain rfl : nb = b + 1 := by omega
        rw [Nat.add_mul, Nat.one_mul]; omega
    by_cases hend : nb * c.spb ≤ b * c.spb + cnt
    · refine ⟨b, cnt, zeros n, 0, hc, hb, ?_, ?_⟩
      · simp only [Block.Reader.readLoop, hn, if_false]
        exact if_pos hend
      · simp only [readLoop, hn, if_false]
        exact if_pos (hstop.mpr hend)
    -- the block the pass copies from: the loaded one, or in the lazy state the one behind it
    obtain ⟨b1, cnt1, hc1, hb1, hre, hdec⟩ : ∃ b1 cnt1, cnt1 < c.spb ∧ b1 < nb ∧
        (asReader c nb).reload ⟨b, cnt, c.src (b * c.unit)⟩ = ⟨b1, cnt1, c.src (b1 * c.unit)⟩ ∧
        (if (atBlock c b cnt).samplecount ≥ c.spb then decodeBlock c (atBlock c b cnt) else atBlock c b cnt) = atBlock c b1 cnt1 := by
      by_cases hcs : c.spb ≤ cnt
      · have hb2 : b + 2 ≤ nb := by
          have := mt hstop.mp hend
          rw [h.blocks, Nat.mul_le_mul_right_iff h.unit_pos] at this
          omega
        exact ⟨b + 1, 0, hs, hb2, by simp [Block.Reader.reload, Block.Reader.load, asReader, hcs], (if_pos hcs).trans (decode_next c nb h b cnt hb2)⟩
      · exact ⟨b, cnt, by omega, hb, by simp [Block.Reader.reload, asReader, hcs], if_neg hcs⟩
    have hdiv : cnt1 + min ((c.spb - cnt1) * c.ch) n / c.ch ≤ c.spb := by
      have := Nat.div_le_of_le_mul (Nat.le_trans (Nat.min_le_left ((c.spb - cnt1) * c.ch) n) (Nat.le_of_eq (Nat.mul_comm ..)))
      omega
    obtain ⟨b', cnt', d, t, h1, h2, e1, e2⟩ := ih b1 (cnt1 + min ((c.spb - cnt1) * c.ch) n / c.ch) (n - min ((c.spb - cnt1) * c.ch) n) hdiv hb1
    refine ⟨b', cnt', ((c.src (b1 * c.unit)).drop (cnt1 * c.ch)).take (min ((c.spb - cnt1) * c.ch) n) ++ d,
      min ((c.spb - cnt1) * c.ch) n + t, h1, h2, ?_, ?_⟩
    · simp only [Block.Reader.readLoop, hn, if_false, hre]
      exact (if_neg hend).trans (congrArg (fun x => (x.1, _ ++ x.2.1, _ + x.2.2)) e1)
    · simp only [readLoop, hn, if_false, hdec]
      exact (if_neg (mt hstop.mp hend)).trans (congrArg (fun x => (x.1, _ ++ x.2.1, _ + x.2.2)) e2)

end Sf.ImaSeek
