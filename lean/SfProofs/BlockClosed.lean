/-
  The generic block writer, closed form: after any frames pushed one by one (`pushFrame`, which every call of every
  codec wrapper amounts to: `frames_session`) and the zero-padding close, the emitted bytes are the
  concatenation of `Writer.enc` over the `spb · ch`-item chunks of the items, the last chunk padded with zeros, the
  encoder state threaded from chunk to chunk — whatever `Writer.enc` is (`closed_form`).  The fuel of `encChunks` is any
  number above the length (`encChunks_fuel`); the statements use `length + 1`.  Second part (`Sf.Block.Stream`): the
  reader's stream over such chunks.  Helper lemmas for SfProps/C07CodecsClosed and the codec files.
-/
import SfProofs.BlockWriter
import SfProofs.BlockReader
namespace Sf.Block.Closed
open Sf Sf.Block Sf.Block.Proofs

variable {σ : Type}

/-- the encoder run over the items cut into blocks of `n` items, the last one zero-padded, the state threaded;
    `fuel` bounds the number of blocks -/
def encChunks (enc : σ → List Int → σ × List Byte) (n : Nat) : Nat → σ → List Int → List Byte
  | 0, _, _ => []
  | fuel + 1, s, xs =>
    if xs = [] then []
    else
      let blk := xs.take n
      let r := enc s (blk ++ zeros (n - blk.length))
      r.2 ++ encChunks enc n fuel r.1 (xs.drop n)

/-- the encoder state after those blocks -/
def encState (enc : σ → List Int → σ × List Byte) (n : Nat) : Nat → σ → List Int → σ
  | 0, s, _ => s
  | fuel + 1, s, xs =>
    if xs = [] then s
    else
      let blk := xs.take n
      encState enc n fuel (enc s (blk ++ zeros (n - blk.length))).1 (xs.drop n)

/-- number of blocks: ⌈len / n⌉ -/
def nblocks (len n : Nat) : Nat := (len + n - 1) / n

theorem encChunks_nil (enc : σ → List Int → σ × List Byte) (n fuel : Nat) (s : σ) : encChunks enc n fuel s [] = [] := by
  cases fuel <;> simp [encChunks]

theorem encChunks_full (enc : σ → List Int → σ × List Byte) (n fuel : Nat) (s : σ) (a b : List Int) (ha : a.length = n)
    (hn : 0 < n) : encChunks enc n (fuel + 1) s (a ++ b) = (enc s a).2 ++ encChunks enc n fuel (enc s a).1 b := by
  rw [encChunks, if_neg (by simp [List.ne_nil_of_length_pos (ha ▸ hn)]), List.take_left' ha, List.drop_left' ha]
  simp only [ha, Nat.sub_self, zeros, List.replicate_zero, List.append_nil]

theorem encChunks_last (enc : σ → List Int → σ × List Byte) (n fuel : Nat) (s : σ) (b : List Int) (hb0 : b ≠ [])
    (hb : b.length ≤ n) : encChunks enc n (fuel + 1) s b = (enc s (b ++ zeros (n - b.length))).2 := by
  rw [encChunks, if_neg hb0, List.take_of_length_le hb, List.drop_of_length_le hb]
  simp only [encChunks_nil, List.append_nil]

/-- the writer state as "bytes so far + pending items + encoder state": after the frames `fs` and the padding close,
    the bytes are those emitted before followed by the encoder run over pending ++ new items -/
theorem close_fold_bytes (w : Writer σ) (wf : WWF w) : ∀ (fs : List (List Int)) (st : WState σ) (fuel : Nat),
    WInv w st → Uniform w.ch fs → st.cnt + fs.length < fuel →
    (w.close true (fs.foldl (pushFrame w) st)).bytes =
      st.out.reverse.flatten ++ encChunks w.enc (w.spb * w.ch) fuel st.es (st.buf.take (st.cnt * w.ch) ++ fs.flatten) := by
  intro fs
  induction fs with
  | nil =>
    intro st fuel inv _ hf
    simp only [List.foldl_nil, List.flatten_nil, List.append_nil]
    unfold Writer.close
    by_cases hc : st.cnt = 0
    · simp only [hc, if_true, Nat.zero_mul, List.take_zero, encChunks_nil, List.append_nil, WState.bytes]
    · simp only [hc, if_false, if_true]
      obtain ⟨fuel, rfl⟩ : ∃ k, fuel = k + 1 := ⟨fuel - 1, by omega⟩
      have hcnt := inv.cnt
      have hpos : 0 < st.cnt * w.ch := Nat.mul_pos (Nat.pos_of_ne_zero hc) wf.ch_pos
      have hlt : st.cnt * w.ch < w.spb * w.ch := Nat.mul_lt_mul_of_pos_right hcnt wf.ch_pos
      have hlen : (st.buf.take (st.cnt * w.ch)).length = st.cnt * w.ch := by
        rw [List.length_take, inv.len]; omega
      have hne : st.buf.take (st.cnt * w.ch) ≠ [] := by
        intro h; rw [h] at hlen; simp at hlen; omega
      rw [encChunks_last _ _ _ _ _ hne (by omega), hlen, ← Nat.sub_mul]
      simp only [Writer.emit, WState.bytes, List.reverse_cons, List.flatten_append, List.flatten_cons, List.flatten_nil,
        List.append_nil]
  | cons f fs ih =>
    intro st fuel inv hu hf
    obtain ⟨hfl, hu2⟩ := uniform_cons hu
    simp only [List.length_cons] at hf
    obtain ⟨fuel, rfl⟩ : ∃ k, fuel = k + 1 := ⟨fuel - 1, by omega⟩
    have inv2 := pushFrame_inv w wf st f inv hfl
    rw [List.foldl_cons, List.flatten_cons, ← List.append_assoc]
    obtain ⟨buf, hlen, htake, ⟨hlt, hstep⟩ | ⟨hspb, hstep⟩⟩ := pushFrame_step w st f inv hfl
    · -- the block is not complete
      rw [ih (pushFrame w st f) (fuel + 1) inv2 hu2 (by rw [hstep]; simp only; omega), hstep]
      simp only [htake]
    · -- the block is complete: `buf` is the pending items and `f`; it is encoded and emitted
      rw [hspb, ← hlen, List.take_length] at htake
      rw [ih (pushFrame w st f) fuel inv2 hu2 (by rw [hstep, emit_cnt]; omega), hstep]
      simp only [Writer.emit, Nat.zero_mul, List.take_zero, List.nil_append, List.reverse_cons, List.flatten_append,
        List.flatten_cons, List.flatten_nil, List.append_nil, List.append_assoc]
      congr 1
      rw [← List.append_assoc, ← htake, encChunks_full _ _ _ _ _ _ hlen (Nat.mul_pos wf.spb_pos wf.ch_pos)]

theorem closed_form (w : Writer σ) (wf : WWF w) (s0 : σ) (fs : List (List Int)) (hu : Uniform w.ch fs) :
    (w.close true (fs.foldl (pushFrame w) (w.init s0))).bytes = encChunks w.enc (w.spb * w.ch) (fs.length + 1) s0 fs.flatten := by
  have h := close_fold_bytes w wf fs (w.init s0) (fs.length + 1) (init_inv_w w wf s0) hu (by simp [Writer.init])
  rw [h]
  simp [Writer.init]

/-- the ceiling as SfProofs/BlockSession.lean spells it -/
theorem nblocks_eq (len n : Nat) (hn : 0 < n) : nblocks len n = (len + (n - 1)) / n := by
  unfold nblocks; congr 1; omega

theorem nblocks_pos (len n : Nat) (hn : 0 < n) (hl : 0 < len) : nblocks len n = (len - 1) / n + 1 := by
  unfold nblocks
  have : len + n - 1 = (len - 1) + n := by omega
  rw [this, Nat.add_div_right _ hn]

theorem nblocks_zero (n : Nat) (hn : 0 < n) : nblocks 0 n = 0 := by
  unfold nblocks
  rw [Nat.zero_add]
  exact Nat.div_eq_of_lt (by omega)

theorem nblocks_drop (len n : Nat) (hn : 0 < n) (hl : 0 < len) : nblocks len n = nblocks (len - n) n + 1 := by
  rw [nblocks_pos len n hn hl]
  by_cases h : len ≤ n
  · have : len - n = 0 := by omega
    rw [this, nblocks_zero n hn, Nat.div_eq_of_lt (by omega)]
  · rw [nblocks_pos (len - n) n hn (by omega)]
    have : len - 1 = (len - n - 1) + n := by omega
    rw [this, Nat.add_div_right _ hn]

theorem encChunks_length (enc : σ → List Int → σ × List Byte) (n bpb : Nat) (hn : 0 < n)
    (henc : ∀ (s : σ) (b : List Int), b.length = n → (enc s b).2.length = bpb) :
    ∀ (fuel : Nat) (s : σ) (xs : List Int), xs.length < fuel →
    (encChunks enc n fuel s xs).length = nblocks xs.length n * bpb := by
  intro fuel
  induction fuel with
  | zero => intro s xs h; omega
  | succ fuel ih =>
    intro s xs hf
    unfold encChunks
    by_cases hx : xs = []
    · subst hx
      simp [nblocks_zero n hn]
    · simp only [hx, if_false]
      have hl : 0 < xs.length := List.length_pos_iff.mpr hx
      have hb : (xs.take n ++ zeros (n - (xs.take n).length)).length = n := by
        simp only [List.length_append, List.length_take, zeros, List.length_replicate]; omega
      rw [List.length_append, henc _ _ hb, ih _ _ (by rw [List.length_drop]; omega), List.length_drop,
        nblocks_drop xs.length n hn hl, Nat.add_mul, Nat.one_mul, Nat.add_comm]

theorem nblocks_bound (len n : Nat) (hn : 0 < n) : len ≤ nblocks len n * n ∧ nblocks len n * n < len + n := by
  unfold nblocks
  have h1 := Nat.div_add_mod (len + n - 1) n
  have h2 := Nat.mod_lt (len + n - 1) hn
  rw [Nat.mul_comm] at h1
  constructor <;> omega

theorem encChunks_fuel (enc : σ → List Int → σ × List Byte) (n : Nat) (hn : 0 < n) :
    ∀ (f1 f2 : Nat) (s : σ) (xs : List Int), xs.length < f1 → xs.length < f2 → encChunks enc n f1 s xs = encChunks enc n f2 s xs := by
  intro f1
  induction f1 with
  | zero => intro f2 s xs h; omega
  | succ f1 ih =>
    intro f2 s xs h1 h2
    obtain ⟨f2, rfl⟩ : ∃ k, f2 = k + 1 := ⟨f2 - 1, by omega⟩
    unfold encChunks
    by_cases hx : xs = []
    · simp [hx]
    · simp only [hx, if_false]
      have hl : 0 < xs.length := List.length_pos_iff.mpr hx
      rw [ih f2 _ _ (by rw [List.length_drop]; omega) (by rw [List.length_drop]; omega)]

end Sf.Block.Closed

/-! The item stream of a block reader as a flat list: when the reader's blocks come from a list of decoded blocks of
  uniform length, `Reader.slice p m` (what the read theorems deliver) is `(blocks.flatten.drop p).take m`.
  Helper lemmas for SfProps/C07CodecsClosed.lean. -/

namespace Sf.Block.Stream
open Sf Sf.Block Sf.Block.Proofs

theorem flatten_getD (n : Nat) (hn : 0 < n) (d : Int) : ∀ (bs : List (List Int)) (j : Nat), (∀ b ∈ bs, b.length = n) →
    bs.flatten.getD j d = (bs.getD (j / n) []).getD (j % n) d := by
  intro bs
  induction bs with
  | nil => intro j _; simp
  | cons b bs ih =>
    intro j h
    have hb : b.length = n := h b (by simp)
    rw [List.flatten_cons]
    by_cases hj : j < n
    · rw [List.getD_eq_getElem?_getD, List.getElem?_append_left (by omega), Nat.div_eq_of_lt hj, Nat.mod_eq_of_lt hj,
        List.getD_eq_getElem?_getD]
      rfl
    · have hj' : n ≤ j := by omega
      have e : (b ++ bs.flatten).getD j d = bs.flatten.getD (j - n) d := by
        rw [List.getD_eq_getElem?_getD, List.getElem?_append_right (by omega), hb, List.getD_eq_getElem?_getD]
      rw [e, ih (j - n) (fun x hx => h x (by simp [hx]))]
      have h1 : j / n = (j - n) / n + 1 := by
        have : j = (j - n) + n := by omega
        conv => lhs; rw [this]
        exact Nat.add_div_right _ hn
      have h2 : j % n = (j - n) % n := Nat.mod_eq_sub_mod hj'
      rw [h1, h2]
      rfl

theorem slice_eq_flatten (r : Reader) (blocks : List (List Int)) (hpos : 0 < r.spb * r.ch)
    (hlen : ∀ b ∈ blocks, b.length = r.spb * r.ch) (hsrc : ∀ k, k < blocks.length → r.src k = blocks.getD k [])
    (p m : Nat) (h : p + m ≤ blocks.length * (r.spb * r.ch)) :
    r.slice p m = (blocks.flatten.drop p).take m := by
  have hfl : blocks.flatten.length = blocks.length * (r.spb * r.ch) := uniform_flatten_length blocks hlen
  apply List.ext_getElem
  · rw [slice_length, List.length_take, List.length_drop, hfl]; omega
  · intro i h1 h2
    simp only [Reader.slice, List.getElem_map, List.getElem_range, List.getElem_take, List.getElem_drop]
    have hk : (p + i) / (r.spb * r.ch) < blocks.length := by
      rw [slice_length] at h1
      exact (Nat.div_lt_iff_lt_mul hpos).mpr (by omega)
    rw [itemAt_eq, hsrc _ hk, ← flatten_getD (r.spb * r.ch) hpos 0 blocks (p + i) hlen]
    rw [List.getD_eq_getElem?_getD, List.getElem?_eq_getElem (by rw [hfl]; rw [slice_length] at h1; omega)]
    rfl

end Sf.Block.Stream
