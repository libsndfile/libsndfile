/-
  SfProofs.CodecFile — whole-file statements: open for write, any writer operations, close.  The vocabulary of the C01 / C07
  file theorems is defined here: `closeBytes`, `WOp.samples`, `WOp.hasTy`, `carriesPeak`, `OpenRes.isOk`; `closeBytes_eq` gives
  the file as `closeForm` of the concatenated encoded bytes and the PEAK state (`peakRun`; `peakRun_maplen`,
  `C07.peakRun_none`: what a run does to the PEAK table's shape).  `reopen_raw`: the closed RAW file re-opened for read.
-/
import SfProofs.CodecRun
namespace Sf

theorem closeForm_split (h : H) (dat : List Byte) :
    ∃ hd tl : List Byte, closeForm h dat = hd ++ dat ++ tl ∧ hd.length = hdrLenOf h ∧ (h.container ≠ .wav → tl = []) := by
  unfold closeForm
  cases hc : h.container with
  | raw => exact ⟨[], [], by simp, (hdrLenOf_raw hc).symm, fun _ => rfl⟩
  | au =>
    refine ⟨auHdr h.big dat.length h.fmtWord h.sr h.ch, [], by simp, ?_, fun _ => rfl⟩
    rw [hdrLenOf_au hc]
    exact auHeader_length { h with datalength := (dat.length : Int) }
  | wav =>
    refine ⟨wavHdr h.big ((hdrLenOf h + dat.length + (wavPad h dat ++ wavTail h).length : Nat) : Int) h.enc.nbytes h.ch h.sr
        h.frames h.peak h.peakAtStart dat.length h.fmtWord, wavPad h dat ++ wavTail h,
        by simp only [List.append_assoc], ?_, fun x => absurd rfl x⟩
    have := wavHeader_length ({ h with filelength := ((hdrLenOf h + dat.length + (wavPad h dat ++ wavTail h).length : Nat) : Int),
                                       datalength := (dat.length : Int) } : H)
    rw [wavHeader_eq] at this
    simp only [] at this
    rw [this, hdrLenOf_wav hc]
    exact wavHdrLen_congr _ _ rfl rfl rfl

theorem closeForm_data (h : H) (dat : List Byte) :
    ((closeForm h dat).drop (hdrLenOf h)).take dat.length = dat := by
  obtain ⟨hd, tl, e, l, _⟩ := closeForm_split h dat
  rw [e, ← l, List.append_assoc, List.drop_left' rfl, List.take_left' rfl]

/-- the samples a call hands over -/
def WOp.samples : WOp → List Int
  | .write _ _ n data => if n = 0 then [] else data
  | .updHeader _ => []

/-- an items call for the whole of its buffer hands over the buffer (an empty one included) -/
theorem WOp.samples_whole (ty : Ty) (xs : List Int) : (WOp.write ty false xs.length xs).samples = xs := by
  simp only [WOp.samples]
  split
  · exact (List.eq_nil_of_length_eq_zero (by omega)).symm
  · rfl

/-- the call is a header update or a write of type `ty` -/
def WOp.hasTy (ty : Ty) : WOp → Prop
  | .write ty' _ _ _ => ty' = ty
  | .updHeader _ => True

theorem ops_bytes_eq (e : Enc) (c : Conv) (ty : Ty) (ops : List WOp) (ht : ∀ op ∈ ops, op.hasTy ty) :
    ops.flatMap (WOp.bytes e c) = e.encodeAll c ty (ops.flatMap WOp.samples) := by
  induction ops with
  | nil => rfl
  | cons op ops ih =>
    rw [List.flatMap_cons, List.flatMap_cons, Enc.encodeAll_append, ih (fun o ho => ht o (by simp [ho]))]
    congr 1
    have := ht op (by simp)
    cases op with
    | write ty' fc n data =>
      simp only [WOp.hasTy] at this
      subst this
      simp only [WOp.bytes, WOp.samples]; split <;> rfl
    | updHeader _ => rfl

theorem ops_samples_mod (h : H) (ops : List WOp) (hok : ∀ op ∈ ops, op.ok h) :
    ((ops.flatMap WOp.samples).length : Int) % h.ch = 0 := by
  induction ops with
  | nil => simp
  | cons op ops ih =>
    rw [List.flatMap_cons, List.length_append]; push_cast
    rw [Int.add_emod, ih (fun o ho => hok o (by simp [ho]))]
    have := hok op (by simp)
    cases op with
    | write ty fc n data =>
      rcases this with h0 | v
      · simp [WOp.samples, h0]
      · have hn : n ≠ 0 := by have := v.pos; omega
        simp only [WOp.samples, hn, if_false]
        rw [ValidW.len_mod h fc n data v]; simp
    | updHeader _ => simp [WOp.samples]

theorem single_ok (h : H) (ty : Ty) (ops : List WOp) (hok : ∀ op ∈ ops, op.ok h) :
    (WOp.write ty false (ops.flatMap WOp.samples).length (ops.flatMap WOp.samples)).ok h := by
  by_cases h0 : ((ops.flatMap WOp.samples).length : Int) = 0
  · exact Or.inl h0
  · exact Or.inr ⟨by omega, fun _ => ops_samples_mod h ops hok, rfl⟩

/-- the formats whose files carry a PEAK chunk: float / double data in WAV -/
def carriesPeak (fmt : Nat) : Bool :=
  containerOf fmt == some .wav && (codecOf fmt == 0x06 || codecOf fmt == 0x07)

theorem encOf_float (c : Container) (codec : Nat) (big : Bool) (e : Enc) (h : encOf c codec big = some e)
    (hf : e.isFloatData = true) : codec = 0x06 ∨ codec = 0x07 := by
  unfold encOf at h
  split at h <;> (try split at h) <;> simp at h <;> subst h <;> simp [Enc.isFloatData] at hf ⊢

theorem open_peak_none (si : Nat) (s0 : Store) (fmt : Nat) (ch sr : Int) (h : H) (s : Store)
    (ho : openHandle si s0 .w fmt ch sr = .ok h s) (hp : carriesPeak fmt = false) : h.peak = none := by
  have o := open_props si s0 fmt ch sr h s ho
  rw [o.peak]
  split
  · rename_i hx
    have := encOf_float _ _ _ _ o.enc hx.2
    simp [carriesPeak, o.cont, hx.1] at hp
    omega
  · rfl

/-- open an empty store for write, perform the operations, close: the bytes of the file (none if the open fails) -/
def closeBytes (fmt : Nat) (ch sr : Int) (ops : List WOp) : Option (List Byte) :=
  match openHandle 0 {} .w fmt ch sr with
  | .ok h s => some (closeHandle (runW (h, s) ops).1 (runW (h, s) ops).2).bytes
  | _ => none

theorem closeBytes_eq (fmt : Nat) (ch sr : Int) (h : H) (s : Store) (ho : openHandle 0 {} .w fmt ch sr = .ok h s)
    (ops : List WOp) (hok : ∀ op ∈ ops, op.ok h) :
    closeBytes fmt ch sr ops =
      some (closeForm { h with frames := ((ops.flatMap (WOp.bytes h.enc h.conv)).length : Int) / ((h.enc.nbytes * h.ch : Nat) : Int),
                               peak := peakRun h.enc h.conv h.ch h.peak 0 ops }
              (ops.flatMap (WOp.bytes h.enc h.conv))) := by
  obtain ⟨inv, hw⟩ := open_winv 0 {} rfl fmt ch sr h s ho
  unfold closeBytes
  rw [ho]
  simp only []
  rw [writer_close_bytes h s s.bytes [] inv (open_props 0 {} fmt ch sr h s ho).nb_pos ops hok, hw]
  simp

/-! ## PEAK entries stay one per channel over a whole run (so the header length never changes) -/

theorem peakUpd_maplen (pk : Option (List Peak)) (enc : Enc) (conv : Conv) (ch : Nat) (wpos : Int) (ty : Ty)
    (vals : List Int) (hl : ∀ ps, pk = some ps → ps.length = ch) :
    (peakUpd pk enc conv ch wpos ty vals).map List.length = pk.map List.length := by
  unfold peakUpd
  exact peakUpdate_maplen _ ty vals hl

theorem peakRun_maplen (enc : Enc) (conv : Conv) (ch : Nat) (ops : List WOp) :
    ∀ (pk : Option (List Peak)) (wpos : Int), (∀ ps, pk = some ps → ps.length = ch) →
      (peakRun enc conv ch pk wpos ops).map List.length = pk.map List.length := by
  induction ops with
  | nil => intro pk wpos _; rfl
  | cons op ops ih =>
    intro pk wpos hl
    cases op with
    | write ty fc n data =>
      simp only [peakRun]
      split
      · exact ih pk wpos hl
      · have hm := peakUpd_maplen pk enc conv ch wpos ty data hl
        rw [ih _ _ ?_, hm]
        intro ps' hps'
        rw [hps'] at hm
        cases hpk : pk with
        | none => rw [hpk] at hm; simp at hm
        | some ps => rw [hpk] at hm; simp at hm; rw [hm]; exact hl ps hpk
    | updHeader _ => simp only [peakRun]; exact ih pk wpos hl

theorem C07.peakRun_none (enc : Enc) (conv : Conv) (ch : Nat) (wpos : Int) (ops : List WOp) :
    peakRun enc conv ch none wpos ops = none :=
  Option.map_eq_none_iff.mp (peakRun_maplen enc conv ch ops none wpos nofun)

/-- `isOk` view of an open result (OpenRes has no decidable equality) -/
def OpenRes.isOk : OpenRes → Bool
  | .ok _ _ => true
  | _ => false

theorem OpenRes.ok_of_isOk (r : OpenRes) (h : r.isOk = true) : ∃ hh s, r = .ok hh s := by
  cases r with
  | ok hh s => exact ⟨hh, s, rfl⟩
  | fail s => cases h
  | unmodelled => cases h

/-- RAW: re-opening the closed bytes for read (same format word, channels, rate — RAW has no header) finds the
    data at offset 0 and exactly `length / bytewidth` frames, with the same encoding -/
theorem reopen_raw (fmt : Nat) (ch sr : Int) (h : H) (s : Store) (ho : openHandle 0 {} .w fmt ch sr = .ok h s)
    (hc : h.container = .raw) (si : Nat) (file : List Byte) (p : Nat) :
    ∃ h' s', openHandle si { bytes := file, pos := p } .r fmt ch sr = .ok h' s' ∧
      h'.frames = (file.length : Int) / ((h.enc.nbytes * h.ch : Nat) : Int) ∧ h'.dataoffset = 0 ∧
      h'.enc = h.enc ∧ h'.ch = h.ch ∧ h'.mode = .r ∧ h'.rpos = 0 ∧ s' = { bytes := file, pos := 0 } := by
  have o := open_props 0 {} fmt ch sr h s ho
  have ⟨a1, a2⟩ := o.chr
  have a3 := o.srr
  have hcont := o.cont
  have henc := o.enc
  rw [o.big, hc] at henc
  rw [hc] at hcont
  unfold openHandle
  simp only [hcont, henc]
  have c1 : ¬ (ch < 1 ∨ ch > 1024 ∨ sr < 0) := by omega
  have c2 : ¬ (sr < 1) := by omega
  simp [c1, c2, initFrames, Store.seekSet, ← o.hch]
  have hb : 0 < h.enc.nbytes * h.ch := Nat.mul_pos o.nb_pos (by rw [o.hch]; omega)
  refine ⟨_, _, ⟨rfl, rfl⟩, ?_, rfl, rfl, rfl, rfl, rfl, rfl⟩
  simp only [hb, if_true]
  split
  · rfl
  · have : file.length = 0 := by omega
    simp [this]

end Sf
