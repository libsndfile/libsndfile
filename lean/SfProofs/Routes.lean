/-
  SfProofs.Routes — helper lemmas for C14: `readAt` / `writeAt` / `resize` on a file `L ++ c` seen from offset `L.length`, and the
  one-step simulation between a concrete route (the callbacks, or a descriptor whose file is `L ++ content`) and the logical file;
  the fields no primitive changes (`Frame`), `doNotClose` among them.
-/
import SfModel.Routes
import SfProofs.Bytes
namespace Sf.Routes
open Sf

theorem zeros_length (n : Nat) : (zeros n).length = n := by simp [zeros]

theorem readAt_length_le (f : List Byte) (p n : Nat) : (readAt f p n).length ≤ n := by
  simp [readAt]; omega

theorem readAt_append (c t : List Byte) (p n : Nat) (h : p + n ≤ c.length) : readAt (c ++ t) p n = readAt c p n := by
  unfold readAt
  rw [List.drop_append_of_le_length (by omega), List.take_append_of_le_length (by simp; omega)]

theorem resize_length (f : List Byte) (n : Nat) : (resize f n).length = n := by
  simp [resize, zeros]; omega

theorem writeAt_eq (f : List Byte) (p : Nat) (d : List Byte) :
    writeAt f p d = resize f p ++ (d ++ f.drop (p + d.length)) := by
  simp only [writeAt, resize, List.append_assoc]

theorem writeAt_length (f : List Byte) (p : Nat) (d : List Byte) :
    (writeAt f p d).length = max f.length (p + d.length) := by
  simp only [writeAt_eq, List.length_append, resize_length, List.length_drop]; omega

/-! A file `L ++ c` seen from offset `L.length` behaves as `c` seen from offset 0, and `L` stays in front of it. -/

theorem readAt_lead (L c : List Byte) (p n : Nat) : readAt (L ++ c) (L.length + p) n = readAt c p n := by
  simp [readAt]

theorem resize_lead (L c : List Byte) (n : Nat) : resize (L ++ c) (L.length + n) = L ++ resize c n := by
  simp [resize, List.take_append, List.take_of_length_le, Nat.add_sub_add_left]

theorem writeAt_lead (L c d : List Byte) (p : Nat) : writeAt (L ++ c) (L.length + p) d = L ++ writeAt c p d := by
  simp [writeAt_eq, resize_lead, Nat.add_assoc]

/-- the concrete state (sh, w) presents the logical file `a`:
    callbacks: the store is the content; descriptor: a regular file whose bytes from `fileoffset` on are the content
    (everything up to the REAL end of the descriptor: the shim has no upper bound) and whose offset is fileoffset + pos -/
def Rel (sh : Shim) (w : World) (a : Abs) : Prop :=
  if sh.virtualIo then w.mem = a.content ∧ w.mpos = a.pos
  else sh.isPipe = false ∧ w.isPipe = false ∧ w.valid sh.filedes = true ∧
       ∃ k : Nat, sh.fileoffset = (k : Int) ∧ k ≤ w.file.length ∧ w.file.drop k = a.content ∧ w.off = k + a.pos ∧
         (sh.mode = .rw → k = 0)

/-- the operations covered by `routes_equivalent`, as a decidable predicate of the current logical state.
    Excluded (SfProps/C14.lean has a witness of divergence for the first, the second and the fourth, and the formula
    `filelen_read` for the third):
      * a whence other than SEEK_SET/CUR/END (descriptor: 0, callbacks: whatever the user returns) — never issued;
      * a seek to a negative logical position when fileoffset > 0 (the descriptor moves in front of the window) — never issued;
      * psf_get_filelen on an embedded READ handle once the container parser has set `filelength` to something other
        than the logical length (by design: the header's own size field then defines the embedded file);
      * psf_ftruncate on the callback route: SF_VIRTUAL_IO has no truncate callback, the call is refused and nothing
        is touched (theorem truncate_vio_refused_cleanly).
    Covered (the repairs of KF-C14-TRUNC-EMBED and KF-C14-EMBED-SHORT make them agree): truncate with fileoffset > 0 and the first psf_get_filelen of an
    embedded READ handle. -/
def Op.ok (sh : Shim) (a : Abs) : Op → Bool
  | .seek off wh =>
    decide (wh ≤ 2) && (decide (sh.fileoffset = 0) ||
      decide (0 ≤ whBase wh a.pos a.content.length + off))
  | .read _ _ => true
  | .write _ _ _ => true
  | .tell => true
  | .filelen => sh.virtualIo || decide (sh.mode = .w) || decide (sh.fileoffset = 0) ||
      (decide (sh.mode = .r) && (decide (sh.filelength ≤ 0) || decide (sh.filelength = (a.content.length : Int))))
  | .truncate _ => !sh.virtualIo

/-- the fields no primitive changes -/
def Frame (s s' : Shim) : Prop :=
  s'.virtualIo = s.virtualIo ∧ s'.mode = s.mode ∧ s'.filedes = s.filedes ∧ s'.fileoffset = s.fileoffset ∧
  s'.filelength = s.filelength ∧ s'.isPipe = s.isPipe ∧ s'.doNotClose = s.doNotClose

theorem logSyserr_frame (s : Shim) : Frame s (logSyserr s) := by
  unfold logSyserr Frame; split <;> simp

theorem Frame.refl (s : Shim) : Frame s s := by simp [Frame]

theorem Frame.trans {a b c : Shim} (h1 : Frame a b) (h2 : Frame b c) : Frame a c := by
  unfold Frame at *; simp_all

theorem Op.ok_frame {s s' : Shim} (h : Frame s s') (a : Abs) (op : Op) : Op.ok s' a op = Op.ok s a op := by
  obtain ⟨h1, h2, _, h4, h5, _, _⟩ := h
  cases op <;> simp [Op.ok, h1, h2, h4, h5]

theorem frame_pipeoffset (s s' : Shim) (n : Int) : Frame s { s' with pipeoffset := n } ↔ Frame s s' := Iff.rfl

/-- whatever the world answers, `sh` comes back as it was, through `logSyserr`, or with `pipeoffset` moved -/
theorem step_frame (sh : Shim) (w : World) (op : Op) : Frame sh (step sh w op).sh := by
  cases op <;> simp only [step, fseek, fread, fwrite, ftell, getFilelen, ftruncate]
  case filelen => cases sh.mode <;> simp only [apply_ite R.sh, apply_ite (Frame sh), Frame.refl, logSyserr_frame, ite_self]
  all_goals simp only [apply_ite R.sh, apply_ite (Frame sh), frame_pipeoffset, Frame.refl, logSyserr_frame, ite_self]

theorem ftell_dnc (sh : Shim) (w : World) : (ftell sh w).sh.doNotClose = sh.doNotClose := (step_frame sh w .tell).2.2.2.2.2.2

theorem fseek_dnc (sh : Shim) (w : World) (o : Int) (wh : Nat) : (fseek sh w o wh).sh.doNotClose = sh.doNotClose :=
  (step_frame sh w (.seek o wh)).2.2.2.2.2.2

theorem openFileLen_dnc (sh : Shim) (w : World) : (openFileLen sh w).doNotClose = sh.doNotClose := by
  unfold openFileLen; split <;> rfl

/-- one covered step on a route and on the logical file: the same observation, and the route still presents the logical file -/
def StepSim (sh : Shim) (w : World) (a : Abs) (op : Op) : Prop :=
  ((step sh w op).ret, (step sh w op).data) = (absStep a op).1 ∧
  Rel (step sh w op).sh (step sh w op).w (absStep a op).2


theorem step_sim_vio {sh : Shim} {w : World} {a : Abs} (op : Op) (hv : sh.virtualIo = true)
    (h : Rel sh w a) (hok : Op.ok sh a op = true) :
    StepSim sh w a op := by
  unfold StepSim
  simp only [Rel, hv, if_true] at h
  obtain ⟨hm, hp⟩ := h
  -- on the callbacks the user's store IS the logical file (`hm`, `hp`): each primitive and `absStep` make the same tests on the same
  -- numbers, so every case is unfolding both sides and splitting on those tests
  cases op with
  | seek off wh =>
    simp only [Op.ok, Bool.and_eq_true, decide_eq_true_eq] at hok
    have hwh : ¬ 2 < wh := by omega
    simp only [step, fseek, hv, if_true, vioSeek, absStep, hwh, if_false, hm, hp]
    generalize whBase wh a.pos a.content.length = base
    by_cases hneg : base + off < 0
    · simp [hneg, Rel, hv, hm, hp]
    · simp [hneg, Rel, hv]
  | read b i =>
    simp only [step, fread, absStep]
    by_cases hz : b = 0 ∨ i = 0
    · simp [hz, Rel, hv, hm, hp]
    · have hne : b * i ≠ 0 := Int.mul_ne_zero (mt .inl hz) (mt .inr hz)
      simp only [hz, if_false, hv, if_true, vioRead, hm, hp]
      by_cases hneg : b * i < 0
      · have : b * i ≤ 0 := by omega
        simp [hneg, this, cdiv_zero, Rel, hv, hm, hp]
      · have : ¬ b * i ≤ 0 := by omega
        simp [hneg, this, Rel, hv]
  | write b i d =>
    simp only [step, fwrite, absStep]
    by_cases hz : b = 0 ∨ i = 0
    · simp [hz, Rel, hv, hm, hp]
    · simp only [hz, if_false, hv, if_true]
      by_cases hneg : b * i ≤ 0
      · simp [hneg, Rel, hv, hm, hp]
      · simp only [hneg, if_false, vioWrite, hm, hp]
        generalize List.take (b * i).toNat d = dd
        by_cases hl : dd.length = 0
        · simp only [hl, if_true]; simp [cdiv_zero, Rel, hv, hm, hp]
        · simp only [hl, if_false]; simp [Rel, hv]
  | tell => simp [step, ftell, hv, absStep, hp, Rel, hm]
  | filelen => simp [step, getFilelen, hv, absStep, hp, Rel, hm]
  | truncate n => simp [Op.ok, hv] at hok

theorem absStep_read_inside (a : Abs) (k : Nat) (hin : a.pos + k ≤ a.content.length) :
    (absStep a (.read 1 (k : Int))).2 = { a with pos := a.pos + k } := by
  have hlen : (readAt a.content a.pos k).length = k := by
    simp [readAt, List.length_take, List.length_drop]; omega
  simp only [absStep, Int.one_mul, Int.toNat_natCast, hlen]
  split
  · have : k = 0 := by omega
    subst this; rfl
  · split
    · have : k = 0 := by omega
      subst this; rfl
    · rfl

theorem absStep_seek_lands (a : Abs) (off : Int) (wh n : Nat) (hwh : wh ≤ 2)
    (h : whBase wh a.pos a.content.length + off = (n : Int)) : (absStep a (.seek off wh)).2 = { a with pos := n } := by
  simp only [absStep, show ¬ 2 < wh by omega, if_false, h]
  rw [if_neg (by omega), Int.toNat_natCast]

theorem absRun_reads : ∀ (ks : List Nat) (a : Abs), a.pos + ks.sum ≤ a.content.length →
    (absRun a (ks.map fun (k : Nat) => Op.read 1 (k : Int))).2 = { a with pos := a.pos + ks.sum }
  | [], _, _ => rfl
  | k :: ks, a, h => by
    simp only [List.sum_cons] at h
    simp only [List.map_cons, absRun, absStep_read_inside a k (by omega)]
    rw [absRun_reads ks _ (by simp only; omega)]
    simp [Nat.add_assoc]

theorem whBase_shift (wh k pos len : Nat) :
    whBase wh (k + pos) (k + len) = (if wh = 0 then 0 else (k : Int)) + whBase wh pos len := by
  unfold whBase
  by_cases h0 : wh = 0
  · simp [h0]
  · by_cases h1 : wh = 1 <;> simp [h0, h1]

theorem whBase_nonneg (wh c l : Nat) : 0 ≤ whBase wh c l := by
  unfold whBase; split; · omega
  split <;> omega

/-- the descriptor case of `Rel` with the bytes in front of the window named: the file is `L ++ content` and the shim counts from
    `L.length` (opened by path: `L = []`; sf_open_fd: what lies in front of the descriptor's offset at open) -/
structure Window (sh : Shim) (w : World) (a : Abs) (L : List Byte) : Prop where
  virt : sh.virtualIo = false
  shPipe : sh.isPipe = false
  wPipe : w.isPipe = false
  valid : w.valid sh.filedes = true
  offset : sh.fileoffset = (L.length : Int)
  file : w.file = L ++ a.content
  pos : w.off = L.length + a.pos
  rw0 : sh.mode = .rw → L = []

variable {sh : Shim} {w : World} {a : Abs} {L : List Byte}

theorem Rel_fd (hv : sh.virtualIo = false) : Rel sh w a ↔ ∃ L, Window sh w a L := by
  simp only [Rel, hv, Bool.false_eq_true, if_false]
  constructor
  · rintro ⟨h1, h2, h3, k, h4, h5, h6, h7, h8⟩
    have hl : (w.file.take k).length = k := by simp [h5]
    exact ⟨w.file.take k, hv, h1, h2, h3, by rw [hl, h4], by rw [← h6, List.take_append_drop], by rw [hl, h7],
      fun hm => by rw [h8 hm, List.take_zero]⟩
  · rintro ⟨L, h⟩
    exact ⟨h.shPipe, h.wPipe, h.valid, L.length, h.offset, by simp [h.file], by simp [h.file], h.pos, fun hm => by simp [h.rw0 hm]⟩

theorem Window.rel (h : Window sh w a L) : Rel sh w a := (Rel_fd h.virt).mpr ⟨L, h⟩

/-- the bytes in front of the window are those of `L`: a window that stays where it is leaves them alone -/
theorem Window.lead (h : Window sh w a L) : w.file.take sh.fileoffset.toNat = L := by
  simp [h.offset, h.file]

theorem Window.move (h : Window sh w a L) (c : List Byte) (p : Nat) :
    Window sh { w with file := L ++ c, off := L.length + p } ⟨c, p⟩ L :=
  ⟨h.virt, h.shPipe, h.wPipe, h.valid, h.offset, rfl, rfl, h.rw0⟩

theorem Window.frame {s' : Shim} (hf : Frame sh s') (h : Window sh w a L) : Window s' w a L := by
  obtain ⟨h1, h2, h3, h4, _, h6, _⟩ := hf
  exact ⟨h1 ▸ h.virt, h6 ▸ h.shPipe, h.wPipe, h3 ▸ h.valid, h4 ▸ h.offset, h.file, h.pos, h2 ▸ h.rw0⟩

/-- one covered step on a descriptor route and on the logical file: as `StepSim`, and the window stays where it is -/
def WinSim (sh : Shim) (w : World) (a : Abs) (L : List Byte) (op : Op) : Prop :=
  ((step sh w op).ret, (step sh w op).data) = (absStep a op).1 ∧
  Window (step sh w op).sh (step sh w op).w (absStep a op).2 L

theorem WinSim.sim {op : Op} (h : WinSim sh w a L op) : StepSim sh w a op := ⟨h.1, h.2.rel⟩

theorem lseek_ok {d : Int} {off : Int} {wh : Nat} (hval : w.valid d = true) (hp : w.isPipe = false)
    (hwh : wh ≤ 2) (h : 0 ≤ whBase wh w.off w.file.length + off) :
    lseek w d off wh = (whBase wh w.off w.file.length + off, { w with off := (whBase wh w.off w.file.length + off).toNat }) := by
  have h1 : ¬ 2 < wh := by omega
  have h2 : ¬ (whBase wh w.off w.file.length + off < 0) := by omega
  simp [lseek, hval, hp, h1, h2]

theorem lseek_neg {d : Int} {off : Int} {wh : Nat} (hval : w.valid d = true) (hp : w.isPipe = false)
    (hwh : wh ≤ 2) (h : whBase wh w.off w.file.length + off < 0) : lseek w d off wh = (-1, w) := by
  have h1 : ¬ 2 < wh := by omega
  simp [lseek, hval, hp, h1, h]

theorem osWrite_file {d : Int} {data : List Byte} (hval : w.valid d = true) (hp : w.isPipe = false)
    (hl : data.length ≠ 0) :
    osWrite w d data = (data.length, { w with file := writeAt w.file w.off data, off := w.off + data.length }) := by
  simp [osWrite, hval, hp, hl]

theorem osTruncate_file {d : Int} (len : Nat) (hval : w.valid d = true) (hp : w.isPipe = false) :
    osTruncate w d len = (0, { w with file := resize w.file len }) := by
  simp [osTruncate, hval, hp]

theorem fseek_fd (off : Int) {wh : Nat} (hv : sh.virtualIo = false) (hsp : sh.isPipe = false)
    (hwh : wh ≤ 2) :
    fseek sh w off wh =
      { ret := (lseek w sh.filedes (if wh = 0 then off + sh.fileoffset else off) wh).1 - sh.fileoffset,
        sh := if (lseek w sh.filedes (if wh = 0 then off + sh.fileoffset else off) wh).1 < 0 then logSyserr sh else sh,
        w := (lseek w sh.filedes (if wh = 0 then off + sh.fileoffset else off) wh).2 } := by
  have h1 : ¬ 2 < wh := by omega
  simp [fseek, hv, hsp, h1]

theorem Window.target (h : Window sh w a L) (off : Int) (wh : Nat) :
    whBase wh w.off w.file.length + (if wh = 0 then off + sh.fileoffset else off) =
      (L.length : Int) + (whBase wh a.pos a.content.length + off) := by
  rw [h.pos, h.file, List.length_append, whBase_shift, h.offset]
  split <;> omega

theorem step_sim_fd_seek (off : Int) (wh : Nat) (h : Window sh w a L)
    (hok : Op.ok sh a (.seek off wh) = true) : WinSim sh w a L (.seek off wh) := by
  unfold WinSim
  simp only [Op.ok, Bool.and_eq_true, decide_eq_true_eq, Bool.or_eq_true, h.offset] at hok
  obtain ⟨hwh, hok⟩ := hok
  have hnn := whBase_nonneg wh a.pos a.content.length
  have ht := h.target off wh
  simp only [step, fseek_fd off h.virt h.shPipe hwh, absStep, show ¬ 2 < wh by omega, if_false]
  generalize whBase wh a.pos a.content.length = base at *
  by_cases hneg : base + off < 0
  · -- only possible without a window offset: the descriptor refuses too
    have hk0 : L.length = 0 := by omega
    rw [lseek_neg h.valid h.wPipe hwh (by omega)]
    simp only [hneg, if_true]
    exact ⟨by simp [h.offset, hk0], by simpa using h.frame (logSyserr_frame sh)⟩
  · rw [lseek_ok h.valid h.wPipe hwh (by omega), ht]
    simp only [hneg, show ¬ ((L.length : Int) + (base + off) < 0) by omega, if_false]
    refine ⟨by simp [h.offset]; omega, ?_⟩
    have hp : ((L.length : Int) + (base + off)).toNat = L.length + (base + off).toNat := by omega
    simpa only [hp, h.file] using h.move a.content (base + off).toNat

theorem step_sim_fd_read (b i : Int) (h : Window sh w a L) :
    WinSim sh w a L (.read b i) := by
  unfold WinSim
  simp only [step, fread, absStep]
  by_cases hz : b = 0 ∨ i = 0
  · simp only [hz, if_true]; exact ⟨trivial, h⟩
  · simp only [hz, if_false, h.virt, Bool.false_eq_true, Int.mul_comm i b]
    by_cases hneg : b * i ≤ 0
    · simp only [hneg, if_true]; exact ⟨trivial, h⟩
    · simp only [hneg, if_false, osRead, h.valid, Bool.not_true, h.shPipe, Bool.false_eq_true, if_true]
      rw [show readAt w.file w.off (b * i).toNat = readAt a.content a.pos (b * i).toNat by rw [h.pos, h.file, readAt_lead]]
      refine ⟨rfl, ?_⟩
      simpa only [h.pos, h.file, Nat.add_assoc] using h.move a.content (a.pos + (readAt a.content a.pos (b * i).toNat).length)

theorem step_sim_fd_write (b i : Int) (d : List Byte) (h : Window sh w a L) :
    WinSim sh w a L (.write b i d) := by
  unfold WinSim
  simp only [step, fwrite, absStep]
  by_cases hz : b = 0 ∨ i = 0
  · simp only [hz, if_true]; exact ⟨trivial, h⟩
  · simp only [hz, if_false, h.virt, Bool.false_eq_true, Int.mul_comm i b]
    by_cases hneg : b * i ≤ 0
    · simp only [hneg, if_true]; exact ⟨trivial, h⟩
    · simp only [hneg, if_false, h.valid, h.shPipe, Bool.false_eq_true, if_true]
      generalize List.take (b * i).toNat d = dd
      by_cases hl : dd.length = 0
      · have : osWrite w sh.filedes dd = (0, w) := by simp [osWrite, hl]
        simp only [this, hl, if_true]
        exact ⟨by simp [cdiv_zero], h⟩
      · simp only [osWrite_file h.valid h.wPipe hl, hl, if_false]
        refine ⟨trivial, ?_⟩
        simpa only [h.pos, h.file, writeAt_lead, Nat.add_assoc] using h.move (writeAt a.content a.pos dd) (a.pos + dd.length)

theorem ftell_fd (hv : sh.virtualIo = false) (hsp : sh.isPipe = false)
    (hval : w.valid sh.filedes = true) (hp : w.isPipe = false) :
    ftell sh w = { ret := (w.off : Int) - sh.fileoffset, sh := sh, w := w } := by
  have hge : 0 ≤ whBase 1 w.off w.file.length + 0 := by simp [whBase]
  have hls := lseek_ok (d := sh.filedes) hval hp (by omega : (1 : Nat) ≤ 2) hge
  have h1 : ¬ (whBase 1 w.off w.file.length + 0 = -1) := by simp [whBase]
  simp only [ftell, hv, hsp, Bool.false_eq_true, if_false, hls, h1]
  simp [whBase]

theorem step_sim_fd_tell (h : Window sh w a L) : WinSim sh w a L .tell := by
  unfold WinSim
  simp only [step, ftell_fd h.virt h.shPipe h.valid h.wPipe, absStep]
  exact ⟨by simp [h.offset, h.pos]; omega, h⟩

theorem step_sim_fd_filelen (h : Window sh w a L)
    (hok : Op.ok sh a .filelen = true) : WinSim sh w a L .filelen := by
  unfold WinSim
  have hk := h.offset
  have hlen : (a.content.length : Int) = (w.file.length : Int) - L.length := by simp [h.file]; omega
  simp only [Op.ok, h.virt, Bool.false_or, Bool.or_eq_true, Bool.and_eq_true, decide_eq_true_eq] at hok
  have h1 : ¬ ((w.file.length : Int) = -1) := by omega
  simp only [step, getFilelen, h.virt, Bool.false_eq_true, if_false, fstatSize, h.valid, Bool.not_true, h.wPipe, h1, absStep]
  cases hm : sh.mode with
  | w => exact ⟨by simp [hk, hlen], h⟩
  | rw => exact ⟨by simp [hlen, h.rw0 hm], h⟩
  | r =>
    simp only [hm] at hok
    refine ⟨?_, h⟩
    by_cases hpos : sh.fileoffset > 0
    · simp only [hpos, if_true]
      by_cases hfl : sh.filelength > 0
      · simp only [hfl, if_true]
        rcases hok with (h | h) | h
        · exact absurd h (by simp)
        · omega
        · rcases h.2 with h2 | h2
          · omega
          · simp [h2]
      · simp only [hfl, if_false]
        simp [hk, hlen]
    · simp only [hpos, if_false]
      have : L.length = 0 := by omega
      simp [hlen, this]

theorem step_sim_fd_truncate (n : Int) (h : Window sh w a L) :
    WinSim sh w a L (.truncate n) := by
  unfold WinSim
  simp only [step, ftruncate, absStep]
  by_cases hneg : n < 0
  · simp only [hneg, if_true]; exact ⟨trivial, h⟩
  · simp only [hneg, if_false, h.virt, Bool.false_eq_true, osTruncate_file _ h.valid h.wPipe]
    have h1 : ¬ ((0 : Int) = -1) := by omega
    simp only [h1, if_false]
    have hn : (n + sh.fileoffset).toNat = L.length + n.toNat := by rw [h.offset]; omega
    refine ⟨trivial, ?_⟩
    simpa only [hn, h.file, resize_lead, h.pos] using h.move (resize a.content n.toNat) a.pos

theorem step_sim_fd (op : Op) (h : Window sh w a L) (hok : Op.ok sh a op = true) : WinSim sh w a L op := by
  cases op with
  | seek off wh => exact step_sim_fd_seek off wh h hok
  | read b i => exact step_sim_fd_read b i h
  | write b i d => exact step_sim_fd_write b i d h
  | tell => exact step_sim_fd_tell h
  | filelen => exact step_sim_fd_filelen h hok
  | truncate n => exact step_sim_fd_truncate n h

theorem step_sim (op : Op) (h : Rel sh w a) (hok : Op.ok sh a op = true) :
    StepSim sh w a op := by
  cases hv : sh.virtualIo with
  | true => exact step_sim_vio op hv h hok
  | false =>
    obtain ⟨L, h⟩ := (Rel_fd hv).mp h
    exact (step_sim_fd op h hok).sim

end Sf.Routes
