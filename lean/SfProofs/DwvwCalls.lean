/-
  DWVW decoder, call structure: how `dwvw_decode_data` behaves when one request is cut into several calls.  Since the
  repair of KF-DWVW-TAIL-CALL the loop body is the same in every iteration (the end test `b.end == 0 && bit_count <
  pad_bits` looks at the reservoir, not at the call boundary), so a call of `a + b` cells IS a call of `a` cells
  followed by a call of `b` cells (`decLoop_add`).  `tailStart` is the state in which the test of the old rule
  (`b.end == 0 && count == 0`, SfModel/DwvwOld.lean) fired at the start of a call.
-/
import SfProofs.DwvwBits
import SfModel.Dwvw
namespace Sf.Dwvw.Proofs
open Sf Sf.Dwvw

/-- the look-ahead of the next sample finds (or has found) the end of the file: under the OLD rule a call that started
    here delivered nothing (class of the repaired KF-DWVW-TAIL-CALL) -/
def tailStart (c : Cfg) (d : DSt) : Prop := (getDwm c d).1.endZero = true

instance (c : Cfg) (d : DSt) : Decidable (tailStart c d) := by unfold tailStart; infer_instance

theorem decLoop_zero (c : Cfg) (d : DSt) : decLoop c 0 d = (d, []) := rfl

theorem decLoop_add (c : Cfg) (a b : Nat) (d : DSt) :
    decLoop c (a + b) d =
      if (decLoop c a d).2.length = a then
        ((decLoop c b (decLoop c a d).1).1, (decLoop c a d).2 ++ (decLoop c b (decLoop c a d).1).2)
      else decLoop c a d := by
  induction a generalizing d with
  | zero => simp [decLoop_zero]
  | succ a ih =>
    have e : a + 1 + b = (a + b) + 1 := by omega
    rw [e]
    simp only [decLoop]
    cases hs : decStep c d with
    | stop d1 => simp
    | sample d1 x =>
      simp only
      split
      · simp
      · rw [ih d1]
        split <;> simp_all

theorem decLoop_length_le (c : Cfg) (n : Nat) (d : DSt) : (decLoop c n d).2.length ≤ n := by
  induction n generalizing d with
  | zero => simp [decLoop_zero]
  | succ n ih =>
    simp only [decLoop]
    cases hs : decStep c d with
    | stop d1 => simp
    | sample d1 x =>
      simp only
      split
      · simp
      · have := ih d1
        simp only [List.length_cons]; omega

/-- calls none of which is cut short (the last one may be) -/
def fullCalls (c : Cfg) : DSt → List Nat → Prop
  | _, [] => True
  | d, n :: ns => (ns.sum = 0 ∨ (decodeData c n d).2.length = n) ∧ fullCalls c (decodeData c n d).1 ns

end Sf.Dwvw.Proofs
