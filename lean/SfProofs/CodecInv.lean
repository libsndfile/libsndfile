/-
  SfProofs.CodecInv — the appending-writer invariant `WInv`, the exact effect of `stepWrite` on a state that
  satisfies it (`stepWrite_spec`: handle `wrH`, header bytes `wrHdr`; put together from the three phases of a write call,
  `wPre_spec`, `wBody_spec`, `wPost_spec`), and its preservation (`stepWrite_winv`).
-/
import SfProofs.HandleSteps
namespace Sf

/-- A handle opened for write that has only been written to, and its store:
    the store is `hdr ++ dat`, positioned at its end; `dat` is `wpos` whole frames. -/
structure WInv (h : H) (s : Store) (hdr dat : List Byte) : Prop where
  mode : h.mode = .w
  lastOp : h.lastOp = .w
  ch_pos : 0 < h.ch
  wpos_nonneg : 0 ≤ h.wpos
  frames : h.frames = h.wpos
  dataend : h.dataend = 0
  doff : h.dataoffset = hdrLenOf h
  hdr_len : hdr.length = hdrLenOf h
  bytes : s.bytes = hdr ++ dat
  pos : s.pos = s.bytes.length
  dat_len : (dat.length : Int) = h.wpos * ((h.enc.nbytes * h.ch : Nat) : Int)
  peak_len : ∀ ps, h.peak = some ps → ps.length = h.ch

theorem hdrOf_congr (h h' : H) (h0 : h'.container = h.container) (h1 : h'.big = h.big) (h2 : h'.datalength = h.datalength)
    (h3 : h'.fmtWord = h.fmtWord) (h4 : h'.sr = h.sr) (h5 : h'.ch = h.ch) (h6 : h'.filelength = h.filelength)
    (h7 : h'.enc = h.enc) (h8 : h'.frames = h.frames) (h9 : h'.peak = h.peak) (h10 : h'.peakAtStart = h.peakAtStart) :
    hdrOf h' = hdrOf h := by
  unfold hdrOf
  rw [h0, auHeader_eq, wavHeader_eq, auHeader_eq, wavHeader_eq, h1, h2, h3, h4, h5, h6, h7, h8, h9, h10]

/-- `write_header (psf, SF_FALSE)` leaves the handle alone once the data offset is the header length -/
theorem recalc_false_eq (h : H) (fl : Nat) (hd : h.dataoffset = hdrLenOf h) : recalc h fl false = h := by
  rw [recalc_fields, recalc_dataoffset' h fl false hd, recalc_filelength, recalc_datalength, ← hd]
  simp

theorem WInv.clearError {h : H} {s : Store} {hdr dat : List Byte} (inv : WInv h s hdr dat) : WInv { h with error := 0 } s hdr dat :=
  ⟨inv.mode, inv.lastOp, inv.ch_pos, inv.wpos_nonneg, inv.frames, inv.dataend, inv.doff, inv.hdr_len, inv.bytes, inv.pos, inv.dat_len,
    inv.peak_len⟩

theorem WInv.writeHeader {h : H} {s : Store} {hdr dat : List Byte} (inv : WInv h s hdr dat) (cl : Bool) :
    Sf.writeHeader h s cl = (recalc h s.bytes.length cl, { bytes := hdrOf (recalc h s.bytes.length cl) ++ dat, pos := s.pos }) :=
  writeHeader_on h s cl hdr dat inv.bytes inv.hdr_len inv.doff (by rw [inv.pos, inv.bytes, List.length_append, inv.hdr_len]; omega)

/-- the first phase of a write call on a writer state: no seek (the last operation was a write); the header is written if this
    is the first write -/
theorem wPre_spec (h : H) (s : Store) (hdr dat : List Byte) (inv : WInv h s hdr dat) :
    HandleG.wPre HandleG.hCont h s = ({ h with error := 0 },
      { bytes := (if !h.haveWritten ∧ h.container != .raw then hdrOf h else hdr) ++ dat, pos := s.pos }) := by
  unfold HandleG.wPre
  simp only []
  rw [if_neg (show ¬ (h.lastOp != Mode.w) = true by simp [inv.lastOp]), ← HandleG.guard_raw]
  split
  · rw [inv.clearError.writeHeader false, recalc_false_eq _ _ inv.clearError.doff]
    rfl
  · have := inv.bytes
    cases s
    simp_all

theorem wPost_spec (h : H) (s : Store) (hdr body : List Byte) (hb : s.bytes = hdr ++ body)
    (hl : hdr.length = hdrLenOf h) (hd : h.dataoffset = hdrLenOf h) (hpos : hdrLenOf h ≤ s.pos) :
    HandleG.wPost HandleG.hCont (h, s) =
      (if h.autoHeader ∧ h.container != .raw then recalc h s.bytes.length true else h,
       { bytes := (if h.autoHeader ∧ h.container != .raw then hdrOf (recalc h s.bytes.length true) else hdr) ++ body,
         pos := s.pos }) := by
  unfold HandleG.wPost
  rw [← HandleG.guard_raw]
  split
  · exact writeHeader_on h s true hdr body hb hl hd hpos
  · cases s
    simp_all

theorem peakUpdate_maplen (h : H) (ty : Ty) (vals : List Int) (hl : ∀ ps, h.peak = some ps → ps.length = h.ch) :
    (peakUpdate h ty vals).map List.length = h.peak.map List.length := by
  cases hp : h.peak with
  | none => rw [peakUpdate_none h ty vals hp]
  | some ps =>
    obtain ⟨ps', e, l⟩ := peakUpdate_some h ty vals ps hp (hl ps hp)
    rw [e]; simp [l, hl ps hp]

/-- the handle after the samples of a write call on an appending writer (`WInv`: the write position is the end, so
    `frames` is the new write position and `dataend` stays 0), before a possible automatic header update -/
def wrMid (h : H) (ty : Ty) (vals : List Int) : H :=
  { h with error := 0, haveWritten := true, wpos := h.wpos + (vals.length : Int) / h.ch, lastOp := Mode.w,
           peak := peakUpdate h ty vals, frames := h.wpos + (vals.length : Int) / h.ch, dataend := 0 }

/-- the handle after a write call that leaves the file `fl` bytes long -/
def wrH (h : H) (ty : Ty) (vals : List Int) (fl : Nat) : H :=
  if h.autoHeader ∧ h.container != .raw then recalc (wrMid h ty vals) fl true else wrMid h ty vals

/-- the header bytes in the store after that call -/
def wrHdr (h : H) (ty : Ty) (vals : List Int) (fl : Nat) (hdr : List Byte) : List Byte :=
  if h.autoHeader ∧ h.container != .raw then hdrOf (recalc (wrMid h ty vals) fl true)
  else if !h.haveWritten ∧ h.container != .raw then hdrOf h else hdr

theorem wrH_auto (h : H) (ty : Ty) (v : List Int) (fl : Nat) (hc : h.autoHeader = true ∧ (h.container != Container.raw) = true) :
    wrH h ty v fl = recalc (wrMid h ty v) fl true := by unfold wrH; rw [if_pos hc]
theorem wrH_plain (h : H) (ty : Ty) (v : List Int) (fl : Nat) (hc : ¬ (h.autoHeader = true ∧ (h.container != Container.raw) = true)) :
    wrH h ty v fl = wrMid h ty v := by unfold wrH; rw [if_neg hc]

theorem wrHdr_auto (h : H) (ty : Ty) (v : List Int) (fl : Nat) (hdr : List Byte)
    (hc : h.autoHeader = true ∧ (h.container != Container.raw) = true) : wrHdr h ty v fl hdr = hdrOf (wrH h ty v fl) := by
  unfold wrHdr; rw [if_pos hc, wrH_auto h ty v fl hc]

theorem wBody_spec (h : H) (s : Store) (hdr dat : List Byte) (inv : WInv h s hdr dat) (ty : Ty) (data : List Int) :
    HandleG.wBody (HandleG.wPre HandleG.hCont h s) ty data.length data =
      (wrMid h ty data,
       { bytes := (if !h.haveWritten ∧ h.container != .raw then hdrOf h else hdr) ++ (dat ++ h.enc.encodeAll h.conv ty data),
         pos := s.pos + (h.enc.encodeAll h.conv ty data).length }) := by
  have hq : 0 ≤ (data.length : Int) / h.ch := Int.ediv_nonneg (by omega) (by omega)
  have hlen : (if !h.haveWritten ∧ h.container != .raw then hdrOf h else hdr).length = hdr.length := by
    split
    · rw [hdrOf_length, inv.hdr_len]
    · rfl
  rw [wPre_spec h s hdr dat inv, HandleG.wBody_eq]
  simp only [Int.toNat_natCast, List.take_length]
  refine Prod.ext ?_ ?_
  · simp only [wrMid, inv.frames, inv.dataend, ite_self, Int.max_eq_right (Int.le_add_of_nonneg_right hq)]
    rfl
  · rw [Store.write_end _ _ (by simp only [List.length_append, hlen]; rw [inv.pos, inv.bytes, List.length_append]),
      List.append_assoc]

theorem wrMid_hdrLen (h : H) (ty : Ty) (vals : List Int) (hl : ∀ ps, h.peak = some ps → ps.length = h.ch) :
    hdrLenOf (wrMid h ty vals) = hdrLenOf h :=
  hdrLenOf_congr _ _ rfl rfl rfl (peakUpdate_maplen h ty vals hl)

/-- a write call's automatic header update changes the two lengths and the data offset and nothing else -/
theorem wrH_fields (h : H) (ty : Ty) (vals : List Int) (fl : Nat) :
    wrH h ty vals fl = { wrMid h ty vals with filelength := (wrH h ty vals fl).filelength,
                                              datalength := (wrH h ty vals fl).datalength,
                                              dataoffset := (wrH h ty vals fl).dataoffset } := by
  unfold wrH
  split
  · exact recalc_fields _ _ _
  · rfl

theorem stepWrite_spec (h : H) (s : Store) (hdr dat : List Byte) (inv : WInv h s hdr dat)
    (ty : Ty) (fc : Bool) (n : Int) (data : List Int) (v : ValidW h fc n data) :
    stepWrite h s ty fc n data =
      (wrH h ty data (s.bytes.length + (h.enc.encodeAll h.conv ty data).length),
       { bytes := wrHdr h ty data (s.bytes.length + (h.enc.encodeAll h.conv ty data).length) hdr ++
                    (dat ++ h.enc.encodeAll h.conv ty data),
         pos := s.pos + (h.enc.encodeAll h.conv ty data).length },
       { ret := n, err := 0 }) := by
  let hdr1 := if !h.haveWritten ∧ h.container != .raw then hdrOf h else hdr
  let new := h.enc.encodeAll h.conv ty data
  have hdr1_len : hdr1.length = hdrLenOf h := by
    simp only [hdr1]; split
    · exact hdrOf_length h
    · exact inv.hdr_len
  have hspos : s.pos = hdr.length + dat.length := by rw [inv.pos, inv.bytes, List.length_append]
  have e2 := wBody_spec h s hdr dat inv ty data
  have hml : hdrLenOf (wrMid h ty data) = hdrLenOf h := wrMid_hdrLen h ty data inv.peak_len
  have e3 := wPost_spec (wrMid h ty data) ({ bytes := hdr1 ++ (dat ++ new), pos := s.pos + new.length } : Store) hdr1 (dat ++ new)
    rfl (by rw [hml]; exact hdr1_len) (by rw [hml]; exact inv.doff) (by rw [hml]; simp only []; rw [hspos, inv.hdr_len]; omega)
  have hfl : (hdr1 ++ (dat ++ new)).length = s.bytes.length + new.length := by
    simp [inv.bytes, hdr1_len, inv.hdr_len]; omega
  have hlen : reqLen h fc n = (data.length : Int) := (v.len.trans (callLen_eq_reqLen h fc n)).symm
  have hret : (if fc = true then (data.length : Int) / (h.ch : Int) else data.length) = n :=
    hlen ▸ reqLen_ret h fc n inv.ch_pos
  rw [HandleG.stepWrite_hCont, HandleG.stepWrite_main _ h s ty fc n data v.pos (by rw [inv.mode]; decide)
    (by cases fc; exact .inr (v.align rfl); exact .inl rfl)]
  unfold HandleG.wAll
  rw [hlen, e2, e3, hfl]
  have hch : ∀ fl, (wrH h ty data fl).ch = h.ch := fun fl => by rw [wrH_fields]; rfl
  exact congrArg (fun r : Int => (_, _, ({ ret := r, err := 0 } : Out))) (hch _ ▸ hret)

@[simp] theorem wrH_store (h : H) (ty : Ty) (vals : List Int) (fl : Nat) : (wrH h ty vals fl).store = (wrMid h ty vals).store := by
  rw [wrH_fields]
@[simp] theorem wrH_enc (h : H) (ty : Ty) (vals : List Int) (fl : Nat) : (wrH h ty vals fl).enc = (wrMid h ty vals).enc := by
  rw [wrH_fields]
@[simp] theorem wrH_rpos (h : H) (ty : Ty) (vals : List Int) (fl : Nat) : (wrH h ty vals fl).rpos = (wrMid h ty vals).rpos := by
  rw [wrH_fields]
@[simp] theorem wrH_error (h : H) (ty : Ty) (vals : List Int) (fl : Nat) : (wrH h ty vals fl).error = (wrMid h ty vals).error := by
  rw [wrH_fields]
@[simp] theorem wrH_conv (h : H) (ty : Ty) (vals : List Int) (fl : Nat) : (wrH h ty vals fl).conv = (wrMid h ty vals).conv := by
  rw [wrH_fields]
@[simp] theorem wrH_canTruncate (h : H) (ty : Ty) (vals : List Int) (fl : Nat) : (wrH h ty vals fl).canTruncate = (wrMid h ty vals).canTruncate := by
  rw [wrH_fields]

theorem wrH_hdrLen (h : H) (ty : Ty) (vals : List Int) (fl : Nat) (hl : ∀ ps, h.peak = some ps → ps.length = h.ch) :
    hdrLenOf (wrH h ty vals fl) = hdrLenOf h := by
  rw [wrH_fields, ← wrMid_hdrLen h ty vals hl]
  exact hdrLenOf_congr _ _ rfl rfl rfl rfl

theorem wrH_dataoffset (h : H) (ty : Ty) (vals : List Int) (fl : Nat) (hl : ∀ ps, h.peak = some ps → ps.length = h.ch)
    (hd : h.dataoffset = hdrLenOf h) : (wrH h ty vals fl).dataoffset = hdrLenOf h := by
  have hm : (wrMid h ty vals).dataoffset = hdrLenOf (wrMid h ty vals) := by
    rw [wrMid_hdrLen h ty vals hl]; exact hd
  unfold wrH; split
  · rw [recalc_dataoffset' _ _ _ hm, wrMid_hdrLen h ty vals hl]
  · rw [hm, wrMid_hdrLen h ty vals hl]

theorem wrHdr_length (h : H) (ty : Ty) (vals : List Int) (fl : Nat) (hdr : List Byte)
    (hl : ∀ ps, h.peak = some ps → ps.length = h.ch) (hh : hdr.length = hdrLenOf h) :
    (wrHdr h ty vals fl hdr).length = hdrLenOf h := by
  unfold wrHdr
  split
  · rw [hdrOf_length, recalc_hdrLen, wrMid_hdrLen h ty vals hl]
  · split
    · exact hdrOf_length h
    · exact hh

theorem ValidW.len_mod (h : H) (fc : Bool) (n : Int) (data : List Int) (v : ValidW h fc n data) :
    (data.length : Int) % h.ch = 0 := by
  rw [v.len]; unfold callLen
  cases fc
  · simpa using v.align rfl
  · simp

theorem stepWrite_winv (h : H) (s : Store) (hdr dat : List Byte) (inv : WInv h s hdr dat)
    (ty : Ty) (fc : Bool) (n : Int) (data : List Int) (v : ValidW h fc n data) :
    WInv (stepWrite h s ty fc n data).1 (stepWrite h s ty fc n data).2.1
      (wrHdr h ty data (s.bytes.length + (h.enc.encodeAll h.conv ty data).length) hdr)
      (dat ++ h.enc.encodeAll h.conv ty data) := by
  rw [stepWrite_spec h s hdr dat inv ty fc n data v]
  have hq : 0 ≤ (data.length : Int) / h.ch := Int.ediv_nonneg (by omega) (by omega)
  have hl := inv.peak_len
  have hdo := wrH_dataoffset h ty data (s.bytes.length + (h.enc.encodeAll h.conv ty data).length) hl inv.doff
  have hhl := wrH_hdrLen h ty data (s.bytes.length + (h.enc.encodeAll h.conv ty data).length) hl
  rw [wrH_fields] at hdo hhl ⊢
  exact {
    mode := inv.mode
    lastOp := rfl
    ch_pos := inv.ch_pos
    wpos_nonneg := by simp only [wrMid]; have := inv.wpos_nonneg; omega
    frames := rfl
    dataend := rfl
    doff := hdo.trans (congrArg Nat.cast hhl.symm)
    hdr_len := (wrHdr_length _ _ _ _ _ hl inv.hdr_len).trans hhl.symm
    bytes := rfl
    pos := by
      simp only [List.length_append]
      rw [wrHdr_length _ _ _ _ _ hl inv.hdr_len, inv.pos, inv.bytes, List.length_append, inv.hdr_len]; omega
    dat_len := by
      simp only [wrMid, List.length_append, Enc.encodeAll_length_cw]
      have hm := ValidW.len_mod h fc n data v
      have hd := inv.dat_len
      have hc : (h.ch : Int) ≠ 0 := by have := inv.ch_pos; omega
      have : (data.length : Int) = (data.length : Int) / h.ch * h.ch := by
        rw [Int.ediv_mul_cancel (Int.dvd_of_emod_eq_zero hm)]
      push_cast
      rw [hd, Int.add_mul]
      congr 1
      push_cast
      calc (data.length : Int) * h.enc.nbytes = ((data.length : Int) / h.ch * h.ch) * h.enc.nbytes := by rw [← this]
        _ = _ := by rw [Int.mul_assoc, Int.mul_comm (h.ch : Int)]
    peak_len := by
      intro ps hps
      simp only [wrMid] at hps ⊢
      cases hp : h.peak with
      | none => rw [peakUpdate_none h ty data hp] at hps; cases hps
      | some ps0 =>
        obtain ⟨ps', e, l⟩ := peakUpdate_some h ty data ps0 hp (hl ps0 hp)
        rw [e] at hps; cases hps; exact l }

end Sf
