/-
  One step of the RIFF chunk walk `wavScan`, chunk kind by chunk kind: what the walk does with the scan
  state and where it goes on.
-/
import SfModel.Handle
namespace Sf

/-- after a chunk whose body of `sz` bytes starts at `body`: the walk ends when fewer than four bytes
    remain, and goes on behind the (padded) body otherwise -/
def wavNext (big : Bool) (bs : List Byte) (flen fuel body : Nat) (s : WavScan) (sz : Nat) : Option WavScan :=
  if sz ≥ flen then some s
  else if body + sz + 4 ≥ flen + 0 ∧ body + sz ≥ flen - 4 then some s
  else wavScan big bs flen fuel (body + sz + sz % 2) s

theorem wavScan_succ (big : Bool) (bs : List Byte) (flen fuel pos : Nat) (s : WavScan) :
    wavScan big bs flen (fuel + 1) pos s =
      if pos + 8 > flen then some s else
      if (bs.drop pos).take 4 == marker "fmt " then
        if s.haveFmt then wavNext big bs flen fuel (pos + 8) s (rd32 big bs (pos + 4)) else
        if rd32 big bs (pos + 4) < 16 then none else
        wavNext big bs flen fuel (pos + 8)
          { s with fmtTag := rd16 big bs (pos + 8), ch := rd16 big bs (pos + 8 + 2), sr := rd32 big bs (pos + 8 + 4),
                   bits := rd16 big bs (pos + 8 + 14), haveFmt := true } (rd32 big bs (pos + 4))
      else if (bs.drop pos).take 4 == marker "fact" then wavNext big bs flen fuel (pos + 8) s (rd32 big bs (pos + 4))
      else if (bs.drop pos).take 4 == marker "PAD " then wavNext big bs flen fuel (pos + 8) s (rd32 big bs (pos + 4))
      else if (bs.drop pos).take 4 == marker "PEAK" then
        if !s.haveFmt ∨ rd32 big bs (pos + 4) != 8 + 8 * s.ch then none else
        wavNext big bs flen fuel (pos + 8)
          { s with peak := some (parsePeaks big bs (pos + 8 + 8) s.ch), peakAtStart := !s.haveData } (rd32 big bs (pos + 4))
      else if (bs.drop pos).take 4 == marker "data" then
        if !s.haveFmt then none else
        let dl : Int := if (rd32 big bs (pos + 4) : Int) > (flen : Int) - ((pos + 8 : Nat) : Int)
          then (flen : Int) - ((pos + 8 : Nat) : Int) else rd32 big bs (pos + 4)
        let s' := { s with dataoffset := pos + 8, datalength := dl + (rd32 big bs (pos + 4) % 2 : Nat),
                           dataend := if dl + ((pos + 8 : Nat) : Int) < flen then dl + ((pos + 8 : Nat) : Int) else 0,
                           haveData := true }
        let p : Int := ((pos + 8 : Nat) : Int) + (dl + (rd32 big bs (pos + 4) % 2 : Nat))
        if p.toNat + 4 ≥ flen ∧ p.toNat ≥ flen - 4 then some s' else wavScan big bs flen fuel p.toNat s'
      else none := by
  rw [wavScan]
  rfl

end Sf
