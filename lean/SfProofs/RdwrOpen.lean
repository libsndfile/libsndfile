/-
  SfProofs.RdwrOpen — `sf_open (…, SFM_RDWR)` establishes the read/write invariant.
-/
import SfProofs.ContainerParse
import SfProofs.RdwrSteps
namespace Sf

/-- what an open for read/write of the store `s0` leaves, whatever it found there; more for a new file and for a RAW one -/
structure OpenedRw (s0 : Store) (h : H) (s : Store) : Prop where
  mode : h.mode = .rw
  lastOp : h.lastOp = .rw
  rpos : h.rpos = 0
  frames_nn : 0 ≤ h.frames
  wpos : h.wpos = h.frames
  pos : (s.pos : Int) = h.dataoffset
  fresh : s0.bytes = [] → h.frames = 0 ∧ h.peak = none ∧ h.dataend = 0 ∧ h.dataoffset = (hdrLenOf h : Nat) ∧
    s.bytes.length = hdrLenOf h
  raw : h.container = .raw → h.dataoffset = 0 ∧ h.peak = none ∧ h.dataend = 0 ∧ s.bytes = s0.bytes ∧
    h.frames = ((s0.bytes.length / h.bw : Nat) : Int)

theorem open_rw_facts (ix : Nat) (s0 : Store) (fmt : Nat) (ch sr : Int) (h : H) (s : Store)
    (ho : openHandle ix s0 .rw fmt ch sr = .ok h s) : OpenedRw s0 h s := by
  have hi := HInv_openHandle ix s0 .rw fmt ch sr h s ho
  rcases openHandle_ok ix s0 .rw fmt ch sr h s ho with
    ⟨c, enc, hc, hch, hsr, henc, hnew, hcase⟩ | ⟨p, c, enc, hnf, _, hp, hc, henc, hsr, rfl, rfl⟩
  · have hbw : 0 < enc.nbytes * ch.toNat := Nat.mul_pos (encOf_nbytes_pos henc) (by omega)
    rcases hcase with ⟨rfl, rfl, rfl⟩ | ⟨rfl, h1, rfl, rfl, rfl⟩ | ⟨rfl, h1, rfl, rfl, rfl⟩
    · -- raw
      have hfr : (initFrames 0 0 (s0.bytes.length : Int) (enc.nbytes * ch.toNat)).2 =
          ((s0.bytes.length / (enc.nbytes * ch.toNat) : Nat) : Int) := by
        have := initFrames_plain 0 s0.bytes.length _ hbw
        simp only [Nat.zero_add, Int.natCast_zero] at this
        exact this
      refine ⟨rfl, rfl, rfl, hi.wpos_nn, rfl, rfl, fun hb => ?_, fun _ => ⟨rfl, rfl, rfl, rfl, hfr⟩⟩
      refine ⟨?_, rfl, rfl, rfl, by simp [hdrLenOf, Store.seekSet, hb]⟩
      show (initFrames 0 0 (s0.bytes.length : Int) (enc.nbytes * ch.toNat)).2 = 0
      rw [hfr, hb]; simp
    · -- au, new file
      have hb : (s0.seekSet 0).bytes = [] := by
        rcases hnew with hm | ⟨_, hb⟩ | hr
        · cases hm
        · exact hb
        · cases hr
      refine ⟨rfl, rfl, rfl, Int.le_refl _, rfl, ?_, fun _ => ⟨rfl, rfl, rfl, rfl, ?_⟩, fun hc => by cases hc⟩
      · rw [writeHeader_empty _ _ hb rfl]; rfl
      · rw [writeHeader_empty _ _ hb rfl]; simp [hdrLenOf, hdrOf, auHeader_length]
    · -- wav, new file
      have hb : (s0.seekSet 0).bytes = [] := by
        rcases hnew with hm | ⟨_, hb⟩ | hr
        · cases hm
        · exact hb
        · cases hr
      rw [writeHeader_empty _ _ hb rfl]
      refine ⟨rfl, rfl, rfl, Int.le_refl _, rfl, ?_, fun _ => ?_, fun hc => by cases hc⟩
      · simp [hdrLenOf, wavHeader_length]
      · refine ⟨rfl, rfl, rfl, ?_, ?_⟩
        · simp only [hdrLenOf, wavHeader_length]; exact congrArg Nat.cast (wavHdrLen_congr _ _ rfl rfl rfl).symm
        · simp only [hdrOf, hdrLenOf, wavHeader_length]; exact (wavHdrLen_congr _ _ rfl rfl rfl).symm
  · -- existing file: header parsed; such a file is neither empty nor RAW
    have hne : s0.bytes ≠ [] := fun hb => hnf (Or.inr ⟨rfl, hb⟩)
    refine ⟨rfl, rfl, rfl, hi.wpos_nn, rfl, rfl, fun hb => absurd hb hne, fun hcr => ?_⟩
    exfalso
    have hcr : c = .raw := hcr
    subst hcr
    exact (parseAny_wf hp).2.2.2.2 hc

/-- the shape an opened file must have for the read/write invariant: a header of exactly the length the container
    writes, no PEAK table, nothing behind the audio data, whole frames only -/
def OpenTight (h : H) (s : Store) : Prop :=
  h.dataoffset = (hdrLenOf h : Nat) ∧ h.peak = none ∧ h.dataend = 0 ∧
  (s.bytes.length : Int) = h.dataoffset + h.frames * (h.bw : Int)

/-- … or, in a WAV, exactly the zero pad byte behind an odd-length data chunk; a PEAK table, if any, has one entry per
    channel and its chunk sits in front of the data -/
def OpenPadded (h : H) (s : Store) : Prop :=
  h.dataoffset = (hdrLenOf h : Nat) ∧ PeakOk h ∧ (h.container ≠ .wav → h.dataend = 0) ∧
  ∃ t : Nat, TailOk h t ∧ (s.bytes.length : Int) = h.dataoffset + h.frames * (h.bw : Int) + t ∧
    s.bytes.drop (s.bytes.length - t) = zeros t

theorem OpenTight.padded {h : H} {s : Store} (ht : OpenTight h s) : OpenPadded h s := by
  obtain ⟨t1, t2, t3, t4⟩ := ht
  have hpk : PeakOk h := fun ps hp => by rw [t2] at hp; cases hp
  exact ⟨t1, hpk, fun _ => t3, 0, Or.inl rfl, by rw [t4]; simp, by simp [zeros]⟩

theorem RwInv_open_padded (ix : Nat) (s0 : Store) (fmt : Nat) (ch sr : Int) (h : H) (s : Store)
    (ho : openHandle ix s0 .rw fmt ch sr = .ok h s) (ht : OpenPadded h s) : RwInv h s := by
  have hi := HInv_openHandle ix s0 .rw fmt ch sr h s ho
  obtain ⟨hm, hl, hr, hf, hw, hp, _, _⟩ := open_rw_facts ix s0 fmt ch sr h s ho
  obtain ⟨t1, t2, t3, t, tk, t4, t5⟩ := ht
  obtain ⟨F, hF⟩ := Int.eq_ofNat_of_zero_le hf
  have hlen : s.bytes.length = hdrLenOf h + F * h.bw + t := by
    rw [t1, hF] at t4
    have : ((s.bytes.length : Nat) : Int) = ((hdrLenOf h + F * h.bw + t : Nat) : Int) := by rw [t4]; push_cast; rfl
    exact Int.ofNat.inj this
  refine ⟨0, F, F, s.bytes.take (hdrLenOf h), (s.bytes.drop (hdrLenOf h)).take (F * h.bw), ?_⟩
  refine ⟨hm, hi.ch_pos, hi.nb_pos, hr, by rw [hw, hF], hF, t1, t2, t3, ⟨t, ?_, tk⟩,
    by rw [List.length_take]; omega, by rw [List.length_take, List.length_drop]; omega, ?_, fun hc => ?_, fun hc => ?_⟩
  · have e1 : s.bytes.drop (hdrLenOf h) =
        (s.bytes.drop (hdrLenOf h)).take (F * h.bw) ++ (s.bytes.drop (hdrLenOf h)).drop (F * h.bw) :=
      (List.take_append_drop _ _).symm
    have e2 : (s.bytes.drop (hdrLenOf h)).drop (F * h.bw) = zeros t := by
      rw [List.drop_drop, ← t5]; congr 1; omega
    rw [← e2, ← e1, List.take_append_drop]
  · rw [t1] at hp; omega
  · rw [hl] at hc; cases hc
  · rw [hl] at hc; cases hc

theorem open_fresh_tight (ix : Nat) (s0 : Store) (fmt : Nat) (ch sr : Int) (h : H) (s : Store)
    (ho : openHandle ix s0 .rw fmt ch sr = .ok h s) (he : s0.bytes = []) : OpenTight h s := by
  obtain ⟨a, b, c, d, e⟩ := (open_rw_facts ix s0 fmt ch sr h s ho).fresh he
  exact ⟨d, b, c, by rw [e, d, a]; simp⟩

theorem open_raw_tight (ix : Nat) (s0 : Store) (fmt : Nat) (ch sr : Int) (h : H) (s : Store)
    (ho : openHandle ix s0 .rw fmt ch sr = .ok h s) (hc : h.container = .raw) (hw : s0.bytes.length % h.bw = 0) :
    OpenTight h s := by
  obtain ⟨a, b, c, d, e⟩ := (open_rw_facts ix s0 fmt ch sr h s ho).raw hc
  refine ⟨by rw [a, hdrLenOf_raw hc]; rfl, b, c, ?_⟩
  rw [a, e, d]
  have := Nat.div_add_mod s0.bytes.length h.bw
  rw [hw, Nat.mul_comm] at this
  generalize s0.bytes.length / h.bw = q at *
  rw [← this]; push_cast; simp

/-- the harness records after open whether the route can `ftruncate`; the invariant does not read that flag -/
theorem RwInv.setTruncate {h : H} {s : Store} (i : RwInv h s) (b : Bool) : RwInv { h with canTruncate := b } s := by
  obtain ⟨R, W, F, hdr, D, v⟩ := i
  exact ⟨R, W, F, hdr, D, v.unread _ rfl⟩

theorem absOf_setTruncate (h : H) (s : Store) (b : Bool) : absOf { h with canTruncate := b } s = absOf h s := rfl

end Sf
