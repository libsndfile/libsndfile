/-
  Helper lemmas for SfProps/C06Gsm.lean: ranges of the GSM arithmetic layer, lengths and ranges of every stage of the
  decoder (Sf.Gsm, SfModel/Gsm.lean), the decoder state invariant.
-/
import SfModel.Gsm
import SfProofs.Bytes
namespace Sf.Gsm.Proofs
open Sf Sf.Gsm

/-- an `int16_t` value -/
def W16 (x : Int) : Prop := -32768 ≤ x ∧ x ≤ 32767
def AllW16 (l : List Int) : Prop := ∀ x ∈ l, W16 x

theorem pow16 : (2 : Int) ^ 16 = 65536 := by decide

theorem w16_range (x : Int) : W16 (w16 x) := by
  have := wrapS_range 16 (by decide) x; unfold W16 w16; omega

theorem w16_id (x : Int) (h : W16 x) : w16 x = x := wrapS_of_range 16 x (by unfold W16 at h; omega) (by unfold W16 at h; omega)

theorem add_range (a b : Int) : W16 (add a b) := by
  unfold W16 add; simp only; split
  · omega
  · split <;> omega

theorem sub_range (a b : Int) : W16 (sub a b) := by
  unfold W16 sub; simp only; split
  · omega
  · split <;> omega

/-- GSM_ADD / GSM_SUB (written with `>= MAX_WORD` / `<= MIN_WORD`) are the exact result clamped to int16 -/
theorem add_clamped (a b : Int) :
    add a b = (if a + b > 32767 then 32767 else if a + b < -32768 then -32768 else a + b) := by
  unfold add; simp only; split <;> split <;> (try split) <;> omega

theorem sub_clamped (a b : Int) :
    sub a b = (if a - b > 32767 then 32767 else if a - b < -32768 then -32768 else a - b) := by
  unfold sub; simp only; split <;> split <;> (try split) <;> omega

/-- `& 0xFFF8` on an int16 value stored into an `int16_t`: rounding down to a multiple of 8 -/
theorem trunc8_exact (x : Int) (h : W16 x) : w16 (((wrapU 16 x / 8 * 8 : Nat) : Int)) = x / 8 * 8 := by
  unfold W16 at h
  unfold w16 wrapS wrapU
  simp only [pow16]
  split <;> omega

theorem sat_range (x : Int) : W16 (sat x) := by
  unfold W16 sat; split
  · omega
  · split <;> omega

theorem gsmMultR_range (a b : Int) : W16 (gsmMultR a b) := by
  unfold gsmMultR
  split
  · unfold W16; omega
  · exact w16_range _

theorem AllW16_nil : AllW16 [] := by intro x h; cases h
theorem AllW16_cons {x : Int} {l : List Int} (hx : W16 x) (hl : AllW16 l) : AllW16 (x :: l) := by
  intro y hy
  cases hy with
  | head => exact hx
  | tail _ h => exact hl y h
theorem AllW16_append {a b : List Int} (ha : AllW16 a) (hb : AllW16 b) : AllW16 (a ++ b) := by
  intro x hx
  rcases List.mem_append.mp hx with h | h
  · exact ha x h
  · exact hb x h
theorem AllW16_take {l : List Int} (n : Nat) (h : AllW16 l) : AllW16 (l.take n) :=
  fun x hx => h x (List.mem_of_mem_take hx)
theorem AllW16_drop {l : List Int} (n : Nat) (h : AllW16 l) : AllW16 (l.drop n) :=
  fun x hx => h x (List.mem_of_mem_drop hx)
theorem AllW16_reverse {l : List Int} (h : AllW16 l) : AllW16 l.reverse :=
  fun x hx => h x (List.mem_reverse.mp hx)
theorem AllW16_replicate (n : Nat) : AllW16 (List.replicate n 0) := by
  intro x hx
  have := List.eq_of_mem_replicate hx
  subst this; unfold W16; omega
theorem AllW16_map_w16 {α} (l : List α) (f : α → Int) : AllW16 (l.map fun a => w16 (f a)) := by
  intro x hx
  obtain ⟨a, _, rfl⟩ := List.mem_map.mp hx
  exact w16_range _
/-! `zipWith f l1 l2` is `f` mapped over `l1.zip l2`, whose pairs are members of the two lists -/

theorem mem_zipWith {α β γ} (f : α → β → γ) (l1 : List α) (l2 : List β) (c : γ) (h : c ∈ List.zipWith f l1 l2) :
    ∃ a ∈ l1, ∃ b ∈ l2, c = f a b := by
  rw [← List.map_uncurry_zip_eq_zipWith] at h
  obtain ⟨⟨a, b⟩, hab, rfl⟩ := List.mem_map.mp h
  exact ⟨a, (List.of_mem_zip hab).1, b, (List.of_mem_zip hab).2, rfl⟩

theorem zipWith_congr_mem {α β γ} (f g : α → β → γ) (l1 : List α) (l2 : List β)
    (h : ∀ a ∈ l1, ∀ b ∈ l2, f a b = g a b) : List.zipWith f l1 l2 = List.zipWith g l1 l2 := by
  rw [← List.map_uncurry_zip_eq_zipWith, ← List.map_uncurry_zip_eq_zipWith]
  exact List.map_congr_left fun (a, b) hab => h a (List.of_mem_zip hab).1 b (List.of_mem_zip hab).2

theorem AllW16_zipWith_w16 {α β} (f : α → β → Int) (a : List α) (b : List β) :
    AllW16 (List.zipWith (fun x y => w16 (f x y)) a b) := by
  intro x hx
  obtain ⟨_, _, _, _, rfl⟩ := mem_zipWith _ a b x hx
  exact w16_range _

theorem valLsb_lt (bs : List Bool) : valLsb bs < 2 ^ bs.length := by
  induction bs with
  | nil => simp [valLsb]
  | cons b bs ih => simp only [valLsb, List.length_cons, Nat.pow_succ]; split <;> omega

theorem valMsb_lt (bs : List Bool) : valMsb bs < 2 ^ bs.length := by
  unfold valMsb
  have := valLsb_lt bs.reverse
  simpa using this

theorem fields_length (val : List Bool → Nat) : ∀ (ws : List Nat) (bs : List Bool), (fields val ws bs).length = ws.length := by
  intro ws
  induction ws with
  | nil => intro bs; rfl
  | cons w ws ih => intro bs; simp [fields, ih]

theorem fields_getD (val : List Bool → Nat) (hval : ∀ bs, val bs < 2 ^ bs.length) :
    ∀ (ws : List Nat) (bs : List Bool) (i : Nat), i < ws.length →
      0 ≤ (fields val ws bs).getD i 0 ∧ (fields val ws bs).getD i 0 < ((2 ^ (ws.getD i 0) : Nat) : Int) := by
  intro ws
  induction ws with
  | nil => intro bs i h; simp at h
  | cons w ws ih =>
    intro bs i h
    cases i with
    | zero =>
      simp only [fields, List.getD_cons_zero]
      refine ⟨Int.natCast_nonneg _, ?_⟩
      have h1 := hval (bs.take w)
      have h2 : 2 ^ (bs.take w).length ≤ 2 ^ w := Nat.pow_le_pow_right (by decide) (by rw [List.length_take]; exact Nat.min_le_left _ _)
      exact Int.ofNat_lt.mpr (Nat.lt_of_lt_of_le h1 h2)
    | succ i =>
      simp only [fields, List.getD_cons_succ]
      exact ih (bs.drop w) i (by simpa using h)

theorem expMant_range : ∀ n : Nat, n < 64 →
    (0 ≤ (expMant (n : Int)).2 ∧ (expMant (n : Int)).2 ≤ 7 ∧ -4 ≤ (expMant (n : Int)).1 ∧ (expMant (n : Int)).1 ≤ 6) := by
  decide +kernel

structure SubInv (s : Sub) : Prop where
  nc : 0 ≤ s.nc ∧ s.nc < 128
  bc : 0 ≤ s.bc ∧ s.bc < 4
  mc : 0 ≤ s.mc ∧ s.mc < 4
  xmaxc : 0 ≤ s.xmaxc ∧ s.xmaxc < 64
  xmc_len : s.xmc.length = 13
  xmc_rng : ∀ x ∈ s.xmc, 0 ≤ x ∧ x < 8

structure PInv (p : Params) : Prop where
  larc_len : p.larc.length = 8
  larc_rng : ∀ x ∈ p.larc, 0 ≤ x ∧ x < 64
  subs_len : p.subs.length = 4
  subs : ∀ s ∈ p.subs, SubInv s

theorem mkSub_inv (L : List Int) (b : Nat)
    (hb : ∀ i, i < 76 → 0 ≤ L.getD i 0 ∧ L.getD i 0 < ((2 ^ (fieldWidths.getD i 0) : Nat) : Int))
    (hb0 : b + 17 ≤ 76) (h0 : fieldWidths.getD b 0 = 7) (h1 : fieldWidths.getD (b + 1) 0 = 2)
    (h2 : fieldWidths.getD (b + 2) 0 = 2) (h3 : fieldWidths.getD (b + 3) 0 = 6)
    (h4 : ∀ i, i < 13 → fieldWidths.getD (b + 4 + i) 0 = 3) : SubInv (mkSub L b) := by
  refine ⟨?_, ?_, ?_, ?_, ?_, ?_⟩
  · have := hb b (by omega); rw [h0] at this; exact this
  · have := hb (b + 1) (by omega); rw [h1] at this; exact this
  · have := hb (b + 2) (by omega); rw [h2] at this; exact this
  · have := hb (b + 3) (by omega); rw [h3] at this; exact this
  · simp [mkSub]
  · intro x hx
    simp only [mkSub, List.mem_map, List.mem_range] at hx
    obtain ⟨i, hi, rfl⟩ := hx
    have := hb (b + 4 + i) (by omega); rw [h4 i hi] at this; exact this

theorem mkParams_inv (val : List Bool → Nat) (hval : ∀ bs, val bs < 2 ^ bs.length) (bits : List Bool) :
    PInv (mkParams (fields val fieldWidths bits)) := by
  have hlen : fieldWidths.length = 76 := by decide
  have hb : ∀ i, i < 76 → 0 ≤ (fields val fieldWidths bits).getD i 0 ∧
      (fields val fieldWidths bits).getD i 0 < ((2 ^ (fieldWidths.getD i 0) : Nat) : Int) :=
    fun i hi => fields_getD val hval fieldWidths bits i (by omega)
  refine ⟨by simp [mkParams], ?_, by simp [mkParams], ?_⟩
  · intro x hx
    simp only [mkParams, List.mem_map, List.mem_range] at hx
    obtain ⟨i, hi, rfl⟩ := hx
    have h6 : ∀ i, i < 8 → fieldWidths.getD i 0 ≤ 6 := by decide
    have := hb i (by omega)
    exact ⟨this.1, Int.lt_of_lt_of_le this.2 (Int.ofNat_le.mpr (Nat.pow_le_pow_right (by decide) (h6 i hi)))⟩
  · intro s hs
    simp only [mkParams, List.mem_cons, List.mem_nil_iff, or_false] at hs
    rcases hs with rfl | rfl | rfl | rfl
    · exact mkSub_inv _ 8 hb (by decide) (by decide) (by decide) (by decide) (by decide) (by decide)
    · exact mkSub_inv _ 25 hb (by decide) (by decide) (by decide) (by decide) (by decide) (by decide)
    · exact mkSub_inv _ 42 hb (by decide) (by decide) (by decide) (by decide) (by decide) (by decide)
    · exact mkSub_inv _ 59 hb (by decide) (by decide) (by decide) (by decide) (by decide) (by decide)

theorem unpack33_inv (c : List Byte) (p : Params) (h : unpack33 c = some p) : PInv p := by
  unfold unpack33 at h
  split at h
  · cases h
  · cases h; exact mkParams_inv valMsb valMsb_lt _

theorem unpack49a_inv (c : List Byte) : PInv (unpack49a c).1 ∧ (unpack49a c).2 < 16 := by
  unfold unpack49a
  refine ⟨mkParams_inv valLsb valLsb_lt _, ?_⟩
  have := valLsb_lt ((((c.take 33).flatMap bitsLsb).drop 260).take 4)
  have h2 : 2 ^ ((((c.take 33).flatMap bitsLsb).drop 260).take 4).length ≤ 2 ^ 4 :=
    Nat.pow_le_pow_right (by decide) (by rw [List.length_take]; exact Nat.min_le_left _ _)
  exact Nat.lt_of_lt_of_le this h2

theorem unpack49b_inv (chain : Nat) (c : List Byte) : PInv (unpack49b chain c) :=
  mkParams_inv valLsb valLsb_lt _

theorem asr_range (a : Int) (k : Nat) (h : W16 a) : W16 (asr a k) := by
  unfold W16 at *
  unfold asr
  have hd : (0 : Int) < 2 ^ k := Int.pow_pos (by decide)
  generalize (2 : Int) ^ k = d at hd
  constructor
  · exact (Int.le_ediv_iff_mul_le hd).mpr (by omega)
  · have : a / d < 32768 := (Int.ediv_lt_iff_lt_mul hd).mpr (by omega)
    omega

theorem gsmAsr_range (a n : Int) (h : W16 a) : W16 (gsmAsr a n) := by
  unfold gsmAsr
  split
  · split <;> (unfold W16; omega)
  · split
    · unfold W16; omega
    · split
      · exact w16_range _
      · exact asr_range a _ h

theorem gridPos_length (mc : Int) (xmp : List Int) : (gridPos mc xmp).length = 40 := by simp [gridPos]

theorem rpeDecode_length (xmaxc mc : Int) (xmc : List Int) : (rpeDecode xmaxc mc xmc).length = 40 := by
  unfold rpeDecode
  split
  exact gridPos_length _ _

theorem nrOf_range (nrp ncr : Int) (h1 : 40 ≤ nrp) (h2 : nrp ≤ 120) : 40 ≤ nrOf nrp ncr ∧ nrOf nrp ncr ≤ 120 := by
  unfold nrOf; split <;> omega

theorem ltSynth_spec (hist : List Int) (nr bcr : Int) (erp : List Int) (hl : hist.length = 120) (h1 : 40 ≤ nr) (h2 : nr ≤ 120)
    (he : erp.length = 40) (hw : AllW16 hist) :
    (ltSynth hist nr bcr erp).1.length = 120 ∧ AllW16 (ltSynth hist nr bcr erp).1 ∧
    (ltSynth hist nr bcr erp).2.length = 40 ∧ AllW16 (ltSynth hist nr bcr erp).2 := by
  unfold ltSynth
  simp only
  have hk : (120 - nr).toNat ≤ 80 := by omega
  have hlen : (List.zipWith (fun e d => w16 (add e (w16 (multR (tab tabQLB bcr) d)))) erp
      (List.take 40 (List.drop (120 - nr).toNat hist))).length = 40 := by
    rw [List.length_zipWith, List.length_take, List.length_drop, he, hl]; omega
  refine ⟨?_, ?_, hlen, AllW16_zipWith_w16 _ _ _⟩
  · rw [List.length_drop, List.length_append, hlen, hl]
  · exact AllW16_drop _ (AllW16_append hw (AllW16_zipWith_w16 _ _ _))

theorem subLoop_spec : ∀ (subs : List Sub) (nrp : Int) (hist : List Int), hist.length = 120 → 40 ≤ nrp → nrp ≤ 120 →
    AllW16 hist →
    40 ≤ (subLoop subs nrp hist).1 ∧ (subLoop subs nrp hist).1 ≤ 120 ∧ (subLoop subs nrp hist).2.1.length = 120 ∧
    AllW16 (subLoop subs nrp hist).2.1 ∧ (subLoop subs nrp hist).2.2.length = 40 * subs.length ∧
    AllW16 (subLoop subs nrp hist).2.2 := by
  intro subs
  induction subs with
  | nil => intro nrp hist hl h1 h2 hw; exact ⟨h1, h2, hl, hw, rfl, AllW16_nil⟩
  | cons sb rest ih =>
    intro nrp hist hl h1 h2 hw
    obtain ⟨n1, n2⟩ := nrOf_range nrp sb.nc h1 h2
    obtain ⟨a1, a2, a3, a4⟩ := ltSynth_spec hist (nrOf nrp sb.nc) sb.bc (rpeDecode sb.xmaxc sb.mc sb.xmc) hl n1 n2
      (rpeDecode_length _ _ _) hw
    obtain ⟨b1, b2, b3, b4, b5, b6⟩ := ih (nrOf nrp sb.nc) _ a1 n1 n2 a2
    simp only [subLoop]
    refine ⟨b1, b2, b3, b4, ?_, AllW16_append a4 b6⟩
    rw [List.length_append, a3, b5, List.length_cons]; omega

theorem synStep_spec : ∀ (ps : List (Int × Int)) (sri : Int), W16 sri →
    W16 (synStep ps sri).1 ∧ (synStep ps sri).2.length = ps.length ∧ AllW16 (synStep ps sri).2 := by
  intro ps
  induction ps with
  | nil => intro sri h; exact ⟨h, rfl, AllW16_nil⟩
  | cons p rest ih =>
    intro sri _
    obtain ⟨r, vi⟩ := p
    simp only [synStep]
    obtain ⟨c1, c2, c3⟩ := ih (w16 (sub sri (gsmMultR r vi))) (w16_range _)
    exact ⟨c1, by simp [c2], AllW16_cons (w16_range _) c3⟩

theorem synFilter_spec (rrp : List Int) (hr : rrp.length = 8) : ∀ (wt v : List Int), v.length = 9 → AllW16 v → AllW16 wt →
    (synFilter rrp v wt).1.length = 9 ∧ AllW16 (synFilter rrp v wt).1 ∧ (synFilter rrp v wt).2.length = wt.length ∧
    AllW16 (synFilter rrp v wt).2 := by
  intro wt
  induction wt with
  | nil => intro v hv hw _; exact ⟨hv, hw, rfl, AllW16_nil⟩
  | cons w ws ih =>
    intro v hv _ hwt
    have hw : W16 w := hwt w (List.mem_cons_self ..)
    have hws : AllW16 ws := fun x hx => hwt x (List.mem_cons_of_mem _ hx)
    obtain ⟨c1, c2, c3⟩ := synStep_spec ((rrp.zip v).reverse) w hw
    have hz : ((rrp.zip v).reverse).length = 8 := by rw [List.length_reverse, List.length_zip, hr, hv]; rfl
    obtain ⟨d1, d2, d3, d4⟩ := ih ((synStep ((rrp.zip v).reverse) w).1 :: (synStep ((rrp.zip v).reverse) w).2.reverse)
      (by simp [c2, hz]) (AllW16_cons c1 (AllW16_reverse c3)) hws
    simp only [synFilter]
    exact ⟨d1, d2, by simp [d3], AllW16_cons c1 d4⟩

theorem larStep_range (a b c d : Int) : W16 (larStep a b c d) := by unfold larStep; exact w16_range _

theorem decodeLar_spec (larc : List Int) : (decodeLar larc).length = 8 ∧ AllW16 (decodeLar larc) := by
  refine ⟨by simp [decodeLar], ?_⟩
  intro x hx
  simp only [decodeLar, List.mem_map] at hx
  obtain ⟨i, _, rfl⟩ := hx
  exact larStep_range _ _ _ _

theorem postproc_spec : ∀ (l : List Int) (msr : Int), W16 msr →
    W16 (postproc msr l).1 ∧ (postproc msr l).2.length = l.length ∧ AllW16 (postproc msr l).2 := by
  intro l
  induction l with
  | nil => intro msr h; exact ⟨h, rfl, AllW16_nil⟩
  | cons s ss ih =>
    intro msr _
    simp only [postproc]
    obtain ⟨c1, c2, c3⟩ := ih (w16 (add s (w16 (multR msr 28180)))) (w16_range _)
    exact ⟨c1, by simp [c2], AllW16_cons (w16_range _) c3⟩

structure SInv (st : State) : Prop where
  dp0_len : st.dp0.length = 280
  dp0_w   : AllW16 st.dp0
  v_len   : st.v.length = 9
  v_w     : AllW16 st.v
  msr_w   : W16 st.msr
  l0_len  : st.larpp0.length = 8
  l0_w    : AllW16 st.larpp0
  l1_len  : st.larpp1.length = 8
  l1_w    : AllW16 st.larpp1
  j_le    : st.j ≤ 1
  nrp_lo  : 40 ≤ st.nrp
  nrp_hi  : st.nrp ≤ 120
  fi_le   : st.frameIndex ≤ 1
  chain_lt : st.frameChain < 16

theorem W16_zero : W16 0 := by unfold W16; omega

theorem SInv_init : SInv State.init :=
  ⟨List.length_replicate .., AllW16_replicate _, List.length_replicate .., AllW16_replicate _, W16_zero, List.length_replicate ..,
    AllW16_replicate _, List.length_replicate .., AllW16_replicate _, Nat.zero_le _, by decide, by decide, Nat.zero_le _, by decide⟩

theorem SInv_initWav : SInv State.initWav :=
  ⟨List.length_replicate .., AllW16_replicate _, List.length_replicate .., AllW16_replicate _, W16_zero, List.length_replicate ..,
    AllW16_replicate _, List.length_replicate .., AllW16_replicate _, Nat.zero_le _, by decide, by decide, Nat.zero_le _, by decide⟩

theorem SInv.frame {st : State} (inv : SInv st) (fi chain : Nat) (hfi : fi ≤ 1) (hc : chain < 16) :
    SInv { st with frameIndex := fi, frameChain := chain } :=
  ⟨inv.dp0_len, inv.dp0_w, inv.v_len, inv.v_w, inv.msr_w, inv.l0_len, inv.l0_w, inv.l1_len, inv.l1_w, inv.j_le, inv.nrp_lo,
    inv.nrp_hi, hfi, hc⟩

theorem SInv.history {st : State} (inv : SInv st) (nrp : Int) (hist : List Int) (h1 : 40 ≤ nrp) (h2 : nrp ≤ 120)
    (hl : hist.length = 120) (hw : AllW16 hist) :
    SInv { st with nrp := nrp, dp0 := hist ++ hist.drop 80 ++ st.dp0.drop 160 } := by
  refine ⟨?_, AllW16_append (AllW16_append hw (AllW16_drop _ hw)) (AllW16_drop _ inv.dp0_w), inv.v_len, inv.v_w, inv.msr_w,
    inv.l0_len, inv.l0_w, inv.l1_len, inv.l1_w, inv.j_le, h1, h2, inv.fi_le, inv.chain_lt⟩
  simp only [List.length_append, List.length_drop, hl, inv.dp0_len]

theorem coeff_len (f : Int → Int → Int) (p c : List Int) (hp : p.length = 8) (hc : c.length = 8) :
    ((List.zipWith f p c).map larpToRp).length = 8 := by
  rw [List.length_map, List.length_zipWith, hp, hc]; rfl

theorem shortTermSynth_spec (st : State) (larcr wt : List Int) (inv : SInv st) (hwt : wt.length = 160) (hw : AllW16 wt) :
    SInv (shortTermSynth st larcr wt).1 ∧ (shortTermSynth st larcr wt).2.length = 160 ∧
    AllW16 (shortTermSynth st larcr wt).2 ∧ (shortTermSynth st larcr wt).1.msr = st.msr := by
  obtain ⟨cl, cw⟩ := decodeLar_spec larcr
  have hprev : (if st.j = 0 then st.larpp1 else st.larpp0).length = 8 := by split; exact inv.l1_len; exact inv.l0_len
  generalize hpv : (if st.j = 0 then st.larpp1 else st.larpp0) = prev at hprev
  have r1 : ((coeff0_12 prev (decodeLar larcr)).map larpToRp).length = 8 := coeff_len _ _ _ hprev cl
  have r2 : ((coeff13_26 prev (decodeLar larcr)).map larpToRp).length = 8 := coeff_len _ _ _ hprev cl
  have r3 : ((coeff27_39 prev (decodeLar larcr)).map larpToRp).length = 8 := coeff_len _ _ _ hprev cl
  have r4 : ((decodeLar larcr).map larpToRp).length = 8 := by rw [List.length_map, cl]
  obtain ⟨a1, a2, a3, a4⟩ := synFilter_spec _ r1 (wt.take 13) st.v inv.v_len inv.v_w (AllW16_take _ hw)
  obtain ⟨b1, b2, b3, b4⟩ := synFilter_spec _ r2 ((wt.drop 13).take 14) _ a1 a2 (AllW16_take _ (AllW16_drop _ hw))
  obtain ⟨c1, c2, c3, c4⟩ := synFilter_spec _ r3 ((wt.drop 27).take 13) _ b1 b2 (AllW16_take _ (AllW16_drop _ hw))
  obtain ⟨d1, d2, d3, d4⟩ := synFilter_spec _ r4 ((wt.drop 40).take 120) _ c1 c2 (AllW16_take _ (AllW16_drop _ hw))
  unfold shortTermSynth
  simp only [hpv]
  refine ⟨?_, ?_, AllW16_append (AllW16_append (AllW16_append a4 b4) c4) d4, ?_⟩
  · by_cases hj : st.j = 0
    · simp only [hj, if_true]
      exact ⟨inv.dp0_len, inv.dp0_w, d1, d2, inv.msr_w, cl, cw, inv.l1_len, inv.l1_w, Nat.le_refl 1, inv.nrp_lo, inv.nrp_hi,
        inv.fi_le, inv.chain_lt⟩
    · simp only [hj, if_false]
      exact ⟨inv.dp0_len, inv.dp0_w, d1, d2, inv.msr_w, inv.l0_len, inv.l0_w, cl, cw, Nat.zero_le 1, inv.nrp_lo, inv.nrp_hi,
        inv.fi_le, inv.chain_lt⟩
  · simp only [List.length_append, a3, b3, c3, d3, List.length_take, List.length_drop, hwt]; rfl
  · by_cases hj : st.j = 0 <;> simp [hj]

theorem decodeParams_spec (st : State) (p : Params) (inv : SInv st) (pi : PInv p) :
    SInv (decodeParams st p).1 ∧ (decodeParams st p).2.length = 160 ∧ AllW16 (decodeParams st p).2 := by
  have hh : (st.dp0.take 120).length = 120 := by rw [List.length_take, inv.dp0_len]; rfl
  obtain ⟨a1, a2, a3, a4, a5, a6⟩ := subLoop_spec p.subs st.nrp (st.dp0.take 120) hh inv.nrp_lo inv.nrp_hi (AllW16_take _ inv.dp0_w)
  rw [pi.subs_len] at a5
  generalize hsl : subLoop p.subs st.nrp (st.dp0.take 120) = sl at a1 a2 a3 a4 a5 a6
  obtain ⟨nrp, hist1, wt⟩ := sl
  simp only at a1 a2 a3 a4 a5 a6
  have inv1 := inv.history nrp hist1 a1 a2 a3 a4
  obtain ⟨b1, b2, b3, b4⟩ := shortTermSynth_spec _ p.larc wt inv1 a5 a6
  unfold decodeParams
  simp only [hsl]
  generalize hst : shortTermSynth { st with nrp := nrp, dp0 := hist1 ++ hist1.drop 80 ++ st.dp0.drop 160 } p.larc wt = sts at b1 b2 b3 b4
  obtain ⟨st2, s⟩ := sts
  simp only at b1 b2 b3 b4
  obtain ⟨c1, c2, c3⟩ := postproc_spec s st2.msr b1.msr_w
  generalize hpp : postproc st2.msr s = pp at c1 c2 c3
  obtain ⟨msr, out⟩ := pp
  simp only at c1 c2 c3 ⊢
  exact ⟨⟨b1.dp0_len, b1.dp0_w, b1.v_len, b1.v_w, c1, b1.l0_len, b1.l0_w, b1.l1_len, b1.l1_w, b1.j_le, b1.nrp_lo, b1.nrp_hi,
    b1.fi_le, b1.chain_lt⟩, by rw [c2, b2], c3⟩

theorem gsmDecode_spec (st : State) (c : List Byte) (inv : SInv st) :
    SInv (gsmDecode st c).1 ∧ ∀ o, (gsmDecode st c).2 = some o → o.length = 160 ∧ AllW16 o := by
  unfold gsmDecode
  by_cases hw : st.wavFmt = true
  · rw [if_pos hw]
    by_cases hf : 1 - st.frameIndex = 1
    · simp only [if_pos hf]
      obtain ⟨p1, p2⟩ := unpack49a_inv c
      generalize unpack49a c = u at p1 p2
      obtain ⟨p, chain⟩ := u
      simp only at p1 p2 ⊢
      have inv1 := inv.frame (1 - st.frameIndex) chain (Nat.sub_le 1 _) p2
      obtain ⟨a1, a2, a3⟩ := decodeParams_spec _ p inv1 p1
      exact ⟨a1, fun o ho => Option.some.inj ho ▸ ⟨a2, a3⟩⟩
    · simp only [if_neg hf]
      have inv1 := inv.frame (1 - st.frameIndex) st.frameChain (Nat.sub_le 1 _) inv.chain_lt
      obtain ⟨a1, a2, a3⟩ := decodeParams_spec _ _ inv1 (unpack49b_inv st.frameChain c)
      exact ⟨a1, fun o ho => Option.some.inj ho ▸ ⟨a2, a3⟩⟩
  · rw [if_neg hw]
    cases hu : unpack33 c with
    | none => exact ⟨inv, by intro o ho; cases ho⟩
    | some p =>
      obtain ⟨a1, a2, a3⟩ := decodeParams_spec st p inv (unpack33_inv c p hu)
      exact ⟨a1, fun o ho => Option.some.inj ho ▸ ⟨a2, a3⟩⟩

end Sf.Gsm.Proofs
