/-
  SfProofs.RdwrBytes — list facts behind the RDWR refinement: the frame view (`groups bw`) of a data section under
  `writeAt` (overwrite, extension, hole) and `truncBytes`.
-/
import SfProofs.HandleBytes
import SfProofs.RdwrAbs
namespace Sf

theorem truncBytes_append (hdr D : List Byte) (p : Nat) :
    truncBytes (hdr ++ D) (hdr.length + p) = hdr ++ truncBytes D p := by
  unfold truncBytes
  by_cases h : p ≤ D.length
  · rw [if_pos (by rw [List.length_append]; omega), if_pos h, List.take_append, List.take_of_length_le (by omega)]
    congr 2; omega
  · rw [if_neg (by rw [List.length_append]; omega), if_neg h, List.append_assoc, List.length_append]
    congr 3; omega

theorem writeAt_append (hdr D : List Byte) (p : Nat) (d : List Byte) :
    writeAt (hdr ++ D) (hdr.length + p) d = hdr ++ writeAt D p d := by
  rw [writeAt_eq, writeAt_eq, truncBytes_append, List.append_assoc, List.append_assoc, List.append_assoc]
  congr 3
  rw [Nat.add_assoc, ← List.drop_drop, List.drop_left' rfl]

/-- the frame a hole consists of: `n` zero bytes -/
def zeroFrame (n : Nat) : List Byte := List.replicate n 0

theorem groups_truncBytes (n : Nat) (hn : 0 < n) (D : List Byte) (F W : Nat) (hD : D.length = F * n) :
    groups n (truncBytes D (W * n)) = AbsFile.upTo (zeroFrame n) (groups n D) W := by
  unfold truncBytes AbsFile.upTo
  have hgl : (groups n D).length = F := groups_length_mul n hn F D hD
  by_cases h : W ≤ F
  · have : W * n ≤ D.length := by rw [hD]; exact Nat.mul_le_mul_right _ h
    rw [if_pos this, groups_take' n hn, Nat.mul_div_cancel _ hn, hgl, Nat.sub_eq_zero_of_le h]
    simp
  · have hlt : F < W := by omega
    have : ¬ W * n ≤ D.length := by
      rw [hD]; intro hc
      have := Nat.le_of_mul_le_mul_right hc hn
      omega
    rw [if_neg this, groups_append n hn F _ _ hD, List.take_of_length_le (by omega), hgl, hD, ← Nat.sub_mul]
    unfold zeros zeroFrame
    rw [groups_replicate n hn]

theorem groups_writeAt (n : Nat) (hn : 0 < n) (D d : List Byte) (F W m : Nat) (hD : D.length = F * n)
    (hd : d.length = m * n) :
    groups n (writeAt D (W * n) d) =
      AbsFile.upTo (zeroFrame n) (groups n D) W ++ groups n d ++ (groups n D).drop (W + m) := by
  rw [writeAt_eq, List.append_assoc, groups_append n hn W _ _ (by rw [truncBytes_length]),
    groups_append n hn m _ _ hd, groups_truncBytes n hn D F W hD, hd, ← Nat.add_mul, groups_drop n hn,
    List.append_assoc]

/-- decoding commutes with a write at a sample boundary (`groups_writeAt` under `map decode`): a hole decodes to copies of
    the decoded zero sample -/
theorem Enc.decodeAll_writeAt (e : Enc) (c : Conv) (ty : Ty) (hnb : 0 < e.nbytes) (D d : List Byte) (n p m : Nat)
    (hD : D.length = n * e.nbytes) (hd : d.length = m * e.nbytes) :
    e.decodeAll c ty (writeAt D (p * e.nbytes) d) =
      AbsFile.upTo (e.decode c ty (zeros e.nbytes)) (e.decodeAll c ty D) p ++ e.decodeAll c ty d ++
        (e.decodeAll c ty D).drop (p + m) := by
  unfold Enc.decodeAll
  rw [groups_writeAt _ hnb D d n p m hD hd, List.map_append, List.map_append, AbsFile.upTo_map, List.map_drop]
  rfl

theorem Enc.decodeAll_truncBytes (e : Enc) (c : Conv) (ty : Ty) (hnb : 0 < e.nbytes) (D : List Byte) (n p : Nat)
    (hD : D.length = n * e.nbytes) :
    e.decodeAll c ty (truncBytes D (p * e.nbytes)) =
      AbsFile.upTo (e.decode c ty (zeros e.nbytes)) (e.decodeAll c ty D) p := by
  unfold Enc.decodeAll
  rw [groups_truncBytes _ hnb D n p hD, AbsFile.upTo_map]
  rfl

theorem truncBytes_zeros_tail (D : List Byte) (t p : Nat) : truncBytes (D ++ zeros t) p = truncBytes D p := by
  unfold truncBytes
  by_cases h1 : p ≤ D.length
  · rw [if_pos h1, if_pos (by rw [List.length_append]; omega), List.take_append_of_le_length h1]
  · rw [if_neg h1]
    by_cases h2 : p ≤ (D ++ zeros t).length
    · rw [if_pos h2, List.take_append, List.take_of_length_le (by omega), take_zeros]
      rw [List.length_append, zeros_length] at h2
      congr 2; omega
    · rw [if_neg h2, List.append_assoc, zeros_append]
      rw [List.length_append, zeros_length] at h2 ⊢
      congr 2; omega

/-- a write over data followed by `t` zero bytes: the data part as if the tail were not there; what the write did not
    reach of the tail stays -/
theorem writeAt_zeros_tail (D : List Byte) (t p : Nat) (d : List Byte) :
    writeAt (D ++ zeros t) p d = writeAt D p d ++ zeros (t - (p + d.length - D.length)) := by
  rw [writeAt_eq, writeAt_eq, truncBytes_zeros_tail, List.append_assoc, List.append_assoc, List.append_assoc]
  congr 2
  rw [List.drop_append, drop_zeros]

end Sf
