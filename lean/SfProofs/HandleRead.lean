/-
  What a read that reaches the codec delivers (`stepRead_count`); its closed form on any handle that can read, given the bytes
  in front of the read position (`stepRead_region`); and the central lemma about reading on a read-only handle
  (`stepRead_rmode`): a read of `m` whole frames delivers `min m (frames − rpos)` frames, which are the corresponding slice of
  the decoded item stream `itemStream`, defined here.
-/
import SfProofs.HandleInv
namespace Sf

/-- the decoded item sequence of the audio data section: item `i` of the file is `(itemStream …)[i]` -/
def itemStream (h : H) (bytes : List Byte) (ty : Ty) : List Int :=
  h.enc.decodeAll h.conv ty (bytes.drop h.dataoffset.toNat)

/-- the buffer a read hands back: `c` decoded items, then filler up to the requested length -/
theorem readBuf_length_take (V : List Int) (c L : Nat) (fill : Int) (hc : c ≤ V.length) (hL : c ≤ L) :
    (V.take c ++ List.replicate (L - c) fill).length = L ∧
    ∀ k ≤ c, (V.take c ++ List.replicate (L - c) fill).take k = V.take k := by
  constructor
  · rw [List.length_append, List.length_take, List.length_replicate]; omega
  · intro k hk
    rw [List.take_append_of_le_length (by rw [List.length_take]; omega), List.take_take, Nat.min_eq_left hk]

/-- a read that reaches the codec delivers `c` items: what the codec read, cut at the frame count.  The rest of the
    buffer is left as it was (`pattern`) after a short codec read and cleared after a cut. -/
theorem stepRead_count (h : H) (s : Store) (ty : Ty) (fc : Bool) (n : Int) (hn : 0 < n) (hm : h.mode ≠ .w)
    (ha : fc = true ∨ n % h.ch = 0) (he : h.rpos < h.frames) (hch : 0 < h.ch) (hnb : 0 < h.enc.nbytes) :
    ∃ c : Nat,
      c = min ((readGot h s (reqLen h fc n)).length / h.enc.nbytes) ((h.frames - h.rpos) * h.ch).toNat ∧
      c ≤ (reqLen h fc n).toNat ∧ c ≤ (h.enc.decodeAll h.conv ty (readGot h s (reqLen h fc n))).length ∧
      stepRead h s ty fc n =
        ({ h with error := 0, rpos := h.rpos + (c : Int) / h.ch, lastOp := .r },
         { bytes := s.bytes, pos := readPos h s + (readGot h s (reqLen h fc n)).length },
         { ret := if fc then (c : Int) / h.ch else c, err := 0,
           data := (h.enc.decodeAll h.conv ty (readGot h s (reqLen h fc n))).take c ++
             List.replicate ((reqLen h fc n).toNat - c)
               (if (readGot h s (reqLen h fc n)).length / h.enc.nbytes ≤ ((h.frames - h.rpos) * h.ch).toNat
                then pattern ty else 0),
           hasData := true }) := by
  rw [stepRead_main h s ty fc n hn hm ha he, Enc.decodeAll_length _ _ _ hnb]
  have hc0 : ((readGot h s (reqLen h fc n)).length : Int) / (h.nb : Int) =
      (((readGot h s (reqLen h fc n)).length / h.enc.nbytes : Nat) : Int) := rfl
  have hle : (readGot h s (reqLen h fc n)).length / h.enc.nbytes ≤ (reqLen h fc n).toNat :=
    Nat.div_le_of_le_mul (by rw [readGot, List.length_take, H.nb, Nat.mul_comm]; exact Nat.min_le_left _ _)
  obtain ⟨A, hA⟩ := Int.eq_ofNat_of_zero_le
    (show 0 ≤ (h.frames - h.rpos) * (h.ch : Int) from Int.mul_nonneg (by omega) (by omega))
  simp only [hc0, hA, Int.toNat_natCast, Int.ofNat_le, Int.toNat_sub']
  generalize (readGot h s (reqLen h fc n)).length / h.enc.nbytes = c0 at hle ⊢
  split
  · rename_i hc
    exact ⟨c0, (Nat.min_eq_left hc).symm, hle, Nat.le_refl _, rfl⟩
  · rename_i hc
    have hd : h.rpos + (A : Int) / (h.ch : Int) = h.frames := by
      rw [← hA, Int.mul_ediv_cancel _ (by omega)]; omega
    exact ⟨A, by omega, by omega, by omega, by rw [hd]⟩

/-- A read of `m` frames on a store that holds, from the byte the read starts at, the `A > 0` frames `D` that are left and then
    `tail`: `min m A` frames are delivered.  A request past the end runs `e = min ((m − A)·bw) |tail|` bytes into the tail; when
    those make a sample the codec's count exceeds the frame count, is cut there, and the rest of the buffer is cleared. -/
theorem stepRead_region (h : H) (s : Store) (ty : Ty) (fc : Bool) (n : Int) (hn : 0 < n) (hm : h.mode ≠ .w)
    (ha : fc = true ∨ n % h.ch = 0) (hch : 0 < h.ch) (hnb : 0 < h.enc.nbytes)
    (m R A : Nat) (hlen : reqLen h fc n = (m : Int) * h.ch) (hR : h.rpos = R) (hF : h.frames = ((R + A : Nat) : Int))
    (hA : 0 < A) (D tail : List Byte) (hD : D.length = A * h.bw) (hb : s.bytes.drop (readPos h s) = D ++ tail) :
    stepRead h s ty fc n =
      ({ h with error := 0, rpos := ((R + min m A : Nat) : Int), lastOp := .r },
       { bytes := s.bytes, pos := readPos h s + (min m A * h.bw + min ((m - A) * h.bw) tail.length) },
       { ret := if fc then ((min m A : Nat) : Int) else ((min m A * h.ch : Nat) : Int), err := 0,
         data := h.enc.decodeAll h.conv ty (D.take (m * h.bw)) ++
           List.replicate ((m - A) * h.ch)
             (if min ((m - A) * h.bw) tail.length / h.enc.nbytes = 0 then pattern ty else 0),
         hasData := true }) := by
  have hlenN : (reqLen h fc n).toNat = m * h.ch := by rw [hlen]; exact Int.toNat_natCast (m * h.ch)
  have hbw : h.bw = h.ch * h.enc.nbytes := Nat.mul_comm _ _
  generalize hd : min m A = d
  generalize he : min ((m - A) * h.bw) tail.length = e
  have hdA : d ≤ A ∧ m - d = m - A ∧ (A < m → d = A) := by omega
  have hel : e ≤ tail.length := by omega
  -- past the end only if something of the tail was read
  have hmA : 0 < e → d = A := fun h0 => hdA.2.2 (by
    apply Nat.lt_of_not_le; intro hle
    rw [Nat.sub_eq_zero_of_le hle, Nat.zero_mul, Nat.zero_min] at he; omega)
  have hgl : (D.take (m * h.bw)).length = d * h.ch * h.enc.nbytes := by
    rw [List.length_take, hD, Nat.mul_min_mul_right, hd, hbw, Nat.mul_assoc]
  -- the codec takes in `D.take (m·bw) ++ tail.take e`; the rest evaluates `stepRead_count` on that length: `d·ch + e / nbytes`
  -- samples, cut to the `A·ch` that are left
  have hgot : readGot h s (reqLen h fc n) = D.take (m * h.bw) ++ tail.take e := by
    unfold readGot
    rw [hlenN, hb, H.nb, Nat.mul_assoc, ← hbw, List.take_append, hD, ← Nat.sub_mul]
    congr 1
    exact List.take_eq_take_iff.mpr (by rw [← he]; omega)
  have hpos : (readGot h s (reqLen h fc n)).length = d * h.bw + e := by
    rw [hgot, List.length_append, hgl, List.length_take, Nat.min_eq_left hel, hbw, Nat.mul_assoc]
  have hcnt : (readGot h s (reqLen h fc n)).length / h.enc.nbytes = d * h.ch + e / h.enc.nbytes := by
    rw [hpos, hbw, ← Nat.mul_assoc, Nat.add_comm, Nat.add_mul_div_right _ _ hnb, Nat.add_comm]
  have hav : ((h.frames - h.rpos) * (h.ch : Int)).toNat = A * h.ch := by
    rw [show h.frames - h.rpos = (A : Int) by rw [hF, hR]; omega, ← Int.natCast_mul, Int.toNat_natCast]
  have hfill : d * h.ch + e / h.enc.nbytes ≤ A * h.ch ↔ e / h.enc.nbytes = 0 := by
    constructor
    · intro hle
      rcases Nat.eq_zero_or_pos e with h0 | h0
      · rw [h0, Nat.zero_div]
      · rw [hmA h0] at hle; generalize e / h.enc.nbytes = x at hle ⊢; omega
    · intro h0; rw [h0, Nat.add_zero]; exact Nat.mul_le_mul_right _ hdA.1
  have hcd : min (d * h.ch + e / h.enc.nbytes) (A * h.ch) = d * h.ch := by
    rcases Nat.eq_zero_or_pos e with h0 | h0
    · rw [h0, Nat.zero_div, Nat.add_zero]; exact Nat.min_eq_left (Nat.mul_le_mul_right _ hdA.1)
    · rw [hmA h0]; exact Nat.min_eq_right (Nat.le_add_right _ _)
  have hdiv : ((d * h.ch : Nat) : Int) / (h.ch : Int) = (d : Int) := by
    rw [← Int.natCast_ediv, Nat.mul_div_cancel _ hch]
  have hvals : (h.enc.decodeAll h.conv ty (readGot h s (reqLen h fc n))).take (d * h.ch) =
      h.enc.decodeAll h.conv ty (D.take (m * h.bw)) := by
    rw [hgot, Enc.decodeAll_append _ _ _ hnb (d * h.ch) _ _ hgl,
      List.take_left' (by rw [Enc.decodeAll_length _ _ _ hnb, hgl, Nat.mul_div_cancel _ hnb])]
  obtain ⟨c, hc, _, _, eq⟩ := stepRead_count h s ty fc n hn hm ha (by rw [hR, hF]; omega) hch hnb
  rw [hcnt, hav, hcd] at hc
  subst hc
  rw [eq, hcnt, hav, hdiv, hvals, hlenN, ← Nat.sub_mul, hdA.2.1, hR, hpos, Int.natCast_add]
  simp only [hfill]

/-- Natural-number view of a read-mode handle in front of a read that has data left -/
theorem rmode_nat (h : H) (s : Store) (hi : HInv h s) (hm : h.mode = .r) (he : h.rpos < h.frames) :
    ∃ R A O : Nat, 0 < A ∧ h.rpos = R ∧ h.frames = ((R + A : Nat) : Int) ∧ h.dataoffset = O ∧
      s.pos = O + R * (h.enc.nbytes * h.ch) ∧ s.pos + A * (h.enc.nbytes * h.ch) ≤ s.bytes.length ∧
      readPos h s = s.pos := by
  have hr := hi.rd hm
  obtain ⟨R, hR⟩ := Int.eq_ofNat_of_zero_le hi.rpos_nn
  obtain ⟨O, hO⟩ := Int.eq_ofNat_of_zero_le hi.off_nn
  obtain ⟨A, hA⟩ := Int.eq_ofNat_of_zero_le (show 0 ≤ h.frames - h.rpos by omega)
  have hs := hr.sync he
  have hc := hr.covers
  unfold H.bw at hs hc
  rw [hR, hO] at hs
  have hF : h.frames = ((R + A : Nat) : Int) := by omega
  rw [hF, hO] at hc
  have hs' : s.pos = O + R * (h.enc.nbytes * h.ch) := by
    have : ((s.pos : Nat) : Int) = ((O + R * (h.enc.nbytes * h.ch) : Nat) : Int) := by rw [hs]; push_cast; rfl
    exact Int.ofNat.inj this
  refine ⟨R, A, O, by omega, hR, hF, hO, hs', ?_, ?_⟩
  · have : ((O + (R + A) * (h.enc.nbytes * h.ch) : Nat) : Int) ≤ (s.bytes.length : Int) := by
      push_cast; push_cast at hc; exact hc
    have h2 : O + (R + A) * (h.enc.nbytes * h.ch) ≤ s.bytes.length := Int.ofNat_le.mp this
    rw [hs', Nat.add_mul] at *; omega
  · simp [readPos, hr.lastOp]

theorem vals_eq_stream (h : H) (bytes : List Byte) (ty : Ty) (hnb : 0 < h.enc.nbytes) (O R m : Nat)
    (hO : h.dataoffset = O) :
    h.enc.decodeAll h.conv ty ((bytes.drop (O + R * (h.enc.nbytes * h.ch))).take (m * h.ch * h.enc.nbytes)) =
      ((itemStream h bytes ty).drop (R * h.ch)).take (m * h.ch) := by
  unfold itemStream
  rw [Enc.decodeAll_take _ _ _ hnb, Nat.mul_div_cancel _ hnb, hO, Int.toNat_natCast]
  have : R * (h.enc.nbytes * h.ch) = R * h.ch * h.enc.nbytes := by
    rw [Nat.mul_assoc, Nat.mul_comm h.ch]
  rw [this, ← List.drop_drop, Enc.decodeAll_drop _ _ _ hnb]

theorem stepRead_rmode (h : H) (s : Store) (ty : Ty) (fc : Bool) (n : Int) (hi : HInv h s) (hm : h.mode = .r)
    (hn : 0 < n) (ha : fc = true ∨ n % h.ch = 0) (he : h.rpos < h.frames)
    (m : Nat) (hlen : reqLen h fc n = (m : Int) * h.ch) :
    ∃ R A : Nat, h.rpos = R ∧ h.frames = ((R + A : Nat) : Int) ∧
      (stepRead h s ty fc n).1 = { h with error := 0, rpos := ((R + min m A : Nat) : Int), lastOp := .r } ∧
      (stepRead h s ty fc n).2.1.bytes = s.bytes ∧
      (m < A → (stepRead h s ty fc n).2.1.pos = s.pos + m * (h.enc.nbytes * h.ch)) ∧
      (stepRead h s ty fc n).2.2.ret = (if fc then ((min m A : Nat) : Int) else ((min m A * h.ch : Nat) : Int)) ∧
      (stepRead h s ty fc n).2.2.err = 0 ∧
      (stepRead h s ty fc n).2.2.data.length = m * h.ch ∧
      (stepRead h s ty fc n).2.2.data.take (min m A * h.ch) =
        ((itemStream h s.bytes ty).drop (R * h.ch)).take (min m A * h.ch) := by
  have hnb := hi.nb_pos
  obtain ⟨R, A, O, hA, hR, hF, hO, hpos, hcov, hrp⟩ := rmode_nat h s hi hm he
  -- from the read position on: the `A` frames the header announced, then whatever follows
  have hD : ((s.bytes.drop s.pos).take (A * h.bw)).length = A * h.bw := by
    rw [List.length_take, List.length_drop]; exact Nat.min_eq_left (by unfold H.bw; omega)
  have hmb : min m A * h.bw = min m A * h.ch * h.enc.nbytes := by unfold H.bw; rw [Nat.mul_assoc, Nat.mul_comm h.ch]
  have htk : ((s.bytes.drop s.pos).take (A * h.bw)).take (m * h.bw) =
      (s.bytes.drop (O + R * (h.enc.nbytes * h.ch))).take (min m A * h.ch * h.enc.nbytes) := by
    rw [List.take_take, Nat.mul_min_mul_right, hmb, hpos]
  have hvl : (h.enc.decodeAll h.conv ty (((s.bytes.drop s.pos).take (A * h.bw)).take (m * h.bw))).length = min m A * h.ch := by
    rw [Enc.decodeAll_length _ _ _ hnb, List.length_take, hD, Nat.mul_min_mul_right, hmb, Nat.mul_div_cancel _ hnb]
  rw [stepRead_region h s ty fc n hn (by rw [hm]; decide) ha hi.ch_pos hnb m R A hlen hR hF hA _ _ hD
    (by rw [hrp]; exact (List.take_append_drop _ _).symm)]
  refine ⟨R, A, hR, hF, rfl, rfl, fun hlt => ?_, rfl, rfl, ?_, ?_⟩
  · show Sf.readPos h s + _ = _
    rw [hrp, Nat.min_eq_left (by omega), Nat.sub_eq_zero_of_le (by omega), Nat.zero_mul, Nat.zero_min, Nat.add_zero]; rfl
  · show List.length (_ ++ _) = _
    rw [List.length_append, hvl, List.length_replicate, ← Nat.add_mul]; congr 1; omega
  · show List.take _ (_ ++ _) = _
    rw [List.take_left' hvl, htk, vals_eq_stream h s.bytes ty hnb O R _ hO]

end Sf
