/-
  SfProofs.AiffImage — `parse` of an image  `hdrRaw … ++ body ++ tl`  whose SSND size field describes `body`
  (closed files: body = audio, tl = pad byte; header-update snapshots: body = audio, tl empty).
-/
import SfProofs.AiffRead
import SfProofs.AiffRate
namespace Sf.Aiff
open Sf.Cursor (drop_at)

/-- what the reader's switches (`commFmt` in COMM, `blockwidthOf` in the codec init) answer for the header the writer
    emits for a (codec, endian) pair; one channel -/
def cfgOk (codec endian : Nat) : Bool :=
  let c : Cfg := ⟨codec, endian, 1, 1⟩
  let bits : Int := ((bytewidthOf codec * 8 : Nat) : Int)
  match kindOf c with
  | none => false
  | some k =>
    (if k.aifc then k.enc.length = 4 else c.isFloat = false) ∧
    commFmt (if k.aifc then k.enc else mk4 "NONE") bits = (some (some c.fmtWord), bits) ∧
    blockwidthOf c.fmtWord bits 1 = some ((bytewidthOf codec : Nat) : Int) ∧ 0 < bytewidthOf codec

theorem cfgOk_of_accepted : ∀ codec < 18, ∀ endian < 4, accepted ⟨codec, endian, 1, 1⟩ = true → cfgOk codec endian = true := by
  decide +kernel

theorem blockwidthOf_mul (fmt : Nat) (ss : Int) (ch : Nat) :
    blockwidthOf fmt ss ch = (blockwidthOf fmt ss 1).map (· * (ch : Int)) := by
  simp only [blockwidthOf]
  generalize (if fmt / 0x10000000 % 4 = 1 then (0x10000000 : Int) else 0x20000000) = e
  split <;> (try split) <;> simp

theorem cfg_facts (c : Cfg) (k : Kind) (ha : accepted c = true) (hk : kindOf c = some k) :
    (if k.aifc then k.enc.length = 4 else c.isFloat = false) ∧
    commFmt (if k.aifc then k.enc else mk4 "NONE") ((bytewidthOf c.codec * 8 : Nat) : Int) =
      (some (some c.fmtWord), ((bytewidthOf c.codec * 8 : Nat) : Int)) ∧
    (∀ ch : Nat, blockwidthOf c.fmtWord ((bytewidthOf c.codec * 8 : Nat) : Int) ch = some (((bytewidthOf c.codec * ch : Nat)) : Int)) ∧
    0 < bytewidthOf c.codec := by
  obtain ⟨codec, endian, ch0, sr0⟩ := c
  have hlt : codec < 18 ∧ endian < 4 := by
    simp only [accepted, decide_eq_true_eq] at ha
    omega
  have ht := cfgOk_of_accepted codec hlt.1 endian hlt.2 ha
  -- `kindOf`, `fmtWord` and `isFloat` do not look at the channel count or the rate
  have hk1 : kindOf ⟨codec, endian, 1, 1⟩ = some k := hk
  simp only [cfgOk, hk1, decide_eq_true_eq, Bool.and_eq_true, Bool.decide_and] at ht
  obtain ⟨h1, h2, h3, h4⟩ := ht
  refine ⟨h1, h2, fun ch => ?_, h4⟩
  have h3' : blockwidthOf (Cfg.fmtWord ⟨codec, endian, ch0, sr0⟩) ((bytewidthOf codec * 8 : Nat) : Int) 1 = some ((bytewidthOf codec : Nat) : Int) := h3
  rw [blockwidthOf_mul, h3', Option.map_some, Int.natCast_mul]

theorem bw_pos {c : Cfg} {k : Kind} (hwf : c.wf) (hk : kindOf c = some k) : 0 < c.bw :=
  Nat.mul_pos (cfg_facts c k hwf.1 hk).2.2.2 hwf.2.1

theorem walk_cont {bs : List Byte} {s s' : Sc} (n : Nat) (h : step bs s = .cont s') : walk bs (n + 1) s = walk bs n s' := by
  rw [walk, h]

theorem walk_stop {bs : List Byte} {s s' : Sc} (n : Nat) (h : step bs s = .stop s') : walk bs (n + 1) s = some (some s') := by
  rw [walk, h]

theorem walk_mono {bs : List Byte} {r : Option Sc} : ∀ {n m : Nat} {s : Sc}, walk bs n s = some r → n ≤ m → walk bs m s = some r
  | 0, _, _, h, _ => by simp [walk] at h
  | n + 1, m + 1, s, h, hm => by
    rw [walk] at h ⊢
    cases hs : step bs s with
    | cont s' => rw [hs] at h; exact walk_mono h (by omega)
    | _ => rw [hs] at h; exact h

theorem mk4_length_FORM : (mk4 "FORM").length = 4 := by decide
theorem mk4_length_AIFF : (mk4 "AIFF").length = 4 := by decide
theorem mk4_length_AIFC : (mk4 "AIFC").length = 4 := by decide

theorem parse_of_walk {bs rest ty : List Byte} {fl : Int} (hbs : bs = mk4 "FORM" ++ (be32 fl ++ (ty ++ rest)))
    (hty : ty = mk4 "AIFF" ∨ ty = mk4 "AIFC") (hlen : 21 ≤ bs.length) {n : Nat} {s : Sc}
    (hw : walk bs n { pos := 12 } = some (some s)) (hn : n ≤ bs.length) : parse bs = finish bs.length s := by
  have t0 : bs.take 4 = mk4 "FORM" := by rw [hbs]; exact List.take_left' mk4_length_FORM
  have htl : ty.length = 4 := by rcases hty with h | h <;> rw [h] <;> decide
  have t2 : (bs.drop 8).take 4 = ty := by
    have d2 : bs.drop (0 + 4 + 4) = _ := drop_at (drop_at (by rw [List.drop_zero, hbs]) mk4_length_FORM) (be32_length _)
    rw [show bs.drop 8 = _ from d2]; exact List.take_left' htl
  unfold parse
  have c1 : ¬ bs.length < 12 := by omega
  have c2 : ¬ (ty = mk4 "8SVX" ∨ ty = mk4 "16SV") := by rcases hty with h | h <;> rw [h] <;> decide
  have c3 : ¬ (ty ≠ mk4 "AIFF" ∧ ty ≠ mk4 "AIFC") := by rcases hty with h | h <;> rw [h] <;> decide
  have c4 : ¬ ((12 : Int) ≥ (bs.length : Int) - 8) := by omega
  simp only [c1, if_false, t0, ne_eq, not_true_eq_false, t2, c2, c3, c4, walk_mono hw hn]

/-- `finish` on the scanner state a written image leaves behind (`T` bytes — the pad — follow the audio) -/
theorem finish_ok (c : Cfg) (k : Kind) (hwf : c.wf) (hk : kindOf c = some k) (D B T : Nat) (hD : 0 < D) (s : Sc)
    (hs : s.ch = c.ch) (hf : s.fmt = c.fmtWord) (hss : s.sampleSize = ((bytewidthOf c.codec * 8 : Nat) : Int))
    (hc : s.haveComm = true) (hdo : s.dataoffset = (D : Int))
    (hde : s.dataend = if T > 0 then ((D + B : Nat) : Int) else 0) (hsr : s.sr = ten2int (int2ten c.sr)) :
    finish (D + B + T) s = .ok { ch := c.ch, fmt := c.fmtWord, sr := c.sr, frames := B / c.bw } := by
  obtain ⟨ha, hch1, hch2, hsr1, hsr2⟩ := hwf
  obtain ⟨_, _, fB, fbw⟩ := cfg_facts c k ha hk
  have hrate := ten2int_int2ten_exact c.sr hsr1 (by omega)
  unfold finish
  have g1 : ¬ (c.ch < 1 ∨ (!true) = true) := by simp; omega
  simp only [hs, hc, g1, if_false, hf, hss, fB c.ch, hdo, hsr, hrate]
  have hbwpos : 0 < bytewidthOf c.codec * c.ch := Nat.mul_pos fbw (by omega)
  have g4 : (((bytewidthOf c.codec * c.ch : Nat) : Int) > 0) := by omega
  have hdl : (if ((D + B + T : Nat) : Int) > (D : Int) then (if s.dataend > 0 then s.dataend - (D : Int) else ((D + B + T : Nat) : Int) - (D : Int)) else 0) = (B : Int) := by
    rw [hde]
    by_cases hT : T > 0
    · have h1 : ((D + B + T : Nat) : Int) > (D : Int) := by omega
      have h2 : ((D + B : Nat) : Int) > 0 := by omega
      simp only [hT, h1, h2, if_true]; omega
    · have hT0 : T = 0 := by omega
      subst hT0
      have g3 : ¬ ((0 : Int) > 0) := by decide
      simp only [Nat.lt_irrefl, if_false, g3, Nat.add_zero]
      by_cases h : ((D + B : Nat) : Int) > (D : Int)
      · simp only [h, if_true]; omega
      · simp only [h, if_false]; omega
  simp only [hdl, g4, if_true, ← Int.ofNat_tdiv]
  have n1 : ¬ ((c.sr : Nat) : Int) < 1 := by omega
  have n2 : ¬ ((B / (bytewidthOf c.codec * c.ch) : Nat) : Int) < 0 := Int.not_lt.mpr (Int.natCast_nonneg _)
  have n3 : ¬ (B : Int) < 0 := by omega
  have n4 : ¬ (D : Int) < 0 := by omega
  simp only [n1, n2, n3, n4, or_false, if_false, Int.toNat_natCast, Cfg.bw]

/-- the scanner once the COMM chunk written for `c` has been read, at offset `p` after a chunk of size `sz`: on the
    way to SSND the cache holds what was read (`used = pos`) and no SSND chunk has set `dataend` -/
def afterComm (c : Cfg) (p sz : Nat) : Sc :=
  { pos := p, used := p, csize := sz, haveComm := true, ch := c.ch, sr := ten2int (int2ten c.sr), fmt := c.fmtWord,
    sampleSize := ((bytewidthOf c.codec * 8 : Nat) : Int) }

theorem ssnd_finish (c : Cfg) (k : Kind) (hwf : c.wf) (hk : kindOf c = some k) (bs : List Byte) (p sz : Nat)
    (hp : p ≤ cacheLimit) (hsz : sz % 2 = 0) (body tl : List Byte)
    (hd : bs.drop p = mk4 "SSND" ++ (be32 ((body.length : Int) + 8) ++ (be32 0 ++ (be32 0 ++ (body ++ tl)))))
    (htl : tl.length ≤ 8) (hB : body.length + 8 < 2 ^ 32) :
    p + 16 ≤ bs.length ∧ ∃ s', step bs (afterComm c p sz) = .stop s' ∧
      finish bs.length s' = .ok { ch := c.ch, fmt := c.fmtWord, sr := c.sr, frames := body.length / c.bw } := by
  obtain ⟨hlen, hst⟩ := step_ssnd bs (afterComm c p sz) body.length body tl hd rfl htl hB hsz hp rfl
  have hlen : bs.length = p + 16 + body.length + tl.length := hlen
  refine ⟨by omega, _, hst, ?_⟩
  rw [hlen]
  exact finish_ok c k hwf hk (p + 16) body.length tl.length (by omega) _ rfl rfl rfl rfl rfl rfl rfl

theorem f32beWrite_length (v : Nat) : (f32beWrite v).length = 4 := by
  unfold f32beWrite; simp [beBytes4]

theorem peakChunk_eq (ch : Nat) (ps : List Peak) :
    ∃ body, body.length = 8 + 8 * ch ∧ peakChunk ch ps = mk4 "PEAK" ++ (be32 ((8 + 8 * ch : Nat) : Int) ++ body) := by
  have hq := flatMap_length_const 8 (fun k => f32beWrite (ps.getD k {}).v32 ++ be32 (ps.getD k {}).pos) (List.range ch)
    (by intro k _; simp only [List.length_append, f32beWrite_length, be32_length])
  rw [List.length_range] at hq
  refine ⟨be32 1 ++ (be32 1000000000 ++ (List.range ch).flatMap fun k => f32beWrite (ps.getD k {}).v32 ++ be32 (ps.getD k {}).pos), ?_, ?_⟩
  · simp only [List.length_append, be32_length, hq]; omega
  · have hsz : (8 + 8 * (ch : Int)) = ((8 + 8 * ch : Nat) : Int) := by omega
    simp only [peakChunk, List.append_assoc, hsz]

theorem peakChunk_length (ch : Nat) (ps : List Peak) : (peakChunk ch ps).length = 16 + 8 * ch := by
  obtain ⟨body, hb, h⟩ := peakChunk_eq ch ps
  rw [h]; simp only [List.length_append, mk4_length_PEAK, be32_length, hb]; omega

theorem walk_peak_ssnd (c : Cfg) (k : Kind) (hwf : c.wf) (hk : kindOf c = some k) (bs : List Byte) (p sz : Nat)
    (hp : p ≤ 100) (hsz : sz % 2 = 0) (pk body tl : List Byte) (hpk : pk = [] ∨ ∃ ps, pk = peakChunk c.ch ps)
    (hd : bs.drop p = pk ++ (mk4 "SSND" ++ (be32 ((body.length : Int) + 8) ++ (be32 0 ++ (be32 0 ++ (body ++ tl))))))
    (htl : tl.length ≤ 8) (hB : body.length + 8 < 2 ^ 32) :
    p + 16 ≤ bs.length ∧ ∃ s', walk bs 2 (afterComm c p sz) = some (some s') ∧
      finish bs.length s' = .ok { ch := c.ch, fmt := c.fmtWord, sr := c.sr, frames := body.length / c.bw } := by
  -- `hp`: the PEAK chunk (16 + 8 · ch ≤ 8208 bytes) has to end inside the header cache; any bound with `p + 8208 ≤ cacheLimit` would
  -- do, the callers have `p = 38` and `p = 56`
  have hL : cacheLimit = 30000 := rfl
  have hch : c.ch ≤ 1024 := hwf.2.2.1
  rcases hpk with rfl | ⟨ps, rfl⟩
  · obtain ⟨h1, s', hst, hfin⟩ := ssnd_finish c k hwf hk bs p sz (by omega) hsz body tl hd htl hB
    exact ⟨h1, s', walk_stop 1 hst, hfin⟩
  · obtain ⟨pkb, hpkb, hpk⟩ := peakChunk_eq c.ch ps
    rw [hpk] at hd
    simp only [List.append_assoc] at hd
    obtain ⟨st1, d1⟩ := step_peak bs (afterComm c p sz) pkb _ hd hpkb hch rfl
      (by simp only [List.length_append, mk4_length_SSND, be32_length]; omega) hsz (show p ≤ cacheLimit by omega)
    obtain ⟨h1, s', hst, hfin⟩ := ssnd_finish c k hwf hk bs (p + (16 + 8 * c.ch)) (8 + 8 * c.ch) (by omega) (by omega) body tl d1 htl hB
    exact ⟨by omega, s', (walk_cont 1 st1).trans (walk_stop 0 hst), hfin⟩

theorem bytewidthOf_le (codec : Nat) : bytewidthOf codec ≤ 8 := by
  unfold bytewidthOf; split <;> omega

/-- `parse` of the layouts `aiff_write_header` produces — FORM, FVER (AIFF-C), COMM, PEAK (FLOAT / DOUBLE), SSND — with any
    values in the FORM size and COMM frames fields, followed by a body the SSND size field describes -/
theorem parse_image (c : Cfg) (k : Kind) (hwf : c.wf) (hk : kindOf c = some k) (fl frames : Int) (pk body tl : List Byte)
    (hpk : pk = [] ∨ ∃ ps, pk = peakChunk c.ch ps) (htl : tl.length ≤ 8) (hB : body.length + 8 < 2 ^ 32) :
    parse (mk4 "FORM" ++ (be32 fl ++
      ((if k.aifc then mk4 "AIFC" ++ (mk4 "FVER" ++ (be32 4 ++ be32 0xA2805140)) else mk4 "AIFF") ++
      (mk4 "COMM" ++ (be32 (if k.aifc then 24 else 18) ++ (be16 c.ch ++ (be32 frames ++
      (be16 ((bytewidthOf c.codec * 8 : Nat) : Int) ++ (int2ten c.sr ++ ((if k.aifc then k.enc ++ [0, 0] else []) ++
      (pk ++ (mk4 "SSND" ++ (be32 ((body.length : Int) + 8) ++ (be32 0 ++ (be32 0 ++ (body ++ tl)))))))))))))))) =
      .ok { ch := c.ch, fmt := c.fmtWord, sr := c.sr, frames := body.length / c.bw } := by
  obtain ⟨fenc, hfmt, _, _⟩ := cfg_facts c k hwf.1 hk
  have hch : 1 ≤ c.ch ∧ c.ch ≤ 1024 := ⟨hwf.2.1, hwf.2.2.1⟩
  have hbits : bytewidthOf c.codec * 8 < 2 ^ 15 := by have := bytewidthOf_le c.codec; omega
  generalize hbs : mk4 "FORM" ++ _ = bs
  have hr : ∀ x : List Byte, 8 < (pk ++ (mk4 "SSND" ++ (be32 ((body.length : Int) + 8) ++ (be32 0 ++ x)))).length := by
    intro x; simp only [List.length_append, mk4_length_SSND, be32_length]; omega
  have d8 := drop_at (drop_at (p := 0) (by rw [List.drop_zero, hbs]) mk4_length_FORM) (be32_length _)
  cases haifc : k.aifc
  · simp only [haifc, Bool.false_eq_true, if_false, List.nil_append] at d8 hbs fenc hfmt
    have d12 := drop_at d8 mk4_length_AIFF
    obtain ⟨st1, d1⟩ := step_comm bs { pos := 12 } 18 c.ch (bytewidthOf c.codec * 8) _ (int2ten c.sr) (mk4 "NONE") _ _ c.fmtWord _ d12
      (.inl ⟨rfl, rfl, rfl⟩) (int2ten_length _) hch hbits hfmt (hr _) rfl (by decide)
    obtain ⟨h1, s', hw, hfin⟩ := walk_peak_ssnd c k hwf hk bs 38 18 (by decide) rfl pk body tl hpk d1 htl hB
    rw [parse_of_walk hbs.symm (.inl rfl) (by omega) (n := 3) ((walk_cont 2 st1).trans hw) (by omega), hfin]
  · simp only [haifc, if_true, List.append_assoc] at d8 hbs fenc hfmt
    have d12 := drop_at d8 mk4_length_AIFC
    obtain ⟨st1, d1⟩ := step_fver bs { pos := 12 } _ d12
      (by simp only [List.length_append, mk4_length_COMM, be32_length]; omega) rfl (by decide)
    obtain ⟨st2, d2⟩ := step_comm bs { pos := 24, used := 24, csize := 4 } 24 c.ch (bytewidthOf c.codec * 8) _ (int2ten c.sr) k.enc _ _
      c.fmtWord _ d1 (.inr ⟨rfl, fenc, rfl⟩) (int2ten_length _) hch hbits hfmt (hr _) rfl (by decide)
    obtain ⟨h1, s', hw, hfin⟩ := walk_peak_ssnd c k hwf hk bs 56 24 (by decide) rfl pk body tl hpk d2 htl hB
    rw [parse_of_walk hbs.symm (.inr rfl) (by omega) (n := 4) ((walk_cont 3 st1).trans ((walk_cont 2 st2).trans hw)) (by omega), hfin]

theorem parse_hdrRaw (c : Cfg) (k : Kind) (hwf : c.wf) (hk : kindOf c = some k) (fr : Nat) (fl : Int)
    (peaks : Option (List Peak)) (body tl : List Byte) (htl : tl.length ≤ 8) (hB : body.length + 8 < 2 ^ 32) :
    parse (hdrRaw c k fr fl (body.length : Int) peaks ++ (body ++ tl)) =
      .ok { ch := c.ch, fmt := c.fmtWord, sr := c.sr, frames := body.length / c.bw } := by
  have hb : ((bytewidthOf c.codec : Int) * 8) = ((bytewidthOf c.codec * 8 : Nat) : Int) := by omega
  unfold hdrRaw
  cases peaks with
  | none =>
    simp only [List.append_assoc, hb, List.nil_append]
    exact parse_image c k hwf hk _ _ [] body tl (.inl rfl) htl hB
  | some ps =>
    simp only [List.append_assoc, hb]
    exact parse_image c k hwf hk _ _ _ body tl (.inr ⟨ps, rfl⟩) htl hB

end Sf.Aiff
