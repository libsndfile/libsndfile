/-
  SfProofs.AlacEncState — the encoder's coefficient rows stay 16 int16 values each through `pc_block` and through the
  searches of EncodeMono / EncodeStereo, and the three ways either of them can end: the escape element before or after
  the compressed element was built, or the compressed element (`compMonoBits` / `compPairBits` of what the search chose).
  `CoefsOk`, `RowsOk` and `PairStateOk`, in which the ALAC end results state what they ask of the encoder state, are defined here.
-/
import SfProofs.AlacMono
namespace Sf.AlacCore

def CoefsOk (c : List Int) : Prop := c.length = 16 ∧ ∀ x ∈ c, Int16 x
def RowsOk (rows : List (List Int)) : Prop := rows.length = 16 ∧ ∀ r ∈ rows, CoefsOk r

theorem w16_int16 (x : Int) : Int16 (w16 x) := by
  have := wrapS_range 16 (by decide) x; unfold w16 Int16; omega

theorem adapt_ok (ds : Nat) (flip : Bool) : ∀ (pairs : List (Int × Int)) (mult : Nat) (del0 : Int), (∀ q ∈ pairs, Int16 q.1) →
    (adapt ds flip pairs mult del0).length = pairs.length ∧ ∀ x ∈ adapt ds flip pairs mult del0, Int16 x
  | [], _, _, _ => by simp [adapt]
  | (c, dd) :: rest, mult, del0, h => by
    have hrest : ∀ q ∈ rest, Int16 q.1 := fun q hq => h q (by simp [hq])
    have key : ∀ (c1 d1 : Int) (b : Prop) [Decidable b], Int16 c1 →
        (if b then c1 :: rest.map (·.1) else c1 :: adapt ds flip rest (mult + 1) d1).length = rest.length + 1 ∧
        ∀ x ∈ (if b then c1 :: rest.map (·.1) else c1 :: adapt ds flip rest (mult + 1) d1), Int16 x := by
      intro c1 d1 b _ hc1
      have ih := adapt_ok ds flip rest (mult + 1) d1 hrest
      split
      · refine ⟨by simp, ?_⟩
        intro x hx
        simp only [List.mem_cons, List.mem_map] at hx
        rcases hx with rfl | ⟨q, hq, rfl⟩
        · exact hc1
        · exact hrest q hq
      · refine ⟨by simp [ih.1], ?_⟩
        intro x hx
        simp only [List.mem_cons] at hx
        rcases hx with rfl | hx
        · exact hc1
        · exact ih.2 x hx
    rw [adapt]
    simp only [List.length_cons]
    cases flip
    · exact key _ _ _ (w16_int16 _)
    · exact key _ _ _ (w16_int16 _)

theorem pcStep_ok (na cb ds : Nat) (coefs hist : List Int) (x : Int) (hl : coefs.length = na) (hh : na ≤ hist.length)
    (hc : ∀ c ∈ coefs, Int16 c) : (pcStep na cb ds coefs hist x).2.length = na ∧ ∀ c ∈ (pcStep na cb ds coefs hist x).2, Int16 c := by
  unfold pcStep
  simp only []
  split
  · exact ⟨hl, hc⟩
  · have hp : ∀ q ∈ (List.zip coefs ((hist.take na).map fun y => w32 (hist.getD na 0 - y))).reverse, Int16 q.1 := by
      intro q hq
      simp only [List.mem_reverse] at hq
      exact hc q.1 (List.of_mem_zip hq).1
    have ha := fun (f : Bool) (d0 : Int) => adapt_ok ds f _ 1 d0 hp
    refine ⟨?_, ?_⟩
    · rw [List.length_reverse, (ha _ _).1, List.length_reverse, List.length_zip, List.length_map, List.length_take]; omega
    · intro c hcm; simp only [List.mem_reverse] at hcm; exact (ha _ _).2 c hcm

theorem pcLoop_ok (na cb ds : Nat) (xs : List Int) : ∀ (j : Nat) (coefs hist : List Int), coefs.length = na → hist.length = j →
    (∀ c ∈ coefs, Int16 c) →
    (pcLoop na cb ds xs j coefs hist).2.length = na ∧ ∀ c ∈ (pcLoop na cb ds xs j coefs hist).2, Int16 c := by
  induction xs with
  | nil => intro j coefs hist hl _ hc; simp only [pcLoop]; exact ⟨hl, hc⟩
  | cons x xs ih =>
    intro j coefs hist hl hh hc
    rw [pcLoop]
    split
    · exact ih (j + 1) coefs (x :: hist) hl (by simp [hh]) hc
    · rename_i hj
      have := pcStep_ok na cb ds coefs hist x hl (by omega) hc
      exact ih (j + 1) _ (x :: hist) this.1 (by simp [hh]) this.2

theorem pcBlock_ok (inp coefs : List Int) (na cb ds : Nat) (hna : na ≤ 16) (hc : CoefsOk coefs) : CoefsOk (pcBlock inp coefs na cb ds).2 := by
  obtain ⟨hl, hi⟩ := hc
  cases inp with
  | nil => exact ⟨hl, hi⟩
  | cons x0 xs =>
    simp only [pcBlock]
    split
    · exact ⟨hl, hi⟩
    · split
      · exact ⟨hl, hi⟩
      · have := pcLoop_ok na cb ds xs 1 (coefs.take na) [x0] (by rw [List.length_take]; omega) rfl
          (fun c hcm => hi c (List.mem_of_mem_take hcm))
        refine ⟨by rw [List.length_append, this.1, List.length_drop]; omega, ?_⟩
        intro c hcm
        rcases List.mem_append.mp hcm with h | h
        · exact this.2 c h
        · exact hi c (List.mem_of_mem_drop h)

theorem rows_set_ok (rows : List (List Int)) (i : Nat) (c : List Int) (hr : RowsOk rows) (hc : CoefsOk c) : RowsOk (rows.set i c) := by
  refine ⟨by simp [hr.1], ?_⟩
  intro r hrm
  rcases List.mem_or_eq_of_mem_set hrm with h | h
  · exact hr.2 r h
  · exact h ▸ hc

theorem rows_getD_ok (rows : List (List Int)) (i : Nat) (hr : RowsOk rows) (hi : i < 16) : CoefsOk (rows.getD i []) := by
  have : i < rows.length := by rw [hr.1]; exact hi
  rw [List.getD_eq_getElem?_getD, List.getElem?_eq_getElem this]
  exact hr.2 _ (List.getElem_mem this)

theorem rows_pcBlock_ok (inp : List Int) {rows : List (List Int)} {i na : Nat} (cb : Nat) (hr : RowsOk rows) (hi : i < 16) (hna : na ≤ 16) :
    RowsOk (rows.set i (pcBlock inp (rows.getD i []) na cb 9).2) :=
  rows_set_ok rows i _ hr (pcBlock_ok inp _ na cb 9 hna (rows_getD_ok rows i hr hi))

theorem pcRepeat_ok (inp : List Int) (row na cb : Nat) (hrow : row < 16) (hna : na ≤ 16) : ∀ (c : Nat) (rows : List (List Int)), RowsOk rows →
    RowsOk (pcRepeat inp rows row na cb c).2
  | 0, rows, h => h
  | c + 1, rows, h => by
    rw [pcRepeat]
    simp only []
    have hok := rows_pcBlock_ok inp cb h hrow hna
    split
    · exact hok
    · exact pcRepeat_ok inp row na cb hrow hna c _ hok

def MixAccOk (a : MixAcc) : Prop := RowsOk a.rowsU ∧ RowsOk a.rowsV ∧ 0 ≤ a.best ∧ a.best ≤ 4

theorem mixStep_ok (depth cb : Nat) (lsd rsd : List Int) (a : MixAcc) (mixRes : Nat) (hm : mixRes ≤ 4) (h : MixAccOk a) :
    MixAccOk (mixStep depth cb lsd rsd a mixRes) := by
  obtain ⟨hu, hv, h0, h4⟩ := h
  unfold mixStep MixAccOk
  simp only []
  refine ⟨rows_pcBlock_ok _ cb hu (by decide) (by decide), rows_pcBlock_ok _ cb hv (by decide) (by decide), ?_, ?_⟩
  · split <;> omega
  · split <;> omega

theorem mixSearch_ok (depth cb : Nat) (st : EncChan) (lsd rsd : List Int) (hu : RowsOk st.coefsU) (hv : RowsOk st.coefsV)
    (h0 : 0 ≤ st.lastMixRes) (h4 : st.lastMixRes ≤ 4) : MixAccOk (mixSearch depth cb st lsd rsd) := by
  unfold mixSearch
  exact List.foldlRecOn _ _ ⟨hu, hv, h0, h4⟩ fun a ha b hb => mixStep_ok depth cb lsd rsd a b (by simp at hb; omega) ha

def TryAccOk (a : TryAcc) : Prop := RowsOk a.rowsU ∧ RowsOk a.rowsV

theorem pairTry_ok (cb numUV n : Nat) (u v su sv : List Int) (rowsU rowsV : List (List Int)) (h1 : 1 ≤ numUV) (h16 : numUV ≤ 16)
    (hu : RowsOk rowsU) (hv : RowsOk rowsV) :
    RowsOk (pairTry cb numUV n u v su sv rowsU rowsV).2.2.1 ∧ RowsOk (pairTry cb numUV n u v su sv rowsU rowsV).2.2.2 := by
  unfold pairTry
  simp only []
  exact List.foldlRecOn (motive := TryAccOk) _ _ ⟨hu, hv⟩ fun a ha b _ =>
    ⟨rows_pcBlock_ok _ cb ha.1 (by omega) h16, rows_pcBlock_ok _ cb ha.2 (by omega) h16⟩

/-- the state of a pair's channel index: both tables and the last mixing ratio -/
def PairStateOk (st : EncChan) : Prop := RowsOk st.coefsU ∧ RowsOk st.coefsV ∧ 0 ≤ st.lastMixRes ∧ st.lastMixRes ≤ 4

theorem pairSearch_ok (depth : Nat) (st : EncChan) (ls rs : List Int) (h : PairStateOk st) :
    RowsOk (pairSearch depth st ls rs).rowsU ∧ RowsOk (pairSearch depth st ls rs).rowsV ∧
    0 ≤ (pairSearch depth st ls rs).bestRes ∧ (pairSearch depth st ls rs).bestRes ≤ 4 ∧
    ((pairSearch depth st ls rs).numU = 4 ∨ (pairSearch depth st ls rs).numU = 8) ∧
    ((pairSearch depth st ls rs).numV = 4 ∨ (pairSearch depth st ls rs).numV = 8) := by
  obtain ⟨hu, hv, h0, h4⟩ := h
  unfold pairSearch
  simp only []
  have hms := mixSearch_ok depth (depth - 8 * bytesShiftedOf depth + 1) st (ls.take (ls.length / 8)) (rs.take (ls.length / 8)) hu hv h0 h4
  obtain ⟨mu, mv, m0, m4⟩ := hms
  have t4 := fun (u v su sv : List Int) => pairTry_ok (depth - 8 * bytesShiftedOf depth + 1) 4 ls.length u v su sv _ _ (by decide) (by decide) mu mv
  have t8 := fun (u v su sv u' v' su' sv' : List Int) => pairTry_ok (depth - 8 * bytesShiftedOf depth + 1) 8 ls.length u' v' su' sv' _ _
    (by decide) (by decide) (t4 u v su sv).1 (t4 u v su sv).2
  refine ⟨(t8 _ _ _ _ _ _ _ _).1, (t8 _ _ _ _ _ _ _ _).2, m0, m4, ?_, ?_⟩
  · split <;> simp
  · split <;> simp

theorem ite_ite_eq {α : Type} (c d : Prop) [Decidable c] [Decidable d] (a b e : α) :
    (if c then a else if d then b else e) = a ∨ (if c then a else if d then b else e) = b ∨
      (if c then a else if d then b else e) = e := by
  by_cases hc : c
  · rw [if_pos hc]; exact Or.inl rfl
  · rw [if_neg hc]
    by_cases hd : d
    · rw [if_pos hd]; exact Or.inr (Or.inl rfl)
    · rw [if_neg hd]; exact Or.inr (Or.inr rfl)

/-- EncodeMono ends in one of three ways: the escape element because the estimate is too big (the rows as the search left them);
    the escape element because the compressed element came out too big; the compressed element — these two with the chosen
    row adapted once more by the final `pc_block` -/
theorem encMono_outcomes (depth frameSize : Nat) (st : EncChan) (xs : List Int) :
    let cb := depth - 8 * bytesShiftedOf depth
    let sr := monoSearch cb (monoMix depth xs) xs.length st.coefsU
    let coefs := sr.2.2.getD (sr.1 - 1) []
    let st2 := { st with coefsU := sr.2.2.set (sr.1 - 1) (pcBlock (monoMix depth xs) coefs sr.1 cb 9).2 }
    encMono depth frameSize st xs = (encMonoEsc depth xs.length xs, { st with coefsU := sr.2.2 }) ∨
    encMono depth frameSize st xs = (encMonoEsc depth xs.length xs, st2) ∨
    encMono depth frameSize st xs = (compMonoBits depth frameSize xs coefs sr.1, st2) := by
  unfold encMono
  exact ite_ite_eq _ _ _ _ _

/-- what EncodeMono writes depends on `mCoefsU` only -/
theorem encMono_bits_coefsU (depth frameSize : Nat) (st : EncChan) (xs : List Int) :
    (encMono depth frameSize st xs).1 = (encMono depth frameSize { coefsU := st.coefsU } xs).1 := by
  unfold encMono
  simp only [apply_ite Prod.fst]

/-- EncodeStereo ends in the same three ways -/
theorem encPair_outcomes (depth frameSize : Nat) (st : EncChan) (ls rs : List Int) :
    let bs := bytesShiftedOf depth
    let cb := depth - 8 * bs + 1
    let c := pairSearch depth st ls rs
    let cU := c.rowsU.getD (c.numU - 1) []
    let cV := c.rowsV.getD (c.numV - 1) []
    let m := mixPairs depth bs c.bestRes.toNat ls rs
    let st2 : EncChan := { coefsU := c.rowsU.set (c.numU - 1) (pcBlock m.1 cU c.numU cb 9).2,
                           coefsV := c.rowsV.set (c.numV - 1) (pcBlock m.2.1 cV c.numV cb 9).2, lastMixRes := c.bestRes }
    let esc := encPairEsc Rules.current depth ls.length ls rs ([], [])
    encPair depth frameSize st ls rs = (esc, { coefsU := c.rowsU, coefsV := c.rowsV, lastMixRes := c.bestRes }) ∨
    encPair depth frameSize st ls rs = (esc, st2) ∨
    encPair depth frameSize st ls rs = (compPairBits depth frameSize ls rs (wrapU 8 c.bestRes) cU cV c.numU c.numV, st2) := by
  unfold encPair
  exact ite_ite_eq _ _ _ _ _

theorem monoTry_ok (cb : Nat) (mix : List Int) (n : Nat) (rows : List (List Int)) (numU : Nat) (h : RowsOk rows) (h1 : 1 ≤ numU) (h16 : numU ≤ 16) :
    RowsOk (monoTry cb mix n rows numU).2 := by
  unfold monoTry
  exact pcRepeat_ok _ _ _ _ (by omega) h16 _ _ (pcRepeat_ok _ _ _ _ (by omega) h16 _ _ h)

theorem monoSearch_ok (cb : Nat) (mix : List Int) (n : Nat) (rows : List (List Int)) (h : RowsOk rows) :
    ((monoSearch cb mix n rows).1 = 4 ∨ (monoSearch cb mix n rows).1 = 8) ∧ RowsOk (monoSearch cb mix n rows).2.2 := by
  have h8 := monoTry_ok cb mix n _ 8 (monoTry_ok cb mix n rows 4 h (by decide) (by decide)) (by decide) (by decide)
  unfold monoSearch
  -- whichever order wins, the rows are those the order-8 candidate left
  simp only [apply_ite Prod.fst, apply_ite Prod.snd, ite_self]
  exact ⟨by split <;> simp, h8⟩

theorem encMono_cases (depth : Nat) (st : EncChan) (xs : List Int) (hst : RowsOk st.coefsU) :
    ((encMono depth frameLen st xs).1 = encMonoEsc depth xs.length xs ∨
      ∃ coefs numU, CoefsOk coefs ∧ (numU = 4 ∨ numU = 8) ∧ (encMono depth frameLen st xs).1 = compMonoBits depth frameLen xs coefs numU) ∧
    RowsOk (encMono depth frameLen st xs).2.coefsU := by
  have ho := encMono_outcomes depth frameLen st xs
  obtain ⟨hu, hrows⟩ := monoSearch_ok (depth - 8 * bytesShiftedOf depth) (monoMix depth xs) xs.length st.coefsU hst
  simp only [] at ho
  generalize monoSearch (depth - 8 * bytesShiftedOf depth) (monoMix depth xs) xs.length st.coefsU = sr at ho hu hrows
  have hi : sr.1 - 1 < 16 ∧ sr.1 ≤ 16 := by omega
  have hset := rows_pcBlock_ok (monoMix depth xs) (depth - 8 * bytesShiftedOf depth) hrows hi.1 hi.2
  rcases ho with h | h | h
  · rw [h]; exact ⟨Or.inl rfl, hrows⟩
  · rw [h]; exact ⟨Or.inl rfl, hset⟩
  · rw [h]; exact ⟨Or.inr ⟨_, _, rows_getD_ok _ _ hrows hi.1, hu, rfl⟩, hset⟩

theorem wrapU8_small (b : Int) (h0 : 0 ≤ b) (h4 : b ≤ 4) : wrapU 8 b ≤ 4 ∧ ((wrapU 8 b : Nat) : Int) = b ∧ b.toNat = wrapU 8 b := by
  unfold wrapU
  simp only [Int.reducePow]
  omega

theorem encPair_cases (depth : Nat) (st : EncChan) (ls rs : List Int) (hst : PairStateOk st) :
    ((encPair depth frameLen st ls rs).1 = encPairEsc Rules.current depth ls.length ls rs ([], []) ∨
      ∃ mixRes cU cV numU numV, mixRes ≤ 4 ∧ CoefsOk cU ∧ CoefsOk cV ∧ (numU = 4 ∨ numU = 8) ∧ (numV = 4 ∨ numV = 8) ∧
        (encPair depth frameLen st ls rs).1 = compPairBits depth frameLen ls rs mixRes cU cV numU numV) ∧
    PairStateOk (encPair depth frameLen st ls rs).2 := by
  have ho := encPair_outcomes depth frameLen st ls rs
  obtain ⟨hu, hv, h0, h4, hnu, hnv⟩ := pairSearch_ok depth st ls rs hst
  simp only [] at ho
  generalize pairSearch depth st ls rs = c at ho hu hv h0 h4 hnu hnv
  have hiu : c.numU - 1 < 16 ∧ c.numU ≤ 16 := by omega
  have hiv : c.numV - 1 < 16 ∧ c.numV ≤ 16 := by omega
  -- the state the two compressed outcomes leave: the chosen rows adapted by the final pc_block
  have hst2 := fun (x y : List Int) cb => (⟨rows_pcBlock_ok x cb hu hiu.1 hiu.2, rows_pcBlock_ok y cb hv hiv.1 hiv.2, h0, h4⟩ :
    PairStateOk ⟨_, _, c.bestRes⟩)
  rcases ho with h | h | h
  · rw [h]; exact ⟨Or.inl rfl, hu, hv, h0, h4⟩
  · rw [h]; exact ⟨Or.inl rfl, hst2 _ _ _⟩
  · rw [h]; exact ⟨Or.inr ⟨_, _, _, _, _, (wrapU8_small _ h0 h4).1, rows_getD_ok _ _ hu hiu.1, rows_getD_ok _ _ hv hiv.1, hnu, hnv, rfl⟩,
      hst2 _ _ _⟩

end Sf.AlacCore
