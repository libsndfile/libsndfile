/-
  SfProofs.RdwrCalls — how an operation of the abstract file (SfProofs/RdwrSpec.lean) is spelt as a call on a handle: the
  `whence` word of a seek (`whenceCode`, `ptrBits`) and the count of a read or write of `k` frames (`callCount`).
-/
import SfProofs.RdwrSpec
import SfProofs.HandleSteps
namespace Sf

/-- the `whence` argument of `sf_seek` for an abstract (whence, pointer) pair -/
def whenceCode (w : Whence) (p : Ptr) : Int :=
  (match w with | .set => 0 | .cur => 1 | .fromEnd => 2) + (match p with | .both => 0 | .rd => 0x10 | .wr => 0x20)

def ptrBits : Ptr → Int | .both => 0 | .rd => 0x10 | .wr => 0x20

/-- the `n` argument of a call for `k` frames -/
def callCount (h : H) (fc : Bool) (k : Nat) : Int := if fc then (k : Int) else ((k * h.ch : Nat) : Int)

theorem callCount_pos (h : H) (fc : Bool) {k : Nat} (hk : 0 < k) (hch : 0 < h.ch) : 0 < callCount h fc k := by
  unfold callCount; cases fc
  · simp only [Bool.false_eq_true, if_false]; exact Int.ofNat_lt.mpr (Nat.mul_pos hk hch)
  · simp only [if_true]; exact Int.ofNat_lt.mpr hk

theorem callCount_aligned (h : H) (fc : Bool) (k : Nat) : fc = true ∨ callCount h fc k % (h.ch : Int) = 0 := by
  cases fc
  · right; simp [callCount]
  · left; rfl

theorem callCount_zero (h : H) (fc : Bool) : callCount h fc 0 = 0 := by unfold callCount; cases fc <;> simp

theorem reqLen_callCount (h : H) (fc : Bool) (k : Nat) : reqLen h fc (callCount h fc k) = ((k * h.ch : Nat) : Int) := by
  unfold reqLen callCount; cases fc <;> simp

end Sf
