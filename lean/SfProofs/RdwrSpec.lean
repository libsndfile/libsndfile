/-
  SfProofs.RdwrSpec — the abstract file of property C08 and its four operations (read, write, seek, truncate).

  "A file is a sequence of frames plus a read position and a write position."  Nothing else: no bytes, no
  header, no byte position, no `last_op`.  The frame type is a parameter; `zero` is the content of a hole
  (the frames a seek past the end followed by a write, or an extending truncate, leaves behind).
-/
namespace Sf

structure AbsFile (α : Type) where
  frames : List α
  rpos : Nat
  wpos : Nat

/-- SEEK_SET / SEEK_CUR / SEEK_END -/
inductive Whence | set | cur | fromEnd
deriving DecidableEq, Repr

/-- plain whence value, `| SFM_READ`, `| SFM_WRITE` -/
inductive Ptr | both | rd | wr
deriving DecidableEq, Repr

namespace AbsFile
variable {α : Type}

/-- read up to `k` frames at the read position; the read position advances by what was delivered -/
def read (f : AbsFile α) (k : Nat) : List α × AbsFile α :=
  let got := (f.frames.drop f.rpos).take k
  (got, { f with rpos := f.rpos + got.length })

/-- the frames in front of position `p`; a hole (`p` past the end) is filled with `zero` -/
def upTo (zero : α) (fr : List α) (p : Nat) : List α := fr.take p ++ List.replicate (p - fr.length) zero

/-- write the frames `fs` at the write position: overwrite what is there, extend when the end is passed;
    the write position advances by `fs.length`; an empty write does nothing -/
def write (zero : α) (f : AbsFile α) (fs : List α) : AbsFile α :=
  if fs = [] then f else
  { f with frames := upTo zero f.frames f.wpos ++ fs ++ f.frames.drop (f.wpos + fs.length),
           wpos := f.wpos + fs.length }

/-- the frame an offset is relative to.  A plain SEEK_CUR on a read/write handle is relative to the WRITE position -/
def base (f : AbsFile α) : Whence → Ptr → Int
  | .set, _ => 0
  | .cur, .rd => f.rpos
  | .cur, _ => f.wpos
  | .fromEnd, _ => f.frames.length

/-- seek: the target is `base + off`; a negative target is refused (−1, nothing moves); otherwise the target is
    returned and the read pointer, the write pointer, or both move there.  Any target ≥ 0 is accepted. -/
def seek (f : AbsFile α) (w : Whence) (p : Ptr) (off : Int) : Int × AbsFile α :=
  let t := f.base w p + off
  if t < 0 then (-1, f) else
  (t, match p with
      | .both => { f with rpos := t.toNat, wpos := t.toNat }
      | .rd => { f with rpos := t.toNat }
      | .wr => { f with wpos := t.toNat })

/-- SFC_FILE_TRUNCATE: exactly `n` frames remain (a count past the end extends with `zero`), both pointers at `n` -/
def truncate (zero : α) (f : AbsFile α) (n : Nat) : AbsFile α :=
  { frames := upTo zero f.frames n, rpos := n, wpos := n }

end AbsFile

/-- the operation alphabet of the statement -/
inductive AOp (α : Type)
  | read (k : Nat)
  | write (fs : List α)
  | seek (w : Whence) (p : Ptr) (off : Int)
  | truncate (n : Nat)

/-- what an operation answers: the frames read, or a number (frames written / position / status) -/
inductive AOut (α : Type)
  | frames (fs : List α)
  | num (v : Int)

def AbsFile.step {α : Type} (zero : α) (f : AbsFile α) : AOp α → AOut α × AbsFile α
  | .read k => ((f.read k).1 |> AOut.frames, (f.read k).2)
  | .write fs => (.num fs.length, f.write zero fs)
  | .seek w p off => (.num (f.seek w p off).1, (f.seek w p off).2)
  | .truncate n => (.num 0, f.truncate zero n)

def AbsFile.run {α : Type} (zero : α) (f : AbsFile α) : List (AOp α) → AbsFile α
  | [] => f
  | op :: ops => AbsFile.run zero (f.step zero op).2 ops

end Sf
