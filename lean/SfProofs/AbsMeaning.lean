/-
  What an ACCEPTED line means: for each checker of SfModel/Abs.lean, `… = .ok st'` as the conjunction
  of the clauses of the statement in mathematical form (`…_iff`; one lemma per branch of the checker, the branch condition
  as hypothesis), whatever produced the line.  The meaning theorems are the forward directions, the completeness theorems
  of AbsComplete / AbsCompleteW the backward ones.
-/
import SfModel.Abs
namespace Sf.Abs

/-- the wrappers look at the request (`validReq`) and at the mode -/
def ReadReq (g : Geom) (st : St) (fc : Bool) (n : Int) : Prop := validReq g fc n = true ∧ st.mode ≠ .w
def WriteReq (g : Geom) (st : St) (fc : Bool) (n : Int) : Prop := validReq g fc n = true ∧ st.mode ≠ .r

theorem validReq_pos {g : Geom} {fc : Bool} {n : Int} (h : validReq g fc n = true) : 0 < n := by
  unfold validReq at h; simp at h; omega

theorem retItems_le (g : Geom) (fc : Bool) (r n : Int) (h : r ≤ n) : retItems g fc r ≤ reqItems g fc n := by
  unfold retItems reqItems
  cases fc
  · simp only [Bool.false_eq_true, if_false]; omega
  · simp only [if_true]; exact Nat.mul_le_mul_right _ (by omega)

theorem retItems_lt_of (g : Geom) (fc : Bool) (n r : Int) (hr : 0 ≤ r)
    (h : retItems g fc r < reqItems g fc n) : r < n := by
  unfold retItems reqItems at h
  cases fc
  · simp at h; omega
  · simp only [if_true] at h
    have : r.toNat < n.toNat := Nat.lt_of_mul_lt_mul_right h
    omega

/-- a checker is a chain of `if clause fails then .bad tag … else …`; it answers `.ok` exactly when no clause fails, and each
    `_iff` below peels the chain with these two -/
theorem bad_else_eq_ok {c : Prop} [Decidable c] {tag : String} {s st' : St} {r : Res} :
    (if c then Res.bad tag s else r) = .ok st' ↔ ¬ c ∧ r = .ok st' := by
  by_cases h : c <;> simp [h]

theorem else_bad_eq_ok {c : Prop} [Decidable c] {tag : String} {s st' : St} {r : Res} :
    (if c then r else Res.bad tag s) = .ok st' ↔ c ∧ r = .ok st' := by
  by_cases h : c <;> simp [h]

theorem readOk_eq_ok_iff (g : Geom) (st : St) (ty : Ty) (fc : Bool) (n : Int) (o : Out) (st' : St) (hr : ReadReq g st fc n) :
    readOk g st ty fc n o = .ok st' ↔
      (0 ≤ o.ret ∧ o.ret ≤ n) ∧ retItems g fc o.ret % g.ch = 0 ∧ o.data.size = reqItems g fc n * cells ty ∧
      if st.frames ≤ st.rpos then
        (o.ret = 0 ∧ o.err = false) ∧ allOf o.data 0 0 0 (reqItems g fc n * cells ty) = true ∧ { st with err := false } = st'
      else
        st.rpos + retItems g fc o.ret / g.ch ≤ st.frames ∧
        (st.valid ty = true → sliceEq o.data 0 (st.ref ty) (st.rpos * g.cpf ty) (retItems g fc o.ret * cells ty) = true) ∧
        (o.ret < n → st.rpos + retItems g fc o.ret / g.ch = st.frames) ∧
        o.err = false ∧
        (g.tailClean = true → allOf o.data (pat ty) 0 (retItems g fc o.ret * cells ty)
          (reqItems g fc n * cells ty - retItems g fc o.ret * cells ty) = true) ∧
        { st with rpos := st.rpos + retItems g fc o.ret / g.ch, err := false } = st' := by
  obtain ⟨hv, hm⟩ := hr
  have hn0 : ¬ n = 0 := by have := validReq_pos hv; omega
  unfold readOk
  simp only [hn0, if_false, hv, hm, Bool.not_true, Bool.false_or, decide_false, Bool.false_eq_true, bad_else_eq_ok]
  by_cases hend : st.frames ≤ st.rpos
  · simp only [hend, if_true, bad_else_eq_ok, Res.ok.injEq, not_or, Int.not_lt, ne_eq, Decidable.not_not, Bool.not_eq_true,
      Bool.not_eq_true', Bool.not_eq_false]
  · simp only [hend, if_false, bad_else_eq_ok, Res.ok.injEq, not_or, Int.not_lt, Nat.not_lt, ne_eq, Decidable.not_not,
      Bool.not_eq_true, Bool.not_eq_true', Bool.not_eq_false, Bool.and_eq_true, not_and]

theorem readOk_valid (g : Geom) (st : St) (ty : Ty) (fc : Bool) (n : Int) (o : Out) (st' : St)
    (hr : ReadReq g st fc n) (h : readOk g st ty fc n o = .ok st') :
    0 ≤ o.ret ∧ o.ret ≤ n ∧ retItems g fc o.ret % g.ch = 0 ∧ o.data.size = reqItems g fc n * cells ty ∧ o.err = false ∧
    (st.frames ≤ st.rpos → o.ret = 0 ∧ allOf o.data 0 0 0 (reqItems g fc n * cells ty) = true ∧ st' = { st with err := false }) ∧
    (st.rpos < st.frames →
      st' = { st with rpos := st.rpos + retItems g fc o.ret / g.ch, err := false } ∧
      st.rpos + retItems g fc o.ret / g.ch ≤ st.frames ∧
      (st.valid ty = true → sliceEq o.data 0 (st.ref ty) (st.rpos * g.cpf ty) (retItems g fc o.ret * cells ty) = true) ∧
      (o.ret < n → st.rpos + retItems g fc o.ret / g.ch = st.frames)) := by
  obtain ⟨⟨h0, hn⟩, hw, hsz, hrest⟩ := (readOk_eq_ok_iff g st ty fc n o st' hr).mp h
  by_cases hend : st.frames ≤ st.rpos
  · rw [if_pos hend] at hrest
    obtain ⟨⟨hz, he⟩, hfill, hst⟩ := hrest
    exact ⟨h0, hn, hw, hsz, he, fun _ => ⟨hz, hfill, hst.symm⟩, fun hlt => absurd hend (Nat.not_le.mpr hlt)⟩
  · rw [if_neg hend] at hrest
    obtain ⟨hin, hdat, hshort, he, _, hst⟩ := hrest
    exact ⟨h0, hn, hw, hsz, he, fun hle => absurd hle hend, fun _ => ⟨hst.symm, hin, hdat, hshort⟩⟩

theorem readOk_invalid_iff (g : Geom) (st : St) (ty : Ty) (fc : Bool) (n : Int) (o : Out) (st' : St)
    (hn : n ≠ 0) (hr : ¬ ReadReq g st fc n) :
    readOk g st ty fc n o = .ok st' ↔ (o.ret = 0 ∧ o.err = true) ∧ { st with err := true } = st' := by
  have hc : (!validReq g fc n || decide (st.mode = .w)) = true := by
    cases hv : validReq g fc n
    · rfl
    · simpa [ReadReq, hv] using hr
  unfold readOk
  simp only [hn, if_false, hc, if_true, else_bad_eq_ok, Res.ok.injEq]

theorem readOk_zero_iff (g : Geom) (st : St) (ty : Ty) (fc : Bool) (o : Out) (st' : St) :
    readOk g st ty fc 0 o = .ok st' ↔ o.ret = 0 ∧ st = st' := by
  unfold readOk
  simp only [if_true, else_bad_eq_ok, Res.ok.injEq]

theorem readOk_frame (g : Geom) (st : St) (ty : Ty) (fc : Bool) (n : Int) (o : Out) (st' : St)
    (h : readOk g st ty fc n o = .ok st') :
    ∃ p e, st' = { st with rpos := p, err := e } ∧ (st.rpos ≤ st.frames → p ≤ st.frames) := by
  by_cases hn : n = 0
  · subst hn
    obtain ⟨_, rfl⟩ := (readOk_zero_iff g st ty fc o st').mp h
    exact ⟨_, _, rfl, id⟩
  by_cases hr : ReadReq g st fc n
  · obtain ⟨_, _, _, hrest⟩ := (readOk_eq_ok_iff g st ty fc n o st' hr).mp h
    split at hrest
    · obtain ⟨_, _, rfl⟩ := hrest; exact ⟨_, _, rfl, id⟩
    · obtain ⟨hin, _, _, _, _, rfl⟩ := hrest; exact ⟨_, _, rfl, fun _ => hin⟩
  · obtain ⟨_, rfl⟩ := (readOk_invalid_iff g st ty fc n o st' hn hr).mp h
    exact ⟨_, _, rfl, id⟩

theorem writeOk_eq_ok_iff (g : Geom) (st : St) (ty : Ty) (fc : Bool) (n : Int) (data : Array Item) (o : Out) (st' : St)
    (hr : WriteReq g st fc n) :
    writeOk g st ty fc n data o = .ok st' ↔
      reqItems g fc n * cells ty ≤ data.size ∧ (0 ≤ o.ret ∧ o.ret ≤ n) ∧ retItems g fc o.ret % g.ch = 0 ∧
      (o.ret < n → g.ioMayFail = true) ∧ (o.ret = n → o.err = false) ∧
      (if retItems g fc o.ret / g.ch = 0 then { st with err := o.err } else
        { st with
          wpos := st.wpos + retItems g fc o.ret / g.ch, frames := max st.frames (st.wpos + retItems g fc o.ret / g.ch),
          err := o.err,
          ref := fun t => if t = ty then
            writeAt 0 (st.ref ty) (st.wpos * g.cpf ty) (data.extract 0 (retItems g fc o.ret * cells ty)) else st.ref t,
          valid := fun t => t = ty && (g.lossless ty && st.valid ty && (decide (st.wpos ≤ st.frames) || g.holeZero ty)),
          rawValid := false }) = st' := by
  obtain ⟨hv, hm⟩ := hr
  have hn0 : ¬ n = 0 := by have := validReq_pos hv; omega
  unfold writeOk
  simp only [hn0, if_false, hv, hm, Bool.not_true, Bool.false_or, decide_false, Bool.false_eq_true, bad_else_eq_ok, Res.ok.injEq,
    Nat.not_lt, not_or, Int.not_lt, ne_eq, Decidable.not_not, not_and, Bool.not_eq_true', Bool.not_eq_false, Bool.not_eq_true]

theorem writeOk_invalid_iff (g : Geom) (st : St) (ty : Ty) (fc : Bool) (n : Int) (data : Array Item) (o : Out) (st' : St)
    (hn : n ≠ 0) (hr : ¬ WriteReq g st fc n) :
    writeOk g st ty fc n data o = .ok st' ↔ (o.ret = 0 ∧ o.err = true) ∧ { st with err := true } = st' := by
  have hc : (!validReq g fc n || decide (st.mode = .r)) = true := by
    cases hv : validReq g fc n
    · rfl
    · simpa [WriteReq, hv] using hr
  unfold writeOk
  simp only [hn, if_false, hc, if_true, else_bad_eq_ok, Res.ok.injEq]

theorem writeOk_zero_iff (g : Geom) (st : St) (ty : Ty) (fc : Bool) (data : Array Item) (o : Out) (st' : St) :
    writeOk g st ty fc 0 data o = .ok st' ↔ o.ret = 0 ∧ st = st' := by
  unfold writeOk
  simp only [if_true, else_bad_eq_ok, Res.ok.injEq]

theorem seekTarget_some (st : St) (off whence : Int) (t : Nat) (h : seekTarget st off whence = some t) :
    ∃ b, seekBase st whence = some b ∧ (t : Int) = (b : Int) + off ∧ (st.mode = .r → t ≤ st.frames) ∧
      ¬ (seekQual whence = 0x20 ∧ st.mode = .r) ∧ ¬ (seekQual whence = 0x10 ∧ st.mode = .w) := by
  unfold seekTarget at h
  split at h
  · exact absurd h (by simp)
  · rename_i b hb
    simp only at h
    split at h
    · exact absurd h (by simp)
    · split at h
      · exact absurd h (by simp)
      · split at h
        · exact absurd h (by simp)
        · rename_i h1 h2 h3
          injection h with h
          refine ⟨b, hb, by omega, fun hm => ?_, fun hx => h1 (Or.inl hx), fun hx => h1 (Or.inr hx)⟩
          have : ¬ (st.frames : Int) < (b : Int) + off := fun hx => h3 ⟨hm, hx⟩
          omega

theorem seekOk_refusal_iff (g : Geom) (st : St) (off whence : Int) (o : Out) (st' : St) (hret : o.ret = -1) :
    seekOk g st off whence o = .ok st' ↔
      o.err = true ∧
      (∀ t, g.seekable = true → seekTarget st off whence = some t →
        ¬ (off = 0 ∧ whence % 0x10 = 1) ∧ ¬ (g.strictSeek = true ∧ t ≤ st.frames)) ∧
      { st with err := true } = st' := by
  unfold seekOk
  simp only [hret, if_true, bad_else_eq_ok, Bool.not_eq_true', Bool.not_eq_false]
  cases hs : g.seekable
  · simp only [Bool.false_eq_true, if_false, Res.ok.injEq, false_implies, implies_true, true_and]
  · cases ht : seekTarget st off whence
    · simp only [if_true, Res.ok.injEq, reduceCtorEq, false_implies, implies_true, true_and]
    · simp only [if_true, bad_else_eq_ok, Res.ok.injEq, true_implies, Option.some.injEq, forall_eq', and_assoc]

theorem seekOk_answer_iff (g : Geom) (st : St) (off whence : Int) (o : Out) (st' : St) (hret : o.ret ≠ -1) :
    seekOk g st off whence o = .ok st' ↔
      ∃ t : Nat, g.seekable = true ∧ seekTarget st off whence = some t ∧ o.ret = (t : Int) ∧ o.err = false ∧
        seekMove st whence t = st' := by
  unfold seekOk
  simp only [hret, if_false]
  cases hs : g.seekable
  · simp only [Bool.false_eq_true, if_false, reduceCtorEq, false_and, exists_false]
  · cases ht : seekTarget st off whence
    · simp only [if_true, reduceCtorEq, false_and, and_false, exists_false]
    · simp only [if_true, bad_else_eq_ok, Res.ok.injEq, true_and, Option.some.injEq, exists_eq_left', ne_eq, Decidable.not_not,
        Bool.not_eq_true]

/-- C06 `seek_result` on accepted lines: a refusal, or exactly the requested absolute frame `base + offset` -/
theorem seekOk_ok (g : Geom) (st : St) (off whence : Int) (o : Out) (st' : St) (h : seekOk g st off whence o = .ok st') :
    (o.ret = -1 ∧ o.err = true ∧ st' = { st with err := true }) ∨
    (∃ t : Nat, g.seekable = true ∧ seekTarget st off whence = some t ∧ o.ret = (t : Int) ∧ o.err = false ∧
      st' = seekMove st whence t) := by
  by_cases hret : o.ret = -1
  · obtain ⟨he, _, hst⟩ := (seekOk_refusal_iff g st off whence o st' hret).mp h
    exact Or.inl ⟨hret, he, hst.symm⟩
  · obtain ⟨t, hs, ht, hr, he, hst⟩ := (seekOk_answer_iff g st off whence o st' hret).mp h
    exact Or.inr ⟨t, hs, ht, hr, he, hst.symm⟩

theorem seekMove_rd (st : St) (whence : Int) (t : Nat) (h : seekQual whence = 0x10) :
    seekMove st whence t = { st with rpos := t, err := false } := by
  unfold seekMove seekPtr; simp [h]

theorem seekMove_wr (st : St) (whence : Int) (t : Nat) (h : seekQual whence = 0x20) :
    seekMove st whence t = { st with wpos := t, err := false } := by
  unfold seekMove seekPtr; simp [h]

theorem seekMove_plain_rw (st : St) (whence : Int) (t : Nat) (h : seekQual whence = 0) (hm : st.mode = .rw) :
    seekMove st whence t = { st with rpos := t, wpos := t, err := false } := by
  unfold seekMove seekPtr; simp [h, hm]

theorem seekMove_plain_r (st : St) (whence : Int) (t : Nat) (h : seekQual whence = 0) (hm : st.mode = .r) :
    seekMove st whence t = { st with rpos := t, err := false } := by
  unfold seekMove seekPtr; simp [h, hm]

theorem seekMove_frames (st : St) (whence : Int) (t : Nat) :
    (seekMove st whence t).frames = st.frames ∧ (seekMove st whence t).mode = st.mode ∧
    (seekMove st whence t).ref = st.ref ∧ (seekMove st whence t).valid = st.valid := by
  unfold seekMove
  split
  · exact ⟨rfl, rfl, rfl, rfl⟩
  · split <;> exact ⟨rfl, rfl, rfl, rfl⟩

theorem seekMove_rpos_r (st : St) (off whence : Int) (t : Nat) (hm : st.mode = .r) (ht : seekTarget st off whence = some t) :
    (seekMove st whence t).rpos = t := by
  obtain ⟨b, hb, _, _, hq, _⟩ := seekTarget_some st off whence t ht
  have hq' : seekQual whence ≠ 0x20 := fun hx => hq ⟨hx, hm⟩
  unfold seekMove seekPtr
  by_cases h0 : seekQual whence = 0
  · simp [h0, hm]
  · simp only [h0, if_false]
    split
    · rfl
    · simp

/-- the state after an accepted truncation to `m` frames -/
def afterTrunc (g : Geom) (st : St) (m : Nat) : St :=
  { st with frames := m, rpos := m, wpos := m, err := false,
            ref := fun t => upTo 0 ((st.ref t).extract 0 (m * g.cpf t)) (m * g.cpf t),
            valid := fun t => st.valid t && (decide (m ≤ st.frames) || g.holeZero t),
            rawValid := st.rawValid && decide (m ≤ st.frames),
            raw := upTo 0 (st.raw.extract 0 (m * g.bw)) (m * g.bw) }

theorem truncOk_refused_iff (g : Geom) (st : St) (n : Int) (o : Out) (st' : St)
    (hc : st.mode = .r ∨ g.canTrunc = false ∨ n < 0) :
    truncOk g st n o = .ok st' ↔ o.ret ≠ 0 ∧ { st with err := o.err } = st' := by
  have hc' : st.mode = .r ∨ (!g.canTrunc) = true ∨ n < 0 := by simpa using hc
  unfold truncOk
  simp only [hc', if_true, else_bad_eq_ok, Res.ok.injEq]

theorem truncOk_eq_ok_iff (g : Geom) (st : St) (n : Int) (o : Out) (st' : St)
    (hm : st.mode ≠ .r) (hc : g.canTrunc = true) (hn : 0 ≤ n) :
    truncOk g st n o = .ok st' ↔ (o.ret = 0 ∧ o.err = false) ∧ afterTrunc g st n.toNat = st' := by
  have hc' : ¬ (st.mode = .r ∨ (!g.canTrunc) = true ∨ n < 0) := by simp [hm, hc, hn]
  unfold truncOk afterTrunc
  simp only [hc', if_false, bad_else_eq_ok, Res.ok.injEq, not_or, ne_eq, Decidable.not_not, Bool.not_eq_true]

theorem rawReadOk_eq_ok_iff (g : Geom) (st : St) (n : Int) (o : Out) (st' : St) (hb : g.bw ≠ 0) :
    rawReadOk g st n o = .ok st' ↔
      if st.mode = .w then (o.ret = 0 ∧ o.err = true) ∧ { st with err := true } = st'
      else if 0 ≤ n ∧ st.frames ≤ st.rpos then (o.ret = 0 ∧ o.err = false) ∧ { st with err := false } = st'
      else if n < 0 ∨ n.toNat % g.bw ≠ 0 then (o.ret = 0 ∧ o.err = true) ∧ { st with err := true } = st'
      else
        o.ret = ((min (n.toNat / g.bw) (st.frames - st.rpos) * g.bw : Nat) : Int) ∧
        (st.rawValid = true → sliceEq o.data 0 st.raw (st.rpos * g.bw) (min (n.toNat / g.bw) (st.frames - st.rpos) * g.bw) = true) ∧
        o.err = false ∧
        { st with rpos := st.rpos + min (n.toNat / g.bw) (st.frames - st.rpos), err := false } = st' := by
  unfold rawReadOk
  by_cases hm : st.mode = .w
  · simp only [hb, hm, if_false, if_true, else_bad_eq_ok, Res.ok.injEq]
  by_cases hend : 0 ≤ n ∧ st.frames ≤ st.rpos
  · simp only [hb, hm, hend, and_self, if_false, if_true, else_bad_eq_ok, Res.ok.injEq, Bool.not_eq_true']
  by_cases hal : n < 0 ∨ n.toNat % g.bw ≠ 0
  · simp only [hb, hm, hend, hal, if_false, if_true, else_bad_eq_ok, Res.ok.injEq]
  · simp only [hb, hm, hend, hal, if_false, bad_else_eq_ok, Res.ok.injEq, ne_eq, Decidable.not_not, Bool.and_eq_true, not_and,
      Bool.not_eq_true', Bool.not_eq_false, Bool.not_eq_true]

theorem rawReadOk_frame (g : Geom) (st : St) (n : Int) (o : Out) (st' : St) (h : rawReadOk g st n o = .ok st') :
    ∃ p e, st' = { st with rpos := p, err := e } ∧ (st.rpos ≤ st.frames → p ≤ st.frames) := by
  by_cases hb : g.bw = 0
  · rw [rawReadOk, if_pos hb] at h
    injection h with h; exact ⟨_, _, h.symm, id⟩
  have h := (rawReadOk_eq_ok_iff g st n o st' hb).mp h
  split at h
  · obtain ⟨_, rfl⟩ := h; exact ⟨_, _, rfl, id⟩
  split at h
  · obtain ⟨_, rfl⟩ := h; exact ⟨_, _, rfl, id⟩
  split at h
  · obtain ⟨_, rfl⟩ := h; exact ⟨_, _, rfl, id⟩
  · obtain ⟨_, _, _, rfl⟩ := h
    exact ⟨_, _, rfl, fun _ => by have := Nat.min_le_right (n.toNat / g.bw) (st.frames - st.rpos); omega⟩

theorem rawWriteOk_eq_ok_iff (g : Geom) (st : St) (n : Int) (data : Array Item) (o : Out) (st' : St) (hb : g.bw ≠ 0) :
    rawWriteOk g st n data o = .ok st' ↔
      if st.mode = .r ∨ n < 0 ∨ n.toNat % g.bw ≠ 0 then (o.ret = 0 ∧ o.err = true) ∧ { st with err := true } = st'
      else if n = 0 then o.ret = 0 ∧ st = st'
      else
        n.toNat ≤ data.size ∧ o.ret = n ∧ o.err = false ∧
        { st with wpos := st.wpos + n.toNat / g.bw, frames := max st.frames (st.wpos + n.toNat / g.bw), err := false,
                  valid := fun _ => false, raw := writeAt 0 st.raw (st.wpos * g.bw) (data.extract 0 n.toNat) } = st' := by
  unfold rawWriteOk
  by_cases hinv : st.mode = .r ∨ n < 0 ∨ n.toNat % g.bw ≠ 0
  · simp only [hb, hinv, if_false, if_true, else_bad_eq_ok, Res.ok.injEq]
  by_cases hn : n = 0
  · simp only [hb, hinv, if_false, if_pos hn, else_bad_eq_ok, Res.ok.injEq]
  · simp only [hb, hinv, hn, if_false, bad_else_eq_ok, Res.ok.injEq, ne_eq, Decidable.not_not, Nat.not_lt, Bool.not_eq_true]

theorem infoOk_eq_ok_iff (st : St) (o : Out) (st' : St) : infoOk st o = .ok st' ↔ o.frames = (st.frames : Int) ∧ st = st' := by
  unfold infoOk
  simp only [else_bad_eq_ok, Res.ok.injEq]

theorem closeOk_eq_ok_iff (st : St) (o : Out) (st' : St) : closeOk st o = .ok st' ↔ o.ret = 0 ∧ st = st' := by
  unfold closeOk
  simp only [else_bad_eq_ok, Res.ok.injEq]

theorem reopenOk_eq_ok_iff (g : Geom) (st : St) (m : Mode) (o : Out) (st' : St) :
    reopenOk g st m o = .ok st' ↔
      o.null = false ∧
      if m = .w then
        { st with mode := .w, frames := 0, rpos := 0, wpos := 0, err := false, ref := fun _ => #[], valid := fun _ => true,
                  raw := #[], rawValid := true } = st'
      else if o.frames = (st.frames : Int) then
        { st with mode := m, rpos := 0, wpos := if m = .rw then st.frames else 0, err := false,
                  valid := st.valid, rawValid := st.rawValid } = st'
      else
        ((st.frames : Int) ≤ o.frames ∧ o.frames < ((st.frames + max g.block 1 + g.pad : Nat) : Int)) ∧
        { st with mode := m, frames := o.frames.toNat, rpos := 0, wpos := if m = .rw then o.frames.toNat else 0, err := false,
                  valid := fun _ => false, rawValid := false } = st' := by
  unfold reopenOk
  cases hnull : o.null
  · by_cases hw : m = .w
    · simp only [hw, Bool.false_eq_true, if_false, if_true, true_and, Res.ok.injEq]
    by_cases hf : o.frames = (st.frames : Int)
    · simp only [hw, hf, Bool.false_eq_true, if_false, if_true, true_and, Res.ok.injEq, Bool.true_and]
    · simp only [hw, hf, Bool.false_eq_true, if_false, true_and, else_bad_eq_ok, Res.ok.injEq, Bool.false_and]
  · by_cases hrw : m = .rw
    · simp only [hrw, if_true, reduceCtorEq, false_and]
    · simp only [hrw, if_true, if_false, reduceCtorEq, false_and]

end Sf.Abs
