/-
  SfProofs.CodecRun — any sequence of write calls and SFC_UPDATE_HEADER_NOW on a writer state: the store stays
  header ++ data, the data is the concatenation of the encoded calls, and the closed file is a function of the
  open parameters, that concatenation and the PEAK state.  `stepW` / `runW` fold the model's own `stepWrite` and
  `stepCmdFlag 0x1060` (the two cases of `Sf.stepAny` a pure writer uses) over a list of `WOp`, so the theorems here are
  about the handle model's step functions.
-/
import SfProofs.CodecClose
namespace Sf

/-- the operations of a pure writer -/
inductive WOp
  | write (ty : Ty) (fc : Bool) (n : Int) (data : List Int)   -- sf_write_T (fc = false) / sf_writef_T (fc = true)
  | updHeader (size : Int)                                     -- sf_command (SFC_UPDATE_HEADER_NOW)

/-- a well-formed call: zero count, or a positive count of whole frames with a buffer of exactly that size -/
def WOp.ok (h : H) : WOp → Prop
  | .write _ fc n data => n = 0 ∨ ValidW h fc n data
  | .updHeader _ => True

def stepW (hs : H × Store) : WOp → H × Store
  | .write ty fc n data => ((stepWrite hs.1 hs.2 ty fc n data).1, (stepWrite hs.1 hs.2 ty fc n data).2.1)
  | .updHeader size => ((stepCmdFlag hs.1 hs.2 0x1060 size).1, (stepCmdFlag hs.1 hs.2 0x1060 size).2.1)

def runW (hs : H × Store) (ops : List WOp) : H × Store := ops.foldl stepW hs

/-- the bytes a call contributes to the data section -/
def WOp.bytes (e : Enc) (c : Conv) : WOp → List Byte
  | .write ty _ n data => if n = 0 then [] else e.encodeAll c ty data
  | .updHeader _ => []

/-- PEAK state after a sequence of calls (the only part of the state that can see call boundaries) -/
def peakRun (enc : Enc) (conv : Conv) (ch : Nat) : Option (List Peak) → Int → List WOp → Option (List Peak)
  | pk, _, [] => pk
  | pk, wpos, .write ty _ n data :: ops =>
    if n = 0 then peakRun enc conv ch pk wpos ops
    else peakRun enc conv ch (peakUpd pk enc conv ch wpos ty data) (wpos + (data.length : Int) / ch) ops
  | pk, wpos, .updHeader _ :: ops => peakRun enc conv ch pk wpos ops

/-- fields no writer operation changes -/
structure Stable (h h' : H) : Prop where
  container : h'.container = h.container
  enc : h'.enc = h.enc
  big : h'.big = h.big
  ch : h'.ch = h.ch
  sr : h'.sr = h.sr
  fmtWord : h'.fmtWord = h.fmtWord
  conv : h'.conv = h.conv
  peakAtStart : h'.peakAtStart = h.peakAtStart
  autoHeader : h'.autoHeader = h.autoHeader

theorem Stable.refl (h : H) : Stable h h := ⟨rfl, rfl, rfl, rfl, rfl, rfl, rfl, rfl, rfl⟩
theorem Stable.trans {a b c : H} (x : Stable a b) (y : Stable b c) : Stable a c :=
  ⟨y.container.trans x.container, y.enc.trans x.enc, y.big.trans x.big, y.ch.trans x.ch, y.sr.trans x.sr,
   y.fmtWord.trans x.fmtWord, y.conv.trans x.conv, y.peakAtStart.trans x.peakAtStart, y.autoHeader.trans x.autoHeader⟩

theorem ValidW.congr (h h' : H) (hc : h'.ch = h.ch) (fc : Bool) (n : Int) (data : List Int) (v : ValidW h fc n data) :
    ValidW h' fc n data := by
  obtain ⟨a, b, c⟩ := v
  exact ⟨a, by rw [hc]; exact b, c.trans (reqLen_congr hc.symm fc n)⟩

theorem WOp.ok_congr (h h' : H) (hc : h'.ch = h.ch) (op : WOp) (o : op.ok h) : op.ok h' := by
  cases op with
  | write ty fc n data =>
    rcases o with o | o
    · exact Or.inl o
    · exact Or.inr (ValidW.congr h h' hc fc n data o)
  | updHeader _ => trivial

theorem stepW_spec (h : H) (s : Store) (hdr dat : List Byte) (inv : WInv h s hdr dat) (op : WOp) (o : op.ok h) :
    ∃ hdr', WInv (stepW (h, s) op).1 (stepW (h, s) op).2 hdr' (dat ++ op.bytes h.enc h.conv) ∧
      Stable h (stepW (h, s) op).1 ∧
      peakRun h.enc h.conv h.ch h.peak h.wpos [op] = (stepW (h, s) op).1.peak ∧
      (∀ ops, peakRun h.enc h.conv h.ch h.peak h.wpos (op :: ops) =
        peakRun h.enc h.conv h.ch (stepW (h, s) op).1.peak (stepW (h, s) op).1.wpos ops) := by
  cases op with
  | write ty fc n data =>
    rcases o with o | o
    · subst o
      simp only [stepW, stepWrite_zero, WOp.bytes, if_true, List.append_nil, peakRun]
      exact ⟨hdr, inv, Stable.refl h, trivial, fun _ => trivial⟩
    · have hn : n ≠ 0 := by have := o.pos; omega
      have inv' := stepWrite_winv h s hdr dat inv ty fc n data o
      simp only [stepW, WOp.bytes, hn, if_false]
      refine ⟨_, inv', ?_⟩
      rw [stepWrite_spec h s hdr dat inv ty fc n data o, wrH_fields]
      refine ⟨?_, ?_, fun ops => ?_⟩
      · constructor <;> simp [wrMid]
      · simp [peakRun, hn, wrMid, peakUpdate_eq]
      · simp [peakRun, hn, wrMid, peakUpdate_eq]
  | updHeader size =>
    have inv' := updHeader_winv h s hdr dat inv size
    simp only [stepW, WOp.bytes, List.append_nil]
    refine ⟨_, inv', ?_⟩
    rw [updHeader_spec h s hdr dat inv size, uhH_fields]
    refine ⟨?_, ?_, fun ops => ?_⟩
    · constructor <;> simp
    · simp [peakRun]
    · simp [peakRun]

theorem runW_spec (ops : List WOp) : ∀ (h : H) (s : Store) (hdr dat : List Byte), WInv h s hdr dat →
    (∀ op ∈ ops, op.ok h) →
    ∃ hdr', WInv (runW (h, s) ops).1 (runW (h, s) ops).2 hdr' (dat ++ ops.flatMap (WOp.bytes h.enc h.conv)) ∧
      Stable h (runW (h, s) ops).1 ∧
      (runW (h, s) ops).1.peak = peakRun h.enc h.conv h.ch h.peak h.wpos ops := by
  induction ops with
  | nil =>
    intro h s hdr dat inv _
    exact ⟨hdr, by simpa [runW] using inv, Stable.refl h, rfl⟩
  | cons op ops ih =>
    intro h s hdr dat inv hok
    obtain ⟨hdr1, inv1, st1, _, hpk⟩ := stepW_spec h s hdr dat inv op (hok op (by simp))
    have hok1 : ∀ o ∈ ops, o.ok (stepW (h, s) op).1 :=
      fun o ho => WOp.ok_congr h _ st1.ch o (hok o (by simp [ho]))
    obtain ⟨hdr2, inv2, st2, hp2⟩ := ih (stepW (h, s) op).1 (stepW (h, s) op).2 hdr1 _ inv1 hok1
    have hrun : runW (h, s) (op :: ops) = runW ((stepW (h, s) op).1, (stepW (h, s) op).2) ops := by
      simp [runW]
    rw [hrun]
    refine ⟨hdr2, ?_, Stable.trans st1 st2, ?_⟩
    · rw [st1.enc, st1.conv] at inv2
      simpa [List.flatMap_cons, List.append_assoc] using inv2
    · rw [hp2, hpk ops, st1.enc, st1.conv, st1.ch]

theorem closeForm_stable (h h' : H) (st : Stable h h') (dat : List Byte) :
    closeForm h' dat = closeForm { h with frames := h'.frames, peak := h'.peak } dat := by
  have hl : hdrLenOf h' = hdrLenOf ({ h with frames := h'.frames, peak := h'.peak } : H) :=
    hdrLenOf_congr _ _ st.container st.fmtWord st.peakAtStart rfl
  unfold closeForm wavPad wavTail
  rw [hl]
  simp only [st.container, st.enc, st.big, st.ch, st.sr, st.fmtWord, st.peakAtStart]

theorem WInv.frames_eq (h : H) (s : Store) (hdr dat : List Byte) (inv : WInv h s hdr dat) (hnb : 0 < h.enc.nbytes) :
    h.frames = (dat.length : Int) / ((h.enc.nbytes * h.ch : Nat) : Int) := by
  have hb : ((h.enc.nbytes * h.ch : Nat) : Int) ≠ 0 := by
    have := Nat.mul_pos hnb inv.ch_pos; omega
  rw [inv.dat_len, inv.frames, Int.mul_ediv_cancel _ hb]

/-- Closing after any well-formed sequence of writer operations: the file is `closeForm` of the stable fields of
    the starting handle, the concatenated encoded bytes and the PEAK state. -/
theorem writer_close_bytes (h : H) (s : Store) (hdr dat : List Byte) (inv : WInv h s hdr dat) (hnb : 0 < h.enc.nbytes)
    (ops : List WOp) (hok : ∀ op ∈ ops, op.ok h) :
    (closeHandle (runW (h, s) ops).1 (runW (h, s) ops).2).bytes =
      closeForm { h with frames := ((dat ++ ops.flatMap (WOp.bytes h.enc h.conv)).length : Int) / ((h.enc.nbytes * h.ch : Nat) : Int),
                         peak := peakRun h.enc h.conv h.ch h.peak h.wpos ops }
                (dat ++ ops.flatMap (WOp.bytes h.enc h.conv)) := by
  obtain ⟨hdr', inv', st, hpk⟩ := runW_spec ops h s hdr dat inv hok
  rw [close_spec _ _ hdr' _ inv', closeForm_stable h _ st, hpk,
    WInv.frames_eq _ _ _ _ inv' (by rw [st.enc]; exact hnb), st.enc, st.ch]

end Sf
