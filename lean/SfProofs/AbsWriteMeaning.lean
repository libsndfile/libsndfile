/-
  SfProofs.AbsWriteMeaning — what an ACCEPTED record of the write campaign means: for each clause of
  SfModel/AbsWrite.lean, `clause = true` implies the sentence of the statement in mathematical form, whatever produced the
  record (an equivalence, `…_iff`, where the clause is that sentence and nothing else); and `accepted r = true` (no clause of
  `judge` fails) gives every clause.
-/
import SfModel.AbsWrite
import SfProofs.AbsSeq
namespace Sf.AbsWrite
open Sf Sf.Abs Sf.Geometry

theorem ite_nil_iff {α : Type} (c : Bool) (x : α) : (if c = true then ([] : List α) else [x]) = [] ↔ c = true := by
  cases c <;> simp

theorem pad_zero (g : Geom) : g.pad = 0 := rfl

theorem firstBadCall_none_iff : ∀ (cs : List Call) (k : Nat), firstBadCall k cs = none ↔ ∀ c ∈ cs, c.ret = c.n
  | [], _ => by simp [firstBadCall]
  | c :: cs, k => by
    rw [firstBadCall, List.forall_mem_cons, ← firstBadCall_none_iff cs (k + 1)]
    by_cases hc : c.ret = c.n <;> simp [callOk, hc]

theorem accepted_of_ret (ch : Nat) (c : Call) (h : c.ret = c.n) :
    c.accepted ch = if c.fc then c.n.toNat else c.n.toNat / ch := by
  unfold Call.accepted; rw [h]

theorem writtenFrom_eq (ch : Nat) : ∀ (cs : List Call) (acc : Array Item), writtenFrom ch acc cs = acc ++ written ch cs
  | [], acc => by simp [writtenFrom, written]
  | c :: cs, acc => by
    unfold written
    simp only [writtenFrom]
    rw [writtenFrom_eq ch cs (acc ++ c.taken ch), writtenFrom_eq ch cs (#[] ++ c.taken ch)]
    simp [written, Array.append_assoc]

theorem written_nil (ch : Nat) : written ch [] = #[] := rfl

theorem written_cons (ch : Nat) (c : Call) (cs : List Call) : written ch (c :: cs) = c.taken ch ++ written ch cs := by
  unfold written
  simp only [writtenFrom]
  rw [writtenFrom_eq]; simp [written]

theorem written_append (ch : Nat) : ∀ (xs ys : List Call), written ch (xs ++ ys) = written ch xs ++ written ch ys
  | [], ys => by simp [written_nil]
  | x :: xs, ys => by simp [written_cons, written_append ch xs ys, Array.append_assoc]

theorem framesAccepted_append (ch : Nat) : ∀ (xs ys : List Call),
    framesAccepted ch (xs ++ ys) = framesAccepted ch xs + framesAccepted ch ys
  | [], ys => by simp [framesAccepted]
  | x :: xs, ys => by simp [framesAccepted, framesAccepted_append ch xs ys, Nat.add_assoc]

theorem handedFrom_eq : ∀ (cs : List Call) (acc : Array Item), handedFrom acc cs = acc ++ handed cs
  | [], acc => by simp [handedFrom, handed]
  | c :: cs, acc => by
    unfold handed
    simp only [handedFrom]
    rw [handedFrom_eq cs (acc ++ c.data), handedFrom_eq cs (#[] ++ c.data)]
    simp [handed, Array.append_assoc]

theorem handed_cons (c : Call) (cs : List Call) : handed (c :: cs) = c.data ++ handed cs := by
  unfold handed
  simp only [handedFrom]
  rw [handedFrom_eq]; simp [handed]

theorem framesAccepted_take_le (ch : Nat) (cs : List Call) (k : Nat) :
    framesAccepted ch (cs.take k) ≤ framesAccepted ch cs := by
  have := framesAccepted_append ch (cs.take k) (cs.drop k)
  rw [List.take_append_drop] at this
  omega

theorem written_take_prefix (ch : Nat) (cs : List Call) (k : Nat) :
    written ch cs = written ch (cs.take k) ++ written ch (cs.drop k) := by
  rw [← written_append, List.take_append_drop]

/-- C04 `frames_bound`: the accepted frame counts are those with `N ≤ F < N + B` (the pad allowance is 0 for every container:
    `pad_zero`), so `F = N` for a sample-granular encoding -/
theorem framesOk_iff (g : Geom) (N : Nat) (F : Int) : framesOk g N F = true ↔ (N : Int) ≤ F ∧ F < (N : Int) + (g.block : Int) := by
  unfold framesOk
  simp only [Bool.and_eq_true, decide_eq_true_eq]
  rw [pad_zero g]; push_cast; rw [Int.add_zero]

theorem eofOk_iff (g : Geom) (F : Int) (rb : ReadBack) : eofOk g F rb = true ↔ rb.ret = F * (g.ch : Int) ∧ rb.more = 0 := by
  unfold eofOk; simp

theorem infoOk_meaning (g : Geom) (i : Info) (h : infoOk g i = true) :
    i.ch = (g.ch : Int) ∧ (g.major ≠ 0x04 → i.fmt % 0x10000000 = g.word % 0x10000000) := by
  unfold infoOk at h
  simp only [Bool.and_eq_true, Bool.or_eq_true, beq_iff_eq] at h
  exact ⟨h.1, fun hm => h.2.resolve_left hm⟩

theorem rateOk_exact_iff (major sr : Nat) (got : Int) (hc : rateClass major = .exact) :
    rateOk major sr got = true ↔ got = (sr : Int) := by
  unfold rateOk; rw [hc]; simp

/-- C01 `round trip`: under the side condition an accepted read-back delivered at least the written frames and its first
    cells ARE the written stream, bit for bit -/
theorem roundtripOk_meaning (g : Geom) (ty : Ty) (cs : List Call) (rb : ReadBack)
    (h : roundtripOk g ty cs rb = true) (hs : sameType ty cs = true) (hl : losslessFor g ty (written g.ch cs) = true) :
    (written g.ch cs).size ≤ rb.ret.toNat * cells ty ∧
    rb.data.extract 0 (written g.ch cs).size = written g.ch cs := by
  unfold roundtripOk at h
  simp only [hs, hl, Bool.and_self, Bool.not_true, Bool.false_or, Bool.and_eq_true, decide_eq_true_eq] at h
  obtain ⟨h1, h2⟩ := h
  refine ⟨h1, ?_⟩
  have := sliceEq_extract _ _ _ _ _ h2
  simpa using this

theorem cellsAll_pointwise (p : Item → Bool) (a : Array Item) (n : Nat) : ∀ (i : Nat),
    cellsAll p a i n = true ↔ ∀ k, k < n → ∃ h : i + k < a.size, p a[i + k] = true := by
  induction n with
  | zero => intro i; simp [cellsAll]
  | succ n ih =>
    intro i
    unfold cellsAll
    by_cases hi : i < a.size
    · simp [hi, ih, Nat.forall_lt_succ_left, Nat.add_assoc, Nat.add_comm 1]
    · simp only [hi, dif_neg, not_false_eq_true, Bool.false_eq_true, false_iff]
      intro hall
      obtain ⟨hh, _⟩ := hall 0 (by omega)
      omega

theorem losslessFor_cells (g : Geom) (ty : Ty) (w : Array Item) (h : losslessFor g ty w = true) :
    ∃ lz, losslessLow g.codec ty = some lz ∧ ∀ k (hk : k < w.size), cellOk g.codec ty lz w[k] = true := by
  unfold losslessFor at h
  split at h
  · exact absurd h (by simp)
  · rename_i lz hlz
    refine ⟨lz, hlz, fun k hk => ?_⟩
    obtain ⟨_, hp⟩ := (cellsAll_pointwise _ _ _ 0).1 h k hk
    simpa using hp

theorem partitionOk_iff (one split : Run) : partitionOk one split = true ↔ one.bytes = split.bytes := by
  unfold partitionOk; exact beq_iff_eq

theorem staleOk_iff (one : Run) (b : Array Item) : staleOk one b = true ↔ one.bytes = b := by
  unfold staleOk; exact beq_iff_eq

/-- C11: the accepted frame count of a crash point IS the frames written so far rounded down to whole blocks -/
theorem snapFramesOk_iff (g : Geom) (Nk : Nat) (F : Int) : snapFramesOk g Nk F = true ↔ F = (floorToBlock Nk g.block : Int) := by
  unfold snapFramesOk
  simp only [Bool.and_eq_true, decide_eq_true_eq]
  rw [pad_zero g]
  omega

theorem snapShortOk_iff (g : Geom) (Nk : Nat) (rb : ReadBack) :
    snapShortOk g Nk rb = true ↔ floorToBlock Nk g.block * g.ch ≤ rb.ret.toNat := by
  unfold snapShortOk; simp

/-- C11: an accepted crash-point read-back that is not short delivers the whole prefix — `⌊N_k⌋_B · ch` items — equal to the
    first items of the finished file's read-back, and for a lossless pair equal to the written cells themselves -/
theorem snapDataOk_meaning (g : Geom) (ty : Ty) (Nk : Nat) (w : Array Item) (lossless : Bool) (final rb : ReadBack)
    (hd : snapDataOk g ty Nk w lossless final rb = true) (hs : snapShortOk g Nk rb = true) :
    let m := floorToBlock Nk g.block * g.ch * cells ty
    floorToBlock Nk g.block * g.ch ≤ rb.ret.toNat ∧
    rb.data.extract 0 m = final.data.extract 0 m ∧ (lossless = true → rb.data.extract 0 m = w.extract 0 m) := by
  intro m
  have hs' := (snapShortOk_iff g Nk rb).1 hs
  have hm : snapItems g Nk rb * cells ty = m := by
    unfold snapItems
    rw [Nat.min_eq_right hs']
  unfold snapDataOk at hd
  simp only [hm, Bool.and_eq_true, Bool.or_eq_true, Bool.not_eq_true'] at hd
  obtain ⟨h1, h2⟩ := hd
  refine ⟨hs', ?_, fun hl => ?_⟩
  · have := sliceEq_extract _ _ _ _ _ h1
    simpa using this
  · rcases h2 with h2 | h2
    · rw [hl] at h2; exact absurd h2 (by simp)
    · have := sliceEq_extract _ _ _ _ _ h2
      simpa using this

theorem judgeSnaps_nil_iff (r : Record) (sp : Run) : ∀ (ss : List Snap) (k0 : Nat),
    judgeSnaps r sp k0 ss = [] ↔ ∀ i s, ss[i]? = some s → judgeSnap r sp (k0 + i) s = []
  | [], _ => by simp [judgeSnaps]
  | s :: ss, k0 => by
    rw [judgeSnaps, List.append_eq_nil_iff, judgeSnaps_nil_iff r sp ss (k0 + 1)]
    constructor
    · rintro ⟨h1, h2⟩ i t ht
      cases i with
      | zero => simp at ht; subst ht; simpa using h1
      | succ i => rw [show k0 + (i + 1) = k0 + 1 + i by omega]; exact h2 i t (by simpa using ht)
    · intro h
      refine ⟨by simpa using h 0 s (by simp), fun i t ht => ?_⟩
      rw [show k0 + 1 + i = k0 + (i + 1) by omega]; exact h (i + 1) t (by simpa using ht)

theorem judgeSnap_nil (r : Record) (sp : Run) (k : Nat) (s : Snap) (h : judgeSnap r sp k s = []) :
    s.info.null = false ∧ snapInfoOk r.g s.info = true ∧
    snapFramesOk r.g (framesAccepted r.g.ch (sp.calls.take s.calls)) s.info.frames = true ∧
    snapDataOk r.g r.ty (framesAccepted r.g.ch (sp.calls.take s.calls)) (written r.g.ch (sp.calls.take s.calls))
      (sameType r.ty (sp.calls.take s.calls) && losslessFor r.g r.ty (written r.g.ch (sp.calls.take s.calls))) r.rb s.rb = true ∧
    snapShortOk r.g (framesAccepted r.g.ch (sp.calls.take s.calls)) s.rb = true := by
  unfold judgeSnap at h
  simp only at h
  split at h
  · exact absurd h (by simp)
  · rename_i hn
    simp only [List.append_eq_nil_iff, ite_nil_iff] at h
    obtain ⟨⟨⟨a, b⟩, c⟩, d⟩ := h
    exact ⟨by simpa using hn, a, b, c, d⟩

structure Accepted (r : Record) : Prop where
  complete : r.complete = true
  opened : r.one.openNull = false
  calls : ∀ c ∈ r.one.calls, c.ret = c.n
  closed : r.one.close = 0
  reopened : r.info.null = false
  info : infoOk r.g r.info = true
  rate : rateOk r.g.major r.g.sr r.info.sr = true
  frames : framesOk r.g (framesAccepted r.g.ch r.one.calls) r.info.frames = true
  eof : eofOk r.g r.info.frames r.rb = true
  roundtrip : roundtripOk r.g r.ty r.one.calls r.rb = true
  split : ∀ sp, r.split = some sp →
    sp.openNull = false ∧ handed sp.calls = handed r.one.calls ∧ (∀ c ∈ sp.calls, c.ret = c.n) ∧ partitionOk r.one sp = true ∧
    (snapScope r.g = true → ∀ i s, r.snaps[i]? = some s → judgeSnap r sp i s = [])
  stale : ∀ b, r.stale = some b → staleOk r.one b = true

theorem judgeReopen_nil_iff (r : Record) : judgeReopen r = [] ↔
    infoOk r.g r.info = true ∧ rateOk r.g.major r.g.sr r.info.sr = true ∧
    framesOk r.g (framesAccepted r.g.ch r.one.calls) r.info.frames = true ∧ eofOk r.g r.info.frames r.rb = true ∧
    roundtripOk r.g r.ty r.one.calls r.rb = true := by
  unfold judgeReopen
  simp only [List.append_eq_nil_iff, ite_nil_iff, and_assoc]

theorem judgeSplit_nil_iff (r : Record) (sp : Run) : judgeSplit r sp = [] ↔
    sp.openNull = false ∧ handed sp.calls = handed r.one.calls ∧ (∀ c ∈ sp.calls, c.ret = c.n) ∧ partitionOk r.one sp = true ∧
    (snapScope r.g = true → ∀ i s, r.snaps[i]? = some s → judgeSnap r sp i s = []) := by
  unfold judgeSplit
  rw [← firstBadCall_none_iff sp.calls 0]
  cases sp.openNull
  · by_cases hh : handed sp.calls = handed r.one.calls
    · cases firstBadCall 0 sp.calls <;> cases snapScope r.g <;> simp [hh, judgeSnaps_nil_iff]
    · simp [hh]
  · simp

theorem judge_nil_iff (r : Record) : judge r = [] ↔ Accepted r := by
  unfold judge
  cases hc : r.complete
  · exact ⟨fun h => by simp at h, fun a => by simpa [hc] using a.complete⟩
  by_cases ho : r.one.openNull = true
  · exact ⟨fun h => by simp [ho] at h, fun a => by simpa [ho] using a.opened⟩
  by_cases hn : r.info.null = true
  · exact ⟨fun h => by simp [ho, hn] at h, fun a => by simpa [hn] using a.reopened⟩
  simp only [Bool.not_true, Bool.false_eq_true, ho, hn, if_false, List.append_eq_nil_iff, ite_nil_iff,
    judgeReopen_nil_iff]
  rw [Bool.not_eq_true] at ho hn
  have hw := firstBadCall_none_iff r.one.calls 0
  constructor
  · rintro ⟨⟨⟨h1, hcl⟩, ⟨a, b, c, d, e⟩, hsp⟩, hst⟩
    refine ⟨hc, ho, hw.1 ?_, beq_iff_eq.1 hcl, hn, a, b, c, d, e, fun sp hs => ?_, fun b hb => ?_⟩
    · cases hf : firstBadCall 0 r.one.calls with
      | none => rfl
      | some k => rw [hf] at h1; cases h1
    · rw [hs] at hsp; exact (judgeSplit_nil_iff r sp).1 hsp
    · rw [hb] at hst; exact (ite_nil_iff _ _).1 hst
  · intro a
    refine ⟨⟨⟨by rw [hw.2 a.calls], beq_iff_eq.2 a.closed⟩, ⟨a.info, a.rate, a.frames, a.eof, a.roundtrip⟩, ?_⟩, ?_⟩
    · cases hs : r.split with
      | none => rfl
      | some sp => exact (judgeSplit_nil_iff r sp).2 (a.split sp hs)
    · cases hb : r.stale with
      | none => rfl
      | some b => exact (ite_nil_iff _ _).2 (a.stale b hb)

theorem accepted_meaning (r : Record) (h : accepted r = true) : Accepted r :=
  (judge_nil_iff r).1 (by simpa [accepted] using h)

end Sf.AbsWrite
