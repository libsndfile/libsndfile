/-
  SfProofs.WveImage — `Sf.Wve.parse` on the images the WVE writer leaves in the store.
-/
import SfModel.Wve
import SfProofs.Small2Session
namespace Sf.Wve
open Sf Sf.Small2

theorem lawful : Lawful fmt where
  hlen := by intro f; simp [fmt, hdr, magic]
  hindep := by intro n f g; rfl

theorem guess_magic (r : List Byte) : guess (magic ++ r) = some (.fmt 0x190000) := by rfl

theorem parse_image (x : List Byte) (hx : x.length = 16) (data : List Byte) :
    parse (magic ++ x ++ data) = .ok { ch := 1, fmt := 0x190011, sr := 8000, frames := data.length } := by
  have hlen : (magic ++ x ++ data).length = 32 + data.length := by simp [magic, hx]; omega
  have e : magic ++ x ++ data = magic ++ (x ++ data) := by simp
  unfold parse
  rw [hlen, if_neg (by omega), e, guess_magic]
  have hm : ¬ ((List.drop 12 (magic ++ (x ++ data))).take 4 ≠ [0x65, 0x2A, 0x2A, 0]) := by
    intro h; apply h; rfl
  simp only []
  rw [if_neg hm]
  have := framesOf_nat 32 data.length 1 (by decide)
  simp only [Nat.div_one] at this
  rw [show ((32 : Int)) = ((32 : Nat) : Int) from rfl, show ((1 : Int)) = ((1 : Nat) : Int) from rfl, this]

end Sf.Wve
