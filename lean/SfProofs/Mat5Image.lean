/-
  SfProofs.Mat5Image — `Sf.Mat5.parse` (mat5_read_header over the header cache) on the images the MAT5 writer leaves
  in the store: the reader is followed front to back with a cursor (SfProofs/HdrReadLemmas.lean), each step returning what it
  read and the cursor behind it, as for CAF and W64.
-/
import SfModel.Mat5
import SfProofs.Mat4Image
import SfProofs.HdrReadLemmas
namespace Sf.Mat5
open Sf Sf.Small2 Sf.HdrRd Sf.Cursor
open Sf.Mat4 (w32 r32 w32_length r32_w32)

theorem Cfg.wf.text_len {c : Cfg} (h : c.wf) : c.text.length = 124 := by
  obtain ⟨_, _, _, _, _, _, ht, _⟩ := h; exact ht

theorem w16_length (l : Bool) (v : Int) : (w16 l v).length = 2 := by cases l <;> simp [w16]
theorem marker_length (l : Bool) : (marker l).length = 2 := by cases l <;> rfl
theorem r16_w16 (l : Bool) (v : Int) : r16 l (w16 l v) = wrapU 16 v := by
  cases l <;> simp [r16, w16, ofLE_le16, ofBE_be16]

theorem rateElem_length (l : Bool) (sr : Nat) : (rateElem l sr).length = 8 := by
  unfold rateElem; split <;> simp [w32_length, w16_length]

theorem verMark_length (l : Bool) : (verMark l).length = 4 := by simp [verMark, w16_length, marker_length]

theorem mxFields_sum (l : Bool) (a b c : Int) : (List.map List.length (mxFields l a b c)).sum = 44 := by
  simp [mxFields, w32_length]

theorem hdrA_length (c : Cfg) : (hdrA c).length = 76 := by
  simp [hdrA, w32_length, verMark_length, mxFields_sum, rateElem_length, srName]

theorem hdrB_length (c : Cfg) (f : Fields) : (hdrB c f).length = 64 := by
  simp [hdrB, w32_length, mxFields_sum, wdName]

theorem hdr_length (c : Cfg) (ht : c.text.length = 124) (f : Fields) : (hdr c f).length = 264 := by
  simp [hdr, hdrA_length, hdrB_length, ht]

theorem marker_be (l : Bool) : ofBE (marker l) = if l then 0x494D else 0x4D49 := by cases l <;> decide

/-- guess_file_type on anything that starts with "MATLAB 5" -/
theorem guess_matlab (X : List Byte) :
    guess (0x4D :: 0x41 :: 0x54 :: 0x4C :: 0x41 :: 0x42 :: 0x20 :: 0x35 :: X) = some (.fmt 0x0D0000) := by
  rfl

theorem lawful (c : Cfg) (ht : c.text.length = 124) : Lawful (fmt c) where
  hlen := by intro f; exact hdr_length c ht f
  hindep := by intro n f g; rfl

theorem codecOf_encoding (codec : Nat) (hc : codec = 5 ∨ codec = 2 ∨ codec = 4 ∨ codec = 6 ∨ codec = 7) :
    codecOf (encoding codec) = some (codec, bytewidth codec) := by
  rcases hc with h | h | h | h | h <;> subst h <;> decide

theorem bytewidth_pos (codec : Nat) : 0 < bytewidth codec := by
  unfold bytewidth; split <;> (try split) <;> (try split) <;> omega

theorem encoding_lt (codec : Nat) : encoding codec < 10 := by
  unfold encoding; split <;> (try split) <;> (try split) <;> (try split) <;> omega

/-- the rate element at offset 192: its two words, and `rate` of `readHeader` on them (for the 16-bit form after a second look at
    bytes 196, 197) -/
theorem rate_read (l : Bool) (sr : Nat) (hsr2 : sr ≤ 0x7FFFFFFF) {rest bs : List Byte} (hd : bs.drop 192 = rateElem l sr ++ rest) :
    ∃ ty size : List Byte, rdSeq bs [4, 4] (.at 192) = ([ty, size], .at 200) ∧ bs.drop 200 = rest ∧
      (if r32 l ty = 9 then some (rateOfDouble l (rdRaw bs (.at 200) 8).fst, (rdRaw bs (.at 200) 8).snd)
       else if r32 l ty = 0x00020004 then
         some (((r16 l (rdRaw bs (skip bs (.at 200) (-4)) 2).fst : Nat) : Int), skip bs (rdRaw bs (skip bs (.at 200) (-4)) 2).snd 2)
       else if r32 l ty = 0x00040006 then some (sext 32 (r32 l size), .at 200) else none) = some ((sr : Int), .at 200) := by
  by_cases hs : sr > 0xFFFF
  · have hd2 : bs.drop 192 = [w32 l 0x00040006, w32 l sr].flatten ++ rest := by rw [hd]; simp [rateElem, hs]
    obtain ⟨s, d⟩ := rdSeq_next (ns := [4, 4]) (L := 8) _ hd2 (by simp [w32_length]) (by simp [w32_length]) (by omega)
    refine ⟨_, _, s, d, ?_⟩
    rw [r32_w32, r32_w32, wrapU_of_lt 32 sr (by omega), sext_of_lt 32 sr (by omega), show wrapU 32 0x00040006 = 0x00040006 by decide,
      if_neg (by decide), if_neg (by decide), if_pos rfl]
  · have hd2 : bs.drop 192 = [w32 l 0x00020004, w16 l sr ++ w16 l 0].flatten ++ rest := by rw [hd]; simp [rateElem, hs]
    obtain ⟨s, d⟩ := rdSeq_next (ns := [4, 4]) (L := 8) _ hd2 (by simp [w32_length, w16_length]) (by simp [w32_length, w16_length]) (by omega)
    refine ⟨_, _, s, d, ?_⟩
    have hsk : skip bs (.at 200) (-4) = ⟨196, 200, false⟩ := by unfold skip; simp
    -- the re-read lies inside the cache: the prefix form with 200 bytes cached
    have d196 : bs.drop (192 + 4) = w16 l sr ++ (w16 l 0 ++ rest) := drop_at (x := w32 l 0x00020004) (by rw [hd]; simp [rateElem, hs]) (w32_length _ _)
    obtain ⟨hb, hp⟩ := split_at d196 (by simp only [List.length_append, w16_length]; omega)
    have := rdRaw_at (e := 200) hb (w16_length l sr).symm
    rw [hp] at this
    have hl := congrArg List.length hb
    simp only [List.length_append, hp, w16_length] at hl
    have hfw : skip bs ⟨198, 200, false⟩ 2 = .at 200 := by
      have := skip_fwd bs 198 200 2 (by omega) (by omega)
      simpa using this
    rw [r32_w32, show wrapU 32 0x00020004 = 0x00020004 by decide, if_neg (by decide), if_pos rfl, hsk, this, r16_w16, wrapU_of_lt 16 sr (by omega)]
    exact congrArg (fun r => some ((sr : Int), r)) hfw

theorem fields11 (l : Bool) (a b c : Int) {rest bs : List Byte} {k : Nat} (hd : bs.drop k = (mxFields l a b c).flatten ++ rest) :
    rdSeq bs [4, 4, 4, 4, 4, 4, 4, 4, 4, 4, 4] (.at k) = (mxFields l a b c, .at (k + 44)) ∧ bs.drop (k + 44) = rest :=
  rdSeq_next _ hd (by simp [mxFields, w32_length]) (List.length_flatten.trans (mxFields_sum l a b c)) (by omega)

/-- a name sub-element of type miINT8: size word, `n` bytes, padding to a multiple of 8 -/
theorem name_read (l : Bool) (n p : Nat) (name pad : List Byte) (hn : name.length = n) (hpad : pad.length = p) (hn31 : n ≤ 31) (hn0 : 0 < n)
    (hpp : p = (8 - n % 8) % 8) {rest bs : List Byte} {k : Nat} (hd : bs.drop k = w32 l n ++ (name ++ (pad ++ rest))) :
    readName bs l 1 (.at k) = some (.at (k + 4 + n + p)) ∧ bs.drop (k + 4 + n + p) = rest := by
  have d4 := drop_at hd (w32_length l n)
  refine ⟨?_, drop_at (drop_at d4 hn) hpad⟩
  have hlen : k + 4 + n + p ≤ bs.length := by
    have := congrArg List.length hd; simp only [List.length_drop, List.length_append, hpad, hn, w32_length] at this; omega
  unfold readName
  rw [if_pos rfl, rdRaw_drop hd (w32_length l n) (by omega)]
  simp only [r32_w32, wrapU_of_lt 32 n (show n < 2 ^ 32 by omega), if_neg (show ¬ n > 31 by omega)]
  rw [rdRaw_drop d4 hn hn0, ← hpp, skip_at bs _ p hlen]

theorem finish_image (c : Cfg) (hc : c.codec = 5 ∨ c.codec = 2 ∨ c.codec = 4 ∨ c.codec = 6 ∨ c.codec = 7) (hch1 : 1 ≤ c.ch) (hch2 : c.ch ≤ 1024)
    (hsr1 : 1 ≤ c.sr) (cols : Nat) (bs : List Byte) (D : Nat) (hlen : bs.length = 264 + D) (l : Bool) (hl : c.little = l) :
    finish bs l (wrapU 32 c.ch) cols (wrapU 32 (encoding c.codec)) c.sr ⟨264, 264, false⟩ =
      .ok { ch := c.ch, fmt := c.fmtWord, sr := c.sr, frames := D / c.bw } := by
  have hbw : 0 < c.bw := Nat.mul_pos (bytewidth_pos _) hch1
  unfold finish
  rw [wrapU_of_lt 32 c.ch (by omega), wrapU_of_lt 32 (encoding c.codec) (by have := encoding_lt c.codec; omega), codecOf_encoding _ hc,
    sext_of_lt 32 c.ch (by omega), ftell_ok, hlen]
  have h1 : ¬ (c.ch = 0 ∧ cols = 0) := by omega
  have h2 : ¬ (((c.ch : Nat) : Int) < 1 ∨ ((c.ch : Nat) : Int) > 1024 ∨ ((c.sr : Nat) : Int) < 1) := by omega
  simp only [h1, h2, if_false]
  have hbwi : ((bytewidth c.codec : Nat) : Int) * ((c.ch : Nat) : Int) = ((c.bw : Nat) : Int) := by unfold Cfg.bw; push_cast; rfl
  rw [hbwi, framesOf_nat 264 D c.bw hbw]
  simp [Cfg.fmtWord, hl]

/-- **mat5_read_header on a writer image**: whatever the frames field says, the file re-opens with the frames its
    length holds (the reader ignores every size field) -/
theorem parse_image (c : Cfg) (hwf : c.wf) (f : Fields) (data : List Byte) :
    parse (hdr c f ++ data) = .ok { ch := c.ch, fmt := c.fmtWord, sr := c.sr, frames := data.length / c.bw } := by
  obtain ⟨hc, _, hch1, hch2, hsr1, hsr2, ht, h8, hz⟩ := hwf
  have hlen : (hdr c f ++ data).length = 264 + data.length := by simp [hdr_length c ht]
  have hg : guess (hdr c f ++ data) = some (.fmt 0x0D0000) := by
    rw [hdr, ← List.take_append_drop 8 c.text, h8]; exact guess_matlab _
  generalize hbs : hdr c f ++ data = bs at hlen hg ⊢
  obtain ⟨l, hl⟩ : ∃ l, c.little = l := ⟨_, rfl⟩
  have e0 : bs = c.text ++ ([w16 l 0x0100, marker l].flatten ++ ((mxFields l 64 1 1).flatten ++ (w32 l 10 ++ (srName.take 10 ++ (srName.drop 10 ++
      (rateElem l c.sr ++ ((mxFields l (datasize c f + 64) c.ch f.frames).flatten ++ (w32 l 8 ++ (wdName ++ ([] ++
      ([w32 l (encoding c.codec), w32 l (dataField c f)].flatten ++ data))))))))))) := by
    rw [← hbs, ← hl]; simp [hdr, hdrA, hdrB, verMark, srName]
  -- the reader, field by field: each step returns what it read and the cursor behind it
  have s1 : rdRaw bs {} 124 = (c.text, .at 124) := by
    have := rdRaw_at (pre := []) (e := 12) e0 ht.symm
    simpa using this
  obtain ⟨s2, d2⟩ := rdSeq_next (ns := [2, 2]) (L := 4) _ (drop_at (drop_zero e0) ht) (by simp [w16_length, marker_length])
    (by simp [w16_length, marker_length]) (by omega)
  obtain ⟨s3, d3⟩ := fields11 l 64 1 1 d2
  obtain ⟨s4, d4⟩ := name_read l 10 6 _ _ rfl rfl (by omega) (by omega) rfl d3
  obtain ⟨ty, size, s5, d5, s6⟩ := rate_read l c.sr hsr2 d4
  obtain ⟨s7, d7⟩ := fields11 l (datasize c f + 64) c.ch f.frames d5
  obtain ⟨s8, d8⟩ := name_read l 8 0 wdName [] rfl rfl (by omega) (by omega) rfl d7
  obtain ⟨s9, _⟩ := rdSeq_next (ns := [4, 4]) (L := 8) _ d8 (by simp [w32_length]) (by simp [w32_length]) (by omega)
  unfold parse
  rw [if_neg (by omega), hg]
  simp only []
  unfold readHeader
  simp only [s1]
  rw [if_neg (fun h => h hz)]
  simp only [s2, List.getD_cons_succ, List.getD_cons_zero, marker_be]
  have hd : decide ((if l = true then 0x494D else 0x4D49) = 0x494D) = l := by cases l <;> rfl
  have hne : ¬ ((if l = true then 0x494D else 0x4D49) ≠ 0x4D49 ∧ (if l = true then 0x494D else 0x4D49) ≠ 0x494D) := by cases l <;> simp
  rw [if_neg hne]
  simp only [hd, s3, mxFields, List.getD_cons_succ, List.getD_cons_zero, r32_w32]
  have w14 : wrapU 32 14 = 14 := by decide
  have w6 : wrapU 32 6 = 6 := by decide
  have w5 : wrapU 32 5 = 5 := by decide
  have w1 : wrapU 32 1 = 1 := by decide
  simp only [Nat.reduceAdd] at s4 s8 s3 s7 s5 s9
  simp only [w14, w6, w5, w1, Nat.reduceAdd, s4, ne_eq, not_true_eq_false, if_false, and_self, decide_true, Bool.not_true, Bool.false_eq_true,
    s5, List.getD_cons_succ, List.getD_cons_zero]
  simp only [s6, s7, mxFields, List.getD_cons_succ, List.getD_cons_zero, r32_w32, w14, w6, w5, w1, not_true_eq_false, if_false, s8, s9]
  exact finish_image c hc hch1 hch2 hsr1 _ bs data.length hlen l hl

end Sf.Mat5
