/-
  `groups n l` (SfModel/Basic.lean, fuel based): the consecutive blocks of `n` elements of a list. Its recursion
  equations, length, the append / take / drop / flatten laws, `groups` of a `flatMap` of fixed-width pieces.
  Every frame view of a data section (`Enc.decodeAll`, the RDWR abstraction, the block codecs) goes through these.
-/
import SfModel.Basic
namespace Sf

theorem groupsAux_fuel {α} (n : Nat) (hn : 0 < n) :
    ∀ (f1 f2 : Nat) (l : List α), l.length ≤ f1 → l.length ≤ f2 → groupsAux n f1 l = groupsAux n f2 l := by
  intro f1
  induction f1 with
  | zero =>
    intro f2 l h1 h2
    have hl : l = [] := List.eq_nil_of_length_eq_zero (by omega)
    subst hl
    cases f2 with
    | zero => rfl
    | succ f2 =>
      simp only [groupsAux, List.take_nil, List.length_nil]
      rw [if_pos (Or.inl hn)]
  | succ f1 ih =>
    intro f2 l h1 h2
    cases f2 with
    | zero =>
      have hl : l = [] := List.eq_nil_of_length_eq_zero (by omega)
      subst hl
      simp only [groupsAux, List.take_nil, List.length_nil]
      rw [if_pos (Or.inl hn)]
    | succ f2 =>
      simp only [groupsAux]
      by_cases hc : (List.take n l).length < n ∨ n = 0
      · rw [if_pos hc, if_pos hc]
      · rw [if_neg hc, if_neg hc]
        have hlen : n ≤ l.length := by
          simp only [List.length_take, not_or] at hc
          omega
        have hd : (l.drop n).length ≤ f1 ∧ (l.drop n).length ≤ f2 := by
          simp only [List.length_drop]; omega
        rw [ih f2 (l.drop n) hd.1 hd.2]

theorem groups_short {α} (n : Nat) (l : List α) (h : l.length < n) : groups n l = [] := by
  unfold groups
  cases hl : l.length with
  | zero => rfl
  | succ k =>
    simp only [groupsAux]
    rw [if_pos]
    left
    simp only [List.length_take]; omega

theorem groups_zero {α} (l : List α) : groups 0 l = [] := by
  unfold groups
  cases hl : l.length with
  | zero => rfl
  | succ k => simp [groupsAux]

theorem groups_cons {α} (n : Nat) (hn : 0 < n) (l : List α) (h : n ≤ l.length) :
    groups n l = l.take n :: groups n (l.drop n) := by
  unfold groups
  cases hl : l.length with
  | zero => omega
  | succ k =>
    simp only [groupsAux]
    rw [if_neg]
    · congr 1
      apply groupsAux_fuel n hn
      · simp only [List.length_drop]; omega
      · exact Nat.le_refl _
    · simp only [List.length_take, not_or]; omega

theorem groups_length' {α} (n : Nat) (hn : 0 < n) (l : List α) : (groups n l).length = l.length / n := by
  induction hk : l.length / n generalizing l with
  | zero => rw [groups_short n l ((Nat.div_eq_zero_iff_lt hn).mp hk)]; rfl
  | succ k ih =>
    have hge : n ≤ l.length := Nat.le_of_not_lt fun hc => by rw [Nat.div_eq_of_lt hc] at hk; cases hk
    rw [groups_cons n hn l hge, List.length_cons, ih]
    rw [List.length_drop]
    have := Nat.div_eq_sub_div hn hge
    omega

theorem groups_length_mul {α} (n : Nat) (hn : 0 < n) (k : Nat) (l : List α) (h : l.length = k * n) : (groups n l).length = k := by
  rw [groups_length' n hn, h, Nat.mul_div_cancel _ hn]

theorem groups_append {α} (n : Nat) (hn : 0 < n) :
    ∀ (k : Nat) (x y : List α), x.length = k * n → groups n (x ++ y) = groups n x ++ groups n y := by
  intro k
  induction k with
  | zero =>
    intro x y h
    have hx : x = [] := List.eq_nil_of_length_eq_zero (by omega)
    subst hx
    rw [groups_short n [] (by simpa using hn)]; rfl
  | succ k ih =>
    intro x y h
    have hxn : n ≤ x.length := by rw [h, Nat.succ_mul]; omega
    have hxy : n ≤ (x ++ y).length := by rw [List.length_append]; omega
    rw [groups_cons n hn x hxn, groups_cons n hn (x ++ y) hxy]
    rw [List.take_append_of_le_length hxn, List.drop_append_of_le_length hxn]
    rw [ih (x.drop n) y (by rw [List.length_drop, h, Nat.succ_mul]; omega)]
    rfl

theorem groups_split {α} (n : Nat) (hn : 0 < n) (k : Nat) (l : List α) (hl : k * n ≤ l.length) :
    groups n l = groups n (l.take (k * n)) ++ groups n (l.drop (k * n)) ∧ (groups n (l.take (k * n))).length = k := by
  have ht : (l.take (k * n)).length = k * n := List.length_take_of_le hl
  refine ⟨?_, groups_length_mul n hn k _ ht⟩
  rw [← groups_append n hn k _ _ ht, List.take_append_drop]

theorem groups_drop {α} (n : Nat) (hn : 0 < n) (k : Nat) (l : List α) :
    groups n (l.drop (k * n)) = (groups n l).drop k := by
  by_cases hl : k * n ≤ l.length
  · obtain ⟨e, hk⟩ := groups_split n hn k l hl
    rw [e, List.drop_left' hk]
  · have : l.length / n < k := (Nat.div_lt_iff_lt_mul hn).mpr (by omega)
    rw [List.drop_eq_nil_of_le (by omega), List.drop_eq_nil_of_le (by rw [groups_length' n hn]; omega)]
    exact groups_short n [] hn

theorem groups_take' {α} (n : Nat) (hn : 0 < n) (m : Nat) (l : List α) :
    groups n (l.take m) = (groups n l).take (m / n) := by
  by_cases hl : m ≤ l.length
  · have hkm : m / n * n ≤ m := Nat.div_mul_le_self m n
    obtain ⟨e, hk⟩ := groups_split n hn (m / n) l (by omega)
    -- `l.take m` is the first `m / n` groups and a remainder shorter than a group
    have e1 : l.take m = l.take (m / n * n) ++ (l.drop (m / n * n)).take (m % n) := by
      rw [← List.take_add, Nat.div_add_mod']
    have hrem : ((l.drop (m / n * n)).take (m % n)).length < n := by
      rw [List.length_take]; exact Nat.lt_of_le_of_lt (Nat.min_le_left _ _) (Nat.mod_lt m hn)
    rw [e1, groups_append n hn (m / n) _ _ (List.length_take_of_le (by omega)), groups_short n _ hrem, List.append_nil,
      e, List.take_left' hk]
  · rw [List.take_of_length_le (by omega), List.take_of_length_le]
    rw [groups_length' n hn]
    exact Nat.div_le_div_right (by omega)

theorem groupsAux_flatten {α} (n : Nat) (hn : 0 < n) :
    ∀ (xs : List (List α)) (fuel : Nat), (∀ x ∈ xs, x.length = n) → xs.length ≤ fuel →
      groupsAux n fuel xs.flatten = xs := by
  intro xs
  induction xs with
  | nil =>
    intro fuel _ _
    cases fuel with
    | zero => rfl
    | succ f => simp [groupsAux]
  | cons x xs ih =>
    intro fuel hx hf
    cases fuel with
    | zero => simp at hf
    | succ f =>
      have hxl : x.length = n := hx x (by simp)
      have htake : (x ++ xs.flatten).take n = x := by
        rw [← hxl]; simp
      have hdrop : (x ++ xs.flatten).drop n = xs.flatten := by
        rw [← hxl]; simp
      simp only [List.flatten_cons, groupsAux, htake, hdrop]
      have : ¬ (x.length < n ∨ n = 0) := by omega
      rw [if_neg this, ih f (fun y hy => hx y (by simp [hy])) (by simpa using hf)]

theorem groups_flatten {α} (n : Nat) (hn : 0 < n) (xs : List (List α)) (h : ∀ x ∈ xs, x.length = n) :
    groups n xs.flatten = xs := by
  unfold groups
  apply groupsAux_flatten n hn xs _ h
  have : xs.flatten.length = n * xs.length := by
    induction xs with
    | nil => simp
    | cons x xs ih =>
      simp only [List.flatten_cons, List.length_append, List.length_cons]
      rw [ih (fun y hy => h y (by simp [hy])), h x (by simp), Nat.mul_add]; omega
  rw [this]
  exact Nat.le_mul_of_pos_left _ hn

theorem groups_flatMap {α β} (n : Nat) (hn : 0 < n) (f : β → List α) (vs : List β)
    (h : ∀ v ∈ vs, (f v).length = n) : groups n (vs.flatMap f) = vs.map f := by
  rw [List.flatMap_def]
  apply groups_flatten n hn
  intro x hx
  simp only [List.mem_map] at hx
  obtain ⟨v, hv, rfl⟩ := hx
  exact h v hv

theorem groups_replicate {α} (n : Nat) (hn : 0 < n) (z : α) :
    ∀ k : Nat, groups n (List.replicate (k * n) z) = List.replicate k (List.replicate n z) := by
  intro k
  induction k with
  | zero => simp [groups_short n ([] : List α) (by simpa using hn)]
  | succ k ih =>
    have e : List.replicate ((k + 1) * n) z = List.replicate n z ++ List.replicate (k * n) z := by
      rw [Nat.succ_mul, Nat.add_comm, List.replicate_append_replicate]
    rw [e, groups_append n hn 1 _ _ (by simp), ih, List.replicate_succ]
    congr 1
    rw [groups_cons n hn _ (by simp)]
    simp [groups_short n ([] : List α) (by simpa using hn)]

theorem groups_join {α} (n : Nat) (hn : 0 < n) :
    ∀ (k : Nat) (l : List α), l.length = k * n → (groups n l).flatten = l := by
  intro k
  induction k with
  | zero =>
    intro l h
    have : l = [] := List.eq_nil_of_length_eq_zero (by omega)
    subst this; simp [groups_short n ([] : List α) (by simpa using hn)]
  | succ k ih =>
    intro l h
    have hle : n ≤ l.length := by rw [h, Nat.succ_mul]; omega
    rw [groups_cons n hn l hle, List.flatten_cons, ih (l.drop n) (by rw [List.length_drop, h, Nat.succ_mul]; omega)]
    exact List.take_append_drop n l

theorem groups_mem_length {α} (n : Nat) (hn : 0 < n) :
    ∀ (k : Nat) (l : List α), l.length / n = k → ∀ g ∈ groups n l, g.length = n := by
  intro k
  induction k with
  | zero =>
    intro l h g hg
    have : l.length < n := by
      rcases Nat.div_eq_zero_iff.mp h with h | h <;> omega
    rw [groups_short n l this] at hg; simp at hg
  | succ k ih =>
    intro l h g hg
    have hle : n ≤ l.length := by
      apply Nat.le_of_not_lt
      intro hc
      have : l.length / n = 0 := Nat.div_eq_of_lt hc
      omega
    rw [groups_cons n hn l hle, List.mem_cons] at hg
    rcases hg with hg | hg
    · rw [hg, List.length_take]; omega
    · refine ih (l.drop n) ?_ g hg
      rw [List.length_drop]
      have := Nat.div_eq_sub_div hn hle
      omega

theorem slice_length {α} (D : List α) (n F R k : Nat) (hD : D.length = F * n) :
    ((D.drop (R * n)).take (k * n)).length = min k (F - R) * n := by
  rw [List.length_take, List.length_drop, hD, ← Nat.sub_mul, Nat.mul_min_mul_right]

theorem groups_slice {α} (n : Nat) (hn : 0 < n) (D : List α) (R k : Nat) :
    ((groups n D).drop R).take k = groups n ((D.drop (R * n)).take (k * n)) := by
  rw [groups_take' _ hn, Nat.mul_div_cancel _ hn, groups_drop _ hn]

theorem groups_mem_sub {α} (n : Nat) (hn : 0 < n) (l : List α) (hl : l.length % n = 0) :
    ∀ g ∈ groups n l, ∀ v ∈ g, v ∈ l := by
  intro g hg v hv
  have hdl : l.length = l.length / n * n := by
    have := Nat.div_add_mod l.length n
    rw [hl, Nat.mul_comm] at this; omega
  have hj : (groups n l).flatten = l := groups_join _ hn _ _ hdl
  rw [← hj]
  exact List.mem_flatten.mpr ⟨g, hg, hv⟩

end Sf
