/-
  Helper lemmas about SfModel.Command (C17): the pieces `sf_command` is assembled from stay inside
  [0, datasize) under the hypotheses their call sites establish, and the pieces a query reaches hand the handle back.
  The arms of `run` for the two CALC pairs stand as closed terms (C17Routes and C09CmdFail split cases on them).
-/
import SfModel.Command
namespace Sf.Command

/-- a result is fine: all ranges inside [0,size), NULL not dereferenced, return value defined -/
def Res.ok (r : Res) (size : Nat) : Prop := r.inBounds size = true ∧ r.retDefined = true

theorem rd32_lt (m : Nat → Nat) (o : Nat) : rd32 m o < 2 ^ 32 := by
  unfold rd32
  have h0 := Nat.mod_lt (m o) (by decide : 256 > 0)
  have h1 := Nat.mod_lt (m (o + 1)) (by decide : 256 > 0)
  have h2 := Nat.mod_lt (m (o + 2)) (by decide : 256 > 0)
  have h3 := Nat.mod_lt (m (o + 3)) (by decide : 256 > 0)
  have : (2 : Nat) ^ 32 = 4294967296 := by decide
  omega

theorem crlfEnd_bounds (m : Nat → Nat) (n i room : Nat) : i ≤ crlfEnd m n i room ∧ crlfEnd m n i room ≤ i + n := by
  fun_induction crlfEnd m n i room <;> omega

theorem chanExamined_le (m : Nat → Nat) (n k : Nat) : chanExamined m n k ≤ n := by
  induction n generalizing k with
  | zero => simp [chanExamined]
  | succ n ih =>
    simp only [chanExamined]
    split
    · omega
    · have := ih (k + 1); omega

theorem stringOut_ok (l size : Nat) (data : Option Mem) (h : Option H) (e : Option Nat) (r : Int) :
    (stringOut l size data h e r).ok size := by
  unfold stringOut Res.ok Res.inBounds Res.retDefined
  cases data with
  | none => simp
  | some m =>
    by_cases hs : size = 0
    · simp [hs]
    · simp [hs, rangeIn]
      omega

theorem guardEq_ok (want size : Nat) (data : Option Mem) (h : Option H) (fr : Int) (fe : Option Nat) (k : Mem → Res)
    (hk : ∀ m, data = some m → size = want → (k m).ok size) : (guardEq want size data h fr fe k).ok size := by
  unfold guardEq
  cases data with
  | none => simp [Res.ok, Res.inBounds, Res.retDefined]
  | some m =>
    by_cases hw : size = want
    · simp [hw]; exact hw ▸ hk m rfl hw
    · simp [hw, Res.ok, Res.inBounds, Res.retDefined]

theorem guardEq_pass (want : Nat) (m : Mem) (sh : Option H) (fr : Int) (fe : Option Nat) (k : Mem → Res) :
    guardEq want want (some m) sh fr fe k = k m := if_neg fun hne => hne rfl

/-- the guard `data == NULL || datasize != want` answers SFE_BAD_PARAM: a 0 comes from behind it -/
theorem guardEq_zero {want size : Nat} {data : Option Mem} {sh : Option H} {fe : Option Nat} {k : Mem → Res}
    (h0 : (guardEq want size data sh eBadParam fe k).ret = .exact 0) :
    ∃ m, size = want ∧ guardEq want size data sh eBadParam fe k = k m := by
  cases data with
  | none => cases h0
  | some m =>
    by_cases hsz : size = want
    · subst hsz
      exact ⟨m, rfl, guardEq_pass _ _ _ _ _ _⟩
    · rw [show guardEq want size (some m) sh eBadParam fe k = _ from if_pos hsz] at h0
      cases h0

theorem varGet_ok (s : Option Nat) (h : H) (size : Nat) (data : Option Mem) : (varGet s h size data).ok size := by
  unfold varGet Res.ok Res.inBounds Res.retDefined
  cases data <;> cases s <;> simp [rangeIn]
  omega

theorem lateVar_ok (late : Bool) (r : Res) (size : Nat) (h : r.ok size) : (lateVar late r).ok size := by
  unfold lateVar
  split
  · split
    · obtain ⟨hb, _⟩ := h
      exact ⟨by simpa [Res.inBounds] using hb, by simp [Res.retDefined]⟩
    · exact h
  · exact h

theorem varSet_ok (sizeOff fixed cap eS eB : Nat) (h h2 : H) (size : Nat) (data : Option Mem)
    (hoff : sizeOff + 4 ≤ fixed) : (varSet sizeOff fixed cap eS eB h size data h2).ok size := by
  unfold varSet
  cases data with
  | none => simp [Res.ok, Res.inBounds, Res.retDefined]
  | some m =>
    simp only
    split
    · simp [Res.ok, Res.inBounds, Res.retDefined]
    · split
      · simp [Res.ok, Res.inBounds, Res.retDefined, rangeIn]; omega
      · split
        · simp [Res.ok, Res.inBounds, Res.retDefined, rangeIn]; omega
        · have hb := crlfEnd_bounds m.byte (size - fixed) fixed (cap - fixed - 2)
          simp [Res.ok, Res.inBounds, Res.retDefined, rangeIn]
          omega

theorem ite_ok {c : Prop} [Decidable c] {a b : Res} {size : Nat} (ha : a.ok size) (hb : b.ok size) :
    (if c then a else b).ok size := by
  split <;> assumption

theorem ok_with_reads {r : Res} {size lo hi : Nat} (hr : r.ok size) (h1 : lo ≤ hi) (h2 : hi ≤ size) :
    ({ r with reads := [(lo, hi)] } : Res).ok size := by
  obtain ⟨hb, hd⟩ := hr
  simp only [Res.inBounds, Bool.and_eq_true] at hb
  refine ⟨?_, hd⟩
  simp [Res.inBounds, rangeIn, hb, h1, h2]

section
/- what "fine" means, unfolded by every `simp` up to `withHandle_ok` -/
attribute [local simp] Res.ok Res.inBounds Res.retDefined rangeIn

/-- none of the container handlers touches `data`: every answer is a plain return value -/
theorem containerCommand_ok (h : H) (cmd : Int) (size n : Nat) : (containerCommand h cmd size).ok n := by
  unfold containerCommand
  simp only []
  repeat' apply ite_ok
  all_goals exact ⟨rfl, rfl⟩

/- the leaves with arithmetic in them compare ranges with the sizes of the C types -/
attribute [local simp] szInfo szDouble szDither szCount szEmbed szLoop szInt szInstrument szCuePoint szFormatInfo

theorem formatIndexed_ok (count : Nat) (c : Bool) (size : Nat) (data : Option Mem) (h : Option H) :
    (formatIndexed count c size data h).ok size := by
  unfold formatIndexed
  apply guardEq_ok
  intro m _ hs
  simp only
  split <;> cases c <;> (simp at * <;> omega)

/-- one step down a chain of `if c then some a else …` that is known to answer `some r` -/
theorem ite_some {α : Type} {c : Prop} [Decidable c] {a r : α} {rest : Option α}
    (h : (if c then some a else rest) = some r) : (c ∧ r = a) ∨ (¬ c ∧ rest = some r) := by
  by_cases hc : c
  · rw [if_pos hc] at h; exact Or.inl ⟨hc, (Option.some.inj h).symm⟩
  · rw [if_neg hc] at h; exact Or.inr ⟨hc, h⟩

theorem preHandle_ok (g : G) (h : Option H) (cmd : Int) (size : Nat) (data : Option Mem) (r : Res)
    (hr : preHandle g h cmd size data = some r) : r.ok size := by
  unfold preHandle at hr
  rcases ite_some hr with ⟨-, rfl⟩ | ⟨-, hr⟩
  · apply stringOut_ok
  rcases ite_some hr with ⟨-, rfl⟩ | ⟨-, hr⟩
  · apply guardEq_ok; intro m _ hs
    simp [hs]
  rcases ite_some hr with ⟨-, rfl⟩ | ⟨-, hr⟩
  · apply formatIndexed_ok
  rcases ite_some hr with ⟨-, rfl⟩ | ⟨-, hr⟩
  · apply formatIndexed_ok
  rcases ite_some hr with ⟨-, rfl⟩ | ⟨-, hr⟩
  · apply formatIndexed_ok
  rcases ite_some hr with ⟨-, rfl⟩ | ⟨-, hr⟩
  · apply guardEq_ok; intro m _ hs
    (simp at * <;> omega)
  · cases hr

theorem ite_cond {cmd : Int} {c : Prop} [Decidable c] {a b : Cls} (ha : c → a.cond cmd) (hb : ¬ c → b.cond cmd) :
    (if c then a else b).cond cmd := by
  split
  · exact ha ‹_›
  · exact hb ‹_›

/-- every arm's condition is the very test that selects it -/
theorem classify_sound (cmd : Int) : (classify cmd).cond cmd := by
  unfold classify
  -- `by exact` so that the test is read off the goal before `hc` is looked at
  repeat' refine ite_cond (fun hc => by exact hc) fun _ => ?_
  trivial

/-- Arm by arm.  An answer that touches no memory is fine by computation (`⟨rfl, rfl⟩`); behind a size guard the
    ranges end at the size asked for (`guardEq_ok`). -/
theorem withHandle_ok (h : H) (cmd : Int) (size : Nat) (data : Option Mem) : (withHandle h cmd size data).ok size := by
  unfold withHandle
  cases classify cmd <;> simp only []
  case k1013 | k1012 | k1011 | k1010 | k1014 | k1015 | k1051 | k1060 | k1061 | k1070 | k10C0 | k10C1 | k1110 | k1050 | k6001 =>
    repeat' apply ite_ok
    all_goals exact ⟨rfl, rfl⟩
  case k1001 => apply stringOut_ok
  case k10F0 | k1401 => apply varGet_ok
  case other => apply containerCommand_ok
  case k1002 | k10B0 | k10A0 | k1040 | k1042 | k1044 | k1045 | k10E0 | k10D0 | k1090 =>
    apply guardEq_ok; intro _ _ hs
    repeat' apply ite_ok
    all_goals simp [hs]
  case k10D1 | k1100 =>
    apply ite_ok ⟨rfl, rfl⟩
    apply guardEq_ok; intro _ _ hs
    simp [hs]
  case k10CD =>
    apply guardEq_ok; intro _ _ hs
    cases h.cues <;> simp [hs]
  case k1080 =>
    apply ite_ok ⟨rfl, rfl⟩; apply ite_ok ⟨rfl, rfl⟩
    split
    · exact ⟨rfl, rfl⟩
    · next hs => cases data <;> simp [Decidable.not_not.mp hs]
  case k10F1 | k1400 =>
    refine ite_ok ⟨rfl, rfl⟩ (ite_ok ⟨rfl, rfl⟩ (ite_ok ⟨rfl, rfl⟩ ?_))
    apply lateVar_ok; apply varSet_ok; decide
  case k10CE =>
    cases data with
    | none => exact ⟨rfl, rfl⟩
    | some _ =>
      simp only []
      by_cases hsz : size < szInt
      · rw [if_pos hsz]; exact ⟨rfl, rfl⟩
      · rw [if_neg hsz]
        cases h.cues with
        | none => exact ⟨rfl, rfl⟩
        | some c => (simp at * <;> omega)
  case k10CF =>
    apply ite_ok ⟨rfl, rfl⟩
    cases data with
    | none => exact ⟨rfl, rfl⟩
    | some m =>
      simp only []
      by_cases hsz : size < szInt
      · rw [if_pos hsz]; exact ⟨rfl, rfl⟩
      · rw [if_neg hsz]
        split <;> (simp at * <;> omega)
  case k1101 =>
    unfold chmapSet
    apply ite_ok ⟨rfl, rfl⟩
    apply guardEq_ok; intro m _ hs
    have hle := chanExamined_le m.byte h.channels 0
    simp only [Bool.false_eq_true, if_false]
    repeat' apply ite_ok
    all_goals (simp at * <;> omega)
  case k1300 =>
    apply guardEq_ok; intro _ _ hs
    exact ok_with_reads (containerCommand_ok ..) (Nat.zero_le _) (Nat.le_of_eq hs.symm)

end

theorem stringOut_terminates (l size : Nat) (m : Mem) (h : Option H) (e : Option Nat) (r : Int) (hs : 1 ≤ size) :
    (stringOut l size (some m) h e r).terminates size = true := by
  have : size ≠ 0 := by omega
  simp [stringOut, this, Res.terminates]
  omega

theorem sameState_self (a : Option H) : sameState a a = true := by simp [sameState]

theorem pure_of_eq {r : Res} {h : H} (hr : r.h' = some h) : sameState r.h' (some h) = true :=
  hr ▸ sameState_self _

theorem guardEq_h' {want size : Nat} {data : Option Mem} {h : Option H} {fr : Int} {fe : Option Nat} {k : Mem → Res}
    (hk : ∀ m, (k m).h' = h) : (guardEq want size data h fr fe k).h' = h := by
  unfold guardEq
  cases data with
  | none => rfl
  | some m =>
    simp only []
    split
    · rfl
    · exact hk m

theorem stringOut_h' (l size : Nat) (data : Option Mem) (h : Option H) (e : Option Nat) (r : Int) :
    (stringOut l size data h e r).h' = h := by
  unfold stringOut
  cases data with
  | none => rfl
  | some m => simp only []; split <;> rfl

theorem varGet_h' (s : Option Nat) (h : H) (size : Nat) (data : Option Mem) : (varGet s h size data).h' = some h := by
  unfold varGet
  cases data <;> cases s <;> rfl

theorem formatIndexed_h' (count : Nat) (c : Bool) (size : Nat) (data : Option Mem) (h : Option H) :
    (formatIndexed count c size data h).h' = h :=
  guardEq_h' fun m => by simp only []; split <;> rfl

theorem ite_pure {c : Prop} [Decidable c] {a b : Res} {s : Option H} (ha : c → sameState a.h' s = true)
    (hb : ¬ c → sameState b.h' s = true) : sameState (if c then a else b).h' s = true := by
  split
  · exact ha ‹_›
  · exact hb ‹_›

theorem containerCommand_pure (h : H) (cmd : Int) (size : Nat) (h1 : cmd ≠ 0x1200) (h2 : cmd ≠ 0x1210) :
    sameState (containerCommand h cmd size).h' (some h) = true := by
  unfold containerCommand
  refine ite_pure (fun _ => by simp [sameState, H.core]) fun _ => ?_      -- only the diagnostic log grows
  refine ite_pure (fun hc => absurd hc.2 h1) fun _ => ?_
  refine ite_pure (fun _ => sameState_self _) fun _ => ?_
  exact ite_pure (fun hc => absurd hc.2 h2) fun _ => sameState_self _

theorem preHandle_pure (g : G) (h : Option H) (cmd : Int) (size : Nat) (data : Option Mem) (r : Res)
    (hr : preHandle g h cmd size data = some r) : r.h' = h := by
  unfold preHandle at hr
  rcases ite_some hr with ⟨-, rfl⟩ | ⟨-, hr⟩
  · apply stringOut_h'
  rcases ite_some hr with ⟨-, rfl⟩ | ⟨-, hr⟩
  · exact guardEq_h' fun _ => rfl
  rcases ite_some hr with ⟨-, rfl⟩ | ⟨-, hr⟩
  · apply formatIndexed_h'
  rcases ite_some hr with ⟨-, rfl⟩ | ⟨-, hr⟩
  · apply formatIndexed_h'
  rcases ite_some hr with ⟨-, rfl⟩ | ⟨-, hr⟩
  · apply formatIndexed_h'
  rcases ite_some hr with ⟨-, rfl⟩ | ⟨-, hr⟩
  · exact guardEq_h' fun _ => rfl
  · cases hr

/-- Arm by arm: either the command that selects the arm is no query, or every answer of the arm hands the handle back. -/
theorem withHandle_pure (h : H) (cmd : Int) (size : Nat) (data : Option Mem)
    (hq : isQuery cmd = true) : sameState (withHandle h cmd size data).h' (some h) = true := by
  have hs := classify_sound cmd
  unfold withHandle
  cases hcl : classify cmd <;> rw [hcl] at hs <;> simp only [Cls.cond] at hs <;> simp only []
  case k1013 | k1012 | k1014 | k1015 | k1050 | k1051 | k1060 | k1061 | k1080 | k1090 | k6001 | k10C0 | k10F1 | k1400
      | k10CF | k10D1 | k1101 =>
    subst hs; exact absurd hq (by decide)
  case k1070 | k10A0 | k1300 =>
    rcases hs with rfl | rfl <;> exact absurd hq (by decide)
  case k1011 | k1010 | k10C1 | k1110 => exact sameState_self _
  case k1001 => exact pure_of_eq (stringOut_h' ..)
  case k10F0 | k1401 => exact pure_of_eq (varGet_h' ..)
  case other =>
    refine containerCommand_pure h cmd size ?_ ?_
    all_goals rintro rfl; exact absurd hq (by decide)
  case k1002 | k10B0 | k1040 | k1042 | k1044 | k1045 | k10E0 | k10D0 =>
    refine pure_of_eq (guardEq_h' fun _ => ?_)
    simp only [calcSignalMax, apply_ite Res.h', ite_self]
  case k10CD => exact pure_of_eq (guardEq_h' fun _ => by cases h.cues <;> rfl)
  case k10CE =>
    apply pure_of_eq
    cases data with
    | none => rfl
    | some _ => simp only [apply_ite Res.h']; cases h.cues <;> simp
  case k1100 =>
    apply pure_of_eq
    rw [apply_ite Res.h', guardEq_h' (h := some h) fun _ => rfl]
    exact ite_self _

theorem run_all_channels (g : G) (h : H) (cmd : Int) (size : Nat) (data : Option Mem) (hc : cmd = 0x1042 ∨ cmd = 0x1043) :
    run g (some h) cmd size data = guardEq (szDouble * h.channels) size data (some h) eBadParam (some eBadParam) fun _ =>
      if ¬ h.seekable then { ret := .exact eNotSeekable, err := some eNotSeekable, h' := some h }
      else if ¬ canRead h then { ret := .exact eUnimplemented, err := some eUnimplemented, h' := some h }
      else { writes := [(0, szDouble * h.channels)], ret := .exact 0, h' := some h } := by
  rcases hc with rfl | rfl <;> rfl

theorem run_signal_max (g : G) (h : H) (cmd : Int) (size : Nat) (data : Option Mem) (hc : cmd = 0x1040 ∨ cmd = 0x1041) :
    run g (some h) cmd size data = guardEq szDouble size data (some h) eBadParam (some eBadParam) fun _ => calcSignalMax false h := by
  rcases hc with rfl | rfl <;> rfl

end Sf.Command
