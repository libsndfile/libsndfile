/-
  W64: `parse` applied to the files the writer produces (helpers for SfProps/C04W64.lean: w64_reopen_info).  The chunk walk is
  followed over a cursor (`bs.drop p = chunk ++ rest`), one lemma per chunk kind: 'riff' + 'wave', 'fmt ', 'fact', 'data'.
-/
import SfProofs.W64Image
import SfProofs.HdrReadLemmas
namespace Sf.W64
open Sf Sf.HdrRd Sf.CafW64 Sf.Cursor

theorem ofLE_le (n : Nat) (v : Nat) (h : v < 2 ^ (8 * n)) : ofLE (le n (v : Int)) = v := by
  unfold le
  rw [wrapU_of_lt (8 * n) v h, ofLE_leBytes_of_lt n v h]

def fmtFlds (c : Cfg) : List (List Byte) :=
  [le 2 (formatTag c.codec), le 2 c.ch, le 4 c.sr, le 4 (c.sr * bytewidth c.codec * c.ch), le 2 (bytewidth c.codec * c.ch), le 2 (bitsOf c.codec)]

theorem fmtBody_flds (c : Cfg) : fmtBody c = (fmtFlds c).flatten := by simp [fmtBody, fmtFlds]

theorem hash_facts : (hash16 riffG == riffH) = true ∧ (hash16 waveG == waveH) = true ∧
    (hash16 fmtG == riffH) = false ∧ (hash16 fmtG == acidH) = false ∧ (hash16 fmtG == fmtH) = true ∧
    (hash16 factG == riffH) = false ∧ (hash16 factG == acidH) = false ∧ (hash16 factG == fmtH) = false ∧ (hash16 factG == factH) = true ∧
    (hash16 dataG == riffH) = false ∧ (hash16 dataG == acidH) = false ∧ (hash16 dataG == fmtH) = false ∧ (hash16 dataG == factH) = false ∧
    (hash16 dataG == dataH) = true := by decide +kernel

/-- the scan state after the 'fmt ' chunk -/
def scanOf (c : Cfg) : Scan :=
  { haveRiff := true, haveWave := true, haveFmt := true, tag := formatTag c.codec, ch := c.ch, sr := c.sr, bits := bitsOf c.codec,
    bytew := bytewidth c.codec, dataoffset := -1 }

theorem codec_cases (c : Cfg) (h : c.codec ∈ codecs) :
    (formatTag c.codec < 65536 ∧ bitsOf c.codec < 65536) ∧ codecOf (scanOf c) = some c.codec ∧
    ((formatTag c.codec = 1 ∨ formatTag c.codec = 3) ∧ (bitsOf c.codec + 7) / 8 = bytewidth c.codec ∨
     (formatTag c.codec = 6 ∨ formatTag c.codec = 7) ∧ bytewidth c.codec = 1) := by
  simp [codecs] at h
  rcases h with h | h | h | h | h | h | h | h <;> simp [h, formatTag, bitsOf, bytewidth, codecOf, scanOf]

theorem rd_chunk_head {bs g rest : List Byte} {p : Nat} {v : Int} (hd : bs.drop p = g ++ (le 8 v ++ rest)) (hg : g.length = 16) :
    rdHash bs (.at p) = (hash16 g, 16, .at (p + 16)) ∧ rdN bs (.at (p + 16)) 8 = (some (le 8 v), 8, .at (p + 16 + 8)) ∧
    bs.drop (p + 16 + 8) = rest := by
  have d1 := drop_at hd hg
  refine ⟨by unfold rdHash; rw [rdN_drop hd hg (by omega)], rdN_drop d1 (le_length 8 v) (by omega), drop_at d1 (le_length 8 v)⟩

theorem walk_riff (bs rest : List Byte) (A : Int) (fuel : Nat) (hbs : bs = riffG ++ (le 8 A ++ (waveG ++ rest))) (hr : 8 < rest.length) :
    walk bs (fuel + 1) {} {} = walk bs fuel (.at 40) { haveRiff := true, haveWave := true } ∧ bs.drop 40 = rest := by
  obtain ⟨g1, g2, _⟩ := guid_lengths
  obtain ⟨q1, q2, _⟩ := hash_facts
  have d0 := drop_zero hbs
  have d16 := drop_at d0 g1
  have d24 := drop_at d16 (le_length 8 A)
  have d40 : bs.drop 40 = rest := drop_at d24 g2
  have hlen := len_of_drop d40 (by omega)
  have R1 : rdN bs ⟨0, 12, false⟩ 16 = (some riffG, 16, .at 16) := by
    have := rdN_at (bs := bs) (pre := []) (fld := riffG) (e := 12) (n := 16) hbs g1.symm
    simpa using this
  have R2 := rdN_drop d16 (le_length 8 A) (by omega)
  have R3 := rdN_drop d24 g2 (by omega)
  have e1 : ¬ ((0 : Int) ≥ (bs.length : Int)) := by omega
  have e2 : ¬ (((40 : Nat) : Int) ≥ (bs.length : Int) - 8) := by omega
  refine ⟨?_, d40⟩
  rw [walk]
  show (let r : Rd := if ((({} : Rd).indx % 8 != 0) = true) then skip bs {} ((8 - ({} : Rd).indx % 8 : Nat) : Int) else {}; _) = _
  have r0 : (if ((({} : Rd).indx % 8 != 0) = true) then skip bs {} ((8 - ({} : Rd).indx % 8 : Nat) : Int) else ({} : Rd)) = ⟨0, 12, false⟩ := rfl
  simp only [r0, rdHash, R1, R2, R3, q1, q2, if_true]
  simp only [show ((16 + 8 == 0) = false) from by decide, Bool.false_eq_true, if_false, or_self, ftell_at, e1, e2,
    Int.lt_irrefl, false_and, gt_iff_lt]

/-- the writer's 'fmt ' chunk: one step of the walk takes the scan state `scanOf c` out of it.  `hp` keeps the chunk inside the header
    cache: any bound with `p + 40 ≤ cacheLimit` (24000) would do, the caller has `p = 40` -/
theorem walk_fmt (c : Cfg) (hwf : c.wf) (bs rest : List Byte) (fuel p : Nat)
    (hd : bs.drop p = fmtG ++ (le 8 40 ++ ((fmtFlds c).flatten ++ rest))) (hp8 : p % 8 = 0) (hp : p ≤ 1000) (hr : 8 < rest.length) :
    walk bs (fuel + 1) (.at p) { haveRiff := true, haveWave := true } = walk bs fuel (.at (p + 40)) (scanOf c) ∧
    bs.drop (p + 40) = rest := by
  obtain ⟨hcodec, hch1, hch2, hsr1, hsr2⟩ := hwf
  obtain ⟨_, _, g3, _⟩ := guid_lengths
  obtain ⟨q1, _, q3, q4, q4b, _⟩ := hash_facts
  obtain ⟨⟨ct, cb⟩, _, ctag⟩ := codec_cases c hcodec
  have fl : (fmtFlds c).map List.length = [2, 2, 4, 4, 2, 2] ∧ (fmtFlds c).flatten.length = 16 := by simp [fmtFlds, le_length]
  obtain ⟨R4, R5, d24⟩ := rd_chunk_head hd g3
  have R6 := rdSeq_drop (fmtFlds c) d24 fl.1.symm fl.2 (by omega)
  have d40 : bs.drop (p + 40) = rest := by have := drop_at d24 fl.2; rwa [show p + 16 + 8 + 16 = p + 40 by omega] at this
  have hlen := len_of_drop d40 (by omega)
  have e40 : p + 16 + 8 + 16 = p + 40 := by omega
  rw [e40] at R6
  have s40 : sext 64 (ofLE (le 8 40)) = 40 := by decide
  have vtag := ofLE_le 2 (formatTag c.codec) (by omega)
  have vch := ofLE_le 2 c.ch (by omega)
  have vsr := ofLE_le 4 c.sr (by omega)
  have vbits := ofLE_le 2 (bitsOf c.codec) (by omega)
  have z : (p % 8 != 0) = false := by rw [hp8]; rfl
  have f1 : ¬ ((40 : Int) < 0) := by omega
  have f2 : ¬ (((p + 16 + 8 : Nat) : Int) + ((40 : Int) - 24) > (cacheLimit : Int)) := by unfold cacheLimit; omega
  have f3 : ¬ ((40 : Int) - 24 < 16) := by omega
  have e1 : ¬ ((0 : Int) ≥ (bs.length : Int)) := by omega
  have e80 : ¬ (((p + 40 : Nat) : Int) ≥ (bs.length : Int) - 8) := by omega
  have sk : skip bs (.at (p + 40)) ((40 : Int) - 24 - 16) = .at (p + 40) := by
    have := skip_at bs (p + 40) 0 (by omega)
    simpa using this
  have m8 : (((40 : Int) - 24) % 8 != 0) = false := by decide
  refine ⟨?_, d40⟩
  rw [walk]
  simp only [z, Bool.false_eq_true, if_false, R4, R5, q3, q4, q4b, s40, if_true,
    show ((16 + 8 == 0) = false) from by decide, f1, f2, f3, R6, fmtFlds, vtag, vch, vsr, vbits]
  rcases ctag with ⟨ht, hbyt⟩ | ⟨ht, hbyt⟩
  · have t1 : (formatTag c.codec == 1 ∨ formatTag c.codec == 3) := by rcases ht with h | h <;> simp [h]
    simp only [t1, if_true, sk, m8, Bool.false_eq_true, if_false, ftell_at, e1, e80, hbyt, scanOf, Int.lt_irrefl, false_and, gt_iff_lt, and_self, decide_true, Bool.not_true]
  · have t1 : ¬ (formatTag c.codec == 1 ∨ formatTag c.codec == 3) := by rcases ht with h | h <;> simp [h]
    have t2 : (formatTag c.codec == 6 ∨ formatTag c.codec == 7) := by rcases ht with h | h <;> simp [h]
    have f4 : ¬ ((40 : Int) - 24 ≥ 18) := by omega
    simp only [t1, t2, if_true, if_false, f4, sk, m8, Bool.false_eq_true, ftell_at, e1, e80, hbyt, scanOf, Int.lt_irrefl, false_and, gt_iff_lt, and_self, decide_true, Bool.not_true]

theorem walk_fact (bs x rest : List Byte) (fuel p : Nat) (s : Scan)
    (hd : bs.drop p = factG ++ (le 8 32 ++ (x ++ rest))) (hx : x.length = 8) (hp8 : p % 8 = 0) (hr : 8 < rest.length) :
    walk bs (fuel + 1) (.at p) s = walk bs fuel (.at (p + 32)) s ∧ bs.drop (p + 32) = rest := by
  obtain ⟨_, _, _, g4, _⟩ := guid_lengths
  obtain ⟨_, _, _, _, _, q5, q6, q7, q7b, _⟩ := hash_facts
  obtain ⟨R7, R8, d24⟩ := rd_chunk_head hd g4
  have R9 := rdLE_drop d24 hx (by omega)
  have e32 : p + 16 + 8 + 8 = p + 32 := by omega
  have d32 : bs.drop (p + 32) = rest := by have := drop_at d24 hx; rwa [e32] at this
  rw [e32] at R9
  have hlen := len_of_drop d32 (by omega)
  have z : (p % 8 != 0) = false := by rw [hp8]; rfl
  have s32 : sext 64 (ofLE (le 8 32)) = 32 := by decide
  have e1 : ¬ ((0 : Int) ≥ (bs.length : Int)) := by omega
  have e2 : ¬ (((p + 32 : Nat) : Int) ≥ (bs.length : Int) - 8) := by omega
  refine ⟨?_, d32⟩
  rw [walk]
  simp only [z, Bool.false_eq_true, if_false, R7, R8, q5, q6, q7, q7b, if_true, R9, ftell_at, e1, e2,
    show ((16 + 8 == 0) = false) from by decide, Int.lt_irrefl, false_and, gt_iff_lt]

/-- the 'data' chunk followed by the audio its size field announces and at most 32 more bytes: the walk ends with the data offset
    (the seek over the chunk, rounded up to 8, lands within 8 bytes of the end of the file) -/
theorem walk_data (bs data tl : List Byte) (fuel p : Nat) (s : Scan)
    (hd : bs.drop p = dataG ++ (le 8 ((data.length : Int) + 24) ++ (data ++ tl))) (htl : tl.length ≤ 32) (hp8 : p % 8 = 0)
    (hs : s.haveRiff = true ∧ s.haveWave = true ∧ s.haveFmt = true) (hsz : data.length + 24 < 2 ^ 62) :
    bs.length = p + 24 + data.length + tl.length ∧
    walk bs (fuel + 1) (.at p) s = .done { s with dataoffset := ((p + 24 : Nat) : Int) } := by
  obtain ⟨_, _, _, _, g5⟩ := guid_lengths
  obtain ⟨_, _, _, _, _, _, _, _, _, q8, q9, q10, q11, q11b⟩ := hash_facts
  obtain ⟨R10, R11, d24⟩ := rd_chunk_head hd g5
  have hlen : bs.length = p + 24 + data.length + tl.length := by
    have := len_of_drop (drop_at hd g5) (by rw [List.length_append, le_length]; omega)
    rw [List.length_append, List.length_append, le_length] at this; omega
  have z : (p % 8 != 0) = false := by rw [hp8]; rfl
  have vsz : sext 64 (ofLE (le 8 ((data.length : Int) + 24))) = ((data.length + 24 : Nat) : Int) := by
    have hD : wrapU 64 ((data.length : Int) + 24) = data.length + 24 := by
      have := wrapU_of_lt 64 (data.length + 24) (by omega)
      simpa using this
    unfold le; rw [hD, ofLE_leBytes]
    have e64 : (256 : Nat) ^ 8 = 2 ^ 64 := by decide
    rw [e64, Nat.mod_eq_of_lt (by omega)]
    unfold sext; rw [if_pos (by omega)]
  have d1 : ¬ (((data.length + 24 : Nat) : Int) < 0 ∨ ((data.length + 24 : Nat) : Int) ≥ 2 ^ 62) := by omega
  have d2 : ((p + 16 + 8 : Nat) : Int) + (if (((data.length + 24 : Nat) : Int) % 8 != 0) = true
      then ((data.length + 24 : Nat) : Int) + (8 - ((data.length + 24 : Nat) : Int) % 8) else ((data.length + 24 : Nat) : Int)) ≥ (bs.length : Int) - 8 := by
    split <;> omega
  refine ⟨hlen, ?_⟩
  rw [walk]
  simp only [z, Bool.false_eq_true, if_false, R10, R11, q8, q9, q10, q11, q11b, if_true, vsz, hs.1, hs.2.1, hs.2.2,
    show ((16 + 8 == 0) = false) from by decide, Bool.not_true, ftell_at, d1, d2, show p + 16 + 8 = p + 24 by omega, and_self, decide_true]

/-- `w64_read_header` + codec init on a closed file of the writer with up to 32 foreign bytes behind it: the reader takes the
    audio length from the FILE length, so those bytes count as audio -/
theorem parse_image_tail (c : Cfg) (hwf : c.wf) (n : Nat) (data tl : List Byte) (hd : data.length = n * c.bw) (htl : tl.length ≤ 32)
    (hsz : hdrLen c + n * c.bw + 24 < 2 ^ 62) :
    parse (image c n data ++ tl) =
      .ok { fmtWord := 0x0B0000 + c.codec, ch := c.ch, sr := c.sr, frames := (n * c.bw + tl.length) / c.bw, dataoffset := hdrLen c,
            datalength := n * c.bw + tl.length } := by
  obtain ⟨_, ccodec, _⟩ := codec_cases c hwf.1
  obtain ⟨_, _, _, g4, g5⟩ := guid_lengths
  generalize hbs : image c n data ++ tl = bs
  have hshape : bs = riffG ++ (le 8 ((hdrLen c + n * c.bw : Nat) : Int) ++ (waveG ++ (fmtG ++ (le 8 40 ++ ((fmtFlds c).flatten ++
      (factPart c n ++ (dataG ++ (le 8 ((data.length : Int) + 24) ++ (data ++ tl))))))))) := by
    rw [← hbs, hd]; simp only [image, tail, hdr, hdrRaw_eq, fmtBody_flds, List.append_assoc, List.append_nil]
  have hfp := factPart_length c n
  have hL : hdrLen c = 104 + (factPart c n).length := by rw [hfp]; unfold hdrLen; split <;> rfl
  have h8 : ∀ x : List Byte, 8 < (factPart c n ++ (dataG ++ x)).length := fun x => by simp only [List.length_append, g5]; omega
  have hlen : bs.length = hdrLen c + data.length + tl.length := by rw [← hbs, List.length_append, image_length c n data]
  obtain ⟨k, hk⟩ : ∃ k, bs.length = k + 1 + 1 + 1 + 1 := ⟨bs.length - 4, by omega⟩
  obtain ⟨w1, d1⟩ := walk_riff bs _ _ (k + 1 + 1 + 1) hshape (by simp only [List.length_append, guid_lengths.2.2.1]; omega)
  obtain ⟨w2, d2⟩ := walk_fmt c hwf bs _ (k + 1 + 1) 40 d1 rfl (by omega) (h8 _)
  have hw : walk bs (k + 1 + 1) (.at (40 + 40)) (scanOf c) = .done { scanOf c with dataoffset := ((hdrLen c : Nat) : Int) } := by
    by_cases hfact : hasFact c.codec = true
    · simp only [factPart, hfact, if_true, List.append_assoc, List.length_append, g4, le_length] at d2 hL
      obtain ⟨w3, d3⟩ := walk_fact bs _ _ (k + 1) (40 + 40) (scanOf c) d2 (le_length 8 _) rfl
        (by simp only [List.length_append, g5, le_length]; omega)
      obtain ⟨_, w4⟩ := walk_data bs data tl k (40 + 40 + 32) (scanOf c) d3 htl rfl ⟨rfl, rfl, rfl⟩ (by omega)
      rw [show 40 + 40 + 32 + 24 = hdrLen c by omega] at w4
      rw [w3, w4]
    · simp only [factPart, hfact, Bool.false_eq_true, if_false, List.nil_append, List.length_nil] at d2 hL
      obtain ⟨_, w4⟩ := walk_data bs data tl (k + 1) (40 + 40) (scanOf c) d2 htl rfl ⟨rfl, rfl, rfl⟩ (by omega)
      rw [show 40 + 40 + 24 = hdrLen c by omega] at w4
      exact w4
  have hwalk : walk bs bs.length {} {} = .done { scanOf c with dataoffset := ((hdrLen c : Nat) : Int) } := by
    rw [hk, w1, w2, hw]
  obtain ⟨_, hch1, hch2, hsr1, hsr2⟩ := hwf
  have hl12 : ¬ bs.length < 12 := by omega
  have t1 : bs.take 4 = [114, 105, 102, 102] := by rw [hshape]; simp [riffG]
  unfold parse
  simp only [hl12, if_false, t1, bne_self_eq_false, Bool.false_eq_true, hwalk]
  have hc : codecOf { scanOf c with dataoffset := ((hdrLen c : Nat) : Int) } = some c.codec := ccodec
  have k1 : ¬ (((hdrLen c : Nat) : Int) ≤ 0) := by omega
  have k2 : ¬ (c.ch < 1) := by omega
  have k3 : ¬ (c.ch > 1024) := by omega
  have k4 : ¬ (c.sr < 1 ∨ c.sr > 0x7FFFFFFF) := by omega
  simp only [k1, if_false, scanOf, k2, k3]
  simp only [scanOf] at hc
  simp only [hc, k4, if_false, Int.toNat_natCast]
  have hdl : (if bs.length > hdrLen c then bs.length - hdrLen c else 0) = n * c.bw + tl.length := by
    rw [hlen, hd]; split <;> omega
  simp only [hdl, Cfg.bw]

/-- … and with nothing behind it: the frames written -/
theorem parse_image (c : Cfg) (hwf : c.wf) (n : Nat) (data : List Byte) (hd : data.length = n * c.bw)
    (hsz : hdrLen c + n * c.bw + 24 < 2 ^ 62) :
    parse (image c n data) =
      .ok { fmtWord := 0x0B0000 + c.codec, ch := c.ch, sr := c.sr, frames := n, dataoffset := hdrLen c, datalength := n * c.bw } := by
  have := parse_image_tail c hwf n data [] hd (Nat.zero_le _) hsz
  rwa [List.append_nil, List.length_nil, Nat.add_zero, Nat.mul_div_cancel n (wf_bw_pos hwf)] at this

end Sf.W64
