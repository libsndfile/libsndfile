/- Finite tables: a linear-time, kernel-friendly check that a list is the table of a function. -/
namespace Sf

/-- `tabIs f n i l` : `l` is `[f i, f (i+1), …, f (n-1)]` -/
def tabIs [DecidableEq α] (f : Nat → α) (n : Nat) : Nat → List α → Bool
  | i, [] => i == n
  | i, x :: xs => decide (x = f i) && tabIs f n (i + 1) xs

theorem tabIs_range' [DecidableEq α] (f : Nat → α) (n : Nat) :
    ∀ (l : List α) (i : Nat), tabIs f n i l = true → l = (List.range' i (n - i)).map f ∧ i ≤ n := by
  intro l
  induction l with
  | nil =>
    intro i h
    simp [tabIs] at h
    subst h; simp
  | cons x xs ih =>
    intro i h
    simp [tabIs] at h
    obtain ⟨hx, hr⟩ := h
    obtain ⟨hxs, hle⟩ := ih (i + 1) hr
    have : n - i = (n - (i + 1)) + 1 := by omega
    refine ⟨?_, by omega⟩
    rw [this, List.range'_succ, List.map_cons, ← hxs, hx]

theorem tabIs_spec [DecidableEq α] (f : Nat → α) (n : Nat) (l : List α) (h : tabIs f n 0 l = true) :
    l = (List.range n).map f := by
  have := (tabIs_range' f n l 0 h).1
  simpa [List.range_eq_range'] using this

theorem getD_tab (f : Nat → α) {n c : Nat} (hc : c < n) (d : α) : ((List.range n).map f).getD c d = f c := by
  simp [List.getD, hc]

theorem tab_getD (l : List α) (d : α) : l = (List.range l.length).map (l.getD · d) := by
  apply List.ext_getElem (by simp)
  intro i h _
  simp [List.getD, h]

end Sf
