/-
  Helper lemmas for the PAF container theorems (SfProps/C04Paf.lean): length of the header, the reader on
  `hdr c ++ body` for both byte orders.
-/
import SfModel.Paf
import SfProofs.SmallSession
namespace Sf.Paf
open Sf Sf.Small

theorem mk4_paf_length : (mk4 " paf").length = 4 := by decide
theorem mk4_fap_length : (mk4 "fap ").length = 4 := by decide

theorem hdr_length (c : Cfg) : (hdr c).length = hdrLen := by
  unfold hdr hdrLen
  split <;> simp only [List.length_append, List.length_replicate, be32_length, le32_length, mk4_paf_length, mk4_fap_length]

theorem spec_plain (c : Cfg) : (spec c).Plain := ⟨fun _ _ _ => hdr_length c, rfl, rfl⟩

theorem cfg_cases (c : Cfg) (h : c.wf) : (c.codec = 0x01 ∨ c.codec = 0x02 ∨ c.codec = 0x03) ∧ 1 ≤ c.ch ∧ c.ch ≤ 1024 := by
  obtain ⟨ha, h1, _, _⟩ := h
  unfold accepted at ha
  simp only [Bool.decide_and, Bool.decide_or, Bool.and_eq_true, Bool.or_eq_true, decide_eq_true_eq] at ha
  exact ⟨ha.1, h1, ha.2.2⟩

theorem bw_pos (c : Cfg) (h : c.wf) : 0 < c.bw := by
  obtain ⟨hc, h1, _⟩ := cfg_cases c h
  unfold Cfg.bw Cfg.bytewidth; rcases hc with h | h | h <;> rw [h] <;> omega

/-- frames a re-open reports for `B` bytes behind the header: whole frames for PCM S8 / 16, ten per (started) block
    of 32 bytes per channel for the 24-bit encoding (`paf24_init`: `sample_count = 10 * max_blocks`; a block counts as
    started when `B % 32 ≠ 0` — the library tests the block size of ONE channel, `Paf24.maxBlocks`) -/
def framesOf (c : Cfg) (B : Nat) : Nat := if c.codec = 0x03 then Paf24.spb * Paf24.maxBlocks c.ch B else B / c.bw

theorem finish_ok (c : Cfg) (hwf : c.wf) (B : Nat) (little : Bool) (hl : little = c.little) :
    finish (2048 + B) little c.ch (c.sr : Int) (pafFormat c.codec) =
      .ok { ch := c.ch, fmt := c.fmtWord, sr := c.sr, frames := framesOf c B } := by
  obtain ⟨hc, h1, _⟩ := cfg_cases c hwf
  obtain ⟨_, _, hs1, hs2⟩ := hwf
  unfold finish framesOf Cfg.fmtWord
  rcases hc with h | h | h
  · have hcf : codecFrames (2048 + B) 2048 0 (((1 * c.ch : Nat)) : Int) = ((B : Int), ((B / (1 * c.ch) : Nat) : Int)) := codecFrames_body 2048 B (1 * c.ch)
    have hnn := Int.natCast_nonneg (B / (1 * c.ch))
    simp only [h, pafFormat, hl, Cfg.bw, Cfg.bytewidth, show ¬ ((1 : Nat) = 2) by decide, show ¬ ((1 : Nat) = 3) by decide, if_false, if_true, true_or, hcf]
    rw [if_neg (by omega)]
    simp only [Int.toNat_natCast]
  · have hcf : codecFrames (2048 + B) 2048 0 (((2 * c.ch : Nat)) : Int) = ((B : Int), ((B / (2 * c.ch) : Nat) : Int)) := codecFrames_body 2048 B (2 * c.ch)
    have hnn := Int.natCast_nonneg (B / (2 * c.ch))
    simp only [h, pafFormat, hl, Cfg.bw, Cfg.bytewidth, show ¬ ((2 : Nat) = 3) by decide, show ¬ ((0 : Nat) = 2) by decide, if_false, if_true, or_true, hcf]
    rw [if_neg (by omega)]
    simp only [Int.toNat_natCast]
  · simp only [h, pafFormat, hl, show ¬ ((3 : Nat) = 2) by decide, show ¬ ((1 : Nat) = 2) by decide, show ¬ ((1 : Nat) = 0) by decide, if_false, if_true, or_self]
    rw [if_neg (by omega)]
    simp only [Int.toNat_natCast, Nat.add_sub_cancel_left]

theorem parse_fields (c : Cfg) (hwf : c.wf) (m : List Byte) (enc : Int → List Byte) (dec : List Byte → Nat) (v8 : Int)
    (tail : List Byte) (hm : m.length = 4) (hmk : m = mk4 " paf" ∨ m = mk4 "fap ") (hlen : ∀ v, (enc v).length = 4)
    (hdec : ∀ v : Nat, v < 2 ^ 32 → dec (enc v) = v) (h0 : dec (enc 0) = 0)
    (hsel : ∀ l, (if m = mk4 " paf" then ofBE l else ofLE l) = dec l) (ht : 2020 ≤ tail.length) :
    parse (m ++ enc 0 ++ enc v8 ++ enc c.sr ++ enc (pafFormat c.codec) ++ enc c.ch ++ enc 0 ++ tail) =
      finish (28 + tail.length) (dec (enc v8) ≠ 0) c.ch c.sr (pafFormat c.codec) := by
  obtain ⟨hc, h1, h1024⟩ := cfg_cases c hwf
  have hsr := hwf.2.2
  have hpf : pafFormat c.codec < 2 ^ 32 := by unfold pafFormat; split <;> (try split) <;> decide
  unfold parse
  simp only [List.append_assoc, List.length_append, hm, hlen, List.take_left' hm, hsel, slice_skip, slice_head, Nat.reduceSub, Nat.reduceLeDiff,
    Nat.le_refl, Nat.reduceAdd, ← Nat.add_assoc]
  rw [if_neg (by omega), if_neg (by rcases hmk with h | h <;> simp [h]), if_neg (by omega), h0,
    hdec c.sr (by omega), hdec _ hpf, hdec c.ch (by omega), sext_of_lt 32 c.ch (by omega), sext_of_lt 32 c.sr (by omega)]
  simp only [ne_eq, not_true_eq_false, if_false, Int.toNat_natCast]
  rw [if_neg (by omega)]

theorem parse_hdr (c : Cfg) (hwf : c.wf) (body : List Byte) :
    parse (hdr c ++ body) = .ok { ch := c.ch, fmt := c.fmtWord, sr := c.sr, frames := framesOf c body.length } := by
  have hlen : (List.replicate 2020 (0 : Byte) ++ body).length = 2020 + body.length := by
    rw [List.length_append, List.length_replicate]
  have hv : ∀ v : Nat, v < 2 ^ 32 → wrapU 32 (v : Int) = v := fun v h => wrapU_of_lt 32 v h
  by_cases hl : c.little = true
  · have e : hdr c ++ body = mk4 "fap " ++ le32 0 ++ le32 1 ++ le32 c.sr ++ le32 (pafFormat c.codec) ++ le32 c.ch ++
        le32 0 ++ (List.replicate 2020 0 ++ body) := by
      unfold hdr; rw [hl]; simp only [if_true, List.append_assoc]
    rw [e, parse_fields c hwf (mk4 "fap ") le32 ofLE 1 _ mk4_fap_length (Or.inr rfl) le32_length
      (fun v h => by rw [ofLE_le32, hv v h]) (by decide) (fun l => if_neg (by decide)) (by omega), hlen,
      show decide (ofLE (le32 1) ≠ 0) = true by decide, ← Nat.add_assoc]
    exact finish_ok c hwf body.length true hl.symm
  · have hl' : c.little = false := by simpa using hl
    have e : hdr c ++ body = mk4 " paf" ++ be32 0 ++ be32 0 ++ be32 c.sr ++ be32 (pafFormat c.codec) ++ be32 c.ch ++
        be32 0 ++ (List.replicate 2020 0 ++ body) := by
      unfold hdr; rw [hl']; simp only [Bool.false_eq_true, if_false, List.append_assoc]
    rw [e, parse_fields c hwf (mk4 " paf") be32 ofBE 0 _ mk4_paf_length (Or.inl rfl) be32_length
      (fun v h => by rw [ofBE_be32, hv v h]) (by decide) (fun l => if_pos rfl) (by omega), hlen,
      show decide (ofBE (be32 0) ≠ 0) = false by decide, ← Nat.add_assoc]
    exact finish_ok c hwf body.length false hl'.symm

end Sf.Paf
