/-
  The encoding of the caller buffers of the concrete handle model (`List Int`, SfModel/Handle.lean:
  host values for short / int, bit patterns for float / double) as the CELL arrays of the abstract model
  (SfModel/Abs.lean: the bit pattern of a 16- or 32-bit host value as the harness prints it; a double is two cells, high
  half first), and the algebra of that encoding (size, slices, concatenation, zero regions).
-/
import SfProofs.AbsSeq
namespace Sf.AbsBridge
open Sf

/-- the cells of one caller value: its bit pattern, cut into 32-bit halves (high half first) for a double -/
def cellsOf (ty : Ty) (v : Int) : List Abs.Item :=
  match ty with
  | .f64 => [valBits .f64 v / 2 ^ 32, valBits .f64 v % 2 ^ 32]
  | t => [valBits t v]

theorem cellsOf_length (ty : Ty) (v : Int) : (cellsOf ty v).length = Abs.cells ty := by
  cases ty <;> rfl

def cellList (ty : Ty) (l : List Int) : List Abs.Item := l.flatMap (cellsOf ty)

/-- the cells of a buffer: what the harness prints for it, what `sfmodel abs` parses -/
def encBuf (ty : Ty) (l : List Int) : Array Abs.Item := (cellList ty l).toArray

theorem cellList_nil (ty : Ty) : cellList ty [] = [] := rfl

theorem cellList_cons (ty : Ty) (v : Int) (l : List Int) : cellList ty (v :: l) = cellsOf ty v ++ cellList ty l := rfl

theorem cellList_append (ty : Ty) (a b : List Int) : cellList ty (a ++ b) = cellList ty a ++ cellList ty b :=
  List.flatMap_append

theorem cellList_length (ty : Ty) (l : List Int) : (cellList ty l).length = l.length * Abs.cells ty := by
  induction l with
  | nil => simp [cellList]
  | cons v l ih =>
    rw [cellList_cons, List.length_append, ih, cellsOf_length, List.length_cons, Nat.add_mul, Nat.one_mul, Nat.add_comm]

theorem cellList_take (ty : Ty) : ∀ (k : Nat) (l : List Int),
    (cellList ty l).take (k * Abs.cells ty) = cellList ty (l.take k) := by
  intro k
  induction k with
  | zero => intro l; simp [cellList]
  | succ k ih =>
    intro l
    cases l with
    | nil => simp [cellList]
    | cons v l =>
      rw [cellList_cons, List.take_succ_cons, cellList_cons, ← ih l, Nat.add_mul, Nat.one_mul]
      have hl := cellsOf_length ty v
      rw [List.take_append, hl]
      have e1 : k * Abs.cells ty + Abs.cells ty - Abs.cells ty = k * Abs.cells ty := by omega
      rw [e1, List.take_of_length_le (by omega)]

theorem cellList_drop (ty : Ty) : ∀ (k : Nat) (l : List Int),
    (cellList ty l).drop (k * Abs.cells ty) = cellList ty (l.drop k) := by
  intro k
  induction k with
  | zero => intro l; simp
  | succ k ih =>
    intro l
    cases l with
    | nil => simp [cellList]
    | cons v l =>
      rw [cellList_cons, List.drop_succ_cons, ← ih l, Nat.add_mul, Nat.one_mul]
      have hl := cellsOf_length ty v
      rw [List.drop_append, hl]
      have e1 : k * Abs.cells ty + Abs.cells ty - Abs.cells ty = k * Abs.cells ty := by omega
      rw [e1, List.drop_of_length_le (by omega), List.nil_append]

theorem encBuf_size (ty : Ty) (l : List Int) : (encBuf ty l).size = l.length * Abs.cells ty := by
  unfold encBuf; rw [List.size_toArray, cellList_length]

theorem encBuf_extract (ty : Ty) (l : List Int) (i n : Nat) :
    (encBuf ty l).extract (i * Abs.cells ty) (i * Abs.cells ty + n * Abs.cells ty) = encBuf ty ((l.drop i).take n) := by
  unfold encBuf
  rw [List.extract_toArray]
  congr 1
  show ((cellList ty l).drop (i * Abs.cells ty)).take (i * Abs.cells ty + n * Abs.cells ty - i * Abs.cells ty) = _
  rw [Nat.add_sub_cancel_left, cellList_drop, cellList_take]

theorem encBuf_extract_zero (ty : Ty) (l : List Int) (n : Nat) :
    (encBuf ty l).extract 0 (n * Abs.cells ty) = encBuf ty (l.take n) := by
  have := encBuf_extract ty l 0 n
  simpa using this

theorem encBuf_append (ty : Ty) (a b : List Int) : encBuf ty (a ++ b) = encBuf ty a ++ encBuf ty b := by
  unfold encBuf; rw [cellList_append]; simp

theorem cellsOf_zero (ty : Ty) (c : Abs.Item) (hc : c ∈ cellsOf ty 0) : c = 0 := by
  cases ty <;> simp [cellsOf, valBits, wrapU, Ty.bits] at hc <;> omega

theorem cellList_replicate_zero (ty : Ty) (n : Nat) : cellList ty (List.replicate n 0) = List.replicate (n * Abs.cells ty) 0 := by
  refine List.eq_replicate_iff.mpr ⟨by rw [cellList_length, List.length_replicate], fun c hc => ?_⟩
  obtain ⟨v, hv, hc⟩ := List.mem_flatMap.mp hc
  rw [List.eq_of_mem_replicate hv] at hc
  exact cellsOf_zero ty c hc

theorem encBuf_replicate_zero (ty : Ty) (n : Nat) : encBuf ty (List.replicate n 0) = Array.replicate (n * Abs.cells ty) 0 := by
  unfold encBuf
  rw [cellList_replicate_zero, List.toArray_replicate]

theorem allOf_encBuf_zero (ty : Ty) (n : Nat) :
    Abs.allOf (encBuf ty (List.replicate n 0)) 0 0 0 (n * Abs.cells ty) = true := by
  rw [encBuf_replicate_zero, ← Array.empty_append (xs := Array.replicate _ 0)]
  exact Abs.allOf_of_replicate 0 0 _ #[] 0 rfl 0 (Or.inl rfl)

end Sf.AbsBridge
