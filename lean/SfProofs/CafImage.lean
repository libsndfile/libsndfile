/-
  CAF: lengths and structure of the header the writer produces (helpers for SfProps/C04Caf.lean).
-/
import SfProofs.FloatExact
import SfModel.Caf
import SfProofs.Bytes
import SfProofs.CafBytes
namespace Sf.Caf
open Sf Sf.CafW64

theorem mk_lengths : (mk "caff").length = 4 ∧ (mk "desc").length = 4 ∧ (mk "peak").length = 4 ∧ (mk "free").length = 4 ∧
    (mk "data").length = 4 ∧ (mk "lpcm").length = 4 ∧ (mk "ulaw").length = 4 ∧ (mk "alaw").length = 4 := by decide

theorem mk_peak_length : (mk "peak").length = 4 := mk_lengths.2.2.1
theorem mk_free_length : (mk "free").length = 4 := mk_lengths.2.2.2.1
theorem mk_data_length : (mk "data").length = 4 := mk_lengths.2.2.2.2.1

theorem fmtId_length (codec : Nat) : (fmtId codec).length = 4 := by
  unfold fmtId; split <;> (try split) <;> decide

/-- the 24 bytes of the 'desc' body after the rate -/
def descRest (c : Cfg) : List Byte :=
  fmtId c.codec ++ beBytes 4 (fmtFlags c) ++ beBytes 4 c.bw ++ beBytes 4 1 ++ beBytes 4 c.ch ++ beBytes 4 (8 * bytewidth c.codec)

theorem descChunk_eq (c : Cfg) : descChunk c = mk "desc" ++ beBytes 8 32 ++ beBytes 8 (Float.f64.ofInt c.sr) ++ descRest c := by
  simp only [descChunk, descRest, List.append_assoc]

theorem descChunk_length (c : Cfg) : (descChunk c).length = 44 := by
  obtain ⟨_, g2, _⟩ := mk_lengths
  simp [descChunk, beBytes_length, fmtId_length, g2]

theorem peakChunk_length (c : Cfg) (pk : List Peak) : (peakChunk c pk).length = 16 + 12 * pk.length := by
  obtain ⟨_, _, g3, _⟩ := mk_lengths
  unfold peakChunk
  rw [List.length_append, flatMap_length_const 12 peakEntry pk fun _ _ => by simp [peakEntry, beBytes_length]]
  simp [beBytes_length, g3, Nat.mul_comm]

/-- the optional part between 'desc' and 'free' -/
def peakPart (c : Cfg) (pk : List Peak) : List Byte := if isFloat c.codec then peakChunk c pk else []

theorem preLen_eq (c : Cfg) (pk : List Peak) (hpk : isFloat c.codec = true → pk.length = c.ch) :
    8 + 44 + (peakPart c pk).length = preLen c := by
  unfold peakPart preLen
  by_cases h : isFloat c.codec = true
  · simp [h, peakChunk_length, hpk h]
  · simp [h]

theorem hdrRaw_eq (c : Cfg) (dl : Int) (pk : List Peak) :
    hdrRaw c dl pk = mk "caff" ++ beBytes 2 1 ++ beBytes 2 0 ++ descChunk c ++ peakPart c pk ++ mk "free" ++ beBytes 8 (freeLen c) ++
      zeros (freeLen c) ++ mk "data" ++ beBytes 8 (wrapU 64 (dl + 4)) ++ beBytes 4 0 := by
  simp only [hdrRaw, peakPart, List.append_assoc]

theorem hdrRaw_length (c : Cfg) (dl : Int) (pk : List Peak) (hpk : isFloat c.codec = true → pk.length = c.ch) :
    (hdrRaw c dl pk).length = dataOffset c := by
  obtain ⟨g1, _, _, g4, g5, _⟩ := mk_lengths
  have := preLen_eq c pk hpk
  rw [hdrRaw_eq]
  simp [beBytes_length, descChunk_length, zeros, g1, g4, g5, dataOffset]
  omega

theorem dataOffset_aligned (c : Cfg) : dataOffset c % 4096 = 0 ∧ 4096 ≤ dataOffset c := by
  unfold dataOffset freeLen
  have h : 52 ≤ preLen c := by unfold preLen; omega
  constructor <;> omega

theorem image_length (c : Cfg) (n : Nat) (pk : List Peak) (data : List Byte) (hpk : isFloat c.codec = true → pk.length = c.ch) :
    (image c n pk data).length = dataOffset c + data.length + (tail c n).length := by
  simp [image, hdr, hdrRaw_length c _ pk hpk]; omega

theorem tail_length_le (c : Cfg) (n : Nat) : (tail c n).length ≤ 1 := by
  unfold tail; split <;> simp

theorem wf_bw_pos {c : Cfg} (h : c.wf) : 0 < c.bw := by
  obtain ⟨hc, _, h1, _⟩ := h
  have : 0 < bytewidth c.codec := by
    simp [codecs] at hc
    rcases hc with h | h | h | h | h | h | h | h <;> rw [h] <;> decide
  exact Nat.mul_pos this (by omega)

/-- every sample rate the API can carry (a C `int`) is exactly representable: the binary64 written into the 'desc'
    chunk is finite and `lrint` of it is the rate again -/
theorem rate_roundtrip (sr : Nat) (h : sr < 2 ^ 53) :
    (Float.f64.toDy (Float.f64.ofInt sr)).rint = sr := by
  have hv := Float.ofInt_exact Float.f64 (Or.inr rfl) (sr : Int) (show (sr : Int).natAbs < 2 ^ 53 by simpa using h)
  have hr := Float.Dy.rint_isRNE (Float.f64.toDy (Float.f64.ofInt sr))
  exact hr.eq_int (sr : Int) hv

end Sf.Caf
