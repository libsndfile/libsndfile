/-
  The vocabulary in which accepted RDWR histories are compared with the abstract file.  The theorems are
  C08Bridge.accepted_line_refines / accepted_rdwr_refines.
-/
import SfProofs.AbsRefine
import SfProofs.RdwrRun
namespace Sf.Abs
open Sf

/-- the nine whence values of the C08 statement -/
def whenceOf (whence : Int) : Option (Whence × Ptr) :=
  if whence = 0 then some (.set, .both) else if whence = 0x10 then some (.set, .rd) else if whence = 0x20 then some (.set, .wr)
  else if whence = 1 then some (.cur, .both) else if whence = 0x11 then some (.cur, .rd) else if whence = 0x21 then some (.cur, .wr)
  else if whence = 2 then some (.fromEnd, .both) else if whence = 0x12 then some (.fromEnd, .rd)
  else if whence = 0x22 then some (.fromEnd, .wr) else none

theorem whenceOf_code (w : Whence) (p : Ptr) : whenceOf (whenceCode w p) = some (w, p) := by
  cases w <;> cases p <;> decide

theorem ite_some_eq_some {α} {c : Prop} [Decidable c] {a x : α} {r : Option α} :
    (if c then some a else r) = some x ↔ (c ∧ a = x) ∨ r = some x ∧ ¬ c := by
  by_cases h : c <;> simp [h]

theorem whenceOf_some (whence : Int) (w : Whence) (p : Ptr) (h : whenceOf whence = some (w, p)) : whence = whenceCode w p := by
  unfold whenceOf at h
  simp only [ite_some_eq_some, Prod.mk.injEq, reduceCtorEq, false_and, or_false] at h
  -- the branch of the chain that fired names `whence`, `w` and `p`
  rcases h with ⟨rfl, rfl, rfl⟩ | ⟨⟨rfl, rfl, rfl⟩ | ⟨⟨rfl, rfl, rfl⟩ | ⟨⟨rfl, rfl, rfl⟩ | ⟨⟨rfl, rfl, rfl⟩ | ⟨⟨rfl, rfl, rfl⟩ |
    ⟨⟨rfl, rfl, rfl⟩ | ⟨⟨rfl, rfl, rfl⟩ | ⟨⟨rfl, rfl, rfl⟩, _⟩, _⟩, _⟩, _⟩, _⟩, _⟩, _⟩, _⟩ <;> rfl

/-- the abstract operation an accepted line stands for, in the item view of `ty` (none: the line changes nothing — an
    invalid or zero-length request, a refused seek or truncate, a query, a command) -/
def lineAOp (g : Geom) (ty : Ty) : Op × Out → Option (AOp Item)
  | (.read _ fc n, _) => if validReq g fc n then some (.read (reqFrames g fc n * g.cpf ty)) else none
  | (.write _ fc n data, _) =>
    if validReq g fc n then some (.write (data.extract 0 (reqItems g fc n * cells ty)).toList) else none
  | (.seek off whence, o) =>
    if o.ret = -1 then none else (whenceOf whence).map fun wp => .seek wp.1 wp.2 (off * (g.cpf ty : Int))
  | (.trunc n, _) => if g.canTrunc = true ∧ 0 ≤ n then some (.truncate (n.toNat * g.cpf ty)) else none
  | _ => none

/-- the alphabet of the C08 statement, through one caller type: typed reads and writes of `ty`, seeks with the nine
    whence values, SFC_FILE_TRUNCATE, queries, commands, close -/
def Alpha (ty : Ty) : Op → Prop
  | .read t _ _ => t = ty
  | .write t _ _ _ => t = ty
  | .seek _ whence => whenceOf whence ≠ none
  | .rawRead _ | .rawWrite _ _ | .reopen _ => False
  | _ => True

/-- what the line answered is what the abstract file `f` answers -/
def LineOk (g : Geom) (ty : Ty) (st : St) (f : AbsFile Item) : Op × Out → Prop
  | (.read _ fc n, o) => validReq g fc n = true → st.valid ty = true →
      (o.data.extract 0 (retItems g fc o.ret * cells ty)).toList = (f.read (reqFrames g fc n * g.cpf ty)).1
  | (.write _ fc n _, o) => validReq g fc n = true → o.ret = n
  | (.seek off whence, o) => o.ret ≠ -1 → ∀ w p, whenceOf whence = some (w, p) →
      (f.seek w p (off * (g.cpf ty : Int))).1 = o.ret * (g.cpf ty : Int)
  | (.trunc n, o) => g.canTrunc = true → 0 ≤ n → o.ret = 0
  | _ => True

/-- the abstract file after the abstract counterparts of the lines of a transcript -/
def absRunLines (g : Geom) (ty : Ty) : AbsFile Item → List (Op × Out) → AbsFile Item
  | f, [] => f
  | f, l :: tr => absRunLines g ty (f.stepOpt 0 (lineAOp g ty l)) tr

/-- every answer along an accepted transcript is the abstract one -/
def AnswersRefine (g : Geom) (ty : Ty) : St → List (Op × Out) → Prop
  | _, [] => True
  | st, l :: tr => LineOk g ty st (view g st ty) l ∧ ∀ st1, check g st l.1 l.2 = .ok st1 → AnswersRefine g ty st1 tr

end Sf.Abs
