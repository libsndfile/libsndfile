/-
  SfProofs.HandleBytes — the bytes of the handle model `Sf.Handle`, below every lemma stack on it (the appending writer
  `Codec*`, the handle machine `Handle*`, the RAW / AU / WAV sessions `Container*`, the RDWR refinement `Rdwr*`): the store under
  `writeAt` (appending writes, header rewrites, holes), fixed-width fields `u16` / `u32` and what `rd16` / `rd32` read back at an
  offset, markers, header lengths, and what `encOf` returns.
-/
import SfModel.Handle
import SfProofs.Fields
import SfProofs.Codec
namespace Sf

theorem zeros_length (n : Nat) : (zeros n).length = n := by simp [zeros]

theorem take_zeros (k n : Nat) : (zeros n).take k = zeros (min k n) := by simp [zeros, List.take_replicate]

theorem drop_zeros (k n : Nat) : (zeros n).drop k = zeros (n - k) := by simp [zeros, List.drop_replicate]

theorem zeros_append (a b : Nat) : zeros a ++ zeros b = zeros (a + b) := by simp [zeros, List.replicate_append_replicate]

theorem writeAt_end (bs d : List Byte) : writeAt bs bs.length d = bs ++ d := by
  simp [writeAt]

theorem truncBytes_length (bs : List Byte) (pos : Nat) : (truncBytes bs pos).length = pos := by
  unfold truncBytes zeros
  split <;> simp <;> omega

/-- a write at `pos` first cuts the store at `pos`, or extends it to there with zero bytes -/
theorem writeAt_eq (bs : List Byte) (pos : Nat) (d : List Byte) :
    writeAt bs pos d = truncBytes bs pos ++ d ++ bs.drop (pos + d.length) := rfl

theorem writeAt_length (bs : List Byte) (pos : Nat) (d : List Byte) :
    (writeAt bs pos d).length = max bs.length (pos + d.length) := by
  rw [writeAt_eq, List.length_append, List.length_append, truncBytes_length, List.length_drop]
  omega

theorem writeAt_after (P a R b : List Byte) (n : Nat) (hn : n = P.length + a.length) :
    writeAt (P ++ a ++ R) n b = P ++ a ++ b ++ R.drop b.length := by
  subst hn
  have hl : (P ++ a).length = P.length + a.length := by simp
  rw [writeAt_eq, truncBytes, if_pos (by simp)]
  rw [List.take_left' hl]
  congr 1
  rw [← hl, ← List.drop_drop, List.drop_left' rfl]

/-- two consecutive writes are one write of the concatenation (any store, any position, holes included) -/
theorem writeAt_writeAt (bs : List Byte) (pos : Nat) (a b : List Byte) :
    writeAt (writeAt bs pos a) (pos + a.length) b = writeAt bs pos (a ++ b) := by
  rw [writeAt_eq bs pos a, writeAt_after _ _ _ _ _ (by rw [truncBytes_length]), writeAt_eq bs pos (a ++ b)]
  simp [List.drop_drop, Nat.add_assoc]

theorem Store.write_write (s : Store) (a b : List Byte) : (s.write a).write b = s.write (a ++ b) := by
  unfold Store.write
  cases a with
  | nil => simp
  | cons x a =>
    cases b with
    | nil => simp
    | cons y b =>
      have := writeAt_writeAt s.bytes s.pos (x :: a) (y :: b)
      simp only [List.isEmpty_cons, Bool.false_eq_true, if_false, List.cons_append, this, Store.mk.injEq, true_and]
      simp; omega

theorem Store.write_end (s : Store) (d : List Byte) (h : s.pos = s.bytes.length) :
    s.write d = { bytes := s.bytes ++ d, pos := s.pos + d.length } := by
  unfold Store.write
  cases d with
  | nil => simp
  | cons x d => simp [h, writeAt_end]

@[simp] theorem u32_length (big : Bool) (v : Int) : (u32 big v).length = 4 := by
  unfold u32; split <;> simp [beBytes_length, leBytes_length]
@[simp] theorem u16_length (big : Bool) (v : Int) : (u16 big v).length = 2 := by
  unfold u16; split <;> simp [beBytes_length, leBytes_length]
theorem marker_len_RIFF : (marker "RIFF").length = 4 := by decide
theorem marker_len_RIFX : (marker "RIFX").length = 4 := by decide
theorem marker_len_WAVE : (marker "WAVE").length = 4 := by decide
theorem marker_len_fmt : (marker "fmt ").length = 4 := by decide
theorem marker_len_fact : (marker "fact").length = 4 := by decide
theorem marker_len_data : (marker "data").length = 4 := by decide
theorem marker_len_PEAK : (marker "PEAK").length = 4 := by decide
theorem marker_len_snd : (marker ".snd").length = 4 := by decide
theorem marker_len_dns : (marker "dns.").length = 4 := by decide

theorem auHeader_length (h : H) : (auHeader h).length = 24 := by
  unfold auHeader
  simp only [List.length_append, u32_length, apply_ite List.length, marker_len_snd, marker_len_dns, ite_self]

theorem peakChunk_length (h : H) (ps : List Peak) : (peakChunk h ps).length = 16 + 8 * ps.length := by
  unfold peakChunk
  simp only [List.length_append, u32_length, marker_len_PEAK, List.length_flatMap, List.map_const', List.sum_replicate_nat]
  omega

/-- length of the WAV header (`wavHeader`): a function of the codec, and of the number of PEAK entries when there is a
    PEAK chunk in front of the data.  12 = RIFF + size + WAVE; 4 = 'fmt '; 20 = size word + 16-byte body, 22 with the
    cbSize word of µ-law / A-law (codecs 0x10, 0x11); 12 = the fact chunk; 16 + 8n = 'PEAK' + size + version + timestamp
    and n entries of value + position; 8 = 'data' + size -/
def wavHdrLen (h : H) : Nat :=
  let codec := codecOf h.fmtWord
  12 + 4 + (if codec == 0x10 || codec == 0x11 then 22 else 20) + (if hasFact codec then 12 else 0) +
    (match h.peak.map List.length with
      | some n => if h.peakAtStart then 16 + 8 * n else 0
      | none => 0) + 8

theorem wavHeader_length (h : H) : (wavHeader h).length = wavHdrLen h := by
  unfold wavHeader wavHdrLen
  simp only [List.length_append, u32_length, u16_length, marker_len_RIFF, marker_len_RIFX, marker_len_WAVE, marker_len_fmt, marker_len_fact, marker_len_data,
    apply_ite List.length, List.length_nil, ite_self]
  cases h.peak with
  | none => simp only [List.length_nil, Option.map_none]
  | some ps =>
    cases h.peakAtStart <;> simp only [Option.map_some, peakChunk_length, if_true, Bool.false_eq_true, if_false, List.length_nil] <;>
      split <;> split <;> omega

theorem wrapU_of_range (bits : Nat) (v : Int) (h0 : 0 ≤ v) (h1 : v < 2 ^ bits) : (wrapU bits v : Int) = v := by
  rw [wrapU_cast, Int.emod_eq_of_lt h0 h1]

theorem sext32_wrapU (v : Int) (h0 : -0x80000000 ≤ v) (h1 : v ≤ 0x7FFFFFFF) : sext 32 (wrapU 32 v) = v := by
  rw [sext_wrapU 32 (by decide), wrapS_of_range 32 v (by omega) (by omega)]

theorem drop_behind {bs l r : List Byte} {pos : Nat} (hd : bs.drop pos = l ++ r) : bs.drop (pos + l.length) = r := by
  rw [← List.drop_drop, hd, List.drop_left]

theorem rd32_of_At {big : Bool} {bs : List Byte} {off : Nat} {v : Int} (h : FieldAt bs off (u32 big v)) :
    rd32 big bs off = wrapU 32 v := by
  have h := h.drop_take; rw [u32_length] at h
  unfold rd32; simp only [h]
  unfold u32; cases big
  · exact ofLE_leBytes_wrapU 4 v
  · exact ofBE_beBytes_wrapU 4 v

theorem rd16_of_At {big : Bool} {bs : List Byte} {off : Nat} {v : Int} (h : FieldAt bs off (u16 big v)) :
    rd16 big bs off = wrapU 16 v := by
  have h := h.drop_take; rw [u16_length] at h
  unfold rd16; simp only [h]
  unfold u16; cases big
  · exact ofLE_leBytes_wrapU 2 v
  · exact ofBE_beBytes_wrapU 2 v

theorem rd32_skip (big : Bool) (a r : List Byte) {off : Nat} (h : a.length ≤ off) : rd32 big (a ++ r) off = rd32 big r (off - a.length) := by
  unfold rd32; rw [drop_app_skip a r h]

theorem rd16_skip (big : Bool) (a r : List Byte) {off : Nat} (h : a.length ≤ off) : rd16 big (a ++ r) off = rd16 big r (off - a.length) := by
  unfold rd16; rw [drop_app_skip a r h]

theorem rd32_head (big : Bool) (v : Int) (r : List Byte) : rd32 big (u32 big v ++ r) 0 = wrapU 32 v := rd32_of_At (FieldAt.head _ _)

theorem rd16_head (big : Bool) (v : Int) (r : List Byte) : rd16 big (u16 big v ++ r) 0 = wrapU 16 v := rd16_of_At (FieldAt.head _ _)

theorem rd32_rebase {big : Bool} {bs x : List Byte} {p off : Nat} (hd : bs.drop p = x) (h : p ≤ off) : rd32 big bs off = rd32 big x (off - p) := by
  unfold rd32; rw [drop_rebase_le hd h]

theorem rd16_rebase {big : Bool} {bs x : List Byte} {p off : Nat} (hd : bs.drop p = x) (h : p ≤ off) : rd16 big bs off = rd16 big x (off - p) := by
  unfold rd16; rw [drop_rebase_le hd h]

theorem u32_small {b : Bool} {bs : List Byte} {off v : Nat} (hv : v < 2 ^ 32) (h : FieldAt bs off (u32 b v)) : rd32 b bs off = v := by
  rw [rd32_of_At h, wrapU_natCast, Nat.mod_eq_of_lt hv]

theorem u16_small {b : Bool} {bs : List Byte} {off v : Nat} (hv : v < 2 ^ 16) (h : FieldAt bs off (u16 b v)) : rd16 b bs off = v := by
  rw [rd16_of_At h, wrapU_natCast, Nat.mod_eq_of_lt hv]

@[simp] theorem marker_snd : marker ".snd" = [46, 115, 110, 100] := by decide
@[simp] theorem marker_dns : marker "dns." = [100, 110, 115, 46] := by decide
@[simp] theorem marker_RIFF : marker "RIFF" = [82, 73, 70, 70] := by decide
@[simp] theorem marker_RIFX : marker "RIFX" = [82, 73, 70, 88] := by decide
@[simp] theorem marker_WAVE : marker "WAVE" = [87, 65, 86, 69] := by decide
@[simp] theorem marker_fmt : marker "fmt " = [102, 109, 116, 32] := by decide
@[simp] theorem marker_fact : marker "fact" = [102, 97, 99, 116] := by decide
@[simp] theorem marker_PEAK : marker "PEAK" = [80, 69, 65, 75] := by decide
@[simp] theorem marker_data : marker "data" = [100, 97, 116, 97] := by decide
@[simp] theorem marker_PAD : marker "PAD " = [80, 65, 68, 32] := by decide

theorem writeAt_head (hdr rest hdr' : List Byte) (hl : hdr'.length = hdr.length) :
    writeAt (hdr ++ rest) 0 hdr' = hdr' ++ rest := by
  simp [writeAt, hl]

theorem writeAt_nil (d : List Byte) : writeAt [] 0 d = d := by simp [writeAt]

theorem encOf_props (c : Container) (codec : Nat) (big : Bool) (e : Enc) (h : encOf c codec big = some e) :
    0 < e.nbytes ∧ e.wf := by
  unfold encOf at h
  split at h <;> (try split at h) <;> simp at h <;> subst h <;>
    simp [Enc.nbytes, PcmFmt.nbytes, Enc.wf, PcmFmt.wf]

theorem encOf_nbytes_pos {c : Container} {codec : Nat} {big : Bool} {enc : Enc} (h : encOf c codec big = some enc) :
    0 < enc.nbytes :=
  (encOf_props c codec big enc h).1

end Sf
