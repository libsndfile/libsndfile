/-
  Holes on the read side of the bridge Sf.Handle → Sf.Abs: a write beyond the end of the data (the store zero-fills the
  gap: `Sf.writeAt`).  (The other source of a hole, an extending SFC_FILE_TRUNCATE, is in `trunc_step_h`,
  SfProofs/AbsBridgeRun.lean.)

  `holeZeroFor e ty`: the (encoding, caller type) pairs for which a sample of all-zero bytes IS the value 0 — signed PCM of
  every width read as short / int, float data read as float, double data read as double or float.  NOT unsigned 8-bit PCM
  (0x00 is −128), µ-law (0x00 is −32124) or A-law (0x00 is −5504): SfProps/C08Holes.lean `zero_byte_u8_ulaw_alaw`.
  `write_ref_hole`: after a write past the end on a read/write handle the decoded data region of the store is
  `Abs.writeAt 0 (absRef before) (wpos·cpf) cells`, what the predicate goes on judging with when the geometry claims
  `holeZero` — the hole case of `write_ref` (SfProofs/AbsBridgeLossless.lean), which is what `write_step_h` cites.
-/
import SfProofs.AbsBridgeLossless
namespace Sf.AbsBridge
open Sf

/-- does a sample of all-zero bytes decode to the value 0 for this caller type (conversion-free pairs only) -/
def holeZeroFor : Enc → Ty → Bool
  | .pcm p, .s16 => !p.unsigned
  | .pcm p, .s32 => !p.unsigned
  | .flt _, .f32 => true
  | .dbl _, .f64 => true
  | .dbl _, .f32 => true
  | _, _ => false

theorem ofLE_zeros : ∀ n : Nat, ofLE (zeros n) = 0
  | 0 => rfl
  | n + 1 => by
    have : zeros (n + 1) = 0 :: zeros n := rfl
    rw [this, ofLE, ofLE_zeros n]

theorem ofBE_zeros (n : Nat) : ofBE (zeros n) = 0 := by
  unfold ofBE
  have : (zeros n).reverse = zeros n := by simp [zeros]
  rw [this, ofLE_zeros]

theorem sext_zero (w : Nat) : sext w 0 = 0 := by
  unfold sext
  have : (0 : Nat) < 2 ^ (w - 1) := Nat.pow_pos (by decide)
  simp [this]

theorem decode_zeros (e : Enc) (ty : Ty) (h : holeZeroFor e ty = true) (c : Conv) : e.decode c ty (zeros e.nbytes) = 0 := by
  cases e with
  | pcm p =>
    have hu : p.unsigned = false := by cases ty <;> simp [holeZeroFor] at h <;> exact h
    have hcode : p.decCode (zeros p.nbytes) = 0 := by
      unfold PcmFmt.decCode
      simp only [ofBE_zeros, ofLE_zeros, ite_self, hu, Bool.false_eq_true, if_false, sext_zero]
    cases ty with
    | s16 =>
      show p.toS16 (p.decCode (zeros p.nbytes)) = 0
      rw [hcode]; unfold PcmFmt.toS16
      split
      · decide
      · simp [asr]
    | s32 =>
      show p.toS32 (p.decCode (zeros p.nbytes)) = 0
      rw [hcode]; unfold PcmFmt.toS32; simp [wrapS]
    | f32 => simp [holeZeroFor] at h
    | f64 => simp [holeZeroFor] at h
  | flt big =>
    cases ty <;> simp [holeZeroFor] at h
    show ((if big then ofBE (zeros 4) else ofLE (zeros 4) : Nat) : Int) = 0
    simp [ofBE_zeros, ofLE_zeros]
  | dbl big =>
    cases ty <;> simp [holeZeroFor] at h
    · show ((Float.f64to32 (if big then ofBE (zeros 8) else ofLE (zeros 8)) : Nat) : Int) = 0
      simp only [ofBE_zeros, ofLE_zeros, ite_self]; decide
    · show ((if big then ofBE (zeros 8) else ofLE (zeros 8) : Nat) : Int) = 0
      simp [ofBE_zeros, ofLE_zeros]
  | ulaw => cases ty <;> simp [holeZeroFor] at h
  | alaw => cases ty <;> simp [holeZeroFor] at h

theorem write_ref_hole (hw : WidenExact) (h : H) (s : Store) (inv : RwInv h s) (ty : Ty) (fc : Bool) (vals : List Int)
    (m : Nat) (hm0 : 0 < m) (hvl : vals.length = m * h.ch) (he : h.enc.wf) (hv : ∀ v ∈ vals, ty.inRange v)
    (hl : ∀ v ∈ vals, lossless h.enc ty v) (hFW : h.frames ≤ h.wpos) (hz : holeZeroFor h.enc ty = true) :
    absRef (stepAny h s ((ROp.write ty fc vals).toOp h)).1 (stepAny h s ((ROp.write ty fc vals).toOp h)).2.1 ty =
      Abs.writeAt 0 (absRef h s ty) (h.wpos.toNat * (h.ch * Abs.cells ty)) (encBuf ty vals) :=
  write_ref hw h s inv ty fc vals m hm0 hvl he hv hl (Or.inr (decode_zeros h.enc ty hz h.conv))

end Sf.AbsBridge
