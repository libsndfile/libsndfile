/-
  Reads of ANY size at ANY position through the staging loops of the `*_read_s/i/f/d` entry points over a ONE-channel block
  reader — `Reader.readChunked` (goes on after a piece that came back short: gsm610_read_*) and `Reader.readChunkedBrk … true`
  (stops there: g72x_read_*, nms_adpcm_read_*) — and through the sf_read_* wrappers around them.  Both loops meet one
  description (`Staged`): `t` stream items and `k` zeros are appended, `min n (frames − pos) ≤ t`, and the codec is left at
  `pos + t`.  A request that ends inside the data is the case `t = n`, `k = 0`.
-/
import SfProofs.BlockReader
namespace Sf.Block.Proofs
open Sf Sf.Block

theorem slice_take (r : Reader) (p t c : Nat) (h : c ≤ t) : (r.slice p t).take c = r.slice p c := by
  have : t = c + (t - c) := by omega
  rw [this, slice_append, List.take_left' (slice_length r p c)]

/-- one inner call on a one-channel reader (`readLoop_general` without the `· ch` factors) -/
theorem read_one (r : Reader) (wf : WF r) (hch : r.ch = 1) (st : RState) (inv : Inv r st) (m : Nat) :
    ∃ t st', t ≤ m ∧ (m ≤ t ∨ r.frames ≤ r.pos st + t) ∧
      r.read st m = (st', r.slice (r.pos st) t ++ zeros (m - t), t) ∧ Inv r st' ∧ r.pos st' = r.pos st + t := by
  obtain ⟨t, st', h1, h2, h3, h4, h5⟩ := readLoop_general r wf (m + 1) st m inv (Nat.lt_succ_self m)
  refine ⟨t, st', h1, by omega, ?_, h4, h5⟩
  unfold Reader.read
  simp only [hch, Nat.mul_one] at h3
  exact h3

/-- what a staging loop makes of a request of `n` items from the state `st`, the caller's cells written so far being `acc`
    (`total` of them): `t` stream items and `k` zeros behind them, everything up to `frames` if the request reaches that far,
    and the codec in step with what it delivered -/
def Staged (r : Reader) (st : RState) (n : Nat) (acc : List Int) (total : Nat) (res : RState × List Int × Nat) : Prop :=
  ∃ t k st', t + k ≤ n ∧ min n (r.frames - r.pos st) ≤ t ∧ res = (st', acc ++ (r.slice (r.pos st) t ++ zeros k), total + t) ∧
    Inv r st' ∧ r.pos st' = r.pos st + t

theorem Staged.nil (r : Reader) (st : RState) (inv : Inv r st) (acc : List Int) (total : Nat) :
    Staged r st 0 acc total (st, acc, total) :=
  ⟨0, 0, st, Nat.le_refl _, Nat.zero_le _, by simp [slice_zero, zeros], inv, rfl⟩

/-- a piece that came back whole, then the rest of the request -/
theorem Staged.step {r : Reader} {st st1 : RState} {n rc total : Nat} {acc : List Int} {res : RState × List Int × Nat}
    (hrc : rc ≤ n) (hpos : r.pos st1 = r.pos st + rc)
    (h : Staged r st1 (n - rc) (acc ++ r.slice (r.pos st) rc) (total + rc) res) : Staged r st n acc total res := by
  obtain ⟨t, k, st', h1, h2, rfl, h4, h5⟩ := h
  refine ⟨rc + t, k, st', by omega, min_left_add _ _ _ _ _ (hpos ▸ h2), ?_, h4, by rw [h5, hpos, Nat.add_assoc]⟩
  rw [hpos, List.append_assoc, ← List.append_assoc (r.slice _ rc), ← slice_append, Nat.add_assoc]

/-- one piece of either loop: its size `rc`, what the inner call answers, and the splice into the caller's buffer -/
theorem staged_piece (r : Reader) (wf : WF r) (hch : r.ch = 1) (chunk : Nat) (st : RState) (inv : Inv r st) (n : Nat) (hn : n ≠ 0)
    (acc : List Int) (total : Nat) (hacc : acc.length = total) :
    ∃ rc t1 st1, (if chunk = 0 then n else min chunk n) = rc ∧ 1 ≤ rc ∧ rc ≤ n ∧ t1 ≤ rc ∧ (rc ≤ t1 ∨ r.frames ≤ r.pos st + t1) ∧
      r.read st rc = (st1, r.slice (r.pos st) t1 ++ zeros (rc - t1), t1) ∧ Inv r st1 ∧ r.pos st1 = r.pos st + t1 ∧
      acc.take total ++ (r.slice (r.pos st) t1 ++ zeros (rc - t1)) ++ acc.drop (total + rc) =
        acc ++ r.slice (r.pos st) t1 ++ zeros (rc - t1) := by
  have hrc1 : 1 ≤ (if chunk = 0 then n else min chunk n) ∧ (if chunk = 0 then n else min chunk n) ≤ n := by split <;> omega
  obtain ⟨t1, st1, ht1, ht2, hread, inv1, hpos1⟩ := read_one r wf hch st inv (if chunk = 0 then n else min chunk n)
  refine ⟨_, t1, st1, rfl, hrc1.1, hrc1.2, ht1, ht2, hread, inv1, hpos1, ?_⟩
  rw [List.take_of_length_le (by omega), List.drop_eq_nil_of_le (by omega), List.append_nil, List.append_assoc]

/-- the loop that stops after a short piece, on one channel and with `convZero = true` (`g72x_read_*`, `nms_adpcm_read_*`; the
    IMA / MS ADPCM loops have this shape on any channel count, MS with `convZero = false`: they are not instances) -/
theorem readChunkedBrk_staged (r : Reader) (wf : WF r) (hch : r.ch = 1) (chunk : Nat) : ∀ (fuel : Nat) (st : RState) (n : Nat)
    (acc : List Int) (total : Nat), Inv r st → acc.length = total → n < fuel →
    Staged r st n acc total (r.readChunkedBrk chunk true fuel st n acc total) := by
  intro fuel
  induction fuel with
  | zero => intro st n acc total _ _ h; omega
  | succ fuel ih =>
    intro st n acc total inv hacc hf
    unfold Reader.readChunkedBrk
    by_cases hn : n = 0
    · subst hn; exact Staged.nil r st inv acc total
    · obtain ⟨rc, t1, st1, hrc, h1, h2, ht1, hend, hread, inv1, hpos1, hsplice⟩ := staged_piece r wf hch chunk st inv n hn acc total hacc
      simp only [hn, if_false, hrc, hread, hsplice, Bool.not_true, Bool.false_eq_true, and_false]
      by_cases hfull : t1 = rc
      · subst hfull
        rw [if_neg (by simp), Nat.sub_self, zeros, List.replicate_zero, List.append_nil]
        exact (ih st1 _ _ _ inv1 (by rw [List.length_append, slice_length, hacc]) (by omega)).step h2 hpos1
      · rw [if_pos hfull]
        exact ⟨t1, rc - t1, st1, by omega, by omega, by rw [List.append_assoc], inv1, hpos1⟩

/-- the loop that goes on, once the codec is at its end: every further piece is a zero-fill at offset `total` -/
theorem readChunked_eof (r : Reader) (chunk : Nat) : ∀ (fuel : Nat) (st : RState) (n : Nat) (A : List Int) (j total : Nat),
    r.pos st ≥ r.frames → A.length = total →
    ∃ j', j ≤ j' ∧ j' ≤ max j n ∧ r.readChunked chunk fuel st n (A ++ zeros j) total = (st, A ++ zeros j', total) := by
  intro fuel
  induction fuel with
  | zero => intro st n A j total _ _; exact ⟨j, Nat.le_refl _, Nat.le_max_left _ _, rfl⟩
  | succ fuel ih =>
    intro st n A j total hend hA
    unfold Reader.readChunked
    by_cases hn : n = 0
    · exact ⟨j, Nat.le_refl _, Nat.le_max_left _ _, by simp [hn]⟩
    · simp only [hn, if_false]
      generalize hrc : (if chunk = 0 then n else min chunk n) = rc
      have hrc1 : 1 ≤ rc ∧ rc ≤ n := by subst hrc; split <;> omega
      have hread : r.read st rc = (st, zeros rc, 0) := readLoop_eof r rc st rc (by omega) hend
      rw [hread]
      simp only [Nat.add_zero]
      have hacc : (A ++ zeros j).take total ++ zeros rc ++ (A ++ zeros j).drop (total + rc) = A ++ zeros (max j rc) := by
        rw [List.take_left' hA, ← hA, ← List.drop_drop, List.drop_left' rfl, List.append_assoc]
        simp only [zeros, List.drop_replicate, List.replicate_append_replicate]
        congr 2
        omega
      rw [hacc]
      obtain ⟨j', h1, h2, h3⟩ := ih st (n - rc) A (max j rc) total hend hA
      exact ⟨j', by omega, by omega, h3⟩

/-- the loop that goes on after a short piece, on one channel (`gsm610_read_*`; the PAF24 and SDS loops have this shape on any
    channel count and are not instances) -/
theorem readChunked_staged (r : Reader) (wf : WF r) (hch : r.ch = 1) (chunk : Nat) : ∀ (fuel : Nat) (st : RState) (n : Nat)
    (acc : List Int) (total : Nat), Inv r st → acc.length = total → n < fuel →
    Staged r st n acc total (r.readChunked chunk fuel st n acc total) := by
  intro fuel
  induction fuel with
  | zero => intro st n acc total _ _ h; omega
  | succ fuel ih =>
    intro st n acc total inv hacc hf
    unfold Reader.readChunked
    by_cases hn : n = 0
    · subst hn; exact Staged.nil r st inv acc total
    · obtain ⟨rc, t1, st1, hrc, h1, h2, ht1, hend, hread, inv1, hpos1, hsplice⟩ := staged_piece r wf hch chunk st inv n hn acc total hacc
      simp only [hn, if_false, hrc, hread, hsplice]
      by_cases hfull : t1 = rc
      · subst hfull
        rw [Nat.sub_self, zeros, List.replicate_zero, List.append_nil]
        exact (ih st1 _ _ _ inv1 (by rw [List.length_append, slice_length, hacc]) (by omega)).step h2 hpos1
      · -- the codec is at its end: the rest of the loop only lengthens the zero tail
        obtain ⟨j', j1, j2, e⟩ := readChunked_eof r chunk fuel st1 (n - rc) (acc ++ r.slice (r.pos st) t1) (rc - t1) (total + t1)
          (by omega) (by rw [List.length_append, slice_length, hacc])
        rw [e]
        exact ⟨t1, j', st1, by omega, by omega, by rw [List.append_assoc], inv1, hpos1⟩

theorem Staged.inside {r : Reader} {st : RState} {n total : Nat} {acc : List Int} {res : RState × List Int × Nat}
    (h : Staged r st n acc total res) (hin : r.pos st + n ≤ r.frames) :
    ∃ st', res = (st', acc ++ r.slice (r.pos st) n, total + n) ∧ Inv r st' ∧ r.pos st' = r.pos st + n := by
  obtain ⟨t, k, st', h1, h2, rfl, h4, h5⟩ := h
  obtain rfl : t = n := by omega
  obtain rfl : k = 0 := by omega
  exact ⟨st', by rw [zeros, List.replicate_zero, List.append_nil], h4, h5⟩

end Sf.Block.Proofs
