/-
  SfProofs.AbsWriteBridgeSample — level B of the write-side bridge for container models whose closed bytes are a function
  of the SAMPLES handed to the write calls, not of the audio bytes alone (AIFF / AIFF-C, CAF: the PEAK chunk of a FLOAT /
  DOUBLE file holds per-channel maxima and their frame positions; W64 through the same interface): the SAMPLE-LEVEL form
  of `Cont` / `Laws` (SfProofs/AbsWriteBridgeSmall.lean), which are its instances (`Cont.toS`, `Laws.toS`).

  A container model is seen through `SCont`: the closed bytes and the store after any list of SAMPLE-LEVEL session operations
  `SOp` (a write call handing over samples, with the auto-header flag in force; SFC_UPDATE_HEADER_NOW), per caller type, its
  parser, header length and sample encoding.  The job language (`Small.Op`), the calls, the reference run, the crash points
  and the read-back are those of the byte-level bridge.  `SLaws` is what a container's theorems must supply; the
  partition-independence law `closedFn` is stated ON SAMPLES: two guarded operation lists that hand over the same samples
  close to the same bytes (for a PEAK container this is `Sf.Peak.run_partition`: PEAK value and position do not depend on
  the split).  `sample_pred_good` (SfProofs/AbsWriteBridgeSampleRun.lean) derives `Good`, hence `accepted`.
-/
import SfProofs.AbsWriteBridgeSmall
namespace Sf.AbsWriteBridge.Sample
open Sf Sf.AbsWrite Sf.AbsWriteBridge Sf.Geometry

/-- one operation of the sample-level session machine -/
inductive SOp
  | write (xs : List Int) (auto : Bool)
  | update
deriving Repr, DecidableEq, Inhabited

/-- a container model whose images depend on the samples, as the bridge sees it -/
structure SCont where
  g : AbsWrite.Geom
  enc : Enc
  L : Nat                                               -- header length
  closed : Ty → Nat → List SOp → List Byte             -- the closed file (caller type, stale frames value, operations)
  store : Ty → Nat → List SOp → List Byte              -- the store right after the operations
  parse : List Byte → Small2.ParseRes

def SCont.bw (K : SCont) : Nat := K.enc.nbytes * K.g.ch

/-- session-machine operations of a job (`a`: SFC_SET_UPDATE_HEADER_AUTO in force) -/
def toS : Bool → List Small.Op → List SOp
  | _, [] => []
  | a, .write _ xs :: r => .write xs a :: toS a r
  | a, .update :: r => .update :: toS a r
  | _, .auto b :: r => toS b r

/-- the samples a list of operations hands over -/
def sData : List SOp → List Int
  | [] => []
  | .write xs _ :: r => xs ++ sData r
  | .update :: r => sData r

/-- the write calls of a list of operations, as the PEAK bookkeeping sees them -/
def sCalls (ty : Ty) : List SOp → List (Ty × List Int)
  | [] => []
  | .write xs _ :: r => (ty, xs) :: sCalls ty r
  | .update :: r => sCalls ty r

/-- the samples one operation hands over -/
def SOp.xs : SOp → List Int
  | .write xs _ => xs
  | .update => []

/-- the write call of one operation, as the PEAK bookkeeping sees it -/
def SOp.calls (ty : Ty) : SOp → List (Ty × List Int)
  | .write xs _ => [(ty, xs)]
  | .update => []

theorem sData_eq (ops : List SOp) : sData ops = ops.flatMap SOp.xs := by
  induction ops with
  | nil => rfl
  | cons op r ih => cases op <;> simp [sData, SOp.xs, ih]

theorem sCalls_eq (ty : Ty) (ops : List SOp) : sCalls ty ops = ops.flatMap (SOp.calls ty) := by
  induction ops with
  | nil => rfl
  | cons op r ih => cases op <;> simp [sCalls, SOp.calls, ih]

theorem sData_append : ∀ (xs ys : List SOp), sData (xs ++ ys) = sData xs ++ sData ys := by
  simp only [sData_eq, List.flatMap_append, implies_true]

theorem sData_toS : ∀ (ops : List Small.Op) (a : Bool), sData (toS a ops) = Small.sampleList ops
  | [], _ => rfl
  | .write _ xs :: r, a => by simp [toS, sData, Small.sampleList, sData_toS r a]
  | .update :: r, a => by simp [toS, sData, Small.sampleList, sData_toS r a]
  | .auto b :: r, a => by simp [toS, Small.sampleList, sData_toS r b]

theorem mem_toS {op : SOp} : ∀ (p : List Small.Op) (a : Bool), op ∈ toS a p → op = .update ∨ ∃ fc xs b, op = .write xs b ∧ Small.Op.write fc xs ∈ p
  | [], _, h => by cases h
  | .write fc xs :: r, a, h => by
    rcases List.mem_cons.mp h with rfl | h
    · exact .inr ⟨fc, xs, a, rfl, List.mem_cons_self ..⟩
    · exact (mem_toS r a h).imp id fun ⟨fc', xs', b, e, hm⟩ => ⟨fc', xs', b, e, List.mem_cons_of_mem _ hm⟩
  | .update :: r, a, h => by
    rcases List.mem_cons.mp h with rfl | h
    · exact .inl rfl
    · exact (mem_toS r a h).imp id fun ⟨fc', xs', b, e, hm⟩ => ⟨fc', xs', b, e, List.mem_cons_of_mem _ hm⟩
  | .auto c :: r, _, h => (mem_toS r c h).imp id fun ⟨fc', xs', b, e, hm⟩ => ⟨fc', xs', b, e, List.mem_cons_of_mem _ hm⟩

theorem mem_sCalls {ty : Ty} {c : Ty × List Int} {w : List SOp} (h : c ∈ sCalls ty w) : ∃ b, SOp.write c.2 b ∈ w ∧ c.1 = ty := by
  rw [sCalls_eq, List.mem_flatMap] at h
  obtain ⟨op, hm, hc⟩ := h
  cases op with
  | write xs b => cases List.mem_singleton.mp hc; exact ⟨b, hm, rfl⟩
  | update => cases hc

theorem toS_append : ∀ (xs ys : List Small.Op) (a : Bool), toS a (xs ++ ys) = toS a xs ++ toS (Small.autoAfter a xs) ys
  | [], _, _ => rfl
  | .write _ _ :: xs, ys, a => by simp [toS, Small.autoAfter, toS_append xs ys a]
  | .update :: xs, ys, a => by simp [toS, Small.autoAfter, toS_append xs ys a]
  | .auto b :: xs, ys, a => by simp [toS, Small.autoAfter, toS_append xs ys b]

/-! ### whole frames per call (the guards of the W64, CAF and AIFF models, whose write operation counts frames) -/

/-- every write call hands over whole frames -/
def Whole (ch : Nat) (ops : List SOp) : Prop :=
  ∀ op ∈ ops, match op with | .write xs _ => xs.length % ch = 0 | .update => True

theorem Whole.tail {ch : Nat} {x : SOp} {r : List SOp} (h : Whole ch (x :: r)) : Whole ch r :=
  fun o ho => h o (List.mem_cons_of_mem _ ho)

theorem Whole.left {ch : Nat} {a b : List SOp} (h : Whole ch (a ++ b)) : Whole ch a :=
  fun o ho => h o (List.mem_append_left _ ho)

theorem Whole.right {ch : Nat} {a b : List SOp} (h : Whole ch (a ++ b)) : Whole ch b :=
  fun o ho => h o (List.mem_append_right _ ho)

theorem Whole.head {ch : Nat} {xs : List Int} {a : Bool} {r : List SOp} (h : Whole ch (.write xs a :: r)) :
    xs.length % ch = 0 := h (.write xs a) (List.mem_cons_self ..)

theorem div_add_of_whole (ch a n : Nat) (hch : 0 < ch) (h : a % ch = 0) : (a + n) / ch = a / ch + n / ch := by
  obtain ⟨q, rfl⟩ := Nat.dvd_of_mod_eq_zero h
  rw [Nat.mul_add_div hch, Nat.mul_div_cancel_left _ hch]

theorem frames_eq_zero_iff (ch : Nat) (xs : List Int) (h : xs.length % ch = 0) : xs.length / ch = 0 ↔ xs = [] := by
  have := Nat.div_add_mod xs.length ch
  constructor
  · intro h0
    rw [h0, h] at this
    exact List.length_eq_zero_iff.mp (by simpa using this.symm)
  · rintro rfl; simp

theorem Whole.sData {ch : Nat} {ops : List SOp} (h : Whole ch ops) : (sData ops).length % ch = 0 := by
  rw [sData_eq]
  refine flatMap_length_mod _ _ _ fun op hm => ?_
  cases op with
  | write xs a => exact h _ hm
  | update => exact Nat.zero_mod _

/-- the operation list ends in a header rewrite: SFC_UPDATE_HEADER_NOW or a write call that transferred something in auto mode
    (a write call of zero items returns before it reaches the header) -/
def EndsInRewrite (ops : List SOp) : Prop := ∃ w x, ops = w ++ [x] ∧ (x = SOp.update ∨ ∃ xs, xs ≠ [] ∧ x = SOp.write xs true)

theorem crashes_spec : ∀ (rest pre : List Small.Op) (a : Bool) (p : List Small.Op), p ∈ Small.crashes pre rest a →
    ∃ mid post, p = pre ++ mid ∧ rest = mid ++ post ∧ ∀ a0, Small.autoAfter a0 pre = a → EndsInRewrite (toS a0 p)
  | [], _, _, _, hp => by simp [Small.crashes] at hp
  | .write fc xs :: r, pre, a, p, hp => by
    simp only [Small.crashes, List.mem_append] at hp
    rcases hp with hp | hp
    · split at hp
      · rename_i hc
        simp only [List.mem_singleton] at hp
        subst hp
        refine ⟨[.write fc xs], r, rfl, rfl, fun a0 ha => ?_⟩
        rw [toS_append, ha, hc.1]
        exact ⟨_, _, rfl, Or.inr ⟨_, hc.2, rfl⟩⟩
      · simp at hp
    · obtain ⟨mid, post, e1, e2, e3⟩ := crashes_spec r (pre ++ [.write fc xs]) a p hp
      refine ⟨.write fc xs :: mid, post, by rw [e1]; simp, by rw [e2]; rfl, fun a0 ha => e3 a0 ?_⟩
      rw [Small.autoAfter_append, ha]; rfl
  | .update :: r, pre, a, p, hp => by
    simp only [Small.crashes, List.mem_cons] at hp
    rcases hp with hp | hp
    · subst hp
      refine ⟨[.update], r, rfl, rfl, fun a0 _ => ?_⟩
      rw [toS_append]
      exact ⟨_, _, rfl, Or.inl rfl⟩
    · obtain ⟨mid, post, e1, e2, e3⟩ := crashes_spec r (pre ++ [.update]) a p hp
      refine ⟨.update :: mid, post, by rw [e1]; simp, by rw [e2]; rfl, fun a0 ha => e3 a0 ?_⟩
      rw [Small.autoAfter_append, ha]; rfl
  | .auto b :: r, pre, a, p, hp => by
    simp only [Small.crashes] at hp
    obtain ⟨mid, post, e1, e2, e3⟩ := crashes_spec r (pre ++ [.auto b]) b p hp
    refine ⟨.auto b :: mid, post, by rw [e1]; simp, by rw [e2]; rfl, fun a0 _ => e3 a0 ?_⟩
    rw [Small.autoAfter_append]; rfl

/-- the model's reader: the decoded bytes behind the header, cut at the frame count the parser reports; the rest of the
    requested region keeps the harness's fill pattern -/
def readBack (K : SCont) (ty : Ty) (want : Nat) (bytes : List Byte) : Int × List Int :=
  match K.parse bytes with
  | .ok i =>
    let items := (K.enc.decodeAll {} ty (bytes.drop K.L)).take (i.frames * K.g.ch)
    ((items.length : Int), items ++ List.replicate (want - items.length) (pattern ty))
  | _ => (0, [])

def snapOf (K : SCont) (ty : Ty) (stale : Nat) (p : List Small.Op) : LSnap :=
  let img := K.store ty stale (toS false p)
  let rb := readBack K ty ((framesOf K.g.ch (Small.callsOf K.g.ch p) + 8) * K.g.ch) img
  { k := (Small.callsOf K.g.ch p).length, info := Small.infoOf (K.parse img), ret := rb.1, data := rb.2 }

/-- THE PREDICTION of a sample-level container model for a job (`stale` / `stale'`: the two SF_INFO.frames values at open) -/
def predOf (K : SCont) (ty : Ty) (stale stale' : Nat) (ops : List Small.Op) : Pred :=
  let b1 := K.closed ty stale (toS false (Small.refOps ops))
  let N := framesOf K.g.ch (Small.callsOf K.g.ch ops)
  let rb := readBack K ty ((N + K.g.block + K.g.pad + 8) * K.g.ch) b1
  { g := K.g, ty := ty,
    one := { calls := Small.callsOf K.g.ch (Small.refOps ops), bytes := b1 },
    info := Small.infoOf (K.parse b1), rbRet := rb.1, rbData := rb.2, rbMore := 0,
    split := { calls := Small.callsOf K.g.ch ops, bytes := K.closed ty stale (toS false ops) },
    snaps := (Small.crashes [] ops false).map (snapOf K ty stale),
    stale := K.closed ty stale' (toS false (Small.refOps ops)) }

def recordOf (K : SCont) (ty : Ty) (stale stale' : Nat) (ops : List Small.Op) : Record := (predOf K ty stale stale' ops).record

/-- the laws of a sample-level container for the caller type `ty` under the guard `G` (whole frames, the container's size
    guards, and — for a PEAK container — what the PEAK theorems ask of a call: not empty, finite values) -/
structure SLaws (K : SCont) (ty : Ty) (G : List SOp → Prop) : Prop where
  chpos : 0 < K.g.ch
  nb : 0 < K.enc.nbytes
  wf : K.enc.wf
  block : K.g.block = 1
  notRaw : K.g.major ≠ 0x04
  /-- the configuration's encoding is the one the format word names (for the side condition of C01) -/
  codec : ∃ big, encOf .raw K.g.codec big = some K.enc
  /-- C04: the closed file is header ++ encoded samples ++ tail and re-opens with the requested parameters and all the frames -/
  closedForm : ∀ st ops, G ops → ∃ hdr tail, hdr.length = K.L ∧ K.closed ty st ops = hdr ++ K.enc.encodeAll {} ty (sData ops) ++ tail
  closedParse : ∀ st ops, G ops → ∃ i, K.parse (K.closed ty st ops) = .ok i ∧
    i.frames = (K.enc.encodeAll {} ty (sData ops)).length / K.bw ∧
    i.ch = K.g.ch ∧ i.fmt % 0x10000000 = K.g.word % 0x10000000 ∧ rateOk K.g.major K.g.sr (i.sr : Int) = true
  /-- C07 / C04, ON SAMPLES: the closed bytes are a function of the concatenated samples (not of the split, the header updates,
      the stale value) — PEAK value and position included -/
  closedFn : ∀ a b ops ops', G ops → G ops' → sData ops = sData ops' → K.closed ty a ops = K.closed ty b ops'
  /-- C11: the store after a header rewrite is header ++ encoded samples so far (++ nothing the parser counts) and opens with
      the same parameters -/
  storeForm : ∀ st ops, G ops → EndsInRewrite ops →
    ∃ hdr tail, hdr.length = K.L ∧ K.store ty st ops = hdr ++ K.enc.encodeAll {} ty (sData ops) ++ tail
  storeParse : ∀ st ops, G ops → EndsInRewrite ops → ∃ i, K.parse (K.store ty st ops) = .ok i ∧
    i.frames = (K.enc.encodeAll {} ty (sData ops)).length / K.bw ∧ i.ch = K.g.ch ∧ i.fmt % 0x10000000 = K.g.word % 0x10000000

theorem SLaws.mono {K : SCont} {ty : Ty} {G G' : List SOp → Prop} (h : SLaws K ty G) (hG : ∀ ops, G' ops → G ops) : SLaws K ty G' :=
  { chpos := h.chpos, nb := h.nb, wf := h.wf, block := h.block, notRaw := h.notRaw, codec := h.codec,
    closedForm := fun st ops hg => h.closedForm st ops (hG ops hg),
    closedParse := fun st ops hg => h.closedParse st ops (hG ops hg),
    closedFn := fun a b ops ops' hg hg' e => h.closedFn a b ops ops' (hG ops hg) (hG ops' hg') e,
    storeForm := fun st ops hg he => h.storeForm st ops (hG ops hg) he,
    storeParse := fun st ops hg he => h.storeParse st ops (hG ops hg) he }

theorem readBack_eval (K : SCont) (ty : Ty) (want : Nat) (bytes hdr tail : List Byte) (xs : List Int) (i : Small2.Info)
    (hnb : 0 < K.enc.nbytes) (hp : K.parse bytes = .ok i) (hb : bytes = hdr ++ K.enc.encodeAll {} ty xs ++ tail)
    (hl : hdr.length = K.L) (hf : i.frames * K.g.ch = xs.length) :
    readBack K ty want bytes =
      ((xs.length : Int), K.enc.decodeAll {} ty (K.enc.encodeAll {} ty xs) ++ List.replicate (want - xs.length) (pattern ty)) := by
  have hdl : (K.enc.decodeAll {} ty (K.enc.encodeAll {} ty xs)).length = xs.length := by
    rw [Enc.decodeAll_length _ _ _ hnb, Enc.encodeAll_length_cw, Nat.mul_div_cancel _ hnb]
  have hitems : (K.enc.decodeAll {} ty (bytes.drop K.L)).take (i.frames * K.g.ch) =
      K.enc.decodeAll {} ty (K.enc.encodeAll {} ty xs) := by
    rw [hb, List.append_assoc, ← hl, List.drop_left' rfl,
      Enc.decodeAll_append _ _ _ hnb xs.length _ _ (Enc.encodeAll_length_cw _ _ _ _), hf]
    exact List.take_left' hdl
  unfold readBack
  rw [hp]
  simp only [hitems, hdl]

theorem frames_of_samples (K : SCont) (hnb : 0 < K.enc.nbytes) (hch : 0 < K.g.ch) (ty : Ty) (xs : List Int) (n : Nat)
    (hx : xs.length = n * K.g.ch) : (K.enc.encodeAll {} ty xs).length / K.bw = n := by
  rw [Enc.encodeAll_length_cw, hx, SCont.bw, Nat.mul_assoc, Nat.mul_comm K.g.ch, Nat.mul_div_cancel _ (Nat.mul_pos hnb hch)]

end Sf.AbsWriteBridge.Sample
