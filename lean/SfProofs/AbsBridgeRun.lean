/-
  The TRUNCATE and flag-command steps, one step of `stepAny`, and the induction over the operation list: the transcript
  the concrete model produces for any judged operation list from any state satisfying `BInv` is accepted by the predicate.
-/
import SfProofs.AbsBridgeSteps
namespace Sf.AbsBridge
open Sf

theorem trunc_refused_goal (g : Abs.Geom) (h : H) (s : Store) (st : Abs.St) (n e : Int)
    (bi : BInv h s) (sim : Sim h s st) (hc : st.mode = .r ∨ g.canTrunc = false ∨ n < 0)
    (hs : stepTruncate h s n = ({ h with error := e }, s, { ret := 1, err := e })) :
    StepGoal g st (.trunc n) (outOf (stepTruncate h s n).2.2) (stepTruncate h s n).1 (stepTruncate h s n).2.1 := by
  rw [hs]
  exact ⟨_, Abs.truncOk_complete_refused g st n _ hc (by simp [outOf]), sim.set_err e _, bi.set_error e⟩

theorem trunc_step_h (g : Abs.Geom) (h : H) (s : Store) (st : Abs.St) (n : Int)
    (gf : GeomForH g h) (bi : BInv h s) (sim : Sim h s st) (hj : n = -1 → h.mode = .r ∨ h.canTruncate = false) :
    StepGoal g st (.trunc n) (outOf (stepTruncate h s n).2.2) (stepTruncate h s n).1 (stepTruncate h s n).2.1 := by
  have hi := bi.hinv
  by_cases hr : h.mode = .r
  · exact trunc_refused_goal g h s st n 0 bi sim (Or.inl ((mode_iff sim.mode .r).mpr hr)) (stepTruncate_rmode h s n hr)
  by_cases hc : h.canTruncate = false
  · exact trunc_refused_goal g h s st n 0 bi sim (Or.inr (Or.inl (by rw [gf.canTrunc]; exact hc))) (stepTruncate_vio h s n hr hc)
  have hct : h.canTruncate = true := by simpa using hc
  by_cases hneg : n < 0
  · have hn1 : n ≠ -1 := by
      intro hx
      rcases hj hx with hx | hx
      · exact hr hx
      · exact hc hx
    exact trunc_refused_goal g h s st n E_BAD_SEEK bi sim (Or.inr (Or.inr hneg)) (stepTruncate_neg h s n hr hct hneg hn1)
  have hn : 0 ≤ n := by omega
  obtain ⟨k, hk⟩ := Int.eq_ofNat_of_zero_le hn
  have hstm : st.mode ≠ .r := mt (mode_iff sim.mode .r).mp hr
  have hs := stepTruncate_ok h s n hr hn
  rw [if_pos hct] at hs
  have hacc := Abs.truncOk_complete g st n (outOf (stepTruncate h s n).2.2) hstm (by rw [gf.canTrunc]; exact hct) hn
    (by rw [hs]; rfl) (by rw [hs]; rfl)
  rcases mode_cases h.mode with hm | hm | hm
  · exact absurd hm hr
  · -- write-only handle: no stream to keep
    have hmv : seekMoveH h 0 n = { h with error := 0, wpos := n, lastOp := .w } := by
      simp [seekMoveH, hm, modeBits]
    rw [hmv] at hs
    refine ⟨_, hacc, ?_, ?_⟩
    · rw [hs]
      refine ⟨sim.mode, by simp only [Abs.afterTrunc]; omega, fun hx => absurd hm hx,
        fun _ => by simp only [Abs.afterTrunc]; omega, fun hx => absurd hm hx⟩
    · have := HInv_stepTruncate h s n hi
      rw [hs] at this ⊢
      exact ⟨this, hn, fun hx => by rw [hm] at hx; cases hx⟩
  · -- read/write handle: shortening (C08Refine.truncate_shortens) or extending with zero frames
    have inv := bi.rw hm
    obtain ⟨R, W, F, hdr, D, v⟩ := inv
    subst hk
    obtain ⟨_, _, v'⟩ := v.truncate_view k hct
    have inv' : RwInv (stepTruncate h s (k : Int)).1 (stepTruncate h s (k : Int)).2.1 := ⟨_, _, _, _, _, v'⟩
    have hmv := seekMoveH_rw h hm .both (k : Int)
    simp only [ptrBits] at hmv
    rw [hmv] at hs
    have hF : st.frames = F := by have := sim.frames; have := v.frames; omega
    refine ⟨_, hacc, ?_, ⟨HInv_stepTruncate h s _ hi, by rw [hs]; exact hn, fun _ => inv'⟩⟩
    refine ⟨?_, ?_, fun _ => ?_, fun _ => ?_, fun _ t hv => ?_⟩
    · rw [hs]; exact sim.mode
    · rw [hs]; simp only [Abs.afterTrunc, Int.toNat_natCast]
    · rw [hs]; simp only [Abs.afterTrunc, Int.toNat_natCast]
    · rw [hs]; simp only [Abs.afterTrunc, Int.toNat_natCast]
    · obtain ⟨hvt, hle⟩ := Abs.afterTrunc_valid.mp hv
      rw [Int.toNat_natCast, hF] at hle
      have hnb := v.nb_pos
      have e1 : (stepTruncate h s (k : Int)).1.enc = h.enc := by rw [hs]
      have e2 : (stepTruncate h s (k : Int)).1.conv = h.conv := by rw [hs]
      have hdl := items_length h t D F hnb v.dlen
      rw [Abs.afterTrunc_ref, Int.toNat_natCast, sim.ref (by rw [hm]; decide) t hvt]
      unfold absRef
      rw [v'.dataRegion, e1, e2, v.dataRegion, g.mul_cpf, gf.ch]
      rw [H.bw, items_mul, Enc.decodeAll_truncBytes _ _ _ hnb D (F * h.ch) _ (by rw [v.dlen, H.bw, items_mul]),
        AbsFile.upTo_hole _ 0 _ _ (hle.imp (fun hkF => by rw [hdl]; exact Nat.mul_le_mul_right _ hkF)
          (fun hz => decode_zeros h.enc t (gf.holeZero t hz).1 h.conv)), encBuf_upTo]

theorem stepCmdFlag_conv (h : H) (s : Store) (cmd : Nat) (size : Int) (hc : ¬ convCmd cmd) :
    (stepCmdFlag h s cmd size).1.conv = h.conv := by
  unfold convCmd at hc
  simp only [not_or] at hc
  obtain ⟨c1, c2, c3, c4⟩ := hc
  unfold stepCmdFlag
  simp only
  split
  -- a branch either leaves `conv` alone (`rfl`) or is one of the four `convCmd`s, against `hc`; what `skip` leaves is
  -- SFC_UPDATE_HEADER_NOW (0x1060), the header rewrite
  all_goals first
    | rfl
    | (exfalso; omega)
    | skip
  show (if _ then _ else _ : H × Store).1.conv = _
  split
  · obtain ⟨fl, dl, off, e, _⟩ := writeHeader_fst { h with error := 0 } s true
    rw [e]
  · rfl

theorem cmd_step (g : Abs.Geom) (h : H) (s : Store) (st : Abs.St) (cmd : Nat) (size : Int)
    (bi : BInv h s) (sim : Sim h s st) (hc : ¬ convCmd cmd) :
    StepGoal g st .other (outOf (stepCmdFlag h s cmd size).2.2) (stepCmdFlag h s cmd size).1 (stepCmdFlag h s cmd size).2.1 := by
  obtain ⟨cv, ah, ⟨fl, dl, off, e, _⟩, _, _⟩ := stepCmdFlag_fields h s cmd size
  have k : Kept h s (stepCmdFlag h s cmd size).1 (stepCmdFlag h s cmd size).2.1 := by
    refine ⟨by rw [e], by rw [e], fun hmw t => ?_⟩
    apply absRef_congr_region _ _ _ _ t (by rw [e]) (stepCmdFlag_conv h s cmd size hc)
    rcases mode_cases h.mode with hm | hm | hm
    · -- read-only: the store and the data offset are untouched
      obtain ⟨cv', ah', e1, e2⟩ := stepCmdFlag_rmode h s cmd size hm
      rw [e1, e2]; rfl
    · exact absurd hm hmw
    · obtain ⟨R, W, F, hdr, D, v⟩ := bi.rw hm
      obtain ⟨hdr', v'⟩ := v.cmdFlag_view cmd size
      rw [v'.dataRegion]
      exact v.dataRegion.symm
  refine ⟨st, rfl, sim.of_kept k rfl rfl rfl rfl (fun m => by rw [e]; exact sim.rpos m) (fun m => by rw [e]; exact sim.wpos m),
    bi.of_kept k (HInv_stepAny h s (.cmdFlag 0 cmd size) bi.hinv) fun ⟨R, W, F, hdr, D, v⟩ => ?_⟩
  obtain ⟨hdr', v'⟩ := v.cmdFlag_view cmd size
  exact ⟨_, _, _, _, _, v'⟩

def isClose : Sf.Op → Bool | .close _ => true | _ => false

theorem step_bridge_h (hwid : WidenExact) (g : Abs.Geom) (h : H) (s : Store) (st : Abs.St) (op : Sf.Op)
    (gf : GeomForH g h) (bi : BInv h s) (sim : Sim h s st) (hj : Judged g h op) (hc : isClose op = false) :
    StepGoal g st (absOp op) (absOut op (stepAny h s op).2.2) (stepAny h s op).1 (stepAny h s op).2.1 := by
  cases op with
  | read ix ty fc n =>
    exact read_bridge g h s st ty fc n gf.ch gf.tailClean bi sim
  | write ix ty fc n data => exact write_step_h hwid g h s st ty fc n data gf bi sim hj.1 hj.2
  | seek ix off whence =>
    exact seek_step g h s st off whence gf.seekable bi sim
  | cmdFlag ix cmd size => exact cmd_step g h s st cmd size bi sim hj
  | truncate ix n => exact trunc_step_h g h s st n gf bi sim hj
  | close ix => simp [isClose] at hc

/-- the transcript of a run of the concrete model: one (script line, transcript line) pair per operation -/
def transcript (h : H) (s : Store) : List Sf.Op → List (Abs.Op × Abs.Out)
  | [] => []
  | op :: ops => (absOp op, absOut op (stepAny h s op).2.2) :: transcript (stepAny h s op).1 (stepAny h s op).2.1 ops

/-- `close` ends the use of a handle: it may only be the last operation -/
def CloseLast : List Sf.Op → Prop
  | [] => True
  | op :: ops => (isClose op = true → ops = []) ∧ CloseLast ops

theorem run_bridge_h (hwid : WidenExact) (g : Abs.Geom) : ∀ (ops : List Sf.Op) (h : H) (s : Store) (st : Abs.St),
    GeomForH g h → BInv h s → Sim h s st → (∀ op ∈ ops, Judged g h op) → CloseLast ops →
    ∃ st', Abs.accepts g st (transcript h s ops) = some st' := by
  intro ops
  induction ops with
  | nil => intro h s st _ _ _ _ _; exact ⟨st, rfl⟩
  | cons op ops ih =>
    intro h s st gf bi sim hj hcl
    simp only [transcript, Abs.accepts]
    by_cases hc : isClose op = true
    · have : ops = [] := hcl.1 hc
      subst this
      cases op with
      | close ix => exact ⟨st, by simp [absOp, absOut, Abs.check, Abs.closeOk, outOf, stepAny, transcript, Abs.accepts]⟩
      | _ => simp [isClose] at hc
    · have hc' : isClose op = false := by simpa using hc
      obtain ⟨st1, hok, sim1, bi1⟩ := step_bridge_h hwid g h s st op gf bi sim (hj op (by simp)) hc'
      rw [hok]
      have c := SameCfg.stepAny h s op
      exact ih _ _ st1 (GeomForH_congr c gf) bi1 sim1 (fun op' hm => Judged_congr c op' (hj op' (by simp [hm]))) hcl.2

theorem sim_init (g : Abs.Geom) (h : H) (s : Store) (hf : 0 ≤ h.frames) (hg0 : g.frames0 = h.frames.toNat)
    (hgm : g.mode0 = absMode h.mode) (hr0 : h.mode ≠ .w → h.rpos = 0) (hw0 : h.mode = .w → h.wpos = 0)
    (hw1 : h.mode = .rw → h.wpos = h.frames) : Sim h s (Abs.St.init g (absRef h s) (fun _ => true)) := by
  refine ⟨hgm, by simp only [Abs.St.init]; omega, fun hm => ?_, fun hm => ?_, fun _ _ _ => rfl⟩
  · simp only [Abs.St.init]; rw [hr0 hm]; rfl
  · simp only [Abs.St.init, hgm]
    rcases mode_cases h.mode with hx | hx | hx
    · exact absurd hx hm
    · simp only [hx, absMode, reduceCtorEq, if_false]; rw [hw0 hx]; rfl
    · simp only [hx, absMode, if_true]; rw [hw1 hx]; omega

end Sf.AbsBridge
