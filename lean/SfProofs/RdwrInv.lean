/-
  SfProofs.RdwrInv — the invariant of a read/write handle (`RwInv`), the abstraction map (`absOf`) to the abstract
  file of SfProofs/RdwrSpec.lean, and the effect of a header rewrite on both.
-/
import SfProofs.RdwrBytes
import SfProofs.HandleInv
namespace Sf

/-- the PEAK table, if the handle carries one (WAV float / double data written in SFM_WRITE mode and opened SFM_RDWR):
    one entry per channel, and the chunk sits in front of the data (so the header length counts it) -/
def PeakOk (h : H) : Prop := ∀ ps, h.peak = some ps → ps.length = h.ch ∧ h.peakAtStart = true

/-- what may follow the audio data in the store: nothing, or — in a WAV only — one zero byte: the RIFF pad byte behind an
    odd-length data chunk -/
def TailOk (h : H) (t : Nat) : Prop := t = 0 ∨ (t = 1 ∧ h.container = .wav)

/-- A read/write handle between two API calls, seen through natural numbers: read position `R`, write position `W`,
    frame count `F`; the store is `hdr ++ D ++ zeros t` with `hdr` the header region, `D` exactly `F` frames of audio
    and `t ≤ 1` zero bytes behind it (`TailOk`).  `s.pos` is where the last operation left the descriptor:
    after a write exactly at the write pointer (`syncW`); after a read at the read pointer only while that is inside the data
    (`syncR`: a read that runs to the end leaves the descriptor behind the data, possibly behind the pad byte); a seek counts
    as a read or a write of the pointer it moved; after the open (`lastOp = .rw`) nothing is kept but `posGe`, since the first
    read or write seeks to its pointer. -/
structure RwView (h : H) (s : Store) (R W F : Nat) (hdr D : List Byte) : Prop where
  mode : h.mode = .rw
  ch_pos : 0 < h.ch
  nb_pos : 0 < h.enc.nbytes
  rpos : h.rpos = R
  wpos : h.wpos = W
  frames : h.frames = F
  doff : h.dataoffset = (hdrLenOf h : Nat)
  peak : PeakOk h
  dataend : h.container ≠ .wav → h.dataend = 0
  bytes : ∃ t, s.bytes = hdr ++ (D ++ zeros t) ∧ TailOk h t
  hlen : hdr.length = hdrLenOf h
  dlen : D.length = F * h.bw
  posGe : hdrLenOf h ≤ s.pos
  syncW : h.lastOp = .w → s.pos = hdrLenOf h + W * h.bw
  syncR : h.lastOp = .r → R < F → s.pos = hdrLenOf h + R * h.bw

/-- the invariant: positions and frame count are non-negative, the data offset is the header length the container
    writes, a PEAK table (if any) of one entry per channel in front of the data, `dataend = 0` (RAW, AU), the store holds the header region followed by exactly `frames`
    whole frames and at most the zero pad byte (WAV), and the descriptor position agrees with the pointer of the
    last operation -/
def RwInv (h : H) (s : Store) : Prop := ∃ R W F hdr D, RwView h s R W F hdr D

theorem RwView.bw_pos {h : H} {s : Store} {R W F : Nat} {hdr D : List Byte} (v : RwView h s R W F hdr D) : 0 < h.bw :=
  Nat.mul_pos v.nb_pos v.ch_pos

theorem RwInv.toHInv {h : H} {s : Store} (i : RwInv h s) : HInv h s := by
  obtain ⟨R, W, F, hdr, D, v⟩ := i
  refine ⟨v.ch_pos, v.nb_pos, by rw [v.rpos]; omega, by rw [v.wpos]; omega, by rw [v.doff]; omega, ?_⟩
  intro hm; rw [v.mode] at hm; cases hm

theorem RwInv.mode {h : H} {s : Store} (i : RwInv h s) : h.mode = .rw :=
  let ⟨_, _, _, _, _, v⟩ := i
  v.mode

theorem RwInv.frames_nn {h : H} {s : Store} (i : RwInv h s) : 0 ≤ h.frames := by
  obtain ⟨R, W, F, hdr, D, v⟩ := i
  rw [v.frames]; omega

/-- the store's length: header, `frames` frames, and the `t ≤ 1` zero bytes of `TailOk` at its end -/
theorem RwInv.size {h : H} {s : Store} (i : RwInv h s) :
    ∃ t : Nat, (s.bytes.length : Int) = h.dataoffset + h.frames * (h.bw : Int) + t ∧ TailOk h t ∧
      s.bytes.drop (s.bytes.length - t) = zeros t := by
  obtain ⟨R, W, F, hdr, D, v⟩ := i
  obtain ⟨t, hb, ht⟩ := v.bytes
  refine ⟨t, ?_, ht, ?_⟩
  · rw [hb, List.length_append, List.length_append, zeros_length, v.hlen, v.dlen, v.doff, v.frames]; push_cast; omega
  · rw [hb, ← List.append_assoc, List.length_append, zeros_length, Nat.add_sub_cancel, List.drop_left' rfl]

/-- the audio data section of the store: `frames` frames from the data offset -/
def dataRegion (h : H) (s : Store) : List Byte :=
  (s.bytes.drop h.dataoffset.toNat).take (h.frames.toNat * h.bw)

/-- the abstract file a handle and its store stand for: the stored frames (`bw` bytes each), the two positions -/
def absOf (h : H) (s : Store) : AbsFile (List Byte) :=
  { frames := groups h.bw (dataRegion h s), rpos := h.rpos.toNat, wpos := h.wpos.toNat }

theorem RwView.dataRegion {h : H} {s : Store} {R W F : Nat} {hdr D : List Byte} (v : RwView h s R W F hdr D) :
    dataRegion h s = D := by
  unfold Sf.dataRegion
  obtain ⟨t, hb, _⟩ := v.bytes
  rw [hb, v.doff, v.frames, Int.toNat_natCast, Int.toNat_natCast, ← v.hlen, List.drop_left' rfl, ← v.dlen,
    List.take_left' rfl]

theorem RwView.abs {h : H} {s : Store} {R W F : Nat} {hdr D : List Byte} (v : RwView h s R W F hdr D) :
    absOf h s = { frames := groups h.bw D, rpos := R, wpos := W } := by
  unfold absOf
  rw [v.dataRegion, v.rpos, v.wpos]; rfl

theorem RwView.nframes {h : H} {s : Store} {R W F : Nat} {hdr D : List Byte} (v : RwView h s R W F hdr D) :
    (groups h.bw D).length = F :=
  groups_length_mul _ v.bw_pos F D v.dlen

theorem RwView.frame_len {h : H} {s : Store} {R W F : Nat} {hdr D : List Byte} (v : RwView h s R W F hdr D) :
    ∀ g ∈ groups h.bw D, g.length = h.bw :=
  groups_mem_length _ v.bw_pos _ D rfl

theorem hdrLenOf_upd (h : H) (fl dl : Int) : hdrLenOf { h with filelength := fl, datalength := dl } = hdrLenOf h :=
  hdrLenOf_congr _ _ rfl rfl rfl rfl

/-- `xxx_write_header` on a store `hdr ++ D` positioned at or after the header: only the two length fields of the
    handle and the header region of the store change; the position is restored -/
theorem writeHeader_shape (h : H) (s : Store) (cl : Bool) (hdr D : List Byte) (hb : s.bytes = hdr ++ D)
    (hl : hdr.length = hdrLenOf h) (hdo : h.dataoffset = (hdrLenOf h : Nat)) (hp : hdrLenOf h ≤ s.pos) :
    ∃ fl dl hdr', Sf.writeHeader h s cl = ({ h with filelength := fl, datalength := dl }, { bytes := hdr' ++ D, pos := s.pos }) ∧
      hdr'.length = hdrLenOf h := by
  refine ⟨(recalc h s.bytes.length cl).filelength, (recalc h s.bytes.length cl).datalength,
    hdrOf (recalc h s.bytes.length cl), ?_, by rw [hdrOf_length, recalc_hdrLen]⟩
  -- the data offset it computes is the header length, which is the one the handle has
  rw [writeHeader_on h s cl hdr D hb hl hdo hp, recalc_fields, recalc_dataoffset' h _ cl hdo, ← hdo]

theorem RwView.hdr_prefix {h : H} {s : Store} {R W F : Nat} {hdr D : List Byte} (v : RwView h s R W F hdr D) :
    s.bytes = hdr ++ s.bytes.drop hdr.length := by
  obtain ⟨t, hb, _⟩ := v.bytes
  rw [hb, List.drop_left' rfl]

theorem RwView.writeHeader {h : H} {s : Store} {R W F : Nat} {hdr D : List Byte} (v : RwView h s R W F hdr D)
    (cl : Bool) :
    ∃ fl dl hdr', Sf.writeHeader h s cl =
        ({ h with filelength := fl, datalength := dl }, { bytes := hdr' ++ s.bytes.drop hdr.length, pos := s.pos }) ∧
      hdr'.length = hdrLenOf h :=
  writeHeader_shape h s cl hdr _ v.hdr_prefix v.hlen v.doff v.posGe

theorem RwView.upd_lengths {h : H} {s : Store} {R W F : Nat} {hdr D : List Byte} (v : RwView h s R W F hdr D)
    (fl dl : Int) (hdr' : List Byte) (hl : hdr'.length = hdrLenOf h) :
    RwView { h with filelength := fl, datalength := dl } { bytes := hdr' ++ s.bytes.drop hdr.length, pos := s.pos }
      R W F hdr' D := by
  have e := hdrLenOf_upd h fl dl
  obtain ⟨t, hb, ht⟩ := v.bytes
  exact ⟨v.mode, v.ch_pos, v.nb_pos, v.rpos, v.wpos, v.frames, by rw [e]; exact v.doff, v.peak, v.dataend,
    ⟨t, by rw [hb, List.drop_left' rfl], ht⟩,
    by rw [e]; exact hl, v.dlen, by rw [e]; exact v.posGe, by rw [e]; exact v.syncW, by rw [e]; exact v.syncR⟩

theorem RwView.condHeader {h : H} {s : Store} {R W F : Nat} {hdr D : List Byte} (v : RwView h s R W F hdr D)
    (c : Prop) [Decidable c] (cl : Bool) :
    ∃ fl dl hdr', (if c then Sf.writeHeader h s cl else (h, s)) =
        ({ h with filelength := fl, datalength := dl }, { bytes := hdr' ++ s.bytes.drop hdr.length, pos := s.pos }) ∧
      hdr'.length = hdrLenOf h := by
  by_cases hc : c
  · rw [if_pos hc]; exact v.writeHeader cl
  · rw [if_neg hc]
    exact ⟨h.filelength, h.datalength, hdr, by rw [← v.hdr_prefix], v.hlen⟩

end Sf
