/-
  SfProofs.AbsWriteBridgeSmall2 — containers built on the session machine of SfModel/Small2.lean (HTK, WVE, MPC2K, PVF,
  MAT4, MAT5; NIST and VOC use the same machine with their own open state and close function) as `Cont`s of the
  write-side bridge: `small2Cont`, and `laws_of_small2` — the `Laws` from `Small2Facts`: what the session machine does
  (`Small2Machine`: the update image is header ++ audio and a function of the audio bytes, the closed file is the update
  image) and what the container's parser does (the image parses with the requested parameters and D / bw frames).
-/
import SfProofs.AbsWriteBridgeSmall
import SfProofs.Small2Session
namespace Sf.AbsWriteBridge.Small
open Sf Sf.AbsWrite Sf.AbsWriteBridge Sf.Geometry

def small2Cont (F : Small2.Fmt) (parse : List Byte → Small2.ParseRes) (g : AbsWrite.Geom) (enc : Enc) : Cont :=
  { g := g, enc := enc, L := F.hdrLen, closed := Small2.closedBytes F,
    store := fun st ops => (Small2.run F (Small2.openW F st) ops).bytes, parse := parse }

/-- the store right after SFC_UPDATE_HEADER_NOW is the update image of what came before -/
theorem store_update (F : Small2.Fmt) (st : Nat) (w : List Small2.WOp) :
    (Small2.run F (Small2.openW F st) (w ++ [.update])).bytes = Small2.snapshotBytes F st w := by
  simp [Small2.run, Small2.snapshotBytes, List.foldl_append, Small2.stepOp]

/-- the store right after a write call in auto mode is the update image of the same calls made without auto mode -/
theorem store_autowrite (F : Small2.Fmt) (st : Nat) (w : List Small2.WOp) (enc : List Byte) :
    (Small2.run F (Small2.openW F st) (w ++ [.write enc true])).bytes = Small2.snapshotBytes F st (w ++ [.write enc false]) := by
  simp [Small2.run, Small2.snapshotBytes, List.foldl_append, Small2.stepOp, Small2.write, Small2.update]

structure Small2Machine (F : Small2.Fmt) : Prop where
  snapForm : ∀ st ops, ∃ hdr, hdr.length = F.hdrLen ∧ Small2.snapshotBytes F st ops = hdr ++ Small2.opsData ops
  closedIsSnap : ∀ st ops, Small2.closedBytes F st ops = Small2.snapshotBytes F st ops
  snapFn : ∀ a b ops ops', Small2.opsData ops = Small2.opsData ops' → Small2.snapshotBytes F a ops = Small2.snapshotBytes F b ops'

structure Small2Facts (F : Small2.Fmt) (parse : List Byte → Small2.ParseRes) (g : AbsWrite.Geom) (enc : Enc)
    (G : List Small2.WOp → Prop) : Prop extends Small2Machine F where
  chpos : 0 < g.ch
  nb : 0 < enc.nbytes
  wf : enc.wf
  block : g.block = 1
  notRaw : g.major ≠ 0x04
  codec : ∃ big, encOf .raw g.codec big = some enc
  snapParse : ∀ st ops, G ops → ∃ i, parse (Small2.snapshotBytes F st ops) = .ok i ∧
    i.frames = (Small2.opsData ops).length / (enc.nbytes * g.ch) ∧ i.ch = g.ch ∧
    i.fmt % 0x10000000 = g.word % 0x10000000 ∧ rateOk g.major g.sr (i.sr : Int) = true
  Gdata : ∀ a b, Small2.opsData a = Small2.opsData b → G a → G b

theorem laws_of_small2 {F : Small2.Fmt} {parse : List Byte → Small2.ParseRes} {g : AbsWrite.Geom} {enc : Enc}
    {G : List Small2.WOp → Prop} (X : Small2Facts F parse g enc G) : Laws (small2Cont F parse g enc) G := by
  -- the store after an operation list that ends in a rewrite is an update image with the same audio
  have hstore : ∀ st ops, EndsInRewrite ops → ∃ ops', (Small2.run F (Small2.openW F st) ops).bytes = Small2.snapshotBytes F st ops' ∧
      Small2.opsData ops' = Small2.opsData ops := by
    intro st ops ⟨w, x, e, hx⟩
    subst e
    rcases hx with rfl | ⟨enc', rfl⟩
    · exact ⟨w, store_update F st w, by simp [Small2.opsData_eq, Small2.WOp.bytes]⟩
    -- the constructor is named in full: a witness left to be resolved late makes the unifier unfold the session machine
    · exact ⟨w ++ [Small2.WOp.write enc' false], store_autowrite F st w enc', by simp [Small2.opsData_eq, Small2.WOp.bytes]⟩
  refine { chpos := X.chpos, nb := X.nb, wf := X.wf, block := X.block, notRaw := X.notRaw, codec := X.codec,
           closedForm := ?_, closedParse := ?_, closedFn := ?_, storeForm := ?_, storeParse := ?_ }
  · intro st ops _
    obtain ⟨hdr, h1, h2⟩ := X.snapForm st ops
    exact ⟨hdr, [], h1, by show Small2.closedBytes F st ops = _; rw [X.closedIsSnap, h2]; simp⟩
  · intro st ops hg
    obtain ⟨i, h1, h2, h3, h4, h5⟩ := X.snapParse st ops hg
    exact ⟨i, by show parse (Small2.closedBytes F st ops) = _; rw [X.closedIsSnap]; exact h1, h2, h3, h4, h5⟩
  · intro a b ops ops' h
    show Small2.closedBytes F a ops = Small2.closedBytes F b ops'
    rw [X.closedIsSnap, X.closedIsSnap]; exact X.snapFn a b ops ops' h
  · intro st ops _ he
    obtain ⟨ops', e1, e2⟩ := hstore st ops he
    obtain ⟨hdr, h1, h2⟩ := X.snapForm st ops'
    exact ⟨hdr, [], h1, by show (Small2.run F (Small2.openW F st) ops).bytes = _; rw [e1, h2, e2]; simp⟩
  · intro st ops hg he
    obtain ⟨ops', e1, e2⟩ := hstore st ops he
    obtain ⟨i, h1, h2, h3, h4, _⟩ := X.snapParse st ops' (X.Gdata ops ops' e2.symm hg)
    exact ⟨i, by show parse (Small2.run F (Small2.openW F st) ops).bytes = _; rw [e1]; exact h1, by rw [h2, e2]; rfl, h3, h4⟩

/-- a lawful container whose close function rewrites the header -/
theorem small2_machine_facts (F : Small2.Fmt) (L : Small2.Lawful F) (hc : F.closeRewrites = true) : Small2Machine F :=
  { snapForm := fun st ops => ⟨_, L.hlen _, Small2.snapshotBytes_eq F L st ops⟩,
    closedIsSnap := Small2.closed_is_snapshot F hc,
    snapFn := fun a b ops ops' h => by rw [Small2.snapshotBytes_eq F L, Small2.snapshotBytes_eq F L, h] }

/-- a container whose header does not depend on the session (written once at open; no close function needed) -/
theorem small2_const_machine (F : Small2.Fmt) (hc : ∀ f g, F.hdr f = F.hdr g) (hl : (F.hdr {}).length = F.hdrLen) :
    Small2Machine F :=
  { snapForm := fun st ops => ⟨_, hl, (Small2.closedBytes_const F hc st ops).2⟩,
    closedIsSnap := fun st ops => by rw [(Small2.closedBytes_const F hc st ops).1, (Small2.closedBytes_const F hc st ops).2],
    snapFn := fun a b ops ops' e => by rw [(Small2.closedBytes_const F hc a ops).2, (Small2.closedBytes_const F hc b ops').2, e] }

end Sf.AbsWriteBridge.Small
