/-
  One write call, one header update and a list of them (`SOp`, `runS`) in terms of the abstract session state; the frames
  and the encoded data of a session (`sessFrames`, `sessData`) as what `Abs.run` accumulates (C04, C11).
-/
import SfProofs.ContainerSession
namespace Sf

/-- a canonical handle carrying exactly the fields PEAK bookkeeping reads -/
def Cfg.protoH (c : Cfg) (a : Abs) : H :=
  { store := 0, mode := .w, container := c.container, enc := c.enc, big := c.big, ch := c.ch, sr := c.sr,
    fmtWord := c.fmtWord, frames := a.frames, wpos := a.frames, lastOp := .w, peak := a.peak }

/-- effect of an accepted write call with a non-zero count on the session -/
def Abs.writeNZ (c : Cfg) (a : Abs) (w : WCall) : Abs :=
  let vals := w.data.take (w.items c.ch)
  { a with frames := a.frames + w.frames c.ch, data := a.data ++ c.enc.encodeAll {} w.ty vals,
           peak := peakUpdate (c.protoH a) w.ty vals }

/-- effect of any accepted write call (a zero count returns before anything is touched) -/
def Abs.write (c : Cfg) (a : Abs) (w : WCall) : Abs := if w.n = 0 then a else a.writeNZ c w

theorem items_eq (w : WCall) (ch : Nat) (hch : 0 < ch) (hv : w.valid ch) :
    w.items ch = w.frames ch * ch ∧ ((if w.frameCall then w.n * ch else w.n) : Int) = (w.items ch : Nat) := by
  obtain ⟨h0, hal, _⟩ := hv
  obtain ⟨k, hk⟩ := Int.eq_ofNat_of_zero_le h0
  unfold WCall.frames WCall.items
  cases hf : w.frameCall with
  | true =>
    simp only [if_true, hk]
    have : ((k : Int) * (ch : Int)).toNat = k * ch := by rw [← Int.natCast_mul, Int.toNat_natCast]
    rw [this, Nat.mul_div_cancel _ hch]
    exact ⟨rfl, by simp⟩
  | false =>
    simp only [Bool.false_eq_true, if_false, hk]
    have h1 := hal hf
    rw [hk] at h1
    have h2 : k % ch = 0 := by exact_mod_cast h1
    simp only [Int.toNat_natCast]
    refine ⟨?_, trivial⟩
    have := Nat.div_add_mod' k ch
    omega

theorem peakUpdate_shape (h : H) (ty : Ty) (vals : List Int) (hl : ∀ ps, h.peak = some ps → ps.length = h.ch) :
    (peakUpdate h ty vals).isSome = h.peak.isSome ∧ ∀ ps, peakUpdate h ty vals = some ps → ps.length = h.ch := by
  cases hp : h.peak with
  | none => rw [peakUpdate_none h ty vals hp]; exact ⟨rfl, fun _ e => nomatch e⟩
  | some ps0 =>
    obtain ⟨ps', e, l⟩ := peakUpdate_some h ty vals ps0 hp (hl ps0 hp)
    rw [e]; exact ⟨rfl, fun _ e' => by cases e'; exact l⟩

theorem WCall.validW {w : WCall} {h : H} (hv : w.valid h.ch) (hch : 0 < h.ch) (hn : w.n ≠ 0) :
    ValidW h w.frameCall w.n (w.data.take (w.items h.ch)) :=
  ⟨by have := hv.1; omega, hv.2.1, by
    rw [List.length_take, Nat.min_eq_left hv.2.2, callLen]; exact (items_eq w h.ch hch hv).2.symm⟩

section
variable {c : Cfg} {a : Abs} {h : H} {s : Store}

/-- the handle in the middle of a write call (samples stored, automatic header update still to come) matches the
    session state after the call -/
theorem Match.wrMid (i : Inv c a h s) (w : WCall) (hv : w.valid c.ch) :
    Match c (a.writeNZ c w) (wrMid h w.ty (w.data.take (w.items c.ch))) := by
  obtain ⟨hit, _⟩ := items_eq w c.ch i.chpos hv
  have hvl : (w.data.take (w.items c.ch)).length = w.items c.ch := by
    rw [List.length_take]; exact Nat.min_eq_left hv.2.2
  have hpk : peakUpdate h w.ty (w.data.take (w.items c.ch)) = peakUpdate (c.protoH a) w.ty (w.data.take (w.items c.ch)) := by
    rw [peakUpdate_eq, peakUpdate_eq, i.peak, i.enc, i.conv, i.ch, i.wpos]; rfl
  obtain ⟨hs1, hs2⟩ := peakUpdate_shape h w.ty (w.data.take (w.items c.ch)) (by rw [i.peak, i.ch]; exact i.pkLen)
  rw [hpk] at hs1 hs2
  rw [i.ch] at hs2
  exact { i.toMatch with
    frames := by
      show h.wpos + ((w.data.take (w.items c.ch)).length : Int) / h.ch = _
      rw [hvl, i.wpos, i.ch, hit, Int.natCast_mul, Int.mul_ediv_cancel _ (by have := i.chpos; omega)]
      simp [Abs.writeNZ]
    peak := hpk
    pkSome := by rw [Abs.writeNZ, hs1, i.peak]; exact i.pkSome
    pkLen := hs2 }

theorem Inv.setError (i : Inv c a h s) (e : Int) :
    Inv c a { h with error := e } s :=
  { i with }

theorem Inv.setAuto (i : Inv c a h s) (b : Bool) :
    Inv c { a with auto := b } { h with autoHeader := b } s :=
  { i with auto := rfl }

end

/-- the operations of a write session: write calls, SFC_UPDATE_HEADER_NOW, SFC_SET_UPDATE_HEADER_AUTO -/
inductive SOp
  | write (w : WCall)
  | update
  | auto (b : Bool)

def stepS (hs : H × Store) : SOp → H × Store
  | .write w => let r := stepWrite hs.1 hs.2 w.ty w.frameCall w.n w.data; (r.1, r.2.1)
  | .update => let r := stepCmdFlag hs.1 hs.2 0x1060 0; (r.1, r.2.1)
  | .auto b => let r := stepCmdFlag hs.1 hs.2 0x1061 (if b then 1 else 0); (r.1, r.2.1)

def runS (hs : H × Store) (ops : List SOp) : H × Store := ops.foldl stepS hs

def SOp.valid (ch : Nat) : SOp → Prop
  | .write w => w.valid ch
  | _ => True

def Abs.step (c : Cfg) (a : Abs) : SOp → Abs
  | .write w => a.write c w
  | .update => a
  | .auto b => { a with auto := b }

def Abs.run (c : Cfg) (a : Abs) (ops : List SOp) : Abs := ops.foldl (Abs.step c) a

section
variable {c : Cfg} {a : Abs} {h : H} {s : Store}

theorem stepWrite_inv (i : Inv c a h s) (w : WCall) (hv : w.valid c.ch) :
    Inv c (a.write c w) (stepS (h, s) (.write w)).1 (stepS (h, s) (.write w)).2 ∧
    (a.auto = true → w.n ≠ 0 → (stepS (h, s) (.write w)).2.bytes = snapImage c (a.write c w)) := by
  unfold Abs.write stepS
  by_cases hn : w.n = 0
  · simp [hn, stepWrite]; exact i
  obtain ⟨hdr, W⟩ := i.toWInv
  have hb := W.bytes
  have hl : hdr.length = c.hdrLen := W.hdr_len.trans i.hdrLenOf
  have v : ValidW h w.frameCall w.n (w.data.take (w.items c.ch)) := i.ch ▸ WCall.validW (i.ch ▸ hv) W.ch_pos hn
  have m := Match.wrMid i w hv
  have hdat : a.data ++ h.enc.encodeAll h.conv w.ty (w.data.take (w.items c.ch)) = (a.writeNZ c w).data := by
    rw [i.enc, i.conv]; rfl
  have W' := stepWrite_winv h s hdr a.data W w.ty w.frameCall w.n _ v
  have e := stepWrite_spec h s hdr a.data W w.ty w.frameCall w.n _ v
  have take : stepWrite h s w.ty w.frameCall w.n w.data =
      stepWrite h s w.ty w.frameCall w.n (w.data.take (w.items c.ch)) := by
    rw [write_take_self]; unfold reqLen WCall.items; rw [i.ch]
  simp only [hn, if_false, take]
  rw [hdat] at W' e
  have m' : Match c (a.writeNZ c w) (stepWrite h s w.ty w.frameCall w.n (w.data.take (w.items c.ch))).1 := by
    rw [e, wrH_fields]; exact { m with }
  refine ⟨m'.toInv W', fun ha _ => ?_⟩
  have i' := m'.toInv W'
  rw [e]
  by_cases hr : c.container = .raw
  · -- RAW has no header: the store is the data
    have : h.container = .raw := i.cont.trans hr
    simp only [snapImage, hdrBytes_raw _ _ _ hr, List.nil_append, wrHdr, this, bne_self_eq_false, Bool.false_eq_true,
      and_false, if_false]
    have : hdr = [] := List.eq_nil_of_length_eq_zero (hl.trans (Cfg.hdrLen_raw hr))
    rw [this, List.nil_append]
  · have hc : (h.autoHeader = true ∧ (h.container != Container.raw) = true) := ⟨i.auto.trans ha, by rw [i.cont]; simpa using hr⟩
    simp only [wrHdr, hc, and_self, if_true, snapImage]
    rw [m.hdrOf_recalc rfl (by show h.dataoffset = _; exact i.doff) i'.dlen _ (by
      rw [hb, List.length_append, hl, ← hdat, List.length_append]; omega)]
    congr 2
    rw [hb, List.length_append, hl, ← hdat, List.length_append]; push_cast; omega

theorem stepUpdate_inv {c : Cfg} {a : Abs} {h : H} {s : Store} (i : Inv c a h s) :
    Inv c a (stepS (h, s) .update).1 (stepS (h, s) .update).2 ∧ (stepS (h, s) .update).2.bytes = snapImage c a := by
  have i0 := i.setError 0
  by_cases hr : c.container = .raw
  · have hcont : h.container = .raw := by rw [i.cont, hr]
    have e : stepS (h, s) .update = ({ h with error := 0 }, s) := by simp [stepS, stepCmdFlag, hcont]
    rw [e]; exact ⟨i0, by rw [snapImage, hdrBytes_raw a _ _ hr, i.raw_bytes hr, List.nil_append]⟩
  · have hcont : h.container ≠ .raw := by rw [i.cont]; exact hr
    have e : stepS (h, s) .update = writeHeader { h with error := 0 } s true := by
      simp [stepS, stepCmdFlag, hcont, i.mode]
    rw [e]; exact ⟨(writeHeader_inv i0 true).1, (writeHeader_inv i0 true).2 rfl⟩

theorem stepAuto_inv (i : Inv c a h s) (b : Bool) :
    Inv c { a with auto := b } (stepS (h, s) (.auto b)).1 (stepS (h, s) (.auto b)).2 := by
  have e : stepS (h, s) (.auto b) = ({ h with error := 0, autoHeader := b }, s) := by
    cases b <;> simp [stepS, stepCmdFlag]
  rw [e]; exact (i.setError 0).setAuto b

theorem stepS_inv (i : Inv c a h s) (op : SOp) (hv : op.valid c.ch) :
    Inv c (a.step c op) (stepS (h, s) op).1 (stepS (h, s) op).2 := by
  cases op with
  | write w => exact (stepWrite_inv i w hv).1
  | update => exact (stepUpdate_inv i).1
  | auto b => exact stepAuto_inv i b

theorem runS_inv {c : Cfg} (ops : List SOp) {a : Abs} {h : H} {s : Store} (i : Inv c a h s) (hv : ∀ op ∈ ops, op.valid c.ch) :
    Inv c (a.run c ops) (runS (h, s) ops).1 (runS (h, s) ops).2 :=
  List.foldl_rel (r := fun a (hs : H × Store) => Inv c a hs.1 hs.2) i fun op ho _ _ i => stepS_inv i op (hv op ho)

end

def SOp.frames (ch : Nat) : SOp → Nat
  | .write w => w.frames ch
  | _ => 0

/-- the bytes a call adds to the data region -/
def SOp.bytes (c : Cfg) : SOp → List Byte
  | .write w => c.enc.encodeAll {} w.ty (w.data.take (w.items c.ch))
  | _ => []

/-- N: the frames accepted by the write calls of a session -/
def sessFrames (ch : Nat) (ops : List SOp) : Nat := (ops.map (SOp.frames ch)).sum

/-- the encoded audio of a session, in call order -/
def sessData (c : Cfg) (ops : List SOp) : List Byte := ops.flatMap (SOp.bytes c)

theorem items_zero (w : WCall) (ch : Nat) (h : w.n = 0) : w.items ch = 0 := by
  unfold WCall.items; rw [h]; split <;> simp

theorem step_frames (c : Cfg) (a : Abs) (op : SOp) : (a.step c op).frames = a.frames + op.frames c.ch := by
  cases op with
  | write w =>
    simp only [Abs.step, Abs.write, SOp.frames]
    split
    · rename_i h; simp [WCall.frames, items_zero w c.ch h]
    · rfl
  | update => rfl
  | auto b => rfl

theorem step_data (c : Cfg) (a : Abs) (op : SOp) : (a.step c op).data = a.data ++ op.bytes c := by
  cases op with
  | write w =>
    simp only [Abs.step, Abs.write, SOp.bytes]
    split
    · rename_i h; simp [items_zero w c.ch h, Enc.encodeAll]
    · rfl
  | update => simp [Abs.step, SOp.bytes]
  | auto b => simp [Abs.step, SOp.bytes]

theorem run_frames (c : Cfg) (ops : List SOp) : ∀ a : Abs, (a.run c ops).frames = a.frames + sessFrames c.ch ops := by
  induction ops with
  | nil => intro a; simp [Abs.run, sessFrames]
  | cons op ops ih =>
    intro a
    have := ih (a.step c op)
    simp only [Abs.run, List.foldl_cons, sessFrames, List.map_cons, List.sum_cons] at *
    rw [this, step_frames]; omega

theorem run_data (c : Cfg) (ops : List SOp) : ∀ a : Abs, (a.run c ops).data = a.data ++ sessData c ops := by
  induction ops with
  | nil => intro a; simp [Abs.run, sessData]
  | cons op ops ih =>
    intro a
    have := ih (a.step c op)
    simp only [Abs.run, List.foldl_cons, sessData, List.flatMap_cons] at *
    rw [this, step_data, List.append_assoc]

end Sf
