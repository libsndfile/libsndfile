/-
  SfProofs.NistSearch — `strstr` over a text made of known literals and unknown runs of decimal digits, decided
  symbolically: `ssearch pat segs` inspects the literals only and `ssearch_sound` transfers its answer to
  `Sf.Nist.strstr pat (flatten env segs)` for every assignment `env` of non-empty digit runs.  Also the sscanf pieces
  (`scanInt`, `scanWord`) on "known text ++ unknown rest".
-/
import SfModel.Nist
import SfProofs.PvfImage
namespace Sf.Nist
open Sf Sf.Small2
open Sf.Pvf (digits scanInt skipWs isWs isDigit scanDigits)

inductive Seg
  | lit (l : List Byte)
  | digs (i : Nat)
deriving Repr, DecidableEq

def flatten (env : Nat → List Byte) : List Seg → List Byte
  | [] => []
  | .lit l :: r => l ++ flatten env r
  | .digs i :: r => env i ++ flatten env r

/-- what may follow a literal for `mis` to be conclusive: nothing, or a digit -/
def DigOrEnd (X : List Byte) : Prop := X = [] ∨ ∃ d R, X = d :: R ∧ isDigit d = true

/-- `pat` certainly does not match at the known text `T` when a `DigOrEnd` text follows -/
def mis : List Byte → List Byte → Bool
  | [], _ => false
  | p :: _, [] => !isDigit p
  | p :: ps, b :: bs => if p = b then mis ps bs else true

inductive LitRes
  | found (suf : List Byte)
  | absent
  | unknown
deriving Repr, DecidableEq

def searchLit (pat : List Byte) : List Byte → LitRes
  | [] => .absent
  | b :: r => if isPrefix pat (b :: r) then .found (b :: r) else if mis pat (b :: r) then searchLit pat r else .unknown

def nextOk : List Seg → Bool
  | [] => true
  | .digs _ :: _ => true
  | .lit _ :: _ => false

/-- `some (some rest)`: first occurrence found, `rest` starts at it; `some none`: no occurrence; `none`: undecided
    (the empty pattern, which `strstr` finds everywhere, is left undecided) -/
def ssearch (pat : List Byte) : List Seg → Option (Option (List Seg))
  | [] => if pat = [] then none else some none
  | .digs _ :: rest => if (pat.head?.map (fun p => !isDigit p)).getD false then ssearch pat rest else none
  | .lit L :: rest =>
    if nextOk rest then
      match searchLit pat L with
      | .found suf => some (some (.lit suf :: rest))
      | .absent => ssearch pat rest
      | .unknown => none
    else none

theorem isPrefix_append (pat T X : List Byte) (h : isPrefix pat T = true) : isPrefix pat (T ++ X) = true := by
  induction pat generalizing T with
  | nil => simp [isPrefix]
  | cons p ps ih =>
    cases T with
    | nil => simp [isPrefix] at h
    | cons b bs =>
      simp only [isPrefix, Bool.and_eq_true, decide_eq_true_eq] at h
      simp only [List.cons_append, isPrefix, Bool.and_eq_true, decide_eq_true_eq]
      exact ⟨h.1, ih bs h.2⟩

theorem mis_sound (pat T X : List Byte) (hX : DigOrEnd X) (h : mis pat T = true) : isPrefix pat (T ++ X) = false := by
  induction pat generalizing T with
  | nil => simp [mis] at h
  | cons p ps ih =>
    cases T with
    | nil =>
      simp only [mis, Bool.not_eq_true'] at h
      rcases hX with rfl | ⟨d, R, rfl, hd⟩
      · simp [isPrefix]
      · simp only [List.nil_append, isPrefix, Bool.and_eq_false_imp, decide_eq_true_eq]
        intro e; subst e; rw [hd] at h; cases h
    | cons b bs =>
      simp only [mis] at h
      simp only [List.cons_append, isPrefix]
      by_cases e : p = b
      · rw [if_pos e] at h; simp [e, ih bs h]
      · simp [e]

theorem strstr_nil_of_ne (pat : List Byte) (hp : pat ≠ []) : strstr pat [] = none := by simp [strstr, hp]

theorem searchLit_sound (pat L X : List Byte) (hX : DigOrEnd X) :
    match searchLit pat L with
    | .found suf => strstr pat (L ++ X) = some (suf ++ X)
    | .absent => strstr pat (L ++ X) = strstr pat X
    | .unknown => True := by
  induction L with
  | nil => rfl
  | cons b r ih =>
    simp only [searchLit]
    by_cases h1 : isPrefix pat (b :: r) = true
    · rw [if_pos h1]
      have := isPrefix_append pat (b :: r) X h1
      simp only [List.cons_append] at this ⊢
      simp [strstr, this]
    · rw [if_neg h1]
      by_cases h2 : mis pat (b :: r) = true
      · rw [if_pos h2]
        have := mis_sound pat (b :: r) X hX h2
        simp only [List.cons_append] at this ⊢
        simp only [strstr, this, Bool.false_eq_true, if_false]
        exact ih
      · rw [if_neg h2]; trivial

theorem strstr_skip_digits (p : Byte) (ps : List Byte) (hp : isDigit p = false) (ds X : List Byte) (hd : ∀ b ∈ ds, isDigit b = true) :
    strstr (p :: ps) (ds ++ X) = strstr (p :: ps) X := by
  induction ds with
  | nil => rfl
  | cons d r ih =>
    have hdd := hd d (List.mem_cons_self ..)
    have : p ≠ d := by intro e; subst e; rw [hp] at hdd; cases hdd
    simp only [List.cons_append, strstr, isPrefix, this, decide_false, Bool.false_and, Bool.false_eq_true, if_false]
    exact ih (fun b hb => hd b (List.mem_cons_of_mem _ hb))

/-- an assignment of digit runs: each is non-empty and holds decimal digits only -/
def GoodEnv (env : Nat → List Byte) : Prop := ∀ i, env i ≠ [] ∧ ∀ b ∈ env i, isDigit b = true

theorem digOrEnd_flatten (env : Nat → List Byte) (he : GoodEnv env) (rest : List Seg) (h : nextOk rest = true) :
    DigOrEnd (flatten env rest) := by
  cases rest with
  | nil => exact Or.inl rfl
  | cons s r =>
    cases s with
    | lit l => simp [nextOk] at h
    | digs i =>
      obtain ⟨hne, hall⟩ := he i
      cases hi : env i with
      | nil => exact absurd hi hne
      | cons d R =>
        refine Or.inr ⟨d, R ++ flatten env r, by simp [flatten, hi], hall d (by rw [hi]; exact List.mem_cons_self ..)⟩

theorem ssearch_sound (pat : List Byte) (env : Nat → List Byte) (he : GoodEnv env) (segs : List Seg) :
    ∀ r, ssearch pat segs = some r → strstr pat (flatten env segs) = r.map (flatten env) := by
  induction segs with
  | nil =>
    intro r h
    simp only [ssearch] at h
    split at h
    · cases h
    · rename_i hp; injection h with h; subst h; simp [flatten, strstr, hp]
  | cons s rest ih =>
    intro r h
    cases s with
    | digs i =>
      simp only [ssearch] at h
      cases pat with
      | nil => simp at h
      | cons p ps =>
        simp only [List.head?, Option.map, Option.getD] at h
        by_cases hd : isDigit p = true
        · simp [hd] at h
        · have hd' : isDigit p = false := by simpa using hd
          simp only [hd', Bool.not_false, if_true] at h
          simp only [flatten]
          rw [strstr_skip_digits p ps hd' _ _ (he i).2]
          exact ih r h
    | lit L =>
      simp only [ssearch] at h
      by_cases hn : nextOk rest = true
      · rw [if_pos hn] at h
        have hX := digOrEnd_flatten env he rest hn
        have hs := searchLit_sound pat L (flatten env rest) hX
        cases hl : searchLit pat L with
        | found suf =>
          rw [hl] at h hs; simp only at h hs; injection h with h; subst h
          simp only [flatten, Option.map]
          exact hs
        | absent =>
          rw [hl] at h hs; simp only at h hs
          simp only [flatten]
          rw [hs]; exact ih r h
        | unknown => rw [hl] at h; simp at h
      · rw [if_neg hn] at h; cases h

/-! ### sscanf on "known text ++ unknown rest" -/

theorem isDigit_iff (b : Byte) : isDigit b = true ↔ 48 ≤ b ∧ b ≤ 57 := by simp [isDigit]

theorem digits_isDigit (n : Nat) : ∀ b ∈ digits n, isDigit b = true := by
  intro b hb; rw [isDigit_iff]; exact Sf.Pvf.digits_all n b hb

theorem scanInt_digits_then (n : Nat) (b : Byte) (R : List Byte) (hb : isDigit b = false) :
    scanInt (digits n ++ b :: R) = some ((n : Int), b :: R) :=
  Sf.Pvf.scanInt_digits n (b :: R) (by intro b' r h; injection h with h1 _; subst h1; exact hb)

theorem skipWs_append (L X : List Byte) (h : skipWs L ≠ []) : skipWs (L ++ X) = skipWs L ++ X := by
  induction L with
  | nil => simp [skipWs] at h
  | cons b r ih =>
    by_cases hb : isWs b = true
    · simp only [List.cons_append, skipWs, hb, if_true] at h ⊢; exact ih h
    · simp only [List.cons_append, skipWs, hb, if_false, Bool.false_eq_true]

theorem scanDigits_append (acc : Nat) (L X : List Byte) (h : (scanDigits acc L).2 ≠ []) :
    scanDigits acc (L ++ X) = ((scanDigits acc L).1, (scanDigits acc L).2 ++ X) := by
  induction L generalizing acc with
  | nil => simp [scanDigits] at h
  | cons b r ih =>
    by_cases hb : isDigit b = true
    · simp only [List.cons_append, scanDigits, hb, if_true] at h ⊢; exact ih _ h
    · simp only [List.cons_append, scanDigits, hb, if_false, Bool.false_eq_true]

/-- what scanInt does after skipping white space, on a text whose sign / first digit position is known -/
def scanTail (neg : Bool) (s : List Byte) : Option (Int × List Byte) :=
  if (s.head?.map isDigit).getD false then some (if neg then - ((scanDigits 0 s).1 : Int) else ((scanDigits 0 s).1 : Int), (scanDigits 0 s).2) else none

theorem scanInt_cons (L : List Byte) (a : Byte) (t : List Byte) (h : skipWs L = a :: t) :
    scanInt L = if a = 0x2D then scanTail true t else if a = 0x2B then scanTail false t else scanTail false (a :: t) := by
  unfold scanInt
  rw [h]
  by_cases h1 : a = 0x2D
  · subst h1; simp [scanTail]
  · by_cases h2 : a = 0x2B
    · subst h2; simp [scanTail]
    · simp [scanTail, h1, h2]

theorem scanTail_append (neg : Bool) (s X : List Byte) (v : Int) (r : List Byte) (h : scanTail neg s = some (v, r)) (hr : r ≠ []) :
    scanTail neg (s ++ X) = some (v, r ++ X) := by
  cases s with
  | nil => simp [scanTail] at h
  | cons d u =>
    unfold scanTail at h ⊢
    simp only [List.cons_append, List.head?_cons, Option.map_some, Option.getD_some] at h ⊢
    by_cases hd : isDigit d = true
    · simp only [hd, if_true, Option.some.injEq, Prod.mk.injEq] at h ⊢
      have h2 : (scanDigits 0 (d :: u)).2 ≠ [] := by rw [h.2]; exact hr
      have := scanDigits_append 0 (d :: u) X h2
      simp only [List.cons_append] at this
      rw [this]
      exact ⟨h.1, by rw [h.2]⟩
    · simp [hd] at h

/-- a "%d" conversion that ends inside the known text -/
theorem scanInt_lit (L X : List Byte) (v : Int) (r : List Byte) (h : scanInt L = some (v, r)) (hr : r ≠ []) :
    scanInt (L ++ X) = some (v, r ++ X) := by
  have hs : skipWs L ≠ [] := by
    intro e; unfold scanInt at h; rw [e] at h; simp at h
  cases hsl : skipWs L with
  | nil => exact absurd hsl hs
  | cons a t =>
    have hX : skipWs (L ++ X) = a :: (t ++ X) := by rw [skipWs_append L X hs, hsl]; rfl
    rw [scanInt_cons L a t hsl] at h
    rw [scanInt_cons (L ++ X) a (t ++ X) hX]
    by_cases h1 : a = 0x2D
    · rw [if_pos h1] at h ⊢; exact scanTail_append _ _ _ _ _ h hr
    · rw [if_neg h1] at h ⊢
      by_cases h2 : a = 0x2B
      · rw [if_pos h2] at h ⊢; exact scanTail_append _ _ _ _ _ h hr
      · rw [if_neg h2] at h ⊢; exact scanTail_append false (a :: t) X _ _ h hr

theorem takeWhile_append_stop (p : Byte → Bool) (A X : List Byte) (h : A.any (fun b => !p b) = true) :
    (A ++ X).takeWhile p = A.takeWhile p := by
  induction A with
  | nil => simp at h
  | cons a t ih =>
    simp only [List.cons_append, List.takeWhile_cons]
    by_cases ha : p a = true
    · simp only [ha, if_true]
      simp only [List.any_cons, ha, Bool.not_true, Bool.false_or] at h
      rw [ih h]
    · simp [ha]

/-- a "%<n>s" conversion whose word ends inside the known text -/
def wordEnds (r : List Byte) : Bool := (skipWs r).any (fun b => !(!isWs b))

theorem scanWord_lit (n : Nat) (r X : List Byte) (h : wordEnds r = true) : scanWord n (r ++ X) = scanWord n r := by
  unfold scanWord
  have hs : skipWs r ≠ [] := by intro e; simp [wordEnds, e] at h
  rw [skipWs_append r X hs, takeWhile_append_stop _ _ _ h]

end Sf.Nist
