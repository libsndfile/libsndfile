/-
  SfProofs.AbsWriteBridgeSmall1 — containers built on the session machine of SfModel/SmallSession.lean (`Sf.Small`: AVR,
  IRCAM, PAF, SVX) as `Cont`s of the write-side bridge: `small1Cont` (the operations and parse results of the two machines
  are the same data: `toS1`, `resOf`), and `small1Cont_eq`: it is the `small2Cont` of the container's `Spec.fmt`, so its
  `Laws` come from `laws_of_small2`.
-/
import SfProofs.AbsWriteBridgeSmall2
import SfProofs.SmallSession
namespace Sf.AbsWriteBridge.Small
open Sf Sf.AbsWrite Sf.AbsWriteBridge

def toS1 : List Small2.WOp → List Sf.Small.WOp
  | [] => []
  | .write enc a :: r => .write enc a :: toS1 r
  | .update :: r => .update :: toS1 r

def resOf : Sf.Small.ParseRes → Small2.ParseRes
  | .ok i => .ok { ch := i.ch, fmt := i.fmt, sr := i.sr, frames := i.frames }
  | .err => .err
  | .unmodelled => .unmodelled

theorem toS1_to2 : ∀ (ops : List Small2.WOp), (toS1 ops).map Sf.Small.WOp.to2 = ops
  | [] => rfl
  | .write _ _ :: r => by simp [toS1, Sf.Small.WOp.to2, toS1_to2 r]
  | .update :: r => by simp [toS1, Sf.Small.WOp.to2, toS1_to2 r]

theorem opsData_toS1 (ops : List Small2.WOp) : Sf.Small.opsData (toS1 ops) = Small2.opsData ops := by
  rw [← Sf.Small.opsData_to2, toS1_to2]

def small1Cont (sp : Sf.Small.Spec) (parse : List Byte → Sf.Small.ParseRes) (g : AbsWrite.Geom) (enc : Enc) : Cont :=
  { g := g, enc := enc, L := sp.hdrLen, closed := fun st ops => Sf.Small.closedBytes sp st (toS1 ops),
    store := fun st ops => (Sf.Small.run sp (Sf.Small.openW sp st) (toS1 ops)).bytes, parse := fun bs => resOf (parse bs) }

/-- what `Laws (small1Cont …)` asks, in the terms of the `Sf.Small` machine itself and with closed file and update image apart
    (a container with a tailer); the containers of the development have none and get their `Laws` through `small1Cont_eq` -/
structure Small1Facts (sp : Sf.Small.Spec) (parse : List Byte → Sf.Small.ParseRes) (g : AbsWrite.Geom) (enc : Enc)
    (G : List Small2.WOp → Prop) : Prop where
  chpos : 0 < g.ch
  nb : 0 < enc.nbytes
  wf : enc.wf
  block : g.block = 1
  notRaw : g.major ≠ 0x04
  codec : ∃ big, encOf .raw g.codec big = some enc
  snapForm : ∀ st ops, ∃ hdr, hdr.length = sp.hdrLen ∧ Sf.Small.snapshotBytes sp st ops = hdr ++ Sf.Small.opsData ops
  closedForm : ∀ st ops, ∃ hdr tail, hdr.length = sp.hdrLen ∧ Sf.Small.closedBytes sp st ops = hdr ++ Sf.Small.opsData ops ++ tail
  closedFn : ∀ a b ops ops', Sf.Small.opsData ops = Sf.Small.opsData ops' → Sf.Small.closedBytes sp a ops = Sf.Small.closedBytes sp b ops'
  closedParse : ∀ st ops, G ops → ∃ i, parse (Sf.Small.closedBytes sp st (toS1 ops)) = .ok i ∧
    i.frames = (Small2.opsData ops).length / (enc.nbytes * g.ch) ∧ i.ch = g.ch ∧
    i.fmt % 0x10000000 = g.word % 0x10000000 ∧ rateOk g.major g.sr (i.sr : Int) = true
  snapParse : ∀ st (w : List Sf.Small.WOp), (∃ ops, G ops ∧ Sf.Small.opsData w = Small2.opsData ops) →
    ∃ i, parse (Sf.Small.snapshotBytes sp st w) = .ok i ∧
    i.frames = (Sf.Small.opsData w).length / (enc.nbytes * g.ch) ∧ i.ch = g.ch ∧ i.fmt % 0x10000000 = g.word % 0x10000000

/-- a container of the `Sf.Small` machine without tailer is the `small2Cont` of its `Spec.fmt` -/
theorem small1Cont_eq (sp : Sf.Small.Spec) (parse : List Byte → Sf.Small.ParseRes) (g : AbsWrite.Geom) (enc : Enc)
    (hp : sp.Plain) :
    small1Cont sp parse g enc = small2Cont sp.fmt (fun bs => resOf (parse bs)) g enc := by
  unfold small1Cont small2Cont
  congr 1
  · funext st ops; rw [Sf.Small.closedBytes_to2 sp hp, toS1_to2]
  · funext st ops; rw [Sf.Small.store_to2 sp hp, toS1_to2]

/-- the update image of the `Small2` machine, asked about through the container's own reader -/
theorem parse_toS1 {sp : Sf.Small.Spec} {parse : List Byte → Sf.Small.ParseRes} (hp : sp.Plain)
    {st : Nat} {ops : List Small2.WOp} {i : Sf.Small.Info} (h : parse (Sf.Small.snapshotBytes sp st (toS1 ops)) = .ok i) :
    resOf (parse (Small2.snapshotBytes sp.fmt st ops)) = .ok { ch := i.ch, fmt := i.fmt, sr := i.sr, frames := i.frames } := by
  rw [Sf.Small.snapshotBytes_to2 sp hp, toS1_to2] at h
  rw [h]; rfl

end Sf.AbsWriteBridge.Small
