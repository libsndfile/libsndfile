/-
  State invariants of the G.72x predictor / quantizer-scale state and what they buy: every table index and every
  shift count the C evaluates is in range for every state reachable from `private_init_state` by any sequence of
  `update` calls (i.e. by encoding any samples or decoding any codes).  Helpers for SfProps/C05G72x.lean.
-/
import SfProofs.G72x
namespace Sf.G72x.Proofs
open Sf Sf.G72x

theorem shr1 (x : Int) : shr x 1 = x / 2 := by simp [shr]
theorem shr2 (x : Int) : shr x 2 = x / 4 := by simp [shr]
theorem shr3 (x : Int) : shr x 3 = x / 8 := by simp [shr]
theorem shr4 (x : Int) : shr x 4 = x / 16 := by simp [shr]
theorem shr5 (x : Int) : shr x 5 = x / 32 := by simp [shr]
theorem shr6 (x : Int) : shr x 6 = x / 64 := by simp [shr]
theorem shr7 (x : Int) : shr x 7 = x / 128 := by simp [shr]
theorem shr10 (x : Int) : shr x 10 = x / 1024 := by simp [shr]
theorem shr15 (x : Int) : shr x 15 = x / 32768 := by simp [shr]

/-- the invariant: LIMB keeps `yu` in [544, 5120]; FILTE then keeps `yl` in [544·64, 5120·64]; the speed control
    `ap` stays in [0, 512]; LIMC keeps the pole coefficient a[1] in [−12288, 12288] (±0.75) and LIMD keeps
    |a[0]| ≤ 15360 − a[1] (the stability triangle of the two-pole predictor); the coefficient / delay-line arrays keep
    their six entries -/
structure Inv (st : St) : Prop where
  yu : 544 ≤ st.yu ∧ st.yu ≤ 5120
  yl : 34816 ≤ st.yl ∧ st.yl ≤ 327680
  ap : 0 ≤ st.ap ∧ st.ap ≤ 512
  a  : -12288 ≤ st.a1 ∧ st.a1 ≤ 12288 ∧ -(15360 - st.a1) ≤ st.a0 ∧ st.a0 ≤ 15360 - st.a1     -- LIMC, LIMD
  b  : st.b.length = 6
  dq : st.dq.length = 6

theorem init_inv_st : Inv St.init := ⟨by decide, by decide, by decide, by decide, rfl, rfl⟩

theorem updYu_range (y wi : Int) : 544 ≤ updYu y wi ∧ updYu y wi ≤ 5120 := by
  unfold updYu
  simp only
  split
  · omega
  · split <;> omega

theorem updBs_length (cs : Nat) (dq : Int) : ∀ (b d : List Int), b.length = 6 → d.length = 6 → (updBs cs dq b d).length = 6 := by
  intro b d hb hd
  match b, d, hb, hd with
  | [_, _, _, _, _, _], [_, _, _, _, _, _], _, _ => simp [updBs]

theorem updAp_range (st : St) (h : 0 ≤ st.ap ∧ st.ap ≤ 512) (tr td : Bool) (y dms dml : Int) :
    0 ≤ updAp st tr td y dms dml ∧ updAp st tr td y dms dml ≤ 512 := by
  have up : s16 (st.ap + shr (0x200 - st.ap) 4) = st.ap + (512 - st.ap) / 16 := by
    rw [shr4]; exact s16_id _ (by omega) (by omega)
  have dn : s16 (st.ap + shr (-st.ap) 4) = st.ap + (-st.ap) / 16 := by
    rw [shr4]; exact s16_id _ (by omega) (by omega)
  unfold updAp
  split
  · omega
  · split
    · rw [up]; omega
    · split
      · rw [up]; omega
      · split
        · rw [up]; omega
        · rw [dn]; omega

theorem updA2_range (st : St) (h : -12288 ≤ st.a1 ∧ st.a1 ≤ 12288) (pk0 : Bool) (dqsez : Int) :
    -12288 ≤ updA2 st pk0 dqsez ∧ updA2 st pk0 dqsez ≤ 12288 := by
  unfold updA2
  extract_lets pks1 a2p0 fa1 a2p1
  have e0 : a2p0 = st.a1 - st.a1 / 128 := by
    show s16 (st.a1 - shr st.a1 7) = _
    rw [shr7]; exact s16_id _ (by omega) (by omega)
  clear_value a2p1 a2p0
  split
  · split
    · split
      · omega
      · split
        · omega
        · rw [s16_id _ (by omega) (by omega)]; omega
    · split
      · omega
      · split
        · omega
        · rw [s16_id _ (by omega) (by omega)]; omega
  · omega

theorem updA1_range (st : St) (pk0 : Bool) (dqsez a2p : Int) (h : -12288 ≤ a2p ∧ a2p ≤ 12288) :
    -(15360 - a2p) ≤ updA1 st pk0 dqsez a2p ∧ updA1 st pk0 dqsez a2p ≤ 15360 - a2p := by
  unfold updA1
  extract_lets pks1 a0a a0b a1ul
  have e : a1ul = 15360 - a2p := s16_id _ (by omega) (by omega)
  clear_value a0b a1ul
  subst e
  split
  · rw [s16_id _ (by omega) (by omega)]; omega
  · split <;> omega

theorem update_inv (cs : Nat) (y wi fi dq sr dqsez : Int) (st : St) (h : Inv st) : Inv (update cs y wi fi dq sr dqsez st) := by
  have hyu := updYu_range y wi
  refine ⟨hyu, ?_, ?_, ?_, ?_, ?_⟩
  · show 34816 ≤ st.yl + (updYu y wi + shr (-st.yl) 6) ∧ st.yl + (updYu y wi + shr (-st.yl) 6) ≤ 327680
    rw [shr6]
    have := h.yl
    omega
  · exact updAp_range st h.ap _ _ _ _ _
  · show -12288 ≤ (if trans st dq then 0 else updA2 st (decide (dqsez < 0)) dqsez) ∧
        (if trans st dq then 0 else updA2 st (decide (dqsez < 0)) dqsez) ≤ 12288 ∧
        -(15360 - (if trans st dq then 0 else updA2 st (decide (dqsez < 0)) dqsez)) ≤
          (if trans st dq then 0 else updA1 st (decide (dqsez < 0)) dqsez (if trans st dq then 0 else updA2 st (decide (dqsez < 0)) dqsez)) ∧
        (if trans st dq then 0 else updA1 st (decide (dqsez < 0)) dqsez (if trans st dq then 0 else updA2 st (decide (dqsez < 0)) dqsez)) ≤
          15360 - (if trans st dq then 0 else updA2 st (decide (dqsez < 0)) dqsez)
    split
    · omega
    · have h2 := updA2_range st ⟨h.a.1, h.a.2.1⟩ (decide (dqsez < 0)) dqsez
      have h1 := updA1_range st (decide (dqsez < 0)) dqsez _ h2
      omega
  · show (if trans st dq then [0, 0, 0, 0, 0, 0] else updBs cs dq st.b st.dq).length = 6
    split
    · rfl
    · exact updBs_length cs dq _ _ h.b h.dq
  · show (floatA dq (s16 (dq % 32768)) :: st.dq.take 5).length = 6
    rw [List.length_cons, List.length_take, h.dq]; rfl

/-- MIX: the step size lies between `yl >> 6` and `yu`, hence in [544, 5120] -/
theorem stepSize_range (st : St) (h : Inv st) : 544 ≤ stepSize st ∧ stepSize st ≤ 5120 := by
  have hyu := h.yu
  have hyl := h.yl
  have hap := h.ap
  unfold stepSize
  split
  · exact hyu
  · rename_i hlt
    simp only [shr6, shr2]
    have hal : 0 ≤ st.ap / 4 ∧ st.ap / 4 ≤ 63 := by omega
    generalize st.ap / 4 = al at hal
    have hy0 : 544 ≤ st.yl / 64 ∧ st.yl / 64 ≤ 5120 := by omega
    generalize st.yl / 64 = y0 at hy0
    split
    · rename_i hpos
      have h1 : 0 ≤ (st.yu - y0) * al := Int.mul_nonneg (by omega) hal.1
      have h2 : (st.yu - y0) * al ≤ (st.yu - y0) * 63 := Int.mul_le_mul_of_nonneg_left hal.2 (by omega)
      generalize (st.yu - y0) * al = p at h1 h2
      omega
    · split
      · rename_i hneg
        have h1 : (st.yu - y0) * al ≤ 0 := Int.mul_nonpos_of_nonpos_of_nonneg (by omega) hal.1
        have h2 : (st.yu - y0) * 63 ≤ (st.yu - y0) * al := Int.mul_le_mul_of_nonpos_left (by omega) hal.2
        generalize (st.yu - y0) * al = p at h1 h2
        omega
      · omega

/-- a shift count the C may use on an `int` -/
def okShift (k : Int) : Prop := 0 ≤ k ∧ k ≤ 31

theorem quan_power2 (v : Int) : 0 ≤ quan v power2 ∧ quan v power2 ≤ 15 := by
  have := quan_bounds v power2
  simpa [power2] using this

/-- TRANS: `(32 + ylfrac) << ylint` with `ylint = yl >> 15` -/
theorem trans_shift_count (st : St) (h : Inv st) : 1 ≤ s16 (shr st.yl 15) ∧ s16 (shr st.yl 15) ≤ 10 := by
  have := h.yl
  rw [shr15, s16_id _ (by omega) (by omega)]
  omega

/-- the tables of a rate fit its code width: every code indexes them, and the log-domain entries are the
    published ones' range -/
structure ValidRate (r : Rate) : Prop where
  bits : 2 ≤ r.bits ∧ r.bits ≤ 5
  q    : 2 * r.qtab.length + 2 = 2 ^ r.bits
  dqln : r.dqlntab.length = 2 ^ r.bits
  wi   : r.witab.length = 2 ^ r.bits
  fi   : r.fitab.length = 2 ^ r.bits
  -- 566 is the largest `_dqlntab` entry of the tree (the 40 kbit/s table); with `y ≤ 5120` it keeps
  -- `dql = dqln + y / 4 ≤ 1846 < 15 · 128`, hence `dex ≤ 14` (`reconstruct_shift_count`)
  rng  : ∀ v ∈ r.dqlntab, -2048 ≤ v ∧ v ≤ 566

theorem valid_g721 : ValidRate g721 := ⟨by decide, by decide, by decide, by decide, by decide, by decide⟩
theorem valid_g723_16 : ValidRate g723_16 := ⟨by decide, by decide, by decide, by decide, by decide, by decide⟩
theorem valid_g723_24 : ValidRate g723_24 := ⟨by decide, by decide, by decide, by decide, by decide, by decide⟩
theorem valid_g723_40 : ValidRate g723_40 := ⟨by decide, by decide, by decide, by decide, by decide, by decide⟩

theorem tabAt_mem (tab : List Int) (i : Int) (h0 : 0 ≤ i) (h1 : i < tab.length) : tabAt tab i ∈ tab := by
  unfold tabAt
  have hlt : i.toNat < tab.length := by omega
  rcases getD_mem_or tab i.toNat 0 with h | h
  · exact h
  · simp [List.getD, List.getElem?_eq_getElem hlt] at h ⊢

/-- ANTILOG in `reconstruct`: `(dqt << 7) >> (14 - dex)` — the count 14 − dex is in [0, 14] whenever the step size
    is in LIMB's range and the log entry comes from a table -/
theorem reconstruct_shift_count (dqln y : Int) (hy : 544 ≤ y ∧ y ≤ 5120) (hd : -2048 ≤ dqln ∧ dqln ≤ 566) :
    let dql := s16 (dqln + shr y 2)
    0 ≤ dql → 0 ≤ 14 - s16 ((shr dql 7) % 16) ∧ 14 - s16 ((shr dql 7) % 16) ≤ 14 := by
  intro dql hpos
  have e : dql = dqln + y / 4 := by
    show s16 (dqln + shr y 2) = _
    rw [shr2]; exact s16_id _ (by omega) (by omega)
  rw [shr7, s16_id _ (by omega) (by omega)]
  omega

theorem encode_code_range (r : Rate) (v : ValidRate r) (st : St) (x : Int) :
    0 ≤ (encode r st x).2 ∧ (encode r st x).2 < 2 ^ r.bits := by
  simp only [encode]
  generalize hq : quantize _ _ r.qtab = q
  have hr : 1 ≤ q ∧ q ≤ 2 * r.qtab.length + 1 := hq ▸ quantize_range _ _ r.qtab
  have hb := v.bits
  have hqq := v.q
  have hlen : (r.qtab.length : Int) ≤ 15 := by
    have : 2 ^ r.bits ≤ 32 := by
      have := Nat.pow_le_pow_right (show 0 < 2 by omega) hb.2
      simpa using this
    omega
  rw [s16_id q (by omega) (by omega)]
  have hpow : ((2 : Int) ^ r.bits) = ((2 ^ r.bits : Nat) : Int) := by norm_cast
  rw [hpow, ← hqq]
  split
  · push_cast; omega
  · push_cast; omega

end Sf.G72x.Proofs
