/-
  SfProofs.Codec — lemmas about the sample-granular codecs of SfModel.Pcm:
  every encode yields `nbytes` bytes, length / append / take / drop laws of `decodeAll` (from those of `groups`, SfProofs/Groups.lean),
  `encodeAll` is a monoid homomorphism, PCM codes against their stored bytes and against the caller's short / int,
  per-sample and per-stream round trips.
  The vocabulary of C01's statements is defined here, in front of the round trips: `PcmFmt.wf` / `Enc.wf`, `Ty.inRange`,
  `lossless` (the side condition of the property) and `WidenExact`.
-/
import SfModel.Pcm
import SfProofs.Bytes
import SfProofs.Groups
namespace Sf
open Sf.Float

theorem PcmFmt.encCode_length (p : PcmFmt) (c : Int) : (p.encCode c).length = p.nbytes := by
  unfold PcmFmt.encCode
  simp only
  split <;> simp [beBytes_length, leBytes_length]

theorem Enc.encode_length_cw (e : Enc) (c : Conv) (ty : Ty) (v : Int) : (e.encode c ty v).length = e.nbytes := by
  cases e with
  | pcm p => simp [Enc.encode, Enc.nbytes, PcmFmt.encCode_length]
  | flt big => cases big <;> simp [Enc.encode, Enc.nbytes, beBytes_length, leBytes_length]
  | dbl big => cases big <;> simp [Enc.encode, Enc.nbytes, beBytes_length, leBytes_length]
  | ulaw => simp [Enc.encode, Enc.nbytes]
  | alaw => simp [Enc.encode, Enc.nbytes]

theorem Enc.encodeAll_length_cw (e : Enc) (c : Conv) (ty : Ty) (vs : List Int) :
    (e.encodeAll c ty vs).length = vs.length * e.nbytes := by
  unfold Enc.encodeAll
  induction vs with
  | nil => simp
  | cons v vs ih => simp [List.flatMap_cons, ih, Enc.encode_length_cw, Nat.add_mul]; omega

theorem Enc.encodeAll_length_frames (e : Enc) (c : Conv) (ty : Ty) (vs : List Int) {nb : Nat} (hnb : e.nbytes = nb) (ch : Nat)
    (h : vs.length % ch = 0) : (e.encodeAll c ty vs).length = vs.length / ch * (nb * ch) := by
  rw [Enc.encodeAll_length_cw, hnb, Nat.mul_comm nb, ← Nat.mul_assoc, Nat.div_mul_cancel (Nat.dvd_of_mod_eq_zero h)]

theorem Enc.encodeAll_nil (e : Enc) (c : Conv) (ty : Ty) : e.encodeAll c ty [] = [] := rfl

theorem Enc.encodeAll_append (e : Enc) (c : Conv) (ty : Ty) (xs ys : List Int) :
    e.encodeAll c ty (xs ++ ys) = e.encodeAll c ty xs ++ e.encodeAll c ty ys := by
  simp [Enc.encodeAll, List.flatMap_append]

theorem Enc.encodeAll_flatten (e : Enc) (c : Conv) (ty : Ty) (xss : List (List Int)) :
    e.encodeAll c ty xss.flatten = (xss.map (e.encodeAll c ty)).flatten := by
  induction xss with
  | nil => rfl
  | cons x xs ih => simp [Enc.encodeAll_append, ih]

theorem Enc.decodeAll_encodeAll_of (e : Enc) (hn : 0 < e.nbytes) (c c' : Conv) (ty : Ty) (vs : List Int)
    (h : ∀ v ∈ vs, e.decode c' ty (e.encode c ty v) = v) :
    e.decodeAll c' ty (e.encodeAll c ty vs) = vs := by
  unfold Enc.decodeAll Enc.encodeAll
  rw [groups_flatMap e.nbytes hn _ _ (fun v _ => Enc.encode_length_cw e c ty v), List.map_map]
  calc vs.map (e.decode c' ty ∘ e.encode c ty) = vs.map id :=
        List.map_congr_left (fun v hv => by simpa using h v hv)
    _ = vs := by simp

theorem Enc.decodeAll_length (e : Enc) (c : Conv) (ty : Ty) (hn : 0 < e.nbytes) (bs : List Byte) :
    (e.decodeAll c ty bs).length = bs.length / e.nbytes := by
  simp [Enc.decodeAll, groups_length' _ hn]

theorem Enc.decodeAll_append (e : Enc) (c : Conv) (ty : Ty) (hn : 0 < e.nbytes) (k : Nat) (x y : List Byte)
    (hx : x.length = k * e.nbytes) :
    e.decodeAll c ty (x ++ y) = e.decodeAll c ty x ++ e.decodeAll c ty y := by
  simp [Enc.decodeAll, groups_append _ hn k x y hx]

theorem Enc.decodeAll_nil (e : Enc) (c : Conv) (ty : Ty) : e.decodeAll c ty [] = [] := by
  unfold Enc.decodeAll groups; rfl

theorem Enc.decodeAll_flatten (e : Enc) (c : Conv) (ty : Ty) (hn : 0 < e.nbytes) (chn : Nat) :
    ∀ fs : List (List Byte), (∀ g ∈ fs, g.length = chn * e.nbytes) →
      e.decodeAll c ty fs.flatten = (fs.map (e.decodeAll c ty)).flatten := by
  intro fs
  induction fs with
  | nil => intro _; simp [Enc.decodeAll_nil]
  | cons g fs ih =>
    intro hl
    rw [List.flatten_cons, Enc.decodeAll_append e c ty hn chn g _ (hl g (by simp)), List.map_cons, List.flatten_cons,
      ih (fun g' hg => hl g' (by simp [hg]))]

theorem Enc.decodeAll_drop (e : Enc) (c : Conv) (ty : Ty) (hn : 0 < e.nbytes) (k : Nat) (l : List Byte) :
    e.decodeAll c ty (l.drop (k * e.nbytes)) = (e.decodeAll c ty l).drop k := by
  simp [Enc.decodeAll, groups_drop _ hn k l]

theorem Enc.decodeAll_take (e : Enc) (c : Conv) (ty : Ty) (hn : 0 < e.nbytes) (m : Nat) (l : List Byte) :
    e.decodeAll c ty (l.take m) = (e.decodeAll c ty l).take (m / e.nbytes) := by
  simp [Enc.decodeAll, groups_take' _ hn m l]

/-- the PCM layouts libsndfile has: 8/16/24/32 bit, unsigned only for 8 bit (same predicate as `C02.PcmFmt.valid`) -/
def PcmFmt.wf (p : PcmFmt) : Prop := (p.w = 8 ∨ p.w = 16 ∨ p.w = 24 ∨ p.w = 32) ∧ (p.unsigned = true → p.w = 8)

instance (p : PcmFmt) : Decidable p.wf := by unfold PcmFmt.wf; infer_instance

def Enc.wf : Enc → Prop
  | .pcm p => p.wf
  | _ => True

instance (e : Enc) : Decidable e.wf := by unfold Enc.wf; split <;> infer_instance

/-- the caller's value is a value of its C type: a short, an int, or a 32/64-bit pattern -/
def Ty.inRange : Ty → Int → Prop
  | .s16, v => -32768 ≤ v ∧ v ≤ 32767
  | .s32, v => -2147483648 ≤ v ∧ v ≤ 2147483647
  | .f32, v => 0 ≤ v ∧ v < 2 ^ 32
  | .f64, v => 0 ≤ v ∧ v < 2 ^ 64

instance (ty : Ty) (v : Int) : Decidable (ty.inRange v) := by unfold Ty.inRange; split <;> infer_instance

/-- C01's side condition: the (encoding, caller type, value) triple is lossless.
    * integer PCM of width `w` with a caller integer type of width `W`: `w ≥ W`, or the low `W − w` bits of the
      value are zero (this covers unsigned 8-bit PCM);
    * float into binary32 data, double into binary64 data: always (every bit pattern, NaNs included);
    * float into binary64 data: finite values (widening is exact; a signalling NaN would come back quiet). -/
def lossless : Enc → Ty → Int → Prop
  | .pcm p, .s16, v => 16 ≤ p.w ∨ v % 2 ^ (16 - p.w) = 0
  | .pcm p, .s32, v => 32 ≤ p.w ∨ v % 2 ^ (32 - p.w) = 0
  | .flt _, .f32, _ => True
  | .dbl _, .f64, _ => True
  | .dbl _, .f32, v => f32.isFinite v.toNat = true
  | _, _, _ => False

instance (e : Enc) (ty : Ty) (v : Int) : Decidable (lossless e ty v) := by
  unfold lossless; split <;> infer_instance

namespace PcmFmt

theorem decCode_encCode (p : PcmFmt) (h8 : p.w = 8 * p.nbytes) (hw : 0 < p.w) (c : Int) :
    p.decCode (p.encCode c) = if p.unsigned then (wrapU p.w (c + 128) : Int) - 128 else wrapS p.w c := by
  have hlt : ∀ x, wrapU p.w x < 256 ^ p.nbytes := fun x => by
    have e : 2 ^ p.w = 256 ^ p.nbytes := by rw [h8, Nat.pow_mul]
    exact e ▸ wrapU_lt_pow p.w x
  unfold PcmFmt.decCode PcmFmt.encCode
  simp only [bytes_roundtrip p.big _ _ (hlt _)]
  cases p.unsigned
  · simp only [Bool.false_eq_true, if_false]; exact sext_wrapU p.w hw c
  · simp only [if_true]

theorem decCode_encCode_of_range (p : PcmFmt) (hp : p.wf) (c : Int)
    (hc : -(2 ^ (p.w - 1) : Int) ≤ c ∧ c < 2 ^ (p.w - 1)) : p.decCode (p.encCode c) = c := by
  obtain ⟨hw, hu⟩ := hp
  have hpos : 0 < p.w := by omega
  rw [decCode_encCode p (by unfold PcmFmt.nbytes; omega) hpos]
  cases hs : p.unsigned
  · have hhalf : (2 : Int) ^ p.w / 2 = 2 ^ (p.w - 1) := by
      obtain ⟨k, hk⟩ : ∃ k, p.w = k + 1 := ⟨p.w - 1, by omega⟩
      rw [hk, Int.pow_succ, Int.mul_ediv_cancel _ (by decide), Nat.add_sub_cancel]
    rw [if_neg Bool.false_ne_true]
    exact wrapS_of_range p.w c (hhalf ▸ hc.1) (hhalf ▸ hc.2)
  · rw [hu hs] at hc ⊢
    rw [if_pos rfl, wrapU_cast]
    omega

theorem ofS16_range (p : PcmFmt) (hp : p.wf) (x : Int) (hx : -32768 ≤ x ∧ x ≤ 32767) :
    -(2 ^ (p.w - 1) : Int) ≤ p.ofS16 x ∧ p.ofS16 x < 2 ^ (p.w - 1) := by
  unfold PcmFmt.ofS16 asr
  rcases hp.1 with h | h | h | h <;> simp [h] <;> omega

theorem ofS32_range (p : PcmFmt) (hp : p.wf) (x : Int) (hx : -2147483648 ≤ x ∧ x ≤ 2147483647) :
    -(2 ^ (p.w - 1) : Int) ≤ p.ofS32 x ∧ p.ofS32 x < 2 ^ (p.w - 1) := by
  unfold PcmFmt.ofS32 asr
  rcases hp.1 with h | h | h | h <;> simp [h] <;> omega

theorem toS32_of_range (p : PcmFmt) (hp : p.wf) (c : Int) (hc : -(2 ^ (p.w - 1) : Int) ≤ c ∧ c < 2 ^ (p.w - 1)) :
    p.toS32 c = c * 2 ^ (32 - p.w) := by
  refine wrapS_of_range 32 _ ?_ ?_ <;> rcases hp.1 with h | h | h | h <;> simp only [h] at hc ⊢ <;> omega

theorem toS16_of_range (p : PcmFmt) (c : Int) (hc : -(2 ^ (p.w - 1) : Int) ≤ c ∧ c < 2 ^ (p.w - 1)) :
    p.toS16 c = if p.w = 8 then c * 256 else c / 2 ^ (p.w - 16) := by
  unfold PcmFmt.toS16
  by_cases h : p.w = 8
  · rw [if_pos h, if_pos h]
    rw [h] at hc
    exact wrapS_of_range 16 _ (by omega) (by omega)
  · rw [if_neg h, if_neg h]; rfl

theorem toS16_ofS16 (p : PcmFmt) (hp : p.wf) (v : Int) (hv : -32768 ≤ v ∧ v ≤ 32767)
    (hl : 16 ≤ p.w ∨ v % 2 ^ (16 - p.w) = 0) : p.toS16 (p.ofS16 v) = v := by
  rw [toS16_of_range p _ (ofS16_range p hp v hv)]
  unfold PcmFmt.ofS16 asr
  by_cases h8 : p.w = 8
  · rw [if_pos h8, if_pos h8]
    rw [h8] at hl
    omega
  · rw [if_neg h8, if_neg h8]
    exact Int.mul_ediv_cancel _ (Int.pow_ne_zero (by decide))

theorem toS32_ofS32 (p : PcmFmt) (hp : p.wf) (x : Int) (hx : -2147483648 ≤ x ∧ x ≤ 2147483647) :
    p.toS32 (p.ofS32 x) = x - x % 2 ^ (32 - p.w) := by
  rw [toS32_of_range p hp _ (ofS32_range p hp x hx)]
  have := Int.emod_add_mul_ediv x (2 ^ (32 - p.w))
  rw [Int.mul_comm] at this
  unfold PcmFmt.ofS32 asr
  omega

end PcmFmt

theorem pcm_s16_roundtrip (p : PcmFmt) (hp : p.wf) (v : Int) (hv : -32768 ≤ v ∧ v ≤ 32767)
    (hl : 16 ≤ p.w ∨ v % 2 ^ (16 - p.w) = 0) : p.toS16 (p.decCode (p.encCode (p.ofS16 v))) = v := by
  rw [PcmFmt.decCode_encCode_of_range p hp _ (PcmFmt.ofS16_range p hp v hv)]
  exact PcmFmt.toS16_ofS16 p hp v hv hl

theorem pcm_s32_roundtrip (p : PcmFmt) (hp : p.wf) (v : Int) (hv : -2147483648 ≤ v ∧ v ≤ 2147483647)
    (hl : 32 ≤ p.w ∨ v % 2 ^ (32 - p.w) = 0) : p.toS32 (p.decCode (p.encCode (p.ofS32 v))) = v := by
  rw [PcmFmt.decCode_encCode_of_range p hp _ (PcmFmt.ofS32_range p hp v hv), PcmFmt.toS32_ofS32 p hp v hv]
  have h0 : v % 2 ^ (32 - p.w) = 0 := by
    rcases hl with h | h
    · rw [show 32 - p.w = 0 by omega]; omega
    · exact h
  omega

/-- The one floating-point fact C01 needs: widening a finite binary32 pattern gives a binary64 pattern that narrows back to it.
    A hypothesis where it is used, and not a lemma of this file, because its proof (`C01.widenExact`, SfProps/C01.lean) rests on
    SfProofs/FloatExact, whose imports hold Mathlib (FloatVal), while this file stands below every handle stack. -/
def WidenExact : Prop :=
  ∀ b : Nat, b < 2 ^ 32 → f32.isFinite b = true → f32to64 b < 2 ^ 64 ∧ f64to32 (f32to64 b) = b

/-- One sample, written with settings `c` and read back with (possibly different) settings `c'`:
    no conversion flag (norm, clip, scale, lrint variant) takes part in a lossless pair. -/
theorem Enc.sample_roundtrip_core (e : Enc) (he : e.wf) (c c' : Conv) (ty : Ty) (v : Int)
    (hv : ty.inRange v) (hl : lossless e ty v)
    (hwiden : ((∃ big, e = .dbl big) ∧ ty = .f32) → WidenExact) : e.decode c' ty (e.encode c ty v) = v := by
  -- the cases of `lossless` itself: five lossless pairs, and every other pair is excluded by `hl`
  unfold lossless at hl
  split at hl
  · exact pcm_s16_roundtrip _ he v hv hl
  · exact pcm_s32_roundtrip _ he v hv hl
  next big =>
    have hb : v.toNat < 2 ^ 32 := by have := hv.2; omega
    simp only [Enc.decode, Enc.encode]
    rw [bytes_roundtrip big 4 _ hb]
    exact Int.toNat_of_nonneg hv.1
  next big =>
    have hb : v.toNat < 2 ^ 64 := by have := hv.2; omega
    simp only [Enc.decode, Enc.encode]
    rw [bytes_roundtrip big 8 _ hb]
    exact Int.toNat_of_nonneg hv.1
  next big =>
    have hb : v.toNat < 2 ^ 32 := by have := hv.2; omega
    obtain ⟨hlt, hrt⟩ := hwiden ⟨⟨big, rfl⟩, rfl⟩ v.toNat hb hl
    simp only [Enc.decode, Enc.encode]
    rw [bytes_roundtrip big 8 _ hlt, hrt]
    exact Int.toNat_of_nonneg hv.1
  · exact hl.elim

/-- the same without the float hypothesis, for every pair except float-into-binary64 -/
theorem Enc.sample_roundtrip_nowiden (e : Enc) (he : e.wf) (c c' : Conv) (ty : Ty) (v : Int)
    (hv : ty.inRange v) (hl : lossless e ty v) (hne : ¬ ((∃ big, e = .dbl big) ∧ ty = .f32)) :
    e.decode c' ty (e.encode c ty v) = v :=
  Enc.sample_roundtrip_core e he c c' ty v hv hl (fun h => absurd h hne)

theorem Enc.sample_roundtrip (hwiden : WidenExact) (e : Enc) (he : e.wf) (c c' : Conv) (ty : Ty) (v : Int)
    (hv : ty.inRange v) (hl : lossless e ty v) : e.decode c' ty (e.encode c ty v) = v :=
  Enc.sample_roundtrip_core e he c c' ty v hv hl (fun _ => hwiden)

end Sf
