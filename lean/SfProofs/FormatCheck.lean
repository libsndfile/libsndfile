/- Helper lemmas for SfProps.C10: what `sf_format_check` lets through passes `validate_sfinfo` apart from the rate
   (`check_validates`), and "sf_format_check TRUE ⇒ the container's open succeeds, installs the four writers and
   leaves a state `validate_psf` accepts" (`good_of_check`).  The file defines the vocabulary of that statement:
   `rateRepaired`, `GoodRes` / `Good`. -/
import SfModel.FormatCheck
namespace Sf.Fmt

theorem endian_cases (f : Int) : endian f = 0 ∨ endian f = E_LITTLE ∨ endian f = E_BIG ∨ endian f = E_CPU := by
  unfold endian E_LITTLE E_BIG E_CPU; omega

theorem codec_range (f : Int) : 0 ≤ codec f ∧ codec f < 65536 := by
  unfold codec; omega

theorem ite_mem {P : Int → Prop} {c : Prop} [Decidable c] {a b : Int} (ha : P a) (hb : P b) :
    P (if c then a else b) :=
  iteInduction (fun _ => ha) (fun _ => hb)

/-- formats whose header writer or codec fixes a missing sample rate itself (XI: always 44100; OKI/VOX: 8000) -/
def rateRepaired (f : Int) : Prop := container f = XI ∨ (container f = RAW ∧ codec f = VOX_ADPCM)

instance (f : Int) : Decidable (rateRepaired f) := by unfold rateRepaired; infer_instance

/-- what a container's open leaves behind when all went well: no error, the four writers installed, a block width
    `validate_psf` accepts, a resolved byte order, the caller's channel count, and the caller's sample rate unless the
    format repairs it -/
def GoodRes (f ch sr : Int) (r : OpenRes) : Prop :=
  r.err = .ok ∧ r.installed = true ∧ validatePsf r = true ∧
  (r.endian = 0 ∨ r.endian = E_LITTLE ∨ r.endian = E_BIG) ∧ r.ch = ch ∧
  (if rateRepaired f then 1 ≤ r.sr else r.sr = sr)

def Good (f ch sr : Int) : Prop := GoodRes f ch sr (containerOpen f ch sr)

attribute [local simp] WAV AIFF AU RAW PAF SVX NIST VOC IRCAM W64 MAT4 MAT5 PVF XI HTK SDS AVR WAVEX SD2 FLAC CAF WVE
  OGG MPC2K RF64 MPEG TXW DWD REX2 PCM_S8 PCM_16 PCM_24 PCM_32 PCM_U8 FLOAT DOUBLE ULAW ALAW IMA_ADPCM MS_ADPCM GSM610
  VOX_ADPCM NMS_ADPCM_16 NMS_ADPCM_24 NMS_ADPCM_32 G721_32 G723_24 G723_40 DWVW_12 DWVW_16 DWVW_24 DWVW_N DPCM_8 DPCM_16
  VORBIS OPUS ALAC_16 ALAC_20 ALAC_24 ALAC_32 MPEG_LAYER_I MPEG_LAYER_II MPEG_LAYER_III E_FILE E_LITTLE E_BIG E_CPU
  SF_MAX_CHANNELS

variable {f ch sr : Int}

theorem accepts_iff : accepts f ch sr = true ↔ openWrite f ch sr = .ok ∧ installed f ch sr = true := by
  unfold accepts; simp

/-- what `sf_format_check` lets through has a container, an encoding and a legal channel count, so `validate_sfinfo`
    can only object to the sample rate -/
theorem check_validates (h : check f ch sr = true) {sr' : Int} (hsr : 1 ≤ sr') : validateSfinfo f ch sr' = true := by
  have hc : container f ≠ 0 := by
    intro h0; unfold check at h; simp [h0] at h
  have hs : codec f ≠ 0 := by
    intro h0; unfold check at h; simp [h0] at h
  have hch : ¬ (ch < 1 ∨ ch > SF_MAX_CHANNELS) := by
    intro h0; unfold check at h; simp [h0] at h
  simp [validateSfinfo, hc, hs, hch]
  omega

theorem pcmInit_good {s e ch : Int} (hs : s = PCM_S8 ∨ s = PCM_U8 ∨ s = PCM_16 ∨ s = PCM_24 ∨ s = PCM_32)
    (he : e = E_LITTLE ∨ e = E_BIG) (hch : 1 ≤ ch) : pcmInit (bytewidthOf s) e s ch = .good := by
  have : ch ≠ 0 := by omega
  rcases hs with rfl | rfl | rfl | rfl | rfl <;> rcases he with rfl | rfl <;> simp [pcmInit, bytewidthOf, this]

theorem float32Init_good {e ch : Int} (he : e = E_LITTLE ∨ e = E_BIG) (hch : 1 ≤ ch) : float32Init e ch = .good := by
  have : ¬ ch < 1 := by omega
  simp [float32Init, this, he]

theorem double64Init_good {e ch : Int} (he : e = E_LITTLE ∨ e = E_BIG) (hch : 1 ≤ ch) (hch' : ch ≤ 1024) :
    double64Init e ch = .good := by
  have : ¬ (ch < 1 ∨ ch > 1024) := by omega
  simp [double64Init, this, he]

theorem srate2blocksize_mem (sr ch : Int) : srate2blocksize sr ch = 256 ∨ srate2blocksize sr ch = 512 ∨
    srate2blocksize sr ch = 1024 ∨ srate2blocksize sr ch = 2048 := by
  simp only [srate2blocksize]
  split; · simp
  split; · simp
  split <;> simp

/-- MS ADPCM block geometry is always consistent for the one or two channels the check lets through -/
theorem msadpcmInit_good {sr ch : Int} (h1 : 1 ≤ ch) (h2 : ch ≤ 2) : msadpcmInit (srate2blocksize sr ch) ch = .good := by
  have hch : ch = 1 ∨ ch = 2 := by omega
  rcases hch with rfl | rfl <;> rcases srate2blocksize_mem sr _ with hb | hb | hb | hb <;> rw [hb] <;> decide

theorem alacInit_good {ch : Int} (h1 : 1 ≤ ch) (h8 : ch ≤ 8) : alacInit ch = .good := by
  have : ¬ (ch < 1 ∨ ch > 8) := by omega
  simp [alacInit, this]

/-- the byte order a container that follows the request falls back to: the CPU's, little-endian here -/
theorem cpuLittle_cases (f : Int) {p : Prop} [Decidable p] (hp : p ↔ endian f = 0 ∨ endian f = E_CPU) :
    (if p then E_LITTLE else endian f) = E_LITTLE ∨ (if p then E_LITTLE else endian f) = E_BIG := by
  split
  · exact Or.inl rfl
  · next h =>
    have := endian_cases f
    rw [hp] at h
    omega

theorem goodRes_res {e bw blw sr' : Int} (hr : if rateRepaired f then 1 ≤ sr' else sr' = sr)
    (he : e = 0 ∨ e = E_LITTLE ∨ e = E_BIG) (hb : blw = 0 ∨ blw = bw * ch) :
    GoodRes f ch sr (res .ok .good e ch sr' bw blw) := by
  refine ⟨rfl, rfl, ?_, he, rfl, hr⟩
  simp only [validatePsf, res]
  rcases hb with hb | hb <;> simp [hb, Int.mul_comm]

theorem goodRes_good {e bw blw : Int} (hr : ¬ rateRepaired f) (he : e = E_LITTLE ∨ e = E_BIG) (hb : blw = bw * ch) :
    GoodRes f ch sr (res .ok .good e ch sr bw blw) :=
  goodRes_res (by simp [hr]) (Or.inr he) (Or.inr hb)

@[local simp] theorem Init.good_err : Init.good.err = .ok := rfl

/- Every case of `good_of_check` has the same shape.  `simp [hc]` leaves the container's paragraph of `sf_format_check`: a
   disjunction over the encodings it admits, with their channel limits.  The byte order the open resolves is
   generalised to an `e` known to be little or big.  Then, encoding by encoding, `simp [*, …]` evaluates the
   container's codec switch; the initialiser it reaches is rewritten to `Init.good` by the lemmas above (the small
   ones, which look at a fixed container or insist on mono, by unfolding), and `goodRes_good` recognises the result. -/
attribute [local simp] pcmInit_good float32Init_good double64Init_good msadpcmInit_good alacInit_good
  imaInit gsm610Init g72xInit nmsInit dwvwInit voxInit goodRes_good

/-- `sf_format_check` TRUE ⇒ the container's open succeeds, for every format that needs no external library.
    By cases on the container; in each, on the encodings its paragraph of the check admits. -/
theorem good_of_check (h : check f ch sr = true) (hF : container f ≠ FLAC) (hO : container f ≠ OGG)
    (hM : container f ≠ MPEG) (hm : codec f ≠ MPEG_LAYER_III) : Good f ch sr := by
  have hc : container f = WAV ∨ container f = WAVEX ∨ container f = AIFF ∨ container f = AU ∨ container f = CAF ∨
      container f = RAW ∨ container f = PAF ∨ container f = SVX ∨ container f = NIST ∨ container f = IRCAM ∨
      container f = VOC ∨ container f = W64 ∨ container f = MAT4 ∨ container f = MAT5 ∨ container f = PVF ∨
      container f = XI ∨ container f = HTK ∨ container f = SDS ∨ container f = AVR ∨ container f = SD2 ∨
      container f = WVE ∨ container f = MPC2K ∨ container f = RF64 := by
    refine Decidable.byContradiction fun hn => ?_
    simp only [not_or] at hn
    simp [check, hn, hF, hO, hM] at h
  unfold Good containerOpen
  unfold check at h
  by_cases hr : rateRepaired f
  · rcases hr with hc | ⟨hc, hx⟩
    · -- XI: `xi_open` overwrites channels and rate
      simp [hc] at h ⊢
      simp only [openXi]
      rcases h with ⟨-, -, rfl, hs | hs⟩
      all_goals simp [hs, dpcmInit, bytewidthOf]
      all_goals exact goodRes_res (by simp [rateRepaired, hc]) (by decide) (Or.inr (by simp))
    · -- OKI/VOX ADPCM: mono, and the codec replaces a missing rate by 8000
      simp [hc, hx] at h ⊢
      obtain ⟨-, -, rfl⟩ := h
      simp only [openRaw]
      have he := cpuLittle_cases f Iff.rfl
      generalize (if endian f = 0 ∨ endian f = E_CPU then E_LITTLE else endian f) = e at he ⊢
      simp [hx]
      refine goodRes_res ?_ (Or.inr he) (Or.inr (by simp))
      rw [if_pos (show rateRepaired f from Or.inr ⟨hc, hx⟩)]
      split <;> omega
  rcases hc with hc | hc | hc | hc | hc | hc | hc | hc | hc | hc | hc | hc | hc | hc | hc | hc | hc | hc | hc | hc | hc | hc
    | hc
  · simp [hc] at h hm ⊢
    simp only [openWav]
    generalize hee : (if endian f ≠ E_BIG then E_LITTLE else E_BIG) = e
    have he : e = E_LITTLE ∨ e = E_BIG := by rw [← hee]; split <;> simp
    rcases h with ⟨⟨hch1, hch2⟩, -, (hs | hs) | (hs | hs) | ⟨hs | hs, h2⟩ | ⟨hs, rfl⟩ | ⟨hs, rfl⟩ | (hs | hs) | (hs | hs)
      | ⟨hs | hs | hs, rfl⟩ | ⟨hs, -⟩⟩
    all_goals simp [*, wavFmtChunkOk] at hm ⊢
  · simp [hc] at h ⊢
    simp only [openWav]
    generalize hee : (if endian f ≠ E_BIG then E_LITTLE else E_BIG) = e
    have he : e = E_LITTLE ∨ e = E_BIG := by rw [← hee]; split <;> simp
    rcases h with ⟨⟨hch1, hch2⟩, -, -, (hs | hs) | (hs | hs) | (hs | hs) | hs | hs⟩
    all_goals simp [*, wavexFmtChunkOk]
  · simp [hc] at h ⊢
    simp only [openAiff]
    rcases h with ⟨⟨hch1, hch2⟩, -, h | ⟨he, (hs | hs) | (hs | hs) | (hs | hs) | ⟨hs | hs | hs, rfl⟩ | ⟨hs, rfl⟩
      | ⟨hs, rfl | rfl⟩⟩⟩
    · -- 16 to 32 bit PCM may ask for either byte order
      rcases h with hs | hs | hs <;> rcases endian_cases f with he | he | he | he
      all_goals simp [*, aiffHeader]
    all_goals simp [*, aiffHeader]
  · simp [hc] at h ⊢
    simp only [openAu]
    generalize hee : (if endian f = E_CPU then E_LITTLE else if endian f ≠ E_LITTLE then E_BIG else E_LITTLE) = e
    have he : e = E_LITTLE ∨ e = E_BIG := by
      rw [← hee]; split
      · simp
      · split <;> simp
    rcases h with ⟨⟨hch1, hch2⟩, -, (hs | hs) | (hs | hs) | (hs | hs) | (hs | hs) | ⟨hs, rfl⟩ | ⟨hs, rfl⟩
      | ⟨hs, rfl⟩⟩
    all_goals simp [*, auEncodingOk]
  · simp [hc] at h ⊢
    simp only [openCaf]
    generalize hee : (if endian f = E_LITTLE ∨ endian f = E_CPU then E_LITTLE else E_BIG) = e
    have he : e = E_LITTLE ∨ e = E_BIG := by rw [← hee]; split <;> simp
    rcases h with ⟨⟨hch1, hch2⟩, -, (hs | hs) | (hs | hs) | (hs | hs) | ⟨hs | hs, h8⟩ | ⟨hs | hs, h8⟩ | hs | hs⟩
    all_goals simp [*, isAlac]
  · simp [hc] at h ⊢
    simp only [openRaw]
    have he := cpuLittle_cases f Iff.rfl
    generalize (if endian f = 0 ∨ endian f = E_CPU then E_LITTLE else endian f) = e at he ⊢
    have hx : codec f ≠ VOX_ADPCM := fun hx => hr (Or.inr ⟨hc, hx⟩)
    rcases h with ⟨⟨hch1, hch2⟩, -, (hs | hs | hs) | (hs | hs) | (hs | hs) | (hs | hs) | ⟨hs | hs | hs, rfl⟩ | ⟨hs, rfl⟩
      | ⟨hs, rfl⟩ | ⟨hs | hs | hs, rfl⟩⟩
    all_goals simp [*] at hx ⊢
  · simp [hc] at h ⊢
    simp only [openPaf]
    generalize hee : (if endian f = E_LITTLE ∨ endian f = E_CPU then E_LITTLE else E_BIG) = e
    have he : e = E_LITTLE ∨ e = E_BIG := by rw [← hee]; split <;> simp
    rcases h with ⟨⟨hch1, hch2⟩, -, hs | hs | hs⟩
    · simp [hs, show pcmInit 1 e 1 ch = .good from pcmInit_good (s := PCM_S8) (by simp) he hch1]
      exact goodRes_res (by simp [hr]) (Or.inr he) (Or.inr (by simp))
    · simp [hs, show pcmInit 2 e 2 ch = .good from pcmInit_good (s := PCM_16) (by simp) he hch1]
      exact goodRes_res (by simp [hr]) (Or.inr he) (Or.inr rfl)
    · simp [hs]
      exact goodRes_res (by simp [hr]) (Or.inr he) (Or.inl rfl)
  · simp [hc] at h ⊢
    simp only [openSvx]
    rcases h with ⟨⟨hch1, hch2⟩, -, -, he, hs | hs⟩
    all_goals simp [*]
  · simp [hc] at h ⊢
    simp only [openNist]
    have he := cpuLittle_cases f Iff.rfl
    generalize (if endian f = 0 ∨ endian f = E_CPU then E_LITTLE else endian f) = e at he ⊢
    rcases h with ⟨⟨hch1, hch2⟩, -, (hs | hs) | (hs | hs) | hs | hs⟩
    all_goals simp [*]
  · simp [hc] at h ⊢
    simp only [openIrcam]
    have he := cpuLittle_cases f Iff.rfl
    generalize (if endian f = 0 ∨ endian f = E_CPU then E_LITTLE else endian f) = e at he ⊢
    have he' := he.symm
    rcases h with ⟨⟨hch1, hch2⟩, -, -, (hs | hs) | hs | hs | hs⟩
    all_goals simp [*]
  · simp [hc] at h ⊢
    simp only [openVoc]
    have h12 : ch = 1 ∨ ch = 2 := by omega
    have hn : ¬ (ch < 1 ∨ ch > 2) := by omega
    rcases h with ⟨⟨hch1, hch2⟩, -, h2, -, (hs | hs) | hs | hs⟩
    all_goals simp [*]
  · simp [hc] at h ⊢
    simp only [openW64]
    rcases h with ⟨⟨hch1, hch2⟩, -, -, (hs | hs) | (hs | hs) | ⟨hs | hs, h2⟩ | ⟨hs, rfl⟩ | (hs | hs) | hs | hs⟩
    all_goals simp [*, w64HeaderOk]
  · simp [hc] at h ⊢
    simp only [openMat4]
    have he := cpuLittle_cases f (p := endian f = E_CPU ∨ endian f = 0) or_comm
    generalize (if endian f = E_CPU ∨ endian f = 0 then E_LITTLE else endian f) = e at he ⊢
    have he' := he.symm
    rcases h with ⟨⟨hch1, hch2⟩, -, (hs | hs) | hs | hs⟩
    all_goals simp [*]
  · simp [hc] at h ⊢
    simp only [openMat5]
    have he := cpuLittle_cases f (p := endian f = E_CPU ∨ endian f = 0) or_comm
    generalize (if endian f = E_CPU ∨ endian f = 0 then E_LITTLE else endian f) = e at he ⊢
    rcases h with ⟨⟨hch1, hch2⟩, -, (hs | hs | hs) | hs | hs⟩
    all_goals simp [*]
  · simp [hc] at h ⊢
    simp only [openPvf]
    rcases h with ⟨⟨hch1, hch2⟩, -, hs | hs | hs⟩
    all_goals simp [*]
  -- XI repairs the rate
  · exact absurd (Or.inl hc) hr
  · simp [hc] at h ⊢
    obtain ⟨-, -, rfl, -, hs⟩ := h
    simp [openHtk, *]
  · simp [hc] at h ⊢
    simp only [openSds]
    rcases h with ⟨-, -, -, -, hs | hs | hs⟩
    all_goals simp [hs]
    all_goals exact goodRes_res (by simp [hr]) (Or.inl rfl) (Or.inl rfl)
  · simp [hc] at h ⊢
    simp only [openAvr]
    rcases h with ⟨⟨hch1, -⟩, -, -, -, hs | hs | hs⟩
    all_goals simp [*]
  · simp [hc] at h ⊢
    simp only [openSd2]
    rcases h with ⟨⟨hch1, -⟩, -, -, hs | hs | hs | hs⟩
    all_goals simp [*]
  · simp [hc] at h ⊢
    obtain ⟨⟨hch1, -⟩, -, h1, -, -⟩ := h
    obtain rfl : ch = 1 := by omega
    simp [openWve]
    exact goodRes_res (by simp [hr]) (Or.inr (Or.inr rfl)) (Or.inr (by simp))
  · simp [hc] at h ⊢
    obtain ⟨⟨hch1, -⟩, -, -, -, hs⟩ := h
    simp [openMpc2k, *]
  · simp [hc] at h ⊢
    simp only [openRf64]
    rcases h with ⟨⟨hch1, hch2⟩, -, -, (hs | hs) | (hs | hs) | (hs | hs) | hs | hs⟩
    all_goals simp [*, wavexFmtChunkOk]

end Sf.Fmt
