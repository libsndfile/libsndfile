/-
  W64: lengths and size fields of the header the writer produces (helpers for SfProps/C04W64.lean).
-/
import SfModel.W64
import SfProofs.Bytes
import SfProofs.CafBytes
namespace Sf.W64
open Sf Sf.CafW64

theorem le_length (n : Nat) (v : Int) : (le n v).length = n := by simp [le, leBytes_length]

theorem guid_lengths : riffG.length = 16 ∧ waveG.length = 16 ∧ fmtG.length = 16 ∧ factG.length = 16 ∧ dataG.length = 16 := by decide

/-- the 16-byte body of the 'fmt ' chunk -/
def fmtBody (c : Cfg) : List Byte :=
  le 2 (formatTag c.codec) ++ le 2 c.ch ++ le 4 c.sr ++ le 4 (c.sr * bytewidth c.codec * c.ch) ++
    le 2 (bytewidth c.codec * c.ch) ++ le 2 (bitsOf c.codec)
def factPart (c : Cfg) (frames : Int) : List Byte := if hasFact c.codec then factG ++ le 8 32 ++ le 8 frames else []

theorem hdrRaw_eq (c : Cfg) (a b f : Int) :
    hdrRaw c a b f = riffG ++ le 8 a ++ waveG ++ fmtG ++ le 8 40 ++ fmtBody c ++ factPart c f ++ dataG ++ le 8 (b + 24) := by
  simp only [hdrRaw, fmtBody, factPart, List.append_assoc]

theorem fmtBody_length (c : Cfg) : (fmtBody c).length = 16 := by simp [fmtBody, le_length]
theorem factPart_length (c : Cfg) (f : Int) : (factPart c f).length = if hasFact c.codec then 32 else 0 := by
  unfold factPart; split <;> simp [le_length, factG, guidTail2]

theorem hdrRaw_length (c : Cfg) (a b f : Int) : (hdrRaw c a b f).length = hdrLen c := by
  obtain ⟨g1, g2, g3, _, g5⟩ := guid_lengths
  rw [hdrRaw_eq]
  simp only [List.length_append, g1, g2, g3, g5, le_length, fmtBody_length, factPart_length]
  unfold hdrLen
  split <;> rfl

theorem hdr_length (c : Cfg) (n : Nat) : (hdr c n).length = hdrLen c := hdrRaw_length c _ _ _

theorem hdrLen_cases (c : Cfg) : hdrLen c = 104 ∨ hdrLen c = 136 := by
  unfold hdrLen; by_cases h : hasFact c.codec = true <;> simp [h]

theorem image_length (c : Cfg) (n : Nat) (data : List Byte) : (image c n data).length = hdrLen c + data.length := by
  simp [image, tail, hdr_length]

theorem wf_bw_pos {c : Cfg} (h : c.wf) : 0 < c.bw := by
  obtain ⟨hc, h1, _⟩ := h
  have : 0 < bytewidth c.codec := by
    simp [codecs] at hc
    rcases hc with h | h | h | h | h | h | h | h <;> rw [h] <;> decide
  exact Nat.mul_pos this (by omega)

end Sf.W64
