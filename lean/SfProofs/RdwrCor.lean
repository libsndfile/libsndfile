/-
  SfProofs.RdwrCor — consequences of the refinement, stated on the concrete handle: what a seek and a write do to the
  positions and the stored frames (`seek_effect`, `write_effect`), and the re-open theorems on top of
  SfProofs/RdwrReopen.lean (`RwView.reopen` read-only, `RwView.reopen_rw` SFM_RDWR, `Reopened.read_all`: one read of all F frames
  returns the decoded data section; `absValues`: the abstract file's frames decoded for a caller type).
-/
import SfProofs.RdwrReopen
namespace Sf

theorem RwInv.nframes {h : H} {s : Store} (i : RwInv h s) : ((absOf h s).frames.length : Int) = h.frames := by
  obtain ⟨R, W, F, hdr, D, v⟩ := i
  rw [v.abs, v.frames]; simp only; rw [v.nframes]

theorem RwInv.abs_rpos {h : H} {s : Store} (i : RwInv h s) : ((absOf h s).rpos : Int) = h.rpos := by
  obtain ⟨R, W, F, hdr, D, v⟩ := i
  rw [v.abs, v.rpos]

theorem RwInv.abs_wpos {h : H} {s : Store} (i : RwInv h s) : ((absOf h s).wpos : Int) = h.wpos := by
  obtain ⟨R, W, F, hdr, D, v⟩ := i
  rw [v.abs, v.wpos]

theorem RwInv.frame_len {h : H} {s : Store} (i : RwInv h s) : ∀ g ∈ (absOf h s).frames, g.length = h.bw := by
  obtain ⟨R, W, F, hdr, D, v⟩ := i
  rw [v.abs]; exact v.frame_len

theorem AbsFile.seek_cases {α : Type} (f : AbsFile α) (w : Whence) (p : Ptr) (off : Int) :
    ((f.seek w p off).1 = -1 ∧ (f.seek w p off).2 = f) ∨
    (∃ t : Nat, (f.seek w p off).1 = (t : Int) ∧
      (f.seek w p off).2 = (match p with
        | .both => { f with rpos := t, wpos := t }
        | .rd => { f with rpos := t }
        | .wr => { f with wpos := t })) := by
  unfold AbsFile.seek
  simp only
  by_cases hneg : f.base w p + off < 0
  · left; rw [if_pos hneg]; exact ⟨rfl, rfl⟩
  · right; rw [if_neg hneg]
    obtain ⟨t, ht⟩ := Int.eq_ofNat_of_zero_le (show 0 ≤ f.base w p + off by omega)
    refine ⟨t, ht, ?_⟩
    simp only [ht, Int.toNat_natCast]
    cases p <;> rfl

/-- `rdwr_step` for a seek, read off on the handle's own fields -/
theorem seek_effect (h : H) (s : Store) (inv : RwInv h s) (w : Whence) (p : Ptr) (off : Int) :
    let r := stepAny h s ((ROp.seek w p off).toOp h)
    r.1.frames = h.frames ∧ (absOf r.1 r.2.1).frames = (absOf h s).frames ∧
    (r.2.2.ret = -1 ∨ 0 ≤ r.2.2.ret) ∧
    (r.2.2.ret = -1 → r.1.rpos = h.rpos ∧ r.1.wpos = h.wpos) ∧
    (0 ≤ r.2.2.ret → r.2.2.err = 0 ∧
      r.1.rpos = (if p = .wr then h.rpos else r.2.2.ret) ∧ r.1.wpos = (if p = .rd then h.wpos else r.2.2.ret)) := by
  intro r
  obtain ⟨o, i', a'⟩ := rdwr_step h s (.seek w p off) inv trivial
  simp only [ROp.outOk] at o
  simp only [ROp.toAOp, AbsFile.stepOpt, AbsFile.step] at a'
  have hf' := i'.nframes
  have hr' := i'.abs_rpos
  have hw' := i'.abs_wpos
  have hf := inv.nframes
  have hr := inv.abs_rpos
  have hw := inv.abs_wpos
  rw [a'] at hf' hr' hw'
  rw [AbsFile.seek_frames] at hf'
  refine ⟨by rw [← hf', hf], by rw [a', AbsFile.seek_frames], ?_⟩
  rcases AbsFile.seek_cases (absOf h s) w p off with ⟨e, e2⟩ | ⟨t, e, e2⟩
  · -- refused: the abstract file, hence both positions, as before
    have hret : r.2.2.ret = -1 := by rw [o.1, e]
    rw [e2] at hr' hw'
    exact ⟨Or.inl hret, fun _ => ⟨by rw [← hr', hr], by rw [← hw', hw]⟩, fun hnn => absurd (hret ▸ hnn) (by decide)⟩
  · -- accepted: the named pointer(s) at the target `t`
    have hret : r.2.2.ret = (t : Int) := by rw [o.1, e]
    have ht0 : 0 ≤ r.2.2.ret := hret ▸ Int.natCast_nonneg t
    rw [e2] at hr' hw'
    refine ⟨Or.inr ht0, fun hm => absurd (hm ▸ ht0) (by decide), fun _ => ⟨o.2 (e ▸ Int.natCast_nonneg t), ?_, ?_⟩⟩
    · cases p
      · rw [if_neg (by decide), ← hr', hret]
      · rw [if_neg (by decide), ← hr', hret]
      · rw [if_pos rfl, ← hr', ← hr]
    · cases p
      · rw [if_neg (by decide), ← hw', hret]
      · rw [if_pos rfl, ← hw', ← hw]
      · rw [if_neg (by decide), ← hw', hret]

/-- `rdwr_step` for a non-empty whole-frame write, read off on the handle's own fields -/
theorem write_effect (h : H) (s : Store) (inv : RwInv h s) (ty : Ty) (fc : Bool) (data : List Int)
    (hmod : data.length % h.ch = 0) (hpos : 0 < data.length) :
    let r := stepAny h s ((ROp.write ty fc data).toOp h)
    writtenFrames h ty data ≠ [] ∧ (writtenFrames h ty data).length = data.length / h.ch ∧
    absOf r.1 r.2.1 = (absOf h s).write (zeroFrame h.bw) (writtenFrames h ty data) ∧
    r.1.frames = max h.frames (h.wpos + ((data.length / h.ch : Nat) : Int)) ∧
    r.1.wpos = h.wpos + ((data.length / h.ch : Nat) : Int) ∧ r.1.rpos = h.rpos ∧
    r.2.2.ret = callCount h fc (data.length / h.ch) ∧ r.2.2.err = 0 := by
  intro r
  obtain ⟨R, W, F, hdr, D, v⟩ := inv
  have hk : 0 < data.length / h.ch := Nat.div_pos (Nat.le_of_dvd hpos (Nat.dvd_of_mod_eq_zero hmod)) v.ch_pos
  have hdl := (Nat.div_mul_cancel (Nat.dvd_of_mod_eq_zero hmod)).symm
  obtain ⟨h', s', o, hdr', e, r1, r2, v'⟩ := v.write_view ty fc _ data hk hdl
  have er : r = (h', s', o) := e
  have hbw : h'.bw = h.bw := congrArg (·.1.bw) er ▸ (SameCfg.stepAny h s ((ROp.write ty fc data).toOp h)).bw
  have wl := writtenFrames_length h ty v.bw_pos hdl
  have a := v.abs_write ty _ data hk hdl hbw v'
  rw [er]
  refine ⟨fun hc => by rw [hc] at wl; simp at wl; omega, wl, a, ?_, ?_, ?_, r1, r2⟩
  · show h'.frames = _; rw [v'.frames, v.frames, v.wpos]; omega
  · show h'.wpos = _; rw [v'.wpos, v.wpos]; omega
  · show h'.rpos = _; rw [v'.rpos, v.rpos]

/-- the guard of the statement (the data of a WAV stays below the 4 GiB RIFF limit), on the bytes of the view -/
theorem RwView.riff_guard {h : H} {s : Store} {R W F : Nat} {hdr D : List Byte} (v : RwView h s R W F hdr D)
    (hguard : h.frames * (h.bw : Int) < 0xFFFFFFFF) : D.length < 0xFFFFFFFF := by
  rw [v.frames] at hguard
  have e : ((D.length : Nat) : Int) = (F : Int) * (h.bw : Int) := by rw [v.dlen]; push_cast; rfl
  omega

theorem RwView.reopen {h : H} {s : Store} {R W F : Nat} {hdr D : List Byte} (v : RwView h s R W F hdr D)
    {fmt : Nat} {ch sr : Int} (cfg : CfgOf fmt ch sr h) (hsr : sr ≤ 0x7FFFFFFF)
    (hguard : h.container = .wav → h.frames * (h.bw : Int) < 0xFFFFFFFF) (ix pos : Nat) :
    ∃ h' s', openHandle ix ⟨(closeHandle h s).bytes, pos⟩ .r fmt ch sr = .ok h' s' ∧ Reopened h F D h' s' := by
  obtain ⟨fl, t2, h', s', ho, _, o⟩ := v.reopen_image .r (by decide) cfg hsr (fun hc => v.riff_guard (hguard hc)) ix pos
  exact ⟨h', s', ho, o.mode, o.frames, o.ch, o.enc, o.rpos, open_r_wpos _ _ _ _ _ _ _ ho, by rw [o.doff, v.off_eq],
    zeros t2, by rw [o.bytes, ← v.off_eq]; exact image_drop _ _ v.absOk _ _⟩

theorem RwView.reopen_rw {h : H} {s : Store} {R W F : Nat} {hdr D : List Byte} (v : RwView h s R W F hdr D)
    {fmt : Nat} {ch sr : Int} (cfg : CfgOf fmt ch sr h) (hsr : sr ≤ 0x7FFFFFFF)
    (hguard : h.container = .wav → h.frames * (h.bw : Int) < 0xFFFFFFFF) (ix pos : Nat) :
    ∃ h' s', openHandle ix ⟨(closeHandle h s).bytes, pos⟩ .rw fmt ch sr = .ok h' s' ∧ ReopenedRw h.enc h.ch F D h' s' := by
  obtain ⟨fl, t2, h', s', ho, ht2, o⟩ := v.reopen_image .rw (by decide) cfg hsr (fun hc => v.riff_guard (hguard hc)) ix pos
  exact ⟨h', s', ho, o.reopenedRw ho v.absOk ht2⟩

theorem Reopened.read_all {h h' : H} {F : Nat} {D : List Byte} {s' : Store} (r : Reopened h F D h' s')
    (hi : HInv h' s') (hD : D.length = F * h.bw) (hF : 0 < F) (ty : Ty) :
    (stepRead h' s' ty true (F : Int)).2.2.ret = (F : Int) ∧ (stepRead h' s' ty true (F : Int)).2.2.err = 0 ∧
    (stepRead h' s' ty true (F : Int)).2.2.data = h'.enc.decodeAll h'.conv ty D := by
  obtain ⟨tail, ht⟩ := r.data
  have eb : h'.bw = h.bw := by unfold H.bw; rw [r.enc, r.ch]
  have hrd := hi.rd r.mode
  have hp : Sf.readPos h' s' = hdrLenOf h := by
    have := hrd.sync (by rw [r.rpos, r.frames]; omega)
    rw [r.doff, r.rpos] at this
    unfold Sf.readPos; rw [if_neg (by simp [hrd.lastOp])]; omega
  rw [stepRead_region h' s' ty true F (by omega) (by rw [r.mode]; decide) (Or.inl rfl) hi.ch_pos hi.nb_pos F 0 F rfl r.rpos
    (by rw [r.frames, Nat.zero_add]) hF D tail (by rw [eb]; exact hD) (by rw [hp]; exact ht)]
  refine ⟨by simp, rfl, ?_⟩
  simp only [Nat.sub_self, Nat.zero_mul, List.replicate_zero, List.append_nil]
  rw [List.take_of_length_le (by rw [eb, hD]; exact Nat.le_refl _)]

/-- the abstract file as the caller of type `ty` sees it: every stored frame decoded to its `ch` items -/
def absValues (h : H) (s : Store) (ty : Ty) : List (List Int) :=
  (absOf h s).frames.map (h.enc.decodeAll h.conv ty)

end Sf
