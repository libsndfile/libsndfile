/-
  CAF: the write session keeps "store = some header of the right length ++ the audio written so far", every header
  written with recomputed lengths is `hdr c N pk`, and caf_close leaves `image c N pk data`
  (helpers for SfProps/C04Caf.lean, C11).
-/
import SfProofs.CafImage
import SfProofs.CafBytes
namespace Sf.Caf
open Sf Sf.CafW64

theorem writeAt_head (h0 rest h : List Byte) (hl : h.length = h0.length) : writeAt (h0 ++ rest) 0 h = h ++ rest := by
  simp [writeAt, hl]

theorem writeAt_end (bs d : List Byte) : writeAt bs bs.length d = bs ++ d := by simp [writeAt]

/-- the session invariant: `D` is the audio written so far, `w` the frames, `pk` the peak table -/
structure Inv (c : Cfg) (s : St) (D : List Byte) (w : Nat) (pk : List Peak) : Prop where
  hdr0 : ∃ h0 : List Byte, h0.length = dataOffset c ∧ s.bytes = h0 ++ D
  pos : s.pos = s.bytes.length
  off : s.dataoffset = dataOffset c
  wpos : s.wpos = w
  frames : s.frames = w
  dlen : D.length = w * c.bw
  dend : s.dataend = 0
  peaks : s.peaks = pk
  pklen : isFloat c.codec = true → pk.length = c.ch

/-- a valid write call stores the bytes it hands over (`k = 0` only with no bytes) -/
theorem Op.data_of_valid {c : Cfg} {k : Nat} {d : List Byte} {p : List Peak} (hv : d.length = k * c.bw) : (Op.write k d p).data = d := by
  show (if k == 0 then [] else d) = d
  split
  · next h => rw [beq_iff_eq.1 h, Nat.zero_mul] at hv; exact (List.length_eq_zero_iff.1 hv).symm
  · rfl

theorem writeHeader_keeps (c : Cfg) (s : St) (b : Bool) :
    (writeHeader c s b).wpos = s.wpos ∧ (writeHeader c s b).dataend = s.dataend ∧ (writeHeader c s b).peaks = s.peaks ∧
    (writeHeader c s b).auto = s.auto := by
  cases b
  · simp [writeHeader]
  · simp [writeHeader]

theorem writeHeader_inv {c : Cfg} {s : St} {D : List Byte} {w : Nat} {pk : List Peak} (i : Inv c s D w pk) (hbw : 0 < c.bw) (b : Bool) :
    Inv c (writeHeader c s b) D w pk ∧ (b = true → (writeHeader c s b).bytes = hdr c w pk ++ D) ∧ (writeHeader c s b).auto = s.auto := by
  obtain ⟨h0, hl, hb⟩ := i.hdr0
  have hal := dataOffset_aligned c
  have hlen : s.bytes.length = dataOffset c + w * c.bw := by rw [hb]; simp [hl, i.dlen]
  have hpos1 : ¬ ((s.pos : Int) < (dataOffset c : Int)) := by rw [i.pos, hlen]; omega
  have hpos2 : s.pos > 0 := by rw [i.pos, hlen]; omega
  obtain ⟨kw, kd, kp, ka⟩ := writeHeader_keeps c s b
  cases b with
  | false =>
    have hhl : (hdrRaw c s.datalength s.peaks).length = dataOffset c := hdrRaw_length c _ _ (by rw [i.peaks]; exact i.pklen)
    refine ⟨⟨⟨hdrRaw c s.datalength s.peaks, hhl, ?_⟩, ?_, ?_, kw.trans i.wpos, ?_, i.dlen, kd.trans i.dend, kp.trans i.peaks, i.pklen⟩, by simp, ka⟩
    · simp only [writeHeader, Bool.false_eq_true, if_false]; rw [hb]; exact writeAt_head h0 D _ (by rw [hhl, hl])
    · simp only [writeHeader, Bool.false_eq_true, if_false, hhl, hpos1, hpos2, if_true]
      rw [hb, writeAt_head h0 D _ (by rw [hhl, hl]), i.pos, hb]; simp [hhl, hl]
    · simp [writeHeader, hhl]
    · simp [writeHeader, i.frames]
  | true =>
    have hde : (s.dataend != 0) = false := by rw [i.dend]; rfl
    have hdl : (s.bytes.length : Int) - s.dataoffset = ((w * c.bw : Nat) : Int) := by rw [i.off, hlen]; push_cast; omega
    have hfr : Int.tdiv ((s.bytes.length : Int) - s.dataoffset) (c.bw : Int) = w := by rw [hdl]; exact tdiv_frames w c.bw hbw
    have hhl : (hdr c w pk).length = dataOffset c := hdrRaw_length c _ _ i.pklen
    have hbytes : (writeHeader c s true).bytes = hdr c w pk ++ D := by
      simp only [writeHeader, if_true, hde, Bool.false_eq_true, if_false]
      rw [hdl, i.peaks, hb]; exact writeAt_head h0 D _ (by rw [hl]; exact hhl)
    refine ⟨⟨⟨hdr c w pk, hhl, hbytes⟩, ?_, ?_, kw.trans i.wpos, ?_, i.dlen, kd.trans i.dend, kp.trans i.peaks, i.pklen⟩, fun _ => hbytes, ka⟩
    · have : (writeHeader c s true).pos = s.pos := by
        simp only [writeHeader, if_true, hde, Bool.false_eq_true, if_false, hdl, i.peaks]
        have : (hdrRaw c ((w * c.bw : Nat) : Int) pk).length = dataOffset c := hhl
        simp only [this, hpos1, hpos2, if_false, if_true]
      rw [this, hbytes, i.pos, hb]; simp [hhl, hl]
    · simp only [writeHeader, if_true, hde, Bool.false_eq_true, if_false, hdl, i.peaks]; exact congrArg _ hhl
    · simp only [writeHeader, if_true, hde, Bool.false_eq_true, if_false]; exact hfr

def initPeaks (c : Cfg) : List Peak := if isFloat c.codec then List.replicate c.ch {} else []

theorem openW_inv (c : Cfg) (stale : Int) : Inv c (openW c stale) [] 0 (initPeaks c) := by
  have hhl : (hdrRaw c 0 (initPeaks c)).length = dataOffset c := hdrRaw_length c _ _ (by intro h; simp [initPeaks, h])
  refine ⟨⟨hdrRaw c 0 (initPeaks c), hhl, ?_⟩, ?_, ?_, rfl, rfl, by simp, rfl, rfl, by intro h; simp [initPeaks, h]⟩
  · simp [openW, writeHeader, writeAt, initPeaks]
  · have := dataOffset_aligned c
    have h2 : (hdrRaw c 0 (if isFloat c.codec = true then List.replicate c.ch {} else [])).length = dataOffset c := hhl
    simp [openW, writeHeader, writeAt, h2]
  · have h2 : (hdrRaw c 0 (if isFloat c.codec = true then List.replicate c.ch {} else [])).length = dataOffset c := hhl
    simp [openW, writeHeader, h2]

def nextPeaks (c : Cfg) (pk : List Peak) : Op → List Peak
  | .write k _ p => if k == 0 ∨ !isFloat c.codec then pk else p
  | _ => pk

/-- a write call that transfers something, up to the header rewrite of auto mode: the data lands at the end of the store, the
    PEAK table of a float / double file becomes the one handed over -/
theorem write_data_inv {c : Cfg} {s : St} {D : List Byte} {w : Nat} {pk : List Peak} (i : Inv c s D w pk) (hbw : 0 < c.bw) (k : Nat)
    (data : List Byte) (p : List Peak) (h0 : k ≠ 0) (hk : data.length = k * c.bw) (hpl : p.length = c.ch) :
    ∃ s3, Inv c s3 (D ++ data) (w + k) (nextPeaks c pk (.write k data p)) ∧ s3.auto = s.auto ∧
      step c s (.write k data p) = if s3.auto = true then writeHeader c s3 true else s3 := by
  have hkb : (k == 0) = false := by simpa using h0
  simp only [step, hkb, Bool.false_eq_true, if_false, nextPeaks, false_or]
  generalize hs1 : (if (!s.written) = true then writeHeader c s false else s) = s1
  have i1 : Inv c s1 D w pk ∧ s1.auto = s.auto := by
    rw [← hs1]; split
    · exact ⟨(writeHeader_inv i hbw false).1, (writeHeader_inv i hbw false).2.2⟩
    · exact ⟨i, rfl⟩
  obtain ⟨i1, ha1⟩ := i1
  obtain ⟨h0', hl, hb⟩ := i1.hdr0
  have hgt : s1.wpos + (k : Int) > s1.frames := by rw [i1.wpos, i1.frames]; omega
  have hw : s1.wpos + (k : Int) = ((w + k : Nat) : Int) := by rw [i1.wpos]; push_cast; rfl
  have hpk' : (if isFloat c.codec = true then p else s1.peaks) = if (!isFloat c.codec) = true then pk else p := by
    rw [i1.peaks]; cases isFloat c.codec <;> simp
  refine ⟨{ s1 with written := true, peaks := if (!isFloat c.codec) = true then pk else p, bytes := writeAt s1.bytes s1.pos data,
                    pos := s1.pos + data.length, wpos := s1.wpos + k, frames := s1.wpos + k, dataend := 0 },
    ⟨⟨h0', hl, ?_⟩, ?_, i1.off, hw, hw, ?_, rfl, rfl, ?_⟩, ha1, ?_⟩
  · show writeAt s1.bytes s1.pos data = _
    rw [i1.pos, writeAt_end, hb, List.append_assoc]
  · show s1.pos + data.length = (writeAt s1.bytes s1.pos data).length
    rw [i1.pos, writeAt_end]; simp
  · simp [i1.dlen, hk, Nat.add_mul]
  · intro hf; simp only [hf]; simpa using hpl
  · simp only [hgt, if_true, hpk']

theorem step_inv {c : Cfg} {s : St} {D : List Byte} {w : Nat} {pk : List Peak} (i : Inv c s D w pk) (hbw : 0 < c.bw) (op : Op) (hv : op.valid c) :
    Inv c (step c s op) (D ++ op.data) (w + op.frames) (nextPeaks c pk op) ∧
    (∀ k data p, op = .write k data p → k ≠ 0 → s.auto = true →
      (step c s op).bytes = hdr c (w + k) (nextPeaks c pk op) ++ (D ++ data)) := by
  cases op with
  | update =>
    refine ⟨by simpa [step, Op.data, Op.frames, nextPeaks] using (writeHeader_inv i hbw true).1, ?_⟩
    intro k data p h; cases h
  | auto on =>
    refine ⟨?_, by intro k data p h; cases h⟩
    simp only [step, Op.data, Op.frames, List.append_nil, Nat.add_zero, nextPeaks]
    exact ⟨i.hdr0, i.pos, i.off, i.wpos, i.frames, i.dlen, i.dend, i.peaks, i.pklen⟩
  | write k data p =>
    by_cases h0 : k = 0
    · subst h0
      refine ⟨by simpa [step, Op.data, Op.frames, nextPeaks] using i, ?_⟩
      intro k' d' p' h hk'; cases h; exact absurd rfl hk'
    · have hkb : (k == 0) = false := by simpa using h0
      obtain ⟨s3, i3, ha3, e⟩ := write_data_inv i hbw k data p h0 hv.1 hv.2
      simp only [Op.data, hkb, Bool.false_eq_true, if_false, Op.frames]
      rw [e]
      constructor
      · split
        · exact (writeHeader_inv i3 hbw true).1
        · exact i3
      · intro k' d' p' h hk' ha
        cases h
        rw [ha3, ha, if_pos rfl]
        exact (writeHeader_inv i3 hbw true).2.1 rfl

theorem sessPeaks_eq (c : Cfg) (ops : List Op) : sessPeaks c ops = ops.foldl (nextPeaks c) (initPeaks c) := by
  unfold sessPeaks initPeaks
  congr 1

theorem run_inv {c : Cfg} (hbw : 0 < c.bw) (ops : List Op) : ∀ {s : St} {D : List Byte} {w : Nat} {pk : List Peak}, Inv c s D w pk → (∀ op ∈ ops, op.valid c) →
    Inv c (run c s ops) (D ++ sessData ops) (w + sessFrames ops) (ops.foldl (nextPeaks c) pk) := by
  induction ops with
  | nil => intro s D w pk i _; simpa [run, sessData, sessFrames] using i
  | cons op ops ih =>
    intro s D w pk i hv
    have i1 := (step_inv i hbw op (hv op (by simp))).1
    have := ih i1 (fun o ho => hv o (by simp [ho]))
    simpa [run, sessData, sessFrames, List.flatMap_cons, Nat.add_assoc] using this

/-- a header rewrite with recomputed lengths, after `dataend` has been set: the data size written is `dataend - dataoffset` -/
theorem writeHeader_bytes_dataend {c : Cfg} {s : St} {h0 X : List Byte} {pk : List Peak} {n : Nat} (hb : s.bytes = h0 ++ X)
    (hl : h0.length = dataOffset c) (hoff : s.dataoffset = dataOffset c) (hde : s.dataend = ((dataOffset c + n : Nat) : Int))
    (hpk : s.peaks = pk) (hpl : isFloat c.codec = true → pk.length = c.ch) :
    (writeHeader c s true).bytes = hdrRaw c (n : Int) pk ++ X := by
  have hal := dataOffset_aligned c
  have hne : (s.dataend != 0) = true := by rw [hde]; simp; omega
  have hdl : (s.bytes.length : Int) - s.dataoffset - ((s.bytes.length : Int) - s.dataend) = (n : Int) := by
    rw [hoff, hde]; push_cast; omega
  simp only [writeHeader, if_true, hne, hdl, hpk]
  rw [hb]
  exact writeAt_head h0 X _ (by rw [hl]; exact hdrRaw_length c _ _ hpl)

/-- what every valid session has reached: its data, its frames, its last peak table -/
theorem session_inv (c : Cfg) (hwf : c.wf) (stale : Int) (ops : List Op) (hv : ∀ op ∈ ops, op.valid c) :
    Inv c (run c (openW c stale) ops) (sessData ops) (sessFrames ops) (sessPeaks c ops) := by
  simpa [sessPeaks_eq] using run_inv (wf_bw_pos hwf) ops (openW_inv c stale) hv

/-- caf_close: tailer and final header -/
theorem close_bytes {c : Cfg} {s : St} {D : List Byte} {w : Nat} {pk : List Peak} (i : Inv c s D w pk) :
    (close c s).bytes = image c w pk D := by
  obtain ⟨h0, hl, hb⟩ := i.hdr0
  have hal := dataOffset_aligned c
  have hlen : s.bytes.length = dataOffset c + w * c.bw := by rw [hb]; simp [hl, i.dlen]
  have hde : s.dataoffset + s.frames * (bytewidth c.codec : Int) * (c.ch : Int) = ((dataOffset c + w * c.bw : Nat) : Int) := by
    rw [i.frames, i.off, Int.mul_assoc]; simp [Cfg.bw]
  unfold close
  simp only [hde]
  have hpos : ((dataOffset c + w * c.bw : Nat) : Int) > 0 := by omega
  have hpar : ((((dataOffset c + w * c.bw : Nat) : Int) % 2 == 1)) = ((dataOffset c + w * c.bw) % 2 == 1) := by
    rw [Bool.eq_iff_iff, beq_iff_eq, beq_iff_eq]; omega
  simp only [hpos, if_true, Int.toNat_natCast, hpar]
  have himg : image c w pk D = hdrRaw c ((w * c.bw : Nat) : Int) pk ++ (D ++ tail c w) := by simp [image, hdr]
  rw [himg]
  unfold tail
  cases (dataOffset c + w * c.bw) % 2 == 1
  · simp only [Bool.false_eq_true, if_false, List.append_nil]
    exact writeHeader_bytes_dataend hb hl i.off rfl i.peaks i.pklen
  · have hw : writeAt s.bytes (dataOffset c + w * c.bw) [0] = h0 ++ (D ++ [0]) := by
      rw [← hlen, writeAt_end, hb, List.append_assoc]
    simp only [if_true]
    exact writeHeader_bytes_dataend hw hl i.off rfl i.peaks i.pklen

end Sf.Caf
