/-
  SfProofs.AbsWriteComplete — the converse of AbsWriteMeaning (up to the format word of a RAW file, which `infoOk_meaning`
  does not yield and `infoOk_complete` asks): answers that satisfy the mathematical statements ARE
  accepted, clause by clause (where AbsWriteMeaning has no equivalence already) and for a whole record (`accepted_iff`).  Together with the theorems of the concrete model
  (C01.file_roundtrip, C04.frames_bound / *_reopen_info, C07.file_bytes_partition_*, C11.snapshot_valid_*; linked in
  lean/SfProps/C0xAbsW.lean) this is "the write-side predicate never raises an alarm where the property holds".
  `cellsOf` is the encoding of the model's caller buffers (`List Int`) as the cell arrays the harness prints.
-/
import SfProofs.AbsWriteMeaning
namespace Sf.AbsWrite
open Sf Sf.Abs Sf.Geometry

theorem infoOk_complete (g : Geom) (i : Info) (h1 : i.ch = (g.ch : Int)) (h2 : i.fmt % 0x10000000 = g.word % 0x10000000) :
    infoOk g i = true := by
  unfold infoOk; simp [h1, h2]

theorem roundtripOk_complete (g : Geom) (ty : Ty) (cs : List Call) (rb : ReadBack)
    (h1 : (written g.ch cs).size ≤ rb.ret.toNat * cells ty)
    (h2 : rb.data.extract 0 (written g.ch cs).size = written g.ch cs) : roundtripOk g ty cs rb = true := by
  unfold roundtripOk
  simp only [Bool.or_eq_true, Bool.and_eq_true, decide_eq_true_eq]
  refine Or.inr ⟨h1, ?_⟩
  have hsz : (written g.ch cs).size ≤ rb.data.size := by
    have := congrArg Array.size h2
    simp at this; omega
  apply sliceEq_of_extract
  · omega
  · omega
  · simpa using h2

theorem roundtripOk_lossy (g : Geom) (ty : Ty) (cs : List Call) (rb : ReadBack)
    (h : (sameType ty cs && losslessFor g ty (written g.ch cs)) = false) : roundtripOk g ty cs rb = true := by
  unfold roundtripOk; simp [h]

theorem snapDataOk_complete (g : Geom) (ty : Ty) (Nk : Nat) (w : Array Item) (lossless : Bool) (final rb : ReadBack)
    (hf : snapItems g Nk rb * cells ty ≤ final.data.size) (hr : snapItems g Nk rb * cells ty ≤ rb.data.size)
    (hw : lossless = true → snapItems g Nk rb * cells ty ≤ w.size)
    (h1 : rb.data.extract 0 (snapItems g Nk rb * cells ty) = final.data.extract 0 (snapItems g Nk rb * cells ty))
    (h2 : lossless = true → rb.data.extract 0 (snapItems g Nk rb * cells ty) = w.extract 0 (snapItems g Nk rb * cells ty)) :
    snapDataOk g ty Nk w lossless final rb = true := by
  unfold snapDataOk
  simp only [Bool.and_eq_true, Bool.or_eq_true, Bool.not_eq_true']
  refine ⟨sliceEq_of_extract _ _ _ _ _ (by omega) (by omega) (by simpa using h1), ?_⟩
  cases lossless with
  | false => exact Or.inl rfl
  | true => exact Or.inr (sliceEq_of_extract _ _ _ _ _ (by omega) (by have := hw rfl; omega) (by simpa using h2 rfl))

theorem accepted_of (r : Record) (a : Accepted r) : accepted r = true := by
  simp [accepted, (judge_nil_iff r).2 a]

theorem accepted_iff (r : Record) : accepted r = true ↔ Accepted r := ⟨accepted_meaning r, accepted_of r⟩

/-- the cells the harness prints for one caller item: the 16- / 32-bit pattern of an integer, the bit pattern of a float,
    the two halves (high first) of a double's pattern -/
def cellOf (ty : Ty) (v : Int) : Array Item :=
  match ty with
  | .s16 => #[wrapU 16 v]
  | .s32 => #[wrapU 32 v]
  | .f32 => #[v.toNat]
  | .f64 => #[v.toNat / 2 ^ 32, v.toNat % 2 ^ 32]

def cellsOf (ty : Ty) : List Int → Array Item
  | [] => #[]
  | v :: vs => cellOf ty v ++ cellsOf ty vs

theorem cellOf_size (ty : Ty) (v : Int) : (cellOf ty v).size = cells ty := by
  cases ty <;> rfl

theorem cellsOf_size (ty : Ty) : ∀ vs : List Int, (cellsOf ty vs).size = vs.length * cells ty
  | [] => by simp [cellsOf]
  | v :: vs => by simp [cellsOf, cellOf_size, cellsOf_size ty vs, Nat.add_mul]; omega

end Sf.AbsWrite
