/-
  SfProofs.FloatRne — round-half-even on naturals (`rneShr`, `rneScale`): integer facts (core Lean only).
-/
import SfModel.Float
namespace Sf.Float

theorem rneShr_cases (m k : Nat) :
    (rneShr m k = m / 2 ^ k ∧ (2 * (m % 2 ^ k) < 2 ^ k ∨ (2 * (m % 2 ^ k) = 2 ^ k ∧ (m / 2 ^ k) % 2 = 0))) ∨
    (rneShr m k = m / 2 ^ k + 1 ∧ (2 * (m % 2 ^ k) > 2 ^ k ∨ (2 * (m % 2 ^ k) = 2 ^ k ∧ (m / 2 ^ k) % 2 = 1))) := by
  unfold rneShr
  simp only
  split <;> omega

theorem rneShr_bound (m k : Nat) :
    2 * (rneShr m k * 2 ^ k) ≤ 2 * m + 2 ^ k ∧ 2 * m ≤ 2 * (rneShr m k * 2 ^ k) + 2 ^ k := by
  have hd := Nat.two_pow_pos k
  have hm := Nat.div_add_mod m (2 ^ k)
  have hr := Nat.mod_lt m hd
  rw [Nat.mul_comm] at hm
  rcases rneShr_cases m k with ⟨h, hc⟩ | ⟨h, hc⟩ <;> rw [h] <;> clear h
  · generalize 2 ^ k = d at *
    generalize m / d = q at *
    generalize m % d = r at *
    omega
  · generalize 2 ^ k = d at *
    generalize m / d = q at *
    generalize m % d = r at *
    have e : (q + 1) * d = q * d + d := by rw [Nat.add_mul, Nat.one_mul]
    omega

theorem rneShr_tie_even (m k : Nat)
    (h : 2 * (rneShr m k * 2 ^ k) = 2 * m + 2 ^ k ∨ 2 * m = 2 * (rneShr m k * 2 ^ k) + 2 ^ k) :
    rneShr m k % 2 = 0 := by
  have hd := Nat.two_pow_pos k
  have hm := Nat.div_add_mod m (2 ^ k)
  have hr := Nat.mod_lt m hd
  rw [Nat.mul_comm] at hm
  rcases rneShr_cases m k with ⟨h', hc⟩ | ⟨h', hc⟩ <;> rw [h'] at h ⊢ <;> clear h'
  · generalize 2 ^ k = d at *
    generalize m / d = q at *
    generalize m % d = r at *
    omega
  · generalize 2 ^ k = d at *
    generalize m / d = q at *
    generalize m % d = r at *
    have e : (q + 1) * d = q * d + d := by rw [Nat.add_mul, Nat.one_mul]
    omega

theorem rneShr_half_ulp (m k : Nat) :
    2 * ((rneShr m k : Int) * 2 ^ k - m).natAbs ≤ 2 ^ k := by
  have := rneShr_bound m k
  have e : ((rneShr m k : Int) * 2 ^ k) = ((rneShr m k * 2 ^ k : Nat) : Int) := by simp
  rw [e]; omega

theorem rneShr_exact (a k : Nat) : rneShr (a * 2 ^ k) k = a := by
  have hd := Nat.two_pow_pos k
  unfold rneShr
  simp only [Nat.mul_div_cancel _ hd, Nat.mul_mod_left]
  split <;> omega

theorem rneShr_zero (m : Nat) : rneShr m 0 = m := by
  have := rneShr_exact m 0; simpa using this

end Sf.Float
