/-
  `pack_bytes` / `unpack_bytes` of src/G72x/g72x.c as arithmetic: the packer writes the little-endian bytes of the
  number whose base-2^bits digits are the codes, the unpacker reads the base-2^bits digits of the number whose
  little-endian bytes it is given (`pack_value`, `unpack_value`); the round trip `unpack (pack codes) = codes` for whole
  blocks follows from the two in SfProps/C05G72x.lean (`g72x_pack_unpack`).
-/
import Mathlib.Tactic.Ring
import SfModel.G72x
namespace Sf.G72x.Proofs
open Sf Sf.G72x

/-- the number with base-2^bits digits `cs` (least significant first) -/
def valC (bits : Nat) : List Nat → Nat
  | [] => 0
  | c :: cs => c + 2 ^ bits * valC bits cs

/-- the `k` least significant base-2^bits digits of `x` -/
def digitsC (bits : Nat) : Nat → Nat → List Nat
  | 0, _ => []
  | k + 1, x => (x % 2 ^ bits) :: digitsC bits k (x / 2 ^ bits)

theorem digits_valC (bits : Nat) : ∀ (cs : List Nat), (∀ c ∈ cs, c < 2 ^ bits) → digitsC bits cs.length (valC bits cs) = cs := by
  intro cs
  induction cs with
  | nil => intro _; rfl
  | cons c cs ih =>
    intro h
    have hc : c < 2 ^ bits := h c (by simp)
    have hp : 0 < 2 ^ bits := Nat.two_pow_pos bits
    simp only [List.length_cons, digitsC, valC]
    rw [Nat.add_mul_mod_self_left, Nat.mod_eq_of_lt hc, Nat.add_mul_div_left _ _ hp, Nat.div_eq_of_lt hc, Nat.zero_add,
      ih (fun d hd => h d (by simp [hd]))]

theorem or_shift (buf c nb : Nat) (h : buf < 2 ^ nb) : buf ||| (c <<< nb) = buf + c * 2 ^ nb := by
  rw [Nat.or_comm, ← Nat.shiftLeft_add_eq_or_of_lt h, Nat.shiftLeft_eq, Nat.add_comm]

theorem add_shift_lt {buf c nb w : Nat} (h : buf < 2 ^ nb) (hc : c < 2 ^ w) : buf + c * 2 ^ nb < 2 ^ (nb + w) := by
  have : (c + 1) * 2 ^ nb ≤ 2 ^ w * 2 ^ nb := Nat.mul_le_mul_right _ hc
  rw [Nat.pow_add, Nat.mul_comm (2 ^ nb)]
  rw [Nat.add_mul, Nat.one_mul] at this
  omega

theorem div_pow_lt {x n a : Nat} (h : x < 2 ^ n) (ha : a ≤ n) : x / 2 ^ a < 2 ^ (n - a) := by
  apply Nat.div_lt_of_lt_mul
  rw [← Nat.pow_add, Nat.add_sub_cancel' ha]
  exact h

/-- what the packer still holds after the codes `cs` -/
def packEnd (bits : Nat) (buf nb : Nat) : List Nat → Nat × Nat
  | [] => (buf, nb)
  | c :: cs =>
    let buf1 := buf ||| (c <<< nb)
    let nb1 := nb + bits
    if nb1 ≥ 8 then packEnd bits (buf1 >>> 8) (nb1 - 8) cs else packEnd bits buf1 nb1 cs

/-- the packer as arithmetic: bytes out (little endian) + what is still pending = pending before + the codes' number -/
theorem pack_value (bits : Nat) (hb : bits ≤ 8) : ∀ (cs : List Nat) (buf nb : Nat), buf < 2 ^ nb → nb < 8 → (∀ c ∈ cs, c < 2 ^ bits) →
    ofLE (packLoop bits buf nb cs) + 256 ^ (packLoop bits buf nb cs).length * (packEnd bits buf nb cs).1 = buf + 2 ^ nb * valC bits cs ∧
    (packEnd bits buf nb cs).1 < 2 ^ (packEnd bits buf nb cs).2 ∧ (packEnd bits buf nb cs).2 = (nb + bits * cs.length) % 8 := by
  intro cs
  induction cs with
  | nil =>
    intro buf nb h h8 _
    simp only [packLoop, packEnd, ofLE, valC, List.length_nil]
    refine ⟨by omega, h, by omega⟩
  | cons c cs ih =>
    intro buf nb h h8 hc
    have hc0 : c < 2 ^ bits := hc c (by simp)
    have hcs : ∀ d ∈ cs, d < 2 ^ bits := fun d hd => hc d (by simp [hd])
    have hbuf1 : buf + c * 2 ^ nb < 2 ^ (nb + bits) := add_shift_lt h hc0
    simp only [packLoop, packEnd, List.length_cons, valC]
    rw [or_shift buf c nb h]
    by_cases h88 : nb + bits ≥ 8
    · rw [if_pos h88, if_pos h88, Nat.shiftRight_eq_div_pow]
      have hdiv : (buf + c * 2 ^ nb) / 2 ^ 8 < 2 ^ (nb + bits - 8) := div_pow_lt hbuf1 h88
      obtain ⟨i1, i2, i3⟩ := ih ((buf + c * 2 ^ nb) / 2 ^ 8) (nb + bits - 8) hdiv (by omega) hcs
      refine ⟨?_, i2, by rw [i3, Nat.mul_succ]; omega⟩
      simp only [ofLE, List.length_cons]
      -- a byte goes out: split the pending number into its low byte (the head of the output) and the rest (pending next)
      have hsplit : buf + c * 2 ^ nb = (buf + c * 2 ^ nb) % 256 + 256 * ((buf + c * 2 ^ nb) / 2 ^ 8) := by
        have : (2 : Nat) ^ 8 = 256 := by decide
        rw [this]; exact (Nat.mod_add_div _ _).symm
      have hpow : (2 : Nat) ^ (nb + bits) = 256 * 2 ^ (nb + bits - 8) := by
        have : nb + bits = 8 + (nb + bits - 8) := by omega
        conv => lhs; rw [this, Nat.pow_add]
      generalize packLoop bits ((buf + c * 2 ^ nb) / 2 ^ 8) (nb + bits - 8) cs = out at i1 ⊢
      generalize (packEnd bits ((buf + c * 2 ^ nb) / 2 ^ 8) (nb + bits - 8) cs).1 = pend at i1 ⊢
      have e : ((buf + c * 2 ^ nb) % 256 + 256 * ofLE out) + 256 ^ (out.length + 1) * pend =
          (buf + c * 2 ^ nb) % 256 + 256 * (ofLE out + 256 ^ out.length * pend) := by ring
      rw [e, i1]
      have e2 : buf + 2 ^ nb * (c + 2 ^ bits * valC bits cs) = (buf + c * 2 ^ nb) + 2 ^ (nb + bits) * valC bits cs := by
        rw [Nat.pow_add]; ring
      rw [e2, hpow]
      conv => rhs; rw [hsplit]
      ring
    · rw [if_neg h88, if_neg h88]
      obtain ⟨i1, i2, i3⟩ := ih (buf + c * 2 ^ nb) (nb + bits) hbuf1 (by omega) hcs
      refine ⟨?_, i2, by rw [i3, Nat.mul_succ]; omega⟩
      rw [i1, Nat.pow_add]; ring

theorem packLoop_bytes (bits : Nat) : ∀ (cs : List Nat) (buf nb : Nat), ∀ b ∈ packLoop bits buf nb cs, b < 256 := by
  intro cs
  induction cs with
  | nil => intro buf nb b hb; simp [packLoop] at hb
  | cons c cs ih =>
    intro buf nb b hb
    simp only [packLoop] at hb
    split at hb
    · rcases List.mem_cons.mp hb with h | h
      · rw [h]; exact Nat.mod_lt _ (by decide)
      · exact ih _ _ b h
    · exact ih _ _ b hb

/-- the unpacker as arithmetic: it reads the base-2^bits digits of pending + 2^nb · (the bytes' number) -/
theorem unpack_value (bits : Nat) (hb : bits ≤ 8) : ∀ (k buf nb : Nat) (bs : List Nat), buf < 2 ^ nb →
    (∀ b ∈ bs, b < 256) → bits * k ≤ nb + 8 * bs.length →
    unpackLoop bits k buf nb bs = digitsC bits k (buf + 2 ^ nb * ofLE bs) := by
  intro k
  induction k with
  | zero => intro buf nb bs _ _ _; rfl
  | succ k ih =>
    intro buf nb bs h hbs hlen
    have hp : 0 < 2 ^ bits := Nat.two_pow_pos bits
    simp only [unpackLoop, digitsC]
    by_cases hlt : nb < bits
    · rw [if_pos hlt]
      simp only
      match bs, hbs, hlen with
      | [], _, hlen => simp at hlen; rw [Nat.mul_succ] at hlen; omega
      | b0 :: bs', hbs, hlen =>
        have hb0 : @LT.lt Nat _ b0 256 := hbs b0 (by simp)
        have hbs' : ∀ b ∈ bs', b < 256 := fun b hb => hbs b (by simp [hb])
        simp only [List.headD_cons, List.tail_cons, ofLE, List.length_cons] at hlen ⊢
        rw [or_shift buf b0 nb h]
        -- a byte comes in: pull `2 ^ bits` out of everything above the pending number, so that `%` and `/` by it read the
        -- next digit off the pending number alone
        have hx : buf + 2 ^ nb * (b0 + 256 * ofLE bs') = (buf + b0 * 2 ^ nb) + 2 ^ bits * (2 ^ (nb + 8 - bits) * ofLE bs') := by
          have : (2 : Nat) ^ bits * 2 ^ (nb + 8 - bits) = 2 ^ nb * 256 := by
            rw [← Nat.pow_add, show bits + (nb + 8 - bits) = nb + 8 by omega, Nat.pow_add]
          calc buf + 2 ^ nb * (b0 + 256 * ofLE bs') = (buf + b0 * 2 ^ nb) + (2 ^ nb * 256) * ofLE bs' := by ring
            _ = (buf + b0 * 2 ^ nb) + (2 ^ bits * 2 ^ (nb + 8 - bits)) * ofLE bs' := by rw [this]
            _ = _ := by ring
        rw [hx, Nat.add_mul_mod_self_left, Nat.add_mul_div_left _ _ hp]
        congr 1
        have hdiv : (buf + b0 * 2 ^ nb) / 2 ^ bits < 2 ^ (nb + 8 - bits) := div_pow_lt (add_shift_lt h hb0) (by omega)
        rw [Nat.shiftRight_eq_div_pow]
        exact ih _ _ bs' hdiv hbs' (by rw [Nat.mul_succ] at hlen; omega)
    · rw [if_neg hlt]
      simp only
      have hx : buf + 2 ^ nb * ofLE bs = buf + 2 ^ bits * (2 ^ (nb - bits) * ofLE bs) := by
        rw [← Nat.mul_assoc, ← Nat.pow_add, show bits + (nb - bits) = nb by omega]
      rw [hx, Nat.add_mul_mod_self_left, Nat.add_mul_div_left _ _ hp]
      congr 1
      have hdiv : buf / 2 ^ bits < 2 ^ (nb - bits) := div_pow_lt h (by omega)
      rw [Nat.shiftRight_eq_div_pow]
      exact ih _ _ bs hdiv hbs (by rw [Nat.mul_succ] at hlen; omega)

end Sf.G72x.Proofs
