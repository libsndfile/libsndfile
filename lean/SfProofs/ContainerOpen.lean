/-
  The configuration an open call fixes (`openCfg`, `openCfg_facts`); opening for write establishes the session invariant
  (`open_ok`), every valid session keeps it (`session_inv`), closing produces header ++ data (++ pad) (`close_bytes`) (C04, C11).
-/
import SfProofs.CodecClose
import SfProofs.ContainerWrite
namespace Sf

/-- the configuration `openHandle … .w fmt ch sr` fixes, when it accepts the request -/
def openCfg (fmt : Nat) (ch : Int) (sr : Int) : Option Cfg :=
  match containerOf fmt with
  | none => none
  | some c =>
    match encOf c (codecOf fmt) (dataBig c fmt) with
    | none => none
    | some enc => some { container := c, enc := enc, big := dataBig c fmt, ch := ch.toNat, sr := sr, fmtWord := fmt }

theorem CfgOf.toOpenCfg {fmt : Nat} {ch sr : Int} {h : H} (c : CfgOf fmt ch sr h) :
    openCfg fmt ch sr = some ⟨h.container, h.enc, h.big, h.ch, h.sr, h.fmtWord⟩ := by
  simp only [openCfg, c.cont, ← c.big, c.enc]
  rw [c.hch, c.hsr, c.fmtWord]

/-- the session state right after open -/
def Cfg.init (c : Cfg) : Abs :=
  { frames := 0, data := [], peak := if c.hasPeak then some (mkPeaks c.ch) else none, auto := false }

theorem openCfg_facts {fmt : Nat} {ch sr : Int} {c : Cfg} (h : openCfg fmt ch sr = some c) :
    containerOf fmt = some c.container ∧ c.fmtWord = fmt ∧ c.sr = sr ∧ c.ch = ch.toNat ∧
    c.big = dataBig c.container fmt ∧ encOf c.container (codecOf fmt) c.big = some c.enc := by
  unfold openCfg at h
  split at h
  · cases h
  · rename_i cont hc
    split at h
    · cases h
    · rename_i enc he
      cases h
      exact ⟨hc, rfl, rfl, rfl, rfl, he⟩

theorem openCfg_ch {fmt : Nat} {ch sr : Int} {c : Cfg} (h : openCfg fmt ch sr = some c) : c.ch = ch.toNat :=
  (openCfg_facts h).2.2.2.1

theorem openCfg_container {fmt : Nat} {ch sr : Int} {c : Cfg} {k : Container} (h : openCfg fmt ch sr = some c)
    (hk : containerOf fmt = some k) : c.container = k :=
  (Option.some.inj ((openCfg_facts h).1.symm.trans hk))

theorem containerOf_code {fmt : Nat} {k : Container} (h : containerOf fmt = some k) :
    fmt / 0x10000 % 0x1000 = k.code / 0x10000 := by
  unfold containerOf at h
  split at h <;> cases h <;> assumption

theorem open_ok {ix fmt : Nat} {ch sr : Int} {h : H} {s : Store} (ho : openHandle ix {} .w fmt ch sr = .ok h s) :
    ∃ c, openCfg fmt ch sr = some c ∧ 1 ≤ ch ∧ ch ≤ 1024 ∧ 1 ≤ sr ∧ Inv c c.init h s := by
  obtain ⟨W, hw0⟩ := open_winv ix {} rfl fmt ch sr h s ho
  have o := open_props ix {} fmt ch sr h s ho
  refine ⟨⟨h.container, h.enc, h.big, h.ch, h.sr, h.fmtWord⟩, o.toOpenCfg, o.chr.1, o.chr.2, o.srr, ?_⟩
  have hhp : (⟨h.container, h.enc, h.big, h.ch, h.sr, h.fmtWord⟩ : Cfg).hasPeak =
      decide (h.container = .wav ∧ h.enc.isFloatData = true) := by
    cases h.container <;> simp [Cfg.hasPeak]
  refine Match.toInv ⟨rfl, rfl, rfl, rfl, rfl, rfl, W.frames.trans hw0, o.auto, o.conv, ?_, o.pas, ?_, ?_⟩ W
  · rw [o.peak]; simp only [Cfg.init, hhp, decide_eq_true_eq]
  · simp only [Cfg.init]; split <;> simp_all
  · simp only [Cfg.init]; intro ps; split
    · intro e; cases e; simp [mkPeaks]
    · intro e; cases e

/-- the pad byte `wav_write_tailer` appends after an odd-length data chunk -/
def wavPad_ct (c : Cfg) (a : Abs) : List Byte := if (c.hdrLen + a.data.length) % 2 = 1 then [0] else []

/-- the bytes of the closed file -/
def closedImage (c : Cfg) (a : Abs) : List Byte :=
  match c.container with
  | .wav =>
    hdrBytes c a ((c.hdrLen + a.data.length + (wavPad_ct c a).length : Nat) : Int) (a.data.length : Int) ++ a.data ++ wavPad_ct c a
  | _ => snapImage c a

theorem close_bytes {c : Cfg} {a : Abs} {h : H} {s : Store} (i : Inv c a h s) :
    (closeHandle h s).bytes = closedImage c a := by
  obtain ⟨hdr, w⟩ := i.toWInv
  have hT := wavTail_atStart h fun _ _ => i.pas
  have hP : wavPad h a.data = wavPad_ct c a := by
    unfold wavPad wavPad_ct; rw [i.hdrLenOf]
    by_cases hp : (c.hdrLen + a.data.length) % 2 = 1 <;> simp [hp] <;> omega
  rw [close_spec h s hdr a.data w]
  unfold closeForm closedImage snapImage hdrBytes
  rw [i.cont]
  cases c.container
  · rfl
  · simp only [auHdr, auHdr_ct, i.big, i.fmt, i.sr, i.ch]
  · simp only [hT, List.append_nil, hP, wavHdr_eq_ct, i.hdrLenOf, i.big, i.fmt, i.sr, i.ch, i.enc, i.frames, i.peak, i.pas,
      List.append_assoc]

theorem init_run_frames (c : Cfg) (ops : List SOp) : (c.init.run c ops).frames = sessFrames c.ch ops := by
  rw [run_frames]; exact Nat.zero_add _

theorem init_run_data (c : Cfg) (ops : List SOp) : (c.init.run c ops).data = sessData c ops := by
  rw [run_data]; rfl

theorem session_inv {ix fmt : Nat} {ch sr : Int} {h0 : H} {s0 : Store} (ops : List SOp)
    (ho : openHandle ix {} .w fmt ch sr = .ok h0 s0) (hv : ∀ op ∈ ops, op.valid ch.toNat) :
    ∃ c, openCfg fmt ch sr = some c ∧ 1 ≤ ch ∧ ch ≤ 1024 ∧ 1 ≤ sr ∧
      Inv c (c.init.run c ops) (runS (h0, s0) ops).1 (runS (h0, s0) ops).2 := by
  obtain ⟨c, hcfg, h1, h2, h3, i⟩ := open_ok ho
  exact ⟨c, hcfg, h1, h2, h3, runS_inv ops i (by rw [openCfg_ch hcfg]; exact hv)⟩

end Sf
