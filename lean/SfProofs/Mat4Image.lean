/-
  SfProofs.Mat4Image — the binary64 sample rate of MAT4 / MAT5 (`natOfF64 (f64OfNat n) = n`) and `Sf.Mat4.parse` on
  the images the MAT4 writer leaves in the store.
-/
import SfModel.Mat4
import SfProofs.Small2Session
namespace Sf.Mat4
open Sf Sf.Small2

/-- the fraction field of a number with leading bit `e ≤ 52` -/
theorem frac_lt (e : Nat) (he : e ≤ 52) (n : Nat) (h2 : n < 2 ^ (e + 1)) : (n - 2 ^ e) * 2 ^ (52 - e) < 2 ^ 52 := by
  have hpow : 2 ^ e * 2 ^ (52 - e) = 2 ^ 52 := by rw [← Nat.pow_add]; congr 1; omega
  have hf : n - 2 ^ e < 2 ^ e := by rw [Nat.pow_succ] at h2; omega
  rw [← hpow]; exact Nat.mul_lt_mul_of_lt_of_le hf (Nat.le_refl _) (Nat.pow_pos (by decide))

/-- sign bit clear: the bit pattern of a number with leading bit `e ≤ 30` is below 2^63 -/
theorem bits_lt (e : Nat) (he : e ≤ 30) (n : Nat) (h2 : n < 2 ^ (e + 1)) : (1023 + e) * 2 ^ 52 + (n - 2 ^ e) * 2 ^ (52 - e) < 2 ^ 63 := by
  have hr := frac_lt e (by omega) n h2
  have : (1023 + e) * 2 ^ 52 ≤ 1053 * 2 ^ 52 := Nat.mul_le_mul_right _ (by omega)
  have e63 : (2:Nat) ^ 63 = 2048 * 2 ^ 52 := by decide
  omega

theorem log2_le_30 (n : Nat) (h2 : n < 2 ^ 31) : Nat.log2 n ≤ 30 := by
  rcases Nat.eq_zero_or_pos n with rfl | hn
  · decide
  · have : Nat.log2 n < 31 := (Nat.log2_lt (by omega)).mpr h2
    omega

theorem rt_aux (e : Nat) (he : e ≤ 30) (n : Nat) (h1 : 2 ^ e ≤ n) (h2 : n < 2 ^ (e + 1)) :
    natOfF64 ((1023 + e) * 2 ^ 52 + (n - 2 ^ e) * 2 ^ (52 - e)) = some n := by
  have hr := frac_lt e (by omega) n h2
  have hp52 : 0 < 2 ^ 52 := Nat.pow_pos (by decide)
  have hdiv : ((1023 + e) * 2 ^ 52 + (n - 2 ^ e) * 2 ^ (52 - e)) / 2 ^ 52 = 1023 + e := by
    rw [Nat.add_comm, Nat.add_mul_div_right _ _ hp52, Nat.div_eq_of_lt hr, Nat.zero_add]
  have hmod : ((1023 + e) * 2 ^ 52 + (n - 2 ^ e) * 2 ^ (52 - e)) % 2 ^ 52 = (n - 2 ^ e) * 2 ^ (52 - e) := by
    rw [Nat.add_comm, Nat.add_mul_mod_self_right, Nat.mod_eq_of_lt hr]
  have hb : (1023 + e) * 2 ^ 52 + (n - 2 ^ e) * 2 ^ (52 - e) ≠ 0 := by
    have : 0 < (1023 + e) * 2 ^ 52 := Nat.mul_pos (by omega) hp52
    omega
  have hs : ((1023 + e) * 2 ^ 52 + (n - 2 ^ e) * 2 ^ (52 - e)) / 2 ^ 63 = 0 := Nat.div_eq_of_lt (bits_lt e he n h2)
  unfold natOfF64
  rw [if_neg hb]
  simp only [hdiv, hmod, hs]
  have hE : (1023 + e) % 2048 = 1023 + e := Nat.mod_eq_of_lt (by omega)
  have hsub : 1023 + e - 1023 = e := by omega
  rw [hE, hsub, Nat.mul_mod_left, Nat.mul_div_cancel _ (Nat.pow_pos (by decide))]
  have : 2 ^ e + (n - 2 ^ e) = n := by omega
  rw [this, if_pos ⟨trivial, by omega, by omega, rfl⟩]

theorem natOfF64_f64OfNat (n : Nat) (h1 : 1 ≤ n) (h2 : n < 2 ^ 31) : natOfF64 (f64OfNat n) = some n := by
  have hn : n ≠ 0 := by omega
  unfold f64OfNat
  rw [if_neg hn]
  exact rt_aux _ (log2_le_30 n h2) n (Nat.log2_self_le hn) Nat.lt_log2_self

theorem f64OfNat_lt (n : Nat) (h2 : n < 2 ^ 31) : f64OfNat n < 2 ^ 64 := by
  unfold f64OfNat
  split
  · decide
  · exact Nat.lt_trans (bits_lt _ (log2_le_30 n h2) n Nat.lt_log2_self) (by decide)

theorem w32_length (l : Bool) (v : Int) : (w32 l v).length = 4 := by cases l <;> simp [w32]
theorem w64_length (l : Bool) (v : Nat) : (w64 l v).length = 8 := by cases l <;> simp [w64, leBytes_length, beBytes_length]
theorem typeWord_length (l : Bool) (k : Nat) : (typeWord l k).length = 4 := by cases l <;> simp [typeWord]

theorem r32_w32 (l : Bool) (v : Int) : r32 l (w32 l v) = wrapU 32 v := by
  cases l <;> simp [r32, w32, ofLE_le32, ofBE_be32]

theorem r32_w64 (l : Bool) (v : Nat) (h : v < 2 ^ 64) : r32 l (w64 l v) = v := by
  have e : (256 : Nat) ^ 8 = 2 ^ 64 := by decide
  cases l <;> simp only [r32, w64, ofLE_leBytes, ofBE_beBytes, e, if_true, if_false, Bool.false_eq_true] <;> exact Nat.mod_eq_of_lt h

theorem typeWord0 (l : Bool) : typeWord l 0 = if l then [0, 0, 0, 0] else [0, 0, 0x03, 0xE8] := by cases l <;> decide

theorem codecOf_typeWord (l : Bool) (codec : Nat) (hc : codec = 2 ∨ codec = 4 ∨ codec = 6 ∨ codec = 7) :
    codecOf (typeWord l (typeIdx codec)) = some (codec, bytewidth codec) := by
  rcases hc with h | h | h | h <;> subst h <;> cases l <;> decide

theorem lawful (c : Cfg) : Lawful (fmt c) where
  hlen := by intro f; simp [fmt, hdr, w32_length, w64_length, typeWord_length, srName, wdName]
  hindep := by intro n f g; rfl

theorem guess_image (c : Cfg) (f : Fields) (data : List Byte) : guess (hdr c f ++ data) = some (.fmt 0x0C0000) := by
  have a1 : le32 1 = [1, 0, 0, 0] := by decide
  have a2 : be32 1 = [0, 0, 0, 1] := by decide
  unfold hdr
  cases c.little
  · simp only [typeWord0, w32, Bool.false_eq_true, if_false, a2, List.append_assoc]; rfl
  · simp only [typeWord0, w32, if_true, a1, List.append_assoc]; rfl

/-- mat4_read_header on `header ++ data` when the header's frame count matches the audio that follows -/
theorem parse_image (c : Cfg) (hwf : c.wf) (F : Nat) (f : Fields) (hf : f.frames = (F : Nat)) (hF : F < 2 ^ 31) (data : List Byte)
    (hd : data.length = F * c.bw) :
    parse (hdr c f ++ data) = .ok { ch := c.ch, fmt := c.fmtWord, sr := c.sr, frames := F } := by
  obtain ⟨hc, _, hch1, hch2, hsr1, hsr2⟩ := hwf
  have h68 : (hdr c f).length = 68 := (lawful c).hlen f
  have hlen : (hdr c f ++ data).length = 68 + data.length := by rw [List.length_append, h68]
  have hbwpos : 0 < bytewidth c.codec := by unfold bytewidth; split <;> (try split) <;> omega
  have hbw : 0 < c.bw := Nat.mul_pos hbwpos hch1
  unfold parse
  rw [if_neg (by omega), guess_image]
  simp only []
  unfold readHeader
  rw [hlen, if_neg (by omega)]
  simp only [hdr, List.append_assoc]
  simp only [cut_append _ _ 4 (typeWord_length _ _), cut_append _ _ 4 (w32_length _ _)]
  have hm1 : ¬ (typeWord c.little 0 ≠ [0, 0, 0x03, 0xE8] ∧ typeWord c.little 0 ≠ [0, 0, 0, 0]) := by
    rw [typeWord0]; cases c.little <;> simp
  have hlit : decide (typeWord c.little 0 = [0, 0, 0, 0]) = c.little := by rw [typeWord0]; cases c.little <;> simp
  rw [if_neg hm1, hlit]
  have w11 : wrapU 32 11 = 11 := by decide
  have w9 : wrapU 32 9 = 9 := by decide
  have w1 : wrapU 32 1 = 1 := by decide
  simp only [r32_w32, w11, w1]
  rw [if_neg (by decide), if_neg (by omega)]
  simp only [cut_append srName _ 11 rfl, cut_append _ _ 8 (w64_length _ _), cut_append _ _ 4 (typeWord_length _ _), cut_append _ _ 4 (w32_length _ _),
    r32_w32, w9]
  rw [if_neg (by decide), if_neg (by decide), if_neg (by omega)]
  rw [r32_w64 _ _ (f64OfNat_lt c.sr (by omega)), natOfF64_f64OfNat c.sr hsr1 (by omega), codecOf_typeWord _ _ hc]
  have hchw : wrapU 32 ((c.ch : Nat) : Int) = c.ch := wrapU_of_lt 32 _ (by omega)
  have hfrw : wrapU 32 f.frames = F := by rw [hf]; exact wrapU_of_lt 32 _ (by omega)
  rw [hchw, hfrw, sext_of_lt 32 c.ch (by omega), sext_of_lt 32 F hF]
  simp only []
  have g1 : ¬ (((c.ch : Nat) : Int) = 0 ∨ ((c.ch : Nat) : Int) > 1024) := by omega
  rw [if_neg g1]
  -- the file holds exactly rows * cols * bytewidth bytes of audio: dataend stays 0
  have hroom : ((68 + data.length : Nat) : Int) - ((20 + 11 + 8 + 20 + 9 : Nat) : Int) = ((data.length : Nat) : Int) := by push_cast; omega
  have hneed : ((c.ch : Nat) : Int) * ((F : Nat) : Int) * ((bytewidth c.codec : Nat) : Int) = ((data.length : Nat) : Int) := by
    rw [hd]; unfold Cfg.bw; push_cast; rw [Int.mul_comm ((c.ch : Nat) : Int), Int.mul_assoc, Int.mul_comm ((c.ch : Nat) : Int)]
  rw [hroom, hneed, if_neg (by omega)]
  have hde : ¬ (((data.length : Nat) : Int) > ((data.length : Nat) : Int)) := by omega
  rw [if_neg hde]
  have hfr := framesOf_nat 68 data.length c.bw hbw
  have hbwi : ((bytewidth c.codec : Nat) : Int) * ((c.ch : Nat) : Int) = ((c.bw : Nat) : Int) := by unfold Cfg.bw; push_cast; rfl
  rw [hbwi, show ((20 + 11 + 8 + 20 + 9 : Nat) : Int) = ((68 : Nat) : Int) from rfl, hfr, hd, Nat.mul_div_cancel _ hbw]
  simp [Cfg.fmtWord]

end Sf.Mat4
