/-
  SfProofs.HandleGRefine — the RAW / AU / WAV instances of the generic handle machine reproduce `Sf.Handle`:
  `rawSpec`, `auSpec`, `wavSpec` (SfModel/HandleGInst.lean, built from the header writers through `Spec.toCont`) give the very
  `writeHeader`, `closeHandle`, `stepWrite`, `stepCmdFlag` of SfModel/Handle.lean and the `stepAny`, `runOps` over them
  (SfProofs/HandlePres.lean) on every handle that carries the container's tag; `specLaws` (a container described by a `Spec`
  satisfies `ContLaws` as soon as its `calc_length` block touches only the four length fields and the offset it stores after
  the header is not negative) and the law records of the instances of SfModel/HandleGInst.lean (those of the second
  group: SfProofs/HandleGInv2.lean).
-/
import SfProofs.HandlePres
import SfModel.HandleGInst
namespace Sf.HandleG
open Sf

/-- the instance of a container of `Sf.Handle` -/
def classic : Container → Spec
  | .raw => rawSpec | .au => auSpec | .wav => wavSpec

theorem classic_tag (k : Container) : (classic k).tag = k := by cases k <;> rfl
theorem classic_hasHeader (k : Container) : (classic k).hasHeader = (k != .raw) := by cases k <;> rfl

theorem classic_writeHeader (k : Container) (h : H) (s : Store) (b : Bool) (hc : h.container = k) :
    (classic k).writeHeader h s b = Sf.writeHeader h s b := by
  cases k
  · simp [Spec.writeHeader, classic, rawSpec, Sf.writeHeader, hc]
  · cases b <;> simp [Spec.writeHeader, classic, auSpec, Sf.writeHeader, hc, restoreCur, calcStd]
  · cases b <;> simp [Spec.writeHeader, classic, wavSpec, Sf.writeHeader, hc, restoreHasData, wavCalc]

theorem writeHeader_container (h : H) (s : Store) (b : Bool) : (Sf.writeHeader h s b).1.container = h.container := by
  obtain ⟨fl, dl, off, e, _⟩ := writeHeader_fst h s b
  rw [e]

/-- a guarded header rewrite at the instance = the guarded header rewrite of `hCont` -/
theorem cond_wh (k : Container) (p : Prop) [Decidable p] (h : H) (s : Store) (b : Bool) (hc : h.container = k) :
    (if p ∧ (classic k).toCont.hasHeader then (classic k).toCont.writeHeader h s b else (h, s)) =
    (if p ∧ hCont.hasHeader then hCont.writeHeader h s b else (h, s)) := by
  subst hc
  rw [← guard_raw]
  simp only [Spec.toCont, classic_hasHeader]
  split
  · exact classic_writeHeader _ _ _ _ rfl
  · rfl

theorem wavCloseTail_container (h : H) (s : Store) : (wavCloseTail h s).1.container = h.container := by
  have e : (wavTailer h s).1.container = h.container := by
    unfold wavTailer
    dsimp only
    split <;> rfl
  unfold wavCloseTail
  generalize wavTailer h s = q at e
  obtain ⟨h', s'⟩ := q
  dsimp only at e ⊢
  split
  · split
    · exact e
    · exact e
  · exact e

theorem classic_closeStore (k : Container) (h : H) (s : Store) (hc : h.container = k) :
    (classic k).closeStore h s = Sf.closeHandle h s := by
  subst hc
  by_cases hm : h.mode = .r
  · simp [Spec.closeStore, Sf.closeHandle, hm]
  cases hk : h.container
  · simp [Spec.closeStore, classic, rawSpec, Sf.closeHandle, hk, hm]
  · have e := classic_writeHeader .au h s true hk
    simp only [Spec.closeStore, Sf.closeHandle, classic, hk, beq_iff_eq, hm, if_false] at e ⊢
    rw [← e]
    simp [auSpec]
  · have e : Sf.closeHandle h s = (Sf.writeHeader (wavCloseTail h s).1 (wavCloseTail h s).2 true).2 := by
      unfold Sf.closeHandle wavCloseTail
      simp only [beq_iff_eq, hm, if_false, hk]
    rw [e, ← classic_writeHeader .wav _ _ true (by rw [wavCloseTail_container, hk])]
    simp only [Spec.closeStore, classic, beq_iff_eq, hm, if_false]
    rfl

theorem wAll_classic (k : Container) (h : H) (s : Store) (ty : Ty) (len : Int) (data : List Int) (hc : h.container = k) :
    wAll (classic k).toCont h s ty len data = wAll hCont h s ty len data := by
  have e0 : wPre (classic k).toCont h s = wPre hCont h s := cond_wh k _ { h with error := 0 } _ false hc
  obtain ⟨_, _, _, _, e1, _⟩ := wPre_fields hContLaws h s
  obtain ⟨_, _, e2⟩ := wBody_fields (wPre hCont h s) ty len data
  unfold wAll
  rw [e0]
  exact cond_wh k _ _ _ true (by rw [e2, e1]; exact hc)

theorem stepWrite_classic (k : Container) (h : H) (s : Store) (ty : Ty) (fc : Bool) (n : Int) (data : List Int)
    (hc : h.container = k) :
    stepWrite (classic k).toCont h s ty fc n data = Sf.stepWrite h s ty fc n data := by
  by_cases hq : WriteValid h fc n
  · obtain ⟨hn, hr, ha⟩ := hq
    rw [stepWrite_hCont, stepWrite_main _ h s ty fc n data hn hr ha, stepWrite_main hCont h s ty fc n data hn hr ha,
      wAll_classic k h s ty _ data hc]
  · exact stepWrite_refused _ h s ty fc n data hq

theorem stepCmdFlag_classic (k : Container) (h : H) (s : Store) (cmd : Nat) (size : Int) (hc : h.container = k) :
    stepCmdFlag (classic k).toCont h s cmd size = Sf.stepCmdFlag h s cmd size := by
  rw [stepCmdFlag_hCont]
  unfold stepCmdFlag
  -- the container occurs in the guarded header rewrite of 0x1060 only
  simp only [cond_wh k _ { h with error := 0 } s true hc]

theorem stepAny_classic (k : Container) (h : H) (s : Store) (op : Op) (hc : h.container = k) :
    stepAny (classic k).toCont h s op = Sf.stepAny h s op := by
  cases op with
  | read _ ty fc n => rfl
  | write _ ty fc n data => exact stepWrite_classic k h s ty fc n data hc
  | seek _ off whence => rfl
  | cmdFlag _ cmd size => exact stepCmdFlag_classic k h s cmd size hc
  | truncate _ f => rfl
  | close _ =>
    show (h, (classic k).closeStore h s, ({} : Out)) = (h, Sf.closeHandle h s, {})
    rw [classic_closeStore k h s hc]

theorem handleG_refines_handle (k : Container) (ops : List Op) :
    ∀ (h : H) (s : Store), h.container = k → runOps (classic k).toCont h s ops = Sf.runOps h s ops := by
  induction ops with
  | nil => intro h s _; rfl
  | cons op ops ih =>
    intro h s hc
    show runOps _ (stepAny _ h s op).1 (stepAny _ h s op).2.1 ops = Sf.runOps (Sf.stepAny h s op).1 (Sf.stepAny h s op).2.1 ops
    rw [stepAny_classic k h s op hc]
    exact ih _ _ ((SameCfg.stepAny h s op).container.trans hc)

/-- what a `Spec` has to guarantee: its `calc_length` block recomputes only the four length fields and the offset it
    stores after writing the header is not negative -/
structure SpecLaws (sp : Spec) : Prop where
  recalc : ∀ h fl, ∃ f d o fr, sp.recalc h fl = { h with filelength := f, datalength := d, dataoffset := o, frames := fr } ∧
    (0 ≤ h.dataoffset → 0 ≤ o)
  off : ∀ h n, 0 ≤ h.dataoffset → 0 ≤ sp.offAfter h n

theorem Spec.writeHeader_rel {sp : Spec} (L : SpecLaws sp) (h : H) (s : Store) (b : Bool) : WHRelG h (sp.writeHeader h s b).1 := by
  let P (r : H × Store) : Prop := WHRelG h r.1
  show P _
  unfold Spec.writeHeader
  refine ite_ind (WHRelG.refl h) (ite_ind (WHRelG.refl h) ?_)
  show WHRelG h _
  cases b
  · exact ⟨h.filelength, h.datalength, _, h.frames, rfl, L.off h _⟩
  · obtain ⟨f, d, o, fr, e, ho⟩ := L.recalc h s.bytes.length
    simp only [if_true, e]
    exact ⟨f, d, _, fr, rfl, fun h0 => L.off _ _ (ho h0)⟩

theorem specLaws {sp : Spec} (L : SpecLaws sp) : ContLaws sp.toCont :=
  ⟨fun h s b => Spec.writeHeader_rel L h s b, fun h s hm => by simp [Spec.toCont, Spec.closeStore, hm]⟩

theorem calcStd_law (b : Bool) (h : H) (fl : Int) : WHRelG h (calcStd b h fl) := by
  unfold calcStd
  cases b
  · exact ⟨_, _, h.dataoffset, h.frames, rfl, id⟩
  · exact ⟨_, _, h.dataoffset, _, rfl, id⟩

theorem off_len (h : H) (n : Nat) (_h0 : 0 ≤ h.dataoffset) : (0 : Int) ≤ ((fun (_ : H) (n : Nat) => (n : Int)) h n) :=
  Int.natCast_nonneg n

theorem rawLaws : SpecLaws rawSpec := ⟨fun h _ => WHRelG.refl h, off_len⟩
theorem auLaws : SpecLaws auSpec := ⟨calcStd_law false, fun _ _ _ => by show (0 : Int) ≤ 24; omega⟩
theorem wavLaws : SpecLaws wavSpec :=
  ⟨fun h _ => ⟨_, _, h.dataoffset, h.frames, rfl, id⟩, off_len⟩
theorem avrLaws : SpecLaws avrSpec := ⟨calcStd_law true, off_len⟩
theorem ircamLaws : SpecLaws ircamSpec := ⟨fun h _ => WHRelG.refl h, fun _ _ h0 => h0⟩
theorem pafLaws : SpecLaws pafSpec := ⟨fun h _ => WHRelG.refl h, fun _ _ _ => by show (0 : Int) ≤ 2048; omega⟩
theorem htkLaws : SpecLaws htkSpec := ⟨fun h fl => ⟨fl, h.datalength, h.dataoffset, h.frames, rfl, id⟩, off_len⟩
theorem aiffLaws : SpecLaws aiffSpec := ⟨calcStd_law true, off_len⟩
theorem cafLaws : SpecLaws cafSpec := ⟨fun h _ => ⟨_, _, h.dataoffset, _, rfl, id⟩, off_len⟩
theorem w64Laws : SpecLaws w64Spec := ⟨calcStd_law true, off_len⟩

end Sf.HandleG
