/-
  SfProofs.AlacPair — a compressed channel pair (EncodeStereo's output for any mixing ratio 0 … 4, coefficient rows and
  predictor orders) is decoded by `alac_decode`'s ID_CPE branch to the truncated samples of both channels.
-/
import SfProofs.AlacMono
namespace Sf.AlacCore

/-- the matrix inputs are at most 20 bits wide: within the 25 bits the matrixing needs to stay clear of wrap-around -/
theorem encIn_small {depth : Nat} (hd : Depth depth) {x : Int} (hx : I32 x) : -16777216 ≤ encIn depth x ∧ encIn depth x < 16777216 := by
  obtain ⟨h1, h2⟩ := encIn_fits hd hx
  have hp : (2 : Int) ^ (depth - 8 * bytesShiftedOf depth - 1) ≤ 2 ^ 24 := by
    have : 2 ^ (depth - 8 * bytesShiftedOf depth - 1) ≤ 2 ^ 24 := Nat.pow_le_pow_right (by decide) (by have := (depth_facts hd).2.2.1; omega)
    exact_mod_cast this
  omega

theorem or_low (x : Int) (s : Nat) (k : Nat) (hs : s < 2 ^ k) (hx : u32 x % 2 ^ k = 0) : orU32 x s = w32 (x + s) := by
  unfold orU32
  have hdiv : u32 x = (u32 x / 2 ^ k) <<< k := by
    rw [Nat.shiftLeft_eq]; have := Nat.div_add_mod (u32 x) (2 ^ k); rw [hx] at this; rw [Nat.mul_comm]; omega
  have : u32 x ||| s = u32 x + s := by
    rw [hdiv, ← Nat.shiftLeft_add_eq_or_of_lt hs]
  rw [this]
  -- w32 (u32 x + s) = w32 (x + s)
  obtain ⟨q, hq⟩ : ∃ q : Int, ((u32 x : Nat) : Int) = x + 2 ^ 32 * q := by
    unfold u32 wrapU
    refine ⟨-(x / 2 ^ 32), ?_⟩
    have := Int.mul_ediv_add_emod x (2 ^ 32)
    have hnn := Int.emod_nonneg x (show (2 : Int) ^ 32 ≠ 0 by norm_num)
    rw [Int.toNat_of_nonneg hnn, Int.mul_neg]; omega
  push_cast
  rw [hq, show x + 2 ^ 32 * q + (s : Int) = (x + s) + 2 ^ 32 * q by ring, w32_add_mul]

/-- unmix32 ors the two shifted-off bytes in where copyPredictorTo32Shift adds them -/
theorem restore32_or {x : Int} (hx : I32 x) : orU32 (shl32 (encIn 32 x) 16) (encLow 32 x) = trunc 32 x := by
  rw [or_low _ _ 16 (show encLow 32 x < 2 ^ 16 from Nat.mod_lt _ (by decide)), restore32 hx]
  unfold u32 shl32 wrapS wrapU
  simp only [Int.reducePow, Nat.reducePow]
  split <;> omega

/-- the encoder's view of a pair, frame by frame -/
def pairUV (depth mixRes : Nat) (lr : Int × Int) : Int × Int :=
  if mixRes ≠ 0 then mixUV 2 (mixRes : Int) (encIn depth lr.1) (encIn depth lr.2) else (encIn depth lr.1, encIn depth lr.2)

/-- one frame: the decoder's un-matrixing and output conversion give back both samples, for every depth and mixres 0 … 4
    (without shifted-off bytes, 16 / 20 bit, the shift buffer `s` is not looked at) -/
theorem unmixPair_frame {depth : Nat} (hd : Depth depth) (mixRes : Nat) (hm : mixRes ≤ 4) {l r : Int} (hl : I32 l) (hr : I32 r)
    (s : Nat × Nat) (hs : bytesShiftedOf depth ≠ 0 → s = (encLow depth l, encLow depth r)) :
    unmixPair depth (bytesShiftedOf depth) 2 (mixRes : Int) (pairUV depth mixRes (l, r)).1 (pairUV depth mixRes (l, r)).2 s =
      some (trunc depth l, trunc depth r) := by
  have hlr : (if (mixRes : Int) ≠ 0 then unmixLR 2 (mixRes : Int) (pairUV depth mixRes (l, r)).1 (pairUV depth mixRes (l, r)).2
      else pairUV depth mixRes (l, r)) = (encIn depth l, encIn depth r) := by
    unfold pairUV
    by_cases h0 : mixRes = 0
    · simp [h0]
    · have hi : (mixRes : Int) ≠ 0 := by omega
      simp only [h0, hi, ne_eq, not_false_eq_true, if_true]
      exact unmixLR_mixUV_encoder (mixRes : Int) _ _ (by omega) (encIn_small hd hl) (encIn_small hd hr)
  unfold unmixPair
  simp only [hlr]
  rcases hd with rfl | rfl | rfl | rfl
  · simp only [if_true, restore16]
  · simp only [show ¬ ((20 : Nat) = 16) by decide, if_false, if_true, restore20]
  · rw [hs (by decide)]
    simp only [show ¬ ((24 : Nat) = 16) by decide, show ¬ ((24 : Nat) = 20) by decide, show bytesShiftedOf 24 = 1 from rfl, if_false, if_true,
      ne_eq, Nat.succ_ne_zero, not_false_eq_true, Nat.mul_one, restore24 hl, restore24 hr]
  · rw [hs (by decide)]
    simp only [show ¬ ((32 : Nat) = 16) by decide, show ¬ ((32 : Nat) = 20) by decide, show ¬ ((32 : Nat) = 24) by decide,
      show bytesShiftedOf 32 = 2 from rfl, if_false, if_true, ne_eq, OfNat.ofNat_ne_zero, not_false_eq_true, or_true, Nat.reduceMul,
      restore32_or hl, restore32_or hr]

theorem zipWith_map2 {α β γ : Type} (f : β → β → γ) (g : α → β) (ls rs : List α) :
    List.zipWith f (ls.map g) (rs.map g) = (List.zip ls rs).map fun lr => f (g lr.1) (g lr.2) := by
  rw [List.zipWith_map, List.zip_eq_zipWith, List.map_zipWith]

theorem mixPairs_eq (depth mixRes : Nat) (ls rs : List Int) :
    mixPairs depth (bytesShiftedOf depth) mixRes ls rs =
      (((List.zip ls rs).map (pairUV depth mixRes)).map (·.1), ((List.zip ls rs).map (pairUV depth mixRes)).map (·.2),
        (List.zip ls rs).map fun lr => (encLow depth lr.1, encLow depth lr.2)) := by
  unfold mixPairs
  simp only []
  rw [zipWith_map2, zipWith_map2]
  simp only [Prod.mk.injEq, List.map_map]
  refine ⟨?_, ?_, ?_⟩ <;> (apply List.map_congr_left; intro lr _; simp [pairUV, encIn, encLow])

/-- the encoder's matrixing without wrap-around: inputs of at most 25 bits -/
theorem mixUV_small (mr : Nat) (hm : mr ≤ 4) (a b : Int) (ha : -16777216 ≤ a ∧ a < 16777216) (hb : -16777216 ≤ b ∧ b < 16777216) :
    mixUV 2 (mr : Int) a b = (((mr : Int) * a + (4 - (mr : Int)) * b) / 4, a - b) := by
  have hs := mix_sum_bound (m := (mr : Int)) (by omega) ha hb
  unfold mixUV asr
  rw [w32_mix, w32_of_fits (x := a - b) (by omega) (by omega)]
  simp only [Int.reducePow]
  rw [w32_of_fits (by omega) (by omega)]

theorem mix_fits {cb : Nat} (hcb : 1 ≤ cb) {mr : Nat} (hm : mr ≤ 4) {a b : Int} (ha : Fits cb a) (hb : Fits cb b) :
    Fits (cb + 1) (((mr : Int) * a + (4 - (mr : Int)) * b) / 4) ∧ Fits (cb + 1) (a - b) := by
  have e : (2 : Int) ^ cb = 2 * 2 ^ (cb - 1) := by rw [← Int.pow_succ']; congr 1; omega
  have hs := mix_sum_bound (m := (mr : Int)) (by omega) ha hb
  unfold Fits at ha hb ⊢
  rw [Nat.add_sub_cancel, e]
  exact ⟨by omega, by omega⟩

/-- the matrixed values fit the pair's channel width (one bit more than a channel) -/
theorem pairUV_fits {depth : Nat} (hd : Depth depth) (mixRes : Nat) (hm : mixRes ≤ 4) {l r : Int} (hl : I32 l) (hr : I32 r) :
    Fits (depth - 8 * bytesShiftedOf depth + 1) (pairUV depth mixRes (l, r)).1 ∧ Fits (depth - 8 * bytesShiftedOf depth + 1) (pairUV depth mixRes (l, r)).2 := by
  have ha := encIn_fits hd hl
  have hb := encIn_fits hd hr
  have hcb := (depth_facts hd).2.1
  unfold pairUV
  by_cases h0 : mixRes = 0
  · simp only [h0, ne_eq, not_true_eq_false, if_false]
    have e : (2 : Int) ^ (depth - 8 * bytesShiftedOf depth) = 2 * 2 ^ (depth - 8 * bytesShiftedOf depth - 1) := by
      rw [← Int.pow_succ']; congr 1; omega
    unfold Fits at ha hb ⊢
    rw [Nat.add_sub_cancel, e]
    omega
  · simp only [h0, ne_eq, not_false_eq_true, if_true]
    rw [mixUV_small mixRes hm _ _ (encIn_small hd hl) (encIn_small hd hr)]
    exact mix_fits hcb hm ha hb
def interleave (sh : List (Nat × Nat)) : List Nat := sh.flatMap fun ab => [ab.1, ab.2]

theorem pairUp_interleave : ∀ sh : List (Nat × Nat), pairUp (interleave sh) = sh
  | [] => rfl
  | (a, b) :: rest => by simp [interleave, pairUp, List.flatMap_cons] ; exact pairUp_interleave rest

theorem interleave_length (sh : List (Nat × Nat)) : (interleave sh).length = 2 * sh.length := by
  induction sh with
  | nil => rfl
  | cons a sh ih => simp [interleave, List.flatMap_cons] at ih ⊢; omega

theorem shift_bits_eq (s : Nat) (sh : List (Nat × Nat)) (h : ∀ ab ∈ sh, ab.2 < 2 ^ s) :
    (sh.flatMap fun ab => bitsOf (ab.1 * 2 ^ s + ab.2) (2 * s)) = (interleave sh).flatMap fun x => bitsOf x s := by
  induction sh with
  | nil => rfl
  | cons ab sh ih =>
    simp only [List.flatMap_cons, interleave]
    rw [ih (fun x hx => h x (by simp [hx])), Nat.two_mul, bitsOf_cat ab.1 ab.2 s s (h ab (by simp))]
    simp [interleave, List.flatMap_cons]

/-- the shift part of a compressed pair -/
def pairShiftBits (depth : Nat) (ls rs : List Int) : Bits :=
  if bytesShiftedOf depth ≠ 0 then
    ((List.zip ls rs).map fun lr => (encLow depth lr.1, encLow depth lr.2)).flatMap fun ab => bitsOf (ab.1 * 2 ^ (8 * bytesShiftedOf depth) + ab.2) (2 * (8 * bytesShiftedOf depth))
  else []

theorem pairShiftBits_length (depth : Nat) (ls rs : List Int) (hlen : ls.length = rs.length) :
    (pairShiftBits depth ls rs).length = if bytesShiftedOf depth ≠ 0 then 8 * bytesShiftedOf depth * 2 * ls.length else 0 := by
  unfold pairShiftBits
  split
  · rw [flatMap_bitsOf_length, List.length_map, List.length_zip, hlen, Nat.min_self, Nat.mul_comm 2]
  · rfl

theorem compPairBits_eq (depth fs : Nat) (ls rs : List Int) (mixRes : Nat) (cU cV : List Int) (numU numV : Nat) :
    compPairBits depth fs ls rs mixRes cU cV numU numV =
      hdrBits (decide (ls.length ≠ fs)) (bytesShiftedOf depth) ls.length false ++ (bitsOf 2 8 ++ (bitsOf mixRes 8 ++
        (bitsOf 9 8 ++ (bitsOf (4 * 32 + numU) 8 ++ (coefBits cU numU ++ (bitsOf 9 8 ++ (bitsOf (4 * 32 + numV) 8 ++ (coefBits cV numV ++
        (pairShiftBits depth ls rs ++
          (dynComp stdAg (pcBlock (((List.zip ls rs).map (pairUV depth mixRes)).map (·.1)) cU numU (depth - 8 * bytesShiftedOf depth + 1) 9).1
              (depth - 8 * bytesShiftedOf depth + 1) ++
            dynComp stdAg (pcBlock (((List.zip ls rs).map (pairUV depth mixRes)).map (·.2)) cV numV (depth - 8 * bytesShiftedOf depth + 1) 9).1
              (depth - 8 * bytesShiftedOf depth + 1))))))))))) := by
  unfold compPairBits pairShiftBits
  simp only [mixPairs_eq, List.append_assoc]

theorem sext8_small (m : Nat) (hm : m ≤ 4) : sext 8 m = (m : Int) := by
  unfold sext
  simp only [Nat.reduceSub, Nat.reducePow]
  split <;> omega

/-- the body of a compressed pair behind the header: parameters, the shifted-off bytes `shBits` (skipped, read afterwards),
    the two coded channels -/
theorem compPair_enc {cfg : Config} (hd : Depth cfg.bitDepth) (hmb : cfg.mb = 10) (hpb : cfg.pb = 40) (hkb : cfg.kb = 14)
    (byteSize bs n cb : Nat) (hbs : 8 * bs ≤ cfg.bitDepth) (hcbdef : cfg.bitDepth - 8 * bs + 1 = cb) (hcb31 : cb ≤ 31)
    (mixRes : Nat) (hm : mixRes ≤ 4) (cU cV : List Int) (numU numV : Nat) (hU : numU ≤ cU.length) (hV : numV ≤ cV.length)
    (hnu : numU < 32) (hnv : numV < 32) (hcU : ∀ c ∈ cU.take numU, Int16 c) (hcV : ∀ c ∈ cV.take numV, Int16 c)
    (pcU pcV : List Int) (hpUl : pcU.length = n) (hpVl : pcV.length = n) (hpUfit : ∀ x ∈ pcU, Fits cb x) (hpVfit : ∀ x ∈ pcV, Fits cb x)
    (shBits : Bits) (hsh : shBits.length = if bs ≠ 0 then 8 * bs * 2 * n else 0) (rest : Bits) (p : Nat)
    (hroom : p + 8 + 8 + 8 + 8 + 16 * numU + 8 + 8 + 16 * numV + shBits.length + (dynComp stdAg pcU cb).length +
      (dynComp stdAg pcV cb).length ≤ byteSize * 8) :
    compPair byteSize cfg ⟨bs, false, n⟩
        ⟨bitsOf 2 8 ++ (bitsOf mixRes 8 ++ (bitsOf 9 8 ++ (bitsOf (4 * 32 + numU) 8 ++ (coefBits cU numU ++
          (bitsOf 9 8 ++ (bitsOf (4 * 32 + numV) 8 ++ (coefBits cV numV ++
          (shBits ++ (dynComp stdAg pcU cb ++ (dynComp stdAg pcV cb ++ rest)))))))))), p⟩ =
      (let sh := if bs ≠ 0 then pairUp (rdFields (8 * bs) (2 * n)
              ⟨shBits ++ (dynComp stdAg pcU cb ++ (dynComp stdAg pcV cb ++ rest)), p + 8 + 8 + 8 + 8 + 16 * numU + 8 + 8 + 16 * numV⟩).1
            else List.replicate n (0, 0)
       let outs := (List.zip (List.zip (unpcBlock pcU (cU.take numU) (cU.take numU).length cb 9)
              (unpcBlock pcV (cV.take numV) (cV.take numV).length cb 9)) sh).map
            fun x => unmixPair cfg.bitDepth bs 2 (mixRes : Int) x.1.1 x.1.2 x.2
       (.ok (some ((outs.map fun o => (o.getD (0, 0)).1), (outs.map fun o => (o.getD (0, 0)).2))),
        ⟨rest, p + 8 + 8 + 8 + 8 + 16 * numU + 8 + 8 + 16 * numV + shBits.length + (dynComp stdAg pcU cb).length +
          (dynComp stdAg pcV cb).length⟩)) := by
  subst hcbdef
  have hdom : inDomain cfg (cfg.bitDepth - 8 * bs + 1) = true := by simp [inDomain, hkb]; omega
  have hnlt : ¬ (cfg.bitDepth < 8 * bs) := by omega
  generalize hDU : dynComp stdAg pcU (cfg.bitDepth - 8 * bs + 1) = DU at hroom ⊢
  generalize hDV : dynComp stdAg pcV (cfg.bitDepth - 8 * bs + 1) = DV at hroom ⊢
  have hd1 := decChan_comp cfg hmb hpb hkb byteSize _ (by omega) hcb31 pcU (cU.take numU) n hpUl hpUfit (DV ++ rest)
    (p + 8 + 8 + 8 + 8 + 16 * numU + 8 + 8 + 16 * numV + shBits.length) (by rw [hDU]; omega)
  have hd2 := decChan_comp cfg hmb hpb hkb byteSize _ (by omega) hcb31 pcV (cV.take numV) n hpVl hpVfit rest
    (p + 8 + 8 + 8 + 8 + 16 * numU + 8 + 8 + 16 * numV + shBits.length + DU.length) (by rw [hDV]; omega)
  rw [hDU] at hd1
  rw [hDV] at hd2
  have hdep : cfg.bitDepth = 16 ∨ cfg.bitDepth = 20 ∨ cfg.bitDepth = 24 ∨ cfg.bitDepth = 32 := hd
  simp only [compPair, read_bitsOf, rdChanParams_enc cU numU hU hnu hcU, rdChanParams_enc cV numV hV hnv hcV, skip_shift _ _ _ _ _ hsh, hdom, hnlt,
    show mixRes % 256 = mixRes by omega, sext8_small mixRes hm, Nat.reducePow, Nat.reduceMod, hd1, hd2, hdep, if_true,
    Bool.not_true, Bool.false_or, decide_false, show ¬ ((2 : Nat) ≥ 32) by decide, Bool.and_false, Bool.false_eq_true, if_false]

theorem unmixPair_frames {depth : Nat} (hd : Depth depth) (mixRes : Nat) (hm : mixRes ≤ 4) (ls rs : List Int) (hlen : ls.length = rs.length)
    (hls : ∀ x ∈ ls, I32 x) (hrs : ∀ x ∈ rs, I32 x) (sh : List (Nat × Nat))
    (hsh : sh = if bytesShiftedOf depth ≠ 0 then (List.zip ls rs).map (fun lr => (encLow depth lr.1, encLow depth lr.2))
      else List.replicate ls.length (0, 0)) :
    (List.zip (List.zip (((List.zip ls rs).map (pairUV depth mixRes)).map (·.1)) (((List.zip ls rs).map (pairUV depth mixRes)).map (·.2))) sh).map
        (fun x => unmixPair depth (bytesShiftedOf depth) 2 (mixRes : Int) x.1.1 x.1.2 x.2) =
      (List.zip ls rs).map fun lr => some (trunc depth lr.1, trunc depth lr.2) := by
  have hLl : (List.zip ls rs).length = ls.length := by rw [List.length_zip, hlen, Nat.min_self]
  have hmemL : ∀ lr ∈ List.zip ls rs, I32 lr.1 ∧ I32 lr.2 := fun lr h => ⟨hls _ (List.of_mem_zip h).1, hrs _ (List.of_mem_zip h).2⟩
  have hM : (List.map (pairUV depth mixRes) (ls.zip rs)).map (fun x => (x.1, x.2)) = List.map (pairUV depth mixRes) (ls.zip rs) := by
    simp
  have hsh' : sh = (List.zip ls rs).map fun lr => if bytesShiftedOf depth ≠ 0 then (encLow depth lr.1, encLow depth lr.2) else (0, 0) := by
    rw [hsh, ← hLl]
    by_cases hb0 : bytesShiftedOf depth = 0 <;> simp [hb0, List.map_const']
  rw [hsh', List.zip_map', hM, List.zip_map', List.map_map]
  apply List.map_congr_left
  intro lr hlr
  exact unmixPair_frame hd mixRes hm (hmemL lr hlr).1 (hmemL lr hlr).2 _ (fun hb0 => if_pos hb0)

theorem rdPairShift (depth : Nat) (ls rs : List Int) (hlen : ls.length = rs.length) (hb0 : bytesShiftedOf depth ≠ 0) (X : Bits) (P : Nat) :
    pairUp (rdFields (8 * bytesShiftedOf depth) (2 * ls.length) ⟨pairShiftBits depth ls rs ++ X, P⟩).1 =
      (List.zip ls rs).map fun lr => (encLow depth lr.1, encLow depth lr.2) := by
  have hLl : (List.zip ls rs).length = ls.length := by rw [List.length_zip, hlen, Nat.min_self]
  have hlt : ∀ x : Int, encLow depth x < 2 ^ (8 * bytesShiftedOf depth) := fun x => Nat.mod_lt _ (Nat.pow_pos (by decide))
  have hsl : ∀ ab ∈ (List.zip ls rs).map (fun lr => (encLow depth lr.1, encLow depth lr.2)), ab.2 < 2 ^ (8 * bytesShiftedOf depth) := by
    intro ab hab; simp only [List.mem_map] at hab; obtain ⟨lr, _, rfl⟩ := hab
    exact hlt _
  have hsl1 : ∀ x ∈ interleave ((List.zip ls rs).map (fun lr => (encLow depth lr.1, encLow depth lr.2))), x < 2 ^ (8 * bytesShiftedOf depth) := by
    intro x hx
    simp only [interleave, List.mem_flatMap, List.mem_map] at hx
    obtain ⟨ab, ⟨lr, _, rfl⟩, hx⟩ := hx
    simp only [List.mem_cons, List.not_mem_nil, or_false] at hx
    rcases hx with rfl | rfl <;> exact hlt _
  have hrf := rdFields_enc (8 * bytesShiftedOf depth) _ hsl1 X P
  rw [interleave_length, List.length_map, hLl] at hrf
  unfold pairShiftBits
  rw [if_pos hb0, shift_bits_eq _ _ hsl, hrf, pairUp_interleave]

theorem decPair_comp {cfg : Config} (hd : Depth cfg.bitDepth) (hmb : cfg.mb = 10) (hpb : cfg.pb = 40) (hkb : cfg.kb = 14)
    (byteSize : Nat) (ls rs : List Int) (hlen : ls.length = rs.length) (mixRes : Nat) (hm : mixRes ≤ 4)
    (cU cV : List Int) (numU numV : Nat) (hU : numU ≤ cU.length) (hV : numV ≤ cV.length) (hnu : numU < 31) (hnv : numV < 31)
    (hcU : ∀ c ∈ cU.take numU, Int16 c) (hcV : ∀ c ∈ cV.take numV, Int16 c) (hls : ∀ x ∈ ls, I32 x) (hrs : ∀ x ∈ rs, I32 x)
    {n : Nat} (hl : ls.length = n) (hn : n ≤ frameLen) :
    DecodesTo (decPair (comp Rules.current byteSize) Rules.current cfg) byteSize n
      (compPairBits cfg.bitDepth frameLen ls rs mixRes cU cV numU numV) [ls.map (trunc cfg.bitDepth), rs.map (trunc cfg.bitDepth)] := by
  subst hl
  intro inst reqN rest p hreq hroom
  obtain ⟨hbs, hcb1, hcb31, hle⟩ := depth_facts hd
  have hLl : (List.zip ls rs).length = ls.length := by rw [List.length_zip, hlen, Nat.min_self]
  have hmemL : ∀ lr ∈ List.zip ls rs, I32 lr.1 ∧ I32 lr.2 := fun lr h => ⟨hls _ (List.of_mem_zip h).1, hrs _ (List.of_mem_zip h).2⟩
  -- the matrixed channels fit, so do their residuals, and the predictor inverts
  have hUfit : ∀ y ∈ ((List.zip ls rs).map (pairUV cfg.bitDepth mixRes)).map (·.1), Fits (cfg.bitDepth - 8 * bytesShiftedOf cfg.bitDepth + 1) y := by
    intro y hy; simp only [List.mem_map] at hy
    obtain ⟨_, ⟨lr, hlr, rfl⟩, rfl⟩ := hy
    exact (pairUV_fits hd mixRes hm (hmemL lr hlr).1 (hmemL lr hlr).2).1
  have hVfit : ∀ y ∈ ((List.zip ls rs).map (pairUV cfg.bitDepth mixRes)).map (·.2), Fits (cfg.bitDepth - 8 * bytesShiftedOf cfg.bitDepth + 1) y := by
    intro y hy; simp only [List.mem_map] at hy
    obtain ⟨_, ⟨lr, hlr, rfl⟩, rfl⟩ := hy
    exact (pairUV_fits hd mixRes hm (hmemL lr hlr).1 (hmemL lr hlr).2).2
  have houts := unmixPair_frames hd mixRes hm ls rs hlen hls hrs
  rw [compPairBits_eq] at hroom ⊢
  generalize hcbdef : cfg.bitDepth - 8 * bytesShiftedOf cfg.bitDepth + 1 = cb at hUfit hVfit hroom ⊢
  generalize hUdef : ((List.zip ls rs).map (pairUV cfg.bitDepth mixRes)).map (·.1) = U at hUfit houts hroom ⊢
  generalize hVdef : ((List.zip ls rs).map (pairUV cfg.bitDepth mixRes)).map (·.2) = V at hVfit houts hroom ⊢
  have hUl : U.length = ls.length := by rw [← hUdef]; simp [hLl]
  have hVl : V.length = ls.length := by rw [← hVdef]; simp [hLl]
  obtain ⟨hpUl, hpUfit, hunU⟩ := pcBlock_roundtrip U cU numU cb (by omega) (by omega) hU (by omega) hUfit
  obtain ⟨hpVl, hpVfit, hunV⟩ := pcBlock_roundtrip V cV numV cb (by omega) (by omega) hV (by omega) hVfit
  rw [hUl] at hpUl
  rw [hVl] at hpVl
  generalize (pcBlock U cU numU cb 9).1 = pcU at hunU hpUfit hpUl hroom ⊢
  generalize (pcBlock V cV numV cb 9).1 = pcV at hunV hpVfit hpVl hroom ⊢
  have hSH := pairShiftBits_length cfg.bitDepth ls rs hlen
  have hrd := rdPairShift cfg.bitDepth ls rs hlen
  generalize pairShiftBits cfg.bitDepth ls rs = shBits at hSH hrd hroom ⊢
  simp only [List.length_append, hdrBits_length, bitsOf_length, coefBits_length cU numU hU, coefBits_length cV numV hV] at hroom ⊢
  have hE : (if decide (ls.length ≠ frameLen) = true then 48 else 16) = escHeaderLen ls.length := by
    unfold escHeaderLen; by_cases h : ls.length = frameLen <;> simp [h]
  rw [hE] at hroom ⊢
  unfold decPair
  simp only [List.append_assoc]
  rw [rdHeader_hdr inst ls.length reqN (bytesShiftedOf cfg.bitDepth) false hbs hn hreq]
  simp only [Bool.false_eq_true, if_false, comp]
  rw [compPair_enc hd hmb hpb hkb byteSize (bytesShiftedOf cfg.bitDepth) ls.length cb hle hcbdef (by omega) mixRes hm cU cV numU numV hU hV
    (by omega) (by omega) hcU hcV pcU pcV hpUl hpVl hpUfit hpVfit shBits hSH rest _ (by omega)]
  simp only [hunU, hunV]
  have hshEq : ∀ (X : Bits) (P : Nat), (if bytesShiftedOf cfg.bitDepth ≠ 0 then
        pairUp (rdFields (8 * bytesShiftedOf cfg.bitDepth) (2 * ls.length) ⟨shBits ++ X, P⟩).1 else List.replicate ls.length (0, 0)) =
      if bytesShiftedOf cfg.bitDepth ≠ 0 then (List.zip ls rs).map (fun lr => (encLow cfg.bitDepth lr.1, encLow cfg.bitDepth lr.2))
      else List.replicate ls.length (0, 0) := by
    intro X P
    split
    · exact hrd ‹_› X P
    · rfl
  rw [houts _ (hshEq _ _)]
  have h1 : (List.zip ls rs).map (fun lr => trunc cfg.bitDepth lr.1) = ls.map (trunc cfg.bitDepth) := by
    have := congrArg (List.map (trunc cfg.bitDepth)) (List.map_fst_zip (l₁ := ls) (l₂ := rs) (Nat.le_of_eq hlen))
    rwa [List.map_map] at this
  have h2 : (List.zip ls rs).map (fun lr => trunc cfg.bitDepth lr.2) = rs.map (trunc cfg.bitDepth) := by
    have := congrArg (List.map (trunc cfg.bitDepth)) (List.map_snd_zip (l₁ := ls) (l₂ := rs) (Nat.le_of_eq hlen.symm))
    rwa [List.map_map] at this
  simp only [List.map_map, Function.comp_def, Option.getD_some, h1, h2, ElemRes.done.injEq, Rd.mk.injEq, true_and]
  omega

end Sf.AlacCore
