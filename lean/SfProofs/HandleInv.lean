/-
  The handle invariant `HInv` and the ways it is re-established after a step; `reqLen_frames`: a valid request covers a whole
  number of frames.
-/
import SfProofs.HandleSteps
namespace Sf

/-- what a read-only handle additionally guarantees: the store is never modified, so the audio data the header
    announced stays in place and the byte position tracks the frame position -/
structure RInv (h : H) (s : Store) : Prop where
  lastOp : h.lastOp = .r
  rpos_le : h.rpos ≤ h.frames
  covers : h.dataoffset + h.frames * (h.bw : Int) ≤ (s.bytes.length : Int)
  sync : h.rpos < h.frames → (s.pos : Int) = h.dataoffset + h.rpos * (h.bw : Int)

/-- the handle invariant: it holds after every successful open (`HInv_openHandle`) and every operation keeps it (`HInv_stepAny`).
    A handle that can write gets the sign conditions only: on an SFM_RDWR handle `sf_seek` accepts any non-negative target and
    SFC_FILE_TRUNCATE (−1) stores −1 as the frame count, so neither `rpos ≤ frames` nor `0 ≤ frames` survives there
    (`C05.rdwr_positions_unbounded`); what a read/write handle does keep is `RwInv` (SfProofs/RdwrInv.lean). -/
structure HInv (h : H) (s : Store) : Prop where
  ch_pos : 0 < h.ch
  nb_pos : 0 < h.enc.nbytes
  rpos_nn : 0 ≤ h.rpos
  wpos_nn : 0 ≤ h.wpos
  off_nn : 0 ≤ h.dataoffset
  rd : h.mode = .r → RInv h s

theorem HInv.frames_nn {h : H} {s : Store} (hi : HInv h s) (hm : h.mode = .r) : 0 ≤ h.frames := by
  have := (hi.rd hm).rpos_le; have := hi.rpos_nn; omega

/-- the invariant does not look at the conversion settings, the auto-header flag or the error field -/
theorem HInv.set_flags {h : H} {s : Store} (hi : HInv h s) (cv : Conv) (ah : Bool) (e : Int) :
    HInv { h with error := e, conv := cv, autoHeader := ah } s :=
  ⟨hi.ch_pos, hi.nb_pos, hi.rpos_nn, hi.wpos_nn, hi.off_nn,
   fun hm => ⟨(hi.rd hm).lastOp, (hi.rd hm).rpos_le, (hi.rd hm).covers, (hi.rd hm).sync⟩⟩

theorem HInv.set_error {h : H} {s : Store} (hi : HInv h s) (e : Int) : HInv { h with error := e } s :=
  hi.set_flags h.conv h.autoHeader e

/-- for handles that can write, only the sign conditions matter -/
theorem HInv.of_writable {h h' : H} {s s' : Store} (hi : HInv h s) (hm : h'.mode ≠ .r)
    (hch : h'.ch = h.ch) (henc : h'.enc = h.enc) (hr : 0 ≤ h'.rpos) (hw : 0 ≤ h'.wpos) (ho : 0 ≤ h'.dataoffset) :
    HInv h' s' :=
  ⟨by rw [hch]; exact hi.ch_pos, by rw [henc]; exact hi.nb_pos, hr, hw, ho, fun h => absurd h hm⟩

theorem reqLen_frames (h : H) (fc : Bool) (n : Int) (hch : 0 < h.ch) (hn : 0 < n) (ha : fc = true ∨ n % h.ch = 0) :
    ∃ m : Nat, 0 < m ∧ reqLen h fc n = (m : Int) * h.ch ∧ (fc = true → n = m) ∧ (fc = false → n = (m : Int) * h.ch) := by
  cases fc with
  | true =>
    refine ⟨n.toNat, by omega, ?_, fun _ => by omega, fun hf => by simp at hf⟩
    rw [reqLen_true]
    congr 1; omega
  | false =>
    have ha' : n % (h.ch : Int) = 0 := by rcases ha with ha | ha; simp at ha; exact ha
    have hdvd : n = n / (h.ch : Int) * h.ch :=
      (Int.ediv_mul_cancel (Int.dvd_of_emod_eq_zero ha')).symm
    have hq : 0 < n / (h.ch : Int) := by
      have hc : (0 : Int) < h.ch := by omega
      apply Int.lt_of_mul_lt_mul_right (a := (h.ch : Int)) _ (by omega)
      rw [← hdvd]; simpa using hn
    refine ⟨(n / (h.ch : Int)).toNat, by omega, ?_, fun hf => by simp at hf, fun _ => ?_⟩
    · rw [reqLen_false, Int.toNat_of_nonneg (by omega)]; exact hdvd
    · rw [Int.toNat_of_nonneg (by omega)]; exact hdvd

end Sf
