/-
  SfProofs.Ieee — helper lemmas for SfProps/C20Ieee.lean: byte strings of a pattern, the fields the C routines
  extract from them, and the link between the IEEE 754 §3.4 spec layer and `Sf.Float.Fmt.toDy`.
-/
import SfModel.Ieee
import SfProofs.FloatExact
import SfProofs.Bytes
namespace Sf.Ieee
open Sf Sf.Float

theorem f32_std : f32.Std := Or.inl rfl
theorem f64_std : f64.Std := Or.inr rfl

theorem bytesLE_f32 (b : Nat) :
    Spec.bytesLE f32 b = [b % 256, b / 256 % 256, b / 65536 % 256, b / 16777216 % 256] := by
  have : f32.width / 8 = 4 := by decide
  simp only [Spec.bytesLE, this, leBytes, Nat.div_div_eq_div_mul]

theorem bytesBE_f32 (b : Nat) :
    Spec.bytesBE f32 b = [b / 16777216 % 256, b / 65536 % 256, b / 256 % 256, b % 256] := by
  have : f32.width / 8 = 4 := by decide
  simp only [Spec.bytesBE, beBytes, this, leBytes, Nat.div_div_eq_div_mul]
  rfl

theorem bytesLE_f64 (b : Nat) :
    Spec.bytesLE f64 b = [b % 256, b / 256 % 256, b / 65536 % 256, b / 16777216 % 256, b / 4294967296 % 256,
      b / 1099511627776 % 256, b / 281474976710656 % 256, b / 72057594037927936 % 256] := by
  have : f64.width / 8 = 8 := by decide
  simp only [Spec.bytesLE, this, leBytes, Nat.div_div_eq_div_mul]

theorem bytesBE_f64 (b : Nat) :
    Spec.bytesBE f64 b = [b / 72057594037927936 % 256, b / 281474976710656 % 256, b / 1099511627776 % 256,
      b / 4294967296 % 256, b / 16777216 % 256, b / 65536 % 256, b / 256 % 256, b % 256] := by
  have : f64.width / 8 = 8 := by decide
  simp only [Spec.bytesBE, beBytes, this, leBytes, Nat.div_div_eq_div_mul]
  rfl

/-- little-endian order is big-endian order reversed; `l` stands for what a writer produced -/
theorem be_le_of_eq {f : Fmt} {b : Nat} {l : List Byte} (h : l = Spec.bytesBE f b) :
    l = Spec.bytesBE f b ∧ l.reverse = Spec.bytesLE f b :=
  ⟨h, by rw [h, Spec.bytesBE, Spec.bytesLE, beBytes, List.reverse_reverse]⟩

theorem expo_of_normal {f : Fmt} {b : Nat} (hn : f.isNormal b = true) : f.expo b ≠ f.emax ∧ f.expo b ≠ 0 := by
  simpa [Fmt.isNormal] using hn
theorem finite_of_normal {f : Fmt} {b : Nat} (hn : f.isNormal b = true) : f.isFinite b = true := by
  simp [Fmt.isFinite, (expo_of_normal hn).1]
theorem normal_of_finite {f : Fmt} {b : Nat} (hfin : f.isFinite b = true) (he : f.expo b ≠ 0) : f.isNormal b = true := by
  have : f.expo b ≠ f.emax := by simpa [Fmt.isFinite] using hfin
  simp [Fmt.isNormal, this, he]

theorem ofDy_mk_congr (f : Fmt) {s : Bool} {m m' : Nat} {e e' : Int} (hm : m = m') (he : e = e') :
    f.ofDy ⟨s, m, e⟩ = f.ofDy ⟨s, m', e'⟩ := by rw [hm, he]

/-! ### the field layout, once for both C routines of a format

Each routine is tied to the layout by ONE identity: the bytes it stores (the fields it extracts) put together give the
same number as sign · 2^(w+t) + E · 2^t + T.  That a number has only one such decomposition, and only one string of
bytes, is `fields_encode` and `beBytes_ofBE`. -/

theorem fields_encode (f : Fmt) (n E T : Nat) (hn : n < 2) (hE : E < 2 ^ f.ebits) (hT : T < 2 ^ f.mbits) :
    Spec.fields f (n * 2 ^ (f.ebits + f.mbits) + E * 2 ^ f.mbits + T) = ⟨n = 1, E, T⟩ := by
  obtain ⟨h1, h2, h3⟩ := toDy_fields f (n = 1) E T hE hT
  have hs : f.sgnBit (n = 1) = n * 2 ^ (f.ebits + f.mbits) := by
    unfold Fmt.sgnBit
    rcases (by omega : n = 0 ∨ n = 1) with rfl | rfl <;> simp
  rw [hs] at h1 h2 h3
  show Spec.Fields.mk (f.sign _) (f.expo _) (f.frac _) = _
  rw [h1, h2, h3]

theorem encode_fields (f : Fmt) (b : Nat) (hb : b < 2 ^ f.width) :
    (if f.sign b then 1 else 0) * 2 ^ (f.ebits + f.mbits) + f.expo b * 2 ^ f.mbits + f.frac b = b := by
  have h := (pattern_decomp f b hb).1
  unfold Fmt.sgnBit at h
  cases hs : f.sign b <;> simp only [hs, Bool.false_eq_true, if_false, if_true] at h ⊢ <;> omega

theorem f32FieldBytes_eq (n E T : Nat) (hn : n < 2) (hE : E < 256) (hT : T < 2 ^ 23) :
    f32FieldBytes (n, E, T) = beBytes 4 (n * 2 ^ 31 + E * 2 ^ 23 + T) := by
  rw [f32FieldBytes]
  refine (beBytes_ofBE _ (by simp only [List.mem_cons, List.not_mem_nil, or_false]; omega)).symm.trans (congrArg (beBytes 4) ?_)
  simp only [ofBE, List.reverse_cons, List.reverse_nil, List.nil_append, List.cons_append, ofLE]
  omega

/-- the upper integer reaches the bytes only through its low 28 bits (`(mantissa >> 24) & 0xF`): the hidden bit 2^28 does not -/
theorem f64FieldBytes_eq (n E hi lo : Nat) (hn : n < 2) (hE : E < 2048) (hlo : lo < 2 ^ 24) :
    f64FieldBytes (n, E, hi, lo) = beBytes 8 (n * 2 ^ 63 + E * 2 ^ 52 + (hi % 2 ^ 28 * 2 ^ 24 + lo)) := by
  rw [f64FieldBytes]
  refine (beBytes_ofBE _ (by simp only [List.mem_cons, List.not_mem_nil, or_false]; omega)).symm.trans (congrArg (beBytes 8) ?_)
  simp only [ofBE, List.reverse_cons, List.reverse_nil, List.nil_append, List.cons_append, ofLE]
  omega

theorem f32FieldBytes_fields (b : Nat) (hb : b < 2 ^ 32) :
    f32FieldBytes ((if f32.sign b then 1 else 0), f32.expo b, f32.frac b) = Spec.bytesBE f32 b := by
  rw [f32FieldBytes_eq _ _ _ (by split <;> decide) (show f32.expo b < 256 from Nat.mod_lt _ (by decide)) (frac_lt f32 b)]
  exact congrArg (beBytes 4) (encode_fields f32 b hb)

/-- binary64: the bytes of (sign, E, upper 28 bits of T with or without hidden bit, lower 24 bits of T) are the pattern's own -/
theorem f64FieldBytes_fields (b h : Nat) (hb : b < 2 ^ 64) :
    f64FieldBytes ((if f64.sign b then 1 else 0), f64.expo b, h * 2 ^ 28 + f64.frac b / 2 ^ 24, f64.frac b % 2 ^ 24) =
      Spec.bytesBE f64 b := by
  rw [f64FieldBytes_eq _ _ _ _ (by split <;> decide) (show f64.expo b < 2048 from Nat.mod_lt _ (by decide)) (Nat.mod_lt _ (by decide)),
    Nat.mul_add_mod_self_right,
    Nat.mod_eq_of_lt (show f64.frac b / 2 ^ 24 < 2 ^ 28 from Nat.div_lt_of_lt_mul (frac_lt f64 b)), Nat.div_add_mod']
  exact congrArg (beBytes 8) (encode_fields f64 b hb)

/-- the value the C readers form from the fields they extract; `e0` is the exponent the rule before the repair gave to
    exponent field 0 (float32.c: 0, double64.c: −1023) -/
def readFields (f : Fmt) (old : Bool) (e0 : Int) (x : Spec.Fields) : Nat :=
  if x.E = 0 ∧ x.T = 0 then (if old then 0 else f.sgnBit x.S)
  else if x.E ≠ 0 then f.ofDy ⟨x.S, 2 ^ f.mbits + x.T, (x.E : Int) - f.bias - f.mbits⟩
  else if old then f.ofDy ⟨x.S, 2 ^ f.mbits + x.T, e0 - f.mbits⟩
  else f.ofDy ⟨x.S, x.T, f.qmin⟩

/-- the repaired readers compute the value of the pattern and convert it to the format once -/
theorem readFields_current (f : Fmt) (e0 : Int) (b : Nat) :
    readFields f false e0 (Spec.fields f b) = f.ofDy (f.toDy b) := by
  show readFields f false e0 ⟨f.sign b, f.expo b, f.frac b⟩ = _
  unfold readFields
  simp only [Bool.false_eq_true, if_false]
  by_cases he : f.expo b = 0
  · rw [toDy_subnormal f b he, if_neg (not_not.mpr he)]
    by_cases ht : f.frac b = 0
    · rw [if_pos ⟨he, ht⟩, ht, ofDy_subnormal f _ 0 (Nat.two_pow_pos _)]; rfl
    · rw [if_neg (fun h => ht h.2)]
  · rw [toDy_normal f b he, if_neg (fun h => he h.1), if_pos he]
    exact ofDy_mk_congr _ rfl (by unfold Fmt.qmin; omega)

theorem f32ReadCoreWith_eq (old : Bool) (c0 c1 c2 c3 : Nat) (h0 : c0 < 256) (h1 : c1 < 256) (h2 : c2 < 256) (h3 : c3 < 256) :
    f32ReadCoreWith old c0 c1 c2 c3 = readFields f32 old 0 (Spec.fields f32 (ofBE [c0, c1, c2, c3])) := by
  have hN : ofBE [c0, c1, c2, c3] = (c0 / 128 % 2) * 2 ^ (f32.ebits + f32.mbits) + ((c0 % 128) * 2 + c1 / 128 % 2) * 2 ^ f32.mbits +
      ((c1 % 128) * 65536 + (c2 % 256) * 256 + c3 % 256) := by
    simp only [ofBE, List.reverse_cons, List.reverse_nil, List.nil_append, List.cons_append, ofLE, f32, Nat.reduceAdd, Nat.reducePow]
    omega
  rw [hN, fields_encode f32 _ _ _ (by omega) (by simp only [f32, Nat.reducePow]; omega) (by simp only [f32, Nat.reducePow]; omega)]
  unfold f32ReadCoreWith readFields
  generalize c0 / 128 % 2 = n, (c0 % 128) * 2 + c1 / 128 % 2 = E, (c1 % 128) * 65536 + (c2 % 256) * 256 + c3 % 256 = T
  refine ite_congr rfl (fun _ => ?_) (fun _ => ?_)
  · cases old <;> simp [Fmt.sgnBit, f32]
  · by_cases hE : E = 0
    · cases old <;> simp only [hE, ne_eq, not_true_eq_false, if_false, if_true, Bool.false_eq_true]
      · exact ofDy_mk_congr _ rfl rfl
      · exact ofDy_mk_congr _ (Nat.add_comm _ _) rfl
    · cases old <;> simp only [hE, ne_eq, not_false_eq_true, if_true, if_false, Bool.false_eq_true] <;>
        exact ofDy_mk_congr _ (Nat.add_comm _ _) (by show (-23 : Int) + (E - 127) = E - 127 - 23; omega)

theorem f64ReadValueWith_eq (old : Bool) (n E U L : Nat) :
    f64ReadValueWith old n E U L = readFields f64 old (-1023) ⟨n = 1, E, U * 16777216 + L⟩ := by
  have hz : (U = 0 ∧ L = 0) ↔ U * 16777216 + L = 0 := by omega
  unfold f64ReadValueWith readFields
  simp only [hz]
  refine ite_congr rfl (fun _ => ?_) (fun _ => ?_)
  · cases old <;> simp [Fmt.sgnBit, f64]
  · by_cases hE : E = 0
    · cases old <;> simp only [hE, ne_eq, not_true_eq_false, if_false, if_true, Bool.false_eq_true, or_self, true_or]
      · exact ofDy_mk_congr _ (by rw [Nat.zero_add]) rfl
      · exact ofDy_mk_congr _ (Nat.add_assoc _ _ _) rfl
    · cases old <;> simp only [hE, ne_eq, not_false_eq_true, if_true, if_false, Bool.false_eq_true, or_true] <;>
        exact ofDy_mk_congr _ (Nat.add_assoc _ _ _) (by show (-52 : Int) + (E - 1023) = E - 1023 - 52; omega)

theorem f64ReadCoreWith_eq (old : Bool) (c0 c1 c2 c3 c4 c5 c6 c7 : Nat) (h0 : c0 < 256) (h1 : c1 < 256) (h2 : c2 < 256)
    (h3 : c3 < 256) (h4 : c4 < 256) (h5 : c5 < 256) (h6 : c6 < 256) (h7 : c7 < 256) :
    f64ReadCoreWith old c0 c1 c2 c3 c4 c5 c6 c7 =
      readFields f64 old (-1023) (Spec.fields f64 (ofBE [c0, c1, c2, c3, c4, c5, c6, c7])) := by
  have hN : ofBE [c0, c1, c2, c3, c4, c5, c6, c7] =
      (c0 / 128 % 2) * 2 ^ (f64.ebits + f64.mbits) + ((c0 % 128) * 16 + c1 / 16 % 16) * 2 ^ f64.mbits +
      (((c1 % 16) * 16777216 + (c2 % 256) * 65536 + (c3 % 256) * 256 + c4 % 256) * 16777216 +
        ((c5 % 256) * 65536 + (c6 % 256) * 256 + c7 % 256)) := by
    simp only [ofBE, List.reverse_cons, List.reverse_nil, List.nil_append, List.cons_append, ofLE, f64, Nat.reduceAdd, Nat.reducePow]
    omega
  rw [hN, fields_encode f64 _ _ _ (by omega) (by simp only [f64, Nat.reducePow]; omega) (by simp only [f64, Nat.reducePow]; omega)]
  exact f64ReadValueWith_eq old _ _ _ _

theorem f32ReadCoreWith_bytes (old : Bool) (b : Nat) (hb : b < 2 ^ 32) :
    f32ReadCoreWith old (b / 16777216 % 256) (b / 65536 % 256) (b / 256 % 256) (b % 256) =
      readFields f32 old 0 (Spec.fields f32 b) := by
  have hm (x : Nat) : x % 256 < 256 := Nat.mod_lt _ (by decide)
  rw [f32ReadCoreWith_eq old _ _ _ _ (hm _) (hm _) (hm _) (hm _), ← bytesBE_f32]
  exact congrArg _ (congrArg _ (ofBE_beBytes_of_lt 4 b hb))

theorem f64ReadCoreWith_bytes (old : Bool) (b : Nat) (hb : b < 2 ^ 64) :
    f64ReadCoreWith old (b / 72057594037927936 % 256) (b / 281474976710656 % 256) (b / 1099511627776 % 256)
        (b / 4294967296 % 256) (b / 16777216 % 256) (b / 65536 % 256) (b / 256 % 256) (b % 256) =
      readFields f64 old (-1023) (Spec.fields f64 b) := by
  have hm (x : Nat) : x % 256 < 256 := Nat.mod_lt _ (by decide)
  rw [f64ReadCoreWith_eq old _ _ _ _ _ _ _ _ (hm _) (hm _) (hm _) (hm _) (hm _) (hm _) (hm _) (hm _), ← bytesBE_f64]
  exact congrArg _ (congrArg _ (ofBE_beBytes_of_lt 8 b hb))

theorem f32ReadCore_bytes (b : Nat) (hb : b < 2 ^ 32) :
    f32ReadCore (b / 16777216 % 256) (b / 65536 % 256) (b / 256 % 256) (b % 256) = f32.ofDy (f32.toDy b) :=
  (f32ReadCoreWith_bytes false b hb).trans (readFields_current f32 0 b)

theorem f64ReadCore_bytes (b : Nat) (hb : b < 2 ^ 64) :
    f64ReadCore (b / 72057594037927936 % 256) (b / 281474976710656 % 256) (b / 1099511627776 % 256)
        (b / 4294967296 % 256) (b / 16777216 % 256) (b / 65536 % 256) (b / 256 % 256) (b % 256) = f64.ofDy (f64.toDy b) :=
  (f64ReadCoreWith_bytes false b hb).trans (readFields_current f64 (-1023) b)

theorem abs_val (a : Dy) : a.abs.val = a.mag := by simp [Dy.abs, Dy.val, Dy.mag]

theorem flushes_iff (f : Fmt) (b : Nat) (hfin : f.isFinite b = true) :
    flushes f b = true ↔ (f.toDy b).mag < (2 : ℚ) ^ (1 - (f.bias : ℤ)) := by
  unfold flushes
  rw [hfin, Bool.true_and, Dy.lt_iff, abs_val]
  simp [flushBound, Dy.val]

theorem flushes_normal (f : Fmt) (b : Nat) (hn : f.isNormal b = true) : flushes f b = false := by
  have he := (expo_of_normal hn).2
  rw [Bool.eq_false_iff, Ne, flushes_iff f b (finite_of_normal hn), not_lt]
  exact le_trans (zpow2_le (by unfold Fmt.qmin; omega)) (mag_ge_of_normal f b he)

theorem flushes_expo_zero (f : Fmt) (b : Nat) (hfin : f.isFinite b = true) (h0 : f.expo b = 0) : flushes f b = true := by
  rw [flushes_iff f b hfin, show 1 - (f.bias : ℤ) = (f.mbits : ℤ) + f.qmin by unfold Fmt.qmin; omega]
  exact mag_lt_of_subnormal f b h0

theorem toDy_mag_mono (f : Fmt) (a b : Nat)
    (h : f.expo a < f.expo b ∨ (f.expo a = f.expo b ∧ f.frac a ≤ f.frac b)) : (f.toDy a).mag ≤ (f.toDy b).mag := by
  rcases h with h | ⟨he, hfr⟩
  · have hb0 : f.expo b ≠ 0 := by omega
    have hb := mag_ge_of_normal f b hb0
    by_cases ha0 : f.expo a = 0
    · have ha := mag_lt_of_subnormal f a ha0
      have : (2 : ℚ) ^ ((f.mbits : ℤ) + f.qmin) ≤ 2 ^ ((f.mbits : ℤ) + ((f.expo b : ℤ) - 1 + f.qmin)) := zpow2_le (by omega)
      linarith
    · have ha := mag_lt_of_normal f a ha0
      have : (2 : ℚ) ^ (((f.mbits + 1 : Nat) : ℤ) + ((f.expo a : ℤ) - 1 + f.qmin)) ≤ 2 ^ ((f.mbits : ℤ) + ((f.expo b : ℤ) - 1 + f.qmin)) :=
        zpow2_le (by push_cast; omega)
      linarith
  · have hcast : ((f.frac a : ℕ) : ℚ) ≤ (f.frac b : ℚ) := by exact_mod_cast hfr
    by_cases ha0 : f.expo a = 0
    · rw [toDy_subnormal f a ha0, toDy_subnormal f b (by omega)]
      simp only [Dy.mag]
      exact mul_le_mul_of_nonneg_right hcast (le_of_lt (two_zpow_pos _))
    · rw [toDy_normal f a ha0, toDy_normal f b (by omega), he]
      simp only [Dy.mag]
      apply mul_le_mul_of_nonneg_right _ (le_of_lt (two_zpow_pos _))
      push_cast; linarith

theorem toDy_mag_mono_pattern (f : Fmt) (a b : Nat)
    (h : a % 2 ^ (f.ebits + f.mbits) ≤ b % 2 ^ (f.ebits + f.mbits)) : (f.toDy a).mag ≤ (f.toDy b).mag := by
  have fields (x : Nat) : f.expo x = x % 2 ^ (f.ebits + f.mbits) / 2 ^ f.mbits ∧
      f.frac x = x % 2 ^ (f.ebits + f.mbits) % 2 ^ f.mbits := by
    rw [Nat.add_comm, pow_add, Nat.mod_mul_right_div_self, Nat.mod_mul_right_mod]
    exact ⟨rfl, rfl⟩
  apply toDy_mag_mono
  rw [(fields a).1, (fields a).2, (fields b).1, (fields b).2]
  generalize a % 2 ^ (f.ebits + f.mbits) = x, b % 2 ^ (f.ebits + f.mbits) = y at h
  rcases Nat.lt_or_eq_of_le (Nat.div_le_div_right (c := 2 ^ f.mbits) h) with hq | hq
  · exact Or.inl hq
  · refine Or.inr ⟨hq, ?_⟩
    rw [← Nat.div_add_mod x (2 ^ f.mbits), ← Nat.div_add_mod y (2 ^ f.mbits), hq] at h
    exact Nat.le_of_add_le_add_left h

/-- a comparison `|x| < B` of the writers, in bit terms: true exactly below the magnitude pattern t at which it turns false
    (the magnitude grows with the pattern, `toDy_mag_mono_pattern`); the two hypotheses about t are evaluations -/
theorem abs_lt_iff_pattern_lt (f : Fmt) (B : Dy) (t b : Nat) (ht : 0 < t) (htop : t ≤ 2 ^ (f.ebits + f.mbits))
    (hlo : (f.toDy (t - 1)).abs.lt B = true) (hhi : (f.toDy t).abs.lt B = false) :
    (f.toDy b).abs.lt B = true ↔ b % 2 ^ (f.ebits + f.mbits) < t := by
  rw [Dy.lt_iff, abs_val] at hlo ⊢
  rw [← Bool.not_eq_true, Dy.lt_iff, abs_val] at hhi
  constructor
  · intro h
    by_contra hc
    have := toDy_mag_mono_pattern f t b (le_trans (Nat.mod_le _ _) (Nat.le_of_not_lt hc))
    exact hhi (lt_of_le_of_lt this h)
  · intro h
    have := toDy_mag_mono_pattern f b (t - 1) (by rw [Nat.mod_eq_of_lt (by omega : t - 1 < _)]; omega)
    exact lt_of_le_of_lt this hlo

/-! ### the repaired writers (`f32WriteFields` / `f64WriteFields`: no early return, exponent field 0 encoded) -/

/-- the repaired `float32_*_write` computes the IEEE fields of a normal value … -/
theorem f32WriteFields_normal (b : Nat) (hn : f32.isNormal b = true) :
    f32WriteFields b = ((if f32.sign b then 1 else 0), f32.expo b, f32.frac b) := by
  have hfr : f32.frac b < 2 ^ 23 := frac_lt f32 b
  have hL : bitLen (2 ^ 23 + f32.frac b) = 24 := bitLen_unique _ _ (by simp) (by omega) (by omega)
  unfold f32WriteFields
  simp only [finite_of_normal hn, flushes_normal f32 b hn, Bool.not_true, Bool.false_eq_true, if_false]
  rw [toDy_normal f32 b (expo_of_normal hn).2]
  simp only [frexpOf, show f32.mbits = 23 from rfl, hL]
  have hq : f32.qmin = -149 := by decide
  rw [Prod.mk.injEq]
  refine ⟨rfl, ?_⟩
  rw [Prod.mk.injEq]
  constructor
  · rw [hq]; push_cast; omega
  · omega

/-- … and of a zero or subnormal value: sign bit, exponent field 0, the fraction field itself -/
theorem f32WriteFields_tiny (b : Nat) (hfin : f32.isFinite b = true) (h0 : f32.expo b = 0) :
    f32WriteFields b = ((if f32.sign b then 1 else 0), 0, f32.frac b) := by
  have hfl := flushes_expo_zero f32 b hfin h0
  have hfr : f32.frac b < 2 ^ 23 := frac_lt f32 b
  have hq : f32.qmin = -149 := by decide
  unfold f32WriteFields
  simp only [hfin, hfl, Bool.not_true, Bool.false_eq_true, if_false, if_true]
  rw [toDy_subnormal f32 b h0, hq]
  simp only [truncScaled]
  norm_num
  omega

theorem f64WriteFields_normal (b : Nat) (hn : f64.isNormal b = true) :
    f64WriteFields b = ((if f64.sign b then 1 else 0), f64.expo b, 2 ^ 28 + f64.frac b / 2 ^ 24, f64.frac b % 2 ^ 24) := by
  have hfr : f64.frac b < 2 ^ 52 := frac_lt f64 b
  have hL : bitLen (2 ^ 52 + f64.frac b) = 53 := bitLen_unique _ _ (by simp) (by omega) (by omega)
  unfold f64WriteFields
  simp only [finite_of_normal hn, flushes_normal f64 b hn, Bool.not_true, Bool.false_eq_true, if_false]
  rw [toDy_normal f64 b (expo_of_normal hn).2]
  simp only [frexpOf, show f64.mbits = 52 from rfl, hL]
  have hq : f64.qmin = -1074 := by decide
  rw [Prod.mk.injEq]
  refine ⟨rfl, ?_⟩
  rw [Prod.mk.injEq]
  constructor
  · rw [hq]; push_cast; omega
  · rw [Prod.mk.injEq]
    constructor <;> omega

/-- zero or subnormal double: exponent field 0, upper integer = the top 28 fraction bits WITHOUT hidden bit, lower = the low 24 -/
theorem f64WriteFields_tiny (b : Nat) (hfin : f64.isFinite b = true) (h0 : f64.expo b = 0) :
    f64WriteFields b = ((if f64.sign b then 1 else 0), 0, f64.frac b / 2 ^ 24, f64.frac b % 2 ^ 24) := by
  have hfl := flushes_expo_zero f64 b hfin h0
  have hq : f64.qmin = -1074 := by decide
  unfold f64WriteFields
  simp only [hfin, hfl, Bool.not_true, Bool.false_eq_true, if_false, if_true]
  rw [toDy_subnormal f64 b h0, hq]
  simp only [splitScaled]
  norm_num
  have h24 : Int.toNat 24 = 24 := rfl
  rw [h24]
  constructor <;> omega

/-! ### the writers with an early `return` (`f32WriteFieldsWith` / `f64WriteFieldsWith`) -/

/-- where neither its own rule nor the repaired writer's `in < FLT_MIN` test applies, a writer with an early `return`
    computes the fields of the repaired writer -/
theorem f32WriteFieldsWith_eq (fl : Nat → Bool) (b : Nat) (hfin : f32.isFinite b = true) (hfl : fl b = false)
    (hn : flushes f32 b = false) : f32WriteFieldsWith fl b = some (f32WriteFields b) := by
  unfold f32WriteFieldsWith f32WriteFields
  simp only [hfin, hfl, hn, Bool.not_true, Bool.false_eq_true, if_false, toDy_neg]

theorem f64WriteFieldsWith_eq (fl : Nat → Bool) (b : Nat) (hfin : f64.isFinite b = true) (hfl : fl b = false)
    (hn : flushes f64 b = false) : f64WriteFieldsWith fl b = some (f64WriteFields b) := by
  unfold f64WriteFieldsWith f64WriteFields
  simp only [hfin, hfl, hn, Bool.not_true, Bool.false_eq_true, if_false, toDy_neg]

end Sf.Ieee
