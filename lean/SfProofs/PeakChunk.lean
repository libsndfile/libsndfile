/-
  SfProofs.PeakChunk — the WAV / RIFX / AIFF PEAK chunk, with the value field written by any rule `wr` (`chunk32 wr`, which is
  `Sf.Peak.chunkBytes` at `Sf.wrF32` and `Sf.PeakExact.chunkBytes` at `Sf.PeakExact.wrF32`, both by unfolding), parses back
  (`Sf.Peak.parseChunk`) to what such a chunk can hold: the binary32 of the value as `wr` stores it and the low 32 bits of the
  position.  No theorem here is about the CAF chunk (64-bit positions, `held64`).
-/
import SfProofs.HandleBytes
import SfModel.Peak
namespace Sf.Peak
open Sf

/-- what a WAV / AIFF chunk entry holds of a PEAK record -/
def held32 (p : Peak) : Peak :=
  { value := Float.f32to64 (wrapU 32 (wrF32 (Float.f64to32 p.value))), position := wrapU 32 p.position }

/-- what a CAF chunk entry holds -/
def held64 (p : Peak) : Peak :=
  { value := Float.f32to64 (wrapU 32 (wrF32 (Float.f64to32 p.value))), position := sext 64 (wrapU 64 p.position) }

/-- a WAV / AIFF chunk entry whose value field is written by the rule `wr` (`Sf.wrF32`, or the rule of SfModel/PeakExact.lean) -/
def entryWith (wr : Nat → Nat) (big : Bool) (p : Peak) : List Byte := u32 big (wr (Float.f64to32 p.value)) ++ u32 big p.position

/-- what the reader makes of `entryWith wr big p`; `held32 = heldWith wrF32` by `rfl`, which is how the theorems stated with
    `held32` are proved from the lemmas below -/
def heldWith (wr : Nat → Nat) (p : Peak) : Peak :=
  { value := Float.f32to64 (wrapU 32 (wr (Float.f64to32 p.value))), position := wrapU 32 p.position }

/-- 'PEAK' size version timestamp, then one entry per channel: WAV (RIFF and RIFX) and AIFF -/
def chunk32 (wr : Nat → Nat) (big : Bool) (ch : Nat) (ps : List Peak) : List Byte :=
  marker "PEAK" ++ u32 big (8 + 8 * ch) ++ u32 big 1 ++ u32 big 1000000000 ++ ps.flatMap (entryWith wr big)

theorem parsePeaks_entries (wr : Nat → Nat) (big : Bool) (post : List Byte) : ∀ (ps : List Peak) (pre : List Byte),
    parsePeaks big (pre ++ (ps.flatMap (entryWith wr big) ++ post)) pre.length ps.length = ps.map (heldWith wr) := by
  intro ps
  induction ps with
  | nil => intro pre; rfl
  | cons p ps ih =>
    intro pre
    have u4 := fun v : Int => u32_length big v
    have e : pre ++ ((p :: ps).flatMap (entryWith wr big) ++ post) =
        (pre ++ entryWith wr big p) ++ (ps.flatMap (entryWith wr big) ++ post) := by
      simp only [List.flatMap_cons, List.append_assoc]
    have hl : pre.length + 8 = (pre ++ entryWith wr big p).length := by simp only [entryWith, List.length_append, u4]
    simp only [List.length_cons, parsePeaks, List.map_cons]
    rw [hl, ← ih (pre ++ entryWith wr big p), ← e]
    simp only [List.flatMap_cons, entryWith, List.append_assoc]
    rw [(rd32_of_At ((FieldAt.head _ _).skip pre _ rfl) : rd32 big _ pre.length = _),
      (rd32_of_At (FieldAt.head _ _ |>.skip _ _ (u4 _) |>.skip pre _ rfl) : rd32 big _ (pre.length + 4) = _)]
    rfl

/-- `hch`: 1024 is SF_MAX_CHANNELS, the most `sf_open` accepts; all the proof needs is that the size field `8 + 8 * ch` fits
    32 bits -/
theorem chunk_parse_32 (wr : Nat → Nat) (big : Bool) (ch : Nat) (ps : List Peak) (hl : ps.length = ch) (hch : ch ≤ 1024) :
    rd32 big (chunk32 wr big ch ps) 4 = 8 + 8 * ch ∧ parsePeaks big (chunk32 wr big ch ps) 16 ch = ps.map (heldWith wr) := by
  subst hl
  have u4 := fun v : Int => u32_length big v
  have hm : (marker "PEAK").length = 4 := rfl
  unfold chunk32
  simp only [List.append_assoc]
  constructor
  · exact u32_small (v := 8 + 8 * ps.length) (by omega) ((FieldAt.head _ _).skip _ _ hm)
  · have := parsePeaks_entries wr big [] ps (marker "PEAK" ++ (u32 big (8 + 8 * ps.length) ++ (u32 big 1 ++ u32 big 1000000000)))
    simpa only [List.length_append, hm, u4, List.append_assoc, List.append_nil] using this

theorem parseChunk_chunk32 (wr : Nat → Nat) (k : Kind) (big : Bool) (hk : k = .wavLE ∧ big = false ∨ (k = .wavBE ∨ k = .aiff) ∧ big = true)
    (ch : Nat) (ps : List Peak) (hl : ps.length = ch) (hch : ch ≤ 1024) :
    parseChunk k ch (chunk32 wr big ch ps) = some (ps.map (heldWith wr)) := by
  obtain ⟨h1, h2⟩ := chunk_parse_32 wr big ch ps hl hch
  rcases hk with ⟨rfl, rfl⟩ | ⟨rfl | rfl, rfl⟩ <;> simp only [parseChunk, h1, h2, bne_self_eq_false, Bool.false_eq_true, if_false]

end Sf.Peak
