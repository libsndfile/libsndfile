/-
  Accepted RDWR histories refine the abstract file of property C08 (SfProofs/RdwrSpec.lean).

  The ITEM VIEW of an abstract state for a caller type `ty`:  ⟨cells of `ref ty`, rpos·cpf, wpos·cpf⟩ as an `AbsFile Item`
  (the "frames" of that abstract file are cells; a frame of the handle is `cpf = channels · cells ty` of them, so offsets
  scale by `cpf`).  `Abs.writeAt` mirrors `AbsFile.write`, the truncation rule mirrors `AbsFile.truncate`, an accepted read
  delivers what `AbsFile.read` delivers, an accepted (not refused) seek is `AbsFile.seek`.
-/
import SfProofs.AbsRun
import SfProofs.RdwrCalls
import SfProofs.AbsWriteLemmas
namespace Sf.Abs
open Sf

/-- the item view of an abstract state -/
def view (g : Geom) (st : St) (ty : Ty) : AbsFile Item :=
  { frames := (st.ref ty).toList, rpos := st.rpos * g.cpf ty, wpos := st.wpos * g.cpf ty }

theorem toList_upTo (a : Array Item) (p : Nat) : (upTo 0 a p).toList = AbsFile.upTo 0 a.toList p := by
  unfold upTo AbsFile.upTo
  rw [Array.toList_append, Array.toList_extract, Array.toList_replicate, List.extract_eq_take_drop]
  simp

theorem toList_writeAt (a : Array Item) (p : Nat) (d : Array Item) :
    (writeAt 0 a p d).toList = AbsFile.upTo 0 a.toList p ++ d.toList ++ a.toList.drop (p + d.size) := by
  unfold writeAt
  rw [Array.toList_append, Array.toList_append, toList_upTo, Array.toList_extract, List.extract_eq_take_drop]
  congr 1
  rw [List.take_of_length_le (by simp)]

/-- frames a valid request asks for -/
def reqFrames (g : Geom) (fc : Bool) (n : Int) : Nat := reqItems g fc n / g.ch

theorem retItems_lt (g : Geom) (fc : Bool) (r n : Int) (hch : 0 < g.ch) (h0 : 0 ≤ r) (h : r < n) :
    retItems g fc r < reqItems g fc n := by
  unfold retItems reqItems
  cases fc
  · simp only [Bool.false_eq_true, if_false]; omega
  · simp only [if_true]; exact Nat.mul_lt_mul_of_pos_right (by omega) hch

theorem reqItems_whole (g : Geom) (fc : Bool) (n : Int) (hv : validReq g fc n = true) : reqItems g fc n % g.ch = 0 := by
  unfold validReq at hv
  unfold reqItems
  cases fc
  · simp only [Bool.false_eq_true, if_false, Bool.false_or, Bool.and_eq_true, decide_eq_true_eq, beq_iff_eq] at hv ⊢
    obtain ⟨h1, h2⟩ := hv
    have : ((n.toNat % g.ch : Nat) : Int) = 0 := by
      rw [Int.natCast_emod, Int.toNat_of_nonneg (by omega)]; exact h2
    omega
  · simp only [if_true]; exact Nat.mul_mod_left _ _

/-- at or behind the end nothing is delivered; in front of it the answer is the whole frames among min (asked, left), and the
    clause of `readOk` on the data is the slice `AbsFile.read` takes -/
theorem read_refines (g : Geom) (st : St) (ty : Ty) (fc : Bool) (n : Int) (o : Out) (st' : St)
    (hr : ReadReq g st fc n) (hs : (st.ref ty).size = st.frames * g.cpf ty)
    (h : readOk g st ty fc n o = .ok st') :
    (st.valid ty = true →
      (o.data.extract 0 (retItems g fc o.ret * cells ty)).toList = ((view g st ty).read (reqFrames g fc n * g.cpf ty)).1) ∧
    view g st' ty = ((view g st ty).read (reqFrames g fc n * g.cpf ty)).2 ∧
    st'.frames = st.frames ∧ st'.ref = st.ref ∧ st'.valid = st.valid ∧ st'.mode = st.mode := by
  obtain ⟨h0, h1, hw, hsz, he, heof, hmain⟩ := readOk_valid g st ty fc n o st' hr h
  have hlen : (st.ref ty).toList.length = st.frames * g.cpf ty := by rw [Array.length_toList, hs]
  unfold view AbsFile.read
  simp only
  by_cases hend : st.frames ≤ st.rpos
  · obtain ⟨hz, _, hst⟩ := heof hend
    subst hst
    have hd : List.drop (st.rpos * g.cpf ty) (st.ref ty).toList = [] :=
      List.drop_of_length_le (by rw [hlen]; exact Nat.mul_le_mul_right _ hend)
    have hri : retItems g fc o.ret = 0 := by unfold retItems; rw [hz]; simp
    rw [hd, hri]
    simp
  · obtain ⟨hst, hin, hdat, hshort⟩ := hmain (by omega)
    subst hst
    have hwc := whole_frames_cells g ty (retItems g fc o.ret) hw
    have hk : retItems g fc o.ret / g.ch = min (reqFrames g fc n) (st.frames - st.rpos) := by
      have hle := retItems_le g fc o.ret n h1
      have hle' : retItems g fc o.ret / g.ch ≤ reqFrames g fc n := Nat.div_le_div_right hle
      by_cases hlt : o.ret < n
      · have := hshort hlt; omega
      · have : o.ret = n := by omega
        have : retItems g fc o.ret = reqItems g fc n := by rw [this]; unfold retItems reqItems; rfl
        unfold reqFrames; rw [← this]; omega
    have hgl : ((List.drop (st.rpos * g.cpf ty) (st.ref ty).toList).take (reqFrames g fc n * g.cpf ty)).length =
        retItems g fc o.ret / g.ch * g.cpf ty := by
      rw [List.length_take, List.length_drop, hlen, ← Nat.sub_mul, hk, Nat.mul_min_mul_right]
    refine ⟨fun hv => ?_, ?_, rfl, rfl, rfl, rfl⟩
    · have hsl := sliceEq_extract _ _ _ _ _ (hdat hv)
      rw [Nat.zero_add] at hsl
      rw [hsl, hwc, Array.toList_extract, List.extract_eq_take_drop, Nat.add_sub_cancel_left]
      apply List.take_eq_take_iff.mpr
      rw [List.length_drop, hlen, ← Nat.sub_mul, hk, Nat.mul_min_mul_right, Nat.min_assoc, Nat.min_self, Nat.mul_min_mul_right]
    · rw [hgl, Nat.add_mul]

theorem write_refines (g : Geom) (st : St) (ty : Ty) (fc : Bool) (n : Int) (data : Array Item) (o : Out) (st' : St)
    (hch : 0 < g.ch) (hr : WriteReq g st fc n) (hio : g.ioMayFail = false) (h : writeOk g st ty fc n data o = .ok st') :
    o.ret = n ∧ view g st' ty = (view g st ty).write 0 (data.extract 0 (reqItems g fc n * cells ty)).toList ∧
    st'.frames = max st.frames (st.wpos + reqFrames g fc n) ∧ st'.mode = st.mode ∧
    (st'.ref ty).size = max (st.ref ty).size (st.wpos * g.cpf ty + reqFrames g fc n * g.cpf ty) ∧
    st'.valid ty = (g.lossless ty && st.valid ty && (decide (st.wpos ≤ st.frames) || g.holeZero ty)) := by
  obtain ⟨h0, h1, hw, hsz, hfull, _, hrp, hmo, hwp, _, hpos⟩ := writeOk_valid g st ty fc n data o st' hr h
  have hret := hfull hio
  have hcells : 0 < cells ty := by cases ty <;> decide
  have hri : retItems g fc o.ret = reqItems g fc n := by rw [hret]; unfold retItems reqItems; rfl
  have hn := validReq_pos hr.1
  have hwhole := reqItems_whole g fc n hr.1
  have hri0 : 0 < reqItems g fc n := by
    unfold reqItems; cases fc
    · simp only [Bool.false_eq_true, if_false]; omega
    · simp only [if_true]; exact Nat.mul_pos (by omega) hch
  have hkpos : 0 < reqItems g fc n / g.ch := by
    have := Nat.div_add_mod (reqItems g fc n) g.ch
    rw [hwhole] at this
    rcases Nat.eq_zero_or_pos (reqItems g fc n / g.ch) with hz | hz
    · rw [hz] at this; omega
    · exact hz
  rw [hri] at hpos hwp
  obtain ⟨hfr, href, hval⟩ := hpos hkpos
  have hcc := whole_frames_cells g ty (reqItems g fc n) hwhole
  have hes : (data.extract 0 (reqItems g fc n * cells ty)).size = reqFrames g fc n * g.cpf ty := by
    rw [Array.size_extract, Nat.min_eq_left hsz, Nat.sub_zero, hcc]; rfl
  have hne : (data.extract 0 (reqItems g fc n * cells ty)).toList ≠ [] := by
    intro hx
    have : (data.extract 0 (reqItems g fc n * cells ty)).toList.length = 0 := by rw [hx]; rfl
    rw [Array.length_toList, hes] at this
    have := Nat.mul_pos hkpos (Nat.mul_pos hch hcells)
    unfold reqFrames Geom.cpf at *
    omega
  refine ⟨hret, ?_, by rw [hfr, hwp]; rfl, hmo, ?_, hval⟩
  · unfold view AbsFile.write
    simp only
    rw [if_neg hne, href, toList_writeAt, Array.length_toList, hes, hwp, Nat.add_mul, hrp]
    rfl
  · rw [href, size_writeAt, hes]

theorem seek_refines (g : Geom) (st : St) (ty : Ty) (w : Whence) (p : Ptr) (off : Int) (o : Out) (st' : St)
    (hm : st.mode = .rw) (hs : (st.ref ty).size = st.frames * g.cpf ty)
    (h : seekOk g st off (whenceCode w p) o = .ok st') (hk : o.ret ≠ -1) :
    ((view g st ty).seek w p (off * (g.cpf ty : Int))).1 = o.ret * (g.cpf ty : Int) ∧
    view g st' ty = ((view g st ty).seek w p (off * (g.cpf ty : Int))).2 ∧
    st'.frames = st.frames ∧ st'.ref = st.ref ∧ st'.valid = st.valid ∧ st'.mode = st.mode := by
  rcases seekOk_ok g st off _ o st' h with ⟨a, _, _⟩ | ⟨t, _, ht, hr, _, hst⟩
  · exact absurd a hk
  obtain ⟨b, hb, htb, _, _, _⟩ := seekTarget_some st off _ t ht
  obtain ⟨f1, f2, f3, f4⟩ := seekMove_frames st (whenceCode w p) t
  subst hst
  have hlen : (st.ref ty).toList.length = st.frames * g.cpf ty := by rw [Array.length_toList, hs]
  have hbase : (view g st ty).base w p = (b : Int) * (g.cpf ty : Int) := by
    unfold view AbsFile.base
    cases w <;> cases p <;>
      simp [seekBase, whenceCode, hm] at hb <;> subst hb <;> simp [hlen]
  have htgt : (view g st ty).base w p + off * (g.cpf ty : Int) = (t : Int) * (g.cpf ty : Int) := by
    rw [hbase, htb, Int.add_mul]
  have hnn : ¬ ((t : Int) * (g.cpf ty : Int) < 0) := by
    have : (0 : Int) ≤ (t : Int) * (g.cpf ty : Int) := Int.mul_nonneg (by omega) (by omega)
    omega
  have htn : ((t : Int) * (g.cpf ty : Int)).toNat = t * g.cpf ty := by
    rw [← Int.natCast_mul, Int.toNat_natCast]
  unfold AbsFile.seek
  simp only [htgt, hnn, if_false, htn]
  refine ⟨by rw [hr], ?_, f1, f3, f4, f2⟩
  unfold view
  rw [f3]
  cases p
  · rw [seekMove_plain_rw st _ t (by cases w <;> simp [seekQual, whenceCode]) hm]
  · rw [seekMove_rd st _ t (by cases w <;> simp [seekQual, whenceCode])]
  · rw [seekMove_wr st _ t (by cases w <;> simp [seekQual, whenceCode])]

theorem trunc_refines (g : Geom) (st : St) (ty : Ty) (n : Int) (o : Out) (st' : St)
    (hm : st.mode ≠ .r) (hc : g.canTrunc = true) (hn : 0 ≤ n) (h : truncOk g st n o = .ok st') :
    o.ret = 0 ∧ view g st' ty = (view g st ty).truncate 0 (n.toNat * g.cpf ty) ∧ st'.frames = n.toNat ∧ st'.mode = st.mode ∧
    (st'.ref ty).size = n.toNat * g.cpf ty ∧
    st'.valid ty = (st.valid ty && (decide (n.toNat ≤ st.frames) || g.holeZero ty)) := by
  obtain ⟨⟨hr, _⟩, rfl⟩ := (truncOk_eq_ok_iff g st n o st' hm hc hn).mp h
  refine ⟨hr, ?_, rfl, rfl, size_upTo 0 _ _, rfl⟩
  unfold view AbsFile.truncate
  rw [afterTrunc_ref, toList_upTo]
  rfl

end Sf.Abs
