/-
  Accumulations of the GSM 06.10 ENCODER in `int32_t` (`longword`): helper lemmas showing that a fold
  `acc = (int32) (acc + p)` is the exact sum as long as the bounds of the terms fit, that a product of two values below 2^12
  survives the `float` detour of the USE_FLOAT_MUL build unchanged, and `maxAbs`.  For SfProps/C07GsmEncSums.lean.
-/
import SfProofs.GsmSpec
namespace Sf.Gsm.EncSums
open Sf Sf.Gsm Sf.Gsm.Proofs Sf.Gsm.Spec

/-- **the wrapping accumulation is the exact sum** while `A + n · M` fits an `int32_t`; the sum stays within `A + n · M` -/
theorem foldl_w32_exact (M : Int) (hM : 0 ≤ M) : ∀ (l : List Int) (acc A : Int), (∀ p ∈ l, -M ≤ p ∧ p ≤ M) → -A ≤ acc ∧ acc ≤ A →
    A + (l.length : Int) * M ≤ 2147483647 →
    l.foldl (fun a p => w32 (a + p)) acc = l.foldl (· + ·) acc ∧
    -(A + (l.length : Int) * M) ≤ l.foldl (· + ·) acc ∧ l.foldl (· + ·) acc ≤ A + (l.length : Int) * M := by
  intro l
  induction l with
  | nil =>
    intro acc A _ ha _
    simp only [List.foldl_nil, List.length_nil, Nat.cast_zero, zero_mul, add_zero]
    exact ⟨trivial, by omega, by omega⟩
  | cons p ps ih =>
    intro acc A hp ha hfit
    have hp0 := hp p (by simp)
    have hlen : ((p :: ps).length : Int) * M = (ps.length : Int) * M + M := by
      rw [List.length_cons]; push_cast; ring
    rw [hlen] at hfit ⊢
    have hnn : 0 ≤ (ps.length : Int) * M := mul_nonneg (by positivity) hM
    simp only [List.foldl_cons]
    rw [w32_id (acc + p) (by omega)]
    obtain ⟨i1, i2, i3⟩ := ih (acc + p) (A + M) (fun q hq => hp q (by simp [hq])) (by omega) (by omega)
    exact ⟨i1, by omega, by omega⟩

/-- at most `n` squares of values within ±B accumulated in an `int32_t` and then doubled (`<<= 1`): exact while
    `2 n B²` fits -/
theorem sumsq_w32 (l : List Int) (B n : Int) (hb : ∀ t ∈ l, -B ≤ t ∧ t ≤ B) (hlen : (l.length : Int) ≤ n)
    (hfit : 2 * (n * (B * B)) ≤ 2147483647) :
    w32 (2 * l.foldl (fun acc t => w32 (acc + t * t)) 0) = 2 * (l.map fun t => t * t).foldl (· + ·) 0 ∧
    0 ≤ (l.map fun t => t * t).foldl (· + ·) 0 ∧ (l.map fun t => t * t).foldl (· + ·) 0 ≤ n * (B * B) := by
  have hB : 0 ≤ B * B := mul_self_nonneg B
  have hnB : (l.length : Int) * (B * B) ≤ n * (B * B) := Int.mul_le_mul_of_nonneg_right hlen hB
  have hterm : ∀ p ∈ l.map (fun t => t * t), -(B * B) ≤ p ∧ p ≤ B * B := by
    intro p hp
    obtain ⟨t, ht, rfl⟩ := List.mem_map.mp hp
    exact mul_bound t t B B (hb t ht) (hb t ht)
  have hpos : 0 ≤ (l.map fun t => t * t).foldl (· + ·) 0 := by
    rw [← List.sum_eq_foldl]
    exact List.sum_nonneg (fun p hp => by obtain ⟨t, _, rfl⟩ := List.mem_map.mp hp; exact mul_self_nonneg t)
  obtain ⟨e1, _, e3⟩ := foldl_w32_exact (B * B) hB (l.map fun t => t * t) 0 0 hterm (by omega)
    (by rw [List.length_map]; omega)
  rw [List.length_map] at e3
  have hfm : l.foldl (fun acc t => w32 (acc + t * t)) 0 = (l.map fun t => t * t).foldl (fun a p => w32 (a + p)) 0 := by
    rw [List.foldl_map]
  rw [hfm, e1, w32_id _ (by omega)]
  exact ⟨rfl, hpos, by omega⟩

/-- the same with a fixed coefficient list: terms `a · h`, |a| ≤ 32768, the bound is 32768 · Σ |h| -/
theorem foldl_w32_weighted : ∀ (hs as : List Int) (acc A : Int), (∀ a ∈ as, -32768 ≤ a ∧ a ≤ 32768) → -A ≤ acc ∧ acc ≤ A →
    A + 32768 * ((hs.map fun h => (h.natAbs : Int)).sum) ≤ 2147483647 →
    (List.zipWith (· * ·) as hs).foldl (fun a p => w32 (a + p)) acc = (List.zipWith (· * ·) as hs).foldl (· + ·) acc ∧
    -(A + 32768 * ((hs.map fun h => (h.natAbs : Int)).sum)) ≤ (List.zipWith (· * ·) as hs).foldl (· + ·) acc ∧
    (List.zipWith (· * ·) as hs).foldl (· + ·) acc ≤ A + 32768 * ((hs.map fun h => (h.natAbs : Int)).sum) := by
  intro hs
  induction hs with
  | nil =>
    intro as acc A _ ha _
    simp only [List.zipWith_nil_right, List.foldl_nil, List.map_nil, List.sum_nil, mul_zero, add_zero]
    exact ⟨trivial, by omega, by omega⟩
  | cons h hs ih =>
    intro as acc A hb ha hfit
    have hsn : 0 ≤ ((hs.map fun h => (h.natAbs : Int)).sum) := List.sum_nonneg (by
      intro x hx; obtain ⟨y, _, rfl⟩ := List.mem_map.mp hx; positivity)
    simp only [List.map_cons, List.sum_cons] at hfit ⊢
    cases as with
    | nil =>
      simp only [List.zipWith_nil_left, List.foldl_nil]
      exact ⟨trivial, by omega, by omega⟩
    | cons a as =>
      have ha0 := hb a (by simp)
      have habs := mul_bound a h 32768 h.natAbs ha0 (by omega)
      simp only [List.zipWith_cons_cons, List.foldl_cons]
      rw [w32_id (acc + a * h) (by omega)]
      obtain ⟨i1, i2, i3⟩ := ih as (acc + a * h) (A + 32768 * (h.natAbs : Int)) (fun q hq => hb q (by simp [hq])) (by omega) (by omega)
      exact ⟨i1, by omega, by omega⟩

/-- an integer below 2^24 in magnitude is a binary32 value: the `(float)` conversion and back is the identity -/
theorem f32r_exact (x : Int) (h : x.natAbs < 2 ^ 24) : f32r x = x := by
  unfold f32r
  simp only [bitlen_le _ 24 (by decide) h, if_true]

theorem gabs_range (x : Int) (h : W16 x) : 0 ≤ gabs x ∧ gabs x ≤ 32767 := by
  unfold W16 at h; unfold gabs; split <;> (try split) <;> omega

theorem foldl_max_spec : ∀ (l : List Int) (m : Int), 0 ≤ m → m ≤ 32767 → AllW16 l →
    m ≤ l.foldl (fun m x => if gabs x > m then gabs x else m) m ∧ l.foldl (fun m x => if gabs x > m then gabs x else m) m ≤ 32767 ∧
    ∀ x ∈ l, gabs x ≤ l.foldl (fun m x => if gabs x > m then gabs x else m) m := by
  intro l
  induction l with
  | nil => intro m h0 h1 _; exact ⟨Int.le_refl _, h1, by intro x hx; cases hx⟩
  | cons y ys ih =>
    intro m h0 h1 hw
    have hy := gabs_range y (hw y (by simp))
    simp only [List.foldl_cons]
    have hws : AllW16 ys := fun x hx => hw x (by simp [hx])
    by_cases hg : gabs y > m
    · simp only [hg, if_true]
      obtain ⟨a, b, c⟩ := ih (gabs y) hy.1 hy.2 hws
      refine ⟨by omega, b, ?_⟩
      intro x hx
      rcases List.mem_cons.mp hx with rfl | hx
      · exact a
      · exact c x hx
    · simp only [hg, if_false]
      obtain ⟨a, b, c⟩ := ih m h0 h1 hws
      refine ⟨a, b, ?_⟩
      intro x hx
      rcases List.mem_cons.mp hx with rfl | hx
      · omega
      · exact c x hx

theorem maxAbs_spec (l : List Int) (hw : AllW16 l) : 0 ≤ maxAbs l ∧ maxAbs l ≤ 32767 ∧ ∀ x ∈ l, gabs x ≤ maxAbs l := by
  obtain ⟨a, b, c⟩ := foldl_max_spec l 0 (by omega) (by omega) hw
  exact ⟨a, b, c⟩

theorem of_gabs_le (x m : Int) (h : W16 x) (hg : gabs x ≤ m) : -(m + 1) ≤ x ∧ x ≤ m := by
  unfold W16 at h
  unfold gabs at hg
  split at hg
  · omega
  · split at hg <;> omega

end Sf.Gsm.EncSums
