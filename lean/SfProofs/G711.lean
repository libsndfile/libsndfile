/-
  G.711: the segment of a magnitude is the position of its leading one.  `segIdx` finds it by walking the eight segment ends;
  said with `Nat.log2` the two compressors are closed forms (`ulawEncLog`, `alawEncLog`), which is what the encode tables of the
  library are evaluated against (SfProps/C20.lean) and what the quantiser bound rests on (SfProps/C20Quant.lean).
  At the end: the short and int entry points as sign and magnitude over a power of two.
-/
import SfModel.G711
namespace Sf.G711

/-- Over the segment ends `2^(b+1) - 1, …, 2^(b+n+1) - 1`, `segIdx` is the position of the leading one of `v` above bit `b`
    (0 when `v < 2^b`). -/
theorem segIdx_pow2 (v n b s : Nat) (hi : v < 2 ^ (n + b + 1))
    (hs : segIdx v ((List.range' (b + 1) (n + 1)).map (2 ^ · - 1)) = s) :
    s ≤ n ∧ v < 2 ^ (s + b + 1) ∧ (0 < s ∨ 2 ^ b ≤ v → 2 ^ (s + b) ≤ v) := by
  have hp : 0 < 2 ^ (b + 1) := Nat.two_pow_pos _
  rw [List.range'_succ, List.map_cons, segIdx] at hs
  split at hs
  · subst hs
    rw [Nat.zero_add]
    exact ⟨by omega, by omega, by omega⟩
  · cases n with
    | zero => rw [Nat.zero_add] at hi; omega
    | succ n =>
      rw [show n + 1 + b + 1 = n + (b + 1) + 1 by omega] at hi
      obtain ⟨ih1, ih2, ih3⟩ := segIdx_pow2 v n (b + 1) _ hi rfl
      subst hs
      generalize segIdx v _ = s at *
      rw [show 1 + s + b = s + (b + 1) by omega]
      exact ⟨by omega, ih2, fun _ => ih3 (Or.inr (by omega))⟩

theorem segIdx_log2 (v n b : Nat) (hi : v < 2 ^ (n + b + 1)) :
    segIdx v ((List.range' (b + 1) (n + 1)).map (2 ^ · - 1)) = Nat.log2 v - b := by
  obtain ⟨_, h2, h3⟩ := segIdx_pow2 v n b _ hi rfl
  generalize segIdx v _ = s at *
  by_cases hv : v = 0
  · subst hv
    have := Nat.two_pow_pos (s + b)
    rw [show Nat.log2 0 = 0 from rfl]
    omega
  · by_cases hlo : 0 < s ∨ 2 ^ b ≤ v
    · rw [(Nat.log2_eq_iff hv).mpr ⟨h3 hlo, h2⟩]
      omega
    · have := (Nat.log2_lt hv).mpr (show v < 2 ^ b by omega)
      omega

/-- `ulawEncMag` with the segment search replaced by the position of the leading one -/
def ulawEncLog (m : Nat) : Nat :=
  let v := (if m > 8158 then 8158 else m) + 33
  255 - ((Nat.log2 v - 5) * 16 + v / 2 ^ (Nat.log2 v - 5 + 1) % 16)

theorem ulawEncMag_eq_log (m : Nat) : ulawEncMag m = ulawEncLog m := by
  unfold ulawEncMag ulawEncLog
  extract_lets v s
  have hv : v < 2 ^ (7 + 5 + 1) := by show (if m > 8158 then 8158 else m) + 33 < 8192; split <;> omega
  have hs : s = Nat.log2 v - 5 := segIdx_log2 v 7 5 hv
  have hl := (Nat.log2_lt (show v ≠ 0 by show (if m > 8158 then 8158 else m) + 33 ≠ 0; omega)).mpr hv
  rw [hs, if_neg (by omega)]

/-- `alawEncMag` likewise; segments 0 and 1 keep the four low bits, which is `m / 2^(s-1) % 16` with natural subtraction -/
def alawEncLog (m : Nat) : Nat :=
  if Nat.log2 m - 3 ≥ 8 then Nat.xor 0x7F 0xD5
  else Nat.xor ((Nat.log2 m - 3) * 16 + m / 2 ^ (Nat.log2 m - 3 - 1) % 16) 0xD5

theorem alawEncMag_eq_log (m : Nat) (hm : m ≤ 2048) : alawEncMag m = alawEncLog m := by
  rcases Nat.lt_or_eq_of_le hm with hlt | rfl
  · unfold alawEncMag alawEncLog
    extract_lets s
    have hs : s = Nat.log2 m - 3 := segIdx_log2 m 7 3 hlt
    rw [← hs]
    split
    · rfl
    · split
      · rw [show s - 1 = 0 by omega, Nat.pow_zero, Nat.div_one]
      · rfl
  · decide

theorem toNat_ediv_two_pow (y : Int) (hy : 0 ≤ y) (k : Nat) : (y / 2 ^ k).toNat = y.natAbs / 2 ^ k := by
  obtain ⟨n, rfl⟩ := Int.eq_ofNat_of_zero_le hy
  rw [show (2 : Int) ^ k = ((2 ^ k : Nat) : Int) by norm_cast]
  exact Int.toNat_natCast _

/-- C's truncating `x / 2^k` and `x / -2^k` are both the floor of the magnitude over `2^k`, for every law and every `x` -/
theorem Law.encS16_floor (l : Law) (x : Int) :
    l.encS16 x = if x ≥ 0 then l.encTab (x / 2 ^ l.shift).toNat else l.encTab (-x / 2 ^ l.shift).toNat % 128 := by
  unfold Law.encS16
  split
  · rw [Int.tdiv_eq_ediv_of_nonneg (by omega)]
  · rw [← Int.neg_tdiv_neg, Int.neg_neg, Int.tdiv_eq_ediv_of_nonneg (by omega)]

theorem Law.encS16_natAbs (l : Law) (s : Int) :
    l.encS16 s = if s ≥ 0 then l.encTab (s.natAbs / 2 ^ l.shift) else l.encTab (s.natAbs / 2 ^ l.shift) % 128 := by
  rw [Law.encS16_floor]
  split
  · rename_i h; rw [toNat_ediv_two_pow s h]
  · rw [toNat_ediv_two_pow (-s) (by omega), Int.natAbs_neg]

theorem Law.encS32_natAbs (l : Law) (x : Int) (hx : x ≠ -2147483648) :
    l.encS32 x = if x ≥ 0 then l.encTab (x.natAbs / 2 ^ (16 + l.shift)) else l.encTab (x.natAbs / 2 ^ (16 + l.shift)) % 128 := by
  unfold Law.encS32 asr
  rw [if_neg hx]
  split
  · rename_i h; rw [toNat_ediv_two_pow x h]
  · rw [toNat_ediv_two_pow (-x) (by omega), Int.natAbs_neg]

end Sf.G711
