/-
  SfProofs.HandleGInv2 — the law records of the second group of instances (SfModel/HandleGInst3.lean: SVX, MPC2K, WVE, PVF,
  MAT4, MAT5, NIST, VOC) and of the hand-made AIFF container record with the in-place header patch of SFM_RDWR
  (SfModel/HandleGAiffRw.lean); the closed file of a `Spec` container (below).
-/
import SfProofs.HandleGRefine
import SfModel.HandleGAiffRw
import SfModel.HandleGInst3
namespace Sf.HandleG
open Sf

theorem svxLaws (name : List Byte) : SpecLaws (svxSpecN name) := ⟨calcStd_law true, off_len⟩
theorem mpcLaws (name : List Byte) : SpecLaws (mpcSpecN name) :=
  ⟨fun h fl => ⟨fl, fl - 42, 42, _, rfl, fun _ => by omega⟩, off_len⟩
theorem wveLaws : SpecLaws wveSpec := ⟨calcStd_law true, off_len⟩
theorem pvfLaws : SpecLaws pvfSpec := ⟨fun h _ => WHRelG.refl h, off_len⟩
theorem mat4Laws : SpecLaws mat4Spec := ⟨calcStd_law true, off_len⟩
theorem mat5Laws (text : List Byte) : SpecLaws (mat5SpecT text) := ⟨calcStd_law true, off_len⟩

theorem nistCalc_law (h : H) (fl : Int) : WHRelG h (nistCalc h fl) := by
  unfold nistCalc
  exact ite_ind (P := WHRelG h) ⟨_, _, h.dataoffset, _, rfl, id⟩ ⟨_, _, h.dataoffset, h.frames, rfl, id⟩

theorem nistLaws : SpecLaws nistSpec := ⟨nistCalc_law, fun _ _ _ => by show (0 : Int) ≤ 1024; omega⟩
theorem vocLaws : SpecLaws vocSpec := ⟨fun h _ => ⟨_, _, h.dataoffset, _, rfl, id⟩, off_len⟩

theorem aiffWriteHeader_rel (h : H) (s : Store) (b : Bool) : WHRelG h (aiffWriteHeader h s b).1 := by
  have hc : WHRelG h (if b = true then calcStd true h s.bytes.length else h) :=
    ite_ind (calcStd_law true h _) (WHRelG.refl h)
  unfold aiffWriteHeader
  refine ite_ind (P := fun r : H × Store => WHRelG h r.1) ?_ (Spec.writeHeader_rel aiffLaws h s b)
  unfold aiffRwHeader
  simp only
  split <;> exact hc

theorem aiffContLaws : ContLaws aiffCont :=
  ⟨fun h s b => aiffWriteHeader_rel h s b, fun h s hm => by simp [aiffCont, aiffCloseStore, hm]⟩

theorem contOf_lawful (sp : Spec) (L : SpecLaws sp) : ContLaws (contOf sp) := by
  unfold contOf
  split
  · exact aiffContLaws
  · exact specLaws L

end Sf.HandleG

/-! the closed file of a container described by a `Spec` (SfModel/HandleG.lean): after `<x>_close`
  the store is the header computed from the FINAL state (the `calc_length` block applied to the handle the tailer leaves and the
  final file length) followed by everything that lay behind the header after the tailer — the encoded samples and what the
  tailer appended.  One law is needed: the position-restore rule moves the file position only (`RestoreKeeps`); the four
  rules of the instances satisfy it. -/

namespace Sf.HandleG
open Sf

/-- the restore rule of a `Spec` moves the position only -/
def RestoreKeeps (sp : Spec) : Prop := ∀ cur h0 h2 s, (sp.restore cur h0 h2 s).bytes = s.bytes

theorem restoreCur_keeps (cur : Nat) (h0 h2 : H) (s : Store) : (restoreCur cur h0 h2 s).bytes = s.bytes := by
  unfold restoreCur; split <;> rfl
theorem restoreHasData_keeps (cur : Nat) (h0 h2 : H) (s : Store) : (restoreHasData cur h0 h2 s).bytes = s.bytes := by
  unfold restoreHasData; repeat' split
  all_goals rfl
theorem restoreCaf_keeps (cur : Nat) (h0 h2 : H) (s : Store) : (restoreCaf cur h0 h2 s).bytes = s.bytes := by
  unfold restoreCaf; repeat' split
  all_goals rfl
theorem restoreNone_keeps (cur : Nat) (h0 h2 : H) (s : Store) : (restoreNone cur h0 h2 s).bytes = s.bytes := rfl

theorem Spec.writeHeader_bytes (sp : Spec) (K : RestoreKeeps sp) (h : H) (s : Store) (b : Bool)
    (hh : sp.hasHeader = true) (hs : sp.skipAt s.pos = false) :
    (sp.writeHeader h s b).2.bytes =
      sp.hdr (if b then sp.recalc h s.bytes.length else h) ++ s.bytes.drop (sp.hdr (if b then sp.recalc h s.bytes.length else h)).length := by
  unfold Spec.writeHeader
  simp only [hh, hs, Bool.not_true, Bool.false_eq_true, if_false]
  rw [K]
  exact (Store.write_seek0 s _).1

end Sf.HandleG
