/-
  The generic block writer: an inner call with whole frames is a fold of a per-frame step (`pushFrame`) over the
  frames, whatever `Writer.enc` is.
-/
import SfModel.Block
import SfProofs.Bytes
namespace Sf.Block.Proofs
open Sf Sf.Block

variable {σ : Type}

/-- the per-frame step: store the frame at `write_count`, count it, encode + emit when the block is full -/
def pushFrame (w : Writer σ) (st : WState σ) (fr : List Int) : WState σ :=
  let st1 : WState σ := { st with buf := overwrite st.buf (st.cnt * w.ch) fr w.ch, cnt := st.cnt + 1 }
  if st1.cnt ≥ w.spb then w.emit st1 else st1

/-- the end of a loop iteration -/
def finish (w : Writer σ) (st : WState σ) : WState σ := if st.cnt ≥ w.spb then w.emit st else st

structure WWF (w : Writer σ) : Prop where
  spb_pos : 0 < w.spb
  ch_pos  : 0 < w.ch

/-- writer invariant between calls: the buffer has block size and is not full -/
structure WInv (w : Writer σ) (st : WState σ) : Prop where
  cnt : st.cnt < w.spb
  len : st.buf.length = w.spb * w.ch

theorem WInv.room {w : Writer σ} {st : WState σ} (inv : WInv w st) : st.cnt * w.ch + w.ch ≤ st.buf.length := by
  rw [inv.len, ← Nat.succ_mul]; exact Nat.mul_le_mul_right _ inv.cnt

def Uniform (ch : Nat) (fs : List (List Int)) : Prop := ∀ f ∈ fs, f.length = ch

theorem uniform_cons {ch : Nat} {f : List Int} {fs : List (List Int)} (h : Uniform ch (f :: fs)) :
    f.length = ch ∧ Uniform ch fs :=
  ⟨h f (by simp), fun g hg => h g (by simp [hg])⟩

theorem uniform_flatten_length {ch : Nat} (fs : List (List Int)) (h : Uniform ch fs) : fs.flatten.length = fs.length * ch :=
  flatten_length_const ch fs h

theorem uniform_take {ch : Nat} (fs : List (List Int)) (q : Nat) (h : Uniform ch fs) : Uniform ch (fs.take q) :=
  fun f hf => h f (List.mem_of_mem_take hf)
theorem uniform_drop {ch : Nat} (fs : List (List Int)) (q : Nat) (h : Uniform ch fs) : Uniform ch (fs.drop q) :=
  fun f hf => h f (List.mem_of_mem_drop hf)

theorem flatten_split_uniform {ch : Nat} (fs : List (List Int)) (c : Nat) (h : Uniform ch fs) (hc : c ≤ fs.length) :
    fs.flatten.take (c * ch) = (fs.take c).flatten ∧ fs.flatten.drop (c * ch) = (fs.drop c).flatten := by
  have hl : (fs.take c).flatten.length = c * ch := by
    rw [uniform_flatten_length _ (uniform_take fs c h), List.length_take, Nat.min_eq_left hc]
  have e : fs.flatten = (fs.take c).flatten ++ (fs.drop c).flatten := by
    rw [← List.flatten_append, List.take_append_drop]
  rw [e]
  exact ⟨List.take_left' hl, List.drop_left' hl⟩

theorem singles_flatten (xs : List Int) : (xs.map fun x => [x]).flatten = xs := by
  induction xs with
  | nil => rfl
  | cons x xs ih => simp only [List.map_cons, List.flatten_cons, ih]; rfl

theorem singles_uniform (xs : List Int) : Uniform 1 (xs.map fun x => [x]) := by
  intro f hf
  obtain ⟨x, _, rfl⟩ := List.mem_map.mp hf
  rfl

theorem overwrite_length (buf : List Int) (off len : Nat) (piece : List Int) (h : off + len ≤ buf.length)
    (hp : piece.length = len) : (overwrite buf off piece len).length = buf.length := by
  simp only [overwrite, List.length_append, List.length_take, List.length_drop, hp]
  omega

theorem overwrite_overwrite (buf : List Int) (off la lb : Nat) (a b : List Int) (ho : off ≤ buf.length)
    (ha : a.length = la) :
    overwrite (overwrite buf off a la) (off + la) b lb = overwrite buf off (a ++ b) (la + lb) := by
  have h1 : (buf.take off ++ a).length = off + la := by
    rw [List.length_append, List.length_take, ha]; omega
  unfold overwrite
  have e1 : List.take (off + la) (buf.take off ++ a ++ buf.drop (off + la)) = buf.take off ++ a := List.take_left' h1
  have e2 : List.drop (off + la + lb) (buf.take off ++ a ++ buf.drop (off + la)) = buf.drop (off + (la + lb)) := by
    rw [← List.drop_drop, List.drop_left' h1, List.drop_drop]
    congr 1; omega
  rw [e1, e2]
  simp only [List.append_assoc]

theorem emit_cnt (w : Writer σ) (st : WState σ) : (w.emit st).cnt = 0 := by
  unfold Writer.emit; rfl
theorem emit_buf (w : Writer σ) (st : WState σ) : (w.emit st).buf = st.buf := by
  unfold Writer.emit; rfl
theorem emit_congr (w : Writer σ) (a b : WState σ) (h1 : a.buf = b.buf) (h2 : a.es = b.es) (h3 : a.out = b.out)
    (h4 : a.nblk = b.nblk) : w.emit a = w.emit b := by
  unfold Writer.emit; rw [h1, h2, h3, h4]

theorem finish_inv (w : Writer σ) (wf : WWF w) (st : WState σ) (hc : st.cnt ≤ w.spb) (hl : st.buf.length = w.spb * w.ch) :
    WInv w (finish w st) := by
  unfold finish
  by_cases h : st.cnt ≥ w.spb
  · rw [if_pos h]; exact ⟨by rw [emit_cnt]; exact wf.spb_pos, by rw [emit_buf]; exact hl⟩
  · rw [if_neg h]; exact ⟨by omega, hl⟩

theorem pushFrame_inv (w : Writer σ) (wf : WWF w) (st : WState σ) (f : List Int) (inv : WInv w st) (hf : f.length = w.ch) :
    WInv w (pushFrame w st f) := by
  exact finish_inv w wf _ inv.cnt (by simp only; rw [overwrite_length _ _ _ _ inv.room hf]; exact inv.len)

theorem take_overwrite (buf : List Int) (off : Nat) (piece : List Int) (len : Nat) (h : off ≤ buf.length) :
    (overwrite buf off piece len).take (off + piece.length) = buf.take off ++ piece := by
  unfold overwrite
  have h1 : (buf.take off ++ piece).length = off + piece.length := by
    rw [List.length_append, List.length_take]; omega
  exact List.take_left' h1

/-- one step of the writer: the frame lands behind the pending items in a buffer of block size; then either the block
    is still open, or it is complete and is emitted -/
theorem pushFrame_step (w : Writer σ) (st : WState σ) (f : List Int) (inv : WInv w st) (hf : f.length = w.ch) :
    ∃ buf, buf.length = w.spb * w.ch ∧ buf.take ((st.cnt + 1) * w.ch) = st.buf.take (st.cnt * w.ch) ++ f ∧
      (st.cnt + 1 < w.spb ∧ pushFrame w st f = { st with buf := buf, cnt := st.cnt + 1 } ∨
       st.cnt + 1 = w.spb ∧ pushFrame w st f = w.emit { st with buf := buf, cnt := st.cnt + 1 }) := by
  have hcnt := inv.cnt
  have hoff := inv.room
  refine ⟨overwrite st.buf (st.cnt * w.ch) f w.ch, by rw [overwrite_length _ _ _ _ hoff hf]; exact inv.len, ?_, ?_⟩
  · have := take_overwrite st.buf (st.cnt * w.ch) f w.ch (by omega)
    rwa [hf, ← Nat.succ_mul] at this
  · unfold pushFrame
    by_cases hfull : st.cnt + 1 ≥ w.spb
    · exact .inr ⟨by omega, by simp only [hfull, if_true]⟩
    · exact .inl ⟨by omega, by simp only [hfull, if_false]⟩

theorem foldl_pushFrame_inv (w : Writer σ) (wf : WWF w) (fs : List (List Int)) (st : WState σ) (inv : WInv w st) (hu : Uniform w.ch fs) :
    WInv w (fs.foldl (pushFrame w) st) :=
  List.foldlRecOn fs _ inv fun st inv f hf => pushFrame_inv w wf st f inv (hu f hf)

theorem push_many (w : Writer σ) : ∀ (fs : List (List Int)) (st : WState σ), 0 < fs.length → Uniform w.ch fs →
    st.cnt + fs.length ≤ w.spb → st.buf.length = w.spb * w.ch →
    fs.foldl (pushFrame w) st =
      finish w { st with buf := overwrite st.buf (st.cnt * w.ch) fs.flatten (fs.length * w.ch), cnt := st.cnt + fs.length } := by
  intro fs
  induction fs with
  | nil => intro st h; exact absurd h (Nat.lt_irrefl 0)
  | cons f fs ih =>
    intro st _ hu hc hl
    obtain ⟨hf, hu2⟩ := uniform_cons hu
    simp only [List.length_cons] at hc
    by_cases hfs : fs = []
    · subst hfs
      simp only [List.foldl_cons, List.foldl_nil, List.flatten_cons, List.flatten_nil, List.append_nil, List.length_cons,
        List.length_nil, Nat.zero_add, Nat.one_mul]
      rfl
    · have hpos : 0 < fs.length := List.length_pos_iff.mpr hfs
      -- the block is not full behind `f`: the step only stores it
      have hstep : pushFrame w st f = { st with buf := overwrite st.buf (st.cnt * w.ch) f w.ch, cnt := st.cnt + 1 } := by
        unfold pushFrame
        simp only [show ¬ (st.cnt + 1 ≥ w.spb) by omega, if_false]
      have hle := WInv.room (w := w) (st := st) ⟨by omega, hl⟩
      rw [List.foldl_cons, hstep, ih _ hpos hu2 (by simp only; omega) (by simp only; rw [overwrite_length _ _ _ _ hle hf]; exact hl)]
      simp only
      rw [Nat.succ_mul, overwrite_overwrite _ _ _ _ _ _ (by omega) hf, List.flatten_cons, List.length_cons, Nat.succ_mul,
        Nat.add_comm (fs.length * w.ch), Nat.add_assoc st.cnt, Nat.add_comm 1]

theorem writeLoop_fold (w : Writer σ) (wf : WWF w) : ∀ (fuel : Nat) (st : WState σ) (fs : List (List Int)),
    WInv w st → Uniform w.ch fs → fs.length < fuel →
    w.writeLoop fuel st fs.flatten (fs.length * w.ch) = fs.foldl (pushFrame w) st := by
  intro fuel
  induction fuel with
  | zero => intro st fs _ _ h; omega
  | succ fuel ih =>
    intro st fs inv hu hf
    unfold Writer.writeLoop
    by_cases hm : fs.length = 0
    · rw [List.length_eq_zero_iff.mp hm]; simp
    · have hmc : fs.length * w.ch ≠ 0 := Nat.mul_ne_zero hm (Nat.pos_iff_ne_zero.mp wf.ch_pos)
      simp only [hmc, if_false]
      -- this pass takes the `c` frames that fit into the block
      obtain ⟨c, hc1, hcount⟩ : ∃ c, (1 ≤ c ∧ st.cnt + c ≤ w.spb ∧ c ≤ fs.length) ∧
          min ((w.spb - st.cnt) * w.ch) (fs.length * w.ch) = c * w.ch :=
        ⟨min (w.spb - st.cnt) fs.length, by have := inv.cnt; omega, Nat.mul_min_mul_right _ _ _⟩
      obtain ⟨ht, hd⟩ := flatten_split_uniform fs c hu hc1.2.2
      rw [hcount, Nat.mul_div_cancel c wf.ch_pos, ht, hd, ← Nat.sub_mul]
      have hlen1 : (fs.take c).length = c := by rw [List.length_take]; omega
      have hpm := push_many w (fs.take c) st (by omega) (uniform_take fs c hu)
        (by rw [hlen1]; exact hc1.2.1) inv.len
      simp only [hlen1, finish] at hpm
      have hdl : (fs.drop c).length = fs.length - c := List.length_drop
      rw [← hpm, ← hdl, ih _ (fs.drop c) (foldl_pushFrame_inv w wf _ st inv (uniform_take fs c hu)) (uniform_drop fs c hu)
        (by rw [hdl]; omega), ← List.foldl_append, List.take_append_drop]

theorem write_fold (w : Writer σ) (wf : WWF w) (st : WState σ) (fs : List (List Int)) (inv : WInv w st) (hu : Uniform w.ch fs) :
    w.write st fs.flatten = fs.foldl (pushFrame w) st ∧ WInv w (fs.foldl (pushFrame w) st) := by
  refine ⟨?_, foldl_pushFrame_inv w wf fs st inv hu⟩
  unfold Writer.write
  simp only
  rw [uniform_flatten_length fs hu]
  exact writeLoop_fold w wf _ st fs inv hu (Nat.lt_succ_of_le (Nat.le_mul_of_pos_right _ wf.ch_pos))

theorem init_inv_w (w : Writer σ) (wf : WWF w) (s0 : σ) : WInv w (w.init s0) :=
  ⟨wf.spb_pos, by simp [Writer.init, zeros]⟩

/-- the staging loop with pieces of `q` whole frames (`q = 0`: one piece) is the same fold -/
theorem writeChunked_fold (w : Writer σ) (wf : WWF w) (q : Nat) : ∀ (fuel : Nat) (st : WState σ) (fs : List (List Int)),
    WInv w st → Uniform w.ch fs → fs.length < fuel →
    w.writeChunked (q * w.ch) fuel st fs.flatten (fs.length * w.ch) = fs.foldl (pushFrame w) st ∧
      WInv w (fs.foldl (pushFrame w) st) := by
  intro fuel st fs inv hu hf
  refine ⟨?_, foldl_pushFrame_inv w wf fs st inv hu⟩
  induction fuel generalizing st fs with
  | zero => omega
  | succ fuel ih =>
    unfold Writer.writeChunked
    by_cases hm : fs.length = 0
    · rw [List.length_eq_zero_iff.mp hm]; simp
    · have hmc : fs.length * w.ch ≠ 0 := Nat.mul_ne_zero hm (Nat.pos_iff_ne_zero.mp wf.ch_pos)
      simp only [hmc, if_false]
      obtain ⟨c, hc1, hc3, hwc⟩ : ∃ c, 1 ≤ c ∧ c ≤ fs.length ∧
          (if q * w.ch = 0 then fs.length * w.ch else min (q * w.ch) (fs.length * w.ch)) = c * w.ch := by
        by_cases hq : q * w.ch = 0
        · exact ⟨fs.length, by omega, Nat.le_refl _, by rw [if_pos hq]⟩
        · have hq1 : 1 ≤ q := Nat.pos_of_ne_zero fun h => hq (by rw [h, Nat.zero_mul])
          exact ⟨min q fs.length, by omega, by omega, by rw [if_neg hq, Nat.mul_min_mul_right]⟩
      obtain ⟨ht, hd⟩ := flatten_split_uniform fs c hu hc3
      rw [hwc, ht, hd, ← Nat.sub_mul]
      have hlen1 : (fs.take c).length = c := by rw [List.length_take]; omega
      have hdl : (fs.drop c).length = fs.length - c := List.length_drop
      have h1 := writeLoop_fold w wf (c * w.ch + 1) st (fs.take c) inv (uniform_take fs c hu)
        (by rw [hlen1]; exact Nat.lt_succ_of_le (Nat.le_mul_of_pos_right _ wf.ch_pos))
      rw [hlen1] at h1
      rw [h1, ← hdl, ih _ (fs.drop c) (foldl_pushFrame_inv w wf _ st inv (uniform_take fs c hu)) (uniform_drop fs c hu)
        (by rw [hdl]; omega), ← List.foldl_append, List.take_append_drop]

/-- calls of any kind (`frames a`: the frames of call `a`), each of which comes to the fold of the per-frame step over its
    frames, one after the other come to the fold over all frames -/
theorem foldl_calls_fold {α : Type} (w : Writer σ) (wf : WWF w) (call : WState σ → α → WState σ) (frames : α → List (List Int))
    (cs : List α) (hcall : ∀ st, ∀ a ∈ cs, WInv w st → Uniform w.ch (frames a) → call st a = (frames a).foldl (pushFrame w) st)
    (st : WState σ) (inv : WInv w st) (hu : ∀ c ∈ cs, Uniform w.ch (frames c)) :
      cs.foldl call st = (cs.flatMap frames).foldl (pushFrame w) st := by
  rw [List.foldl_flatMap]
  -- the two folds agree step by step as long as the invariant holds
  exact (List.foldl_rel (r := fun x y => x = y ∧ WInv w y) ⟨rfl, inv⟩ fun c hc x _ ⟨e, i⟩ => by
    subst e; exact ⟨hcall x c hc i (hu c hc), foldl_pushFrame_inv w wf _ x i (hu c hc)⟩).1

theorem uniform_flatMap {α : Type} {ch : Nat} (frames : α → List (List Int)) (cs : List α)
    (hu : ∀ c ∈ cs, Uniform ch (frames c)) : Uniform ch (cs.flatMap frames) := by
  intro f hf
  obtain ⟨c, hc, hfc⟩ := List.mem_flatMap.mp hf
  exact hu c hc f hfc

end Sf.Block.Proofs
