/-
  SfProofs.RdwrRun — the C08 alphabet on a read/write handle (`ROp`), one step against the abstract file (`rdwr_step`), and
  the lift to every operation sequence (`rdwr_run`).
-/
import SfProofs.RdwrWrite
import SfProofs.HandlePres
namespace Sf

theorem SameCfg.writeHeader (h : H) (s : Store) (b : Bool) : SameCfg h (writeHeader h s b).1 := by
  obtain ⟨fl, dl, off, e, _⟩ := writeHeader_fst h s b
  rw [e]; exact .of_cfg rfl

theorem SameCfg.stepSeek (h : H) (s : Store) (off wh : Int) : SameCfg h (stepSeek h s off wh).1 :=
  SameCfg.stepAny h s (.seek 0 off wh)

theorem SameCfg.bw {h h' : H} (c : SameCfg h h') : h'.bw = h.bw := by unfold H.bw; rw [c.enc, c.ch]

/-- one call on a read/write handle, as the C08 statement names it: read `k` frames (items or frames variant, any
    caller type), write a buffer, seek (whence × pointer, offset), truncate to `n` frames, and the flag commands
    (normalisation, clipping, SFC_SET_UPDATE_HEADER_AUTO, SFC_UPDATE_HEADER_NOW) -/
inductive ROp
  | read (ty : Ty) (fc : Bool) (k : Nat)
  | write (ty : Ty) (fc : Bool) (data : List Int)
  | seek (w : Whence) (p : Ptr) (off : Int)
  | truncate (n : Nat)
  | flag (cmd : Nat) (size : Int)

/-- the call as the handle model's `Op` -/
def ROp.toOp (h : H) : ROp → Op
  | .read ty fc k => .read h.store ty fc (callCount h fc k)
  | .write ty fc data => .write h.store ty fc (callCount h fc (data.length / h.ch)) data
  | .seek w p off => .seek h.store off (whenceCode w p)
  | .truncate n => .truncate h.store (n : Int)
  | .flag cmd size => .cmdFlag h.store cmd size

/-- side condition: a write buffer holds whole frames.  (SFC_FILE_TRUNCATE needs none: on a route without `ftruncate`
    it is refused cleanly, KF-C14-TRUNC-VIO, see `ROp.toAOp`.) -/
def ROp.ok (h : H) : ROp → Prop
  | .write _ _ data => data.length % h.ch = 0
  | _ => True

instance (h : H) (op : ROp) : Decidable (op.ok h) := by
  cases op <;> simp only [ROp.ok] <;> infer_instance

/-- the abstract operation a call stands for.  None for a flag command: the abstract file does not change.  None for
    SFC_FILE_TRUNCATE on a route without `ftruncate` (SF_VIRTUAL_IO has no truncate callback): the abstract file of the
    statement promises truncation only where the route supports it; elsewhere the command is a refused call that
    changes nothing (return value 1, see `ROp.outOk`). -/
def ROp.toAOp (h : H) : ROp → Option (AOp (List Byte))
  | .read _ _ k => some (.read k)
  | .write ty _ data => some (.write (writtenFrames h ty data))
  | .seek w p off => some (.seek w p off)
  | .truncate n => if h.canTruncate then some (.truncate n) else none
  | .flag _ _ => none

def AbsFile.stepOpt {α : Type} (zero : α) (f : AbsFile α) : Option (AOp α) → AbsFile α
  | none => f
  | some op => (f.step zero op).2

/-- what the call must answer, given the abstract file `f` before it:
    * read: the count is the number of frames the abstract read delivers (×channels for an items call); for a
      non-zero request no error, the buffer starts with those frames decoded, and the rest of the requested region
      is untouched (the harness pattern) — or zero when the read position was at/after the end, and (`readFill`) when
      the request ran past the end of a WAV of 1-byte samples into the pad byte behind its odd-length data;
    * write: the count asked for; no error when the buffer is not empty;
    * seek: the abstract answer (−1 when refused), no error when accepted;
    * truncate: 0, no error — on a route without `ftruncate`: refused, SF_TRUE (1), no error;
    * a flag command: nothing is asked of its answer. -/
def ROp.outOk (h : H) (s : Store) (f : AbsFile (List Byte)) : ROp → Out → Prop
  | .read ty fc k, o =>
      o.ret = callCount h fc (f.read k).1.length ∧
      (0 < k → o.err = 0 ∧ o.data = h.enc.decodeAll h.conv ty (f.read k).1.flatten ++
        List.replicate ((k - (f.read k).1.length) * h.ch)
          (if f.rpos < f.frames.length then readFill h s ty k (f.read k).1.length else 0))
  | .write _ fc data, o => o.ret = callCount h fc (data.length / h.ch) ∧ (0 < data.length → o.err = 0)
  | .seek w p off, o => o.ret = (f.seek w p off).1 ∧ (0 ≤ (f.seek w p off).1 → o.err = 0)
  | .truncate _, o => o.ret = (if h.canTruncate then 0 else 1) ∧ o.err = 0
  | .flag _ _, _ => True

/-- one call of the alphabet, by cases on the call from the per-call lemmas of `RwView`; `SfProps.C08Refine.rdwr_refines` is this statement -/
theorem rdwr_step (h : H) (s : Store) (op : ROp) (inv : RwInv h s) (hok : op.ok h) :
    op.outOk h s (absOf h s) (stepAny h s (op.toOp h)).2.2 ∧
    RwInv (stepAny h s (op.toOp h)).1 (stepAny h s (op.toOp h)).2.1 ∧
    absOf (stepAny h s (op.toOp h)).1 (stepAny h s (op.toOp h)).2.1 =
      (absOf h s).stepOpt (zeroFrame h.bw) (op.toAOp h) := by
  obtain ⟨R, W, F, hdr, D, v⟩ := inv
  cases op with
  | read ty fc k =>
    obtain ⟨h', s', o, e, r1, r2, i', a'⟩ := v.read_refines ty fc k
    simp only [ROp.toOp, stepAny, e, ROp.outOk, ROp.toAOp, AbsFile.stepOpt, AbsFile.step]
    exact ⟨⟨r1, r2⟩, i', a'⟩
  | write ty fc data =>
    simp only [ROp.ok] at hok
    simp only [ROp.toOp, stepAny, ROp.outOk, ROp.toAOp, AbsFile.stepOpt, AbsFile.step]
    rcases Nat.eq_zero_or_pos (data.length / h.ch) with hk | hk
    · have hd : data = [] := by
        have := Nat.div_add_mod data.length h.ch
        rw [hk, hok] at this
        exact List.eq_nil_of_length_eq_zero (by omega)
      subst hd
      rw [hk, callCount_zero, stepWrite_zero, writtenFrames_nil]
      refine ⟨⟨rfl, fun hc => absurd hc (by simp)⟩, ⟨R, W, F, hdr, D, v⟩, ?_⟩
      simp [AbsFile.write]
    · have hdl := (Nat.div_mul_cancel (Nat.dvd_of_mod_eq_zero hok)).symm
      obtain ⟨h', s', o, hdr', e, r1, r2, v'⟩ := v.write_view ty fc _ data hk hdl
      have hbw : h'.bw = h.bw := by
        have := (SameCfg.stepAny h s (.write h.store ty fc (callCount h fc (data.length / h.ch)) data)).bw
        simp only [stepAny, e] at this; exact this
      rw [e]
      exact ⟨⟨r1, fun _ => r2⟩, ⟨_, _, _, _, _, v'⟩, v.abs_write ty _ data hk hdl hbw v'⟩
  | seek w p off =>
    obtain ⟨r1, r2, i', a'⟩ := v.seek_refines w p off
    simp only [ROp.toOp, stepAny, ROp.outOk, ROp.toAOp, AbsFile.stepOpt, AbsFile.step]
    exact ⟨⟨r1, r2⟩, i', a'⟩
  | truncate n =>
    by_cases hc : h.canTruncate = true
    · obtain ⟨r1, r2, v'⟩ := v.truncate_view n hc
      have hbw := (SameCfg.stepAny h s (.truncate h.store n)).bw
      simp only [ROp.toOp, stepAny, ROp.outOk, ROp.toAOp, AbsFile.stepOpt, AbsFile.step, hc, if_true] at hbw ⊢
      refine ⟨⟨r1, r2⟩, ⟨_, _, _, _, _, v'⟩, ?_⟩
      rw [v'.abs, v.abs, hbw, groups_truncBytes _ v.bw_pos D F n v.dlen]
      rfl
    · have hc' : h.canTruncate = false := by simpa using hc
      simp only [ROp.toOp, stepAny, ROp.outOk, ROp.toAOp, AbsFile.stepOpt, hc', Bool.false_eq_true, if_false]
      rw [stepTruncate_vio h s n (by rw [v.mode]; decide) hc']
      exact ⟨⟨rfl, rfl⟩, ⟨R, W, F, hdr, D, v.setError 0⟩, by rw [(v.setError 0).abs, v.abs]; rfl⟩
  | flag cmd size =>
    obtain ⟨hdr', v'⟩ := v.cmdFlag_view cmd size
    have hbw := (SameCfg.stepAny h s (.cmdFlag h.store cmd size)).bw
    simp only [ROp.toOp, stepAny, ROp.outOk, ROp.toAOp, AbsFile.stepOpt] at hbw ⊢
    exact ⟨trivial, ⟨_, _, _, _, _, v'⟩, by rw [v'.abs, v.abs, hbw]⟩

/-- SEEK_SET|SFM_RDWR on a read/write handle is a plain SEEK_SET -/
theorem stepSeek_set_rdwr (h : H) (s : Store) (off : Int) (hm : h.mode = .rw) : stepSeek h s off 0x30 = stepSeek h s off 0 := by
  simp only [stepSeek_eq_spec]
  simp [seekSpec, seekWm, seekBase, seekIsTell, seekMoveH, hm, modeBits]

/-- any whence value: the nine of the alphabet, SEEK_SET|SFM_RDWR (a plain SEEK_SET), and the refused ones -/
theorem RwInv_stepSeek (h : H) (s : Store) (off whence : Int) (inv : RwInv h s) :
    RwInv (stepSeek h s off whence).1 (stepSeek h s off whence).2.1 := by
  obtain ⟨R, W, F, hdr, D, v⟩ := inv
  have key : ∀ (w : Whence) (p : Ptr), RwInv (stepSeek h s off (whenceCode w p)).1 (stepSeek h s off (whenceCode w p)).2.1 :=
    fun w p => (v.seek_refines w p off).2.2.1
  by_cases hk : seekKnown whence
  · unfold seekKnown at hk
    rcases hk with hw | hw | hw | hw | hw | hw | hw | hw | hw | hw <;> subst hw
    · exact key .set .both
    · exact key .set .rd
    · exact key .set .wr
    · rw [stepSeek_set_rdwr h s off v.mode]; exact key .set .both
    · exact key .cur .both
    · exact key .cur .rd
    · exact key .cur .wr
    · exact key .fromEnd .both
    · exact key .fromEnd .rd
    · exact key .fromEnd .wr
  · unfold seekKnown at hk
    simp only [not_or] at hk
    obtain ⟨a0, a1, a2, a3, a4, a5, a6, a7, a8, a9⟩ := hk
    have hb : Sf.seekBase h whence = none := by
      simp [Sf.seekBase, a0, a1, a2, a3, a4, a5, a6, a7, a8, a9]
    rw [stepSeek_eq_spec]
    unfold seekSpec
    rw [hb]
    split
    · exact ⟨R, W, F, hdr, D, v.setError _⟩
    · exact ⟨R, W, F, hdr, D, v.setError _⟩

theorem ROp.ok_congr {h h' : H} (c : SameCfg h h') (op : ROp) (hok : op.ok h) : op.ok h' := by
  cases op <;> simp only [ROp.ok] at hok ⊢
  rw [c.ch]; exact hok

/-- the handle and store after a sequence of calls -/
def runR (h : H) (s : Store) : List ROp → H × Store
  | [] => (h, s)
  | op :: ops => runR (stepAny h s (op.toOp h)).1 (stepAny h s (op.toOp h)).2.1 ops

/-- "the run refines the abstract file `f`": every answer along the way is the abstract one, and at the end the
    handle satisfies the invariant and stands for the abstract file the abstract run produced -/
def RefinesRun (zero : List Byte) : H → Store → AbsFile (List Byte) → List ROp → Prop
  | h, s, f, [] => RwInv h s ∧ absOf h s = f
  | h, s, f, op :: ops =>
    op.outOk h s f (stepAny h s (op.toOp h)).2.2 ∧
    RefinesRun zero (stepAny h s (op.toOp h)).1 (stepAny h s (op.toOp h)).2.1 (f.stepOpt zero (op.toAOp h)) ops

theorem rdwr_run (ops : List ROp) : ∀ (h : H) (s : Store), RwInv h s → (∀ op ∈ ops, op.ok h) →
    RefinesRun (zeroFrame h.bw) h s (absOf h s) ops := by
  induction ops with
  | nil => intro h s inv _; exact ⟨inv, rfl⟩
  | cons op ops ih =>
    intro h s inv hok
    obtain ⟨o, i', a'⟩ := rdwr_step h s op inv (hok op (by simp))
    have c := SameCfg.stepAny h s (op.toOp h)
    refine ⟨o, ?_⟩
    have := ih _ _ i' (fun op' hm => ROp.ok_congr c op' (hok op' (by simp [hm])))
    rw [c.bw, a'] at this
    exact this

/-- the abstract file after the abstract counterparts of a sequence of calls (the frames a write hands over are
    the samples encoded under the conversion settings in force at that call) -/
def absRunR (zero : List Byte) : H → Store → AbsFile (List Byte) → List ROp → AbsFile (List Byte)
  | _, _, f, [] => f
  | h, s, f, op :: ops =>
    absRunR zero (stepAny h s (op.toOp h)).1 (stepAny h s (op.toOp h)).2.1 (f.stepOpt zero (op.toAOp h)) ops

theorem RefinesRun.final (zero : List Byte) (ops : List ROp) : ∀ (h : H) (s : Store) (f : AbsFile (List Byte)),
    RefinesRun zero h s f ops →
      RwInv (runR h s ops).1 (runR h s ops).2 ∧ absOf (runR h s ops).1 (runR h s ops).2 = absRunR zero h s f ops := by
  induction ops with
  | nil => intro h s f r; exact r
  | cons op ops ih => intro h s f r; exact ih _ _ _ r.2

theorem SameCfg.runR (ops : List ROp) : ∀ (h : H) (s : Store), SameCfg h (runR h s ops).1 := by
  induction ops with
  | nil => exact fun h _ => .refl h
  | cons op ops ih => exact fun h s => (SameCfg.stepAny h s (op.toOp h)).trans (ih _ _)

theorem RwInv_runR (ops : List ROp) (h : H) (s : Store) (inv : RwInv h s) (hok : ∀ op ∈ ops, op.ok h) :
    RwInv (runR h s ops).1 (runR h s ops).2 ∧ SameCfg h (runR h s ops).1 :=
  ⟨(RefinesRun.final _ ops h s _ (rdwr_run ops h s inv hok)).1, .runR ops h s⟩

end Sf
