/-
  `openHandle` in closed form (`openHandle_ok`: every way it succeeds, with the handle and the store it returns).  From it:
  every handle `openHandle` returns satisfies `HInv` (new files, RAW, parsed AU and WAV headers), hence so does every state
  reachable from it; what an open that goes by its arguments fixes of the handle (`openHandle_byArgs`); the start conditions of
  the bridge to the abstract model (`AbsBridge.open_facts`).
-/
import SfProofs.HandlePres
import SfProofs.WavWalk
namespace Sf

theorem initFrames_spec (off de fl : Int) (bw : Nat) (L : Int) (hbw : 0 < bw) (hoff : off ≤ L)
    (hde : de > 0 → off ≤ de ∧ de ≤ L) (hfl : fl ≤ L) :
    0 ≤ (initFrames off de fl bw).2 ∧ off + (initFrames off de fl bw).2 * (bw : Int) ≤ L := by
  unfold initFrames
  simp only [hbw, if_true]
  have hb : (0 : Int) < bw := by omega
  have key : ∀ x : Int, 0 ≤ x → off + x ≤ L → 0 ≤ x / (bw : Int) ∧ off + x / (bw : Int) * (bw : Int) ≤ L := by
    intro x hx hl
    have := Int.ediv_mul_le x (Int.ne_of_gt hb)
    have := Int.ediv_nonneg hx (show 0 ≤ (bw : Int) by omega)
    omega
  by_cases h1 : fl > off
  · by_cases h2 : de > 0
    · simp only [h1, h2, if_true]
      obtain ⟨a, b⟩ := hde h2
      exact key _ (by omega) (by omega)
    · simp only [h1, h2, if_true, if_false]
      exact key _ (by omega) (by omega)
  · simp only [h1, if_false]
    exact key 0 (by omega) (by omega)

theorem auCodec_lt (e c : Nat) (h : auCodec e = some c) : c < 0x10000 := by
  unfold auCodec at h
  split at h <;> first | contradiction | (injection h with h; subst h; decide)

/-- a format word with major type 1 (WAV) or 3 (AU) in bits 16–27 is not RAW, whatever the endianness bits above -/
theorem containerOf_small (k c m : Nat) (hc : c < 0x10000) (hm : m = 1 ∨ m = 3) :
    containerOf (k * 0x10000000 + m * 0x10000 + c) ≠ some .raw := by
  unfold containerOf
  have : (k * 0x10000000 + m * 0x10000 + c) / 0x10000 % 0x1000 = m := by omega
  rw [this]
  rcases hm with h | h <;> subst h <;> simp

/-- what `openHandle` needs from a parsed header -/
def Parsed.WF (p : Parsed) (L : Nat) : Prop :=
  0 < p.ch ∧ p.dataoffset ≤ L ∧ p.filelength ≤ (L : Int) ∧
    (p.dataend > 0 → (p.dataoffset : Int) ≤ p.dataend ∧ p.dataend ≤ (L : Int)) ∧ containerOf p.fmtWord ≠ some .raw

theorem auParse_wf (bs : List Byte) (p : Parsed) (h : auParse bs = .ok p) : p.WF bs.length := by
  revert p
  let P (r : ParseRes) : Prop := ∀ p, r = .ok p → p.WF bs.length
  have err : P .err := fun _ h => nomatch h
  have unm : P .unmodelled := fun _ h => nomatch h
  show P _
  unfold auParse
  dsimp only
  refine iteInduction (fun _ => ite_ind unm err) fun hlen => ite_ind err ?_
  cases hc : auCodec (rd32 (bs.take 4 == marker ".snd") bs 12) with
  | none => exact unm
  | some codec =>
    refine iteInduction (fun _ => err) fun hch => iteInduction (fun _ => unm) fun hoff p hp => ?_
    cases hp
    simp only [Parsed.WF]
    simp only [bne_iff_ne, ne_eq, Decidable.not_not] at hoff
    refine ⟨by omega, by omega, ?_, by simp, ?_⟩
    · split
      · omega
      · split <;> omega
    · split
      · exact containerOf_small 0 codec 3 (auCodec_lt _ _ hc) (Or.inr rfl)
      · exact containerOf_small 1 codec 3 (auCodec_lt _ _ hc) (Or.inr rfl)

def WavScan.WF (s : WavScan) (flen : Nat) : Prop :=
  s.haveData = true → s.dataoffset ≤ flen ∧ (s.dataend > 0 → (s.dataoffset : Int) ≤ s.dataend ∧ s.dataend ≤ (flen : Int))

theorem wavScan_wf (big : Bool) (bs : List Byte) (flen : Nat) :
    ∀ (fuel pos : Nat) (s : WavScan), s.WF flen → ∀ s', wavScan big bs flen fuel pos s = some s' → s'.WF flen := by
  let P (r : Option WavScan) : Prop := ∀ s', r = some s' → s'.WF flen
  have stop : ∀ {s : WavScan}, s.WF flen → P (some s) := fun hs _ h => Option.some.inj h ▸ hs
  have none : P none := fun _ h => nomatch h
  intro fuel
  induction fuel with
  | zero =>
    intro pos s hs
    exact stop hs
  | succ fuel ih =>
    intro pos s hs
    -- every chunk but `data` leaves the three fields of `WF` alone
    have next : ∀ (s1 : WavScan) (body sz : Nat), s1.WF flen → P (wavNext big bs flen fuel body s1 sz) :=
      fun s1 body sz h1 => ite_ind (stop h1) (ite_ind (stop h1) (ih _ _ h1))
    show P _
    rw [wavScan_succ]
    refine iteInduction (fun _ => stop hs) fun c0 => ?_
    refine ite_ind ?fmt (ite_ind ?fact (ite_ind ?pad (ite_ind ?peak (ite_ind ?data none))))
    case fmt => exact ite_ind (next _ _ _ hs) (ite_ind none (next _ _ _ hs))
    case fact => exact next _ _ _ hs
    case pad => exact next _ _ _ hs
    case peak => exact ite_ind none (next _ _ _ hs)
    case data =>
      -- the data chunk: its length `dl` is cut to what the file holds behind `pos + 8`
      refine ite_ind none ?_
      have hnew : ∀ dl : Int, 0 ≤ dl → dl ≤ (flen : Int) - ((pos + 8 : Nat) : Int) → ∀ s1 : WavScan, s1.dataoffset = pos + 8 →
            s1.dataend = (if dl + ((pos + 8 : Nat) : Int) < (flen : Int) then dl + ((pos + 8 : Nat) : Int) else 0) →
          s1.WF flen := by
        intro dl d0 d1 s1 e1 e2 _
        rw [e1, e2]
        refine ⟨by omega, ?_⟩
        intro hd
        split at hd <;> omega
      have hcut : ∀ a b : Int, 0 ≤ a → 0 ≤ b → 0 ≤ (if a > b then b else a) ∧ (if a > b then b else a) ≤ b := by
        intro a b ha hb; split <;> omega
      obtain ⟨d0, d1⟩ := hcut (rd32 big bs (pos + 4) : Int) ((flen : Int) - ((pos + 8 : Nat) : Int)) (by omega) (by omega)
      exact ite_ind (stop (hnew _ d0 d1 _ rfl rfl)) (ih _ _ (hnew _ d0 d1 _ rfl rfl))

theorem wavParse_wf (bs : List Byte) (p : Parsed) (h : wavParse bs = .ok p) : p.WF bs.length := by
  revert p
  let P (r : ParseRes) : Prop := ∀ p, r = .ok p → p.WF bs.length
  have err : P .err := fun _ h => nomatch h
  have unm : P .unmodelled := fun _ h => nomatch h
  show P _
  unfold wavParse
  dsimp only
  refine ite_ind err (ite_ind unm (ite_ind err ?_))
  cases hsc : wavScan (bs.take 4 == marker "RIFX") bs bs.length 64 12 {} with
  | none => exact unm
  | some sc =>
    have hwf := wavScan_wf _ bs bs.length 64 12 {} (by intro hh; simp at hh) sc hsc
    refine iteInduction (fun _ => unm) fun hflags => ?_
    simp only [Bool.not_eq_true', not_or, Bool.not_eq_false] at hflags
    split
    · exact unm
    · rename_i c hc
      have hlt : c < 0x10000 := by
        split at hc <;> first | contradiction | (injection hc with hc; subst hc; decide)
      refine iteInduction (fun _ => err) fun hch p hp => ?_
      cases hp
      refine ⟨by show 0 < sc.ch; omega, (hwf hflags.1).1, Int.le_refl _, (hwf hflags.1).2, ?_⟩
      show containerOf ((if _ then 0x20000000 else 0) + 0x010000 + c) ≠ _
      split
      · exact containerOf_small 2 c 1 hlt (Or.inl rfl)
      · exact containerOf_small 0 c 1 hlt (Or.inl rfl)

theorem writeHeader_au (h : H) (s : Store) (hc : h.container = .au) :
    (writeHeader h s false).1 = { h with dataoffset := 24 } := by
  rw [writeHeader_fst_cw, recalc_fields, recalc_filelength, recalc_datalength, recalc_dataoffset, hc]
  simp

theorem writeHeader_wav (h : H) (s : Store) (hc : h.container = .wav) :
    (writeHeader h s false).1 = { h with dataoffset := ((wavHeader h).length : Int) } := by
  rw [writeHeader_fst_cw, recalc_fields, recalc_filelength, recalc_datalength, recalc_dataoffset, hc, wavHeader_length]
  simp

/-- the header dispatch of `openHandle` for an existing file -/
def parseAny (bs : List Byte) : ParseRes :=
  let m := bs.take 4
  if m == marker "RIFF" ∨ m == marker "RIFX" then wavParse bs
  else if m == marker ".snd" ∨ m == marker "dns." then auParse bs
  else .unmodelled


theorem parseAny_ok {bs : List Byte} {p : Parsed} (h : parseAny bs = .ok p) : wavParse bs = .ok p ∨ auParse bs = .ok p := by
  simp only [parseAny] at h
  split at h
  · exact Or.inl h
  · split at h
    · exact Or.inr h
    · contradiction

theorem parseAny_wf {bs : List Byte} {p : Parsed} (h : parseAny bs = .ok p) : p.WF bs.length :=
  (parseAny_ok h).elim (wavParse_wf bs p) (auParse_wf bs p)

/-- every way `openHandle` succeeds: a new file or a RAW one, described by the arguments (RAW: the frame count from the
    length; AU, WAV: the header is written at once), or an existing file whose header parses -/
theorem openHandle_ok (ix : Nat) (s0 : Store) (mode : Mode) (fmt : Nat) (ch sr : Int) (h : H) (s : Store)
    (ho : openHandle ix s0 mode fmt ch sr = .ok h s) :
    (∃ c enc, containerOf fmt = some c ∧ (1 ≤ ch ∧ ch ≤ 1024) ∧ 1 ≤ sr ∧ encOf c (codecOf fmt) (dataBig c fmt) = some enc ∧
      (mode = .w ∨ (mode = .rw ∧ s0.bytes = []) ∨ c = .raw) ∧
      ((c = .raw ∧ s = s0.seekSet 0 ∧
          h = { store := ix, mode := mode, container := .raw, enc := enc, big := dataBig .raw fmt, ch := ch.toNat, sr := sr,
                fmtWord := fmt, lastOp := mode,
                datalength := (initFrames 0 0 s0.bytes.length (enc.nbytes * ch.toNat)).1,
                frames := (initFrames 0 0 s0.bytes.length (enc.nbytes * ch.toNat)).2,
                filelength := s0.bytes.length,
                wpos := if mode == .rw then (initFrames 0 0 s0.bytes.length (enc.nbytes * ch.toNat)).2 else 0,
                haveWritten := mode == .rw ∧ (initFrames 0 0 s0.bytes.length (enc.nbytes * ch.toNat)).2 > 0 }) ∨
       (c = .au ∧ ∃ h1 : H,
          h1 = { store := ix, mode := mode, container := .au, enc := enc, big := dataBig .au fmt, ch := ch.toNat, sr := sr,
                 fmtWord := fmt, frames := 0, lastOp := mode, datalength := -1, dataoffset := -1 } ∧
          s = (writeHeader h1 (s0.seekSet 0) false).2 ∧ h = { h1 with datalength := 0, dataoffset := 24 }) ∨
       (c = .wav ∧ ∃ h1 : H,
          h1 = { store := ix, mode := mode, container := .wav, enc := enc, big := dataBig .wav fmt, ch := ch.toNat, sr := sr,
                 fmtWord := fmt, frames := 0, lastOp := mode,
                 peak := if mode == .w ∧ enc.isFloatData then some (mkPeaks ch.toNat) else none } ∧
          s = (writeHeader h1 (s0.seekSet 0) false).2 ∧ h = { h1 with dataoffset := ((wavHeader h1).length : Int) }))) ∨
    (∃ p c enc, ¬ (mode = .w ∨ (mode = .rw ∧ s0.bytes = [])) ∧ containerOf fmt ≠ some .raw ∧ parseAny s0.bytes = .ok p ∧
      containerOf p.fmtWord = some c ∧ encOf c (codecOf p.fmtWord) p.big = some enc ∧ 1 ≤ p.sr ∧
      s = (s0.seekSet 0).seekSet p.dataoffset ∧
      h = { store := ix, mode := mode, container := c, enc := enc, big := p.big, ch := p.ch, sr := p.sr,
            fmtWord := p.fmtWord, lastOp := mode, dataoffset := p.dataoffset, dataend := p.dataend,
            filelength := p.filelength, peak := p.peak, peakAtStart := p.peakAtStart,
            frames := (initFrames p.dataoffset p.dataend p.filelength (enc.nbytes * p.ch)).2,
            datalength := (initFrames p.dataoffset p.dataend p.filelength (enc.nbytes * p.ch)).1,
            wpos := if mode == .rw then (initFrames p.dataoffset p.dataend p.filelength (enc.nbytes * p.ch)).2 else 0,
            haveWritten := mode == .rw ∧ (initFrames p.dataoffset p.dataend p.filelength (enc.nbytes * p.ch)).2 > 0 }) := by
  unfold openHandle at ho
  simp only at ho
  -- `openHandle` asks first whether the arguments describe the file (write, a new read/write file, RAW) or its header does;
  -- behind that every test that fails answers an error, against `ho`, and the branch that is left is read off by `injection`
  by_cases hfresh : ((mode == .w) = true ∨ (mode == .rw) = true ∧ ((s0.seekSet 0).bytes.length == 0) = true) ∨
      (containerOf fmt == some .raw) = true
  · rw [if_pos hfresh] at ho
    split at ho
    · contradiction
    rename_i c hc
    by_cases hargs : ch < 1 ∨ ch > 1024 ∨ sr < 0
    · rw [if_pos hargs] at ho; contradiction
    rw [if_neg hargs] at ho
    split at ho
    · contradiction
    rename_i enc henc
    by_cases hsr : sr < 1
    · rw [if_pos hsr] at ho; contradiction
    rw [if_neg hsr] at ho
    have hnew : mode = .w ∨ (mode = .rw ∧ s0.bytes = []) ∨ c = .raw := by
      simpa [Store.seekSet, hc, or_assoc] using hfresh
    refine Or.inl ⟨c, enc, hc, by omega, by omega, henc, hnew, ?_⟩
    split at ho
    · injection ho with e1 e2
      exact Or.inl ⟨rfl, e2.symm, e1.symm⟩
    · rw [writeHeader_au _ _ rfl] at ho
      injection ho with e1 e2
      exact Or.inr (Or.inl ⟨rfl, _, rfl, e2.symm, e1.symm⟩)
    · rw [writeHeader_wav _ _ rfl] at ho
      injection ho with e1 e2
      exact Or.inr (Or.inr ⟨rfl, _, rfl, e2.symm, e1.symm⟩)
  · rw [if_neg hfresh] at ho
    split at ho
    · contradiction
    · contradiction
    rename_i p hp
    split at ho
    · contradiction
    rename_i c hc
    split at ho
    · contradiction
    rename_i enc henc
    by_cases hsr : p.sr < 1
    · rw [if_pos hsr] at ho; contradiction
    rw [if_neg hsr] at ho
    injection ho with e1 e2
    have hnf' : ¬ (mode = .w ∨ (mode = .rw ∧ s0.bytes = [])) ∧ containerOf fmt ≠ some .raw := by
      simpa [Store.seekSet, not_or] using hfresh
    exact Or.inr ⟨p, c, enc, hnf'.1, hnf'.2, hp, hc, henc, by omega, e2.symm, e1.symm⟩

theorem HInv_openHandle (ix : Nat) (s0 : Store) (mode : Mode) (fmt : Nat) (ch sr : Int) (h : H) (s : Store)
    (ho : openHandle ix s0 mode fmt ch sr = .ok h s) : HInv h s := by
  -- the handle of a file that is there already (RAW, or a parsed header): frames from the lengths, positions at the start
  have old : ∀ (enc : Enc) (chn : Nat) (off : Nat) (de fl : Int) (h : H) (s : Store), 0 < chn → 0 < enc.nbytes →
      off ≤ (s0.seekSet 0).bytes.length → fl ≤ ((s0.seekSet 0).bytes.length : Int) →
      (de > 0 → (off : Int) ≤ de ∧ de ≤ ((s0.seekSet 0).bytes.length : Int)) →
      h.ch = chn → h.enc = enc → h.rpos = 0 → h.dataoffset = off → h.lastOp = h.mode →
      h.frames = (initFrames off de fl (enc.nbytes * chn)).2 →
      h.wpos = (if mode == .rw then (initFrames off de fl (enc.nbytes * chn)).2 else 0) →
      s = (s0.seekSet 0).seekSet off → HInv h s := by
    intro enc chn off de fl h s hchn hnb hoff hfl hde e1 e2 e3 e4 e5 e6 e7 e8
    obtain ⟨f0, f1⟩ := initFrames_spec off de fl (enc.nbytes * chn) ((s0.seekSet 0).bytes.length : Int)
      (Nat.mul_pos hnb hchn) (by omega) hde hfl
    subst e8
    refine ⟨e1 ▸ hchn, e2 ▸ hnb, e3 ▸ Int.le_refl _, ?_, e4 ▸ Int.natCast_nonneg _,
      fun hm => ⟨e5.trans hm, by rw [e3, e6]; exact f0, by rw [e4, e6, H.bw, e1, e2]; exact f1, fun _ => ?_⟩⟩
    · rw [e7]; split
      · exact f0
      · exact Int.le_refl _
    · rw [e4, e3]; simp [Store.seekSet]
  rcases openHandle_ok ix s0 mode fmt ch sr h s ho with
    ⟨c, enc, _, hch, _, henc, hnew, hcase⟩ | ⟨p, c, enc, _, _, hp, _, henc, _, rfl, rfl⟩
  · have hnb := encOf_nbytes_pos henc
    have hchn : 0 < ch.toNat := by omega
    -- a new AU or WAV file is not open for reading: only the signs matter
    have hmode : c ≠ .raw → mode ≠ .r := by
      intro hr hm; subst hm
      rcases hnew with hm | ⟨hm, _⟩ | hc
      · cases hm
      · cases hm
      · exact hr hc
    rcases hcase with ⟨rfl, rfl, rfl⟩ | ⟨rfl, h1, rfl, rfl, rfl⟩ | ⟨rfl, h1, rfl, rfl, rfl⟩
    · exact old enc ch.toNat 0 0 _ _ _ hchn hnb (by omega) (Int.le_refl _) (by omega) rfl rfl rfl rfl rfl rfl rfl rfl
    · exact ⟨hchn, hnb, Int.le_refl _, Int.le_refl _, by show (0 : Int) ≤ 24; omega, fun hm => absurd hm (hmode (by decide))⟩
    · exact ⟨hchn, hnb, Int.le_refl _, Int.le_refl _, Int.natCast_nonneg _, fun hm => absurd hm (hmode (by decide))⟩
  · obtain ⟨w1, w2, w3, w4, _⟩ := parseAny_wf hp
    exact old enc p.ch p.dataoffset p.dataend p.filelength _ _ w1 (encOf_nbytes_pos henc) w2 w3 w4
      rfl rfl rfl rfl rfl rfl rfl rfl

theorem HInv_reachable (ix : Nat) (s0 : Store) (mode : Mode) (fmt : Nat) (ch sr : Int) (h : H) (s : Store)
    (ho : openHandle ix s0 mode fmt ch sr = .ok h s) (ops : List Op) :
    HInv (runOps h s ops).1 (runOps h s ops).2 :=
  HInv_runOps ops h s (HInv_openHandle ix s0 mode fmt ch sr h s ho)

/-- the handle was created by `sf_open (…, fmt, ch, sr)` on a new file (or a RAW one) -/
structure CfgOf (fmt : Nat) (ch sr : Int) (h : H) : Prop where
  cont : containerOf fmt = some h.container
  enc : encOf h.container (codecOf fmt) h.big = some h.enc
  big : h.big = dataBig h.container fmt
  fmtWord : h.fmtWord = fmt
  chr : 1 ≤ ch ∧ ch ≤ 1024
  srr : 1 ≤ sr
  hch : h.ch = ch.toNat
  hsr : h.sr = sr

theorem CfgOf.nb_pos {fmt : Nat} {ch sr : Int} {h : H} (c : CfgOf fmt ch sr h) : 0 < h.enc.nbytes := encOf_nbytes_pos c.enc

theorem CfgOf.wf {fmt : Nat} {ch sr : Int} {h : H} (c : CfgOf fmt ch sr h) : h.enc.wf := (encOf_props _ _ _ _ c.enc).2

structure OpenW (fmt : Nat) (ch sr : Int) (h : H) : Prop extends CfgOf fmt ch sr h where
  conv : h.conv = {}
  auto : h.autoHeader = false
  peak : h.peak = if h.container = .wav ∧ h.enc.isFloatData = true then some (mkPeaks h.ch) else none
  pas : h.peakAtStart = true

theorem openHandle_byArgs (ix : Nat) (s0 : Store) (mode : Mode) (fmt : Nat) (ch sr : Int) (h : H) (s : Store)
    (ho : openHandle ix s0 mode fmt ch sr = .ok h s)
    (hf : mode = .w ∨ (mode = .rw ∧ s0.bytes = []) ∨ containerOf fmt = some .raw) :
    CfgOf fmt ch sr h ∧ h.conv = {} ∧ h.autoHeader = false ∧ h.peakAtStart = true ∧
      h.peak = if h.container = .wav ∧ mode = .w ∧ h.enc.isFloatData = true then some (mkPeaks h.ch) else none := by
  rcases openHandle_ok ix s0 mode fmt ch sr h s ho with ⟨c, enc, hc, hch, hsr, henc, _, hcase⟩ | ⟨_, _, _, hnf, hnr, _⟩
  · rcases hcase with ⟨rfl, _, rfl⟩ | ⟨rfl, h1, rfl, _, rfl⟩ | ⟨rfl, h1, rfl, _, rfl⟩ <;>
      exact ⟨⟨hc, henc, rfl, rfl, hch, hsr, rfl, rfl⟩, rfl, rfl, rfl, by simp⟩
  · rcases hf with hf | hf | hf
    · exact absurd (Or.inl hf) hnf
    · exact absurd (Or.inr hf) hnf
    · exact absurd hf hnr

theorem open_props (si : Nat) (s0 : Store) (fmt : Nat) (ch sr : Int) (h : H) (s : Store)
    (ho : openHandle si s0 .w fmt ch sr = .ok h s) : OpenW fmt ch sr h := by
  obtain ⟨c, hconv, hauto, hpas, hpk⟩ := openHandle_byArgs si s0 .w fmt ch sr h s ho (.inl rfl)
  exact { c with conv := hconv, auto := hauto, pas := hpas, peak := by simpa using hpk }

end Sf

namespace Sf.AbsBridge
open Sf

/-- what `openHandle` leaves: the mode asked for, read position 0, a non-negative frame count, write position 0 (the frame
    count on a read/write handle) — the start conditions of `C05Bridge.handle_run_accepted` -/
theorem open_facts (ix : Nat) (s0 : Store) (mode : Sf.Mode) (fmt : Nat) (ch sr : Int) (h : H) (s : Store)
    (ho : openHandle ix s0 mode fmt ch sr = .ok h s) :
    h.mode = mode ∧ h.rpos = 0 ∧ 0 ≤ h.frames ∧ h.wpos = (if mode = .rw then h.frames else 0) := by
  have wpos_eq : ∀ (fr : Int), (if (mode == Sf.Mode.rw) = true then fr else 0) = (if mode = .rw then fr else 0) := by
    intro fr; cases mode <;> rfl
  rcases openHandle_ok ix s0 mode fmt ch sr h s ho with
    ⟨c, enc, _, hch, _, henc, _, hcase⟩ | ⟨p, c, enc, _, _, hp, _, henc, _, _, rfl⟩
  · rcases hcase with ⟨_, _, rfl⟩ | ⟨_, h1, rfl, _, rfl⟩ | ⟨_, h1, rfl, _, rfl⟩
    · have hbw : 0 < enc.nbytes * ch.toNat := Nat.mul_pos (encOf_nbytes_pos henc) (by omega)
      exact ⟨rfl, rfl, (initFrames_spec 0 0 _ _ s0.bytes.length hbw (by omega) (by omega) (by omega)).1, wpos_eq _⟩
    · exact ⟨rfl, rfl, Int.le_refl _, by show (0 : Int) = _; split <;> rfl⟩
    · exact ⟨rfl, rfl, Int.le_refl _, by show (0 : Int) = _; split <;> rfl⟩
  · obtain ⟨w1, w2, w3, w4, _⟩ := parseAny_wf hp
    have hbw : 0 < enc.nbytes * p.ch := Nat.mul_pos (encOf_nbytes_pos henc) w1
    exact ⟨rfl, rfl, (initFrames_spec _ _ _ _ s0.bytes.length hbw (by omega) w4 w3).1, wpos_eq _⟩

end Sf.AbsBridge
