/-
  SfProofs.AbsWriteBridgeEnc — what the sample-granular models of the write-side bridge share about their sample encoding
  `Enc`: decode ∘ encode commutes with prefixes (`decode_prefix`) and is the identity under the side condition of the
  predicate (`roundtrip_exact`: `sampleOk` gives the model's `lossless`, then C01.data_roundtrip) — the two hypotheses
  `rtPrefix` / `rtExact` of `good_of_decoded`.
-/
import SfProofs.AbsWriteBridge
import SfProps.C01AbsW
namespace Sf.AbsWriteBridge
open Sf Sf.AbsWrite

theorem encOf_cases {cont : Container} {codec : Nat} {big : Bool} {e : Enc} (h : encOf cont codec big = some e) :
    codec ∈ Geometry.sampleGranular ∧
    match e with
    | .pcm p => intWidth codec = some p.w
    | .flt _ => codec = 0x06
    | .dbl _ => codec = 0x07
    | .ulaw | .alaw => codec = 0x10 ∨ codec = 0x11 := by
  unfold encOf at h
  split at h <;> (try split at h) <;> (try cases h) <;> exact ⟨by decide, by simp [intWidth]⟩

theorem encOf_granular {cont : Container} {codec : Nat} {big : Bool} {e : Enc} (h : encOf cont codec big = some e) :
    codec ∈ Geometry.sampleGranular :=
  (encOf_cases h).1

/-- `sampleOk` of a short under an integer encoding of width `w`, on the value: its low 16 − w bits are zero -/
theorem sampleOk_low16 {codec w : Nat} (hiw : intWidth codec = some w) {v : Int} (h : sampleOk codec .s16 v) : v % 2 ^ (16 - w) = 0 := by
  have h2 : wrapU 16 v % 2 ^ (16 - w) = 0 := by simpa [cellOk] using sampleOk_s16 hiw h
  exact (C01AbsW.wrapU_mod 16 (16 - w) (by omega) v).1 h2

/-- … of an int: the low 32 − w bits -/
theorem sampleOk_low32 {codec w : Nat} (hiw : intWidth codec = some w) {v : Int} (h : sampleOk codec .s32 v) : v % 2 ^ (32 - w) = 0 := by
  have h2 : wrapU 32 v % 2 ^ (32 - w) = 0 := by simpa [cellOk] using sampleOk_s32 hiw h
  exact (C01AbsW.wrapU_mod 32 (32 - w) (by omega) v).1 h2

theorem sampleOk_lossless {cont : Container} {codec : Nat} {big : Bool} {e : Enc} (he : encOf cont codec big = some e)
    (ty : Ty) (v : Int) (h : sampleOk codec ty v) : lossless e ty v := by
  have h0 := h
  obtain ⟨lz, hlz, hc⟩ := h
  have hk := (encOf_cases he).2
  cases e with
  | pcm p =>
    have hw : intWidth codec = some p.w := hk
    have hflt : codec ≠ 0x06 ∧ codec ≠ 0x07 := ⟨by rintro rfl; simp [intWidth] at hw, by rintro rfl; simp [intWidth] at hw⟩
    cases ty with
    | s16 => exact (C01AbsW.side_condition_matches_model p codec v).1.1 (sampleOk_s16 hw h0)
    | s32 => exact (C01AbsW.side_condition_matches_model p codec v).2.1 (sampleOk_s32 hw h0)
    | f32 => simp [losslessLow, hflt.1, hflt.2] at hlz
    | f64 => simp [losslessLow, hflt.2] at hlz
  | flt b =>
    obtain rfl : codec = 0x06 := hk
    cases ty <;> trivial
  | dbl b =>
    obtain rfl : codec = 0x07 := hk
    cases ty with
    | s16 => exfalso; simp [losslessLow, intWidth] at hlz
    | s32 => exfalso; simp [losslessLow, intWidth] at hlz
    | f64 => trivial
    | f32 =>
      have := hc v.toNat (by simp [cellOf])
      show Float.f32.isFinite v.toNat = true
      simp only [cellOk, bne_self_eq_false, Bool.false_or] at this
      exact this
  | ulaw | alaw =>
    exfalso
    rcases (hk : codec = 0x10 ∨ codec = 0x11) with rfl | rfl <;> cases ty <;> simp [losslessLow, intWidth] at hlz

theorem decode_encode_length (e : Enc) (hnb : 0 < e.nbytes) (c' : Conv) (ty : Ty) (xs : List Int) :
    (e.decodeAll c' ty (e.encodeAll {} ty xs)).length = xs.length := by
  rw [Enc.decodeAll_length _ _ _ hnb, Enc.encodeAll_length_cw, Nat.mul_div_cancel _ hnb]

theorem decode_prefix (e : Enc) (hnb : 0 < e.nbytes) (c' : Conv) (ty : Ty) (xs ys : List Int) :
    (e.decodeAll c' ty (e.encodeAll {} ty (xs ++ ys))).take xs.length = e.decodeAll c' ty (e.encodeAll {} ty xs) := by
  rw [Enc.encodeAll_append, Enc.decodeAll_append _ _ _ hnb xs.length _ _ (Enc.encodeAll_length_cw _ _ _ _)]
  exact List.take_left' (decode_encode_length e hnb c' ty xs)

/-- C01.data_roundtrip with the side condition in the predicate's form (`sampleOk`) -/
theorem roundtrip_exact {cont : Container} {codec : Nat} {big : Bool} {e : Enc} (he : encOf cont codec big = some e)
    (ty : Ty) (xs : List Int) (hr : ∀ v ∈ xs, ty.inRange v) (hok : ∀ v ∈ xs, sampleOk codec ty v) :
    e.decodeAll {} ty (e.encodeAll {} ty xs) = xs :=
  have ⟨hnb, hwf⟩ := encOf_props cont codec big e he
  C01.data_roundtrip C01.widenExact e hwf hnb {} {} ty xs hr (fun v hv => sampleOk_lossless he ty v (hok v hv))

end Sf.AbsWriteBridge
