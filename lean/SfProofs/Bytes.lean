/- byte (de)serialisation round trips for any number of bytes; the signed and unsigned residues `wrapS`, `wrapU` -/
import SfModel.Basic
namespace Sf

theorem ofLE_leBytes (n v : Nat) : ofLE (leBytes n v) = v % 256 ^ n := by
  induction n generalizing v with
  | zero => simp [leBytes, ofLE, Nat.mod_one]
  | succ n ih =>
    simp only [leBytes, ofLE, ih]
    rw [Nat.pow_succ, Nat.mul_comm (256 ^ n) 256, Nat.mod_mul]

theorem leBytes_length (n v : Nat) : (leBytes n v).length = n := by
  induction n generalizing v with
  | zero => rfl
  | succ n ih => simp [leBytes, ih]

theorem ofBE_beBytes (n v : Nat) : ofBE (beBytes n v) = v % 256 ^ n := by
  simp [ofBE, beBytes, ofLE_leBytes]

theorem beBytes_length (n v : Nat) : (beBytes n v).length = n := by
  simp [beBytes, leBytes_length]

theorem ofLE_leBytes_of_lt (n v : Nat) (h : v < 2 ^ (8 * n)) : ofLE (leBytes n v) = v := by
  rw [ofLE_leBytes, show 256 = 2 ^ 8 from rfl, ← Nat.pow_mul]; exact Nat.mod_eq_of_lt h

theorem ofBE_beBytes_of_lt (n v : Nat) (h : v < 2 ^ (8 * n)) : ofBE (beBytes n v) = v := by
  rw [ofBE_beBytes, show 256 = 2 ^ 8 from rfl, ← Nat.pow_mul]; exact Nat.mod_eq_of_lt h

theorem leBytes_lt (n v : Nat) : ∀ b ∈ leBytes n v, b < 256 := by
  induction n generalizing v with
  | zero => simp [leBytes]
  | succ n ih =>
    intro b hb
    simp only [leBytes, List.mem_cons] at hb
    rcases hb with h | h
    · subst h; exact Nat.mod_lt _ (by decide)
    · exact ih _ b h

theorem ofLE_append (a b : List Nat) : ofLE (a ++ b) = ofLE a + 256 ^ a.length * ofLE b := by
  induction a with
  | nil => simp [ofLE]
  | cons x a ih =>
    rw [List.cons_append, ofLE, ofLE, ih, List.length_cons, Nat.pow_succ', Nat.mul_add, Nat.mul_assoc, Nat.add_assoc]

theorem leBytes_add (m n x : Nat) : leBytes (m + n) x = leBytes m x ++ leBytes n (x / 256 ^ m) := by
  induction m generalizing x with
  | zero => simp [leBytes]
  | succ m ih =>
    rw [Nat.add_right_comm, leBytes, leBytes, ih, List.cons_append, Nat.div_div_eq_div_mul, Nat.pow_succ, Nat.mul_comm]

theorem leBytes_mod (n x : Nat) : leBytes n (x % 256 ^ n) = leBytes n x := by
  induction n generalizing x with
  | zero => rfl
  | succ n ih => rw [leBytes, leBytes, Nat.pow_succ', Nat.mod_mul_right_mod, Nat.mod_mul_right_div_self, ih]

theorem ofLE_lt : ∀ l : List Nat, (∀ b ∈ l, b < 256) → ofLE l < 256 ^ l.length
  | [], _ => by simp [ofLE]
  | b :: bs, h => by
    have hb : b < 256 := h b (by simp)
    have ih := ofLE_lt bs (fun x hx => h x (by simp [hx]))
    rw [ofLE, List.length_cons, Nat.pow_succ]
    omega

theorem leBytes_ofLE : ∀ (l : List Nat), (∀ b ∈ l, b < 256) → leBytes l.length (ofLE l) = l
  | [], _ => rfl
  | b :: bs, h => by
    have hb : b < 256 := h b (by simp)
    have ih := leBytes_ofLE bs (fun x hx => h x (by simp [hx]))
    have e1 : (b + 256 * ofLE bs) % 256 = b := by omega
    have e2 : (b + 256 * ofLE bs) / 256 = ofLE bs := by omega
    rw [List.length_cons, ofLE, leBytes, e1, e2, ih]

theorem beBytes_lt (n v : Nat) : ∀ b ∈ beBytes n v, b < 256 := fun b hb =>
  leBytes_lt n v b (List.mem_reverse.mp hb)

theorem beBytes_ofBE (l : List Nat) (h : ∀ b ∈ l, b < 256) : beBytes l.length (ofBE l) = l := by
  have := leBytes_ofLE l.reverse (fun b hb => h b (List.mem_reverse.mp hb))
  rw [List.length_reverse] at this
  rw [beBytes, ofBE, this, List.reverse_reverse]

theorem leBytes_ofBE_leBytes (n x : Nat) : leBytes n (ofBE (leBytes n x)) = beBytes n x := by
  have := beBytes_ofBE (leBytes n x) (leBytes_lt n x)
  rw [leBytes_length, beBytes] at this
  exact List.reverse_eq_iff.mp this

theorem ofBE_leBytes_lt (n x : Nat) : ofBE (leBytes n x) < 256 ^ n := by
  have := ofLE_lt (leBytes n x).reverse (fun b hb => leBytes_lt n x b (List.mem_reverse.mp hb))
  rwa [List.length_reverse, leBytes_length] at this

theorem ofBE_leBytes_involutive (n x : Nat) : ofBE (leBytes n (ofBE (leBytes n x))) = x % 256 ^ n := by
  rw [leBytes_ofBE_leBytes, ofBE_beBytes]

theorem wrapS_congr (n : Nat) {x y : Int} (h : x % 2 ^ n = y % 2 ^ n) : wrapS n x = wrapS n y := by
  unfold wrapS; simp only [h]

theorem wrapS_emod (n : Nat) (x : Int) : wrapS n x % 2 ^ n = x % 2 ^ n := by
  unfold wrapS
  simp only
  split
  · exact Int.emod_emod_of_dvd x (Int.dvd_refl _)
  · rw [Int.sub_emod, Int.emod_self, Int.sub_zero, Int.emod_emod_of_dvd _ (Int.dvd_refl _), Int.emod_emod_of_dvd _ (Int.dvd_refl _)]

theorem wrapU_cast (n : Nat) (x : Int) : (wrapU n x : Int) = x % 2 ^ n :=
  Int.toNat_of_nonneg (Int.emod_nonneg x (Int.pow_ne_zero (by decide)))

theorem wrapS_wrapS (n : Nat) (x : Int) : wrapS n (wrapS n x) = wrapS n x := wrapS_congr n (wrapS_emod n x)

theorem wrapU_wrapS (n : Nat) (x : Int) : wrapU n (wrapS n x) = wrapU n x := by
  unfold wrapU; rw [wrapS_emod]

theorem wrapS_wrapU (n : Nat) (x : Int) : wrapS n (wrapU n x) = wrapS n x :=
  wrapS_congr n (by rw [wrapU_cast, Int.emod_emod_of_dvd x (Int.dvd_refl _)])

theorem wrapU_natCast (n u : Nat) : wrapU n (u : Int) = u % 2 ^ n := by
  unfold wrapU; norm_cast

theorem wrapS_natCast_mod (n u : Nat) : wrapS n ((u % 2 ^ n : Nat) : Int) = wrapS n u := by
  rw [← wrapU_natCast, wrapS_wrapU]

theorem wrapS_add_wrapS (n : Nat) (x y : Int) : wrapS n (wrapS n x + y) = wrapS n (x + y) :=
  wrapS_congr n (by rw [Int.add_emod, wrapS_emod, ← Int.add_emod])

theorem wrapS_of_range (n : Nat) (x : Int) (h1 : -(2 ^ n / 2) ≤ x) (h2 : x < 2 ^ n / 2) : wrapS n x = x := by
  have hm : (0 : Int) < 2 ^ n := Int.pow_pos (by decide)
  unfold wrapS
  simp only
  generalize (2 : Int) ^ n = m at *
  by_cases hx : 0 ≤ x
  · rw [Int.emod_eq_of_lt hx (by omega), if_pos h2]
  · have e : x % m = x + m := by
      rw [← Int.add_emod_right x m]; exact Int.emod_eq_of_lt (by omega) (by omega)
    rw [e, if_neg (by omega)]; omega

theorem wrapS_range (n : Nat) (hn : 0 < n) (x : Int) : -(2 ^ n / 2) ≤ wrapS n x ∧ wrapS n x < 2 ^ n / 2 := by
  have hm : (0 : Int) < 2 ^ n := Int.pow_pos (by decide)
  have he : (2 : Int) ^ n % 2 = 0 := by
    obtain ⟨k, rfl⟩ : ∃ k, n = k + 1 := ⟨n - 1, by omega⟩
    rw [Int.pow_succ]; omega
  have h1 := Int.emod_nonneg x (Int.ne_of_gt hm)
  have h2 := Int.emod_lt_of_pos x hm
  unfold wrapS
  simp only
  generalize (2 : Int) ^ n = m at *
  split <;> omega

theorem wrapS16_range (x : Int) : -32768 ≤ wrapS 16 x ∧ wrapS 16 x ≤ 32767 := by
  have := wrapS_range 16 (by decide) x; omega

theorem wrapS_mul_pow (a b : Nat) (ha : 0 < a) (r : Int) : wrapS (a + b) (r * 2 ^ b) = wrapS a r * 2 ^ b := by
  obtain ⟨k, rfl⟩ : ∃ k, a = k + 1 := ⟨a - 1, by omega⟩
  have hb : (0 : Int) < 2 ^ b := Int.pow_pos (by decide)
  have hm : (r * 2 ^ b) % 2 ^ (k + 1 + b) = r % 2 ^ (k + 1) * 2 ^ b := by
    rw [Int.pow_add, Int.mul_comm r, Int.mul_comm (2 ^ (k + 1)), Int.mul_emod_mul_of_pos _ _ hb, Int.mul_comm]
  have hhalf : (2 : Int) ^ (k + 1 + b) / 2 = 2 ^ (k + 1) / 2 * 2 ^ b := by
    rw [Int.pow_add, Int.pow_succ, Int.mul_ediv_cancel _ (by decide), Int.mul_right_comm, Int.mul_ediv_cancel _ (by decide)]
  unfold wrapS
  simp only [hm, hhalf]
  by_cases h : r % 2 ^ (k + 1) < 2 ^ (k + 1) / 2
  · rw [if_pos h, if_pos (Int.mul_lt_mul_of_pos_right h hb)]
  · rw [if_neg h, if_neg (fun h' => h (Int.lt_of_mul_lt_mul_right h' (Int.le_of_lt hb))), Int.sub_mul, Int.pow_add 2 (k + 1) b]

theorem wrapU_lt_pow (n : Nat) (x : Int) : wrapU n x < 2 ^ n := by
  have h : (wrapU n x : Int) < 2 ^ n := by rw [wrapU_cast]; exact Int.emod_lt_of_pos x (Int.pow_pos (by decide))
  exact_mod_cast h

theorem sext_wrapU (n : Nat) (hn : 0 < n) (x : Int) : sext n (wrapU n x) = wrapS n x := by
  obtain ⟨k, rfl⟩ : ∃ k, n = k + 1 := ⟨n - 1, by omega⟩
  have hc := wrapU_cast (k + 1) x
  have hhalf : (2 : Int) ^ (k + 1) / 2 = 2 ^ k := by rw [Int.pow_succ, Int.mul_ediv_cancel _ (by decide)]
  unfold sext wrapS
  simp only [Nat.add_sub_cancel, ← hc, hhalf]
  norm_cast

theorem bytes_roundtrip (big : Bool) (n u : Nat) (hu : u < 256 ^ n) :
    (if big then ofBE (if big then beBytes n u else leBytes n u) else ofLE (if big then beBytes n u else leBytes n u)) = u := by
  cases big
  · simp only [Bool.false_eq_true, if_false]; rw [ofLE_leBytes, Nat.mod_eq_of_lt hu]
  · simp only [if_true]; rw [ofBE_beBytes, Nat.mod_eq_of_lt hu]

/-- for `omega`: the quotient of a non-negative numerator is the floor quotient, of a negative one the negated floor
    quotient of the negation -/
theorem cdiv_nonneg (a b : Int) (ha : 0 ≤ a) : cdiv a b = a / b :=
  Int.tdiv_eq_ediv_of_nonneg ha

theorem cdiv_neg (a b : Int) : cdiv (-a) b = - cdiv a b :=
  Int.neg_tdiv ..

theorem cdiv_zero (b : Int) : cdiv 0 b = 0 := by simp [cdiv]

theorem asr_zero (y : Int) : asr y 0 = y := by unfold asr; simp

theorem map_eq_self {α} {f : α → α} {l : List α} (h : ∀ a ∈ l, f a = a) : l.map f = l := by
  simpa using List.map_congr_left (g := id) h

theorem takeWhile_all {α} (p : α → Bool) (l : List α) (h : ∀ a ∈ l, p a = true) : l.takeWhile p = l := by
  simpa using List.takeWhile_append_of_pos (l₂ := []) h

/-- `b` full blocks of `s` items and `r` items of a started one: ⌈n / s⌉ counts the started one -/
theorem ceil_div (b r s : Nat) (hr : r < s) : (b * s + r + (s - 1)) / s = b + if r = 0 then 0 else 1 := by
  rw [Nat.add_assoc, Nat.add_comm, Nat.add_mul_div_right _ _ (by omega), Nat.add_comm _ b]
  split
  · rw [Nat.div_eq_of_lt (by omega)]
  · rw [Nat.div_eq_of_lt_le (k := 1) (by omega) (by omega)]

theorem flatten_length_const {α : Type} (n : Nat) (l : List (List α)) (h : ∀ b ∈ l, b.length = n) : l.flatten.length = l.length * n := by
  rw [List.length_flatten, List.map_eq_replicate_iff.mpr h, List.sum_replicate_nat]

theorem flatMap_length_const {α β : Type} (n : Nat) (f : α → List β) (l : List α) (h : ∀ a ∈ l, (f a).length = n) :
    (l.flatMap f).length = l.length * n := by
  rw [List.flatMap_def, flatten_length_const n _ (by simpa using h), List.length_map]

theorem flatMap_length_mod {α β : Type} (n : Nat) (f : α → List β) (l : List α) (h : ∀ a ∈ l, (f a).length % n = 0) :
    (l.flatMap f).length % n = 0 := by
  induction l with
  | nil => rfl
  | cons a r ih =>
    rw [List.flatMap_cons, List.length_append, Nat.add_mod, h a (List.mem_cons_self ..), ih fun b hb => h b (List.mem_cons_of_mem _ hb)]
    rfl

end Sf
