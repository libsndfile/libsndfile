/-
  The read / write contract of the wrappers: counts, bounds and positions.  `framesOf` / `itemsOf` turn the return value of
  an items or frames call into frames / items (the vocabulary of C05's statements).  In every mode: `read_contract_any`,
  `write_contract_valid` (a valid write call).  On a read-only handle a valid request delivers min (asked, left) whole frames: `read_rmode_nat`
  (counts as `Nat`, end of data included) and from it `read_rmode_full` (the `Int` form C05 / C06 cite).
-/
import SfProofs.HandleRead
namespace Sf

/-- frames a return value stands for -/
def framesOf (h : H) (fc : Bool) (ret : Int) : Int := if fc then ret else ret / (h.ch : Int)

/-- items a return value stands for -/
def itemsOf (h : H) (fc : Bool) (ret : Int) : Int := if fc then ret * (h.ch : Int) else ret

theorem read_contract_any (h : H) (s : Store) (ty : Ty) (fc : Bool) (n : Int) (hi : HInv h s) :
    0 ≤ (stepRead h s ty fc n).2.2.ret ∧ (0 ≤ n → (stepRead h s ty fc n).2.2.ret ≤ n) ∧
    (n ≤ 0 → (stepRead h s ty fc n).2.2.ret = 0) ∧
    (stepRead h s ty fc n).2.2.data.length = (reqLen h fc n).toNat ∧
    (stepRead h s ty fc n).1.rpos = h.rpos + framesOf h fc (stepRead h s ty fc n).2.2.ret ∧
    (stepRead h s ty fc n).2.1.bytes = s.bytes := by
  by_cases hq : ReadValid h fc n ∧ h.rpos < h.frames
  · obtain ⟨⟨hn, hw, ha⟩, he⟩ := hq
    obtain ⟨c, _, hcL, hcV, e⟩ := stepRead_count h s ty fc n hn hw ha he hi.ch_pos hi.nb_pos
    rw [e]
    have hch : (0 : Int) < h.ch := by have := hi.ch_pos; omega
    have hcI : (c : Int) ≤ reqLen h fc n := by have := reqLen_nonneg h fc n (by omega); omega
    refine ⟨?_, fun _ => ?_, fun _ => by omega, (readBuf_length_take _ c _ _ hcV hcL).1, ?_, rfl⟩
    · show 0 ≤ if fc then (c : Int) / h.ch else c
      split
      · exact Int.ediv_nonneg (by omega) (by omega)
      · omega
    · show (if fc then (c : Int) / h.ch else c) ≤ n
      unfold reqLen at hcI
      split <;> simp_all only [if_true, if_false, Bool.false_eq_true]
      · exact Int.ediv_le_of_le_mul hch hcI
    · show h.rpos + (c : Int) / h.ch = h.rpos + framesOf h fc (if fc then (c : Int) / h.ch else c)
      unfold framesOf; split <;> rfl
  · obtain ⟨e, o, eq, hret, hlen⟩ := stepRead_quiet h s ty fc n hq
    rw [eq]
    refine ⟨by rw [hret]; exact Int.le_refl _, fun _ => by rw [hret]; omega, fun _ => hret, hlen, ?_, rfl⟩
    show h.rpos = h.rpos + framesOf h fc o.ret
    rw [hret]; unfold framesOf; split <;> simp

/-- what a read leaves alone, in this order: frame count, channels, encoding, conversion settings, data offset, mode, write
    position (it changes the error field, the read position and `lastOp` only: `stepRead_fields`) -/
theorem stepRead_keeps (h : H) (s : Store) (ty : Ty) (fc : Bool) (n : Int) :
    (stepRead h s ty fc n).1.frames = h.frames ∧ (stepRead h s ty fc n).1.ch = h.ch ∧
    (stepRead h s ty fc n).1.enc = h.enc ∧ (stepRead h s ty fc n).1.conv = h.conv ∧
    (stepRead h s ty fc n).1.dataoffset = h.dataoffset ∧ (stepRead h s ty fc n).1.mode = h.mode ∧
    (stepRead h s ty fc n).1.wpos = h.wpos := by
  obtain ⟨e, rp, lo, eq⟩ := stepRead_fields h s ty fc n
  rw [eq]
  exact ⟨rfl, rfl, rfl, rfl, rfl, rfl, rfl⟩

theorem read_valid_err (h : H) (s : Store) (ty : Ty) (fc : Bool) (n : Int) (hi : HInv h s) (hv : ReadValid h fc n) :
    (stepRead h s ty fc n).2.2.err = 0 ∧ (stepRead h s ty fc n).1.error = 0 := by
  obtain ⟨hn, hw, ha⟩ := hv
  by_cases he : h.frames ≤ h.rpos
  · rw [stepRead_eof _ _ _ _ _ hn hw ha he]; exact ⟨rfl, rfl⟩
  · obtain ⟨c, _, _, _, e⟩ := stepRead_count h s ty fc n hn hw ha (by omega) hi.ch_pos hi.nb_pos
    rw [e]; exact ⟨rfl, rfl⟩

/-- a valid request of `m` whole frames on a read-only handle with `A` frames left, the end of the data (`A = 0`) included:
    `min m A` frames are delivered -/
theorem read_rmode_nat (h : H) (s : Store) (ty : Ty) (fc : Bool) (n : Int) (hi : HInv h s) (hm : h.mode = .r)
    (hn : 0 < n) (ha : fc = true ∨ n % (h.ch : Int) = 0) (m : Nat) (hlen : reqLen h fc n = (m : Int) * (h.ch : Int)) :
    ∃ R A : Nat, h.rpos = R ∧ h.frames = ((R + A : Nat) : Int) ∧
      (stepRead h s ty fc n).1.rpos = ((R + min m A : Nat) : Int) ∧
      (stepRead h s ty fc n).2.2.ret = (if fc then ((min m A : Nat) : Int) else ((min m A * h.ch : Nat) : Int)) ∧
      (stepRead h s ty fc n).2.2.err = 0 ∧
      (stepRead h s ty fc n).2.2.data.length = m * h.ch ∧
      (stepRead h s ty fc n).2.2.data.take (min m A * h.ch) =
        ((itemStream h s.bytes ty).drop (R * h.ch)).take (min m A * h.ch) := by
  have hw : h.mode ≠ .w := by rw [hm]; decide
  have hle := (hi.rd hm).rpos_le
  by_cases he : h.frames ≤ h.rpos
  · obtain ⟨R, hR⟩ := Int.eq_ofNat_of_zero_le hi.rpos_nn
    refine ⟨R, 0, hR, by omega, ?_⟩
    rw [stepRead_eof _ _ _ _ _ hn hw ha he]
    have : min m 0 = 0 := by omega
    rw [this]
    refine ⟨hR, by split <;> simp, rfl, ?_, by simp⟩
    simp only [List.length_replicate, hlen]
    exact Int.toNat_natCast (m * h.ch) ▸ (by push_cast; rfl)
  · obtain ⟨R, A, hR, hF, e1, _, _, e4, e5, e6, e7⟩ := stepRead_rmode h s ty fc n hi hm hn ha (by omega) m hlen
    exact ⟨R, A, hR, hF, by rw [e1], e4, e5, e6, e7⟩

theorem read_rmode_full (h : H) (s : Store) (ty : Ty) (fc : Bool) (n : Int) (hi : HInv h s) (hm : h.mode = .r)
    (hn : 0 < n) (ha : fc = true ∨ n % (h.ch : Int) = 0) :
    ∃ m d : Nat, reqLen h fc n = (m : Int) * (h.ch : Int) ∧ (d : Int) = min (m : Int) (h.frames - h.rpos) ∧
      (stepRead h s ty fc n).2.2.ret = (if fc then (d : Int) else (d : Int) * (h.ch : Int)) ∧
      (stepRead h s ty fc n).1.rpos = h.rpos + d ∧
      (stepRead h s ty fc n).2.2.err = 0 ∧
      (stepRead h s ty fc n).2.2.data.length = m * h.ch ∧
      (stepRead h s ty fc n).2.2.data.take (d * h.ch) =
        ((itemStream h s.bytes ty).drop (h.rpos.toNat * h.ch)).take (d * h.ch) := by
  obtain ⟨m, _, hlen, _, _⟩ := reqLen_frames h fc n hi.ch_pos hn ha
  obtain ⟨R, A, hR, hF, e1, e4, e5, e6, e7⟩ := read_rmode_nat h s ty fc n hi hm hn ha m hlen
  refine ⟨m, min m A, hlen, by rw [hF, hR]; push_cast; omega, ?_, by rw [e1]; push_cast; omega, e5, e6, by rw [e7, hR, Int.toNat_natCast]⟩
  rw [e4]; split
  · rfl
  · push_cast; rfl

theorem write_contract_valid (h : H) (s : Store) (ty : Ty) (fc : Bool) (n : Int) (data : List Int) (hi : HInv h s)
    (hv : WriteValid h fc n) :
    (stepWrite h s ty fc n data).2.2.ret = n ∧ (stepWrite h s ty fc n data).2.2.err = 0 ∧
    (stepWrite h s ty fc n data).1.error = 0 ∧
    (stepWrite h s ty fc n data).1.wpos = h.wpos + framesOf h fc n ∧
    (stepWrite h s ty fc n data).1.frames = max h.frames (stepWrite h s ty fc n data).1.wpos ∧
    (stepWrite h s ty fc n data).1.rpos = h.rpos ∧ (stepWrite h s ty fc n data).1.ch = h.ch ∧
    (stepWrite h s ty fc n data).1.mode = h.mode ∧ (stepWrite h s ty fc n data).1.enc = h.enc := by
  obtain ⟨fl, dl, off, de, pk, e, _, eo⟩ := stepWrite_fields h s ty fc n data hv.1 hv.2.1 hv.2.2
  have hch : (0 : Int) < h.ch := by have := hi.ch_pos; omega
  have hq : reqLen h fc n / (h.ch : Int) = framesOf h fc n := by
    unfold reqLen framesOf; split
    · exact Int.mul_ediv_cancel _ (by omega)
    · rfl
  rw [e, eo]
  refine ⟨?_, rfl, rfl, ?_, ?_, rfl, rfl, rfl, rfl⟩
  · exact reqLen_ret h fc n hi.ch_pos
  · show h.wpos + reqLen h fc n / (h.ch : Int) = _; rw [hq]
  · rfl

end Sf
