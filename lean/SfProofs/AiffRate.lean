/-
  SfProofs.AiffRate — the 80-bit sample rate of AIFF: `ten2int (int2ten r) = r` for 1 ≤ r < 2^31,
  and under the rule before the repair (`int2tenOld`, `ten2intOld`) for 1 ≤ r < 2^30.
-/
import SfModel.Aiff
namespace Sf.Aiff

theorem beBytes4 (v : Nat) : beBytes 4 v = [v / 2 ^ 24 % 256, v / 2 ^ 16 % 256, v / 2 ^ 8 % 256, v % 256] := by
  simp [beBytes, leBytes, Nat.div_div_eq_div_mul]

theorem beBytes2 (v : Nat) : beBytes 2 v = [v / 2 ^ 8 % 256, v % 256] := by
  simp [beBytes, leBytes]

/-- the bit scan finds the top bit: with `mask = 2^j` and `num < 2^(j+1)`, `num ≥ 1`, enough fuel -/
theorem scan_spec (num : Nat) : ∀ (fuel count j : Nat), j < fuel → 1 ≤ num → num < 2 ^ (j + 1) →
    ∃ k, k ≤ j ∧ scan num fuel count (2 ^ j) = count + k ∧ 2 ^ (j - k) ≤ num ∧ num < 2 ^ (j - k + 1)
  | 0, _, _, h, _, _ => by omega
  | fuel+1, count, j, hf, h1, h2 => by
    unfold scan
    by_cases hb : 2 ^ j ≤ num
    · have hd : num / 2 ^ j = 1 := by
        have hp : 0 < 2 ^ j := Nat.two_pow_pos _
        have : num / 2 ^ j < 2 := by
          rw [Nat.div_lt_iff_lt_mul hp]; rw [Nat.pow_succ] at h2; omega
        have : 1 ≤ num / 2 ^ j := (Nat.le_div_iff_mul_le hp).2 (by omega)
        omega
      simp [hd]
      exact ⟨0, by omega, by omega, by simpa using hb, by simpa using h2⟩
    · have hlt : num < 2 ^ j := by omega
      have hd : num / 2 ^ j = 0 := Nat.div_eq_of_lt hlt
      simp [hd]
      cases j with
      | zero => simp at hlt; omega
      | succ j' =>
        have hm : 2 ^ (j' + 1) / 2 = 2 ^ j' := by rw [Nat.pow_succ]; omega
        rw [hm]
        obtain ⟨k, hk, hs, hlo, hhi⟩ := scan_spec num fuel (count + 1) j' (by omega) h1 hlt
        refine ⟨k + 1, by omega, by rw [hs]; omega, ?_, ?_⟩
        · have : j' + 1 - (k + 1) = j' - k := by omega
          rw [this]; exact hlo
        · have : j' + 1 - (k + 1) = j' - k := by omega
          rw [this]; exact hhi

/-- the scan started at bit `j` on a rate `2 ≤ r < 2 ^ j` stops at the top bit `t` of `r`, having counted the `j − t` positions above it;
    shifted up by `31 − t` the rate still fits 32 bits -/
theorem scan_top (r j : Nat) (hj : j ≤ 31) (h2 : 2 ≤ r) (hr : r < 2 ^ j) :
    ∃ t, 1 ≤ t ∧ t < j ∧ scan r 32 0 (2 ^ j) = j - t ∧ r < 2 ^ (t + 1) ∧ r * 2 ^ (31 - t) < 2 ^ 32 := by
  obtain ⟨k, hk, hs, hlo, hhi⟩ := scan_spec r 32 0 j (by omega) (by omega)
    (Nat.lt_trans hr (Nat.pow_lt_pow_right (by decide) (Nat.lt_succ_self j)))
  have hk1 : 1 ≤ k := by
    rcases Nat.eq_zero_or_pos k with h0 | h0
    · subst h0; rw [Nat.sub_zero] at hlo; omega
    · exact h0
  have hkj : k < j := by
    rcases Nat.lt_or_ge k j with h | h
    · exact h
    · rw [show j - k = 0 by omega] at hhi; simp at hhi; omega
  refine ⟨j - k, by omega, by omega, by rw [hs]; omega, hhi, ?_⟩
  have : 2 ^ (j - k + 1) * 2 ^ (31 - (j - k)) = 2 ^ 32 := by rw [← Nat.pow_add]; congr 1; omega
  rw [← this]; exact Nat.mul_lt_mul_of_pos_right hhi (Nat.two_pow_pos _)

/-- the decoder on the ten bytes both writers emit for a rate whose top bit is bit `t` (1 ≤ t ≤ 30): exponent byte `t − 1`, the rate
    shifted up to bit 31 as mantissa -/
theorem ten2int_top (r t : Nat) (ht1 : 1 ≤ t) (ht : t ≤ 30) (hhi : r < 2 ^ (t + 1)) (sh : Nat) (hsh : sh = r * 2 ^ (31 - t)) :
    ten2int [0x40, t - 1, sh / 2 ^ 24 % 256, sh / 2 ^ 16 % 256, sh / 2 ^ 8 % 256, sh % 256, 0, 0, 0, 0] = r := by
  have hp : 0 < 2 ^ (31 - t) := Nat.two_pow_pos _
  have hlt : sh < 2 ^ 32 := by
    have : 2 ^ (t + 1) * 2 ^ (31 - t) = 2 ^ 32 := by rw [← Nat.pow_add]; congr 1; omega
    rw [hsh, ← this]; exact Nat.mul_lt_mul_of_pos_right hhi hp
  unfold ten2int
  simp only [List.getD_cons_zero, List.getD_cons_succ]
  have c1 : ¬ (0x40 : Nat) ≥ 0x80 := by decide
  have c2 : ¬ (0x40 : Nat) ≤ 0x3F := by decide
  have c3 : ¬ (0x40 : Nat) > 0x40 := by decide
  have c4 : ¬ (t - 1 > 0x1D) := by omega
  simp only [c1, c2, c3, c4, if_false]
  have hsum : sh / 2 ^ 24 % 256 * 2 ^ 23 + sh / 2 ^ 16 % 256 * 2 ^ 15 + sh / 2 ^ 8 % 256 * 2 ^ 7 + sh % 256 / 2 = sh / 2 := by
    simp only [Nat.reducePow]
    omega
  have h2 : 2 * 2 ^ (29 - (t - 1)) = 2 ^ (31 - t) := by
    rw [show 31 - t = (29 - (t - 1)) + 1 by omega, Nat.pow_succ]; omega
  rw [hsum, Nat.div_div_eq_div_mul, h2, hsh, Nat.mul_div_cancel _ hp]

/-- the old reader differs from the new one on the exponent byte 0x1D only -/
theorem ten2intOld_eq (b : List Byte) (h : b.getD 1 0 ≤ 0x1C) : ten2intOld b = ten2int b := by
  unfold ten2intOld ten2int
  have c1 : ¬ (b.getD 1 0 > 0x1C) := Nat.not_lt.mpr h
  have c2 : ¬ (b.getD 1 0 > 0x1D) := Nat.not_lt.mpr (Nat.le_trans h (by decide))
  simp only [c1, c2, if_false]

theorem wrapU8_small (n : Nat) (h : n < 256) : wrapU 8 (n : Int) = n := by
  unfold wrapU
  rw [Int.emod_eq_of_lt (by omega) (by omega)]; simp

theorem ten2int_int2ten_exact (r : Nat) (h1 : 1 ≤ r) (h2 : r < 2 ^ 31) : ten2int (int2ten r) = r := by
  by_cases hr1 : r ≤ 1
  · have : r = 1 := by omega
    subst this; decide
  · obtain ⟨t, ht1, ht, hs, hhi, hlt⟩ := scan_top r 31 (by omega) (by omega) h2
    have hb1 : wrapU 8 (30 - ((31 - t : Nat) : Int)) = t - 1 := by
      rw [show (30 - ((31 - t : Nat) : Int)) = ((t - 1 : Nat) : Int) by omega, wrapU8_small _ (by omega)]
    unfold int2ten
    simp only [hr1, if_false]
    rw [show (0x80000000 : Nat) = 2 ^ 31 by decide, hs, Nat.mod_eq_of_lt hlt, hb1]
    exact ten2int_top r t ht1 (by omega) hhi _ rfl

theorem int2ten_length (r : Nat) : (int2ten r).length = 10 := by
  unfold int2ten; split <;> rfl

theorem ten2intOld_int2tenOld_small (r : Nat) (h1 : 1 ≤ r) (h2 : r < 2 ^ 30) : ten2intOld (int2tenOld r) = r := by
  by_cases hr1 : r ≤ 1
  · have : r = 1 := by omega
    subst this; decide
  · obtain ⟨t, ht1, ht, hs, hhi, hlt⟩ := scan_top r 30 (by omega) (by omega) h2
    have hb1 : wrapU 8 (29 - ((30 - t : Nat) : Int)) = t - 1 := by
      rw [show (29 - ((30 - t : Nat) : Int)) = ((t - 1 : Nat) : Int) by omega, wrapU8_small _ (by omega)]
    unfold int2tenOld
    have hge : ¬ r ≥ 0x40000000 := by omega
    have hk31 : 30 - t < 31 := by omega
    simp only [hr1, hge, if_false]
    rw [show (0x40000000 : Nat) = 2 ^ 30 by decide, hs]
    simp only [hk31, if_true]
    rw [show 30 - t + 1 = 31 - t by omega, Nat.mod_eq_of_lt hlt, hb1, ten2intOld_eq _ (by show t - 1 ≤ 0x1C; omega)]
    exact ten2int_top r t ht1 (by omega) hhi _ rfl

theorem int2tenOld_length (r : Nat) : (int2tenOld r).length = 10 := by
  unfold int2tenOld; split
  · rfl
  · split <;> rfl

end Sf.Aiff
