/-
  SfProofs.SdsFileLemmas — the SDS write session of SfModel/SdsFile.lean:

  * `Sim`: two session states that agree on what the closed file is made of (complete packets, packet counter, the
    fresh part of the staging buffer) — whatever the stale tail of the buffer, the flushed partial packet, the header
    bytes and psf->sf.frames hold.  Every operation preserves it (`push_sim`, `emit_sim_left`), so any session is similar to
    the plain run of its samples and has counted them in `total` (`run_sim`), and similar states with the same total close to
    the same bytes (`close_sim`).
  * `Shape`: the layout invariant (every packet 127 bytes, `write_block * spb + write_count` samples consumed).
  * the header bytes read back (`dec3_enc3`, `header_reads`).
-/
import SfModel.SdsFile
import SfProofs.Bytes
namespace Sf.SdsFile
open Sf Sf.Sds

theorem take_set_succ (l : List Int) (i : Nat) (x : Int) (h : i < l.length) : (l.set i x).take (i + 1) = l.take i ++ [x] := by
  rw [List.take_add_one, List.take_set_of_le (Nat.le_refl _), List.getElem?_set_self h]; rfl

theorem flush_total (c : Cfg) (s : St) : (flush c s).total = s.total := rfl
theorem push_total (c : Cfg) (s : St) (x : Int) : (push c s x).total = s.total := by
  unfold push; split <;> rfl
theorem emit_total (c : Cfg) (s : St) (b : Bool) : (emit c s b).total = s.total := rfl
theorem foldl_push_total (c : Cfg) (xs : List Int) (s : St) : (xs.foldl (push c) s).total = s.total :=
  List.foldlRecOn (motive := fun t : St => t.total = s.total) xs _ rfl fun t ih x _ => (push_total c t x).trans ih

structure Sim (c : Cfg) (s t : St) : Prop where
  pk : s.pkts = t.pkts
  wb : s.wblock = t.wblock
  wc : s.wcount = t.wcount
  fresh : s.buf.take s.wcount = t.buf.take t.wcount
  ls : s.buf.length = c.spb
  lt : t.buf.length = c.spb
  small : s.wcount < c.spb
  ps : s.wcount = 0 → s.pending = []
  pt : t.wcount = 0 → t.pending = []

theorem Sim.refl (c : Cfg) (s : St) (h1 : s.buf.length = c.spb) (h2 : s.wcount < c.spb) (h3 : s.wcount = 0 → s.pending = []) : Sim c s s :=
  ⟨rfl, rfl, rfl, rfl, h1, h1, h2, h3, h3⟩

theorem push_sim (c : Cfg) (s t : St) (x : Int) (h : Sim c s t) : Sim c (push c s x) (push c t x) := by
  obtain ⟨pk, wb, wc, fresh, ls, lt, small, ps, pt⟩ := h
  have e1 : (s.buf.set s.wcount x).take (s.wcount + 1) = (t.buf.set t.wcount x).take (t.wcount + 1) := by
    rw [take_set_succ _ _ _ (by omega), take_set_succ _ _ _ (by omega), fresh]
  unfold push
  by_cases hfull : s.wcount + 1 ≥ c.spb
  · have hfull' : t.wcount + 1 ≥ c.spb := by omega
    rw [if_pos hfull, if_pos hfull']
    have a : (s.buf.set s.wcount x).take (s.wcount + 1) = _ := List.take_of_length_le (by simp [ls]; omega)
    have b : (t.buf.set t.wcount x).take (t.wcount + 1) = _ := List.take_of_length_le (by simp [lt]; omega)
    have eb : s.buf.set s.wcount x = t.buf.set t.wcount x := a.symm.trans (e1.trans b)
    refine ⟨?_, ?_, rfl, rfl, ?_, ?_, ?_, fun _ => rfl, fun _ => rfl⟩
    · simp only [flush, pk, wb, eb]
    · simp only [flush, wb]
    · simp [flush, ls]
    · simp [flush, lt]
    · show 0 < c.spb; omega
  · have hfull' : ¬ (t.wcount + 1 ≥ c.spb) := by omega
    rw [if_neg hfull, if_neg hfull']
    refine ⟨pk, wb, by simp only [wc], e1, by simp [ls], by simp [lt], by show s.wcount + 1 < c.spb; omega, ?_, ?_⟩
    · intro h0; exact absurd h0 (by simp)
    · intro h0; exact absurd h0 (by simp)

theorem foldl_push_sim (c : Cfg) (xs : List Int) (s t : St) (h : Sim c s t) : Sim c (xs.foldl (push c) s) (xs.foldl (push c) t) :=
  List.foldl_rel h fun x _ s t h => push_sim c s t x h

/-- a header write changes only the header bytes, psf->sf.frames and the flushed copy of the partial packet -/
theorem emit_sim_left (c : Cfg) (s t : St) (b : Bool) (h : Sim c s t) : Sim c (emit c s b) t := by
  obtain ⟨pk, wb, wc, fresh, ls, lt, small, ps, pt⟩ := h
  refine ⟨pk, wb, wc, fresh, ls, lt, small, ?_, pt⟩
  intro h0
  have h0' : s.wcount = 0 := h0
  show (if s.wcount > 0 then _ else s.pending) = []
  rw [if_neg (by omega)]; exact ps h0'

theorem setTotal_sim_left (c : Cfg) (s t : St) (n : Nat) (h : Sim c s t) : Sim c { s with total := n } t :=
  ⟨h.pk, h.wb, h.wc, h.fresh, h.ls, h.lt, h.small, h.ps, h.pt⟩

theorem Sim.symm {c : Cfg} {s t : St} (h : Sim c s t) : Sim c t s :=
  ⟨h.pk.symm, h.wb.symm, h.wc.symm, h.fresh.symm, h.lt, h.ls, by rw [← h.wc]; exact h.small, h.pt, h.ps⟩

theorem Sim.trans {c : Cfg} {s t u : St} (h1 : Sim c s t) (h2 : Sim c t u) : Sim c s u :=
  ⟨h1.pk.trans h2.pk, h1.wb.trans h2.wb, h1.wc.trans h2.wc, h1.fresh.trans h2.fresh, h1.ls, h2.lt, h1.small, h1.ps, h2.pt⟩

theorem write_sim (c : Cfg) (s t : St) (xs : List Int) (auto first : Bool) (h : Sim c s t) :
    Sim c (write c s xs auto first) (xs.foldl (push c) t) := by
  unfold write
  simp only []
  have h1 : Sim c (if first then emit c s false else s) t := by
    cases first
    · exact h
    · exact emit_sim_left c s t false h
  have h2 := setTotal_sim_left c _ t ((if first then emit c s false else s).total + xs.length) h1
  have h3 := foldl_push_sim c xs _ _ h2
  cases auto
  · exact h3
  · exact emit_sim_left c _ _ true h3

theorem run_sim (c : Cfg) (ops : List WOp) : ∀ (s t : St) (b : Bool), Sim c s t →
    Sim c (ops.foldl (stepOp c) (s, b)).1 ((opsData ops).foldl (push c) t) ∧
      (ops.foldl (stepOp c) (s, b)).1.total = s.total + (opsData ops).length := by
  induction ops with
  | nil => intro s t b h; exact ⟨h, rfl⟩
  | cons op r ih =>
    intro s t b h
    cases op with
    | write xs auto =>
      rw [List.foldl_cons]
      by_cases he : xs.isEmpty = true
      · have : xs = [] := List.isEmpty_iff.mp he
        subst this
        simp only [stepOp, List.isEmpty_nil, if_true, opsData, List.nil_append]
        exact ih s t b h
      · have ht : (write c s xs auto b).total = s.total + xs.length := by
          unfold write; simp only []
          cases auto <;> cases b <;> simp [emit_total, foldl_push_total]
        simp only [stepOp, he, opsData, List.foldl_append, List.length_append, Bool.false_eq_true, if_false]
        obtain ⟨h1, h2⟩ := ih _ _ false (write_sim c s t xs auto b h)
        exact ⟨h1, by rw [h2, ht]; omega⟩
    | update =>
      rw [List.foldl_cons]
      simp only [stepOp, opsData, update]
      exact ih _ _ b (emit_sim_left c s t true h)

theorem close_sim (c : Cfg) (s t : St) (h : Sim c s t) (ht : s.total = t.total) : (close c s).bytes = (close c t).bytes := by
  obtain ⟨pk, wb, wc, fresh, ls, lt, small, ps, pt⟩ := h
  unfold close
  by_cases h0 : s.wcount > 0
  · have h0' : t.wcount > 0 := by omega
    simp only [h0, h0', if_true]
    have fresh' : List.take t.wcount s.buf = List.take t.wcount t.buf := by have := fresh; rw [wc] at this; exact this
    simp [emit, flush, St.bytes, pk, wb, wc, fresh', ht]
  · have h0' : ¬ t.wcount > 0 := by omega
    simp only [h0, h0', if_false]
    have e1 := ps (by omega)
    have e2 := pt (by omega)
    simp [emit, h0, h0', St.bytes, pk, e1, e2, ht]

theorem open_sim (c : Cfg) (a : Nat) (hspb : 0 < c.spb) : Sim c (openW c a) (openW c a) :=
  Sim.refl c _ (by simp [openW]) (by simp [openW]; exact hspb) (fun _ => rfl)

/-- a packet carries 120 data bytes: 60, 40 or 30 samples of 2, 3 or 4 bytes -/
theorem geometry (c : Cfg) (hwf : c.wf) : 0 < c.spb ∧ c.w ≤ 4 ∧ c.spb * c.w = 120 := by
  obtain ⟨hc, _⟩ := hwf
  rcases hc with h | h | h <;> (unfold Cfg.spb Cfg.w Cfg.bitwidth; rw [h]; decide)

theorem spb_pos (c : Cfg) (hwf : c.wf) : 0 < c.spb := (geometry c hwf).1

theorem dec3_enc3 (x : Nat) : dec3 (enc3 x) = x % 2 ^ 21 := by
  unfold dec3 enc3; simp only [List.getD_cons_zero, List.getD_cons_succ]; omega

theorem header_length (bw sr n : Nat) : (header bw sr n).length = 21 := by simp [header, enc3]

/-- what sds_read_header looks at, on `header ++ rest` -/
theorem header_reads (bw sr n : Nat) (rest : List Byte) :
    let bs := header bw sr n ++ rest
    bs.getD 0 0 = 0xF0 ∧ bs.getD 1 0 = 0x7E ∧ bs.getD 3 0 = 1 ∧ bs.getD 6 0 = bw ∧
    (bs.drop 7).take 3 = enc3 (1000000000 / sr) ∧ (bs.drop 10).take 3 = enc3 n ∧ bs.length = 21 + rest.length := by
  refine ⟨rfl, rfl, rfl, rfl, rfl, rfl, ?_⟩
  simp [header, enc3]; omega

theorem guess_sds (bw sr n : Nat) (rest : List Byte) : Small2.guess (header bw sr n ++ rest) = some (.fmt 0x110000) := by
  rfl

/-- sds_read_header on a header of this writer in front of anything: one channel, the width, the quantised rate and
    the frame count of the 21-bit field -/
theorem parse_header (c : Cfg) (hwf : c.wf) (n : Nat) (body : List Byte) :
    parse (header c.bitwidth c.sr n ++ body) = .ok { ch := 1, fmt := c.fmtWord, sr := quant c.sr, frames := n % 2 ^ 21 } := by
  obtain ⟨h0, h1, h3, h6, h7, h10, hlen⟩ := header_reads c.bitwidth c.sr n body
  unfold parse
  rw [if_neg (by rw [hlen]; omega), guess_sds]
  simp only []
  unfold readHeader
  rw [if_neg (by rw [hlen]; omega), h0, h1, h3, h6, h7, h10, dec3_enc3, dec3_enc3]
  obtain ⟨hc, _⟩ := hwf
  have hq : rateOf (1000000000 / c.sr % 2 ^ 21) = quant c.sr := rfl
  rw [hq]
  rcases hc with h | h | h <;> simp [Cfg.bitwidth, Cfg.fmtWord, h]

theorem encSample_length (w : Nat) (hw : w ≤ 4) (x : Int) : (encSample w x).length = w := by
  unfold encSample; simp; omega

theorem encBlock_length (c : Cfg) (hwf : c.wf) (k : Nat) (buf : List Int) (hb : buf.length = c.spb) :
    (encBlock c.w k buf).2.length = 127 := by
  have hw := (geometry c hwf).2
  unfold encBlock
  simp [flatMap_length_const c.w _ buf fun x _ => encSample_length c.w hw.1 x, hb, hw.2]

/-- the state of a plain run after `n` samples -/
structure Shape (c : Cfg) (n : Nat) (s : St) : Prop where
  lb : s.buf.length = c.spb
  small : s.wcount < c.spb
  cnt : s.wblock * c.spb + s.wcount = n
  np : s.pkts.length = s.wblock
  plen : ∀ p ∈ s.pkts, p.length = 127
  pend : s.pending = []

theorem open_shape (c : Cfg) (hwf : c.wf) (a : Nat) : Shape c 0 (openW c a) :=
  ⟨by simp [openW], by simp [openW]; exact spb_pos c hwf, by simp [openW], rfl, by simp [openW], rfl⟩

theorem push_shape (c : Cfg) (hwf : c.wf) (n : Nat) (s : St) (x : Int) (h : Shape c n s) : Shape c (n + 1) (push c s x) := by
  obtain ⟨lb, small, cnt, np, plen, pend⟩ := h
  unfold push
  by_cases hfull : s.wcount + 1 ≥ c.spb
  · rw [if_pos hfull]
    refine ⟨by simp [flush, lb], by show 0 < c.spb; omega, ?_, by simp [flush, np], ?_, rfl⟩
    · show (s.wblock + 1) * c.spb + 0 = n + 1
      rw [Nat.add_mul]; omega
    · intro p hp
      simp only [flush, List.mem_cons] at hp
      rcases hp with h | h
      · rw [h]; exact encBlock_length c hwf _ _ (by simp [lb])
      · exact plen p h
  · rw [if_neg hfull]
    exact ⟨by simp [lb], by show s.wcount + 1 < c.spb; omega, by show s.wblock * c.spb + (s.wcount + 1) = n + 1; omega, np, plen, pend⟩

theorem foldl_push_shape (c : Cfg) (hwf : c.wf) (xs : List Int) : ∀ (n : Nat) (s : St), Shape c n s →
    Shape c (n + xs.length) (xs.foldl (push c) s) := by
  induction xs with
  | nil => intro n s h; exact h
  | cons x r ih =>
    intro n s h
    have := ih (n + 1) _ (push_shape c hwf n s x h)
    simpa [Nat.add_assoc, Nat.add_comm 1] using this

/-- the plain run of `xs`, with the total the write calls have accumulated -/
def canon (c : Cfg) (xs : List Int) : St := { (xs.foldl (push c) (openW c 0)) with total := xs.length }

/-- **the closed file of a plain run**: the header for `N` samples and `⌈N / spb⌉` packets of 127 bytes -/
theorem close_canon (c : Cfg) (hwf : c.wf) (xs : List Int) :
    ∃ body : List Byte, (close c (canon c xs)).bytes = header c.bitwidth c.sr xs.length ++ body ∧
      body.length = 127 * ((xs.length + c.spb - 1) / c.spb) := by
  have hs := foldl_push_shape c hwf xs 0 _ (open_shape c hwf 0)
  rw [Nat.zero_add] at hs
  generalize hS : xs.foldl (push c) (openW c 0) = S at hs
  obtain ⟨lb, small, cnt, np, plen, pend⟩ := hs
  unfold close canon
  rw [hS]
  by_cases h0 : S.wcount > 0
  · simp only [h0, if_true]
    refine ⟨_, rfl, ?_⟩
    simp only [emit, flush, Nat.lt_irrefl, if_false, List.append_nil, List.reverse_cons, List.flatten_append, List.length_append,
      List.flatten_cons, List.flatten_nil, gt_iff_lt]
    rw [flatten_length_const 127 _ (by intro p hp; exact plen p (List.mem_reverse.mp hp)), List.length_reverse, np,
      encBlock_length c hwf _ _ (by simp [lb]; omega)]
    rw [← cnt, Nat.add_sub_assoc (Nat.zero_lt_of_lt small), ceil_div _ _ _ small, if_neg (Nat.ne_of_gt h0)]; omega
  · simp only [h0, if_false]
    refine ⟨_, rfl, ?_⟩
    have hw0 : S.wcount = 0 := by omega
    simp only [emit, hw0, Nat.lt_irrefl, if_false, pend, List.append_nil, gt_iff_lt]
    rw [flatten_length_const 127 _ (by intro p hp; exact plen p (List.mem_reverse.mp hp)), List.length_reverse, np]
    rw [← cnt, Nat.add_sub_assoc (Nat.zero_lt_of_lt small), ceil_div _ _ _ small, if_pos hw0, Nat.add_zero, Nat.mul_comm]

/-- **every session closes to the file of the plain run of its samples** -/
theorem closed_eq_canon (c : Cfg) (hwf : c.wf) (stale : Nat) (ops : List WOp) :
    closedBytes c stale ops = (close c (canon c (opsData ops))).bytes := by
  unfold closedBytes run
  obtain ⟨h, ht⟩ := run_sim c ops (openW c stale) (openW c 0) true (open_sim c 0 (spb_pos c hwf))
  apply close_sim c _ _ (setTotal_sim_left c _ _ _ h.symm).symm
  rw [ht]; simp [openW]

theorem closed_parts (c : Cfg) (hwf : c.wf) (stale : Nat) (ops : List WOp) :
    ∃ body : List Byte, closedBytes c stale ops = header c.bitwidth c.sr (opsData ops).length ++ body ∧
      body.length = 127 * (((opsData ops).length + c.spb - 1) / c.spb) := by
  rw [closed_eq_canon c hwf stale ops]; exact close_canon c hwf (opsData ops)

/-- the store after a header update: similar to the plain run, so it has the same complete packets -/
theorem snapshot_parts (c : Cfg) (hwf : c.wf) (stale : Nat) (ops : List WOp) :
    ∃ S : St, S = (ops.foldl (stepOp c) (openW c stale, true)).1 ∧
      snapshotBytes c stale ops = header c.bitwidth c.sr (opsData ops).length ++
        (((opsData ops).foldl (push c) (openW c 0)).pkts.reverse.flatten ++ (if S.wcount > 0 then (encBlock c.w S.wblock S.buf).2 else [])) ∧
      S.wcount = ((opsData ops).foldl (push c) (openW c 0)).wcount ∧
      S.buf.take S.wcount = (((opsData ops).foldl (push c) (openW c 0)).buf).take S.wcount := by
  obtain ⟨h, ht⟩ := run_sim c ops (openW c stale) (openW c 0) true (open_sim c 0 (spb_pos c hwf))
  refine ⟨_, rfl, ?_, h.wc, ?_⟩
  · unfold snapshotBytes run update St.bytes
    simp only [emit, ht, h.pk]
    have : (openW c stale).total = 0 := rfl
    rw [this, Nat.zero_add]
    by_cases h0 : (ops.foldl (stepOp c) (openW c stale, true)).1.wcount > 0
    · simp only [h0, if_true]
    · simp only [h0, if_false]
      rw [h.ps (by omega)]
  · have := h.fresh; rw [← h.wc] at this; exact this

end Sf.SdsFile
