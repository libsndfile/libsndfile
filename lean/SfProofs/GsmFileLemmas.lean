/-
  Helper lemmas for SfProps/C06Gsm.lean about the wrapper model (SfModel/GsmFile.lean): the block buffer after a decode,
  the private-struct invariant, every block of the sequential pass has `samplesperblock` int16 samples.
-/
import SfModel.GsmFile
import SfProofs.GsmLemmas
import SfProofs.BlockReader
namespace Sf.Gsm.Proofs
open Sf Sf.Gsm Sf.Block Sf.Block.Proofs

structure DInv (d : DSt) : Prop where
  g     : SInv d.g
  s_len : d.samples.length = 320
  s_w   : AllW16 d.samples
  b_len : d.block.length = 65

theorem DInv_init (c : Cfg) : DInv (DSt.init c) := by
  refine ⟨?_, List.length_replicate .., AllW16_replicate _, List.length_replicate ..⟩
  unfold DSt.init
  split
  · exact SInv_initWav
  · exact SInv_init

/-- the block buffer after `gsm610_*_decode_block`: the bytes read, behind them what the buffer held there before -/
theorem decodeBlock_block (c : Cfg) (d : DSt) (got : List Byte) :
    (decodeBlock c d got).block = got ++ d.block.drop got.length := by
  unfold decodeBlock
  simp only
  split
  · split
    · rfl
    · split <;> rfl
  · split <;> rfl

theorem decodeBlock_inv (c : Cfg) (d : DSt) (got : List Byte) (hg : got.length ≤ 65) (inv : DInv d) :
    DInv (decodeBlock c d got) := by
  have hb : (got ++ d.block.drop got.length).length = 65 := by
    rw [List.length_append, List.length_drop, inv.b_len]; omega
  unfold decodeBlock
  simp only
  obtain ⟨a1, a2⟩ := gsmDecode_spec d.g (got ++ d.block.drop got.length) inv.g
  generalize gsmDecode d.g (got ++ d.block.drop got.length) = r1 at a1 a2
  obtain ⟨g1, o1⟩ := r1
  simp only at a1 a2
  have hd : (d.samples.drop 160).length = 160 := by rw [List.length_drop, inv.s_len]
  by_cases hw : c.wav = true
  · rw [if_pos hw]
    cases o1 with
    | none => exact ⟨inv.g, inv.s_len, inv.s_w, hb⟩
    | some o1 =>
      obtain ⟨l1, w1⟩ := a2 o1 rfl
      obtain ⟨b1, b2⟩ := gsmDecode_spec g1 ((got ++ d.block.drop got.length).drop 33) a1
      simp only
      generalize gsmDecode g1 ((got ++ d.block.drop got.length).drop 33) = r2 at b1 b2
      obtain ⟨g2, o2⟩ := r2
      simp only at b1 b2
      cases o2 with
      | none =>
        exact ⟨a1, by simp only [List.length_append, l1, hd], AllW16_append w1 (AllW16_drop _ inv.s_w), hb⟩
      | some o2 =>
        obtain ⟨l2, w2⟩ := b2 o2 rfl
        exact ⟨b1, by simp only [List.length_append, l1, l2], AllW16_append w1 w2, hb⟩
  · rw [if_neg hw]
    cases o1 with
    | none => exact ⟨inv.g, inv.s_len, inv.s_w, hb⟩
    | some o1 =>
      obtain ⟨l1, w1⟩ := a2 o1 rfl
      exact ⟨a1, by simp only [List.length_append, l1, hd], AllW16_append w1 (AllW16_drop _ inv.s_w), hb⟩

theorem blocksize_le (c : Cfg) : c.blocksize ≤ 65 := by unfold Cfg.blocksize; split <;> decide
theorem spb_le (c : Cfg) : c.spb ≤ 320 := by unfold Cfg.spb; split <;> decide
theorem spb_pos (c : Cfg) : 0 < c.spb := by unfold Cfg.spb; split <;> decide

theorem seqDecode_spec (c : Cfg) : ∀ (n : Nat) (d : DSt) (file : List Byte), DInv d →
    (seqDecode c n d file).length = n ∧ ∀ x ∈ seqDecode c n d file, x.length = c.spb ∧ AllW16 x := by
  intro n
  induction n with
  | zero => intro d file _; exact ⟨rfl, by intro x hx; cases hx⟩
  | succ n ih =>
    intro d file inv
    have hg : (file.take c.blocksize).length ≤ 65 := by
      rw [List.length_take]; exact Nat.le_trans (Nat.min_le_left _ _) (blocksize_le c)
    have inv1 := decodeBlock_inv c d (file.take c.blocksize) hg inv
    obtain ⟨h1, h2⟩ := ih (decodeBlock c d (file.take c.blocksize)) (file.drop c.blocksize) inv1
    simp only [seqDecode]
    refine ⟨by simp [h1], ?_⟩
    intro x hx
    rcases List.mem_cons.mp hx with rfl | hx
    · exact ⟨by rw [List.length_take, inv1.s_len]; exact Nat.min_eq_left (spb_le c), AllW16_take _ inv1.s_w⟩
    · exact h2 x hx

end Sf.Gsm.Proofs
