/-
  SfProofs.PeakCalc — the scan loops of the SFC_CALC_* commands (`foldMax_spec`, `foldMaxAll_spec` over `chanSub`), and `stepCalc`
  on handles that can read (SFM_READ, SFM_RDWR): `stepCalc_restores`.  One fact about the handle machine that the command
  needs is here as well: `cmdNormD` (`stepCmdFlag` on SFC_SET_NORM_DOUBLE).
-/
import SfProofs.Peak
import SfProofs.HandleSeek
namespace Sf.Peak
open Sf Sf.Float

theorem gtD_iff (a b : Nat) : gtD a b = true ↔ V64 b < V64 a := by
  unfold gtD V64; exact Dy.lt_iff _ _

theorem foldMax_spec (xs : List Nat) : ∀ acc : Nat,
    V64 acc ≤ V64 (foldMax acc xs) ∧ (∀ x ∈ xs, V64 (absD x) ≤ V64 (foldMax acc xs)) ∧
    (foldMax acc xs = acc ∨ ∃ x ∈ xs, foldMax acc xs = absD x) := by
  induction xs with
  | nil => intro acc; exact ⟨le_refl _, fun _ h => absurd h List.not_mem_nil, Or.inl rfl⟩
  | cons x xs ih =>
    intro acc
    have hstep : foldMax acc (x :: xs) = foldMax (if gtD (absD x) acc then absD x else acc) xs := rfl
    rw [hstep]
    obtain ⟨m, hm, hacc, hx, hor⟩ : ∃ m, (if gtD (absD x) acc then absD x else acc) = m ∧ V64 acc ≤ V64 m ∧ V64 (absD x) ≤ V64 m ∧
        (m = acc ∨ m = absD x) := by
      by_cases hg : gtD (absD x) acc = true
      · exact ⟨_, if_pos hg, le_of_lt ((gtD_iff _ _).mp hg), le_refl _, Or.inr rfl⟩
      · exact ⟨_, if_neg hg, le_refl _, not_lt.mp (fun h => hg ((gtD_iff _ _).mpr h)), Or.inl rfl⟩
    rw [hm]
    obtain ⟨h1, h2, h3⟩ := ih m
    refine ⟨le_trans hacc h1, fun y hy => ?_, ?_⟩
    · rcases List.mem_cons.mp hy with rfl | hy
      · exact le_trans hx h1
      · exact h2 y hy
    · rcases h3 with h | ⟨y, hy, h⟩
      · rcases hor with e | e
        · exact Or.inl (h.trans e)
        · exact Or.inr ⟨x, List.mem_cons_self, h.trans e⟩
      · exact Or.inr ⟨y, List.mem_cons_of_mem _ hy, h⟩

theorem foldMax_flatten (bufs : List (List Nat)) (acc : Nat) : bufs.foldl foldMax acc = foldMax acc bufs.flatten :=
  List.foldl_flatten.symm

theorem calcLoop_keeps (fuel : Nat) (h : H) (s : Store) (a : Acc) (hi : HInv h s) :
    SameFile h (calcLoop fuel h s a).1 ∧ (calcLoop fuel h s a).2.1.bytes = s.bytes ∧
    HInv (calcLoop fuel h s a).1 (calcLoop fuel h s a).2.1 := by
  induction fuel generalizing h s a with
  | zero => exact ⟨SameFile.refl h, rfl, hi⟩
  | succ n ih =>
    have sf := stepRead_sameFile h s .f64 false (calcLen h.ch)
    have hi' := HInv_stepRead h s .f64 false (calcLen h.ch) hi
    obtain ⟨-, -, -, -, -, hb⟩ := read_contract_any h s .f64 false (calcLen h.ch) hi   -- its last clause: the store's bytes stay
    unfold calcLoop
    simp only
    split
    · exact ⟨sf, hb, hi'⟩
    · obtain ⟨sf2, hb2, hi2⟩ := ih _ _ (a.step h.ch ((List.take (stepRead h s Ty.f64 false ↑(calcLen h.ch)).2.2.ret.toNat
        (stepRead h s Ty.f64 false ↑(calcLen h.ch)).2.2.data).map Int.toNat)) hi'
      exact ⟨⟨sf.enc.trans sf2.enc, sf.conv.trans sf2.conv, sf.ch.trans sf2.ch, sf.frames.trans sf2.frames,
              sf.dataoffset.trans sf2.dataoffset, sf.mode.trans sf2.mode⟩, hb2.trans hb, hi2⟩

/-- the samples the per-channel scan credits to channel `c` when it starts with the channel counter at `k % ch`: those at the
    offsets `i` with `(k + i) % ch = c` -/
def chanSub (ch c k : Nat) (xs : List Nat) : List Nat := ((xs.zipIdx k).filter fun p => p.2 % ch = c).map (·.1)

theorem foldMaxAll_cons (ch : Nat) (pk : List Nat) (k : Nat) (x : Nat) (xs : List Nat) :
    foldMaxAll ch (pk, k) (x :: xs) =
      foldMaxAll ch (pk.set k (if gtD (absD x) (pk.getD k 0) then absD x else pk.getD k 0), (k + 1) % ch) xs := rfl

theorem foldMaxAll_spec (ch c : Nat) (hch : 0 < ch) (xs : List Nat) : ∀ (pk : List Nat) (k : Nat), pk.length = ch →
    (foldMaxAll ch (pk, k % ch) xs).1.getD c 0 = foldMax (pk.getD c 0) (chanSub ch c k xs) ∧
    (foldMaxAll ch (pk, k % ch) xs).1.length = ch := by
  induction xs with
  | nil => intro pk k hl; exact ⟨rfl, hl⟩
  | cons x xs ih =>
    intro pk k hl
    rw [foldMaxAll_cons, Nat.mod_add_mod]
    obtain ⟨h1, h2⟩ := ih (pk.set (k % ch) (if gtD (absD x) (pk.getD (k % ch) 0) then absD x else pk.getD (k % ch) 0)) (k + 1)
      (by rw [List.length_set]; exact hl)
    rw [h1, h2]
    refine ⟨?_, rfl⟩
    have hkl : k % ch < pk.length := by rw [hl]; exact Nat.mod_lt _ hch
    simp only [chanSub, List.zipIdx_cons, List.filter_cons]
    by_cases hkc : k % ch = c
    · subst hkc
      simp [List.getD, hkl, foldMax]
    · simp [List.getD, hkc]

theorem foldMaxAll_flatten (ch : Nat) (bufs : List (List Nat)) (st : List Nat × Nat) :
    bufs.foldl (foldMaxAll ch) st = foldMaxAll ch st bufs.flatten :=
  List.foldl_flatten.symm

theorem mem_chanSub (ch c : Nat) (xs : List Nat) (x : Nat) :
    x ∈ chanSub ch c 0 xs ↔ ∃ i, ∃ h : i < xs.length, xs[i] = x ∧ i % ch = c := by
  simp only [chanSub, List.mem_map, List.mem_filter, List.mem_zipIdx_iff_getElem?, List.getElem?_eq_some_iff,
    decide_eq_true_eq, Prod.exists]
  constructor
  · rintro ⟨a, i, ⟨⟨h, e⟩, hm⟩, rfl⟩; exact ⟨i, h, e, hm⟩
  · rintro ⟨i, h, rfl, hm⟩; exact ⟨_, i, ⟨⟨h, rfl⟩, hm⟩, rfl⟩

theorem cmdNormD (g : H) (t : Store) (b : Bool) :
    stepCmdFlag g t 0x1012 (if b then 1 else 0) =
      ({ g with error := 0, conv := { g.conv with normD := b } }, t, { ret := if g.conv.normD then 1 else 0 }) := by
  cases b <;> simp [stepCmdFlag]

/-- first part of `stepCalc` on a handle that can read: it hands on the saved flag and the read position (on a read-only handle
    also as `position`), and leaves the handle rewound, with norm_double set, on the same file -/
theorem calcPre_spec (h : H) (s : Store) (normalize : Bool) (hi : HInv h s) (hm : h.mode ≠ .w) :
    (calcPre h s normalize).2.2.1 = h.conv.normD ∧ (calcPre h s normalize).2.2.2.1 = h.rpos ∧
    (h.mode = .r → (calcPre h s normalize).2.2.2.2 = h.rpos) ∧
    (calcPre h s normalize).1.mode = h.mode ∧ HInv (calcPre h s normalize).1 (calcPre h s normalize).2.1 ∧
    (calcPre h s normalize).2.1.bytes = s.bytes ∧ (calcPre h s normalize).1.frames = h.frames ∧
    (calcPre h s normalize).1.conv = { h.conv with normD := normalize } := by
  let h1 : H := { h with error := 0, conv := { h.conv with normD := normalize } }
  have hi1 : HInv h1 s := hi.set_flags _ h.autoHeader 0
  -- in either mode the rewind is a SEEK_SET of the read cursor of `h1`
  obtain ⟨whence, hw, pos, hpos, e⟩ : ∃ whence, (whence = 0 ∨ whence = 0x10) ∧ ∃ pos, (h.mode = .r → pos = h.rpos) ∧
      calcPre h s normalize = ((stepSeek h1 s 0 whence).1, (stepSeek h1 s 0 whence).2.1, h.conv.normD, h.rpos, pos) := by
    unfold calcPre
    simp only [cmdNormD]
    rcases mode_cases h.mode with m | m | m
    · exact ⟨0, .inl rfl, h.rpos, fun _ => rfl, by
        rw [if_neg (by rw [m]; decide), seek_cur_zero_r _ _ (show h1.mode = .r from m)]⟩
    · exact absurd m hm
    · exact ⟨0x10, .inr rfl, h.wpos, (fun r => nomatch m.symm.trans r), by rw [if_pos (by rw [m]; decide)]⟩
  obtain ⟨p3, sf3, b3, hi3⟩ := seek_set_read h1 s 0 whence hw hi1 hm (le_refl _) hi.frames_nn
  rw [e]
  exact ⟨rfl, rfl, hpos, sf3.mode.symm, hi3, b3, sf3.frames.symm, sf3.conv.symm⟩

/-- last part of `stepCalc`: given the read position `k` the first part handed on, the read cursor is back at `k` and
    norm_double is `save` -/
theorem calcPost_spec (h : H) (s : Store) (save : Bool) (rp pos k : Int) (hi : HInv h s) (hm : h.mode ≠ .w)
    (hrp : rp = k) (hpos : h.mode = .r → pos = k) (h0 : 0 ≤ k) (h1 : h.mode = .r → k ≤ h.frames) :
    (calcPost h s save rp pos).1.rpos = k ∧ (calcPost h s save rp pos).2.bytes = s.bytes ∧
    (calcPost h s save rp pos).1.frames = h.frames ∧ (calcPost h s save rp pos).1.conv = { h.conv with normD := save } ∧
    (calcPost h s save rp pos).1.error = 0 := by
  obtain ⟨whence, hw, e⟩ : ∃ whence, (whence = 0 ∨ whence = 0x10) ∧
      (if h.mode == .rw then stepSeek h s rp 0x10 else stepSeek h s pos 0) = stepSeek h s k whence := by
    rcases mode_cases h.mode with m | m | m
    · exact ⟨0, .inl rfl, by rw [if_neg (by rw [m]; decide), hpos m]⟩
    · exact absurd m hm
    · exact ⟨0x10, .inr rfl, by rw [if_pos (by rw [m]; decide), hrp]⟩
  obtain ⟨p5, sf5, b5, _⟩ := seek_set_read h s k whence hw hi hm h0 h1
  unfold calcPost
  simp only [e, cmdNormD]
  exact ⟨p5, b5, sf5.frames.symm, by rw [← sf5.conv], trivial⟩

/-- SFC_CALC_SIGNAL_MAX, SFC_CALC_NORM_SIGNAL_MAX, SFC_CALC_MAX_ALL_CHANNELS and SFC_CALC_NORM_MAX_ALL_CHANNELS on a handle that can
    read (SFM_READ or SFM_RDWR) leave the read position, every conversion setting, the frame count and the file bytes as they
    were, and report no error -/
theorem stepCalc_restores (h : H) (s : Store) (normalize : Bool) (hi : HInv h s) (hm : h.mode ≠ .w) :
    (stepCalc h s normalize).1.rpos = h.rpos ∧ (stepCalc h s normalize).1.conv = h.conv ∧
    (stepCalc h s normalize).2.1.bytes = s.bytes ∧ (stepCalc h s normalize).1.frames = h.frames ∧
    (stepCalc h s normalize).1.error = 0 := by
  obtain ⟨e1, e2, e3, pm, pi, pb, pf, pc⟩ := calcPre_spec h s normalize hi hm
  obtain ⟨sf4, b4, hi4⟩ := calcLoop_keeps ((calcPre h s normalize).1.frames.toNat + 1) _ _
    { all := (List.replicate (calcPre h s normalize).1.ch 0, 0) } pi
  have hm4 := sf4.mode.symm.trans pm
  have hf4 := sf4.frames.symm.trans pf
  obtain ⟨q1, q2, q3, q4, q5⟩ := calcPost_spec _ _ (calcPre h s normalize).2.2.1 (calcPre h s normalize).2.2.2.1
    (calcPre h s normalize).2.2.2.2 h.rpos hi4 (by rw [hm4]; exact hm) e2 (fun m => e3 (hm4 ▸ m)) hi.rpos_nn
    (fun m => by rw [hf4]; exact (hi.rd (hm4 ▸ m)).rpos_le)
  unfold stepCalc
  simp only []
  refine ⟨q1, ?_, by rw [q2, b4, pb], by rw [q3, hf4], q5⟩
  rw [q4, e1, ← sf4.conv, pc]

end Sf.Peak
