/-
  SfProofs.AlacLoop — the element loop of `alac_decode` over a packet of audio elements that each decode wherever they
  stand (`elemsBits`, `decLoop_elemsBits`: the packet format, whichever encoder wrote the elements), the packet around
  them (`decode_pack`), the two together (`decode_elemsBits`) and the frames handed out (`frames_of_chans`).
-/
import SfProofs.Bytes
import SfProofs.AlacEscape
import SfModel.AlacDec
namespace Sf.AlacCore

/-- the audio elements of a packet over the element tags `ts`, from channel `c` on, the instance counters of the two element kinds
    at `m` and `s`: tag, instance tag, then `mono c m` / `pair c s`, the element of the channel(s) at index `c` -/
def elemsBits (mono pair : Nat → Nat → Bits) : List Nat → Nat → Nat → Nat → Bits
  | [], _, _, _ => []
  | t :: ts, c, m, s =>
    if t = ID_CPE then bitsOf ID_CPE 3 ++ (bitsOf s 4 ++ (pair c s ++ elemsBits mono pair ts (c + 2) m (s + 1)))
    else bitsOf t 3 ++ (bitsOf m 4 ++ (mono c m ++ elemsBits mono pair ts (c + 1) (m + 1) s))

theorem elemsBits_sce (mono pair : Nat → Nat → Bits) (ts : List Nat) (c m s : Nat) :
    elemsBits mono pair (ID_SCE :: ts) c m s = bitsOf ID_SCE 3 ++ (bitsOf m 4 ++ (mono c m ++ elemsBits mono pair ts (c + 1) (m + 1) s)) := by
  rw [elemsBits, if_neg (by decide)]

theorem elemsBits_cpe (mono pair : Nat → Nat → Bits) (ts : List Nat) (c m s : Nat) :
    elemsBits mono pair (ID_CPE :: ts) c m s = bitsOf ID_CPE 3 ++ (bitsOf s 4 ++ (pair c s ++ elemsBits mono pair ts (c + 2) m (s + 1))) := by
  rw [elemsBits, if_pos rfl]

theorem elemsBits_length_ge (mono pair : Nat → Nat → Bits) : ∀ (ts : List Nat) (c m s : Nat), 3 * ts.length ≤ (elemsBits mono pair ts c m s).length
  | [], _, _, _ => by simp
  | t :: ts, c, m, s => by
    have h1 := elemsBits_length_ge mono pair ts (c + 2) m (s + 1)
    have h2 := elemsBits_length_ge mono pair ts (c + 1) (m + 1) s
    rw [elemsBits]
    split <;> (simp only [List.length_append, bitsOf_length, List.length_cons]; omega)

/-- channels an element list covers -/
def layoutWidth : List Nat → Nat
  | [] => 0
  | t :: ts => (if t = ID_CPE then 2 else 1) + layoutWidth ts

/-- channels `c … c + k - 1` of the frames, as they come back -/
def chansFrom (depth : Nat) (frames : List (List Int)) (c k : Nat) : List (List Int) :=
  (List.range' c k).map fun i => (chanOf frames i).map (trunc depth)

theorem chansFrom_zero (depth : Nat) (frames : List (List Int)) (c : Nat) : chansFrom depth frames c 0 = [] := rfl

theorem chansFrom_succ (depth : Nat) (frames : List (List Int)) (c k : Nat) :
    chansFrom depth frames c (k + 1) = (chanOf frames c).map (trunc depth) :: chansFrom depth frames (c + 1) k := by
  simp [chansFrom, List.range'_succ]

theorem chanOf_length (frames : List (List Int)) (c : Nat) : (chanOf frames c).length = frames.length := by simp [chanOf]

/-- the elements of a layout with the index of their first channel, the first element at channel `c` -/
def elemsAt : List Nat → Nat → List (Nat × Nat)
  | [], _ => []
  | t :: ts, c => (t, c) :: elemsAt ts (c + if t = ID_CPE then 2 else 1)

/-- the element loop of `alac_decode` over a packet of audio elements each of which decodes to `n` samples of its channels
    (`chan i` for channel `i`) wherever it stands in a packet of `byteSize` bytes it fits into; asked of the elements the layout
    has, each at its own channel index -/
theorem decLoop_elemsBits (cd : CompDec) (ru : Rules) (cfg : Config) (byteSize n : Nat) (mono pair : Nat → Nat → Bits) (chan : Nat → List Int)
    (rest : Bits) :
    ∀ (ts : List Nat) (fuel c m s p ns on : Nat) (written : List (List Int)),
      ts ≠ [] → (∀ t ∈ ts, t = ID_SCE ∨ t = ID_CPE) →
      (∀ i m, (ID_SCE, i) ∈ elemsAt ts c → DecodesTo (decMono cd ru cfg) byteSize n (mono i m) [chan i]) →
      (∀ i s, (ID_CPE, i) ∈ elemsAt ts c → DecodesTo (decPair cd ru cfg) byteSize n (pair i s) [chan i, chan (i + 1)]) →
      (elemsBits mono pair ts c m s).length ≤ 3 * fuel → written.length = c →
      c + layoutWidth ts = cfg.numChannels → (n = frameLen → ns = frameLen) →
      p + (elemsBits mono pair ts c m s).length ≤ byteSize * 8 →
      decLoop cd ru cfg byteSize fuel ⟨⟨elemsBits mono pair ts c m s ++ rest, p⟩, ns, on, written⟩ =
        ⟨.ok, n, written ++ (List.range' c (layoutWidth ts)).map chan, p + (elemsBits mono pair ts c m s).length⟩ := by
  intro ts
  induction ts with
  | nil => intro _ _ _ _ _ _ _ _ h; exact absurd rfl h
  | cons t ts ih =>
    intro fuel c m s p ns on written _ hts hmono hpair hfuel hw hc hns hpos
    have hge := elemsBits_length_ge mono pair (t :: ts) c m s
    rw [List.length_cons] at hge
    obtain ⟨fuel, rfl⟩ : ∃ f, fuel = f + 1 := ⟨fuel - 1, by omega⟩
    have hts' : ∀ t' ∈ ts, t' = ID_SCE ∨ t' = ID_CPE := fun t' h' => hts t' (by simp [h'])
    have hcur : ∀ bs : Bits, ¬ (Rd.mk bs p).curByte ≥ byteSize := by
      intro bs; simp only [Rd.curByte]; omega
    -- what the loop does with the decoded element of `k` channels: the last element fills the channels, any other leaves some open
    have hnext : ∀ (k q c' m' s' : Nat) (chs : List (List Int)), chs.length = k → c' = c + k → (k = if t = ID_CPE then 2 else 1) →
        q + (elemsBits mono pair ts c' m' s').length ≤ byteSize * 8 → (elemsBits mono pair ts c' m' s').length ≤ 3 * fuel →
        (if (written ++ chs).length ≥ cfg.numChannels then (⟨.ok, n, zeroFill cfg.numChannels n (written ++ chs), q⟩ : Res)
          else decLoop cd ru cfg byteSize fuel ⟨⟨elemsBits mono pair ts c' m' s' ++ rest, q⟩, n, n, written ++ chs⟩) =
        ⟨.ok, n, written ++ (chs ++ (List.range' c' (layoutWidth ts)).map chan), q + (elemsBits mono pair ts c' m' s').length⟩ := by
      intro k q c' m' s' chs hk hc' hk2 hq hf'
      have hlw : k + layoutWidth ts = layoutWidth (t :: ts) := by rw [layoutWidth, hk2]
      rw [List.length_append, hk, hw]
      by_cases hnil : ts = []
      · subst hnil
        rw [if_pos (by simp only [layoutWidth] at hc hlw; omega), zeroFill, List.length_append, hk, hw]
        simp only [layoutWidth] at hc hlw
        simp [elemsBits, layoutWidth, show cfg.numChannels - (c + k) = 0 by omega]
      · have hpos' : 0 < layoutWidth ts := by
          cases ts with
          | nil => exact absurd rfl hnil
          | cons t' ts' => rw [layoutWidth]; split <;> omega
        have htl : ∀ e ∈ elemsAt ts c', e ∈ elemsAt (t :: ts) c := fun e h => by rw [elemsAt, ← hk2, ← hc']; exact List.mem_cons_of_mem _ h
        rw [if_neg (by omega), ih fuel c' m' s' q n n (written ++ chs) hnil hts' (fun i m h => hmono i m (htl _ h)) (fun i s h => hpair i s (htl _ h)) hf'
          (by rw [List.length_append, hk, hw, hc']) (by omega) (fun h => h) hq, List.append_assoc]
    rw [decLoop]
    rcases hts t (by simp) with rfl | rfl
    · rw [elemsBits_sce] at hpos hfuel ⊢
      simp only [List.length_append, bitsOf_length] at hpos hfuel
      have hd := hmono c m (List.mem_cons_self ..) m ns (elemsBits mono pair ts (c + 1) (m + 1) s ++ rest) (p + 3) hns (by omega)
      simp only [hcur, if_false, List.append_assoc, read_bitsOf, ID_SCE, Nat.zero_mod, true_or, if_true, hd]
      rw [hnext 1 _ (c + 1) (m + 1) s [chan c] rfl rfl rfl (by omega) (by omega)]
      simp only [layoutWidth, ID_CPE, Nat.zero_ne_one, if_false, Nat.add_comm 1, List.range'_succ, List.map_cons, List.length_append,
        bitsOf_length, List.cons_append, List.nil_append, Res.mk.injEq, true_and]
      omega
    · rw [elemsBits_cpe] at hpos hfuel ⊢
      simp only [List.length_append, bitsOf_length] at hpos hfuel
      have hd := hpair c s (List.mem_cons_self ..) s ns (elemsBits mono pair ts (c + 2) m (s + 1) ++ rest) (p + 3) hns (by omega)
      have h2 : ¬ (written.length + 2 > cfg.numChannels) := by rw [layoutWidth, if_pos rfl] at hc; omega
      simp only [hcur, if_false, List.append_assoc, read_bitsOf, ID_SCE, ID_LFE, ID_CPE, Nat.reducePow, Nat.reduceMod, show ¬ ((1 : Nat) = 0) by decide,
        show ¬ ((1 : Nat) = 3) by decide, or_self, if_true, h2, hd]
      rw [hnext 2 _ (c + 2) m (s + 1) [chan c, chan (c + 1)] rfl rfl rfl (by omega) (by omega)]
      simp only [layoutWidth, ID_CPE, if_true, show 2 + layoutWidth ts = layoutWidth ts + 1 + 1 by omega, List.range'_succ, List.map_cons, List.length_append,
        bitsOf_length, List.cons_append, List.nil_append, Res.mk.injEq, true_and]
      omega

theorem encElemsEsc_eq (ru : Rules) (depth : Nat) (frames : List (List Int)) (stale : Nat → List Int × List Int) : ∀ (ts : List Nat) (c m s : Nat),
    encElemsEsc ru depth frames stale ts c m s =
      elemsBits (fun c _ => encMonoEsc depth frames.length (chanOf frames c))
        (fun c s => encPairEsc ru depth frames.length (chanOf frames c) (chanOf frames (c + 1)) (stale s)) ts c m s
  | [], _, _, _ => rfl
  | t :: ts, c, m, s => by
    rw [encElemsEsc, elemsBits, encElemsEsc_eq ru depth frames stale ts, encElemsEsc_eq ru depth frames stale ts]
    simp only [List.append_assoc]

theorem map_range_getD (g : Int → Int) (f : List Int) : (List.range f.length).map (fun i => g (f.getD i 0)) = f.map g := by
  apply List.ext_getElem
  · simp
  · intro i h1 h2
    simp at h1
    simp [List.getD_eq_getElem?_getD, List.getElem?_eq_getElem h1]

theorem applyOut_nil (nc : Nat) (w : List (List Int)) (h : w.length = nc) : applyOut [] nc w = w := by
  subst h
  apply List.ext_getElem
  · simp [applyOut]
  · intro i h1 h2
    simp [applyOut] at h1 ⊢
    simp [List.getElem?_eq_getElem h2]

theorem transpose_chans (g : Int → Int) (nc : Nat) : ∀ frames : List (List Int), (∀ f ∈ frames, f.length = nc) →
    transpose frames.length ((List.range nc).map fun i => (chanOf frames i).map g) = frames.map (·.map g)
  | [], _ => rfl
  | f :: fs, h => by
    have hf : f.length = nc := h f (by simp)
    have ih := transpose_chans g nc fs (fun f' h' => h f' (by simp [h']))
    simp only [List.length_cons, transpose, List.map_map, List.map_cons]
    congr 1
    · rw [← hf, ← map_range_getD g f]
      apply List.map_congr_left
      intro i _
      simp [chanOf]

theorem getD_I32 (f : List Int) (c : Nat) (h : ∀ x ∈ f, I32 x) : I32 (f.getD c 0) := by
  by_cases hc : c < f.length
  · rw [List.getD_eq_getElem?_getD, List.getElem?_eq_getElem hc]
    exact h _ (List.getElem_mem hc)
  · rw [List.getD_eq_getElem?_getD, List.getElem?_eq_none (by omega)]
    simp [I32]

theorem chanOf_I32 (frames : List (List Int)) (hf : ∀ f ∈ frames, ∀ x ∈ f, I32 x) (c : Nat) : ∀ x ∈ chanOf frames c, I32 x := by
  intro x hx
  simp only [chanOf, List.mem_map] at hx
  obtain ⟨f, hfm, rfl⟩ := hx
  exact getD_I32 f c (hf f hfm)

theorem layout_facts (nc : Nat) (h1 : 1 ≤ nc) (h8 : nc ≤ 8) :
    layout nc ≠ [] ∧ (∀ t ∈ layout nc, t = ID_SCE ∨ t = ID_CPE) ∧ layoutWidth (layout nc) = nc := by
  have : nc = 1 ∨ nc = 2 ∨ nc = 3 ∨ nc = 4 ∨ nc = 5 ∨ nc = 6 ∨ nc = 7 ∨ nc = 8 := by omega
  rcases this with rfl | rfl | rfl | rfl | rfl | rfl | rfl | rfl <;> decide

/-- `alac_decode` on a packed packet: the elements `E`, the END tag and the padding of the last byte, given what the element
    loop does on `E` followed by anything -/
theorem decode_pack (cfg : Config) (hc1 : 1 ≤ cfg.numChannels) (E : Bits) (res : Res)
    (key : ∀ (byteSize : Nat) (rest : Bits), E.length + 3 ≤ 8 * byteSize →
      decLoop (comp Rules.current byteSize) Rules.current cfg byteSize (3 * byteSize + 1) ⟨⟨E ++ rest, 0⟩, frameLen, frameLen, []⟩ = res) :
    decode cfg (pack (E ++ bitsOf ID_END 3)) (pack (E ++ bitsOf ID_END 3)).length frameLen = res := by
  have hup := unpack_pack (E ++ bitsOf ID_END 3)
  have hlen := unpack_length (pack (E ++ bitsOf ID_END 3))
  rw [hup] at hlen
  generalize List.replicate ((8 - (E ++ bitsOf ID_END 3).length % 8) % 8) false = pad at hup hlen
  generalize pack (E ++ bitsOf ID_END 3) = pk at hup hlen ⊢
  simp only [List.length_append, bitsOf_length] at hlen
  unfold decode decodeR decodeWith
  rw [if_neg (by omega), Rd.ofBytes, hup, List.append_assoc]
  exact key pk.length _ (by omega)

/-- `alac_decode` on a packet in the format — the elements of the layout, each decoding to its channels of `frames` wherever it
    stands, then the END tag — returns those channels, whichever encoder wrote the elements -/
theorem decode_elemsBits (cfg : Config) (hc1 : 1 ≤ cfg.numChannels) (hc8 : cfg.numChannels ≤ 8) (frames : List (List Int))
    (mono pair : Nat → Nat → Bits)
    (hmono : ∀ byteSize i m, (ID_SCE, i) ∈ elemsAt (layout cfg.numChannels) 0 →
      DecodesTo (decMono (comp Rules.current byteSize) Rules.current cfg) byteSize frames.length (mono i m) [(chanOf frames i).map (trunc cfg.bitDepth)])
    (hpair : ∀ byteSize i s, (ID_CPE, i) ∈ elemsAt (layout cfg.numChannels) 0 →
      DecodesTo (decPair (comp Rules.current byteSize) Rules.current cfg) byteSize frames.length (pair i s)
        [(chanOf frames i).map (trunc cfg.bitDepth), (chanOf frames (i + 1)).map (trunc cfg.bitDepth)]) :
    let pk := pack (elemsBits mono pair (layout cfg.numChannels) 0 0 0 ++ bitsOf ID_END 3)
    let res := decode cfg pk pk.length frameLen
    res.status = .ok ∧ res.outNum = frames.length ∧ res.written = chansFrom cfg.bitDepth frames 0 cfg.numChannels := by
  intro pk res
  obtain ⟨hl1, hl2, hl3⟩ := layout_facts cfg.numChannels hc1 hc8
  have hres : res = _ := decode_pack cfg hc1 _ _ fun byteSize rest hroom =>
    decLoop_elemsBits (comp Rules.current byteSize) Rules.current cfg byteSize frames.length mono pair
      (fun i => (chanOf frames i).map (trunc cfg.bitDepth)) rest (layout cfg.numChannels) (3 * byteSize + 1) 0 0 0 0 frameLen frameLen [] hl1 hl2
      (hmono byteSize) (hpair byteSize) (by omega) rfl (by omega) (fun _ => rfl) (by omega)
  rw [hres, hl3]
  exact ⟨rfl, rfl, List.nil_append _⟩

/-- the channels of all frames, handed out by alac.c frame by frame -/
theorem frames_of_chans (depth nc : Nat) (res : Res) (frames : List (List Int)) (h2 : res.outNum = frames.length)
    (h3 : res.written = chansFrom depth frames 0 nc) (hfl : ∀ f ∈ frames, f.length = nc) :
    res.frames nc = frames.map (·.map (trunc depth)) := by
  unfold Res.frames
  rw [h2, h3, applyOut_nil _ _ (by simp [chansFrom]), chansFrom, ← List.range_eq_range']
  exact transpose_chans (trunc depth) nc frames hfl

theorem map_id_of_fix {g : Int → Int} (frames : List (List Int)) (h : ∀ f ∈ frames, ∀ x ∈ f, g x = x) : frames.map (·.map g) = frames :=
  map_eq_self fun f hf => map_eq_self (h f hf)
end Sf.AlacCore
