/-
  Every header image is a concatenation of fields.  A positional read of it is found by walking (`drop_app_skip`,
  `take_app_head`); `FieldAt bs n a` — the bytes `a` lie at offset `n` of `bs` — is the predicate for layouts whose parts have
  variable length (the SD2 resource fork, the optional chunks of CAF / W64) and for single fields at a cursor; for a header
  given as a list of segments `FieldAt.seg` places segment `k` behind the lengths in front of it.  `Sf.Cursor` (below) is the
  reader's side: `bs.drop p = field ++ rest`.
-/
import SfProofs.Bytes
namespace Sf

/-- an integer field of `n` bytes (header_put_be_short / _be_int …: the low `8 n` bits of a C integer) reads back as
    those bits -/
theorem ofBE_beBytes_wrapU (n : Nat) (v : Int) : ofBE (beBytes n (wrapU (8 * n) v)) = wrapU (8 * n) v :=
  ofBE_beBytes_of_lt n _ (wrapU_lt_pow _ v)

theorem ofLE_leBytes_wrapU (n : Nat) (v : Int) : ofLE (leBytes n (wrapU (8 * n) v)) = wrapU (8 * n) v :=
  ofLE_leBytes_of_lt n _ (wrapU_lt_pow _ v)

theorem wrapU_of_lt (bits v : Nat) (h : v < 2 ^ bits) : wrapU bits (v : Int) = v := by
  rw [wrapU_natCast, Nat.mod_eq_of_lt h]

theorem sext_of_lt (bits v : Nat) (h : v < 2 ^ (bits - 1)) : sext bits v = v := if_pos h

/-! ### a positional read of `f₁ ++ (f₂ ++ (… ++ rest))`, found by walking

  A header is written as a concatenation of fields; a read at offset `off` skips a leading field no longer than `off`, and at
  offset 0 it takes the leading field.  With the length lemmas of the fields, `simp only [List.append_assoc, drop_app_skip,
  take_app_head, …, Nat.reduceSub, Nat.reduceLeDiff, Nat.le_refl]` resolves every read of an unfolded parser at once. -/

theorem drop_app_skip {α : Type} (a r : List α) {off : Nat} (h : a.length ≤ off) : (a ++ r).drop off = r.drop (off - a.length) := by
  rw [List.drop_append, List.drop_eq_nil_of_le h, List.nil_append]

theorem take_app_head {α : Type} (a r : List α) {n : Nat} (h : a.length = n) : (a ++ r).take n = a := List.take_left' h

theorem getD_app_skip (a r : List Byte) {i : Nat} (h : a.length ≤ i) : (a ++ r).getD i 0 = r.getD (i - a.length) 0 := by
  rw [List.getD_eq_getElem?_getD, List.getD_eq_getElem?_getD, List.getElem?_append_right h]

theorem drop_rebase_le {α : Type} {bs x : List α} {p off : Nat} (hd : bs.drop p = x) (h : p ≤ off) : bs.drop off = x.drop (off - p) := by
  rw [← hd, List.drop_drop]; congr 1; omega

def FieldAt (bs : List Byte) (n : Nat) (a : List Byte) : Prop := ∃ pre post, bs = pre ++ a ++ post ∧ pre.length = n

namespace FieldAt
variable {bs a b : List Byte} {n k : Nat}

theorem head (a post : List Byte) : FieldAt (a ++ post) 0 a := ⟨[], post, rfl, rfl⟩

theorem last (pre a : List Byte) (n : Nat) (h : pre.length = n) : FieldAt (pre ++ a) n a := ⟨pre, [], by simp, h⟩

theorem app (h : FieldAt bs n a) (y : List Byte) : FieldAt (bs ++ y) n a := by
  obtain ⟨p, q, rfl, hn⟩ := h
  exact ⟨p, q ++ y, by simp, hn⟩

theorem skip (h : FieldAt bs n a) (x : List Byte) (k : Nat) (hk : x.length = k) : FieldAt (x ++ bs) (k + n) a := by
  obtain ⟨p, q, rfl, rfl⟩ := h
  exact ⟨x ++ p, q, by simp, by simp [hk]⟩

theorem trans (h : FieldAt bs n a) (h' : FieldAt a k b) : FieldAt bs (n + k) b := by
  obtain ⟨p, q, rfl, rfl⟩ := h
  obtain ⟨p', q', rfl, rfl⟩ := h'
  exact ⟨p ++ p', q' ++ q, by simp, by simp⟩

theorem flatten : ∀ (segs : List (List Byte)) (k : Nat) (hk : k < segs.length),
    FieldAt segs.flatten ((segs.map List.length).take k).sum segs[k]
  | s :: r, 0, _ => by simpa using head s r.flatten
  | s :: r, k + 1, hk => by
    obtain ⟨p, q, e, hn⟩ := flatten r k (by simpa using hk)
    exact ⟨s ++ p, q, by simp [e], by simp [hn]⟩

theorem getD (h : FieldAt bs n a) (u : Nat) (hu : u < a.length) : bs.getD (n + u) 0 = a.getD u 0 := by
  obtain ⟨pre, post, rfl, rfl⟩ := h
  simp [List.getD_eq_getElem?_getD, List.getElem?_append_right, List.getElem?_append_left, hu]

theorem drop_take (h : FieldAt bs n a) : (bs.drop n).take a.length = a := by
  obtain ⟨pre, post, rfl, rfl⟩ := h
  simp

theorem of_drop {l : List Byte} (hd : bs.drop k = l) (hk : k ≤ bs.length) (h : FieldAt l n a) : FieldAt bs (k + n) a := by
  rw [← List.take_append_drop k bs, hd]
  exact h.skip _ k (by simp [hk])

theorem seg {bs : List Byte} (segs : List (List Byte)) (e : bs = segs.flatten) (k n : Nat) {a : List Byte} (ha : segs[k]? = some a)
    (hn : ((segs.take k).map List.length).sum = n) : FieldAt bs n a := by
  obtain ⟨hk, rfl⟩ := List.getElem?_eq_some_iff.mp ha
  rw [List.map_take] at hn
  exact e ▸ hn ▸ flatten segs k hk

theorem slice (h : FieldAt bs n a) (k : Nat) (hk : a.length = k) : (bs.drop n).take k = a := hk ▸ h.drop_take

end FieldAt
end Sf

/-! a byte string read front to back: the fact `bs.drop p = field ++ rest` ("the cursor stands at `p` in front of
  `field`") and how it moves.  The chunk readers of AIFF, SVX, CAF and W64 are followed over written headers with it. -/

namespace Sf.Cursor

theorem drop_at {α : Type} {bs x rest : List α} {p n : Nat} (hd : bs.drop p = x ++ rest) (hx : x.length = n) :
    bs.drop (p + n) = rest := by
  subst hx; rw [← List.drop_drop, hd, List.drop_left]

theorem getD_at {bs rest : List Byte} {p : Nat} {a : Byte} (hd : bs.drop p = a :: rest) : bs.getD p 0 = a := by
  rw [List.getD_eq_getElem?_getD, ← List.head?_drop, hd]; rfl

theorem drop_zero {α : Type} {bs x : List α} (h : bs = x) : bs.drop 0 = x := by rw [List.drop_zero, h]

theorem len_of_drop {α : Type} {bs x : List α} {p : Nat} (h : bs.drop p = x) (hx : 0 < x.length) : bs.length = p + x.length := by
  have hl : (bs.drop p).length = x.length := by rw [h]
  simp only [List.length_drop] at hl
  omega

theorem split_at {α : Type} {bs x : List α} {p : Nat} (h : bs.drop p = x) (hx : 0 < x.length) :
    bs = bs.take p ++ x ∧ (bs.take p).length = p := by
  have := len_of_drop h hx
  exact ⟨by rw [← h, List.take_append_drop], by rw [List.length_take]; omega⟩

end Sf.Cursor
