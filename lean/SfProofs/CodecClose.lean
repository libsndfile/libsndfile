/-
  SfProofs.CodecClose — SFC_UPDATE_HEADER_NOW, open and close on states satisfying the writer invariant;
  the closed file as a function of the stable handle fields, the data bytes and the PEAK state (`closeForm`).  What closing does is said once,
  for any handle that can write, whatever the mode, on a store `hdr ++ D ++ T` (`closeHandle_raw`, `closeHandle_au`, `closeHandle_wav`);
  `close_spec` here and the read/write close of SfProofs/RdwrClose.lean are the instances.
-/
import SfProofs.CodecInv
import SfProofs.HandleOpen
namespace Sf

/-- the handle after SFC_UPDATE_HEADER_NOW on a file `fl` bytes long -/
def uhH (h : H) (fl : Nat) : H :=
  if h.container != .raw then recalc { h with error := 0 } fl true else { h with error := 0 }

/-- the header bytes in the store after that command -/
def uhHdr (h : H) (fl : Nat) (hdr : List Byte) : List Byte :=
  if h.container != .raw then hdrOf (recalc { h with error := 0 } fl true) else hdr

/-- SFC_UPDATE_HEADER_NOW (command 0x1060) on an appending writer -/
theorem updHeader_spec (h : H) (s : Store) (hdr dat : List Byte) (inv : WInv h s hdr dat) (size : Int) :
    stepCmdFlag h s 0x1060 size =
      (uhH h s.bytes.length, { bytes := uhHdr h s.bytes.length hdr ++ dat, pos := s.pos }, { ret := 0 }) := by
  have hm : (h.mode != Mode.r) = true := by rw [inv.mode]; decide
  unfold stepCmdFlag uhH uhHdr
  simp only [hm, true_and]
  by_cases hc : (h.container != Container.raw) = true
  · simp only [hc, if_true]
    rw [inv.clearError.writeHeader true]
  · simp only [hc]
    have := inv.bytes
    cases s
    simp_all

/-- SFC_UPDATE_HEADER_NOW clears the error and changes the two lengths and the data offset, nothing else -/
theorem uhH_fields (h : H) (fl : Nat) :
    uhH h fl = { h with error := 0, filelength := (uhH h fl).filelength, datalength := (uhH h fl).datalength,
                        dataoffset := (uhH h fl).dataoffset } := by
  unfold uhH
  split
  · exact recalc_fields _ _ _
  · rfl

@[simp] theorem uhH_store (h : H) (fl : Nat) : (uhH h fl).store = h.store := by
  rw [uhH_fields]
@[simp] theorem uhH_rpos (h : H) (fl : Nat) : (uhH h fl).rpos = h.rpos := by
  rw [uhH_fields]
@[simp] theorem uhH_haveWritten (h : H) (fl : Nat) : (uhH h fl).haveWritten = h.haveWritten := by
  rw [uhH_fields]
@[simp] theorem uhH_canTruncate (h : H) (fl : Nat) : (uhH h fl).canTruncate = h.canTruncate := by
  rw [uhH_fields]

theorem uhH_hdrLen (h : H) (fl : Nat) : hdrLenOf (uhH h fl) = hdrLenOf h := by
  rw [uhH_fields]
  exact hdrLenOf_congr _ _ rfl rfl rfl rfl

theorem updHeader_winv (h : H) (s : Store) (hdr dat : List Byte) (inv : WInv h s hdr dat) (size : Int) :
    WInv (stepCmdFlag h s 0x1060 size).1 (stepCmdFlag h s 0x1060 size).2.1 (uhHdr h s.bytes.length hdr) dat := by
  rw [updHeader_spec h s hdr dat inv size]
  have hE : hdrLenOf { h with error := 0 } = hdrLenOf h := hdrLenOf_congr _ _ rfl rfl rfl rfl
  have hlen : (uhHdr h s.bytes.length hdr).length = hdrLenOf h := by
    unfold uhHdr; split
    · rw [hdrOf_length, recalc_hdrLen, hE]
    · exact inv.hdr_len
  have hdo : (uhH h s.bytes.length).dataoffset = hdrLenOf h := by
    unfold uhH; split
    · rw [recalc_dataoffset' _ _ _ (by rw [hE]; exact inv.doff), hE]
    · exact inv.doff
  have hhl := uhH_hdrLen h s.bytes.length
  rw [uhH_fields] at hdo hhl ⊢
  exact {
    mode := inv.mode
    lastOp := inv.lastOp
    ch_pos := inv.ch_pos
    wpos_nonneg := inv.wpos_nonneg
    frames := inv.frames
    dataend := inv.dataend
    dat_len := inv.dat_len
    peak_len := inv.peak_len
    doff := hdo.trans (congrArg Nat.cast hhl.symm)
    hdr_len := hlen.trans hhl.symm
    bytes := rfl
    pos := by
      simp only [List.length_append]
      rw [hlen, inv.pos, inv.bytes, List.length_append, inv.hdr_len] }

/-- the RIFF pad byte behind an odd-length data chunk -/
def wavPad (h : H) (dat : List Byte) : List Byte :=
  if (((hdrLenOf h + dat.length : Nat) : Int) % 2 == 1) then [0] else []

/-- the PEAK chunk, when it goes behind the data -/
def wavTail (h : H) : List Byte :=
  match h.peak with
  | some ps => if !h.peakAtStart then pkChunk h.big h.ch ps else []
  | none => []

/-- the bytes of the closed file, from the handle's stable fields, `frames`, `peak`, and the data bytes -/
def closeForm (h : H) (dat : List Byte) : List Byte :=
  match h.container with
  | .raw => dat
  | .au => auHdr h.big dat.length h.fmtWord h.sr h.ch ++ dat
  | .wav =>
    wavHdr h.big ((hdrLenOf h + dat.length + (wavPad h dat ++ wavTail h).length : Nat) : Int) h.enc.nbytes h.ch h.sr
        h.frames h.peak h.peakAtStart dat.length h.fmtWord ++ (dat ++ (wavPad h dat ++ wavTail h))

/-- `wav_write_tailer` on a file that has a data section -/
theorem wavTailer_eq (h : H) (s : Store) (hpos : h.dataoffset + h.frames * (h.nb : Int) * (h.ch : Int) > 0) :
    wavTailer h s =
      ({ h with datalength := h.frames * h.nb * h.ch, dataend := h.dataoffset + h.frames * h.nb * h.ch },
       (s.seekSet (h.dataoffset + h.frames * h.nb * h.ch).toNat).write
         ((if (h.dataoffset + h.frames * h.nb * h.ch) % 2 == 1 then [0] else []) ++ wavTail h)) := by
  unfold wavTailer wavTail
  simp only [hpos, if_true, peakChunk_eq]
  rfl

theorem wavTail_atStart (h : H) (hpas : ∀ ps, h.peak = some ps → h.peakAtStart = true) : wavTail h = [] := by
  unfold wavTail
  cases hp : h.peak with
  | none => rfl
  | some ps => simp [hpas ps hp]

theorem WInv.dl (h : H) (s : Store) (hdr dat : List Byte) (inv : WInv h s hdr dat) :
    h.frames * h.nb * h.ch = (dat.length : Int) := by
  rw [inv.dat_len, inv.frames, H.nb]; push_cast; rw [Int.mul_assoc]

/-- RAW has no header to bring up to date -/
theorem closeHandle_raw (h : H) (s : Store) (hc : h.container = .raw) : closeHandle h s = s := by
  unfold closeHandle; rw [hc]; exact ite_self s

/-- `au_close` on any handle that can write: a fresh header in front of the data -/
theorem closeHandle_au (h : H) (s : Store) (hdr D : List Byte) (hm : h.mode ≠ .r) (hc : h.container = .au)
    (hb : s.bytes = hdr ++ D) (hl : hdr.length = hdrLenOf h) (hd : h.dataoffset = hdrLenOf h) (hde : h.dataend = 0)
    (hpos : hdrLenOf h ≤ s.pos) :
    (closeHandle h s).bytes = auHdr h.big D.length h.fmtWord h.sr h.ch ++ D := by
  have hm' : (h.mode == Mode.r) = false := by cases hmm : h.mode <;> simp_all
  have h24 : hdrLenOf h = 24 := hdrLenOf_au hc
  unfold closeHandle
  simp only [hm', hc, Bool.false_eq_true, if_false]
  rw [writeHeader_snd h s true hdr D hb hl hd hpos, hdrOf_recalc, hc]
  simp only [recalc_datalength, hc, hde, hd, hb, List.length_append, hl, h24]
  simp
  congr 1; omega

/-- the final header rewrite of `wav_close`, the tailer having set the data end: the two length fields are stale and do not matter -/
theorem wavClose_header (h : H) (hdr D tail : List Byte) (p : Nat) (fl dl : Int) (hc : h.container = .wav)
    (hl : hdr.length = hdrLenOf h) (hd : h.dataoffset = hdrLenOf h) (hp : hdrLenOf h ≤ p) :
    (writeHeader { h with filelength := fl, datalength := dl, dataend := ((hdrLenOf h + D.length : Nat) : Int) }
        { bytes := hdr ++ (D ++ tail), pos := p } true).2.bytes =
      wavHdr h.big ((hdrLenOf h + D.length + tail.length : Nat) : Int) h.enc.nbytes h.ch h.sr h.frames h.peak h.peakAtStart
        D.length h.fmtWord ++ (D ++ tail) := by
  have hO : 0 < hdrLenOf h := by rw [hdrLenOf_wav hc]; exact wavHdrLen_pos h
  have hX : hdrLenOf ({ h with filelength := fl, datalength := dl, dataend := ((hdrLenOf h + D.length : Nat) : Int) } : H) = hdrLenOf h :=
    hdrLenOf_congr _ _ rfl rfl rfl rfl
  rw [writeHeader_snd _ _ true hdr (D ++ tail) rfl (by rw [hX]; exact hl) (by rw [hX]; exact hd) (by rw [hX]; exact hp),
    hdrOf_recalc]
  simp only [recalc_datalength, recalc_filelength, hc, hd]
  have hne : (((hdrLenOf h + D.length : Nat) : Int) != 0) = true := by simp; omega
  simp only [hne, if_true]
  simp [hl]
  congr 1 <;> omega

/-- `wav_close` on any handle that can write, the store being the header region, the data and whatever lies behind them: the tailer
    puts the pad byte and the PEAK chunk `W` over what lay there; a read/write handle whose (stale) file-length field is beyond them
    cuts the file there if it can; the header is written afresh -/
theorem closeHandle_wav (h : H) (s : Store) (hdr D T W : List Byte) (hm : h.mode ≠ .r) (hc : h.container = .wav)
    (hb : s.bytes = hdr ++ (D ++ T)) (hl : hdr.length = hdrLenOf h) (hd : h.dataoffset = hdrLenOf h)
    (hdl : h.frames * h.nb * h.ch = (D.length : Int)) (hW : W = wavPad h D ++ wavTail h) (T' : List Byte)
    (hT : T' = if h.mode = .rw ∧ ((hdrLenOf h + D.length + W.length : Nat) : Int) < h.filelength ∧ h.canTruncate = true then W
               else W ++ T.drop W.length) :
    (closeHandle h s).bytes =
      wavHdr h.big ((hdrLenOf h + D.length + T'.length : Nat) : Int) h.enc.nbytes h.ch h.sr h.frames h.peak h.peakAtStart
        D.length h.fmtWord ++ (D ++ T') := by
  have hr : (h.mode == Mode.r) = false := by cases hmm : h.mode <;> simp_all
  have hO : 0 < hdrLenOf h := by rw [hdrLenOf_wav hc]; exact wavHdrLen_pos h
  have hde : h.dataoffset + (D.length : Int) = ((hdrLenOf h + D.length : Nat) : Int) := by rw [hd]; push_cast; rfl
  have hwr : (s.seekSet (hdrLenOf h + D.length)).write W =
      { bytes := hdr ++ (D ++ (W ++ T.drop W.length)), pos := hdrLenOf h + D.length + W.length } := by
    unfold Store.write Store.seekSet
    cases hw : W with
    | nil => simp [hb]
    | cons x w =>
      simp only [List.isEmpty_cons, Bool.false_eq_true, if_false, hb]
      rw [← List.append_assoc, writeAt_after hdr D T (x :: w) _ (by rw [hl]), List.append_assoc, List.append_assoc]
  unfold closeHandle
  simp only [hr, hc, Bool.false_eq_true, if_false]
  rw [wavTailer_eq h s (by rw [hdl, hde]; omega)]
  simp only [hdl, hde, Int.toNat_natCast]
  rw [show (if (((hdrLenOf h + D.length : Nat) : Int) % 2 == 1) = true then [(0 : Byte)] else []) ++ wavTail h = W from hW.symm, hwr]
  have hp : hdrLenOf h ≤ hdrLenOf h + D.length + W.length := by omega
  have htk : (hdr ++ (D ++ (W ++ T.drop W.length))).take (hdrLenOf h + D.length + W.length) = hdr ++ (D ++ W) := by
    rw [← hl, ← List.append_assoc, ← List.append_assoc, ← List.length_append, ← List.length_append, List.take_left' rfl,
      List.append_assoc]
  simp only []
  -- the three tests of the cut decide only which tail `T'` is; every branch ends in `wavClose_header` on that tail
  by_cases hrw : h.mode = .rw
  · rw [if_pos (show (h.mode == Mode.rw) = true by rw [hrw]; rfl)]
    by_cases hcut : ((hdrLenOf h + D.length + W.length : Nat) : Int) < h.filelength
    · rw [if_pos hcut]
      by_cases hct : h.canTruncate = true
      · rw [if_pos hct, htk, hT, if_pos ⟨hrw, hcut, hct⟩]
        exact wavClose_header h hdr D W _ _ _ hc hl hd hp
      · rw [if_neg hct, hT, if_neg (fun x => hct x.2.2)]
        exact wavClose_header h hdr D _ _ _ _ hc hl hd hp
    · rw [if_neg hcut, hT, if_neg (fun x => hcut x.2.1)]
      exact wavClose_header h hdr D _ _ _ _ hc hl hd hp
  · rw [if_neg (show ¬ (h.mode == Mode.rw) = true by simpa using hrw), hT, if_neg (fun x => hrw x.1)]
    exact wavClose_header h hdr D _ _ _ _ hc hl hd hp

theorem close_spec (h : H) (s : Store) (hdr dat : List Byte) (inv : WInv h s hdr dat) :
    (closeHandle h s).bytes = closeForm h dat := by
  have hm : h.mode ≠ .r := by rw [inv.mode]; decide
  have hsp : s.pos = hdrLenOf h + dat.length := by rw [inv.pos, inv.bytes, List.length_append, inv.hdr_len]
  unfold closeForm
  cases hc : h.container with
  | raw =>
    have : hdr = [] := List.eq_nil_of_length_eq_zero (inv.hdr_len.trans (hdrLenOf_raw hc))
    rw [closeHandle_raw h s hc, inv.bytes, this]; rfl
  | au => exact closeHandle_au h s hdr dat hm hc inv.bytes inv.hdr_len inv.doff inv.dataend (by omega)
  | wav =>
    exact closeHandle_wav h s hdr dat [] _ hm hc (by rw [inv.bytes, List.append_nil]) inv.hdr_len inv.doff (WInv.dl h s hdr dat inv) rfl _
      (by rw [if_neg (fun x => by rw [inv.mode] at x; exact absurd x.1 (by decide)), List.drop_nil, List.append_nil])

theorem writeHeader_empty (h : H) (s : Store) (hs : s.bytes = []) (hp : s.pos = 0) :
    (writeHeader h s false).2 = { bytes := hdrOf h, pos := hdrLenOf h } := by
  have hh : hdrOf (recalc h s.bytes.length false) = hdrOf h := by
    rw [hdrOf_recalc]; unfold hdrOf
    cases h.container <;> simp [auHeader_eq, wavHeader_eq, recalc_datalength, recalc_filelength]
  rw [show (writeHeader h s false).2 = ⟨(writeHeader h s false).2.bytes, (writeHeader h s false).2.pos⟩ from rfl,
    writeHeader_bytes, writeHeader_pos, hh, hs, hp, List.drop_nil, List.append_nil]
  congr 1
  unfold hdrLenOf
  cases h.container <;> simp

theorem open_winv (si : Nat) (s0 : Store) (hs : s0.bytes = []) (fmt : Nat) (ch sr : Int) (h : H) (s : Store)
    (ho : openHandle si s0 .w fmt ch sr = .ok h s) :
    WInv h s s.bytes [] ∧ h.wpos = 0 := by
  rcases openHandle_ok si s0 .w fmt ch sr h s ho with ⟨c, enc, hc, hch, _, he, _, hcase⟩ | ⟨_, _, _, hn, _⟩
  · have hchp : 0 < ch.toNat := by omega
    have hs0 : (s0.seekSet 0).bytes = [] := hs
    have e2 : ∀ h1 : H, (writeHeader h1 (s0.seekSet 0) false).2 = ⟨hdrOf h1, hdrLenOf h1⟩ :=
      fun h1 => writeHeader_empty h1 _ hs0 rfl
    rcases hcase with ⟨rfl, rfl, rfl⟩ | ⟨rfl, h1, rfl, rfl, rfl⟩ | ⟨rfl, h1, rfl, rfl, rfl⟩
    · refine ⟨?_, by simp⟩
      constructor <;> simp [initFrames, hs, hdrLenOf, hchp, Store.seekSet]
    · refine ⟨?_, rfl⟩
      constructor <;> simp [e2, hdrLenOf, hchp, hdrOf_length]
    · refine ⟨?_, rfl⟩
      constructor <;> simp [e2, hdrLenOf, hchp, hdrOf_length, wavHeader_length, mkPeaks, wavHdrLen]
  · exact absurd (Or.inl rfl) hn

end Sf
