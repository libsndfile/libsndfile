/-
  SfProofs.AlacMono — a compressed mono element (EncodeMono's output for any coefficient row and predictor order) is
  decoded by `alac_decode`'s ID_SCE branch to the truncated samples: parameter block, shifted-off bytes, Golomb coder,
  predictor and output conversion put together. The per-sample and per-channel facts are shared with the channel pair
  (SfProofs/AlacPair.lean).
-/
import SfProofs.Bytes
import SfProofs.AlacMix
import SfProofs.AlacGolombLoop
import SfModel.AlacDec
namespace Sf.AlacCore

def Int16 (c : Int) : Prop := -32768 ≤ c ∧ c < 32768

theorem rdCoefs_coefBits (cs : List Int) (hcs : ∀ c ∈ cs, Int16 c) (rest : Bits) (p : Nat) :
    rdCoefs cs.length ⟨cs.flatMap (fun c => bitsOf (wrapU 16 c) 16) ++ rest, p⟩ = (cs, ⟨rest, p + 16 * cs.length⟩) := by
  induction cs generalizing p with
  | nil => simp [rdCoefs]
  | cons c cs ih =>
    obtain ⟨h1, h2⟩ := hcs c (by simp)
    simp only [List.flatMap_cons, List.append_assoc, List.length_cons, rdCoefs, read_bitsOf]
    rw [ih (fun x hx => hcs x (by simp [hx])), Nat.mod_eq_of_lt (wrapU_lt_pow 16 c), sext_wrapU 16 (by decide),
      wrapS_of_range 16 c (by omega) (by omega)]
    simp [Nat.mul_succ]; omega

theorem rdFields_enc (w : Nat) (ss : List Nat) (hss : ∀ s ∈ ss, s < 2 ^ w) (rest : Bits) (p : Nat) :
    rdFields w ss.length ⟨ss.flatMap (fun s => bitsOf s w) ++ rest, p⟩ = (ss, ⟨rest, p + w * ss.length⟩) := by
  induction ss generalizing p with
  | nil => simp [rdFields]
  | cons s ss ih =>
    simp only [List.flatMap_cons, List.append_assoc, List.length_cons, rdFields, read_bitsOf]
    rw [ih (fun x hx => hss x (by simp [hx])), Nat.mod_eq_of_lt (hss s (by simp))]
    simp [Nat.mul_succ]; omega

theorem coefBits_length (coefs : List Int) (numU : Nat) (hlen : numU ≤ coefs.length) : (coefBits coefs numU).length = 16 * numU := by
  unfold coefBits
  rw [flatMap_bitsOf_length, List.length_take, Nat.min_eq_left hlen]

theorem pcBlock_take (inp coefs : List Int) (na cb ds : Nat) : (pcBlock inp (coefs.take na) na cb ds).1 = (pcBlock inp coefs na cb ds).1 := by
  unfold pcBlock
  cases inp with
  | nil => rfl
  | cons x0 xs => simp only [List.take_take, Nat.min_self]; split <;> [rfl; (split <;> rfl)]

theorem sx_fits (cb : Nat) (hcb : 1 ≤ cb) (y : Int) : -(2 : Int) ^ (cb - 1) ≤ sx cb y ∧ sx cb y < (2 : Int) ^ (cb - 1) := by
  unfold sx wrapS
  have e : (2 : Int) ^ cb = 2 * 2 ^ (cb - 1) := by rw [← Int.pow_succ']; congr 1; omega
  have hpos : (0 : Int) < 2 ^ (cb - 1) := Int.pow_pos (by decide)
  have h1 := Int.emod_nonneg y (show (2 : Int) ^ cb ≠ 0 by omega)
  have h2 := Int.emod_lt_of_pos y (show (0 : Int) < 2 ^ cb by omega)
  simp only []
  rw [e] at h1 h2 ⊢
  have : 2 * (2 : Int) ^ (cb - 1) / 2 = 2 ^ (cb - 1) := by omega
  rw [this]
  split <;> omega

theorem sx_of_fits (cb : Nat) (hcb : 1 ≤ cb) (y : Int) (h1 : -(2 : Int) ^ (cb - 1) ≤ y) (h2 : y < (2 : Int) ^ (cb - 1)) : sx cb y = y := by
  have e : (2 : Int) ^ cb / 2 = 2 ^ (cb - 1) := by
    rw [show cb = cb - 1 + 1 by omega, Int.pow_succ, Nat.add_sub_cancel]; omega
  exact wrapS_of_range cb y (by rw [e]; exact h1) (by rw [e]; exact h2)

theorem pcStep_fits (na cb ds : Nat) (hcb : 1 ≤ cb) (coefs hist : List Int) (x : Int) : Fits cb (pcStep na cb ds coefs hist x).1 := by
  unfold pcStep
  simp only []
  split <;> exact sx_fits cb hcb _

theorem pcLoop_resid (na cb ds : Nat) (hcb : 1 ≤ cb) (xs : List Int) : ∀ (j : Nat) (coefs hist : List Int),
    (pcLoop na cb ds xs j coefs hist).1.length = xs.length ∧ ∀ r ∈ (pcLoop na cb ds xs j coefs hist).1, Fits cb r := by
  induction xs with
  | nil => intro j coefs hist; simp [pcLoop]
  | cons x xs ih =>
    intro j coefs hist
    rw [pcLoop]
    split
    · exact ⟨by simp [(ih _ _ _).1], List.forall_mem_cons.2 ⟨sx_fits cb hcb _, (ih _ _ _).2⟩⟩
    · exact ⟨by simp [(ih _ _ _).1], List.forall_mem_cons.2 ⟨pcStep_fits na cb ds hcb coefs hist x, (ih _ _ _).2⟩⟩

theorem pcDiff_resid (cb : Nat) (hcb : 1 ≤ cb) (xs : List Int) : ∀ (acc : List Int) (p : Int),
    (xs.foldl (fun (a : List Int × Int) x => (sx cb (w32 (x - a.2)) :: a.1, x)) (acc, p)).1.length = acc.length + xs.length ∧
    ((∀ r ∈ acc, Fits cb r) →
      ∀ r ∈ (xs.foldl (fun (a : List Int × Int) x => (sx cb (w32 (x - a.2)) :: a.1, x)) (acc, p)).1, Fits cb r) := by
  induction xs with
  | nil => intro acc p; exact ⟨rfl, id⟩
  | cons x xs ih =>
    intro acc p
    rw [List.foldl_cons]
    refine ⟨by rw [(ih _ _).1, List.length_cons, List.length_cons]; simp only []; omega, fun h => (ih _ _).2 ?_⟩
    exact List.forall_mem_cons.2 ⟨sx_fits cb hcb _, h⟩

theorem pcBlock_length (inp coefs : List Int) (na cb ds : Nat) (hcb : 1 ≤ cb) : (pcBlock inp coefs na cb ds).1.length = inp.length := by
  cases inp with
  | nil => rfl
  | cons x0 xs =>
    simp only [pcBlock]
    split
    · rfl
    · split
      · rw [List.length_reverse, (pcDiff_resid cb hcb xs _ _).1]; simp; omega
      · simp [(pcLoop_resid na cb ds hcb xs _ _ _).1]

/-- the residuals of `pc_block` fit the channel width (so the Golomb coder can code them in `chanbits` bits) -/
theorem pcBlock_fits (inp coefs : List Int) (na cb ds : Nat) (hcb : 1 ≤ cb) (hin : ∀ x ∈ inp, Fits cb x) :
    ∀ r ∈ (pcBlock inp coefs na cb ds).1, Fits cb r := by
  cases inp with
  | nil => intro r hr; simp [pcBlock] at hr
  | cons x0 xs =>
    have h0 : Fits cb x0 := hin _ (by simp)
    simp only [pcBlock]
    split
    · exact hin
    · split
      · intro r hr
        exact (pcDiff_resid cb hcb xs [x0] x0).2 (List.forall_mem_cons.2 ⟨h0, by simp⟩) r (List.mem_reverse.1 hr)
      · exact List.forall_mem_cons.2 ⟨h0, (pcLoop_resid na cb ds hcb xs 1 _ _).2⟩

theorem pcBlock_roundtrip (inp coefs : List Int) (num cb : Nat) (hcb1 : 1 ≤ cb) (hcb : cb ≤ 32) (hlen : num ≤ coefs.length) (hnum : num ≠ 31)
    (hfit : ∀ y ∈ inp, Fits cb y) :
    (pcBlock inp coefs num cb 9).1.length = inp.length ∧ (∀ r ∈ (pcBlock inp coefs num cb 9).1, Fits cb r) ∧
    unpcBlock (pcBlock inp coefs num cb 9).1 (coefs.take num) (coefs.take num).length cb 9 = inp := by
  refine ⟨pcBlock_length _ _ _ _ _ hcb1, pcBlock_fits inp coefs num cb 9 hcb1 hfit, ?_⟩
  rw [List.length_take, Nat.min_eq_left hlen, ← pcBlock_take]
  exact unpcBlock_pcBlock _ _ num _ 9 hcb hnum (fun y hy => sx_of_fits _ hcb1 y (hfit y hy).1 (hfit y hy).2)

theorem depth_facts {depth : Nat} (hd : Depth depth) :
    bytesShiftedOf depth ≤ 2 ∧ 1 ≤ depth - 8 * bytesShiftedOf depth ∧ depth - 8 * bytesShiftedOf depth ≤ 20 ∧ 8 * bytesShiftedOf depth ≤ depth := by
  rcases hd with rfl | rfl | rfl | rfl <;> decide


theorem glue_low (k : Nat) (hk : k ≤ 32) {y : Int} (hy : I32 y) : w32 (shl32 (asr y k) k + ((wrapU 32 y % 2 ^ k : Nat) : Int)) = y := by
  have hlow : ((wrapU 32 y % 2 ^ k : Nat) : Int) = y % 2 ^ k := by
    unfold wrapU
    rw [Int.natCast_mod, Int.toNat_of_nonneg (Int.emod_nonneg _ (by decide))]
    exact Int.emod_emod_of_dvd _ (pow_dvd_pow 2 hk)
  obtain ⟨q, hq⟩ := wrapS_eq_add 32 (asr y k * 2 ^ k)
  unfold shl32
  rw [hq, hlow, Int.add_right_comm, asr, Int.ediv_mul_add_emod, w32_add_mul, w32_of_fits hy.1 hy.2]

theorem asr_I32 {x : Int} (hx : I32 x) (k : Nat) : I32 (asr x k) := by
  obtain ⟨h1, h2⟩ := hx
  have hp : (0 : Int) < 2 ^ k := Int.pow_pos (by decide)
  unfold asr
  by_cases h0 : 0 ≤ x
  · exact ⟨Int.le_trans (by decide) (Int.ediv_nonneg h0 (Int.le_of_lt hp)), Int.lt_of_le_of_lt (Int.ediv_le_self _ h0) h2⟩
  · have hx1 : x * 2 ^ k ≤ x := by
      have := Int.mul_le_mul_of_nonpos_left (a := x) (show x ≤ 0 by omega) (show (1 : Int) ≤ 2 ^ k by omega)
      rwa [Int.mul_one] at this
    exact ⟨Int.le_trans h1 (Int.le_ediv_of_mul_le hp hx1), Int.lt_trans (Int.ediv_neg_of_neg_of_pos (by omega) hp) (by decide)⟩

/-- the encoder's input conversion of one caller sample: the predictor input `x >> (32 - depth)` without its shifted-off
    low bytes, and those low bytes -/
def encIn (depth : Nat) (x : Int) : Int := asr (asr x (32 - depth)) (8 * bytesShiftedOf depth)
def encLow (depth : Nat) (x : Int) : Nat := wrapU 32 (asr x (32 - depth)) % 2 ^ (8 * bytesShiftedOf depth)

theorem encIn_fits {depth : Nat} (hd : Depth depth) {x : Int} (hx : I32 x) : Fits (depth - 8 * bytesShiftedOf depth) (encIn depth x) := by
  obtain ⟨h1, h2⟩ := hx
  unfold Fits encIn asr
  rcases hd with rfl | rfl | rfl | rfl <;> simp [bytesShiftedOf] <;> omega

/-- the decoder's output conversions undo it: copyPredictorTo16 / 20 (no bytes shifted off), … -/
theorem restore16 (x : Int) : shl32 (encIn 16 x) 16 = trunc 16 x := by
  rw [encIn, show 8 * bytesShiftedOf 16 = 0 from rfl, asr_zero]; rfl

theorem restore20 (x : Int) : shl32 (encIn 20 x) 12 = trunc 20 x := by
  rw [encIn, show 8 * bytesShiftedOf 20 = 0 from rfl, asr_zero]; rfl

/-- … copyPredictorTo24Shift / unmix24 (one byte) … -/
theorem restore24 {x : Int} (hx : I32 x) : shl32 (w32 (shl32 (encIn 24 x) 8 + encLow 24 x)) 8 = trunc 24 x := by
  rw [encIn, encLow, show 8 * bytesShiftedOf 24 = 8 from rfl, glue_low 8 (by decide) (asr_I32 hx _)]; rfl

/-- … copyPredictorTo32Shift (two bytes) -/
theorem restore32 {x : Int} (hx : I32 x) : w32 (shl32 (encIn 32 x) 16 + encLow 32 x) = trunc 32 x := by
  rw [encIn, encLow, show 8 * bytesShiftedOf 32 = 16 from rfl, glue_low 16 (by decide) (asr_I32 hx _), trunc32 hx, Nat.sub_self, asr_zero]

theorem monoMix_fits {depth : Nat} (hd : Depth depth) (xs : List Int) (hxs : ∀ x ∈ xs, I32 x) :
    ∀ y ∈ monoMix depth xs, Fits (depth - 8 * bytesShiftedOf depth) y := by
  intro y hy
  simp only [monoMix, List.mem_map] at hy
  obtain ⟨x, hx, rfl⟩ := hy
  exact encIn_fits hd (hxs x hx)

/-- the output conversion of a mono element undoes the encoder's input conversion (without shifted-off bytes the shift
    buffer is not looked at) -/
theorem outChan_mono {depth : Nat} (hd : Depth depth) (xs : List Int) (hxs : ∀ x ∈ xs, I32 x) (sh : List Nat)
    (hsh : bytesShiftedOf depth ≠ 0 → sh = monoShift depth xs) :
    outChan Rules.current depth (bytesShiftedOf depth) (monoMix depth xs) sh = some (xs.map (trunc depth)) := by
  rw [show monoMix depth xs = xs.map (encIn depth) from rfl]
  rcases hd with rfl | rfl | rfl | rfl
  · simp only [outChan, if_true, List.map_map, Function.comp_def, restore16]
  · simp only [outChan, show ¬ ((20 : Nat) = 16) by decide, if_false, if_true, List.map_map, Function.comp_def, restore20]
  · rw [hsh (by decide), show monoShift 24 xs = xs.map (encLow 24) from rfl]
    simp only [outChan, show ¬ ((24 : Nat) = 16) by decide, show ¬ ((24 : Nat) = 20) by decide, show bytesShiftedOf 24 = 1 from rfl, if_false, if_true,
      ne_eq, Nat.succ_ne_zero, not_false_eq_true, List.zipWith_map, List.zipWith_self, Nat.mul_one]
    exact congrArg some (List.map_congr_left fun x hx => restore24 (hxs x hx))
  · rw [hsh (by decide), show monoShift 32 xs = xs.map (encLow 32) from rfl]
    simp only [outChan, show ¬ ((32 : Nat) = 16) by decide, show ¬ ((32 : Nat) = 20) by decide, show ¬ ((32 : Nat) = 24) by decide,
      show bytesShiftedOf 32 = 2 from rfl, if_false, if_true, ne_eq, OfNat.ofNat_ne_zero, not_false_eq_true, List.zipWith_map, List.zipWith_self, Nat.reduceMul]
    exact congrArg some (List.map_congr_left fun x hx => restore32 (hxs x hx))

/-- mode / denShift byte, pbFactor / order byte and the coefficients of one channel, as EncodeMono / EncodeStereo write them -/
theorem rdChanParams_enc (coefs : List Int) (num : Nat) (hlen : num ≤ coefs.length) (hnum : num < 32)
    (hc : ∀ c ∈ coefs.take num, Int16 c) (rest : Bits) (p : Nat) :
    rdChanParams ⟨bitsOf 9 8 ++ (bitsOf (4 * 32 + num) 8 ++ (coefBits coefs num ++ rest)), p⟩ =
      ((0, 9, 4, coefs.take num), ⟨rest, p + 8 + 8 + 16 * num⟩) := by
  have hct : (coefs.take num).length = num := by rw [List.length_take, Nat.min_eq_left hlen]
  have hrc := rdCoefs_coefBits (coefs.take num) hc rest (p + 8 + 8)
  rw [hct] at hrc
  simp only [rdChanParams, read_bitsOf, show (4 * 32 + num) % 2 ^ 8 % 32 = num by omega]
  unfold coefBits
  rw [hrc]
  simp only [Nat.reducePow, Nat.reduceMod, Nat.reduceDiv, show (4 * 32 + num) % 256 / 32 = 4 by omega]

/-- `dyn_decomp` + `unpc_block` of one channel on what the encoder wrote for it (mode 0, denShift 9, pbFactor 4) -/
theorem decChan_comp (cfg : Config) (hmb : cfg.mb = 10) (hpb : cfg.pb = 40) (hkb : cfg.kb = 14) (byteSize cb : Nat) (hcb1 : 1 ≤ cb) (hcb : cb ≤ 31)
    (pc coefs : List Int) (n : Nat) (hn : pc.length = n) (hfit : ∀ x ∈ pc, Fits cb x) (rest : Bits) (pos : Nat)
    (hroom : pos + (dynComp stdAg pc cb).length ≤ byteSize * 8) :
    decChan cfg byteSize n cb (0, 9, 4, coefs) ⟨dynComp stdAg pc cb ++ rest, pos⟩ =
      (some (unpcBlock pc coefs coefs.length cb 9), ⟨rest, pos + (dynComp stdAg pc cb).length⟩) := by
  have hag : setAgParams cfg.mb (cfg.pb * 4 / 4) cfg.kb = stdAg := by rw [hmb, hpb, hkb]; rfl
  subst hn
  simp only [decChan, hag]
  rw [dynDecomp_dynComp cb hcb1 hcb pc hfit rest pos byteSize hroom]
  simp

/-- the shift part of a compressed mono element -/
def monoShiftBits (depth : Nat) (xs : List Int) : Bits :=
  if bytesShiftedOf depth ≠ 0 then (monoShift depth xs).flatMap fun s => bitsOf s (8 * bytesShiftedOf depth) else []

theorem monoShiftBits_length (depth : Nat) (xs : List Int) :
    (monoShiftBits depth xs).length = if bytesShiftedOf depth ≠ 0 then 8 * bytesShiftedOf depth * xs.length else 0 := by
  unfold monoShiftBits
  split
  · rw [flatMap_bitsOf_length, monoShift, List.length_map]
  · rfl

theorem rdMonoShift (depth : Nat) (xs : List Int) (hb0 : bytesShiftedOf depth ≠ 0) (X : Bits) (P : Nat) :
    (rdFields (8 * bytesShiftedOf depth) xs.length ⟨monoShiftBits depth xs ++ X, P⟩).1 = monoShift depth xs := by
  have hlt : ∀ s ∈ monoShift depth xs, s < 2 ^ (8 * bytesShiftedOf depth) := by
    intro s hs
    simp only [monoShift, List.mem_map] at hs
    obtain ⟨x, _, rfl⟩ := hs
    exact Nat.mod_lt _ (Nat.pow_pos (by decide))
  have := rdFields_enc (8 * bytesShiftedOf depth) _ hlt X P
  rw [show (monoShift depth xs).length = xs.length from List.length_map _] at this
  rw [monoShiftBits, if_pos hb0, this]

theorem compMonoBits_eq (depth fs : Nat) (xs coefs : List Int) (numU : Nat) :
    compMonoBits depth fs xs coefs numU =
      hdrBits (decide (xs.length ≠ fs)) (bytesShiftedOf depth) xs.length false ++ (bitsOf 0 16 ++ (bitsOf 9 8 ++ (bitsOf (4 * 32 + numU) 8 ++
        (coefBits coefs numU ++ (monoShiftBits depth xs ++
          dynComp stdAg (pcBlock (monoMix depth xs) coefs numU (depth - 8 * bytesShiftedOf depth) 9).1 (depth - 8 * bytesShiftedOf depth)))))) := by
  unfold compMonoBits monoShiftBits
  simp only [List.append_assoc]

theorem compMonoBits_length (depth fs : Nat) (xs coefs : List Int) (numU : Nat) (hlen : numU ≤ coefs.length) :
    (compMonoBits depth fs xs coefs numU).length =
      (if xs.length ≠ fs then 48 else 16) + 32 + 16 * numU + (if bytesShiftedOf depth ≠ 0 then 8 * bytesShiftedOf depth * xs.length else 0) +
        (dynComp stdAg (pcBlock (monoMix depth xs) coefs numU (depth - 8 * bytesShiftedOf depth) 9).1 (depth - 8 * bytesShiftedOf depth)).length := by
  rw [compMonoBits_eq]
  simp only [List.length_append, hdrBits_length, bitsOf_length, coefBits_length coefs numU hlen, monoShiftBits_length, decide_eq_true_eq]
  omega

theorem skip_shift (bs k : Nat) (shBits X : Bits) (P : Nat) (hsh : shBits.length = if bs ≠ 0 then k else 0) :
    (if bs ≠ 0 then (Rd.mk (shBits ++ X) P).advance k else Rd.mk (shBits ++ X) P) = Rd.mk X (P + shBits.length) := by
  by_cases hb0 : bs = 0
  · have : shBits = [] := List.eq_nil_of_length_eq_zero (by rw [hsh, if_neg (by simpa using hb0)])
    simp [hb0, this]
  · rw [if_pos hb0] at hsh
    simp only [hb0, ne_eq, not_false_eq_true, if_true, Rd.advance, ← hsh, List.drop_left]

/-- the body of a compressed mono element behind the header: mixBits / mixRes, the parameters, the shifted-off bytes `shBits`
    (skipped, read afterwards), the coded channel -/
theorem compMono_enc {cfg : Config} (hmb : cfg.mb = 10) (hpb : cfg.pb = 40) (hkb : cfg.kb = 14) (ru : Rules)
    (byteSize bs n cb : Nat) (hbs : 8 * bs ≤ cfg.bitDepth) (hcbdef : cfg.bitDepth - 8 * bs = cb) (hcb1 : 1 ≤ cb) (hcb31 : cb ≤ 31)
    (coefs : List Int) (num : Nat) (hlen : num ≤ coefs.length) (hnum : num < 32) (hc : ∀ c ∈ coefs.take num, Int16 c)
    (pc : List Int) (hpl : pc.length = n) (hpfit : ∀ x ∈ pc, Fits cb x)
    (shBits : Bits) (hsh : shBits.length = if bs ≠ 0 then 8 * bs * n else 0) (rest : Bits) (p : Nat)
    (hroom : p + 16 + 8 + 8 + 16 * num + shBits.length + (dynComp stdAg pc cb).length ≤ byteSize * 8) :
    compMono ru byteSize cfg ⟨bs, false, n⟩
        ⟨bitsOf 0 16 ++ (bitsOf 9 8 ++ (bitsOf (4 * 32 + num) 8 ++ (coefBits coefs num ++ (shBits ++ (dynComp stdAg pc cb ++ rest))))), p⟩ =
      (.ok (outChan ru cfg.bitDepth bs (unpcBlock pc (coefs.take num) (coefs.take num).length cb 9)
          (if bs ≠ 0 then (rdFields (8 * bs) n ⟨shBits ++ (dynComp stdAg pc cb ++ rest), p + 8 + 8 + 8 + 8 + 16 * num⟩).1 else [])),
        ⟨rest, p + 8 + 8 + 8 + 8 + 16 * num + shBits.length + (dynComp stdAg pc cb).length⟩) := by
  subst hcbdef
  have hdom : inDomain cfg (cfg.bitDepth - 8 * bs) = true := by simp [inDomain, hkb]; omega
  have hnlt : ¬ (cfg.bitDepth < 8 * bs) := by omega
  have hd1 := decChan_comp cfg hmb hpb hkb byteSize _ hcb1 hcb31 pc (coefs.take num) n hpl hpfit rest
    (p + 8 + 8 + 8 + 8 + 16 * num + shBits.length) (by omega)
  rw [show bitsOf 0 16 = bitsOf 0 (8 + 8) from rfl]
  simp only [compMono, read_split, read_bitsOf, rdChanParams_enc coefs num hlen hnum hc, skip_shift _ _ _ _ _ hsh, hdom, hnlt, hd1,
    Bool.not_true, Bool.false_or, decide_false, Bool.false_eq_true, if_false]

theorem decMono_comp {cfg : Config} (hd : Depth cfg.bitDepth) (hmb : cfg.mb = 10) (hpb : cfg.pb = 40) (hkb : cfg.kb = 14)
    (byteSize : Nat) (xs coefs : List Int) (numU : Nat) (hlen : numU ≤ coefs.length) (hnu : numU < 31)
    (hcoefs : ∀ c ∈ coefs.take numU, Int16 c) (hxs : ∀ x ∈ xs, I32 x) {n : Nat} (hl : xs.length = n) (hn : n ≤ frameLen) :
    DecodesTo (decMono (comp Rules.current byteSize) Rules.current cfg) byteSize n (compMonoBits cfg.bitDepth frameLen xs coefs numU)
      [xs.map (trunc cfg.bitDepth)] := by
  subst hl
  intro inst reqN rest p hreq hroom
  obtain ⟨hbs, hcb1, hcb31, hle⟩ := depth_facts hd
  have hL := compMonoBits_length cfg.bitDepth frameLen xs coefs numU hlen
  rw [show (if xs.length ≠ frameLen then 48 else 16) = escHeaderLen xs.length from rfl] at hL
  rw [hL] at hroom ⊢
  obtain ⟨hpclen, hpcfit, hun⟩ := pcBlock_roundtrip (monoMix cfg.bitDepth xs) coefs numU _ hcb1 (by omega) hlen (by omega)
    (monoMix_fits hd xs hxs)
  rw [show (monoMix cfg.bitDepth xs).length = xs.length by simp [monoMix]] at hpclen
  rw [compMonoBits_eq]
  generalize (pcBlock (monoMix cfg.bitDepth xs) coefs numU (cfg.bitDepth - 8 * bytesShiftedOf cfg.bitDepth) 9).1 = pc at hun hpcfit hpclen hroom ⊢
  have hshlen := monoShiftBits_length cfg.bitDepth xs
  have hrd := rdMonoShift cfg.bitDepth xs
  generalize monoShiftBits cfg.bitDepth xs = shBits at hshlen hrd ⊢
  unfold decMono
  simp only [List.append_assoc]
  rw [rdHeader_hdr inst xs.length reqN (bytesShiftedOf cfg.bitDepth) false hbs hn hreq]
  simp only [Bool.false_eq_true, if_false, comp]
  rw [compMono_enc hmb hpb hkb Rules.current byteSize (bytesShiftedOf cfg.bitDepth) xs.length _ hle rfl hcb1 (by omega) coefs numU hlen
    (by omega) hcoefs pc hpclen hpcfit shBits hshlen rest _ (by rw [hshlen]; omega)]
  simp only [hun]
  rw [outChan_mono hd xs hxs _ (fun hb0 => by rw [if_pos hb0]; exact hrd hb0 _ _)]
  simp only [Option.getD_some, ElemRes.done.injEq, Rd.mk.injEq, true_and, hshlen]
  omega

end Sf.AlacCore
