/-
  SfProofs.AbsWriteBridge — the WRITE-SIDE BRIDGE, level A: from what a model PREDICTS for one job of the all-format write
  campaign, stated in lists (`Pred`: the calls of the reference run and of the split run with the values they returned, the
  closed bytes of the three runs, the re-open info, the read-back, the crash points with their re-open info and read-back),
  to the record the campaign would write down if the library behaved like the model (`Pred.record : AbsWrite.Record`), and
  the theorem that a prediction with the list-level properties `Good` IS ACCEPTED by the write-side predicate
  (`Pred.accepted_of_good`).  Everything about cells, arrays, `written` / `framesAccepted` / `handed`, the indexing of crash
  points and the side condition of C01 on cells lives here, once; the per-model files (AbsWriteBridgeHandle.lean: Sf.Handle
  RAW / AU / WAV; AbsWriteBridgeSmall.lean: the stand-alone container models; AbsWriteBridgeBlock.lean: block codecs) only
  prove `Good` from the theorems of C01 / C04 / C07 / C11.
-/
import SfProofs.AbsWriteComplete
namespace Sf.AbsWriteBridge
open Sf Sf.Abs Sf.AbsWrite Sf.Geometry

theorem cellsOf_append (ty : Ty) : ∀ (xs ys : List Int), cellsOf ty (xs ++ ys) = cellsOf ty xs ++ cellsOf ty ys
  | [], ys => by simp [cellsOf]
  | x :: xs, ys => by simp [cellsOf, cellsOf_append ty xs ys, Array.append_assoc]

theorem cellsOf_nil (ty : Ty) : cellsOf ty [] = #[] := rfl

theorem cellsOf_take (ty : Ty) : ∀ (xs : List Int) (k : Nat), (cellsOf ty xs).extract 0 (k * cells ty) = cellsOf ty (xs.take k)
  | [], k => by simp [cellsOf]
  | x :: xs, 0 => by simp [cellsOf]
  | x :: xs, k + 1 => by
    have ih := cellsOf_take ty xs k
    simp only [cellsOf, List.take_succ_cons]
    rw [Array.extract_append, cellOf_size, ← ih]
    have h1 : (cellOf ty x).extract 0 ((k + 1) * cells ty) = cellOf ty x := by
      apply Array.extract_eq_self_of_le
      rw [cellOf_size, Nat.add_mul]; omega
    rw [h1, Nat.add_mul, Nat.one_mul, Nat.add_sub_cancel]
    simp

theorem cellsOf_toList (ty : Ty) : ∀ xs : List Int, (cellsOf ty xs).toList = xs.flatMap (fun v => (cellOf ty v).toList)
  | [] => rfl
  | x :: xs => by simp [cellsOf, cellsOf_toList ty xs]

/-! ## format words: endianness bits | major | codec -/

/-- two format words that differ in the endianness bits only agree under the mask of `infoOk` -/
theorem word_mask (e e' r c : Nat) : (e * 0x10000000 + r + c) % 0x10000000 = (e' * 0x10000000 + r + c) % 0x10000000 := by
  rw [Nat.add_assoc, Nat.add_assoc, Nat.mul_add_mod_self_right, Nat.mul_add_mod_self_right]

theorem word_mask_ite (b : Bool) (x y e r c : Nat) :
    ((if b then x * 0x10000000 else y * 0x10000000) + r + c) % 0x10000000 = (e * 0x10000000 + r + c) % 0x10000000 := by
  split
  · exact word_mask x e r c
  · exact word_mask y e r c

/-- the side condition on ONE caller item: the pair (encoding, caller type) has a lossless rule and every cell of the item
    meets it -/
def sampleOk (codec : Nat) (ty : Ty) (v : Int) : Prop :=
  ∃ lz, losslessLow codec ty = some lz ∧ ∀ c ∈ (cellOf ty v).toList, cellOk codec ty lz c = true

/-- `sampleOk` of a short under an integer encoding of width `w`: the low 16 − w bits of its cell are zero -/
theorem sampleOk_s16 {codec w : Nat} (hiw : intWidth codec = some w) {v : Int} (h : sampleOk codec .s16 v) :
    cellOk codec .s16 (16 - w) (wrapU 16 v) = true := by
  obtain ⟨lz, hlz, hcell⟩ := h
  simp only [losslessLow, hiw, Option.map_some, Option.some.injEq] at hlz
  subst hlz
  exact hcell (wrapU 16 v) (by simp [cellOf])

/-- … of an int: the low 32 − w bits -/
theorem sampleOk_s32 {codec w : Nat} (hiw : intWidth codec = some w) {v : Int} (h : sampleOk codec .s32 v) :
    cellOk codec .s32 (32 - w) (wrapU 32 v) = true := by
  obtain ⟨lz, hlz, hcell⟩ := h
  simp only [losslessLow, hiw, Option.map_some, Option.some.injEq] at hlz
  subst hlz
  exact hcell (wrapU 32 v) (by simp [cellOf])

/-- under a lossy pair no sample meets the side condition -/
theorem lossy_nil {codec : Nat} {ty : Ty} (hl : losslessLow codec ty = none) : ∀ {xs : List Int}, (∀ v ∈ xs, sampleOk codec ty v) → xs = []
  | [], _ => rfl
  | v :: _, hok => by
    obtain ⟨lz, hlz, _⟩ := hok v (List.mem_cons_self ..)
    rw [hl] at hlz; cases hlz

theorem losslessFor_samples (g : AbsWrite.Geom) (ty : Ty) (xs : List Int) (h : losslessFor g ty (cellsOf ty xs) = true) :
    ∀ v ∈ xs, sampleOk g.codec ty v := by
  obtain ⟨lz, hlz, hall⟩ := losslessFor_cells g ty _ h
  intro v hv
  refine ⟨lz, hlz, fun c hc => ?_⟩
  have hm : c ∈ (cellsOf ty xs).toList := by
    rw [cellsOf_toList]; exact List.mem_flatMap.2 ⟨v, hv, hc⟩
  obtain ⟨k, hk, rfl⟩ := List.mem_iff_getElem.1 hm
  have := hall k (by simpa using hk)
  simpa using this

/-- one write call: variant, the samples handed over, what the call returned -/
structure LCall where
  fc : Bool
  xs : List Int
  ret : Int

/-- the count the call was made with: frames for the frames variant, items otherwise -/
def LCall.n (ch : Nat) (c : LCall) : Int := if c.fc then ((c.xs.length / ch : Nat) : Int) else (c.xs.length : Int)

def LCall.toCall (ty : Ty) (ch : Nat) (c : LCall) : Call :=
  { ty := ty, fc := c.fc, n := c.n ch, data := cellsOf ty c.xs, ret := c.ret }

/-- a write run: its calls and the bytes of the closed file -/
structure LRun where
  calls : List LCall
  bytes : List Byte

/-- a crash point: write calls made before the copy, the re-open of the copy, the read-back of the copy -/
structure LSnap where
  k : Nat
  info : Info
  ret : Int
  data : List Int

structure Pred where
  g : AbsWrite.Geom
  ty : Ty
  one : LRun                    -- the reference run
  info : Info                   -- re-open of its closed file
  rbRet : Int                   -- the read-back to the end: items delivered
  rbData : List Int             -- … the whole requested region
  rbMore : Int                  -- a further read
  split : LRun                  -- the split run
  snaps : List LSnap
  stale : List Byte             -- the closed bytes of the stale-frames run

def LRun.run (ty : Ty) (ch : Nat) (r : LRun) : Run :=
  { calls := r.calls.map (LCall.toCall ty ch), close := 0, bytes := r.bytes.toArray }

def LSnap.snap (ty : Ty) (s : LSnap) : Snap := { calls := s.k, info := s.info, rb := { ret := s.ret, data := cellsOf ty s.data } }

/-- THE RECORD the campaign writes down when the library answers as predicted -/
def Pred.record (p : Pred) : Record :=
  { g := p.g, ty := p.ty, complete := true,
    one := p.one.run p.ty p.g.ch, info := p.info,
    rb := { ret := p.rbRet, data := cellsOf p.ty p.rbData, more := p.rbMore },
    split := some (p.split.run p.ty p.g.ch),
    snaps := p.snaps.map (LSnap.snap p.ty),
    stale := some p.stale.toArray }

def samples (cs : List LCall) : List Int := cs.flatMap (·.xs)

/-- frames of a list of whole-frame calls -/
def framesOf (ch : Nat) : List LCall → Nat
  | [] => 0
  | c :: cs => c.xs.length / ch + framesOf ch cs

/-- a call the model accepted in full: whole frames, returned what it was asked -/
def LCall.good (ch : Nat) (c : LCall) : Prop := c.xs.length % ch = 0 ∧ c.ret = c.n ch

/-- what one crash point must satisfy -/
structure SnapGood (p : Pred) (s : LSnap) : Prop where
  opened : s.info.null = false
  info : infoOk p.g s.info = true
  frames : s.info.frames = (floorToBlock (framesOf p.g.ch (p.split.calls.take s.k)) p.g.block : Int)
  short : floorToBlock (framesOf p.g.ch (p.split.calls.take s.k)) p.g.block * p.g.ch ≤ s.ret.toNat
  len : floorToBlock (framesOf p.g.ch (p.split.calls.take s.k)) p.g.block * p.g.ch ≤ s.data.length
  final : s.data.take (floorToBlock (framesOf p.g.ch (p.split.calls.take s.k)) p.g.block * p.g.ch) =
    p.rbData.take (floorToBlock (framesOf p.g.ch (p.split.calls.take s.k)) p.g.block * p.g.ch)
  exact : (∀ v ∈ samples (p.split.calls.take s.k), sampleOk p.g.codec p.ty v) →
    s.data.take (floorToBlock (framesOf p.g.ch (p.split.calls.take s.k)) p.g.block * p.g.ch) =
      (samples (p.split.calls.take s.k)).take (floorToBlock (framesOf p.g.ch (p.split.calls.take s.k)) p.g.block * p.g.ch)

/-- the list-level properties of a prediction (each is a clause of C01 / C04 / C07 / C11 in the model's own terms) -/
structure Good (p : Pred) : Prop where
  chpos : 0 < p.g.ch
  block : 1 ≤ p.g.block
  calls1 : ∀ c ∈ p.one.calls, c.good p.g.ch
  calls2 : ∀ c ∈ p.split.calls, c.good p.g.ch
  same : samples p.split.calls = samples p.one.calls
  reopened : p.info.null = false
  info : infoOk p.g p.info = true
  rate : rateOk p.g.major p.g.sr p.info.sr = true
  framesLo : (framesOf p.g.ch p.one.calls : Int) ≤ p.info.frames
  framesHi : p.info.frames < (framesOf p.g.ch p.one.calls : Int) + (p.g.block : Int)
  eof : p.rbRet = p.info.frames * (p.g.ch : Int)
  more : p.rbMore = 0
  rbLen : (samples p.one.calls).length ≤ p.rbData.length
  roundtrip : (∀ v ∈ samples p.one.calls, sampleOk p.g.codec p.ty v) →
    p.rbData.take (samples p.one.calls).length = samples p.one.calls
  partition : p.one.bytes = p.split.bytes
  stale : p.one.bytes = p.stale
  snaps : snapScope p.g = true → ∀ s ∈ p.snaps, SnapGood p s

/-- what the campaign reads off an image that holds the `n` frames `xs`, for a codec with round trip `rt` (decode ∘ encode): the
    re-open line and the read-back -/
structure Decoded (g : AbsWrite.Geom) (rt : List Int → List Int) (xs : List Int) (n : Nat) (i : Info) (ret : Int)
    (data : List Int) : Prop where
  opened : i.null = false
  info : infoOk g i = true
  frames : i.frames = (n : Int)
  ret : ret = (xs.length : Int)
  len : xs.length ≤ data.length
  data : data.take xs.length = rt xs

theorem good_accepted (ty : Ty) (ch : Nat) (c : LCall) (hg : c.good ch) :
    (c.toCall ty ch).accepted ch = c.xs.length / ch := by
  obtain ⟨hm, hr⟩ := hg
  unfold Call.accepted LCall.toCall
  simp only [hr, LCall.n]
  cases c.fc
  · simp
  · simp only [if_true]; exact Int.toNat_natCast _

theorem good_taken (ty : Ty) (ch : Nat) (c : LCall) (hg : c.good ch) :
    (c.toCall ty ch).taken ch = cellsOf ty c.xs := by
  unfold Call.taken
  rw [good_accepted ty ch c hg]
  have : c.xs.length / ch * ch = c.xs.length := Nat.div_mul_cancel (Nat.dvd_of_mod_eq_zero hg.1)
  show (cellsOf ty c.xs).extract 0 (c.xs.length / ch * ch * cells ty) = _
  rw [this, cellsOf_take, List.take_length]

theorem written_map (ty : Ty) (ch : Nat) : ∀ (cs : List LCall), (∀ c ∈ cs, c.good ch) →
    written ch (cs.map (LCall.toCall ty ch)) = cellsOf ty (samples cs)
  | [], _ => rfl
  | c :: cs, h => by
    rw [List.map_cons, written_cons, good_taken ty ch c (h c (by simp)),
      written_map ty ch cs (fun d hd => h d (by simp [hd]))]
    simp [samples, cellsOf_append]

theorem framesAccepted_map (ty : Ty) (ch : Nat) : ∀ (cs : List LCall), (∀ c ∈ cs, c.good ch) →
    framesAccepted ch (cs.map (LCall.toCall ty ch)) = framesOf ch cs
  | [], _ => rfl
  | c :: cs, h => by
    simp only [List.map_cons, framesAccepted, framesOf]
    rw [good_accepted ty ch c (h c (by simp)), framesAccepted_map ty ch cs (fun d hd => h d (by simp [hd]))]

theorem handed_map (ty : Ty) (ch : Nat) : ∀ (cs : List LCall),
    handed (cs.map (LCall.toCall ty ch)) = cellsOf ty (samples cs)
  | [] => rfl
  | c :: cs => by
    rw [List.map_cons, handed_cons, handed_map ty ch cs]
    simp [samples, cellsOf_append, LCall.toCall]

theorem sameType_map (ty : Ty) (ch : Nat) (cs : List LCall) : sameType ty (cs.map (LCall.toCall ty ch)) = true := by
  simp [sameType, LCall.toCall]

theorem ret_map (ty : Ty) (ch : Nat) (cs : List LCall) (h : ∀ c ∈ cs, c.good ch) :
    ∀ c ∈ cs.map (LCall.toCall ty ch), c.ret = c.n := by
  intro c hc
  obtain ⟨d, hd, rfl⟩ := List.mem_map.1 hc
  exact (h d hd).2

theorem samples_length (ch : Nat) : ∀ (cs : List LCall), (∀ c ∈ cs, c.good ch) → (samples cs).length = framesOf ch cs * ch
  | [], _ => by simp [samples, framesOf]
  | c :: cs, h => by
    have ih := samples_length ch cs (fun d hd => h d (by simp [hd]))
    have : c.xs.length / ch * ch = c.xs.length := Nat.div_mul_cancel (Nat.dvd_of_mod_eq_zero (h c (by simp)).1)
    simp only [samples, List.flatMap_cons, List.length_append, framesOf, Nat.add_mul] at *
    omega

theorem floorToBlock_le (n b : Nat) : floorToBlock n b ≤ n := Nat.div_mul_le_self _ _

theorem samples_take (cs : List LCall) (k : Nat) : samples cs = samples (cs.take k) ++ samples (cs.drop k) := by
  unfold samples
  rw [← List.flatMap_append, List.take_append_drop]

theorem framesOf_take_le (ch : Nat) : ∀ (cs : List LCall) (k : Nat), framesOf ch (cs.take k) ≤ framesOf ch cs
  | [], _ => by simp [framesOf]
  | c :: cs, 0 => by simp [framesOf]
  | c :: cs, k + 1 => by
    have := framesOf_take_le ch cs k
    simp only [List.take_succ_cons, framesOf]; omega

/-- what the sample-granular models share: the closed file and every crash image are `Decoded` for the samples written so far.  That
    `rt` commutes with prefixes and is the identity under the side condition gives the C11 clauses (crash point against finished
    file, against the written samples) and C01. -/
theorem good_of_decoded (p : Pred) (rt : List Int → List Int)
    (rtPrefix : ∀ xs ys, (rt (xs ++ ys)).take xs.length = rt xs)
    (rtExact : ∀ xs ys, samples p.one.calls = xs ++ ys → (∀ v ∈ xs, sampleOk p.g.codec p.ty v) → rt xs = xs)
    (chpos : 0 < p.g.ch) (block : p.g.block = 1)
    (calls1 : ∀ c ∈ p.one.calls, c.good p.g.ch) (calls2 : ∀ c ∈ p.split.calls, c.good p.g.ch)
    (same : samples p.split.calls = samples p.one.calls)
    (ref : Decoded p.g rt (samples p.one.calls) (framesOf p.g.ch p.one.calls) p.info p.rbRet p.rbData)
    (rate : rateOk p.g.major p.g.sr p.info.sr = true) (more : p.rbMore = 0)
    (partition : p.one.bytes = p.split.bytes) (stale : p.one.bytes = p.stale)
    (snaps : snapScope p.g = true → ∀ s ∈ p.snaps,
      Decoded p.g rt (samples (p.split.calls.take s.k)) (framesOf p.g.ch (p.split.calls.take s.k)) s.info s.ret s.data) : Good p := by
  have hlen1 := samples_length p.g.ch _ calls1
  refine {
    chpos := chpos, block := Nat.le_of_eq block.symm, calls1 := calls1, calls2 := calls2, same := same,
    reopened := ref.opened, info := ref.info, rate := rate, framesLo := Int.le_of_eq ref.frames.symm,
    framesHi := by rw [ref.frames, block]; omega, eof := by rw [ref.ret, ref.frames, hlen1]; push_cast; rfl, more := more,
    rbLen := ref.len, roundtrip := fun hok => by rw [ref.data]; exact rtExact _ [] (by simp) hok,
    partition := partition, stale := stale, snaps := fun hsc s hs => ?_ }
  obtain ⟨q1, q2, q3, q4, q5, q6⟩ := snaps hsc s hs
  have hlenP := samples_length p.g.ch _ (fun c hc => calls2 c (List.mem_of_mem_take hc) : ∀ c ∈ p.split.calls.take s.k, c.good p.g.ch)
  have hsplit : samples p.one.calls = samples (p.split.calls.take s.k) ++ samples (p.split.calls.drop s.k) :=
    same ▸ samples_take p.split.calls s.k
  have hfl : floorToBlock (framesOf p.g.ch (p.split.calls.take s.k)) p.g.block * p.g.ch =
      (samples (p.split.calls.take s.k)).length := by
    rw [block, hlenP]; simp [floorToBlock]
  refine { opened := q1, info := q2, frames := ?_, short := ?_, len := ?_, final := ?_, exact := ?_ }
  · rw [q3, block]; simp [floorToBlock]
  · rw [hfl, q4]; exact Nat.le_of_eq (Int.toNat_natCast _).symm
  · rw [hfl]; exact q5
  · -- the finished file's read-back, cut to the crash point's samples, is `rt` of a prefix
    rw [hfl, q6, ← rtPrefix _ (samples (p.split.calls.drop s.k)), ← hsplit, ← ref.data, List.take_take, Nat.min_eq_left]
    rw [hsplit]; simp
  · intro hok
    rw [hfl, q6, List.take_length]
    exact rtExact _ _ hsplit hok

theorem judgeSnap_good (p : Pred) (hg : Good p) (s : LSnap) (hs : SnapGood p s) (k : Nat) :
    judgeSnap p.record (p.split.run p.ty p.g.ch) k (s.snap p.ty) = [] := by
  have hbefore : (p.split.calls.map (LCall.toCall p.ty p.g.ch)).take s.k = (p.split.calls.take s.k).map (LCall.toCall p.ty p.g.ch) :=
    (List.map_take).symm
  have hgood : ∀ c ∈ p.split.calls.take s.k, c.good p.g.ch := fun c hc => hg.calls2 c (List.mem_of_mem_take hc)
  have hN := framesAccepted_map p.ty p.g.ch _ hgood
  have hW := written_map p.ty p.g.ch _ hgood
  have hlen := samples_length p.g.ch _ hgood
  unfold judgeSnap
  simp only [LSnap.snap, hs.opened, Bool.false_eq_true, if_false, Pred.record, LRun.run, hbefore, hN, hW,
    List.append_eq_nil_iff, ite_nil_iff]
  have hitems : snapItems p.g (framesOf p.g.ch (p.split.calls.take s.k)) { ret := s.ret, data := cellsOf p.ty s.data } =
      floorToBlock (framesOf p.g.ch (p.split.calls.take s.k)) p.g.block * p.g.ch := by
    unfold snapItems; exact Nat.min_eq_right hs.short
  refine ⟨⟨⟨(ite_nil_iff _ _).2 hs.info, ?_⟩, ?_⟩, ?_⟩
  · exact (snapFramesOk_iff p.g _ _).2 hs.frames
  · apply snapDataOk_complete
    · rw [hitems, cellsOf_size]
      exact Nat.mul_le_mul_right _ (by
        have := congrArg List.length hs.final
        simp only [List.length_take] at this
        have := hs.len; omega)
    · rw [hitems, cellsOf_size]; exact Nat.mul_le_mul_right _ hs.len
    · intro _
      rw [hitems, cellsOf_size, hlen]
      exact Nat.mul_le_mul_right _ (Nat.mul_le_mul_right _ (floorToBlock_le _ _))
    · rw [hitems, cellsOf_take, cellsOf_take, hs.final]
    · intro hl
      simp only [sameType_map, Bool.true_and] at hl
      rw [hitems, cellsOf_take, cellsOf_take, hs.exact (losslessFor_samples p.g p.ty _ hl)]
  · exact (snapShortOk_iff _ _ _).2 hs.short

/-- LEVEL A OF THE BRIDGE: a prediction with the list-level properties is accepted by the write-side predicate -/
theorem Pred.accepted_of_good (p : Pred) (hg : Good p) : accepted p.record = true := by
  have hN1 := framesAccepted_map p.ty p.g.ch _ hg.calls1
  have hW1 := written_map p.ty p.g.ch _ hg.calls1
  apply accepted_of
  refine { complete := rfl, opened := rfl, calls := ret_map p.ty p.g.ch _ hg.calls1, closed := rfl, reopened := hg.reopened,
           info := hg.info, rate := hg.rate, frames := ?_, eof := ?_, roundtrip := ?_, split := ?_, stale := ?_ }
  · show framesOk p.g (framesAccepted p.g.ch (p.one.calls.map _)) p.info.frames = true
    rw [hN1]; exact (framesOk_iff p.g _ _).2 ⟨hg.framesLo, hg.framesHi⟩
  · exact (eofOk_iff p.g _ _).2 ⟨hg.eof, hg.more⟩
  · show roundtripOk p.g p.ty (p.one.calls.map _) _ = true
    by_cases hl : losslessFor p.g p.ty (written p.g.ch (p.one.calls.map (LCall.toCall p.ty p.g.ch))) = true
    · rw [hW1] at hl
      have hrt := hg.roundtrip (losslessFor_samples p.g p.ty _ hl)
      have hlenS := samples_length p.g.ch _ hg.calls1
      apply roundtripOk_complete
      · rw [hW1, cellsOf_size]
        apply Nat.mul_le_mul_right
        show (samples p.one.calls).length ≤ p.rbRet.toNat
        rw [hg.eof, hlenS]
        have : ((framesOf p.g.ch p.one.calls * p.g.ch : Nat) : Int) ≤ p.info.frames * (p.g.ch : Int) := by
          push_cast; exact Int.mul_le_mul_of_nonneg_right hg.framesLo (by omega)
        omega
      · rw [hW1]
        show (cellsOf p.ty p.rbData).extract 0 (cellsOf p.ty (samples p.one.calls)).size = _
        rw [cellsOf_size, cellsOf_take, hrt]
    · apply roundtripOk_lossy
      simp only [Bool.not_eq_true] at hl
      rw [hl]; simp
  · intro sp hsp
    have : sp = p.split.run p.ty p.g.ch := by
      have : some (p.split.run p.ty p.g.ch) = some sp := hsp
      exact (Option.some.inj this).symm
    subst this
    refine ⟨rfl, ?_, ret_map p.ty p.g.ch _ hg.calls2, ?_, ?_⟩
    · show handed (p.split.calls.map _) = handed (p.one.calls.map _)
      rw [handed_map, handed_map, hg.same]
    · apply (partitionOk_iff _ _).2
      show p.one.bytes.toArray = p.split.bytes.toArray
      rw [hg.partition]
    · intro hsc i s hs
      have hs' : (p.snaps.map (LSnap.snap p.ty))[i]? = some s := hs
      rw [List.getElem?_map] at hs'
      cases hq : p.snaps[i]? with
      | none => rw [hq] at hs'; cases hs'
      | some q =>
        rw [hq] at hs'
        have : s = q.snap p.ty := (Option.some.inj hs').symm
        subst this
        exact judgeSnap_good p hg q (hg.snaps hsc q (List.mem_of_getElem? hq)) i
  · intro b hb
    have : b = p.stale.toArray := by
      have : some p.stale.toArray = some b := hb
      exact (Option.some.inj this).symm
    subst this
    apply (staleOk_iff _ _).2
    show p.one.bytes.toArray = p.stale.toArray
    rw [hg.stale]

end Sf.AbsWriteBridge
