/-
  OKI/VOX with the held sample (the repair of KF-VOX-ODD): closed forms of `vox_write_block` / `vox_read_block` and of
  the staging loops around them.

  write side: with `all = carry ++ samples of the call`, the call emits the pair encoder over the even part of `all`,
  holds the odd last sample, and reports exactly the number of samples it was given (`writeBlock_spec`,
  `writeCall_spec`); the even part / odd last sample compose over concatenation (`evenPart_split`, `oddLast_split`).
  read side: with `stream = carry ++ decoded rest of the file`, a call delivers `stream.take n` and leaves
  `stream.drop n` behind (`readLoop_spec`, `readBlock_spec`, `voxReadCall_spec`).

  In front of that, in `Sf.Block.Proofs`: the pair encoder composes over concatenation at even positions (`encPairs_append`);
  `vox_write_block` before the repair, on an even number of samples, is the pair encoder on all of them
  (`writeBlockOld_even`, for SfProps/C01Block.lean).
-/
import SfModel.BlockFile

namespace Sf.Block.Proofs
open Sf

theorem encPairs_nil (st : Oki.St) : Oki.encPairs st [] = (st, []) := by
  unfold Oki.encPairs; rfl

theorem encPairs_cons2 (st : Oki.St) (a b : Int) (rest : List Int) :
    Oki.encPairs st (a :: b :: rest) =
      ((Oki.encPairs (Oki.encode (Oki.encode st a).1 b).1 rest).1,
       ((Oki.encode st a).2 * 16 + (Oki.encode (Oki.encode st a).1 b).2) % 256 ::
         (Oki.encPairs (Oki.encode (Oki.encode st a).1 b).1 rest).2) := by
  rw [Oki.encPairs]

theorem encPairs_append : ∀ (xs : List Int) (st : Oki.St) (ys : List Int), xs.length % 2 = 0 →
    Oki.encPairs st (xs ++ ys) =
      ((Oki.encPairs (Oki.encPairs st xs).1 ys).1, (Oki.encPairs st xs).2 ++ (Oki.encPairs (Oki.encPairs st xs).1 ys).2)
  | [], st, ys, _ => by rw [encPairs_nil]; rfl
  | [_], _, _, h => by simp at h
  | a :: b :: rest, st, ys, h => by
    have ih := encPairs_append rest (Oki.encode (Oki.encode st a).1 b).1 ys (by simp at h; omega)
    rw [List.cons_append, List.cons_append, encPairs_cons2, encPairs_cons2, ih]
    rfl

/-- `vox_write_block` before the repair of KF-VOX-ODD, on an even number of samples: the pair encoder over all of them,
    the count exact -/
theorem writeBlockOld_even : ∀ (fuel : Nat) (st : Oki.St) (xs : List Int), xs.length % 2 = 0 → xs.length < fuel →
    Oki.writeBlockOld fuel st xs xs.length = ((Oki.encPairs st xs).1, (Oki.encPairs st xs).2, xs.length) := by
  intro fuel
  induction fuel with
  | zero => intro st xs _ h; omega
  | succ fuel ih =>
    intro st xs he hf
    unfold Oki.writeBlockOld
    by_cases hn : xs.length = 0
    · have : xs = [] := List.length_eq_zero_iff.mp hn
      subst this
      simp [encPairs_nil]
    · simp only [hn, if_false]
      have hne : ¬ (min 512 xs.length % 2 = 1) := by omega
      simp only [hne, if_false]
      have hdl : (xs.drop (min 512 xs.length)).length = xs.length - min 512 xs.length := List.length_drop
      have h1 := ih (Oki.encPairs st (xs.take (min 512 xs.length))).1 (xs.drop (min 512 xs.length))
        (by rw [hdl]; omega) (by rw [hdl]; omega)
      rw [hdl] at h1
      have hap := encPairs_append (xs.take (min 512 xs.length)) st (xs.drop (min 512 xs.length))
        (by rw [List.length_take]; omega)
      rw [List.take_append_drop] at hap
      simp only [h1, hap]
      congr 2
      omega

end Sf.Block.Proofs

namespace Sf.VoxCarry
open Sf Sf.Block Sf.Block.Proofs

/-- the samples that fill whole bytes -/
def evenPart (l : List Int) : List Int := if l.length % 2 = 1 then l.dropLast else l
/-- the sample that is half a byte -/
def oddLast (l : List Int) : Option Int := if l.length % 2 = 1 then l.getLast? else none

theorem evenPart_eq_take (l : List Int) : evenPart l = l.take (l.length / 2 * 2) := by
  unfold evenPart
  split
  · rw [List.dropLast_eq_take]; congr 1; omega
  · rw [List.take_of_length_le (by omega)]

theorem oddLast_eq_head (l : List Int) : oddLast l = (l.drop (l.length / 2 * 2)).head? := by
  unfold oddLast
  rw [List.head?_drop]
  split
  · rw [List.getLast?_eq_getElem?]; congr 1; omega
  · rw [List.getElem?_eq_none (by omega)]

theorem head?_toList : ∀ (d : List Int), d.length ≤ 1 → d.head?.toList = d
  | [], _ => rfl
  | [_], _ => rfl
  | _ :: _ :: _, h => by simp at h

theorem oddLast_toList (l : List Int) : (oddLast l).toList = l.drop (l.length / 2 * 2) := by
  rw [oddLast_eq_head, head?_toList _ (by rw [List.length_drop]; omega)]

theorem evenPart_length (l : List Int) : (evenPart l).length = l.length / 2 * 2 := by
  rw [evenPart_eq_take, List.length_take]; omega

theorem evenPart_length_even (l : List Int) : (evenPart l).length % 2 = 0 := by
  rw [evenPart_length]; omega

theorem evenPart_oddLast (l : List Int) : evenPart l ++ (oddLast l).toList = l := by
  rw [evenPart_eq_take, oddLast_toList, List.take_append_drop]

theorem oddLast_toList_length (l : List Int) : (oddLast l).toList.length = l.length % 2 := by
  rw [oddLast_toList, List.length_drop]; omega

theorem evenPart_append_even (e r : List Int) (he : e.length % 2 = 0) : evenPart (e ++ r) = e ++ evenPart r := by
  rw [evenPart_eq_take, evenPart_eq_take, List.length_append,
    show (e.length + r.length) / 2 * 2 = e.length + r.length / 2 * 2 by omega, List.take_length_add_append]

theorem oddLast_append_even (e r : List Int) (he : e.length % 2 = 0) : oddLast (e ++ r) = oddLast r := by
  rw [oddLast_eq_head, oddLast_eq_head, List.length_append,
    show (e.length + r.length) / 2 * 2 = e.length + r.length / 2 * 2 by omega, List.drop_length_add_append]

theorem evenPart_split (l ys : List Int) : evenPart (l ++ ys) = evenPart l ++ evenPart ((oddLast l).toList ++ ys) := by
  conv => lhs; rw [← evenPart_oddLast l, List.append_assoc]
  exact evenPart_append_even _ _ (evenPart_length_even l)

theorem oddLast_split (l ys : List Int) : oddLast (l ++ ys) = oddLast ((oddLast l).toList ++ ys) := by
  conv => lhs; rw [← evenPart_oddLast l, List.append_assoc]
  exact oddLast_append_even _ _ (evenPart_length_even l)

theorem encPairs_length : ∀ (l : List Int) (st : Oki.St), (Oki.encPairs st l).2.length = l.length / 2
  | [], st => by rw [encPairs_nil]; rfl
  | [_], st => by simp [Oki.encPairs]
  | a :: b :: rest, st => by
    rw [encPairs_cons2]
    simp only [List.length_cons]
    rw [encPairs_length rest]
    omega

/-- what one `vox_write_block` call comes to -/
def writeSpec (st : Oki.St) (c : Option Int) (xs : List Int) : Oki.St × Option Int × List Byte × Nat :=
  ((Oki.encPairs st (evenPart (c.toList ++ xs))).1, oddLast (c.toList ++ xs),
   (Oki.encPairs st (evenPart (c.toList ++ xs))).2, xs.length)

theorem writeSpec_nil (st : Oki.St) (c : Option Int) : writeSpec st c [] = (st, c, [], 0) := by
  cases c <;> simp [writeSpec, evenPart, oddLast, encPairs_nil]

theorem writeSpec_append (st : Oki.St) (c : Option Int) (xs ys : List Int) :
    let a := writeSpec st c xs
    let b := writeSpec a.1 a.2.1 ys
    writeSpec st c (xs ++ ys) = (b.1, b.2.1, a.2.2.1 ++ b.2.2.1, a.2.2.2 + b.2.2.2) := by
  simp only [writeSpec]
  rw [← List.append_assoc, evenPart_split (c.toList ++ xs) ys, oddLast_split (c.toList ++ xs) ys,
    encPairs_append _ _ _ (evenPart_length_even (c.toList ++ xs)), List.length_append]

theorem writeBlock_spec : ∀ (fuel : Nat) (st : Oki.St) (c : Option Int) (xs : List Int), xs.length < fuel →
    Oki.writeBlock fuel st c xs xs.length = writeSpec st c xs := by
  intro fuel
  induction fuel with
  | zero => intro st c xs h; omega
  | succ fuel ih =>
    intro st c xs hf
    unfold Oki.writeBlock
    by_cases hn : xs.length = 0
    · rw [List.length_eq_zero_iff.mp hn, writeSpec_nil]; rfl
    · simp only [hn, if_false]
      have hc1 : c.toList.length ≤ 1 := by cases c <;> simp
      -- this pass takes `k` samples; with the held one in front they are what `writeSpec` speaks of
      generalize hk : min (512 - c.toList.length) xs.length = k
      have htl : (xs.take k).length = k := by rw [List.length_take]; omega
      have hlen : c.toList.length + k = (c.toList ++ xs.take k).length := by rw [List.length_append, htl]
      have hap := writeSpec_append st c (xs.take k) (xs.drop k)
      simp only [List.take_append_drop] at hap
      rw [hlen, ← evenPart.eq_1, ← oddLast.eq_1]
      by_cases hb : evenPart (c.toList ++ xs.take k) = []
      · -- one sample and nothing held: it is held, nothing is encoded, the loop is over
        have hl := evenPart_length (c.toList ++ xs.take k)
        rw [hb, ← hlen] at hl
        have hkn : k = xs.length := by simp at hl; omega
        rw [hkn, List.take_length] at hb ⊢
        simp only [hb, if_true, writeSpec, encPairs_nil]
      · simp only [hb, if_false]
        have h1 := ih (Oki.encPairs st (evenPart (c.toList ++ xs.take k))).1 (oddLast (c.toList ++ xs.take k)) (xs.drop k)
          (by rw [List.length_drop]; omega)
        rw [List.length_drop] at h1
        rw [h1, hap]
        simp only [writeSpec, htl]

/-- the staging loop of `vox_write_i/f/d` (pieces of `chunk` samples) changes nothing -/
theorem writeCall_spec (chunk : Nat) : ∀ (fuel : Nat) (st : Oki.St) (c : Option Int) (xs : List Int), xs.length < fuel →
    Oki.writeCall chunk fuel st c xs xs.length = writeSpec st c xs := by
  intro fuel
  induction fuel with
  | zero => intro st c xs h; omega
  | succ fuel ih =>
    intro st c xs hf
    unfold Oki.writeCall
    by_cases hn : xs.length = 0
    · rw [List.length_eq_zero_iff.mp hn, writeSpec_nil]; rfl
    · simp only [hn, if_false]
      generalize hwc : (if chunk = 0 then xs.length else min chunk xs.length) = wc
      have hwc1 : 0 < wc ∧ wc ≤ xs.length := by subst hwc; split <;> omega
      have htl : (xs.take wc).length = wc := by rw [List.length_take]; omega
      have hb := writeBlock_spec (wc + 1) st c (xs.take wc) (by omega)
      rw [htl] at hb
      have h1 := ih (writeSpec st c (xs.take wc)).1 (writeSpec st c (xs.take wc)).2.1 (xs.drop wc)
        (by rw [List.length_drop]; omega)
      rw [List.length_drop] at h1
      have hap := writeSpec_append st c (xs.take wc) (xs.drop wc)
      simp only [List.take_append_drop] at hap
      rw [hb, h1, hap]
      -- the loop's early exit `count ≠ writecount` never fires: `writeSpec` reports exactly the `wc` samples of the piece
      simp only [writeSpec, htl, ne_eq, not_true_eq_false, if_false]

theorem decBytes_nil (st : Oki.St) : Oki.decBytes st [] = (st, []) := by unfold Oki.decBytes; rfl

theorem decBytes_cons (st : Oki.St) (b : Byte) (bs : List Byte) :
    Oki.decBytes st (b :: bs) =
      ((Oki.decBytes (Oki.decode (Oki.decode st (b / 16)).1 (b % 16)).1 bs).1,
       (Oki.decode st (b / 16)).2 :: (Oki.decode (Oki.decode st (b / 16)).1 (b % 16)).2 ::
         (Oki.decBytes (Oki.decode (Oki.decode st (b / 16)).1 (b % 16)).1 bs).2) := by
  rw [Oki.decBytes]

theorem decBytes_append : ∀ (xs : List Byte) (st : Oki.St) (ys : List Byte),
    Oki.decBytes st (xs ++ ys) =
      ((Oki.decBytes (Oki.decBytes st xs).1 ys).1, (Oki.decBytes st xs).2 ++ (Oki.decBytes (Oki.decBytes st xs).1 ys).2)
  | [], st, ys => by rw [decBytes_nil]; rfl
  | b :: bs, st, ys => by
    rw [List.cons_append, decBytes_cons, decBytes_cons, decBytes_append bs]
    rfl

theorem decBytes_length : ∀ (xs : List Byte) (st : Oki.St), (Oki.decBytes st xs).2.length = 2 * xs.length
  | [], st => by rw [decBytes_nil]; rfl
  | b :: bs, st => by rw [decBytes_cons]; simp only [List.length_cons]; rw [decBytes_length bs]; omega

/-- the samples a reader in state (`st`, held sample `c`) still has in front of it -/
def stream (st : Oki.St) (c : Option Int) (bytes : List Byte) : List Int := c.toList ++ (Oki.decBytes st bytes).2

/-- the read result `r` (state, held sample, bytes left, samples copied out, their number) is a read of `n` samples
    with `s` in front of the reader: the first `n` samples of `s` are copied out and the rest of `s` stays in front -/
def Delivers (r : Oki.St × Option Int × List Byte × List Int × Nat) (s : List Int) (n : Nat) : Prop :=
  r.2.2.2.1 = s.take n ∧ r.2.2.2.2 = min n s.length ∧ stream r.1 r.2.1 r.2.2.1 = s.drop n

theorem Delivers.count {r : Oki.St × Option Int × List Byte × List Int × Nat} {s : List Int} {n : Nat} (h : Delivers r s n) :
    r.2.2.2.1.length = r.2.2.2.2 ∧ r.2.2.2.2 ≤ n :=
  ⟨by rw [h.1, h.2.1, List.length_take], by rw [h.2.1]; omega⟩

theorem Delivers.decoded (st : Oki.St) (bytes : List Byte) (xs : List Int) :
    Delivers (st, none, bytes, xs, xs.length) (xs ++ stream st none bytes) xs.length :=
  ⟨(List.take_left' rfl).symm, by simp, (List.drop_left' rfl).symm⟩

/-- a read of `k ≤ n` samples that the data did not cut short, then a read of the other `n - k` on what it left, is a read
    of `n` -/
theorem Delivers.append {a b : Oki.St × Option Int × List Byte × List Int × Nat} {s : List Int} {k n : Nat}
    (ha : Delivers a s k) (hk : k ≤ s.length) (hkn : k ≤ n) (hb : Delivers b (stream a.1 a.2.1 a.2.2.1) (n - k)) :
    Delivers (b.1, b.2.1, b.2.2.1, a.2.2.2.1 ++ b.2.2.2.1, a.2.2.2.2 + b.2.2.2.2) s n := by
  obtain ⟨a1, a2, a3⟩ := ha
  rw [a3] at hb
  obtain ⟨b1, b2, b3⟩ := hb
  refine ⟨?_, ?_, ?_⟩
  · simp only [a1, b1, ← List.take_add, Nat.add_sub_cancel' hkn]
  · simp only [a2, b2, List.length_drop]; omega
  · simp only [b3, List.drop_drop, Nat.add_sub_cancel' hkn]

theorem readLoop_spec : ∀ (fuel : Nat) (st : Oki.St) (bytes : List Byte) (n : Nat), n < fuel →
    Delivers (Oki.readLoop fuel st bytes n) (stream st none bytes) n := by
  intro fuel
  induction fuel with
  | zero => intro st bytes n h; omega
  | succ fuel ih =>
    intro st bytes n hf
    unfold Oki.readLoop
    by_cases hn : n = 0
    · subst hn; simp [Delivers, stream]
    · simp only [hn, if_false]
      generalize hcc : (if n > 512 then 256 else (n + 1) / 2) = cc
      have hcc1 : 0 < cc ∧ cc ≤ (n + 1) / 2 := by subst hcc; split <;> omega
      by_cases hg : bytes.take cc = []
      · have hb : bytes = [] := by
          rcases List.take_eq_nil_iff.mp hg with h | h
          · omega
          · exact h
        subst hb
        simp [Delivers, stream, decBytes_nil]
      · simp only [hg, if_false]
        -- the stream is the decoded piece, then the stream behind the piece
        have hS : stream st none bytes =
            (Oki.decBytes st (bytes.take cc)).2 ++ stream (Oki.decBytes st (bytes.take cc)).1 none (bytes.drop cc) := by
          have hsplit := decBytes_append (bytes.take cc) st (bytes.drop cc)
          rw [List.take_append_drop] at hsplit
          simp only [stream, Option.toList_none, List.nil_append, hsplit]
        have hxl := decBytes_length (bytes.take cc) st
        have hkpos : 0 < (bytes.take cc).length := List.length_pos_iff.mpr hg
        have hk : (bytes.take cc).length ≤ cc := by rw [List.length_take]; omega
        rw [hS]
        generalize (Oki.decBytes st (bytes.take cc)).2 = xs at hxl ⊢
        by_cases hover : 2 * (bytes.take cc).length > n
        · -- an odd request: the last decoded sample is held back
          simp only [hover, if_true]
          have hxn : xs.length = n + 1 := by omega
          refine ⟨?_, ?_, ?_⟩
          · simp only
            rw [List.take_append_of_le_length (by omega), List.dropLast_eq_take, hxn]; rfl
          · simp only [List.length_append]; omega
          · simp only [stream]
            rw [List.drop_append_of_le_length (by omega), List.getLast?_eq_getElem?, ← List.head?_drop,
              head?_toList _ (by rw [List.length_drop]; omega), hxn]
            rfl
        · simp only [hover, if_false]
          exact (hxl ▸ Delivers.decoded _ (bytes.drop cc) xs).append (by rw [List.length_append]; omega) (by omega)
            (ih (Oki.decBytes st (bytes.take cc)).1 (bytes.drop cc) (n - 2 * (bytes.take cc).length) (by omega))

theorem readBlock_delivers (fuel : Nat) (st : Oki.St) (c : Option Int) (bytes : List Byte) (n : Nat) (hf : n < fuel) :
    Delivers (Oki.readBlock fuel st c bytes n) (stream st c bytes) n := by
  cases c with
  | none => exact readLoop_spec fuel st bytes n hf
  | some x =>
    unfold Oki.readBlock
    by_cases hn : n = 0
    · subst hn; simp [Delivers, stream]
    · simp only [hn, if_false]
      have h := (Delivers.decoded st bytes [x]).append (by simp) (Nat.pos_of_ne_zero hn) (readLoop_spec fuel st bytes (n - 1) (by omega))
      rwa [Nat.add_comm] at h

theorem readBlock_spec (fuel : Nat) (st : Oki.St) (c : Option Int) (bytes : List Byte) (n : Nat) (hf : n < fuel) :
    (Oki.readBlock fuel st c bytes n).2.2.2.1 = (stream st c bytes).take n ∧
    (Oki.readBlock fuel st c bytes n).2.2.2.2 = min n (stream st c bytes).length ∧
    stream (Oki.readBlock fuel st c bytes n).1 (Oki.readBlock fuel st c bytes n).2.1 (Oki.readBlock fuel st c bytes n).2.2.1
      = (stream st c bytes).drop n :=
  readBlock_delivers fuel st c bytes n hf

/-- the staging loop of `vox_read_i/f/d` (pieces of `chunk` samples) changes nothing -/
theorem voxReadCall_spec (chunk : Nat) : ∀ (fuel : Nat) (st : Oki.St) (c : Option Int) (bytes : List Byte) (n : Nat), n < fuel →
    Delivers (voxReadCall chunk fuel st c bytes n) (stream st c bytes) n := by
  intro fuel
  induction fuel with
  | zero => intro st c bytes n h; omega
  | succ fuel ih =>
    intro st c bytes n hf
    unfold voxReadCall
    by_cases hn : n = 0
    · subst hn; simp [Delivers]
    · simp only [hn, if_false]
      generalize hrc : (if chunk = 0 then n else min chunk n) = rc
      have hrc1 : 0 < rc ∧ rc ≤ n := by subst hrc; split <;> omega
      have hb := readBlock_delivers (rc + 1) st c bytes rc (by omega)
      generalize Oki.readBlock (rc + 1) st c bytes rc = a at hb ⊢
      obtain ⟨s1, c1, rest, ys, cnt⟩ := a
      have b2 : cnt = min rc (stream st c bytes).length := hb.2.1
      dsimp only
      by_cases hshort : cnt ≠ rc
      · -- the data ended inside this piece
        rw [if_pos hshort]
        have hlen : (stream st c bytes).length < rc := by omega
        exact ⟨hb.1.trans (by rw [List.take_of_length_le (by omega), List.take_of_length_le (by omega)]), b2.trans (by omega),
          hb.2.2.trans (by rw [List.drop_of_length_le (by omega), List.drop_of_length_le (by omega)])⟩
      · rw [if_neg hshort]
        exact hb.append (by omega) hrc1.2 (ih s1 c1 rest (n - rc) (by omega))

/-- the samples of a sequence of `vox_read_block` calls with the given counts, one after the other on one handle -/
def voxReads : Oki.St → Option Int → List Byte → List Nat → List Int
  | _, _, _, [] => []
  | st, c, bytes, n :: ns =>
    (Oki.readBlock (n + 1) st c bytes n).2.2.2.1 ++
      voxReads (Oki.readBlock (n + 1) st c bytes n).1 (Oki.readBlock (n + 1) st c bytes n).2.1
        (Oki.readBlock (n + 1) st c bytes n).2.2.1 ns

/-- a sequence of `vox_write_block` calls on one handle: (state, held sample, bytes written so far) -/
def voxWrites : Oki.St → Option Int → List (List Int) → Oki.St × Option Int × List Byte
  | st, c, [] => (st, c, [])
  | st, c, xs :: rest =>
    let r := Oki.writeBlock (xs.length + 1) st c xs xs.length
    let t := voxWrites r.1 r.2.1 rest
    (t.1, t.2.1, r.2.2.1 ++ t.2.2)

theorem voxWrites_spec : ∀ (calls : List (List Int)) (st : Oki.St) (c : Option Int),
    voxWrites st c calls = ((writeSpec st c calls.flatten).1, (writeSpec st c calls.flatten).2.1, (writeSpec st c calls.flatten).2.2.1)
  | [], st, c => by simp only [voxWrites, List.flatten_nil, writeSpec_nil]
  | xs :: rest, st, c => by
    simp only [voxWrites, writeBlock_spec (xs.length + 1) st c xs (by omega), voxWrites_spec rest, List.flatten_cons,
      writeSpec_append st c xs rest.flatten]

/-- the bytes of the closed file: what the calls wrote, then what `codec_close` adds -/
def voxFile (st : Oki.St) (c : Option Int) (calls : List (List Int)) : List Byte :=
  (voxWrites st c calls).2.2 ++ (Oki.closeCarry (voxWrites st c calls).1 (voxWrites st c calls).2.1).2

/-- an odd number of samples gets the encoder's zero sample -/
def padZero (l : List Int) : List Int := if l.length % 2 = 1 then l ++ [0] else l

theorem padZero_eq (l : List Int) : padZero l = evenPart l ++ (match oddLast l with | some x => [x, 0] | none => []) := by
  unfold padZero
  by_cases h : l.length % 2 = 1
  · have hne : l ≠ [] := by intro h0; subst h0; simp at h
    have hl := evenPart_oddLast l
    simp only [oddLast, h, if_true, List.getLast?_eq_some_getLast hne, Option.toList_some] at hl ⊢
    conv => lhs; rw [← hl]
    simp
  · simp [oddLast, evenPart, h]

theorem voxFile_spec (st : Oki.St) (c : Option Int) (calls : List (List Int)) :
    voxFile st c calls = (Oki.encPairs st (padZero (c.toList ++ calls.flatten))).2 := by
  unfold voxFile
  rw [voxWrites_spec, padZero_eq, encPairs_append _ _ _ (evenPart_length_even _)]
  simp only [writeSpec]
  congr 1
  cases oddLast (c.toList ++ calls.flatten) with
  | none => simp [Oki.closeCarry, encPairs_nil]
  | some x => simp [Oki.closeCarry]

theorem padZero_length (l : List Int) : (padZero l).length = (l.length + 1) / 2 * 2 := by
  unfold padZero; split
  · rw [List.length_append]; simp; omega
  · omega

end Sf.VoxCarry
