/-
  SfProofs.AbsWriteBridgeSamplePeak — the PEAK bookkeeping of a sample-level session (`Sf.AbsWriteBridge.Sample.SOp`) in terms
  of `Sf.Peak.run` (SfModel/Peak.lean: `Sf.peakUpdate` of the handle model, one update per staging-buffer chunk when the caller's
  type is not the file's), and its partition independence ON SAMPLES (`peak_partition`, from `Sf.Peak.run_partition` =
  C18 `peak_partition_independent`): two lists of well-formed write calls of one caller type that hand over the same samples
  end in the same PEAK table — values and positions.  `peakFrom` / `wposAfter` thread the table and the write position through
  a list of operations (`peakFrom_append`), as the PEAK containers' models (AIFF, CAF) want them on their write operations.
-/
import SfProofs.AbsWriteBridgeSample
import SfProofs.Peak
namespace Sf.AbsWriteBridge.Sample
open Sf Sf.AbsWrite Sf.AbsWriteBridge

/-- the PEAK table after the write calls of `ops`, the first made at frame `wpos` with the table `pk` -/
def peakFrom (e : Enc) (ch : Nat) (ty : Ty) (pk : Option (List Sf.Peak)) (wpos : Int) (ops : List SOp) : Option (List Sf.Peak) :=
  Sf.Peak.run e {} ch pk wpos (sCalls ty ops)

theorem peakFrom_nil (e : Enc) (ch : Nat) (ty : Ty) (pk : Option (List Sf.Peak)) (wpos : Int) : peakFrom e ch ty pk wpos [] = pk := rfl

theorem peakFrom_cons_write (e : Enc) (ch : Nat) (ty : Ty) (pk : Option (List Sf.Peak)) (wpos : Int) (xs : List Int) (a : Bool)
    (r : List SOp) :
    peakFrom e ch ty pk wpos (.write xs a :: r) =
      peakFrom e ch ty (Sf.Peak.upd pk e {} ch wpos ty xs) (wpos + (xs.length : Int) / ch) r := rfl

theorem peakFrom_cons_update (e : Enc) (ch : Nat) (ty : Ty) (pk : Option (List Sf.Peak)) (wpos : Int) (r : List SOp) :
    peakFrom e ch ty pk wpos (.update :: r) = peakFrom e ch ty pk wpos r := rfl

/-- the PEAK table of a FLOAT / DOUBLE file after the session `ops` (all zero after open) -/
def peakAfter (e : Enc) (ch : Nat) (ty : Ty) (ops : List SOp) : Option (List Sf.Peak) :=
  peakFrom e ch ty (some (mkPeaks ch)) 0 ops

/-- what the PEAK theorems ask of the write calls: not empty, whole frames, finite in the file's type -/
def PeakOk (e : Enc) (ch : Nat) (ty : Ty) (ops : List SOp) : Prop :=
  ∀ call ∈ sCalls ty ops, Sf.Peak.WellFormed e {} ch call

theorem sCalls_append (ty : Ty) (xs ys : List SOp) : sCalls ty (xs ++ ys) = sCalls ty xs ++ sCalls ty ys := by
  simp only [sCalls_eq, List.flatMap_append]

theorem fileVals_sCalls (e : Enc) (ty : Ty) (ops : List SOp) :
    Sf.Peak.fileVals e {} (sCalls ty ops) = (sData ops).map (Sf.Peak.convVal e {} ty) := by
  rw [sCalls_eq, sData_eq, Sf.Peak.fileVals, List.flatMap_assoc, List.map_flatMap]
  congr 1; funext op
  cases op <;> simp [SOp.calls, SOp.xs]

/-- **PEAK value and position are partition independent, on samples** -/
theorem peak_partition (e : Enc) (hfl : e.isFloatData = true) (ch : Nat) (hch : 0 < ch) (ty : Ty) (ops ops' : List SOp)
    (hg : PeakOk e ch ty ops) (hg' : PeakOk e ch ty ops') (h : sData ops = sData ops') :
    peakAfter e ch ty ops = peakAfter e ch ty ops' :=
  Sf.Peak.run_partition e hfl {} ch hch _ _ (by rw [fileVals_sCalls, fileVals_sCalls, h]) hg hg'

/-- the write position (in frames) after the calls of `ops` -/
def wposAfter (ch : Nat) (wpos : Int) : List SOp → Int
  | [] => wpos
  | .write xs _ :: r => wposAfter ch (wpos + (xs.length : Int) / ch) r
  | .update :: r => wposAfter ch wpos r

theorem peakFrom_append (e : Enc) (ch : Nat) (ty : Ty) : ∀ (xs ys : List SOp) (pk : Option (List Sf.Peak)) (wpos : Int),
    peakFrom e ch ty pk wpos (xs ++ ys) = peakFrom e ch ty (peakFrom e ch ty pk wpos xs) (wposAfter ch wpos xs) ys
  | [], _, _, _ => rfl
  | .write x _ :: xs, ys, pk, wpos => by
    rw [List.cons_append, peakFrom_cons_write, peakFrom_cons_write]
    exact peakFrom_append e ch ty xs ys _ _
  | .update :: xs, ys, pk, wpos => by
    rw [List.cons_append, peakFrom_cons_update, peakFrom_cons_update]
    exact peakFrom_append e ch ty xs ys _ _

theorem peakFrom_write (e : Enc) (ch : Nat) (ty : Ty) (pk : Option (List Sf.Peak)) (wpos : Int) (xs : List Int) (a : Bool) :
    peakFrom e ch ty pk wpos [.write xs a] = Sf.Peak.upd pk e {} ch wpos ty xs := rfl

theorem peakOk_prefix (e : Enc) (ch : Nat) (ty : Ty) (xs ys : List SOp) (h : PeakOk e ch ty (xs ++ ys)) : PeakOk e ch ty xs := by
  intro c hc; exact h c (by rw [sCalls_append]; exact List.mem_append_left _ hc)

theorem peakOk_suffix (e : Enc) (ch : Nat) (ty : Ty) (xs ys : List SOp) (h : PeakOk e ch ty (xs ++ ys)) : PeakOk e ch ty ys := by
  intro c hc; exact h c (by rw [sCalls_append]; exact List.mem_append_right _ hc)

theorem peakFrom_some (e : Enc) (ch : Nat) (ty : Ty) : ∀ (ops : List SOp) (ps : List Sf.Peak) (wpos : Int),
    ∃ ps', peakFrom e ch ty (some ps) wpos ops = some ps'
  | [], ps, _ => ⟨ps, rfl⟩
  | .write xs _ :: r, ps, wpos => by
    rw [peakFrom_cons_write]
    have : ∃ q, Sf.Peak.upd (some ps) e {} ch wpos ty xs = some q := by
      unfold Sf.Peak.upd peakUpdate; exact ⟨_, rfl⟩
    obtain ⟨q, hq⟩ := this
    rw [hq]; exact peakFrom_some e ch ty r q _
  | .update :: r, ps, wpos => by
    rw [peakFrom_cons_update]; exact peakFrom_some e ch ty r ps wpos

theorem peakFrom_none (e : Enc) (ch : Nat) (ty : Ty) : ∀ (ops : List SOp) (wpos : Int), peakFrom e ch ty none wpos ops = none
  | [], _ => rfl
  | .write xs _ :: r, wpos => by
    rw [peakFrom_cons_write]
    have : Sf.Peak.upd none e {} ch wpos ty xs = none := by unfold Sf.Peak.upd peakUpdate; rfl
    rw [this]; exact peakFrom_none e ch ty r _
  | .update :: r, wpos => by rw [peakFrom_cons_update]; exact peakFrom_none e ch ty r wpos

end Sf.AbsWriteBridge.Sample
