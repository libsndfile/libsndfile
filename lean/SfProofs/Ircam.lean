/-
  Helper lemmas for the IRCAM container theorems (SfProps/C04Ircam.lean): length of the header, the reader on
  `hdr c ++ body` for both byte orders, the byte-order guess on big-endian channel counts.
-/
import SfModel.Ircam
import SfProofs.SmallSession
namespace Sf.Ircam
open Sf Sf.Small Sf.Float

theorem f32WriteBytes_length (b : Nat) : (Ieee.f32WriteBytes b).length = 4 := by
  unfold Ieee.f32WriteBytes Ieee.f32FieldBytes; rfl

theorem f32BeWrite_length (b : Nat) : (Ieee.f32BeWrite b).length = 4 := f32WriteBytes_length b
theorem f32LeWrite_length (b : Nat) : (Ieee.f32LeWrite b).length = 4 := by
  unfold Ieee.f32LeWrite; rw [List.length_reverse]; exact f32WriteBytes_length b

theorem le_read_write (b : Nat) : Ieee.f32LeRead (Ieee.f32LeWrite b) = Ieee.f32BeRead (Ieee.f32BeWrite b) := by
  unfold Ieee.f32LeWrite Ieee.f32BeWrite Ieee.f32WriteBytes Ieee.f32FieldBytes
  rfl

theorem hdr_length (c : Cfg) : (hdr c).length = hdrLen := by
  unfold hdr hdrLen
  split <;> simp only [List.length_append, List.length_cons, List.length_nil, List.length_replicate, be32_length, le32_length, f32BeWrite_length, f32LeWrite_length]

theorem spec_plain (c : Cfg) : (spec c).Plain := ⟨fun _ _ _ => hdr_length c, rfl, rfl⟩

theorem cfg_cases (c : Cfg) (h : c.wf) :
    (c.codec = 0x02 ∨ c.codec = 0x04 ∨ c.codec = 0x06 ∨ c.codec = 0x10 ∨ c.codec = 0x11) ∧ 1 ≤ c.ch ∧ c.ch ≤ 256 := by
  obtain ⟨ha, h1, _, _⟩ := h
  unfold accepted at ha
  simp only [Bool.decide_and, Bool.decide_or, Bool.and_eq_true, Bool.or_eq_true, decide_eq_true_eq] at ha
  exact ⟨ha.1, h1, ha.2.2⟩

theorem bw_pos (c : Cfg) (h : c.wf) : 0 < c.bw := by
  obtain ⟨_, h1, _⟩ := cfg_cases c h
  unfold Cfg.bw Cfg.bytewidth; split <;> (try split) <;> omega

theorem decode_encoding (c : Cfg) (h : c.wf) : decodeEnc (encodingOf c.codec) = some (c.codec, c.bytewidth) := by
  obtain ⟨hc, _, _⟩ := cfg_cases c h
  unfold Cfg.bytewidth
  rcases hc with h | h | h | h | h <;> rw [h] <;> decide

theorem encoding_lt (codec : Nat) : encodingOf codec < 2 ^ 32 := by
  unfold encodingOf; split <;> (try split) <;> (try split) <;> (try split) <;> (try split) <;> decide

theorem decode_swapped (c : Cfg) (h : c.wf) : decodeEnc (ofLE (be32 (encodingOf c.codec))) = none := by
  obtain ⟨hc, _, _⟩ := cfg_cases c h
  rcases hc with h | h | h | h | h <;> rw [h] <;> decide

theorem ofLE_be32_nat (v : Nat) (hv : v < 2 ^ 32) :
    ofLE (be32 (v : Int)) = (v % 256) * 2 ^ 24 + (v / 256 % 256) * 2 ^ 16 + (v / 65536 % 256) * 256 + v / 16777216 % 256 := by
  unfold be32; rw [wrapU_of_lt 32 v hv]
  simp only [beBytes, leBytes, List.reverse_cons, List.reverse_nil, List.nil_append, List.cons_append, ofLE, Nat.div_div_eq_div_mul, Nat.reduceMul]
  omega

theorem ofLE_le32_nat (v : Nat) (hv : v < 2 ^ 32) : ofLE (le32 (v : Int)) = v := by rw [ofLE_le32, wrapU_of_lt 32 v hv]

/-- what ircam_read_header looks at, on `hdr c ++ body` -/
theorem hdr_reads (c : Cfg) (body : List Byte) :
    let bs := hdr c ++ body
    bs.length = 1024 + body.length ∧
    (bs.getD 0 0 = 0x64 ∧ bs.getD 1 0 = 0xA3 ∧ bs.getD 2 0 = (if c.big then 0x02 else 0x03) ∧ bs.getD 3 0 = 0x00) ∧
    slice bs 4 4 = (if c.big then Ieee.f32BeWrite (rateBits c.sr) else Ieee.f32LeWrite (rateBits c.sr)) ∧
    slice bs 8 4 = (if c.big then be32 c.ch else le32 c.ch) ∧
    slice bs 12 4 = (if c.big then be32 (encodingOf c.codec) else le32 (encodingOf c.codec)) := by
  refine ⟨by rw [List.length_append, hdr_length]; rfl, ?_⟩
  unfold hdr
  cases c.big <;> refine ⟨⟨rfl, rfl, rfl, rfl⟩, ?_, ?_, ?_⟩ <;>
    simp only [List.append_assoc, slice_skip, slice_head, f32BeWrite_length, f32LeWrite_length, be32_length, le32_length, List.length_cons,
      List.length_nil, Nat.reduceAdd, Nat.reduceSub, Nat.reduceLeDiff, Nat.le_refl, Bool.false_eq_true, if_true, if_false]

theorem finish_ok (c : Cfg) (hwf : c.wf) (B : Nat) (big : Bool) (hbig : big = c.big) :
    finish (1024 + B) big (c.ch : Int) (rateBack c.sr) c.codec c.bytewidth =
      if rateBack c.sr < 1 then .err
      else .ok { ch := c.ch, fmt := c.fmtWord, sr := (rateBack c.sr).toNat, frames := B / c.bw } := by
  obtain ⟨_, h1, h256⟩ := cfg_cases c hwf
  unfold finish
  rw [if_neg (by omega)]
  have e : ((c.bytewidth : Int) * (c.ch : Int)) = ((c.bw : Nat) : Int) := by unfold Cfg.bw; push_cast; rfl
  have hcf : codecFrames (1024 + B) 1024 0 ((c.bw : Nat) : Int) = ((B : Int), ((B / c.bw : Nat) : Int)) := codecFrames_body 1024 B c.bw
  rw [e]
  simp only [hcf]
  have hnn := Int.natCast_nonneg (B / c.bw)
  by_cases hr : rateBack c.sr < 1
  · rw [if_pos (Or.inl hr), if_pos hr]
  · rw [if_neg (by omega), if_neg hr]
    simp only [Int.toNat_natCast, Cfg.fmtWord, hbig]

theorem parseWith_hdr_le (fx : Bool) (c : Cfg) (hwf : c.wf) (hb : c.big = false) (body : List Byte) :
    parseWith fx (hdr c ++ body) =
      if rateBack c.sr < 1 then .err
      else .ok { ch := c.ch, fmt := c.fmtWord, sr := (rateBack c.sr).toNat, frames := body.length / c.bw } := by
  obtain ⟨_, h1, h256⟩ := cfg_cases c hwf
  obtain ⟨hlen, g0, s4, s8, s12⟩ := hdr_reads c body
  simp only [hb, Bool.false_eq_true, if_false] at g0 s4 s8 s12
  have hch : sext 32 (ofLE (le32 (c.ch : Int))) = (c.ch : Int) := by
    rw [ofLE_le32_nat c.ch (by omega)]; unfold sext; rw [if_pos (by simp; omega)]
  unfold parseWith
  rw [if_neg (by omega)]
  simp only [g0.1, g0.2.1, g0.2.2.1, g0.2.2.2, s4, s8, s12, hch]
  have hnb : (decide ((c.ch : Int) > 1024) || (fx && decide ((c.ch : Int) < 1))) = false := by
    have h1 : decide ((c.ch : Int) > 1024) = false := by simp; omega
    have h2 : decide ((c.ch : Int) < 1) = false := by simp; omega
    rw [h1, h2]; simp
  simp only [hnb, Bool.false_eq_true, false_and, if_false]
  rw [if_neg (by decide), ofLE_le32_nat _ (encoding_lt _), decode_encoding c hwf, le_read_write]
  have := finish_ok c hwf body.length false hb.symm
  rw [hlen]; exact this

/-- channel counts whose big-endian field, read little-endian, is not a negative int -/
theorem be_channels_detected (ch : Nat) (h1 : 1 ≤ ch) (h256 : ch ≤ 256) (hk : ¬ (128 ≤ ch ∧ ch ≤ 255)) :
    sext 32 (ofLE (be32 (ch : Int))) > 1024 := by
  rw [ofLE_be32_nat ch (by omega)]
  unfold sext
  have : ch / 65536 % 256 = 0 := by omega
  have : ch / 16777216 % 256 = 0 := by omega
  by_cases h : ch = 256
  · subst h; decide
  · have hlt : ch < 128 := by omega
    have e1 : ch % 256 = ch := by omega
    have e2 : ch / 256 % 256 = 0 := by omega
    rw [if_pos (by simp; omega)]
    simp; omega

/-- … and the counts 128..255, which come out negative -/
theorem be_channels_missed (ch : Nat) (hk : 128 ≤ ch ∧ ch ≤ 255) :
    sext 32 (ofLE (be32 (ch : Int))) < 1 := by
  rw [ofLE_be32_nat ch (by omega)]
  unfold sext
  rw [if_neg (by simp; omega)]
  simp; omega

theorem parseWith_hdr_be (fx : Bool) (c : Cfg) (hwf : c.wf) (hb : c.big = true) (hk : fx = false → ¬ (128 ≤ c.ch ∧ c.ch ≤ 255)) (body : List Byte) :
    parseWith fx (hdr c ++ body) =
      if rateBack c.sr < 1 then .err
      else .ok { ch := c.ch, fmt := c.fmtWord, sr := (rateBack c.sr).toNat, frames := body.length / c.bw } := by
  obtain ⟨_, h1, h256⟩ := cfg_cases c hwf
  obtain ⟨hlen, g0, s4, s8, s12⟩ := hdr_reads c body
  simp only [hb, if_true] at g0 s4 s8 s12
  have hch : sext 32 (ofBE (be32 (c.ch : Int))) = (c.ch : Int) := by
    rw [ofBE_be32_nat c.ch (by omega)]; unfold sext; rw [if_pos (by simp; omega)]
  unfold parseWith
  rw [if_neg (by omega)]
  simp only [g0.1, g0.2.1, g0.2.2.1, g0.2.2.2, s4, s8, s12]
  have hnb : (decide (sext 32 (ofLE (be32 (c.ch : Int))) > 1024) || (fx && decide (sext 32 (ofLE (be32 (c.ch : Int))) < 1))) = true := by
    by_cases hcl : 128 ≤ c.ch ∧ c.ch ≤ 255
    · have hfx : fx = true := by cases fx with | true => rfl | false => exact absurd hcl (hk rfl)
      have := be_channels_missed c.ch hcl
      rw [hfx]; simp; right; exact this
    · have := be_channels_detected c.ch h1 h256 hcl
      simp; left; exact this
  simp only [hnb, if_true, hch, true_and]
  rw [if_neg (by decide), if_neg (by omega), ofBE_be32_nat _ (encoding_lt _), decode_encoding c hwf]
  have := finish_ok c hwf body.length true hb.symm
  rw [hlen]; exact this

/-- the reader on a big-endian header with 128..255 channels: taken for little-endian, unknown encoding -/
theorem parseOld_hdr_be_missed (c : Cfg) (hwf : c.wf) (hb : c.big = true) (hk : 128 ≤ c.ch ∧ c.ch ≤ 255) (body : List Byte) :
    parseOld (hdr c ++ body) = .err := by
  obtain ⟨hlen, g0, s4, s8, s12⟩ := hdr_reads c body
  simp only [hb, if_true] at g0 s4 s8 s12
  have hmiss := be_channels_missed c.ch hk
  unfold parseOld parseWith
  rw [if_neg (by omega)]
  simp only [g0.1, g0.2.1, g0.2.2.1, g0.2.2.2, s8, s12]
  have hnb : (decide (sext 32 (ofLE (be32 (c.ch : Int))) > 1024) || (false && decide (sext 32 (ofLE (be32 (c.ch : Int))) < 1))) = false := by simp; omega
  simp only [hnb, Bool.false_eq_true, false_and, if_false]
  rw [if_neg (by decide), decode_swapped c hwf]

theorem parse_hdr (c : Cfg) (hwf : c.wf) (body : List Byte) :
    parse (hdr c ++ body) =
      if rateBack c.sr < 1 then .err
      else .ok { ch := c.ch, fmt := c.fmtWord, sr := (rateBack c.sr).toNat, frames := body.length / c.bw } := by
  by_cases hb : c.big = true
  · exact parseWith_hdr_be true c hwf hb (fun h => by cases h) body
  · exact parseWith_hdr_le true c hwf (by simpa using hb) body

theorem parseOld_hdr (c : Cfg) (hwf : c.wf) (hk : ¬ (c.big = true ∧ 128 ≤ c.ch ∧ c.ch ≤ 255)) (body : List Byte) :
    parseOld (hdr c ++ body) =
      if rateBack c.sr < 1 then .err
      else .ok { ch := c.ch, fmt := c.fmtWord, sr := (rateBack c.sr).toNat, frames := body.length / c.bw } := by
  by_cases hb : c.big = true
  · exact parseWith_hdr_be false c hwf hb (fun _ h => hk ⟨hb, h⟩) body
  · exact parseWith_hdr_le false c hwf (by simpa using hb) body

end Sf.Ircam
