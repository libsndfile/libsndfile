/-
  SfProofs.RdwrWrite — a write call (`RwView.write_view`, on the abstract file `RwView.abs_write`) and a flag command
  (`RwView.cmdFlag_view`) on a read/write handle; the frames a write call hands over (`writtenFrames_*`).
-/
import SfProofs.RdwrSteps
namespace Sf

theorem Store.write_nonempty (s : Store) (d : List Byte) (hd : 0 < d.length) :
    s.write d = { bytes := writeAt s.bytes s.pos d, pos := s.pos + d.length } := by
  unfold Store.write
  cases d with
  | nil => simp at hd
  | cons x t => simp

/-- the frames a write call hands over: the encoded samples, `bw` bytes per frame -/
def writtenFrames (h : H) (ty : Ty) (data : List Int) : List (List Byte) :=
  groups h.bw (h.enc.encodeAll h.conv ty data)

theorem writtenFrames_nil (h : H) (ty : Ty) : writtenFrames h ty [] = [] := by
  unfold writtenFrames Enc.encodeAll groups; rfl

/-- `k` frames of samples encode to `k` frames of bytes -/
theorem H.encodeAll_length (h : H) (ty : Ty) {data : List Int} {k : Nat} (hdata : data.length = k * h.ch) :
    (h.enc.encodeAll h.conv ty data).length = k * h.bw := by
  rw [Enc.encodeAll_length_cw, hdata]; unfold H.bw; rw [Nat.mul_assoc, Nat.mul_comm h.ch]

theorem writtenFrames_length (h : H) (ty : Ty) {data : List Int} {k : Nat} (hbw : 0 < h.bw) (hdata : data.length = k * h.ch) :
    (writtenFrames h ty data).length = k :=
  groups_length_mul _ hbw k _ (h.encodeAll_length ty hdata)

theorem writtenFrames_flatten (h : H) (ty : Ty) {data : List Int} {k : Nat} (hbw : 0 < h.bw) (hdata : data.length = k * h.ch) :
    (writtenFrames h ty data).flatten = h.enc.encodeAll h.conv ty data :=
  groups_join _ hbw k _ (h.encodeAll_length ty hdata)

theorem writtenFrames_eq (h : H) (ty : Ty) (data : List Int) (hch : 0 < h.ch) (hnb : 0 < h.enc.nbytes)
    (hmod : data.length % h.ch = 0) :
    writtenFrames h ty data = (groups h.ch data).map (h.enc.encodeAll h.conv ty) := by
  have hj : (groups h.ch data).flatten = data :=
    groups_join _ hch _ _ (Nat.div_mul_cancel (Nat.dvd_of_mod_eq_zero hmod)).symm
  have hgl : ∀ g ∈ groups h.ch data, g.length = h.ch := groups_mem_length _ hch _ data rfl
  unfold writtenFrames
  conv => lhs; rw [← hj]
  rw [Enc.encodeAll_flatten]
  apply groups_flatten _ (Nat.mul_pos hnb hch)
  intro x hx
  obtain ⟨g, hg, rfl⟩ := List.mem_map.mp hx
  rw [Enc.encodeAll_length_cw, hgl g hg]; exact Nat.mul_comm _ _

theorem wBody_wPost_lastOp (hp : H) (sp : Store) (ty : Ty) (len : Int) (data : List Int) :
    HandleG.wPost HandleG.hCont (HandleG.wBody (hp, sp) ty len data) =
      HandleG.wPost HandleG.hCont (HandleG.wBody ({ hp with lastOp := .w }, sp) ty len data) := rfl

theorem TailOk.mono {h : H} {t t' : Nat} (ht : TailOk h t) (hle : t' ≤ t) : TailOk h t' := by
  rcases ht with h0 | ⟨h1, hc⟩
  · left; omega
  · rcases Nat.eq_zero_or_pos t' with hz | hp
    · left; exact hz
    · right; exact ⟨by omega, hc⟩

/-- the samples phase of a write call, from a handle positioned at its write pointer -/
theorem RwView.wBody_wPost {h : H} {s : Store} {R W F : Nat} {hdr D : List Byte} (v : RwView h s R W F hdr D)
    (hl : h.lastOp = .w) (ty : Ty) (k : Nat) (data : List Int) (hk : 0 < k) (hdata : data.length = k * h.ch) :
    ∃ h' s' hdr', HandleG.wPost HandleG.hCont (HandleG.wBody (h, s) ty ((k * h.ch : Nat) : Int) data) = (h', s') ∧ h'.ch = h.ch ∧
      RwView h' s' R (W + k) (max F (W + k)) hdr' (writeAt D (W * h.bw) (h.enc.encodeAll h.conv ty data)) := by
  have hch := v.ch_pos
  have hnb := v.nb_pos
  have hbw := v.bw_pos
  obtain ⟨t, hb, ht⟩ := v.bytes
  unfold HandleG.wPost
  rw [HandleG.wBody_eq]
  simp only []
  have hlenNat : (((k * h.ch : Nat) : Int)).toNat = k * h.ch := Int.toNat_natCast _
  have htake : data.take (k * h.ch) = data := List.take_of_length_le (by omega)
  rw [hlenNat, htake]
  -- the new PEAK table and the encoded bytes matter only through their lengths: generalise both, write the bytes (`hwr`),
  -- rebuild the view for the handle before the automatic header update (`vw`), push it through that update (`hfinal`)
  generalize hpk : peakUpdate h ty data = pk'
  have hpkl : pk'.map List.length = h.peak.map List.length := by
    rw [← hpk]; exact peakUpdate_maplen _ ty data (fun ps hp => (v.peak ps hp).1)
  generalize henc : h.enc.encodeAll h.conv ty data = enc
  have hel : enc.length = k * h.bw := henc ▸ h.encodeAll_length ty hdata
  generalize ht' : t - (W * h.bw + enc.length - D.length) = t'
  have hwr : s.write enc = { bytes := hdr ++ (writeAt D (W * h.bw) enc ++ zeros t'), pos := hdr.length + (W + k) * h.bw } := by
    rw [Store.write_nonempty _ _ (by rw [hel]; exact Nat.mul_pos hk hbw), v.syncW hl, hb, ← v.hlen, writeAt_append,
      writeAt_zeros_tail, ht', hel]
    congr 1; rw [Nat.add_mul]; omega
  rw [hwr]
  have hdiv : ((k * h.ch : Nat) : Int) / (h.ch : Int) = (k : Int) := by
    rw [← Int.natCast_ediv, Nat.mul_div_cancel _ hch]
  simp only [hdiv, v.wpos, v.frames]
  have hDl : (writeAt D (W * h.bw) enc).length = max F (W + k) * h.bw := by
    rw [writeAt_length, v.dlen, hel, ← Nat.add_mul, Nat.mul_max_mul_right]
  generalize hS2 : ({ bytes := hdr ++ (writeAt D (W * h.bw) enc ++ zeros t'), pos := hdr.length + (W + k) * h.bw } : Store) = S2
  -- the handle before the automatic header update
  have vw : ∀ (fr : Int) (de : Int), fr = ((max F (W + k) : Nat) : Int) → (h.container ≠ .wav → de = 0) →
      RwView { h with haveWritten := true, wpos := (W : Int) + (k : Int), lastOp := .w, peak := pk', frames := fr, dataend := de }
        S2 R (W + k) (max F (W + k)) hdr (writeAt D (W * h.bw) enc) := by
    intro fr de hfr hde
    subst hS2
    exact v.rebuild _ _ R (W + k) (max F (W + k)) hdr _ rfl rfl rfl rfl hpkl hde rfl rfl rfl v.rpos
      (by simp) hfr ⟨t', rfl, ht.mono (by omega)⟩ rfl hDl (by simp) (fun _ => rfl) (fun hc => by simp at hc)
  have hfinal : ∀ (hh : H) (_ : RwView hh S2 R (W + k) (max F (W + k)) hdr (writeAt D (W * h.bw) enc)), hh.ch = h.ch →
      ∃ h' s' hdr', (if hh.autoHeader = true ∧ HandleG.hCont.hasHeader = true then HandleG.hCont.writeHeader hh S2 true
          else (hh, S2)) = (h', s') ∧
        h'.ch = h.ch ∧ RwView h' s' R (W + k) (max F (W + k)) hdr' (writeAt D (W * h.bw) enc) := by
    intro hh vv ech
    obtain ⟨fl2, dl2, hdr2, e2, l2⟩ := vv.condHeader (hh.autoHeader = true ∧ HandleG.hCont.hasHeader = true) true
    show ∃ h' s' hdr', (if hh.autoHeader = true ∧ HandleG.hCont.hasHeader = true then Sf.writeHeader hh S2 true else (hh, S2)) = (h', s') ∧ _
    rw [e2]
    exact ⟨_, _, _, rfl, ech, vv.upd_lengths fl2 dl2 hdr2 l2⟩
  exact hfinal _ (vw _ _ (by omega) (fun hc => by split; rfl; exact v.dataend hc)) rfl

theorem RwView.write_view {h : H} {s : Store} {R W F : Nat} {hdr D : List Byte} (v : RwView h s R W F hdr D)
    (ty : Ty) (fc : Bool) (k : Nat) (data : List Int) (hk : 0 < k) (hdata : data.length = k * h.ch) :
    ∃ h' s' o hdr', stepWrite h s ty fc (callCount h fc k) data = (h', s', o) ∧
      o.ret = callCount h fc k ∧ o.err = 0 ∧
      RwView h' s' R (W + k) (max F (W + k)) hdr' (writeAt D (W * h.bw) (h.enc.encodeAll h.conv ty data)) := by
  have hch := v.ch_pos
  obtain ⟨t, hb, ht⟩ := v.bytes
  have hn : 0 < callCount h fc k := callCount_pos h fc hk hch
  have ha := callCount_aligned h fc k
  rw [HandleG.stepWrite_hCont, HandleG.stepWrite_main _ h s ty fc _ data hn (by rw [v.mode]; decide) ha, reqLen_callCount, HandleG.wAll]
  -- `wPre`: the seek back to the write pointer and the header in front of the first audio byte
  have v0 := v.setError 0
  obtain ⟨fl1, dl1, hdr1, e1, l1⟩ : ∃ fl dl hdr', HandleG.wPre HandleG.hCont h s =
      ({ h with error := 0, filelength := fl, datalength := dl },
       { bytes := hdr' ++ (D ++ zeros t), pos := hdr.length + W * h.bw }) ∧
      hdr'.length = hdr.length := by
    unfold HandleG.wPre
    simp only []
    have hs1 : (if (h.lastOp != Mode.w) = true then Sf.defaultSeek { h with error := 0 } s h.wpos else s) =
        { bytes := s.bytes, pos := hdr.length + W * h.bw } := by
      by_cases hl : h.lastOp = .w
      · rw [if_neg (by simp [hl]), v.hlen, ← v.syncW hl]
      · rw [if_pos (by simp [hl]), v.wpos]; exact v0.defaultSeek W
    rw [hs1]
    split
    · obtain ⟨fl, dl, hdr', e, l⟩ := writeHeader_shape { h with error := 0 } { bytes := s.bytes, pos := hdr.length + W * h.bw }
        false hdr (D ++ zeros t) hb v0.hlen v0.doff (by rw [← v0.hlen]; exact Nat.le_add_right _ _)
      exact ⟨fl, dl, hdr', e, by rw [l, v0.hlen]⟩
    · exact ⟨h.filelength, h.datalength, hdr, by rw [← hb], rfl⟩
  rw [e1, wBody_wPost_lastOp]
  -- the view after `wPre`, positioned at the write pointer: `wBody_wPost` does the rest
  have vp : RwView { h with error := 0, filelength := fl1, datalength := dl1, lastOp := .w }
      { bytes := hdr1 ++ (D ++ zeros t), pos := hdr.length + W * h.bw } R W F hdr1 D :=
    v.rebuild _ _ R W F hdr1 D rfl rfl rfl rfl rfl v.dataend rfl rfl rfl v.rpos v.wpos v.frames ⟨t, rfl, ht⟩ l1 v.dlen
      (by simp) (fun _ => rfl) (fun hc => by simp at hc)
  obtain ⟨h', s', hdr', e2, hc2, v'⟩ := vp.wBody_wPost rfl ty k data hk hdata
  have e2' : HandleG.wPost HandleG.hCont (HandleG.wBody ({ h with error := 0, filelength := fl1, datalength := dl1, lastOp := .w },
      { bytes := hdr1 ++ (D ++ zeros t), pos := hdr.length + W * h.bw }) ty ((k * h.ch : Nat) : Int) data) = (h', s') := e2
  rw [e2']
  refine ⟨h', s', _, hdr', rfl, ?_, rfl, v'⟩
  simp only [hc2]
  have hdiv : ((k * h.ch : Nat) : Int) / (h.ch : Int) = (k : Int) := by
    rw [← Int.natCast_ediv, Nat.mul_div_cancel _ hch]
  rw [hdiv]; rfl

theorem RwView.abs_write {h : H} {s : Store} {R W F : Nat} {hdr D : List Byte} (v : RwView h s R W F hdr D)
    {h' : H} {s' : Store} {hdr' : List Byte} (ty : Ty) (k : Nat) (data : List Int) (hk : 0 < k) (hdata : data.length = k * h.ch)
    (hbw : h'.bw = h.bw)
    (v' : RwView h' s' R (W + k) (max F (W + k)) hdr' (writeAt D (W * h.bw) (h.enc.encodeAll h.conv ty data))) :
    absOf h' s' = (absOf h s).write (zeroFrame h.bw) (writtenFrames h ty data) := by
  have hfs := writtenFrames_length h ty v.bw_pos hdata
  have hne : writtenFrames h ty data ≠ [] := by
    intro hc; rw [hc] at hfs; simp at hfs; omega
  rw [v'.abs, v.abs, hbw, groups_writeAt _ v.bw_pos D _ F W k v.dlen (h.encodeAll_length ty hdata)]
  unfold AbsFile.write
  rw [if_neg hne, hfs]
  rfl

theorem RwView.cmdFlag_view {h : H} {s : Store} {R W F : Nat} {hdr D : List Byte} (v : RwView h s R W F hdr D)
    (cmd : Nat) (size : Int) :
    ∃ hdr', RwView (stepCmdFlag h s cmd size).1 (stepCmdFlag h s cmd size).2.1 R W F hdr' D := by
  rw [HandleG.stepCmdFlag_hCont]
  rcases HandleG.stepCmdFlag_cases HandleG.hCont h s cmd size with ⟨cv, ah, ret, e⟩ | ⟨_, e⟩
  · rw [e]
    exact ⟨hdr, v.unread _ rfl⟩
  · obtain ⟨fl, dl, hdr', e', l⟩ := (v.setError 0).writeHeader true
    rw [e, show HandleG.hCont.writeHeader = Sf.writeHeader from rfl, e']
    exact ⟨hdr', (v.setError 0).upd_lengths fl dl hdr' l⟩

end Sf
