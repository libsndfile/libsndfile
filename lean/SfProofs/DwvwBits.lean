/-
  Helper lemmas for the DWVW model (SfModel/Dwvw.lean): bit lists and numbers, `HIGHEST_BIT`, the zero-run scanner,
  the byte packer of the writer.
-/
import Mathlib.Tactic.NormNum
import Mathlib.Tactic.Ring
import Mathlib.Tactic.Linarith
import Mathlib.Tactic.Positivity
import SfModel.Dwvw
import SfProofs.AlacBits
namespace Sf.Dwvw.Proofs
open Sf Sf.Dwvw

/-! The bit lists of the DWVW model are those of the ALAC bit I/O (SfModel/AlacBits.lean) under other names; their
    arithmetic is proved there (SfProofs/AlacBits.lean). -/

theorem bitsMSB_eq_bitsOf (n v : Nat) : bitsMSB n v = AlacCore.bitsOf v n := by
  induction n with
  | zero => rfl
  | succ n ih =>
    simp only [bitsMSB, AlacCore.bitsOf, ih]
    by_cases h : v / 2 ^ n % 2 = 1 <;> simp [h]

theorem ofBitsAcc_eq_rdBits (l : List Bool) (a : Nat) : ofBitsAcc a l = (AlacCore.rdBits l.length l a).1 := by
  induction l generalizing a with
  | nil => rfl
  | cons b l ih => cases b <;> simp [ofBitsAcc, AlacCore.rdBits, ih]

theorem ofBits_eq_rdBits (l : List Bool) : ofBits l = (AlacCore.rdBits l.length l 0).1 := ofBitsAcc_eq_rdBits l 0

theorem bitsMSB_length (n v : Nat) : (bitsMSB n v).length = n := by
  rw [bitsMSB_eq_bitsOf, AlacCore.bitsOf_length]

theorem ofBitsAcc_append (a : Nat) (l m : List Bool) : ofBitsAcc a (l ++ m) = ofBitsAcc (ofBitsAcc a l) m := by
  induction l generalizing a with
  | nil => rfl
  | cons b l ih => simp [ofBitsAcc, ih]

theorem ofBitsAcc_eq (a : Nat) (l : List Bool) : ofBitsAcc a l = a * 2 ^ l.length + ofBits l := by
  rw [ofBitsAcc_eq_rdBits, ofBits_eq_rdBits, AlacCore.rdBits_acc]

theorem ofBits_lt (l : List Bool) : ofBits l < 2 ^ l.length := by
  rw [ofBits_eq_rdBits]; exact AlacCore.rdBits_lt _ _

theorem ofBits_bitsMSB (n v : Nat) : ofBits (bitsMSB n v) = v % 2 ^ n := by
  have := AlacCore.rdBits_bitsOf v [] n 0
  rw [List.append_nil] at this
  rw [ofBits_eq_rdBits, bitsMSB_length, bitsMSB_eq_bitsOf, this, Nat.zero_mul, Nat.zero_add]

theorem hbF_zero (f : Nat) : hbF f 0 = 0 := by cases f <;> simp [hbF]

theorem hbF_bounds (f y : Nat) (hy : y < 2 ^ f) (h0 : y ≠ 0) :
    1 ≤ hbF f y ∧ 2 ^ (hbF f y - 1) ≤ y ∧ y < 2 ^ hbF f y := by
  induction f generalizing y with
  | zero => simp at hy; omega
  | succ f ih =>
    simp only [hbF, if_neg h0]
    by_cases h2 : y / 2 = 0
    · have : y = 1 := by omega
      subst this
      simp [hbF_zero]
    · have hlt : y / 2 < 2 ^ f := by
        rw [pow_succ] at hy; omega
      obtain ⟨a, b, c⟩ := ih (y / 2) hlt h2
      refine ⟨by omega, ?_, ?_⟩
      · have : hbF f (y / 2) + 1 - 1 = (hbF f (y / 2) - 1) + 1 := by omega
        rw [this, pow_succ]; omega
      · rw [pow_succ]; omega

theorem highestBit_zero : highestBit 0 = 0 := rfl

theorem highestBit_bounds (y : Nat) (hy : y < 2 ^ 32) (h0 : y ≠ 0) :
    1 ≤ highestBit y ∧ 2 ^ (highestBit y - 1) ≤ y ∧ y < 2 ^ highestBit y := hbF_bounds 32 y hy h0

theorem highestBit_le (y k : Nat) (hy : y < 2 ^ 32) (hk : y < 2 ^ k) : highestBit y ≤ k := by
  by_cases h0 : y = 0
  · subst h0; simp [highestBit_zero]
  · obtain ⟨a, b, _⟩ := highestBit_bounds y hy h0
    by_contra hc
    have : k ≤ highestBit y - 1 := by omega
    have := Nat.pow_le_pow_right (n := 2) (by omega) this
    omega

/-- the scanner reads the zero-run code back: `k ≤ K` zeros, closed by a one unless there are `K` of them -/
theorem scan_unary (K k : Nat) (hk : k ≤ K) (rest : List Bool) :
    scan K (zerosB k ++ (if k ≠ K then [true] else []) ++ rest) = (k, rest) := by
  induction K generalizing k with
  | zero =>
    obtain rfl : k = 0 := by omega
    simp [zerosB, scan]
  | succ K ih =>
    cases k with
    | zero => simp [zerosB, scan]
    | succ k =>
      have := ih k (by omega)
      simp only [zerosB, ne_eq, ite_not, List.append_assoc] at this
      simp [zerosB, List.replicate_succ, scan, this]

/-- the bits of a byte list, in file order -/
def bytesBits (bs : List Byte) : List Bool := bs.flatMap (bitsMSB 8)

theorem bytesBits_append (a b : List Byte) : bytesBits (a ++ b) = bytesBits a ++ bytesBits b := by
  simp [bytesBits]

theorem bytesBits_length (a : List Byte) : (bytesBits a).length = 8 * a.length := by
  have e : bytesBits a = AlacCore.unpack a := by
    unfold bytesBits AlacCore.unpack; congr 1
  rw [e, AlacCore.unpack_length]

theorem bitsMSB_congr (n v w : Nat) (h : v % 2 ^ n = w % 2 ^ n) : bitsMSB n v = bitsMSB n w := by
  rw [bitsMSB_eq_bitsOf, bitsMSB_eq_bitsOf, ← AlacCore.bitsOf_mod v n n (Nat.le_refl n), h, AlacCore.bitsOf_mod w n n (Nat.le_refl n)]

theorem bitsMSB_ofBits (l : List Bool) : bitsMSB l.length (ofBits l) = l := by
  rw [bitsMSB_eq_bitsOf, ofBits_eq_rdBits, AlacCore.bitsOf_rdBits l.length l (Nat.le_refl _), Nat.sub_self]
  exact List.append_nil l

theorem drain_spec (f : Nat) (l : List Bool) (acc : List Byte) (hf : l.length / 8 < f) :
    bytesBits (drain f l acc).2.reverse ++ (drain f l acc).1 = bytesBits acc.reverse ++ l ∧ (drain f l acc).1.length < 8 := by
  induction f generalizing l acc with
  | zero => omega
  | succ f ih =>
    simp only [drain]
    split
    · exact ⟨rfl, by assumption⟩
    · rename_i h
      have hl : (l.drop 8).length / 8 < f := by simp; omega
      obtain ⟨a, b⟩ := ih (l.drop 8) (ofBits (l.take 8) :: acc) hl
      refine ⟨?_, b⟩
      rw [a]
      simp only [List.reverse_cons, bytesBits_append, List.append_assoc]
      congr 1
      have h8 : (l.take 8).length = 8 := by simp; omega
      have := bitsMSB_ofBits (l.take 8)
      rw [h8] at this
      simp [bytesBits, this]

end Sf.Dwvw.Proofs
