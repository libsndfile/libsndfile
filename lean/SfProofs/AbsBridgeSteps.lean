/-
  The map from the operations / answers of the concrete model to script / transcript lines, the geometries the predicate is
  run with, and the SEEK and WRITE steps (relation and invariant kept, answer accepted).  `GeomForH g h` admits hole
  claims (`g.holeZero ty = true`: a frame nobody wrote reads as 0; what the C08 hole campaign, vlib/c08holes.py, runs
  signed-PCM / float / double files with) where zero bytes decode to zero; `GeomFor g h` (no claim) is its instance
  `GeomFor.toH`.  Only the write and truncate clauses of the predicate look at the claim (`check_holeZero_irrelevant`, a fact
  about `Abs.check` that the steps below do not need).
-/
import SfProofs.AbsBridgeHoles
import SfProofs.AbsCompleteW
import SfProofs.AbsBridgeReadStep
namespace Sf.AbsBridge
open Sf

/-- the script line of an operation of the concrete model (a flag command is a call the statements are silent about) -/
def absOp : Sf.Op → Abs.Op
  | .read _ ty fc n => .read ty fc n
  | .write _ ty fc n data => .write ty fc n (encBuf ty data)
  | .seek _ off w => .seek off w
  | .cmdFlag _ _ _ => .other
  | .truncate _ n => .trunc n
  | .close _ => .close

def absOut : Sf.Op → Sf.Out → Abs.Out
  | .read _ ty _ _, o => outOfRead ty o
  | _, o => outOf o

/-- the flag commands that change what a decode delivers or an encode stores (SFC_SET_NORM_FLOAT / _DOUBLE,
    SFC_SET_CLIPPING, SFC_SET_SCALE_INT_FLOAT_WRITE): they replace the reference stream, the three statements are about
    one fixed stream.  (sndfile.h has a fifth, SFC_SET_SCALE_FLOAT_INT_READ = 0x1014; `stepCmdFlag` does not model it, there it
    is one of the commands that change nothing.) -/
def convCmd (cmd : Nat) : Prop := cmd = 0x1013 ∨ cmd = 0x1012 ∨ cmd = 0x10C0 ∨ cmd = 0x1015

instance (cmd : Nat) : Decidable (convCmd cmd) := by unfold convCmd; infer_instance

/-- the lines the predicate judges: a write line supplies the whole requested region (the harness does), and where the
    geometry CLAIMS the caller type lossless (`g.lossless ty`, C01's side condition) the values handed over are values of
    that type and lossless for the encoding; no conversion-setting command; SFC_FILE_TRUNCATE with −1 only where it is
    refused before the seek (on a descriptor route `sf_seek`'s −1 is taken for success and −1 becomes the frame count:
    invalid-argument territory, property C09) -/
def Judged (g : Abs.Geom) (h : H) : Sf.Op → Prop
  | .write _ ty fc n data => (reqLen h fc n).toNat ≤ data.length ∧
      (g.lossless ty = true → h.enc.wf ∧ ∀ v ∈ data.take (reqLen h fc n).toNat, ty.inRange v ∧ lossless h.enc ty v)
  | .cmdFlag _ cmd _ => ¬ convCmd cmd
  | .truncate _ n => n = -1 → h.mode = .r ∨ h.canTruncate = false
  | _ => True

theorem Judged_congr {g : Abs.Geom} {h h' : H} (c : SameCfg h h') (op : Sf.Op) (hj : Judged g h op) : Judged g h' op := by
  cases op <;> simp only [Judged] at hj ⊢
  · unfold reqLen at hj ⊢; rw [c.ch, c.enc]; exact hj
  · exact hj
  · rw [c.mode, c.canTruncate]; exact hj

/-- the geometry the predicate is run with for a handle of the concrete model, hole claims allowed where they are true -/
structure GeomForH (g : Abs.Geom) (h : H) : Prop where
  ch : g.ch = h.ch
  seekable : g.seekable = true
  canTrunc : g.canTrunc = h.canTruncate
  ioMayFail : g.ioMayFail = false
  tailClean : g.tailClean = false
  holeZero : ∀ t, g.holeZero t = true → holeZeroFor h.enc t = true ∧ g.lossless t = true

def noHoles (g : Abs.Geom) : Abs.Geom := { g with holeZero := fun _ => false }

theorem GeomForH_congr {g : Abs.Geom} {h h' : H} (c : SameCfg h h') (gf : GeomForH g h) : GeomForH g h' :=
  ⟨by rw [c.ch]; exact gf.ch, gf.seekable, by rw [c.canTruncate]; exact gf.canTrunc, gf.ioMayFail, gf.tailClean,
   fun t ht => by rw [c.enc]; exact gf.holeZero t ht⟩

theorem check_holeZero_irrelevant (g : Abs.Geom) (st : Abs.St) (op : Abs.Op) (o : Abs.Out)
    (hop : (∀ ty fc n d, op ≠ .write ty fc n d) ∧ (∀ n, op ≠ .trunc n)) :
    Abs.check g st op o = Abs.check (noHoles g) st op o := by
  cases op with
  | write ty fc n d => exact absurd rfl (hop.1 ty fc n d)
  | trunc n => exact absurd rfl (hop.2 n)
  | _ => rfl

theorem GeomFor.toH {g : Abs.Geom} {h : H} (gf : GeomFor g h) : GeomForH g h :=
  ⟨gf.ch, gf.seekable, gf.canTrunc, gf.ioMayFail, gf.tailClean, fun t ht => by rw [gf.holeZero t] at ht; cases ht⟩

/-- what one step of the bridge delivers -/
def StepGoal (g : Abs.Geom) (st : Abs.St) (aop : Abs.Op) (ao : Abs.Out) (h' : H) (s' : Store) : Prop :=
  ∃ st', Abs.check g st aop ao = .ok st' ∧ Sim h' s' st' ∧ BInv h' s'

theorem stepSeek_kept (h : H) (s : Store) (off whence : Int) :
    Kept h s (stepSeek h s off whence).1 (stepSeek h s off whence).2.1 := by
  rcases stepSeek_cases h s off whence with ⟨e, _, eq⟩ | ⟨b, _, _, _, _, eq⟩ | ⟨b, _, _, _, _, _, _, eq⟩
  · rw [eq]; exact .of_fields rfl rfl rfl rfl rfl rfl rfl
  · rw [eq]; exact .of_fields rfl rfl rfl rfl rfl rfl rfl
  · rw [eq]
    rcases seekMoveH_cases h (seekWm whence) (b + off) (seekWm_cases whence) with ⟨_, _, e⟩ | ⟨_, _, e⟩ | ⟨_, _, e⟩ <;>
      rw [e] <;> exact .of_fields rfl rfl rfl rfl rfl rfl rfl

theorem seek_step (g : Abs.Geom) (h : H) (s : Store) (st : Abs.St) (off whence : Int)
    (hseek : g.seekable = true) (bi : BInv h s) (sim : Sim h s st) :
    StepGoal g st (.seek off whence) (outOf (stepSeek h s off whence).2.2) (stepSeek h s off whence).1 (stepSeek h s off whence).2.1 := by
  have hi := bi.hinv
  have hsg := seek_bridge g h s st off whence hseek sim.mode sim.frames sim.rpos sim.wpos
    (fun hm => (hi.rd hm).rpos_le)
  rw [← stepSeek_eq_spec] at hsg
  obtain ⟨st', hok, e1, e2, e3, e4, e5, e6⟩ := hsg
  have k := stepSeek_kept h s off whence
  exact ⟨st', hok, sim.of_kept k e1 e2 e3 e4 e5 e6, bi.of_kept k (HInv_stepSeek h s off whence hi) (RwInv_stepSeek h s off whence)⟩

theorem write_step_h (hwid : WidenExact) (g : Abs.Geom) (h : H) (s : Store) (st : Abs.St) (ty : Ty) (fc : Bool) (n : Int) (data : List Int)
    (gf : GeomForH g h) (bi : BInv h s) (sim : Sim h s st) (hd : (reqLen h fc n).toNat ≤ data.length)
    (hloss : g.lossless ty = true → h.enc.wf ∧ ∀ v ∈ data.take (reqLen h fc n).toNat, ty.inRange v ∧ lossless h.enc ty v) :
    StepGoal g st (.write ty fc n (encBuf ty data)) (outOf (stepWrite h s ty fc n data).2.2)
      (stepWrite h s ty fc n data).1 (stepWrite h s ty fc n data).2.1 := by
  have hi := bi.hinv
  have hch := hi.ch_pos
  by_cases h0 : n = 0
  · subst h0
    rw [stepWrite_zero]
    exact ⟨st, Abs.writeOk_complete_zero g st ty fc _ _ rfl, sim, bi⟩
  by_cases hv : ¬ (0 < n ∧ h.mode ≠ .r ∧ (fc = true ∨ n % (h.ch : Int) = 0))
  · obtain ⟨e, he, eq⟩ := stepWrite_refuses h s ty fc n data h0 hv
    rw [eq]
    exact ⟨{ st with err := true }, Abs.writeOk_complete_invalid g st ty fc n _ _ h0 (refused_abs .r gf.ch sim.mode hv) rfl
      (by simp [outOf, he]), sim.set_err e true, bi.set_error e⟩
  obtain ⟨hn, hr, ha⟩ := Decidable.not_not.mp hv
  obtain ⟨m, hm0, hnm, hreq⟩ := valid_frames h fc n hch hn ha
  obtain ⟨c1, c2, c3, c4, c5, c6, c7, c8, c9⟩ := write_contract_valid h s ty fc n data hi ⟨hn, hr, ha⟩
  have hfo : framesOf h fc n = m := by rw [hnm]; exact framesOf_callCount h fc m hch
  rw [hfo] at c4
  have hstm : st.mode ≠ .r := mt (mode_iff sim.mode .r).mp hr
  have hlen : m * h.ch ≤ data.length := by rw [hreq, Int.toNat_natCast] at hd; exact hd
  have htl : (data.take (reqLen h fc n).toNat).length = m * h.ch := by
    rw [List.length_take, hreq, Int.toNat_natCast]; omega
  -- the call as the C08 alphabet names it: a write of the whole frames the request covers
  have hop : stepAny h s ((ROp.write ty fc (data.take (reqLen h fc n).toNat)).toOp h) = stepWrite h s ty fc n data := by
    simp only [ROp.toOp, stepAny, htl, Nat.mul_div_cancel _ hch, ← hnm]
    exact (write_take_self h s ty fc n data).symm
  have hacc := Abs.writeOk_complete g st ty fc n (encBuf ty data) (outOf (stepWrite h s ty fc n data).2.2) m
    (by rw [gf.ch]; exact hch) hstm (by rw [hnm, Abs.Geom.count, gf.ch]; rfl) hm0
    (by rw [encBuf_size, gf.ch]; exact Nat.mul_le_mul_right _ hlen) c1 (by simp [outOf, c2])
  refine ⟨_, hacc, ⟨?_, ?_, fun hm => ?_, fun hm => ?_, fun hm t hv => ?_⟩, ⟨HInv_stepAny h s (.write 0 ty fc n data) hi, ?_, fun hm => ?_⟩⟩
  · simp only [Abs.afterWrite]; rw [c8]; exact sim.mode
  · simp only [Abs.afterWrite]; rw [c5, c4]
    have := sim.frames; have := sim.wpos hr; omega
  · simp only [Abs.afterWrite]; rw [c6]; exact sim.rpos (by rw [← c8]; exact hm)
  · simp only [Abs.afterWrite]; rw [c4]; have := sim.wpos hr; omega
  · -- the stream is still claimed after the write: inside the data, or beyond it with a true hole claim
    obtain ⟨rfl, ⟨hlo, hvt⟩, hle⟩ := Abs.afterWrite_valid.mp hv
    rw [Abs.afterWrite_ref]
    have hmrw : h.mode = .rw := by
      rcases mode_cases h.mode with hx | hx | hx
      · exact absurd hx hr
      · rw [c8] at hm; exact absurd hx hm
      · exact hx
    have inv := bi.rw hmrw
    obtain ⟨hwf, hvals⟩ := hloss hlo
    have hwn : st.wpos = h.wpos.toNat := by have := sim.wpos hr; omega
    have hcpf : g.cpf t = h.ch * Abs.cells t := by unfold Abs.Geom.cpf; rw [gf.ch]
    have hz : h.wpos ≤ h.frames ∨ h.enc.decode h.conv t (zeros h.enc.nbytes) = 0 :=
      hle.imp (fun hle => by have := sim.frames; have := sim.wpos hr; omega)
        (fun hz => decode_zeros h.enc t (gf.holeZero t hz).1 h.conv)
    have key := write_ref hwid h s inv t fc (data.take (reqLen h fc n).toNat) m hm0 htl hwf
      (fun v hv => (hvals v hv).1) (fun v hv => (hvals v hv).2) hz
    rw [hop] at key
    rw [key, sim.ref (by rw [hmrw]; decide) t hvt]
    rw [hwn, hcpf, gf.ch, encBuf_extract_zero, hreq, Int.toNat_natCast]
  · rw [c5, c4]; have := bi.frames_nn; omega
  · have hmrw : h.mode = .rw := by rw [← c8]; exact hm
    have step := (rdwr_step h s (.write ty fc (data.take (reqLen h fc n).toNat)) (bi.rw hmrw)
      (by simp only [ROp.ok]; rw [htl]; exact Nat.mul_mod_left _ _)).2.1
    rw [hop] at step
    exact step

end Sf.AbsBridge
