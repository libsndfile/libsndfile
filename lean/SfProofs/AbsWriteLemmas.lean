/-
  SfProofs.AbsWriteLemmas — the write side of the abstract model: what an accepted write line means, and the algebra of
  `writeAt` (what was written is there, what stood in front of it is preserved).
-/
import SfProofs.AbsMeaning
namespace Sf.Abs

theorem size_upTo (hole : Item) (a : Array Item) (p : Nat) : (upTo hole a p).size = p := by
  unfold upTo; simp only [Array.size_append, Array.size_extract, Array.size_replicate]; omega

theorem upTo_extract (hole : Item) (a : Array Item) (p : Nat) : upTo hole (a.extract 0 p) p = upTo hole a p := by
  unfold upTo
  rw [Array.extract_extract, Array.size_extract]
  congr 2 <;> omega

theorem afterTrunc_valid {g : Geom} {st : St} {m : Nat} {t : Ty} :
    (afterTrunc g st m).valid t = true ↔ st.valid t = true ∧ (m ≤ st.frames ∨ g.holeZero t = true) := by
  simp only [afterTrunc, Bool.and_eq_true, Bool.or_eq_true, decide_eq_true_eq]

theorem afterTrunc_ref (g : Geom) (st : St) (m : Nat) (t : Ty) : (afterTrunc g st m).ref t = upTo 0 (st.ref t) (m * g.cpf t) :=
  upTo_extract 0 _ _

theorem size_writeAt (hole : Item) (a : Array Item) (p : Nat) (d : Array Item) :
    (writeAt hole a p d).size = max a.size (p + d.size) := by
  unfold writeAt; simp only [Array.size_append, size_upTo, Array.size_extract]; omega

theorem writeAt_mid (hole : Item) (a : Array Item) (p : Nat) (d : Array Item) :
    (writeAt hole a p d).extract p (p + d.size) = d := by
  unfold writeAt
  rw [Array.extract_append, Array.extract_append]
  simp only [size_upTo, Array.size_append, Nat.sub_self, Nat.add_sub_cancel_left]
  rw [Array.extract_eq_empty_of_le (by rw [size_upTo]; omega)]
  have h3 : p - (p + d.size) = 0 := by omega
  rw [h3]
  simp

theorem writeAt_prefix (hole : Item) (a : Array Item) (p : Nat) (d : Array Item) (hp : p ≤ a.size) :
    (writeAt hole a p d).extract 0 p = a.extract 0 p := by
  unfold writeAt
  rw [Array.extract_append, Array.extract_append]
  simp only [size_upTo, Array.size_append, Nat.zero_sub, Nat.sub_self]
  have h1 : p - (p + d.size) = 0 := by omega
  rw [h1, Array.extract_eq_empty_of_le (i := 0) (j := 0) (by omega), Array.extract_eq_empty_of_le (i := 0) (j := 0) (by omega)]
  unfold upTo
  have h2 : p - a.size = 0 := by omega
  rw [h2]
  simp

theorem writeOk_valid (g : Geom) (st : St) (ty : Ty) (fc : Bool) (n : Int) (data : Array Item) (o : Out) (st' : St)
    (hr : WriteReq g st fc n) (h : writeOk g st ty fc n data o = .ok st') :
    0 ≤ o.ret ∧ o.ret ≤ n ∧ retItems g fc o.ret % g.ch = 0 ∧ reqItems g fc n * cells ty ≤ data.size ∧
    (g.ioMayFail = false → o.ret = n) ∧ (o.ret = n → o.err = false) ∧
    st'.rpos = st.rpos ∧ st'.mode = st.mode ∧
    st'.wpos = st.wpos + retItems g fc o.ret / g.ch ∧
    (retItems g fc o.ret / g.ch = 0 → st'.frames = st.frames ∧ st'.ref = st.ref) ∧
    (0 < retItems g fc o.ret / g.ch →
      st'.frames = max st.frames st'.wpos ∧
      st'.ref ty = writeAt 0 (st.ref ty) (st.wpos * g.cpf ty) (data.extract 0 (retItems g fc o.ret * cells ty)) ∧
      st'.valid ty = (g.lossless ty && st.valid ty && (decide (st.wpos ≤ st.frames) || g.holeZero ty))) := by
  obtain ⟨hsz, ⟨h0, hle⟩, hw, hio, herr, rfl⟩ := (writeOk_eq_ok_iff g st ty fc n data o st' hr).mp h
  refine ⟨h0, hle, hw, hsz, fun hf => ?_, herr, ?_⟩
  · by_cases hx : o.ret = n
    · exact hx
    · have := hio (by omega)
      rw [hf] at this; cases this
  -- the successor state: unchanged but for the error flag when no frame was accepted
  by_cases hk : retItems g fc o.ret / g.ch = 0
  · rw [if_pos hk]
    exact ⟨rfl, rfl, by rw [hk]; rfl, fun _ => ⟨rfl, rfl⟩, fun hx => absurd hx (by omega)⟩
  · rw [if_neg hk]
    exact ⟨rfl, rfl, rfl, fun hx => absurd hx hk, fun _ => ⟨rfl, by simp, by simp⟩⟩

end Sf.Abs
