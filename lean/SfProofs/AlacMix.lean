/-
  SfProofs.AlacMix — `unmix ∘ mix = id` for the generalised mid/side matrixing of matrix_enc.c / matrix_dec.c.
-/
import SfProofs.AlacInverse
import SfProofs.AlacEscape
import Mathlib.Tactic.Ring
namespace Sf.AlacCore

theorem w32_add_mul (a k : Int) : w32 (a + 2 ^ 32 * k) = w32 a := by unfold w32; exact wrapS_add_mul 32 a k

theorem w32_eq_add (a : Int) : ∃ k : Int, w32 a = a + 2 ^ 32 * k := by unfold w32; exact wrapS_eq_add 32 a

/-- the mixed sum, computed with wrapping partial products, is the true sum wrapped once -/
theorem w32_mix (mb : Nat) (mr l r : Int) :
    w32 (w32 (mr * l) + w32 (w32 ((2 : Int) ^ mb - mr) * r)) = w32 (mr * l + ((2 : Int) ^ mb - mr) * r) := by
  obtain ⟨k1, h1⟩ := w32_eq_add (mr * l)
  obtain ⟨k2, h2⟩ := w32_eq_add ((2 : Int) ^ mb - mr)
  obtain ⟨k3, h3⟩ := w32_eq_add (w32 ((2 : Int) ^ mb - mr) * r)
  rw [h3, h2, h1, ← w32_add_mul (mr * l + ((2 : Int) ^ mb - mr) * r) (k1 + k2 * r + k3)]
  congr 1; ring

/-- the matrixing of a pair is undone by the decoder, for every `mixbits`, every `mixres`, whenever the true values of
    `l - r`, `mixres * l + (2^mixbits - mixres) * r` and `mixres * (l - r)` are int32 values (the partial products may wrap) -/
theorem unmixLR_mixUV (mb : Nat) (mr l r : Int)
    (hl : w32 l = l) (hr : w32 r = r) (hv : w32 (l - r) = l - r)
    (hs : w32 (mr * l + ((2 : Int) ^ mb - mr) * r) = mr * l + ((2 : Int) ^ mb - mr) * r)
    (hq : w32 (mr * (l - r)) = mr * (l - r)) :
    unmixLR mb mr (mixUV mb mr l r).1 (mixUV mb mr l r).2 = (l, r) := by
  unfold unmixLR mixUV
  simp only [hv]
  rw [w32_mix, hs, hq]
  have hM : ((2 : Int) ^ mb) ≠ 0 := Int.pow_ne_zero (by decide)
  have hu : asr (mr * l + ((2 : Int) ^ mb - mr) * r) mb = asr (mr * (l - r)) mb + r := by
    unfold asr
    have : mr * l + ((2 : Int) ^ mb - mr) * r = mr * (l - r) + (2 : Int) ^ mb * r := by ring
    rw [this, Int.add_mul_ediv_left _ _ hM]
  rw [hu]
  have hl' : w32 (w32 (asr (mr * (l - r)) mb + r + (l - r)) - asr (mr * (l - r)) mb) = l := by
    obtain ⟨k1, h1⟩ := w32_eq_add (asr (mr * (l - r)) mb + r + (l - r))
    rw [h1]
    have e : asr (mr * (l - r)) mb + r + (l - r) + 2 ^ 32 * k1 - asr (mr * (l - r)) mb = l + 2 ^ 32 * k1 := by ring
    rw [e, w32_add_mul, hl]
  rw [hl']
  have : l - (l - r) = r := by ring
  rw [this, hr]

theorem mix_sum_bound {m a b B : Int} (hm : 0 ≤ m ∧ m ≤ 4) (ha : -B ≤ a ∧ a < B) (hb : -B ≤ b ∧ b < B) :
    -(4 * B) ≤ m * a + (4 - m) * b ∧ m * a + (4 - m) * b < 4 * B := by
  have hmr : m = 0 ∨ m = 1 ∨ m = 2 ∨ m = 3 ∨ m = 4 := by omega
  rcases hmr with rfl | rfl | rfl | rfl | rfl <;> omega

/-- what the encoder does: mixbits 2, mixres 0 … 4, inputs of at most 25 bits -/
theorem unmixLR_mixUV_encoder (mixres l r : Int) (hm : 0 ≤ mixres ∧ mixres ≤ 4)
    (hl : -16777216 ≤ l ∧ l < 16777216) (hr : -16777216 ≤ r ∧ r < 16777216) :
    unmixLR 2 mixres (mixUV 2 mixres l r).1 (mixUV 2 mixres l r).2 = (l, r) := by
  have hs := mix_sum_bound hm hl hr
  -- mixres * (l - r) is the same kind of sum, of l - r and 0
  have hq := mix_sum_bound (b := 0) (B := 33554432) hm (show -33554432 ≤ l - r ∧ l - r < 33554432 by omega) (by decide)
  simp only [Int.mul_zero, Int.add_zero] at hq
  apply unmixLR_mixUV
  · exact w32_of_fits (by omega) (by omega)
  · exact w32_of_fits (by omega) (by omega)
  · exact w32_of_fits (by omega) (by omega)
  · exact w32_of_fits (by simp only [Int.reducePow]; omega) (by simp only [Int.reducePow]; omega)
  · exact w32_of_fits (by omega) (by omega)
end Sf.AlacCore
