/-
  Equation lemmas for the step functions of SfModel/Handle.lean: each guard path of `stepRead`, `stepSeek` as a flat
  specification, SFC_FILE_TRUNCATE.  The write wrappers and the flag commands are treated for every container record `Cont` of
  SfModel/HandleG.lean (`stepWrite_main`: a valid call is `wPre` / `wBody` / `wPost`; `stepWrite_fields`, `stepCmdFlag_fields` under
  `ContLaws`); `Sf.stepWrite` and `Sf.stepCmdFlag` are the case `hCont` (`stepWrite_hCont`, `stepCmdFlag_hCont`): RAW's
  `write_header` does nothing, so RAW, AU and WAV are one record.
-/
import SfModel.HandleG
import SfProofs.CodecWriter
namespace Sf

theorem ite_ind {α : Sort _} {P : α → Prop} {c : Prop} [Decidable c] {a b : α} (ha : P a) (hb : P b) :
    P (if c then a else b) :=
  iteInduction (fun _ => ha) (fun _ => hb)

/-- items requested by a call: `n` frames or `n` items -/
def reqLen (h : H) (fc : Bool) (n : Int) : Int := if fc then n * h.ch else n

/-- a read request the wrapper accepts -/
def ReadValid (h : H) (fc : Bool) (n : Int) : Prop := 0 < n ∧ h.mode ≠ .w ∧ (fc = true ∨ n % (h.ch : Int) = 0)

/-- a write request the wrapper accepts -/
def WriteValid (h : H) (fc : Bool) (n : Int) : Prop := 0 < n ∧ h.mode ≠ .r ∧ (fc = true ∨ n % (h.ch : Int) = 0)

theorem reqLen_true (h : H) (n : Int) : reqLen h true n = n * h.ch := rfl

theorem reqLen_false (h : H) (n : Int) : reqLen h false n = n := rfl

theorem reqLen_congr {h h' : H} (hc : h.ch = h'.ch) (fc : Bool) (n : Int) : reqLen h fc n = reqLen h' fc n := by
  unfold reqLen; rw [hc]

theorem callLen_eq_reqLen (h : H) (fc : Bool) (n : Int) : callLen h fc n = reqLen h fc n := rfl

/-- what a write call answers when all its items went out: the count it was given -/
theorem reqLen_ret (h : H) (fc : Bool) (n : Int) (hch : 0 < h.ch) :
    (if fc then reqLen h fc n / h.ch else reqLen h fc n) = n := by
  cases fc
  · rfl
  · exact Int.mul_ediv_cancel n (by omega)

theorem reqLen_nonneg (h : H) (fc : Bool) (n : Int) (hn : 0 ≤ n) : 0 ≤ reqLen h fc n := by
  unfold reqLen; split
  · exact Int.mul_nonneg hn (by omega)
  · exact hn

/-- a request of whole frames passes the alignment test as the wrappers write it -/
theorem aligned_guard (h : H) (fc : Bool) (n : Int) (ha : fc = true ∨ n % h.ch = 0) :
    ¬ ((!fc) = true ∧ ((if fc = true then n * (h.ch : Int) else n) % (h.ch : Int) != 0) = true) := by
  rintro ⟨hf, hx⟩
  cases fc
  · simp [ha.resolve_left (by decide)] at hx
  · simp at hf

theorem not_aligned_of (fc : Bool) (n : Int) (c : Nat) (ha : ¬ (fc = true ∨ n % (c : Int) = 0)) : fc = false ∧ n % (c : Int) ≠ 0 := by
  cases fc <;> simp_all

theorem reqLen_toNat_of_neg (h : H) (fc : Bool) (n : Int) (hn : n < 0) : (reqLen h fc n).toNat = 0 := by
  unfold reqLen; split
  · have : n * (h.ch : Int) ≤ 0 := Int.mul_nonpos_of_nonpos_of_nonneg (by omega) (by omega)
    omega
  · omega

theorem stepRead_zero (h : H) (s : Store) (ty : Ty) (fc : Bool) :
    stepRead h s ty fc 0 = (h, s, { ret := 0, err := h.error }) := by
  simp [stepRead]

theorem stepRead_neg (h : H) (s : Store) (ty : Ty) (fc : Bool) (n : Int) (hn : n < 0) :
    stepRead h s ty fc n = ({ h with error := E_NEG_LEN }, s, { ret := 0, err := E_NEG_LEN, data := [], hasData := true }) := by
  have h0 : ¬ n = 0 := by omega
  simp [stepRead, h0, hn]

theorem stepRead_wmode (h : H) (s : Store) (ty : Ty) (fc : Bool) (n : Int) (hn : 0 < n) (hm : h.mode = .w) :
    stepRead h s ty fc n = ({ h with error := E_NOT_READMODE }, s,
      { ret := 0, err := E_NOT_READMODE, data := List.replicate (reqLen h fc n).toNat (pattern ty), hasData := true }) := by
  have h0 : ¬ n = 0 := by omega
  have h1 : ¬ n < 0 := by omega
  simp [stepRead, h0, h1, hm, reqLen]

theorem stepRead_align (h : H) (s : Store) (ty : Ty) (n : Int) (hn : 0 < n) (hm : h.mode ≠ .w) (ha : n % h.ch ≠ 0) :
    stepRead h s ty false n = ({ h with error := E_BAD_ALIGN }, s,
      { ret := 0, err := E_BAD_ALIGN, data := List.replicate n.toNat (pattern ty), hasData := true }) := by
  have h0 : ¬ n = 0 := by omega
  have h1 : ¬ n < 0 := by omega
  simp [stepRead, h0, h1, hm, ha]

theorem stepRead_eof (h : H) (s : Store) (ty : Ty) (fc : Bool) (n : Int) (hn : 0 < n) (hm : h.mode ≠ .w)
    (ha : fc = true ∨ n % h.ch = 0) (he : h.frames ≤ h.rpos) :
    stepRead h s ty fc n = ({ h with error := 0 }, s,
      { ret := 0, err := 0, data := List.replicate (reqLen h fc n).toNat 0, hasData := true }) := by
  have h0 : ¬ n = 0 := by omega
  have h1 : ¬ n < 0 := by omega
  rcases ha with ha | ha
  · subst ha; simp [stepRead, h0, h1, hm, he, reqLen]
  · cases fc <;> simp [stepRead, h0, h1, hm, he, reqLen, ha]

/-- a request the read wrapper refuses (negative, a write-only handle, an items call that is not whole frames): an error code,
    nothing delivered, the buffer filled with the pattern, nothing else touched -/
theorem stepRead_refuses (h : H) (s : Store) (ty : Ty) (fc : Bool) (n : Int) (h0 : n ≠ 0)
    (hq : ¬ ReadValid h fc n) :
    ∃ e, e ≠ 0 ∧ stepRead h s ty fc n = ({ h with error := e }, s,
      { ret := 0, err := e, data := List.replicate (reqLen h fc n).toNat (pattern ty), hasData := true }) := by
  by_cases hneg : n < 0
  · exact ⟨E_NEG_LEN, by decide, by rw [stepRead_neg _ _ _ _ _ hneg, reqLen_toNat_of_neg h fc n hneg]; rfl⟩
  have hn : 0 < n := by omega
  by_cases hw : h.mode = .w
  · exact ⟨E_NOT_READMODE, by decide, stepRead_wmode _ _ _ _ _ hn hw⟩
  obtain ⟨hf, hna⟩ := not_aligned_of fc n h.ch (fun ha => hq ⟨hn, hw, ha⟩)
  subst hf
  exact ⟨E_BAD_ALIGN, by decide, stepRead_align _ _ _ _ hn hw hna⟩

/-- a read that does not reach the codec — nothing asked for, a refused request, or no frame left — returns 0,
    hands back a buffer of the requested length and touches nothing but the error field -/
theorem stepRead_quiet (h : H) (s : Store) (ty : Ty) (fc : Bool) (n : Int)
    (hq : ¬ (ReadValid h fc n ∧ h.rpos < h.frames)) :
    ∃ e o, stepRead h s ty fc n = ({ h with error := e }, s, o) ∧ o.ret = 0 ∧ o.data.length = (reqLen h fc n).toNat := by
  by_cases h0 : n = 0
  · subst h0; rw [stepRead_zero]; exact ⟨_, _, rfl, rfl, by simp [reqLen]⟩
  by_cases hv : ReadValid h fc n
  · rw [stepRead_eof _ _ _ _ _ hv.1 hv.2.1 hv.2.2 (Int.not_lt.mp fun he => hq ⟨hv, he⟩)]
    exact ⟨_, _, rfl, rfl, List.length_replicate⟩
  · obtain ⟨e, _, eq⟩ := stepRead_refuses h s ty fc n h0 hv
    rw [eq]; exact ⟨_, _, rfl, rfl, List.length_replicate⟩

/-- byte position the codec read starts at -/
def readPos (h : H) (s : Store) : Nat :=
  if h.lastOp ≠ .r then (h.dataoffset + (h.bw : Int) * h.rpos).toNat else s.pos

/-- the bytes the codec read takes in for `len` items -/
def readGot (h : H) (s : Store) (len : Int) : List Byte :=
  (s.bytes.drop (readPos h s)).take (len.toNat * h.nb)

theorem stepRead_main (h : H) (s : Store) (ty : Ty) (fc : Bool) (n : Int) (hn : 0 < n) (hm : h.mode ≠ .w)
    (ha : fc = true ∨ n % h.ch = 0) (he : h.rpos < h.frames) :
    stepRead h s ty fc n =
      let len := reqLen h fc n
      let got := readGot h s len
      let count0 : Int := (got.length : Int) / (h.nb : Int)
      let vals := h.enc.decodeAll h.conv ty got
      let s' : Store := { bytes := s.bytes, pos := readPos h s + got.length }
      if count0 ≤ (h.frames - h.rpos) * h.ch then
        ({ h with error := 0, rpos := h.rpos + count0 / h.ch, lastOp := .r }, s',
         { ret := if fc then count0 / h.ch else count0, err := 0,
           data := vals.take count0.toNat ++ List.replicate (len - count0).toNat (pattern ty), hasData := true })
      else
        ({ h with error := 0, rpos := h.frames, lastOp := .r }, s',
         { ret := if fc then (h.frames - h.rpos) * h.ch / h.ch else (h.frames - h.rpos) * h.ch, err := 0,
           data := vals.take ((h.frames - h.rpos) * h.ch).toNat ++ List.replicate (len - (h.frames - h.rpos) * h.ch).toNat 0,
           hasData := true }) := by
  have h0 : ¬ n = 0 := by omega
  have h1 : ¬ n < 0 := by omega
  have h2 : ¬ h.frames ≤ h.rpos := by omega
  have h3 := aligned_guard h fc n ha
  unfold stepRead
  simp only [beq_iff_eq, h0, if_false, h1, hm, h2, h3]
  simp only [reqLen, readGot, readPos, Store.read, defaultSeek, Store.seekSet, H.nb, H.bw]
  cases fc <;> by_cases hl : h.lastOp = .r <;>
    simp only [hl, bne_self_eq_false, Bool.false_eq_true, if_false, if_true, ne_eq, not_true_eq_false, not_false_eq_true, bne_iff_ne] <;>
    split <;> rfl

theorem stepRead_fields (h : H) (s : Store) (ty : Ty) (fc : Bool) (n : Int) :
    ∃ e rp lo, (stepRead h s ty fc n).1 = { h with error := e, rpos := rp, lastOp := lo } := by
  let P (r : H × Store × Out) : Prop := ∃ e rp lo, r.1 = { h with error := e, rpos := rp, lastOp := lo }
  show P _
  unfold stepRead
  exact ite_ind ⟨_, _, _, rfl⟩ (ite_ind ⟨_, _, _, rfl⟩ (ite_ind ⟨_, _, _, rfl⟩ (ite_ind ⟨_, _, _, rfl⟩
    (ite_ind ⟨_, _, _, rfl⟩ ⟨_, _, _, rfl⟩))))

theorem stepWrite_zero (h : H) (s : Store) (ty : Ty) (fc : Bool) (data : List Int) :
    stepWrite h s ty fc 0 data = (h, s, { ret := 0, err := h.error }) := by
  simp [stepWrite]

theorem stepWrite_neg (h : H) (s : Store) (ty : Ty) (fc : Bool) (n : Int) (data : List Int) (hn : n < 0) :
    stepWrite h s ty fc n data = ({ h with error := E_NEG_LEN }, s, { ret := 0, err := E_NEG_LEN }) := by
  have h0 : ¬ n = 0 := by omega
  simp [stepWrite, h0, hn]

theorem stepWrite_rmode (h : H) (s : Store) (ty : Ty) (fc : Bool) (n : Int) (data : List Int) (hn : 0 < n)
    (hm : h.mode = .r) :
    stepWrite h s ty fc n data = ({ h with error := E_NOT_WRITEMODE }, s, { ret := 0, err := E_NOT_WRITEMODE }) := by
  have h0 : ¬ n = 0 := by omega
  have h1 : ¬ n < 0 := by omega
  simp [stepWrite, h0, h1, hm]

theorem stepWrite_align (h : H) (s : Store) (ty : Ty) (n : Int) (data : List Int) (hn : 0 < n) (hm : h.mode ≠ .r)
    (ha : n % h.ch ≠ 0) :
    stepWrite h s ty false n data = ({ h with error := E_BAD_ALIGN }, s, { ret := 0, err := E_BAD_ALIGN }) := by
  have h0 : ¬ n = 0 := by omega
  have h1 : ¬ n < 0 := by omega
  simp [stepWrite, h0, h1, hm, ha]

/-- a request the write wrapper refuses (negative, a read-only handle, an items call that is not whole frames): an error code,
    nothing else touched -/
theorem stepWrite_refuses (h : H) (s : Store) (ty : Ty) (fc : Bool) (n : Int) (data : List Int) (h0 : n ≠ 0)
    (hq : ¬ WriteValid h fc n) :
    ∃ e, e ≠ 0 ∧ stepWrite h s ty fc n data = ({ h with error := e }, s, { ret := 0, err := e }) := by
  by_cases hneg : n < 0
  · exact ⟨E_NEG_LEN, by decide, stepWrite_neg _ _ _ _ _ _ hneg⟩
  have hn : 0 < n := by omega
  by_cases hr : h.mode = .r
  · exact ⟨E_NOT_WRITEMODE, by decide, stepWrite_rmode _ _ _ _ _ _ hn hr⟩
  obtain ⟨hf, hna⟩ := not_aligned_of fc n h.ch (fun ha => hq ⟨hn, hr, ha⟩)
  subst hf
  exact ⟨E_BAD_ALIGN, by decide, stepWrite_align _ _ _ _ _ hn hr hna⟩

/-- a write the wrapper refuses (or that asks for nothing) touches nothing but the error field -/
theorem stepWrite_quiet (h : H) (s : Store) (ty : Ty) (fc : Bool) (n : Int) (data : List Int)
    (hq : ¬ WriteValid h fc n) :
    ∃ e o, stepWrite h s ty fc n data = ({ h with error := e }, s, o) ∧ o.ret = 0 := by
  by_cases h0 : n = 0
  · subst h0; rw [stepWrite_zero]; exact ⟨_, _, rfl, rfl⟩
  · obtain ⟨e, _, eq⟩ := stepWrite_refuses h s ty fc n data h0 hq
    exact ⟨e, _, eq, rfl⟩

/-- a write call looks at the first `reqLen` items of the caller's buffer only -/
theorem write_take_self (h : H) (s : Store) (ty : Ty) (fc : Bool) (n : Int) (data : List Int) :
    stepWrite h s ty fc n data = stepWrite h s ty fc n (data.take (reqLen h fc n).toNat) := by
  unfold stepWrite reqLen
  simp only [List.take_take, Nat.min_self]

/-! ## the write wrapper: the same code for every container (`Sf.HandleG.stepWrite`), `Sf.stepWrite` being the case `hCont` -/

/-- what `write_header` does to the handle, for those who need not know the values: three fields change -/
theorem writeHeader_fst (h : H) (s : Store) (b : Bool) :
    ∃ fl dl off, (writeHeader h s b).1 = { h with filelength := fl, datalength := dl, dataoffset := off } ∧
      (0 ≤ h.dataoffset → 0 ≤ off) :=
  ⟨_, _, _, (writeHeader_fst_cw h s b).trans (recalc_fields h _ b), fun h0 => by rw [recalc_dataoffset]; split <;> omega⟩

namespace HandleG

/-- `h'` is `h` up to the four fields a header rewrite recomputes (file length, data length, data offset, frames) -/
def WHRelG (h h' : H) : Prop :=
  ∃ fl dl off fr, h' = { h with filelength := fl, datalength := dl, dataoffset := off, frames := fr } ∧
    (0 ≤ h.dataoffset → 0 ≤ off)

theorem WHRelG.refl (h : H) : WHRelG h h := ⟨h.filelength, h.datalength, h.dataoffset, h.frames, rfl, id⟩

/-- what the generic theorems ask of a container -/
structure ContLaws (c : Cont) : Prop where
  /-- `write_header` recomputes lengths only: mode, channels, encoding, cursors, flags … are not touched -/
  wh : ∀ h s b, WHRelG h (c.writeHeader h s b).1
  /-- closing a handle opened for reading leaves the file alone -/
  close_r : ∀ h s, h.mode = .r → c.closeStore h s = s

/-- a container whose `write_header` leaves `sf.frames` alone -/
def KeepsFrames (c : Cont) : Prop := ∀ h s b, (c.writeHeader h s b).1.frames = h.frames

theorem WHRelG.cond {c : Cont} (L : ContLaws c) (p : Prop) [Decidable p] (h : H) (s : Store) (b : Bool) :
    WHRelG h (if p then c.writeHeader h s b else (h, s)).1 :=
  ite_ind (P := fun r : H × Store => WHRelG h r.1) (L.wh h s b) (WHRelG.refl h)

theorem KeepsFrames.cond {c : Cont} (K : KeepsFrames c) (p : Prop) [Decidable p] (h : H) (s : Store) (b : Bool) :
    (if p then c.writeHeader h s b else (h, s)).1.frames = h.frames :=
  ite_ind (P := fun r : H × Store => r.1.frames = h.frames) (K h s b) rfl

/-- a call the wrapper refuses does not get as far as the container -/
theorem stepWrite_refused (c : Cont) (h : H) (s : Store) (ty : Ty) (fc : Bool) (n : Int) (data : List Int)
    (hq : ¬ WriteValid h fc n) :
    stepWrite c h s ty fc n data = Sf.stepWrite h s ty fc n data := by
  unfold stepWrite Sf.stepWrite
  refine ite_congr rfl (fun _ => rfl) fun h0 => ?_
  refine ite_congr rfl (fun _ => rfl) fun h1 => ?_
  refine ite_congr rfl (fun _ => rfl) fun hm => ?_
  refine ite_congr rfl (fun _ => rfl) fun ha => ?_
  refine absurd ⟨?_, by simpa using hm, ?_⟩ hq
  · simp at h0; omega
  · cases fc <;> simp_all

/-- the seek back to the write position and the header in front of the first audio byte (the `have_written` latch) -/
def wPre (c : Cont) (h : H) (s : Store) : H × Store :=
  let h0 := { h with error := 0 }
  let s := if h.lastOp != .w then defaultSeek h0 s h0.wpos else s
  if !h0.haveWritten ∧ c.hasHeader then c.writeHeader h0 s false else (h0, s)

/-- the codec write and the bookkeeping of the wrapper -/
def wBody (p : H × Store) (ty : Ty) (len : Int) (data : List Int) : H × Store :=
  let h := { p.1 with haveWritten := true }
  let vals := data.take len.toNat
  let peak := peakUpdate h ty vals
  let s := p.2.write (h.enc.encodeAll h.conv ty vals)
  let wpos := h.wpos + len / h.ch
  let h := { h with wpos := wpos, lastOp := .w, peak := peak }
  (if wpos > h.frames then { h with frames := wpos, dataend := 0 } else h, s)

/-- SFC_SET_UPDATE_HEADER_AUTO -/
def wPost (c : Cont) (p : H × Store) : H × Store :=
  if p.1.autoHeader ∧ c.hasHeader then c.writeHeader p.1 p.2 true else p

def wAll (c : Cont) (h : H) (s : Store) (ty : Ty) (len : Int) (data : List Int) : H × Store :=
  wPost c (wBody (wPre c h s) ty len data)

theorem stepWrite_main (c : Cont) (h : H) (s : Store) (ty : Ty) (fc : Bool) (n : Int) (data : List Int)
    (hn : 0 < n) (hm : h.mode ≠ .r) (ha : fc = true ∨ n % h.ch = 0) :
    stepWrite c h s ty fc n data =
      ((wAll c h s ty (reqLen h fc n) data).1, (wAll c h s ty (reqLen h fc n) data).2,
       { ret := if fc then reqLen h fc n / (wAll c h s ty (reqLen h fc n) data).1.ch else reqLen h fc n, err := 0 }) := by
  have h0 : ¬ n = 0 := by omega
  have h1 : ¬ n < 0 := by omega
  have h3 := aligned_guard h fc n ha
  unfold stepWrite
  simp only [beq_iff_eq, h0, if_false, h1, hm, h3]
  rfl

theorem wPre_fields {c : Cont} (L : ContLaws c) (h : H) (s : Store) : WHRelG { h with error := 0 } (wPre c h s).1 :=
  WHRelG.cond L _ _ _ _

/-- the codec half in closed form (a grown file has no data end on record) -/
theorem wBody_eq (p : H × Store) (ty : Ty) (len : Int) (data : List Int) :
    wBody p ty len data =
      ({ p.1 with haveWritten := true, wpos := p.1.wpos + len / p.1.ch, lastOp := .w,
                  peak := peakUpdate p.1 ty (data.take len.toNat),
                  frames := max p.1.frames (p.1.wpos + len / p.1.ch),
                  dataend := if p.1.wpos + len / p.1.ch > p.1.frames then 0 else p.1.dataend },
       p.2.write (p.1.enc.encodeAll p.1.conv ty (data.take len.toNat))) := by
  unfold wBody
  by_cases hc : p.1.wpos + len / p.1.ch > p.1.frames
  · simp only [hc, if_true, show max p.1.frames (p.1.wpos + len / p.1.ch) = p.1.wpos + len / p.1.ch by omega]
    rfl
  · simp only [hc, if_false, show max p.1.frames (p.1.wpos + len / p.1.ch) = p.1.frames by omega]
    rfl

theorem wBody_fields (p : H × Store) (ty : Ty) (len : Int) (data : List Int) :
    ∃ de pk, (wBody p ty len data).1 =
      { p.1 with haveWritten := true, wpos := p.1.wpos + len / p.1.ch, lastOp := .w, peak := pk,
                 frames := max p.1.frames (p.1.wpos + len / p.1.ch), dataend := de } :=
  ⟨_, _, congrArg Prod.fst (wBody_eq p ty len data)⟩

/-- the handle after a valid write call: which fields may have changed, and to what -/
theorem stepWrite_fields {c : Cont} (L : ContLaws c) (h : H) (s : Store) (ty : Ty) (fc : Bool) (n : Int) (data : List Int)
    (hn : 0 < n) (hm : h.mode ≠ .r) (ha : fc = true ∨ n % h.ch = 0) :
    ∃ fl dl off de pk fr,
      (stepWrite c h s ty fc n data).1 =
        { h with error := 0, haveWritten := true, wpos := h.wpos + reqLen h fc n / h.ch, lastOp := .w, peak := pk,
                 frames := fr, dataend := de, filelength := fl, datalength := dl, dataoffset := off } ∧
      (0 ≤ h.dataoffset → 0 ≤ off) ∧
      (stepWrite c h s ty fc n data).2.2 = { ret := if fc then reqLen h fc n / h.ch else reqLen h fc n, err := 0 } ∧
      (KeepsFrames c → fr = max h.frames (h.wpos + reqLen h fc n / h.ch)) := by
  rw [stepWrite_main c h s ty fc n data hn hm ha]
  unfold wAll wPost
  obtain ⟨fl1, dl1, off1, fr1, e1, p1⟩ := wPre_fields L h s
  have k1 := fun K : KeepsFrames c => K.cond (!({ h with error := 0 } : H).haveWritten ∧ c.hasHeader) { h with error := 0 }
    (if h.lastOp != .w then defaultSeek { h with error := 0 } s h.wpos else s) false
  obtain ⟨de, pk, e2⟩ := wBody_fields (wPre c h s) ty (reqLen h fc n) data
  generalize wBody (wPre c h s) ty (reqLen h fc n) data = q at e2 ⊢
  obtain ⟨fl3, dl3, off3, fr3, e3, p3⟩ := WHRelG.cond L (q.1.autoHeader ∧ c.hasHeader) q.1 q.2 true
  have k3 := fun K : KeepsFrames c => K.cond (q.1.autoHeader ∧ c.hasHeader) q.1 q.2 true
  rw [e3] at k3 ⊢
  refine ⟨fl3, dl3, off3, de, pk, fr3, ?_, ?_, ?_, fun K => ?_⟩
  · simp only [e2, e1]
  · intro h0; apply p3; simp only [e2, e1]; exact p1 h0
  · simp only [e2, e1]
  · have a := k1 K
    have b := k3 K
    change (wPre c h s).1.frames = h.frames at a
    simp only [e2] at b
    rw [b, a, e1]

/-- RAW, AU and WAV as ONE container record: the RAW `write_header` does nothing, so the test for it can go -/
def hCont : Cont :=
  { name := "raw/au/wav", hasHeader := true, writeHeader := Sf.writeHeader, closeStore := Sf.closeHandle,
    openH := fun ix s m f c r _ => openHandle ix s m f c r }

theorem guard_raw (p : Prop) [Decidable p] (h : H) (s : Store) (b : Bool) :
    (if p ∧ (h.container != .raw) = true then Sf.writeHeader h s b else (h, s)) =
      if p ∧ hCont.hasHeader = true then hCont.writeHeader h s b else (h, s) := by
  by_cases hc : h.container = .raw
  · have : Sf.writeHeader h s b = (h, s) := by unfold Sf.writeHeader; rw [hc]
    simp [hc, hCont, this]
  · simp [hc, hCont]

theorem stepWrite_hCont (h : H) (s : Store) (ty : Ty) (fc : Bool) (n : Int) (data : List Int) :
    Sf.stepWrite h s ty fc n data = stepWrite hCont h s ty fc n data := by
  unfold Sf.stepWrite stepWrite
  -- `zeta := false`: the guards are met with the `let`-bound handles still in place
  simp (config := { zeta := false }) only [guard_raw]

theorem hContLaws : ContLaws hCont :=
  ⟨fun h s b => let ⟨fl, dl, off, e, p⟩ := writeHeader_fst h s b; ⟨fl, dl, off, h.frames, e, p⟩,
   fun h s hm => by simp [hCont, Sf.closeHandle, hm]⟩

theorem hCont_frames : KeepsFrames hCont := fun h s b => by
  obtain ⟨fl, dl, off, e, _⟩ := writeHeader_fst h s b
  show (Sf.writeHeader h s b).1.frames = h.frames
  rw [e]

end HandleG

theorem stepWrite_fields (h : H) (s : Store) (ty : Ty) (fc : Bool) (n : Int) (data : List Int)
    (hn : 0 < n) (hm : h.mode ≠ .r) (ha : fc = true ∨ n % h.ch = 0) :
    ∃ fl dl off de pk,
      (stepWrite h s ty fc n data).1 =
        { h with error := 0, haveWritten := true, wpos := h.wpos + reqLen h fc n / h.ch, lastOp := .w, peak := pk,
                 frames := max h.frames (h.wpos + reqLen h fc n / h.ch), dataend := de,
                 filelength := fl, datalength := dl, dataoffset := off } ∧
      (0 ≤ h.dataoffset → 0 ≤ off) ∧
      (stepWrite h s ty fc n data).2.2 = { ret := if fc then reqLen h fc n / h.ch else reqLen h fc n, err := 0 } := by
  obtain ⟨fl, dl, off, de, pk, fr, e, p, o, k⟩ := HandleG.stepWrite_fields HandleG.hContLaws h s ty fc n data hn hm ha
  rw [HandleG.stepWrite_hCont]
  exact ⟨fl, dl, off, de, pk, k HandleG.hCont_frames ▸ e, p, o⟩

/-- `whence & SFM_MASK` (0x30), the mode bits of a whence word, in the arithmetic `stepSeek` spells it with -/
def seekWm (whence : Int) : Int := whence % 0x100 / 0x10 * 0x10 % 0x40

def seekFail (h : H) (s : Store) (e : Int) : H × Store × Out := ({ h with error := e }, s, { ret := -1, err := e })
def seekTell (h : H) (s : Store) (v : Int) : H × Store × Out := ({ h with error := 0 }, s, { ret := v, err := 0 })

/-- the handle after a successful repositioning to frame `t` -/
def seekMoveH (h : H) (wm : Int) (t : Int) : H :=
  let newMode : Int := if wm != 0 then wm else modeBits h.mode
  if newMode == 0x10 then { h with error := 0, rpos := t, lastOp := .r }
  else if newMode == 0x20 then { h with error := 0, wpos := t, lastOp := .w }
  else { h with error := 0, rpos := t, wpos := t, lastOp := .r }

/-- the frame an offset is relative to, for the whence values sf_seek knows -/
def seekBase (h : H) (whence : Int) : Option Int :=
  if whence = 0 ∨ whence = 0x10 ∨ whence = 0x20 ∨ whence = 0x30 then some 0
  else if whence = 1 then some (if h.mode = .r then h.rpos else h.wpos)
  else if whence = 0x11 then some h.rpos
  else if whence = 0x21 then some h.wpos
  else if whence = 2 ∨ whence = 0x12 ∨ whence = 0x22 then some h.frames
  else none

/-- zero-offset SEEK_CUR forms that only report the position -/
def seekIsTell (h : H) (off whence : Int) : Prop :=
  off = 0 ∧ ((whence = 1 ∧ h.mode ≠ .rw) ∨ whence = 0x11 ∨ whence = 0x21)

instance (h : H) (off whence : Int) : Decidable (seekIsTell h off whence) := by unfold seekIsTell; infer_instance

/-- `stepSeek` as a flat case list (`stepSeek_eq_spec`); the first case: whence names the mode the handle lacks -/
def seekSpec (h : H) (s : Store) (off whence : Int) : H × Store × Out :=
  if (seekWm whence = 0x20 ∧ h.mode = .r) ∨ (seekWm whence = 0x10 ∧ h.mode = .w) then seekFail h s E_WRONG_SEEK else
  match seekBase h whence with
  | none => seekFail h s E_BAD_SEEK
  | some b =>
    if seekIsTell h off whence then seekTell h s b else
    if b + off < 0 ∨ (h.mode = .r ∧ b + off > h.frames) then seekFail h s E_BAD_SEEK
    else (seekMoveH h (seekWm whence) (b + off), defaultSeek h s (b + off), { ret := b + off, err := 0 })

theorem seekMoveH_fields (h : H) (wm t : Int) :
    ∃ rp wp lo, seekMoveH h wm t = { h with error := 0, rpos := rp, wpos := wp, lastOp := lo } ∧
      (rp = h.rpos ∨ rp = t) ∧ (wp = h.wpos ∨ wp = t) := by
  let P (x : H) : Prop := ∃ rp wp lo, x = { h with error := 0, rpos := rp, wpos := wp, lastOp := lo } ∧
    (rp = h.rpos ∨ rp = t) ∧ (wp = h.wpos ∨ wp = t)
  show P _
  unfold seekMoveH
  exact ite_ind ⟨_, _, _, rfl, .inr rfl, .inl rfl⟩ (ite_ind ⟨_, _, _, rfl, .inl rfl, .inr rfl⟩ ⟨_, _, _, rfl, .inr rfl, .inr rfl⟩)

theorem seekSpec_fields (h : H) (s : Store) (off whence : Int) :
    ∃ e rp wp lo, (seekSpec h s off whence).1 = { h with error := e, rpos := rp, wpos := wp, lastOp := lo } := by
  let P (r : H × Store × Out) : Prop := ∃ e rp wp lo, r.1 = { h with error := e, rpos := rp, wpos := wp, lastOp := lo }
  have move : ∀ wm t s' o, P (seekMoveH h wm t, s', o) := fun wm t _ _ =>
    let ⟨rp, wp, lo, e, _⟩ := seekMoveH_fields h wm t
    ⟨0, rp, wp, lo, e⟩
  show P _
  unfold seekSpec
  refine ite_ind ⟨_, _, _, _, rfl⟩ ?_
  cases seekBase h whence with
  | none => exact ⟨_, _, _, _, rfl⟩
  | some b => exact ite_ind ⟨_, _, _, _, rfl⟩ (ite_ind ⟨_, _, _, _, rfl⟩ (move _ _ _ _))

theorem mode_cases (m : Mode) : m = .r ∨ m = .w ∨ m = .rw := by cases m <;> simp

def seekKnown (whence : Int) : Prop :=
  whence = 0 ∨ whence = 0x10 ∨ whence = 0x20 ∨ whence = 0x30 ∨ whence = 1 ∨ whence = 0x11 ∨ whence = 0x21 ∨
          whence = 2 ∨ whence = 0x12 ∨ whence = 0x22

/-- `stepSeek`, first half: whence decoding (frames from the start, or an immediate return value) -/
def Peak.seekDecode (h : H) (off whence : Int) : Except Int (Sum Int Int) :=
  if whence == 0 ∨ whence == 0x10 ∨ whence == 0x20 ∨ whence == 0x30 then .ok (.inl off)
  else if whence == 1 then
    if off == 0 ∧ h.mode == .r then .ok (.inr h.rpos)
    else if off == 0 ∧ h.mode == .w then .ok (.inr h.wpos)
    else if h.mode == .r then .ok (.inl (h.rpos + off)) else .ok (.inl (h.wpos + off))
  else if whence == 0x11 then (if off == 0 then .ok (.inr h.rpos) else .ok (.inl (h.rpos + off)))
  else if whence == 0x21 then (if off == 0 then .ok (.inr h.wpos) else .ok (.inl (h.wpos + off)))
  else if whence == 2 ∨ whence == 0x12 ∨ whence == 0x22 then .ok (.inl (h.frames + off))
  else .error E_BAD_SEEK

theorem stepSeek_eq_req (h : H) (s : Store) (off whence : Int) :
    stepSeek h s off whence =
      if (seekWm whence == 0x20 ∧ h.mode == .r) ∨ (seekWm whence == 0x10 ∧ h.mode == .w) then seekFail h s E_WRONG_SEEK else
      match Peak.seekDecode h off whence with
      | .error e => seekFail h s e
      | .ok (.inr v) => seekTell h s v
      | .ok (.inl t) =>
        if (h.mode == .rw ∨ h.mode == .w) ∧ t < 0 then seekFail h s E_BAD_SEEK
        else if h.mode == .r ∧ (t < 0 ∨ t > h.frames) then seekFail h s E_BAD_SEEK
        else (seekMoveH h (seekWm whence) t, defaultSeek h s t, { ret := t, err := 0 }) := rfl

theorem not_seekIsTell (h : H) (off whence : Int) (hw : whence ≠ 1 ∧ whence ≠ 0x11 ∧ whence ≠ 0x21) :
    ¬ seekIsTell h off whence := by
  rintro ⟨_, ⟨hw', _⟩ | hw' | hw'⟩ <;> omega

theorem seekDecode_eq (h : H) (off whence : Int) :
    Peak.seekDecode h off whence = match seekBase h whence with
      | none => .error E_BAD_SEEK
      | some b => if seekIsTell h off whence then .ok (.inr b) else .ok (.inl (b + off)) := by
  unfold Peak.seekDecode seekBase
  simp only [beq_iff_eq]
  by_cases w0 : whence = 0 ∨ whence = 0x10 ∨ whence = 0x20 ∨ whence = 0x30
  · simp only [w0, if_true, if_neg (not_seekIsTell h off whence (by omega)), Int.zero_add]
  simp only [w0, if_false]
  by_cases w1 : whence = 1
  · subst w1
    have ht : seekIsTell h off 1 ↔ off = 0 ∧ h.mode ≠ .rw := by simp [seekIsTell]
    simp only [ht]
    rcases mode_cases h.mode with hm | hm | hm <;> by_cases h0 : off = 0 <;> simp [hm, h0]
  simp only [w1, if_false]
  by_cases w2 : whence = 0x11
  · subst w2
    have ht : seekIsTell h off 0x11 ↔ off = 0 := by simp [seekIsTell]
    simp only [ht, if_true]
  simp only [w2, if_false]
  by_cases w3 : whence = 0x21
  · subst w3
    have ht : seekIsTell h off 0x21 ↔ off = 0 := by simp [seekIsTell]
    simp only [ht, if_true]
  simp only [w3, if_false]
  by_cases w4 : whence = 2 ∨ whence = 0x12 ∨ whence = 0x22
  · simp only [w4, if_true, if_neg (not_seekIsTell h off whence (by omega))]
  · simp only [w4, if_false]

theorem stepSeek_eq_spec (h : H) (s : Store) (off whence : Int) : stepSeek h s off whence = seekSpec h s off whence := by
  rw [stepSeek_eq_req, seekDecode_eq]
  unfold seekSpec
  simp only [beq_iff_eq]
  split
  · rfl
  cases seekBase h whence with
  | none => rfl
  | some b =>
    by_cases ht : seekIsTell h off whence
    · simp only [ht, if_true]
    · simp only [ht, if_false]
      -- a target in front of the file is refused in every mode, one behind it on a read-only handle
      rcases mode_cases h.mode with hm | hm | hm <;> simp [hm]

namespace HandleG

/-- SFC_UPDATE_HEADER_NOW: a header rewrite with `calc_length`, on a handle that can write to a container with a header -/
theorem stepCmdFlag_update (c : Cont) (h : H) (s : Store) (size : Int) :
    stepCmdFlag c h s 0x1060 size =
      ((if h.mode != .r ∧ c.hasHeader then c.writeHeader { h with error := 0 } s true else ({ h with error := 0 }, s)).1,
       (if h.mode != .r ∧ c.hasHeader then c.writeHeader { h with error := 0 } s true else ({ h with error := 0 }, s)).2,
       { ret := 0 }) := rfl

/-- no other flag command looks at the container or the store -/
theorem stepCmdFlag_other (c : Cont) (h : H) (s : Store) (cmd : Nat) (size : Int) (hc : cmd ≠ 0x1060) :
    ∃ cv ah ret, stepCmdFlag c h s cmd size = ({ h with error := 0, conv := cv, autoHeader := ah }, s, { ret := ret, err := 0 }) := by
  unfold stepCmdFlag
  split
  all_goals first
    | exact ⟨_, _, _, rfl⟩
    | exact absurd rfl hc

theorem stepCmdFlag_cases (c : Cont) (h : H) (s : Store) (cmd : Nat) (size : Int) :
    (∃ cv ah ret, stepCmdFlag c h s cmd size =
      ({ h with error := 0, conv := cv, autoHeader := ah }, s, { ret := ret, err := 0 })) ∨
    (h.mode ≠ .r ∧ stepCmdFlag c h s cmd size =
      ((c.writeHeader { h with error := 0 } s true).1, (c.writeHeader { h with error := 0 } s true).2, { ret := 0 })) := by
  by_cases hc : cmd = 0x1060
  · subst hc
    rw [stepCmdFlag_update]
    split
    · rename_i hg; exact Or.inr ⟨by simpa using hg.1, rfl⟩
    · exact Or.inl ⟨h.conv, h.autoHeader, 0, rfl⟩
  · exact Or.inl (stepCmdFlag_other c h s cmd size hc)

theorem stepCmdFlag_fields {c : Cont} (L : ContLaws c) (h : H) (s : Store) (cmd : Nat) (size : Int) :
    ∃ cv ah, WHRelG { h with error := 0, conv := cv, autoHeader := ah } (stepCmdFlag c h s cmd size).1 ∧
      (stepCmdFlag c h s cmd size).2.2.err = 0 ∧
      (h.mode = .r → (stepCmdFlag c h s cmd size).2.1 = s) := by
  rcases stepCmdFlag_cases c h s cmd size with ⟨cv, ah, ret, e⟩ | ⟨hw, e⟩
  · rw [e]; exact ⟨cv, ah, WHRelG.refl _, rfl, fun _ => rfl⟩
  · rw [e]; exact ⟨h.conv, h.autoHeader, L.wh _ _ _, rfl, fun hm => absurd hm hw⟩

theorem stepCmdFlag_hCont (h : H) (s : Store) (cmd : Nat) (size : Int) :
    Sf.stepCmdFlag h s cmd size = stepCmdFlag hCont h s cmd size := by
  unfold Sf.stepCmdFlag stepCmdFlag
  -- the two differ in the guard of the header rewrite only; `zeta := false` as in `stepWrite_hCont`
  simp (config := { zeta := false }) only [guard_raw]
  -- what is left are the two definitions' own `match` functions, one body under two names
  rfl

end HandleG

/-- a flag command changes the conversion settings or the auto-header flag, or rewrites the header (SFC_UPDATE_HEADER_NOW,
    only on a handle that can write) -/
theorem stepCmdFlag_fields (h : H) (s : Store) (cmd : Nat) (size : Int) :
    ∃ cv ah, (∃ fl dl off, (stepCmdFlag h s cmd size).1 =
        { h with error := 0, conv := cv, autoHeader := ah, filelength := fl, datalength := dl, dataoffset := off } ∧
        (0 ≤ h.dataoffset → 0 ≤ off)) ∧
      (stepCmdFlag h s cmd size).2.2.err = 0 ∧
      (h.mode = .r → (stepCmdFlag h s cmd size).2.1 = s) := by
  rw [HandleG.stepCmdFlag_hCont]
  rcases HandleG.stepCmdFlag_cases HandleG.hCont h s cmd size with ⟨cv, ah, ret, e⟩ | ⟨hw, e⟩
  · rw [e]; exact ⟨cv, ah, ⟨_, _, _, rfl, id⟩, rfl, fun _ => rfl⟩
  · rw [e]; exact ⟨h.conv, h.autoHeader, writeHeader_fst _ _ _, rfl, fun hm => absurd hm hw⟩

theorem stepTruncate_rmode (h : H) (s : Store) (f : Int) (hm : h.mode = .r) :
    stepTruncate h s f = ({ h with error := 0 }, s, { ret := 1 }) := by
  simp [stepTruncate, hm]

theorem seekSpec_set (h : H) (s : Store) (f : Int) :
    seekSpec h s f 0 =
      if f < 0 ∨ (h.mode = .r ∧ f > h.frames) then seekFail h s E_BAD_SEEK
      else (seekMoveH h 0 f, defaultSeek h s f, { ret := f, err := 0 }) := by
  simp [seekSpec, seekWm, seekBase, seekIsTell]

/-- on a route without `ftruncate` (SF_VIRTUAL_IO) the command is refused before the seek and before `sf.frames` is touched
    (the KF-C14-TRUNC-VIO repair; before it: `stepTruncateOld`): SF_TRUE, no error, nothing changes but the cleared error field -/
theorem stepTruncate_vio (h : H) (s : Store) (f : Int) (hm : h.mode ≠ .r) (hc : h.canTruncate = false) :
    stepTruncate h s f = ({ h with error := 0 }, s, { ret := 1 }) := by
  simp [stepTruncate, hm, hc]

theorem stepTruncate_neg (h : H) (s : Store) (f : Int) (hm : h.mode ≠ .r) (hc : h.canTruncate = true) (hf : f < 0)
    (hf1 : f ≠ -1) :
    stepTruncate h s f = ({ h with error := E_BAD_SEEK }, s, { ret := 1, err := E_BAD_SEEK }) := by
  unfold stepTruncate
  simp only [stepSeek_eq_spec, seekSpec_set]
  simp [hm, hc, hf, seekFail]
  omega

/-- the C compares `sf_seek`'s result with the requested position: −1 "succeeds" (descriptor routes) -/
theorem stepTruncate_minus1 (h : H) (s : Store) (hm : h.mode ≠ .r) :
    stepTruncate h s (-1) =
      if h.canTruncate then ({ h with error := E_BAD_SEEK, frames := -1 }, { s with bytes := truncBytes s.bytes s.pos }, { ret := 0, err := 0 })
      else ({ h with error := 0 }, s, { ret := 1 }) := by
  unfold stepTruncate
  simp only [stepSeek_eq_spec, seekSpec_set]
  cases h.canTruncate <;> simp [hm, seekFail]

theorem stepTruncate_ok (h : H) (s : Store) (f : Int) (hm : h.mode ≠ .r) (hf : 0 ≤ f) :
    stepTruncate h s f =
      if h.canTruncate then
        ({ seekMoveH h 0 f with frames := f }, { bytes := truncBytes s.bytes (defaultSeek h s f).pos, pos := (defaultSeek h s f).pos },
         { ret := 0, err := 0 })
      else ({ h with error := 0 }, s, { ret := 1 }) := by
  unfold stepTruncate
  simp only [stepSeek_eq_spec, seekSpec_set]
  have : ¬ f < 0 := by omega
  rcases mode_cases h.mode with hm' | hm' | hm'
  · exact absurd hm' hm
  · cases hc : h.canTruncate <;> simp [hm', hc, this, seekMoveH, defaultSeek, Store.seekSet, H.bw, modeBits]
  · cases hc : h.canTruncate <;> simp [hm', hc, this, seekMoveH, defaultSeek, Store.seekSet, H.bw, modeBits]

/-- SFC_FILE_TRUNCATE in the unrepaired library (KF-C14-TRUNC-VIO), what the `_old_rule` theorems are about: no test
    for virtual I/O in front of the seek, `sf.frames` stored before `psf_ftruncate` failed with EBADF -> SFE_SYSTEM
    on a handle without descriptor -/
def stepTruncateOld (h : H) (s : Store) (frames : Int) : H × Store × Out :=
  let h := { h with error := 0 }
  if h.mode == .r then (h, s, { ret := 1 }) else
  let (h, s, o) := stepSeek h s frames 0
  if o.ret != frames then (h, s, { ret := 1, err := h.error }) else
  let h := { h with frames := frames }
  if h.canTruncate then (h, { s with bytes := truncBytes s.bytes s.pos }, { ret := 0, err := 0 })
  else ({ h with error := 2 }, s, { ret := -1, err := 2 })

end Sf
