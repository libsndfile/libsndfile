/-
  SfProofs.AlacInverse — the decoder's predictor inverts the encoder's: `unpc_block ∘ pc_block = id`
  (coefficient adaptation included, int32 wrap-around included) for samples that fit the channel width.
-/
import SfModel.AlacEnc
namespace Sf.AlacCore

theorem wrapS_add_mul (cb : Nat) (a k : Int) : wrapS cb (a + 2 ^ cb * k) = wrapS cb a := by
  unfold wrapS
  simp only [Int.add_mul_emod_self_left]

theorem wrapS_eq_add (cb : Nat) (a : Int) : ∃ k : Int, wrapS cb a = a + 2 ^ cb * k := by
  unfold wrapS
  have hm := Int.mul_ediv_add_emod a (2 ^ cb)
  by_cases h : a % 2 ^ cb < 2 ^ cb / 2
  · exact ⟨-(a / 2 ^ cb), by simp only [h, if_true]; rw [Int.mul_neg]; omega⟩
  · exact ⟨-(a / 2 ^ cb) - 1, by simp only [h, if_false]; rw [Int.mul_sub, Int.mul_neg, Int.mul_one]; omega⟩

theorem w32_eq_add_cb (cb : Nat) (h : cb ≤ 32) (a : Int) : ∃ k : Int, w32 a = a + 2 ^ cb * k := by
  obtain ⟨k, hk⟩ := wrapS_eq_add 32 a
  refine ⟨2 ^ (32 - cb) * k, ?_⟩
  rw [w32, hk, ← Int.mul_assoc, ← Int.pow_add, show cb + (32 - cb) = 32 by omega]

/-- the core identity: what the decoder rebuilds from the encoder's residual is the sample, whatever the prediction `t`
    (all arithmetic modulo 2^32, then cut to `cb` bits) -/
theorem residual_inv (cb : Nat) (hcb : cb ≤ 32) (x t s : Int) (hx : sx cb x = x) :
    sx cb (w32 (sx cb (w32 (w32 (x - t) - s)) + w32 (t + s))) = x := by
  obtain ⟨k1, h1⟩ := w32_eq_add_cb cb hcb (x - t)
  obtain ⟨k2, h2⟩ := w32_eq_add_cb cb hcb (w32 (x - t) - s)
  obtain ⟨k3, h3⟩ := wrapS_eq_add cb (w32 (w32 (x - t) - s))
  obtain ⟨k4, h4⟩ := w32_eq_add_cb cb hcb (t + s)
  obtain ⟨k5, h5⟩ := w32_eq_add_cb cb hcb (sx cb (w32 (w32 (x - t) - s)) + w32 (t + s))
  have : w32 (sx cb (w32 (w32 (x - t) - s)) + w32 (t + s)) = x + 2 ^ cb * (k1 + k2 + k3 + k4 + k5) := by
    rw [h5]; unfold sx; rw [h3, h2, h1, h4]; simp only [Int.mul_add]; omega
  rw [this]; unfold sx at hx ⊢; rw [wrapS_add_mul, hx]

theorem diff_inv (cb : Nat) (hcb : cb ≤ 32) (x p : Int) (hx : sx cb x = x) : sx cb (w32 (sx cb (w32 (x - p)) + p)) = x := by
  obtain ⟨k1, h1⟩ := w32_eq_add_cb cb hcb (x - p)
  obtain ⟨k3, h3⟩ := wrapS_eq_add cb (w32 (x - p))
  obtain ⟨k5, h5⟩ := w32_eq_add_cb cb hcb (sx cb (w32 (x - p)) + p)
  have : w32 (sx cb (w32 (x - p)) + p) = x + 2 ^ cb * (k1 + k3 + k5) := by
    rw [h5]; unfold sx; rw [h3, h1]; simp only [Int.mul_add]; omega
  rw [this]; unfold sx at hx ⊢; rw [wrapS_add_mul, hx]

/-- one round of the main loops: the decoder's step on the encoder's residual gives back the sample and the SAME adapted
    coefficients -/
theorem unpcStep_pcStep (na cb ds : Nat) (hcb : cb ≤ 32) (coefs hist : List Int) (x : Int) (hx : sx cb x = x) :
    unpcStep na cb ds coefs hist (pcStep na cb ds coefs hist x).1 = (x, (pcStep na cb ds coefs hist x).2) := by
  unfold unpcStep pcStep
  simp only []
  have hr := residual_inv cb hcb x (hist.getD na 0)
    (asr (w32 ((List.zip coefs (hist.take na)).foldl (fun s (c, o) => w32 (s + w32 (c * w32 (o - hist.getD na 0)))) 0 + denHalf ds)) ds) hx
  split <;> simp only [hr]

theorem unpcLoop_pcLoop (na cb ds : Nat) (hcb : cb ≤ 32) (xs : List Int) : ∀ (j : Nat) (coefs hist : List Int),
    (∀ x ∈ xs, sx cb x = x) →
    unpcLoop na cb ds (pcLoop na cb ds xs j coefs hist).1 j coefs hist = xs.reverse ++ hist := by
  induction xs with
  | nil => intro j coefs hist _; simp [pcLoop, unpcLoop]
  | cons x xs ih =>
    intro j coefs hist hx
    have hx0 := hx x (by simp)
    have hxs : ∀ y ∈ xs, sx cb y = y := fun y hy => hx y (by simp [hy])
    rw [pcLoop]
    split
    · rename_i hj
      simp only []
      rw [unpcLoop]
      simp only [hj, if_true]
      rw [diff_inv cb hcb x (hist.headD 0) hx0, ih (j + 1) coefs (x :: hist) hxs]
      simp
    · rename_i hj
      have hs := unpcStep_pcStep na cb ds hcb coefs hist x hx0
      simp only []
      rw [unpcLoop]
      simp only [hj, if_false, hs]
      rw [ih (j + 1) _ (x :: hist) hxs]
      simp

/-- `unpc_block (pc_block (in))` = in: every predictor order except the first-order mode 31 (which the encoder never
    picks), every coefficient row, every shift, samples that fit in `cb` ≤ 32 bits -/
theorem unpcBlock_pcBlock (inp coefs : List Int) (na cb ds : Nat) (hcb : cb ≤ 32) (hna : na ≠ 31) (hfit : ∀ x ∈ inp, sx cb x = x) :
    unpcBlock (pcBlock inp coefs na cb ds).1 coefs na cb ds = inp := by
  cases inp with
  | nil => simp [pcBlock, unpcBlock]
  | cons x0 xs =>
    simp only [pcBlock]
    by_cases h0 : na = 0
    · simp [h0, unpcBlock]
    · simp only [h0, hna, if_false, unpcBlock]
      rw [unpcLoop_pcLoop na cb ds hcb xs 1 (coefs.take na) [x0] (fun x hx => hfit x (by simp [hx]))]
      simp

end Sf.AlacCore
