/-
  SfProofs.Faults — lemmas about SfModel.Faults (C15): callback counts and totals of the oracle loops, the seek latch as a function of the
  history, `whole_frames`, psf_default_seek as one if-chain, and what one callback does to the bytes of the harness's memory store.
-/
import SfModel.Faults
namespace Sf.Faults
open Sf

theorem roundLen_pos {B len : Nat} (h : len ≠ 0) : 0 < roundLen B len := by
  unfold roundLen; split <;> omega

theorem roundLen_le (B len : Nat) : roundLen B len ≤ len := by
  unfold roundLen; split <;> omega

theorem fread_hist_le (o : Oracle) (hist : Hist) (w n : Nat) :
    (fread o hist w n).2.2.length ≤ hist.length + 1 := by
  unfold fread; split <;> simp [call]

theorem fwrite_hist_le (o : Oracle) (hist : Hist) (w n : Nat) (d : List Byte) :
    (fwrite o hist w n d).2.length ≤ hist.length + 1 := by
  unfold fwrite; split
  · simp
  · split <;> simp [call]

theorem fread_count_le (o : Oracle) (hc : o.Contract) (hist : Hist) (w n : Nat) :
    (fread o hist w n).2.1 ≤ n := by
  unfold fread
  split
  · simp
  · exact Nat.div_le_of_le_mul (hc hist (.read (w * n)))

theorem fwrite_count_le (o : Oracle) (hc : o.Contract) (hist : Hist) (w n : Nat) (d : List Byte) (hd : d.length ≤ n * w) :
    (fwrite o hist w n d).1 ≤ n := by
  unfold fwrite
  split
  · simp
  · split
    · simp
    · have : 0 ≤ (o hist (.write d)).n ∧ (o hist (.write d)).n ≤ d.length := hc hist (.write d)
      refine Nat.div_le_of_le_mul (Nat.mul_comm n w ▸ ?_)
      show (o hist (.write d)).n.toNat ≤ n * w
      omega

theorem seekFailed_seek (hist : Hist) (off : Int) (wh : Nat) (a : Ans) :
    seekFailed ((.seek off wh, a) :: hist) = decide (a.n < 0) := rfl

theorem seekFailed_read (hist : Hist) (n : Nat) (a : Ans) : seekFailed ((.read n, a) :: hist) = seekFailed hist := rfl
theorem seekFailed_write (hist : Hist) (d : List Byte) (a : Ans) : seekFailed ((.write d, a) :: hist) = seekFailed hist := rfl
theorem seekFailed_tell (hist : Hist) (a : Ans) : seekFailed ((.tell, a) :: hist) = seekFailed hist := rfl
theorem seekFailed_len (hist : Hist) (a : Ans) : seekFailed ((.len, a) :: hist) = seekFailed hist := rfl

theorem fwrite_latched (o : Oracle) (hist : Hist) (w n : Nat) (d : List Byte) (hl : seekFailed hist = true) :
    fwrite o hist w n d = (0, hist) := by
  unfold fwrite; split
  · rfl
  · simp

theorem fwrite_keeps_latch (o : Oracle) (hist : Hist) (w n : Nat) (d : List Byte) :
    seekFailed (fwrite o hist w n d).2 = seekFailed hist := by
  unfold fwrite; split
  · rfl
  · split
    · rfl
    · simp [call, seekFailed]

theorem writeLoop_latched (o : Oracle) (w B : Nat) (bytes : List Byte) (len : Nat) (hist : Hist) (total attempted : Nat)
    (hl : seekFailed hist = true) :
    (writeLoop o w B bytes len hist total attempted).1 = total ∧ (writeLoop o w B bytes len hist total attempted).2.2 = hist := by
  rw [writeLoop]
  by_cases h0 : len = 0
  · simp [h0]
  · simp only [h0, dite_false]
    have hp : 0 < roundLen B len := roundLen_pos h0
    rw [fwrite_latched o hist w _ _ hl]
    simp [hp]

theorem readLoop_hist_le (o : Oracle) (w B len : Nat) (hist : Hist) (acc : List Byte) (total : Nat) :
    (readLoop o w B len hist acc total).2.2.length ≤ hist.length + len := by
  fun_induction readLoop o w B len hist acc total with
  | case1 => simp
  | case2 len hist acc total hl r hb =>
    have hf : r.2.2.length ≤ hist.length + 1 := fread_hist_le o hist w (roundLen B len)
    dsimp only
    omega
  | case3 len hist acc total hl r hb ih =>
    have hf : r.2.2.length ≤ hist.length + 1 := fread_hist_le o hist w (roundLen B len)
    have hp := roundLen_pos (B := B) hl
    omega

theorem fread_hist_extends (o : Oracle) (hist : Hist) (w n : Nat) : ∃ rest, (fread o hist w n).2.2 = rest ++ hist := by
  unfold fread; split
  · exact ⟨[], rfl⟩
  · exact ⟨[(.read (w * n), o hist (.read (w * n)))], rfl⟩

theorem readLoop_hist_extends (o : Oracle) (w B len : Nat) (hist : Hist) (acc : List Byte) (total : Nat) :
    ∃ rest, (readLoop o w B len hist acc total).2.2 = rest ++ hist := by
  fun_induction readLoop o w B len hist acc total with
  | case1 => exact ⟨[], rfl⟩
  | case2 len hist acc total hl r hb => exact fread_hist_extends o hist w (roundLen B len)
  | case3 len hist acc total hl r hb ih =>
    obtain ⟨r1, h1⟩ : ∃ rest, r.2.2 = rest ++ hist := fread_hist_extends o hist w (roundLen B len)
    obtain ⟨r2, h2⟩ := ih
    exact ⟨r2 ++ r1, by rw [h2, h1, List.append_assoc]⟩

theorem readLoop_total_le (o : Oracle) (hc : o.Contract) (w B len : Nat) (hist : Hist) (acc : List Byte) (total : Nat) :
    total ≤ (readLoop o w B len hist acc total).2.1 ∧ (readLoop o w B len hist acc total).2.1 ≤ total + len := by
  fun_induction readLoop o w B len hist acc total with
  | case1 => simp
  | case2 len hist acc total hl r hb =>
    have hle := roundLen_le B len
    dsimp only
    omega
  | case3 len hist acc total hl r hb ih =>
    have hf : r.2.1 ≤ roundLen B len := fread_count_le o hc hist w (roundLen B len)
    have hle := roundLen_le B len
    omega

theorem writeLoop_hist_le (o : Oracle) (w B : Nat) (bytes : List Byte) (len : Nat) (hist : Hist) (total attempted : Nat) :
    (writeLoop o w B bytes len hist total attempted).2.2.length ≤ hist.length + len := by
  fun_induction writeLoop o w B bytes len hist total attempted with
  | case1 => simp
  | case2 len hist total attempted hl r hb =>
    have hf : r.2.length ≤ hist.length + 1 := fwrite_hist_le o hist w (roundLen B len) _
    dsimp only
    omega
  | case3 len hist total attempted hl r hb ih =>
    have hf : r.2.length ≤ hist.length + 1 := fwrite_hist_le o hist w (roundLen B len) _
    have hp := roundLen_pos (B := B) hl
    omega

theorem writeLoop_total_le (o : Oracle) (hc : o.Contract) (w B : Nat) (bytes : List Byte) (len : Nat) (hist : Hist)
    (total attempted : Nat) :
    total ≤ (writeLoop o w B bytes len hist total attempted).1 ∧ (writeLoop o w B bytes len hist total attempted).1 ≤ total + len := by
  fun_induction writeLoop o w B bytes len hist total attempted with
  | case1 => simp
  | case2 len hist total attempted hl r hb =>
    have hle := roundLen_le B len
    dsimp only
    omega
  | case3 len hist total attempted hl r hb ih =>
    have hf : r.1 ≤ roundLen B len := fwrite_count_le o hc hist w (roundLen B len) _
      (by simp [List.length_take]; exact Nat.min_le_left _ _)
    have hle := roundLen_le B len
    omega

/-- `whole_frames`: the count rounded down to a whole number of frames, for every integer count -/
theorem wholeFrames_fst (c : Int) (ch : Nat) (op : Mode) (hch : 0 < ch) : (wholeFrames c ch op).1 = c / ch * ch := by
  have hdm := Int.mul_ediv_add_emod c ch
  have hmc := Int.mul_comm (c / ch) ch
  unfold wholeFrames
  split
  · rename_i h
    have hz : c % (ch : Int) = 0 := by
      rcases h with h | h
      · have : ch = 1 := by omega
        subst this; simp
      · exact h
    show c = _
    omega
  · show c - c % ch = _
    omega

/-- what `whole_frames` (sndfile.c) returns; the fourth part is why the position bookkeeping `count / channels` is unaffected -/
theorem wholeFrames_spec (c : Int) (ch : Nat) (op : Mode) (hch : 0 < ch) (hc : 0 ≤ c) :
    0 ≤ (wholeFrames c ch op).1 ∧ (wholeFrames c ch op).1 ≤ c ∧ (wholeFrames c ch op).1 % ch = 0 ∧
    (wholeFrames c ch op).1 / ch = c / ch ∧ c - (wholeFrames c ch op).1 < ch := by
  have hchz : (0 : Int) < (ch : Int) := by exact_mod_cast hch
  have hm1 := Int.emod_lt_of_pos c hchz
  have hm0 := Int.emod_nonneg c (show (ch : Int) ≠ 0 by omega)
  have hdm := Int.mul_ediv_add_emod c ch
  have hmc := Int.mul_comm (c / ch) ch
  rw [wholeFrames_fst c ch op hch]
  exact ⟨Int.mul_nonneg (Int.ediv_nonneg hc (by omega)) (by omega), by omega, Int.mul_emod_left _ _,
    Int.mul_ediv_cancel _ (by omega), by omega⟩

theorem wholeFrames_lastOp (c : Int) (ch : Nat) (op : Mode) :
    (wholeFrames c ch op).2 = if ch ≤ 1 ∨ c % ch = 0 then op else .rw := by
  unfold wholeFrames; split <;> rfl

theorem defaultSeek_eq (o : Oracle) (h : H) (hist : Hist) (f : Int) :
    defaultSeek o h hist f =
      if h.bw = 0 ∨ h.dataoffset < 0 then (-1, { h with error := E_BAD_SEEK }, hist)
      else if (o hist (.seek (h.dataoffset + h.bw * f) 0)).n ≠ h.dataoffset + h.bw * f
        then (-1, { h with error := E_SEEK_FAILED }, (.seek (h.dataoffset + h.bw * f) 0, o hist (.seek (h.dataoffset + h.bw * f) 0)) :: hist)
        else (f, h, (.seek (h.dataoffset + h.bw * f) 0, o hist (.seek (h.dataoffset + h.bw * f) 0)) :: hist) := rfl

/-- all psf_default_seek can do: refuse without a request, or make its one seek request and at most latch an error -/
theorem defaultSeek_cases {P : Int × H × Hist → Prop} (o : Oracle) (h : H) (hist : Hist) (f : Int)
    (refused : h.bw = 0 ∨ h.dataoffset < 0 → P (-1, { h with error := E_BAD_SEEK }, hist))
    (sought : ∀ r e, P (r, { h with error := e }, (.seek (h.dataoffset + h.bw * f) 0, o hist (.seek (h.dataoffset + h.bw * f) 0)) :: hist)) :
    P (defaultSeek o h hist f) := by
  rw [defaultSeek_eq]
  split
  · exact refused ‹_›
  · split
    · exact sought _ _
    · exact sought f h.error

theorem writeAt_take (bs : List Byte) (pos : Nat) (d : List Byte) (h : pos ≤ bs.length) :
    (writeAt bs pos d).take pos = bs.take pos := by
  unfold writeAt
  simp only [h, if_true]
  rw [List.append_assoc, List.take_append_of_le_length (by simp [List.length_take]; omega)]
  simp [List.take_take]

theorem writeAt_zero_drop (bs d : List Byte) (L : Nat) (hd : d.length ≤ L) : (writeAt bs 0 d).drop L = bs.drop L := by
  unfold writeAt
  simp [List.drop_append, hd]

theorem memStep_bytes (f : Fault) (m : Mem) (r : Req) :
    (memStep f m r).2.bytes = m.bytes ∨ ∃ d k, r = .write d ∧ (memStep f m r).2.bytes = writeAt m.bytes m.pos (d.take k) := by
  cases r with
  | write d =>
    simp only [memStep]
    generalize (if f.now (m.calls + 1) = true then shorten f.kind d.length else (d.length, false)) = c
    split
    · exact .inl (by simp only [apply_ite Mem.bytes, ite_self])
    · exact .inr ⟨d, c.1, rfl, by simp only [apply_ite Mem.bytes, apply_ite Mem.pos, ite_self]⟩
  | _ => exact .inl (by simp only [memStep, apply_ite Prod.snd, apply_ite Mem.bytes, ite_self])

theorem memStep_bytes_eq {f : Fault} {m : Mem} {r : Req} (h : ∀ d, r ≠ .write d) : (memStep f m r).2.bytes = m.bytes :=
  (memStep_bytes f m r).resolve_right fun ⟨d, _, e, _⟩ => h d e

end Sf.Faults
