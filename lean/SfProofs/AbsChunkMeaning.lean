/-
  SfProofs.AbsChunkMeaning — what the clauses of the C13 predicate (`Sf.AbsMeta.Chunks`, SfModel/AbsMeta.lean) mean: those on
  the set calls, the write, the close, the read-back and a visited entry each as an equivalence with the sentence of the
  statement in mathematical form (`CHolds` / `accepted_iff` put them together; the clauses on the queries stay in the predicate's
  own terms there, two of their cases are unfolded in `byId_meaning` and `next_after_last`), and the ties to the concrete model
  `Sf.Chunk`: what `Sf.Chunk.getData` (the model of *_get_chunk_data) leaves in the caller's buffer is what the `data` clause
  demands, and every refusal of the model's `accepts` is one the `set` clause allows.
-/
import SfProofs.AbsMetaMeaning
namespace Sf.AbsMeta.Chunks
open Sf Sf.AbsMeta Sf.Chunk

/-- C13: "a chunk set after audio has been written is refused or ignored"; sndfile.h: reserved ids fail — every call returned 0,
    or returned an error for a call made after the audio or for an id the API need not accept -/
theorem setFails_nil_iff (c : CCont) : ∀ (ss : List SetChunk),
    setFails c ss = [] ↔ ∀ s ∈ ss, s.ret0 = true ∨ (s.refused = true ∧ (s.late = true ∨ mayRefuse c s.id = true))
  | [] => by simp [setFails]
  | s :: ss => by
    unfold setFails
    simp only [List.append_eq_nil_iff, setFails_nil_iff c ss, List.mem_cons, forall_eq_or_imp]
    refine and_congr ?_ Iff.rfl
    cases s.ret0 <;> cases s.late <;> simp

/-- the chunks the file must hold are those accepted before the audio, in order -/
theorem stored_spec : ∀ (ss : List SetChunk),
    stored ss = (ss.filter fun s => s.ret0 && !s.late).map fun s => (storedId s.id, s.data)
  | [] => rfl
  | s :: ss => by
    unfold stored
    by_cases h : (s.ret0 && !s.late) = true <;> simp [h, stored_spec ss]

theorem padded_length (payload : List Byte) : (payload ++ List.replicate (pad4 payload.length - payload.length) 0).length = pad4 payload.length := by
  have : payload.length ≤ pad4 payload.length := by unfold pad4; omega
  simp; omega

/-- identical id, "identical size and payload bytes (padded to the container's alignment)", both calls returned 0 -/
theorem entryFails_nil_iff (e : Entry) (x : List Byte × List Byte) :
    entryFails e x = [] ↔ (e.id = x.1 ∧ e.size = pad4 x.2.length ∧ e.data = wantData x.2 e.buflen ∧ e.sizeRet = 0 ∧ e.dataRet = 0) := by
  unfold entryFails
  simp only [ite_cons_nil_iff, bne_iff_ne, ne_eq, Decidable.not_not, Bool.or_eq_true, not_or, and_true]

/-- every visited entry is the chunk that was set at that position -/
theorem entriesFail_nil_iff : ∀ (es : List Entry) (xs : List (List Byte × List Byte)), es.length = xs.length →
    (entriesFail es xs = [] ↔ ∀ p ∈ es.zip xs, entryFails p.1 p.2 = [])
  | [], [], _ => by simp [entriesFail]
  | [], _ :: _, h => by simp at h
  | _ :: _, [], h => by simp at h
  | e :: es, x :: xs, h => by
    have hl : es.length = xs.length := by simpa using h
    unfold entriesFail
    cases hf : entryFails e x with
    | nil => simp [entriesFail_nil_iff es xs hl, hf]
    | cons f fs => simp [hf]

/-- C13: "after re-opening each one is found by the chunk iterator functions - by identifier …  Iteration visits every stored
    chunk exactly once": an accepted iteration by an id that was set (no chunk of the container's own under that id) visited
    exactly the chunks set under it, in order, each with its padded size and payload, and ended there -/
theorem byId_meaning (r : CRecord) (chunks : List (List Byte × List Byte)) (q : List Byte) (ents : List Entry) (endN : Int)
    (hset : (chunks.map (·.1)).contains (storedId q) = true) (hown : ownCount r.own (storedId q) = 0)
    (hfree : ¬ (r.c = .caf ∧ storedId q = [102, 114, 101, 101]))
    (h : allFails r chunks (some q) ents endN = []) :
    endN = (ents.length : Int) ∧ ents.length = (chunks.filter (·.1 == storedId q)).length ∧
    ∀ p ∈ ents.zip (chunks.filter (·.1 == storedId q)),
      p.1.id = p.2.1 ∧ p.1.size = pad4 p.2.2.length ∧ p.1.data = wantData p.2.2 p.1.buflen ∧ p.1.sizeRet = 0 ∧ p.1.dataRet = 0 := by
  unfold allFails at h
  have he : endN = (ents.length : Int) := Decidable.byContradiction fun he => by simp [he] at h
  simp only [he, bne_self_eq_false, Bool.false_eq_true, if_false, hset, Bool.not_true, hown] at h
  have hf : (r.c == .caf && storedId q == [102, 114, 101, 101] && ents.length == (chunks.filter (·.1 == storedId q)).length + 1) = false := by
    by_cases h1 : r.c = .caf
    · by_cases h2 : storedId q = [102, 114, 101, 101]
      · exact absurd ⟨h1, h2⟩ hfree
      · simp [h2]
    · simp [h1]
  simp only [hf, Bool.false_eq_true, if_false] at h
  have hl : ents.length = (chunks.filter (·.1 == storedId q)).length := Decidable.byContradiction fun hl => by simp [hl] at h
  simp only [hl, bne_self_eq_false, Bool.false_eq_true, if_false] at h
  refine ⟨he, hl, ?_⟩
  intro p hp
  exact (entryFails_nil_iff p.1 p.2).mp ((entriesFail_nil_iff ents _ hl).mp h p hp)

/-- C13 "forall iterator usage patterns (… next after last …)": on an accepted record, `sf_next_chunk_iterator` at position `pos`
    of a listing of `n` chunks returns an iterator exactly when another chunk follows — after the last one it returns NULL -/
theorem next_after_last (all : List Query) (cur : Cursor) (l : List Entry) (it : Bool) (qs : List Query)
    (hlive : cur.live = true) (href : cur.ref = some l) (h : stepFails all cur (.next it :: qs) = []) :
    it = decide (cur.pos + 1 < l.length) := by
  unfold stepFails at h
  simp only [hlive, Bool.not_true, Bool.false_eq_true, if_false, href, List.append_eq_nil_iff] at h
  have := h.1
  by_cases hq : it = decide (cur.pos + 1 < l.length)
  · exact hq
  · simp [hq] at this

theorem writeFails_nil_iff (m : CRun) : writeFails m = [] ↔ ∀ ret err, m.wret = some (ret, err) → ret = (m.frames : Int) ∧ err = 0 := by
  unfold writeFails
  cases h : m.wret with
  | none => simp
  | some p => obtain ⟨a, b⟩ := p; simp

theorem closeFails_nil_iff (m : CRun) : closeFails m = [] ↔ ∀ c, m.close = some c → c = 0 := by
  unfold closeFails
  cases h : m.close with
  | none => simp
  | some c => simp

/-- C13 "without disturbing audio": the read-back delivered exactly the items written and touched nothing behind them -/
theorem readFails_nil_iff (m : CRun) : readFails m = [] ↔
    ∀ rb, m.read = some rb → rb.ret = (m.frames : Int) ∧ rb.err = 0 ∧ rb.data = m.items ++ List.replicate (m.readN - m.frames) 0xA5A5 := by
  unfold readFails
  cases h : m.read with
  | none => simp
  | some rb => simp [and_assoc]

/-- the statement of C13 on one run: sets, write, close and read-back in mathematical form, the queries through the predicate's
    `queryFails` / `stepFails` -/
structure CHolds (r : CRecord) (m : CRun) : Prop where
  complete : m.complete = true
  /-- every sf_set_chunk returned 0, or failed for a call after the audio / an id the API need not accept -/
  sets : ∀ s ∈ m.sets, s.ret0 = true ∨ (s.refused = true ∧ (s.late = true ∨ mayRefuse r.c s.id = true))
  wrote : ∀ ret err, m.wret = some (ret, err) → ret = (m.frames : Int) ∧ err = 0
  closed : ∀ c, m.close = some c → c = 0
  /-- the file re-opens, with the frames written, the audio untouched, every iteration as the statement says -/
  reopened : ∀ ri, m.reopen = some ri → ri.ok = true ∧ (m.wret.isSome = true → ri.frames = (m.frames : Int)) ∧
    (∀ rb, m.read = some rb → rb.ret = (m.frames : Int) ∧ rb.err = 0 ∧ rb.data = m.items ++ List.replicate (m.readN - m.frames) 0xA5A5) ∧
    (∀ q ∈ m.queries, queryFails r (stored m.sets) q = []) ∧ stepFails m.queries {} m.queries = []

/-- MEANING AND COMPLETENESS of the C13 predicate on one run -/
theorem judgeRun_nil_iff (r : CRecord) (m : CRun) : judgeRun r m = [] ↔ CHolds r m := by
  unfold judgeRun reopenFails
  simp only [ite_cons_nil_iff, Bool.not_eq_true', Bool.not_eq_false, List.append_eq_nil_iff, setFails_nil_iff, writeFails_nil_iff,
    closeFails_nil_iff]
  rcases hre : m.reopen with _ | ri
  · exact ⟨fun ⟨hc, ⟨⟨h1, h2⟩, h3⟩, _⟩ => ⟨hc, h1, h2, h3, fun ri hri => by rw [hre] at hri; cases hri⟩,
      fun h => ⟨h.complete, ⟨⟨h.sets, h.wrote⟩, h.closed⟩, rfl⟩⟩
  · unfold reopenedFails
    simp only [ite_cons_nil_iff, Bool.not_eq_false, List.append_eq_nil_iff, readFails_nil_iff, List.flatMap_eq_nil_iff, and_true,
      Bool.and_eq_true, bne_iff_ne, ne_eq, not_and, Decidable.not_not]
    constructor
    · rintro ⟨hc, ⟨⟨h1, h2⟩, h3⟩, hok, ⟨⟨h4, h5⟩, h6⟩, h7⟩
      refine ⟨hc, h1, h2, h3, fun ri' hri' => ?_⟩
      rw [hre] at hri'; cases hri'
      exact ⟨hok, h4, h5, h6, h7⟩
    · intro h
      obtain ⟨hok, a, b, c, d⟩ := h.reopened ri hre
      exact ⟨h.complete, ⟨⟨h.sets, h.wrote⟩, h.closed⟩, hok, ⟨⟨a, b⟩, c⟩, d⟩

/-- The predicate of C13: the record is accepted exactly when the statement holds on the main run and (where it was made) the
    twin run without chunks reads the same audio and strings -/
theorem accepted_iff (r : CRecord) : accepted r = true ↔
    CHolds r r.main ∧ ∀ t, r.twin = some t → (r.main.reopen.map (·.ok)) = some true → twinFails r.main t = [] := by
  unfold accepted judge
  simp only [List.isEmpty_iff, List.append_eq_nil_iff, judgeRun_nil_iff]
  refine and_congr_right fun h1 => ?_
  cases r.twin with
  | none => simp
  | some t => simp only [h1.complete, Bool.true_and, beq_iff_eq, ite_eq_right_iff, Option.some.injEq, forall_eq']

/-- what the model of `*_get_chunk_data` (`Sf.Chunk.getData`: `psf_fread (data, MIN (datalen, len), 1)`) leaves in a caller's
    buffer of `buflen` bytes pre-filled with 0xA5, for the read-table entry of a chunk set with `payload`, is exactly what the
    `data` clause demands: the model is never flagged by it -/
theorem model_getData_accepted (m : Mark) (off : Nat) (payload : List Byte) (buflen : Nat) :
    getData ⟨m, off, pad4 payload.length, payload ++ Sf.Chunk.zeros (pad4 payload.length - payload.length)⟩ (List.replicate buflen 0xA5)
      = wantData payload buflen := by
  have hfull := padded_length payload
  unfold getData wantData Sf.Chunk.zeros
  simp only [List.length_replicate]
  generalize payload ++ List.replicate (pad4 payload.length - payload.length) 0 = full at hfull
  congr 1
  · by_cases hb : buflen ≤ pad4 payload.length
    · rw [Nat.min_eq_left hb]
    · rw [Nat.min_eq_right (by omega), List.take_of_length_le (by omega), List.take_of_length_le (by omega)]
  · rw [List.drop_replicate, hfull]
    congr 1
    omega

theorem isPrint_false (x : Nat) (h : Sf.Chunk.isPrint x = false) : (decide (x < 0x20) || decide (x > 0x7e)) = true := by
  unfold Sf.Chunk.isPrint at h
  simp at h ⊢
  exact (Nat.lt_or_ge x 32).imp_right h

/-- every id the model's `sf_set_chunk` refuses before the audio is one the `set` clause lets it refuse: the predicate never
    raises an alarm on a refusal of the repaired library -/
theorem model_refusals_allowed (c : CCont) (id : List Byte) (h : accepts (toModel c) false id = false) : mayRefuse c id = true := by
  unfold accepts at h
  unfold mayRefuse storedId reservedIds
  by_cases hres : (reserved (toModel c)).contains (markerOf id) = true
  · have : ((reserved (toModel c)).map (·.bytes)).contains (markerOf id).bytes = true := by
      simp only [List.contains_iff_mem, List.mem_map] at hres ⊢
      exact ⟨_, hres, rfl⟩
    simp only [this, Bool.or_true, Bool.true_or]
  · have hres' : (reserved (toModel c)).contains (markerOf id) = false := by simpa using hres
    simp only [hres', Bool.not_false, Bool.and_true, Bool.true_and] at h
    have hc : (c != .caf) = true := by
      cases c <;> simp [toModel] at h ⊢
    have hpm : printableMark (markerOf id) = false := by
      cases hp : printableMark (markerOf id)
      · rfl
      · simp [hp] at h
    have hany : (markerOf id).bytes.any (fun b => decide (b < 0x20) || decide (b > 0x7e)) = true := by
      unfold printableMark at hpm
      unfold Mark.bytes
      simp only [Bool.and_eq_false_iff] at hpm
      simp only [List.any_cons, List.any_nil, Bool.or_false]
      rcases hpm with ((h1 | h1) | h1) | h1 <;> simp [isPrint_false _ h1]
    simp only [hc, hany, Bool.and_self, Bool.or_true]

end Sf.AbsMeta.Chunks
