/-
  SD2: the resource-fork parser EVALUATED on the fork the writer makes (helpers of SfProofs/Sd2Walk.lean).
  `Prog.eval g p` = the answer of the read program `p` over the bytes `g` (`run_fst`: the first component of `Prog.run`);
  `eval_bind` lets a proof step over a read whose result is not used without computing it.  The `eval_rd…` lemmas give
  what read_rsrc_char / _short / _int / _marker / _str deliver when their guard lets the offset through; `G f c` is the
  byte function of the fork `rsrcWith f c` (any background `f`), whose layout is given as fields at offsets (`rsrc_parts`, `data_entries`, `map_seg`, `item_fields`:
  `FieldAt` of SfProofs/Fields.lean) and read through `eval_rdInt_at` / `eval_rdShort_at` / `entry_reads`;
  `strLoopK_step` is one iteration of the string loop of parse_str_rsrc in terms of what its reads deliver.
-/
import SfModel.Sd2
import SfProofs.PvfImage
import SfProofs.AiffRate
namespace Sf.Sd2
open Sf Sf.Small2
open Sf.Pvf (digits scanInt isDigit)

namespace Prog
def eval (g : Nat → Byte) : Prog α → α
  | .pure a => a
  | .read i k => (k (g i)).eval g

theorem run_fst (g : Nat → Byte) : ∀ (p : Prog α), (p.run g).1 = p.eval g
  | .pure a => rfl
  | .read i k => by simp only [run, eval]; exact run_fst g (k (g i))

theorem eval_bind (g : Nat → Byte) (p : Prog α) (f : α → Prog β) : (p >>= f).eval g = (f (p.eval g)).eval g := by
  show (Prog.bind p f).eval g = _
  induction p with
  | pure a => rfl
  | read i k ih => simp only [Prog.bind, eval]; exact ih (g i)

theorem eval_pure (g : Nat → Byte) (a : α) : (pure a : Prog α).eval g = a := rfl
end Prog
open Prog

variable (g : Nat → Byte)

theorem eval_byteAt (n : Nat) : (byteAt (n : Int)).eval g = (g n : Int) := by
  simp [byteAt, Prog.eval]

theorem eval_rdChar (len off : Int) (n : Nat) (hn : off = n) (h : off < len) : (rdChar len off).eval g = (g n : Int) := by
  subst hn
  unfold rdChar
  rw [if_neg (by omega)]
  exact eval_byteAt g n

theorem eval_rdShort (len off : Int) (n : Nat) (hn : off = n) (h : off + 1 < len) :
    (rdShort len off).eval g = (g n : Int) * 256 + g (n + 1) := by
  subst hn
  unfold rdShort
  rw [if_neg (by omega)]
  have e1 : ((n : Int) + 1) = ((n + 1 : Nat) : Int) := by push_cast; rfl
  simp only [eval_bind, e1, eval_byteAt]
  exact Prog.eval_pure g _

theorem eval_four (n : Nat) (k : Int → Int → Int → Int → α) :
    (do
      let a ← byteAt (n : Int)
      let b ← byteAt ((n : Int) + 1)
      let c ← byteAt ((n : Int) + 2)
      let d ← byteAt ((n : Int) + 3)
      Pure.pure (k a b c d) : Prog α).eval g = k (g n) (g (n + 1)) (g (n + 2)) (g (n + 3)) := by
  have e1 : ((n : Int) + 1) = ((n + 1 : Nat) : Int) := by push_cast; rfl
  have e2 : ((n : Int) + 2) = ((n + 2 : Nat) : Int) := by push_cast; rfl
  have e3 : ((n : Int) + 3) = ((n + 3 : Nat) : Int) := by push_cast; rfl
  simp only [eval_bind, e1, e2, e3, eval_byteAt]
  exact Prog.eval_pure g _

theorem eval_rdInt (len off : Int) (n : Nat) (hn : off = n) (h : off + 3 < len) :
    (rdInt len off).eval g = wrapS 32 ((g n : Int) * 16777216 + g (n + 1) * 65536 + g (n + 2) * 256 + g (n + 3)) := by
  subst hn
  unfold rdInt
  rw [if_neg (by omega)]
  exact eval_four g n _

theorem eval_rdMarker (len off : Int) (n : Nat) (hn : off = n) (h : off + 3 < len) :
    (rdMarker len off).eval g = some [(g n : Int), g (n + 1), g (n + 2), g (n + 3)] := by
  subst hn
  unfold rdMarker
  rw [if_neg (by omega)]
  exact eval_four g n _

theorem eval_copyLoop : ∀ (t : List Byte) (n : Nat), (∀ u, u < t.length → g (n + u) = t.getD u 0) → (∀ b ∈ t, isPrint b = true) →
    (copyLoop t.length (n : Int)).eval g = t
  | [], _, _, _ => rfl
  | b :: t, n, hg, hp => by
    have h0 : g n = b := by simpa using hg 0 (by simp)
    have ih := eval_copyLoop t (n + 1) (fun u hu => by
      have := hg (u + 1) (by simp; omega)
      simpa [Nat.add_assoc, Nat.add_comm 1 u] using this) (fun x hx => hp x (List.mem_cons_of_mem _ hx))
    show (copyLoop (t.length + 1) (n : Int)).eval g = b :: t
    unfold copyLoop
    simp only [Prog.eval, Int.toNat_natCast, h0, hp b (List.mem_cons_self ..), if_true]
    have e1 : ((n : Int) + 1) = ((n + 1 : Nat) : Int) := by push_cast; rfl
    have := eval_bind g (copyLoop t.length ((n : Int) + 1)) (fun r => Prog.pure (b :: r))
    show ((copyLoop t.length ((n : Int) + 1)) >>= (fun r => Prog.pure (b :: r))).eval g = _
    rw [this, e1, ih]; rfl

theorem eval_rdStr (len off : Int) (n : Nat) (t : List Byte) (hn : off = n) (h : off + (t.length + 1) < len)
    (hg : ∀ u, u < t.length → g (n + u) = t.getD u 0) (hp : ∀ b ∈ t, isPrint b = true) (hl : t.length ≤ 31) :
    (rdStr len off (min 32 ((t.length : Int) + 1))).eval g = t := by
  subst hn
  unfold rdStr
  rw [if_neg (by omega)]
  have : (min 32 ((t.length : Int) + 1) - 1).toNat = t.length := by omega
  rw [this]
  exact eval_copyLoop g t n hg hp


theorem gap_length (f : Nat → Byte) (s n : Nat) : (gap f s n).length = n := by simp [gap]

theorem poke_length (buf : List Byte) (off : Nat) (bs : List Byte) (h : off + bs.length ≤ buf.length) :
    (poke buf off bs).length = buf.length := by
  simp [poke]; omega

theorem pascal_length_le (s : List Byte) (h : s.length ≤ 200) : (pascal s).length ≤ 202 := by
  unfold pascal
  simp only [List.length_cons, List.length_take, List.length_append, List.length_replicate]
  split <;> omega

theorem be16_len (v : Int) : (be16 v).length = 2 := be16_length v

theorem head_length (f : Nat → Byte) (c : Cfg) (h : c.name.length ≤ 200) : (head f c).length = 256 := by
  have hp := pascal_length_le c.name h
  unfold head
  dsimp only
  have l1 : (poke (gap f 0 256) 0x30 (pascal c.name)).length = 256 := by
    rw [poke_length _ _ _ (by rw [gap_length]; omega), gap_length]
  have e : ([0, 0] ++ asc "Sd2f" ++ asc "lsf1" ++ be32 (mapOff c : Int) ++ be32 256 ++ be32 (mapOff c : Int) ++ be32 (dataLen c : Int)).length = 26 := by
    simp [be32_length, asc]
  rw [poke_length, poke_length, l1]
  · rw [l1, e]; omega
  · rw [poke_length _ _ _ (by rw [l1, e]; omega), l1]; simp [be32_length, mapLen]

/-- the byte function of the fork written over the background `f` -/
def G (f : Nat → Byte) (c : Cfg) : Nat → Byte := fun i => (rsrcWith f c).getD i 0

theorem entry_length (v : List Byte) : (entry v).length = v.length + 4 := by
  simp [entry, be32_length]; omega

theorem dataRegion_length (c : Cfg) : (dataRegion c).length = dataLen c := by
  simp [dataRegion, entry_length, pstr, dataLen, off3, off2, off1]
  omega

/-- the resource map as the list of its segments -/
def mapSegs (f : Nat → Byte) (c : Cfg) : List (List Byte) :=
  [gap f (mapOff c) 12, be32 mapLen, [1, 0x12, 0x34, 0x56, 0x78, 0xab, 0xcd, 0], be16 28, be16 106, be16 1,
   asc "STR ", be16 2, be16 0x12, asc "sdML", be16 0, be16 0x36,
   item f (mapOff c + 46) 1000 0 (off0 c), item f (mapOff c + 58) 1001 12 (off1 c), item f (mapOff c + 70) 1002 24 (off2 c),
   item f (mapOff c + 82) 1000 33 (off3 c), gap f (mapOff c + 94) 12, strArea]

theorem mapRegion_eq (f : Nat → Byte) (c : Cfg) : mapRegion f c = (mapSegs f c).flatten := by
  simp only [mapRegion, mapSegs, List.flatten_cons, List.flatten_nil, List.append_nil, List.append_assoc]

theorem mapSegs_lengths (f : Nat → Byte) (c : Cfg) :
    (mapSegs f c).map List.length = [12, 4, 8, 2, 2, 2, 4, 2, 2, 4, 2, 2, 12, 12, 12, 12, 12, 41] := by
  simp [mapSegs, item, gap_length, be32_length, be16_length, asc, strArea]

theorem map_seg (f : Nat → Byte) (c : Cfg) (k : Nat) (hk : k < 18) :
    FieldAt (mapRegion f c) (([12, 4, 8, 2, 2, 2, 4, 2, 2, 4, 2, 2, 12, 12, 12, 12, 12, 41].take k).sum) ((mapSegs f c)[k]'hk) := by
  rw [mapRegion_eq, ← mapSegs_lengths f c]
  exact FieldAt.flatten (mapSegs f c) k hk

theorem mapRegion_length (f : Nat → Byte) (c : Cfg) : (mapRegion f c).length = 147 := by
  rw [mapRegion_eq, List.length_flatten, mapSegs_lengths]; rfl

theorem rsrcWith_length (f : Nat → Byte) (c : Cfg) (h : c.name.length ≤ 200) : (rsrcWith f c).length = total c := by
  unfold rsrcWith
  simp [head_length _ c h, dataRegion_length, mapRegion_length, total, mapOff, mapLen]
  omega

theorem item_fields (f : Nat → Byte) (pos id nameOff dataOff : Nat) :
    FieldAt (item f pos id nameOff dataOff) 0 (be16 id) ∧ FieldAt (item f pos id nameOff dataOff) 4 (be32 dataOff) :=
  ⟨(((FieldAt.head _ _).app _).app _), (FieldAt.last _ _ 4 (by simp)).app _⟩

theorem Cfg.wf.name_le {c : Cfg} (h : c.wf) : c.name.length ≤ 200 := by
  obtain ⟨_, _, _, _, _, _, hn⟩ := h; exact hn

theorem rsrc_length (c : Cfg) (h : c.name.length ≤ 200) : (rsrc c).length = total c := rsrcWith_length _ c h

/-- the three parts of the fork; the first sixteen bytes are the four header longs -/
theorem rsrc_parts (f : Nat → Byte) (c : Cfg) (h : c.name.length ≤ 200) :
    FieldAt (rsrcWith f c) 0 (be32 256 ++ be32 (mapOff c : Int) ++ be32 (dataLen c : Int) ++ be32 (mapLen : Int)) ∧
    FieldAt (rsrcWith f c) 256 (dataRegion c) ∧ FieldAt (rsrcWith f c) (mapOff c) (mapRegion f c) := by
  refine ⟨((FieldAt.head _ _).app _).app _, (FieldAt.last _ _ 256 (head_length _ c h)).app _, FieldAt.last _ _ _ ?_⟩
  rw [List.length_append, head_length _ c h, dataRegion_length]; rfl

theorem data_entries (c : Cfg) :
    FieldAt (dataRegion c) (off0 c) (entry (pstr (sizeText c))) ∧ FieldAt (dataRegion c) (off1 c) (entry (pstr (rateText c))) ∧
    FieldAt (dataRegion c) (off2 c) (entry (pstr (chText c))) :=
  ⟨((FieldAt.head _ _).app _).app _, ((FieldAt.last _ _ _ (by simp [off1, entry_length, pstr]; omega)).app _).app _,
   (FieldAt.last _ _ _ (by simp [off2, off1, entry_length, pstr]; omega)).app _⟩

theorem be32_cons (x : Int) : be32 x = [wrapU 32 x / 2 ^ 24 % 256, wrapU 32 x / 2 ^ 16 % 256, wrapU 32 x / 2 ^ 8 % 256, wrapU 32 x % 256] := by
  simp [be32, Sf.Aiff.beBytes4]
theorem be16_cons (x : Int) : be16 x = [wrapU 16 x / 2 ^ 8 % 256, wrapU 16 x % 256] := by
  simp [be16, Sf.Aiff.beBytes2]

theorem be32_lit (v : Nat) (h : v < 4294967296) : be32 (v : Int) = [v / 16777216 % 256, v / 65536 % 256, v / 256 % 256, v % 256] := by
  rw [be32_cons, wrapU_of_lt 32 v h]

theorem be16_lit (v : Nat) (h : v < 65536) : be16 (v : Int) = [v / 256 % 256, v % 256] := by
  rw [be16_cons, wrapU_of_lt 16 v h]

/-! In the lemmas below `g` is the byte function of `bs` (`hg`), as `G f c` is of `rsrcWith f c`. -/

theorem eval_rdInt_at (bs : List Byte) (hg : ∀ i, g i = bs.getD i 0) (len off : Int) (n v : Nat) (hn : off = n) (h : off + 3 < len)
    (hv : v < 2147483648) (hat : FieldAt bs n (be32 (v : Int))) : (rdInt len off).eval g = v := by
  rw [eval_rdInt g len off n hn h]
  simp only [hg]
  have h0 := hat.getD 0 (by rw [be32_length]; omega)
  have h1 := hat.getD 1 (by rw [be32_length]; omega)
  have h2 := hat.getD 2 (by rw [be32_length]; omega)
  have h3 := hat.getD 3 (by rw [be32_length]; omega)
  rw [be32_lit v (by omega)] at h0 h1 h2 h3
  simp only [List.getD_cons_zero, List.getD_cons_succ, Nat.add_zero] at h0 h1 h2 h3
  simp only [h0, h1, h2, h3]
  -- the four base-256 digits of `v` add up to `v`, which is below 2^31; the byte equations would only slow `omega` down
  clear h0 h1 h2 h3 h
  unfold wrapS
  have e : (2 : Int) ^ 32 = 4294967296 := by decide
  simp only [e]
  split <;> omega

theorem eval_rdShort_at (bs : List Byte) (hg : ∀ i, g i = bs.getD i 0) (len off : Int) (n v : Nat) (hn : off = n) (h : off + 1 < len)
    (hv : v < 65536) (hat : FieldAt bs n (be16 (v : Int))) : (rdShort len off).eval g = v := by
  rw [eval_rdShort g len off n hn h]
  simp only [hg]
  have h0 := hat.getD 0 (by rw [be16_length]; omega)
  have h1 := hat.getD 1 (by rw [be16_length]; omega)
  rw [be16_lit v hv] at h0 h1
  simp only [List.getD_cons_zero, List.getD_cons_succ, Nat.add_zero] at h0 h1
  simp only [h0, h1]
  omega

/-- the three reads parse_str_rsrc makes of a resource of `dl` bytes at offset `n` that begins with the Pascal string `t`
    (the three 'STR ' resources: nothing follows; 'sdML': the empty string and seven more zero bytes) -/
theorem entry_reads (bs : List Byte) (hg : ∀ i, g i = bs.getD i 0) (len : Int) (n : Nat) (t pad : List Byte) (ht : t.length ≤ 31)
    (hp : ∀ b ∈ t, isPrint b = true) (hlen : (n : Int) + t.length + 6 < len) (dl : Nat) (hdl : dl = t.length + 1 + pad.length)
    (hv : dl < 2147483648) (v : List Byte) (hpad : v = pstr t ++ pad) (hat : FieldAt bs n (entry v)) :
    (rdInt len (n : Int)).eval g = (dl : Int) ∧ (rdChar len ((n : Int) + 4)).eval g = (t.length : Int) ∧
    (rdStr len ((n : Int) + 5) (min 32 ((t.length : Int) + 1))).eval g = t := by
  subst hpad
  have hlenf : FieldAt bs n (be32 (dl : Int)) := by
    have := hat.trans (FieldAt.head (be32 ((pstr t ++ pad).length : Int)) (pstr t ++ pad))
    rwa [show (pstr t ++ pad).length = dl by simp [pstr, hdl]; omega] at this
  have hstr : FieldAt bs (n + 4) (t.length :: t) := hat.trans ((FieldAt.head (pstr t) pad).skip _ 4 (be32_length _))
  refine ⟨eval_rdInt_at g bs hg len n n dl rfl (by omega) hv hlenf, ?_, ?_⟩
  · rw [eval_rdChar g len _ (n + 4) (by push_cast; rfl) (by omega), hg]
    have := hstr.getD 0 (by simp)
    rw [Nat.add_zero] at this
    rw [this]; rfl
  · refine eval_rdStr g len _ (n + 5) t (by push_cast; rfl) (by omega) (fun u hu => ?_) hp ht
    have := hstr.getD (u + 1) (by simp; omega)
    rw [hg, show n + 5 + u = n + 4 + (u + 1) by omega, this]; rfl

/-- "%d…" then strtol: a decimal number below 2^31 in front of anything that is not a digit comes back -/
theorem strtol_digits (n : Nat) (h : n ≤ 0x7FFFFFFF) (rest : List Byte) (hr : ∀ (b : Nat) r, rest = b :: r → isDigit b = false) :
    strtol (digits n ++ rest) = n := by
  unfold strtol
  rw [Sf.Pvf.scanInt_digits n rest hr]
  have h1 : ¬ ((n : Int) > 0x7FFFFFFFFFFFFFFF) := by omega
  have h2 : ¬ ((n : Int) < -0x8000000000000000) := by omega
  simp only [h1, h2, if_false]
  exact wrapS_of_range 32 _ (by omega) (by omega)

theorem strtol_digits_alone (n : Nat) (h : n ≤ 0x7FFFFFFF) : strtol (digits n) = n := by
  have := strtol_digits n h [] (by intro b r h; cases h)
  rwa [List.append_nil] at this

theorem rateTail_eq : asc ".000000" = [0x2E, 0x30, 0x30, 0x30, 0x30, 0x30, 0x30] := by decide

theorem strtol_rateText (c : Cfg) (h : c.rate ≤ 0x7FFFFFFF) : strtol (rateText c) = c.rate :=
  strtol_digits c.rate h _ (by
    rw [rateTail_eq]
    intro b r hb
    injection hb with hb _
    subst hb
    decide)

/-- where the writer puts the four resources, the map and the end of the fork -/
theorem layout (c : Cfg) : mapOff c = 256 + dataLen c ∧ total c = mapOff c + 147 ∧ dataLen c = off3 c + 12 ∧
    off3 c = off2 c + 5 + (chText c).length ∧ off2 c = off1 c + 5 + (rateText c).length ∧ off1 c = 5 + (sizeText c).length ∧ off0 c = 0 :=
  ⟨rfl, rfl, rfl, rfl, rfl, rfl, rfl⟩

theorem total_le (c : Cfg) (h : c.wf) : total c ≤ 452 := by
  obtain ⟨h1, h2, h3, h4, h5, h6, _⟩ := h
  have a := Sf.Pvf.digits_length_le 1 c.size (by omega) (by omega)
  have b := Sf.Pvf.digits_length_le 10 c.rate (by omega) (by omega)
  have d := Sf.Pvf.digits_length_le 4 c.ch (by omega) (by omega)
  have e : (asc ".000000").length = 7 := by rw [rateTail_eq]; rfl
  unfold total mapOff mapLen dataLen off3 off2 off1 sizeText rateText chText
  rw [List.length_append, e]
  omega

/-- what one iteration of the string loop does with the numbers -/
def upd (s1 : LoopSt) (id : Int) (value : List Byte) : LoopSt :=
  if id = 1000 ∧ s1.size = 0 then { s1 with size := strtol value }
  else if id = 1001 ∧ s1.rate = 0 then { s1 with rate := strtol value }
  else if id = 1002 ∧ s1.ch = 0 then { s1 with ch := strtol value }
  else s1

theorem strLoopK_step (g : Nat → Byte) (len dOff itemOff : Int) (fuel : Nat) (k : Int) (s : LoopSt)
    (id rel dl : Int) (value : List Byte)
    (hcont : s.dataOff + s.dataLen < len)
    (hid : ¬ (itemOff + k * 12 < 0 ∨ itemOff + k * 12 + 1 ≥ len))
    (e_id : (rdShort len (itemOff + k * 12)).eval g = id)
    (e_rel : (rdInt len (itemOff + k * 12 + 4)).eval g = rel)
    (hdo : ¬ (wrapS 32 (dOff + rel) < 0 ∨ wrapS 32 (dOff + rel) > len))
    (e_dl : (rdInt len (wrapS 32 (dOff + rel))).eval g = dl)
    (hdl : ¬ (dl < 0 ∨ dl > len))
    (e_val : (rdStr len (wrapS 32 (dOff + rel) + 5) (min 32 ((rdChar len (wrapS 32 (dOff + rel) + 4)).eval g + 1))).eval g = value)
    (hph : hasInfix (asc "Photoshop") value = false) :
    ∃ so, (strLoopK len dOff itemOff (fuel + 1) k s).eval g =
      (strLoopK len dOff itemOff fuel (k + 1) (upd { s with strOff := so, dataOff := wrapS 32 (dOff + rel), dataLen := dl } id value)).eval g := by
  refine ⟨s.strOff + (rdChar len s.strOff).eval g + 1, ?_⟩
  rw [strLoopK]
  rw [if_neg (by omega)]
  simp only [eval_bind]
  rw [if_neg hid]
  simp only [eval_bind, e_id, e_rel]
  rw [if_neg hdo]
  simp only [eval_bind, e_dl]
  rw [if_neg hdl]
  simp only [eval_bind, e_val, hph]
  rfl

end Sf.Sd2
