/-
  The write session of a handle on RAW / AU / WAV as an abstract state (frames, data bytes, PEAK table,
  auto-header flag) and the invariant tying it to the concrete handle and store (C04, C11).  The store side of the
  invariant is the appending writer's `WInv` (SfProofs/CodecInv.lean): what `write_header`, a write call and close do
  to the bytes is taken from there; this file adds that the handle shows the configuration and the session's totals.
-/
import SfProofs.CodecInv
namespace Sf

/- The suffix `_ct` marks a definition of the Container* files that has a namesake in the model or in the appending writer's
   files (SfProofs/Codec*.lean): `auHdr_ct` / `wavHdr_ct` are `au_write_header` / `wav_write_header` as functions of the values
   they store (byte order, codec, rate, channels, PEAK table, the two lengths), with no handle; `auHeader_eq_ct` /
   `wavHeader_eq_ct` tie them to the model's `auHeader h` / `wavHeader h`, `auHdr_eq_ct` / `wavHdr_eq_ct` to CodecWriter's
   `auHdr` / `wavHdr`. -/
def auHdr_ct (big : Bool) (codec : Nat) (sr : Int) (ch : Nat) (dl : Int) : List Byte :=
  let dl' : Int := if dl < 0 ∨ dl > 0x7FFFFFFF then -1 else dl
  (if big then marker ".snd" else marker "dns.") ++ u32 big 24 ++ u32 big dl' ++
    u32 big (auEncoding codec) ++ u32 big sr ++ u32 big ch

theorem auHeader_eq_ct (h : H) : auHeader h = auHdr_ct h.big (codecOf h.fmtWord) h.sr h.ch h.datalength := rfl

theorem auHdr_ct_length (big : Bool) (codec : Nat) (sr : Int) (ch : Nat) (dl : Int) : (auHdr_ct big codec sr ch dl).length = 24 := by
  unfold auHdr_ct
  simp only [List.length_append, u32_length, apply_ite List.length, marker_len_snd, marker_len_dns, ite_self]

def peakChk (big : Bool) (ch : Nat) (ps : List Peak) : List Byte :=
  marker "PEAK" ++ u32 big (8 + 8 * ch) ++ u32 big 1 ++ u32 big 1000000000 ++
    ps.flatMap fun p => u32 big (wrF32 (Float.f64to32 p.value)) ++ u32 big p.position

theorem peakChunk_eq_ct (h : H) (ps : List Peak) : peakChunk h ps = peakChk h.big h.ch ps := rfl

def wavFmtChunk (b : Bool) (codec nb ch : Nat) (sr : Int) : List Byte :=
  let bwid : Int := nb
  let fmtBody := u16 b (wavFormatTag codec) ++ u16 b ch ++ u32 b sr ++ u32 b (sr * bwid * ch) ++
                 u16 b (bwid * ch) ++ u16 b (if codec == 0x10 || codec == 0x11 then 8 else bwid * 8)
  if codec == 0x10 || codec == 0x11 then u32 b 18 ++ fmtBody ++ u16 b 0 else u32 b 16 ++ fmtBody

def wavFact (b : Bool) (codec : Nat) (frames : Int) : List Byte :=
  if hasFact codec then marker "fact" ++ u32 b 4 ++ u32 b frames else []

def wavPeakStart (b : Bool) (ch : Nat) (peak : Option (List Peak)) (pas : Bool) : List Byte :=
  match peak with
  | some ps => if pas then peakChk b ch ps else []
  | none => []

def wavHdr_ct (b : Bool) (codec nb ch : Nat) (sr frames : Int) (peak : Option (List Peak)) (pas : Bool) (fl dl : Int) :
    List Byte :=
  let riffLen : Int := if fl < 8 then 8 else (if fl - 8 < 0xFFFFFFFF then fl - 8 else 0xFFFFFFFF)
  let dlen : Int := if dl < 0xFFFFFFFF then dl else 0xFFFFFFFF
  (if b then marker "RIFX" else marker "RIFF") ++ u32 b riffLen ++ marker "WAVE" ++ marker "fmt " ++
    wavFmtChunk b codec nb ch sr ++ wavFact b codec frames ++ wavPeakStart b ch peak pas ++ marker "data" ++ u32 b dlen

theorem wavHeader_eq_ct (h : H) :
    wavHeader h = wavHdr_ct h.big (codecOf h.fmtWord) h.nb h.ch h.sr h.frames h.peak h.peakAtStart h.filelength h.datalength := by
  unfold wavHeader wavHdr_ct wavFmtChunk wavFact wavPeakStart
  cases h.peak <;> rfl

theorem peakChk_length (b : Bool) (ch : Nat) (ps : List Peak) : (peakChk b ch ps).length = 16 + 8 * ps.length := by
  unfold peakChk
  simp only [List.length_append, u32_length, marker_len_PEAK, List.length_flatMap, List.map_const', List.sum_replicate_nat]
  omega

def wavFmtLen (codec : Nat) : Nat := if codec == 0x10 || codec == 0x11 then 22 else 20

theorem wavFmtChunk_length (b : Bool) (codec nb ch : Nat) (sr : Int) :
    (wavFmtChunk b codec nb ch sr).length = wavFmtLen codec := by
  unfold wavFmtChunk wavFmtLen; split <;> simp [u32_length, u16_length]

theorem wavFact_length (b : Bool) (codec : Nat) (fr : Int) : (wavFact b codec fr).length = if hasFact codec then 12 else 0 := by
  unfold wavFact; split <;> simp [u32_length]

def wavHdrLen_ct (codec ch : Nat) (hasPeak : Bool) : Nat :=
  16 + wavFmtLen codec + (if hasFact codec then 12 else 0) + (if hasPeak then 16 + 8 * ch else 0) + 8

theorem wavHdr_length (b : Bool) (codec nb ch : Nat) (sr frames : Int) (peak : Option (List Peak)) (fl dl : Int)
    (hp : ∀ ps, peak = some ps → ps.length = ch) :
    (wavHdr_ct b codec nb ch sr frames peak true fl dl).length = wavHdrLen_ct codec ch peak.isSome := by
  unfold wavHdr_ct wavHdrLen_ct
  simp only [List.length_append, u32_length, marker_len_RIFF, marker_len_RIFX, marker_len_WAVE, marker_len_fmt, marker_len_data,
    apply_ite List.length, ite_self, wavFmtChunk_length, wavFact_length]
  cases peak with
  | none => simp only [wavPeakStart, List.length_nil, Option.isSome_none, Bool.false_eq_true, if_false]
  | some ps => simp only [wavPeakStart, if_true, peakChk_length, hp ps rfl, Option.isSome_some]

/-- what `openHandle … .w` fixes for the life of the handle -/
structure Cfg where
  container : Container
  enc : Enc
  big : Bool
  ch : Nat
  sr : Int
  fmtWord : Nat

/-- what a write session accumulates -/
structure Abs where
  frames : Nat                      -- frames accepted so far
  data : List Byte                  -- the encoded audio so far
  peak : Option (List Peak)         -- the PEAK table (WAV float/double)
  auto : Bool                       -- SFC_SET_UPDATE_HEADER_AUTO

def Cfg.bw (c : Cfg) : Nat := c.enc.nbytes * c.ch
def Cfg.hasPeak (c : Cfg) : Bool := c.container == .wav && c.enc.isFloatData
def Cfg.hdrLen (c : Cfg) : Nat :=
  match c.container with
  | .raw => 0 | .au => 24 | .wav => wavHdrLen_ct (codecOf c.fmtWord) c.ch c.hasPeak

/-- the header a `write_header` call produces, given the two length fields it serialises -/
def hdrBytes (c : Cfg) (a : Abs) (fl dl : Int) : List Byte :=
  match c.container with
  | .raw => []
  | .au => auHdr_ct c.big (codecOf c.fmtWord) c.sr c.ch dl
  | .wav => wavHdr_ct c.big (codecOf c.fmtWord) c.enc.nbytes c.ch c.sr a.frames a.peak true fl dl

/-- the invariant of a handle opened for writing, between API calls -/
structure Inv (c : Cfg) (a : Abs) (h : H) (s : Store) : Prop where
  mode : h.mode = .w
  cont : h.container = c.container
  enc : h.enc = c.enc
  big : h.big = c.big
  ch : h.ch = c.ch
  chpos : 0 < c.ch
  sr : h.sr = c.sr
  fmt : h.fmtWord = c.fmtWord
  frames : h.frames = a.frames
  wpos : h.wpos = a.frames
  lastOp : h.lastOp = .w
  auto : h.autoHeader = a.auto
  conv : h.conv = {}
  doff : h.dataoffset = c.hdrLen
  dend : h.dataend = 0
  peak : h.peak = a.peak
  pas : h.peakAtStart = true
  bytes : ∃ hdr, s.bytes = hdr ++ a.data ∧ hdr.length = c.hdrLen
  pos : s.pos = s.bytes.length
  dlen : a.data.length = a.frames * c.bw
  pkSome : a.peak.isSome = c.hasPeak
  pkLen : ∀ ps, a.peak = some ps → ps.length = c.ch

/-- where the data of an image starts: the header length, with a PEAK chunk exactly when the state has a table -/
def Abs.off (c : Cfg) (a : Abs) : Nat :=
  match c.container with
  | .raw => 0 | .au => 24 | .wav => wavHdrLen_ct (codecOf c.fmtWord) c.ch a.peak.isSome

theorem Abs.off_eq {c : Cfg} {a : Abs} (h1 : a.peak.isSome = c.hasPeak) : a.off c = c.hdrLen := by
  unfold Abs.off Cfg.hdrLen; rw [h1]

theorem hdrBytes_length_off (c : Cfg) (a : Abs) (fl dl : Int) (h2 : ∀ ps, a.peak = some ps → ps.length = c.ch) :
    (hdrBytes c a fl dl).length = a.off c := by
  unfold hdrBytes Abs.off
  cases hc : c.container with
  | raw => rfl
  | au => exact auHdr_ct_length ..
  | wav => exact wavHdr_length _ _ _ _ _ _ _ _ _ h2

theorem hdrBytes_length (c : Cfg) (a : Abs) (fl dl : Int) (h1 : a.peak.isSome = c.hasPeak)
    (h2 : ∀ ps, a.peak = some ps → ps.length = c.ch) : (hdrBytes c a fl dl).length = c.hdrLen := by
  rw [hdrBytes_length_off c a fl dl h2, Abs.off_eq h1]

theorem Cfg.hdrLen_wav {c : Cfg} (hc : c.container = .wav) :
    c.hdrLen = wavHdrLen_ct (codecOf c.fmtWord) c.ch c.hasPeak ∧ 44 ≤ c.hdrLen := by
  have e : c.hdrLen = wavHdrLen_ct (codecOf c.fmtWord) c.ch c.hasPeak := by simp [Cfg.hdrLen, hc]
  refine ⟨e, ?_⟩
  rw [e]; unfold wavHdrLen_ct wavFmtLen; split <;> omega

theorem Cfg.hdrLen_au {c : Cfg} (hc : c.container = .au) : c.hdrLen = 24 := by simp [Cfg.hdrLen, hc]

theorem Cfg.hdrLen_raw {c : Cfg} (hc : c.container = .raw) : c.hdrLen = 0 := by simp [Cfg.hdrLen, hc]

theorem Inv.raw_bytes {c : Cfg} {a : Abs} {h : H} {s : Store} (i : Inv c a h s) (hr : c.container = .raw) : s.bytes = a.data := by
  obtain ⟨hdr, hb, hl⟩ := i.bytes
  rw [hb, List.eq_nil_of_length_eq_zero (hl.trans (Cfg.hdrLen_raw hr)), List.nil_append]

theorem hdrBytes_raw {c : Cfg} (a : Abs) (fl dl : Int) (hr : c.container = .raw) : hdrBytes c a fl dl = [] := by
  simp [hdrBytes, hr]

/-! ### the session invariant is the appending writer's `WInv` with the configuration and the totals named -/

theorem auHdr_eq_ct (b : Bool) (dl : Int) (fw : Nat) (sr : Int) (ch : Nat) :
    auHdr b dl fw sr ch = auHdr_ct b (codecOf fw) sr ch dl := rfl

theorem wavHdr_eq_ct (b : Bool) (fl : Int) (nb ch : Nat) (sr fr : Int) (pk : Option (List Peak)) (pas : Bool) (dl : Int)
    (fw : Nat) : wavHdr b fl nb ch sr fr pk pas dl fw = wavHdr_ct b (codecOf fw) nb ch sr fr pk pas fl dl := by
  unfold wavHdr wavHdr_ct wavFmtChunk wavFact wavPeakStart
  cases pk <;> rfl

/-- the equations between a handle and the session state it stands for: the part of `Inv` that does not speak of the store -/
structure Match (c : Cfg) (a : Abs) (h : H) : Prop where
  cont : h.container = c.container
  enc : h.enc = c.enc
  big : h.big = c.big
  ch : h.ch = c.ch
  sr : h.sr = c.sr
  fmt : h.fmtWord = c.fmtWord
  frames : h.frames = a.frames
  auto : h.autoHeader = a.auto
  conv : h.conv = {}
  peak : h.peak = a.peak
  pas : h.peakAtStart = true
  pkSome : a.peak.isSome = c.hasPeak
  pkLen : ∀ ps, a.peak = some ps → ps.length = c.ch

theorem Inv.length {c : Cfg} {a : Abs} {h : H} {s : Store} (i : Inv c a h s) :
    s.bytes.length = c.hdrLen + a.data.length := by
  obtain ⟨hdr, hb, hl⟩ := i.bytes
  rw [hb, List.length_append, hl]

section
variable {c : Cfg} {a : Abs} {h : H} {s : Store}

theorem Inv.toMatch (i : Inv c a h s) : Match c a h :=
  ⟨i.cont, i.enc, i.big, i.ch, i.sr, i.fmt, i.frames, i.auto, i.conv, i.peak, i.pas, i.pkSome, i.pkLen⟩

theorem Match.hdrLenOf (m : Match c a h) : hdrLenOf h = c.hdrLen := by
  unfold Sf.hdrLenOf Cfg.hdrLen wavHdrLen wavHdrLen_ct wavFmtLen
  rw [m.cont, m.fmt, m.peak, m.pas, ← m.pkSome]
  cases hc : c.container <;> try rfl
  cases hp : a.peak with
  | none => simp
  | some ps => simp [m.pkLen ps hp]

theorem Inv.hdrLenOf (i : Inv c a h s) : hdrLenOf h = c.hdrLen := i.toMatch.hdrLenOf

theorem Inv.toWInv (i : Inv c a h s) : ∃ hdr, WInv h s hdr a.data := by
  obtain ⟨hdr, hb, hl⟩ := i.bytes
  refine ⟨hdr, i.mode, i.lastOp, i.ch ▸ i.chpos, by rw [i.wpos]; omega, i.frames.trans i.wpos.symm, i.dend,
    by rw [i.doff, i.hdrLenOf], by rw [hl, i.hdrLenOf], hb, i.pos, ?_, by rw [i.peak, i.ch]; exact i.pkLen⟩
  rw [i.dlen, i.wpos, i.enc, i.ch, Cfg.bw]; push_cast; rfl

theorem Match.toInv (m : Match c a h) {hdr : List Byte} (W : WInv h s hdr a.data) : Inv c a h s where
  mode := W.mode
  cont := m.cont
  enc := m.enc
  big := m.big
  ch := m.ch
  chpos := m.ch ▸ W.ch_pos
  sr := m.sr
  fmt := m.fmt
  frames := m.frames
  wpos := by rw [← W.frames]; exact m.frames
  lastOp := W.lastOp
  auto := m.auto
  conv := m.conv
  doff := by rw [W.doff, m.hdrLenOf]
  dend := W.dataend
  peak := m.peak
  pas := m.pas
  bytes := ⟨hdr, W.bytes, by rw [W.hdr_len, m.hdrLenOf]⟩
  pos := W.pos
  dlen := by
    have := W.dat_len
    rw [← W.frames, m.frames, m.enc, m.ch] at this
    unfold Cfg.bw
    exact_mod_cast this
  pkSome := m.pkSome
  pkLen := m.pkLen

/-- the header a `write_header (psf, SF_TRUE)` call serialises when the file is `fl` bytes long -/
theorem Match.hdrOf_recalc (m : Match c a h) (hde : h.dataend = 0) (hdo : h.dataoffset = c.hdrLen)
    (hdl : a.data.length = a.frames * c.bw) (fl : Nat) (hfl : fl = c.hdrLen + a.data.length) :
    hdrOf (recalc h fl true) = hdrBytes c a (fl : Int) (a.data.length : Int) := by
  have hdl' : (a.frames : Int) * c.enc.nbytes * c.ch = (a.data.length : Int) := by
    rw [hdl, Cfg.bw]; simp [Int.mul_assoc]
  rw [Sf.hdrOf_recalc, recalc_datalength, recalc_filelength]
  unfold hdrBytes
  rw [m.cont]
  cases hc : c.container with
  | raw => rfl
  | au =>
    have e24 : ∀ x : Int, 24 + x - 24 = x := by omega
    simp [hde, hdo, hfl, Cfg.hdrLen, hc, auHdr_eq_ct, m.big, m.fmt, m.sr, m.ch, e24]
  | wav =>
    simp [hde, wavHdr_eq_ct, m.big, m.fmt, m.sr, m.ch, m.enc, m.frames, m.peak, m.pas, H.nb, hdl']

/-- the image of the store right after a header update: fresh header ++ data -/
def snapImage (c : Cfg) (a : Abs) : List Byte :=
  hdrBytes c a ((c.hdrLen + a.data.length : Nat) : Int) (a.data.length : Int) ++ a.data

/-- `write_header` on the handle of a session: the invariant is kept (it does not look at the two length fields), and
    with `calc_length` the store becomes the snapshot image -/
theorem writeHeader_inv (i : Inv c a h s) (cl : Bool) :
    Inv c a (writeHeader h s cl).1 (writeHeader h s cl).2 ∧ (cl = true → (writeHeader h s cl).2.bytes = snapImage c a) := by
  obtain ⟨hdr, hb, hl⟩ := i.bytes
  have hL := i.hdrLenOf
  have hd : h.dataoffset = hdrLenOf h := by rw [i.doff, hL]
  have hlen : (hdrOf (recalc h s.bytes.length cl)).length = c.hdrLen := by rw [hdrOf_length, recalc_hdrLen, hL]
  rw [writeHeader_fst_cw, recalc_fields, recalc_dataoffset' h _ cl hd, hL,
    writeHeader_snd h s cl hdr a.data hb (hl.trans hL.symm) hd (by rw [hL, i.pos, hb, List.length_append, hl]; omega)]
  refine ⟨{ i with doff := rfl, bytes := ⟨_, rfl, hlen⟩, pos := ?_ }, fun hcl => ?_⟩
  · rw [List.length_append, hlen, i.pos, hb, List.length_append, hl]
  · subst hcl
    rw [i.toMatch.hdrOf_recalc i.dend i.doff i.dlen _ i.length, snapImage, i.length]

end

structure WCall where
  ty : Ty
  frameCall : Bool
  n : Int
  data : List Int

/-- items the call transfers -/
def WCall.items (w : WCall) (ch : Nat) : Nat := (if w.frameCall then w.n * ch else w.n).toNat
/-- frames the call transfers -/
def WCall.frames (w : WCall) (ch : Nat) : Nat := w.items ch / ch
/-- a call the API accepts: non-negative count, whole frames, and the caller's buffer holds the items -/
def WCall.valid (w : WCall) (ch : Nat) : Prop :=
  0 ≤ w.n ∧ (w.frameCall = false → w.n % ch = 0) ∧ w.items ch ≤ w.data.length

end Sf
