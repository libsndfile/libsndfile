/-
  `HInv` is preserved by every step function, for every container record satisfying `ContLaws`, hence by every operation
  sequence.  The dispatch over an `Op` is defined here: `Sf.stepAny` / `Sf.runOps`; they are `HandleG.stepAny` / `runOps` at
  `hCont`, and what holds of `Sf.Handle` is that instance.  `OpRel` / `SameCfg`: no operation touches what the open call fixed.
-/
import SfProofs.HandleRead
namespace Sf

theorem HInv_stepRead (h : H) (s : Store) (ty : Ty) (fc : Bool) (n : Int) (hi : HInv h s) :
    HInv (stepRead h s ty fc n).1 (stepRead h s ty fc n).2.1 := by
  by_cases hq : ReadValid h fc n ∧ h.rpos < h.frames
  · obtain ⟨⟨hn, hw, ha⟩, he'⟩ := hq
    by_cases hm : h.mode = .r
    · obtain ⟨m, hm0, hlen, _, _⟩ := reqLen_frames h fc n hi.ch_pos hn ha
      obtain ⟨R, A, hR, hF, e1, e2, e3, _, _, _, _⟩ := stepRead_rmode h s ty fc n hi hm hn ha he' m hlen
      have hr := hi.rd hm
      rw [e1]
      refine ⟨hi.ch_pos, hi.nb_pos, Int.natCast_nonneg _, hi.wpos_nn, hi.off_nn, fun _ => ⟨rfl, ?_, ?_, ?_⟩⟩
      · simp only [hF]; apply Int.ofNat_le.mpr; omega
      · rw [e2]; exact hr.covers
      · simp only [hF]
        intro hlt
        have hlt' : R + min m A < R + A := Int.ofNat_lt.mp hlt
        have hmA : m < A := by omega
        rw [e3 hmA]
        have hs := hr.sync he'
        have hmin : min m A = m := by omega
        rw [hmin]
        simp only [H.bw] at *
        rw [hR] at hs
        push_cast
        rw [hs]
        push_cast
        rw [Int.add_mul]; omega
    · obtain ⟨c, _, _, _, e⟩ := stepRead_count h s ty fc n hn hw ha he' hi.ch_pos hi.nb_pos
      rw [e]
      have : 0 ≤ (c : Int) / (h.ch : Int) := Int.ediv_nonneg (by omega) (by omega)
      exact hi.of_writable hm rfl rfl (Int.add_nonneg hi.rpos_nn this) hi.wpos_nn hi.off_nn
  · obtain ⟨e, o, eq, _⟩ := stepRead_quiet h s ty fc n hq
    rw [eq]; exact hi.set_error e

/-- the three outcomes of `sf_seek` -/
theorem stepSeek_cases (h : H) (s : Store) (off whence : Int) :
    (∃ e, e ≠ 0 ∧ stepSeek h s off whence = seekFail h s e) ∨
    (∃ b, seekBase h whence = some b ∧ seekIsTell h off whence ∧
      ¬ (seekWm whence = 0x20 ∧ h.mode = .r) ∧ ¬ (seekWm whence = 0x10 ∧ h.mode = .w) ∧
      stepSeek h s off whence = seekTell h s b) ∨
    (∃ b, seekBase h whence = some b ∧ ¬ seekIsTell h off whence ∧ 0 ≤ b + off ∧ (h.mode = .r → b + off ≤ h.frames) ∧
      ¬ (seekWm whence = 0x20 ∧ h.mode = .r) ∧ ¬ (seekWm whence = 0x10 ∧ h.mode = .w) ∧
      stepSeek h s off whence =
        (seekMoveH h (seekWm whence) (b + off), defaultSeek h s (b + off), { ret := b + off, err := 0 })) := by
  rw [stepSeek_eq_spec]
  unfold seekSpec
  by_cases c1 : (seekWm whence = 0x20 ∧ h.mode = .r) ∨ (seekWm whence = 0x10 ∧ h.mode = .w)
  · left; exact ⟨E_WRONG_SEEK, by decide, by rw [if_pos c1]⟩
  rw [if_neg c1]
  cases hb : seekBase h whence with
  | none => left; exact ⟨E_BAD_SEEK, by decide, rfl⟩
  | some b =>
    simp only
    by_cases c2 : seekIsTell h off whence
    · right; left; exact ⟨b, rfl, c2, fun hh => c1 (Or.inl hh), fun hh => c1 (Or.inr hh), by rw [if_pos c2]⟩
    rw [if_neg c2]
    by_cases c3 : b + off < 0 ∨ (h.mode = .r ∧ b + off > h.frames)
    · left; exact ⟨E_BAD_SEEK, by decide, by rw [if_pos c3]⟩
    rw [if_neg c3]
    right; right
    refine ⟨b, rfl, c2, by omega, fun hm => ?_, fun hh => c1 (Or.inl hh), fun hh => c1 (Or.inr hh), rfl⟩
    apply Int.not_lt.mp
    intro hlt
    exact c3 (Or.inr ⟨hm, hlt⟩)

theorem seekWm_cases (w : Int) : seekWm w = 0 ∨ seekWm w = 0x10 ∨ seekWm w = 0x20 ∨ seekWm w = 0x30 := by
  unfold seekWm; omega

/-- which cursors a successful repositioning moves -/
theorem seekMoveH_cases (h : H) (wm t : Int) (hwm : wm = 0 ∨ wm = 0x10 ∨ wm = 0x20 ∨ wm = 0x30) :
    let moveR := wm = 0x10 ∨ wm = 0x30 ∨ (wm = 0 ∧ h.mode ≠ .w)
    let moveW := wm = 0x20 ∨ wm = 0x30 ∨ (wm = 0 ∧ h.mode ≠ .r)
    (moveR ∧ ¬ moveW ∧ seekMoveH h wm t = { h with error := 0, rpos := t, lastOp := .r }) ∨
    (¬ moveR ∧ moveW ∧ seekMoveH h wm t = { h with error := 0, wpos := t, lastOp := .w }) ∨
    (moveR ∧ moveW ∧ seekMoveH h wm t = { h with error := 0, rpos := t, wpos := t, lastOp := .r }) := by
  unfold seekMoveH
  rcases hwm with rfl | rfl | rfl | rfl
  · rcases mode_cases h.mode with hm | hm | hm <;> simp [hm, modeBits]
  · simp
  · simp
  · simp

theorem seekMoveH_rmode (h : H) (whence t : Int) (hm : h.mode = .r) (hq : ¬ (seekWm whence = 0x20 ∧ h.mode = .r)) :
    ∃ wp, seekMoveH h (seekWm whence) t = { h with error := 0, rpos := t, wpos := wp, lastOp := .r } ∧
      (wp = h.wpos ∨ wp = t) := by
  rcases seekMoveH_cases h (seekWm whence) t (seekWm_cases whence) with ⟨_, _, e⟩ | ⟨nr, mw, _⟩ | ⟨_, _, e⟩
  · exact ⟨h.wpos, e, .inl rfl⟩
  · exfalso
    rcases mw with mw | mw | mw
    · exact hq ⟨mw, hm⟩
    · exact nr (.inr (.inl mw))
    · exact mw.2 hm
  · exact ⟨t, e, .inr rfl⟩

theorem HInv_stepSeek (h : H) (s : Store) (off whence : Int) (hi : HInv h s) :
    HInv (stepSeek h s off whence).1 (stepSeek h s off whence).2.1 := by
  rcases stepSeek_cases h s off whence with ⟨e, _, eq⟩ | ⟨b, _, _, _, _, eq⟩ | ⟨b, hb, _, h0, hfr, n1, n2, eq⟩
  · rw [eq]; exact hi.set_error _
  · rw [eq]; exact hi.set_error _
  · rw [eq]
    by_cases hm : h.mode = .r
    · have hr := hi.rd hm
      obtain ⟨wp, e, hwp⟩ := seekMoveH_rmode h whence (b + off) hm n1
      have hpos : (((defaultSeek h s (b + off)).pos : Nat) : Int) = h.dataoffset + (b + off) * (h.bw : Int) := by
        simp only [defaultSeek, Store.seekSet]
        have : 0 ≤ (h.bw : Int) * (b + off) := Int.mul_nonneg (by omega) h0
        have := hi.off_nn
        rw [Int.toNat_of_nonneg (by omega), Int.mul_comm]
      have := hi.wpos_nn
      rw [e]
      exact ⟨hi.ch_pos, hi.nb_pos, h0, by rcases hwp with rfl | rfl <;> assumption, hi.off_nn,
        fun _ => ⟨rfl, hfr hm, hr.covers, fun _ => hpos⟩⟩
    · obtain ⟨rp, wp, lo, e, hrp, hwp⟩ := seekMoveH_fields h (seekWm whence) (b + off)
      have := hi.rpos_nn
      have := hi.wpos_nn
      rw [e]
      exact hi.of_writable hm rfl rfl (by rcases hrp with rfl | rfl <;> assumption)
        (by rcases hwp with rfl | rfl <;> assumption) hi.off_nn

theorem stepCmdFlag_rmode (h : H) (s : Store) (cmd : Nat) (size : Int) (hm : h.mode = .r) :
    ∃ cv ah, (stepCmdFlag h s cmd size).1 = { h with error := 0, conv := cv, autoHeader := ah } ∧
      (stepCmdFlag h s cmd size).2.1 = s := by
  rw [HandleG.stepCmdFlag_hCont]
  rcases HandleG.stepCmdFlag_cases HandleG.hCont h s cmd size with ⟨cv, ah, ret, e⟩ | ⟨hw, _⟩
  · rw [e]; exact ⟨cv, ah, rfl, rfl⟩
  · exact absurd hm hw

theorem HInv_stepTruncate (h : H) (s : Store) (f : Int) (hi : HInv h s) :
    HInv (stepTruncate h s f).1 (stepTruncate h s f).2.1 := by
  by_cases hm : h.mode = .r
  · rw [stepTruncate_rmode _ _ _ hm]; exact hi.set_error _
  cases hc : h.canTruncate
  · rw [stepTruncate_vio _ _ _ hm hc]; exact hi.set_error _
  by_cases hf : 0 ≤ f
  · rw [stepTruncate_ok _ _ _ hm hf]
    obtain ⟨rp, wp, lo, e, hrp, hwp⟩ := seekMoveH_fields h 0 f
    have := hi.rpos_nn
    have := hi.wpos_nn
    rw [e]
    split <;> exact hi.of_writable hm rfl rfl (by rcases hrp with rfl | rfl <;> assumption)
      (by rcases hwp with rfl | rfl <;> assumption) hi.off_nn
  · by_cases hf1 : f = -1
    · subst hf1
      rw [stepTruncate_minus1 _ _ hm]
      split <;> exact hi.of_writable hm rfl rfl hi.rpos_nn hi.wpos_nn hi.off_nn
    · rw [stepTruncate_neg _ _ _ hm hc (by omega) hf1]; exact hi.set_error _

namespace HandleG

theorem HInv_stepWrite {c : Cont} (L : ContLaws c) (h : H) (s : Store) (ty : Ty) (fc : Bool) (n : Int) (data : List Int)
    (hi : HInv h s) : HInv (stepWrite c h s ty fc n data).1 (stepWrite c h s ty fc n data).2.1 := by
  by_cases hq : WriteValid h fc n
  · obtain ⟨hn, hr, ha⟩ := hq
    obtain ⟨fl, dl, off, de, pk, fr, e, hoff, _⟩ := stepWrite_fields L h s ty fc n data hn hr ha
    rw [e]
    exact hi.of_writable (by exact hr) rfl rfl hi.rpos_nn
      (Int.add_nonneg hi.wpos_nn (Int.ediv_nonneg (reqLen_nonneg h fc n (by omega)) (by omega))) (hoff hi.off_nn)
  · obtain ⟨e, o, eq, _⟩ := stepWrite_quiet h s ty fc n data hq
    rw [stepWrite_refused c h s ty fc n data hq, eq]; exact hi.set_error e

theorem HInv_stepCmdFlag {c : Cont} (L : ContLaws c) (h : H) (s : Store) (cmd : Nat) (size : Int) (hi : HInv h s) :
    HInv (stepCmdFlag c h s cmd size).1 (stepCmdFlag c h s cmd size).2.1 := by
  rcases stepCmdFlag_cases c h s cmd size with ⟨cv, ah, ret, e⟩ | ⟨hw, e⟩
  · rw [e]; exact hi.set_flags cv ah 0
  · obtain ⟨fl, dl, off, fr, ew, ho⟩ := L.wh { h with error := 0 } s true
    rw [e, ew]
    exact hi.of_writable (by exact hw) rfl rfl hi.rpos_nn hi.wpos_nn (ho hi.off_nn)

end HandleG

/-- one operation on an open handle (`close` flushes the header; the handle is not used afterwards) -/
def stepAny (h : H) (s : Store) : Op → H × Store × Out
  | .read _ ty fc n => stepRead h s ty fc n
  | .write _ ty fc n data => stepWrite h s ty fc n data
  | .seek _ off whence => stepSeek h s off whence
  | .cmdFlag _ cmd size => stepCmdFlag h s cmd size
  | .truncate _ f => stepTruncate h s f
  | .close _ => (h, closeHandle h s, {})

def runOps (h : H) (s : Store) : List Op → H × Store
  | [] => (h, s)
  | op :: ops => runOps (stepAny h s op).1 (stepAny h s op).2.1 ops

theorem stepAny_hCont (h : H) (s : Store) (op : Op) : stepAny h s op = HandleG.stepAny HandleG.hCont h s op := by
  cases op with
  | write _ ty fc n data => exact HandleG.stepWrite_hCont h s ty fc n data
  | cmdFlag _ cmd size => exact HandleG.stepCmdFlag_hCont h s cmd size
  | _ => rfl

theorem runOps_hCont (ops : List Op) : ∀ (h : H) (s : Store), runOps h s ops = HandleG.runOps HandleG.hCont h s ops := by
  induction ops with
  | nil => intro h s; rfl
  | cons op ops ih => intro h s; rw [runOps, HandleG.runOps, stepAny_hCont, ih]

/-- `h'` is `h` up to the fields that calls change; what the open call fixed — store binding, mode, container, encoding,
    byte order, channels, sample rate, format word, `peakAtStart`, `canTruncate` — is the same -/
def OpRel (h h' : H) : Prop :=
  ∃ fr rp wp lo hw ah e cv off dl de fl pk, h' =
    { h with frames := fr, rpos := rp, wpos := wp, lastOp := lo, haveWritten := hw, autoHeader := ah, error := e,
             conv := cv, dataoffset := off, datalength := dl, dataend := de, filelength := fl, peak := pk }

theorem OpRel.of_eq {h h' : H} {fr rp wp lo hw ah e cv off dl de fl pk} (eq : h' =
    { h with frames := fr, rpos := rp, wpos := wp, lastOp := lo, haveWritten := hw, autoHeader := ah, error := e,
             conv := cv, dataoffset := off, datalength := dl, dataend := de, filelength := fl, peak := pk }) : OpRel h h' :=
  ⟨_, _, _, _, _, _, _, _, _, _, _, _, _, eq⟩

namespace HandleG

/-- no operation of any lawful container touches what the open call fixed -/
theorem stepAny_fields {c : Cont} (L : ContLaws c) (h : H) (s : Store) (op : Op) : OpRel h (stepAny c h s op).1 := by
  cases op with
  | read _ ty fc n =>
    obtain ⟨e, rp, lo, eq⟩ := stepRead_fields h s ty fc n
    exact .of_eq eq
  | write _ ty fc n data =>
    show OpRel h (stepWrite c h s ty fc n data).1
    by_cases hq : WriteValid h fc n
    · obtain ⟨fl, dl, off, de, pk, fr, e, _⟩ := stepWrite_fields L h s ty fc n data hq.1 hq.2.1 hq.2.2
      exact .of_eq e
    · obtain ⟨e, o, eq, _⟩ := stepWrite_quiet h s ty fc n data hq
      rw [stepWrite_refused c h s ty fc n data hq, eq]; exact .of_eq rfl
  | seek _ off whence =>
    obtain ⟨e, rp, wp, lo, eq⟩ := seekSpec_fields h s off whence
    exact .of_eq ((congrArg (·.1) (stepSeek_eq_spec h s off whence)).trans eq)
  | cmdFlag _ cmd size =>
    obtain ⟨cv, ah, ⟨fl, dl, off, fr, e, _⟩, _, _⟩ := stepCmdFlag_fields L h s cmd size
    exact .of_eq e
  | truncate _ f =>
    -- a seek on the handle with the error cleared, then `frames` is set
    obtain ⟨e, rp, wp, lo, eq⟩ := seekSpec_fields { h with error := 0 } s f 0
    rw [← stepSeek_eq_spec] at eq
    let P (r : H × Store × Out) : Prop := OpRel h r.1
    show P (stepTruncate h s f)
    unfold stepTruncate
    exact ite_ind (OpRel.of_eq rfl) (ite_ind (OpRel.of_eq rfl)
      (ite_ind (OpRel.of_eq eq) (OpRel.of_eq (congrArg (fun x : H => { x with frames := f }) eq))))
  | close _ => exact .of_eq rfl

theorem HInv_stepAny {c : Cont} (L : ContLaws c) (h : H) (s : Store) (op : Op) (hi : HInv h s) :
    HInv (stepAny c h s op).1 (stepAny c h s op).2.1 := by
  cases op with
  | read _ ty fc n => exact HInv_stepRead h s ty fc n hi
  | write _ ty fc n data => exact HInv_stepWrite L h s ty fc n data hi
  | seek _ off whence => exact HInv_stepSeek h s off whence hi
  | cmdFlag _ cmd size => exact HInv_stepCmdFlag L h s cmd size hi
  | truncate _ f => exact HInv_stepTruncate h s f hi
  | close _ =>
    by_cases hm : h.mode = .r
    · simp only [stepAny, L.close_r h s hm]; exact hi
    · exact hi.of_writable hm rfl rfl hi.rpos_nn hi.wpos_nn hi.off_nn

theorem HInv_runOps {c : Cont} (L : ContLaws c) (ops : List Op) :
    ∀ (h : H) (s : Store), HInv h s → HInv (runOps c h s ops).1 (runOps c h s ops).2 := by
  induction ops with
  | nil => intro h s hi; exact hi
  | cons op ops ih => intro h s hi; exact ih _ _ (HInv_stepAny L h s op hi)

end HandleG

theorem stepAny_fields (h : H) (s : Store) (op : Op) : OpRel h (stepAny h s op).1 :=
  stepAny_hCont h s op ▸ HandleG.stepAny_fields HandleG.hContLaws h s op

/-- the configuration of a handle: what no operation changes -/
structure SameCfg (h h' : H) : Prop where
  mode : h'.mode = h.mode
  container : h'.container = h.container
  enc : h'.enc = h.enc
  big : h'.big = h.big
  ch : h'.ch = h.ch
  sr : h'.sr = h.sr
  fmtWord : h'.fmtWord = h.fmtWord
  peakAtStart : h'.peakAtStart = h.peakAtStart
  canTruncate : h'.canTruncate = h.canTruncate

/-- the fields `SameCfg` compares, as one value: a handle that differs in other fields only has the same by `rfl` -/
def H.cfg (h : H) := (h.mode, h.container, h.enc, h.big, h.ch, h.sr, h.fmtWord, h.peakAtStart, h.canTruncate)

theorem SameCfg.of_cfg {h h' : H} (e : h'.cfg = h.cfg) : SameCfg h h' := by
  simp only [H.cfg, Prod.mk.injEq] at e
  obtain ⟨e1, e2, e3, e4, e5, e6, e7, e8, e9⟩ := e
  exact ⟨e1, e2, e3, e4, e5, e6, e7, e8, e9⟩

theorem SameCfg.refl (h : H) : SameCfg h h := .of_cfg rfl
theorem SameCfg.trans {a b c : H} (x : SameCfg a b) (y : SameCfg b c) : SameCfg a c :=
  ⟨y.mode.trans x.mode, y.container.trans x.container, y.enc.trans x.enc, y.big.trans x.big, y.ch.trans x.ch,
   y.sr.trans x.sr, y.fmtWord.trans x.fmtWord, y.peakAtStart.trans x.peakAtStart, y.canTruncate.trans x.canTruncate⟩

theorem SameCfg.of_OpRel {h h' : H} (w : OpRel h h') : SameCfg h h' := by
  obtain ⟨_, _, _, _, _, _, _, _, _, _, _, _, _, e⟩ := w
  subst e; exact .of_cfg rfl

theorem OpRel.store {h h' : H} (w : OpRel h h') : h'.store = h.store := by
  obtain ⟨_, _, _, _, _, _, _, _, _, _, _, _, _, e⟩ := w
  rw [e]

theorem SameCfg.stepAny (h : H) (s : Store) (op : Op) : SameCfg h (stepAny h s op).1 :=
  .of_OpRel (stepAny_fields h s op)

theorem HInv_stepAny (h : H) (s : Store) (op : Op) (hi : HInv h s) :
    HInv (stepAny h s op).1 (stepAny h s op).2.1 :=
  stepAny_hCont h s op ▸ HandleG.HInv_stepAny HandleG.hContLaws h s op hi

theorem HInv_runOps (ops : List Op) (h : H) (s : Store) (hi : HInv h s) : HInv (runOps h s ops).1 (runOps h s ops).2 :=
  runOps_hCont ops h s ▸ HandleG.HInv_runOps HandleG.hContLaws ops h s hi

end Sf
