/- Helper lemmas for the C12 property files (SfProps/C12*.lean): the slot loop of psf_store_string and texts in the store.
   The loop before the repair is `Sf.Meta.scan`, which `storeOld` and its `…_old_rule` witnesses run; the present loop
   (`firstFree`, `markBefore`) is brought to a normal form, the table split at its first free slot (`slots_split`), and one call
   of `Sf.Meta.store` is analysed on that form (`store_cases`). -/
import SfModel.Meta
import SfProofs.Bytes
namespace Sf.Meta

theorem scan_cons (ty : Int) (s : Slot) (rest : List Slot) :
    scan ty (s :: rest) =
      if s.type = ty then ({ s with type := -1 } :: (scan ty rest).1, (scan ty rest).2 + 1)
      else if s.type = 0 then (s :: rest, 0)
      else (s :: (scan ty rest).1, (scan ty rest).2 + 1) := by
  by_cases h : s.type = ty <;> simp [scan, h]

theorem scan_length (ty : Int) (l : List Slot) : (scan ty l).1.length = l.length := by
  induction l with
  | nil => simp [scan]
  | cons s t ih =>
    rw [scan_cons]
    split
    · simp [ih]
    · split <;> simp [ih]

theorem scan_index_le (ty : Int) (l : List Slot) : (scan ty l).2 ≤ l.length := by
  induction l with
  | nil => simp [scan]
  | cons s t ih =>
    rw [scan_cons]
    split
    · simp; omega
    · split <;> simp <;> omega

theorem scan_live_mem (ty : Int) (l : List Slot) (s : Slot) (h : s ∈ (scan ty l).1) (hp : s.type > 0) : s ∈ l := by
  induction l with
  | nil => simp [scan] at h
  | cons a t ih =>
    rw [scan_cons] at h
    split at h
    · rcases List.mem_cons.mp h with h | h
      · subst h; simp at hp
      · exact List.mem_cons_of_mem _ (ih h)
    · split at h
      · exact h
      · rcases List.mem_cons.mp h with h | h
        · subst h; simp
        · exact List.mem_cons_of_mem _ (ih h)

theorem scan_find_other (ty ty' : Int) (l : List Slot) (hne : ty' ≠ ty) (hm : ty' ≠ -1) :
    (scan ty l).1.find? (fun s => decide (s.type = ty')) = l.find? (fun s => decide (s.type = ty')) := by
  induction l with
  | nil => simp [scan]
  | cons a t ih =>
    rw [scan_cons]
    split
    · rename_i ha
      have h1 : ¬ a.type = ty' := by rw [ha]; exact fun h => hne h.symm
      simp [h1, ih, Ne.symm hm]
    · split
      · rfl
      · simp [List.find?_cons, ih]

theorem cstr_append_of_lt (l m : List Byte) (h : (cstr l).length < l.length) : cstr (l ++ m) = cstr l := by
  unfold cstr at h ⊢
  rw [List.takeWhile_append, if_neg (by omega)]

theorem cstr_length_le (l : List Byte) : (cstr l).length ≤ l.length := (List.takeWhile_sublist _).length_le

theorem cstr_ne_zero (l : List Byte) : ∀ b ∈ cstr l, b ≠ 0 := fun b hb =>
  of_decide_eq_true (List.all_eq_true.mp List.all_takeWhile b hb)

theorem cstr_no_zero (s : List Byte) (h : ∀ b ∈ s, b ≠ 0) : cstr s = s :=
  takeWhile_all _ s (by simpa using h)

theorem cstr_append_zero_gen (s r : List Byte) : cstr (s ++ 0 :: r) = cstr s := by
  induction s with
  | nil => simp [cstr]
  | cons a t ih =>
    simp only [cstr, List.cons_append, List.takeWhile_cons] at ih ⊢
    split
    · rw [ih]
    · rfl

theorem cstr_append_zero (s r : List Byte) (h : ∀ b ∈ s, b ≠ 0) : cstr (s ++ 0 :: r) = s := by
  rw [cstr_append_zero_gen, cstr_no_zero s h]

theorem firstFree_le (l : List Slot) : firstFree l ≤ l.length := by
  induction l with
  | nil => simp [firstFree]
  | cons s t ih => simp only [firstFree]; split <;> simp <;> omega

/-! ### the slot loop in normal form

The loop of psf_store_string splits the table at its first free slot: `A ++ s :: B` with no free slot in `A` and `s` free.
Storing marks the entries of `A` that have the new type and puts the new entry in place of `s`. -/

/-- what the slot loop does to an entry in front of the free slot: one of the type being stored becomes "replaced" -/
def mark (ty : Int) (s : Slot) : Slot := if s.type = ty then { s with type := -1 } else s

theorem firstFree_append (A B : List Slot) (h : ∀ s ∈ A, s.type ≠ 0) : firstFree (A ++ B) = A.length + firstFree B := by
  induction A with
  | nil => simp
  | cons a A ih =>
    have ha : a.type ≠ 0 := h a (by simp)
    simp only [List.cons_append, firstFree, ha, if_false, List.length_cons]
    rw [ih (fun s hs => h s (by simp [hs]))]
    omega

theorem slots_split : ∀ (l : List Slot), firstFree l < l.length →
    ∃ A s B, l = A ++ s :: B ∧ A.length = firstFree l ∧ (∀ a ∈ A, a.type ≠ 0) ∧ s.type = 0
  | [], h => by simp at h
  | a :: l, h => by
    by_cases ha : a.type = 0
    · exact ⟨[], a, l, rfl, by simp [firstFree, ha], by simp, ha⟩
    · simp only [firstFree, if_neg ha, List.length_cons] at h ⊢
      obtain ⟨A, s, B, rfl, hl, hA, hs⟩ := slots_split l (by omega)
      exact ⟨a :: A, s, B, rfl, by simp [hl], by simpa [ha] using hA, hs⟩

theorem markBefore_set (ty : Int) (A B : List Slot) (s x : Slot) :
    (markBefore ty A.length (A ++ s :: B)).set A.length x = A.map (mark ty) ++ x :: B := by
  induction A with
  | nil => simp [markBefore]
  | cons a A ih => simp [markBefore, mark, ih]

theorem mark_live (ty : Int) (a : Slot) (h : (mark ty a).type > 0) : mark ty a = a := by
  unfold mark at h ⊢
  split
  · rw [if_pos ‹_›] at h; simp at h
  · rfl

theorem find_stored (ty ty' : Int) (A B : List Slot) (s x : Slot) (hs : s.type = 0) (hx : x.type = ty) (hty : ty ≠ -1)
    (h0 : ty' ≠ 0) (hm : ty' ≠ -1) :
    (A.map (mark ty) ++ x :: B).find? (fun s => decide (s.type = ty')) =
      if ty' = ty then some x else (A ++ s :: B).find? (fun s => decide (s.type = ty')) := by
  induction A with
  | nil =>
    by_cases h : ty' = ty
    · simp [h, hx]
    · simp [h, hx, hs, Ne.symm h0, Ne.symm h]
  | cons a A ih =>
    simp only [List.map_cons, List.cons_append, List.find?_cons, ih]
    have hm' : ¬ (-1 : Int) = ty' := fun e => hm e.symm
    have hty' : ¬ (-1 : Int) = ty := fun e => hty e.symm
    by_cases ha : a.type = ty <;> by_cases h : ty' = ty
    -- a marked entry answers to no type that can be asked for; before, it answered to `ty`
    · simp [mark, ha, h, hty']
    · simp [mark, ha, hm', h, Ne.symm h]
    · simp [mark, ha, h]
    · simp [mark, ha, h]

theorem init_inv (fl : Nat) : (Strings.init fl).Inv := by
  refine ⟨by simp [Strings.init], by simp [Strings.init, Strings.used], ?_⟩
  intro s hs hp
  simp only [Strings.init, List.mem_replicate] at hs
  rw [hs.2] at hp; simp [Slot.free] at hp

/-- the text a successful call stores -/
def storedText (e : Env) (ty : Int) (str : List Byte) : List Byte :=
  if ty = 3 && isWriteMode e.mode then softwareText e.pkgName e.pkgVersion str else str

/-- What one psf_store_string does, as a case analysis: the call is refused with a non-zero code and the table is the one
    passed in, or the table splits at its first free slot as `A ++ s :: B`, the type is valid, the entries of that type in `A`
    are marked as replaced and the new entry stands in place of `s`.  Everything below that speaks of `store` goes through this. -/
theorem store_cases (e : Env) (t : Strings) (ty : Int) (str : List Byte) (P : Nat × Strings → Prop)
    (refused : ∀ code, code ≠ 0 → P (code, t))
    (stored : ∀ A s B fl, t.slots = A ++ s :: B → (∀ a ∈ A, a.type ≠ 0) → s.type = 0 → validType ty = true →
      P (0, { slots := A.map (mark ty) ++ ⟨ty, fl, t.storage.length⟩ :: B,
              storage := t.storage ++ storedText e ty str ++ [0],
              cap := if t.storage.length + ((storedText e ty str).length + 1) + 1 > t.cap
                     then max 256 (2 * t.cap + ((storedText e ty str).length + 1) + 1) else t.cap,
              flags := t.flags ||| fl })) :
    P (store e t ty str) := by
  have no (code : Nat) (h : code ≠ 0 := by decide) : P (code, t) := refused code h
  unfold store
  -- the guard chain is taken apart one `if` at a time with the motive given by hand: `split` would simplify the whole
  -- remaining chain again at every guard
  iterate 4 refine iteInduction (motive := P) (fun _ => no _) fun _ => ?_
  refine iteInduction (motive := P) (fun _ => no _) fun hfree => ?_
  refine iteInduction (motive := P) (fun _ => no _) fun _ => ?_
  refine iteInduction (motive := P) (fun _ => no _) fun _ => ?_
  refine iteInduction (motive := P) (fun _ => no _) fun hvalid => ?_
  obtain ⟨A, s, B, hsplit, hlen, hA, hs⟩ := slots_split t.slots (by omega)
  dsimp only
  rw [← hlen, hsplit, markBefore_set]
  exact stored A s B _ hsplit hA hs (by simpa using hvalid)

/-- `strings_store_inv`, one call: offsets stay inside the used part of the store and `used ≤ capacity`, whatever the
    mode, the type, the text and the outcome of the call -/
theorem store_inv (e : Env) (t : Strings) (ty : Int) (str : List Byte) (h : t.Inv) : (store e t ty str).2.Inv := by
  refine store_cases e t ty str (fun r => r.2.Inv) (fun _ _ => h) fun A s B fl hsplit _ _ _ => ?_
  obtain ⟨h1, h2, h3⟩ := h
  generalize storedText e ty str = text
  simp only [Strings.used] at h2 h3
  refine ⟨by simpa [hsplit] using h1, ?_, ?_⟩
  · simp only [Strings.used, List.length_append, List.length_cons, List.length_nil]
    split <;> omega
  · intro x hx hp
    simp only [Strings.used, List.length_append, List.length_cons, List.length_nil]
    -- an older entry is one of the old table (the marks left it alone); the other case is the new entry
    have hold : x ∈ t.slots ∨ x = ⟨ty, fl, t.storage.length⟩ := by
      rw [hsplit]
      rcases List.mem_append.mp hx with hx | hx
      · obtain ⟨a, ha, rfl⟩ := List.mem_map.mp hx
        rw [mark_live ty a hp]; simp [ha]
      · rcases List.mem_cons.mp hx with rfl | hx
        · exact Or.inr rfl
        · simp [hx]
    rcases hold with hm | rfl
    · -- its text ends inside the old store, so the appended bytes do not reach it
      obtain ⟨a, b⟩ := h3 x hm hp
      refine ⟨by omega, ?_⟩
      rw [List.append_assoc, List.drop_append_of_le_length (by omega)]
      rw [cstr_append_of_lt _ _ (by simp only [List.length_drop]; omega)]
      omega
    · -- the new entry: its text is followed by the terminator just written
      dsimp only
      refine ⟨by omega, ?_⟩
      rw [List.append_assoc, List.drop_left, cstr_append_zero_gen]
      have := cstr_length_le text
      omega

/-- a refused psf_store_string leaves the whole table as it was (full strength since the repair of the slot loop) -/
theorem store_refused_unchanged (e : Env) (t : Strings) (ty : Int) (str : List Byte) :
    (store e t ty str).1 ≠ 0 → (store e t ty str).2 = t :=
  store_cases e t ty str (fun r => r.1 ≠ 0 → r.2 = t) (fun _ _ _ => rfl) (fun _ _ _ _ _ _ _ _ h => absurd rfl h)

theorem validType_ne_zero (ty : Int) (h : validType ty = true) : ty ≠ 0 ∧ ty ≠ -1 := by
  unfold validType at h
  constructor <;> (intro h0; subst h0; simp at h)

theorem store_ok (e : Env) (t : Strings) (ty : Int) (str : List Byte) (hok : (store e t ty str).1 = 0) :
    ∃ A s B fl, t.slots = A ++ s :: B ∧ (∀ a ∈ A, a.type ≠ 0) ∧ s.type = 0 ∧ validType ty = true ∧
      (store e t ty str).2.slots = A.map (mark ty) ++ ⟨ty, fl, t.storage.length⟩ :: B ∧
      (store e t ty str).2.storage = t.storage ++ storedText e ty str ++ [0] := by
  revert hok
  exact store_cases e t ty str
    (fun r => r.1 = 0 → ∃ A s B fl, t.slots = A ++ s :: B ∧ (∀ a ∈ A, a.type ≠ 0) ∧ s.type = 0 ∧ validType ty = true ∧
      r.2.slots = A.map (mark ty) ++ ⟨ty, fl, t.storage.length⟩ :: B ∧ r.2.storage = t.storage ++ storedText e ty str ++ [0])
    (fun _ hcode h0 => absurd h0 hcode) (fun A s B fl h1 h2 h3 h4 _ => ⟨A, s, B, fl, h1, h2, h3, h4, rfl, rfl⟩)

theorem store_get (e : Env) (t : Strings) (ty : Int) (str : List Byte) (hinv : t.Inv) (hok : (store e t ty str).1 = 0) :
    get (store e t ty str).2 ty = some (cstr (storedText e ty str)) ∧
    ∀ ty' : Int, ty' > 0 → ty' ≠ ty → get (store e t ty str).2 ty' = get t ty' := by
  obtain ⟨A, s, B, fl, hsplit, _, hs, hvalid, hslots, hstorage⟩ := store_ok e t ty str hok
  have htyv := validType_ne_zero ty hvalid
  obtain ⟨h1, h2, h3⟩ := hinv
  simp only [Strings.used] at h2 h3
  generalize storedText e ty str = text at hstorage ⊢
  constructor
  · simp only [get, hslots, hstorage]
    rw [find_stored ty ty A B s _ hs rfl htyv.2 htyv.1 htyv.2, if_pos rfl]
    simp only [Option.map_some]
    rw [List.append_assoc, List.drop_left]
    simp [cstr_append_zero_gen]
  · intro ty' hpos hne
    simp only [get, hslots, hstorage]
    rw [find_stored ty ty' A B s _ hs rfl htyv.2 (by omega) (by omega), if_neg hne, ← hsplit]
    cases hf : t.slots.find? (fun s => decide (s.type = ty')) with
    | none => rfl
    | some s =>
      have hs := List.mem_of_find?_eq_some hf
      have hst : s.type = ty' := by simpa using List.find?_some hf
      obtain ⟨a, b⟩ := h3 s hs (by omega)
      simp only [Option.map_some]
      rw [List.append_assoc, List.drop_append_of_le_length (by omega), cstr_append_of_lt _ _ (by simp only [List.length_drop]; omega)]

end Sf.Meta
