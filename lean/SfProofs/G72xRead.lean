/-
  The `sf_read_*` wrapper of src/g72x.c (`Sf.G72x.RHandle.read`) on top of the staging loop that stops after a short piece
  (`readChunkedBrk_staged`, SfProofs/BlockStaged.lean): what a request of ANY size at ANY position delivers.  Helpers for
  SfProps/C06G72x.lean.
-/
import SfProofs.BlockStaged
import SfModel.G72xFile
namespace Sf.G72x.Proofs
open Sf Sf.G72x Sf.Block Sf.Block.Proofs

/-- invariant of a read handle: its reader is a one-channel well-formed block reader, `sf.frames` is the reader's
    frame count, and unless the end of the data was reached the codec state sits at `read_current` -/
structure HInv (h : RHandle) : Prop where
  wf : WF h.r
  ch : h.r.ch = 1
  fr : h.frames = h.r.frames
  le : h.pos ≤ h.frames
  st : h.pos = h.frames ∨ (Inv h.r h.st ∧ h.r.pos h.st = h.pos)

/-- **sf_read_T, any request at any position**: with c = min (n, frames − position) the call returns c, the caller's
    n cells hold stream items [position, position + c) followed by zeros, the position advances by c, the reader
    and the frame count stay, and the invariant is kept -/
theorem read_spec (h : RHandle) (hi : HInv h) (ty : Ty) (n : Nat) :
    (h.read ty n).2.1 = h.r.slice h.pos (min n (h.frames - h.pos)) ++ zeros (n - min n (h.frames - h.pos)) ∧
    (h.read ty n).2.2 = min n (h.frames - h.pos) ∧
    (h.read ty n).1.pos = h.pos + min n (h.frames - h.pos) ∧
    (h.read ty n).1.r = h.r ∧ (h.read ty n).1.frames = h.frames ∧ HInv (h.read ty n).1 := by
  unfold RHandle.read
  by_cases hn : n = 0
  · subst hn
    simp only [if_true, Nat.zero_min, Nat.add_zero, Nat.sub_zero]
    exact ⟨by simp [slice_zero, zeros], by trivial, by trivial, by trivial, by trivial, hi⟩
  · rw [if_neg hn]
    by_cases hend : h.pos ≥ h.frames
    · rw [if_pos hend]
      have hz : h.frames - h.pos = 0 := by omega
      simp only [hz, Nat.min_zero, Nat.add_zero, Nat.sub_zero]
      exact ⟨by simp [slice_zero], by trivial, by trivial, by trivial, by trivial, hi⟩
    · rw [if_neg hend]
      obtain ⟨inv, hp⟩ : Inv h.r h.st ∧ h.r.pos h.st = h.pos := hi.st.resolve_left (by omega)
      obtain ⟨count, k, st', hk, hmin, hres, inv', hpos'⟩ :=
        readChunkedBrk_staged h.r hi.wf hi.ch (chunkOf ty) (n + 1) h.st n [] 0 inv rfl (Nat.lt_succ_self n)
      rw [hres, List.nil_append, Nat.zero_add]
      rw [hp, ← hi.fr] at hmin
      rw [hp] at hpos'
      have hc : min count (h.frames - h.pos) = min n (h.frames - h.pos) := by omega
      simp only [hp, hc]
      generalize hcc : min n (h.frames - h.pos) = c at *
      refine ⟨?_, by trivial, by trivial, by trivial, by trivial, hi.wf, hi.ch, hi.fr, by show h.pos + c ≤ h.frames; omega, ?_⟩
      · rw [List.take_append_of_le_length (by rw [slice_length]; omega), slice_take _ _ _ _ (by omega)]
      · show h.pos + c = h.frames ∨ (Inv h.r st' ∧ h.r.pos st' = h.pos + c)
        by_cases hfull : n ≤ h.frames - h.pos
        · exact .inr ⟨inv', by rw [hpos']; omega⟩
        · exact .inl (by omega)

end Sf.G72x.Proofs
