/-
  WAVEX: header length, and the write session invariant "store = some header of the right length ++ the audio so far";
  every header written with recomputed lengths is `hdrSnap`, wav_close leaves `image` (helpers for SfProps/C04Wavex.lean).
-/
import SfModel.Wavex
import SfProofs.Bytes
namespace Sf.Wavex
open Sf

theorem u_length (big : Bool) (n : Nat) (v : Int) : (u big n v).length = n := by
  unfold u; split <;> simp [beBytes_length, leBytes_length]

theorem mk_lengths : (mk "RIFF").length = 4 ∧ (mk "RIFX").length = 4 ∧ (mk "WAVE").length = 4 ∧ (mk "fmt ").length = 4 ∧
    (mk "fact").length = 4 ∧ (mk "PEAK").length = 4 ∧ (mk "data").length = 4 := by decide

theorem fmtChunk_length (big : Bool) (codec ch sr : Nat) : (fmtChunk big codec ch sr).length = 48 := by
  obtain ⟨-, -, -, gfmt, -⟩ := mk_lengths
  simp [fmtChunk, guid, u_length, gfmt]

theorem hdrRaw_length (c : Cfg) (fl dl fr : Int) (pk : List Peak) (hpk : isFloat c.codec = true → pk.length = c.ch) :
    (hdrRaw c fl dl fr pk).length = hdrLen c := by
  obtain ⟨g1, g2, g3, g4, g5, g6, g7⟩ := mk_lengths
  have hm : (if c.big = true then mk "RIFX" else mk "RIFF").length = 4 := by
    split
    · exact g2
    · exact g1
  have hp : (if isFloat c.codec = true then peakChunk c.big c.ch pk else []).length = if isFloat c.codec = true then 16 + 8 * c.ch else 0 := by
    split
    · next hf =>
      simp only [peakChunk, List.length_append, g6, u_length, hpk hf,
        flatMap_length_const 8 (peakEntry c.big) pk fun _ _ => by simp only [peakEntry, List.length_append, u_length]]
      omega
    · rfl
  simp only [hdrRaw, List.length_append, hm, hp, u_length, fmtChunk_length, factChunk, g3, g5, g7]
  unfold hdrLen
  omega

theorem writeAt_head (h0 rest h : List Byte) (hl : h.length = h0.length) : writeAt (h0 ++ rest) 0 h = h ++ rest := by
  simp [writeAt, hl]
theorem writeAt_end (bs d : List Byte) : writeAt bs bs.length d = bs ++ d := by simp [writeAt]

structure Inv (c : Cfg) (s : St) (D : List Byte) (w : Nat) (pk : List Peak) : Prop where
  hdr0 : ∃ h0 : List Byte, h0.length = hdrLen c ∧ s.bytes = h0 ++ D
  pos : s.pos = s.bytes.length
  off : s.dataoffset = hdrLen c
  wpos : s.wpos = w
  frames : s.frames = w
  dlen : D.length = w * c.bw
  dend : s.dataend = 0
  peaks : s.peaks = pk
  pklen : isFloat c.codec = true → pk.length = c.ch

theorem hdrLen_ge (c : Cfg) : 80 ≤ hdrLen c := by unfold hdrLen; omega

theorem frames_bytes (c : Cfg) (w : Nat) : (w : Int) * (bytewidth c.codec : Int) * (c.ch : Int) = ((w * c.bw : Nat) : Int) := by
  rw [Int.mul_assoc]; simp [Cfg.bw]

theorem writeHeader_keeps (c : Cfg) (s : St) (b : Bool) :
    (writeHeader c s b).wpos = s.wpos ∧ (writeHeader c s b).frames = s.frames ∧ (writeHeader c s b).dataend = s.dataend ∧
    (writeHeader c s b).peaks = s.peaks ∧ (writeHeader c s b).auto = s.auto := by
  cases b
  · simp [writeHeader]
  · simp [writeHeader]

theorem writeHeader_inv {c : Cfg} {s : St} {D : List Byte} {w : Nat} {pk : List Peak} (i : Inv c s D w pk) (b : Bool) :
    Inv c (writeHeader c s b) D w pk ∧ (b = true → (writeHeader c s b).bytes = hdrSnap c w pk ++ D) ∧ (writeHeader c s b).auto = s.auto := by
  obtain ⟨h0, hl, hb⟩ := i.hdr0
  have hp := hdrLen_ge c
  have hlen : s.bytes.length = hdrLen c + w * c.bw := by rw [hb]; simp [hl, i.dlen]
  have hpos2 : s.pos > 0 := by rw [i.pos, hlen]; omega
  have hlenH : ∀ fl dl fr, (hdrRaw c fl dl fr s.peaks).length = hdrLen c := fun fl dl fr => hdrRaw_length c _ _ _ _ (by rw [i.peaks]; exact i.pklen)
  -- the position after the header write is the end of the store in both branches
  have hposEnd : ∀ L : Nat, L = hdrLen c →
      (if (!decide ((s.pos : Int) > s.dataoffset)) = true then L else if s.pos > 0 then s.pos else L) = hdrLen c + w * c.bw := by
    intro L hL
    by_cases hw : w * c.bw = 0
    · have h1 : ¬ ((s.pos : Int) > s.dataoffset) := by rw [i.off, i.pos, hlen]; omega
      have h2 : (!decide ((s.pos : Int) > s.dataoffset)) = true := by simp [h1]
      rw [h2, if_pos rfl, hL, hw]; rfl
    · have h1 : (s.pos : Int) > s.dataoffset := by rw [i.off, i.pos, hlen]; omega
      have h2 : (!decide ((s.pos : Int) > s.dataoffset)) = false := by simp [h1]
      rw [h2]; simp only [Bool.false_eq_true, if_false, hpos2, if_true]; rw [i.pos, hlen]
  obtain ⟨kw, kf, kd, kp, ka⟩ := writeHeader_keeps c s b
  cases b with
  | false =>
    refine ⟨⟨⟨hdrRaw c s.filelength s.datalength s.frames s.peaks, hlenH _ _ _, ?_⟩, ?_, ?_, kw.trans i.wpos, kf.trans i.frames, i.dlen,
      kd.trans i.dend, kp.trans i.peaks, i.pklen⟩, by simp, ka⟩
    · simp only [writeHeader, Bool.false_eq_true, if_false]; rw [hb]; exact writeAt_head h0 D _ (by rw [hlenH, hl])
    · simp only [writeHeader, Bool.false_eq_true, if_false]
      rw [hposEnd _ (hlenH _ _ _), hb, writeAt_head h0 D _ (by rw [hlenH, hl])]; simp [hlenH, i.dlen]
    · simp only [writeHeader, Bool.false_eq_true, if_false]; exact congrArg _ (hlenH _ _ _)
  | true =>
    have hde : (s.dataend != 0) = false := by rw [i.dend]; rfl
    have hdl : s.frames * (bytewidth c.codec : Int) * (c.ch : Int) = ((w * c.bw : Nat) : Int) := by rw [i.frames]; exact frames_bytes c w
    have hfl : (s.bytes.length : Int) = ((hdrLen c + w * c.bw : Nat) : Int) := by rw [hlen]
    have hsl : (hdrSnap c w pk).length = hdrLen c := hdrRaw_length c _ _ _ _ i.pklen
    have hbytes : (writeHeader c s true).bytes = hdrSnap c w pk ++ D := by
      have e : (writeHeader c s true).bytes = writeAt s.bytes 0 (hdrRaw c (s.bytes.length : Int) (s.frames * (bytewidth c.codec : Int) * (c.ch : Int)) s.frames s.peaks) := by
        simp only [writeHeader, if_true, hde, Bool.false_eq_true, if_false]
      rw [e, hdl, hfl, i.frames, i.peaks, hb]
      exact writeAt_head h0 D (hdrSnap c w pk) (by rw [hl]; exact hsl)
    refine ⟨⟨⟨hdrSnap c w pk, hsl, hbytes⟩, ?_, ?_, kw.trans i.wpos, kf.trans i.frames, i.dlen, kd.trans i.dend, kp.trans i.peaks, i.pklen⟩,
      fun _ => hbytes, ka⟩
    · have : (writeHeader c s true).pos = hdrLen c + w * c.bw := by
        simp only [writeHeader, if_true, hde, Bool.false_eq_true, if_false]
        exact hposEnd _ (hlenH _ _ _)
      rw [this, hbytes]; simp [hsl, i.dlen]
    · simp only [writeHeader, if_true, hde, Bool.false_eq_true, if_false]; exact congrArg _ (hlenH _ _ _)

theorem openW_inv (c : Cfg) (stale : Int) : Inv c (openW c stale) [] 0 (initPeaks c) := by
  have hhl : ∀ fl dl fr, (hdrRaw c fl dl fr (initPeaks c)).length = hdrLen c := fun _ _ _ => hdrRaw_length c _ _ _ _ (by intro h; simp [initPeaks, h])
  have hp := hdrLen_ge c
  have e : (if isFloat c.codec = true then List.replicate c.ch ({} : Peak) else []) = initPeaks c := rfl
  refine ⟨⟨hdrRaw c 0 0 0 (initPeaks c), hhl _ _ _, ?_⟩, ?_, ?_, rfl, rfl, by simp, rfl, rfl, by intro h; simp [initPeaks, h]⟩
  · simp [openW, writeHeader, writeAt, e]
  · simp [openW, writeHeader, writeAt, e, hhl]
  · simp [openW, writeHeader, e, hhl]

/-- a write call that transfers something, up to the header rewrite of auto mode: the data lands at the end of the store, the
    PEAK table of a float / double file becomes the one handed over -/
theorem write_data_inv {c : Cfg} {s : St} {D : List Byte} {w : Nat} {pk : List Peak} (i : Inv c s D w pk) (k : Nat)
    (data : List Byte) (p : List Peak) (h0 : k ≠ 0) (hk : data.length = k * c.bw) (hpl : p.length = c.ch) :
    ∃ s3, Inv c s3 (D ++ data) (w + k) (nextPeaks c pk (.write k data p)) ∧ s3.auto = s.auto ∧
      step c s (.write k data p) = if s3.auto = true then writeHeader c s3 true else s3 := by
  have hkb : (k == 0) = false := by simpa using h0
  simp only [step, hkb, Bool.false_eq_true, if_false, nextPeaks, false_or]
  generalize hs1 : (if (!s.written) = true then writeHeader c s false else s) = s1
  have i1 : Inv c s1 D w pk ∧ s1.auto = s.auto := by
    rw [← hs1]; split
    · exact ⟨(writeHeader_inv i false).1, (writeHeader_inv i false).2.2⟩
    · exact ⟨i, rfl⟩
  obtain ⟨i1, ha1⟩ := i1
  obtain ⟨h0', hl, hb⟩ := i1.hdr0
  have hgt : s1.wpos + (k : Int) > s1.frames := by rw [i1.wpos, i1.frames]; omega
  have hw : s1.wpos + (k : Int) = ((w + k : Nat) : Int) := by rw [i1.wpos]; push_cast; rfl
  have hpk' : (if isFloat c.codec = true then p else s1.peaks) = if (!isFloat c.codec) = true then pk else p := by
    rw [i1.peaks]; cases isFloat c.codec <;> simp
  refine ⟨{ s1 with written := true, peaks := if (!isFloat c.codec) = true then pk else p, bytes := writeAt s1.bytes s1.pos data,
                    pos := s1.pos + data.length, wpos := s1.wpos + k, frames := s1.wpos + k, dataend := 0 },
    ⟨⟨h0', hl, ?_⟩, ?_, i1.off, hw, hw, ?_, rfl, rfl, ?_⟩, ha1, ?_⟩
  · show writeAt s1.bytes s1.pos data = _
    rw [i1.pos, writeAt_end, hb, List.append_assoc]
  · show s1.pos + data.length = (writeAt s1.bytes s1.pos data).length
    rw [i1.pos, writeAt_end]; simp
  · simp [i1.dlen, hk, Nat.add_mul]
  · intro hf; simp only [hf]; simpa using hpl
  · simp only [hgt, if_true, hpk']

theorem step_inv {c : Cfg} {s : St} {D : List Byte} {w : Nat} {pk : List Peak} (i : Inv c s D w pk) (op : Op) (hv : op.valid c) :
    Inv c (step c s op) (D ++ op.data) (w + op.frames) (nextPeaks c pk op) ∧
    (∀ k data p, op = .write k data p → k ≠ 0 → s.auto = true →
      (step c s op).bytes = hdrSnap c (w + k) (nextPeaks c pk op) ++ (D ++ data)) := by
  cases op with
  | update =>
    refine ⟨by simpa [step, Op.data, Op.frames, nextPeaks] using (writeHeader_inv i true).1, ?_⟩
    intro k data p h; cases h
  | auto on =>
    refine ⟨?_, by intro k data p h; cases h⟩
    simp only [step, Op.data, Op.frames, List.append_nil, Nat.add_zero, nextPeaks]
    exact ⟨i.hdr0, i.pos, i.off, i.wpos, i.frames, i.dlen, i.dend, i.peaks, i.pklen⟩
  | write k data p =>
    by_cases h0 : k = 0
    · subst h0
      refine ⟨by simpa [step, Op.data, Op.frames, nextPeaks] using i, ?_⟩
      intro k' d' p' h hk'; cases h; exact absurd rfl hk'
    · have hkb : (k == 0) = false := by simpa using h0
      obtain ⟨s3, i3, ha3, e⟩ := write_data_inv i k data p h0 hv.1 hv.2
      simp only [Op.data, hkb, Bool.false_eq_true, if_false, Op.frames]
      rw [e]
      constructor
      · split
        · exact (writeHeader_inv i3 true).1
        · exact i3
      · intro k' d' p' h hk' ha
        cases h
        rw [ha3, ha, if_pos rfl]
        exact (writeHeader_inv i3 true).2.1 rfl

theorem run_inv {c : Cfg} (ops : List Op) : ∀ {s : St} {D : List Byte} {w : Nat} {pk : List Peak}, Inv c s D w pk → (∀ op ∈ ops, op.valid c) →
    Inv c (run c s ops) (D ++ sessData ops) (w + sessFrames ops) (ops.foldl (nextPeaks c) pk) := by
  induction ops with
  | nil => intro s D w pk i _; simpa [run, sessData, sessFrames] using i
  | cons op ops ih =>
    intro s D w pk i hv
    have i1 := (step_inv i op (hv op (by simp))).1
    have := ih i1 (fun o ho => hv o (by simp [ho]))
    simpa [run, sessData, sessFrames, List.flatMap_cons, Nat.add_assoc] using this

/-- what every valid session has reached: its data, its frames, its last peak table -/
theorem session_inv (c : Cfg) (stale : Int) (ops : List Op) (hv : ∀ op ∈ ops, op.valid c) :
    Inv c (run c (openW c stale) ops) (sessData ops) (sessFrames ops) (sessPeaks c ops) := by
  simpa [sessPeaks] using run_inv ops (openW_inv c stale) hv

/-- a header rewrite with recomputed lengths, after `dataend` has been set: the data size written is `dataend - dataoffset` -/
theorem writeHeader_bytes_dataend {c : Cfg} {s : St} {h0 X : List Byte} {pk : List Peak} {n : Nat} {fr : Int} (hb : s.bytes = h0 ++ X)
    (hl : h0.length = hdrLen c) (hoff : s.dataoffset = hdrLen c) (hde : s.dataend = ((hdrLen c + n : Nat) : Int)) (hfr : s.frames = fr)
    (hpk : s.peaks = pk) (hpl : isFloat c.codec = true → pk.length = c.ch) :
    (writeHeader c s true).bytes = hdrRaw c ((hdrLen c + X.length : Nat) : Int) (n : Int) fr pk ++ X := by
  have hp := hdrLen_ge c
  have hne : (s.dataend != 0) = true := by rw [hde]; simp; omega
  have hfl : (s.bytes.length : Int) = ((hdrLen c + X.length : Nat) : Int) := by rw [hb]; simp [hl]
  have hdl : ((hdrLen c + X.length : Nat) : Int) - s.dataoffset - (((hdrLen c + X.length : Nat) : Int) - s.dataend) = (n : Int) := by
    rw [hoff, hde]; push_cast; omega
  simp only [writeHeader, if_true, hne, hfl, hdl, hfr, hpk]
  rw [hb]
  exact writeAt_head h0 X _ (by rw [hl]; exact hdrRaw_length c _ _ _ _ hpl)

/-- wav_close: tailer and final header -/
theorem close_bytes {c : Cfg} {s : St} {D : List Byte} {w : Nat} {pk : List Peak} (i : Inv c s D w pk) :
    (close c s).bytes = image c w pk D := by
  obtain ⟨h0, hl, hb⟩ := i.hdr0
  have hp := hdrLen_ge c
  have hlen : s.bytes.length = hdrLen c + w * c.bw := by rw [hb]; simp [hl, i.dlen]
  have hde : s.dataoffset + s.frames * (bytewidth c.codec : Int) * (c.ch : Int) = ((hdrLen c + w * c.bw : Nat) : Int) := by
    rw [i.frames, frames_bytes c w, i.off]; push_cast; rfl
  unfold close
  simp only [hde]
  have hpos : ((hdrLen c + w * c.bw : Nat) : Int) > 0 := by omega
  have hpar : ((((hdrLen c + w * c.bw : Nat) : Int) % 2 == 1)) = ((hdrLen c + w * c.bw) % 2 == 1) := by
    rw [Bool.eq_iff_iff, beq_iff_eq, beq_iff_eq]; omega
  simp only [hpos, if_true, Int.toNat_natCast, hpar]
  have himg : image c w pk D = hdrRaw c ((hdrLen c + (D ++ tail c w).length : Nat) : Int) ((w * c.bw : Nat) : Int) w pk ++ (D ++ tail c w) := by
    simp [image, hdr, i.dlen, Nat.add_assoc]
  rw [himg]
  unfold tail
  cases (hdrLen c + w * c.bw) % 2 == 1
  · simp only [Bool.false_eq_true, if_false, List.append_nil]
    exact writeHeader_bytes_dataend hb hl i.off rfl i.frames i.peaks i.pklen
  · have hw : writeAt s.bytes (hdrLen c + w * c.bw) [0] = h0 ++ (D ++ [0]) := by
      rw [← hlen, writeAt_end, hb, List.append_assoc]
    simp only [if_true]
    exact writeHeader_bytes_dataend hw hl i.off rfl i.frames i.peaks i.pklen

end Sf.Wavex
