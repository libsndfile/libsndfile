/-
  Helper lemmas about the G.72x model (SfModel/G72x.lean, G72xFile.lean): ranges of `s16`, `quan`, the quantizer's
  code, lengths of the packed / unpacked / encoded / decoded lists.
-/
import SfModel.G72xFile
import SfProofs.Bytes
namespace Sf.G72x.Proofs
open Sf Sf.G72x Sf.Block

theorem s16_range (x : Int) : -32768 ≤ s16 x ∧ s16 x ≤ 32767 := wrapS16_range x

theorem s16_id (x : Int) (h1 : -32768 ≤ x) (h2 : x ≤ 32767) : s16 x = x := wrapS_of_range 16 x (by omega) (by omega)

theorem quan_bounds (v : Int) : ∀ (t : List Int), 0 ≤ quan v t ∧ quan v t ≤ t.length := by
  intro t
  induction t with
  | nil => simp [quan]
  | cons a t ih =>
    simp only [quan, List.length_cons]
    split
    · constructor <;> omega
    · constructor <;> push_cast <;> omega

theorem quantize_range (d y : Int) (table : List Int) :
    1 ≤ quantize d y table ∧ quantize d y table ≤ 2 * table.length + 1 := by
  unfold quantize
  simp only
  generalize hq : quan _ table = i
  have hb : 0 ≤ i ∧ i ≤ table.length := hq ▸ quan_bounds _ table
  split
  · omega
  · split <;> omega

theorem unpackLoop_length (bits : Nat) : ∀ (k buf nb : Nat) (bs : List Byte), (unpackLoop bits k buf nb bs).length = k := by
  intro k
  induction k with
  | zero => intro buf nb bs; simp [unpackLoop]
  | succ k ih =>
    intro buf nb bs
    simp only [unpackLoop]
    split <;> simp [ih]

theorem unpack_length (bits : Nat) (block : List Byte) : (unpack bits block).length = blockSamples :=
  unpackLoop_length bits _ _ _ _

theorem unpackLoop_lt (bits : Nat) : ∀ (k buf nb : Nat) (bs : List Byte), ∀ c ∈ unpackLoop bits k buf nb bs, c < 2 ^ bits := by
  intro k
  induction k with
  | zero => intro buf nb bs c hc; simp [unpackLoop] at hc
  | succ k ih =>
    intro buf nb bs c hc
    simp only [unpackLoop] at hc
    split at hc
    all_goals
      rcases List.mem_cons.mp hc with h | h
      · rw [h]; exact Nat.mod_lt _ (Nat.two_pow_pos bits)
      · exact ih _ _ _ c h

theorem decodeList_length (r : Rate) : ∀ (cs : List Nat) (st : St), (decodeList r st cs).2.length = cs.length := by
  intro cs
  induction cs with
  | nil => intro st; simp [decodeList]
  | cons c cs ih => intro st; simp [decodeList, ih]

theorem decodeBlock_length (r : Rate) (st : St) (b : List Byte) : (decodeBlock r st b).2.length = blockSamples := by
  simp [decodeBlock, decodeList_length, unpack_length]

theorem encodeList_length (r : Rate) : ∀ (xs : List Int) (st : St), (encodeList r st xs).2.length = xs.length := by
  intro xs
  induction xs with
  | nil => intro st; simp [encodeList]
  | cons x xs ih => intro st; simp [encodeList, ih]

theorem decode_range (r : Rate) (st : St) (c : Int) : -32768 ≤ (decode r st c).2 ∧ (decode r st c).2 ≤ 32767 := by
  simp only [decode]
  exact s16_range _

theorem decodeList_range (r : Rate) : ∀ (cs : List Nat) (st : St), ∀ v ∈ (decodeList r st cs).2, -32768 ≤ v ∧ v ≤ 32767 := by
  intro cs
  induction cs with
  | nil => intro st v hv; simp [decodeList] at hv
  | cons c cs ih =>
    intro st v hv
    simp only [decodeList] at hv
    rcases List.mem_cons.mp hv with h | h
    · rw [h]; exact decode_range r st c
    · exact ih _ v h

theorem getD_mem_or {α : Type} (l : List α) (k : Nat) (d : α) : l.getD k d ∈ l ∨ l.getD k d = d := by
  by_cases h : k < l.length
  · left; simp [List.getD, List.getElem?_eq_getElem h]
  · right; simp [List.getD, List.getElem?_eq_none (by omega : l.length ≤ k)]

/-- what holds of every decoded block and of the all-zero block holds of every block the reader hands out -/
theorem reader_src_all (P : List Int → Prop) (r : Rate) (hdec : ∀ st b, P (decodeBlock r st b).2) (hz : P (zeros blockSamples))
    (data : List Byte) (k : Nat) : P ((reader r data).src k) := by
  have hall : ∀ (bs : List (List Byte)) (st : St), ∀ b ∈ decodeBufs r st bs, P b := by
    intro bs
    induction bs with
    | nil => intro st b hb; simp [decodeBufs] at hb
    | cons x xs ih =>
      intro st b hb
      simp only [decodeBufs] at hb
      rcases List.mem_cons.mp hb with h | h
      · rw [h]; exact hdec st x
      · exact ih _ b h
  simp only [reader]
  rcases getD_mem_or (decodeAll r data) k (zeros blockSamples) with h | h
  · exact hall _ _ _ h
  · rw [h]; exact hz

theorem reader_src_length (r : Rate) (data : List Byte) (k : Nat) : ((reader r data).src k).length = blockSamples :=
  reader_src_all (·.length = blockSamples) r (decodeBlock_length r) (by simp [zeros]) data k

theorem reader_src_range (r : Rate) (data : List Byte) (k : Nat) : ∀ v ∈ (reader r data).src k, -32768 ≤ v ∧ v ≤ 32767 :=
  reader_src_all (fun b => ∀ v ∈ b, -32768 ≤ v ∧ v ≤ 32767) r (fun st b => decodeList_range r _ st)
    (fun v hv => by simp [zeros] at hv; omega) data k

theorem packLoop_length (bits : Nat) (hb : bits ≤ 8) : ∀ (cs : List Nat) (buf nb : Nat), nb < 8 →
    (packLoop bits buf nb cs).length = (nb + bits * cs.length) / 8 := by
  intro cs
  induction cs with
  | nil => intro buf nb h; simp [packLoop]; omega
  | cons c cs ih =>
    intro buf nb h
    simp only [packLoop, List.length_cons]
    split
    · rename_i h8
      rw [List.length_cons, ih _ _ (by omega), Nat.mul_succ]
      omega
    · rename_i h8
      rw [ih _ _ (by omega), Nat.mul_succ]
      congr 1
      omega

/-- `blocks_total` of a data region of whole blocks: a reader finds `m` blocks of 120 frames in `m` blocks of bytes -/
theorem framesAtOpen_blocks (r : Rate) (hpos : 0 < r.blockBytes) (m : Nat) : framesAtOpen r (m * r.blockBytes) = m * blockSamples := by
  unfold framesAtOpen blocksTotal
  rw [show m * r.blockBytes + r.blockBytes - 1 = (r.blockBytes - 1) + m * r.blockBytes by omega,
    Nat.add_mul_div_right _ _ hpos, Nat.div_eq_of_lt (by omega), Nat.zero_add]

end Sf.G72x.Proofs
