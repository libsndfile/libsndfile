/-
  SfProofs.AbsWriteRate — the EXACT sample-period rate clause of the write-side predicate (`Sf.AbsWrite.rateOk` for the class
  `.period u bits`: HTK, 100 ns units; SDS, nanoseconds in 21 bits): what `periodQuant` evaluates to, what the clause
  accepts (`rateOk_period_iff`), and that it accepts what a quantiser of the documented shape answers
  (`rateOk_period_complete`) — for every rate, with no tolerance.
-/
import SfModel.AbsWrite
namespace Sf.AbsWriteRate
open Sf Sf.AbsWrite

theorem periodQuant_some (u b sr : Nat) (hp : 0 < u / sr) (hb : u / sr < 2 ^ b) : periodQuant u b sr = some (u / (u / sr)) := by
  unfold periodQuant
  have h1 : (u / sr == 0) = false := by simpa using Nat.ne_of_gt hp
  have h2 : decide (2 ^ b ≤ u / sr) = false := by simpa using hb
  simp only [h1, h2, Bool.or_false, Bool.false_eq_true, if_false]

theorem periodQuant_zero (u b sr : Nat) (hp : u / sr = 0) : periodQuant u b sr = none := by
  unfold periodQuant; simp [hp]

theorem periodQuant_wide (u b sr : Nat) (hb : 2 ^ b ≤ u / sr) : periodQuant u b sr = none := by
  unfold periodQuant; simp [hb]

/-- what `periodOk` says (the clause shared by HTK / SDS and the two VOC time-constant blocks): exactly the quantiser where the
    field can express the rate, any positive rate elsewhere -/
theorem periodOk_iff (u b sr : Nat) (got : Int) :
    periodOk u b sr got = true ↔
      (0 < u / sr ∧ u / sr < 2 ^ b ∧ got = ((u / (u / sr) : Nat) : Int)) ∨ ((u / sr = 0 ∨ 2 ^ b ≤ u / sr) ∧ 1 ≤ got) := by
  unfold periodOk
  by_cases h0 : u / sr = 0
  · rw [periodQuant_zero u b sr h0]; simp [h0]
  · by_cases hb : 2 ^ b ≤ u / sr
    · rw [periodQuant_wide u b sr hb]
      have : ¬ u / sr < 2 ^ b := Nat.not_lt.2 hb
      simp [hb, this]
    · have h1 : 0 < u / sr := Nat.pos_of_ne_zero h0
      have h2 : u / sr < 2 ^ b := Nat.lt_of_not_le hb
      rw [periodQuant_some u b sr h1 h2]
      simp only [beq_iff_eq, h1, h2, true_and, h0, hb, or_self, false_and, or_false]

theorem periodOk_complete (u b sr q : Nat) (hin : 0 < u / sr → u / sr < 2 ^ b → q = u / (u / sr)) (hout : 1 ≤ q) :
    periodOk u b sr (q : Int) = true := by
  rw [periodOk_iff]
  by_cases h0 : u / sr = 0
  · exact Or.inr ⟨Or.inl h0, by exact_mod_cast hout⟩
  · by_cases hb : 2 ^ b ≤ u / sr
    · exact Or.inr ⟨Or.inr hb, by exact_mod_cast hout⟩
    · have h1 : 0 < u / sr := Nat.pos_of_ne_zero h0
      have h2 : u / sr < 2 ^ b := Nat.lt_of_not_le hb
      exact Or.inl ⟨h1, h2, by rw [hin h1 h2]⟩

theorem rateOk_period (major u b sr : Nat) (got : Int) (hc : rateClass major = .period u b) :
    rateOk major sr got = periodOk u b sr got := by
  unfold rateOk; rw [hc]; rfl

/-- `periodOk_iff` for a major format of the `.period` class -/
theorem rateOk_period_iff (major u b sr : Nat) (got : Int) (hc : rateClass major = .period u b) :
    rateOk major sr got = true ↔
      (0 < u / sr ∧ u / sr < 2 ^ b ∧ got = ((u / (u / sr) : Nat) : Int)) ∨ ((u / sr = 0 ∨ 2 ^ b ≤ u / sr) ∧ 1 ≤ got) := by
  rw [rateOk_period major u b sr got hc]; exact periodOk_iff u b sr got

/-- a reader that reports `u / (u / sr)` where the period fits the field and any positive rate elsewhere is accepted -/
theorem rateOk_period_complete (major u b sr q : Nat) (hc : rateClass major = .period u b)
    (hin : 0 < u / sr → u / sr < 2 ^ b → q = u / (u / sr)) (hout : 1 ≤ q) : rateOk major sr (q : Int) = true := by
  rw [rateOk_period major u b sr _ hc]; exact periodOk_complete u b sr q hin hout

theorem rateClass_htk : rateClass 0x10 = .period (10 ^ 7) 31 := by decide
theorem rateClass_sds : rateClass 0x11 = .period (10 ^ 9) 21 := by decide

end Sf.AbsWriteRate
