/-
  SD2: programs of byte reads that are safe for arbitrary bytes (helpers of SfProps/C04Sd2.lean).  `Prog.Safe L P p`:
  whatever the bytes are, every read of `p` lies below `L` and every answer of `p` satisfies `P`.  It quantifies over
  every value a read can deliver, so these lemmas do not mention the bytes at all.  The read primitives of the parser
  (read_rsrc_char / _short / _int / _marker / _str) are safe because of their guards.
-/
import SfModel.Sd2
namespace Sf.Sd2
open Sf Sf.Small2

namespace Prog

theorem bounded_bind {L : Nat} {p : Prog α} {f : α → Prog β} (hp : Bounded L p) (hf : ∀ a, Bounded L (f a)) :
    Bounded L (p >>= f) := by
  show Bounded L (Prog.bind p f)
  induction hp with
  | pure a => exact hf a
  | read i k hi _ ih => exact Bounded.read i _ hi ih

theorem bounded_pure {L : Nat} (a : α) : Bounded L (pure a : Prog α) := Bounded.pure a

theorem run_reads_lt {L : Nat} {p : Prog α} (hp : Bounded L p) (g : Nat → Byte) : ∀ i ∈ (p.run g).2, i < L := by
  induction hp with
  | pure a => intro i hi; simp [run] at hi
  | read j k hj _ ih =>
    intro i hi
    simp only [run, List.mem_cons] at hi
    rcases hi with rfl | hi
    · exact hj
    · exact ih (g j) i hi

inductive Safe (L : Nat) (P : α → Prop) : Prog α → Prop where
  | pure (a : α) : P a → Safe L P (.pure a)
  | read (i : Nat) (k : Byte → Prog α) : i < L → (∀ b, Safe L P (k b)) → Safe L P (.read i k)

variable {L : Nat} {P : α → Prop} {p : Prog α}

theorem Safe.bounded (h : Safe L P p) : Bounded L p := by
  induction h with
  | pure a _ => exact Bounded.pure a
  | read i k hi _ ih => exact Bounded.read i k hi ih

theorem Safe.run_fst (h : Safe L P p) (g : Nat → Byte) : P (p.run g).1 := by
  induction h with
  | pure a ha => exact ha
  | read i k _ _ ih => exact ih (g i)

theorem Safe.ret (a : α) (h : P a) : Safe L P (Pure.pure a : Prog α) := Safe.pure a h

/-- the continuation has to be safe only for the answers `p` can give -/
theorem Safe.bind {Q : α → Prop} {P : β → Prop} {p : Prog α} {f : α → Prog β} (hp : Safe L Q p) (hf : ∀ a, Q a → Safe L P (f a)) :
    Safe L P (p >>= f) := by
  show Safe L P (Prog.bind p f)
  induction hp with
  | pure a ha => exact hf a ha
  | read i k hi _ ih => exact Safe.read i _ hi ih

theorem Safe.ite {c : Prop} [Decidable c] {q : Prog α} (hp : c → Safe L P p) (hq : ¬ c → Safe L P q) :
    Safe L P (if c then p else q) := by
  split
  · exact hp ‹_›
  · exact hq ‹_›

end Prog

open Prog

variable {L : Nat}

/-- safe, with nothing said about the answer -/
abbrev Reads (L : Nat) (p : Prog α) : Prop := Safe L (fun _ => True) p

theorem byteAt_safe (off : Int) (h0 : 0 ≤ off) (h1 : off < L) : Reads L (byteAt off) :=
  Safe.read _ _ (by omega) (fun _ => Safe.pure _ trivial)

theorem rdChar_safe (off : Int) : Reads L (rdChar L off) :=
  Safe.ite (fun _ => Safe.ret _ trivial) (fun _ => byteAt_safe _ (by omega) (by omega))

theorem rdShort_safe (off : Int) : Reads L (rdShort L off) :=
  Safe.ite (fun _ => Safe.ret _ trivial) fun _ =>
    Safe.bind (byteAt_safe _ (by omega) (by omega)) fun _ _ =>
    Safe.bind (byteAt_safe _ (by omega) (by omega)) fun _ _ => Safe.ret _ trivial

/-- read_rsrc_int and read_rsrc_marker make the same four reads and differ in what they answer -/
theorem four_safe (off : Int) (h0 : 0 ≤ off) (h3 : off + 3 < L) (k : Int → Int → Int → Int → α) :
    Reads L (do
      let a ← byteAt off
      let b ← byteAt (off + 1)
      let c ← byteAt (off + 2)
      let d ← byteAt (off + 3)
      Pure.pure (k a b c d)) :=
  Safe.bind (byteAt_safe _ (by omega) (by omega)) fun _ _ =>
  Safe.bind (byteAt_safe _ (by omega) (by omega)) fun _ _ =>
  Safe.bind (byteAt_safe _ (by omega) (by omega)) fun _ _ =>
  Safe.bind (byteAt_safe _ (by omega) (by omega)) fun _ _ => Safe.ret _ trivial

theorem rdInt_safe (off : Int) : Reads L (rdInt L off) :=
  Safe.ite (fun _ => Safe.ret _ trivial) fun _ => four_safe (L := L) off (by omega) (by omega) _

theorem rdMarker_safe (off : Int) : Reads L (rdMarker L off) :=
  Safe.ite (fun _ => Safe.ret _ trivial) fun _ => four_safe (L := L) off (by omega) (by omega) _

theorem copyLoop_safe : ∀ (n : Nat) (off : Int), 0 ≤ off → (n = 0 ∨ off + n ≤ L) → Reads L (copyLoop n off)
  | 0, _, _, _ => Safe.pure _ trivial
  | n + 1, off, h0, h1 =>
    Safe.read _ _ (by omega) fun _ =>
      Safe.ite (fun _ => Safe.bind (copyLoop_safe n (off + 1) (by omega) (by omega)) fun _ _ => Safe.pure _ trivial)
        (fun _ => Safe.pure _ trivial)

theorem rdStr_safe (off bufLen : Int) : Reads L (rdStr L off bufLen) :=
  Safe.ite (fun _ => Safe.ret _ trivial) (fun _ => copyLoop_safe _ _ (by omega) (by omega))

end Sf.Sd2
