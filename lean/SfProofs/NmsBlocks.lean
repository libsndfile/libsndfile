/-
  NMS ADPCM block shapes: lengths of the packers / unpackers, of `encodeBlock` (always `blockBytes` bytes for 160
  samples) and of `decodeBlock` (always 160 samples for `shorts` words).  Helper lemmas for SfProps/C06Nms.lean,
  C07NmsBlock.lean and C07CodecsClosed.lean.
-/
import SfModel.NmsFile
import SfProofs.Bytes
namespace Sf.Nms.Proofs
open Sf Sf.Nms Sf.Block

theorem encodeSamples_length : ∀ (xs : List Int) (s : St) (rms : Nat), (encodeSamples s xs rms).2.1.length = xs.length := by
  intro xs
  induction xs with
  | nil => intro s rms; rfl
  | cons x xs ih =>
    intro s rms
    simp only [encodeSamples, List.length_cons]
    rw [ih]

theorem decodeCodes_length : ∀ (cs : List Nat) (s : St), (decodeCodes s cs).2.length = cs.length := by
  intro cs
  induction cs with
  | nil => intro s; rfl
  | cons c cs ih =>
    intro s
    simp only [decodeCodes, List.length_cons]
    rw [ih]

theorem pack32_length : ∀ (n : Nat) (cs : List Nat), cs.length = 4 * n → (pack32 cs).length = n := by
  intro n
  induction n with
  | zero => intro cs h; have : cs = [] := List.eq_nil_of_length_eq_zero (by omega); subst this; rfl
  | succ n ih =>
    intro cs h
    match cs, h with
    | c0 :: c1 :: c2 :: c3 :: rest, h =>
      have hr : rest.length = 4 * n := by simp only [List.length_cons] at h; omega
      simp only [pack32, List.length_cons, ih rest hr]

theorem pack16_length : ∀ (n : Nat) (cs : List Nat), cs.length = 8 * n → (pack16 cs).length = n := by
  intro n
  induction n with
  | zero => intro cs h; have : cs = [] := List.eq_nil_of_length_eq_zero (by omega); subst this; rfl
  | succ n ih =>
    intro cs h
    match cs, h with
    | c0 :: c1 :: c2 :: c3 :: c4 :: c5 :: c6 :: c7 :: rest, h =>
      have hr : rest.length = 8 * n := by simp only [List.length_cons] at h; omega
      simp only [pack16, List.length_cons, ih rest hr]

theorem group24_length (c : List Nat) : (group24 c).length = 3 := rfl

theorem pack24_length : ∀ (n fuel : Nat) (cs : List Nat), cs.length = 16 * n → n < fuel → (pack24 fuel cs).length = 3 * n := by
  intro n
  induction n with
  | zero =>
    intro fuel cs h hf
    have : cs = [] := List.eq_nil_of_length_eq_zero (by omega)
    subst this
    cases fuel <;> simp [pack24]
  | succ n ih =>
    intro fuel cs h hf
    obtain ⟨fuel, rfl⟩ : ∃ k, fuel = k + 1 := ⟨fuel - 1, by omega⟩
    unfold pack24
    have hlt : ¬ cs.length < 16 := by omega
    simp only [hlt, if_false]
    rw [List.length_append, group24_length, ih fuel (cs.drop 16) (by rw [List.length_drop]; omega) (by omega)]
    omega

theorem nibbles_length (m w : Nat) : (nibbles m w).length = 4 := rfl

theorem unpack32_length (ws : List Nat) : (unpack32 ws).length = 4 * ws.length :=
  (flatMap_length_const 4 _ ws fun _ _ => rfl).trans (Nat.mul_comm ..)

theorem unpack16_length (ws : List Nat) : (unpack16 ws).length = 8 * ws.length :=
  (flatMap_length_const 8 _ ws fun _ _ => rfl).trans (Nat.mul_comm ..)

theorem ungroup24_length (a b c : Nat) : (ungroup24 a b c).length = 16 := rfl

theorem unpack24_length : ∀ (n : Nat) (ws : List Nat), ws.length = 3 * n → (unpack24 ws).length = 16 * n := by
  intro n
  induction n with
  | zero => intro ws h; have : ws = [] := List.eq_nil_of_length_eq_zero (by omega); subst this; rfl
  | succ n ih =>
    intro ws h
    match ws, h with
    | a :: b :: c :: rest, h =>
      have hr : rest.length = 3 * n := by simp only [List.length_cons] at h; omega
      simp only [unpack24, List.length_append, ungroup24_length, ih rest hr]
      omega

theorem wordsLE_length (ws : List Nat) : (wordsLE ws).length = 2 * ws.length :=
  (flatMap_length_const 2 _ ws fun _ _ => rfl).trans (Nat.mul_comm ..)

theorem pack_length (r : Rate) (codes : List Nat) (h : codes.length = 160) : (pack r codes).length = r.shorts - 1 := by
  cases r
  · exact pack16_length 20 codes (by omega)
  · show (pack24 (codes.length / 16 + 1) codes).length = 30
    rw [h]
    exact pack24_length 10 11 codes (by omega) (by omega)
  · exact pack32_length 40 codes (by omega)

/-- `nms_adpcm_encode_block` always writes `shortsperblock` words: `blockBytes` bytes -/
theorem encodeBlock_length (r : Rate) (s : St) (samples : List Int) (h : samples.length = spb) :
    (encodeBlock r s samples).2.length = r.blockBytes := by
  unfold encodeBlock
  simp only
  have hc : (encodeSamples s samples 0).2.1.length = 160 := by rw [encodeSamples_length]; exact h
  rw [wordsLE_length, List.length_append, pack_length r _ hc]
  cases r <;> rfl

theorem unpack_length (r : Rate) (ws : List Nat) (h : ws.length = r.shorts - 1) : (unpack r ws).length = 160 := by
  cases r
  · have : ws.length = 20 := h
    show (unpack16 ws).length = 160
    rw [unpack16_length, this]
  · have : ws.length = 30 := h
    exact unpack24_length 10 ws (by omega)
  · have : ws.length = 40 := h
    show (unpack32 ws).length = 160
    rw [unpack32_length, this]

/-- **`nms_adpcm_decode_block` always yields 160 samples** (for the `shortsperblock` words the wrapper hands it) -/
theorem decodeBlock_length (r : Rate) (s : St) (ws : List Nat) (h : ws.length = r.shorts) :
    (decodeBlock r s ws).2.length = spb := by
  unfold decodeBlock
  rw [decodeCodes_length, unpack_length]
  · rfl
  · rw [List.length_take, h]
    cases r <;> rfl

theorem blockWords_length (r : Rate) (prev : List Nat) (got : List Byte) : (blockWords r prev got).length = r.shorts := by
  unfold blockWords
  simp only [List.length_take, List.length_append, List.length_replicate]
  omega

theorem decodeBlocks_length (r : Rate) : ∀ (n : Nat) (s : St) (buf : List Nat) (data : List Byte),
    ∀ b ∈ decodeBlocks r blockWords n s buf data, b.length = spb := by
  intro n
  induction n with
  | zero => intro s buf data b hb; simp [decodeBlocks] at hb
  | succ n ih =>
    intro s buf data b hb
    simp only [decodeBlocks, List.mem_cons] at hb
    rcases hb with rfl | hb
    · exact decodeBlock_length r s _ (blockWords_length r buf _)
    · exact ih _ _ _ b hb

theorem decodeBlocks_count (r : Rate) (fill : Rate → List Nat → List Byte → List Nat) : ∀ (n : Nat) (s : St) (buf : List Nat) (data : List Byte),
    (decodeBlocks r fill n s buf data).length = n := by
  intro n
  induction n with
  | zero => intro s buf data; rfl
  | succ n ih => intro s buf data; simp only [decodeBlocks, List.length_cons, ih]

/-- `blocks_total` of a data region of whole blocks -/
theorem framesAtOpen_blocks (r : Rate) (m : Nat) : framesAtOpen r (m * r.blockBytes) = m * spb := by
  unfold framesAtOpen blocksTotal
  rw [Nat.mul_mod_left, if_neg (by simp), Nat.mul_div_cancel _ (by cases r <;> decide)]

end Sf.Nms.Proofs
