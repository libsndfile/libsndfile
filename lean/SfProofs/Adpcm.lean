/- Lib-shaped ADPCM decoders = reference decoders: helper lemmas for SfProps/C20Adpcm.lean (SfProofs/AdpcmRound.lean takes
   the loop and table lemmas from here for the encoder round trip of C07). -/
import SfModel.Adpcm
import SfModel.AdpcmSpec
import SfProofs.Bytes
import SfProofs.Table
namespace Sf.Adpcm
open Sf.Generated

theorem wrapS16_id (x : Int) (h1 : -32768 ≤ x) (h2 : x ≤ 32767) : wrapS 16 x = x := wrapS_of_range 16 x (by omega) (by omega)

theorem wrapS16_eq_sext (u : Nat) (h : u < 65536) : wrapS 16 (u : Int) = sext 16 u := by
  simp only [wrapS, sext]
  have h1 : (2 : Int) ^ 16 = 65536 := by decide
  have h2 : (2 : Nat) ^ (16 - 1) = 32768 := by decide
  have h3 : (2 : Nat) ^ 16 = 65536 := by decide
  rw [h1, h2]
  split <;> split <;> omega

theorem clamp16_eq_sat16 (x : Int) : clamp16 x = Spec.sat16 x := by
  simp only [clamp16, Spec.sat16]; omega

theorem sat16_range (x : Int) : -32768 ≤ Spec.sat16 x ∧ Spec.sat16 x ≤ 32767 := by
  simp only [Spec.sat16]; omega

theorem clampIdx_eq_limit (x : Int) : clampImaStepIndex x = Spec.limitIndex x := by
  simp only [clampImaStepIndex, Spec.limitIndex]; omega

theorem limitIndex_range (x : Int) : 0 ≤ Spec.limitIndex x ∧ Spec.limitIndex x ≤ 88 := by
  simp only [Spec.limitIndex]; omega

theorem imaStepTab_eq : imaStepTab = Spec.imaStepTable := by decide
theorem imaStepTab_spec : imaStepTab = (List.range 89).map (fun i => Spec.imaStepTable.getD i 0) :=
  imaStepTab_eq.trans (tab_getD Spec.imaStepTable 0)
theorem imaIndexAdjust_spec : imaIndexAdjust = (List.range 16).map Spec.imaIndexDelta :=
  tabIs_spec _ _ _ (by decide)
theorem msAdaptationTab_eq : msAdaptationTab = Spec.msAdaptionTable := by decide
theorem msCoeff_spec : msCoeff1 = (List.range 7).map (fun p => (Spec.msCoefTable.getD p (0, 0)).1)
    ∧ msCoeff2 = (List.range 7).map (fun p => (Spec.msCoefTable.getD p (0, 0)).2) :=
  ⟨tabIs_spec _ _ _ (by decide), tabIs_spec _ _ _ (by decide)⟩

theorem imaIndxAdjust_eq (c : Nat) (hc : c < 16) : imaIndxAdjust c = Spec.imaIndexDelta c := by
  rw [imaIndxAdjust, imaIndexAdjust_spec]; exact getD_tab _ hc 0

theorem imaIndexDelta_range (c : Nat) : -1 ≤ Spec.imaIndexDelta c ∧ Spec.imaIndexDelta c ≤ 8 := by
  simp only [Spec.imaIndexDelta]; split <;> omega

theorem imaStepSize_eq (i : Int) : imaStepSize i = Spec.imaStepTable.getD i.toNat 0 := by
  simp only [imaStepSize, imaStepTab_eq]

theorem imaStep_mod16 (s : Spec.ImaState) (c : Nat) : Spec.imaStep s (c % 16) = Spec.imaStep s c := by
  have h1 : c % 16 % 8 = c % 8 := by omega
  have h2 : c % 16 % 16 = c % 16 := by omega
  simp only [Spec.imaStep, Spec.imaIndexDelta, h1, h2]

theorem imaDiff_spec (step : Int) (c : Nat) (hc : c < 16) (p : Int) :
    p + imaDiff step c =
      (let m := c % 8
       let vpdiff := step / 8 + (if m ≥ 4 then step else 0) + (if m % 4 ≥ 2 then step / 2 else 0)
                      + (if m % 2 = 1 then step / 4 else 0)
       if c % 16 ≥ 8 then p - vpdiff else p + vpdiff) := by
  have e3 : asr step 3 = step / 8 := by simp [asr]
  have e2 : asr step 2 = step / 4 := by simp [asr]
  have e1 : asr step 1 = step / 2 := by simp [asr]
  simp only [imaDiff, e1, e2, e3]
  have : c = 0 ∨ c = 1 ∨ c = 2 ∨ c = 3 ∨ c = 4 ∨ c = 5 ∨ c = 6 ∨ c = 7 ∨ c = 8 ∨ c = 9 ∨ c = 10 ∨ c = 11
      ∨ c = 12 ∨ c = 13 ∨ c = 14 ∨ c = 15 := by omega
  rcases this with h | h | h | h | h | h | h | h | h | h | h | h | h | h | h | h <;> subst h <;> simp <;> omega

theorem ima_code (p i : Int) (c : Nat) (hi0 : 0 ≤ i) (hi1 : i ≤ 88) :
    wrapS 16 (clamp16 (p + imaDiff (imaStepSize i) (c % 16))) = (Spec.imaStep ⟨p, i⟩ c).valpred
    ∧ clampImaStepIndex (wrapS 16 (i + imaIndxAdjust (c % 16))) = (Spec.imaStep ⟨p, i⟩ c).index := by
  have hc : c % 16 < 16 := by omega
  rw [← imaStep_mod16]
  constructor
  · rw [clamp16_eq_sat16, wrapS16_id _ (sat16_range _).1 (sat16_range _).2, imaDiff_spec _ _ hc, imaStepSize_eq]
    simp only [Spec.imaStep]
  · rw [imaIndxAdjust_eq _ hc, clampIdx_eq_limit]
    have := imaIndexDelta_range (c % 16)
    rw [wrapS16_id _ (by omega) (by omega)]
    simp only [Spec.imaStep]

theorem imaStep_index_range (s : Spec.ImaState) (c : Nat) :
    0 ≤ (Spec.imaStep s c).index ∧ (Spec.imaStep s c).index ≤ 88 := by
  simp only [Spec.imaStep]; exact limitIndex_range _

theorem imaDecode_mod16 (cs : List Nat) : ∀ s, Spec.imaDecode s (cs.map (· % 16)) = Spec.imaDecode s cs := by
  induction cs with
  | nil => intro s; rfl
  | cons c cs ih => intro s; simp only [List.map_cons, Spec.imaDecode, imaStep_mod16, ih]

theorem wavDecodeLoop_mono (codes : List Nat) :
    ∀ (k : Nat) (i0 i1 p : Int) (h : List Int), 0 ≤ i0 → i0 ≤ 88 →
      wavDecodeLoop 1 k codes (i0, i1) (p :: h) = Spec.imaDecode ⟨p, i0⟩ codes := by
  induction codes with
  | nil => intros; rfl
  | cons c cs ih =>
    intro k i0 i1 p h h0 h1
    have hc := ima_code p i0 c h0 h1
    have hr := imaStep_index_range ⟨p, i0⟩ c
    simp only [wavDecodeLoop, Spec.imaDecode, Nat.lt_irrefl, if_false, if_true, List.getD_cons_zero,
      Nat.sub_self, hc.1, hc.2]
    rw [ih _ _ _ _ _ hr.1 hr.2]

theorem wavDecodeLoop_stereo (xs : List Nat) :
    ∀ (ys : List Nat) (k : Nat) (i0 i1 p0 p1 : Int) (h : List Int), k % 2 = 0 →
      0 ≤ i0 → i0 ≤ 88 → 0 ≤ i1 → i1 ≤ 88 →
      wavDecodeLoop 2 k (interleave xs ys) (i0, i1) (p1 :: p0 :: h)
        = Spec.frames2 (Spec.imaDecode ⟨p0, i0⟩ xs) (Spec.imaDecode ⟨p1, i1⟩ ys) := by
  induction xs with
  | nil => intros; simp [interleave, wavDecodeLoop, Spec.imaDecode, Spec.frames2]
  | cons x xs ih =>
    intro ys k i0 i1 p0 p1 h hk a0 a1 b0 b1
    cases ys with
    | nil => simp [interleave, wavDecodeLoop, Spec.imaDecode, Spec.frames2]
    | cons y ys =>
      have hx := ima_code p0 i0 x a0 a1
      have hy := ima_code p1 i1 y b0 b1
      have rx := imaStep_index_range ⟨p0, i0⟩ x
      have ry := imaStep_index_range ⟨p1, i1⟩ y
      have hk1 : (k + 1) % 2 = 1 := by omega
      have hk2 : (k + 1 + 1) % 2 = 0 := by omega
      simp only [interleave, wavDecodeLoop, Spec.imaDecode, Spec.frames2, hk, hk1, if_true,
        show (2 : Nat) > 1 from by decide, show (2 : Nat) - 1 = 1 from rfl, List.getD_cons_succ, List.getD_cons_zero,
        show ((1 : Nat) = 0) = False from by simp, if_false, hx.1, hx.2, hy.1, hy.2]
      rw [ih ys (k + 1 + 1) _ _ _ _ _ hk2 rx.1 rx.2 ry.1 ry.2]

theorem flatMap_lohi_eq (bytes : List Byte) :
    (bytes.flatMap fun b => [nibLo b, nibHi b]) = (Spec.codesLowFirst bytes).map (· % 16) := by
  induction bytes with
  | nil => rfl
  | cons b bs ih =>
    simp only [Spec.codesLowFirst, List.flatMap_cons, List.map_append, List.map_cons, List.map_nil] at ih ⊢
    rw [ih]; simp [nibLo, nibHi]

theorem wavUnpack1_eq (data : List Byte) :
    wavUnpack1 data = (Spec.codesLowFirst data).map (· % 16) := by
  fun_induction wavUnpack1 data with
  | case1 b0 b1 b2 b3 rest ih =>
    rw [ih]
    simp [Spec.codesLowFirst, nibLo, nibHi]
  | case2 data hne => exact flatMap_lohi_eq data

theorem wavUnpack1_length_le (data : List Byte) : (wavUnpack1 data).length ≤ 2 * data.length := by
  fun_induction wavUnpack1 data with
  | case1 b0 b1 b2 b3 rest ih => simp only [List.length_append, List.length_cons, List.length_nil]; omega
  | case2 data hne => rw [flatMap_length_const 2 _ data fun _ _ => rfl]; omega

theorem wavUnpack2_eq (data : List Byte) :
    wavUnpack2 data = interleave ((Spec.codesLowFirst (Spec.splitWords data).1).map (· % 16))
                                 ((Spec.codesLowFirst (Spec.splitWords data).2).map (· % 16)) := by
  fun_induction wavUnpack2 data with
  | case1 a0 a1 a2 a3 b0 b1 b2 b3 rest ih =>
    rw [ih]
    simp [Spec.splitWords, Spec.codesLowFirst, nibLo, nibHi, interleave]
  | case2 data hne =>
    have : Spec.splitWords data = ([], []) := by
      unfold Spec.splitWords
      split
      · rename_i l0 l1 l2 l3 r0 r1 r2 r3 rest
        exact absurd rfl (hne l0 l1 l2 l3 r0 r1 r2 r3 rest)
      · rfl
    simp [this, Spec.codesLowFirst, interleave]

theorem wavUnpack2_length_le (data : List Byte) : (wavUnpack2 data).length ≤ 2 * data.length := by
  fun_induction wavUnpack2 data with
  | case1 a0 a1 a2 a3 b0 b1 b2 b3 rest ih => simp only [List.length_append, List.length_cons, List.length_nil]; omega
  | case2 data hne => simp

theorem msShort_eq (lo hi : Nat) (h0 : lo < 256) (h1 : hi < 256) : msShort lo hi = sext 16 (ofLE [lo, hi]) := by
  have e : ofLE [lo, hi] = lo + 256 * hi := by simp only [ofLE, Nat.mul_zero, Nat.add_zero]
  have c : (lo : Int) + (hi : Int) * 256 = ((lo + 256 * hi : Nat) : Int) := by omega
  rw [msShort, e, c]
  exact wrapS16_eq_sext _ (by omega)

theorem wavHeader_pred (b0 b1 : Nat) (h0 : b0 < 256) (h1 : b1 < 256) :
    wrapS 16 (if ((b0 : Int) + (b1 : Int) * 256) / 32768 % 2 = 1 then (b0 : Int) + (b1 : Int) * 256 - 65536
              else (b0 : Int) + (b1 : Int) * 256) = sext 16 (ofLE [b0, b1]) := by
  rw [← msShort_eq b0 b1 h0 h1, msShort]
  split
  · -- the sign test of the header parse does not matter once the value is stored in a `short`
    exact wrapS_congr 16 (Int.sub_emod_right _ _)
  · rfl

theorem wavHeader_index (b2 : Nat) (h : b2 < 256) :
    clampImaStepIndex (wrapS 16 (b2 : Int)) = Spec.limitIndex b2 := by
  rw [wrapS16_id _ (by omega) (by omega), clampIdx_eq_limit]

theorem interleave_eq_frames2 (xs : List Int) : ∀ ys, interleave xs ys = Spec.frames2 xs ys := by
  induction xs with
  | nil => intro ys; simp [interleave, Spec.frames2]
  | cons x xs ih => intro ys; cases ys <;> simp [interleave, Spec.frames2, ih]

theorem aiffDecodeLoop_eq (cs : List Nat) :
    ∀ (p i : Int), 0 ≤ i → i ≤ 88 →
      aiffDecodeLoop (cs.map (· % 16)) p i = Spec.imaDecode ⟨p, i⟩ cs := by
  induction cs with
  | nil => intros; rfl
  | cons c cs ih =>
    intro p i h0 h1
    have hc := ima_code p i c h0 h1
    have hr := imaStep_index_range ⟨p, i⟩ c
    have hv : clamp16 (p + imaDiff (imaStepSize i) (c % 16)) = (Spec.imaStep ⟨p, i⟩ c).valpred := by
      rw [← hc.1, clamp16_eq_sat16, wrapS16_id _ (sat16_range _).1 (sat16_range _).2]
    have hw : wrapS 16 (Spec.imaStep ⟨p, i⟩ c).valpred = (Spec.imaStep ⟨p, i⟩ c).valpred := by
      have := hc.1; rw [hv] at this; exact this
    simp only [List.map_cons, aiffDecodeLoop, Spec.imaDecode, hc.2, hv, hw]
    rw [ih _ _ hr.1 hr.2]

theorem aiffUnpack_eq (bytes : List Byte) : aiffUnpack bytes = (Spec.codesLowFirst bytes).map (· % 16) := flatMap_lohi_eq bytes

theorem aiffUnpack_length (bytes : List Byte) : (aiffUnpack bytes).length = 2 * bytes.length :=
  (flatMap_length_const 2 _ bytes fun _ _ => rfl).trans (Nat.mul_comm ..)

theorem aiffHeader (h0 h1 : Nat) (b0 : h0 < 256) (b1 : h1 < 256) :
    wrapS 16 ((h0 : Int) * 256 + ((h1 / 128 % 2 * 128 : Nat) : Int)) = sext 16 (ofBE [h0, h1] - ofBE [h0, h1] % 128)
    ∧ clampImaStepIndex (wrapS 16 ((h1 % 128 : Nat) : Int)) = Spec.limitIndex ((ofBE [h0, h1] % 128 : Nat) : Int) := by
  have e : ofBE [h0, h1] = h1 + 256 * (h0 + 256 * 0) := rfl
  have e2 : (h1 + 256 * (h0 + 256 * 0)) % 128 = h1 % 128 := by omega
  have e3 : h1 + 256 * (h0 + 256 * 0) - h1 % 128 = h0 * 256 + h1 / 128 % 2 * 128 := by omega
  rw [e, e2, e3]
  constructor
  · rw [← wrapS16_eq_sext _ (by omega)]; congr 1
  · rw [wrapS16_id _ (by omega) (by omega), clampIdx_eq_limit]

theorem aiffChannel_eq (pkt : List Byte) (hlen : 34 ≤ pkt.length) (hb : ∀ b ∈ pkt, b < 256) :
    aiffChannel 34 64 pkt = Spec.ima4Packet (pkt.take 34) := by
  match pkt, hlen, hb with
  | h0 :: h1 :: data, hlen, hb =>
    have b0 : h0 < 256 := hb _ (by simp)
    have b1 : h1 < 256 := hb _ (by simp)
    have hh := aiffHeader h0 h1 b0 b1
    have hr := limitIndex_range ((ofBE [h0, h1] % 128 : Nat) : Int)
    have ht : (aiffUnpack (data.take 32)).take 64 = aiffUnpack (data.take 32) :=
      List.take_of_length_le (by rw [aiffUnpack_length, List.length_take]; omega)
    simp only [aiffChannel, Spec.ima4Packet, List.getD_cons_zero, List.getD_cons_succ, List.drop_succ_cons,
      List.drop_zero, List.take_succ_cons, hh.1, hh.2, ht, show 34 - 2 = 32 from rfl]
    rw [aiffUnpack_eq, aiffDecodeLoop_eq _ _ _ hr.1 hr.2, List.take_take]
    simp
  | [], hlen, _ | [_], hlen, _ => simp at hlen

theorem msAdaptation_eq (c : Nat) : msAdaptation c = Spec.msAdaptionTable.getD c 0 := by
  simp only [msAdaptation, msAdaptationTab_eq]

theorem msCoeff_lt7 (p : Nat) (hp : p < 7) : msAdaptCoeff1 p = (Spec.msCoefTable.getD p (0, 0)).1
    ∧ msAdaptCoeff2 p = (Spec.msCoefTable.getD p (0, 0)).2 := by
  rw [msAdaptCoeff1, msAdaptCoeff2, msCoeff_spec.1, msCoeff_spec.2]; exact ⟨getD_tab _ hp 0, getD_tab _ hp 0⟩

theorem msCoeff_eq (v : Nat) :
    msAdaptCoeff1 (msGetBpred v) = (Spec.msCoefTable.getD (if v < 7 then v else 0) (0, 0)).1
    ∧ msAdaptCoeff2 (msGetBpred v) = (Spec.msCoefTable.getD (if v < 7 then v else 0) (0, 0)).2 := by
  simp only [msGetBpred]
  by_cases h : v < 7
  · have : ¬ v ≥ 7 := by omega
    simp only [this, h, if_true, if_false]; exact msCoeff_lt7 v h
  · have : v ≥ 7 := by omega
    simp only [this, h, if_true, if_false]; exact msCoeff_lt7 0 (by decide)

theorem ms_code (c1 c2 d s1 s2 : Int) (c : Nat) :
    wrapS 16 (clamp16 ((if c % 16 / 8 % 2 = 1 then ((c % 16 : Nat) : Int) - 16 else ((c % 16 : Nat) : Int)) * d
        + asr (s1 * c1 + s2 * c2) 8)) = (Spec.msStep ⟨c1, c2, d, s1, s2⟩ (c % 16)).samp1
    ∧ (if wrapS 16 (asr (msAdaptation (c % 16) * d) 8) < 16 then 16 else wrapS 16 (asr (msAdaptation (c % 16) * d) 8))
        = (Spec.msStep ⟨c1, c2, d, s1, s2⟩ (c % 16)).delta := by
  have hc : c % 16 < 16 := by omega
  generalize c % 16 = n at hc
  have herr : (if n / 8 % 2 = 1 then (n : Int) - 16 else (n : Int)) = (if n ≥ 8 then (n : Int) - 16 else (n : Int)) := by
    split <;> split <;> omega
  have e8 : ∀ x : Int, asr x 8 = x / 256 := by intro x; simp [asr]
  simp only [Spec.msStep, herr, e8, msAdaptation_eq]
  constructor
  · rw [clamp16_eq_sat16, wrapS16_id _ (sat16_range _).1 (sat16_range _).2, Int.add_comm]
  · generalize wrapS 16 _ = w
    omega

theorem msDecodeLoop_mono (codes : List Nat) :
    ∀ (k bp bpx : Nat) (d dx s1 s2 : Int) (h : List Int),
      msDecodeLoop 1 (bp, bpx) k codes (d, dx) (s1 :: s2 :: h)
        = Spec.msDecode ⟨msAdaptCoeff1 bp, msAdaptCoeff2 bp, d, s1, s2⟩ (codes.map (· % 16)) := by
  induction codes with
  | nil => intros; rfl
  | cons c cs ih =>
    intro k bp bpx d dx s1 s2 h
    have hc := ms_code (msAdaptCoeff1 bp) (msAdaptCoeff2 bp) d s1 s2 c
    simp only [msDecodeLoop, List.map_cons, Spec.msDecode, Nat.lt_irrefl, if_false, if_true, List.getD_cons_zero,
      List.getD_cons_succ, Nat.sub_self, show 2 * 1 - 1 = 1 from rfl, hc.1, hc.2]
    rw [ih]
    rfl

theorem msDecodeLoop_stereo (xs : List Nat) :
    ∀ (ys : List Nat) (k bp0 bp1 : Nat) (d0 d1 a0 a1 b0 b1 : Int) (h : List Int), k % 2 = 0 →
      msDecodeLoop 2 (bp0, bp1) k (interleave xs ys) (d0, d1) (b1 :: b0 :: a1 :: a0 :: h)
        = Spec.frames2 (Spec.msDecode ⟨msAdaptCoeff1 bp0, msAdaptCoeff2 bp0, d0, b0, a0⟩ (xs.map (· % 16)))
                       (Spec.msDecode ⟨msAdaptCoeff1 bp1, msAdaptCoeff2 bp1, d1, b1, a1⟩ (ys.map (· % 16))) := by
  induction xs with
  | nil => intros; simp [interleave, msDecodeLoop, Spec.msDecode, Spec.frames2]
  | cons x xs ih =>
    intro ys k bp0 bp1 d0 d1 a0 a1 b0 b1 h hk
    cases ys with
    | nil => simp [interleave, msDecodeLoop, Spec.msDecode, Spec.frames2]
    | cons y ys =>
      have hx := ms_code (msAdaptCoeff1 bp0) (msAdaptCoeff2 bp0) d0 b0 a0 x
      have hy := ms_code (msAdaptCoeff1 bp1) (msAdaptCoeff2 bp1) d1 b1 a1 y
      have hk1 : (k + 1) % 2 = 1 := by omega
      have hk2 : (k + 1 + 1) % 2 = 0 := by omega
      simp only [interleave, msDecodeLoop, List.map_cons, Spec.msDecode, Spec.frames2, hk, hk1, if_true,
        show (2 : Nat) > 1 from by decide, show (2 : Nat) - 1 = 1 from rfl, show 2 * 2 - 1 = 3 from rfl,
        List.getD_cons_succ, List.getD_cons_zero,
        show ((1 : Nat) = 0) = False from by simp, if_false, hx.1, hx.2, hy.1, hy.2]
      rw [ih ys (k + 1 + 1) _ _ _ _ _ _ _ _ _ hk2]
      rfl

theorem msUnpack_stereo (data : List Byte) : msUnpack data = interleave (data.map nibHi) (data.map nibLo) := by
  induction data with
  | nil => rfl
  | cons b bs ih =>
    simp only [msUnpack, List.flatMap_cons, List.map_cons, interleave, List.cons_append, List.nil_append] at ih ⊢
    rw [ih]

theorem msUnpack_length (data : List Byte) : (msUnpack data).length = 2 * data.length :=
  (flatMap_length_const 2 _ data fun _ _ => rfl).trans (Nat.mul_comm ..)

theorem hi_mod16 (b : Nat) (h : b < 256) : b / 16 % 16 % 16 = b / 16 := by omega
theorem lo_mod16 (b : Nat) : b % 16 % 16 = b % 16 := by omega

theorem msUnpack_mono (data : List Byte) (hb : ∀ b ∈ data, b < 256) :
    (msUnpack data).map (· % 16) = data.flatMap fun b => [b / 16, b % 16] := by
  induction data with
  | nil => rfl
  | cons b bs ih =>
    have hb0 : b < 256 := hb b (by simp)
    have := ih (fun x hx => hb x (by simp [hx]))
    simp only [msUnpack, List.flatMap_cons, List.map_append, List.map_cons, List.map_nil, nibHi, nibLo] at this ⊢
    rw [this]
    have e1 : b / 16 % 16 % 16 = b / 16 := hi_mod16 b hb0
    have e2 : b % 16 % 16 = b % 16 := lo_mod16 b
    rw [e1, e2]

theorem map_nibHi (data : List Byte) (hb : ∀ b ∈ data, b < 256) : (data.map nibHi).map (· % 16) = data.map (· / 16) := by
  rw [List.map_map]
  exact List.map_congr_left fun b hm => hi_mod16 b (hb b hm)

theorem map_nibLo (data : List Byte) : (data.map nibLo).map (· % 16) = data.map (· % 16) := by
  rw [List.map_map]
  exact List.map_congr_left fun b _ => lo_mod16 b

def In16 (x : Int) : Prop := -32768 ≤ x ∧ x ≤ 32767

/-! every short the lib-shaped decoders store is `wrapS 16` of something: in range whatever the block and the geometry -/

theorem wavDecodeLoop_in16 (ch : Nat) : ∀ (codes : List Nat) (k : Nat) (si : Int × Int) (hist : List Int),
    ∀ x ∈ wavDecodeLoop ch k codes si hist, In16 x
  | [], _, _, _, x, hx => by simp [wavDecodeLoop] at hx
  | _ :: codes, k, si, hist, x, hx => by
    simp only [wavDecodeLoop, List.mem_cons] at hx
    rcases hx with rfl | hx
    · exact wrapS16_range _
    · exact wavDecodeLoop_in16 ch codes _ _ _ x hx

theorem aiffDecodeLoop_in16 : ∀ (codes : List Nat) (p i : Int), ∀ x ∈ aiffDecodeLoop codes p i, In16 x
  | [], _, _, x, hx => by simp [aiffDecodeLoop] at hx
  | _ :: codes, p, i, x, hx => by
    simp only [aiffDecodeLoop, List.mem_cons] at hx
    rcases hx with rfl | hx
    · exact wrapS16_range _
    · exact aiffDecodeLoop_in16 codes _ _ x hx

theorem msDecodeLoop_in16 (ch : Nat) (bp : Nat × Nat) : ∀ (codes : List Nat) (k : Nat) (d : Int × Int) (hist : List Int),
    ∀ x ∈ msDecodeLoop ch bp k codes d hist, In16 x
  | [], _, _, _, x, hx => by simp [msDecodeLoop] at hx
  | _ :: codes, k, d, hist, x, hx => by
    simp only [msDecodeLoop, List.mem_cons] at hx
    rcases hx with rfl | hx
    · exact wrapS16_range _
    · exact msDecodeLoop_in16 ch bp codes _ _ _ x hx

theorem mem_interleave {α : Type} : ∀ (xs ys : List α) (x : α), x ∈ interleave xs ys → x ∈ xs ∨ x ∈ ys
  | a :: as, b :: bs, x, hx => by
    simp only [interleave, List.mem_cons] at hx ⊢
    rcases hx with h | h | h
    · exact Or.inl (Or.inl h)
    · exact Or.inr (Or.inl h)
    · exact (mem_interleave as bs x h).imp Or.inr Or.inr
  | [], _, x, hx | _ :: _, [], x, hx => by simp [interleave] at hx

theorem imaWavDecodeBlock_in16 (channels spb : Nat) (block : List Byte) : ∀ x ∈ imaWavDecodeBlock channels spb block, In16 x := by
  intro x hx
  simp only [imaWavDecodeBlock, List.mem_append] at hx
  rcases hx with hx | hx
  · split at hx <;> simp only [List.mem_cons, List.not_mem_nil, or_false] at hx <;> rcases hx with rfl | rfl <;>
      exact wrapS16_range _
  · exact wavDecodeLoop_in16 _ _ _ _ _ x hx

theorem imaAiffDecodeBlock_in16 (channels bs spb : Nat) (block : List Byte) : ∀ x ∈ imaAiffDecodeBlock channels bs spb block, In16 x := by
  intro x hx
  unfold imaAiffDecodeBlock at hx
  split at hx
  · rcases mem_interleave _ _ x hx with h | h <;> exact aiffDecodeLoop_in16 _ _ _ x h
  · exact aiffDecodeLoop_in16 _ _ _ x hx

theorem msShort_in16 (lo hi : Nat) : In16 (msShort lo hi) := wrapS16_range _

theorem msDecodeBlock_in16 (channels spb : Nat) (block : List Byte) : ∀ x ∈ msDecodeBlock channels spb block, In16 x := by
  intro x hx
  unfold msDecodeBlock at hx
  simp only at hx
  split at hx <;> simp only [List.mem_append, List.mem_cons, List.not_mem_nil, or_false] at hx
  · rcases hx with (h | h) | hx
    · exact h ▸ msShort_in16 _ _
    · exact h ▸ msShort_in16 _ _
    · exact msDecodeLoop_in16 _ _ _ _ _ _ x hx
  · rcases hx with (h | h | h | h) | hx
    · exact h ▸ msShort_in16 _ _
    · exact h ▸ msShort_in16 _ _
    · exact h ▸ msShort_in16 _ _
    · exact h ▸ msShort_in16 _ _
    · exact msDecodeLoop_in16 _ _ _ _ _ _ x hx

theorem imaRun_index_range (cs : List Nat) : ∀ s : Spec.ImaState, 0 ≤ s.index → s.index ≤ 88 →
    0 ≤ (Spec.imaRun s cs).index ∧ (Spec.imaRun s cs).index ≤ 88 := by
  induction cs with
  | nil => intro s h0 h1; exact ⟨h0, h1⟩
  | cons c cs ih =>
    intro s _ _
    have := imaStep_index_range s c
    exact ih _ this.1 this.2

end Sf.Adpcm
