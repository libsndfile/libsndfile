/-
  SfProofs.Mpc2kImage — `Sf.Mpc2k.parse` on the images the MPC2K writer leaves in the store.  The lemmas are stated for
  the writer `fmtQ q` with an arbitrary rate-field rule `q` (the current saturating rule `quant`, and the wrap `quantOld`
  of before the repair of KF-RATE16-WRAP).
-/
import SfModel.Mpc2k
import SfProofs.Small2Session
namespace Sf.Mpc2k
open Sf Sf.Small2

theorem lawfulQ (q : Nat → Nat) (c : Cfg) (hn : c.name.length = 17) : Lawful (fmtQ q c) where
  hlen := by intro f; simp [fmtQ, hdrQ, hn]
  hindep := by intro n f g; rfl

theorem lawful (c : Cfg) (hn : c.name.length = 17) : Lawful (fmt c) := lawfulQ quant c hn

theorem preHtk_0104 (x y : Nat) (b cc : List Byte) : preHtk [1, 4, x, y] b cc = some (.fmt 0x210000) := rfl

theorem calcHdr_eq (c : Cfg) (D : Nat) :
    calcHdr (fmt c) (42 + D) = hdr c { frames := ((D / (2 * c.ch) : Nat) : Int), filelength := ((42 + D : Nat) : Int), datalength := (D : Nat) } :=
  calcHdr_std (fmt c) (2 * c.ch) (fun _ _ => rfl) D

theorem guess_image (q : Nat) (c : Cfg) (hn : c.name.length = 17) (f : Fields) (data : List Byte) :
    guess (hdrQ q c f ++ data) = some (.fmt 0x210000) := by
  obtain ⟨x, y, rest, hname⟩ : ∃ x y rest, c.name = x :: y :: rest := by
    match h : c.name with
    | [] => rw [h] at hn; cases hn
    | [_] => rw [h] at hn; cases hn
    | x :: y :: rest => exact ⟨x, y, rest, rfl⟩
  unfold guess hdrQ
  rw [hname]
  simp only [List.cons_append, List.nil_append, List.take_succ_cons, List.take_zero, preHtk_0104]

theorem le16_q (q : Nat) : ofLE (le16 (q : Nat)) = q % 65536 := by
  rw [ofLE_le16, wrapU_natCast]

theorem quant_field (sr : Nat) : quant sr % 65536 = quant sr := by unfold quant; omega

/-- mpc2k_read_header on `header ++ data`: a rate field of 0 makes validate_sfinfo refuse the file -/
theorem readHeader_image (q : Nat) (c : Cfg) (hwf : c.wf) (f : Fields) (data : List Byte) :
    readHeader (hdrQ q c f ++ data) =
      if q % 65536 < 1 then .err else .ok { ch := c.ch, fmt := 0x210002, sr := q % 65536, frames := data.length / (2 * c.ch) } := by
  obtain ⟨hch, _, _, hn⟩ := hwf
  have hlen : (hdrQ q c f ++ data).length = 42 + data.length := by simp [hdrQ, hn]; omega
  unfold readHeader
  rw [hlen]
  simp only [cut, hdrQ, List.append_assoc, drop_app_skip, take_app_head, hn, le32_length, le16_length, List.length_cons, List.length_nil,
    Nat.reduceAdd, Nat.reduceSub, Nat.reduceLeDiff, Nat.le_refl, List.drop_zero, le16_q]
  have hchv : (if ([100, 0, (c.ch - 1) % 2] : List Byte).getD 2 0 ≠ 0 then 2 else 1) = c.ch := by
    rcases hch with h | h <;> rw [h] <;> decide
  have hbw : 0 < 2 * c.ch := by rcases hch with h | h <;> omega
  rw [hchv, show ((42 : Int)) = ((42 : Nat) : Int) from rfl, framesOf_nat 42 data.length (2 * c.ch) hbw]

theorem parse_image (q : Nat) (c : Cfg) (hwf : c.wf) (f : Fields) (data : List Byte) :
    parse (hdrQ q c f ++ data) = readHeader (hdrQ q c f ++ data) := by
  have hn := hwf.2.2.2
  have hlen : (hdrQ q c f ++ data).length = 42 + data.length := by simp [hdrQ, hn]; omega
  unfold parse
  rw [guess_image q c hn, hlen, if_neg (by omega)]
  simp only []
  rw [if_neg (by omega)]

end Sf.Mpc2k
