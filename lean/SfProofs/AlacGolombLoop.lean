/-
  SfProofs.AlacGolombLoop — `dyn_decomp (dyn_comp (r)) = r`: the adaptive loop (mean tracking, zero-run mode) of ag_dec.c
  reads back what the loop of ag_enc.c wrote, for the parameters the encoder uses (MB0 10, PB0 40, KB0 14).
  `Fits`, the range in which `dynDecomp_dynComp` and the predictor lemmas of SfProofs/AlacMono.lean are stated, is defined here.
-/
import SfProofs.AlacGolomb
namespace Sf.AlacCore

theorem exists_lead (m : Nat) (h1 : 1 ≤ m) (h2 : m < 4294967296) : lead m = 31 - m.log2 ∧ m.log2 ≤ 31 := by
  have hne : m ≠ 0 := by omega
  have hlo := Nat.log2_self_le hne
  have hhi := Nat.lt_log2_self (n := m)
  have h31 : m.log2 ≤ 31 := by
    by_contra hc
    have : 2 ^ 32 ≤ 2 ^ m.log2 := Nat.pow_le_pow_right (by decide) (by omega)
    have e : (2 : Nat) ^ 32 = 4294967296 := by norm_num
    omega
  refine ⟨?_, h31⟩
  apply lead_eq m (31 - m.log2) (by omega)
  · rw [show 31 - (31 - m.log2) = m.log2 by omega]; exact hlo
  · rw [show 32 - (31 - m.log2) = m.log2 + 1 by omega]; exact hhi

theorem lg3a_pos (x : Nat) (h : x + 3 < 4294967296) : 1 ≤ lg3a x := by
  unfold lg3a
  obtain ⟨e, h31⟩ := exists_lead (x + 3) (by omega) h
  rw [e]
  have : 1 ≤ (x + 3).log2 := (Nat.le_log2 (by omega)).mpr (by omega)
  omega

/-- the Golomb parameter of a zero run is at most 10, so the `& wb` of KB0 = 14 keeps it -/
theorem zrun_k (mb1 : Nat) (h : mb1 < 128) :
    1 ≤ lead mb1 - 24 + (mb1 + 16) / 64 ∧ (2 ^ (lead mb1 - 24 + (mb1 + 16) / 64) - 1) &&& (2 ^ 14 - 1) = 2 ^ (lead mb1 - 24 + (mb1 + 16) / 64) - 1 := by
  have h25 : 25 ≤ lead mb1 := lead_ge mb1 25 (by decide) h
  have h32 : lead mb1 ≤ 32 := (leadFrom_bounds 32 _).2
  have hp : 2 ^ (lead mb1 - 24 + (mb1 + 16) / 64) ≤ 2 ^ 14 := Nat.pow_le_pow_right (by decide) (by omega)
  have hpos : 0 < 2 ^ (lead mb1 - 24 + (mb1 + 16) / 64) := Nat.pow_pos (by decide)
  exact ⟨by omega, by rw [Nat.and_two_pow_sub_one_eq_mod, Nat.mod_eq_of_lt (by omega)]⟩
/-- the sample comes back from its code: `n = 2|del| - [del < 0] - zmode`, decoded with the same zmode -/
theorem delOf_code (del : Int) (z : Nat) (h1 : -2147483648 < del) (h2 : del < 2147483648) (hz : z ≤ 1) (hnz : z = 1 → del ≠ 0) :
    delOf ((u32 ((2 * del.natAbs : Nat) - (if del < 0 then 1 else 0) - (z : Int)) + z) % 4294967296) = del := by
  have hz0 : del = 0 → z = 0 := fun h => by
    by_contra hc
    exact hnz (by omega) h
  by_cases hneg : del < 0
  · have hu : ∃ N : Nat, u32 ((2 * del.natAbs : Nat) - (if del < 0 then 1 else 0) - (z : Int)) = N ∧ (N + z + 1 : Int) = -2 * del := by
      refine ⟨_, rfl, ?_⟩
      unfold u32 wrapU
      simp only [Int.reducePow, hneg, if_true]
      omega
    obtain ⟨N, hN, e⟩ := hu
    rw [hN, Nat.mod_eq_of_lt (by omega)]
    unfold delOf w32 wrapS
    simp only [Int.reducePow]
    have ho : (N + z) % 2 = 1 := by omega
    simp only [ho, if_true]
    rw [Nat.mod_eq_of_lt (by omega)]
    split <;> omega
  · have hu : ∃ N : Nat, u32 ((2 * del.natAbs : Nat) - (if del < 0 then 1 else 0) - (z : Int)) = N ∧ (N + z : Int) = 2 * del := by
      refine ⟨_, rfl, ?_⟩
      unfold u32 wrapU
      simp only [Int.reducePow, hneg, if_false]
      omega
    obtain ⟨N, hN, e⟩ := hu
    rw [hN, Nat.mod_eq_of_lt (by omega)]
    unfold delOf w32 wrapS
    simp only [Int.reducePow]
    have ho : ¬ ((N + z) % 2 = 1) := by omega
    simp only [ho, if_false]
    rw [Nat.mod_eq_of_lt (by omega)]
    split <;> omega

theorem takeZeros_spec : ∀ (l : List Int) (a : Nat), a < 65535 →
    l = List.replicate ((takeZeros l a).1 - a) 0 ++ (takeZeros l a).2 ∧ a ≤ (takeZeros l a).1 ∧ (takeZeros l a).1 ≤ 65535 ∧
    ((takeZeros l a).1 < 65535 → (takeZeros l a).2.head? ≠ some 0)
  | [], a, h => by simp [takeZeros]; omega
  | x :: rest, a, h => by
    by_cases hx : x = 0
    · subst hx
      rw [takeZeros]
      by_cases hc : a + 1 ≥ 65535
      · simp only [hc, if_true]
        refine ⟨by simp, by omega, by omega, by omega⟩
      · simp only [hc, if_false]
        obtain ⟨h1, h2, h3, h4⟩ := takeZeros_spec rest (a + 1) (by omega)
        refine ⟨?_, by omega, h3, h4⟩
        conv => lhs; rw [h1]
        rw [show (takeZeros rest (a + 1)).1 - a = ((takeZeros rest (a + 1)).1 - (a + 1)) + 1 by omega, List.replicate_succ]
        rfl
    · have : takeZeros (x :: rest) a = (a, x :: rest) := by
        unfold takeZeros
        split
        · rename_i h0; simp at h0; exact absurd h0.1 hx
        · rfl
      rw [this]
      refine ⟨by simp, by omega, by omega, ?_⟩
      intro _; simp [hx]

theorem dynCode32_length_pos (maxbits m k n : Nat) (hk : 1 ≤ k) : 1 ≤ (dynCode32 maxbits m k n).length := by
  unfold dynCode32
  simp only []
  generalize n / m = d
  by_cases h1 : d < 9
  · simp only [h1, if_true]
    by_cases h2 : d + k + 1 - (if n - m * d = 0 then 1 else 0) > 25
    · simp only [h2, if_true, List.length_append, bitsOf_length]; omega
    · simp only [h2, if_false, bitsOf_length]; split <;> omega
  · simp only [h1, if_false, List.length_append, bitsOf_length]; omega

theorem two_pow_pred_le30 {b : Nat} (hb : b ≤ 31) : (2 : Int) ^ (b - 1) ≤ 1073741824 := by
  have : (2 : Nat) ^ (b - 1) ≤ 2 ^ 30 := Nat.pow_le_pow_right (by decide) (by omega)
  have e30 : (2 : Nat) ^ 30 = 1073741824 := by norm_num
  rw [e30] at this
  exact_mod_cast this

theorem code_lt (del : Int) (z b : Nat) (hb1 : 1 ≤ b) (hb : b ≤ 31) (h1 : -(2 : Int) ^ (b - 1) ≤ del) (h2 : del < (2 : Int) ^ (b - 1)) (hz : z ≤ 1)
    (hnz : z = 1 → del ≠ 0) : u32 ((2 * del.natAbs : Nat) - (if del < 0 then 1 else 0) - (z : Int)) < 2 ^ b := by
  have hp := two_pow_pred_le30 hb
  have e : (2 : Nat) ^ b = 2 * 2 ^ (b - 1) := by rw [← Nat.pow_succ']; congr 1; omega
  have ec : ((2 ^ (b - 1) : Nat) : Int) = (2 : Int) ^ (b - 1) := by push_cast; rfl
  have hz0 : del = 0 → z = 0 := fun h => by
    by_contra hc
    exact hnz (by omega) h
  unfold u32 wrapU
  simp only [Int.reducePow]
  rw [e]
  split <;> omega

/-- The running mean stays at or below 2^26.  The update `mb + 40·nz − 40·mb / 512` keeps every bound from 2^25 (where, at the
    largest code 65535, it stops growing) up to 2^32 / 40 (below which `pb * mb` does not wrap in uint32_t); 2^26 is one. -/
theorem mbNext_le (n nz mb : Nat) (hmb : mb ≤ 67108864) (hnz : nz ≤ n + 1) : mbNext 40 n nz mb ≤ 67108864 := by
  unfold mbNext
  split
  · omega
  · rename_i hc
    have h1 : 40 * nz % 4294967296 = 40 * nz := Nat.mod_eq_of_lt (by omega)
    have h2 : 40 * mb % 4294967296 = 40 * mb := Nat.mod_eq_of_lt (by omega)
    rw [h1, h2]
    have hB : 40 * mb / 512 ≤ 40 * nz + mb := by omega
    have hX : 40 * nz + mb - 40 * mb / 512 ≤ 67108864 := by omega
    have e : ((40 * nz + mb : Nat) : Int) - ((40 * mb / 512 : Nat) : Int) = ((40 * nz + mb - 40 * mb / 512 : Nat) : Int) := by omega
    unfold u32 wrapU
    rw [e]
    have : ((40 * nz + mb - 40 * mb / 512 : Nat) : Int) % (2 ^ 32 : Int) = ((40 * nz + mb - 40 * mb / 512 : Nat) : Int) :=
      Int.emod_eq_of_lt (by omega) (by norm_num; omega)
    rw [this, Int.toNat_natCast]
    exact hX

/-- `dyn_decomp (dyn_comp (r)) = r`: the decoder's loop on the bits of the encoder's loop (standard parameters), whatever
    follows them: every residual that fits `bitSize` ≤ 31 bits, every starting mean and zero-run state both sides share -/
theorem dynLoop_dynCompLoop (bitSize : Nat) (hb1 : 1 ≤ bitSize) (hb : bitSize ≤ 31) (off0 maxPos : Nat) :
    ∀ (fuel : Nat) (pc : List Int) (fuelD q mb zmode : Nat) (acc : List Int) (rest : Bits),
      pc.length ≤ fuel → pc.length ≤ fuelD → mb ≤ 67108864 → zmode ≤ 1 → (zmode = 1 → pc.head? ≠ some 0) →
      (∀ x ∈ pc, -(2 : Int) ^ (bitSize - 1) ≤ x ∧ x < (2 : Int) ^ (bitSize - 1)) →
      off0 + q + (dynCompLoop stdAg bitSize fuel pc mb zmode).length ≤ maxPos →
      dynLoop stdAg bitSize off0 maxPos fuelD pc.length (dynCompLoop stdAg bitSize fuel pc mb zmode ++ rest) q mb zmode acc =
        ⟨true, acc.reverse ++ pc, q + (dynCompLoop stdAg bitSize fuel pc mb zmode).length⟩ := by
  intro fuel
  induction fuel with
  | zero =>
    intro pc fuelD q mb zmode acc rest h1 _ _ _ _ _ _
    have : pc = [] := List.eq_nil_of_length_eq_zero (by omega)
    subst this
    cases fuelD <;> simp [dynCompLoop, dynLoop]
  | succ fuel ih =>
    intro pc fuelD q mb zmode acc rest hf hfd hmb hz hzh hfit hpos
    cases pc with
    | nil => cases fuelD <;> simp [dynCompLoop, dynLoop]
    | cons del pcs =>
      -- one round of both loops: the code word of `del` is read back by `dynGet32_dynCode32` (both sides take `k` from the same
      -- mean `mb` and move it to the same `mb1`); when `mb1` is small a zero-run word follows, read back by `dynGet_dynCode`.
      -- `zmode = 1` stands only behind a zero run that ended below the cap of 65535, so the next residual, if any, is not 0: that is
      -- why `zmode` can be subtracted from its code (`delOf_code`)
      obtain ⟨fuelD, rfl⟩ : ∃ g, fuelD = g + 1 := ⟨fuelD - 1, by simp at hfd; omega⟩
      have hdel := hfit del (by simp)
      have hpcs : ∀ x ∈ pcs, -(2 : Int) ^ (bitSize - 1) ≤ x ∧ x < (2 : Int) ^ (bitSize - 1) := fun x hx => hfit x (by simp [hx])
      have hp30 := two_pow_pred_le30 hb
      have hnz : zmode = 1 → del ≠ 0 := fun h0 hd => by
        have := hzh h0; simp [hd] at this
      have hk1 : 1 ≤ min (lg3a (mb / 512)) stdAg.kb := by
        have := lg3a_pos (mb / 512) (by omega)
        simp only [stdAg, setAgParams]; omega
      generalize hk : min (lg3a (mb / 512)) stdAg.kb = k at hk1
      have hn := code_lt del zmode bitSize hb1 hb hdel.1 hdel.2 hz hnz
      have hdl := delOf_code del zmode (by omega) (by omega) hz hnz
      generalize hnn : u32 ((2 * del.natAbs : Nat) - (if del < 0 then 1 else 0) - (zmode : Int)) = n at hn hdl
      have hmb1 := mbNext_le n ((n + zmode) % 4294967296) mb hmb (by omega)
      have hpb : stdAg.pb = 40 := rfl
      have hcl := dynCode32_length_pos bitSize (2 ^ k - 1) k n hk1
      have hget := dynGet32_dynCode32 bitSize k n ((off0 + q) % 8)
      rw [dynCompLoop] at hpos ⊢
      simp only [hk, hnn, hpb] at hpos ⊢
      generalize hmbn : mbNext 40 n ((n + zmode) % 4294967296) mb = mb1 at hmb1 hpos ⊢
      rw [dynLoop]
      simp only [List.length_cons, Nat.succ_ne_zero, if_false, hk, Nat.add_sub_cancel]
      have hroom : ¬ (off0 + q ≥ maxPos) := by simp only [List.length_append] at hpos; omega
      simp only [hroom, if_false, List.append_assoc]
      rw [hget _ hk1 (Nat.mod_lt _ (by decide)) hn]
      simp only [List.drop_left' rfl, hdl, hpb, hmbn]
      by_cases hzr : mb1 * 4 % 4294967296 < 512 ∧ pcs ≠ []
      · -- a zero run follows
        have hzr' : mb1 * 4 % 4294967296 < 512 ∧ pcs.length > 0 := ⟨hzr.1, List.length_pos_iff.mpr hzr.2⟩
        simp only [if_pos hzr, if_pos hzr'] at hpos ⊢
        have hm128 : mb1 < 128 := by omega
        obtain ⟨hk2, hmz⟩ := zrun_k mb1 hm128
        have hwb : stdAg.wb = 2 ^ 14 - 1 := rfl
        rw [hwb, hmz] at hpos ⊢
        obtain ⟨ht1, ht2, ht3, ht4⟩ := takeZeros_spec pcs 0 (by decide)
        generalize htz : takeZeros pcs 0 = tz at ht1 ht2 ht3 ht4 hpos ⊢
        obtain ⟨nzr, pcs1⟩ := tz
        simp only [Nat.sub_zero] at ht1 ht2 ht3 ht4 hpos ⊢
        have hlen : pcs.length = nzr + pcs1.length := by
          have := congrArg List.length ht1; simpa using this
        simp only [List.append_assoc]
        rw [dynGet_dynCode _ nzr _ _ hk2 (Nat.mod_lt _ (by decide)) (by omega)]
        have hle : ¬ (nzr > pcs.length) := by omega
        simp only [hle, if_false, List.drop_left' rfl]
        have := ih pcs1 fuelD (q + (dynCode32 bitSize (2 ^ k - 1) k n).length + (dynCode (2 ^ (lead mb1 - 24 + (mb1 + 16) / 64) - 1) (lead mb1 - 24 + (mb1 + 16) / 64) nzr).length)
          0 (if nzr ≥ 65535 then 0 else 1) (List.replicate nzr 0 ++ del :: acc) rest
          (by simp at hf; omega) (by simp at hfd; omega) (by omega) (by split <;> omega)
          (by intro h0; apply ht4; by_contra hc; simp [show nzr ≥ 65535 by omega] at h0)
          (fun x hx => hpcs x (by rw [ht1]; simp [hx]))
          (by simp only [List.length_append] at hpos ⊢; omega)
        rw [show pcs.length - nzr = pcs1.length by omega, this]
        simp only [List.length_append, List.reverse_append, List.reverse_cons, List.reverse_replicate, List.append_assoc,
          List.singleton_append, AgRes.mk.injEq, true_and]
        refine ⟨?_, by omega⟩
        conv => rhs; rw [ht1]
        simp
      · -- the next residual follows
        have hzr' : ¬ (mb1 * 4 % 4294967296 < 512 ∧ pcs.length > 0) := by
          intro h; exact hzr ⟨h.1, List.length_pos_iff.mp h.2⟩
        simp only [if_neg hzr, if_neg hzr'] at hpos ⊢
        have := ih pcs fuelD (q + (dynCode32 bitSize (2 ^ k - 1) k n).length) mb1 0 (del :: acc) rest
          (by simp at hf; omega) (by simp at hfd; omega) hmb1 (by omega) (by intro h; omega) hpcs
          (by simp only [List.length_append] at hpos ⊢; omega)
        rw [this]
        simp only [List.length_append, List.reverse_cons, List.append_assoc, List.singleton_append, AgRes.mk.injEq, true_and]
        omega

/-- a value fits `cb` bits (two's complement) -/
def Fits (cb : Nat) (y : Int) : Prop := -(2 : Int) ^ (cb - 1) ≤ y ∧ y < (2 : Int) ^ (cb - 1)

/-- `dyn_decomp (dyn_comp (r)) = r` at the level of the two entry points -/
theorem dynDecomp_dynComp (bitSize : Nat) (hb1 : 1 ≤ bitSize) (hb : bitSize ≤ 31) (pc : List Int)
    (hfit : ∀ x ∈ pc, Fits bitSize x) (rest : Bits) (pos byteSize : Nat)
    (hroom : pos + (dynComp stdAg pc bitSize).length ≤ byteSize * 8) :
    dynDecomp stdAg ⟨dynComp stdAg pc bitSize ++ rest, pos⟩ byteSize pc.length bitSize =
      (⟨true, pc, (dynComp stdAg pc bitSize).length⟩, ⟨rest, pos + (dynComp stdAg pc bitSize).length⟩) := by
  have h := dynLoop_dynCompLoop bitSize hb1 hb (pos % 8) (byteSize * 8) pc.length pc pc.length 0 10 0 [] rest
    (Nat.le_refl _) (Nat.le_refl _) (by decide) (by decide) (by intro h; omega) hfit
    (by have := Nat.mod_le pos 8; simp only [dynComp, show stdAg.mb0 = 10 from rfl] at hroom; omega)
  unfold dynDecomp
  simp only [show stdAg.mb0 = 10 from rfl]
  unfold dynComp at hroom ⊢
  simp only [show stdAg.mb0 = 10 from rfl] at hroom ⊢
  rw [h]
  simp only [List.reverse_nil, List.nil_append, Nat.zero_add, Rd.advance, List.drop_left' rfl, Rd.curByte, Bool.true_and, Prod.mk.injEq,
    AgRes.mk.injEq, and_true, decide_eq_true_eq]
  omega

end Sf.AlacCore
