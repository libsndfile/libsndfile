/-
  SfProofs.AbsWriteBridgeHandle — level B of the write-side bridge for the concrete handle model (Sf.Handle: RAW / AU /
  WAV, every sample-granular codec): the session type `Sess`, the prediction `predOf` (what the all-format write campaign
  would record of a job if the library behaved like the model: the calls with the values `stepWrite` returns, the closed
  bytes of `closeHandle`, the re-open through the model's parser `openHandle … .r`, the read-back through `stepRead`, a
  crash point after every SFC_UPDATE_HEADER_NOW and after every write made in auto-update mode) and the first lemmas:
  the calls are accepted in full (`callsOf_good`), the reference run is valid and hands over the same samples (`refOps_*`).
  That the closed bytes do not depend on the split is `closed_partition` (SfProps/C01BridgeFacts.lean, through C07).
-/
import SfProofs.AbsWriteBridge
import SfProofs.ContainerParse
namespace Sf.AbsWriteBridge
open Sf Sf.AbsWrite

/-- one job of the campaign on the concrete model: open parameters, the caller type of every call and of the read-backs,
    the operations of the split run (write calls, SFC_UPDATE_HEADER_NOW, SFC_SET_UPDATE_HEADER_AUTO) -/
structure Sess where
  fmt : Nat
  ch : Int
  sr : Int
  ty : Ty
  ops : List SOp

def Sess.geom (S : Sess) : AbsWrite.Geom := { word := S.fmt, ch := S.ch.toNat, sr := S.sr.toNat }

def SOp.hasTy (ty : Ty) : SOp → Prop
  | .write w => w.ty = ty
  | _ => True

def sampleList (ch : Nat) : List SOp → List Int
  | [] => []
  | .write w :: ops => w.data.take (w.items ch) ++ sampleList ch ops
  | _ :: ops => sampleList ch ops

/-- the reference run: all samples in one frames call (no call at all for an empty job, as the campaign does) -/
def refOps (S : Sess) : List SOp :=
  let xs := sampleList S.ch.toNat S.ops
  if xs.length = 0 then [] else [.write ⟨S.ty, true, ((xs.length / S.ch.toNat : Nat) : Int), xs⟩]

/-- the calls of a run with the values the model returns -/
def callsOf (ch : Nat) : H × Store → List SOp → List LCall
  | _, [] => []
  | hs, .write w :: ops =>
    { fc := w.frameCall, xs := w.data.take (w.items ch), ret := (stepWrite hs.1 hs.2 w.ty w.frameCall w.n w.data).2.2.ret } ::
      callsOf ch (stepS hs (.write w)) ops
  | hs, .update :: ops => callsOf ch (stepS hs .update) ops
  | hs, .auto b :: ops => callsOf ch (stepS hs (.auto b)) ops

def closedOf (hs : H × Store) (ops : List SOp) : List Byte := (closeHandle (runS hs ops).1 (runS hs ops).2).bytes

/-- the campaign re-opens RAW with the parameters of the writer and every other container with an empty SF_INFO -/
def reopen (S : Sess) (bytes : List Byte) : OpenRes :=
  if containerOf S.fmt = some .raw then openHandle 1 ⟨bytes, 0⟩ .r S.fmt S.ch S.sr else openHandle 1 ⟨bytes, 0⟩ .r 0 0 0

def infoOf : OpenRes → Info
  | .ok h _ => { ch := h.ch, sr := h.sr, fmt := h.fmtWord, frames := h.frames }
  | _ => { null := true }

/-- items delivered by an items read of `want` items, the requested region, and what a further read of `more` items returns -/
def readBack (ty : Ty) (want more : Nat) : OpenRes → Int × List Int × Int
  | .ok h s =>
    let r1 := stepRead h s ty false (want : Int)
    (r1.2.2.ret, r1.2.2.data, (stepRead r1.1 r1.2.1 ty false (more : Int)).2.2.ret)
  | _ => (0, [], 0)

/-- crash points of a run: (write calls made, frames written, the store's bytes) after every SFC_UPDATE_HEADER_NOW and
    after every non-empty write made while SFC_SET_UPDATE_HEADER_AUTO is on -/
def crashPoints (ch : Nat) : H × Store → Nat → Nat → List SOp → List (Nat × Nat × List Byte)
  | _, _, _, [] => []
  | hs, k, nf, .write w :: ops =>
    (if hs.1.autoHeader ∧ w.n ≠ 0 then [(k + 1, nf + w.frames ch, (stepS hs (.write w)).2.bytes)] else []) ++
      crashPoints ch (stepS hs (.write w)) (k + 1) (nf + w.frames ch) ops
  | hs, k, nf, .update :: ops => (k, nf, (stepS hs .update).2.bytes) :: crashPoints ch (stepS hs .update) k nf ops
  | hs, k, nf, .auto b :: ops => crashPoints ch (stepS hs (.auto b)) k nf ops

def snapOf (S : Sess) (x : Nat × Nat × List Byte) : LSnap :=
  let ro := reopen S x.2.2
  let rb := readBack S.ty ((x.2.1 + 8) * S.ch.toNat) S.ch.toNat ro
  { k := x.1, info := infoOf ro, ret := rb.1, data := rb.2.1 }

/-- THE PREDICTION of the model for a session whose open succeeded with `(h, s)`.  The read-back asks for
    (N + B + pad + 8)·ch items: the size vlib/writecamp.py asks for (`read_all`: `want`) -/
def predOf (S : Sess) (hs : H × Store) : Pred :=
  let ch := S.ch.toNat
  let g := S.geom
  let b1 := closedOf hs (refOps S)
  let ro := reopen S b1
  let rb := readBack S.ty ((sessFrames ch S.ops + g.block + g.pad + 8) * ch) ch ro
  { g := g, ty := S.ty,
    one := { calls := callsOf ch hs (refOps S), bytes := b1 },
    info := infoOf ro, rbRet := rb.1, rbData := rb.2.1, rbMore := rb.2.2,
    split := { calls := callsOf ch hs S.ops, bytes := closedOf hs S.ops },
    snaps := (crashPoints ch hs 0 0 S.ops).map (snapOf S),
    stale := b1 }

/-- THE RECORD of a session (`openHandle` in write mode has no frames parameter: the stale-frames run is the reference run) -/
def recordOf (S : Sess) : Record :=
  match openHandle 0 {} .w S.fmt S.ch S.sr with
  | .ok h s => (predOf S (h, s)).record
  | _ => { g := S.geom, ty := S.ty, one := { openNull := true } }

theorem stepWrite_ret (h : H) (s : Store) (ty : Ty) (fc : Bool) (n : Int) (data : List Int) (hn : 0 ≤ n) (hm : h.mode = .w)
    (hch : 0 < h.ch) (hal : fc = false → n % h.ch = 0) : (stepWrite h s ty fc n data).2.2.ret = n := by
  by_cases h0 : n = 0
  · subst h0; simp [stepWrite]
  · obtain ⟨_, _, _, _, _, _, _, eo⟩ := stepWrite_fields h s ty fc n data (by omega) (by rw [hm]; decide)
      (by cases fc; exact Or.inr (hal rfl); exact Or.inl rfl)
    rw [eo]
    exact reqLen_ret h fc n hch

theorem valid_xs (w : WCall) (ch : Nat) (hv : w.valid ch) : (w.data.take (w.items ch)).length = w.items ch := by
  rw [List.length_take]; exact Nat.min_eq_left hv.2.2

/-- the samples one operation hands over -/
def SOp.xs (ch : Nat) : SOp → List Int
  | .write w => w.data.take (w.items ch)
  | _ => []

theorem sampleList_eq (ch : Nat) (ops : List SOp) : sampleList ch ops = ops.flatMap (SOp.xs ch) := by
  induction ops with
  | nil => rfl
  | cons op r ih => cases op <;> simp [sampleList, SOp.xs, ih]

theorem callsOf_append (ch : Nat) : ∀ (xs ys : List SOp) (hs : H × Store),
    callsOf ch hs (xs ++ ys) = callsOf ch hs xs ++ callsOf ch (runS hs xs) ys
  | [], ys, hs => rfl
  | .write w :: xs, ys, hs => by
    simp only [List.cons_append, callsOf, callsOf_append ch xs ys, runS, List.foldl_cons]
  | .update :: xs, ys, hs => by
    simp only [List.cons_append, callsOf, callsOf_append ch xs ys, runS, List.foldl_cons]
  | .auto b :: xs, ys, hs => by
    simp only [List.cons_append, callsOf, callsOf_append ch xs ys, runS, List.foldl_cons]

theorem callsOf_good {c : Cfg} : ∀ (ops : List SOp) {a : Sf.Abs} {h : H} {s : Store}, Inv c a h s → (∀ op ∈ ops, op.valid c.ch) →
    (∀ d ∈ callsOf c.ch (h, s) ops, d.good c.ch) ∧ samples (callsOf c.ch (h, s) ops) = sampleList c.ch ops ∧
    framesOf c.ch (callsOf c.ch (h, s) ops) = sessFrames c.ch ops
  | [], _, _, _, _, _ => ⟨by simp [callsOf], rfl, rfl⟩
  | .write w :: ops, a, h, s, i, hv => by
    have hw : w.valid c.ch := hv (.write w) (by simp)
    have i1 := stepS_inv i (.write w) hw
    obtain ⟨g1, g2, g3⟩ := callsOf_good ops i1 (fun o ho => hv o (by simp [ho]))
    obtain ⟨hit, hreq⟩ := items_eq w c.ch i.chpos hw
    have hxl := valid_xs w c.ch hw
    have hret := stepWrite_ret h s w.ty w.frameCall w.n w.data hw.1 i.mode (by rw [i.ch]; exact i.chpos)
      (by rw [i.ch]; exact hw.2.1)
    refine ⟨?_, ?_, ?_⟩
    · intro d hd
      simp only [callsOf, List.mem_cons] at hd
      rcases hd with rfl | hd
      · refine ⟨by show (w.data.take (w.items c.ch)).length % c.ch = 0; rw [hxl, hit]; exact Nat.mul_mod_left _ _, ?_⟩
        simp only [LCall.n, hxl, hret]
        cases hf : w.frameCall
        · simp only [hf, Bool.false_eq_true, if_false] at hreq ⊢; exact hreq
        · simp only [hf, if_true] at hreq ⊢
          rw [hit, Nat.mul_div_cancel _ i.chpos]
          have : w.n * (c.ch : Int) = (w.frames c.ch : Int) * (c.ch : Int) := by rw [hreq, hit]; push_cast; rfl
          exact Int.eq_of_mul_eq_mul_right (by have := i.chpos; omega) this
      · exact g1 d hd
    · simp only [callsOf, samples, List.flatMap_cons, sampleList] at g2 ⊢
      rw [g2]
    · simp only [callsOf, framesOf, sessFrames, List.map_cons, List.sum_cons, SOp.frames] at g3 ⊢
      rw [g3, hxl]; rfl
  | .update :: ops, a, h, s, i, hv => by
    have i1 := stepS_inv i .update trivial
    simpa [callsOf, sampleList, sessFrames, SOp.frames] using callsOf_good ops i1 (fun o ho => hv o (by simp [ho]))
  | .auto b :: ops, a, h, s, i, hv => by
    have i1 := stepS_inv i (.auto b) trivial
    simpa [callsOf, sampleList, sessFrames, SOp.frames] using callsOf_good ops i1 (fun o ho => hv o (by simp [ho]))

theorem sessData_ty (c : Cfg) (ty : Ty) (ops : List SOp) (h : ∀ op ∈ ops, SOp.hasTy ty op) :
    sessData c ops = c.enc.encodeAll {} ty (sampleList c.ch ops) := by
  rw [sampleList_eq, Enc.encodeAll, List.flatMap_assoc, sessData, List.flatMap_def, List.flatMap_def]
  refine congrArg _ (List.map_congr_left fun op hm => ?_)
  have := h op hm
  cases op with
  | write w => rw [SOp.bytes, this]; rfl
  | _ => rfl

theorem sampleList_length (ch : Nat) (hch : 0 < ch) : ∀ (ops : List SOp), (∀ op ∈ ops, op.valid ch) →
    (sampleList ch ops).length = sessFrames ch ops * ch
  | [], _ => by simp [sampleList, sessFrames]
  | .write w :: ops, h => by
    have hw : w.valid ch := h (.write w) (by simp)
    have ih := sampleList_length ch hch ops (fun o ho => h o (by simp [ho]))
    simp only [sampleList, List.length_append, valid_xs w ch hw, sessFrames, List.map_cons, List.sum_cons, SOp.frames,
      Nat.add_mul] at ih ⊢
    rw [ih, (items_eq w ch hch hw).1]
  | .update :: ops, h | .auto _ :: ops, h => by
    simpa [sampleList, sessFrames, SOp.frames] using sampleList_length ch hch ops (fun o ho => h o (by simp [ho]))

theorem refOps_valid (S : Sess) (hch : 0 < S.ch.toNat) (hv : ∀ op ∈ S.ops, op.valid S.ch.toNat) :
    ∀ op ∈ refOps S, op.valid S.ch.toNat := by
  intro op hop
  unfold refOps at hop
  simp only at hop
  split at hop
  · cases hop
  · simp only [List.mem_singleton] at hop
    subst hop
    have hl := sampleList_length S.ch.toNat hch S.ops hv
    refine ⟨Int.natCast_nonneg _, fun h => (by cases h), ?_⟩
    show (WCall.items _ _) ≤ _
    simp only [WCall.items, if_true]
    rw [hl, Nat.mul_div_cancel _ hch, ← Int.natCast_mul, Int.toNat_natCast]
    exact Nat.le_refl _

theorem refOps_hasTy (S : Sess) : ∀ op ∈ refOps S, SOp.hasTy S.ty op := by
  intro op hop
  unfold refOps at hop
  simp only at hop
  split at hop
  · cases hop
  · simp only [List.mem_singleton] at hop
    subst hop; rfl

theorem refOps_samples (S : Sess) (hch : 0 < S.ch.toNat) (hv : ∀ op ∈ S.ops, op.valid S.ch.toNat) :
    sampleList S.ch.toNat (refOps S) = sampleList S.ch.toNat S.ops := by
  unfold refOps
  simp only
  split
  · rename_i h0
    simp [sampleList, List.eq_nil_of_length_eq_zero h0]
  · have hl := sampleList_length S.ch.toNat hch S.ops hv
    simp only [sampleList, List.append_nil, WCall.items, if_true]
    rw [hl, Nat.mul_div_cancel _ hch, ← Int.natCast_mul, Int.toNat_natCast, ← hl, List.take_length]

end Sf.AbsWriteBridge
