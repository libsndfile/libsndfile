/-
  Reads of ANY size at ANY position on a one-channel block-reader handle, through the sf_read_* wrapper and either
  staging loop (`RHandle.readBrk … true`: stop after a short piece — nms_adpcm_read_*; `RHandle.read`: the loop goes on
  after a short piece — gsm610_read_*; g72x_read_*, with a handle of its own, is in SfProofs/G72xRead.lean): the call
  returns `min n (frames − pos)`, delivers that many items of the stream and zeros behind them (never more than n cells
  in all), and the position advances by the count; a request that ends inside the data leaves the codec in step with the position.
  Built on `Staged` (SfProofs/BlockStaged.lean).  Helper lemmas for SfProps/C06Nms.lean, C06Gsm.lean, C06CodecsPastEnd.lean.
-/
import SfProofs.BlockStaged
import SfModel.Oki
namespace Sf.Block.PastEnd
open Sf Sf.Block Sf.Block.Proofs

theorem take_zeros (a b : Nat) : (zeros a).take b = zeros (min b a) := by simp [zeros, List.take_replicate]

theorem map_zeros (f : Int → Int) (h0 : f 0 = 0) (k : Nat) : (zeros k).map f = zeros k := by
  simp [zeros, h0]

/-- the caller's image of a zero short is zero, for every caller type and normalisation (`vox_read_*`, the same expressions in
    `gsm610_read_*` and `nms_adpcm_read_*`) -/
theorem toCaller_zero (cv : Conv) (ty : Ty) : Oki.toCaller cv ty 0 = 0 := by
  cases ty
  · rfl
  · rfl
  · unfold Oki.toCaller; simp only; cases cv.normF <;> decide
  · unfold Oki.toCaller; simp only; cases cv.normD <;> decide

/-- the contract of a read of `n` items at any position: `min n (frames − pos)` items of the stream and zeros behind
    them, never more than `n` cells in all; the position advances by the count; after a request that ends inside the
    data there are no zeros and the codec state sits at the new position -/
def ReadAny (h : RHandle) (n : Nat) (res : RHandle × List Int × Nat) : Prop :=
  ∃ h' k, res = (h', h.r.slice h.pos (min n (h.frames - h.pos)) ++ zeros k, min n (h.frames - h.pos)) ∧
    min n (h.frames - h.pos) + k ≤ n ∧ h'.pos = h.pos + min n (h.frames - h.pos) ∧ h'.frames = h.frames ∧ h'.r = h.r ∧
    (h.pos + n ≤ h.frames → k = 0 ∧ Inv h.r h'.st ∧ h.r.pos h'.st = h'.pos)

theorem ReadAny.inside {h : RHandle} {n : Nat} {res : RHandle × List Int × Nat} (hr : ReadAny h n res) (hin : h.pos + n ≤ h.frames) :
    ∃ h', res = (h', h.r.slice h.pos n, n) ∧ h'.pos = h.pos + n ∧ h'.frames = h.frames ∧ h'.r = h.r ∧
      Inv h'.r h'.st ∧ h'.r.pos h'.st = h'.pos := by
  obtain ⟨h', k, e, _, hp, hf, hr, hk⟩ := hr
  obtain ⟨rfl, inv', hp'⟩ := hk hin
  rw [Nat.min_eq_left (by omega)] at e hp
  exact ⟨h', by rw [e, zeros, List.replicate_zero, List.append_nil], hp, hf, hr, hr ▸ inv', hr ▸ hp'⟩

theorem ReadAny.map {h : RHandle} {n : Nat} {res : RHandle × List Int × Nat} (hr : ReadAny h n res) (f : Int → Int) (h0 : f 0 = 0) :
    ∃ h' k, (res.1, res.2.1.map f, res.2.2) =
        (h', (h.r.slice h.pos (min n (h.frames - h.pos))).map f ++ zeros k, min n (h.frames - h.pos)) ∧
      min n (h.frames - h.pos) + k ≤ n ∧ h'.pos = h.pos + min n (h.frames - h.pos) ∧ h'.frames = h.frames ∧ h'.r = h.r := by
  obtain ⟨h', k, rfl, hk, hp, hf, hr, _⟩ := hr
  exact ⟨h', k, by rw [List.map_append, map_zeros f h0], hk, hp, hf, hr⟩

/-- the part of sf_read_* around the staging loop (shared by `RHandle.read` and `RHandle.readBrk`), on the loop's result -/
def clampRun (h : RHandle) (n : Nat) (run : RState × List Int × Nat) : RHandle × List Int × Nat :=
  if n = 0 then (h, [], 0)
  else if h.pos ≥ h.frames then (h, zeros n, 0)
  else
    let (st, d, count) := run
    if count ≤ (h.frames - h.pos) * h.r.ch then ({ h with st := st, pos := h.pos + count / h.r.ch }, d, count)
    else
      let c := (h.frames - h.pos) * h.r.ch
      ({ h with st := st, pos := h.frames }, d.take c ++ zeros (n - c), c)

theorem clampRun_any (h : RHandle) (hch : h.r.ch = 1) (inv : Inv h.r h.st) (hpos : h.r.pos h.st = h.pos)
    (hfr : h.frames ≤ h.r.frames) (n : Nat) (run : RState × List Int × Nat) (hrun : Staged h.r h.st n [] 0 run) :
    ReadAny h n (clampRun h n run) := by
  obtain ⟨t, k, st', hk, hmin, rfl, inv', hpos'⟩ := hrun
  rw [hpos] at hmin hpos'
  rw [List.nil_append, Nat.zero_add, hpos]
  unfold ReadAny clampRun
  by_cases h0 : n = 0
  · subst h0
    exact ⟨h, 0, by simp [slice_zero, zeros], by simp, by simp, rfl, rfl, fun _ => ⟨rfl, inv, hpos⟩⟩
  · simp only [h0, if_false]
    by_cases hend : h.pos ≥ h.frames
    · simp only [hend, if_true]
      have : h.frames - h.pos = 0 := by omega
      exact ⟨h, n, by simp [this, slice_zero], by simp [this], by simp [this], rfl, rfl, fun _ => by omega⟩
    · simp only [hend, if_false, hch, Nat.mul_one, Nat.div_one]
      by_cases hc : t ≤ h.frames - h.pos
      · rw [if_pos hc]
        obtain rfl : t = min n (h.frames - h.pos) := by omega
        exact ⟨{ h with st := st', pos := _ }, k, rfl, hk, rfl, rfl, rfl, fun _ => ⟨by omega, inv', hpos'⟩⟩
      · rw [if_neg hc]
        have e1 : min n (h.frames - h.pos) = h.frames - h.pos := by omega
        refine ⟨{ h with st := st', pos := h.frames }, n - (h.frames - h.pos), ?_, by omega, by simp only; omega, rfl, rfl,
          fun _ => by omega⟩
        rw [e1, List.take_append_of_le_length (by rw [slice_length]; omega), slice_take _ _ _ _ (by omega)]

/-- **any request, breaking staging loop** (`nms_adpcm_read_*`, `g72x_read_*` shape) -/
theorem readBrk_any (h : RHandle) (wf : WF h.r) (hch : h.r.ch = 1) (inv : Inv h.r h.st) (hpos : h.r.pos h.st = h.pos)
    (hfr : h.frames ≤ h.r.frames) (q n : Nat) :
    ReadAny h n (h.readBrk q true n) :=
  clampRun_any h hch inv hpos hfr n _ (readChunkedBrk_staged h.r wf hch q (n + 1) h.st n [] 0 inv rfl (Nat.lt_succ_self n))

/-- **any request, non-breaking staging loop** (`gsm610_read_*` shape) -/
theorem read_any (h : RHandle) (wf : WF h.r) (hch : h.r.ch = 1) (inv : Inv h.r h.st) (hpos : h.r.pos h.st = h.pos)
    (hfr : h.frames ≤ h.r.frames) (q n : Nat) :
    ReadAny h n (h.read q n) :=
  clampRun_any h hch inv hpos hfr n _ (readChunked_staged h.r wf hch q (n + 1) h.st n [] 0 inv rfl (Nat.lt_succ_self n))

end Sf.Block.PastEnd
