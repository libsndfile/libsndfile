/-
  SfProofs.AbsWriteBridgeRead — the read-back of a re-opened file on the concrete handle model (Sf.Handle): what
  `openHandle … .r` leaves in the fields the C04 / C11 theorems do not mention (`open_r_fields`), and what the campaign's
  two read calls deliver on a file whose data region is known (`readBack_spec`: a read of more than the file holds
  delivers exactly F·ch items — the decoded data region — and a further read delivers 0).  Both reads are `read_answer`
  (the closed form of a read, `stepRead_region`, with the end of the data included).
-/
import SfProofs.HandleContract
import SfProofs.RdwrSteps
import SfProofs.HandleOpen
namespace Sf.AbsWriteBridge
open Sf

theorem open_r_fields (ix : Nat) (s0 : Store) (fmt : Nat) (ch sr : Int) (h' : H) (s' : Store)
    (ho : openHandle ix s0 .r fmt ch sr = .ok h' s') :
    h'.mode = .r ∧ h'.rpos = 0 ∧ h'.conv = {} ∧ s'.bytes = s0.bytes := by
  rcases openHandle_ok ix s0 .r fmt ch sr h' s' ho with
    ⟨c, enc, _, _, _, _, hnew, hcase⟩ | ⟨p, c, enc, _, _, _, _, _, _, rfl, rfl⟩
  · rcases hnew with hm | ⟨hm, _⟩ | rfl
    · cases hm
    · cases hm
    · rcases hcase with ⟨_, rfl, rfl⟩ | ⟨hc, _⟩ | ⟨hc, _⟩
      · exact ⟨rfl, rfl, rfl, rfl⟩
      · cases hc
      · cases hc
  · exact ⟨rfl, rfl, rfl, rfl⟩

theorem readBack_spec {ix : Nat} {s0 : Store} {fmt : Nat} {ch sr : Int} {h' : H} {s' : Store}
    (ho : openHandle ix s0 .r fmt ch sr = .ok h' s') (ty : Ty)
    (F : Nat) (hF : h'.frames = F) (data tail : List Byte) (hb : s'.bytes.drop s'.pos = data ++ tail)
    (hd : data.length = F * (h'.enc.nbytes * h'.ch)) (m : Nat) (hm : F < m) (k : Nat) (hk : 0 < k) :
    (stepRead h' s' ty false ((m * h'.ch : Nat) : Int)).2.2.ret = ((F * h'.ch : Nat) : Int) ∧
    (stepRead h' s' ty false ((m * h'.ch : Nat) : Int)).2.2.data.length = m * h'.ch ∧
    (stepRead h' s' ty false ((m * h'.ch : Nat) : Int)).2.2.data.take (F * h'.ch) = h'.enc.decodeAll {} ty data ∧
    (stepRead (stepRead h' s' ty false ((m * h'.ch : Nat) : Int)).1 (stepRead h' s' ty false ((m * h'.ch : Nat) : Int)).2.1
        ty false ((k * h'.ch : Nat) : Int)).2.2.ret = 0 := by
  have hi : HInv h' s' := HInv_openHandle ix s0 .r fmt ch sr h' s' ho
  obtain ⟨hmode, hrpos, hconv, _⟩ := open_r_fields ix s0 fmt ch sr h' s' ho
  have hmw : h'.mode ≠ .w := by rw [hmode]; decide
  have hnb := hi.nb_pos
  have hmin : min m (F - 0) = F := by omega
  -- the first read sees all of `data`
  obtain ⟨a0, a1, _, a3, _, a5⟩ := AbsBridge.read_answer h' s' ty false m (by omega) hmw hi.ch_pos hnb 0 F data tail hrpos hF hd
    (fun _ => by rw [Nat.zero_mul, List.drop_zero, ← hb]; simp [readPos, (hi.rd hmode).lastOp])
  rw [hmin] at a0 a1 a5
  obtain ⟨f1, f2, f3, _, _, f6, _⟩ := stepRead_keeps h' s' ty false ((m * h'.ch : Nat) : Int)
  -- the second starts at the end
  obtain ⟨_, b1, _⟩ := AbsBridge.read_answer _ (stepRead h' s' ty false ((m * h'.ch : Nat) : Int)).2.1 ty false k hk (by rw [f6]; exact hmw)
    (by rw [f2]; exact hi.ch_pos) (by rw [f3]; exact hnb) F F data tail (by rw [← Nat.zero_add F]; exact a0) (f1.trans hF)
    (by rw [H.bw, f2, f3]; exact hd) (fun hlt => absurd hlt (Nat.lt_irrefl _))
  rw [Nat.sub_self, Nat.min_zero, callCount_zero, callCount, if_neg Bool.false_ne_true, f2] at b1
  refine ⟨a1, a3, a5.trans ?_, b1⟩
  rw [hconv, Nat.zero_mul, List.drop_zero]
  exact List.take_of_length_le (by
    rw [Enc.decodeAll_length _ _ _ hnb, hd, Nat.mul_comm h'.enc.nbytes, ← Nat.mul_assoc, Nat.mul_div_cancel _ hnb]
    exact Nat.le_refl _)

end Sf.AbsWriteBridge
