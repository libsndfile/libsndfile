/-
  SfProofs.XiImage — the XI write session (the header serialises the running frame count, which is
  `audio bytes / bytewidth` in every reachable state) and `Sf.Xi.parse` on the images the writer leaves.
-/
import SfModel.Xi
import SfProofs.Small2Session
namespace Sf.Xi
open Sf Sf.Small2

theorem part_lengths : partA.length = 44 ∧ partB.length = 234 ∧ (∀ codec, (partC codec).length = 36) := by
  refine ⟨by decide +kernel, by decide +kernel, ?_⟩
  intro codec; unfold partC; split <;> decide +kernel

theorem hdr_length (c : Cfg) (hwf : c.wf) (f : Fields) : (hdr c f).length = 338 := by
  obtain ⟨hA, hB, hC⟩ := part_lengths
  unfold hdr
  simp only [List.length_append, hA, hB, hC, hwf.2, le32_length]

theorem byteAt_field {bs a : List Byte} {n : Nat} (h : FieldAt bs n a) (u : Nat) (hu : u < a.length) :
    byteAt bs (n + u) = a.getD u 0 := h.getD u hu

theorem leAt_field {bs a : List Byte} {n : Nat} (h : FieldAt bs n a) (k : Nat) (hk : a.length = k) : leAt bs n k = ofLE a := by
  unfold leAt; rw [h.slice k hk]

theorem partA_facts : partA.take 20 = asc "Extended Instrument:" ∧ partA.getD 43 0 = 0x1A ∧
    partA = [0x45, 0x78, 0x74, 0x65, 0x6E, 0x64, 0x65, 0x64, 0x20, 0x49, 0x6E, 0x73] ++ partA.drop 12 := by
  decide +kernel

/-- the sample count, the last two bytes of the instrument header -/
theorem partB_count : FieldAt partB 232 (le16 1) := ⟨partB.take 232, [], by decide +kernel, by decide +kernel⟩

theorem partC_flags (codec : Nat) : (partC codec).getD 10 0 = if codec = 0x51 then 16 else 0 := by
  unfold partC; split <;> decide +kernel

theorem image_fields (c : Cfg) (hwf : c.wf) (f : Fields) (data : List Byte) :
    FieldAt (hdr c f ++ data) 0 partA ∧ FieldAt (hdr c f ++ data) 64 partB ∧ FieldAt (hdr c f ++ data) 298 (le32 f.frames) ∧
    FieldAt (hdr c f ++ data) 302 (partC c.codec) := by
  obtain ⟨hA, hB, hC⟩ := part_lengths
  have e : hdr c f ++ data = [partA, c.software, partB, le32 f.frames, partC c.codec, data].flatten := by simp [hdr]
  have F := FieldAt.seg _ e
  exact ⟨F 0 0 rfl rfl, F 2 64 rfl (by simp [hA, hwf.2]), F 3 298 rfl (by simp [hA, hB, hwf.2]), F 4 302 rfl (by simp [hA, hB, hwf.2])⟩

theorem guess_image (c : Cfg) (f : Fields) (data : List Byte) : guess (hdr c f ++ data) = some (.fmt 0x0F0000) := by
  unfold hdr
  rw [partA_facts.2.2]
  simp only [List.append_assoc, List.cons_append, List.nil_append]
  rfl

/-- **xi_read_header on a library image**: whatever the sample length field holds, the frame count is the audio
    bytes / bytewidth -/
theorem parse_image (c : Cfg) (hwf : c.wf) (f : Fields) (data : List Byte) :
    parse (hdr c f ++ data) = .ok { ch := 1, fmt := c.fmtWord, sr := 44100, frames := data.length / c.bw } := by
  obtain ⟨hA, _, hC⟩ := part_lengths
  obtain ⟨a1, a2, _⟩ := partA_facts
  obtain ⟨fA, fB, _, fC⟩ := image_fields c hwf f data
  have hlen : (hdr c f ++ data).length = 338 + data.length := by rw [List.length_append, hdr_length c hwf]
  unfold parse
  rw [if_neg (by omega), guess_image]
  simp only []
  unfold readHeader
  rw [if_neg (by omega)]
  have e1 : (hdr c f ++ data).take 20 = asc "Extended Instrument:" := by
    unfold hdr; rw [List.append_assoc, List.take_append_of_le_length (by omega)]; exact a1
  have e2 : byteAt (hdr c f ++ data) 43 = 0x1A := (byteAt_field fA 43 (by omega)).trans a2
  have e3 : leAt (hdr c f ++ data) 296 2 = 1 := (leAt_field (fB.trans partB_count) 2 rfl).trans (by decide)
  have e4 : byteAt (hdr c f ++ data) 312 = if c.codec = 0x51 then 16 else 0 :=
    (byteAt_field fC 10 (by rw [hC]; omega)).trans (partC_flags c.codec)
  have s1 : sext 16 1 = 1 := by decide
  rw [e1, e2, e3]
  simp only [ne_eq, not_true_eq_false, if_false, s1]
  rw [if_neg (by decide), if_neg (by decide)]
  have t1 : (1 : Int).toNat = 1 := rfl
  rw [t1, hlen, if_neg (by omega)]
  have t2 : trimCount (hdr c f ++ data) 1 = 1 := by simp [trimCount]
  rw [t2, if_neg (by decide), e4]
  rcases hwf.1 with h | h <;> simp [h, Cfg.fmtWord, Cfg.bw, bytewidth]

/-- the closed file and every update image under the repaired rule: the header with the frames written, then the audio.
    (In every state of the session the running frame count is audio bytes / bytewidth, and `xi_write_header` serialises it.) -/
theorem closed_eq (c : Cfg) (stale : Nat) (ops : List WOp) :
    closedBytes (fmt c) stale ops = hdr c { frames := (((opsData ops).length / c.bw : Nat) : Int) } ++ opsData ops ∧
    snapshotBytes (fmt c) stale ops = hdr c { frames := (((opsData ops).length / c.bw : Nat) : Int) } ++ opsData ops := by
  have hf := run_induct (fmt c) (fun s => s.f.frames = ((s.data.length / c.bw : Nat) : Int)) (fun _ b h => by cases b <;> exact h) (fun _ _ _ => rfl) ops
    (openW (fmt c) stale) (by simp [openW, emit])
  have hd := run_data (fmt c) ops (openW (fmt c) stale)
  rw [open_data, List.nil_append] at hd
  rw [hd] at hf
  have e : closedBytes (fmt c) stale ops = hdr c (run (fmt c) (openW (fmt c) stale) ops).f ++ (run (fmt c) (openW (fmt c) stale) ops).data ∧
      snapshotBytes (fmt c) stale ops = hdr c (run (fmt c) (openW (fmt c) stale) ops).f ++ (run (fmt c) (openW (fmt c) stale) ops).data := ⟨rfl, rfl⟩
  rw [e.1, e.2, hd, show hdr c (run (fmt c) (openW (fmt c) stale) ops).f = hdr c { frames := (((opsData ops).length / c.bw : Nat) : Int) } by
    unfold hdr; rw [hf]]
  exact ⟨rfl, rfl⟩

end Sf.Xi
