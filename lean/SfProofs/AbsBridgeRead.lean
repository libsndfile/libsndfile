/-
  The simulation relation `Sim` between the handle model and the abstract state, the concrete invariant `BInv`, and
  `read_accept`: the read contract in list form is accepted by `Abs.readOk` against the decoded data region.
-/
import SfProofs.AbsBridge
import SfProofs.AbsBridgeEnc
import SfProofs.HandleContract
import SfProofs.RdwrSteps
namespace Sf.AbsBridge
open Sf

/-- the reference stream: the decoded data region of the store, as cells -/
def absRef (h : H) (s : Store) (ty : Ty) : Array Abs.Item := encBuf ty (h.enc.decodeAll h.conv ty (dataRegion h s))

/-- THE ABSTRACTION MAP: the abstract state a handle on a store stands for -/
def absSt (h : H) (s : Store) : Abs.St :=
  { mode := absMode h.mode, frames := h.frames.toNat, rpos := h.rpos.toNat, wpos := h.wpos.toNat,
    err := decide (h.error ≠ 0), ref := absRef h s, valid := fun _ => true }

/-- the simulation relation.  Positions matter only to the calls the mode allows; the reference stream only where the
    abstract state still claims to know it. -/
structure Sim (h : H) (s : Store) (st : Abs.St) : Prop where
  mode : st.mode = absMode h.mode
  frames : (st.frames : Int) = h.frames
  rpos : h.mode ≠ .w → (st.rpos : Int) = h.rpos
  wpos : h.mode ≠ .r → (st.wpos : Int) = h.wpos
  ref : h.mode ≠ .w → ∀ ty, st.valid ty = true → st.ref ty = absRef h s ty

/-- the invariant of the concrete side -/
structure BInv (h : H) (s : Store) : Prop where
  hinv : HInv h s
  frames_nn : 0 ≤ h.frames
  rw : h.mode = .rw → RwInv h s

/-- the geometry the predicate is run with for a handle of the concrete model -/
structure GeomFor (g : Abs.Geom) (h : H) : Prop where
  ch : g.ch = h.ch
  seekable : g.seekable = true
  canTrunc : g.canTrunc = h.canTruncate
  ioMayFail : g.ioMayFail = false
  tailClean : g.tailClean = false
  holeZero : ∀ t, g.holeZero t = false

theorem Sim.set_err {h : H} {s : Store} {st : Abs.St} (sim : Sim h s st) (e : Int) (b : Bool) :
    Sim { h with error := e } s { st with err := b } :=
  ⟨sim.mode, sim.frames, sim.rpos, sim.wpos, sim.ref⟩

theorem BInv.set_error {h : H} {s : Store} (bi : BInv h s) (e : Int) : BInv { h with error := e } s := by
  refine ⟨bi.hinv.set_error e, bi.frames_nn, fun hm => ?_⟩
  obtain ⟨R, W, F, hdr, D, v⟩ := bi.rw hm
  exact ⟨R, W, F, hdr, D, v.setError e⟩

theorem absRef_congr_region (h h' : H) (s s' : Store) (ty : Ty) (he : h'.enc = h.enc) (hc : h'.conv = h.conv)
    (hD : dataRegion h' s' = dataRegion h s) : absRef h' s' ty = absRef h s ty := by
  unfold absRef; rw [he, hc, hD]

theorem absRef_congr (h h' : H) (s s' : Store) (ty : Ty) (he : h'.enc = h.enc) (hc : h'.conv = h.conv) (hch : h'.ch = h.ch)
    (ho : h'.dataoffset = h.dataoffset) (hf : h'.frames = h.frames) (hb : s'.bytes = s.bytes) :
    absRef h' s' ty = absRef h s ty := by
  unfold absRef dataRegion H.bw
  rw [he, hc, hch, ho, hf, hb]

/-- a step of the concrete side that keeps what `Sim` reads besides the positions -/
structure Kept (h : H) (s : Store) (h' : H) (s' : Store) : Prop where
  mode : h'.mode = h.mode
  frames : h'.frames = h.frames
  ref : h.mode ≠ .w → ∀ ty, absRef h' s' ty = absRef h s ty

theorem Kept.of_fields {h h' : H} {s s' : Store} (he : h'.enc = h.enc) (hc : h'.conv = h.conv) (hch : h'.ch = h.ch)
    (ho : h'.dataoffset = h.dataoffset) (hf : h'.frames = h.frames) (hm : h'.mode = h.mode) (hb : s'.bytes = s.bytes) :
    Kept h s h' s' :=
  ⟨hm, hf, fun _ ty => absRef_congr h h' s s' ty he hc hch ho hf hb⟩

theorem Sim.of_kept {h h' : H} {s s' : Store} {st st' : Abs.St} (sim : Sim h s st) (k : Kept h s h' s')
    (hm : st'.mode = st.mode) (hf : st'.frames = st.frames) (href : st'.ref = st.ref) (hv : st'.valid = st.valid)
    (hr : h.mode ≠ .w → (st'.rpos : Int) = h'.rpos) (hw : h.mode ≠ .r → (st'.wpos : Int) = h'.wpos) : Sim h' s' st' := by
  rw [← k.mode] at hr hw
  refine ⟨by rw [hm, k.mode]; exact sim.mode, by rw [hf, k.frames]; exact sim.frames, hr, hw, fun m ty v => ?_⟩
  rw [k.mode] at m
  rw [href, k.ref m ty]
  exact sim.ref m ty (by rw [← hv]; exact v)

theorem BInv.of_kept {h h' : H} {s s' : Store} (bi : BInv h s) (k : Kept h s h' s') (hi : HInv h' s')
    (hrw : RwInv h s → RwInv h' s') : BInv h' s' :=
  ⟨hi, by rw [k.frames]; exact bi.frames_nn, fun hm => hrw (bi.rw (by rw [← k.mode]; exact hm))⟩

/-- the transcript line of a read call -/
def outOfRead (ty : Ty) (o : Sf.Out) : Abs.Out := { ret := o.ret, err := decide (o.err ≠ 0), data := encBuf ty o.data }

/-- the list form of the read contract implies acceptance: `items` is the decoded data region (`F·ch` items), the call
    asked for `m` frames at read position `R` and answered `d = min m (F − R)` frames -/
theorem read_accept (g : Abs.Geom) (st : Abs.St) (ty : Ty) (fc : Bool) (n : Int) (m d F R chn : Nat) (items : List Int)
    (o : Sf.Out)
    (hgch : g.ch = chn) (hch : 0 < chn) (htail : g.tailClean = false) (hm : st.mode ≠ .w)
    (hF : st.frames = F) (hR : st.rpos = R)
    (hn : n = if fc then (m : Int) else ((m * chn : Nat) : Int)) (hm0 : 0 < m)
    (hd : d = min m (F - R))
    (hret : o.ret = if fc then (d : Int) else ((d * chn : Nat) : Int)) (herr : o.err = 0)
    (hlen : o.data.length = m * chn) (hil : items.length = F * chn)
    (hzero : F ≤ R → o.data = List.replicate (m * chn) 0)
    (hdat : 0 < d → o.data.take (d * chn) = (items.drop (R * chn)).take (d * chn))
    (href : st.valid ty = true → st.ref ty = encBuf ty items) :
    Abs.readOk g st ty fc n (outOfRead ty o) = .ok { st with rpos := st.rpos + d, err := false } := by
  subst hgch
  apply Abs.readOk_complete_gen g st ty fc n _ m d hch htail hm hn hm0 (by rw [hF, hR]; exact hd)
  · exact hret
  · simp [outOfRead, herr]
  · simp only [outOfRead]; rw [encBuf_size, hlen]
  · intro hdp hv
    rw [href hv, encBuf_size, hil, hF]
    refine ⟨(g.mul_cpf F ty).symm, ?_⟩
    simp only [outOfRead]
    rw [g.mul_cpf, hR, encBuf_extract, encBuf_extract_zero, hdat hdp]
  · intro hle
    simp only [outOfRead]
    rw [hzero (by rw [← hF, ← hR]; exact hle)]
    exact allOf_encBuf_zero ty (m * g.ch)

theorem valid_frames (h : H) (fc : Bool) (n : Int) (hch : 0 < h.ch) (hn : 0 < n) (ha : fc = true ∨ n % (h.ch : Int) = 0) :
    ∃ m : Nat, 0 < m ∧ n = callCount h fc m ∧ reqLen h fc n = ((m * h.ch : Nat) : Int) := by
  obtain ⟨m, hm0, hlen, h1, h2⟩ := reqLen_frames h fc n hch hn ha
  refine ⟨m, hm0, ?_, by rw [hlen]; push_cast; rfl⟩
  unfold callCount
  cases fc with
  | true => simp only [if_true]; exact h1 rfl
  | false => simp only [Bool.false_eq_true, if_false]; rw [h2 rfl]; push_cast; rfl

theorem framesOf_callCount (h : H) (fc : Bool) (d : Nat) (hch : 0 < h.ch) : framesOf h fc (callCount h fc d) = d := by
  unfold framesOf callCount
  cases fc with
  | true => simp
  | false =>
    simp only [Bool.false_eq_true, if_false]
    rw [← Int.natCast_ediv, Nat.mul_div_cancel _ hch]

theorem items_length (h : H) (ty : Ty) (D : List Byte) (F : Nat) (hnb : 0 < h.enc.nbytes) (hD : D.length = F * h.bw) :
    (h.enc.decodeAll h.conv ty D).length = F * h.ch := by
  rw [Enc.decodeAll_length _ _ _ hnb, hD]
  unfold H.bw
  rw [Nat.mul_comm h.enc.nbytes, ← Nat.mul_assoc, Nat.mul_div_cancel _ hnb]

theorem stepRead_kept (h : H) (s : Store) (ty : Ty) (fc : Bool) (n : Int) (hi : HInv h s) :
    Kept h s (stepRead h s ty fc n).1 (stepRead h s ty fc n).2.1 := by
  obtain ⟨f1, f2, f3, f4, f5, f6, _⟩ := stepRead_keeps h s ty fc n
  obtain ⟨_, _, _, _, _, hb⟩ := read_contract_any h s ty fc n hi
  exact .of_fields f3 f4 f2 f5 f1 f6 hb

theorem sim_after_read (h : H) (s : Store) (st : Abs.St) (ty : Ty) (fc : Bool) (n : Int) (d : Nat) (b : Bool)
    (hi : HInv h s) (sim : Sim h s st) (hr : (stepRead h s ty fc n).1.rpos = h.rpos + d) :
    Sim (stepRead h s ty fc n).1 (stepRead h s ty fc n).2.1 { st with rpos := st.rpos + d, err := b } := by
  refine sim.of_kept (stepRead_kept h s ty fc n hi) rfl rfl rfl rfl (fun hm => ?_) (fun hm => ?_)
  · rw [hr]; have := sim.rpos hm; simp only; omega
  · rw [(stepRead_keeps h s ty fc n).2.2.2.2.2.2]; exact sim.wpos hm

end Sf.AbsBridge
