/-
  Arithmetic helper lemmas about the GSM 06.10 operators (users: SfProps/C20Gsm.lean, the wrap-free twin SfProofs/GsmTwin.lean,
  SfProofs/GsmEncSums.lean): product bounds of two int16 values, the value range of `(a · b + r) >> 15`, binary digit counts
  (`bitlen`), the restoring division loop of `gsm_div`.  The Recommendation's operators themselves are `Sf.Gsm.Rec`
  (SfProofs/GsmRec.lean); the namespace `Spec` here holds lemmas only.
-/
import SfModel.GsmEnc
import SfProofs.GsmLemmas
import Mathlib.Tactic.Linarith
import Mathlib.Tactic.Ring
import Mathlib.Tactic.Positivity
import Mathlib.Tactic.NormNum
namespace Sf.Gsm.Spec
open Sf Sf.Gsm Sf.Gsm.Proofs

/-- an entry of a table of positive int16 values, or the 0 of an index outside it -/
theorem tab_pos (t : List Int) (ht : ∀ v ∈ t, 0 < v ∧ v ≤ 32767) (i : Int) : 0 ≤ tab t i ∧ tab t i ≤ 32767 := by
  unfold tab
  rw [List.getD_eq_getElem?_getD]
  cases h : t[i.toNat]? with
  | none => simp
  | some v =>
    have := ht v (List.mem_of_getElem? h)
    simp only [Option.getD_some]; omega

theorem mul_bound (a b A B : Int) (ha : -A ≤ a ∧ a ≤ A) (hb : -B ≤ b ∧ b ≤ B) : -(A * B) ≤ a * b ∧ a * b ≤ A * B := by
  have h := mul_le_mul (abs_le.2 ha) (abs_le.2 hb) (abs_nonneg b) (by omega)
  rw [← abs_mul] at h
  exact abs_le.1 h

theorem prod_bound (a b : Int) (ha : W16 a) (hb : W16 b) (hne : ¬ (a = -32768 ∧ b = -32768)) :
    -1073709056 ≤ a * b ∧ a * b ≤ 1073709056 := by
  unfold W16 at ha hb
  by_cases h1 : a = -32768
  · subst h1
    have : b ≠ -32768 := fun h => hne ⟨rfl, h⟩
    constructor <;> omega
  · by_cases h2 : b = -32768
    · subst h2
      constructor <;> omega
    · have := mul_bound a b 32767 32767 (by omega) (by omega)
      omega

theorem w32_id (x : Int) (h : -2147483648 ≤ x ∧ x ≤ 2147483647) : w32 x = x := wrapS_of_range 32 x (by omega) (by omega)

theorem asr15 (x : Int) : asr x 15 = x / 32768 := by simp [asr]

/-- an `int16_t` assignment keeps `(a · b + r) >> 15`, unless both operands are MIN_WORD -/
theorem shr15_range (a b r : Int) (ha : W16 a) (hb : W16 b) (hne : ¬ (a = -32768 ∧ b = -32768)) (hr : 0 ≤ r ∧ r < 32768) :
    W16 ((a * b + r) / 32768) := by
  have hp := prod_bound a b ha hb hne
  unfold W16; omega

theorem multR_range (a b : Int) (ha : W16 a) (hb : W16 b) (hne : ¬ (a = -32768 ∧ b = -32768)) : W16 (multR a b) := by
  unfold multR
  rw [asr15]
  exact shr15_range a b 16384 ha hb hne (by omega)

theorem gsmMultR_eq (a b : Int) (ha : W16 a) (hb : W16 b) :
    gsmMultR a b = (if a = -32768 ∧ b = -32768 then 32767 else (a * b + 16384) / 32768) := by
  unfold gsmMultR
  by_cases h : a = -32768 ∧ b = -32768
  · rw [if_pos h, if_pos h]
  · rw [if_neg h, if_neg h, w16, wrapS_wrapU, asr15]
    exact w16_id _ (shr15_range a b 16384 ha hb h (by omega))

theorem bitlenAux_zero (f : Nat) : bitlenAux f 0 = 0 := by cases f <;> simp [bitlenAux]

theorem bitlenAux_spec : ∀ (f n : Nat), 0 < n → n < 2 ^ f → 1 ≤ bitlenAux f n ∧ 2 ^ (bitlenAux f n - 1) ≤ n ∧ n < 2 ^ bitlenAux f n := by
  intro f
  induction f with
  | zero => intro n h1 h2; simp at h2; omega
  | succ f ih =>
    intro n h1 h2
    have hne : n ≠ 0 := by omega
    simp only [bitlenAux, hne, if_false]
    by_cases h : n / 2 = 0
    · rw [h, bitlenAux_zero]
      have : n = 1 := by omega
      subst this
      simp
    · have hlt : n / 2 < 2 ^ f := by
        rw [Nat.pow_succ] at h2; omega
      obtain ⟨i1, i2, i3⟩ := ih (n / 2) (by omega) hlt
      generalize bitlenAux f (n / 2) = b at i1 i2 i3
      obtain ⟨c, rfl⟩ : ∃ c, b = c + 1 := ⟨b - 1, by omega⟩
      simp only [Nat.add_sub_cancel] at i2
      refine ⟨by omega, ?_, ?_⟩
      · have e : 1 + (c + 1) - 1 = c + 1 := by omega
        rw [e, Nat.pow_succ]; omega
      · have e : 1 + (c + 1) = (c + 1) + 1 := by omega
        rw [e, Nat.pow_succ]; rw [Nat.pow_succ] at i3 ⊢; omega

theorem bitlen_spec (n : Nat) (h1 : 0 < n) (h2 : n < 2 ^ 40) : 1 ≤ bitlen n ∧ 2 ^ (bitlen n - 1) ≤ n ∧ n < 2 ^ bitlen n :=
  bitlenAux_spec 40 n h1 h2

theorem bitlen_le (n k : Nat) (hk : k ≤ 40) (h : n < 2 ^ k) : bitlen n ≤ k := by
  by_cases h0 : n = 0
  · subst h0; exact Nat.zero_le k
  · obtain ⟨_, i2, _⟩ := bitlen_spec n (by omega) (Nat.lt_of_lt_of_le h (Nat.pow_le_pow_right (by decide) hk))
    by_contra hc
    have : 2 ^ k ≤ 2 ^ (bitlen n - 1) := Nat.pow_le_pow_right (by decide) (by omega)
    omega

/-- one more quotient bit, 1 or 0, under the cap of `k + 1` bits -/
theorem quot_bit_one (A P Q : Int) : 2 * A + P + min (P - 1) (Q - P) = 2 * A + min (P * 2 - 1) Q := by omega
theorem quot_bit_zero (A P Q : Int) (hp : 0 < P) (h : Q < P) : 2 * A + min (P - 1) Q = 2 * A + min (P * 2 - 1) Q := by omega

/-- `divLoop k lnum ldenum div` on a partial remainder 0 ≤ lnum ≤ ldenum: the quotient bits appended to `div` are
    `min (2^k − 1) (lnum · 2^k / ldenum)` -/
theorem divLoop_spec : ∀ (k : Nat) (lnum ldenum dv : Int), 0 ≤ lnum → lnum ≤ ldenum → 0 < ldenum → ldenum ≤ 32767 →
    0 ≤ dv → dv * 2 ^ k + (2 ^ k - 1) ≤ 32767 →
    divLoop k lnum ldenum dv = dv * 2 ^ k + min (2 ^ k - 1) (lnum * 2 ^ k / ldenum) := by
  intro k
  induction k with
  | zero =>
    intro lnum ldenum dv h0 _ hd _ _ _
    simp only [divLoop, pow_zero, mul_one, sub_self]
    have : 0 ≤ lnum / ldenum := Int.ediv_nonneg h0 (by omega)
    rw [min_eq_left this]; omega
  | succ k ih =>
    intro lnum ldenum dv h0 h1 hd hd2 hv hcap
    have hp : (0 : Int) < 2 ^ k := by positivity
    rw [pow_succ] at hcap ⊢
    generalize (2 : Int) ^ k = P at hp hcap ih ⊢
    -- `dv * P` as one unknown `A`: what is left is linear
    have hm : dv * 1 ≤ dv * P := Int.mul_le_mul_of_nonneg_left (by omega) hv
    have hA : dv * (P * 2) = 2 * (dv * P) := by ring
    have hA2 : dv * 2 * P = 2 * (dv * P) := by ring
    have hA1 : (dv * 2 + 1) * P = 2 * (dv * P) + P := by ring
    rw [hA] at hcap ⊢
    generalize dv * P = A at hm hcap hA2 hA1 ⊢
    have hdv2 : w16 (dv * 2) = dv * 2 := w16_id _ (by unfold W16; omega)
    have hl2 : w32 (lnum * 2) = lnum * 2 := w32_id _ (by omega)
    simp only [divLoop, hdv2, hl2]
    have hX : lnum * (P * 2) / ldenum = (lnum * 2) * P / ldenum := by rw [Int.mul_comm P 2, Int.mul_assoc]
    rw [hX]
    by_cases hq : lnum * 2 ≥ ldenum
    · simp only [hq, if_true]
      have hdv1 : w16 (dv * 2 + 1) = dv * 2 + 1 := w16_id _ (by unfold W16; omega)
      rw [hdv1, ih (lnum * 2 - ldenum) ldenum (dv * 2 + 1) (by omega) (by omega) hd hd2 (by omega) (by rw [hA1]; omega), hA1]
      have e : (lnum * 2 - ldenum) * P / ldenum = lnum * 2 * P / ldenum - P := by
        have : (lnum * 2 - ldenum) * P = lnum * 2 * P + (-P) * ldenum := by ring
        rw [this, Int.add_mul_ediv_right _ _ (by omega)]; omega
      rw [e]
      exact quot_bit_one A P _
    · simp only [hq, if_false]
      rw [ih (lnum * 2) ldenum (dv * 2) (by omega) (by omega) hd hd2 (by omega) (by rw [hA2]; omega), hA2]
      have hlt : lnum * 2 * P / ldenum < P := by
        apply Int.ediv_lt_of_lt_mul hd
        rw [Int.mul_comm P]
        exact Int.mul_lt_mul_of_pos_right (by omega) hp
      exact quot_bit_zero A P _ hp hlt

end Sf.Gsm.Spec
