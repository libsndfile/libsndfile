/-
  SfProofs.NistParse — `Sf.Nist.parse (hdr c f ++ data)` for every accepted configuration, every frame count the
  64-bit `sample_count` line can hold and any audio bytes: the reader reports the requested channels, encoding (with
  the byte order where the file records it), rate, and `data.length / blockwidth` frames.
-/
import SfProofs.NistImage
namespace Sf.Nist
open Sf Sf.Small2
open Sf.Pvf (digits scanInt skipWs isWs isDigit scanDigits)

theorem mem_codecs (c : Cfg) (hwf : c.wf) : c.codec ∈ codecs := by
  rcases hwf.1 with h | h | h | h | h | h <;> simp [codecs, h]

theorem mem_bools (b : Bool) : b ∈ [true, false] := by cases b <;> simp

theorem lit_facts_cfg (c : Cfg) (hwf : c.wf) : LitFacts c.codec c.big := lit_facts c.codec (mem_codecs c hwf) c.big (mem_bools _)

/-- the facts about the three fixed literals around the numbers, in one evaluation (see `lit_facts`) -/
theorem head_facts :
    ((∀ b ∈ headA, b ≠ 0) ∧ (∀ b ∈ headB, b ≠ 0) ∧ (∀ b ∈ headD, b ≠ 0)) ∧
    (headA.length ≤ 40 ∧ headB.length ≤ 20 ∧ headD.length ≤ 10) ∧
    (headA = [0x4E, 0x49, 0x53, 0x54, 0x5F, 0x31, 0x41, 0x0A, 0x20, 0x20, 0x20, 0x31] ++ headA.drop 12 ∧
      headB = 0x0A :: headB.drop 1 ∧ headD = 0x0A :: headD.drop 1) ∧
    mis kBad headA = true ∧ isPrefix kMagic headA = true ∧ 7 ≤ headA.length ∧
    scanInt (headA.drop 7) = some (1024, asc "\nchannel_count -i ") := by decide +kernel

theorem digits_nonzero (n : Nat) : ∀ b ∈ digits n, b ≠ 0 := by
  intro b hb; have := Sf.Pvf.digits_all n b hb; simp only [Byte] at *; omega

theorem text_nonzero (c : Cfg) (hwf : c.wf) (F : Nat) : ∀ b ∈ flatten (env c F) (segs c.codec c.big), b ≠ 0 := by
  obtain ⟨⟨hA, hB, hD⟩, _⟩ := head_facts
  obtain ⟨_, _, _, _, _, _, _, _, midNonzero, _⟩ := lit_facts_cfg c hwf
  intro b hb
  simp only [segs, flatten, env, List.mem_append, if_true, List.append_nil] at hb
  rcases hb with h | h | h | h | h | h | h
  · exact hA b h
  · exact digits_nonzero _ b h
  · exact hB b h
  · exact digits_nonzero _ b (by simpa using h)
  · exact midNonzero b h
  · exact digits_nonzero _ b (by simpa using h)
  · exact hD b h

theorem text_length (c : Cfg) (hwf : c.wf) (F : Nat) (hF : F < 2 ^ 63) : (flatten (env c F) (segs c.codec c.big)).length ≤ 300 := by
  obtain ⟨_, ⟨hA, hB, hD⟩, _⟩ := head_facts
  obtain ⟨_, _, _, _, _, _, _, _, _, midShort⟩ := lit_facts_cfg c hwf
  obtain ⟨_, _, _, hch, _, hsr⟩ := hwf
  have h1 := Sf.Pvf.digits_length_le 4 c.ch (by decide) (by omega)
  have h2 := Sf.Pvf.digits_length_le 10 c.sr (by decide) (by omega)
  have h63 : (2:Nat) ^ 63 < 10 ^ 19 := by decide
  have h3 := Sf.Pvf.digits_length_le 19 F (by decide) (by omega)
  simp only [segs, flatten, env, List.length_append, if_true, List.append_nil]
  simp only [show (1 : Nat) = 0 ↔ False from by decide, show (2 : Nat) = 0 ↔ False from by decide,
    show (2 : Nat) = 1 ↔ False from by decide, if_false]
  omega

theorem takeWhile_fill (T : List Byte) (hT : ∀ b ∈ T, b ≠ 0) (k : Nat) :
    (T ++ List.replicate (k + 1) 0).takeWhile (· ≠ 0) = T := by
  rw [List.takeWhile_append_of_pos (by simpa using hT)]
  simp [List.replicate_succ]

theorem hdr_eq (c : Cfg) (hwf : c.wf) (F : Nat) (hF : F < 2 ^ 63) (f : Fields) (hf : f.frames = (F : Int)) :
    ∃ k, hdr c f = flatten (env c F) (segs c.codec c.big) ++ List.replicate (k + 1) 0 ∧
      (flatten (env c F) (segs c.codec c.big)).length + (k + 1) = 1024 := by
  have hl := text_length c hwf F hF
  refine ⟨1023 - (flatten (env c F) (segs c.codec c.big)).length, ?_, by omega⟩
  unfold hdr
  rw [hf, text_eq c F hF, List.take_append, List.take_of_length_le (by omega), List.take_replicate]
  rw [show min (1024 - (flatten (env c F) (segs c.codec c.big)).length) 1024 = 1023 - (flatten (env c F) (segs c.codec c.big)).length + 1 by omega]

theorem hdr_length (c : Cfg) (f : Fields) : (hdr c f).length = 1024 := by
  unfold hdr; rw [List.length_take, List.length_append, List.length_replicate]; omega

theorem lawful (c : Cfg) : Lawful (fmt c) where
  hlen := by intro f; dsimp only [fmt]; exact hdr_length c f
  hindep := by intro n f g; dsimp only [fmt]

theorem guess_image (X : List Byte) : guess (headA ++ X) = some (.fmt 0x070000) := by
  obtain ⟨_, _, ⟨hA12, _⟩, _⟩ := head_facts
  rw [hA12, List.append_assoc]; rfl

/-- a key with its number right behind it and a newline after that: what `after` hands to `scanInt` -/
theorem after_number (key : List Byte) (ev : Nat → List Byte) (he : GoodEnv ev) (sg : List Seg) (i n : Nat) (l L : List Byte) (rest : List Seg)
    (h : litAfter key sg = some (some ([], .digs i :: .lit l :: rest))) (hi : ev i = digits n) (hl : l = 0x0A :: L) :
    after key (flatten ev sg) = some (digits n ++ 0x0A :: (L ++ flatten ev rest)) := by
  rw [after_of_litAfter key ev he sg _ _ h, hl, ← hi]; rfl

theorem headerText_image (c : Cfg) (hwf : c.wf) (F : Nat) (hF : F < 2 ^ 63) (f : Fields) (hf : f.frames = (F : Int)) (data : List Byte) :
    headerText (hdr c f ++ data) = flatten (env c F) (segs c.codec c.big) := by
  obtain ⟨k, hh, hk⟩ := hdr_eq c hwf F hF f hf
  obtain ⟨fEnd, _⟩ := lit_facts_cfg c hwf
  unfold headerText
  rw [List.take_left' (hdr_length c f), hh, takeWhile_fill _ (text_nonzero c hwf F) k]
  simp only [ssearch_sound kEnd _ (goodEnv c F) _ _ fEnd, Option.map, flatten, List.append_nil]
  have : (asc "end_head\n").length = 9 := by decide
  exact List.take_of_length_le (by omega)

theorem parse_image (c : Cfg) (hwf : c.wf) (F : Nat) (hF : F < 2 ^ 63) (f : Fields) (hf : f.frames = (F : Int)) (data : List Byte) :
    parse (hdr c f ++ data) = .ok { ch := c.ch, fmt := c.fmtWord, sr := c.sr, frames := data.length / c.bw } := by
  obtain ⟨_, fChan, fRate, _, fInter, fBytes, fEnc, fOrder, _⟩ := lit_facts_cfg c hwf
  obtain ⟨_, _, ⟨_, hB1, _⟩, hbad, hmagic, h7, hoff⟩ := head_facts
  have ⟨hcodec, _, hch1, hch2, hsr1, hsr2⟩ := hwf
  have he := goodEnv c F
  have hlen : (hdr c f ++ data).length = 1024 + data.length := by rw [List.length_append, hdr_length]
  have htext := headerText_image c hwf F hF f hf data
  unfold parse
  rw [if_neg (by omega)]
  have hg : guess (hdr c f ++ data) = some (.fmt 0x070000) := by
    obtain ⟨k, hh, _⟩ := hdr_eq c hwf F hF f hf
    have hA : flatten (env c F) (segs c.codec c.big) = headA ++ flatten (env c F) ((segs c.codec c.big).drop 1) := rfl
    rw [hh, hA, List.append_assoc, List.append_assoc]; exact guess_image _
  rw [hg]
  simp only []
  unfold readHeader
  rw [if_neg (by omega)]
  simp only [htext]
  generalize hT : flatten (env c F) (segs c.codec c.big) = T
  -- e1 … e9: each search and conversion of nist_read_header is decided on the literal segments (`LitFacts`,
  -- `head_facts`) and carried over to the text with the numbers filled in, since digit runs (`he`) neither make nor
  -- break a match
  have hTA : T = headA ++ flatten (env c F) ((segs c.codec c.big).drop 1) := by rw [← hT]; rfl
  have hX : DigOrEnd (flatten (env c F) ((segs c.codec c.big).drop 1)) := digOrEnd_flatten _ he _ rfl
  have e1 : isPrefix kBad T = false := by rw [hTA]; exact mis_sound kBad headA _ hX hbad
  have e2 : isPrefix kMagic T = true := by rw [hTA]; exact isPrefix_append kMagic headA _ hmagic
  have e3 : scanInt (T.drop 7) = some (1024, asc "\nchannel_count -i " ++ flatten (env c F) ((segs c.codec c.big).drop 1)) := by
    rw [hTA, List.drop_append_of_le_length h7]
    exact scanInt_lit _ _ _ _ hoff (by decide)
  have e4 : intField kChan T 0 = some (c.ch : Int) := by
    unfold intField
    rw [← hT, after_number kChan _ he _ 0 c.ch headB _ _ fChan rfl hB1]
    have hi : inInt (c.ch : Int) = true := by simp only [inInt, decide_eq_true_eq]; omega
    simp only [scanInt_digits_then c.ch 0x0A _ (by decide), hi, if_true]
  have e5 : intField kRate T 0 = some (c.sr : Int) := by
    unfold intField
    rw [← hT, after_number kRate _ he _ 1 c.sr (mid c.codec c.big) _ _ fRate rfl rfl]
    have hi : inInt (c.sr : Int) = true := by simp only [inInt, decide_eq_true_eq]; omega
    simp only [scanInt_digits_then c.sr 0x0A _ (by decide), hi, if_true]
  have e6 : intField kBytes T 0 = some (nbytesOf c.codec) := by
    rw [intField_eq, ← hT]; exact fieldLit_sound _ _ _ _ _ _ he _ _ fBytes
  have e7 : encodingOf T = encOf c.codec := by
    rw [encodingOf_eq, ← hT]; exact fieldLit_sound _ _ _ _ _ _ he _ _ fEnc
  have e8 := fieldLit_sound _ _ _ (Order.ok (nbytesOf c.codec) 0) _ _ he _ _ fOrder
  rw [← orderOf_eq, hT] at e8
  have e9 : strstr kInter T = none := by
    rw [← hT, ssearch_sound kInter _ he _ _ fInter]; rfl
  have i1024 : inInt 1024 = true := by decide
  simp only [e1, e2, e3, e4, e5, e6, e7, e8, e9, i1024, if_true, Bool.false_eq_true, if_false, Bool.not_true, Option.isSome_none]
  have hchr : ¬ (((c.ch : Nat) : Int) < 1 ∨ ((c.ch : Nat) : Int) > 1024) := by omega
  have hsrr : ¬ (((c.sr : Nat) : Int) < 1 ∨ (1024 : Int) < 0) := by omega
  have hfr : ∀ bwn : Nat, 0 < bwn → (framesOf ((1024 + data.length : Nat) : Int) 1024 0 ((bwn : Nat) : Int)).toNat = data.length / bwn :=
    fun bwn h => framesOf_nat 1024 data.length bwn h
  rw [hlen]
  obtain ⟨codec, endian, ch, sr⟩ := c
  simp only at hcodec hchr hsrr hch1 hfr ⊢
  -- per codec the block width is `k * ch` with k = 1 … 4, where `hfr` gives the frame count; the byte order request
  -- (`endian`) shows in the format word of the wide codecs only
  rcases hcodec with h | h | h | h | h | h <;> subst h <;>
    simp only [encOf, nbytesOf, wide, bytewidth, Cfg.fmtWord, Cfg.bw, Nat.reduceEqDiff, or_self, or_true, true_or, if_true, if_false,
      decide_true, decide_false, Bool.false_eq_true, hchr, hsrr, Int.toNat_natCast] <;>
    (have c1 : ((1 : Nat) : Int) = 1 := rfl
     have c2 : ((2 : Nat) : Int) = 2 := rfl
     have c3 : ((3 : Nat) : Int) = 3 := rfl
     have c4 : ((4 : Nat) : Int) = 4 := rfl
     have h0 := hfr ch (by omega)
     have h1 := hfr (1 * ch) (by omega)
     have h2 := hfr (2 * ch) (by omega)
     have h3 := hfr (3 * ch) (by omega)
     have h4 := hfr (4 * ch) (by omega)
     simp only [Int.natCast_mul, c1, c2, c3, c4] at h0 h1 h2 h3 h4
     simp only [c1, c2, c3, c4, Int.reduceEq, Nat.reduceEqDiff, if_true, if_false, or_self, h0, h1, h2, h3, h4, Cfg.big, Nat.zero_add, Nat.one_mul]
     try (cases endian_eq : decide (endian = 2) <;> simp_all))

end Sf.Nist
