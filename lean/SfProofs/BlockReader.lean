/-
  The generic block reader delivers slices of the concatenated block stream (helper lemmas for C06Block).
-/
import SfModel.AdpcmReader
namespace Sf.Block.Proofs
open Sf Sf.Block

/-- well-formed reader: positive geometry, every decoded block has `spb * ch` items -/
structure WF (r : Reader) : Prop where
  spb_pos : 0 < r.spb
  ch_pos  : 0 < r.ch
  len     : ∀ k, (r.src k).length = r.spb * r.ch

/-- the reader invariant: the buffer is the decoded current block, the in-block counter is in range -/
structure Inv (r : Reader) (st : RState) : Prop where
  buf : st.buf = r.src st.cur
  cnt : st.cnt ≤ r.spb

theorem itemAt_eq (r : Reader) (i : Nat) : r.itemAt i = (r.src (i / (r.spb * r.ch))).getD (i % (r.spb * r.ch)) 0 := by
  rw [Reader.itemAt, List.headD_eq_head?_getD, List.head?_drop, List.getD_eq_getElem?_getD]

theorem slice_zero (r : Reader) (p : Nat) : r.slice p 0 = [] := rfl

theorem slice_length (r : Reader) (p n : Nat) : (r.slice p n).length = n := by simp [Reader.slice]

theorem slice_append (r : Reader) (p a b : Nat) : r.slice p (a + b) = r.slice p a ++ r.slice (p + a) b := by
  simp only [Reader.slice, List.range_add, List.map_append, List.map_map]
  congr 1
  apply List.map_congr_left
  intro i _
  simp [Function.comp, Nat.add_assoc]

theorem chunk_eq (r : Reader) (wf : WF r) (cur cnt c : Nat) (hc : cnt + c ≤ r.spb) :
    ((r.src cur).drop (cnt * r.ch)).take (c * r.ch) = r.slice ((cur * r.spb + cnt) * r.ch) (c * r.ch) := by
  have hlen := wf.len cur
  have hB : 0 < r.spb * r.ch := Nat.mul_pos wf.spb_pos wf.ch_pos
  have hle : cnt * r.ch + c * r.ch ≤ r.spb * r.ch := by
    have := Nat.mul_le_mul_right r.ch hc
    rwa [Nat.add_mul] at this
  apply List.ext_getElem
  · rw [List.length_take, List.length_drop, slice_length, hlen]; omega
  · intro i h1 h2
    rw [slice_length] at h2
    have hq : cnt * r.ch + i < r.spb * r.ch := by omega
    rw [List.getElem_take, List.getElem_drop]
    simp only [Reader.slice, List.getElem_map, List.getElem_range]
    have hp : (cur * r.spb + cnt) * r.ch + i = r.spb * r.ch * cur + (cnt * r.ch + i) := by
      rw [Nat.add_mul, Nat.mul_assoc, Nat.mul_comm cur (r.spb * r.ch)]; omega
    rw [itemAt_eq, hp, Nat.mul_add_div hB, Nat.mul_add_mod, Nat.div_eq_of_lt hq, Nat.mod_eq_of_lt hq, Nat.add_zero]
    exact List.getElem_eq_getD 0

theorem reload_spec (r : Reader) (wf : WF r) (st : RState) (inv : Inv r st) :
    Inv r (r.reload st) ∧ r.pos (r.reload st) = r.pos st ∧ (r.reload st).cnt < r.spb := by
  have := wf.spb_pos
  unfold Reader.reload
  by_cases h : st.cnt ≥ r.spb
  · rw [if_pos h]
    refine ⟨⟨rfl, Nat.zero_le _⟩, ?_, this⟩
    show (st.cur + 1) * r.spb + 0 = st.cur * r.spb + st.cnt
    have := inv.cnt
    rw [Nat.succ_mul]; omega
  · rw [if_neg h]
    exact ⟨inv, rfl, by omega⟩

-- on its own because `omega` is slow on it in the context of the loop proofs
theorem min_left_add (m F p c t : Nat) (h : min (m - c) (F - (p + c)) ≤ t) : min m (F - p) ≤ c + t := by omega

/-- any request of `m` whole frames, also one that runs past `frames` (and `frames` need not be a whole number of
    blocks): the call delivers `t` frames of the stream with `min m (frames − pos) ≤ t ≤ m` (it stops at the first
    block boundary at or after `frames`), and zero-fills the rest of the request -/
theorem readLoop_general (r : Reader) (wf : WF r) : ∀ (fuel : Nat) (st : RState) (m : Nat), Inv r st → m < fuel →
    ∃ t st', t ≤ m ∧ min m (r.frames - r.pos st) ≤ t ∧
      r.readLoop fuel st (m * r.ch) = (st', r.slice (r.pos st * r.ch) (t * r.ch) ++ zeros ((m - t) * r.ch), t * r.ch) ∧
      Inv r st' ∧ r.pos st' = r.pos st + t := by
  intro fuel
  induction fuel with
  | zero => intro st m _ h; omega
  | succ fuel ih =>
    intro st m inv hf
    unfold Reader.readLoop
    by_cases hm : m = 0
    · subst hm
      refine ⟨0, st, Nat.le_refl _, by omega, ?_, inv, rfl⟩
      simp [slice_zero, zeros]
    · have hmc : m * r.ch ≠ 0 := Nat.mul_ne_zero hm (Nat.pos_iff_ne_zero.mp wf.ch_pos)
      by_cases hend : r.pos st ≥ r.frames
      · refine ⟨0, st, Nat.zero_le _, by omega, ?_, inv, rfl⟩
        simp only [hmc, hend, if_false, if_true, Nat.zero_mul, slice_zero, List.nil_append, Nat.sub_zero]
      · simp only [hmc, hend, if_false]
        obtain ⟨inv1, hpos1, hcnt1⟩ := reload_spec r wf st inv
        generalize hst1 : r.reload st = st1 at inv1 hpos1 hcnt1
        -- this pass delivers the `c` frames left in the block, or all `m`
        obtain ⟨c, ⟨hc1, hc2, hc3⟩, hcount⟩ : ∃ c, (1 ≤ c ∧ st1.cnt + c ≤ r.spb ∧ c ≤ m) ∧
            min ((r.spb - st1.cnt) * r.ch) (m * r.ch) = c * r.ch :=
          ⟨min (r.spb - st1.cnt) m, by omega, Nat.mul_min_mul_right _ _ _⟩
        rw [hcount, Nat.mul_div_cancel c wf.ch_pos, ← Nat.sub_mul]
        have inv2 : Inv r ⟨st1.cur, st1.cnt + c, st1.buf⟩ := ⟨inv1.buf, hc2⟩
        have hpos2 : r.pos ⟨st1.cur, st1.cnt + c, st1.buf⟩ = r.pos st + c := by
          rw [← hpos1]; simp only [Reader.pos]; omega
        obtain ⟨t', st', ht1, ht2, hrec, inv', hpos'⟩ := ih ⟨st1.cur, st1.cnt + c, st1.buf⟩ (m - c) inv2 (by omega)
        rw [hrec]
        refine ⟨c + t', st', by omega, min_left_add _ _ _ _ _ (hpos2 ▸ ht2), ?_, inv', by rw [hpos', hpos2, Nat.add_assoc]⟩
        have hpiece : (st1.buf.drop (st1.cnt * r.ch)).take (c * r.ch) = r.slice (r.pos st * r.ch) (c * r.ch) := by
          rw [inv1.buf, chunk_eq r wf st1.cur st1.cnt c hc2, ← hpos1]; rfl
        rw [hpiece, hpos2, Nat.add_mul, Nat.add_mul c t', slice_append, Nat.sub_sub, List.append_assoc]

theorem readLoop_spec (r : Reader) (wf : WF r) : ∀ (fuel : Nat) (st : RState) (m : Nat), Inv r st → m < fuel →
    r.pos st + m ≤ r.frames →
    ∃ st', r.readLoop fuel st (m * r.ch) = (st', r.slice (r.pos st * r.ch) (m * r.ch), m * r.ch) ∧ Inv r st' ∧
      r.pos st' = r.pos st + m := by
  intro fuel st m inv hf hend
  obtain ⟨t, st', h1, h2, h3, h4, h5⟩ := readLoop_general r wf fuel st m inv hf
  obtain rfl : t = m := by omega
  rw [Nat.sub_self, Nat.zero_mul] at h3
  exact ⟨st', by simpa [zeros] using h3, h4, h5⟩

theorem readLoop_eof (r : Reader) (fuel : Nat) (st : RState) (n : Nat) (hn : n ≠ 0) (h : r.pos st ≥ r.frames) :
    r.readLoop (fuel + 1) st n = (st, zeros n, 0) := by
  unfold Reader.readLoop
  simp [hn, h]

theorem seek_inv (r : Reader) (wf : WF r) (k : Nat) : Inv r (r.seek k) ∧ r.pos (r.seek k) = k := by
  refine ⟨⟨rfl, ?_⟩, ?_⟩
  · exact Nat.le_of_lt (Nat.mod_lt _ wf.spb_pos)
  · simp only [Reader.pos, Reader.seek]
    rw [Nat.mul_comm]; exact Nat.div_add_mod k r.spb

theorem init_inv (r : Reader) : Inv r r.init ∧ r.pos r.init = 0 := by
  refine ⟨⟨rfl, Nat.zero_le _⟩, ?_⟩
  simp [Reader.pos, Reader.init, Reader.load]

theorem fixLen_length (n : Nat) (l : List Int) : (fixLen n l).length = n := by simp [fixLen, zeros]

theorem fixLen_id (n : Nat) (l : List Int) (h : l.length = n) : fixLen n l = l := by
  unfold fixLen
  rw [List.take_append_of_le_length (by omega), List.take_of_length_le (by omega)]

/-- the `src` that `adpcmReader`, `Nms.readerWith` and `Gsm.reader` write out (block `k` of a table of `nb` decoded blocks forced
    to block length, zeros behind the table) answers a list of block length for every `k` -/
theorem tableSrc_length (n nb k : Nat) (x : List Int) : (if k < nb then fixLen n x else zeros n).length = n := by
  split
  · exact fixLen_length n x
  · exact List.length_replicate ..

end Sf.Block.Proofs
