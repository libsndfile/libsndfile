/-
  What the STORE holds of a block-coded file between two write calls, for every instance of the generic block writer
  `Sf.Block.Writer` (G.72x, NMS, GSM 06.10, PAF24, SDS, IMA / MS ADPCM): the blocks emitted so far (`WState.bytes` without the close).
  Bytes are only ever appended, so the store at a crash point is a PREFIX of the closed data region; after N frames the writer
  has emitted N / spb blocks and holds N % spb frames in its buffer (`Ran`, SfProofs/BlockSession.lean), so the frames in COMPLETE blocks are
  `floorToBlock N spb` (C11's floor clause).
-/
import SfProofs.BlockSession
namespace Sf.Block.Snap
open Sf Sf.Block Sf.Block.Proofs

variable {σ : Type}

theorem emit_bytes (w : Writer σ) (st : WState σ) : (w.emit st).bytes = st.bytes ++ (w.enc st.es st.buf).2 := by
  simp [Writer.emit, WState.bytes]

theorem emit_nblk (w : Writer σ) (st : WState σ) : (w.emit st).nblk = st.nblk + 1 := rfl

theorem pushFrame_prefix (w : Writer σ) (st : WState σ) (f : List Int) : ∃ e, (pushFrame w st f).bytes = st.bytes ++ e := by
  unfold pushFrame
  simp only
  split
  · exact ⟨_, emit_bytes w _⟩
  · exact ⟨[], by simp [WState.bytes]⟩

theorem fold_push_prefix (w : Writer σ) : ∀ (fs : List (List Int)) (st : WState σ),
    ∃ e, (fs.foldl (pushFrame w) st).bytes = st.bytes ++ e := fun fs st =>
  List.foldlRecOn (motive := fun t : WState σ => ∃ e, t.bytes = st.bytes ++ e) fs _ ⟨[], by simp⟩ fun t ⟨e, h⟩ f _ =>
    let ⟨e1, h1⟩ := pushFrame_prefix w t f
    ⟨e ++ e1, by rw [h1, h, List.append_assoc]⟩

theorem close_prefix (w : Writer σ) (pad : Bool) (st : WState σ) : ∃ e, (w.close pad st).bytes = st.bytes ++ e := by
  unfold Writer.close
  split
  · exact ⟨[], by simp⟩
  · exact ⟨_, emit_bytes w _⟩

theorem stored_prefix_closed (w : Writer σ) (pad : Bool) (st : WState σ) (p r : List (List Int)) :
    ∃ e, (w.close pad ((p ++ r).foldl (pushFrame w) st)).bytes = (p.foldl (pushFrame w) st).bytes ++ e := by
  obtain ⟨e1, h1⟩ := close_prefix w pad ((p ++ r).foldl (pushFrame w) st)
  rw [List.foldl_append] at h1 ⊢
  obtain ⟨e2, h2⟩ := fold_push_prefix w r (p.foldl (pushFrame w) st)
  exact ⟨e2 ++ e1, by rw [h1, h2, List.append_assoc]⟩

theorem flushed_length (w : Writer σ) (wf : WWF w) (bpb : Nat)
    (henc : ∀ (s : σ) (b : List Int), b.length = w.spb * w.ch → (w.enc s b).2.length = bpb)
    (s0 : σ) (fs : List (List Int)) (hu : Uniform w.ch fs) :
    (fs.foldl (pushFrame w) (w.init s0)).bytes.length = fs.length / w.spb * bpb := by
  have := (fold_ran w wf (fun _ => True) (·.length = bpb) (fun s _ b hb => ⟨henc s b hb, trivial⟩) fs _ 0
    (init_ran w wf _ _ s0 trivial) hu).bytes_length
  rwa [Nat.zero_add] at this

/-- a frame count a reader derives as (length / bpb) · spb from that region is N rounded down to whole blocks -/
theorem flushed_frames (N spb bpb : Nat) (hb : 0 < bpb) : N / spb * bpb / bpb * spb = N / spb * spb := by
  rw [Nat.mul_div_cancel _ hb]

end Sf.Block.Snap
