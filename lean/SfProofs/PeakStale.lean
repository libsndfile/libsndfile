/-
  SfProofs.PeakStale — the PEAK state of a handle (`h.peak`: what the PEAK chunk said at open, or what the write calls accumulated) is
  read by NONE of the steps the four SFC_CALC_* commands are made of: `stepRead`, `stepSeek`, SFC_SET_NORM_DOUBLE.  Each lemma
  says: running the step on the handle with ANOTHER PEAK state gives the same store, the same output, and the same handle with
  that other PEAK state.  `stepCalc_peak` puts them together.  (`stepSeek` is taken in its closed form `seekSpec`, whose tests
  read `mode`, `rpos`, `wpos`, `frames` only.)
-/
import SfModel.Peak
import SfProofs.HandleSteps
namespace Sf.Peak
open Sf

/-- the handle with another PEAK state -/
def withPeak (h : H) (p : Option (List Sf.Peak)) : H := { h with peak := p }

/-- `stepRead` branches on fields other than `peak`, and every branch copies `peak`: after pushing the
    re-labelling through the conditionals the two sides agree branch by branch. -/
theorem stepRead_peak (h : H) (s : Store) (ty : Ty) (fc : Bool) (n : Int) (p : Option (List Sf.Peak)) :
    stepRead (withPeak h p) s ty fc n =
      (withPeak (stepRead h s ty fc n).1 p, (stepRead h s ty fc n).2) := by
  unfold stepRead
  simp only [apply_ite (fun r : H × Store × Out => (withPeak r.1 p, r.2))]
  rfl

theorem seekDecode_peak (h : H) (off whence : Int) (p : Option (List Sf.Peak)) :
    seekDecode (withPeak h p) off whence = seekDecode h off whence := rfl

theorem seekMoveH_peak (h : H) (wm t : Int) (p : Option (List Sf.Peak)) :
    seekMoveH (withPeak h p) wm t = withPeak (seekMoveH h wm t) p := by
  unfold seekMoveH
  simp only [apply_ite (withPeak · p)]
  rfl

theorem stepSeek_peak (h : H) (s : Store) (off whence : Int) (p : Option (List Sf.Peak)) :
    stepSeek (withPeak h p) s off whence =
      (withPeak (stepSeek h s off whence).1 p, (stepSeek h s off whence).2) := by
  rw [stepSeek_eq_spec, stepSeek_eq_spec]
  unfold seekSpec
  show (if _ then _ else match seekBase h whence with | none => _ | some b => _) = _
  cases seekBase h whence <;>
    simp only [apply_ite (fun r : H × Store × Out => (withPeak r.1 p, r.2)), seekMoveH_peak] <;> rfl

theorem stepNormD_peak (h : H) (s : Store) (size : Int) (p : Option (List Sf.Peak)) :
    stepCmdFlag (withPeak h p) s 0x1012 size =
      (withPeak (stepCmdFlag h s 0x1012 size).1 p, (stepCmdFlag h s 0x1012 size).2) := rfl

theorem calcLoop_peak (fuel : Nat) (h : H) (s : Store) (a : Acc) (p : Option (List Sf.Peak)) :
    calcLoop fuel (withPeak h p) s a = (withPeak (calcLoop fuel h s a).1 p, (calcLoop fuel h s a).2) := by
  induction fuel generalizing h s a with
  | zero => rfl
  | succ k ih =>
    have hc : (withPeak h p).ch = h.ch := rfl
    unfold calcLoop
    rw [hc, stepRead_peak]
    dsimp only
    by_cases c : (stepRead h s .f64 false (calcLen h.ch)).2.2.ret ≤ 0
    · rw [if_pos c, if_pos c]
    · rw [if_neg c, if_neg c]
      exact ih _ _ _

theorem calcPre_peak (h : H) (s : Store) (normalize : Bool) (p : Option (List Sf.Peak)) :
    calcPre (withPeak h p) s normalize = (withPeak (calcPre h s normalize).1 p, (calcPre h s normalize).2) := by
  unfold calcPre
  have e0 : ({ withPeak h p with error := 0 } : H) = withPeak { h with error := 0 } p := rfl
  dsimp only
  rw [e0, stepNormD_peak]
  dsimp only
  by_cases c : ((stepCmdFlag { h with error := 0 } s 0x1012 (if normalize then 1 else 0)).1.mode == Mode.rw) = true
  · have c' : ((withPeak (stepCmdFlag { h with error := 0 } s 0x1012 (if normalize then 1 else 0)).1 p).mode == Mode.rw) = true := c
    rw [if_pos c, if_pos c', stepSeek_peak]
    rfl
  · have c' : ¬ ((withPeak (stepCmdFlag { h with error := 0 } s 0x1012 (if normalize then 1 else 0)).1 p).mode == Mode.rw) = true := c
    rw [if_neg c, if_neg c', stepSeek_peak]
    dsimp only
    rw [stepSeek_peak]
    rfl

theorem calcPost_peak (h : H) (s : Store) (save : Bool) (rp pos : Int) (p : Option (List Sf.Peak)) :
    calcPost (withPeak h p) s save rp pos = (withPeak (calcPost h s save rp pos).1 p, (calcPost h s save rp pos).2) := by
  unfold calcPost
  have hm : (withPeak h p).mode = h.mode := rfl
  rw [hm]
  by_cases c : (h.mode == Mode.rw) = true
  · rw [if_pos c, if_pos c, stepSeek_peak]
    rfl
  · rw [if_neg c, if_neg c, stepSeek_peak]
    rfl

theorem stepCalc_peak (h : H) (s : Store) (normalize : Bool) (p : Option (List Sf.Peak)) :
    stepCalc (withPeak h p) s normalize =
      (withPeak (stepCalc h s normalize).1 p, (stepCalc h s normalize).2.1, (stepCalc h s normalize).2.2) := by
  unfold stepCalc
  rw [calcPre_peak]
  dsimp only
  have hf : (withPeak (calcPre h s normalize).1 p).frames = (calcPre h s normalize).1.frames := rfl
  have hc : (withPeak (calcPre h s normalize).1 p).ch = (calcPre h s normalize).1.ch := rfl
  rw [hf, hc, calcLoop_peak]
  dsimp only
  rw [calcPost_peak]

end Sf.Peak
