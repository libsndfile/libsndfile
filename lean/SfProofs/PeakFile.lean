/-
  SfProofs.PeakFile — ties the writer model of SfProofs.CodecRun (`peakRun` over `WOp`s) to `Sf.Peak.run`, so that the
  PEAK theorems of SfProofs.Peak speak about the closed file (`closeBytes`).
-/
import SfProofs.CodecFile
import SfProofs.Peak
namespace Sf.Peak
open Sf Sf.Float

/-- the non-empty write calls of a writer history -/
def toCalls (ops : List WOp) : List (Ty × List Int) :=
  ops.filterMap fun
    | .write ty _ n data => if n = 0 then none else some (ty, data)
    | .updHeader _ => none

theorem peakRun_eq_run (enc : Enc) (conv : Conv) (ch : Nat) :
    ∀ (ops : List WOp) (pk : Option (List Peak)) (wpos : Int),
      peakRun enc conv ch pk wpos ops = run enc conv ch pk wpos (toCalls ops) := by
  intro ops
  induction ops with
  | nil => intro pk wpos; rfl
  | cons op ops ih =>
    intro pk wpos
    cases op with
    | write ty fc n data =>
      by_cases hn : n = 0
      · simp only [peakRun, toCalls, List.filterMap_cons, hn, if_true]; exact ih _ _
      · simp only [peakRun, toCalls, List.filterMap_cons, hn, if_false, run]; exact ih _ _
    | updHeader sz => simp only [peakRun, toCalls, List.filterMap_cons]; exact ih _ _

theorem toCalls_wellFormed (h : H) (hch : 0 < h.ch) (ty : Ty) (ops : List WOp) (hok : ∀ op ∈ ops, op.ok h)
    (ht : ∀ op ∈ ops, op.hasTy ty)
    (hfin : ∀ x ∈ ops.flatMap WOp.samples, (fileFmt h.enc).isFinite (convVal h.enc h.conv ty x) = true) :
    ∀ call ∈ toCalls ops, WellFormed h.enc h.conv h.ch call := by
  intro call hc
  obtain ⟨op, hop, e⟩ := List.mem_filterMap.mp hc
  cases op with
  | updHeader sz => cases e
  | write ty' fc n data =>
    have hty : ty' = ty := ht _ hop
    subst hty
    by_cases hn : n = 0
    · simp [hn] at e
    simp only [hn, if_false, Option.some.injEq] at e
    subst e
    rcases hok _ hop with h0 | v
    · exact absurd h0 hn
    have hlm := ValidW.len_mod h fc n data v
    have hlen : 0 < data.length := by
      have := v.len; have := v.callLen_pos hch; omega
    exact ⟨hlen, by exact_mod_cast hlm, fun x hx => hfin x (List.mem_flatMap.mpr ⟨_, hop, by simpa only [WOp.samples, hn, if_false] using hx⟩)⟩
theorem toCalls_fileVals (enc : Enc) (conv : Conv) (ty : Ty) (ops : List WOp) (ht : ∀ op ∈ ops, op.hasTy ty) :
    fileVals enc conv (toCalls ops) = (ops.flatMap WOp.samples).map (convVal enc conv ty) := by
  induction ops with
  | nil => rfl
  | cons op ops ih =>
    have hop := ht op (by simp)
    have ih' := ih (fun o ho => ht o (by simp [ho]))
    cases op with
    | write ty' fc n data =>
      simp only [WOp.hasTy] at hop
      subst hop
      by_cases hn : n = 0
      · simp only [toCalls, List.filterMap_cons, hn, if_true, List.flatMap_cons, WOp.samples, List.nil_append]; exact ih'
      · simp only [toCalls, List.filterMap_cons, hn, if_false, List.flatMap_cons, WOp.samples, List.map_append]
        rw [← ih']; simp [fileVals, toCalls]
    | updHeader sz => simp only [toCalls, List.filterMap_cons, List.flatMap_cons, WOp.samples, List.nil_append]; exact ih'
end Sf.Peak
