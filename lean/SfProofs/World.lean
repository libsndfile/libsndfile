/-
  Lemmas for SfProps/C19.lean: the binding of a handle to its store never changes; frame and locality of `wstep`.  The file
  also defines the vocabulary of the C19 statements (`Owned`, `Scoped`, `Agree`, `view` / `proj`, `SameLocal`) and proves the
  statement the property theorems are corollaries of, `run_project`.
-/
import SfModel.World
import SfProofs.HandleOpen
import SfProofs.Slots
namespace Sf.World
open Sf

theorem writeHeader_store (h : H) (s : Store) (b : Bool) : (writeHeader h s b).1.store = h.store := by
  obtain ⟨fl, dl, off, e, _⟩ := writeHeader_fst h s b
  rw [e]

theorem applyOp_store (h : H) (s : Store) (op : Op) (h' : H) (e : (applyOp h s op).1 = some h') : h'.store = h.store := by
  have key := (stepAny_fields h s op).store
  cases op <;> simp only [applyOp, Option.some.injEq] at e
  case close => cases e
  all_goals (rw [← e]; exact key)

theorem openHandle_store (ix : Nat) (s0 : Store) (mode : Mode) (fmt : Nat) (ch sr : Int) (h : H) (s : Store)
    (ho : openHandle ix s0 mode fmt ch sr = .ok h s) : h.store = ix := by
  -- every handle `openHandle` builds is a record with `store := ix`
  rcases openHandle_ok ix s0 mode fmt ch sr h s ho with
    ⟨_, _, _, _, _, _, _, ⟨_, _, rfl⟩ | ⟨_, _, rfl, _, rfl⟩ | ⟨_, _, rfl, _, rfl⟩⟩ | ⟨_, _, _, _, _, _, _, _, _, _, rfl⟩ <;> rfl

/-- what a call leaves of the world: nothing changed (the queries of the process-wide state, and calls that return
    before the handle is looked at), or slot `i`, the touched store, the slot's unique id and the process-wide state -/
theorem wstep_cases (w : W) (i : Nat) (op : WOp) :
    (wstep w (i, op)).1 = w ∨
    (touched (w.handles i) op = none ∧
      (wstep w (i, op)).1 = { w with handles := upd w.handles i (lstep (w.handles i) {} op).1,
                                     g := applyG w.g (lstep (w.handles i) {} op).2.2.2 }) ∨
    ∃ k, touched (w.handles i) op = some k ∧ ∃ (u : Bool) (id : Nat),
      (wstep w (i, op)).1 =
        { handles := upd w.handles i (lstep (w.handles i) (w.stores k) op).1, uids := if u then upd w.uids i id else w.uids,
          stores := upd w.stores k (lstep (w.handles i) (w.stores k) op).2.1,
          g := applyG w.g (lstep (w.handles i) (w.stores k) op).2.2.2 } := by
  unfold wstep
  dsimp only
  split
  · exact Or.inl rfl
  · exact Or.inl rfl
  · split
    · exact Or.inl rfl
    · split
      · rename_i ht; exact Or.inr (Or.inl ⟨ht, rfl⟩)
      · rename_i k ht; exact Or.inr (Or.inr ⟨k, ht, _, _, rfl⟩)

theorem wstep_handles_frame (w : W) (i : Nat) (op : WOp) (j : Nat) (hj : j ≠ i) :
    (wstep w (i, op)).1.handles j = w.handles j := by
  rcases wstep_cases w i op with e | ⟨_, e⟩ | ⟨k, _, u, id, e⟩ <;> rw [e]
  all_goals exact upd_other _ _ _ _ hj

theorem wstep_uids_frame (w : W) (i : Nat) (op : WOp) (j : Nat) (hj : j ≠ i) :
    (wstep w (i, op)).1.uids j = w.uids j := by
  rcases wstep_cases w i op with e | ⟨_, e⟩ | ⟨k, _, u, id, e⟩ <;> rw [e]
  cases u
  · rfl
  · exact upd_other _ _ _ _ hj

theorem wstep_stores_frame (w : W) (i : Nat) (op : WOp) (k : Nat) (hk : touched (w.handles i) op ≠ some k) :
    (wstep w (i, op)).1.stores k = w.stores k := by
  rcases wstep_cases w i op with e | ⟨_, e⟩ | ⟨k', hk', u, id, e⟩ <;> rw [e]
  exact upd_other _ _ _ _ (fun e => hk (e ▸ hk'))

/-! ## locality: what a call does and returns is a function of its slot and its store alone -/

theorem wstep_local (w w' : W) (i : Nat) (op : WOp)
    (hh : w.handles i = w'.handles i)
    (hs : ∀ k, touched (w.handles i) op = some k → w.stores k = w'.stores k) :
    (wstep w (i, op)).1.handles i = (wstep w' (i, op)).1.handles i ∧
    (∀ k, touched (w.handles i) op = some k → (wstep w (i, op)).1.stores k = (wstep w' (i, op)).1.stores k) ∧
    mask (wstep w (i, op)).2 = mask (wstep w' (i, op)).2 ∧
    (w.g = w'.g → (wstep w (i, op)).2 = (wstep w' (i, op)).2 ∧ (wstep w (i, op)).1.g = (wstep w' (i, op)).1.g) := by
  unfold wstep
  dsimp only
  rw [← hh]
  split
  · exact ⟨hh, hs, rfl, fun hg => by rw [hg]; exact ⟨rfl, rfl⟩⟩
  · exact ⟨hh, hs, rfl, fun hg => by rw [hg]; exact ⟨rfl, rfl⟩⟩
  · split
    · refine ⟨hh, hs, ?_, fun hg => by rw [hg]; exact ⟨rfl, rfl⟩⟩
      split <;> rfl
    · split
      · rename_i hn
        refine ⟨by simp only [upd_same], fun k hk => ?_, rfl, fun hg => by rw [hg]; exact ⟨rfl, rfl⟩⟩
        cases hn.symm.trans hk
      · rename_i k0 hk0
        rw [← hs k0 hk0]
        refine ⟨by simp only [upd_same], fun k hk => ?_, rfl, fun hg => by rw [hg]; exact ⟨rfl, rfl⟩⟩
        cases hk0.symm.trans hk
        simp only [upd_same]

/-! ## name spaces: every slot works on stores of its own -/

/-- every live handle is bound to a store that belongs to its slot (`owner` maps a store to the slot that may use it) -/
def Owned (owner : Nat → Nat) (w : W) : Prop := ∀ i h, w.handles i = some h → owner h.store = i

/-- the call stays inside the caller's name space: an open names a store of the calling slot -/
def Scoped (owner : Nat → Nat) (ev : Ev) : Prop :=
  match ev.2 with
  | .open s .. => owner s = ev.1
  | _ => True

theorem lstep_slot_store (slot : Option H) (st : Store) (op : WOp) (h' : H) (e : (lstep slot st op).1 = some h') :
    touched slot op = some h'.store ∨ slot = some h' := by
  cases op with
  | «open» store mode fmt ch sr ct =>
    unfold lstep at e
    simp only at e
    split at e
    · exact Or.inr e
    · cases e
    · rename_i h s ho
      left
      simp only [Option.some.injEq] at e
      subst e
      simp only [touched]
      rw [openHandle_store _ _ _ _ _ _ _ _ ho]
  | nullError => exact Or.inr e
  | nullLog => exact Or.inr e
  | call o =>
    cases slot with
    | none => cases o <;> cases e
    | some h =>
      left
      simp only [lstep] at e
      simp only [touched, Option.map]
      rw [applyOp_store h st o h' e]
  | info =>
    cases slot with
    | none => cases e
    | some h => left; simp only [lstep, Option.some.injEq] at e; subst e; rfl
  | infoBadSize =>
    cases slot with
    | none => cases e
    | some h => left; simp only [lstep, Option.some.injEq] at e; subst e; rfl
  | herror =>
    cases slot with
    | none => cases e
    | some h => exact Or.inr e

theorem wstep_slot (w : W) (i : Nat) (op : WOp) :
    (wstep w (i, op)).1.handles i = w.handles i ∨
    ∃ st, (wstep w (i, op)).1.handles i = (lstep (w.handles i) st op).1 := by
  rcases wstep_cases w i op with e | ⟨_, e⟩ | ⟨k, _, u, id, e⟩ <;> rw [e]
  · exact Or.inl rfl
  · exact Or.inr ⟨{}, upd_same ..⟩
  · exact Or.inr ⟨w.stores k, upd_same ..⟩

theorem touched_owner (owner : Nat → Nat) (w : W) (i : Nat) (op : WOp) (ho : Owned owner w) (hsc : Scoped owner (i, op))
    (k : Nat) (hk : touched (w.handles i) op = some k) : owner k = i := by
  cases op with
  | «open» store mode fmt ch sr ct => simp only [touched, Option.some.injEq] at hk; subst hk; exact hsc
  | nullError => cases hk
  | nullLog => cases hk
  | _ =>
    simp only [touched] at hk
    cases hs : w.handles i with
    | none => rw [hs] at hk; cases hk
    | some h => rw [hs] at hk; simp only [Option.map, Option.some.injEq] at hk; subst hk; exact ho i h hs

theorem Owned_wstep (owner : Nat → Nat) (w : W) (ev : Ev) (ho : Owned owner w) (hsc : Scoped owner ev) :
    Owned owner (wstep w ev).1 := by
  obtain ⟨i, op⟩ := ev
  intro j h' hj
  by_cases e : j = i
  · subst e
    rcases wstep_slot w j op with e1 | ⟨st, e1⟩
    · rw [e1] at hj; exact ho j h' hj
    · rw [e1] at hj
      rcases lstep_slot_store _ _ _ _ hj with e2 | e2
      · exact touched_owner owner w j op ho hsc _ e2
      · exact ho j h' e2
  · rw [wstep_handles_frame w i op j e] at hj
    exact ho j h' hj

/-- two worlds look the same from slot `i`: same handle in the slot, same bytes in every store of the slot -/
def Agree (owner : Nat → Nat) (i : Nat) (w w' : W) : Prop :=
  w.handles i = w'.handles i ∧ ∀ k, owner k = i → w.stores k = w'.stores k

theorem Agree.refl (owner : Nat → Nat) (i : Nat) (w : W) : Agree owner i w w := ⟨rfl, fun _ _ => rfl⟩

theorem Agree.trans {owner : Nat → Nat} {i : Nat} {a b c : W} (h1 : Agree owner i a b) (h2 : Agree owner i b c) :
    Agree owner i a c := ⟨h1.1.trans h2.1, fun k hk => (h1.2 k hk).trans (h2.2 k hk)⟩

theorem agree_other (owner : Nat → Nat) (w : W) (i j : Nat) (op : WOp) (ho : Owned owner w) (hsc : Scoped owner (j, op))
    (hij : i ≠ j) : Agree owner i (wstep w (j, op)).1 w := by
  refine ⟨wstep_handles_frame w j op i hij, fun k hk => wstep_stores_frame w j op k ?_⟩
  intro ht
  have := touched_owner owner w j op ho hsc k ht
  omega

theorem agree_own (owner : Nat → Nat) (w w' : W) (i : Nat) (op : WOp) (ho : Owned owner w) (hsc : Scoped owner (i, op))
    (ha : Agree owner i w w') :
    Agree owner i (wstep w (i, op)).1 (wstep w' (i, op)).1 ∧ mask (wstep w (i, op)).2 = mask (wstep w' (i, op)).2 := by
  have hs : ∀ k, touched (w.handles i) op = some k → w.stores k = w'.stores k :=
    fun k hk => ha.2 k (touched_owner owner w i op ho hsc k hk)
  obtain ⟨l1, l2, l3, _⟩ := wstep_local w w' i op ha.1 hs
  refine ⟨⟨l1, fun k hk => ?_⟩, l3⟩
  by_cases ht : touched (w.handles i) op = some k
  · exact l2 k ht
  · rw [wstep_stores_frame w i op k ht, wstep_stores_frame w' i op k (by rw [← ha.1]; exact ht)]
    exact ha.2 k hk

/-- `sf_error (h)` on a live handle answers the handle's own error field -/
theorem wstep_herror_live (w : W) (j : Nat) (h : H) (hl : w.handles j = some h) : (wstep w (j, .herror)).2 = .err h.error := by
  simp [wstep, hl, touched, lstep, isHerror, zeroLen]

/-- the masked transcript of slot `i` -/
def view (i : Nat) (tr : List (Nat × WOut)) : List WOut := (tr.filter (fun x => x.1 == i)).map (fun x => mask x.2)

/-- the calls of slot `i` -/
def proj (i : Nat) (evs : List Ev) : List Ev := evs.filter (fun ev => ev.1 == i)

theorem run_runs : Slots.Runs wstep (·.1) run := ⟨fun _ => rfl, fun _ _ _ => rfl⟩

/-- core of C19: running any history in `w` and running only slot `i`'s calls in a world `w'` that looks the same from
    slot `i` give slot `i` the same (masked) transcript, the same final handle and the same final bytes in its stores.
    "Looks the same" carries `Owned` for both worlds, since that is what keeps the other slots out of slot `i`'s stores. -/
theorem run_project (owner : Nat → Nat) (i : Nat) (evs : List Ev) (w w' : W) (ho : Owned owner w) (ho' : Owned owner w')
    (hsc : ∀ ev ∈ evs, Scoped owner ev) (ha : Agree owner i w w') :
    (Owned owner (run w evs).1 ∧ Owned owner (run w' (proj i evs)).1 ∧ Agree owner i (run w evs).1 (run w' (proj i evs)).1) ∧
      view i (run w evs).2 = view i (run w' (proj i evs)).2 :=
  run_runs.project i (fun w w' => Owned owner w ∧ Owned owner w' ∧ Agree owner i w w') mask evs
    (fun ev he hj w _ h => ⟨Owned_wstep owner w ev h.1 (hsc ev he), h.2.1,
      (agree_other owner w i ev.1 ev.2 h.1 (hsc ev he) (Ne.symm hj)).trans h.2.2⟩)
    (fun ev he hj w w' h => by
      subst hj
      exact (agree_own owner w w' ev.1 ev.2 h.1 (hsc ev he) h.2.2).imp_left
        fun a => ⟨Owned_wstep owner w ev h.1 (hsc ev he), Owned_wstep owner w' ev h.2.1 (hsc ev he), a⟩)
    w w' ⟨ho, ho', ha⟩

/-- two worlds with the same slots and stores (the process-wide state may differ) -/
def SameLocal (w w' : W) : Prop := (∀ i, w.handles i = w'.handles i) ∧ (∀ k, w.stores k = w'.stores k)

theorem SameLocal_wstep (w w' : W) (ev : Ev) (h : SameLocal w w') :
    SameLocal (wstep w ev).1 (wstep w' ev).1 ∧ mask (wstep w ev).2 = mask (wstep w' ev).2 := by
  obtain ⟨i, op⟩ := ev
  obtain ⟨l1, l2, l3, _⟩ := wstep_local w w' i op (h.1 i) (fun k _ => h.2 k)
  refine ⟨⟨fun j => ?_, fun k => ?_⟩, l3⟩
  · by_cases e : j = i
    · subst e; exact l1
    · rw [wstep_handles_frame w i op j e, wstep_handles_frame w' i op j e]; exact h.1 j
  · by_cases ht : touched (w.handles i) op = some k
    · exact l2 k ht
    · rw [wstep_stores_frame w i op k ht, wstep_stores_frame w' i op k (by rw [← h.1 i]; exact ht)]
      exact h.2 k

theorem SameLocal_run : ∀ (evs : List Ev) (w w' : W), SameLocal w w' →
    SameLocal (run w evs).1 (run w' evs).1 ∧
      (run w evs).2.map (fun x => (x.1, mask x.2)) = (run w' evs).2.map (fun x => (x.1, mask x.2)) := by
  intro evs
  induction evs with
  | nil => intro w w' h; exact ⟨h, rfl⟩
  | cons ev evs ih =>
    intro w w' h
    obtain ⟨s1, s2⟩ := SameLocal_wstep w w' ev h
    obtain ⟨r1, r2⟩ := ih _ _ s1
    refine ⟨r1, ?_⟩
    simp only [run, List.map_cons]
    rw [s2, r2]

theorem run_append (w : W) (a b : List Ev) :
    run w (a ++ b) = ((run (run w a).1 b).1, (run w a).2 ++ (run (run w a).1 b).2) := by
  induction a generalizing w with
  | nil => simp [run]
  | cons ev a ih => simp only [List.cons_append, run, ih, List.cons_append]

end Sf.World
