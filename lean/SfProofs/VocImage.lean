/-
  SfProofs.VocImage — `Sf.Voc.parse` on the images the VOC writer leaves in the store (the header as a list of
  segments; the block reader finds each field where it lies), and the session lemmas of the VOC close function
  (terminator byte, then the header).
-/
import SfModel.Voc
import SfProofs.Small2Session
namespace Sf.Voc
open Sf Sf.Small2

theorem fileHdr_explicit : fileHdr = [0x43, 0x72, 0x65, 0x61, 0x74, 0x69, 0x76, 0x65, 0x20, 0x56, 0x6F, 0x69, 0x63, 0x65, 0x20, 0x46, 0x69, 0x6C, 0x65,
    0x1A, 0x1A, 0x00, 0x14, 0x01, 0x1F, 0x11] := by decide +kernel

theorem asc_creative : asc "Creative Voice File" = [0x43, 0x72, 0x65, 0x61, 0x74, 0x69, 0x76, 0x65, 0x20, 0x56, 0x6F, 0x69, 0x63, 0x65, 0x20, 0x46, 0x69, 0x6C, 0x65] := by
  decide +kernel

theorem le3_explicit (n : Nat) : leBytes 3 n = [n % 256, n / 256 % 256, n / 256 / 256 % 256] := by simp [leBytes]
theorem le2_explicit (n : Nat) : leBytes 2 n = [n % 256, n / 256 % 256] := by simp [leBytes]
theorem ofLE3_bytes (n : Nat) (h : n < 2 ^ 24) : ofLE [n % 256, n / 256 % 256, n / 256 / 256 % 256] = n := by
  simp only [ofLE]; omega

theorem fileHdr_length : fileHdr.length = 26 := by rw [fileHdr_explicit]; rfl

theorem guess_voc (X : List Byte) : guess (fileHdr ++ X) = some (.fmt 0x080000) := by rw [fileHdr_explicit]; rfl

theorem hdr_length (c : Cfg) (f : Fields) : (hdr c f).length = c.hdrLen := by
  have hf := fileHdr_length
  unfold hdr Cfg.hdrLen
  split
  · split <;> simp [hf, le24, leBytes_length]
  · simp [hf, le24, leBytes_length]

theorem le24_length (v : Int) : (le24 v).length = 3 := leBytes_length 3 _

theorem ofLE_le24 (v : Int) : ofLE (le24 v) = wrapU 24 v := ofLE_leBytes_wrapU 3 v

/-- voc_read_header up to the first block and what follows it: on a file that starts with the file header, the result is
    made from what the block reader finds -/
theorem parse_of_block (bs : List Byte) (hF : fileHdr <+: bs) (hlen : bs.length < 2 ^ 31) (ch codec bytew : Nat) (sr : Int)
    (off : Nat) (dend : Int) (hb : readBlock bs = .ok ch codec bytew sr off dend) (hch : 1 ≤ ch) (hsr : 1 ≤ sr) :
    parse bs = .ok { ch := ch, fmt := 0x080000 + codec, sr := sr.toNat, frames := (framesOf (bs.length : Int) off dend (bytew * ch : Nat)).toNat } := by
  have k4 := hF.length_le
  rw [fileHdr_length] at k4
  obtain ⟨X, rfl⟩ := hF
  have k1 : (fileHdr ++ X).take 19 = asc "Creative Voice File" := by rw [fileHdr_explicit, asc_creative]; rfl
  have k2 : byteAt (fileHdr ++ X) 19 = 0x1A := by rw [fileHdr_explicit]; rfl
  have k3 : leAt (fileHdr ++ X) 22 2 = 0x0114 := by rw [fileHdr_explicit]; rfl
  unfold parse
  rw [if_neg (by omega), guess_voc]
  simp only []
  unfold readHeader
  rw [if_neg (by omega), if_neg (by omega), k1, k2, k3, hb]
  have c : ¬ (ch < 1 ∨ sr < 1) := by omega
  simp only [ne_eq, not_true_eq_false, or_self, if_false, and_false, c]

theorem hdr_fileHdr (c : Cfg) (f : Fields) (data : List Byte) : fileHdr <+: hdr c f ++ data := by
  unfold hdr
  split
  · split <;> simp only [List.append_assoc] <;> exact List.prefix_append _ _
  · simp only [List.append_assoc]; exact List.prefix_append _ _

theorem sext_encOf (codec : Nat) : sext 16 (wrapU 16 (encOf codec)) = encOf codec := by
  unfold encOf; split
  · decide
  · split <;> decide

theorem rate8_lt (sr : Nat) : rate8 sr < 256 := wrapU_lt_pow 8 _
theorem rate16_lt (sr : Nat) : rate16 sr < 65536 := wrapU_lt_pow 16 _

theorem unrate8_pos (b : Nat) (h : b < 256) : 1 ≤ unrate8 b := by
  unfold unrate8
  have h1 : 256 - b ≤ 256 := by omega
  have h2 : 0 < 256 - b := by omega
  exact (Nat.le_div_iff_mul_le h2).mpr (by omega)

theorem unrate16_pos (st : Bool) (s : Nat) (h : s < 65536) : 1 ≤ unrate16 st s := by
  unfold unrate16
  have h2 : 0 < 65536 - s := by omega
  apply (Nat.le_div_iff_mul_le h2).mpr
  cases st <;> simp <;> omega

theorem quant_type1 {c : Cfg} (h5 : c.codec = 5) (h1 : c.ch = 1) : quant c = unrate8 (rate8 c.sr) := by rw [quant, if_pos h5, if_pos h1]
theorem quant_type8 {c : Cfg} (h5 : c.codec = 5) (h1 : ¬ c.ch = 1) : quant c = unrate16 true (rate16 c.sr) := by rw [quant, if_pos h5, if_neg h1]

/-- a time constant that fits its field reads back as the divisor quantiser of the rate (type 1 block; type 8 below) -/
theorem unrate8_rate8 (sr : Nat) (h0 : 0 < 1000000 / sr) (h1 : 1000000 / sr < 256) : unrate8 (rate8 sr) = 1000000 / (1000000 / sr) := by
  have e : rate8 sr = 256 - 1000000 / sr := by
    unfold rate8 wrapU
    generalize 1000000 / sr = d at *
    omega
  unfold unrate8; rw [e]
  generalize 1000000 / sr = d at *
  congr 1; omega

theorem unrate16_rate16 (sr : Nat) (h0 : 0 < 128000000 / sr) (h1 : 128000000 / sr < 65536) :
    unrate16 true (rate16 sr) = 128000000 / (128000000 / sr) := by
  have e : rate16 sr = 65536 - 128000000 / sr := by
    unfold rate16 wrapU
    generalize 128000000 / sr = d at *
    omega
  unfold unrate16; rw [e]; simp only [if_true]
  generalize 128000000 / sr = d at *
  congr 1; omega

/-! ### what the block reader finds in each of the three header shapes, as a function of the length field -/

theorem readBlock1 (c : Cfg) (h5 : c.codec = 5) (h1 : c.ch = 1) (f : Fields) (data : List Byte) :
    readBlock (hdr c f ++ data) =
      let L : Int := wrapU 24 (wrapS 32 (f.datalength + 2))
      if 32 + L - 2 = ((32 + data.length : Nat) : Int) then .ok 1 5 1 (unrate8 (rate8 c.sr)) 32 0
      else if 32 + L - 1 > ((32 + data.length : Nat) : Int) then .err
      else if ((32 + data.length : Nat) : Int) - 32 - L > 4 then .err
      else .ok 1 5 1 (unrate8 (rate8 c.sr)) 32 (((32 + data.length : Nat) : Int) - 1) := by
  have hfl : (hdr c f ++ data).length = 32 + data.length := by rw [List.length_append, hdr_length, Cfg.hdrLen, if_pos h5, if_pos h1]
  unfold readBlock
  rw [hfl]
  simp only [hdr, h5, h1, if_true, byteAt, leAt, List.append_assoc, getD_app_skip, drop_app_skip, take_app_head, fileHdr_length, le24_length, Nat.reduceSub, Nat.reduceLeDiff, Nat.le_refl, List.drop_zero,
    List.cons_append, List.nil_append, List.drop_succ_cons, List.getD_cons_zero, List.getD_cons_succ, ofLE_le24]
  have n15 : ¬ ((1 : Nat) = 5 ∨ (1 : Nat) = 6) := by decide
  have c3 : ¬ (32 + data.length < 32) := by omega
  simp only [n15, c3, if_false]

theorem readBlock8 (c : Cfg) (h5 : c.codec = 5) (h2 : c.ch = 2) (f : Fields) (data : List Byte) :
    readBlock (hdr c f ++ data) =
      let L : Int := wrapU 24 (wrapS 32 (f.datalength + 2))
      if 40 + L - 2 = ((40 + data.length : Nat) : Int) then .ok 2 5 1 (unrate16 true (rate16 c.sr)) 40 0
      else if 40 + L - 1 > ((40 + data.length : Nat) : Int) then .err
      else if 40 + L - 1 < ((40 + data.length : Nat) : Int) then .err
      else .ok 2 5 1 (unrate16 true (rate16 c.sr)) 40 (((40 + data.length : Nat) : Int) - 1) := by
  have h1 : ¬ (c.ch = 1) := by omega
  have hfl : (hdr c f ++ data).length = 40 + data.length := by rw [List.length_append, hdr_length, Cfg.hdrLen, if_pos h5, if_neg h1]
  unfold readBlock
  rw [hfl]
  simp only [hdr, h5, h1, if_true, if_false, byteAt, leAt, List.append_assoc, getD_app_skip, drop_app_skip, take_app_head, fileHdr_length, le24_length, le16_length, Nat.reduceSub, Nat.reduceLeDiff, Nat.le_refl, List.drop_zero,
    List.cons_append, List.nil_append, List.drop_succ_cons, List.getD_cons_zero, List.getD_cons_succ, ofLE_le16, ofLE_le24, wrapU_of_lt 16 _ (rate16_lt c.sr)]
  have n85 : ¬ ((8 : Nat) = 5 ∨ (8 : Nat) = 6) := by decide
  have n81 : ¬ ((8 : Nat) = 1) := by decide
  have c0 : ¬ (40 + data.length < 40) := by omega
  simp only [n85, n81, c0, if_false, if_true, ne_eq, not_true_eq_false, Nat.one_ne_zero, not_false_eq_true, decide_true]

/-- type 9: the encoding word decides the codec; `S` is the value of the 3-byte length field (not the SoX value) -/
theorem readBlock9 (c : Cfg) (hwf : c.wf) (h5 : c.codec ≠ 5) (f : Fields) (S : Nat)
    (hS : wrapU 24 (wrapS 32 (f.frames * c.ch * bytewidth c.codec + 12)) = S) (data : List Byte)
    (hsox : (S : Int) * 2 ≠ ((42 + data.length : Nat) : Int) - 39) :
    ∃ cd bw', readBlock (hdr c f ++ data) = .ok c.ch cd bw' c.sr 42
        (if (S : Int) + 31 = ((42 + data.length : Nat) : Int) + 1 then 0 else ((42 + data.length : Nat) : Int) - 1) ∧
      0x080000 + cd = c.fmtWord ∧ bw' * c.ch = c.bw := by
  obtain ⟨hcodec, hch, hsr1, hsr2⟩ := hwf
  have hfl : (hdr c f ++ data).length = 42 + data.length := by rw [List.length_append, hdr_length, Cfg.hdrLen, if_neg h5]
  unfold readBlock
  rw [hfl]
  simp only [hdr, h5, if_false, byteAt, leAt, List.append_assoc, getD_app_skip, drop_app_skip, take_app_head, fileHdr_length, le24_length, le32_length, le16_length, Nat.reduceSub, Nat.reduceLeDiff, Nat.le_refl, List.drop_zero,
    List.cons_append, List.nil_append, List.drop_succ_cons, List.getD_cons_zero, List.getD_cons_succ, ofLE_le24, ofLE_le32, ofLE_le16, hS,
    wrapU_of_lt 32 _ (show c.sr < 2 ^ 32 by omega), sext_of_lt 32 c.sr (by omega), sext_encOf, hsox]
  have n95 : ¬ ((9 : Nat) = 5 ∨ (9 : Nat) = 6) := by decide
  have n91 : ¬ ((9 : Nat) = 1) := by decide
  have n98 : ¬ ((9 : Nat) = 8) := by decide
  have hl42 : ¬ (42 + data.length < 42) := by omega
  simp only [n95, n91, n98, if_false, if_true, hl42]
  rcases hcodec with h | h | h | h
  · exact absurd h h5
  · exact ⟨2, 2, by simp [h, encOf], by simp [h, Cfg.fmtWord], by simp [h, Cfg.bw, bytewidth]⟩
  · exact ⟨0x10, 1, by simp [h, encOf], by simp [h, Cfg.fmtWord], by simp [h, Cfg.bw, bytewidth]⟩
  · exact ⟨0x11, 1, by simp [h, encOf], by simp [h, Cfg.fmtWord], by simp [h, Cfg.bw, bytewidth]⟩

theorem field24 (n : Nat) (h : n < 2 ^ 24) : wrapU 24 (wrapS 32 (n : Int)) = n := by
  rw [wrapS_of_range 32 n (by omega) (by omega)]; exact wrapU_of_lt 24 n h

theorem bw_pos (c : Cfg) (hwf : c.wf) : 0 < c.bw := by
  unfold Cfg.bw bytewidth
  rcases hwf.2.1 with g | g <;> rw [g] <;> split <;> decide

/-- the frame count when at most one byte (the terminator) follows `D` bytes of audio: with a terminator the reader has
    put `dataend` on it, without one `dataend` stays 0 -/
theorem framesOf_term (H D t bw : Nat) (hH : 0 < H) (hbw : 0 < bw) (ht : t ≤ 1) :
    (framesOf ((H + (D + t) : Nat) : Int) (H : Nat) (if t = 0 then 0 else ((H + (D + t) : Nat) : Int) - 1) (bw : Nat)).toNat = D / bw := by
  obtain rfl | rfl : t = 0 ∨ t = 1 := by omega
  · exact framesOf_nat H D bw hbw
  · exact framesOf_last H (D + 1) bw hH hbw

/-- **voc_read_header on an image of the writer**: a header computed over the `audio` bytes that follow it (whole frames), and
    behind them the terminator (the closed file) or nothing (what a header update leaves).  All three block readers take
    a block that would end one byte beyond the file for one whose terminator is missing. -/
theorem parse_image (c : Cfg) (hwf : c.wf) (f : Fields) (audio tail : List Byte) (hdl : f.datalength = (audio.length : Nat))
    (hfr : f.frames = ((audio.length / c.bw : Nat) : Int)) (hw : audio.length % c.bw = 0) (hg : audio.length + 14 < 2 ^ 24)
    (ht : tail.length ≤ 1) :
    parse (hdr c f ++ (audio ++ tail)) = .ok { ch := c.ch, fmt := c.fmtWord, sr := quant c, frames := audio.length / c.bw } := by
  have hbpos := bw_pos c hwf
  have hdat : (audio ++ tail).length = audio.length + tail.length := List.length_append
  have hfl : (hdr c f ++ (audio ++ tail)).length = c.hdrLen + (audio.length + tail.length) := by rw [List.length_append, hdr_length, hdat]
  have hH : 32 ≤ c.hdrLen ∧ c.hdrLen ≤ 42 := by unfold Cfg.hdrLen; split <;> (try split) <;> omega
  -- every shape: the block reader answers with the data offset `hdrLen` and puts `dataend` on the terminator, if there is one
  suffices hb : ∃ cd bw', readBlock (hdr c f ++ (audio ++ tail)) = .ok c.ch cd bw' (quant c : Nat) c.hdrLen
      (if tail.length = 0 then 0 else ((c.hdrLen + (audio.length + tail.length) : Nat) : Int) - 1) ∧
      0x080000 + cd = c.fmtWord ∧ bw' * c.ch = c.bw ∧ 1 ≤ quant c by
    obtain ⟨cd, bw', hb, hcd, hbw, hq⟩ := hb
    have hch : 1 ≤ c.ch := by rcases hwf.2.1 with g | g <;> omega
    rw [parse_of_block _ (hdr_fileHdr c f _) (by omega) _ _ _ _ _ _ hb hch (by omega), hcd, hbw, hfl,
      framesOf_term c.hdrLen audio.length tail.length c.bw (by omega) hbpos ht, Int.toNat_natCast]
  have hL : wrapU 24 (wrapS 32 (f.datalength + 2)) = audio.length + 2 := by
    rw [hdl]; exact field24 (audio.length + 2) (by omega)
  by_cases h5 : c.codec = 5
  · rcases hwf.2.1 with h1 | h2
    · have hq := quant_type1 h5 h1
      refine ⟨5, 1, ?_, by simp [Cfg.fmtWord, h5], by simp [Cfg.bw, bytewidth, h5], hq ▸ unrate8_pos _ (rate8_lt c.sr)⟩
      rw [readBlock1 c h5 h1, hL, hdat, hq, h1, Cfg.hdrLen, if_pos h5, if_pos h1]
      simp only []
      -- (`omega` reads every hypothesis in scope: only `ht` matters from here on)
      clear hfr hdl hw hfl hL hH hbpos hdat hg hq
      by_cases h0 : tail.length = 0
      · rw [if_pos (by omega), if_pos h0]
      · rw [if_neg (by omega), if_neg (by omega), if_neg (by omega), if_neg h0]
    · have h1 : ¬ c.ch = 1 := by omega
      have hq := quant_type8 h5 h1
      refine ⟨5, 1, ?_, by simp [Cfg.fmtWord, h5], by simp [Cfg.bw, bytewidth, h5], hq ▸ unrate16_pos true _ (rate16_lt c.sr)⟩
      rw [readBlock8 c h5 h2, hL, hdat, hq, h2, Cfg.hdrLen, if_pos h5, if_neg h1]
      simp only []
      clear hfr hdl hw hfl hL hH hbpos hdat hg hq
      by_cases h0 : tail.length = 0
      · rw [if_pos (by omega), if_pos h0]
      · rw [if_neg (by omega), if_neg (by omega), if_neg (by omega), if_neg h0]
  · have hS : wrapU 24 (wrapS 32 (f.frames * c.ch * bytewidth c.codec + 12)) = audio.length + 12 := by
      have e : f.frames * (c.ch : Int) * ((bytewidth c.codec : Nat) : Int) + 12 = ((audio.length + 12 : Nat) : Int) := by
        rw [hfr, Int.mul_assoc, Int.mul_comm (c.ch : Int), ← Int.natCast_mul, ← Int.natCast_mul]
        show (((audio.length / c.bw * c.bw : Nat) : Int)) + 12 = _
        rw [Nat.div_mul_cancel (Nat.dvd_of_mod_eq_zero hw)]; rfl
      rw [e]; exact field24 _ (by omega)
    have hq : quant c = c.sr := by simp [quant, h5]
    obtain ⟨cd, bw', hb, hcd, hbw⟩ := readBlock9 c hwf h5 f _ hS (audio ++ tail) (by rw [hdat]; omega)
    refine ⟨cd, bw', ?_, hcd, hbw, hq ▸ hwf.2.2.1⟩
    rw [hb, hdat, hq, Cfg.hdrLen, if_neg h5]
    clear hfr hdl hw hfl hL hH hbpos hdat hg hq hb hS
    by_cases h0 : tail.length = 0
    · rw [if_pos (by omega), if_pos h0]
    · rw [if_neg (by omega), if_neg h0]

theorem lawful (c : Cfg) : Lawful (fmt c) where
  hlen := by intro f; exact hdr_length c f
  hindep := by intro n f g; rfl

/-- the closed file: the header computed from the audio in front of the terminator (`closeFields`), the audio, the
    terminator -/
theorem closedBytes_eq (c : Cfg) (stale : Nat) (ops : List WOp) :
    closedBytes c stale ops = hdr c (closeFields c (opsData ops).length) ++ (opsData ops ++ [0]) := by
  unfold closedBytes closeSt St.bytes
  simp only [run_data, open_data, List.nil_append]

end Sf.Voc
