/-
  `wav_read_header` (wavScan / wavParse) on the images `wav_write_header` produces: the walk steps over
  fmt, fact and PEAK and stops at data with the right fields and the PEAK table of the chunk (C04, C11).
-/
import SfProofs.ContainerParse
namespace Sf

theorem wavNext_go (big : Bool) (bs : List Byte) (flen fuel body sz : Nat) (s : WavScan)
    (heven : sz % 2 = 0) (hroom : body + sz + 8 ≤ flen) :
    wavNext big bs flen fuel body s sz = wavScan big bs flen fuel (body + sz) s := by
  unfold wavNext
  rw [if_neg (by omega), if_neg (by omega), heven, Nat.add_zero]

theorem wavScan_fmt (big : Bool) (bs : List Byte) (flen fuel pos size : Nat) (s : WavScan)
    (hm : (bs.drop pos).take 4 = marker "fmt ") (hsz : rd32 big bs (pos + 4) = size)
    (h16 : 16 ≤ size) (heven : size % 2 = 0) (hnf : s.haveFmt = false) (hroom : pos + 8 + size + 8 ≤ flen) :
    wavScan big bs flen (fuel + 1) pos s =
      wavScan big bs flen fuel (pos + 8 + size)
        { s with fmtTag := rd16 big bs (pos + 8), ch := rd16 big bs (pos + 8 + 2), sr := rd32 big bs (pos + 8 + 4),
                 bits := rd16 big bs (pos + 8 + 14), haveFmt := true } := by
  rw [wavScan_succ, if_neg (by omega), hm, hsz, if_pos (by decide), hnf, if_neg (by decide), if_neg (by omega)]
  exact wavNext_go _ _ _ _ _ _ _ heven hroom

theorem wavScan_fact (big : Bool) (bs : List Byte) (flen fuel pos size : Nat) (s : WavScan)
    (hm : (bs.drop pos).take 4 = marker "fact") (hsz : rd32 big bs (pos + 4) = size)
    (heven : size % 2 = 0) (hroom : pos + 8 + size + 8 ≤ flen) :
    wavScan big bs flen (fuel + 1) pos s = wavScan big bs flen fuel (pos + 8 + size) s := by
  rw [wavScan_succ, if_neg (by omega), hm, hsz, if_neg (by decide), if_pos (by decide)]
  exact wavNext_go _ _ _ _ _ _ _ heven hroom

theorem wavScan_peak (big : Bool) (bs : List Byte) (flen fuel pos size : Nat) (s : WavScan)
    (hm : (bs.drop pos).take 4 = marker "PEAK") (hsz : rd32 big bs (pos + 4) = size)
    (hf : s.haveFmt = true) (hsize : size = 8 + 8 * s.ch) (hroom : pos + 8 + size + 8 ≤ flen) :
    wavScan big bs flen (fuel + 1) pos s =
      wavScan big bs flen fuel (pos + 8 + size)
        { s with peak := some (parsePeaks big bs (pos + 8 + 8) s.ch), peakAtStart := !s.haveData } := by
  rw [wavScan_succ, if_neg (by omega), hm, hsz, if_neg (by decide), if_neg (by decide), if_neg (by decide), if_pos (by decide),
    if_neg (by simp [hf, hsize])]
  exact wavNext_go _ _ _ _ _ _ _ (by omega) hroom

theorem wavScan_data (big : Bool) (bs : List Byte) (flen fuel pos size : Nat) (s : WavScan)
    (hm : (bs.drop pos).take 4 = marker "data") (hsz : rd32 big bs (pos + 4) = size)
    (hf : s.haveFmt = true) (hfit : pos + 8 + size ≤ flen) (htail : flen ≤ pos + 8 + size + 1) :
    wavScan big bs flen (fuel + 1) pos s =
      some { s with dataoffset := pos + 8, datalength := ((size + size % 2 : Nat) : Int),
                    dataend := if pos + 8 + size < flen then ((pos + 8 + size : Nat) : Int) else 0, haveData := true } := by
  rw [wavScan_succ, if_neg (by omega), hm, hsz, if_neg (by decide), if_neg (by decide), if_neg (by decide), if_neg (by decide),
    if_pos (by decide), if_neg (by simp [hf])]
  -- the chunk fits: its size is not cut, and fewer than four bytes follow
  have hcut : (if (size : Int) > (flen : Int) - ((pos + 8 : Nat) : Int) then (flen : Int) - ((pos + 8 : Nat) : Int) else (size : Int)) = size :=
    if_neg (by omega)
  simp only [hcut]
  rw [if_pos (by omega)]
  congr 2
  omega

def isG711 (codec : Nat) : Bool := codec == 0x10 || codec == 0x11

/-- bits-per-sample field of the fmt chunk -/
def wavBits (codec nb : Nat) : Int := if isG711 codec then 8 else (nb : Int) * 8

/-- the image as a flat chain of fields; `X` is the 'fact' chunk or nothing, `P` the PEAK chunk or nothing -/
def wavChain (b : Bool) (codec nb ch : Nat) (sr : Int) (X P : List Byte) (fl dl : Int) (rest : List Byte) : List Byte :=
  (if b then marker "RIFX" else marker "RIFF") ++ (u32 b (if fl < 8 then 8 else (if fl - 8 < 0xFFFFFFFF then fl - 8 else 0xFFFFFFFF)) ++
  (marker "WAVE" ++ (marker "fmt " ++ (u32 b (if isG711 codec then 18 else 16) ++ (u16 b (wavFormatTag codec) ++ (u16 b ch ++
  (u32 b sr ++ (u32 b (sr * (nb : Int) * ch) ++ (u16 b ((nb : Int) * ch) ++ (u16 b (wavBits codec nb) ++
  ((if isG711 codec then u16 b 0 else []) ++ (X ++ (P ++ (marker "data" ++
  (u32 b (if dl < 0xFFFFFFFF then dl else 0xFFFFFFFF) ++ rest)))))))))))))))

theorem wavHdr_chain (b : Bool) (codec nb ch : Nat) (sr frames : Int) (peak : Option (List Peak)) (fl dl : Int)
    (rest : List Byte) :
    wavHdr_ct b codec nb ch sr frames peak true fl dl ++ rest =
      wavChain b codec nb ch sr (wavFact b codec frames) (wavPeakStart b ch peak true) fl dl rest := by
  unfold wavHdr_ct wavChain wavFmtChunk wavBits isG711
  by_cases hg : (codec == 0x10 || codec == 0x11) = true
  · simp only [hg, if_true, List.append_assoc]
  · simp only [hg, List.append_assoc]; simp

theorem chunk_at {b : Bool} {bs id rest : List Byte} {pos size : Nat} (hid : id.length = 4) (hsize : size < 2 ^ 32)
    (hd : bs.drop pos = id ++ (u32 b size ++ rest)) :
    (bs.drop pos).take 4 = id ∧ rd32 b bs (pos + 4) = size ∧ bs.drop (pos + 8) = rest ∧ bs.length = pos + 8 + rest.length := by
  have hlen : bs.length = pos + 8 + rest.length := by
    have := congrArg List.length hd
    simp only [List.length_drop, List.length_append, hid, u32_length] at this
    omega
  refine ⟨by rw [hd, ← hid, List.take_left],
    u32_small hsize (.of_drop hd (by omega) ((FieldAt.head _ _).skip id _ hid)), ?_, hlen⟩
  have := drop_behind (drop_behind hd)
  rwa [hid, u32_length] at this

theorem scan_fmt_at (b : Bool) (bs ext tailA : List Byte) (tag ch bits : Nat) (sr br al : Int) (fuel : Nat)
    (hd : bs.drop 12 = marker "fmt " ++ (u32 b ((16 + ext.length : Nat) : Int) ++ (u16 b (tag : Int) ++ (u16 b (ch : Int) ++
            (u32 b sr ++ (u32 b br ++ (u16 b al ++ (u16 b (bits : Int) ++ (ext ++ tailA)))))))))
    (hext : ext.length = 0 ∨ ext.length = 2) (htail : 8 ≤ tailA.length)
    (htag : tag < 2 ^ 16) (hch : ch < 2 ^ 16) (hbits : bits < 2 ^ 16) :
    wavScan b bs bs.length (fuel + 1) 12 {} =
      wavScan b bs bs.length fuel (36 + ext.length)
        { fmtTag := tag, ch := ch, sr := wrapU 32 sr, bits := bits, haveFmt := true } ∧
    bs.drop (36 + ext.length) = tailA := by
  obtain ⟨hm, hsz, hbody, hlen⟩ := chunk_at rfl (by omega) hd
  have hm4 : (marker "fmt ").length = 4 := rfl
  have R : rd16 b bs (12 + 8) = tag ∧ rd16 b bs (12 + 8 + 2) = ch ∧ rd32 b bs (12 + 8 + 4) = wrapU 32 sr ∧ rd16 b bs (12 + 8 + 14) = bits ∧
      bs.drop 36 = ext ++ tailA := by
    simp only [rd16_rebase hd, rd32_rebase hd, drop_rebase_le hd, rd16_skip, rd32_skip, drop_app_skip, rd16_head, rd32_head, hm4,
      u16_length, u32_length, Nat.reduceAdd, Nat.reduceSub, Nat.reduceLeDiff, Nat.le_refl, wrapU_of_lt 16 _ htag, wrapU_of_lt 16 _ hch,
      wrapU_of_lt 16 _ hbits, List.drop_zero, and_self]
  simp only [List.length_append, u16_length, u32_length] at hlen
  obtain ⟨htagr, hchr, hsrr, hbitsr, hbehind⟩ := R
  constructor
  · rw [wavScan_fmt b bs bs.length fuel 12 (16 + ext.length) {} hm hsz (by omega) (by omega) rfl (by omega),
      htagr, hchr, hsrr, hbitsr]
    congr 1; omega
  · exact drop_behind hbehind

theorem scan_fact_opt (b : Bool) (bs X post : List Byte) (fuel pos : Nat)
    (hX : X = [] ∨ ∃ v, X = marker "fact" ++ (u32 b 4 ++ u32 b v)) (hd : bs.drop pos = X ++ post) (hpost : 8 ≤ post.length) :
    ∃ f, fuel ≤ f ∧ ∀ s, wavScan b bs bs.length (fuel + 2) pos s = wavScan b bs bs.length (f + 1) (pos + X.length) s := by
  rcases hX with rfl | ⟨v, rfl⟩
  · exact ⟨fuel + 1, by omega, fun s => rfl⟩
  · refine ⟨fuel, by omega, fun s => ?_⟩
    simp only [List.append_assoc] at hd
    obtain ⟨hm, hsz, _, hlen⟩ := chunk_at (size := 4) rfl (by decide) hd
    simp only [List.length_append, u32_length] at hlen ⊢
    exact wavScan_fact b bs bs.length (fuel + 1) pos 4 s hm hsz (by decide) (by omega)

theorem parsePeaks_length (big : Bool) (bs : List Byte) (off n : Nat) : (parsePeaks big bs off n).length = n := by
  induction n generalizing off with
  | zero => rfl
  | succ n ih => simp [parsePeaks, ih]

theorem scan_peak_opt (b : Bool) (bs P post : List Byte) (ch fuel pos : Nat) (s : WavScan)
    (hP : P = [] ∨ ∃ body, P = marker "PEAK" ++ (u32 b ((8 + 8 * ch : Nat) : Int) ++ body) ∧ body.length = 8 + 8 * ch)
    (hd : bs.drop pos = P ++ post) (hpost : 8 ≤ post.length) (hch : ch ≤ 1024) (hsch : s.ch = ch) (hf : s.haveFmt = true)
    (hs : s.peak = none ∧ s.peakAtStart = true ∧ s.haveData = false) :
    ∃ (pk : Option (List Peak)) (f : Nat), (∀ ps, pk = some ps → ps.length = ch) ∧ pk.isSome = !P.isEmpty ∧ fuel ≤ f ∧
      wavScan b bs bs.length (fuel + 2) pos s = wavScan b bs bs.length (f + 1) (pos + P.length) { s with peak := pk } := by
  obtain ⟨hs1, hs2, hs3⟩ := hs
  rcases hP with rfl | ⟨body, rfl, hbody⟩
  · refine ⟨none, fuel + 1, (fun ps h => nomatch h), rfl, by omega, ?_⟩
    rw [← hs1]; rfl
  · refine ⟨some (parsePeaks b bs (pos + 8 + 8) ch), fuel, fun ps h => ?_, rfl, by omega, ?_⟩
    · cases h; exact parsePeaks_length _ _ _ _
    · simp only [List.append_assoc] at hd
      obtain ⟨hm, hsz, _, hlen⟩ := chunk_at rfl (by omega) hd
      simp only [List.length_append, u32_length, hbody, show (marker "PEAK").length = 4 from rfl] at hlen ⊢
      rw [wavScan_peak b bs bs.length (fuel + 1) pos (8 + 8 * ch) s hm hsz hf (by rw [hsch]) (by omega), hsch, hs3, hs2]
      congr 1; omega

theorem scan_data_at (b : Bool) (bs rest : List Byte) (dl fuel pos : Nat) (s : WavScan)
    (hd : bs.drop pos = marker "data" ++ (u32 b (dl : Int) ++ rest))
    (hdl : dl < 2 ^ 32) (hf : s.haveFmt = true) (hr1 : dl ≤ rest.length) (hr2 : rest.length ≤ dl + 1) :
    wavScan b bs bs.length (fuel + 1) pos s =
      some { s with dataoffset := pos + 8, datalength := ((dl + dl % 2 : Nat) : Int),
                    dataend := if dl < rest.length then ((pos + 8 + dl : Nat) : Int) else 0, haveData := true } := by
  obtain ⟨hm, hsz, _, hlen⟩ := chunk_at rfl hdl hd
  rw [wavScan_data b bs bs.length fuel pos dl s hm hsz hf (by omega) (by omega)]
  have : (pos + 8 + dl < bs.length) ↔ (dl < rest.length) := by omega
  simp only [this]

theorem riffMarker_length (b : Bool) : (if b then marker "RIFX" else marker "RIFF").length = 4 := by
  cases b <;> rfl

theorem wavChain_length (b : Bool) (codec nb ch : Nat) (sr : Int) (X P : List Byte) (fl dl : Int) (rest : List Byte) :
    (wavChain b codec nb ch sr X P fl dl rest).length = 16 + wavFmtLen codec + X.length + P.length + 8 + rest.length := by
  have hext : (if isG711 codec then u16 b 0 else []).length + 20 = wavFmtLen codec := by
    unfold wavFmtLen isG711; split <;> simp [u16_length]
  unfold wavChain
  -- (`omega` is slow on a long right-nested sum: the literals are added up first)
  simp only [List.length_append, riffMarker_length, u32_length, u16_length, marker_WAVE, marker_fmt, marker_data,
    List.length_cons, List.length_nil, ← Nat.add_assoc, Nat.reduceAdd]
  omega

theorem wavFormatTag_lt (codec : Nat) : wavFormatTag codec < 2 ^ 16 := by
  unfold wavFormatTag; split <;> decide

/-- the chunk walk from the first chunk on: fmt, an optional fact chunk, an optional PEAK chunk, data -/
theorem scan_chunks (b : Bool) (bs ext X P rest : List Byte) (tag ch bits dl : Nat) (sr br al : Int)
    (hd : bs.drop 12 = marker "fmt " ++ (u32 b ((16 + ext.length : Nat) : Int) ++ (u16 b (tag : Int) ++ (u16 b (ch : Int) ++
            (u32 b sr ++ (u32 b br ++ (u16 b al ++ (u16 b (bits : Int) ++
            (ext ++ (X ++ (P ++ (marker "data" ++ (u32 b (dl : Int) ++ rest)))))))))))))
    (hext : ext.length = 0 ∨ ext.length = 2) (htag : tag < 2 ^ 16) (hch : ch ≤ 1024) (hbits : bits < 2 ^ 16)
    (hX : X = [] ∨ ∃ v, X = marker "fact" ++ (u32 b 4 ++ u32 b v))
    (hP : P = [] ∨ ∃ body, P = marker "PEAK" ++ (u32 b ((8 + 8 * ch : Nat) : Int) ++ body) ∧ body.length = 8 + 8 * ch)
    (hdl : dl < 2 ^ 32) (hr1 : dl ≤ rest.length) (hr2 : rest.length ≤ dl + 1) :
    ∃ pk : Option (List Peak), (∀ ps, pk = some ps → ps.length = ch) ∧ pk.isSome = !P.isEmpty ∧
      wavScan b bs bs.length 64 12 {} =
      some { fmtTag := tag, ch := ch, sr := wrapU 32 sr, bits := bits, haveFmt := true,
             dataoffset := 36 + ext.length + X.length + P.length + 8, datalength := ((dl + dl % 2 : Nat) : Int),
             dataend := if dl < rest.length then ((36 + ext.length + X.length + P.length + 8 + dl : Nat) : Int) else 0,
             peak := pk, peakAtStart := true, haveData := true } := by
  have hDl : 8 ≤ (marker "data" ++ (u32 b (dl : Int) ++ rest)).length := by simp [u32_length]
  have hDl' := hDl
  simp only [List.length_append] at hDl'
  -- fuel: `wavParse` gives the walk 64 steps; 'fmt ' takes one (63 + 1), an optional chunk one when it is there and none when it is
  -- not (`fuel + 2` becomes `f + 1` with `fuel ≤ f`), so a positive number is left in front of 'data'
  obtain ⟨eF, hdX⟩ := scan_fmt_at b bs ext _ tag ch bits sr br al 63 hd hext
    (by simp only [List.length_append]; omega) htag (by omega) hbits
  obtain ⟨f, hf, eX⟩ := scan_fact_opt b bs X _ 61 _ hX hdX (by simp only [List.length_append]; omega)
  obtain ⟨f, rfl⟩ : ∃ f', f = f' + 1 := ⟨f - 1, by omega⟩
  obtain ⟨pk, f', hpk1, hpk2, _, eP⟩ := scan_peak_opt b bs P _ ch f _
    { fmtTag := tag, ch := ch, sr := wrapU 32 sr, bits := bits, haveFmt := true } hP (drop_behind hdX) hDl hch rfl rfl ⟨rfl, rfl, rfl⟩
  refine ⟨pk, hpk1, hpk2, ?_⟩
  rw [eF, eX, eP, scan_data_at b bs rest dl f' _ _ (drop_behind (drop_behind hdX)) hdl rfl hr1 hr2]

theorem wavScan_chain_pk (b : Bool) (codec nb ch : Nat) (sr : Int) (X P : List Byte) (fl : Int) (dl : Nat) (rest : List Byte)
    (hch : ch ≤ 1024) (hnb : nb ≤ 8)
    (hX : X = [] ∨ ∃ v, X = marker "fact" ++ (u32 b 4 ++ u32 b v))
    (hP : P = [] ∨ ∃ body, P = marker "PEAK" ++ (u32 b ((8 + 8 * ch : Nat) : Int) ++ body) ∧ body.length = 8 + 8 * ch)
    (hdl : dl < 0xFFFFFFFF) (hr1 : dl ≤ rest.length) (hr2 : rest.length ≤ dl + 1) :
    ∃ pk : Option (List Peak), (∀ ps, pk = some ps → ps.length = ch) ∧ pk.isSome = !P.isEmpty ∧
      wavScan b (wavChain b codec nb ch sr X P fl dl rest) (wavChain b codec nb ch sr X P fl dl rest).length 64 12 {} =
      some { fmtTag := wavFormatTag codec, ch := ch, sr := wrapU 32 sr, bits := (wavBits codec nb).toNat, haveFmt := true,
             dataoffset := 16 + wavFmtLen codec + X.length + P.length + 8, datalength := ((dl + dl % 2 : Nat) : Int),
             dataend := if dl < rest.length then ((16 + wavFmtLen codec + X.length + P.length + 8 + dl : Nat) : Int) else 0,
             peak := pk, peakAtStart := true, haveData := true } := by
  have hfl0 : 16 + wavFmtLen codec = 36 + (if isG711 codec then u16 b 0 else []).length := by
    unfold wavFmtLen isG711; split <;> simp [u16_length]
  have hfsz0 : (if isG711 codec then (18 : Int) else 16) = ((16 + (if isG711 codec then u16 b 0 else []).length : Nat) : Int) := by
    split <;> simp [u16_length]
  have hbits : wavBits codec nb = (((wavBits codec nb).toNat : Nat) : Int) := by
    unfold wavBits; split <;> omega
  have hbitsl : (wavBits codec nb).toNat < 2 ^ 16 := by unfold wavBits; split <;> omega
  have hdlv : (if (dl : Int) < 0xFFFFFFFF then (dl : Int) else 0xFFFFFFFF) = (dl : Int) := if_pos (by omega)
  have hext : (if isG711 codec then u16 b 0 else []).length = 0 ∨ (if isG711 codec then u16 b 0 else []).length = 2 := by
    split <;> simp [u16_length]
  rw [hfl0]
  refine scan_chunks b _ _ X P rest (wavFormatTag codec) ch _ dl sr (sr * (nb : Int) * ch) ((nb : Int) * ch) ?_ hext (wavFormatTag_lt codec) hch hbitsl hX hP (by omega) hr1 hr2
  -- the twelve bytes in front of the first chunk
  unfold wavChain
  rw [hfsz0, hdlv, ← hbits, ← List.append_assoc, ← List.append_assoc]
  exact List.drop_left' (by rw [List.length_append, List.length_append, riffMarker_length, u32_length]; rfl)

theorem wavParse_chain_pk (b : Bool) (codec ch : Nat) (sr : Int) (X P : List Byte) (fl : Int) (dl : Nat) (rest : List Byte)
    (hcodec : codec ∈ wavCodecs) (hch : 1 ≤ ch ∧ ch ≤ 1024)
    (hX : X = [] ∨ ∃ v, X = marker "fact" ++ (u32 b 4 ++ u32 b v))
    (hP : P = [] ∨ ∃ body, P = marker "PEAK" ++ (u32 b ((8 + 8 * ch : Nat) : Int) ++ body) ∧ body.length = 8 + 8 * ch)
    (hdl : dl < 0xFFFFFFFF) (hr1 : dl ≤ rest.length) (hr2 : rest.length ≤ dl + 1) :
    ∃ pk : Option (List Peak), (∀ ps, pk = some ps → ps.length = ch) ∧ pk.isSome = !P.isEmpty ∧
      wavParse (wavChain b codec (wavNb codec) ch sr X P fl dl rest) =
      .ok { fmtWord := (if b then 0x20000000 else 0) + 0x010000 + codec, ch := ch, sr := wrapU 32 sr, big := b,
            dataoffset := 16 + wavFmtLen codec + X.length + P.length + 8, datalength := ((dl + dl % 2 : Nat) : Int),
            dataend := if dl < rest.length then ((16 + wavFmtLen codec + X.length + P.length + 8 + dl : Nat) : Int) else 0,
            filelength := ((16 + wavFmtLen codec + X.length + P.length + 8 + rest.length : Nat) : Int),
            peak := pk, peakAtStart := true } := by
  obtain ⟨pk, hpk1, hpk2, hscan⟩ := wavScan_chain_pk b codec (wavNb codec) ch sr X P fl dl rest hch.2
    (by simp [wavCodecs] at hcodec; rcases hcodec with h | h | h | h | h | h | h | h <;> subst h <;> decide) hX hP hdl hr1 hr2
  refine ⟨pk, hpk1, hpk2, ?_⟩
  generalize hbs : wavChain b codec (wavNb codec) ch sr X P fl dl rest = bs at hscan ⊢
  have hlen : bs.length = 16 + wavFmtLen codec + X.length + P.length + 8 + rest.length := by
    rw [← hbs]; exact wavChain_length _ _ _ _ _ _ _ _ _ _
  have htake : bs.take 4 = (if b then marker "RIFX" else marker "RIFF") := by
    rw [← hbs]; unfold wavChain
    rw [List.take_left' (riffMarker_length b)]
  have hwave : (bs.drop 8).take 4 = marker "WAVE" := by
    rw [← hbs]; unfold wavChain
    exact (FieldAt.head (marker "WAVE") _ |>.skip _ _ (u32_length _ _) |>.skip _ _ (riffMarker_length b)).drop_take
  have hbig : ((if b then marker "RIFX" else marker "RIFF") == marker "RIFX") = b := by cases b <;> decide
  have hlit : ((if b then marker "RIFX" else marker "RIFF") == marker "RIFF") = !b := by cases b <;> decide
  have hww : (marker "WAVE" != marker "WAVE") = false := by decide
  unfold wavParse
  rw [hlen] at hscan
  simp only [htake, hwave, hlen, hbig, hlit, hscan, hww]
  have h12 : ¬ (16 + wavFmtLen codec + X.length + P.length + 8 + rest.length < 12) := by omega
  have hc1 : ¬ (ch < 1 ∨ ch > 1024) := by omega
  have hb : (!decide (b = true ∨ (!b) = true)) = false := by cases b <;> rfl
  simp only [hb, h12, hc1, Bool.false_eq_true, if_false, Bool.not_true, or_self]
  -- the format tag and the sample width the codec was written with name it again
  simp only [wavCodecs, List.mem_cons, List.not_mem_nil, or_false] at hcodec
  rcases hcodec with h | h | h | h | h | h | h | h <;> subst h <;> rfl

theorem wavFact_shape (b : Bool) (codec : Nat) (frames : Int) :
    wavFact b codec frames = [] ∨ ∃ v, wavFact b codec frames = marker "fact" ++ (u32 b 4 ++ u32 b v) := by
  unfold wavFact; split
  · right; exact ⟨frames, by simp only [List.append_assoc]⟩
  · left; rfl

theorem wavPeakStart_shape (b : Bool) (ch : Nat) (peak : Option (List Peak)) (hp : ∀ ps, peak = some ps → ps.length = ch) :
    wavPeakStart b ch peak true = [] ∨
    ∃ body, wavPeakStart b ch peak true = marker "PEAK" ++ (u32 b ((8 + 8 * ch : Nat) : Int) ++ body) ∧ body.length = 8 + 8 * ch := by
  cases peak with
  | none => left; rfl
  | some ps =>
    right
    have hl := hp ps rfl
    have hlen := peakChk_length b ch ps
    refine ⟨u32 b 1 ++ (u32 b 1000000000 ++ ps.flatMap fun p => u32 b (wrF32 (Float.f64to32 p.value)) ++ u32 b p.position), ?_, ?_⟩
    · simp only [wavPeakStart, if_true, peakChk, List.append_assoc]
      have : (8 + 8 * (ch : Int)) = ((8 + 8 * ch : Nat) : Int) := by omega
      rw [this]
    · have : (peakChk b ch ps).length = 4 + (4 + (u32 b 1 ++ (u32 b 1000000000 ++ ps.flatMap fun p => u32 b (wrF32 (Float.f64to32 p.value)) ++ u32 b p.position)).length) := by
        simp only [peakChk, List.append_assoc, List.length_append, u32_length]; rfl
      omega

theorem parseAny_wav (b : Bool) (codec nb ch : Nat) (sr : Int) (X P : List Byte) (fl dl : Int) (rest : List Byte) :
    parseAny (wavChain b codec nb ch sr X P fl dl rest) = wavParse (wavChain b codec nb ch sr X P fl dl rest) := by
  unfold parseAny wavChain
  cases b <;> simp

theorem wavPeakStart_length (b : Bool) (ch : Nat) (peak : Option (List Peak)) (hp : ∀ ps, peak = some ps → ps.length = ch) :
    (wavPeakStart b ch peak true).length = if peak.isSome then 16 + 8 * ch else 0 := by
  cases peak with
  | none => rfl
  | some ps => simp [wavPeakStart, peakChk_length, hp ps rfl]

/-- WAV: the parser on an image with at most the pad byte behind the data, for any RIFF length field, under the 4 GiB guard -/
theorem wav_parsed {c : Cfg} (hk : c.container = .wav) (hc : c.Ok) (a : Abs) (ha : a.Ok c) (fl : Int) (tail : List Byte)
    (htail : tail.length ≤ 1) (hguard : a.data.length < 0xFFFFFFFF) :
    ∃ p, wavParse (image c a fl tail) = .ok p ∧ parseAny (image c a fl tail) = .ok p ∧ ParsedAs c a tail p := by
  obtain ⟨hcodec, hnb⟩ := encOf_wav_facts (hk ▸ hc.enc)
  generalize hP : wavPeakStart c.big c.ch a.peak true = P
  have hPl : P.length = if a.peak.isSome then 16 + 8 * c.ch else 0 := by rw [← hP]; exact wavPeakStart_length _ _ _ ha.pkLen
  have himg : image c a fl tail = wavChain c.big (codecOf c.fmtWord) (wavNb (codecOf c.fmtWord)) c.ch c.sr
      (wavFact c.big (codecOf c.fmtWord) a.frames) P fl a.data.length (a.data ++ tail) := by
    rw [image, hdrBytes]; simp only [hk]; rw [List.append_assoc, wavHdr_chain, hnb, hP]
  have hO : a.off c = 16 + wavFmtLen (codecOf c.fmtWord) + (wavFact c.big (codecOf c.fmtWord) a.frames).length + P.length + 8 := by
    simp only [Abs.off, hk]; rw [hPl, wavFact_length]; unfold wavHdrLen_ct; omega
  obtain ⟨pk, hpk1, hpk2, hparse⟩ := wavParse_chain_pk c.big (codecOf c.fmtWord) c.ch c.sr (wavFact c.big (codecOf c.fmtWord) a.frames)
    P fl a.data.length (a.data ++ tail) hcodec hc.ch (wavFact_shape _ _ _) (hP ▸ wavPeakStart_shape c.big c.ch a.peak ha.pkLen) hguard
    (by simp) (by rw [List.length_append]; omega)
  replace hpk2 : pk.isSome = a.peak.isSome := by
    rw [hpk2]
    cases hp : a.peak.isSome <;> simp only [hp, Bool.false_eq_true, if_false, if_true] at hPl
    · rw [List.eq_nil_of_length_eq_zero hPl]; rfl
    · cases P with
      | nil => rw [List.length_nil] at hPl; omega
      | cons _ _ => rfl
  rw [← hO, List.length_append] at hparse
  have hsr := hc.sr
  rw [himg]
  exact ⟨_, hparse, by rw [parseAny_wav]; exact hparse, rfl, wrapU_of_range 32 c.sr (by omega) (by omega),
    by simp [Cfg.word, hk], rfl, rfl, rfl, rfl, hpk2, hpk1, rfl⟩

/-- the parser `openHandle` picks for a file of this container -/
def Cfg.parser (c : Cfg) : List Byte → ParseRes :=
  match c.container with
  | .au => auParse
  | _ => wavParse

/-- **an image of a session is read as what it was written from**: for an accepted configuration with a header and a
    reachable state, with nothing behind the data or the pad byte of a WAV file, and under the 4 GiB limit of RIFF, the header
    parses as `c`, `a` … -/
theorem image_parsed {c : Cfg} (hc : c.Ok) (hnr : c.container ≠ .raw) (a : Abs) (ha : a.Ok c) (fl : Int) (tail : List Byte)
    (ht : tail = [] ∨ tail.length ≤ 1 ∧ c.container = .wav) (hg : c.container = .wav → a.data.length < 0xFFFFFFFF) :
    ∃ p, c.parser (image c a fl tail) = .ok p ∧ parseAny (image c a fl tail) = .ok p ∧ ParsedAs c a tail p := by
  unfold Cfg.parser
  cases hk : c.container with
  | raw => exact absurd hk hnr
  | au =>
    obtain rfl : tail = [] := ht.elim id (fun h => by rw [hk] at h; cases h.2)
    exact au_parsed hk hc a ha fl
  | wav => exact wav_parsed hk hc a ha fl tail (ht.elim (fun h => by rw [h]; exact Nat.zero_le _) (·.1)) (hg hk)

/-- … and opens, in any mode but write, as a handle on its frames: a file with a header under any parameters that do not ask
    for RAW, a headerless one under the parameters it was written with.  This is the one route from "the file a session left"
    to "the handle a later open returns". -/
theorem image_opened {c : Cfg} (hc : c.Ok) (a : Abs) (ha : a.Ok c) (fl : Int) (tail : List Byte)
    (ht : tail = [] ∨ tail.length ≤ 1 ∧ c.container = .wav) (hg : c.container = .wav → a.data.length < 0xFFFFFFFF)
    (m : Mode) (hm : m ≠ .w) (ix pos fmt0 : Nat) (ch0 sr0 : Int) (hraw : c.container = .raw → openCfg fmt0 ch0 sr0 = some c)
    (hhdr : c.container ≠ .raw → containerOf fmt0 ≠ some .raw) :
    ∃ h' s', openHandle ix ⟨image c a fl tail, pos⟩ m fmt0 ch0 sr0 = .ok h' s' ∧ Opened c a tail m (image c a fl tail) h' s' := by
  by_cases hk : c.container = .raw
  · obtain rfl : tail = [] := ht.elim id (fun h => by rw [hk] at h; cases h.2)
    exact raw_opened (hraw hk) hk hc a ha fl m ix pos
  · obtain ⟨p, _, hp, pa⟩ := image_parsed hc hk a ha fl tail ht hg
    exact opened_of_parsed hc ha hk hp pa m hm ix pos fmt0 ch0 sr0 (hhdr hk)

end Sf
