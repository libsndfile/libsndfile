/-
  The size invariant of the reference streams: `ref.size = frames · cpf` for every caller type whose stream
  the state claims to know (`RefSized`, SfProofs/AbsCompleteW.lean), kept by EVERY accepted line (reads, writes at and past
  the end, seeks, truncations, raw calls, queries, re-opens); along every accepted transcript: C08Bridge.ref_size_invariant.
-/
import SfProofs.AbsCompleteW
import SfProofs.AbsRun
namespace Sf.Abs

theorem check_RefSized (g : Geom) (st st' : St) (op : Op) (o : Out) (hs : RefSized g st)
    (hc : check g st op o = .ok st') : RefSized g st' := by
  cases op with
  | write ty fc n data =>
    by_cases hn : n = 0
    · subst hn
      obtain ⟨_, rfl⟩ := (writeOk_zero_iff g st ty fc data o st').mp hc
      exact hs
    by_cases hr : WriteReq g st fc n
    · obtain ⟨hsz, ⟨h0, hle⟩, hw, _, _, rfl⟩ := (writeOk_eq_ok_iff g st ty fc n data o st' hr).mp hc
      split
      · exact hs
      · -- `k` whole frames were written at the write position: the state of `afterWrite`, up to the error flag
        rename_i hk
        have hch : 0 < g.ch := Nat.pos_of_ne_zero fun h0 => hk (by rw [h0, Nat.div_zero])
        obtain ⟨k, hitems⟩ : ∃ k, retItems g fc o.ret = k * g.ch :=
          ⟨_, (Nat.div_mul_cancel (Nat.dvd_of_mod_eq_zero hw)).symm⟩
        have hreq : retItems g fc o.ret ≤ reqItems g fc n := retItems_le g fc o.ret n hle
        rw [hitems] at hreq ⊢
        rw [Nat.mul_div_cancel _ hch]
        exact RefSized_afterWrite g st ty k data hs (Nat.le_trans (Nat.mul_le_mul_right _ hreq) hsz)
    · obtain ⟨_, rfl⟩ := (writeOk_invalid_iff g st ty fc n data o st' hn hr).mp hc
      exact hs
  | trunc n =>
    by_cases hx : st.mode = .r ∨ g.canTrunc = false ∨ n < 0
    · obtain ⟨_, rfl⟩ := (truncOk_refused_iff g st n o st' hx).mp hc
      exact hs
    · have hx' : st.mode ≠ .r ∧ g.canTrunc = true ∧ 0 ≤ n := by simpa [not_or] using hx
      obtain ⟨_, rfl⟩ := (truncOk_eq_ok_iff g st n o st' hx'.1 hx'.2.1 hx'.2.2).mp hc
      exact RefSized_afterTrunc g st n.toNat
  | rawWrite n data =>
    by_cases hb : g.bw = 0
    · rw [check, rawWriteOk, if_pos hb] at hc
      injection hc with hc; subst hc; exact hs
    have hc := (rawWriteOk_eq_ok_iff g st n data o st' hb).mp hc
    split at hc
    · obtain ⟨_, rfl⟩ := hc; exact hs
    split at hc
    · obtain ⟨_, rfl⟩ := hc; exact hs
    · -- a raw write leaves no typed stream known
      obtain ⟨_, _, _, rfl⟩ := hc
      intro t ht; cases ht
  | reopen m =>
    obtain ⟨_, hc⟩ := (reopenOk_eq_ok_iff g st m o st').mp hc
    split at hc
    · -- opened for writing: an empty file
      subst hc
      intro t _; exact (Nat.zero_mul _).symm
    split at hc
    · subst hc; exact hs
    · -- another frame count than the one the history arrived at: no stream is known any more
      obtain ⟨_, rfl⟩ := hc
      intro t ht; cases ht
  | _ =>
    -- reads, seeks, raw reads, queries, close: the file is not touched
    obtain ⟨r, w, e, rfl, _⟩ := check_rdOnly g st _ o st' rfl hc
    exact hs

end Sf.Abs
