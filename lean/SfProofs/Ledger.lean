/-
  Helper lemmas for SfProps/C16: the primitives of Sf.Ledger cell by cell, the invariant of an open handle,
  its preservation by every call, and what psf_close's release program does to a handle that satisfies it.
-/
import SfModel.Ledger
namespace Sf.Ledger

theorem setCell_cell (h : Handle) (c x : Cell) (p : Ptr) :
    (setCell h c p).cell x = if x = c then p else h.cell x := rfl

theorem alloc_cell (c x : Cell) (s : S) : (alloc c s).1.cell x = if x = c then .live else s.1.cell x := rfl
theorem alloc_acct (c : Cell) (s : S) : (alloc c s).2 = if s.1.cell c = .live then s.2.leak c.kind else s.2 := rfl

def freed : Ptr → Ptr
  | .null => .null
  | _ => .dangling

theorem free_cell (c x : Cell) (s : S) : (free c s).1.cell x = if x = c then freed (s.1.cell c) else s.1.cell x := by
  unfold free
  split <;> rename_i h <;> by_cases hx : x = c <;> simp [setCell_cell, hx, h, freed]

theorem free_acct (c : Cell) (s : S) (h : s.1.cell c ≠ .dangling) : (free c s).2 = s.2 := by
  unfold free
  split <;> simp_all

theorem free_acct_dfree (c : Cell) (s : S) (h : s.1.cell c = .dangling) : (free c s).2.dfree = s.2.dfree + 1 := by
  unfold free
  simp [h]

theorem clear_cell (c x : Cell) (s : S) : (clear c s).1.cell x = if x = c then .null else s.1.cell x := rfl
theorem clear_acct (c : Cell) (s : S) (h : s.1.cell c ≠ .live) : (clear c s).2 = s.2 := by
  simp [clear, h]

theorem freeNull_cell (c x : Cell) (s : S) : (freeNull c s).1.cell x = if x = c then .null else s.1.cell x := by
  by_cases hx : x = c <;> simp [freeNull, clear_cell, free_cell, hx]

theorem freed_ne_live (p : Ptr) : freed p ≠ .live := by cases p <;> simp [freed]

theorem freeNull_acct (c : Cell) (s : S) (h : s.1.cell c ≠ .dangling) : (freeNull c s).2 = s.2 := by
  unfold freeNull
  rw [clear_acct, free_acct c s h]
  rw [free_cell]; simp [freed_ne_live]

theorem allocIfNull_cell (c x : Cell) (s : S) :
    (allocIfNull c s).1.cell x = if x = c ∧ s.1.cell c = .null then .live else s.1.cell x := by
  unfold allocIfNull
  by_cases h : s.1.cell c = .null <;> by_cases hx : x = c <;> simp [h, hx, alloc_cell]

theorem allocIfNull_acct (c : Cell) (s : S) : (allocIfNull c s).2 = s.2 := by
  unfold allocIfNull
  by_cases h : s.1.cell c = .null <;> simp [h, alloc_acct]

theorem replace_cell (c x : Cell) (s : S) : (replace c s).1.cell x = if x = c then .live else s.1.cell x := by
  by_cases hx : x = c <;> simp [replace, alloc_cell, free_cell, hx]

theorem replace_acct (c : Cell) (s : S) (h : s.1.cell c ≠ .dangling) : (replace c s).2 = s.2 := by
  unfold replace
  rw [alloc_acct, free_acct c s h, free_cell]; simp [freed_ne_live]

/-- what must be in place for a live cell to be released by psf_close -/
def Guarded (h : Handle) : Cell → Prop
  | .nested .gsmState => h.codecClose = some .gsm610
  | .nested .g72xState => h.codecClose = some .g72x
  | .nested .alacPakt => h.codecClose = some .alac
  | .nested .alacTmp => h.codecClose = some .alac ∧ h.mode = .w
  | .tmpFd => h.codecClose = some .alac ∧ h.mode = .w
  | .tmpDisk => h.codecClose = some .alac ∧ h.mode = .w
  | .nested .aiffMarkstr => h.contClose = some .aiff
  | .fileFd => h.vio = false ∧ h.doNotClose = false
  | .rsrcFd => True
  | .psf => True
  | .owner _ => True

/-- the invariant of an open handle `s.1` with its account `s.2`.  `acct`: leaks and double releases are counted when they happen, so
    the empty account is part of the invariant and not only of the end; `pay`, `payW`: the payload copies are those of the used entries
    of the write-chunk table, which is live when one is used. -/
structure Inv (s : S) : Prop where
  nodang : ∀ c, s.1.cell c ≠ .dangling
  acct : s.2 = {}
  pay : s.1.payloads = s.1.wused
  payW : 0 < s.1.wused → s.1.cell (.owner .wchunks) = .live
  guard : ∀ c, s.1.cell c = .live → Guarded s.1 c

/-- the cells a codec's close hook releases -/
def codecNested : List Cell :=
  [.nested .gsmState, .nested .g72xState, .nested .alacPakt, .nested .alacTmp, .tmpFd, .tmpDisk]

theorem Guarded_congr {h k : Handle} (c : Cell) (hcc : c ∈ codecNested → h.codecClose = k.codecClose)
    (hkc : c = .nested .aiffMarkstr → h.contClose = k.contClose)
    (hfd : c = .fileFd → h.vio = k.vio ∧ h.doNotClose = k.doNotClose) (hm : h.mode = k.mode) :
    Guarded h c ↔ Guarded k c := by
  cases c with
  | nested n =>
    cases n
    case aiffMarkstr => simp only [Guarded, hkc rfl]
    all_goals simp only [Guarded, hcc (by simp [codecNested]), hm]
  | fileFd => simp only [Guarded, hfd rfl]
  | tmpFd => simp only [Guarded, hcc (by simp [codecNested]), hm]
  | tmpDisk => simp only [Guarded, hcc (by simp [codecNested]), hm]
  | _ => exact Iff.rfl

/-- what psf_close reads of a handle besides its cells; no allocation primitive changes any of it -/
structure CloseView where
  codecClose : Option CodecHook
  contClose : Option ContHook
  mode : Mode
  vio : Bool
  doNotClose : Bool
  payloads : Nat
  wused : Nat

def Handle.view (h : Handle) : CloseView := ⟨h.codecClose, h.contClose, h.mode, h.vio, h.doNotClose, h.payloads, h.wused⟩

theorem view_alloc (c : Cell) (s : S) : (alloc c s).1.view = s.1.view := rfl
theorem view_clear (c : Cell) (s : S) : (clear c s).1.view = s.1.view := rfl
theorem view_free (c : Cell) (s : S) : (free c s).1.view = s.1.view := by
  unfold free; split <;> rfl
theorem view_freeNull (c : Cell) (s : S) : (freeNull c s).1.view = s.1.view := (view_clear c _).trans (view_free c s)
theorem view_replace (c : Cell) (s : S) : (replace c s).1.view = s.1.view := (view_alloc c _).trans (view_free c s)
theorem view_allocIfNull (c : Cell) (s : S) : (allocIfNull c s).1.view = s.1.view := by
  unfold allocIfNull; split <;> rfl

theorem Guarded_of_view {h k : Handle} (hv : h.view = k.view) (c : Cell) : Guarded h c ↔ Guarded k c :=
  Guarded_congr c (fun _ => congrArg CloseView.codecClose hv) (fun _ => congrArg CloseView.contClose hv)
    (fun _ => ⟨congrArg CloseView.vio hv, congrArg CloseView.doNotClose hv⟩) (congrArg CloseView.mode hv)

theorem Inv_local {s t : S} (c0 : Cell) (hI : Inv s)
    (hcell : ∀ x, x ≠ c0 → t.1.cell x = s.1.cell x)
    (hc : t.1.cell c0 ≠ .dangling)
    (ha : t.2 = s.2) (hv : t.1.view = s.1.view)
    (hg : t.1.cell c0 = .live → Guarded s.1 c0)
    (hw : c0 = .owner .wchunks → 0 < s.1.wused → t.1.cell (.owner .wchunks) = .live) : Inv t := by
  have hp : t.1.payloads = s.1.payloads := congrArg CloseView.payloads hv
  have hu : t.1.wused = s.1.wused := congrArg CloseView.wused hv
  refine ⟨?_, ?_, ?_, ?_, ?_⟩
  · intro c
    by_cases h : c = c0
    · subst h; exact hc
    · rw [hcell c h]; exact hI.nodang c
  · rw [ha]; exact hI.acct
  · rw [hp, hu]; exact hI.pay
  · intro h0
    rw [hu] at h0
    by_cases h : c0 = .owner .wchunks
    · exact hw h h0
    · rw [hcell _ (fun e => h e.symm)]; exact hI.payW h0
  · intro c hl
    rw [Guarded_of_view hv]
    by_cases h : c = c0
    · subst h; exact hg hl
    · rw [hcell c h] at hl; exact hI.guard c hl

/-- changes of fields other than the cells: a hook or the route flags may change only while every cell they guard is still null -/
theorem Inv_fields {s : S} (hI : Inv s) (h' : Handle)
    (hcc : h'.codecClose = s.1.codecClose ∨ ∀ x ∈ codecNested, s.1.cell x = .null := by exact .inl rfl)
    (hkc : h'.contClose = s.1.contClose ∨ s.1.cell (.nested .aiffMarkstr) = .null := by exact .inl rfl)
    (hfd : (h'.vio = s.1.vio ∧ h'.doNotClose = s.1.doNotClose) ∨ s.1.cell .fileFd = .null := by exact .inl ⟨rfl, rfl⟩)
    (hc : h'.cell = s.1.cell := by rfl) (hp : h'.payloads = s.1.payloads := by rfl) (hu : h'.wused = s.1.wused := by rfl)
    (hm : h'.mode = s.1.mode := by rfl) : Inv (h', s.2) := by
  refine ⟨fun c => hc ▸ hI.nodang c, hI.acct, (hp.trans hI.pay).trans hu.symm, fun h0 => hc ▸ hI.payW (hu ▸ h0), ?_⟩
  intro c hl
  have hl' : s.1.cell c = .live := hc ▸ hl
  have live_ne {P : Prop} (hn : s.1.cell c = .null) : P := by rw [hn] at hl'; cases hl'
  refine (Guarded_congr c ?_ ?_ ?_ hm).mpr (hI.guard c hl')
  · exact fun hx => hcc.elim id (fun hn => live_ne (hn c hx))
  · rintro rfl; exact hkc.elim id live_ne
  · rintro rfl; exact hfd.elim id live_ne

theorem Inv_alloc_fresh (c : Cell) {s : S} (hI : Inv s) (hn : s.1.cell c = .null) (hg : Guarded s.1 c := by trivial) :
    Inv (alloc c s) := by
  apply Inv_local c hI
  · intro y hy; simp [alloc_cell, hy]
  · simp [alloc_cell]
  · simp [alloc_acct, hn]
  · rfl
  · intro _; exact hg
  · intro e _; subst e; simp [alloc_cell]

theorem Inv_allocIfNull (c : Cell) {s : S} (hI : Inv s) (hg : Guarded s.1 c := by trivial) : Inv (allocIfNull c s) := by
  unfold allocIfNull
  split
  · exact Inv_alloc_fresh c hI ‹_› hg
  · exact hI

theorem Inv_replace (c : Cell) {s : S} (hI : Inv s) (hne : c ≠ .owner .wchunks) (hg : Guarded s.1 c := by trivial) :
    Inv (replace c s) := by
  apply Inv_local c hI
  · intro x hx; simp [replace_cell, hx]
  · simp [replace_cell]
  · exact replace_acct _ _ (hI.nodang _)
  · exact view_replace c s
  · intro _; exact hg
  · intro h; exact absurd h hne

theorem Inv_freeNull (c : Cell) {s : S} (hI : Inv s) (hne : c ≠ .owner .wchunks) : Inv (freeNull c s) := by
  apply Inv_local c hI
  · intro x hx; simp [freeNull_cell, hx]
  · simp [freeNull_cell]
  · exact freeNull_acct _ _ (hI.nodang _)
  · exact view_freeNull c s
  · simp [freeNull_cell]
  · intro h; exact absurd h hne

/-- `free (p) ; p = NULL ; … p = malloc ()` -/
theorem Inv_refresh (c : Cell) {s : S} (hI : Inv s) (hne : c ≠ .owner .wchunks) (hg : Guarded s.1 c := by trivial) :
    Inv (alloc c (freeNull c s)) :=
  Inv_alloc_fresh c (Inv_freeNull c hI hne) (by simp [freeNull_cell]) ((Guarded_of_view (view_freeNull c s) c).mpr hg)

theorem Inv_setChunk {s : S} (hI : Inv s) :
    Inv ({ (allocIfNull (.owner .wchunks) s).1 with payloads := s.1.payloads + 1, wused := s.1.wused + 1 },
         (allocIfNull (.owner .wchunks) s).2) := by
  have hT := Inv_allocIfNull (.owner .wchunks) hI
  refine ⟨hT.nodang, hT.acct, congrArg (· + 1) hI.pay, ?_, ?_⟩
  · intro _
    show (allocIfNull (.owner .wchunks) s).1.cell (.owner .wchunks) = .live
    have := hI.nodang (.owner .wchunks)
    rw [allocIfNull_cell]
    cases hc : s.1.cell (.owner .wchunks) <;> simp_all
  · intro c hl
    exact (Guarded_congr c (fun _ => rfl) (fun _ => rfl) (fun _ => ⟨rfl, rfl⟩) rfl).mpr (hT.guard c hl)

theorem Inv_ite {c : Prop} [Decidable c] {a b : S × Int} (ha : Inv a.1) (hb : Inv b.1) : Inv (if c then a else b).1 := by
  split <;> assumption

/-- a call on an open handle is refused (the ledger does not move; one `Inv_ite hI` per guard, in the order of the C) or applies one
    discipline to one owner pointer -/
theorem Inv_stepOpen {s : S} (hI : Inv s) : ∀ op : Op, Inv (stepOpen s op).1
  | .setString _ => Inv_ite hI <| Inv_ite hI <| Inv_ite hI <| Inv_ite hI <| Inv_ite hI <| Inv_fields (Inv_allocIfNull _ hI) _
  | .setBroadcast _ | .setCart _ => Inv_ite hI <| Inv_ite hI <| Inv_ite hI <| Inv_ite hI <| Inv_allocIfNull _ hI
  | .setCue _ | .setInstrument _ => Inv_ite hI <| Inv_allocIfNull _ hI
  | .setChannelMap _ => Inv_ite hI <| Inv_replace _ hI (by decide)
  | .setChunk _ => Inv_ite hI <| Inv_setChunk hI
  | .chunkIter _ => Inv_ite (Inv_allocIfNull _ hI) hI
  | .setPeak _ => Inv_ite hI <| Inv_ite (Inv_freeNull _ hI (by decide)) (Inv_allocIfNull _ hI)
  | .setDither _ _ _ => Inv_ite hI <| Inv_ite (Inv_allocIfNull _ hI) <| Inv_ite (Inv_allocIfNull _ hI) hI
  | .write _ => Inv_ite (Inv_fields hI _) hI
  | .open _ | .other | .close _ => hI

def RAct.target : RAct → Option Cell
  | .free c => some c
  | .freeNull c => some c
  | .clear c => some c
  | .payloads => none

def runProg (prog : List RAct) (s : S) : S := prog.foldl (fun s a => runR a s) s

theorem runProg_cons (a : RAct) (prog : List RAct) (s : S) : runProg (a :: prog) s = runProg prog (runR a s) := rfl
theorem runProg_append (p q : List RAct) (s : S) : runProg (p ++ q) s = runProg q (runProg p s) := by
  simp [runProg, List.foldl_append]

theorem runR_cell_other (a : RAct) (s : S) (x : Cell) (h : a.target ≠ some x) : (runR a s).1.cell x = s.1.cell x := by
  cases a with
  | free c => have : x ≠ c := fun e => h (by simp [RAct.target, e]); simp [runR, free_cell, this]
  | freeNull c => have : x ≠ c := fun e => h (by simp [RAct.target, e]); simp [runR, freeNull_cell, this]
  | clear c => have : x ≠ c := fun e => h (by simp [RAct.target, e]); simp [runR, clear_cell, this]
  | payloads => simp only [runR]; split <;> rfl

theorem runR_target_not_live (a : RAct) (s : S) (c : Cell) (h : a.target = some c) : (runR a s).1.cell c ≠ .live := by
  cases a <;> simp [RAct.target] at h <;> subst h
  · simp [runR, free_cell, freed_ne_live]
  · simp [runR, freeNull_cell]
  · simp [runR, clear_cell]

theorem runR_live_mono (a : RAct) (s : S) (x : Cell) (h : (runR a s).1.cell x = .live) : s.1.cell x = .live := by
  by_cases ht : a.target = some x
  · exact absurd h (runR_target_not_live a s x ht)
  · rwa [runR_cell_other a s x ht] at h

theorem runProg_live (prog : List RAct) (s : S) (x : Cell) (h : (runProg prog s).1.cell x = .live) :
    s.1.cell x = .live ∧ ∀ a ∈ prog, a.target ≠ some x := by
  induction prog generalizing s with
  | nil => exact ⟨h, by simp⟩
  | cons a rest ih =>
    rw [runProg_cons] at h
    have ⟨h1, h2⟩ := ih _ h
    refine ⟨runR_live_mono a s x h1, ?_⟩
    intro b hb
    rcases List.mem_cons.mp hb with e | e
    · subst e; intro ht; exact runR_target_not_live b s x ht h1
    · exact h2 b e

theorem runProg_cell_other (prog : List RAct) (s : S) (x : Cell) (h : ∀ a ∈ prog, a.target ≠ some x) :
    (runProg prog s).1.cell x = s.1.cell x :=
  List.foldlRecOn (motive := fun t => t.1.cell x = s.1.cell x) prog _ rfl fun t ih a ha => (runR_cell_other a t x (h a ha)).trans ih

theorem runR_acct (a : RAct) (s : S) (h1 : ∀ c, a.target = some c → s.1.cell c ≠ .dangling)
    (h2 : ∀ c, a = .clear c → s.1.cell c ≠ .live) : (runR a s).2 = s.2 := by
  cases a with
  | free c => exact free_acct c s (h1 c rfl)
  | freeNull c => exact freeNull_acct c s (h1 c rfl)
  | clear c => exact clear_acct c s (h2 c rfl)
  | payloads => simp only [runR]; split <;> rfl

theorem runProg_acct (prog : List RAct) (s : S) (hn : (prog.filterMap RAct.target).Nodup)
    (h1 : ∀ a ∈ prog, ∀ c, a.target = some c → s.1.cell c ≠ .dangling)
    (h2 : ∀ c, RAct.clear c ∈ prog → s.1.cell c ≠ .live) : (runProg prog s).2 = s.2 := by
  induction prog generalizing s with
  | nil => rfl
  | cons a rest ih =>
    rw [runProg_cons]
    have hnr : (rest.filterMap RAct.target).Nodup := by
      cases ht : a.target with
      | none => simpa [List.filterMap_cons, ht] using hn
      | some c => simp [ht] at hn; exact hn.2
    have hdis : ∀ b ∈ rest, ∀ c, b.target = some c → a.target ≠ some c := by
      intro b hb c hbc hac
      simp [hac] at hn
      exact hn.1 b hb hbc
    rw [ih (runR a s) hnr, runR_acct a s (h1 a (List.mem_cons_self ..)) (fun c e => h2 c (e ▸ List.mem_cons_self ..))]
    · intro b hb c hbc
      rw [runR_cell_other a s c (hdis b hb c hbc)]
      exact h1 b (List.mem_cons_of_mem _ hb) c hbc
    · intro c hc
      rw [runR_cell_other a s c (hdis _ hc c rfl)]
      exact h2 c (List.mem_cons_of_mem _ hc)

theorem view_runR (a : RAct) (s : S) (h : a ≠ .payloads) : (runR a s).1.view = s.1.view := by
  cases a
  case free c => exact view_free c s
  case freeNull c => exact view_freeNull c s
  case clear c => exact view_clear c s
  case payloads => exact absurd rfl h

theorem view_runProg (prog : List RAct) (s : S) (h : RAct.payloads ∉ prog) : (runProg prog s).1.view = s.1.view :=
  List.foldlRecOn (motive := fun t => t.1.view = s.1.view) prog _ rfl fun t ih a ha => (view_runR a t fun e => h (e ▸ ha)).trans ih

theorem mem_releaseHead {a : RAct} {cc : Option CodecHook} {kc : Option ContHook} {vio dnc : Bool} {m : Mode} :
    a ∈ releaseHead cc kc vio dnc m ↔
      (∃ k, cc = some k ∧ a ∈ codecHookProg k m) ∨ (∃ k, kc = some k ∧ a ∈ contHookProg k) ∨ a ∈ fcloseProg vio dnc ∨
      a = .freeNull .rsrcFd ∨ ∃ sl ∈ Slot.closeFirst, a = .free (.owner sl) := by
  cases cc <;> cases kc <;> simp [releaseHead, eq_comm]

/-- Each part of the program is a sublist of its longest form (every hook installed, write mode, a descriptor of the library's
    own), and the targets of the longest program are all different. -/
theorem releaseProg_nodup (cc : Option CodecHook) (kc : Option ContHook) (vio dnc : Bool) (m : Mode) :
    ((releaseHead cc kc vio dnc m ++ [RAct.payloads] ++ releaseTail).filterMap RAct.target).Nodup := by
  have hc : ((match cc with | some k => codecHookProg k m | none => []).filterMap RAct.target).Sublist
      ((codecHookProg .gsm610 .w ++ codecHookProg .g72x .w ++ codecHookProg .alac .w).filterMap RAct.target) := by
    cases cc with
    | none => exact List.nil_sublist _
    | some k => cases k <;> cases m <;> decide +kernel
  have hk : ((match kc with | some k => contHookProg k | none => []).filterMap RAct.target).Sublist
      ((contHookProg .aiff).filterMap RAct.target) := by
    cases kc with
    | none => decide +kernel
    | some k => cases k <;> decide +kernel
  have hf : ((fcloseProg vio dnc).filterMap RAct.target).Sublist ((fcloseProg false false).filterMap RAct.target) := by
    cases vio <;> cases dnc <;> decide +kernel
  unfold releaseHead
  simp only [List.filterMap_append]
  exact (((((hc.append hk).append hf).append (.refl _)).append (.refl _)).append (.refl _)).append (.refl _) |>.nodup (by decide +kernel)

theorem releaseAll_eq (s : S) : releaseAll s = runProg (releaseProg s.1) s := rfl

/-- the only `p = NULL` without a free in psf_close is psf_fclose forgetting a borrowed descriptor -/
theorem clear_mem (cc : Option CodecHook) (kc : Option ContHook) (vio dnc : Bool) (m : Mode) (c : Cell)
    (h : RAct.clear c ∈ releaseHead cc kc vio dnc m ++ [RAct.payloads] ++ releaseTail) : c = .fileFd ∧ vio = false ∧ dnc = true := by
  simp only [List.mem_append, mem_releaseHead, releaseTail, List.mem_map, List.mem_singleton, reduceCtorEq, and_false,
    exists_false, or_false] at h
  rcases h with ⟨k, _, h⟩ | ⟨k, _, h⟩ | h
  · cases k <;> simp [codecHookProg] at h
  · cases k <;> simp [contHookProg] at h
  · cases vio <;> cases dnc <;> simp [fcloseProg] at h ⊢
    exact h

theorem covers (h : Handle) (x : Cell) (hg : Guarded h x) : x ∈ (releaseProg h).filterMap RAct.target := by
  have owner : ∀ sl, sl ∈ Slot.closeFirst ∨ sl ∈ Slot.closeLast := by intro sl; cases sl <;> decide +kernel
  simp only [releaseProg, List.mem_filterMap, List.mem_append, mem_releaseHead]
  cases x with
  | psf => exact ⟨.free .psf, by simp [releaseTail], rfl⟩
  | owner sl =>
    refine ⟨.free (.owner sl), ?_, rfl⟩
    rcases owner sl with hs | hs
    · simp [hs]
    · simp [releaseTail, hs]
  | nested n =>
    cases n
    case aiffMarkstr => exact ⟨.freeNull (.nested .aiffMarkstr), by simp [show h.contClose = _ from hg, contHookProg], rfl⟩
    case gsmState => exact ⟨.free (.nested .gsmState), by simp [show h.codecClose = _ from hg, codecHookProg], rfl⟩
    case g72xState => exact ⟨.free (.nested .g72xState), by simp [show h.codecClose = _ from hg, codecHookProg], rfl⟩
    case alacPakt => exact ⟨.freeNull (.nested .alacPakt), by simp [show h.codecClose = _ from hg, codecHookProg], rfl⟩
    case alacTmp => exact ⟨.free (.nested .alacTmp), by simp [hg.1, hg.2, codecHookProg], rfl⟩
  | fileFd => exact ⟨.freeNull .fileFd, by simp [hg.1, hg.2, fcloseProg], rfl⟩
  | rsrcFd => exact ⟨.freeNull .rsrcFd, by simp, rfl⟩
  | tmpFd => exact ⟨.free .tmpFd, by simp [hg.1, hg.2, codecHookProg], rfl⟩
  | tmpDisk => exact ⟨.free .tmpDisk, by simp [hg.1, hg.2, codecHookProg], rfl⟩

theorem releaseAll_acct {s : S} (hI : Inv s) : (releaseAll s).2 = {} := by
  rw [releaseAll_eq]
  unfold releaseProg
  rw [runProg_acct _ _ (releaseProg_nodup _ _ _ _ _) (fun _ _ c _ => hI.nodang c), hI.acct]
  intro c hc hl
  have ⟨e, hv, hd⟩ := clear_mem _ _ _ _ _ c hc
  subst e
  have := hI.guard _ hl
  simp [Guarded, hd] at this

theorem releaseAll_no_live {s : S} (hI : Inv s) (x : Cell) : (releaseAll s).1.cell x ≠ .live := by
  intro hl
  rw [releaseAll_eq] at hl
  have ⟨h1, h2⟩ := runProg_live _ _ _ hl
  have hm := covers s.1 x (hI.guard x h1)
  rcases List.mem_filterMap.mp hm with ⟨a, ha, ht⟩
  exact h2 a ha ht

theorem head_no_payloads (cc : Option CodecHook) (kc : Option ContHook) (vio dnc : Bool) (m : Mode) :
    RAct.payloads ∉ releaseHead cc kc vio dnc m ∧ ∀ a ∈ releaseHead cc kc vio dnc m, a.target ≠ some (.owner .wchunks) := by
  have key : ∀ a ∈ releaseHead cc kc vio dnc m, a ≠ .payloads ∧ a.target ≠ some (.owner .wchunks) := by
    intro a h
    rcases mem_releaseHead.mp h with ⟨k, _, h⟩ | ⟨k, _, h⟩ | h | h | ⟨sl, hs, h⟩
    · cases k <;> simp [codecHookProg] at h
      case alac => rcases h with ⟨_, h | h | h⟩ | h <;> subst h <;> simp [RAct.target]
      all_goals subst h; simp [RAct.target]
    · cases k <;> simp [contHookProg] at h
      subst h; simp [RAct.target]
    · cases vio <;> cases dnc <;> simp [fcloseProg] at h <;> subst h <;> simp [RAct.target]
    · subst h; simp [RAct.target]
    · subst h
      have : sl ≠ .wchunks := by rintro rfl; revert hs; decide +kernel
      simp [RAct.target, this]
  exact ⟨fun h => (key _ h).1 rfl, fun a h => (key a h).2⟩

theorem releaseAll_payloads {s : S} (hI : Inv s) : (releaseAll s).1.payloads = 0 := by
  rw [releaseAll_eq]
  unfold releaseProg
  rw [runProg_append, runProg_append]
  have hh := head_no_payloads s.1.codecClose s.1.contClose s.1.vio s.1.doNotClose s.1.mode
  generalize releaseHead s.1.codecClose s.1.contClose s.1.vio s.1.doNotClose s.1.mode = hd at hh
  -- up to the payload loop the counters and the chunk table are as the invariant found them
  have hv := view_runProg hd s hh.1
  have hp : (runProg hd s).1.payloads = s.1.wused := (congrArg CloseView.payloads hv).trans hI.pay
  have hu : (runProg hd s).1.wused = s.1.wused := congrArg CloseView.wused hv
  have hc := runProg_cell_other hd s (.owner .wchunks) hh.2
  have ht : ∀ t, (runProg releaseTail t).1.payloads = t.1.payloads :=
    fun t => congrArg CloseView.payloads (view_runProg releaseTail t (by decide +kernel))
  rw [ht]
  show (runR RAct.payloads (runProg hd s)).1.payloads = 0
  simp only [runR]
  split
  · rename_i hn
    rw [hc] at hn
    show (runProg hd s).1.payloads = 0
    rw [hp]
    cases hw : s.1.wused with
    | zero => rfl
    | succ n => have := hI.payW (by omega); rw [hn] at this; cases this
  · show (runProg hd s).1.payloads - (runProg hd s).1.wused = 0
    rw [hp, hu]; omega

/-- psf_close on a handle that satisfies the invariant: nothing is lost, nothing is released twice -/
theorem retire_releaseAll {s : S} (hI : Inv s) : retire (releaseAll s) = {} := by
  unfold retire
  have hl : liveCells (releaseAll s).1 = [] := by
    unfold liveCells
    rw [List.filter_eq_nil_iff]
    intro c _
    simpa using releaseAll_no_live hI c
  rw [hl, releaseAll_payloads hI, releaseAll_acct hI]
  rfl

/-- the cells a header parser may allocate -/
def evCells : List Cell :=
  [.owner .peakInfo, .owner .cues, .nested .aiffMarkstr, .owner .instrument, .owner .loopInfo, .owner .broadcast, .owner .cart,
   .owner .channelMap, .owner .strings, .owner .rchunks, .owner .iterator]

/-- what the check knows after some steps: outside `dirty` every cell is still null; the hooks installed so far -/
structure Ck where
  dirty : List Cell
  cc : Option CodecHook
  kc : Option ContHook

def fresh (k : Ck) (xs : List Cell) : Bool := xs.all (fun x => !k.dirty.contains x)

def stepOk (m : Mode) (k : Ck) : Step → Option Ck
  | .contData => if fresh k [.owner .containerData] then some { k with dirty := .owner .containerData :: k.dirty } else none
  | .contHook h => if fresh k [.nested .aiffMarkstr] then some { k with kc := some h } else none
  | .flags => some k
  | .chunkHook => some k
  | .parse => some { k with dirty := evCells ++ k.dirty }
  | .peakW => if fresh k [.owner .peakInfo] then some { k with dirty := .owner .peakInfo :: k.dirty } else none
  | .codecData => if fresh k [.owner .codecData] then some { k with dirty := .owner .codecData :: k.dirty } else none
  | .codecHook h => if fresh k codecNested then some { k with cc := some h } else none
  | .gsmInit => if fresh k codecNested then some { k with dirty := .nested .gsmState :: k.dirty, cc := some .gsm610 } else none
  | .g72xInit => if fresh k codecNested then some { k with dirty := .nested .g72xState :: k.dirty, cc := some .g72x } else none
  | .alacPakt => if k.cc = some .alac then some { k with dirty := .nested .alacPakt :: k.dirty } else none
  | .alacTmp => if k.cc = some .alac && m = .w && fresh k [.nested .alacTmp, .tmpFd, .tmpDisk]
      then some { k with dirty := .tmpDisk :: .tmpFd :: .nested .alacTmp :: k.dirty } else none

/-- the checker state after the last step of a program, `none` if a step is refused -/
def check (m : Mode) (k : Ck) : List Step → Option Ck
  | [] => some k
  | st :: rest => (stepOk m k st).bind fun k' => check m k' rest

theorem check_append (m : Mode) (k : Ck) (p q : List Step) :
    check m k (p ++ q) = (check m k p).bind fun k' => check m k' q := by
  induction p generalizing k with
  | nil => rfl
  | cons st rest ih =>
    simp only [List.cons_append, check]
    cases stepOk m k st with
    | none => rfl
    | some k' => exact ih k'

theorem fresh_iff {k : Ck} {xs : List Cell} : fresh k xs = true ↔ ∀ x ∈ xs, x ∉ k.dirty := by
  simp [fresh]

theorem fresh_sub {k : Ck} {xs ys : List Cell} (h : fresh k xs = true) (hs : ∀ y ∈ ys, y ∈ xs) : fresh k ys = true := by
  rw [fresh_iff] at h ⊢
  exact fun y hy => h y (hs y hy)

theorem fresh_push {k : Ck} {xs : List Cell} (h : fresh k xs = true) (x : Cell) (hx : x ∉ xs)
    (cc : Option CodecHook) (kc : Option ContHook) : fresh ⟨x :: k.dirty, cc, kc⟩ xs = true := by
  rw [fresh_iff] at h ⊢
  intro y hy
  simp only [List.mem_cons, not_or]
  exact ⟨fun e => hx (e ▸ hy), h y hy⟩

/-- what the checker state claims of a handle under construction -/
structure StInv (m : Mode) (s : S) (k : Ck) : Prop where
  inv : Inv s
  clean : ∀ x, x ∉ k.dirty → s.1.cell x = .null
  cc : s.1.codecClose = k.cc
  kc : s.1.contClose = k.kc
  mode : s.1.mode = m

theorem StInv.mono {m : Mode} {s : S} {k : Ck} (h : StInv m s k) {d : List Cell} (hd : ∀ x ∈ k.dirty, x ∈ d) :
    StInv m s ⟨d, k.cc, k.kc⟩ :=
  ⟨h.inv, fun x hx => h.clean x (fun hm => hx (hd x hm)), h.cc, h.kc, h.mode⟩

theorem fresh_null {m : Mode} {s : S} {k : Ck} (h : StInv m s k) {xs : List Cell} (hf : fresh k xs = true) :
    ∀ x ∈ xs, s.1.cell x = .null :=
  fun x hx => h.clean x (fresh_iff.mp hf x hx)

theorem StInv_cells {m : Mode} {s t : S} {k : Ck} (h : StInv m s k) (xs : List Cell) (hI : Inv t)
    (ho : ∀ y, y ∉ xs → t.1.cell y = s.1.cell y) (hv : t.1.view = s.1.view) : StInv m t { k with dirty := xs ++ k.dirty } := by
  refine ⟨hI, ?_, ?_, ?_, ?_⟩
  · intro y hy
    rw [List.mem_append, not_or] at hy
    rw [ho y hy.1]; exact h.clean y hy.2
  · exact (congrArg CloseView.codecClose hv).trans h.cc
  · exact (congrArg CloseView.contClose hv).trans h.kc
  · exact (congrArg CloseView.mode hv).trans h.mode

theorem StInv_alloc {m : Mode} {s : S} {k : Ck} (h : StInv m s k) (x : Cell) (hf : fresh k [x] = true)
    (hg : Guarded s.1 x := by trivial) : StInv m (alloc x s) { k with dirty := x :: k.dirty } :=
  StInv_cells h [x] (Inv_alloc_fresh x h.inv (fresh_null h hf x (by simp)) hg)
    (fun y hy => by simp at hy; simp [alloc_cell, hy]) rfl

theorem StInv_codecHook {m : Mode} {s : S} {k : Ck} (h : StInv m s k) (hook : CodecHook) (hf : fresh k codecNested = true) :
    StInv m ({ s.1 with codecClose := some hook }, s.2) { k with cc := some hook } :=
  ⟨Inv_fields h.inv _ (hcc := .inr (fresh_null h hf)), h.clean, rfl, h.kc, h.mode⟩

theorem applyEv_spec {s : S} (hI : Inv s) (e : Ev) (ha : evAllowed s.1 e = true) :
    (∀ x, x ∉ evCells → (applyEv e s).1.cell x = s.1.cell x) ∧ Inv (applyEv e s) ∧ (applyEv e s).1.view = s.1.view := by
  refine ⟨fun x hx => ?_, ?_⟩
  · simp [evCells] at hx
    cases e <;> simp [applyEv, alloc_cell, freeNull_cell, allocIfNull_cell, replace_cell, hx]
  cases e <;> simp only [applyEv]
  case mark => exact ⟨Inv_replace _ hI (by decide +kernel) (by simpa [evAllowed, Guarded] using ha), view_replace _ s⟩
  case chanmap => exact ⟨Inv_replace _ hI (by decide +kernel), view_replace _ s⟩
  case str | chunkRec => exact ⟨Inv_fields (Inv_allocIfNull _ hI) _, view_allocIfNull _ s⟩
  case inst | bext | iter => exact ⟨Inv_allocIfNull _ hI, view_allocIfNull _ s⟩
  case peak | cue | smpl | loop | cart => exact ⟨Inv_refresh _ hI (by decide +kernel), (view_alloc _ _).trans (view_freeNull _ s)⟩

theorem applyEvs_spec (evs : List Ev) (s : S) (hI : Inv s) :
    (∀ x, x ∉ evCells → (applyEvs evs s).1.cell x = s.1.cell x) ∧ Inv (applyEvs evs s) ∧ (applyEvs evs s).1.view = s.1.view := by
  refine List.foldlRecOn (motive := fun t : S => (∀ x, x ∉ evCells → t.1.cell x = s.1.cell x) ∧ Inv t ∧ t.1.view = s.1.view)
    evs _ ⟨fun _ _ => rfl, hI, rfl⟩ fun t ⟨h1, h2, h3⟩ e _ => ?_
  split
  · obtain ⟨a, b, c⟩ := applyEv_spec h2 e ‹_›
    exact ⟨fun x hx => (a x hx).trans (h1 x hx), b, c.trans h3⟩
  · exact ⟨h1, h2, h3⟩

theorem step_sound (c : OpenCfg) (st : Step) {s : S} {k k' : Ck} (h : StInv c.mode s k) (hk : stepOk c.mode k st = some k') :
    StInv c.mode (applyStep c st s) k' := by
  cases st <;> simp only [stepOk] at hk
  case flags | chunkHook =>
    cases hk
    exact ⟨Inv_fields h.inv _, h.clean, h.cc, h.kc, h.mode⟩
  case parse =>
    cases hk
    have ⟨h1, h2, h3⟩ := applyEvs_spec c.evs s h.inv
    exact StInv_cells h evCells h2 h1 h3
  case contData | peakW | codecData =>
    split at hk <;> cases hk
    exact StInv_alloc h _ ‹_›
  case contHook hk0 =>
    split at hk <;> cases hk
    exact ⟨Inv_fields h.inv _ (hkc := .inr (fresh_null h ‹_› _ (by simp))), h.clean, h.cc, rfl, h.mode⟩
  case codecHook hook =>
    split at hk <;> cases hk
    exact StInv_codecHook h hook ‹_›
  -- gsm, g72x: the hook first, then the block it guards, which is the state the model reaches in its own order
  case gsmInit =>
    split at hk <;> cases hk
    exact StInv_alloc (StInv_codecHook h .gsm610 ‹_›) (.nested .gsmState) (fresh_sub ‹_› (by simp [codecNested])) rfl
  case g72xInit =>
    split at hk <;> cases hk
    exact StInv_alloc (StInv_codecHook h .g72x ‹_›) (.nested .g72xState) (fresh_sub ‹_› (by simp [codecNested])) rfl
  case alacPakt =>
    split at hk <;> cases hk
    rename_i hcc
    exact StInv_cells h [.nested .alacPakt] (Inv_replace _ h.inv (by decide +kernel) (h.cc.trans hcc))
      (fun y hy => by simp at hy; simp [applyStep, replace_cell, hy]) (view_replace _ s)
  case alacTmp =>
    split at hk <;> cases hk
    rename_i hf
    simp only [Bool.and_eq_true, decide_eq_true_eq] at hf
    obtain ⟨⟨hcc, hm⟩, hf⟩ := hf
    have hg : s.1.codecClose = some .alac ∧ s.1.mode = .w := ⟨h.cc.trans hcc, h.mode.trans hm⟩
    have h1 := StInv_alloc h (.nested .alacTmp) (fresh_sub hf (by decide +kernel)) hg
    have h2 := StInv_alloc h1 .tmpFd (fresh_push (fresh_sub hf (by decide +kernel)) _ (by decide +kernel) _ _) hg
    exact StInv_alloc h2 .tmpDisk (fresh_push (fresh_push (fresh_sub hf (by decide +kernel)) _ (by decide +kernel) k.cc k.kc) _ (by decide +kernel) _ _) hg

theorem runSteps_cons (c : OpenCfg) (st : Step) (l : List Step) (s : S) :
    runSteps c (st :: l) s = runSteps c l (applyStep c st s) := rfl

/-- every prefix of a checked program keeps the invariant: an open may fail after any number of steps -/
theorem prog_sound (c : OpenCfg) (sts : List Step) {s : S} {k : Ck} (h : StInv c.mode s k)
    (hp : (check c.mode k sts).isSome = true) (n : Nat) : Inv (runSteps c (sts.take n) s) := by
  induction sts generalizing s k n with
  | nil => simpa [runSteps] using h.inv
  | cons st rest ih =>
    cases n with
    | zero => simpa [runSteps] using h.inv
    | succ n =>
      simp only [List.take_succ_cons, runSteps_cons]
      unfold check at hp
      cases hk : stepOk c.mode k st with
      | none => simp [hk] at hp
      | some k' => exact ih (step_sound c st h hk) (by simpa [hk] using hp) n

def k0 : Ck := { dirty := [.psf, .owner .header, .fileFd], cc := none, kc := none }

/-- the container stage of every open passes from the state `psf_allocate` leaves, and touches nothing of the codec's:
    7 containers × 3 modes × existing × float, evaluated -/
theorem contSteps_ok (cont : Cont) (mode : Mode) (ex fl : Bool) :
    (check mode k0 (contSteps { cont := cont, mode := mode, existing := ex, isFloat := fl })).any
      (fun k => fresh k (.owner .codecData :: codecNested)) = true := by
  cases cont <;> cases mode <;> cases ex <;> cases fl <;> decide +kernel

theorem codecSteps_ok (c : OpenCfg) (k : Ck) (hf : fresh k (.owner .codecData :: codecNested) = true) :
    (check c.mode k (codecSteps c)).isSome = true := by
  have hd : fresh k [.owner .codecData] = true := fresh_sub hf (by decide +kernel)
  have hn : fresh ⟨.owner .codecData :: k.dirty, k.cc, k.kc⟩ codecNested = true :=
    fresh_push (fresh_sub hf (by decide +kernel)) _ (by decide +kernel) _ _
  have ht : fresh ⟨.nested .alacPakt :: .owner .codecData :: k.dirty, some .alac, k.kc⟩ [.nested .alacTmp, .tmpFd, .tmpDisk] = true :=
    fresh_push (fresh_sub hn (by decide +kernel)) _ (by decide +kernel) _ _
  unfold codecSteps
  cases c.codec <;> cases c.mode <;> simp [check, stepOk, hd, hn, ht]

theorem openSteps_ok (c : OpenCfg) : (check c.mode k0 (openSteps c)).isSome = true := by
  have hc : contSteps c = contSteps { cont := c.cont, mode := c.mode, existing := c.existing, isFloat := c.isFloat } := rfl
  have h := contSteps_ok c.cont c.mode c.existing c.isFloat
  rw [← hc] at h
  unfold openSteps
  rw [check_append]
  cases hk : check c.mode k0 (contSteps c) with
  | none => simp [hk] at h
  | some k => exact codecSteps_ok c k (by simpa [hk] using h)

theorem Inv_blank (m : Mode) (ct : Cont) (f : Bool) : Inv (({ mode := m, cont := ct, isFloat := f } : Handle), ({} : Acct)) :=
  ⟨fun _ => by simp, rfl, rfl, fun h => by simp at h, fun _ h => by simp at h⟩

theorem StInv_routeFlags {m : Mode} {s : S} {k : Ck} (h : StInv m s k) (v d : Bool) (hn : s.1.cell .fileFd = .null) :
    StInv m ({ s.1 with vio := v, doNotClose := d }, s.2) k :=
  ⟨Inv_fields h.inv _ (hfd := .inr hn), h.clean, h.cc, h.kc, h.mode⟩

/-- psf_allocate and the route's descriptor: a descriptor the library must not close is never in the `fileFd` cell -/
theorem allocate_spec (c : OpenCfg) : StInv c.mode (allocate c {}) k0 := by
  have hb : StInv c.mode (({ mode := c.mode, cont := c.cont, isFloat := c.isFloat } : Handle), ({} : Acct)) ⟨[], none, none⟩ :=
    ⟨Inv_blank _ _ _, fun _ _ => rfl, rfl, rfl, rfl⟩
  have h2 := StInv_alloc (StInv_alloc hb .psf rfl) (.owner .header) rfl
  have hfd := h2.clean .fileFd (by decide +kernel)
  unfold allocate
  cases c.route with
  | path ok =>
    cases ok
    · exact h2.mono (d := k0.dirty) (by decide +kernel)
    · exact (StInv_alloc h2 .fileFd rfl ⟨rfl, rfl⟩).mono (d := k0.dirty) (by decide +kernel)
  | fd cd =>
    cases cd
    · exact (StInv_routeFlags h2 false true hfd).mono (d := k0.dirty) (by decide +kernel)
    · exact (StInv_alloc h2 .fileFd rfl ⟨rfl, rfl⟩).mono (d := k0.dirty) (by decide +kernel)
  | vio => exact (StInv_routeFlags h2 true false hfd).mono (d := k0.dirty) (by decide +kernel)

theorem open_prefix_inv (c : OpenCfg) (n : Nat) : Inv (runSteps c ((openSteps c).take n) (allocate c {})) := by
  exact prog_sound c (openSteps c) (allocate_spec c) (openSteps_ok c) n

theorem open_full_inv (c : OpenCfg) : Inv (runSteps c (openSteps c) (allocate c {})) := by
  have := open_prefix_inv c (openSteps c).length
  rwa [List.take_length] at this

/-- the invariant of a world: nothing lost, nothing released twice, and the open handle (if any) satisfies `Inv` -/
def WInv (w : World) : Prop := w.a = {} ∧ ∀ h, w.h = some h → Inv (h, ({} : Acct))

theorem WInv_closed (a : Acct) (ha : a = {}) : WInv { h := none, a := a } := ⟨ha, fun _ h => by cases h⟩

theorem WInv_open {s : S} (hI : Inv s) : WInv { h := some s.1, a := s.2 } :=
  ⟨hI.acct, fun _ e => by cases e; exact ⟨hI.nodang, rfl, hI.pay, hI.payW, hI.guard⟩⟩

theorem doOpen_spec (c : OpenCfg) : WInv (doOpen c {}).1 := by
  unfold doOpen
  simp only
  split
  · exact WInv_closed _ (retire_releaseAll (allocate_spec c).inv)
  · exact WInv_closed _ (retire_releaseAll (open_prefix_inv c _))
  · have hI := open_full_inv c
    generalize runSteps c (openSteps c) (allocate c {}) = s at hI ⊢
    exact WInv_open (s := (_, _)) (Inv_fields hI _)

theorem doOpen_fail_closed (c : OpenCfg) (a : Acct) (k : Nat) (h : c.failAt = some k) : (doOpen c a).1.h = none := by
  unfold doOpen
  rw [h]
  cases c.route with
  | path ok => cases ok <;> rfl
  | _ => rfl

theorem step_WInv {w : World} (hw : WInv w) (op : Op) : WInv (step w op).1 := by
  obtain ⟨ha, hh⟩ := hw
  cases hw' : w.h with
  | none =>
    cases op <;> simp only [step, hw'] <;> first | exact ⟨ha, hh⟩ | (rw [ha]; exact doOpen_spec _)
  | some h =>
    have hI := hh h hw'
    cases op <;> simp only [step, hw']
    case «open» => exact ⟨ha, hh⟩
    case close => rw [ha]; exact WInv_closed _ (retire_releaseAll hI)
    all_goals
      rw [ha]
      exact WInv_open (Inv_stepOpen hI _)

theorem run_WInv {w : World} (hw : WInv w) (ops : List Op) : WInv (run w ops) :=
  List.foldlRecOn ops _ hw fun _ hw op _ => step_WInv hw op

theorem WInv_init : WInv {} := WInv_closed _ rfl

def WsInv (w : Worlds) : Prop := w.a = {} ∧ ∀ p ∈ w.hs, Inv (p.2, ({} : Acct))

theorem get_mem {w : Worlds} {i : Nat} {h : Handle} (e : w.get i = some h) : ∃ p ∈ w.hs, p.2 = h := by
  unfold Worlds.get at e
  cases hf : w.hs.find? (fun p => p.1 == i) with
  | none => simp [hf] at e
  | some p =>
    simp [hf] at e
    exact ⟨p, List.mem_of_find?_eq_some hf, e⟩

theorem stepAt_WsInv {w : Worlds} (hw : WsInv w) (i : Nat) (op : Op) : WsInv (stepAt w i op).1 := by
  obtain ⟨ha, hh⟩ := hw
  have h1 : WInv ({ h := w.get i, a := w.a } : World) := by
    refine ⟨ha, ?_⟩
    intro h e
    obtain ⟨p, hp, e2⟩ := get_mem e
    subst e2
    exact hh p hp
  have h2 := step_WInv h1 op
  unfold stepAt Worlds.set
  refine ⟨h2.1, ?_⟩
  intro p hp
  simp only at hp
  cases hr : (step { h := w.get i, a := w.a } op).1.h with
  | none =>
    rw [hr] at hp
    exact hh p ((List.mem_filter.mp hp).1)
  | some h' =>
    rw [hr] at hp
    rcases List.mem_cons.mp hp with e | e
    · subst e; exact h2.2 h' hr
    · exact hh p ((List.mem_filter.mp e).1)

theorem runAt_WsInv {w : Worlds} (hw : WsInv w) (ops : List (Nat × Op)) : WsInv (runAt w ops) :=
  List.foldlRecOn ops _ hw fun _ hw p _ => stepAt_WsInv hw p.1 p.2

theorem WsInv_init : WsInv {} := ⟨rfl, fun _ h => by cases h⟩

theorem get_set_other (w : Worlds) (i j : Nat) (h : Option Handle) (a : Acct) (hne : j ≠ i) : (w.set i h a).get j = w.get j := by
  unfold Worlds.get Worlds.set
  have hf : ∀ l : List (Nat × Handle), (l.filter (fun p => p.1 != i)).find? (fun p => p.1 == j) = l.find? (fun p => p.1 == j) := by
    intro l
    rw [List.find?_filter]
    congr 1; funext q
    by_cases hq : q.1 = j <;> simp [hq, hne]
  cases h with
  | none => simp only; rw [hf]
  | some h' =>
    simp only
    have : ((i, h').1 == j) = false := by simp; exact fun e => hne e.symm
    rw [List.find?_cons, this, hf]

end Sf.Ledger
