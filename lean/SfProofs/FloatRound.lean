/-
  SfProofs.FloatRound — what `toDy ∘ ofDy` computes: the sign is kept and the magnitude is
  `min (rnd magnitude) huge`, where `rnd` rounds m·2^e to a multiple of 2^quantum (ties to even).
-/
import SfProofs.FloatFmt
namespace Sf.Float

theorem natpow_cast (n : Nat) : ((2 ^ n : Nat) : ℚ) = (2 : ℚ) ^ (n : ℤ) := by
  push_cast; rw [zpow_natCast]

theorem zpow2_le {a b : Int} (h : a ≤ b) : (2 : ℚ) ^ a ≤ 2 ^ b := zpow_le_zpow_right₀ (by norm_num) h
theorem zpow2_lt {a b : Int} (h : a < b) : (2 : ℚ) ^ a < 2 ^ b := zpow_lt_zpow_right₀ (by norm_num) h
theorem zpow2_lt_iff {a b : Int} : (2 : ℚ) ^ a < 2 ^ b ↔ a < b := zpow_lt_zpow_iff_right₀ (by norm_num)
theorem zpow2_add (a b : Int) : (2 : ℚ) ^ (a + b) = 2 ^ a * 2 ^ b := zpow_add₀ (by norm_num) a b

theorem mul_zpow_lt (n k : Nat) (q : Int) (h : n < 2 ^ k) : (n : ℚ) * 2 ^ q < 2 ^ ((k : ℤ) + q) := by
  rw [zpow2_add, ← natpow_cast]
  exact mul_lt_mul_of_pos_right (by exact_mod_cast h) (two_zpow_pos q)

theorem mul_zpow_le (n k : Nat) (q : Int) (h : n ≤ 2 ^ k) : (n : ℚ) * 2 ^ q ≤ 2 ^ ((k : ℤ) + q) := by
  rw [zpow2_add, ← natpow_cast]
  exact mul_le_mul_of_nonneg_right (by exact_mod_cast h) (le_of_lt (two_zpow_pos q))

theorem le_mul_zpow (n k : Nat) (q : Int) (h : 2 ^ k ≤ n) : (2 : ℚ) ^ ((k : ℤ) + q) ≤ (n : ℚ) * 2 ^ q := by
  rw [zpow2_add, ← natpow_cast]
  exact mul_le_mul_of_nonneg_right (by exact_mod_cast h) (le_of_lt (two_zpow_pos q))

theorem Dy.mag_bounds (d : Dy) (h : d.m ≠ 0) :
    (2 : ℚ) ^ (d.e + (bitLen d.m : ℤ) - 1) ≤ d.mag ∧ d.mag < (2 : ℚ) ^ (d.e + (bitLen d.m : ℤ)) := by
  obtain ⟨b1, b2, b3⟩ := bitLen_bounds d.m h
  unfold Dy.mag
  constructor
  · have := le_mul_zpow d.m (bitLen d.m - 1) d.e b1
    have e : ((bitLen d.m - 1 : Nat) : ℤ) + d.e = d.e + (bitLen d.m : ℤ) - 1 := by omega
    rwa [e] at this
  · have := mul_zpow_lt d.m (bitLen d.m) d.e b2
    rwa [add_comm] at this

theorem Dy.mag_eq_zero_iff (d : Dy) : d.mag = 0 ↔ d.m = 0 := by
  unfold Dy.mag
  constructor
  · intro h
    rcases mul_eq_zero.mp h with h | h
    · exact_mod_cast h
    · exact absurd h (ne_of_gt (two_zpow_pos _))
  · intro h; simp [h]

/-- the rounding performed by `ofDy`, with unbounded exponent range -/
def Fmt.rnd (f : Fmt) (d : Dy) : Dy := ⟨d.neg, rneScale d.m (d.e - f.quantum d), f.quantum d⟩

/-- the magnitude of an Inf/NaN pattern under `toDy` (2^128 resp. 2^1024): the overflow threshold -/
def Fmt.huge (f : Fmt) : ℚ := (2 : ℚ) ^ ((f.emax : ℤ) - 1 + f.qmin + f.mbits)

theorem qmin_le_quantum (f : Fmt) (d : Dy) : f.qmin ≤ f.quantum d := by unfold Fmt.quantum; omega

theorem rnd_isRNE (f : Fmt) (d : Dy) : IsRNE (d.mag * 2 ^ (-(f.quantum d))) (f.rnd d).m := by
  have := rneScale_isRNE d.m (d.e - f.quantum d)
  unfold Dy.mag Fmt.rnd
  simp only
  rw [mul_assoc, ← zpow2_add]
  have e : d.e + -f.quantum d = d.e - f.quantum d := by omega
  rw [e]; exact this

theorem rnd_mant_le (f : Fmt) (d : Dy) (h : d.m ≠ 0) : (f.rnd d).m ≤ 2 ^ (f.mbits + 1) := by
  have hb := (Dy.mag_bounds d h).2
  have hq : d.e + (bitLen d.m : ℤ) - 1 - f.mbits ≤ f.quantum d := by unfold Fmt.quantum; omega
  have h1 : d.mag * 2 ^ (-(f.quantum d)) ≤ ((2 ^ (f.mbits + 1) : Nat) : ℤ) := by
    push_cast
    rw [← zpow_natCast]
    calc d.mag * 2 ^ (-(f.quantum d)) ≤ 2 ^ (d.e + (bitLen d.m : ℤ)) * 2 ^ (-(f.quantum d)) :=
          mul_le_mul_of_nonneg_right (le_of_lt hb) (le_of_lt (two_zpow_pos _))
      _ = 2 ^ (d.e + (bitLen d.m : ℤ) + -(f.quantum d)) := (zpow2_add _ _).symm
      _ ≤ 2 ^ (((f.mbits + 1 : Nat) : ℤ)) := zpow2_le (by push_cast; omega)
  have := (rnd_isRNE f d).le_int _ h1
  exact_mod_cast this

theorem rnd_mant_ge (f : Fmt) (d : Dy) (h : d.m ≠ 0) (hq : f.quantum d ≠ f.qmin) : 2 ^ f.mbits ≤ (f.rnd d).m := by
  have hb := (Dy.mag_bounds d h).1
  have hq : d.e + (bitLen d.m : ℤ) - 1 - f.mbits = f.quantum d := by unfold Fmt.quantum at *; omega
  have h1 : (((2 ^ f.mbits : Nat) : ℤ) : ℚ) ≤ d.mag * 2 ^ (-(f.quantum d)) := by
    push_cast
    rw [← zpow_natCast]
    calc (2 : ℚ) ^ ((f.mbits : ℤ)) = 2 ^ (d.e + (bitLen d.m : ℤ) - 1 + -(f.quantum d)) := by congr 1; omega
      _ = 2 ^ (d.e + (bitLen d.m : ℤ) - 1) * 2 ^ (-(f.quantum d)) := zpow2_add _ _
      _ ≤ d.mag * 2 ^ (-(f.quantum d)) := mul_le_mul_of_nonneg_right hb (le_of_lt (two_zpow_pos _))
  have := (rnd_isRNE f d).ge_int _ h1
  exact_mod_cast this

theorem std_consts (f : Fmt) (hf : f.Std) :
    1 ≤ f.mbits ∧ f.emax + 1 = 2 ^ f.ebits ∧ 2 ≤ f.emax ∧ f.width = 1 + f.ebits + f.mbits := by
  rcases hf with rfl | rfl <;> simp [Fmt.emax, Fmt.width, f32, f64]

theorem toDy_pack (f : Fmt) (hf : f.Std) (s : Bool) (mant : Nat) (q : Int)
    (h1 : mant < 2 ^ (f.mbits + 1)) (h2 : f.qmin ≤ q) :
    f.toDy (f.pack s mant q) =
      if mant < 2 ^ f.mbits then ⟨s, mant, f.qmin⟩
      else if q - f.qmin + 1 ≥ f.emax then ⟨s, 2 ^ f.mbits, (f.emax : ℤ) - 1 + f.qmin⟩
      else ⟨s, mant, q⟩ := by
  obtain ⟨c1, c2, c3, _⟩ := std_consts f hf
  have hp := Nat.two_pow_pos f.mbits
  unfold Fmt.pack
  split
  · rename_i hlt
    have := toDy_packed f s 0 mant (by omega) hlt
    simpa using this
  · split
    · have := toDy_packed f s f.emax 0 (by omega) hp
      simp only [Nat.add_zero] at this
      rw [this]
      have : f.emax ≠ 0 := by omega
      simp [this]
    · rename_i hge hlt
      have := toDy_packed f s (q - f.qmin + 1).toNat (mant - 2 ^ f.mbits) (by omega) (by omega)
      rw [this]
      have h0 : (q - f.qmin + 1).toNat ≠ 0 := by omega
      simp only [h0, if_false]
      congr 1
      · omega
      · omega

theorem huge_eq (f : Fmt) : f.huge = 2 ^ (f.mbits : ℤ) * 2 ^ ((f.emax : ℤ) - 1 + f.qmin) := by
  unfold Fmt.huge; rw [← zpow2_add]; congr 1; omega

theorem toDy_pack_mag (f : Fmt) (hf : f.Std) (s : Bool) (mant : Nat) (q : Int)
    (h1 : mant < 2 ^ (f.mbits + 1)) (h2 : f.qmin ≤ q) (h3 : mant < 2 ^ f.mbits → q = f.qmin) :
    (f.toDy (f.pack s mant q)).neg = s ∧ (f.toDy (f.pack s mant q)).mag = min ((mant : ℚ) * 2 ^ q) f.huge := by
  obtain ⟨c1, c2, c3, _⟩ := std_consts f hf
  rw [toDy_pack f hf s mant q h1 h2]
  split
  · rename_i hlt
    refine ⟨rfl, ?_⟩
    unfold Dy.mag; simp only
    rw [h3 hlt, min_eq_left]
    have := mul_zpow_lt mant f.mbits f.qmin hlt
    unfold Fmt.huge
    exact le_of_lt (lt_of_lt_of_le this (zpow2_le (by omega)))
  · split
    · rename_i hge hov
      refine ⟨rfl, ?_⟩
      unfold Dy.mag; simp only
      rw [natpow_cast, ← huge_eq, min_eq_right]
      have := le_mul_zpow mant f.mbits q (by omega)
      unfold Fmt.huge
      exact le_trans (zpow2_le (by omega)) this
    · rename_i hge hov
      refine ⟨rfl, ?_⟩
      unfold Dy.mag; simp only
      rw [min_eq_left]
      have := mul_zpow_lt mant (f.mbits + 1) q h1
      unfold Fmt.huge
      exact le_of_lt (lt_of_lt_of_le this (zpow2_le (by push_cast; omega)))

theorem toDy_enc_mag (f : Fmt) (hf : f.Std) (s : Bool) (mant0 : Nat) (q : Int)
    (h1 : mant0 ≤ 2 ^ (f.mbits + 1)) (h2 : f.qmin ≤ q) (h3 : mant0 < 2 ^ f.mbits → q = f.qmin) :
    (f.toDy (f.enc s mant0 q)).neg = s ∧ (f.toDy (f.enc s mant0 q)).mag = min ((mant0 : ℚ) * 2 ^ q) f.huge := by
  have hp := Nat.two_pow_pos f.mbits
  unfold Fmt.enc
  split
  · have hm : mant0 = 2 ^ (f.mbits + 1) := by omega
    have hh : mant0 / 2 = 2 ^ f.mbits := by omega
    rw [hh]
    have := toDy_pack_mag f hf s (2 ^ f.mbits) (q + 1) (by omega) (by omega) (by omega)
    refine ⟨this.1, ?_⟩
    rw [this.2, hm]
    congr 1
    rw [natpow_cast, natpow_cast, ← zpow2_add, ← zpow2_add]; congr 1; push_cast; omega
  · exact toDy_pack_mag f hf s mant0 q (by omega) h2 h3

/-- **what `toDy ∘ ofDy` is**: the sign is kept, the magnitude is rounded at the quantum and capped at `huge` -/
theorem toDy_ofDy (f : Fmt) (hf : f.Std) (d : Dy) :
    (f.toDy (f.ofDy d)).neg = d.neg ∧ (f.toDy (f.ofDy d)).mag = min (f.rnd d).mag f.huge := by
  rw [ofDy_eq]
  split
  · rename_i h0
    have := toDy_pack_mag f hf d.neg 0 f.qmin (Nat.two_pow_pos _) (le_refl _) (fun _ => rfl)
    have e : f.pack d.neg 0 f.qmin = f.sgnBit d.neg := by
      unfold Fmt.pack; simp
    rw [e] at this
    refine ⟨this.1, ?_⟩
    rw [this.2]
    unfold Fmt.rnd Dy.mag
    simp [h0, rneScale, rneShr]
  · rename_i h0
    have := toDy_enc_mag f hf d.neg (f.rnd d).m (f.quantum d) (rnd_mant_le f d h0) (qmin_le_quantum f d)
      (fun hlt => by
        by_contra hne
        have := rnd_mant_ge f d h0 hne
        omega)
    exact this

/-- v = n·2^q with an (mbits+1)-bit significand and q at or above the subnormal quantum
    (no upper bound on the exponent: overflow is `v ≥ huge`) -/
def Fmt.RepMag (f : Fmt) (v : ℚ) : Prop :=
  ∃ (n : Nat) (q : Int), n < 2 ^ (f.mbits + 1) ∧ f.qmin ≤ q ∧ v = (n : ℚ) * 2 ^ q

theorem rnd_mag (f : Fmt) (d : Dy) : (f.rnd d).mag = ((f.rnd d).m : ℚ) * 2 ^ (f.quantum d) := rfl

theorem rnd_mag_zero (f : Fmt) (d : Dy) (h : d.m = 0) : (f.rnd d).mag = 0 := by
  unfold Fmt.rnd Dy.mag; simp [h, rneScale, rneShr]

theorem rep_multiple_of_quantum (f : Fmt) (d : Dy) (h : d.m ≠ 0) (B : ℚ) (hB : f.RepMag B) (hle : d.mag ≤ B) :
    ∃ N : Nat, B = (N : ℚ) * 2 ^ (f.quantum d) := by
  obtain ⟨n, qB, hn, hqB, rfl⟩ := hB
  have hpos : 0 < d.mag := lt_of_lt_of_le (two_zpow_pos _) (Dy.mag_bounds d h).1
  have hn0 : n ≠ 0 := by
    rintro rfl; simp at hle; linarith
  obtain ⟨b1, b2, b3⟩ := bitLen_bounds n hn0
  have hL : bitLen n ≤ f.mbits + 1 := by
    by_contra hc
    have : 2 ^ (f.mbits + 1) ≤ 2 ^ (bitLen n - 1) := Nat.pow_le_pow_right (by omega) (by omega)
    omega
  have hlt : (2 : ℚ) ^ (d.e + (bitLen d.m : ℤ) - 1) < 2 ^ ((bitLen n : ℤ) + qB) :=
    lt_of_le_of_lt (le_trans (Dy.mag_bounds d h).1 hle) (mul_zpow_lt n (bitLen n) qB b2)
  have hE := zpow2_lt_iff.mp hlt
  have hq : f.quantum d ≤ qB := by unfold Fmt.quantum; omega
  refine ⟨n * 2 ^ (qB - f.quantum d).toNat, ?_⟩
  push_cast
  rw [mul_assoc, ← zpow_natCast, ← zpow2_add]
  congr 2; omega

theorem rnd_le_of_le_rep (f : Fmt) (d : Dy) (B : ℚ) (hB : f.RepMag B) (hle : d.mag ≤ B) : (f.rnd d).mag ≤ B := by
  by_cases h : d.m = 0
  · rw [rnd_mag_zero f d h]; exact le_trans (Dy.mag_nonneg d) hle
  · obtain ⟨N, hN⟩ := rep_multiple_of_quantum f d h B hB hle
    have h1 : d.mag * 2 ^ (-(f.quantum d)) ≤ ((N : ℤ) : ℚ) := by
      have := mul_le_mul_of_nonneg_right hle (le_of_lt (two_zpow_pos (-(f.quantum d))))
      rw [hN, mul_assoc, ← zpow2_add] at this
      simpa using this
    have h2 := (rnd_isRNE f d).le_int _ h1
    rw [rnd_mag, hN]
    exact mul_le_mul_of_nonneg_right (by exact_mod_cast h2) (le_of_lt (two_zpow_pos _))

theorem rnd_exact (f : Fmt) (d : Dy) (hB : f.RepMag d.mag) : (f.rnd d).mag = d.mag := by
  by_cases h : d.m = 0
  · rw [rnd_mag_zero f d h, (Dy.mag_eq_zero_iff d).mpr h]
  · obtain ⟨N, hN⟩ := rep_multiple_of_quantum f d h d.mag hB (le_refl _)
    have h1 : d.mag * 2 ^ (-(f.quantum d)) = ((N : ℤ) : ℚ) := by
      rw [hN, mul_assoc, ← zpow2_add]; simp
    have h2 := (rnd_isRNE f d).eq_int _ h1
    rw [rnd_mag, hN]
    congr 1
    exact_mod_cast h2

theorem toDy_rep (f : Fmt) (b : Nat) : f.RepMag (f.toDy b).mag := by
  have hfr := frac_lt f b
  by_cases h : f.expo b = 0
  · rw [toDy_subnormal f b h]; exact ⟨f.frac b, f.qmin, by omega, le_refl _, rfl⟩
  · rw [toDy_normal f b h]; exact ⟨2 ^ f.mbits + f.frac b, (f.expo b : ℤ) - 1 + f.qmin, by omega, by omega, rfl⟩

theorem rnd_err (f : Fmt) (d : Dy) : |(f.rnd d).mag - d.mag| ≤ 2 ^ (f.quantum d - 1) := by
  have h := (rnd_isRNE f d).abs_le
  have hp := two_zpow_pos (f.quantum d)
  have e : (f.rnd d).mag - d.mag = (((f.rnd d).m : ℤ) - d.mag * 2 ^ (-(f.quantum d))) * 2 ^ (f.quantum d) := by
    rw [rnd_mag, sub_mul, mul_assoc, ← zpow2_add]; simp
  rw [e, abs_mul, abs_of_pos hp]
  have e2 : (2 : ℚ) ^ (f.quantum d - 1) = 1 / 2 * 2 ^ (f.quantum d) := by
    rw [sub_eq_add_neg, zpow2_add]; simp; ring
  rw [e2]
  exact mul_le_mul_of_nonneg_right h (le_of_lt hp)

theorem mag_ge_of_normal (f : Fmt) (b : Nat) (h : f.expo b ≠ 0) :
    (2 : ℚ) ^ ((f.mbits : ℤ) + ((f.expo b : ℤ) - 1 + f.qmin)) ≤ (f.toDy b).mag := by
  rw [toDy_normal f b h]
  simp only [Dy.mag]
  exact le_mul_zpow (2 ^ f.mbits + f.frac b) f.mbits _ (by omega)
theorem mag_lt_of_normal (f : Fmt) (b : Nat) (h : f.expo b ≠ 0) :
    (f.toDy b).mag < (2 : ℚ) ^ (((f.mbits + 1 : Nat) : ℤ) + ((f.expo b : ℤ) - 1 + f.qmin)) := by
  rw [toDy_normal f b h]
  have := frac_lt f b
  simp only [Dy.mag]
  exact mul_zpow_lt (2 ^ f.mbits + f.frac b) (f.mbits + 1) _ (by rw [Nat.pow_succ]; omega)
theorem mag_lt_of_subnormal (f : Fmt) (b : Nat) (h : f.expo b = 0) :
    (f.toDy b).mag < (2 : ℚ) ^ ((f.mbits : ℤ) + f.qmin) := by
  rw [toDy_subnormal f b h]
  simp only [Dy.mag]
  exact mul_zpow_lt (f.frac b) f.mbits _ (frac_lt f b)

theorem finite_iff_mag_lt (f : Fmt) (hf : f.Std) (b : Nat) : f.isFinite b = true ↔ (f.toDy b).mag < f.huge := by
  obtain ⟨c1, c2, c3, _⟩ := std_consts f hf
  have hex : f.expo b < 2 ^ f.ebits := Nat.mod_lt _ (Nat.two_pow_pos _)
  unfold Fmt.isFinite Fmt.huge
  simp only [bne_iff_ne, ne_eq]
  by_cases h0 : f.expo b = 0
  · exact ⟨fun _ => lt_of_lt_of_le (mag_lt_of_subnormal f b h0) (zpow2_le (by omega)), fun _ => by omega⟩
  · refine ⟨fun _ => lt_of_lt_of_le (mag_lt_of_normal f b h0) (zpow2_le (by push_cast; omega)), fun h hem => ?_⟩
    have := lt_of_le_of_lt (mag_ge_of_normal f b h0) h
    rw [hem, zpow2_lt_iff] at this
    omega

theorem ofDy_finite_iff (f : Fmt) (hf : f.Std) (d : Dy) : f.isFinite (f.ofDy d) = true ↔ (f.rnd d).mag < f.huge := by
  rw [finite_iff_mag_lt f hf, (toDy_ofDy f hf d).2]
  simp

theorem pack_lt_width (f : Fmt) (hf : f.Std) (s : Bool) (mant : Nat) (q : Int) (h1 : mant < 2 ^ (f.mbits + 1)) :
    f.pack s mant q < 2 ^ f.width := by
  obtain ⟨c1, c2, c3, c4⟩ := std_consts f hf
  have ew : 2 ^ f.width = 2 * (2 ^ f.ebits * 2 ^ f.mbits) := by
    rw [c4, Nat.add_assoc, Nat.pow_add, Nat.pow_add]
  have es : f.sgnBit s ≤ 2 ^ f.ebits * 2 ^ f.mbits := by
    unfold Fmt.sgnBit; split
    · rw [Nat.pow_add]
    · exact Nat.zero_le _
  have key : ∀ ex fr : Nat, ex ≤ f.emax → fr < 2 ^ f.mbits → f.sgnBit s + ex * 2 ^ f.mbits + fr < 2 ^ f.width := by
    intro ex fr hex hfr
    have : ex * 2 ^ f.mbits + 2 ^ f.mbits ≤ 2 ^ f.ebits * 2 ^ f.mbits := by
      rw [← c2, Nat.add_mul, Nat.one_mul]
      exact Nat.add_le_add_right (Nat.mul_le_mul_right _ hex) _
    omega
  unfold Fmt.pack
  split
  · have := key 0 mant (by omega) (by assumption); simpa using this
  · split
    · have := key f.emax 0 (le_refl _) (Nat.two_pow_pos _); simpa using this
    · exact key _ _ (by omega) (by omega)

theorem ofDy_lt_width (f : Fmt) (hf : f.Std) (d : Dy) : f.ofDy d < 2 ^ f.width := by
  have hp := Nat.two_pow_pos f.mbits
  rw [ofDy_eq]
  split
  · have := pack_lt_width f hf d.neg 0 0 (Nat.two_pow_pos _)
    unfold Fmt.pack at this; simpa using this
  · rename_i h0
    have := rnd_mant_le f d h0
    unfold Fmt.rnd at this; simp only at this
    unfold Fmt.enc
    split
    · exact pack_lt_width f hf _ _ _ (by omega)
    · exact pack_lt_width f hf _ _ _ (by omega)

theorem quantum_congr (f : Fmt) (d₁ d₂ : Dy) (h1 : d₁.m ≠ 0) (h2 : d₂.m ≠ 0) (h : d₁.mag = d₂.mag) :
    f.quantum d₁ = f.quantum d₂ := by
  have a := Dy.mag_bounds d₁ h1
  have b := Dy.mag_bounds d₂ h2
  rw [h] at a
  have x := zpow2_lt_iff.mp (lt_of_le_of_lt a.1 b.2)
  have y := zpow2_lt_iff.mp (lt_of_le_of_lt b.1 a.2)
  unfold Fmt.quantum; omega

theorem ofDy_congr (f : Fmt) (d₁ d₂ : Dy) (hn : d₁.neg = d₂.neg) (h : d₁.mag = d₂.mag) : f.ofDy d₁ = f.ofDy d₂ := by
  rw [ofDy_eq, ofDy_eq, hn]
  have hz : d₁.m = 0 ↔ d₂.m = 0 := by rw [← Dy.mag_eq_zero_iff, ← Dy.mag_eq_zero_iff, h]
  by_cases h1 : d₁.m = 0
  · simp [h1, hz.mp h1]
  · have h2 : d₂.m ≠ 0 := fun c => h1 (hz.mpr c)
    simp only [h1, h2, if_false]
    have hq := quantum_congr f d₁ d₂ h1 h2 h
    have r1 := rnd_isRNE f d₁
    have r2 := rnd_isRNE f d₂
    rw [h, hq] at r1
    have := r1.unique r2
    unfold Fmt.rnd at this
    simp only at this
    rw [hq] at this ⊢
    congr 1
    exact_mod_cast this

theorem rneScale_zero_exp (m : Nat) : rneScale m 0 = m := by simp [rneScale]

theorem ofDy_subnormal (f : Fmt) (s : Bool) (fr : Nat) (hfr : fr < 2 ^ f.mbits) : f.ofDy ⟨s, fr, f.qmin⟩ = f.sgnBit s + fr := by
  rw [ofDy_eq]
  by_cases hz : fr = 0
  · simp only [hz, if_true, Nat.add_zero]
  · simp only [hz, if_false]
    obtain ⟨b1, b2, b3⟩ := bitLen_bounds _ hz
    have hL : bitLen fr ≤ f.mbits := by
      by_contra hc
      have : 2 ^ f.mbits ≤ 2 ^ (bitLen fr - 1) := Nat.pow_le_pow_right (by omega) (by omega)
      omega
    have hq : f.quantum ⟨s, fr, f.qmin⟩ = f.qmin := by unfold Fmt.quantum; simp only; omega
    rw [hq, Int.sub_self, rneScale_zero_exp]
    unfold Fmt.enc Fmt.pack
    have : ¬ (fr ≥ 2 ^ (f.mbits + 1)) := by omega
    simp only [this, if_false, hfr, if_true]

/-- rounding a value that already has the shape of a normal number: significand 2^mbits + fr at the quantum of
    exponent field `ex` is packed unchanged, or overflows to ±Inf when `ex` reaches the all-ones field -/
theorem ofDy_normalised (f : Fmt) (s : Bool) (ex fr : Nat) (hex : 1 ≤ ex) (hfr : fr < 2 ^ f.mbits) :
    f.ofDy ⟨s, 2 ^ f.mbits + fr, (ex : Int) - 1 + f.qmin⟩ =
      if ex ≥ f.emax then f.sgnBit s + f.emax * 2 ^ f.mbits else f.sgnBit s + ex * 2 ^ f.mbits + fr := by
  have hp := Nat.two_pow_pos f.mbits
  rw [ofDy_eq]
  have hm0 : 2 ^ f.mbits + fr ≠ 0 := by omega
  simp only [hm0, if_false]
  have hL : bitLen (2 ^ f.mbits + fr) = f.mbits + 1 := bitLen_unique _ _ (by simp) (by omega) (by omega)
  have hq : f.quantum ⟨s, 2 ^ f.mbits + fr, (ex : ℤ) - 1 + f.qmin⟩ = (ex : ℤ) - 1 + f.qmin := by
    unfold Fmt.quantum; simp only; rw [hL]; push_cast; omega
  rw [hq, Int.sub_self, rneScale_zero_exp]
  unfold Fmt.enc Fmt.pack
  have n1 : ¬ (2 ^ f.mbits + fr ≥ 2 ^ (f.mbits + 1)) := by omega
  have n2 : ¬ (2 ^ f.mbits + fr < 2 ^ f.mbits) := by omega
  simp only [n1, n2, if_false]
  by_cases h : ex ≥ f.emax
  · have : ((ex : ℤ) - 1 + f.qmin - f.qmin + 1 ≥ f.emax) := by omega
    simp only [this, h, if_true]
  · have : ¬ ((ex : ℤ) - 1 + f.qmin - f.qmin + 1 ≥ f.emax) := by omega
    simp only [this, h, if_false]
    have : ((ex : ℤ) - 1 + f.qmin - f.qmin + 1).toNat = ex := by omega
    rw [this]; omega

theorem ofDy_toDy (f : Fmt) (b : Nat) (hb : b < 2 ^ f.width) (hfin : f.isFinite b = true) :
    f.ofDy (f.toDy b) = b := by
  obtain ⟨hdec, hex, hfr⟩ := pattern_decomp f b hb
  have hne : f.expo b ≠ f.emax := by simpa [Fmt.isFinite] using hfin
  have hlt : f.expo b < f.emax := by unfold Fmt.emax at *; omega
  unfold Fmt.toDy
  simp only
  by_cases h0 : f.expo b = 0
  · rw [if_pos h0, ofDy_subnormal f _ _ hfr]
    rw [h0] at hdec; omega
  · rw [if_neg h0, ofDy_normalised f _ _ _ (by omega) hfr, if_neg (by omega)]
    omega

end Sf.Float
