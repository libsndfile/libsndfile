/-
  Helper lemmas for SfProps/C07Adpcm.lean: the IMA decoders of SfModel/Adpcm.lean track the IMA encoder of
  SfModel/AdpcmEnc.lean — the quantiser's `vpdiff` is the decoder's `diff` for the code it emits, so one decoder update lands
  on the encoder's new state; for the WAV layout with one channel, the parts of the block decoder on the encoder's block
  (`ima_wav_mono_roundtrip`).
-/
import SfProofs.AdpcmEnc
import SfProofs.Adpcm
namespace Sf.AdpcmEnc.Proofs
open Sf Sf.Adpcm Sf.AdpcmEnc Sf.Generated

theorem quantBit_ex (mask : Nat) (t : Nat × Int × Int × Int) :
    ∃ b : Nat, b ≤ 1 ∧ quantBit mask t = (t.1 + b * mask, t.2.1 - b * t.2.2.2, t.2.2.1 + b * t.2.2.2, asr t.2.2.2 1) := by
  unfold quantBit
  by_cases h : t.2.1 ≥ t.2.2.2
  · exact ⟨1, by omega, by simp [h]⟩
  · exact ⟨0, by omega, by simp [h]⟩

/-- the three passes of the quantiser: code bits b4 b2 b1, `vpdiff` grows by step, step/2, step/4 for the bits set -/
theorem quant3 (t : Nat × Int × Int × Int) : ∃ b4 b2 b1 : Nat, b4 ≤ 1 ∧ b2 ≤ 1 ∧ b1 ≤ 1 ∧
    (quantBit 1 (quantBit 2 (quantBit 4 t))).1 = t.1 + 4 * b4 + 2 * b2 + b1 ∧
    (quantBit 1 (quantBit 2 (quantBit 4 t))).2.2.1 = t.2.2.1 + b4 * t.2.2.2 + b2 * asr t.2.2.2 1 + b1 * asr (asr t.2.2.2 1) 1 := by
  obtain ⟨b4, h4, e4⟩ := quantBit_ex 4 t
  obtain ⟨b2, h2, e2⟩ := quantBit_ex 2 (quantBit 4 t)
  obtain ⟨b1, h1, e1⟩ := quantBit_ex 1 (quantBit 2 (quantBit 4 t))
  refine ⟨b4, b2, b1, h4, h2, h1, ?_, ?_⟩
  · rw [e1]; simp only; rw [e2]; simp only; rw [e4]; simp only; omega
  · rw [e1]; simp only; rw [e2]; simp only; rw [e4]

theorem bit_sel (b : Nat) (hb : b ≤ 1) (d x : Int) : (if b = 1 then d + x else d) = d + b * x := by
  rcases (by omega : b = 0 ∨ b = 1) with rfl | rfl <;> simp

/-- the decoder's difference for a code with magnitude bits `b4 b2 b1` is the sum the quantiser builds for these bits -/
theorem imaDiff_bits (step v : Int) (c s b4 b2 b1 : Nat) (h4 : b4 ≤ 1) (h2 : b2 ≤ 1) (h1 : b1 ≤ 1)
    (hc : c = 8 * s + 4 * b4 + 2 * b2 + b1)
    (hv : v = asr step 3 + b4 * step + b2 * asr step 1 + b1 * asr (asr step 1) 1) :
    (if c / 8 % 2 = 1 then -v else v) = imaDiff step c := by
  have c1 : c % 2 = 1 ↔ b1 = 1 := by omega
  have c2 : c / 2 % 2 = 1 ↔ b2 = 1 := by omega
  have c4 : c / 4 % 2 = 1 ↔ b4 = 1 := by omega
  have a2 : asr (asr step 1) 1 = asr step 2 := by simp only [asr]; omega
  rw [a2] at hv
  unfold imaDiff
  simp only [c1, c2, c4, bit_sel _ h1, bit_sel _ h2, bit_sel _ h4]
  split <;> omega

theorem imaQuant_diff (step diff : Int) :
    (if (imaQuant step diff).1 / 8 % 2 = 1 then -(imaQuant step diff).2 else (imaQuant step diff).2) = imaDiff step (imaQuant step diff).1 := by
  unfold imaQuant
  simp only
  by_cases h0 : diff < 0
  · simp only [h0, if_true]
    obtain ⟨b4, b2, b1, h4, h2, h1, e1, e2⟩ := quant3 (8, -diff, asr step 3, step)
    exact imaDiff_bits step _ _ 1 b4 b2 b1 h4 h2 h1 e1 e2
  · simp only [h0, if_false]
    obtain ⟨b4, b2, b1, h4, h2, h1, e1, e2⟩ := quant3 (0, diff, asr step 3, step)
    exact imaDiff_bits step _ _ 0 b4 b2 b1 h4 h2 h1 e1 e2

theorem ima_decoder_step (c : Ch) (h : IdxOk c) (x : Int) :
    clamp16 (c.prev + imaDiff (imaStepSize c.idx) (imaStep c x).2) = (imaStep c x).1.prev ∧
    clampImaStepIndex (wrapS 16 (c.idx + imaIndxAdjust (imaStep c x).2)) = (imaStep c x).1.idx ∧
    wrapS 16 (imaStep c x).1.prev = (imaStep c x).1.prev := by
  have hq := imaQuant_diff (imaStepSize c.idx) (x - c.prev)
  have hc := imaQuant_code_lt (imaStepSize c.idx) (x - c.prev)
  obtain ⟨a1, a2⟩ := imaIndxAdjust_eq _ hc ▸ imaIndexDelta_range _
  have hl := h.lo
  have hh := h.hi
  unfold imaStep
  simp only
  refine ⟨?_, ?_, ?_⟩
  · rw [← hq]
    split <;> congr 1 <;> omega
  · rw [Sf.Adpcm.wrapS16_id _ (by omega) (by omega)]
  · exact Sf.Adpcm.wrapS16_id _ (clamp16_range _).1 (clamp16_range _).2

/-- the encoder's reconstruction: the predictor after every sample -/
def imaRecon : Ch → List Int → List Int
  | _, [] => []
  | c, x :: xs => (imaStep c x).1.prev :: imaRecon (imaStep c x).1 xs

theorem ima_decoder_run : ∀ (xs : List Int) (c : Ch), IdxOk c →
    aiffDecodeLoop (imaRun c xs).2 c.prev c.idx = imaRecon c xs := by
  intro xs
  induction xs with
  | nil => intro c _; rfl
  | cons x xs ih =>
    intro c h
    obtain ⟨d1, d2, d3⟩ := ima_decoder_step c h x
    simp only [imaRun, aiffDecodeLoop, imaRecon]
    rw [d1, d2, d3, ih _ (imaStep_ok c x).1]

theorem wavEncLoop_mono : ∀ (xs : List Int) (k : Nat) (c c2 : Ch),
    wavEncLoop 1 k xs (c, c2) = (((imaRun c xs).1, c2), (imaRun c xs).2) := by
  intro xs
  induction xs with
  | nil => intro k c c2; rfl
  | cons x xs ih =>
    intro k c c2
    simp only [wavEncLoop, imaRun, Nat.lt_irrefl, gt_iff_lt, if_false, if_true]
    rw [ih]

theorem wavDecodeLoop_mono_tracks (xs : List Int) (k : Nat) (c : Ch) (i2 : Int) (hist : List Int) (h : IdxOk c) :
    wavDecodeLoop 1 k (imaRun c xs).2 (c.idx, i2) (c.prev :: hist) = imaRecon c xs := by
  have hm : (imaRun c xs).2.map (· % 16) = (imaRun c xs).2 :=
    (List.map_congr_left fun d hd => Nat.mod_eq_of_lt ((imaRun_ok xs c h).2.1 d hd)).trans (List.map_id _)
  -- both decode loops are the reference decoder on these codes
  rw [wavDecodeLoop_mono _ k c.idx i2 c.prev hist h.lo h.hi, ← aiffDecodeLoop_eq _ _ _ h.lo h.hi, hm, ima_decoder_run xs c h]

theorem nibPair_lo (a b : Nat) (ha : a < 16) : nibLo (nibPair a b) = a := by unfold nibLo nibPair; omega
theorem nibPair_hi (a b : Nat) (hb : b < 16) : nibHi (nibPair a b) = b := by unfold nibHi nibPair; omega

theorem wavUnpack1_pack1 : ∀ (m : Nat) (codes : List Nat), codes.length = 8 * m → (∀ c ∈ codes, c < 16) →
    wavUnpack1 (wavPack1 codes) = codes := by
  intro m
  induction m with
  | zero =>
    intro codes h _
    have : codes = [] := List.length_eq_zero_iff.mp (by simpa using h)
    subst this; rfl
  | succ m ih =>
    intro codes h hc
    match codes, h with
    | a0 :: a1 :: a2 :: a3 :: a4 :: a5 :: a6 :: a7 :: rest, h =>
      simp only [List.length_cons] at h
      simp only [List.forall_mem_cons] at hc
      obtain ⟨h0, h1, h2, h3, h4, h5, h6, h7, hr⟩ := hc
      simp only [wavPack1, wavUnpack1, nibPair_lo _ _ h0, nibPair_hi _ _ h1, nibPair_lo _ _ h2, nibPair_hi _ _ h3,
        nibPair_lo _ _ h4, nibPair_hi _ _ h5, nibPair_lo _ _ h6, nibPair_hi _ _ h7, ih rest (by omega) hr]
      rfl

theorem wavHeader_bytes (s idx : Int) (hs0 : -32768 ≤ s) (hs1 : s ≤ 32767) (hi0 : 0 ≤ idx) (hi1 : idx ≤ 88) (rest : List Byte) :
    wavHeader (wavHeaderBytes s idx ++ rest) 0 = (s, idx) := by
  unfold wavHeader wavHeaderBytes
  simp only [Nat.zero_mul, Nat.zero_add, List.cons_append, List.getD_cons_zero, List.getD_cons_succ]
  simp only [wrapU_cast, asr, show (2 : Int) ^ 8 = 256 by decide]
  rw [Int.emod_eq_of_lt hi0 (by omega : idx < 256), wrapS16_id idx (by omega) (by omega)]
  have hidx : clampImaStepIndex idx = idx := by
    unfold clampImaStepIndex
    rw [if_neg (by omega), if_neg (by omega)]
  rw [hidx]
  have hp : (if (s % 256 + s / 256 % 256 * 256) / 32768 % 2 = 1 then s % 256 + s / 256 % 256 * 256 - 65536
      else s % 256 + s / 256 % 256 * 256) = s := by
    split <;> omega
  rw [hp, wrapS16_id s hs0 hs1]

end Sf.AdpcmEnc.Proofs
