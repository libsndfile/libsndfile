/-
  SfProofs.AbsWriteBridgeBlock3Codec — `SnapFacts` (crash points, C11) for any LOSSY pair (`losslessLow = none`) of a codec that is an
  instance of the generic block writer `Sf.Block.Writer` (instantiated for G.72x and IMA / MS ADPCM, SfProps/C07Bridge3Snap.lean): the calls of a run push whole frames one by one
  (`frames`), a block is encoded and emitted every `spb` frames, the close function only appends; SFC_UPDATE_HEADER_NOW / an
  auto-mode write rewrites the header from the store length and leaves the partly filled block in the codec's buffer.

  `writer_snap_facts`: with the reader's block rule `framesAt (m · bpb) = m · spb` the image at a crash point re-opens with
  `floorToBlock N_k spb` frames (the frames in COMPLETE blocks flushed so far), its data region is a prefix of the closed one,
  so a reader that decodes front to back (`backPrefix`) reads back exactly that prefix of what the finished file reads back.
-/
import SfProofs.AbsWriteBridgeBlock3
import SfProofs.AbsWriteBridgeBlock3Writer
namespace Sf.AbsWriteBridge
open Sf Sf.Abs Sf.AbsWrite Sf.Geometry Sf.Block Sf.Block.Proofs Sf.Block.Snap

/-- a codec seen through the generic block writer -/
structure WCodec (σ : Type) where
  w : Writer σ
  s0 : σ
  bpb : Nat                                   -- bytes per encoded block
  frames : List LCall → List (List Int)       -- the frames the calls of a run push, in order
  closeSt : WState σ → WState σ               -- the codec's close function

def WCodec.after {σ : Type} (C : WCodec σ) (cs : List LCall) : WState σ := (C.frames cs).foldl (pushFrame C.w) (C.w.init C.s0)

structure WCodecFacts {σ : Type} (C : WCodec σ) (J : SnapJob) : Prop where
  wf : WWF C.w
  bpbPos : 0 < C.bpb
  chEq : C.w.ch = J.g.ch
  blockEq : J.g.block = C.w.spb
  framesLen : ∀ cs, (∀ c ∈ cs, c.good J.g.ch) → (C.frames cs).length = framesOf J.g.ch cs
  framesApp : ∀ a b, C.frames (a ++ b) = C.frames a ++ C.frames b
  /-- the store between two calls holds the whole blocks of the frames pushed so far (`flushed_length` for an encoder that
      always answers `bpb` bytes) -/
  storedLen : ∀ cs, (∀ c ∈ cs, c.good J.g.ch) → (C.after cs).bytes.length = (C.frames cs).length / C.w.spb * C.bpb
  closePrefix : ∀ st, ∃ e, (C.closeSt st).bytes = st.bytes ++ e
  /-- the closed data region and the store between calls ARE the writer's -/
  dataEq : ∀ cs, (∀ c ∈ cs, c.good J.g.ch) → J.data cs = (C.closeSt (C.after cs)).bytes
  storedEq : ∀ cs, (∀ c ∈ cs, c.good J.g.ch) → J.stored cs = (C.after cs).bytes
  /-- the reader's frame count for a region of whole blocks -/
  framesAtBlocks : ∀ m, J.framesAt (m * C.bpb) = m * C.w.spb

theorem writer_snap_facts {σ : Type} (C : WCodec σ) (J : SnapJob) (F : WCodecFacts C J) (base : BlockFacts J.toBlockJob)
    (lossy : losslessLow J.g.codec J.ty = none)
    (backPrefix : ∀ (d e : List Byte) (n n' : Nat), J.framesAt d.length * J.g.ch ≤ n → J.framesAt d.length * J.g.ch ≤ n' →
      (J.back d n).take (J.framesAt d.length * J.g.ch) = (J.back (d ++ e) n').take (J.framesAt d.length * J.g.ch)) :
    SnapFacts J := by
  have hgood : ∀ k, ∀ c ∈ J.split.take k, c.good J.g.ch := fun k c hc => base.calls2 c (List.mem_of_mem_take hc)
  apply snap_facts_of_stream J base
  · intro k _
    rw [F.storedEq _ (hgood k)]
    rw [F.storedLen _ (hgood k), F.framesAtBlocks, F.framesLen _ (hgood k), F.blockEq]
    rfl
  · intro k _
    rw [F.storedEq _ (hgood k), F.dataEq _ base.calls2]
    have hsplit : J.split = J.split.take k ++ J.split.drop k := (List.take_append_drop k J.split).symm
    have hfr : C.frames J.split = C.frames (J.split.take k) ++ C.frames (J.split.drop k) := by
      conv => lhs; rw [hsplit]
      exact F.framesApp _ _
    obtain ⟨e1, h1⟩ := F.closePrefix (C.after J.split)
    obtain ⟨e2, h2⟩ := fold_push_prefix C.w (C.frames (J.split.drop k)) (C.after (J.split.take k))
    refine ⟨e2 ++ e1, ?_⟩
    rw [h1]
    have : C.after J.split = (C.frames (J.split.drop k)).foldl (pushFrame C.w) (C.after (J.split.take k)) := by
      unfold WCodec.after; rw [hfr, List.foldl_append]
    rw [this, h2, List.append_assoc]
  · exact backPrefix
  · exact Or.inl lossy

/-- the frames of mono calls: one item each -/
def monoFrames (conv : Int → Int) (cs : List LCall) : List (List Int) := ((samples cs).map conv).map fun x => [x]

theorem monoFrames_uniform (conv : Int → Int) (cs : List LCall) : Uniform 1 (monoFrames conv cs) :=
  singles_uniform _

theorem monoFrames_append (conv : Int → Int) (a b : List LCall) : monoFrames conv (a ++ b) = monoFrames conv a ++ monoFrames conv b := by
  simp [monoFrames, samples]

theorem monoFrames_length (conv : Int → Int) (cs : List LCall) (h : ∀ c ∈ cs, c.good 1) : (monoFrames conv cs).length = framesOf 1 cs := by
  have := samples_length 1 cs h
  simp only [monoFrames, List.length_map]
  omega

end Sf.AbsWriteBridge
