/-
  The bridge for geometries that CLAIM a lossless caller type (`g.lossless ty = true`, what the
  C08 campaign runs with): after a write of lossless samples on a read/write handle — inside the data, or beyond its end
  where a sample of zero bytes decodes to 0 (`write_ref`'s `hz`) — the predicate goes on
  comparing reads with `writeAt 0 ref (wpos·cpf) cells`; this file proves that this IS the decoded data region of the store
  after the write (C01's round trip: decode ∘ encode = id on lossless in-range values, for whatever conversion settings).
-/
import SfProofs.AbsBridgeRead
import SfProofs.RdwrRun
namespace Sf.AbsBridge
open Sf

theorem encBuf_upTo (ty : Ty) (items : List Int) (p : Nat) :
    encBuf ty (AbsFile.upTo 0 items p) = Abs.upTo 0 (encBuf ty items) (p * Abs.cells ty) := by
  unfold AbsFile.upTo Abs.upTo
  rw [encBuf_append, encBuf_replicate_zero, encBuf_extract_zero, encBuf_size, Nat.sub_mul]

theorem encBuf_extract_to_end (ty : Ty) (l : List Int) (i : Nat) :
    (encBuf ty l).extract (i * Abs.cells ty) (encBuf ty l).size = encBuf ty (l.drop i) := by
  unfold encBuf
  rw [List.extract_toArray, List.size_toArray]
  congr 1
  show ((cellList ty l).drop (i * Abs.cells ty)).take ((cellList ty l).length - i * Abs.cells ty) = _
  rw [cellList_drop, List.take_of_length_le]
  rw [cellList_length, cellList_length, List.length_drop, Nat.sub_mul]
  exact Nat.le_refl _

theorem writeAt_encBuf (ty : Ty) (items vals : List Int) (p : Nat) :
    Abs.writeAt 0 (encBuf ty items) (p * Abs.cells ty) (encBuf ty vals) =
      encBuf ty (AbsFile.upTo 0 items p ++ vals ++ items.drop (p + vals.length)) := by
  unfold Abs.writeAt
  rw [← encBuf_upTo, encBuf_size ty vals, ← Nat.add_mul, encBuf_extract_to_end, encBuf_append, encBuf_append]

theorem write_region {h : H} {s : Store} {R W F : Nat} {hdr D : List Byte} (v : RwView h s R W F hdr D) (ty : Ty) (fc : Bool)
    (vals : List Int) (m : Nat) (hm0 : 0 < m) (hvl : vals.length = m * h.ch) :
    (stepAny h s ((ROp.write ty fc vals).toOp h)).1.enc = h.enc ∧
    (stepAny h s ((ROp.write ty fc vals).toOp h)).1.conv = h.conv ∧
    dataRegion (stepAny h s ((ROp.write ty fc vals).toOp h)).1 (stepAny h s ((ROp.write ty fc vals).toOp h)).2.1 =
      Sf.writeAt D (W * h.bw) (h.enc.encodeAll h.conv ty vals) := by
  have hch := v.ch_pos
  have hdiv : vals.length / h.ch = m := by rw [hvl]; exact Nat.mul_div_cancel _ hch
  obtain ⟨h', s', o, hdr', e, _, _, v'⟩ := v.write_view ty fc m vals hm0 hvl
  obtain ⟨fl, dl, off, de, pk, ef, _, _⟩ := stepWrite_fields h s ty fc (callCount h fc m) vals (callCount_pos h fc hm0 hch)
    (by rw [v.mode]; decide) (callCount_aligned h fc m)
  simp only [ROp.toOp, stepAny, hdiv]
  refine ⟨by rw [ef], by rw [ef], ?_⟩
  rw [e]; exact v'.dataRegion

theorem items_mul (nb chn x : Nat) : x * (nb * chn) = (x * chn) * nb := by rw [Nat.mul_comm nb, Nat.mul_assoc]

/-- after a write of lossless samples on a read/write handle — inside the data, or beyond it where zero bytes decode to
    zero — the decoded data region is `Abs.writeAt` of the cells written -/
theorem write_ref (hw : WidenExact) (h : H) (s : Store) (inv : RwInv h s) (ty : Ty) (fc : Bool) (vals : List Int)
    (m : Nat) (hm0 : 0 < m) (hvl : vals.length = m * h.ch) (he : h.enc.wf) (hv : ∀ v ∈ vals, ty.inRange v)
    (hl : ∀ v ∈ vals, lossless h.enc ty v) (hz : h.wpos ≤ h.frames ∨ h.enc.decode h.conv ty (zeros h.enc.nbytes) = 0) :
    absRef (stepAny h s ((ROp.write ty fc vals).toOp h)).1 (stepAny h s ((ROp.write ty fc vals).toOp h)).2.1 ty =
      Abs.writeAt 0 (absRef h s ty) (h.wpos.toNat * (h.ch * Abs.cells ty)) (encBuf ty vals) := by
  obtain ⟨R, W, F, hdr, D, v⟩ := inv
  have hnb := v.nb_pos
  obtain ⟨henc, hconv, hD'⟩ := write_region v ty fc vals m hm0 hvl
  have hil := items_length h ty D F hnb v.dlen
  unfold absRef
  rw [hD', henc, hconv, v.dataRegion, H.bw, items_mul,
    Enc.decodeAll_writeAt _ _ _ hnb D _ (F * h.ch) _ vals.length (by rw [v.dlen, H.bw, items_mul]) (Enc.encodeAll_length_cw ..),
    Enc.decodeAll_encodeAll_of _ hnb _ _ _ vals (fun v hm => Enc.sample_roundtrip hw _ he _ _ ty v (hv v hm) (hl v hm)),
    AbsFile.upTo_hole _ 0 _ _ (hz.imp (fun hle => by rw [hil]; exact Nat.mul_le_mul_right _ (by have := v.wpos; have := v.frames; omega)) id),
    v.wpos, Int.toNat_natCast, ← Nat.mul_assoc, writeAt_encBuf]

end Sf.AbsBridge
