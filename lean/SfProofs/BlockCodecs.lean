/-
  Helper lemmas for SfProps/C01Block.lean: the sample packings of PAF24
  and SDS, the VOX write loop before the repair of KF-VOX-ODD.
-/
import Mathlib.Tactic.NormNum
import SfModel.Paf24
import SfModel.Sds
import SfModel.Oki
import SfProofs.Bytes
namespace Sf.Block.Proofs
open Sf

/-! ### PAF24: three bytes hold bits 8..31 -/

theorem paf24_sampleBytes (x : Int) :
    Paf24.sampleBytes x = [wrapU 24 (asr x 8) % 256, wrapU 24 (asr x 8) / 256 % 256, wrapU 24 (asr x 8) / 256 / 256 % 256] := rfl

theorem paf24_sample (x : Int) (h1 : -2147483648 ≤ x) (h2 : x ≤ 2147483647) :
    Paf24.unpackSample (wrapU 24 (asr x 8) % 256) (wrapU 24 (asr x 8) / 256 % 256) (wrapU 24 (asr x 8) / 256 / 256 % 256)
      = x / 256 * 256 := by
  have hu : (wrapU 24 (asr x 8) : Int) = x / 256 % 16777216 := by
    unfold wrapU asr
    omega
  generalize wrapU 24 (asr x 8) = u at hu ⊢
  have hb : u % 256 * 256 + u / 256 % 256 * 65536 + u / 256 / 256 % 256 * 16777216 = u * 256 := by omega
  unfold Paf24.unpackSample sext
  rw [hb]
  norm_num
  split <;> omega

/-! ### SDS: w seven-bit groups hold the top 7w bits (offset binary) -/

/-- seven more bits: the prefix `u / (128 k)` and the group `u / k % 128` make the prefix `u / k` -/
theorem next7 (u k k' : Nat) (hk : k' = 128 * k) : u / k' * k' + u / k % 128 * k = u / k * k := by
  rw [hk, Nat.mul_comm 128 k, ← Nat.div_div_eq_div_mul, Nat.mul_comm k 128, ← Nat.mul_assoc, ← Nat.add_mul,
    Nat.div_add_mod']

/-- the offset `2^31` is a multiple of the unit `2^k`, so cutting to the unit commutes with taking the offset off -/
theorem offset_trunc (k : Nat) (hk : k ≤ 31) (u : Nat) (x : Int) (hu : (u : Int) = x + 2147483648) (h1 : -2147483648 ≤ x)
    (h2 : x ≤ 2147483647) : wrapS 32 (((u / 2 ^ k * 2 ^ k : Nat) : Int) - 2147483648) = x / 2 ^ k * 2 ^ k := by
  have hK : (0 : Int) < 2 ^ k := Int.pow_pos (by decide)
  have hq : (2 : Int) ^ (31 - k) * 2 ^ k = 2147483648 := by
    rw [← Int.pow_add, Nat.sub_add_cancel hk]; rfl
  generalize (2 : Int) ^ (31 - k) = q at hq
  have hle : x / 2 ^ k * 2 ^ k ≤ x := Int.ediv_mul_le x (Int.ne_of_gt hK)
  have hge : -q * 2 ^ k ≤ x / 2 ^ k * 2 ^ k :=
    Int.mul_le_mul_of_nonneg_right ((Int.le_ediv_iff_mul_le hK).mpr (by rw [Int.neg_mul, hq]; exact h1)) (Int.le_of_lt hK)
  push_cast
  rw [hu]
  rw [← hq, Int.add_mul_ediv_right _ _ (Int.ne_of_gt hK), Int.add_mul, Int.add_sub_cancel]
  rw [Int.neg_mul, hq] at hge
  exact wrapS_of_range 32 _ (by omega) (by omega)

/-- Each group appends seven bits to the prefix of the offset-binary value (`next7`). -/
theorem sds_sample (w : Nat) (hw : 2 ≤ w ∧ w ≤ 4) (x : Int) (h1 : -2147483648 ≤ x) (h2 : x ≤ 2147483647) :
    Sds.decSample (Sds.encSample w x) = x / 2 ^ (32 - 7 * w) * 2 ^ (32 - 7 * w) := by
  have hu : (wrapU 32 (x + 2147483648) : Int) = x + 2147483648 := by
    unfold wrapU
    rw [Int.emod_eq_of_lt (by omega) (by omega)]
    omega
  obtain rfl | rfl | rfl : w = 2 ∨ w = 3 ∨ w = 4 := by omega
  all_goals
    simp only [Sds.decSample, Sds.encSample, List.take, List.getD_cons_zero, List.getD_cons_succ, List.getD_nil]
    generalize wrapU 32 (x + 2147483648) = u at hu ⊢
    have h0 : u / 2 ^ 25 % 128 = u / 2 ^ 25 := by omega
    simp only [h0, next7 u (2 ^ 18) (2 ^ 25) (by norm_num), next7 u (2 ^ 11) (2 ^ 18) (by norm_num),
      next7 u (2 ^ 4) (2 ^ 11) (by norm_num), Nat.zero_mul, Nat.add_zero]
    exact offset_trunc _ (by omega) u x hu h1 h2

/-- `vox_write_block` before the repair of KF-VOX-ODD: on an even count it reported exactly that count (no pad sample) -/
theorem vox_writeBlock_even : ∀ (fuel : Nat) (st : Oki.St) (xs : List Int) (n : Nat), n % 2 = 0 → n < fuel →
    (Oki.writeBlockOld fuel st xs n).2.2 = n := by
  intro fuel
  induction fuel with
  | zero => intro st xs n _ h; omega
  | succ fuel ih =>
    intro st xs n he hf
    unfold Oki.writeBlockOld
    by_cases hn : n = 0
    · simp [hn]
    · simp only [hn, if_false]
      have hpc : min 512 n % 2 = 0 := by omega
      simp only [hpc]
      simp only [Nat.zero_ne_one, if_false]
      have := ih (Oki.encPairs st (List.take (min 512 n) xs)).1 (List.drop (min 512 n) xs) (n - min 512 n) (by omega) (by omega)
      simp only [this]
      omega

end Sf.Block.Proofs
