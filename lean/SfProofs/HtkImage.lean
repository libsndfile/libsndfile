/-
  SfProofs.HtkImage — `Sf.Htk.parse` on the images the HTK writer leaves in the store.
-/
import SfModel.Htk
import SfProofs.Small2Session
namespace Sf.Htk
open Sf Sf.Small2

theorem lawful (sr : Nat) : Lawful (fmt sr) where
  hlen := by intro f; simp [fmt, hdr]
  hindep := by intro n f g; rfl

theorem sampleCount_nat (D : Nat) : sampleCount ((12 + D : Nat) : Int) = ((D / 2 : Nat) : Int) := by
  unfold sampleCount
  split
  · push_cast; omega
  · have : D = 0 := by omega
    subst this; rfl

theorem calcHdr_eq (sr D : Nat) : calcHdr (fmt sr) (12 + D) = be32 (D / 2 : Nat) ++ be32 (period sr) ++ be32 0x20000 := by
  show hdr sr _ = _
  unfold hdr
  show be32 (sampleCount ((12 + D : Nat) : Int)) ++ _ ++ _ = _
  rw [sampleCount_nat]

theorem period_le (sr : Nat) : period sr ≤ 10000000 := Nat.div_le_self _ _

/-- none of the tests in front of the HTK test answers "HTK" -/
theorem preHtk_ne_htk (a b c : List Byte) : preHtk a b c ≠ some (.fmt 0x100000) := by
  intro h
  unfold preHtk at h
  obtain ⟨r, hr, hres⟩ := Option.map_eq_some_iff.mp h
  have hm : r.res ∈ rules.map (·.res) := List.mem_map_of_mem (List.mem_of_find?_eq_some hr)
  rw [hres] at hm
  revert hm; decide

/-- the image an HTK writer leaves: sample count, period, the marker word, the audio -/
def image (sr : Nat) (data : List Byte) : List Byte := be32 (data.length / 2 : Nat) ++ (be32 (period sr) ++ (be32 0x20000 ++ data))

theorem image_length (sr : Nat) (data : List Byte) : (image sr data).length = 12 + data.length := by simp [image]; omega

/-- the image `header ++ data` of an HTK writer, seen by the type detection -/
theorem guess_image (sr : Nat) (data : List Byte) (he : data.length % 2 = 0) (h31 : 12 + data.length < 2 ^ 31) :
    guess (image sr data) =
      match preHtk (be32 (data.length / 2 : Nat)) (be32 (period sr)) [0, 2, 0, 0] with
      | some g => some g
      | none => some (.fmt 0x100000) := by
  unfold guess image
  simp only [drop_app_skip, take_app_head, be32_length, Nat.reduceSub, Nat.reduceLeDiff, Nat.le_refl, List.drop_zero]
  rw [show be32 0x20000 = [0, 2, 0, 0] by decide]
  cases preHtk (be32 (data.length / 2 : Nat)) (be32 (period sr)) [0, 2, 0, 0] with
  | some g => rfl
  | none =>
    have hN : data.length / 2 < 2 ^ 32 := by omega
    simp only [ofBE_be32, wrapU_of_lt 32 _ hN, List.length_append, be32_length, List.length_cons, List.length_nil]
    have : 2 * (data.length / 2) + 12 = 4 + (4 + (0 + 1 + 1 + 1 + 1 + data.length)) := by omega
    simp [this]

/-- htk_read_header on the image -/
theorem readHeader_image (sr : Nat) (data : List Byte) (he : data.length % 2 = 0) (h31 : 12 + data.length < 2 ^ 31) :
    readHeader (image sr data) =
      .ok { ch := 1, fmt := 0x100002, sr := quant sr, frames := data.length / 2 } := by
  have hlen := image_length sr data
  have hN : data.length / 2 < 2 ^ 32 := by omega
  have hP : period sr < 2 ^ 32 := by have := period_le sr; omega
  unfold readHeader
  rw [hlen]
  unfold image
  simp only [cut_append _ _ 4 (be32_length _), ofBE_be32, wrapU_of_lt 32 _ hN, wrapU_of_lt 32 _ hP]
  rw [sext_of_lt 32 (data.length / 2) (by omega), sext_of_lt 32 (period sr) (by have := period_le sr; omega)]
  have h1 : ¬ (2 * ((data.length / 2 : Nat) : Int) + 12 ≠ ((12 + data.length : Nat) : Int)) := by push_cast; omega
  have h2 : ¬ (wrapU 32 0x20000 ≠ 0x20000) := by decide
  rw [if_neg h1, if_neg h2]
  have hfr : (framesOf ((12 + data.length : Nat) : Int) 12 0 2).toNat = data.length / 2 := framesOf_nat 12 data.length 2 (by decide)
  by_cases hp : period sr > 0
  · have hq : quant sr = 10000000 / period sr := by simp [quant, hp]
    have hpi : ((period sr : Nat) : Int) > 0 := by exact_mod_cast hp
    have hdiv : (10000000 : Int) / ((period sr : Nat) : Int) = ((10000000 / period sr : Nat) : Int) :=
      (Int.natCast_ediv 10000000 (period sr)).symm
    have hge : 1 ≤ 10000000 / period sr := by
      have := period_le sr
      exact (Nat.le_div_iff_mul_le hp).2 (by omega)
    have h3 : ¬ (((10000000 / period sr : Nat) : Int) < 1) := by omega
    rw [if_pos hpi, hdiv, if_neg h3, hfr, hq, Int.toNat_natCast]
  · have hq : quant sr = 16000 := by simp [quant, hp]
    have hpi : ¬ (((period sr : Nat) : Int) > 0) := by omega
    have h3 : ¬ ((16000 : Int) < 1) := by decide
    rw [if_neg hpi, if_neg h3, hfr, hq]; rfl

/-- **sf_open on the image**: the HTK reader is reached exactly when none of the marker tests in front of the HTK test takes
    the sample count and the period for another container's marker -/
theorem parse_image (sr : Nat) (data : List Byte) (he : data.length % 2 = 0) (h31 : 12 + data.length < 2 ^ 31) :
    parse (image sr data) =
      if preHtk (be32 (data.length / 2 : Nat)) (be32 (period sr)) [0, 2, 0, 0] = none
      then .ok { ch := 1, fmt := 0x100002, sr := quant sr, frames := data.length / 2 } else .unmodelled := by
  unfold parse
  rw [image_length, if_neg (by omega), if_neg (by omega), guess_image sr _ he h31]
  cases hp : preHtk (be32 (data.length / 2 : Nat)) (be32 (period sr)) [0, 2, 0, 0] with
  | none => exact readHeader_image sr _ he h31
  | some g =>
    rw [if_neg (by simp)]
    split
    · rename_i heq
      exact absurd (Option.some.inj heq ▸ hp) (preHtk_ne_htk _ _ _)
    · rfl

end Sf.Htk
