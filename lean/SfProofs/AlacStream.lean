/-
  ALAC wrapper (SfModel/AlacFile.lean): the read side ACROSS packet boundaries (helpers of SfProps/C06AlacStream.lean).
  A good file is a list of packets `pkts` (each 1 … maxPacket bytes) stored back to back, with the table `sizesOf pkts extra`
  (`extra` = nothing, or the zero entry a padded 'pakt' chunk decodes to).  `At cd pkts r pos` says where in the decoded
  stream `streamOf cd pkts` the reader state `r` stands: between two packets, inside the packet decoded last, or behind the
  table.  `readLoop_stream`: from such a state a read of `len` frames delivers `stream[pos .. pos+len)` (cut at the end of the
  stream) and leaves the reader `At` the new position -- by induction on the fuel, for every codec.
-/
import SfModel.AlacFile
namespace Sf.AlacStream
open Sf Sf.Alac

variable {σ α : Type}

def sizesOf (pkts : List (List Byte)) (extra : List Nat) : List Nat := pkts.map List.length ++ extra
def streamOf (cd : Codec σ α) (pkts : List (List Byte)) : List α := (pkts.map cd.dec).flatten

structure Good (pkts : List (List Byte)) (extra : List Nat) : Prop where
  size : ∀ p ∈ pkts, 0 < p.length ∧ p.length ≤ maxPacket
  extra0 : extra = [] ∨ extra = [0]

/-- where the reader stands in the decoded stream -/
def At (cd : Codec σ α) (pkts : List (List Byte)) (r : R α) (pos : Nat) : Prop :=
  (∃ done todo, pkts = done ++ todo ∧ r.cur = done.length ∧ r.inPos = done.flatten.length ∧ r.ftb ≤ r.part ∧
      pos = (streamOf cd done).length) ∨
  (∃ done p todo, pkts = done ++ p :: todo ∧ r.cur = done.length + 1 ∧ r.inPos = done.flatten.length + p.length ∧
      r.block = cd.dec p ∧ r.ftb = (cd.dec p).length ∧ r.part ≤ r.ftb ∧ pos = (streamOf cd done).length + r.part) ∨
  (pkts.length < r.cur ∧ r.ftb ≤ r.part ∧ pos = (streamOf cd pkts).length)

theorem streamOf_append (cd : Codec σ α) (a b : List (List Byte)) : streamOf cd (a ++ b) = streamOf cd a ++ streamOf cd b := by
  simp [streamOf]

theorem streamOf_cons (cd : Codec σ α) (p : List Byte) (b : List (List Byte)) : streamOf cd (p :: b) = cd.dec p ++ streamOf cd b := by
  simp [streamOf]

theorem readLoop_succ (cd : Codec σ α) (io : Alac.IO) (fuel : Nat) (r : R α) (len : Nat) (hl : len ≠ 0) :
    readLoop cd io (fuel + 1) r len =
      (let d := if r.part ≥ r.ftb then decodeBlock cd io r else (r, true)
       if d.2 = false then (d.1, [])
       else
         let rc := min (d.1.ftb - d.1.part) len
         let res := readLoop cd io fuel { d.1 with part := d.1.part + rc } (len - rc)
         (res.1, (d.1.block.drop d.1.part).take rc ++ res.2)) := by
  rw [readLoop, if_neg hl]
  generalize (if r.part ≥ r.ftb then decodeBlock cd io r else (r, true)) = d
  obtain ⟨d1, d2⟩ := d
  cases d2 <;> simp

theorem decodeBlock_good (cd : Codec σ α) (io : Alac.IO) (r : R α) (sz : Nat) (hc : r.cur < r.sizes.length)
    (hs : r.sizes.getD r.cur 0 = sz) (h0 : 0 < sz) (hm : sz ≤ maxPacket) (hio : (io r.inPos sz).length = sz) :
    decodeBlock cd io r = ({ r with cur := r.cur + 1, inPos := r.inPos + sz, block := cd.dec (io r.inPos sz), ftb := (cd.dec (io r.inPos sz)).length, part := 0 }, true) := by
  unfold decodeBlock
  rw [if_neg (by omega)]
  simp only [hs]
  rw [if_neg (by omega), if_neg (by omega), if_neg (by omega)]

theorem decodeBlock_zero (cd : Codec σ α) (io : Alac.IO) (r : R α) (hc : r.cur < r.sizes.length) (hs : r.sizes.getD r.cur 0 = 0) :
    decodeBlock cd io r = ({ r with cur := r.cur + 1 }, false) := by
  unfold decodeBlock
  rw [if_neg (by omega)]
  simp only [hs]
  simp

theorem decodeBlock_end (cd : Codec σ α) (io : Alac.IO) (r : R α) (h : r.cur ≥ r.sizes.length) : decodeBlock cd io r = (r, false) := by
  unfold decodeBlock; rw [if_pos h]

theorem fileIO_packet (done : List (List Byte)) (p : List Byte) (todo : List (List Byte)) :
    fileIO (done ++ p :: todo).flatten done.flatten.length p.length = p := by
  simp [fileIO]

theorem sizes_getD (done : List (List Byte)) (p : List Byte) (todo : List (List Byte)) (extra : List Nat) :
    (sizesOf (done ++ p :: todo) extra).getD done.length 0 = p.length := by
  simp [sizesOf, List.getD_eq_getElem?_getD]

/-- the common tail of both branches of `readLoop_stream`: the reader stands inside the decoded packet `p` (`hcur` … `hpart`), copies
    `rc` of its frames and goes round again; `ih` is the induction hypothesis of `readLoop_stream`, handed in -/
theorem inside_step (cd : Codec σ α) (pkts : List (List Byte)) (io : Alac.IO) (fuel : Nat) (r1 : R α) (len : Nat)
    (done : List (List Byte)) (p : List Byte) (todo : List (List Byte)) (hp : pkts = done ++ p :: todo)
    (hcur : r1.cur = done.length + 1) (hin : r1.inPos = done.flatten.length + p.length) (hb : r1.block = cd.dec p)
    (hf : r1.ftb = (cd.dec p).length) (hpart : r1.part ≤ r1.ftb)
    (ih : ∀ (r : R α) (len pos : Nat), r.sizes = r1.sizes → At cd pkts r pos → (r.sizes.length - r.cur) + len < fuel →
      (readLoop cd io fuel r len).2 = ((streamOf cd pkts).drop pos).take len ∧ (readLoop cd io fuel r len).1.sizes = r.sizes ∧
      At cd pkts (readLoop cd io fuel r len).1 (pos + (readLoop cd io fuel r len).2.length))
    (hfuel : (r1.sizes.length - r1.cur) + (len - min (r1.ftb - r1.part) len) < fuel) :
    let rc := min (r1.ftb - r1.part) len
    let res := readLoop cd io fuel { r1 with part := r1.part + rc } (len - rc)
    let pos := (streamOf cd done).length + r1.part
    (r1.block.drop r1.part).take rc ++ res.2 = ((streamOf cd pkts).drop pos).take len ∧ res.1.sizes = r1.sizes ∧
      At cd pkts res.1 (pos + ((r1.block.drop r1.part).take rc ++ res.2).length) := by
  intro rc res pos
  have hrc : rc ≤ r1.ftb - r1.part := Nat.min_le_left _ _
  have hrl : rc ≤ len := Nat.min_le_right _ _
  have hat : At cd pkts { r1 with part := r1.part + rc } (pos + rc) :=
    Or.inr (Or.inl ⟨done, p, todo, hp, hcur, hin, hb, hf, by show r1.part + rc ≤ r1.ftb; omega, by show pos + rc = _ + (r1.part + rc); omega⟩)
  obtain ⟨i1, i2, i3⟩ := ih { r1 with part := r1.part + rc } (len - rc) (pos + rc) rfl hat hfuel
  have hout : (r1.block.drop r1.part).take rc = ((streamOf cd pkts).drop pos).take rc := by
    have hs : (streamOf cd pkts).drop pos = (cd.dec p).drop r1.part ++ streamOf cd todo := by
      rw [hp, streamOf_append, streamOf_cons, List.drop_append, List.drop_append]
      have e1 : List.drop pos (streamOf cd done) = [] := List.drop_of_length_le (by omega)
      have e2 : pos - (streamOf cd done).length = r1.part := by omega
      have e3 : r1.part - (cd.dec p).length = 0 := by omega
      rw [e1, e2, e3]; simp
    rw [hs, hb, List.take_append_of_le_length]
    rw [List.length_drop]; omega
  refine ⟨?_, i2, ?_⟩
  · show _ ++ res.2 = _
    rw [hout, i1]
    have : len = rc + (len - rc) := by omega
    conv => rhs; rw [this, List.take_add, List.drop_drop]
  · have hl : ((r1.block.drop r1.part).take rc).length = rc := by
      rw [List.length_take, List.length_drop, hb]; omega
    rw [List.length_append, hl, ← Nat.add_assoc]
    exact i3

theorem at_boundary (cd : Codec σ α) (pkts : List (List Byte)) (r : R α) (pos : Nat) (h : At cd pkts r pos) (hb : r.ftb ≤ r.part) :
    (∃ done todo, pkts = done ++ todo ∧ r.cur = done.length ∧ r.inPos = done.flatten.length ∧ pos = (streamOf cd done).length) ∨
    (pkts.length < r.cur ∧ pos = (streamOf cd pkts).length) := by
  rcases h with ⟨done, todo, h1, h2, h3, _, h5⟩ | ⟨done, p, todo, h1, h2, h3, _, h5, h6, h7⟩ | ⟨h1, _, h3⟩
  · exact Or.inl ⟨done, todo, h1, h2, h3, h5⟩
  · refine Or.inl ⟨done ++ [p], todo, by simp [h1], by simp [h2], by simp [h3], ?_⟩
    rw [streamOf_append, streamOf_cons, List.length_append, List.length_append, h7]
    simp [streamOf]; omega
  · exact Or.inr ⟨h1, h3⟩

theorem drop_all_take (l : List α) (n len : Nat) (h : l.length ≤ n) : (l.drop n).take len = [] := by
  rw [List.drop_of_length_le h]; exact List.take_nil

/-- C06 across packets: from a state that stands at stream position `pos`, the copy loop of alac_read_* delivers
    `stream[pos .. pos+len)` (cut at the end of the stream), keeps the table and leaves the reader at the new position -/
theorem readLoop_stream (cd : Codec σ α) (pkts : List (List Byte)) (extra : List Nat) (hg : Good pkts extra) :
    ∀ (fuel : Nat) (r : R α) (len pos : Nat), r.sizes = sizesOf pkts extra → At cd pkts r pos → (r.sizes.length - r.cur) + len < fuel →
      (readLoop cd (fileIO pkts.flatten) fuel r len).2 = ((streamOf cd pkts).drop pos).take len ∧
      (readLoop cd (fileIO pkts.flatten) fuel r len).1.sizes = r.sizes ∧
      At cd pkts (readLoop cd (fileIO pkts.flatten) fuel r len).1 (pos + (readLoop cd (fileIO pkts.flatten) fuel r len).2.length) := by
  intro fuel
  induction fuel with
  | zero => intro r len pos _ _ h; omega
  | succ fuel ih =>
    intro r len pos hs hat hfuel
    by_cases hl : len = 0
    · subst hl
      rw [readLoop]
      simp only [if_true, List.take_zero, List.length_nil, Nat.add_zero]
      exact ⟨trivial, trivial, hat⟩
    rw [readLoop_succ cd _ fuel r len hl]
    have hslen : r.sizes.length = pkts.length + extra.length := by rw [hs]; simp [sizesOf]
    have ih' : ∀ (r' : R α) (len pos : Nat), r'.sizes = sizesOf pkts extra → At cd pkts r' pos → (r'.sizes.length - r'.cur) + len < fuel → _ := ih
    by_cases hbd : r.part ≥ r.ftb
    · rw [if_pos hbd]
      rcases at_boundary cd pkts r pos hat hbd with ⟨done, todo, h1, h2, h3, h5⟩ | ⟨h1, h3⟩
      · cases todo with
        | nil =>
          -- behind the last packet: the table is exhausted, or its next entry is the zero of a padded chunk
          rw [List.append_nil] at h1
          subst h1
          have hend : ((streamOf cd pkts).drop pos).take len = [] := drop_all_take _ _ _ (by omega)
          rcases hg.extra0 with he | he
          · rw [decodeBlock_end cd _ r (by rw [hslen, he]; simp; omega)]
            simp only [if_true, List.length_nil, Nat.add_zero]
            exact ⟨hend.symm, trivial, hat⟩
          · rw [decodeBlock_zero cd _ r (by rw [hslen, he]; simp; omega)
              (by rw [hs, h2, he]; simp [sizesOf, List.getD_eq_getElem?_getD])]
            simp only [if_true, List.length_nil, Nat.add_zero]
            exact ⟨hend.symm, trivial, Or.inr (Or.inr ⟨by show pkts.length < r.cur + 1; omega, hbd, h5⟩)⟩
        | cons p todo =>
          have hp := hg.size p (by rw [h1]; simp)
          have hsz : r.sizes.getD r.cur 0 = p.length := by rw [hs, h2, h1]; exact sizes_getD done p todo extra
          have hio : fileIO pkts.flatten r.inPos p.length = p := by rw [h1, h3]; exact fileIO_packet done p todo
          rw [decodeBlock_good cd _ r p.length (by rw [hslen, h1, h2]; simp; omega) hsz hp.1 hp.2 (by rw [hio]), hio]
          simp only [Bool.true_eq_false, if_false]
          have := inside_step cd pkts (fileIO pkts.flatten) fuel
            { r with cur := r.cur + 1, inPos := r.inPos + p.length, block := cd.dec p, ftb := (cd.dec p).length, part := 0 } len
            done p todo h1 (by show r.cur + 1 = _; omega) (by show r.inPos + p.length = _; omega) rfl rfl (Nat.zero_le _)
            (fun r' len' pos' hs' => ih' r' len' pos' (hs'.trans hs))
            (by show (r.sizes.length - (r.cur + 1)) + _ < fuel
                have : r.cur < r.sizes.length := by rw [hslen, h1, h2]; simp; omega
                omega)
          simp only [Nat.add_zero] at this
          rw [← h5] at this
          exact this
      · rw [decodeBlock_end cd _ r (by rcases hg.extra0 with he | he <;> rw [hslen, he] <;> simp <;> omega)]
        simp only [if_true, List.length_nil, Nat.add_zero]
        exact ⟨(drop_all_take _ _ _ (by omega)).symm, trivial, hat⟩
    · rw [if_neg hbd]
      simp only [Bool.true_eq_false, if_false]
      rcases hat with ⟨_, _, _, _, _, h4, _⟩ | ⟨done, p, todo, h1, h2, h3, h4, h5, h6, h7⟩ | ⟨_, h2, _⟩
      · omega
      · have := inside_step cd pkts (fileIO pkts.flatten) fuel r len done p todo h1 h2 h3 h4 h5 h6
          (fun r' len' pos' hs' => ih' r' len' pos' (hs'.trans hs))
          (by have : 1 ≤ min (r.ftb - r.part) len := by
                rw [Nat.le_min]; omega
              omega)
        rw [← h7] at this
        exact this
      · omega

end Sf.AlacStream
