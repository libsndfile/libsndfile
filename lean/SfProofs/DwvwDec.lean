/-
  DWVW round trip through the decoder state machine (`fill` / `getBits` / `getDwm` / `decStep` / `decLoop`):
  what the bit loader delivers when the reservoir and the unread bytes start with a known bit string, one decoded
  sample against `encSample`, the loop against `codes`.  The file written by `encodeAll` read back by `decodeAll` is
  `Sf.C01Dwvw.dwvw_roundtrip` (SfProps/C01Dwvw.lean).  Also two facts about the encoder alone: `endSt_ok`, `quant_exact`.
-/
import SfProofs.DwvwEnc
import SfProofs.DwvwCalls
namespace Sf.Dwvw.Proofs
open Sf Sf.Dwvw

/-- all bits the decoder can still see: the reservoir, then the unread bytes -/
def avail (d : DSt) : List Bool := d.pend ++ bytesBits d.inp

/-- the decoder sees `s`, possibly followed by zero bits; the zero bits shifted in behind the end of the input
    (`pad_bits` of them, and only once the input is exhausted) are among those -/
def Sees (d : DSt) (s : List Bool) : Prop := ∃ j, avail d = s ++ zerosB j ∧ d.padBits ≤ j ∧ (0 < d.padBits → d.inp = [])

/-- `b.end == 0` after a refill means the input is exhausted -/
def Inv (d : DSt) : Prop := d.endZero = true → d.inp = []

theorem zerosB_append (a b : Nat) : zerosB a ++ zerosB b = zerosB (a + b) := by
  simp [zerosB, List.replicate_append_replicate]

theorem zerosB_length (a : Nat) : (zerosB a).length = a := by simp [zerosB]

/-- `e` is `d` after the bits in front of `rest` have been taken: it sees `rest`, the codec state is untouched, the
    end flag stays sound -/
def Next (d e : DSt) (rest : List Bool) : Prop := Sees e rest ∧ e.ldw = d.ldw ∧ e.last = d.last ∧ (Inv d → Inv e)

theorem Next.trans {d e f : DSt} {r r' : List Bool} (h1 : Next d e r) (h2 : Next e f r') : Next d f r' :=
  ⟨h2.1, h2.2.1.trans h1.2.1, h2.2.2.1.trans h1.2.2.1, fun h => h2.2.2.2 (h1.2.2.2 h)⟩

/-- The bit loader succeeds, with `n` bits in the reservoir, whenever the request cannot meet the one failing case of `fill`
    (end of the input and `n < 8`): `n` real bits are left, or `n ≥ 8` and zero bits are shifted in. -/
theorem fill_spec (f n : Nat) (d : DSt) (hf : n ≤ d.pend.length + 8 * f) (hn : n ≤ (avail d).length ∨ 8 ≤ n) :
    ∃ e, fill f n d = (e, true) ∧ n ≤ e.pend.length ∧
      (∃ j, avail e = avail d ++ zerosB j ∧ e.padBits = d.padBits + j ∧
        ((0 < d.padBits → d.inp = []) → (0 < e.padBits → e.inp = []))) ∧
      e.ldw = d.ldw ∧ e.last = d.last ∧ ((Inv d ∨ d.pend.length < n) → Inv e) := by
  induction f generalizing d with
  | zero =>
    refine ⟨d, rfl, by omega, ⟨0, by simp [zerosB], rfl, id⟩, rfl, rfl, ?_⟩
    rintro (h | h)
    · exact h
    · omega
  | succ f ih =>
    obtain ⟨ldw, last, pend, inp, ez, pb⟩ := d
    simp only [fill]
    by_cases h : pend.length ≥ n
    · rw [if_pos h]
      refine ⟨_, rfl, h, ⟨0, by simp [zerosB], rfl, id⟩, rfl, rfl, ?_⟩
      rintro (h' | h')
      · exact h'
      · omega
    · rw [if_neg h]
      cases inp with
      | nil =>
        simp only
        have h8 : ¬ n < 8 := by
          rcases hn with hn | hn
          · simp [avail, bytesBits] at hn; omega
          · omega
        rw [if_neg h8]
        obtain ⟨e, he, a2, ⟨j, a3, a3p, a3i⟩, a4, a5, a6⟩ :=
          ih { ldw := ldw, last := last, pend := pend ++ zerosB 8, inp := [], endZero := true, padBits := pb + 8 }
            (by simp [zerosB_length] at hf ⊢; omega) (Or.inr (by omega))
        refine ⟨e, he, a2, ⟨8 + j, ?_, ?_, ?_⟩, a4, a5, ?_⟩
        · rw [a3]; simp [avail, bytesBits, ← zerosB_append]
        · rw [a3p]; simp only; omega
        · intro _; exact a3i (fun _ => rfl)
        · intro _; exact a6 (Or.inl (fun _ => rfl))
      | cons b rest =>
        simp only
        obtain ⟨e, he, a2, ⟨j, a3, a3p, a3i⟩, a4, a5, a6⟩ :=
          ih { ldw := ldw, last := last, pend := pend ++ bitsMSB 8 b, inp := rest, endZero := false, padBits := pb }
            (by simp [bitsMSB_length] at hf ⊢; omega)
            (by
              rcases hn with hn | hn
              · left; simp [avail, bytesBits, bitsMSB_length] at hn ⊢; omega
              · exact Or.inr hn)
        refine ⟨e, he, a2, ⟨j, ?_, a3p, ?_⟩, a4, a5, ?_⟩
        · rw [a3]; simp [avail, bytesBits]
        · intro hpi
          apply a3i
          intro hpb
          have := hpi hpb
          simp at this
        · intro _; exact a6 (Or.inl (fun h => by simp at h))

theorem append_split {α : Type} (p q a r : List α) (h : p ++ q = a ++ r) (hl : a.length ≤ p.length) :
    p.take a.length = a ∧ p.drop a.length ++ q = r := by
  have h1 := congrArg (List.take a.length) h
  have h2 := congrArg (List.drop a.length) h
  rw [List.take_append_of_le_length hl, List.take_left'] at h1
  rw [List.drop_append_of_le_length hl, List.drop_left'] at h2
  · exact ⟨h1, h2⟩
  · rfl
  · rfl

/-- The refill in front of a read of `n` bits, when the decoder sees `a ++ rest` with `a` no longer than the request: the
    reservoir then starts with `a`, and with `a` dropped the decoder sees `rest`. -/
theorem fill_sees (n : Nat) (d : DSt) (a rest : List Bool) (ha : a.length ≤ n) (hs : Sees d (a ++ rest))
    (hn : n ≤ (a ++ rest).length ∨ 8 ≤ n) :
    ∃ e, fill (n + 1) n d = (e, true) ∧ e.pend.take a.length = a ∧ Sees { e with pend := e.pend.drop a.length } rest ∧
      e.ldw = d.ldw ∧ e.last = d.last ∧ ((Inv d ∨ d.pend.length < n) → Inv e) := by
  obtain ⟨j, hj, hjp, hji⟩ := hs
  have hn' : n ≤ (avail d).length ∨ 8 ≤ n := hn.imp_left fun h => by rw [hj, List.length_append]; omega
  obtain ⟨e, hfd, h2, ⟨j2, h3, h3p, h3i⟩, h4, h5, h6⟩ := fill_spec (n + 1) n d (by omega) hn'
  rw [hj, List.append_assoc, List.append_assoc, zerosB_append] at h3
  obtain ⟨t1, t2⟩ := append_split e.pend (bytesBits e.inp) a (rest ++ zerosB (j + j2)) h3 (by omega)
  exact ⟨e, hfd, t1, ⟨j + j2, t2, by simp only; omega, h3i hji⟩, h4, h5, h6⟩

theorem getBits_spec (n : Nat) (d : DSt) (a rest : List Bool) (ha : a.length = n) (hs : Sees d (a ++ rest)) :
    ∃ e, getBits n d = (e, (ofBits a : Int)) ∧ Next d e rest := by
  obtain ⟨d1, hfd, t1, hs1, h4, h5, h6⟩ := fill_sees n d a rest ha.le hs (Or.inl (by simp; omega))
  rw [ha] at t1 hs1
  simp only [getBits, hfd, if_true, t1]
  exact ⟨_, rfl, hs1, h4, h5, fun hi => h6 (Or.inl hi)⟩

/-- the zero-run code of a width modifier of magnitude `k` -/
def unary (c : Cfg) (k : Nat) : List Bool := zerosB k ++ (if k ≠ c.dwmMax then [true] else [])

/-- `hl`: the look-ahead of `dwmMax` bits has to be served, by real bits or (a request of eight bits and more) by the zero
    bits `fill` shifts in -/
theorem getDwm_spec (c : Cfg) (d : DSt) (k : Nat) (rest : List Bool) (hk : k ≤ c.dwmMax)
    (hs : Sees d (unary c k ++ rest)) (hl : c.dwmMax ≤ (unary c k ++ rest).length ∨ 8 ≤ c.dwmMax) :
    ∃ e, getDwm c d = (e, (k : Int)) ∧ Sees e rest ∧ e.ldw = d.ldw ∧ e.last = d.last ∧
      ((Inv d ∨ d.pend.length < c.dwmMax) → Inv e) := by
  have hul : (unary c k).length ≤ c.dwmMax := by
    unfold unary; split <;> simp [zerosB_length] <;> omega
  obtain ⟨d1, hfd, t1, hs1, h4, h5, h6⟩ := fill_sees c.dwmMax d (unary c k) rest hul hs hl
  have hsc : scan c.dwmMax d1.pend = (k, d1.pend.drop (unary c k).length) := by
    conv_lhs => rw [← List.take_append_drop (unary c k).length d1.pend, t1]
    exact scan_unary c.dwmMax k hk _
  simp only [getDwm, hfd, if_true, hsc]
  exact ⟨_, rfl, hs1, h4, h5, h6⟩

/-- while the decoder still sees the code it expects, no padding bit has been consumed: the end test of
    `dwvw_decode_data` (`b.end == 0 && bit_count < pad_bits`) does not fire -/
theorem sees_no_pad_consumed (d : DSt) (s : List Bool) (hs : Sees d s) : ¬ (d.pend.length < d.padBits) := by
  obtain ⟨j, hj, hjp, hji⟩ := hs
  intro h
  have hpos : 0 < d.padBits := by omega
  have hin := hji hpos
  have hl := congrArg List.length hj
  simp only [avail, hin, bytesBits, List.flatMap_nil, List.append_nil, List.length_append, zerosB_length] at hl
  omega

/-- the sign of the width modifier -/
def decSign (d1 : DSt) (m : Int) : DSt × Int :=
  if m ≠ 0 then (let (e, s) := getBits 1 d1; (e, if s ≠ 0 then -m else m)) else (d1, m)

/-- magnitude, sign and extra bit of the delta -/
def decDelta (c : Cfg) (dw : Int) (d2 : DSt) : DSt × Int :=
  if dw ≠ 0 then
    let (e1, v) := getBits (dw - 1).toNat d2
    let delta0 : Int := if v < 0 then -1 else v + 2 ^ (dw - 1).toNat
    let (e2, neg) := getBits 1 e1
    let (e3, delta1) : DSt × Int :=
      if delta0 = c.maxDelta - 1 then (let (e, x) := getBits 1 e2; (e, delta0 + x)) else (e2, delta0)
    (e3, if neg ≠ 0 then -delta1 else delta1)
  else (d2, 0)

/-- the sample, wrapped into the range, and the new state -/
def decOut (c : Cfg) (dw : Int) (d3 : DSt) (delta : Int) : Out :=
  let M := c.maxDelta
  let s0 := d3.last + delta
  let s := if s0 ≥ M then s0 - c.span else if s0 < -M then s0 + c.span else s0
  .sample { d3 with ldw := dw, last := s } (s * 2 ^ c.shift)

theorem decStep_eq (c : Cfg) (d : DSt) :
    decStep c d =
      (let (d1, m) := getDwm c d
       if m < 0 ∨ (d1.endZero ∧ d1.pend.length < d1.padBits) then .stop d1
       else
         let (d2, dwm) := decSign d1 m
         let dw := cmod (d2.ldw + dwm + c.w) c.w
         let (d3, delta) := decDelta c dw d2
         decOut c dw d3 delta) := by
  rcases h : getDwm c d with ⟨d1, m⟩
  simp only [decStep, h, decSign, decDelta, decOut]

theorem ofBits_single (b : Bool) : ofBits [b] = if b then 1 else 0 := by
  cases b <;> rfl

theorem decSign_spec (d1 : DSt) (dwm m : Int) (hm : m = iabs dwm) (rest : List Bool)
    (hs : Sees d1 ((if dwm < 0 then [true] else []) ++ (if dwm > 0 then [false] else []) ++ rest)) :
    ∃ e, decSign d1 m = (e, dwm) ∧ Next d1 e rest := by
  unfold iabs at hm
  unfold decSign
  by_cases hneg : dwm < 0
  · rw [if_pos hneg, if_neg (by omega)] at hs
    rw [if_pos hneg] at hm
    obtain ⟨e, a1, a2⟩ := getBits_spec 1 d1 [true] rest rfl (by simpa using hs)
    rw [if_pos (by omega), a1]
    exact ⟨e, by simp [ofBits_single]; omega, a2⟩
  · rw [if_neg hneg] at hm
    by_cases hpos : dwm > 0
    · rw [if_neg hneg, if_pos hpos] at hs
      obtain ⟨e, a1, a2⟩ := getBits_spec 1 d1 [false] rest rfl (by simpa using hs)
      rw [if_pos (by omega), a1]
      exact ⟨e, by simp [ofBits_single]; omega, a2⟩
    · rw [if_neg hneg, if_neg hpos] at hs
      rw [if_neg (by omega)]
      exact ⟨d1, by rw [hm], by simpa using hs, rfl, rfl, id⟩

/-- the bits below the leading one of a `dw`-bit number, with the leading one put back (`v | (1 << (dw - 1))`) -/
theorem lead_one (δ dw : Nat) (h1 : 1 ≤ dw) (h2 : 2 ^ (dw - 1) ≤ δ) (h3 : δ < 2 ^ dw) :
    ofBits (bitsMSB (dw - 1) δ) + 2 ^ (dw - 1) = δ := by
  have e2 : 2 ^ dw = 2 * 2 ^ (dw - 1) := by
    conv_lhs => rw [show dw = (dw - 1) + 1 by omega, pow_succ]
    omega
  rw [ofBits_bitsMSB, Nat.mod_eq_sub_mod h2, Nat.mod_eq_of_lt (by omega)]
  omega

theorem decDelta_spec (c : Cfg) (hM : 2 ≤ c.maxDelta ∧ c.maxDelta ≤ 2 ^ 23) (d2 : DSt) (r : Delta) (δ : Nat)
    (hδ : r.delta = δ) (hlt : (δ : Int) ≤ c.maxDelta - 1) (hiff : r.extra ≥ 0 ↔ r.delta = c.maxDelta - 1)
    (rest : List Bool) (hs : Sees d2 (deltaBits (highestBit δ) r ++ rest)) :
    ∃ e, decDelta c (highestBit δ : Int) d2 = (e, sval c r) ∧ Next d2 e rest := by
  unfold sval
  have hδ32 : δ < 2 ^ 32 := by omega
  have htn : r.delta.toNat = δ := by omega
  unfold deltaBits at hs
  rw [htn] at hs
  unfold decDelta
  by_cases h0 : highestBit δ = 0
  · -- width 0: the delta is 0, no bit is stored for it
    have hδ0 : δ = 0 := by
      by_contra hne
      have := (highestBit_bounds δ hδ32 hne).1
      omega
    subst hδ0
    have hne : ¬ r.extra ≥ 0 := by
      rw [hiff]; omega
    rw [h0, if_neg (by simp), if_neg hne] at hs
    rw [h0, if_neg (by simp)]
    refine ⟨d2, ?_, by simpa using hs, rfl, rfl, id⟩
    have hM1 : ¬ ((0 : Int) = c.maxDelta - 1) := by omega
    simp [hδ, hM1]
  · have hne : δ ≠ 0 := by
      intro h; subst h; exact h0 highestBit_zero
    obtain ⟨b1, b2, b3⟩ := highestBit_bounds δ hδ32 hne
    generalize highestBit δ = dw at *
    rw [if_pos h0] at hs
    have hn : ((dw : Int) - 1).toNat = dw - 1 := by omega
    obtain ⟨e1, g1, n1⟩ := getBits_spec (dw - 1) d2 (bitsMSB (dw - 1) δ)
      ([r.neg] ++ ((if r.extra ≥ 0 then [r.extra == 1] else []) ++ rest)) (bitsMSB_length _ _)
      (by simpa [List.append_assoc] using hs)
    obtain ⟨e2, g2, n2⟩ := getBits_spec 1 e1 [r.neg] ((if r.extra ≥ 0 then [r.extra == 1] else []) ++ rest) rfl n1.1
    have hd0 : (if ((ofBits (bitsMSB (dw - 1) δ) : Nat) : Int) < 0 then (-1 : Int)
        else (ofBits (bitsMSB (dw - 1) δ) : Int) + 2 ^ (dw - 1)) = (δ : Int) := by
      rw [if_neg (by omega)]
      exact_mod_cast lead_one δ dw b1 b2 b3
    rw [if_pos (by omega)]
    simp only [hn, g1, g2, hd0, ofBits_single]
    by_cases hex : r.extra ≥ 0
    · have hM := hiff.1 hex
      rw [if_pos hex] at n2
      obtain ⟨e3, g3, n3⟩ := getBits_spec 1 e2 [r.extra == 1] rest rfl n2.1
      rw [if_pos (by omega), g3]
      refine ⟨e3, ?_, n1.trans (n2.trans n3)⟩
      rw [if_pos hM, hδ]
      cases r.neg <;> by_cases he : r.extra = 1 <;> simp [he, ofBits_single]
    · have hM : ¬ r.delta = c.maxDelta - 1 := fun h => hex (hiff.2 h)
      rw [if_neg hex] at n2
      rw [if_neg (by omega)]
      refine ⟨e2, ?_, n1.trans ⟨by simpa using n2.1, n2.2⟩⟩
      rw [if_neg hM, hδ]
      cases r.neg <;> simp

theorem asr_range (c : Cfg) (hw : c.ok) (ptr : Int) (hp : -2 ^ 31 ≤ ptr ∧ ptr < 2 ^ 31) :
    -c.maxDelta ≤ asr ptr c.shift ∧ asr ptr c.shift < c.maxDelta := by
  rcases ok_cases c hw with rfl | rfl | rfl <;>
  · simp only [asr, Cfg.maxDelta, Cfg.shift]
    norm_num at hp ⊢
    omega

/-- the state the encoder is in: width in [0, w), sample in the w-bit range -/
def stOk (c : Cfg) (ldw last : Int) : Prop := (0 ≤ ldw ∧ ldw < c.w) ∧ (-c.maxDelta ≤ last ∧ last < c.maxDelta)

theorem encSample_state (c : Cfg) (hw : c.ok) (ldw last p : Int) (hl : -c.maxDelta ≤ last ∧ last < c.maxDelta)
    (hp : -2 ^ 31 ≤ p ∧ p < 2 ^ 31) : stOk c (encSample c ldw last p).ldw (encSample c ldw last p).last := by
  have hs := asr_range c hw p hp
  obtain ⟨k1, k2, k3, k4, k5, k6, k7, k8⟩ := cfg_consts c hw
  have hd := deltaOf_spec c k1 k2 (asr p c.shift) last hs hl
  refine ⟨⟨?_, ?_⟩, hs⟩
  · simp [encSample]
  · simp only [encSample]
    have hlt : (deltaOf c (asr p c.shift - last)).delta.toNat < 2 ^ (c.w - 1) := by
      have : ((deltaOf c (asr p c.shift - last)).delta.toNat : Int) < ((2 ^ (c.w - 1) : Nat) : Int) := by
        rw [Int.toNat_of_nonneg hd.1]; push_cast; rw [← k4]; omega
      exact_mod_cast this
    have h32 : (deltaOf c (asr p c.shift - last)).delta.toNat < 2 ^ 32 :=
      lt_of_lt_of_le hlt (Nat.pow_le_pow_right (by omega) (by omega))
    have := highestBit_le _ (c.w - 1) h32 hlt
    omega

theorem iabs_nonneg (a : Int) : 0 ≤ iabs a := by unfold iabs; split <;> omega

theorem dwmBits_eq (c : Cfg) (dwm : Int) :
    dwmBits c dwm = unary c (iabs dwm).toNat ++ ((if dwm < 0 then [true] else []) ++ (if dwm > 0 then [false] else [])) := by
  have h0 := iabs_nonneg dwm
  unfold dwmBits unary
  by_cases h : iabs dwm = c.dwmMax
  · have h' : (iabs dwm).toNat = c.dwmMax := by omega
    simp [h]
  · have h' : ¬ (iabs dwm).toNat = c.dwmMax := by omega
    simp [h, h']

theorem unary_length_pos (c : Cfg) (hK : 1 ≤ c.dwmMax) (k : Nat) : 1 ≤ (unary c k).length := by
  unfold unary
  split
  · simp [zerosB_length]
  · simp [zerosB_length]; omega

theorem encSample_bits_pos (c : Cfg) (hw : c.ok) (ldw last x : Int) : 1 ≤ (encSample c ldw last x).bits.length := by
  obtain ⟨_, _, _, _, hK, _⟩ := cfg_consts c hw
  simp only [encSample, dwmBits_eq, List.length_append]
  have := unary_length_pos c hK (iabs (dwmOf c (highestBit (deltaOf c (asr x c.shift - last)).delta.toNat) ldw)).toNat
  omega

theorem codes_length_ge (c : Cfg) (hw : c.ok) (ldw last : Int) (xs : List Int) : xs.length ≤ (codes c ldw last xs).length := by
  induction xs generalizing ldw last with
  | nil => simp [codes]
  | cons x xs ih =>
    have h1 := encSample_bits_pos c hw ldw last x
    have h2 := ih (encSample c ldw last x).ldw (encSample c ldw last x).last
    simp only [codes, List.length_append, List.length_cons]
    omega

theorem codes_flush_length (c : Cfg) (hw : c.ok) (ldw last : Int) : 12 ≤ (codes c ldw last (List.replicate 12 0)).length := by
  simpa using codes_length_ge c hw ldw last (List.replicate 12 0)

theorem decStep_spec (c : Cfg) (hw : c.ok) (d : DSt) (ptr : Int) (rest : List Bool)
    (hl1 : 0 ≤ d.ldw ∧ d.ldw < c.w) (hl2 : -c.maxDelta ≤ d.last ∧ d.last < c.maxDelta)
    (hp : -2 ^ 31 ≤ ptr ∧ ptr < 2 ^ 31)
    (hs : Sees d ((encSample c d.ldw d.last ptr).bits ++ rest)) (hr : 5 ≤ rest.length)
    (hi : Inv d ∨ d.pend.length < c.dwmMax) :
    ∃ d', decStep c d = .sample d' (asr ptr c.shift * 2 ^ c.shift) ∧ Sees d' rest ∧ Inv d' ∧
      d'.ldw = (encSample c d.ldw d.last ptr).ldw ∧ d'.last = (encSample c d.ldw d.last ptr).last := by
  obtain ⟨hsp, hM2, hM23, _, hK1, hK2, hw24, hw12⟩ := cfg_consts c hw
  obtain ⟨⟨_, hdw⟩, hsr⟩ := encSample_state c hw d.ldw d.last ptr hl2 hp
  -- the pieces of `encSample`: sample `s`, stored delta `r` of magnitude `δ` and width `dw`, width modifier `dwm`
  simp only [encSample] at hs hdw hsr ⊢
  generalize asr ptr c.shift = s at hsr hs hdw ⊢
  obtain ⟨r0, r1, r2, r3, r4⟩ := deltaOf_spec c hsp hM2 s d.last hsr hl2
  generalize deltaOf c (s - d.last) = r at r0 r1 r2 r3 r4 hs hdw ⊢
  obtain ⟨δ, hδ⟩ : ∃ δ : Nat, r.delta = δ := ⟨r.delta.toNat, by omega⟩
  rw [show r.delta.toNat = δ by omega] at hs hdw ⊢
  obtain ⟨m1, m2⟩ := dwmOf_spec c hK2 (highestBit δ) d.ldw ⟨by omega, hdw⟩ hl1
  generalize dwmOf c (highestBit δ : Int) d.ldw = dwm at m1 m2 hs
  obtain ⟨k, hk⟩ : ∃ k : Nat, iabs dwm = k := ⟨(iabs dwm).toNat, by have := iabs_nonneg dwm; omega⟩
  rw [dwmBits_eq, show (iabs dwm).toNat = k by omega] at hs
  have hul := unary_length_pos c hK1 k
  -- the look-ahead asks for `dwmMax` bits; at 12 bits that is 6 < 8, a request `fill` refuses at the end of the input: the
  -- first bit of the code and the five of `hr` are the six real bits it then needs (16 / 24 bits: `dwmMax` = 8 / 12)
  obtain ⟨d1, e1, s1, l1, la1, i1⟩ := getDwm_spec c d k
    (((if dwm < 0 then [true] else []) ++ (if dwm > 0 then [false] else [])) ++ (deltaBits (highestBit δ) r ++ rest))
    (by omega) (by simpa [List.append_assoc] using hs)
    (by unfold Cfg.ok at hw; simp only [List.length_append]; omega)
  obtain ⟨d2, e2, s2, l2, la2, i2⟩ := decSign_spec d1 dwm k hk.symm (deltaBits (highestBit δ) r ++ rest) s1
  obtain ⟨d3, e3, s3, l3, la3, i3⟩ := decDelta_spec c ⟨hM2, hM23⟩ d2 r δ hδ (by omega) r3 rest s2
  have hstop : ¬ ((k : Int) < 0 ∨ (d1.endZero = true ∧ d1.pend.length < d1.padBits)) := by
    rintro (h | ⟨_, h2⟩)
    · omega
    · exact sees_no_pad_consumed d1 _ s1 h2
  have hcm : cmod (d2.ldw + dwm + c.w) c.w = highestBit δ := by rw [l2, l1]; exact m2
  unfold recon at r4
  rw [decStep_eq, e1]
  simp only [if_neg hstop, e2, hcm, e3, decOut]
  rw [show d3.last = d.last by omega, r4]
  exact ⟨_, rfl, s3, i3 (i2 (i1 hi)), rfl, rfl⟩

theorem decLoop_codes (c : Cfg) (hw : c.ok) (xs : List Int) (d : DSt) (tail : List Bool)
    (hx : ∀ x ∈ xs, -2 ^ 31 ≤ x ∧ x < 2 ^ 31)
    (hl1 : 0 ≤ d.ldw ∧ d.ldw < c.w) (hl2 : -c.maxDelta ≤ d.last ∧ d.last < c.maxDelta)
    (hs : Sees d (codes c d.ldw d.last xs ++ tail)) (ht : 5 ≤ tail.length)
    (hi : Inv d ∨ d.pend.length < c.dwmMax) :
    (decLoop c xs.length d).2 = xs.map (fun p => asr p c.shift * 2 ^ c.shift) := by
  induction xs generalizing d with
  | nil => simp [decLoop_zero]
  | cons x xs ih =>
    simp only [codes, List.append_assoc] at hs
    obtain ⟨d', e1, e2, e3, e4, e5⟩ :=
      decStep_spec c hw d x
        (codes c (encSample c d.ldw d.last x).ldw (encSample c d.ldw d.last x).last xs ++ tail) hl1 hl2
        (hx x (by simp)) hs (by simp only [List.length_append]; omega) hi
    obtain ⟨e6, e7⟩ := encSample_state c hw d.ldw d.last x hl2 (hx x (by simp))
    simp only [List.length_cons, decLoop, e1]
    have hne : ¬ (d'.endZero = true ∧ d'.pend.length = 0) := by
      rintro ⟨h1, h2⟩
      have h3 := e3 h1
      obtain ⟨j, hj, _, _⟩ := e2
      have h4 := congrArg List.length hj
      simp only [avail, h3, bytesBits, List.length_append, List.flatMap_nil, List.length_nil] at h4
      omega
    rw [if_neg hne]
    simp only [List.map_cons]
    rw [← e4, ← e5] at e2
    rw [ih d' (fun y hy => hx y (by simp [hy])) (e4 ▸ e6) (e5 ▸ e7) e2 (Or.inl e3)]

/-- `last_delta_width` stays inside [0, bit_width) and `last_sample` inside the bit_width-bit range, for every sample sequence -/
theorem endSt_ok (c : Cfg) (hw : c.ok) (ldw last : Int) (xs : List Int) (h0 : stOk c ldw last)
    (hx : ∀ x ∈ xs, -2 ^ 31 ≤ x ∧ x < 2 ^ 31) : stOk c (endSt c ldw last xs).1 (endSt c ldw last xs).2 := by
  induction xs generalizing ldw last with
  | nil => exact h0
  | cons x xs ih =>
    simp only [endSt]
    exact ih _ _ (encSample_state c hw ldw last x h0.2 (hx x (by simp))) (fun y hy => hx y (by simp [hy]))

/-- a value whose low `32 - bit_width` bits are zero is what the decoder hands back -/
theorem quant_exact (k : Nat) (q : Int) : asr (q * 2 ^ k) k * 2 ^ k = q * 2 ^ k := by
  unfold asr
  rw [Int.mul_ediv_cancel _ (by positivity)]

end Sf.Dwvw.Proofs
