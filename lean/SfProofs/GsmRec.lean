/-
  The operators of GSM 06.10 section 5.1 as SPEC definitions over unbounded `Int` with saturation (namespace `Sf.Gsm.Rec`).
  SfProps/C20Gsm.lean proves the macro-shaped model equal to them; SfProofs/GsmTwin.lean writes the wrap-free twin of
  the decoder with them.
-/
namespace Sf.Gsm.Rec

/-! the Recommendation's operators, over unbounded integers -/
def sat16 (x : Int) : Int := if x > 32767 then 32767 else if x < -32768 then -32768 else x
def sat32 (x : Int) : Int := if x > 2147483647 then 2147483647 else if x < -2147483648 then -2147483648 else x
/-- add (var1, var2): 16-bit saturated sum -/
def add (a b : Int) : Int := sat16 (a + b)
/-- sub (var1, var2) -/
def sub (a b : Int) : Int := sat16 (a - b)
/-- mult (var1, var2) = (var1 · var2) >> 15, and mult (−32768, −32768) = 32767 -/
def mult (a b : Int) : Int := if a = -32768 ∧ b = -32768 then 32767 else (a * b) / 32768
/-- mult_r (var1, var2) = (var1 · var2 + 16384) >> 15, and mult_r (−32768, −32768) = 32767 -/
def multR (a b : Int) : Int := if a = -32768 ∧ b = -32768 then 32767 else (a * b + 16384) / 32768
/-- abs (var1), abs (−32768) = 32767 -/
def abs (a : Int) : Int := if a = -32768 then 32767 else if a < 0 then -a else a
/-- L_mult (var1, var2) = (var1 · var2) << 1 (never used with both −32768) -/
def lMult (a b : Int) : Int := a * b * 2
def lAdd (a b : Int) : Int := sat32 (a + b)
/-- "norm (L_var1)": k normalises L when L · 2^k lies in [2^30, 2^31) (L > 0) resp. in [−2^31, −2^30) … the code's
    convention for negative values: −2^31 ≤ L · 2^k and L · 2^k ≤ −2^30 − 1 … with −1 answered by 31 -/
def normalises (l : Int) (k : Nat) : Prop :=
  if l > 0 then 2 ^ 30 ≤ l * 2 ^ k ∧ l * 2 ^ k < 2 ^ 31 else -(2 ^ 31) ≤ l * 2 ^ k ∧ l * 2 ^ k < -(2 ^ 30)
/-- div (var1, var2), 0 ≤ var1 ≤ var2, var2 > 0: the 15-bit fractional quotient -/
def div (num denum : Int) : Int := if num = denum then 32767 else num * 32768 / denum

end Sf.Gsm.Rec
