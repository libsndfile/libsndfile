/-
  SfProofs.RdwrClose — closing a read/write handle: the bytes of the file left behind.
-/
import SfProofs.ContainerParse
import SfProofs.RdwrWrite
namespace Sf

theorem RwView.bytes_nowav {h : H} {s : Store} {R W F : Nat} {hdr D : List Byte} (v : RwView h s R W F hdr D)
    (hc : h.container ≠ .wav) : s.bytes = hdr ++ D := by
  obtain ⟨t, hb, ht⟩ := v.bytes
  rcases ht with h0 | ⟨_, hw⟩
  · rw [hb, h0]; simp [zeros]
  · exact absurd hw hc

theorem RwView.close_raw {h : H} {s : Store} {R W F : Nat} {hdr D : List Byte} (v : RwView h s R W F hdr D)
    (hc : h.container = .raw) : (closeHandle h s).bytes = D := by
  have h0 : hdr = [] := List.eq_nil_of_length_eq_zero (v.hlen.trans (hdrLenOf_raw hc))
  rw [closeHandle_raw h s hc, v.bytes_nowav (by rw [hc]; decide), h0]
  rfl

theorem RwView.close_au {h : H} {s : Store} {R W F : Nat} {hdr D : List Byte} (v : RwView h s R W F hdr D)
    (hc : h.container = .au) :
    (closeHandle h s).bytes = auHdr_ct h.big (codecOf h.fmtWord) h.sr h.ch (D.length : Int) ++ D :=
  have hnw : h.container ≠ .wav := by rw [hc]; decide
  closeHandle_au h s hdr D (by rw [v.mode]; decide) hc (v.bytes_nowav hnw) v.hlen v.doff (v.dataend hnw) v.posGe

/-- the pad byte `wav_write_tailer` appends after an odd data end -/
def wavPadAt (dataend : Nat) : List Byte := if dataend % 2 = 1 then [0] else []

theorem wavPadAt_length (n : Nat) : (wavPadAt n).length ≤ 1 := by unfold wavPadAt; split <;> simp

/-- closing a WAV: fresh header, the data, and at most one zero byte behind it — the pad byte when the data section
    ends on an odd offset (written, or already there), otherwise whatever `wav_close` did not cut -/
theorem RwView.close_wav {h : H} {s : Store} {R W F : Nat} {hdr D : List Byte} (v : RwView h s R W F hdr D)
    (hc : h.container = .wav) :
    ∃ t2 : Nat, t2 ≤ 1 ∧ ((hdrLenOf h + D.length) % 2 = 1 → t2 = 1) ∧
      (closeHandle h s).bytes =
        wavHdr_ct h.big (codecOf h.fmtWord) h.enc.nbytes h.ch h.sr F h.peak true
          ((hdrLenOf h + D.length + t2 : Nat) : Int) (D.length : Int) ++ D ++ zeros t2 := by
  obtain ⟨t, hb, ht⟩ := v.bytes
  have ht1 : t ≤ 1 := by rcases ht with h0 | ⟨h1, _⟩ <;> omega
  have hdlen : h.frames * (h.nb : Int) * (h.ch : Int) = (D.length : Int) := by
    rw [v.frames, v.dlen]; unfold H.bw H.nb; push_cast; rw [Int.mul_assoc]
  have hcl := closeHandle_wav h s hdr D (zeros t) (wavPad h D) (by rw [v.mode]; decide) hc hb v.hlen v.doff hdlen
    (by rw [wavTail_atStart h (fun ps hp => (v.peak ps hp).2), List.append_nil]) _ rfl
  -- what lies behind the data afterwards is zero bytes again: the pad byte alone, or nothing but what was there
  obtain ⟨t2, hle, hodd, hT⟩ : ∃ t2, t2 ≤ 1 ∧ ((hdrLenOf h + D.length) % 2 = 1 → t2 = 1) ∧
      (if h.mode = .rw ∧ ((hdrLenOf h + D.length + (wavPad h D).length : Nat) : Int) < h.filelength ∧ h.canTruncate = true
        then wavPad h D else wavPad h D ++ (zeros t).drop (wavPad h D).length) = zeros t2 := by
    by_cases hodd : (hdrLenOf h + D.length) % 2 = 1
    · have hw : wavPad h D = zeros 1 := by unfold wavPad; rw [if_pos (by rw [beq_iff_eq]; omega)]; rfl
      refine ⟨1, Nat.le_refl 1, fun _ => rfl, ?_⟩
      rw [hw, zeros_length, drop_zeros, show t - 1 = 0 by omega]
      exact ite_self _
    · have hw : wavPad h D = [] := by unfold wavPad; rw [if_neg (by rw [beq_iff_eq]; omega)]
      rw [hw]
      split
      · exact ⟨0, Nat.zero_le 1, fun hx => absurd hx hodd, rfl⟩
      · exact ⟨t, ht1, fun hx => absurd hx hodd, rfl⟩
  rw [hT, wavHdr_eq_ct, v.frames, zeros_length, ← List.append_assoc] at hcl
  refine ⟨t2, hle, hodd, hcl.trans ?_⟩
  cases hp : h.peak with
  | none => cases h.peakAtStart <;> rfl
  | some ps => rw [(v.peak ps hp).2]

/-- the configuration a handle shows, and the state of a view on `F` frames `D`: the PEAK table counts in a WAV only -/
def viewCfg (h : H) : Cfg := ⟨h.container, h.enc, h.big, h.ch, h.sr, h.fmtWord⟩
def viewAbs (h : H) (F : Nat) (D : List Byte) : Abs := ⟨F, D, if h.container = .wav then h.peak else none, false⟩

theorem RwView.absOk {h : H} {s : Store} {R W F : Nat} {hdr D : List Byte} (v : RwView h s R W F hdr D) :
    (viewAbs h F D).Ok (viewCfg h) := by
  refine ⟨v.dlen, fun ps hp => ?_, fun hw => if_neg hw⟩
  simp only [viewAbs] at hp
  split at hp
  · exact (v.peak ps hp).1
  · cases hp

/-- whatever the container: the file a read/write session leaves behind is an image (`Sf.image`) of the view's frames,
    with at most the zero pad byte of WAV behind them -/
theorem RwView.close_image {h : H} {s : Store} {R W F : Nat} {hdr D : List Byte} (v : RwView h s R W F hdr D) :
    ∃ fl t2, (closeHandle h s).bytes = image (viewCfg h) (viewAbs h F D) fl (zeros t2) ∧ (t2 = 0 ∨ t2 = 1 ∧ h.container = .wav) := by
  cases hc : h.container with
  | raw => exact ⟨0, 0, by rw [v.close_raw hc]; simp [image, hdrBytes, viewCfg, viewAbs, hc, zeros], Or.inl rfl⟩
  | au => exact ⟨0, 0, by rw [v.close_au hc]; simp [image, hdrBytes, viewCfg, viewAbs, hc, zeros], Or.inl rfl⟩
  | wav =>
    obtain ⟨t2, ht2, _, hcl⟩ := v.close_wav hc
    exact ⟨((hdrLenOf h + D.length + t2 : Nat) : Int), t2, by rw [hcl]; simp only [image, hdrBytes, viewCfg, viewAbs, hc, if_true],
      (by omega : t2 = 0 ∨ t2 = 1).imp id (⟨·, rfl⟩)⟩

end Sf
