/-
  Helper lemmas for the AVR container theorems (SfProps/C04Avr.lean): length of the header, the reader on
  `hdr c frames ++ body`.
-/
import SfModel.Avr
import SfProofs.SmallSession
namespace Sf.Avr
open Sf Sf.Small

theorem mk4_2BIT_length : (mk4 "2BIT").length = 4 := by decide

theorem hdr_length (c : Cfg) (f : Nat) : (hdr c f).length = hdrLen := by
  unfold hdr hdrLen
  simp only [List.length_append, be16_length, be32_length, List.length_replicate, mk4_2BIT_length]

theorem spec_plain (c : Cfg) : (spec c).Plain := ⟨fun f _ _ => hdr_length c f, rfl, rfl⟩

theorem cfg_cases (c : Cfg) (h : c.wf) :
    (c.codec = 0x01 ∨ c.codec = 0x02 ∨ c.codec = 0x05) ∧ (c.ch = 1 ∨ c.ch = 2) := by
  obtain ⟨ha, h1, _, _⟩ := h
  unfold accepted at ha
  simp only [Bool.decide_and, Bool.decide_or, Bool.and_eq_true, Bool.or_eq_true, decide_eq_true_eq] at ha
  refine ⟨ha.1, ?_⟩
  omega

theorem bw_pos (c : Cfg) (h : c.wf) : 0 < c.bw := by
  obtain ⟨_, hch⟩ := cfg_cases c h
  unfold Cfg.bw Cfg.bytewidth
  split <;> omega

/-- the reader on a header this writer produced, followed by any bytes: everything as requested, the frame count
    derived from the number of bytes that follow the header (the `frames` field is not used) -/
theorem parse_hdr (c : Cfg) (hwf : c.wf) (f : Nat) (body : List Byte) :
    parse (hdr c f ++ body) = .ok { ch := c.ch, fmt := c.fmtWord, sr := c.sr, frames := body.length / c.bw } := by
  have hlen : (hdr c f ++ body).length = 128 + body.length := by rw [List.length_append, hdr_length]; rfl
  have h0 : (hdr c f ++ body).take 4 = mk4 "2BIT" := by
    unfold hdr; simp only [List.append_assoc]; exact List.take_left' mk4_2BIT_length
  have hhtk : htkCoincidence (hdr c f ++ body) = false := by
    have h8 : ((hdr c f ++ body).drop 8).take 4 = [0, 0, 0, 0] := by unfold hdr; simp only [List.append_assoc]; rfl
    unfold htkCoincidence; rw [h8]; simp
  obtain ⟨hcodec, hch⟩ := cfg_cases c hwf
  obtain ⟨_, _, hsr1, hsr2⟩ := hwf
  have hsr : sext 32 (wrapU 32 (c.sr : Int)) = (c.sr : Int) := by
    rw [wrapU_of_lt 32 c.sr (by omega), sext_of_lt 32 c.sr (by omega)]
  have hmono : ofBE (be16 (if c.ch = 2 then 0xFFFF else 0)) % 2 + 1 = c.ch := by
    rcases hch with h | h <;> rw [h] <;> decide
  have hsel : selOf (ofBE (be16 ((c.bytewidth : Int) * 8))) (ofBE (be16 (if c.codec = 0x05 then 0 else 0xFFFF))) = some (c.codec, c.bytewidth) := by
    unfold Cfg.bytewidth; rcases hcodec with h | h | h <;> rw [h] <;> decide
  unfold parse
  rw [if_neg (by omega), if_neg (by rw [h0]; simp), hhtk, hlen]
  -- the four fields the reader looks at
  simp only [hdr, List.append_assoc, slice_skip, slice_head, be16_length, be32_length, mk4_2BIT_length, List.length_replicate,
    Nat.reduceSub, Nat.reduceLeDiff, Nat.le_refl, Bool.false_eq_true, if_false, ofBE_be32, hsr, hmono, hsel]
  unfold finish
  have hcf : codecFrames (128 + body.length) 128 0 ((c.bytewidth * c.ch : Nat) : Int) = _ := codecFrames_body 128 body.length _
  simp only [hcf]
  have hnn := Int.natCast_nonneg (body.length / (c.bytewidth * c.ch))
  rw [if_neg (by omega)]
  simp only [Int.toNat_natCast, Cfg.fmtWord, Cfg.bw]

end Sf.Avr
