/-
  SfProofs.AiffRead — how `Sf.Aiff.step` acts on the chunk kinds the writer emits, stated against a cursor
  (`bs.drop pos = chunk ++ rest`), so that the same lemmas serve closed files and header-update snapshots.
-/
import SfModel.Aiff
import SfProofs.Fields
namespace Sf.Aiff
open Sf.Cursor (drop_at)

theorem rdN_at {bs : List Byte} {p n : Nat} {x rest : List Byte} (hd : bs.drop p = x ++ rest) (hx : x.length = n) (hn : 0 < n) :
    rdN bs p n = (x, p + n) := by
  subst hx
  have hl := Cursor.len_of_drop hd (by rw [List.length_append]; omega)
  rw [List.length_append] at hl
  unfold rdN
  rw [if_pos (by omega), hd, List.take_left' rfl]

theorem rd_at {bs : List Byte} {p n : Nat} {x rest : List Byte} (hd : bs.drop p = x ++ rest) (hx : x.length = n) (hn : 0 < n) :
    rdN bs p n = (x, p + n) ∧ bs.drop (p + n) = rest :=
  ⟨rdN_at hd hx hn, drop_at hd hx⟩

theorem rdN_snd_of_drop {bs : List Byte} {pos n : Nat} {x rest : List Byte} (h : bs.drop pos = x ++ rest) (hn : x.length = n) :
    (rdN bs pos n).2 = pos + n := by
  subst hn
  have hl : (bs.drop pos).length = x.length + rest.length := by rw [h]; simp
  simp only [List.length_drop] at hl
  by_cases hle : pos + x.length ≤ bs.length
  · simp [rdN, hle]
  · have : x.length = 0 := by omega
    have hp : ¬ pos < bs.length := by omega
    simp [rdN, this, hp]

theorem len_of_drop {bs : List Byte} {pos : Nat} {x : List Byte} (h : bs.drop pos = x) (hx : 0 < x.length) :
    bs.length = pos + x.length := Cursor.len_of_drop h hx

theorem mk4_FORM : mk4 "FORM" = [70, 79, 82, 77] := by decide
theorem mk4_AIFF : mk4 "AIFF" = [65, 73, 70, 70] := by decide
theorem mk4_AIFC : mk4 "AIFC" = [65, 73, 70, 67] := by decide
theorem mk4_COMM : mk4 "COMM" = [67, 79, 77, 77] := by decide
theorem mk4_SSND : mk4 "SSND" = [83, 83, 78, 68] := by decide
theorem mk4_PEAK : mk4 "PEAK" = [80, 69, 65, 75] := by decide
theorem mk4_FVER : mk4 "FVER" = [70, 86, 69, 82] := by decide

theorem be32_length (v : Int) : (be32 v).length = 4 := beBytes_length 4 _
theorem be16_length (v : Int) : (be16 v).length = 2 := beBytes_length 2 _

theorem ofBE_be32 (v : Int) : ofBE (be32 v) = wrapU 32 v := ofBE_beBytes_wrapU 4 v
theorem ofBE_be16 (v : Int) : ofBE (be16 v) = wrapU 16 v := ofBE_beBytes_wrapU 2 v


theorem mk4_length_SSND : (mk4 "SSND").length = 4 := by decide
theorem mk4_length_COMM : (mk4 "COMM").length = 4 := by decide
theorem mk4_length_PEAK : (mk4 "PEAK").length = 4 := by decide
theorem mk4_length_FVER : (mk4 "FVER").length = 4 := by decide

theorem sext16_small (n : Nat) (h : n < 2 ^ 15) : sext 16 (wrapU 16 (n : Int)) = n := by
  rw [wrapU_of_lt 16 n (by omega)]
  exact sext_of_lt 16 n h

/-! ### the chunk kinds of a written file

  Each lemma takes the cursor fact `bs.drop s.pos = chunk ++ rest`, asks that more than 8 bytes follow the chunk (the
  loop would stop there otherwise) and returns the step together with the cursor fact for `rest`. -/

theorem ssndCalc_exact (p B T : Nat) :
    ssndCalc ((p + B + T : Nat) : Int) ((B + 8 : Nat) : Int) (p : Int) 0 0 =
      ((p : Int), (B : Int), if T > 0 then ((p + B : Nat) : Int) else 0) := by
  unfold ssndCalc
  have c1 : ¬ ((((B + 8 : Nat) : Int) - 8 > ((p + B + T : Nat) : Int) - (p : Int)) ∨ ((B + 8 : Nat) : Int) - 8 < 0) := by omega
  simp only [c1, if_false]
  by_cases hT : T > 0
  · have c2 : (((B + 8 : Nat) : Int) - 8 - 0 + ((p : Int) + 0) < ((p + B + T : Nat) : Int)) := by omega
    simp only [c2, hT, if_true]
    refine Prod.ext ?_ (Prod.ext ?_ ?_) <;> simp <;> omega
  · have c2 : ¬ (((B + 8 : Nat) : Int) - 8 - 0 + ((p : Int) + 0) < ((p + B + T : Nat) : Int)) := by omega
    simp only [c2, hT, if_false]
    refine Prod.ext ?_ (Prod.ext ?_ rfl) <;> simp <;> omega

/-- what `fin` does with a `.cont` -/
def finOf (flen : Nat) (s' : Sc) : Step :=
  if s'.csize ≥ flen then .stop s' else if (s'.pos : Int) ≥ (flen : Int) - 8 then .stop s' else .cont s'

/-- SSND whose size field describes `body`, with at most 8 bytes after it: the walk ends here -/
theorem step_ssnd (bs : List Byte) (s : Sc) (B : Nat) (body tl : List Byte)
    (hd : bs.drop s.pos = mk4 "SSND" ++ (be32 ((B : Int) + 8) ++ (be32 0 ++ (be32 0 ++ (body ++ tl)))))
    (hB : body.length = B) (htl : tl.length ≤ 8) (hB32 : B + 8 < 2 ^ 32) (hc : s.csize % 2 = 0) (hu : s.used ≤ cacheLimit) (he : s.dataend = 0) :
    bs.length = s.pos + 16 + B + tl.length ∧
    step bs s = .stop { s with pos := s.pos + 16 + B, used := s.used + 8 + 8, csize := B + 8, dataoffset := ((s.pos + 16 : Nat) : Int),
                               datalength := (B : Int), dataend := if tl.length > 0 then ((s.pos + 16 + B : Nat) : Int) else 0 } := by
  obtain ⟨r1, d1⟩ := rd_at hd mk4_length_SSND (by decide)
  obtain ⟨r2, d2⟩ := rd_at d1 (be32_length _) (by decide)
  obtain ⟨r3, d3⟩ := rd_at d2 (be32_length _) (by decide)
  have r4 := rdN_at d3 (be32_length _) (by decide)
  have hlen : bs.length = s.pos + 16 + B + tl.length := by
    have hl3 : (bs.drop (s.pos + 4 + 4 + 4)).length = 4 + (B + tl.length) := by rw [d3]; simp [be32_length, hB]
    simp only [List.length_drop] at hl3
    omega
  refine ⟨hlen, ?_⟩
  have hsz : ofBE (be32 ((B : Int) + 8)) = B + 8 := by
    rw [ofBE_be32]
    have : ((B : Int) + 8) = ((B + 8 : Nat) : Int) := by omega
    rw [this, wrapU_of_lt _ _ hB32]
  have hoff : ofBE (be32 0) = 0 := by decide
  have hu' : ¬ s.used > cacheLimit := by omega
  have hm0 : ¬ mk4 "SSND" = [0, 0, 0, 0] := by decide
  have hm1 : ¬ mk4 "SSND" = mk4 "FORM" := by decide
  have hm2 : ¬ mk4 "SSND" = mk4 "COMM" := by decide
  have hm3 : ¬ mk4 "SSND" = mk4 "PEAK" := by decide
  have hcalc := ssndCalc_exact (s.pos + 16) B tl.length
  have hp16 : s.pos + 4 + 4 + 4 + 4 = s.pos + 16 := by omega
  unfold step
  simp only [hu', if_false, hc, Nat.add_zero, r1, r2, hm0, hm1, hm2, hm3, if_true, hsz]
  unfold readSsnd
  simp only [r3, r4, hoff, hlen, he, hp16, Int.natCast_zero]
  rw [hcalc]
  have k1 : ¬ (B + 8 ≥ s.pos + 16 + B + tl.length) := by omega
  have k2 : ((((s.pos + 16 : Nat) : Int) + (B : Int)).toNat : Int) ≥ ((s.pos + 16 + B + tl.length : Nat) : Int) - 8 := by omega
  simp only [k1, k2, if_false, if_true]
  have ht : (((s.pos + 16 : Nat) : Int) + (B : Int)).toNat = s.pos + 16 + B := by omega
  rw [ht]

/-- FVER (the chunk every AIFF-C header starts with) -/
theorem step_fver (bs : List Byte) (s : Sc) (rest : List Byte)
    (hd : bs.drop s.pos = mk4 "FVER" ++ (be32 4 ++ (be32 0xA2805140 ++ rest)))
    (hr : 8 < rest.length) (hc : s.csize % 2 = 0) (hu : s.used ≤ cacheLimit) :
    step bs s = .cont { s with pos := s.pos + 12, used := s.used + 12, csize := 4 } ∧ bs.drop (s.pos + 12) = rest := by
  obtain ⟨r1, d1⟩ := rd_at hd mk4_length_FVER (by decide)
  obtain ⟨r2, d2⟩ := rd_at d1 (be32_length _) (by decide)
  have d3 := drop_at d2 (be32_length _)
  have hlen := len_of_drop d3 (by omega)
  have hsz : ofBE (be32 4) = 4 := by decide
  have hu' : ¬ s.used > cacheLimit := by omega
  have hm0 : ¬ mk4 "FVER" = [0, 0, 0, 0] := by decide
  have hm1 : ¬ mk4 "FVER" = mk4 "FORM" := by decide
  have hm2 : ¬ mk4 "FVER" = mk4 "COMM" := by decide
  have hm3 : ¬ mk4 "FVER" = mk4 "PEAK" := by decide
  have hm4 : ¬ mk4 "FVER" = mk4 "SSND" := by decide
  have k0 : ¬ (4 ≥ 2 ^ 31) := by decide
  have k1 : ¬ (4 ≥ bs.length) := by omega
  have k2 : ¬ (((s.pos + 4 + 4 + 4 : Nat) : Int) ≥ (bs.length : Int) - 8) := by omega
  refine ⟨?_, d3⟩
  unfold step
  simp only [hu', if_false, hc, Nat.add_zero, r1, r2, hm0, hm1, hm2, hm3, hm4, if_true, hsz, true_or, k0, k1, k2]

theorem step_peak (bs : List Byte) (s : Sc) (body rest : List Byte)
    (hd : bs.drop s.pos = mk4 "PEAK" ++ (be32 ((8 + 8 * s.ch : Nat) : Int) ++ (body ++ rest)))
    (hb : body.length = 8 + 8 * s.ch) (hch : s.ch ≤ 1024) (hcomm : s.haveComm = true)
    (hr : 8 < rest.length) (hc : s.csize % 2 = 0) (hu : s.used ≤ cacheLimit) :
    step bs s = .cont { s with pos := s.pos + (16 + 8 * s.ch), used := s.used + (16 + 8 * s.ch), csize := 8 + 8 * s.ch } ∧
    bs.drop (s.pos + (16 + 8 * s.ch)) = rest := by
  obtain ⟨r1, d1⟩ := rd_at hd mk4_length_PEAK (by decide)
  obtain ⟨r2, d2⟩ := rd_at d1 (be32_length _) (by decide)
  obtain ⟨r3, d3⟩ := rd_at d2 hb (by omega)
  have hlen := len_of_drop d3 (by omega)
  have hsz : ofBE (be32 ((8 + 8 * s.ch : Nat) : Int)) = 8 + 8 * s.ch := by
    rw [ofBE_be32, wrapU_of_lt _ _ (by omega)]
  have hu' : ¬ s.used > cacheLimit := by omega
  have hm0 : ¬ mk4 "PEAK" = [0, 0, 0, 0] := by decide
  have hm1 : ¬ mk4 "PEAK" = mk4 "FORM" := by decide
  have hm2 : ¬ mk4 "PEAK" = mk4 "COMM" := by decide
  have k1 : ¬ (8 + 8 * s.ch ≥ bs.length) := by omega
  have k2 : ¬ (((s.pos + 4 + 4 + (8 + 8 * s.ch) : Nat) : Int) ≥ (bs.length : Int) - 8) := by omega
  have e1 : s.pos + 4 + 4 + (8 + 8 * s.ch) = s.pos + (16 + 8 * s.ch) := by omega
  have e2 : s.used + 8 + (8 + 8 * s.ch) = s.used + (16 + 8 * s.ch) := by omega
  rw [e1] at d3 k2
  refine ⟨?_, d3⟩
  unfold step
  simp only [hu', if_false, hc, Nat.add_zero, r1, r2, r3, hm0, hm1, hm2, if_true, hsz, hcomm, Bool.not_true, ne_eq, not_true_eq_false,
    Bool.false_eq_true, e1, e2, k1, k2]

/-- COMM as `aiff_write_header` lays it out: `sz` = 18 for plain AIFF (the reader then takes the encoding to be NONE),
    24 for AIFF-C, where the compression type `e` and an empty Pascal string follow the rate -/
theorem step_comm (bs : List Byte) (s : Sc) (sz ch bits : Nat) (frames : Int) (ten e tail rest : List Byte) (w : Nat) (ss : Int)
    (hd : bs.drop s.pos = mk4 "COMM" ++ (be32 sz ++ (be16 ch ++ (be32 frames ++ (be16 bits ++ (ten ++ tail))))))
    (hx : sz = 18 ∧ e = mk4 "NONE" ∧ tail = rest ∨ sz = 24 ∧ e.length = 4 ∧ tail = e ++ ([0] ++ ([0] ++ rest)))
    (hten : ten.length = 10) (hch : 1 ≤ ch ∧ ch ≤ 1024) (hbits : bits < 2 ^ 15)
    (hf : commFmt e bits = (some (some w), ss))
    (hr : 8 < rest.length) (hc : s.csize % 2 = 0) (hu : s.used ≤ cacheLimit) :
    step bs s = .cont { s with pos := s.pos + (8 + sz), used := s.used + (8 + sz), csize := sz, haveComm := true,
                               ch := ch, sr := ten2int ten, fmt := w, sampleSize := ss } ∧
    bs.drop (s.pos + (8 + sz)) = rest := by
  obtain ⟨r1, d1⟩ := rd_at hd mk4_length_COMM (by decide)
  obtain ⟨r2, d2⟩ := rd_at d1 (be32_length _) (by decide)
  obtain ⟨r3, d3⟩ := rd_at d2 (be16_length _) (by decide)
  obtain ⟨r4, d4⟩ := rd_at d3 (be32_length _) (by decide)
  obtain ⟨r5, d5⟩ := rd_at d4 (be16_length _) (by decide)
  obtain ⟨r6, d6⟩ := rd_at d5 hten (by decide)
  have hnc : sext 16 (ofBE (be16 (ch : Int))) = (ch : Int) := by rw [ofBE_be16]; exact sext16_small ch (by omega)
  have hss : sext 16 (ofBE (be16 (bits : Int))) = (bits : Int) := by rw [ofBE_be16]; exact sext16_small bits hbits
  have hu' : ¬ s.used > cacheLimit := by omega
  have hm0 : ¬ mk4 "COMM" = [0, 0, 0, 0] := by decide
  have hm1 : ¬ mk4 "COMM" = mk4 "FORM" := by decide
  have e3 : ¬ ((ch : Int) < 1 ∨ (ch : Int) > 1024) := by omega
  rcases hx with ⟨rfl, rfl, rfl⟩ | ⟨rfl, he, rfl⟩
  · have hlen := len_of_drop d6 (by omega)
    have hsz : ofBE (be32 ((18 : Nat) : Int)) = 18 := by decide
    have k1 : ¬ (18 ≥ bs.length) := by omega
    have k2 : ¬ (((s.pos + 4 + 4 + 2 + 4 + 2 + 10 : Nat) : Int) ≥ (bs.length : Int) - 8) := by omega
    refine ⟨?_, d6⟩
    unfold step
    simp only [hu', if_false, hc, Nat.add_zero, r1, r2, hm0, hm1, if_true, hsz]
    unfold readComm
    simp only [r3, r4, r5, r6, hnc, hss, Nat.reduceMod, Nat.reduceAdd, Nat.reduceGT, false_and, if_false, if_true, e3, hf,
      Int.toNat_natCast, k1, k2, Nat.add_assoc]
  · obtain ⟨r7, d7⟩ := rd_at d6 he (by decide)
    obtain ⟨r8, d8⟩ := rd_at (x := [0]) (n := 1) d7 rfl (by decide)
    obtain ⟨r9, d9⟩ := rd_at (x := [0]) (n := 1) d8 rfl (by decide)
    have hlen := len_of_drop d9 (by omega)
    have hsz : ofBE (be32 ((24 : Nat) : Int)) = 24 := by decide
    have k1 : ¬ (24 ≥ bs.length) := by omega
    have k2 : ¬ (((s.pos + 4 + 4 + 2 + 4 + 2 + 10 + 4 + 1 + 1 : Nat) : Int) ≥ (bs.length : Int) - 8) := by omega
    refine ⟨?_, d9⟩
    unfold step
    simp only [hu', if_false, hc, Nat.add_zero, r1, r2, hm0, hm1, if_true, hsz]
    unfold readComm
    simp only [r3, r4, r5, r6, r7, r8, r9, hnc, hss, Nat.reduceMod, Nat.reduceAdd, Nat.reduceGT, Nat.reduceEqDiff, Nat.reduceSub,
      Nat.reduceLeDiff, ge_iff_le, false_and, if_false, if_true, e3, hf, Int.toNat_natCast, k1, k2, Nat.add_assoc]

end Sf.Aiff
