/-
  Helper lemmas about the NMS ADPCM codec core (SfModel/Nms.lean): ranges of the 16-bit wrap and of the scale
  factor `yl` after `update`, shapes (list lengths) kept by `update` / `reconstruct`.
-/
import SfModel.Nms
import SfProofs.Bytes
namespace Sf.Nms.Proofs
open Sf Sf.Nms

theorem wrapS16_range (x : Int) : -32768 ≤ wrapS 16 x ∧ wrapS 16 x ≤ 32767 := Sf.wrapS16_range x

/-- shapes: the coefficient and delta arrays keep their C lengths -/
structure Shape (s : St) : Prop where
  b  : s.b.length = 6
  dq : s.dq.length = 7

theorem shape_init (r : Rate) : Shape (St.init r) := ⟨rfl, rfl⟩

theorem update_shape (s : St) (h : Shape s) : Shape (update s) := by
  constructor
  · show (List.zipWith _ s.b s.dq.tail).length = 6
    rw [List.length_zipWith, List.length_tail, h.b, h.dq]; rfl
  · show (s.dq.headD 0 :: s.dq.take 6).length = 7
    rw [List.length_cons, List.length_take, h.dq]; rfl

theorem reconstruct_shape (s : St) (i : Nat) (h : Shape s) : Shape (reconstruct s i).1 := by
  constructor
  · exact h.b
  · show (_ :: s.dq.tail).length = 7
    rw [List.length_cons, List.length_tail, h.dq]

theorem update_tOff (s : St) : (update s).tOff = s.tOff := by unfold update; rfl
theorem reconstruct_tOff (s : St) (i : Nat) : (reconstruct s i).1.tOff = s.tOff := rfl
theorem reconstruct_ik (s : St) (i : Nat) : (reconstruct s i).1.ik = i % 16 := rfl

theorem update_yl_eq (s : St) : (update s).yl = nextYl s := by unfold update; rfl

theorem nextYl_range (s : St) : 2171 ≤ nextYl s ∧ nextYl s ≤ 20480 := by
  unfold nextYl
  simp only
  split
  · omega
  · split <;> omega

theorem update_yl (s : St) : 2171 ≤ (update s).yl ∧ (update s).yl ≤ 20480 := by
  rw [update_yl_eq]; exact nextYl_range s

theorem update_y (s : St) : (update s).y = antilog (nextYl s) := by
  unfold update
  rfl

end Sf.Nms.Proofs
