/-
  The XI delta coders at any width: `Dpcm.delta16` / `delta8` and `Dpcm.undelta16` / `undelta8` are `delta` / `undelta` at 16 / 8.
  A value of `w` bits is a fixed point of `wrapS w`, so no lemma here has a bound to compute.
-/
import SfModel.Dpcm
import SfProofs.Bytes
namespace Sf.Block.Proofs
open Sf

def delta (w : Nat) : Int → List Int → Int × List Int
  | last, [] => (last, [])
  | last, x :: xs => let (l, ds) := delta w x xs; (l, wrapS w (x - last) :: ds)

def undelta (w : Nat) : Int → List Int → Int × List Int
  | last, [] => (last, [])
  | last, d :: ds => let v := wrapS w (last + d); let (l, vs) := undelta w v ds; (l, v :: vs)

/- The model's functions are these bodies with the numeral in place of `w`: unfolded to their recursors the two sides are one term. -/
theorem delta16_eq : Dpcm.delta16 = delta 16 := by delta Dpcm.delta16 delta; rfl

theorem delta8_eq : Dpcm.delta8 = delta 8 := by delta Dpcm.delta8 delta; rfl

theorem undelta16_eq : Dpcm.undelta16 = undelta 16 := by delta Dpcm.undelta16 undelta; rfl

theorem undelta8_eq : Dpcm.undelta8 = undelta 8 := by delta Dpcm.undelta8 undelta; rfl

theorem delta_append (w : Nat) (xs : List Int) : ∀ (l : Int) (ys : List Int),
    (delta w l (xs ++ ys)).2 = (delta w l xs).2 ++ (delta w (delta w l xs).1 ys).2 ∧
    (delta w l (xs ++ ys)).1 = (delta w (delta w l xs).1 ys).1 := by
  induction xs with
  | nil => intro l ys; exact ⟨rfl, rfl⟩
  | cons x xs ih =>
    intro l ys
    simp only [List.cons_append, delta]
    obtain ⟨h1, h2⟩ := ih x ys
    rw [h1, h2]
    exact ⟨rfl, rfl⟩

theorem delta_length (w : Nat) : ∀ (xs : List Int) (l : Int), (delta w l xs).2.length = xs.length
  | [], _ => rfl
  | x :: xs, _ => by simp [delta, delta_length w xs x]

theorem delta_wrapS (w : Nat) : ∀ (xs : List Int) (l : Int), ∀ d ∈ (delta w l xs).2, wrapS w d = d
  | [], _ => by intro d hd; cases hd
  | x :: xs, l => by
    intro d hd
    simp only [delta, List.mem_cons] at hd
    rcases hd with rfl | hd
    · exact wrapS_wrapS w _
    · exact delta_wrapS w xs x d hd

/-- the running value a call leaves is its last sample, or the one it was given -/
theorem delta_state (w : Nat) (P : Int → Prop) : ∀ (xs : List Int) (l : Int), P l → (∀ x ∈ xs, P x) → P (delta w l xs).1
  | [], _, hl, _ => hl
  | x :: xs, _, _, hx => by
    simp only [delta]
    exact delta_state w P xs x (hx x (by simp)) (fun y hy => hx y (by simp [hy]))

theorem wrapS_undo (w : Nat) (l x : Int) (h : wrapS w x = x) : wrapS w (l + wrapS w (x - l)) = x := by
  rw [Int.add_comm, wrapS_add_wrapS, Int.sub_add_cancel, h]

theorem undelta_delta (w : Nat) (xs : List Int) : ∀ (l : Int), (∀ x ∈ xs, wrapS w x = x) →
    undelta w l (delta w l xs).2 = ((delta w l xs).1, xs) := by
  induction xs with
  | nil => intro l _; rfl
  | cons x xs ih =>
    intro l h
    simp only [delta, undelta]
    rw [wrapS_undo w l x (h x (by simp)), ih x (fun y hy => h y (by simp [hy]))]

theorem undelta_stored {α} (w : Nat) (enc : Int → α) (dec : α → Int) (hd : ∀ d, dec (enc d) = wrapS w d) (xs : List Int) (l : Int)
    (h : ∀ x ∈ xs, wrapS w x = x) : undelta w l (((delta w l xs).2.map enc).map dec) = ((delta w l xs).1, xs) := by
  rw [List.map_map, map_eq_self (f := dec ∘ enc) fun d hm => (hd d).trans (delta_wrapS w xs l d hm), undelta_delta w xs l h]

end Sf.Block.Proofs
