/-
  SfProofs.AlacEscape — the uncompressed ("escape") elements of the ALAC model: what `encMonoEsc` / `encPairEsc` write,
  `decMono` / `decPair` read back (sample, sample list, header, element).  Defined here, and used in the statements of every
  ALAC round trip: `I32`, `Depth`, `DecodesTo`.
-/
import SfProofs.AlacBits
import SfModel.AlacEnc
namespace Sf.AlacCore

/-- a C `int32_t` -/
def I32 (x : Int) : Prop := -2147483648 ≤ x ∧ x < 2147483648

/-- the four sample widths of SF_FORMAT_ALAC_16 / 20 / 24 / 32 (src/alac.c) -/
def Depth (d : Nat) : Prop := d = 16 ∨ d = 20 ∨ d = 24 ∨ d = 32

theorem read_split (V a b : Nat) (rest : Bits) (p : Nat) :
    (Rd.mk (bitsOf V (a + b) ++ rest) p).read a = (V / 2 ^ b % 2 ^ a, Rd.mk (bitsOf V b ++ rest) (p + a)) := by
  rw [bitsOf_split, List.append_assoc, read_bitsOf]

theorem rdEscSample_enc {depth : Nat} (hd : Depth depth) {x : Int} (hx : I32 x) (rest : Bits) (p : Nat) :
    rdEscSample depth ⟨escSampleBits depth depth x ++ rest, p⟩ = (asr x (32 - depth), ⟨rest, p + depth⟩) := by
  obtain ⟨h1, h2⟩ := hx
  -- above 16 bits: two reads, 16 bits and the remaining `k`
  have wide : ∀ k, k = 4 ∨ k = 8 ∨ k = 16 →
      rdEscSample (16 + k) ⟨escSampleBits (16 + k) (16 + k) x ++ rest, p⟩ = (asr x (32 - (16 + k)), ⟨rest, p + (16 + k)⟩) := by
    intro k hk
    unfold rdEscSample escSampleBits
    rw [if_neg (by omega), Nat.add_sub_cancel_left, read_split]
    simp only [read_bitsOf]
    unfold shl32 wrapS wrapU asr
    rcases hk with rfl | rfl | rfl
    all_goals
      simp only [Nat.reduceAdd, Nat.reduceSub, Nat.reducePow, Int.reducePow, Prod.mk.injEq]
      refine ⟨?_, trivial⟩
      split <;> omega
  rcases hd with rfl | rfl | rfl | rfl
  · simp only [rdEscSample, escSampleBits, read_bitsOf, Nat.le_refl, if_true]
    simp only [sext, wrapU, asr, Prod.mk.injEq, and_true]
    norm_num
    omega
  · exact wide 4 (Or.inl rfl)
  · exact wide 8 (Or.inr (Or.inl rfl))
  · exact wide 16 (Or.inr (Or.inr rfl))

theorem rdMonoEsc_enc {depth : Nat} (hd : Depth depth) (xs : List Int) (hxs : ∀ x ∈ xs, I32 x) (rest : Bits) (p : Nat) :
    rdMonoEsc depth xs.length ⟨xs.flatMap (escSampleBits depth depth) ++ rest, p⟩ =
      (xs.map (asr · (32 - depth)), ⟨rest, p + depth * xs.length⟩) := by
  induction xs generalizing p with
  | nil => simp [rdMonoEsc]
  | cons x xs ih =>
    simp only [List.flatMap_cons, List.append_assoc, List.length_cons, rdMonoEsc]
    rw [rdEscSample_enc hd (hxs x (by simp))]
    simp only
    rw [ih (fun y hy => hxs y (by simp [hy]))]
    simp [Nat.mul_succ]; omega

def pairBits (depth : Nat) (lr : Int × Int) : Bits := escSampleBits depth depth lr.1 ++ escSampleBits depth depth lr.2

theorem pairBits_length (depth : Nat) (l : List (Int × Int)) : (l.flatMap (pairBits depth)).length = 2 * depth * l.length := by
  induction l with
  | nil => rfl
  | cons x xs ih => simp [List.flatMap_cons, pairBits, escSampleBits, bitsOf_length, ih, Nat.mul_succ]; omega

theorem rdPairEsc_enc {depth : Nat} (hd : Depth depth) (ls rs : List Int) (hlen : ls.length = rs.length)
    (hls : ∀ x ∈ ls, I32 x) (hrs : ∀ x ∈ rs, I32 x) (rest : Bits) (p : Nat) :
    rdPairEsc Rules.current depth ls.length ⟨(List.zip ls rs).flatMap (pairBits depth) ++ rest, p⟩ =
      (ls.map (asr · (32 - depth)), rs.map (asr · (32 - depth)), ⟨rest, p + 2 * depth * ls.length⟩) := by
  induction ls generalizing rs p with
  | nil =>
    cases rs with
    | nil => simp [rdPairEsc]
    | cons r rs => simp at hlen
  | cons l ls ih =>
    cases rs with
    | nil => simp at hlen
    | cons r rs =>
      simp only [List.zip_cons_cons, List.flatMap_cons, pairBits, List.append_assoc, List.length_cons, rdPairEsc]
      rw [rdEscSample_enc hd (hls l (by simp))]
      simp only [Rules.current, if_true]
      rw [rdEscSample_enc hd (hrs r (by simp))]
      simp only
      have := ih rs (by simpa using hlen) (fun y hy => hls y (by simp [hy])) (fun y hy => hrs y (by simp [hy])) (p + depth + depth)
      simp only [Rules.current] at this
      rw [this]
      simp [Nat.mul_succ]; omega

theorem encPairEsc_current (depth n : Nat) (ls rs : List Int) (stale : List Int × List Int) :
    encPairEsc Rules.current depth n ls rs stale = escHeaderBits n ++ (List.zip ls rs).flatMap (pairBits depth) := by
  unfold encPairEsc pairBits
  simp only [Rules.current, Bool.false_eq_true, and_false, if_false]
  congr 2
  funext ⟨l, r⟩
  by_cases h : depth = 20 <;> simp [h]

def escHeaderLen (n : Nat) : Nat := if n ≠ frameLen then 48 else 16

theorem escHeaderBits_length (n : Nat) : (escHeaderBits n).length = escHeaderLen n := by
  unfold escHeaderBits escHeaderLen
  by_cases h : n = frameLen <;> simp [h, bitsOf_length]

theorem hdrBits_length (pf : Bool) (bs n : Nat) (esc : Bool) : (hdrBits pf bs n esc).length = if pf then 48 else 16 := by
  unfold hdrBits
  cases pf <;> simp [bitsOf_length]

theorem rdHeader_hdr (inst n reqN bs : Nat) (esc : Bool) (hbs : bs ≤ 2) (hn : n ≤ frameLen) (hreq : n = frameLen → reqN = frameLen)
    (rest : Bits) (p : Nat) :
    rdHeader reqN ⟨bitsOf inst 4 ++ (hdrBits (decide (n ≠ frameLen)) bs n esc ++ rest), p⟩ =
      (.ok ⟨bs, esc, n⟩, ⟨rest, p + 4 + escHeaderLen n⟩) := by
  have hbs' : bs = 0 ∨ bs = 1 ∨ bs = 2 := by omega
  unfold hdrBits escHeaderLen rdHeader
  by_cases h : n = frameLen
  · subst h
    simp only [ne_eq, not_true_eq_false, decide_false, Bool.false_eq_true, if_false, List.append_assoc, List.nil_append, read_bitsOf,
      hreq rfl]
    rcases hbs' with rfl | rfl | rfl <;> cases esc <;> simp [frameLen]
  · have hlt : n < 4096 := by unfold frameLen at hn h; omega
    simp only [ne_eq, h, not_false_eq_true, decide_true, if_true, List.append_assoc, read_bitsOf]
    have e1 : n / 2 ^ 16 % 2 ^ 16 = 0 := by omega
    have e2 : n % 2 ^ 16 = n := by omega
    have r1 : ∀ q, (Rd.mk (bitsOf n 32 ++ rest) q).read 16 = (0, Rd.mk (bitsOf n 16 ++ rest) (q + 16)) := by
      intro q
      rw [show bitsOf n 32 = bitsOf n (16 + 16) from rfl, read_split, e1]
    have e3 : n % 65536 = n := by omega
    rcases hbs' with rfl | rfl | rfl <;> cases esc <;> simp [r1, read_bitsOf, e3, frameLen, hlt]

theorem rdHeader_esc (inst n reqN : Nat) (hn : n ≤ frameLen) (hreq : n = frameLen → reqN = frameLen) (rest : Bits) (p : Nat) :
    rdHeader reqN ⟨bitsOf inst 4 ++ (escHeaderBits n ++ rest), p⟩ = (.ok ⟨0, true, n⟩, ⟨rest, p + 4 + escHeaderLen n⟩) := by
  have e : escHeaderBits n = hdrBits (decide (n ≠ frameLen)) 0 n true := by
    unfold escHeaderBits hdrBits; by_cases h : n = frameLen <;> simp [h]
  rw [e]
  exact rdHeader_hdr inst n reqN 0 true (by decide) hn hreq rest p

theorem w32_of_fits {x : Int} (h1 : -2147483648 ≤ x) (h2 : x < 2147483648) : w32 x = x := by
  unfold w32 wrapS
  simp only [Int.reducePow]
  split <;> omega

theorem trunc_of_low_clear (depth : Nat) {x : Int} (hx : I32 x) (h0 : x % (2 : Int) ^ (32 - depth) = 0) : trunc depth x = x := by
  unfold trunc shl32 asr
  rw [Int.ediv_mul_cancel (Int.dvd_of_emod_eq_zero h0)]
  exact w32_of_fits hx.1 hx.2

theorem trunc32 {x : Int} (hx : I32 x) : trunc 32 x = x := trunc_of_low_clear 32 hx (by simp)

theorem outChan_current {depth : Nat} (hd : Depth depth) (xs : List Int) (hxs : ∀ x ∈ xs, I32 x) :
    outChan Rules.current depth 0 (xs.map (asr · (32 - depth))) [] = some (xs.map (trunc depth)) := by
  rcases hd with rfl | rfl | rfl | rfl
  · simp [outChan, trunc, List.map_map, Function.comp_def]
  · simp [outChan, trunc, List.map_map, Function.comp_def]
  · simp [outChan, trunc, List.map_map, Function.comp_def]
  · simp only [outChan, Rules.current]
    simp only [show ¬ ((32 : Nat) = 16) by decide, show ¬ ((32 : Nat) = 20) by decide, show ¬ ((32 : Nat) = 24) by decide, if_false,
      if_true, ne_eq, not_true_eq_false, Bool.false_eq_true]
    congr 1
    apply List.map_congr_left
    intro x hx
    rw [trunc32 (hxs x hx)]
    simp [asr]

theorem encMonoEsc_length (depth n : Nat) (xs : List Int) : (encMonoEsc depth n xs).length = escHeaderLen n + depth * xs.length := by
  rw [encMonoEsc, List.length_append, escHeaderBits_length]
  exact congrArg _ (flatMap_bitsOf_length (fun x => wrapU 32 (asr x (32 - depth))) depth xs)

theorem encPairEsc_length (depth n : Nat) (ls rs : List Int) (stale : List Int × List Int) (h : ls.length = rs.length) :
    (encPairEsc Rules.current depth n ls rs stale).length = escHeaderLen n + 2 * depth * ls.length := by
  rw [encPairEsc_current, List.length_append, escHeaderBits_length, pairBits_length, List.length_zip, h, Nat.min_self]

/-- the element `E` (what follows the instance tag) decodes to `n` samples of the channels `chs` wherever it stands in a packet of
    `byteSize` bytes it fits into, whatever the instance tag before it and the bits behind it; `reqN` = the frame count the caller
    asked for, which a full frame takes over -/
def DecodesTo (dec : Nat → Rd → ElemRes) (byteSize n : Nat) (E : Bits) (chs : List (List Int)) : Prop :=
  ∀ (inst reqN : Nat) (rest : Bits) (p : Nat), (n = frameLen → reqN = frameLen) → p + 4 + E.length ≤ byteSize * 8 →
    dec reqN ⟨bitsOf inst 4 ++ (E ++ rest), p⟩ = .done n chs ⟨rest, p + 4 + E.length⟩

theorem decMono_esc (cd : CompDec) {cfg : Config} (hd : Depth cfg.bitDepth) (byteSize : Nat) (xs : List Int) (hxs : ∀ x ∈ xs, I32 x)
    {n : Nat} (hl : xs.length = n) (hn : n ≤ frameLen) :
    DecodesTo (decMono cd Rules.current cfg) byteSize n (encMonoEsc cfg.bitDepth n xs) [xs.map (trunc cfg.bitDepth)] := by
  subst hl
  intro inst reqN rest p hreq _
  rw [encMonoEsc_length, ← Nat.add_assoc]
  unfold decMono encMonoEsc
  rw [List.append_assoc, rdHeader_esc inst xs.length reqN hn hreq]
  simp only [if_true, Nat.mul_zero, Nat.sub_zero]
  rw [rdMonoEsc_enc hd xs hxs, outChan_current hd xs hxs]
  simp

theorem decPair_esc (cd : CompDec) {cfg : Config} (hd : Depth cfg.bitDepth) (byteSize : Nat) (ls rs : List Int) (hlen : ls.length = rs.length)
    (hls : ∀ x ∈ ls, I32 x) (hrs : ∀ x ∈ rs, I32 x) {n : Nat} (hl : ls.length = n) (hn : n ≤ frameLen) (stale : List Int × List Int) :
    DecodesTo (decPair cd Rules.current cfg) byteSize n (encPairEsc Rules.current cfg.bitDepth n ls rs stale)
      [ls.map (trunc cfg.bitDepth), rs.map (trunc cfg.bitDepth)] := by
  subst hl
  intro inst reqN rest p hreq _
  rw [encPairEsc_length _ _ _ _ _ hlen, ← Nat.add_assoc]
  unfold decPair
  rw [encPairEsc_current, List.append_assoc, rdHeader_esc inst ls.length reqN hn hreq]
  simp only [if_true]
  rw [rdPairEsc_enc hd ls rs hlen hls hrs]
  simp only [outPair0, outChan_current hd ls hls, outChan_current hd rs hrs]

end Sf.AlacCore
