/-
  The header parsers applied to the images the writers produce (C04, C11): what a parsed image and a handle opened on it
  show (`ParsedAs`, `Opened`, `opened_of_parsed`), for AU and RAW (WAV is SfProofs/ContainerWav.lean).
-/
import SfProofs.ContainerOpen
namespace Sf

def auCodecs : List Nat := [0x01, 0x02, 0x03, 0x04, 0x06, 0x07, 0x10, 0x11]

theorem auCodec_auEncoding (codec : Nat) (h : codec ∈ auCodecs) : auCodec (auEncoding codec) = some codec := by
  simp [auCodecs] at h
  rcases h with h | h | h | h | h | h | h | h <;> subst h <;> rfl

theorem auEncoding_lt (codec : Nat) : auEncoding codec < 28 := by
  unfold auEncoding; split <;> omega

/-- `au_read_header` on header ++ data, whatever the length: the parser recovers every parameter, and the data
    length from the real file size -/
theorem auParse_image (big : Bool) (codec : Nat) (sr : Int) (ch : Nat) (data : List Byte)
    (hcodec : codec ∈ auCodecs) (hch : 1 ≤ ch ∧ ch ≤ 1024) (hsr : -0x80000000 ≤ sr ∧ sr ≤ 0x7FFFFFFF) :
    auParse (auHdr_ct big codec sr ch data.length ++ data) =
      .ok { fmtWord := (if big then 0 else 0x10000000) + 0x030000 + codec, ch := ch, sr := sr, big := big,
            dataoffset := 24, datalength := data.length, dataend := 0, filelength := ((24 + data.length : Nat) : Int) } := by
  generalize hM : (if big then marker ".snd" else marker "dns.") = M
  have hMl : M.length = 4 := by rw [← hM]; cases big <;> rfl
  generalize hdl : (if (data.length : Int) < 0 ∨ (data.length : Int) > 0x7FFFFFFF then (-1 : Int) else data.length) = dl'
  have hlen : (auHdr_ct big codec sr ch data.length ++ data).length = 24 + data.length := by rw [List.length_append, auHdr_ct_length]
  have hb1 : (M == marker ".snd") = big := by rw [← hM]; cases big <;> decide
  have hb2 : (M == marker "dns.") = !big := by rw [← hM]; cases big <;> decide
  have hfl : ((sext 32 (wrapU 32 dl') == -1) = true ∨ ((24 : Int) + sext 32 (wrapU 32 dl') == ((24 + data.length : Nat) : Int)) = true) := by
    by_cases hbig : (data.length : Int) > 0x7FFFFFFF
    · left
      have : dl' = -1 := by rw [← hdl]; simp [hbig]
      rw [this]; decide
    · right
      have : dl' = data.length := by rw [← hdl]; simp; omega
      rw [this, sext32_wrapU _ (by omega) (by omega)]; simp
  unfold auParse
  rw [hlen]
  simp only [auHdr_ct, hdl, hM, List.append_assoc, List.take_left' hMl, rd32_skip, rd32_head, hMl, u32_length, Nat.reduceSub, Nat.reduceLeDiff,
    Nat.le_refl, hb1, hb2, sext32_wrapU sr hsr.1 hsr.2, wrapU_of_lt 32 ch (by omega), sext_of_lt 32 ch (by omega),
    wrapU_of_lt 32 (auEncoding codec) (by have := auEncoding_lt codec; omega), auCodec_auEncoding codec hcodec,
    show wrapU 32 24 = 24 from by decide, show sext 32 24 = 24 from by decide, hfl, if_true]
  have : ¬ (24 + data.length < 24) := by omega
  have hc1 : ¬ ((ch : Int) < 1 ∨ (ch : Int) > 1024) := by omega
  cases big <;> simp [this, hc1] <;> omega

theorem openHandle_parsed (ix : Nat) (bs : List Byte) (pos : Nat) (m : Mode) (hm : m ≠ .w) (fmt0 : Nat) (ch0 sr0 : Int)
    (p : Parsed) (c : Container) (enc : Enc)
    (hraw : containerOf fmt0 ≠ some .raw) (hp : parseAny bs = .ok p) (hc : containerOf p.fmtWord = some c)
    (he : encOf c (codecOf p.fmtWord) p.big = some enc) (hsr : 1 ≤ p.sr) :
    ∃ h' s', openHandle ix ⟨bs, pos⟩ m fmt0 ch0 sr0 = .ok h' s' ∧ h'.mode = m ∧ h'.rpos = 0 ∧
      h'.frames = (initFrames p.dataoffset p.dataend p.filelength (enc.nbytes * p.ch)).2 ∧
      h'.ch = p.ch ∧ h'.sr = p.sr ∧ h'.enc = enc ∧ h'.container = c ∧ h'.fmtWord = p.fmtWord ∧ h'.peak = p.peak ∧
      h'.peakAtStart = p.peakAtStart ∧ h'.dataend = p.dataend ∧
      h'.dataoffset = p.dataoffset ∧ s'.bytes = bs ∧ s'.pos = p.dataoffset := by
  have hlen : ¬ bs.length = 0 := by
    intro h0
    rw [List.eq_nil_of_length_eq_zero h0] at hp
    exact absurd hp (by simp [parseAny])
  have hmw : (m == Mode.w) = false := by cases m <;> first | rfl | exact absurd rfl hm
  have hraw' : (containerOf fmt0 == some Container.raw) = false := by simpa using hraw
  have hsr' : ¬ p.sr < 1 := by omega
  simp [parseAny] at hp
  unfold openHandle
  simp [Store.seekSet, hmw, hraw', hp, hc, he, hsr', hlen]
  exact ⟨_, _, ⟨rfl, rfl⟩, rfl, rfl, rfl, rfl, rfl, rfl, rfl, rfl, rfl, rfl, rfl, rfl, rfl, rfl⟩

theorem encOf_au_codecs {codec : Nat} {big : Bool} {enc : Enc} (h : encOf .au codec big = some enc) : codec ∈ auCodecs := by
  unfold encOf at h
  split at h <;> (try split at h) <;> (try cases h) <;> simp_all [auCodecs]

def wavCodecs : List Nat := [0x05, 0x02, 0x03, 0x04, 0x06, 0x07, 0x10, 0x11]

/-- bytes per sample of a WAV codec -/
def wavNb : Nat → Nat
  | 0x05 => 1 | 0x02 => 2 | 0x03 => 3 | 0x04 => 4 | 0x06 => 4 | 0x07 => 8 | 0x10 => 1 | 0x11 => 1 | _ => 0

theorem encOf_wav_facts {codec : Nat} {big : Bool} {enc : Enc} (h : encOf .wav codec big = some enc) :
    codec ∈ wavCodecs ∧ enc.nbytes = wavNb codec := by
  unfold encOf at h
  split at h <;> (try split at h) <;> (try cases h) <;> simp_all [wavCodecs, wavNb, Enc.nbytes, PcmFmt.nbytes]

theorem fmtWord_facts (e : Nat) (k : Container) (codec : Nat) (he : e % 0x10000000 = 0) (hc : codec < 0x10000) :
    containerOf (e + k.code + codec) = some k ∧ codecOf (e + k.code + codec) = codec := by
  have hk : k.code % 0x10000 = 0 ∧ k.code < 0x10000000 := by cases k <;> decide
  have hm : (e + k.code + codec) / 0x10000 % 0x1000 = k.code / 0x10000 ∧ (e + k.code + codec) % 0x10000 = codec := by omega
  unfold containerOf codecOf
  rw [hm.1, hm.2]
  cases k <;> exact ⟨rfl, rfl⟩

theorem parseAny_au (big : Bool) (codec : Nat) (sr : Int) (ch : Nat) (dl : Int) (data : List Byte) :
    parseAny (auHdr_ct big codec sr ch dl ++ data) = auParse (auHdr_ct big codec sr ch dl ++ data) := by
  unfold parseAny
  cases big <;> simp [auHdr_ct]

theorem initFrames_plain (off len bw : Nat) (hbw : 0 < bw) :
    (initFrames (off : Int) 0 ((off + len : Nat) : Int) bw).2 = ((len / bw : Nat) : Int) := by
  unfold initFrames
  by_cases h : len = 0
  · subst h; simp
  · have h1 : ((off + len : Nat) : Int) > (off : Int) := by omega
    have h2 : ((off + len : Nat) : Int) - (off : Int) = (len : Int) := by omega
    simp only [h1, if_true, gt_iff_lt, Int.lt_irrefl, if_false, hbw, h2]
    rfl

/-- the frame count read off an image header ++ data ++ tail, where `dataend` is set when a tail follows the data -/
theorem initFrames_tail (off len extra bw : Nat) (hbw : 0 < bw) (ho : 0 < off) :
    (initFrames (off : Int) (if len < len + extra then ((off + len : Nat) : Int) else 0)
      ((off + (len + extra) : Nat) : Int) bw).2 = ((len / bw : Nat) : Int) := by
  rcases Nat.eq_zero_or_pos extra with hx | hx
  · subst hx
    rw [Nat.add_zero, if_neg (Nat.lt_irrefl len)]
    exact initFrames_plain off len bw hbw
  · rw [if_pos (by omega)]
    unfold initFrames
    have h1 : ((off + (len + extra) : Nat) : Int) > (off : Int) := by omega
    have h2 : ((off + len : Nat) : Int) > 0 := by omega
    have h3 : ((off + len : Nat) : Int) - (off : Int) = (len : Int) := by omega
    simp only [h1, h2, if_true, hbw, h3]
    rfl

/-- the format word a reader reports for a file of configuration `c` -/
def Cfg.word (c : Cfg) : Nat :=
  match c.container with
  | .raw => c.fmtWord
  | .au => (if c.big then 0 else 0x10000000) + 0x030000 + codecOf c.fmtWord
  | .wav => (if c.big then 0x20000000 else 0) + 0x010000 + codecOf c.fmtWord

theorem openCfg_word {fmt : Nat} {ch sr : Int} {c : Cfg} (hcfg : openCfg fmt ch sr = some c) :
    c.word = match c.container with
      | .raw => fmt
      | .au => (if dataBig .au fmt then 0 else 0x10000000) + 0x030000 + codecOf fmt
      | .wav => (if dataBig .wav fmt then 0x20000000 else 0) + 0x010000 + codecOf fmt := by
  obtain ⟨_, f2, _, _, f5, _⟩ := openCfg_facts hcfg
  unfold Cfg.word
  rw [f2, f5]
  cases c.container <;> rfl

/-- the word a reader reports is the word of the open call up to the byte-order bits -/
theorem openCfg_word_mod {fmt : Nat} {ch sr : Int} {c : Cfg} (hcfg : openCfg fmt ch sr = some c) :
    c.word % 0x10000000 = fmt % 0x10000000 := by
  have hm := containerOf_code (openCfg_facts hcfg).1
  rw [openCfg_word hcfg]
  unfold codecOf
  cases hk : c.container with
  | raw => rfl
  | au => rw [hk] at hm; simp only [Container.code] at hm ⊢; split <;> omega
  | wav => rw [hk] at hm; simp only [Container.code] at hm ⊢; split <;> omega

/-- a configuration `openHandle … .w` accepts, with a rate a signed 32-bit header field holds -/
structure Cfg.Ok (c : Cfg) : Prop where
  enc : encOf c.container (codecOf c.fmtWord) c.big = some c.enc
  ch : 1 ≤ c.ch ∧ c.ch ≤ 1024
  sr : 1 ≤ c.sr ∧ c.sr ≤ 0x7FFFFFFF

/-- a state whose image can be read: whole frames of data, a PEAK table (WAV only) with one entry per channel -/
structure Abs.Ok (c : Cfg) (a : Abs) : Prop where
  dlen : a.data.length = a.frames * c.bw
  pkLen : ∀ ps, a.peak = some ps → ps.length = c.ch
  pkWav : c.container ≠ .wav → a.peak = none

theorem Abs.Ok.of_shape {c : Cfg} {a : Abs} (hd : a.data.length = a.frames * c.bw) (hl : ∀ ps, a.peak = some ps → ps.length = c.ch)
    (hs : a.peak.isSome = c.hasPeak) : a.Ok c := by
  refine ⟨hd, hl, fun hw => ?_⟩
  have hs : a.peak.isSome = false := by
    rw [hs, Cfg.hasPeak]
    cases hk : c.container <;> first | rfl | exact absurd hk hw
  cases hp : a.peak with
  | none => rfl
  | some _ => rw [hp] at hs; cases hs

theorem Inv.absOk {c : Cfg} {a : Abs} {h : H} {s : Store} (i : Inv c a h s) : a.Ok c := .of_shape i.dlen i.pkLen i.pkSome

/-- every image a session leaves in its store: the header of `c` and `a` (with any RIFF length field), the data, and
    what may stand behind it (the pad byte of a closed WAV file) -/
def image (c : Cfg) (a : Abs) (fl : Int) (tail : List Byte) : List Byte := hdrBytes c a fl a.data.length ++ a.data ++ tail

/-- what the header of an image of `c`, `a` says -/
structure ParsedAs (c : Cfg) (a : Abs) (tail : List Byte) (p : Parsed) : Prop where
  ch : p.ch = c.ch
  sr : p.sr = c.sr
  word : p.fmtWord = c.word
  big : p.big = c.big
  doff : p.dataoffset = a.off c
  dend : p.dataend = if a.data.length < a.data.length + tail.length then ((a.off c + a.data.length : Nat) : Int) else 0
  flen : p.filelength = ((a.off c + (a.data.length + tail.length) : Nat) : Int)
  pkSome : p.peak.isSome = a.peak.isSome
  pkLen : ∀ ps, p.peak = some ps → ps.length = c.ch
  pas : p.peakAtStart = true

/-- what `openHandle` in mode `m` makes of an image of `c`, `a`: the handle shows the configuration and the frame count,
    the store stands behind the header -/
structure Opened (c : Cfg) (a : Abs) (tail : List Byte) (m : Mode) (img : List Byte) (h' : H) (s' : Store) : Prop where
  mode : h'.mode = m
  rpos : h'.rpos = 0
  frames : h'.frames = a.frames
  ch : h'.ch = c.ch
  sr : h'.sr = c.sr
  enc : h'.enc = c.enc
  cont : h'.container = c.container
  word : h'.fmtWord = c.word
  pkSome : h'.peak.isSome = a.peak.isSome
  pkLen : ∀ ps, h'.peak = some ps → ps.length = c.ch
  pas : h'.peakAtStart = true
  dend : tail = [] → h'.dataend = 0
  doff : h'.dataoffset = a.off c
  bytes : s'.bytes = img
  pos : s'.pos = a.off c

theorem Cfg.word_facts {c : Cfg} (hnr : c.container ≠ .raw) :
    containerOf c.word = some c.container ∧ codecOf c.word = codecOf c.fmtWord := by
  have hlt : codecOf c.fmtWord < 0x10000 := Nat.mod_lt _ (by decide)
  unfold Cfg.word
  cases hk : c.container with
  | raw => exact absurd hk hnr
  | au => exact fmtWord_facts _ .au _ (by split <;> rfl) hlt
  | wav => exact fmtWord_facts _ .wav _ (by split <;> rfl) hlt

theorem Abs.off_pos {c : Cfg} (a : Abs) (hnr : c.container ≠ .raw) : 0 < a.off c := by
  unfold Abs.off wavHdrLen_ct
  cases hk : c.container with
  | raw => exact absurd hk hnr
  | au => exact Nat.zero_lt_succ _
  | wav => simp only []; omega

/-- from the parser's answer to the handle: this step is the same for every container with a header -/
theorem opened_of_parsed {c : Cfg} {a : Abs} {tail img : List Byte} {p : Parsed} (hc : c.Ok) (ha : a.Ok c)
    (hnr : c.container ≠ .raw) (hp : parseAny img = .ok p) (pa : ParsedAs c a tail p)
    (m : Mode) (hm : m ≠ .w) (ix pos fmt0 : Nat) (ch0 sr0 : Int) (hraw : containerOf fmt0 ≠ some .raw) :
    ∃ h' s', openHandle ix ⟨img, pos⟩ m fmt0 ch0 sr0 = .ok h' s' ∧ Opened c a tail m img h' s' := by
  obtain ⟨w1, w2⟩ := c.word_facts hnr
  obtain ⟨h', s', ho, hmd, hrp, hfr, h1, h2, h3, h4, h5, h6, h7, h8, h9, h10, h11⟩ :=
    openHandle_parsed ix img pos m hm fmt0 ch0 sr0 p c.container c.enc hraw hp (by rw [pa.word]; exact w1)
      (by rw [pa.word, w2, pa.big]; exact hc.enc) (by rw [pa.sr]; exact hc.sr.1)
  have hbw : 0 < c.enc.nbytes * c.ch := Nat.mul_pos (encOf_nbytes_pos hc.enc) (by have := hc.ch; omega)
  refine ⟨h', s', ho, hmd, hrp, ?_, h1.trans pa.ch, h2.trans pa.sr, h3, h4, h5.trans pa.word, by rw [h6]; exact pa.pkSome,
    by rw [h6]; exact pa.pkLen, h7.trans pa.pas, fun ht => ?_, by rw [h9, pa.doff], h10, by rw [h11, pa.doff]⟩
  · rw [hfr, pa.doff, pa.dend, pa.flen, pa.ch,
      initFrames_tail (a.off c) a.data.length tail.length _ hbw (a.off_pos hnr), ha.dlen, Cfg.bw, Nat.mul_div_cancel _ hbw]
  · rw [h8, pa.dend, ht]; exact if_neg (Nat.lt_irrefl _)

theorem snapImage_eq (c : Cfg) (a : Abs) : snapImage c a = image c a ((c.hdrLen + a.data.length : Nat) : Int) [] :=
  (List.append_nil _).symm

theorem image_length (c : Cfg) (a : Abs) (ha : a.Ok c) (fl : Int) (tail : List Byte) :
    (image c a fl tail).length = a.off c + a.data.length + tail.length := by
  rw [image, List.length_append, List.length_append, hdrBytes_length_off c a _ _ ha.pkLen]

theorem image_drop (c : Cfg) (a : Abs) (ha : a.Ok c) (fl : Int) (tail : List Byte) :
    (image c a fl tail).drop (a.off c) = a.data ++ tail := by
  rw [image, List.append_assoc]; exact List.drop_left' (hdrBytes_length_off c a _ _ ha.pkLen)

/-- AU: the parser on an image (the file length decides, whatever the data-size field holds) -/
theorem au_parsed {c : Cfg} (hk : c.container = .au) (hc : c.Ok) (a : Abs) (ha : a.Ok c) (fl : Int) :
    ∃ p, auParse (image c a fl []) = .ok p ∧ parseAny (image c a fl []) = .ok p ∧ ParsedAs c a [] p := by
  have himg : image c a fl [] = auHdr_ct c.big (codecOf c.fmtWord) c.sr c.ch a.data.length ++ a.data := by
    simp [image, hdrBytes, hk]
  have hparse := auParse_image c.big _ c.sr c.ch a.data (encOf_au_codecs (hk ▸ hc.enc)) hc.ch ⟨by have := hc.sr; omega, hc.sr.2⟩
  have hL : a.off c = 24 := by simp [Abs.off, hk]
  have hnp : a.peak.isSome = false := by rw [ha.pkWav (by rw [hk]; decide)]; rfl
  rw [himg]
  exact ⟨_, hparse, by rw [parseAny_au]; exact hparse, rfl, rfl, by simp [Cfg.word, hk], rfl, hL.symm,
    (if_neg (Nat.lt_irrefl _)).symm, by rw [hL]; rfl, hnp.symm, fun _ e => (nomatch e), rfl⟩

/-- the AU data-size field: the data length, or −1 once it exceeds 2^31 − 1 -/
theorem au_size_field_image (c : Cfg) (a : Abs) (hc : c.container = .au) :
    rd32 c.big (snapImage c a) 8 =
      wrapU 32 (if (a.data.length : Int) > 0x7FFFFFFF then -1 else (a.data.length : Int)) := by
  have himg : snapImage c a = auHdr_ct c.big (codecOf c.fmtWord) c.sr c.ch a.data.length ++ a.data := by
    simp [snapImage, hdrBytes, hc]
  rw [himg]
  have hdl : (if (a.data.length : Int) < 0 ∨ (a.data.length : Int) > 0x7FFFFFFF then (-1 : Int) else a.data.length) =
      (if (a.data.length : Int) > 0x7FFFFFFF then -1 else (a.data.length : Int)) := by
    have : ¬ (a.data.length : Int) < 0 := by omega
    simp [this]
  simp only [auHdr_ct, hdl, List.append_assoc]
  have hMl : (if c.big then marker ".snd" else marker "dns.").length = 4 := by cases c.big <;> rfl
  exact rd32_of_At (FieldAt.head _ _ |>.skip _ _ (u32_length _ _) |>.skip _ _ hMl)

/-- RAW has no header: the handle is made from the arguments, the frame count from the byte length -/
theorem openHandle_raw (ix : Nat) (bs : List Byte) (pos : Nat) (m : Mode) (fmt : Nat) (ch sr : Int) (enc : Enc)
    (hc : containerOf fmt = some .raw) (hch : 1 ≤ ch ∧ ch ≤ 1024) (hsr : 1 ≤ sr)
    (he : encOf .raw (codecOf fmt) (dataBig .raw fmt) = some enc) :
    openHandle ix ⟨bs, pos⟩ m fmt ch sr =
      .ok { store := ix, mode := m, container := .raw, enc := enc, big := dataBig .raw fmt, ch := ch.toNat, sr := sr,
            fmtWord := fmt, lastOp := m,
            datalength := (initFrames 0 0 bs.length (enc.nbytes * ch.toNat)).1,
            frames := (initFrames 0 0 bs.length (enc.nbytes * ch.toNat)).2,
            filelength := bs.length,
            wpos := if m == .rw then (initFrames 0 0 bs.length (enc.nbytes * ch.toNat)).2 else 0,
            haveWritten := m == .rw ∧ (initFrames 0 0 bs.length (enc.nbytes * ch.toNat)).2 > 0 } ⟨bs, 0⟩ := by
  have h1 : ¬ (ch < 1 ∨ ch > 1024 ∨ sr < 0) := by omega
  have h2 : ¬ sr < 1 := by omega
  unfold openHandle
  simp only [hc, he, h1, h2, if_false, Store.seekSet]
  exact if_pos (Or.inr (by decide))

theorem openHandle_raw_r (ix : Nat) (bs : List Byte) (pos fmt : Nat) (ch sr : Int) (enc : Enc)
    (hc : containerOf fmt = some .raw) (hch : 1 ≤ ch ∧ ch ≤ 1024) (hsr : 1 ≤ sr)
    (he : encOf .raw (codecOf fmt) (dataBig .raw fmt) = some enc) :
    ∃ h s', openHandle ix ⟨bs, pos⟩ .r fmt ch sr = .ok h s' ∧
      h.frames = ((bs.length / (enc.nbytes * ch.toNat) : Nat) : Int) ∧ (h.ch : Int) = ch ∧ h.sr = sr ∧ h.enc = enc ∧
      h.fmtWord = fmt ∧ s'.bytes = bs := by
  have hbw : 0 < enc.nbytes * ch.toNat := Nat.mul_pos (encOf_nbytes_pos he) (by omega)
  have hfr := initFrames_plain 0 bs.length _ hbw
  simp only [Nat.zero_add, Int.natCast_zero] at hfr
  exact ⟨_, _, openHandle_raw ix bs pos .r fmt ch sr enc hc hch hsr he, hfr, Int.toNat_of_nonneg (by omega), rfl, rfl, rfl, rfl⟩

/-- a headerless image — the data and nothing else — opened with the parameters it was written under -/
theorem raw_opened {fmt : Nat} {ch sr : Int} {c : Cfg} (hcfg : openCfg fmt ch sr = some c) (hk : c.container = .raw) (hc : c.Ok)
    (a : Abs) (ha : a.Ok c) (fl : Int) (m : Mode) (ix pos : Nat) :
    ∃ h' s', openHandle ix ⟨image c a fl [], pos⟩ m fmt ch sr = .ok h' s' ∧ Opened c a [] m (image c a fl []) h' s' := by
  obtain ⟨f1, f2, f3, f4, f5, f6⟩ := openCfg_facts hcfg
  rw [hk] at f1 f5 f6
  have hch := hc.ch
  have hbw : 0 < c.enc.nbytes * ch.toNat := Nat.mul_pos (encOf_nbytes_pos f6) (by omega)
  have himg : image c a fl [] = a.data := by simp [image, hdrBytes_raw a _ _ hk]
  have hfr : (initFrames 0 0 (a.data.length : Int) (c.enc.nbytes * ch.toNat)).2 = a.frames := by
    have := initFrames_plain 0 a.data.length _ hbw
    simp only [Nat.zero_add, Int.natCast_zero] at this
    rw [this, ha.dlen, Cfg.bw, f4, Nat.mul_div_cancel _ hbw]
  have hO : a.off c = 0 := by simp [Abs.off, hk]
  rw [himg]
  exact ⟨_, _, openHandle_raw ix a.data pos m fmt ch sr c.enc f1 (by omega) (by rw [← f3]; exact hc.sr.1) (by rw [← f5]; exact f6),
    rfl, rfl, hfr, f4.symm, f3.symm, rfl, hk.symm, by simp [Cfg.word, hk, f2], by rw [ha.pkWav (by rw [hk]; decide)], nofun, rfl,
    fun _ => rfl, by rw [hO]; rfl, rfl, hO.symm⟩

/-! ### executable summaries used by the non-vacuity examples -/

instance (w : WCall) (ch : Nat) : Decidable (w.valid ch) := by unfold WCall.valid; infer_instance
instance (op : SOp) (ch : Nat) : Decidable (op.valid ch) := by cases op <;> (simp only [SOp.valid]; infer_instance)

def OpenRes.isOk_ct : OpenRes → Bool
  | .ok _ _ => true
  | _ => false

theorem OpenRes.exists_of_isOk {r : OpenRes} (hr : r.isOk_ct = true) : ∃ h s, r = .ok h s := by
  cases r with
  | ok h s => exact ⟨h, s, rfl⟩
  | fail s => cases hr
  | unmodelled => cases hr

/-- the bytes of the closed file of a session on an empty store -/
def sessionBytes (ix fmt : Nat) (ch sr : Int) (ops : List SOp) : Option (List Byte) :=
  match openHandle ix {} .w fmt ch sr with
  | .ok h s => some (closeHandle (runS (h, s) ops).1 (runS (h, s) ops).2).bytes
  | _ => none

/-- the store of a session that is still open -/
def sessionStore (ix fmt : Nat) (ch sr : Int) (ops : List SOp) : Option (List Byte) :=
  match openHandle ix {} .w fmt ch sr with
  | .ok h s => some (runS (h, s) ops).2.bytes
  | _ => none

/-- frames reported by a reader of `bytes` (format word as given; 0 = detect) -/
def reopenFrames (bytes : List Byte) (fmt : Nat := 0) (ch sr : Int := 0) : Option Int :=
  match openHandle 0 ⟨bytes, 0⟩ .r fmt ch sr with
  | .ok h _ => some h.frames
  | _ => none

end Sf
