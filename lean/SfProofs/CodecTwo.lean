/-
  SfProofs.CodecTwo — two consecutive write calls are one call with the concatenated buffer.  The codec half of a call
  (`wBody`) composes with itself on every state of every container (`wBody_two`), hence so does the whole wrapper of a lawful
  container while the automatic header is off (`stepWrite_two`).  With the automatic header, on the appending writer's states:
  the three parts of a call (`wrMid`, `wrH`, `wrHdr`) composed with themselves, because `write_header (…, TRUE)` forgets the
  lengths the first call's header left (`recalc_forget`); the theorem is SfProps/C07.lean `write_partition_store`.
  The PEAK table is the one thing that could see the boundary between the calls: `PeakAgree`.
-/
import SfProofs.CodecInv
namespace Sf

/-- the PEAK bookkeeping does not see the boundary between a call with `xs` and a call with `ys` -/
def PeakAgree (h : H) (ty : Ty) (xs ys : List Int) : Prop :=
  peakUpd (peakUpdate h ty xs) h.enc h.conv h.ch (h.wpos + (xs.length : Int) / h.ch) ty ys = peakUpdate h ty (xs ++ ys)

theorem peakUpd_none (enc : Enc) (conv : Conv) (ch : Nat) (wpos : Int) (ty : Ty) (vals : List Int) :
    peakUpd none enc conv ch wpos ty vals = none := by
  simp [peakUpd, peakUpdate]

/-- without a PEAK chunk (RAW, AU, integer/G.711 WAV, every file opened SFM_RDWR) there is nothing that could see the boundary -/
theorem PeakAgree_of_none (h : H) (ty : Ty) (xs ys : List Int) (hp : h.peak = none) : PeakAgree h ty xs ys := by
  unfold PeakAgree
  rw [peakUpdate_none h ty xs hp, peakUpdate_none h ty (xs ++ ys) hp, peakUpd_none]

namespace HandleG

theorem wBody_two (p : H × Store) (ty : Ty) (xs ys : List Int) (hd : (xs.length : Int) % p.1.ch = 0) (hpk : PeakAgree p.1 ty xs ys) :
    wBody (wBody p ty xs.length xs) ty ys.length ys = wBody p ty ((xs.length : Int) + ys.length) (xs ++ ys) := by
  -- frame count and data end after growing by `x`, then by `y` frames
  have grow : ∀ f a de x y : Int, 0 ≤ x → 0 ≤ y →
      max (max f (a + x)) (a + (x + y)) = max f (a + (x + y)) ∧
      (if a + (x + y) > max f (a + x) then 0 else if a + x > f then 0 else de) = if a + (x + y) > f then 0 else de := by
    intro f a de x y hx hy
    by_cases c1 : a + x > f
    · have c : a + (x + y) > f := by omega
      rw [Int.max_eq_right (Int.le_of_lt c1), Int.max_eq_right (show a + x ≤ a + (x + y) by omega),
        Int.max_eq_right (Int.le_of_lt c), if_pos c1, if_pos c, ite_self]
      exact ⟨rfl, rfl⟩
    · rw [Int.max_eq_left (Int.not_lt.mp c1), if_neg c1]
      exact ⟨rfl, rfl⟩
  obtain ⟨ef, ed⟩ := grow p.1.frames p.1.wpos p.1.dataend _ _
    (Int.ediv_nonneg (Int.natCast_nonneg xs.length) (Int.natCast_nonneg p.1.ch))
    (Int.ediv_nonneg (Int.natCast_nonneg ys.length) (Int.natCast_nonneg p.1.ch))
  have hxy : ((xs.length : Int) + ys.length).toNat = (xs ++ ys).length := by rw [List.length_append]; omega
  rw [wBody_eq p, wBody_eq p, wBody_eq, hxy, Int.add_ediv_of_dvd_left (Int.dvd_of_emod_eq_zero hd)]
  simp only [Int.toNat_natCast, List.take_length]
  rw [peakUpdate_eq, hpk, Store.write_write, Enc.encodeAll_append, Int.add_assoc, ef, ed]

/-- behind a codec write the next call neither seeks nor writes a header -/
theorem wPre_wBody (c : Cont) (p : H × Store) (ty : Ty) (len : Int) (data : List Int) (he : p.1.error = 0) :
    wPre c (wBody p ty len data).1 (wBody p ty len data).2 = wBody p ty len data := by
  obtain ⟨de, pk, e⟩ := wBody_fields p ty len data
  generalize wBody p ty len data = q at e
  obtain ⟨h', s'⟩ := q
  cases e
  simp [wPre, he]

/-- the whole write wrapper of a lawful container, header latch included, while the automatic header is off: from any state that
    can write (the first call of a session too), `xs` then `ys` is `xs ++ ys` — same handle, same store -/
theorem stepWrite_two (c : Cont) (L : ContLaws c) (h : H) (s : Store) (ty : Ty) (xs ys : List Int)
    (hm : h.mode ≠ .r) (hauto : h.autoHeader = false) (hpk : PeakAgree h ty xs ys)
    (hx : 0 < xs.length) (hy : 0 < ys.length) (hdx : (xs.length : Int) % h.ch = 0) (hdy : (ys.length : Int) % h.ch = 0) :
    let r1 := stepWrite c h s ty false xs.length xs
    let r2 := stepWrite c r1.1 r1.2.1 ty false ys.length ys
    let r := stepWrite c h s ty false ((xs.length : Int) + ys.length) (xs ++ ys)
    r2.1 = r.1 ∧ r2.2.1 = r.2.1 := by
  obtain ⟨fl1, dl1, off1, fr1, e1, _⟩ := wPre_fields L h s
  -- without automatic header updates a valid items call is `wBody` behind `wPre`
  have call : ∀ (h' : H) (s' : Store) (l : Int) (zs : List Int), h'.mode ≠ .r → h'.autoHeader = false → 0 < l → l % h'.ch = 0 →
      (stepWrite c h' s' ty false l zs).1 = (wBody (wPre c h' s') ty l zs).1 ∧
      (stepWrite c h' s' ty false l zs).2.1 = (wBody (wPre c h' s') ty l zs).2 := by
    intro h' s' l zs hm' ha' hl hd
    obtain ⟨_, _, _, _, e1', _⟩ := wPre_fields L h' s'
    obtain ⟨_, _, e2'⟩ := wBody_fields (wPre c h' s') ty l zs
    have : wPost c (wBody (wPre c h' s') ty l zs) = wBody (wPre c h' s') ty l zs := by
      simp [wPost, e2', e1', ha']
    rw [stepWrite_main c h' s' ty false l zs hl hm' (Or.inr hd)]
    simp only [reqLen_false, wAll, this, and_self]
  obtain ⟨_, _, e2⟩ := wBody_fields (wPre c h s) ty xs.length xs
  obtain ⟨a1, b1⟩ := call h s xs.length xs hm hauto (by omega) hdx
  obtain ⟨a, b⟩ := call h s ((xs.length : Int) + ys.length) (xs ++ ys) hm hauto (by omega)
    (Int.emod_eq_zero_of_dvd (Int.dvd_add (Int.dvd_of_emod_eq_zero hdx) (Int.dvd_of_emod_eq_zero hdy)))
  intro r1 r2 r
  obtain ⟨a2, b2⟩ := call r1.1 r1.2.1 ys.length ys (by rw [a1, e2, e1]; exact hm) (by rw [a1, e2, e1]; exact hauto)
    (by omega) (by rw [a1, e2, e1]; exact hdy)
  have two := wBody_two (wPre c h s) ty xs ys (by rw [e1]; exact hdx) (by rw [e1]; exact hpk)
  rw [a2, b2, a1, b1, wPre_wBody c _ ty _ xs (by rw [e1]), two]
  exact ⟨a.symm, b.symm⟩

end HandleG

theorem wrMid_wrMid (h : H) (ty : Ty) (xs ys : List Int) (hdiv : (xs.length : Int) % h.ch = 0) (hpk : PeakAgree h ty xs ys) :
    wrMid (wrMid h ty xs) ty ys = wrMid h ty (xs ++ ys) := by
  have hw : h.wpos + (xs.length : Int) / h.ch + (ys.length : Int) / h.ch = h.wpos + ((xs ++ ys).length : Int) / h.ch := by
    rw [List.length_append, Int.natCast_add, Int.add_ediv_of_dvd_left (Int.dvd_of_emod_eq_zero hdiv), Int.add_assoc]
  unfold wrMid
  simp only []
  rw [hw, peakUpdate_eq, hpk]

/-- with the file length known, a header rewrite of a non-raw file recomputes both lengths: the old ones do not matter -/
theorem recalc_forget (h : H) (a b : Int) (fl : Nat) (hc : h.container ≠ .raw) :
    recalc { h with filelength := a, datalength := b } fl true = recalc h fl true := by
  unfold recalc
  cases hk : h.container with
  | raw => exact absurd hk hc
  | au => rfl
  | wav => rfl

/-- of `recalc m fl1 true` the next call keeps only the two lengths, which the rewrite at `fl` recomputes (`recalc_forget`) -/
theorem recalc_absorb (m : H) (ty : Ty) (ys : List Int) (fl1 fl : Nat) (hd : m.dataoffset = hdrLenOf m)
    (hc : m.container ≠ .raw) :
    recalc (wrMid (recalc m fl1 true) ty ys) fl true = recalc (wrMid m ty ys) fl true := by
  have hR := recalc_fields m fl1 true
  rw [recalc_dataoffset' m fl1 true hd, ← hd] at hR
  rw [hR]
  exact recalc_forget (wrMid m ty ys) _ _ fl hc

theorem wrH_wrH (h : H) (ty : Ty) (xs ys : List Int) (fl1 fl : Nat)
    (hdiv : (xs.length : Int) % h.ch = 0) (hl : ∀ ps, h.peak = some ps → ps.length = h.ch)
    (hd : h.dataoffset = hdrLenOf h) (hpk : PeakAgree h ty xs ys) :
    wrH (wrH h ty xs fl1) ty ys fl = wrH h ty (xs ++ ys) fl := by
  by_cases hc : h.autoHeader = true ∧ (h.container != Container.raw) = true
  · have hc' : h.container ≠ .raw := by simpa using hc.2
    have hc1 : (recalc (wrMid h ty xs) fl1 true).autoHeader = true ∧ ((recalc (wrMid h ty xs) fl1 true).container != Container.raw) = true := by
      rw [recalc_fields]; exact hc
    have hm : (wrMid h ty xs).dataoffset = hdrLenOf (wrMid h ty xs) := by rw [wrMid_hdrLen h ty xs hl]; exact hd
    rw [wrH_auto h ty xs fl1 hc, wrH_auto _ ty ys fl hc1, wrH_auto h ty (xs ++ ys) fl hc,
      recalc_absorb _ _ _ _ _ hm (by simpa [wrMid] using hc'), wrMid_wrMid h ty xs ys hdiv hpk]
  · have hc1 : ¬ ((wrMid h ty xs).autoHeader = true ∧ ((wrMid h ty xs).container != Container.raw) = true) := hc
    rw [wrH_plain h ty xs fl1 hc, wrH_plain _ ty ys fl hc1, wrH_plain h ty (xs ++ ys) fl hc, wrMid_wrMid h ty xs ys hdiv hpk]

theorem wrHdr_wrHdr (h : H) (ty : Ty) (xs ys : List Int) (fl1 fl : Nat) (hdr : List Byte)
    (hdiv : (xs.length : Int) % h.ch = 0) (hl : ∀ ps, h.peak = some ps → ps.length = h.ch)
    (hd : h.dataoffset = hdrLenOf h) (hpk : PeakAgree h ty xs ys) :
    wrHdr (wrH h ty xs fl1) ty ys fl (wrHdr h ty xs fl1 hdr) = wrHdr h ty (xs ++ ys) fl hdr := by
  have hw := wrH_wrH h ty xs ys fl1 fl hdiv hl hd hpk
  by_cases hc : h.autoHeader = true ∧ (h.container != Container.raw) = true
  · have hc1 : (wrH h ty xs fl1).autoHeader = true ∧ ((wrH h ty xs fl1).container != Container.raw) = true := by
      rw [wrH_fields]; exact hc
    rw [wrHdr_auto _ ty _ fl _ hc1, wrHdr_auto _ ty _ fl _ hc, hw]
  · have hc1 : ¬ ((wrH h ty xs fl1).autoHeader = true ∧ ((wrH h ty xs fl1).container != Container.raw) = true) := by
      rw [wrH_fields]; exact hc
    have hw1 : (wrH h ty xs fl1).haveWritten = true := by rw [wrH_fields]; rfl
    unfold wrHdr
    rw [if_neg hc1, if_neg hc, if_neg hc]
    simp [hw1]

end Sf
