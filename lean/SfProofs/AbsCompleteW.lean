/-
  Completeness of the write / truncate checkers of SfModel/Abs.lean (the converse of
  AbsWriteLemmas): an answer that satisfies the mathematical write contract (C05.write_contract: the count asked for, no
  error) or the truncate contract (C08Refine.truncate_shortens / truncate_refused_without_ftruncate) IS accepted, and the
  abstract state follows; and the invariant `ref.size = frames · cpf` of the reference streams under every accepted line.
-/
import SfProofs.AbsComplete
import SfProofs.AbsWriteLemmas
namespace Sf.Abs

/-- the state after an accepted valid write of `m` frames -/
def afterWrite (g : Geom) (st : St) (ty : Ty) (m : Nat) (data : Array Item) : St :=
  { st with wpos := st.wpos + m, frames := max st.frames (st.wpos + m), err := false,
            ref := fun t => if t = ty then writeAt 0 (st.ref ty) (st.wpos * g.cpf ty) (data.extract 0 (m * g.ch * cells ty)) else st.ref t,
            valid := fun t => t = ty && (g.lossless ty && st.valid ty && (decide (st.wpos ≤ st.frames) || g.holeZero ty)),
            rawValid := false }

theorem afterWrite_valid {g : Geom} {st : St} {ty : Ty} {m : Nat} {data : Array Item} {t : Ty} :
    (afterWrite g st ty m data).valid t = true ↔
      t = ty ∧ (g.lossless ty = true ∧ st.valid ty = true) ∧ (st.wpos ≤ st.frames ∨ g.holeZero ty = true) := by
  simp only [afterWrite, Bool.and_eq_true, Bool.or_eq_true, decide_eq_true_eq]

theorem afterWrite_ref (g : Geom) (st : St) (ty : Ty) (m : Nat) (data : Array Item) :
    (afterWrite g st ty m data).ref ty = writeAt 0 (st.ref ty) (st.wpos * g.cpf ty) (data.extract 0 (m * g.ch * cells ty)) :=
  if_pos rfl

theorem writeOk_complete (g : Geom) (st : St) (ty : Ty) (fc : Bool) (n : Int) (data : Array Item) (o : Out) (m : Nat)
    (hch : 0 < g.ch) (hm : st.mode ≠ .r)
    (hn : n = g.count fc m) (hm0 : 0 < m)
    (hsz : m * g.ch * cells ty ≤ data.size) (hret : o.ret = n) (herr : o.err = false) :
    writeOk g st ty fc n data o = .ok (afterWrite g st ty m data) := by
  have hvalid : validReq g fc n = true := hn ▸ validReq_count g fc m hch hm0
  have hreq : reqItems g fc n = m * g.ch := by rw [hn]; exact retItems_count g fc m
  have hitems : retItems g fc o.ret = m * g.ch := by rw [hret]; exact hreq
  rw [writeOk_eq_ok_iff g st ty fc n data o _ ⟨hvalid, hm⟩, hitems, hreq, Nat.mul_div_cancel _ hch, if_neg (by omega), herr]
  exact ⟨hsz, ⟨by rw [hret, hn]; exact count_nonneg g fc m, by omega⟩, Nat.mul_mod_left _ _, fun hlt => by omega, fun _ => rfl, rfl⟩

theorem writeOk_complete_invalid (g : Geom) (st : St) (ty : Ty) (fc : Bool) (n : Int) (data : Array Item) (o : Out)
    (hn : n ≠ 0) (hinv : validReq g fc n = false ∨ st.mode = .r) (hret : o.ret = 0) (herr : o.err = true) :
    writeOk g st ty fc n data o = .ok { st with err := true } := by
  have hr : ¬ WriteReq g st fc n := by
    rintro ⟨hv, hm⟩
    rcases hinv with h | h
    · rw [hv] at h; cases h
    · exact hm h
  exact (writeOk_invalid_iff g st ty fc n data o _ hn hr).mpr ⟨⟨hret, herr⟩, rfl⟩

theorem writeOk_complete_zero (g : Geom) (st : St) (ty : Ty) (fc : Bool) (data : Array Item) (o : Out) (hret : o.ret = 0) :
    writeOk g st ty fc 0 data o = .ok st :=
  (writeOk_zero_iff g st ty fc data o st).mpr ⟨hret, rfl⟩

theorem truncOk_complete (g : Geom) (st : St) (n : Int) (o : Out) (hm : st.mode ≠ .r) (hc : g.canTrunc = true) (hn : 0 ≤ n)
    (hret : o.ret = 0) (herr : o.err = false) : truncOk g st n o = .ok (afterTrunc g st n.toNat) :=
  (truncOk_eq_ok_iff g st n o _ hm hc hn).mpr ⟨⟨hret, herr⟩, rfl⟩

theorem truncOk_complete_refused (g : Geom) (st : St) (n : Int) (o : Out)
    (hc : st.mode = .r ∨ g.canTrunc = false ∨ n < 0) (hret : o.ret ≠ 0) :
    truncOk g st n o = .ok { st with err := o.err } :=
  (truncOk_refused_iff g st n o _ hc).mpr ⟨hret, rfl⟩

/-- every reference stream the state claims to know has exactly `frames · cpf` cells -/
def RefSized (g : Geom) (st : St) : Prop := ∀ t, st.valid t = true → (st.ref t).size = st.frames * g.cpf t

theorem size_upTo_extract (a : Array Item) (p : Nat) : (upTo 0 (a.extract 0 p) p).size = p := size_upTo 0 _ p

theorem RefSized_afterWrite (g : Geom) (st : St) (ty : Ty) (m : Nat) (data : Array Item) (hs : RefSized g st)
    (hsz : m * g.ch * cells ty ≤ data.size) : RefSized g (afterWrite g st ty m data) := by
  intro t hv
  obtain ⟨rfl, ⟨_, hvt⟩, _⟩ := afterWrite_valid.mp hv
  rw [afterWrite_ref, size_writeAt, hs t hvt, Array.size_extract, Nat.min_eq_left hsz, Nat.sub_zero]
  rw [← g.mul_cpf, ← Nat.add_mul, Nat.mul_max_mul_right]
  rfl

theorem RefSized_afterTrunc (g : Geom) (st : St) (m : Nat) : RefSized g (afterTrunc g st m) := by
  intro t _
  rw [afterTrunc_ref]
  exact size_upTo 0 _ _

end Sf.Abs
