/-
  SfProofs.PvfImage — `Sf.Pvf.parse` on the images the PVF writer leaves in the store: printf "%d" followed by
  sscanf "%d" is the identity, the line read stops at the newline the writer put, and the data offset is the
  file position after that line — or 12 when the line ends before the 12 bytes the type detection has cached.
-/
import SfModel.Pvf
import SfProofs.Small2Session
namespace Sf.Pvf
open Sf Sf.Small2

theorem digits_lt {n : Nat} (h : n < 10) : digits n = [n + 48] := by rw [digits]; simp [h]

theorem digits_ge {n : Nat} (h : ¬ n < 10) : digits n = digits (n / 10) ++ [n % 10 + 48] := by rw [digits]; simp [h]

theorem digits_all (n : Nat) : ∀ b : Nat, b ∈ digits n → 48 ≤ b ∧ b ≤ 57 := by
  induction n using Nat.strongRecOn with
  | _ n ih =>
    intro b hb
    unfold digits at hb
    split at hb
    · simp at hb; omega
    · rename_i h
      rcases List.mem_append.mp hb with h1 | h1
      · exact ih (n / 10) (by omega) b h1
      · simp at h1; omega

theorem digits_ne_nil (n : Nat) : digits n ≠ [] := by
  unfold digits; split <;> simp

theorem digits_length_pos (n : Nat) : 0 < (digits n).length := List.length_pos_iff.mpr (digits_ne_nil n)

theorem scanDigits_digits (n : Nat) : ∀ (acc : Nat) (rest : List Byte),
    scanDigits acc (digits n ++ rest) = scanDigits (acc * 10 ^ (digits n).length + n) rest := by
  induction n using Nat.strongRecOn with
  | _ n ih =>
    intro acc rest
    by_cases h : n < 10
    · rw [digits_lt h]
      have : isDigit (n + 48) = true := by simp [isDigit]; omega
      simp [scanDigits, this]
    · rw [digits_ge h, List.append_assoc, ih (n / 10) (by omega)]
      have : isDigit (n % 10 + 48) = true := by simp [isDigit]; omega
      simp only [List.singleton_append, scanDigits, this, if_true, List.length_append, List.length_singleton]
      congr 1
      have e : n % 10 + 48 - 48 = n % 10 := by omega
      rw [e, Nat.pow_succ]
      have := Nat.div_add_mod n 10
      rw [Nat.add_mul, Nat.mul_assoc]
      omega

theorem digits_length_le (k : Nat) : ∀ n, 0 < k → n < 10 ^ k → (digits n).length ≤ k := by
  induction k with
  | zero => intro n h; omega
  | succ k ih =>
    intro n _ hn
    by_cases h : n < 10
    · rw [digits_lt h]; simp
    · rw [digits_ge h, List.length_append, List.length_singleton]
      have hk : 0 < k := by
        rcases Nat.eq_zero_or_pos k with hz | hz
        · subst hz; simp at hn; omega
        · exact hz
      have : n / 10 < 10 ^ k := by
        rw [Nat.pow_succ] at hn
        exact Nat.div_lt_of_lt_mul (by rw [Nat.mul_comm]; exact hn)
      have := ih (n / 10) hk this
      omega

theorem scanDigits_stop (acc : Nat) (rest : List Byte) (h : ∀ (b : Nat) r, rest = b :: r → isDigit b = false) :
    scanDigits acc rest = (acc, rest) := by
  cases rest with
  | nil => rfl
  | cons b r => simp [scanDigits, h b r rfl]

theorem skipWs_digit (d : Nat) (r : List Byte) (h1 : 48 ≤ d) (h2 : d ≤ 57) : skipWs (d :: r) = d :: r := by
  have : isWs d = false := by simp [isWs]; simp only [Byte] at *; omega
  simp [skipWs, this]

/-- printf "%d" then sscanf "%d" -/
theorem scanInt_digits (n : Nat) (rest : List Byte) (h : ∀ (b : Nat) r, rest = b :: r → isDigit b = false) :
    scanInt (digits n ++ rest) = some ((n : Int), rest) := by
  obtain ⟨d, r, hd⟩ := List.exists_cons_of_ne_nil (digits_ne_nil n)
  obtain ⟨h1, h2⟩ := digits_all n d (by rw [hd]; simp)
  have hs := scanDigits_digits n 0 rest
  rw [scanDigits_stop _ rest h] at hs
  simp only [Nat.zero_mul, Nat.zero_add] at hs
  unfold scanInt
  rw [hd, List.cons_append, skipWs_digit d _ h1 h2]
  have e1 : ¬ ((some d : Option Byte) = some 0x2D) := by simp; simp only [Byte] at *; omega
  have e2 : ¬ ((some d : Option Byte) = some 0x2B) := by simp; simp only [Byte] at *; omega
  have e3 : isDigit d = true := by simp [isDigit]; simp only [Byte] at *; omega
  simp only [List.head?_cons, e1, e2, or_self, if_false, Option.map_some, Option.getD_some, e3, if_true, decide_false]
  rw [← List.cons_append, ← hd, hs]
  simp

theorem scanInt_space (s : List Byte) : scanInt (0x20 :: s) = scanInt s := by
  unfold scanInt
  have : skipWs (0x20 :: s) = skipWs s := by simp [skipWs, isWs]
  rw [this]

theorem getLine_line (T : List Byte) (rest : List Byte) (hT : ∀ b : Nat, b ∈ T → b ≠ 0x0A) :
    ∀ fuel, T.length < fuel → getLine fuel (T ++ 0x0A :: rest) = (T, T.length + 1) := by
  induction T with
  | nil => intro fuel hf; cases fuel with
    | zero => omega
    | succ f => simp [getLine]
  | cons b r ih =>
    intro fuel hf
    cases fuel with
    | zero => omega
    | succ f =>
      have hb : b ≠ 0x0A := hT b (by simp)
      have := ih (fun x hx => hT x (by simp [hx])) f (by simp at hf; omega)
      simp [getLine, hb, this]

theorem line_bytes (c : Cfg) : ∀ b : Nat, b ∈ line c → b = 0x20 ∨ (48 ≤ b ∧ b ≤ 57) := by
  intro b hb
  simp only [line, List.mem_append, List.mem_singleton] at hb
  rcases hb with (((h | h) | h) | h) | h
  · exact Or.inr (digits_all _ b h)
  · exact Or.inl h
  · exact Or.inr (digits_all _ b h)
  · exact Or.inl h
  · exact Or.inr (digits_all _ b h)

theorem line_length (c : Cfg) (hwf : c.wf) : (line c).length < 31 := by
  obtain ⟨hc, _, h1, _, h2⟩ := hwf
  have a := digits_length_le 4 c.ch (by decide) (by omega)
  have b := digits_length_le 10 c.sr (by decide) (by omega)
  have d : (digits (bytewidth c.codec * 8)).length ≤ 2 := digits_length_le 2 _ (by decide) (by
    unfold bytewidth; rcases hc with h | h | h <;> simp [h])
  simp only [line, List.length_append, List.length_singleton]
  omega

theorem scan_line (c : Cfg) :
    scanInt (line c) = some ((c.ch : Int), [0x20] ++ digits c.sr ++ [0x20] ++ digits (bytewidth c.codec * 8)) ∧
    scanInt ([0x20] ++ digits c.sr ++ [0x20] ++ digits (bytewidth c.codec * 8)) = some ((c.sr : Int), [0x20] ++ digits (bytewidth c.codec * 8)) ∧
    scanInt ([0x20] ++ digits (bytewidth c.codec * 8)) = some (((bytewidth c.codec * 8 : Nat) : Int), []) := by
  have sp : ∀ (t : List Byte) (b : Nat) r, [0x20] ++ t = b :: r → isDigit b = false := by
    intro t b r h; simp at h; rw [← h.1]; decide
  refine ⟨?_, ?_, ?_⟩
  · have := scanInt_digits c.ch ([0x20] ++ digits c.sr ++ [0x20] ++ digits (bytewidth c.codec * 8))
      (by intro b r h; exact sp (digits c.sr ++ [0x20] ++ digits (bytewidth c.codec * 8)) b r (by simpa using h))
    simpa [line, List.append_assoc] using this
  · have := scanInt_digits c.sr ([0x20] ++ digits (bytewidth c.codec * 8)) (sp _)
    rw [show [0x20] ++ digits c.sr ++ [0x20] ++ digits (bytewidth c.codec * 8) =
        0x20 :: (digits c.sr ++ ([0x20] ++ digits (bytewidth c.codec * 8))) by simp, scanInt_space]
    exact this
  · have := scanInt_digits (bytewidth c.codec * 8) [] (by intro b r h; cases h)
    rw [show [0x20] ++ digits (bytewidth c.codec * 8) = 0x20 :: (digits (bytewidth c.codec * 8) ++ []) by simp, scanInt_space]
    exact this

theorem lawfulConst (c : Cfg) : ∀ f g : Fields, (fmt c).hdr f = (fmt c).hdr g := fun _ _ => rfl

theorem preHtk_pvf (b cc : List Byte) : preHtk [0x50, 0x56, 0x46, 0x31] b cc = some (.fmt 0x0E0000) := rfl

theorem hdr_length (c : Cfg) : (hdr c).length = 5 + (line c).length + 1 := by simp [hdr]; omega

/-- the data offset either reader finds on `header ++ data`: the header length — or, before the repair, 12 for an
    11-byte header -/
def offOf (fx : Bool) (c : Cfg) : Nat := if fx then (hdr c).length else max 12 (hdr c).length

theorem probe12_ge (bs : List Byte) (h : 12 ≤ bs.length) : probe12 bs = bs.take 12 := by
  unfold probe12; exact List.take_append_of_le_length h

theorem guessProbe_eq_guess (bs : List Byte) (h : 12 ≤ bs.length) : guessProbe bs = guess bs := by
  unfold guessProbe guess
  rw [probe12_ge bs h]
  have e1 : (bs.take 12).take 4 = bs.take 4 := by rw [List.take_take]; congr 1
  have e2 : ((bs.take 12).drop 4).take 4 = (bs.drop 4).take 4 := by rw [List.drop_take, List.take_take]; congr 1
  have e3 : ((bs.take 12).drop 8).take 4 = (bs.drop 8).take 4 := by rw [List.drop_take, List.take_take]; congr 1
  simp only [e1, e2, e3]

theorem probe12_take4 (bs : List Byte) (h : 4 ≤ bs.length) : (probe12 bs).take 4 = bs.take 4 := by
  unfold probe12
  rw [List.take_take, show min 4 12 = 4 from rfl]
  exact List.take_append_of_le_length h

/-- either reader on `header ++ data`, followed as pvf_read_header runs: the type probe sees the magic, `getLine` returns
    the one text line whole (no NUL in it, fewer than 31 bytes), the three `sscanf` conversions give channels, rate and bit
    width (`scan_line`); behind the range guards the two rules differ in the data offset only (`offOf`) -/
theorem parseWith_image (fx : Bool) (c : Cfg) (hwf : c.wf) (data : List Byte) (h12 : fx = false → 12 ≤ (hdr c ++ data).length) :
    parseWith fx (hdr c ++ data) =
      .ok { ch := c.ch, fmt := 0x0E0000 + c.codec, sr := c.sr,
            frames := ((hdr c).length + data.length - offOf fx c) / (bytewidth c.codec * c.ch) } := by
  have hlen : (hdr c ++ data).length = (hdr c).length + data.length := by simp
  have hl := hdr_length c
  have e : hdr c ++ data = [0x50, 0x56, 0x46, 0x31, 0x0A] ++ (line c ++ 0x0A :: data) := by simp [hdr]
  have hg : guessProbe (hdr c ++ data) = some (.fmt 0x0E0000) := by
    unfold guessProbe
    simp only []
    rw [probe12_take4 _ (by omega), e]
    simp only [List.cons_append, List.nil_append, List.take_succ_cons, List.take_zero, preHtk_pvf]
  have hlb := line_bytes c
  have hgl : getLine 31 ((hdr c ++ data).drop 5) = (line c, (line c).length + 1) := by
    rw [e, List.drop_left' (i := 5) rfl]
    exact getLine_line (line c) data (fun b hb => by rcases hlb b hb with h | h <;> omega) 31 (line_length c hwf)
  have htw : (line c).takeWhile (· ≠ 0) = line c := takeWhile_all _ _ (fun (b : Nat) hb => decide_eq_true (show b ≠ 0 by rcases hlb b hb with h | h <;> omega))
  obtain ⟨s1, s2, s3⟩ := scan_line c
  obtain ⟨hc, hch1, hch2, hsr1, hsr2⟩ := hwf
  unfold parseWith parseWithP
  rw [if_neg (by
    rintro ⟨_, h | h⟩
    · cases h
    · rw [hlen, hl] at h; omega), hg]
  simp only []
  unfold readHeaderWith
  rw [hgl]
  simp only [htw, s1, s2, s3]
  have hbits : bytewidth c.codec * 8 = 8 ∨ bytewidth c.codec * 8 = 16 ∨ bytewidth c.codec * 8 = 32 := by
    unfold bytewidth; rcases hc with h | h | h <;> simp [h]
  have g1 : ¬ (((c.ch : Nat) : Int) > 0x7FFFFFFF ∨ ((c.sr : Nat) : Int) > 0x7FFFFFFF ∨ ((bytewidth c.codec * 8 : Nat) : Int) > 0x7FFFFFFF ∨
      ((c.ch : Nat) : Int) < -0x7FFFFFFF ∨ ((c.sr : Nat) : Int) < -0x7FFFFFFF ∨ ((bytewidth c.codec * 8 : Nat) : Int) < -0x7FFFFFFF) := by omega
  have g2 : ¬ (((bytewidth c.codec * 8 : Nat) : Int) ≠ 8 ∧ ((bytewidth c.codec * 8 : Nat) : Int) ≠ 16 ∧ ((bytewidth c.codec * 8 : Nat) : Int) ≠ 32) := by omega
  have g3 : ¬ (((c.ch : Nat) : Int) < 1 ∨ ((c.ch : Nat) : Int) > 1024 ∨ ((c.sr : Nat) : Int) < 1) := by omega
  rw [if_neg g1, if_neg g2, if_neg g3]
  have hfmt : (if ((bytewidth c.codec * 8 : Nat) : Int) = 8 then 1 else if ((bytewidth c.codec * 8 : Nat) : Int) = 16 then 2 else 4) = c.codec := by
    unfold bytewidth; rcases hc with h | h | h <;> simp [h]
  have hbw : ((bytewidth c.codec * 8 : Nat) : Int) / 8 * ((c.ch : Nat) : Int) = ((bytewidth c.codec * c.ch : Nat) : Int) := by
    have : ((bytewidth c.codec * 8 : Nat) : Int) / 8 = ((bytewidth c.codec : Nat) : Int) := by
      push_cast; exact Int.mul_ediv_cancel _ (by decide)
    rw [this]; push_cast; rfl
  have hoff : dataOffset fx ((hdr c).length + data.length) ((line c).length + 1) = offOf fx c := by
    unfold dataOffset offOf
    rw [hl, Nat.min_eq_right (by omega), Nat.add_assoc]
  rw [hfmt, hbw, hlen, hoff]
  have hpos : 0 < bytewidth c.codec * c.ch := by
    have : 0 < bytewidth c.codec := by unfold bytewidth; split <;> (try split) <;> omega
    exact Nat.mul_pos this (by omega)
  have hle : offOf fx c ≤ (hdr c).length + data.length := by
    rw [hlen] at h12
    unfold offOf; split
    · omega
    · exact Nat.max_le.mpr ⟨h12 (by simp_all), by omega⟩
  have hsplit : (hdr c).length + data.length = offOf fx c + ((hdr c).length + data.length - offOf fx c) := by omega
  have := framesOf_nat (offOf fx c) ((hdr c).length + data.length - offOf fx c) _ hpos
  rw [← hsplit] at this
  rw [this]
  simp

end Sf.Pvf
