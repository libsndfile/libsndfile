/-
  Level B of the write-side bridge for the STAND-ALONE CONTAINER MODELS (a byte-exact header writer + parser per container,
  the audio an opaque byte string): the definitions and list facts; the theorem `small_pred_good` deriving `Good` (hence
  `accepted`) from `Laws` is in SfProofs/AbsWriteBridgeSmallRun.lean.

  A container model is seen through `Cont`.  A campaign job on it is a list of `Op` (write calls of either variant handing
  over samples, SFC_UPDATE_HEADER_NOW, SFC_SET_UPDATE_HEADER_AUTO); `toW` turns it into operations of the session machine
  `Sf.Small2.WOp` (the samples encoded by `enc`, every write tagged with the auto flag in force).
  `predOf` is the prediction: write calls return what they were asked; closed bytes from the model; re-open info from
  the model's parser; the read-back is the model's decoder (`Enc.decodeAll`) on the bytes behind the header, cut at the frame
  count the parser reports; one crash point after every header update and every non-empty write in auto mode (the store at that moment).
  `Laws` is what the container's theorems must supply (`<x>_reopen_info`, `<x>_snapshot_valid`, `closedBytes_eq`,
  `stale_frames_ignored_<x>`).
-/
import SfProofs.AbsWriteBridgeEnc
import SfModel.Handle
import SfModel.Small2
import SfProofs.AbsWriteBridge
import SfProofs.Codec
namespace Sf.AbsWriteBridge.Small
open Sf Sf.AbsWrite Sf.AbsWriteBridge Sf.Geometry

inductive Op
  | write (fc : Bool) (xs : List Int)
  | update
  | auto (b : Bool)

/-- a stand-alone container model as the bridge sees it -/
structure Cont where
  g : AbsWrite.Geom
  enc : Enc
  L : Nat                                          -- header length
  closed : Nat → List Small2.WOp → List Byte              -- the closed file (stale frames value, operations)
  store : Nat → List Small2.WOp → List Byte               -- the store right after the operations
  parse : List Byte → Small2.ParseRes

def Cont.bw (K : Cont) : Nat := K.enc.nbytes * K.g.ch

/-- session-machine operations of a job (`a`: SFC_SET_UPDATE_HEADER_AUTO in force) -/
def toW (K : Cont) (ty : Ty) : Bool → List Op → List Small2.WOp
  | _, [] => []
  | a, .write _ xs :: r => Small2.WOp.write (K.enc.encodeAll {} ty xs) a :: toW K ty a r
  | a, .update :: r => Small2.WOp.update :: toW K ty a r
  | _, .auto b :: r => toW K ty b r

def sampleList : List Op → List Int
  | [] => []
  | .write _ xs :: r => xs ++ sampleList r
  | _ :: r => sampleList r

def callsOf (ch : Nat) : List Op → List LCall
  | [] => []
  | .write fc xs :: r => { fc := fc, xs := xs, ret := LCall.n ch { fc := fc, xs := xs, ret := 0 } } :: callsOf ch r
  | _ :: r => callsOf ch r

def refOps (ops : List Op) : List Op := if (sampleList ops).length = 0 then [] else [.write true (sampleList ops)]

/-- the prefixes of a job after which the campaign copies the store: after every SFC_UPDATE_HEADER_NOW and after every
    non-empty write made in auto mode -/
def crashes : List Op → List Op → Bool → List (List Op)
  | _, [], _ => []
  | pre, .write fc xs :: r, a =>
    (if a ∧ xs ≠ [] then [pre ++ [.write fc xs]] else []) ++ crashes (pre ++ [.write fc xs]) r a
  | pre, .update :: r, a => (pre ++ [.update]) :: crashes (pre ++ [.update]) r a
  | pre, .auto b :: r, _ => crashes (pre ++ [.auto b]) r b

def infoOf : Small2.ParseRes → Info
  | .ok i => { ch := i.ch, sr := i.sr, fmt := i.fmt, frames := i.frames }
  | _ => { null := true }

/-- the model's reader: the decoded bytes behind the header, cut at the frame count the parser reports; the rest of the
    requested region keeps the harness's fill pattern -/
def readBack (K : Cont) (ty : Ty) (want : Nat) (bytes : List Byte) : Int × List Int :=
  match K.parse bytes with
  | .ok i =>
    let items := (K.enc.decodeAll {} ty (bytes.drop K.L)).take (i.frames * K.g.ch)
    ((items.length : Int), items ++ List.replicate (want - items.length) (pattern ty))
  | _ => (0, [])

def snapOf (K : Cont) (ty : Ty) (stale : Nat) (p : List Op) : LSnap :=
  let img := K.store stale (toW K ty false p)
  let rb := readBack K ty ((framesOf K.g.ch (callsOf K.g.ch p) + 8) * K.g.ch) img
  { k := (callsOf K.g.ch p).length, info := infoOf (K.parse img), ret := rb.1, data := rb.2 }

/-- THE PREDICTION of a container model for a job (`stale` / `stale'`: the two SF_INFO.frames values at open) -/
def predOf (K : Cont) (ty : Ty) (stale stale' : Nat) (ops : List Op) : Pred :=
  let b1 := K.closed stale (toW K ty false (refOps ops))
  let N := framesOf K.g.ch (callsOf K.g.ch ops)
  let rb := readBack K ty ((N + K.g.block + K.g.pad + 8) * K.g.ch) b1
  { g := K.g, ty := ty,
    one := { calls := callsOf K.g.ch (refOps ops), bytes := b1 },
    info := infoOf (K.parse b1), rbRet := rb.1, rbData := rb.2, rbMore := 0,
    split := { calls := callsOf K.g.ch ops, bytes := K.closed stale (toW K ty false ops) },
    snaps := (crashes [] ops false).map (snapOf K ty stale),
    stale := K.closed stale' (toW K ty false (refOps ops)) }

def recordOf (K : Cont) (ty : Ty) (stale stale' : Nat) (ops : List Op) : Record := (predOf K ty stale stale' ops).record

/-- the operation list ends in a header rewrite: SFC_UPDATE_HEADER_NOW or a write call made in auto mode -/
def EndsInRewrite (ops : List Small2.WOp) : Prop := ∃ w x, ops = w ++ [x] ∧ (x = Small2.WOp.update ∨ ∃ enc, x = Small2.WOp.write enc true)

structure Laws (K : Cont) (G : List Small2.WOp → Prop) : Prop where
  chpos : 0 < K.g.ch
  nb : 0 < K.enc.nbytes
  wf : K.enc.wf
  block : K.g.block = 1
  notRaw : K.g.major ≠ 0x04
  /-- the configuration's encoding is the one the format word names (for the side condition of C01) -/
  codec : ∃ big, encOf .raw K.g.codec big = some K.enc
  /-- C04: the closed file is header ++ audio ++ tail and re-opens with the requested parameters and D / bw frames -/
  closedForm : ∀ st ops, G ops → ∃ hdr tail, hdr.length = K.L ∧ K.closed st ops = hdr ++ Small2.opsData ops ++ tail
  closedParse : ∀ st ops, G ops → ∃ i, K.parse (K.closed st ops) = .ok i ∧ i.frames = (Small2.opsData ops).length / K.bw ∧
    i.ch = K.g.ch ∧ i.fmt % 0x10000000 = K.g.word % 0x10000000 ∧ rateOk K.g.major K.g.sr (i.sr : Int) = true
  /-- C07 / C04: the closed bytes are a function of the audio bytes alone (not of the split, the updates, the stale value) -/
  closedFn : ∀ a b ops ops', Small2.opsData ops = Small2.opsData ops' → K.closed a ops = K.closed b ops'
  /-- C11: the store after a header rewrite is header ++ audio so far and opens with the same parameters -/
  storeForm : ∀ st ops, G ops → EndsInRewrite ops → ∃ hdr tail, hdr.length = K.L ∧ K.store st ops = hdr ++ Small2.opsData ops ++ tail
  storeParse : ∀ st ops, G ops → EndsInRewrite ops → ∃ i, K.parse (K.store st ops) = .ok i ∧
    i.frames = (Small2.opsData ops).length / K.bw ∧ i.ch = K.g.ch ∧ i.fmt % 0x10000000 = K.g.word % 0x10000000

/-- a job hands over whole frames of values of the caller's type -/
def Valid (ch : Nat) (ty : Ty) (ops : List Op) : Prop :=
  ∀ op ∈ ops, match op with | .write _ xs => xs.length % ch = 0 ∧ ∀ v ∈ xs, ty.inRange v | _ => True

/-- the samples one operation hands over -/
def Op.xs : Op → List Int
  | .write _ xs => xs
  | _ => []

/-- the call one operation makes, accepted in full -/
def Op.calls (ch : Nat) : Op → List LCall
  | .write fc xs => [{ fc := fc, xs := xs, ret := LCall.n ch { fc := fc, xs := xs, ret := 0 } }]
  | _ => []

theorem sampleList_eq (ops : List Op) : sampleList ops = ops.flatMap Op.xs := by
  induction ops with
  | nil => rfl
  | cons op r ih => cases op <;> simp [sampleList, Op.xs, ih]

theorem callsOf_eq (ch : Nat) (ops : List Op) : callsOf ch ops = ops.flatMap (Op.calls ch) := by
  induction ops with
  | nil => rfl
  | cons op r ih => cases op <;> simp [callsOf, Op.calls, ih]

theorem mem_sampleList {x : Int} {ops : List Op} (h : x ∈ sampleList ops) : ∃ fc xs, Op.write fc xs ∈ ops ∧ x ∈ xs := by
  rw [sampleList_eq, List.mem_flatMap] at h
  obtain ⟨op, hm, hx⟩ := h
  cases op with
  | write fc xs => exact ⟨fc, xs, hm, hx⟩
  | _ => cases hx

theorem sampleList_append (xs ys : List Op) : sampleList (xs ++ ys) = sampleList xs ++ sampleList ys := by
  simp only [sampleList_eq, List.flatMap_append]

theorem callsOf_append (ch : Nat) (xs ys : List Op) : callsOf ch (xs ++ ys) = callsOf ch xs ++ callsOf ch ys := by
  simp only [callsOf_eq, List.flatMap_append]

theorem callsOf_good (ch : Nat) (ty : Ty) (ops : List Op) (h : Valid ch ty ops) :
    (∀ d ∈ callsOf ch ops, d.good ch) ∧ samples (callsOf ch ops) = sampleList ops := by
  rw [callsOf_eq, sampleList_eq]
  constructor
  · intro d hd
    obtain ⟨op, hm, hd⟩ := List.mem_flatMap.mp hd
    cases op with
    | write fc xs => cases List.mem_singleton.mp hd; exact ⟨(h _ hm).1, rfl⟩
    | _ => cases hd
  · rw [samples, List.flatMap_assoc]
    congr 1; funext op
    cases op <;> simp [Op.calls, Op.xs]

theorem range_of_valid (ch : Nat) (ty : Ty) (ops : List Op) (h : Valid ch ty ops) : ∀ v ∈ sampleList ops, ty.inRange v := fun v hv => by
  obtain ⟨fc, xs, hm, hx⟩ := mem_sampleList hv
  exact (h _ hm).2 v hx

theorem refOps_valid (ch : Nat) (ty : Ty) (ops : List Op) (h : Valid ch ty ops) : Valid ch ty (refOps ops) := by
  have hg := callsOf_good ch ty ops h
  have hl := samples_length ch _ hg.1
  rw [hg.2] at hl
  intro op hop
  unfold refOps at hop
  split at hop
  · cases hop
  · simp only [List.mem_singleton] at hop
    subst hop
    exact ⟨by rw [hl]; exact Nat.mul_mod_left _ _, range_of_valid ch ty ops h⟩

theorem refOps_samples (ops : List Op) : sampleList (refOps ops) = sampleList ops := by
  unfold refOps; split
  · rename_i h0; simp [sampleList, List.eq_nil_of_length_eq_zero h0]
  · simp [sampleList]

/-- SFC_SET_UPDATE_HEADER_AUTO after a list of operations -/
def autoAfter : Bool → List Op → Bool
  | a, [] => a
  | _, .auto b :: r => autoAfter b r
  | a, _ :: r => autoAfter a r

theorem autoAfter_append : ∀ (xs ys : List Op) (a : Bool), autoAfter a (xs ++ ys) = autoAfter (autoAfter a xs) ys
  | [], _, _ => rfl
  | .write _ _ :: xs, ys, a => by simp [autoAfter, autoAfter_append xs ys a]
  | .update :: xs, ys, a => by simp [autoAfter, autoAfter_append xs ys a]
  | .auto b :: xs, ys, a => by simp [autoAfter, autoAfter_append xs ys b]

end Sf.AbsWriteBridge.Small
