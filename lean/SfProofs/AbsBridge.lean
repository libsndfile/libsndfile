/-
  The seek step of the bridge between the handle model (SfModel/Handle.lean) and the abstract predicate
  (SfModel/Abs.lean): every answer `sf_seek` gives in the model is accepted by `Abs.seekOk`, and only the pointers the
  request names move (`seek_bridge`).  The vocabulary every later AbsBridge file uses starts here: `absMode`, `mode_iff`,
  `outOf`.
-/
import SfProofs.AbsComplete
import SfProofs.HandleSteps
namespace Sf.AbsBridge
open Sf

def absMode : Sf.Mode → Abs.Mode | .r => .r | .w => .w | .rw => .rw

theorem mode_iff {am : Abs.Mode} {m : Sf.Mode} (hmode : am = absMode m) (m' : Sf.Mode) : am = absMode m' ↔ m = m' := by
  subst hmode; cases m <;> cases m' <;> simp [absMode]

/-- the transcript line of a call that returns no buffer -/
def outOf (o : Sf.Out) : Abs.Out := { ret := o.ret, err := decide (o.err ≠ 0) }

/-- what the bridge needs of one seek: the line is accepted, nothing but the named pointers moves -/
def SeekGoal (g : Abs.Geom) (h : H) (st : Abs.St) (off whence : Int) (r : H × Store × Sf.Out) : Prop :=
  ∃ st', Abs.seekOk g st off whence (outOf r.2.2) = .ok st' ∧
      st'.mode = st.mode ∧ st'.frames = st.frames ∧ st'.ref = st.ref ∧ st'.valid = st.valid ∧
      (h.mode ≠ .w → (st'.rpos : Int) = r.1.rpos) ∧ (h.mode ≠ .r → (st'.wpos : Int) = r.1.wpos)

theorem seekGoal_fail (g : Abs.Geom) (h : H) (s : Store) (st : Abs.St) (off whence e : Int) (he : e ≠ 0)
    (hR : h.mode ≠ .w → (st.rpos : Int) = h.rpos) (hW : h.mode ≠ .r → (st.wpos : Int) = h.wpos)
    (hn : g.seekable = false ∨ Abs.seekTarget st off whence = none) :
    SeekGoal g h st off whence (seekFail h s e) := by
  refine ⟨{ st with err := true }, ?_, rfl, rfl, rfl, rfl, hR, hW⟩
  apply Abs.seekOk_complete_refused
  · rfl
  · simp [outOf, seekFail, he]
  · rcases hn with hn | hn
    · exact Or.inl hn
    · exact Or.inr (Or.inl hn)

theorem seekGoal_ok (g : Abs.Geom) (h h' : H) (s' : Store) (st : Abs.St) (off whence : Int) (t : Nat)
    (hg : g.seekable = true) (ht : Abs.seekTarget st off whence = some t)
    (hR : h.mode ≠ .w → ((Abs.seekMove st whence t).rpos : Int) = h'.rpos)
    (hW : h.mode ≠ .r → ((Abs.seekMove st whence t).wpos : Int) = h'.wpos) :
    SeekGoal g h st off whence (h', s', { ret := (t : Int), err := 0 }) := by
  obtain ⟨f1, f2, f3, f4⟩ := Abs.seekMove_frames st whence t
  refine ⟨Abs.seekMove st whence t, ?_, f2, f1, f3, f4, hR, hW⟩
  exact Abs.seekOk_complete_moved g st off whence _ t hg ht rfl (by simp [outOf])

theorem seekBase_sim (h : H) (st : Abs.St) (whence : Int) (hmode : st.mode = absMode h.mode)
    (hF : (st.frames : Int) = h.frames) (hR : h.mode ≠ .w → (st.rpos : Int) = h.rpos)
    (hW : h.mode ≠ .r → (st.wpos : Int) = h.wpos) :
    (Sf.seekBase h whence = none ∧ Abs.seekBase st whence = none) ∨
    (∃ (b : Nat) (bc : Int), Abs.seekBase st whence = some b ∧ Sf.seekBase h whence = some bc ∧ 0 ≤ whence ∧ whence < 0x40 ∧
      (¬ ((seekWm whence = 0x20 ∧ h.mode = .r) ∨ (seekWm whence = 0x10 ∧ h.mode = .w)) → bc = b)) := by
  have hr : st.mode = .r ↔ h.mode = .r := mode_iff hmode .r
  unfold Sf.seekBase Abs.seekBase
  by_cases h0 : whence = 0 ∨ whence = 0x10 ∨ whence = 0x20 ∨ whence = 0x30
  · rw [if_pos h0, if_pos h0]; exact Or.inr ⟨_, _, rfl, rfl, by omega, by omega, fun _ => rfl⟩
  rw [if_neg h0, if_neg h0]
  by_cases h1 : whence = 1
  · rw [if_pos h1, if_pos h1]
    refine Or.inr ⟨_, _, rfl, rfl, by omega, by omega, fun _ => ?_⟩
    by_cases hm : h.mode = .r
    · rw [if_pos hm, if_pos (hr.mpr hm)]; exact (hR (by rw [hm]; decide)).symm
    · rw [if_neg hm, if_neg (mt hr.mp hm)]; exact (hW hm).symm
  rw [if_neg h1, if_neg h1]
  by_cases h2 : whence = 0x11
  · rw [if_pos h2, if_pos h2]
    exact Or.inr ⟨_, _, rfl, rfl, by omega, by omega, fun hnw => (hR fun hm => hnw (Or.inr ⟨by rw [h2]; decide, hm⟩)).symm⟩
  rw [if_neg h2, if_neg h2]
  by_cases h3 : whence = 0x21
  · rw [if_pos h3, if_pos h3]
    exact Or.inr ⟨_, _, rfl, rfl, by omega, by omega, fun hnw => (hW fun hm => hnw (Or.inl ⟨by rw [h3]; decide, hm⟩)).symm⟩
  rw [if_neg h3, if_neg h3]
  by_cases h4 : whence = 2 ∨ whence = 0x12 ∨ whence = 0x22
  · rw [if_pos h4, if_pos h4]; exact Or.inr ⟨_, _, rfl, rfl, by omega, by omega, fun _ => hF.symm⟩
  · rw [if_neg h4, if_neg h4]; exact Or.inl ⟨rfl, rfl⟩

theorem seekWm_eq_seekQual (whence : Int) (h0 : 0 ≤ whence) (h1 : whence < 0x40) : seekWm whence = Abs.seekQual whence := by
  unfold seekWm Abs.seekQual
  omega

theorem seekMove_sim (h : H) (st : Abs.St) (whence : Int) (t : Nat) (hmode : st.mode = absMode h.mode)
    (hR : h.mode ≠ .w → (st.rpos : Int) = h.rpos) (hW : h.mode ≠ .r → (st.wpos : Int) = h.wpos)
    (hq : seekWm whence = Abs.seekQual whence) :
    (h.mode ≠ .w → ((Abs.seekMove st whence t).rpos : Int) = (seekMoveH h (seekWm whence) t).rpos) ∧
    (h.mode ≠ .r → ((Abs.seekMove st whence t).wpos : Int) = (seekMoveH h (seekWm whence) t).wpos) := by
  -- both decide by the SFM_ qualifier, or by the mode of the handle for a plain whence value
  have hptr : Abs.seekPtr st whence = (if seekWm whence != 0 then seekWm whence else modeBits h.mode) := by
    unfold Abs.seekPtr
    rw [← hq, hmode]
    by_cases h0 : seekWm whence = 0
    · rw [if_pos h0, if_neg (by simp [h0])]; cases h.mode <;> rfl
    · rw [if_neg h0, if_pos (by simp [h0])]
  unfold Abs.seekMove seekMoveH
  rw [hptr]
  generalize (if seekWm whence != 0 then seekWm whence else modeBits h.mode) = m
  by_cases h1 : m = 0x10
  · subst h1; exact ⟨fun _ => rfl, hW⟩
  by_cases h2 : m = 0x20
  · subst h2; exact ⟨hR, fun _ => rfl⟩
  · simp only [h1, h2, if_false, beq_iff_eq, implies_true, and_self]

theorem seekMove_tell (st : Abs.St) (whence : Int) (b : Nat) (hba : Abs.seekBase st whence = some b)
    (ht : (whence = 1 ∧ st.mode ≠ .rw) ∨ whence = 0x11 ∨ whence = 0x21) :
    (Abs.seekMove st whence b).rpos = st.rpos ∧ (Abs.seekMove st whence b).wpos = st.wpos ∧
    (st.mode = .r → whence ≠ 0x21 → b = st.rpos) := by
  rcases ht with ⟨rfl, hm⟩ | rfl | rfl
  · cases hmd : st.mode <;> simp [Abs.seekBase, Abs.seekMove, Abs.seekPtr, Abs.seekQual, hmd] at hba hm ⊢ <;> simp [← hba]
  · simp [Abs.seekBase, Abs.seekMove, Abs.seekPtr, Abs.seekQual] at hba ⊢; simp [← hba]
  · simp [Abs.seekBase, Abs.seekMove, Abs.seekPtr, Abs.seekQual] at hba ⊢; simp [← hba]

theorem seek_bridge (g : Abs.Geom) (h : H) (s : Store) (st : Abs.St) (off whence : Int)
    (hg : g.seekable = true) (hmode : st.mode = absMode h.mode) (hF : (st.frames : Int) = h.frames)
    (hR : h.mode ≠ .w → (st.rpos : Int) = h.rpos) (hW : h.mode ≠ .r → (st.wpos : Int) = h.wpos)
    (hrle : h.mode = .r → h.rpos ≤ h.frames) : SeekGoal g h st off whence (seekSpec h s off whence) := by
  have hr : st.mode = .r ↔ h.mode = .r := mode_iff hmode .r
  have hw : st.mode = .w ↔ h.mode = .w := mode_iff hmode .w
  unfold seekSpec
  rcases seekBase_sim h st whence hmode hF hR hW with ⟨hbc, hba⟩ | ⟨b, bc, hba, hbc, hw0', hw1, hb⟩
  · -- a whence value neither model knows
    have hn : Abs.seekTarget st off whence = none := by unfold Abs.seekTarget; rw [hba]
    rw [hbc]
    split <;> exact seekGoal_fail g h s st _ _ _ (by decide) hR hW (Or.inr hn)
  have hq := seekWm_eq_seekQual whence hw0' hw1
  have htgt : Abs.seekTarget st off whence =
      if (seekWm whence = 0x20 ∧ h.mode = .r) ∨ (seekWm whence = 0x10 ∧ h.mode = .w) then none
      else if (b : Int) + off < 0 then none
      else if h.mode = .r ∧ (st.frames : Int) < (b : Int) + off then none
      else some ((b : Int) + off).toNat := by
    unfold Abs.seekTarget; rw [hba]; simp only [hq, hr, hw]
  by_cases hwrong : (seekWm whence = 0x20 ∧ h.mode = .r) ∨ (seekWm whence = 0x10 ∧ h.mode = .w)
  · rw [if_pos hwrong]
    exact seekGoal_fail g h s st _ _ _ (by decide) hR hW (Or.inr (by rw [htgt, if_pos hwrong]))
  rw [if_neg hwrong, hbc]
  rw [if_neg hwrong] at htgt
  obtain rfl := hb hwrong
  simp only
  by_cases htell : seekIsTell h off whence
  · -- a position query: the base itself, nothing moves
    rw [if_pos htell]
    obtain ⟨rfl, ht⟩ := htell
    obtain ⟨t1, t2, t3⟩ := seekMove_tell st whence b hba (ht.imp_left fun hx => ⟨hx.1, mt (mode_iff hmode .rw).mp hx.2⟩)
    refine seekGoal_ok g h _ _ st 0 whence b hg ?_ (fun hm => by rw [t1]; exact hR hm) (fun hm => by rw [t2]; exact hW hm)
    have hin : ¬ (h.mode = .r ∧ (st.frames : Int) < (b : Int) + 0) := by
      rintro ⟨hm, hlt⟩
      have h21 : whence ≠ 0x21 := fun hx => hwrong (Or.inl ⟨by rw [hx]; decide, hm⟩)
      have := t3 (hr.mpr hm) h21
      have := hrle hm
      have := hR (by rw [hm]; decide)
      omega
    rw [htgt, if_neg (by omega), if_neg hin, Int.add_zero, Int.toNat_natCast]
  rw [if_neg htell]
  by_cases hout : (b : Int) + off < 0 ∨ (h.mode = .r ∧ (b : Int) + off > h.frames)
  · rw [if_pos hout]
    refine seekGoal_fail g h s st _ _ _ (by decide) hR hW (Or.inr ?_)
    rw [htgt]
    rcases hout with h1 | h1
    · rw [if_pos h1]
    · by_cases h2 : (b : Int) + off < 0
      · rw [if_pos h2]
      · rw [if_neg h2, if_pos ⟨h1.1, by rw [hF]; exact h1.2⟩]
  rw [if_neg hout]
  have h1 : ¬ (b : Int) + off < 0 := fun hx => hout (Or.inl hx)
  have h2 : ¬ (h.mode = .r ∧ (st.frames : Int) < (b : Int) + off) := fun hx => hout (Or.inr ⟨hx.1, by rw [← hF]; exact hx.2⟩)
  rw [if_neg h1, if_neg h2] at htgt
  obtain ⟨m1, m2⟩ := seekMove_sim h st whence ((b : Int) + off).toNat hmode hR hW hq
  rw [← Int.toNat_of_nonneg (Int.not_lt.mp h1)]
  exact seekGoal_ok g h _ _ st off whence _ hg htgt m1 m2

end Sf.AbsBridge
