/-
  SfProofs.RdwrSteps — one concrete step (seek, read) of a read/write handle against the abstract file: same answer,
  invariant kept, abstraction commutes (`RwView.seek_refines`, `read_refines`); a truncate by its answer and the view it leaves
  (`RwView.truncate_view`; the write call and the flag commands, in the same form, are SfProofs/RdwrWrite.lean).
-/
import SfProofs.RdwrCalls
import SfProofs.RdwrInv
import SfProofs.CodecInv
import SfProofs.HandleRead
namespace Sf

/-- a view of another state from a view of this one: `c1 … c9` say that the new handle agrees with the old on what fixes the
    geometry, the rest describes the new state in terms of the OLD header length and frame width -/
theorem RwView.rebuild {h : H} {s : Store} {R W F : Nat} {hdr D : List Byte} (v : RwView h s R W F hdr D)
    (h' : H) (s' : Store) (R' W' F' : Nat) (hdr' D' : List Byte)
    (c1 : h'.mode = h.mode) (c2 : h'.ch = h.ch) (c3 : h'.enc = h.enc) (c4 : h'.dataoffset = h.dataoffset)
    (c5 : h'.peak.map List.length = h.peak.map List.length) (c6 : h'.container ≠ .wav → h'.dataend = 0) (c7 : h'.container = h.container)
    (c8 : h'.fmtWord = h.fmtWord)
    (c9 : h'.peakAtStart = h.peakAtStart)
    (hr : h'.rpos = R') (hw : h'.wpos = W') (hf : h'.frames = F')
    (hb : ∃ t, s'.bytes = hdr' ++ (D' ++ zeros t) ∧ TailOk h t) (hl : hdr'.length = hdr.length)
    (hd : D'.length = F' * h.bw)
    (hp : hdr.length ≤ s'.pos) (sw : h'.lastOp = .w → s'.pos = hdr.length + W' * h.bw)
    (sr : h'.lastOp = .r → R' < F' → s'.pos = hdr.length + R' * h.bw) : RwView h' s' R' W' F' hdr' D' := by
  have e : hdrLenOf h' = hdrLenOf h := hdrLenOf_congr h h' c7 c8 c9 c5
  have eb : h'.bw = h.bw := by unfold H.bw; rw [c2, c3]
  have hl0 := v.hlen
  have hb' : ∃ t, s'.bytes = hdr' ++ (D' ++ zeros t) ∧ TailOk h' t := by
    obtain ⟨t, e1, e2⟩ := hb
    exact ⟨t, e1, by unfold TailOk at e2 ⊢; rw [c7]; exact e2⟩
  have hpk' : PeakOk h' := by
    intro ps' hp'
    rw [hp'] at c5
    cases hp : h.peak with
    | none => rw [hp] at c5; cases c5
    | some ps =>
      rw [hp] at c5
      obtain ⟨a, b⟩ := v.peak ps hp
      have : ps'.length = ps.length := by simpa using c5
      exact ⟨by rw [this, a, c2], by rw [c9]; exact b⟩
  exact ⟨c1.trans v.mode, c2 ▸ v.ch_pos, c3 ▸ v.nb_pos, hr, hw, hf, by rw [c4, e]; exact v.doff, hpk', c6, hb',
    by rw [e, hl, hl0], by rw [eb]; exact hd, by rw [e, ← hl0]; exact hp, by rw [e, eb, ← hl0]; exact sw,
    by rw [e, eb, ← hl0]; exact sr⟩

/-- the same store under a handle that differs only in fields the view does not read (`error`, `canTruncate`, the conversion
    settings, the header flags): `e` lists the fields it reads -/
theorem RwView.unread {h : H} {s : Store} {R W F : Nat} {hdr D : List Byte} (v : RwView h s R W F hdr D) (h' : H)
    (e : (h'.mode, h'.ch, h'.enc, h'.dataoffset, h'.peak, h'.dataend, h'.container, h'.fmtWord, h'.peakAtStart, h'.rpos,
          h'.wpos, h'.frames, h'.lastOp) =
         (h.mode, h.ch, h.enc, h.dataoffset, h.peak, h.dataend, h.container, h.fmtWord, h.peakAtStart, h.rpos, h.wpos,
          h.frames, h.lastOp)) : RwView h' s R W F hdr D := by
  simp only [Prod.mk.injEq] at e
  obtain ⟨c1, c2, c3, c4, c5, c6, c7, c8, c9, cr, cw, cf, cl⟩ := e
  exact v.rebuild h' s R W F hdr D c1 c2 c3 c4 (by rw [c5]) (by rw [c6, c7]; exact v.dataend) c7 c8 c9 (cr.trans v.rpos)
    (cw.trans v.wpos) (cf.trans v.frames) v.bytes rfl v.dlen (by rw [v.hlen]; exact v.posGe)
    (by rw [cl, v.hlen]; exact v.syncW) (by rw [cl, v.hlen]; exact v.syncR)

theorem RwView.setError {h : H} {s : Store} {R W F : Nat} {hdr D : List Byte} (v : RwView h s R W F hdr D) (e : Int) :
    RwView { h with error := e } s R W F hdr D :=
  v.unread _ rfl

theorem RwView.defaultSeek {h : H} {s : Store} {R W F : Nat} {hdr D : List Byte} (v : RwView h s R W F hdr D) (T : Nat) :
    Sf.defaultSeek h s (T : Int) = { bytes := s.bytes, pos := hdr.length + T * h.bw } := by
  unfold Sf.defaultSeek Store.seekSet
  rw [v.doff, v.hlen]
  congr 1
  have : ((hdrLenOf h : Nat) : Int) + ((h.bw : Nat) : Int) * (T : Int) = ((hdrLenOf h + T * h.bw : Nat) : Int) := by
    push_cast; rw [Int.mul_comm]
  rw [this, Int.toNat_natCast]

theorem seekSpec_rw (h : H) (s : Store) (hm : h.mode = .rw) (w : Whence) (p : Ptr) (off : Int) :
    seekSpec h s off (whenceCode w p) =
      let b : Int := match w, p with
        | .set, _ => 0 | .cur, .rd => h.rpos | .cur, _ => h.wpos | .fromEnd, _ => h.frames
      if off = 0 ∧ w = .cur ∧ p ≠ .both then seekTell h s b
      else if b + off < 0 then seekFail h s E_BAD_SEEK
      else (seekMoveH h (ptrBits p) (b + off), Sf.defaultSeek h s (b + off), { ret := b + off, err := 0 }) := by
  cases w <;> cases p <;> simp [seekSpec, seekWm, seekBase, seekIsTell, whenceCode, ptrBits, hm]

theorem RwView.base {h : H} {s : Store} {R W F : Nat} {hdr D : List Byte} (v : RwView h s R W F hdr D)
    (w : Whence) (p : Ptr) :
    (match w, p with
      | .set, _ => (0 : Int) | .cur, .rd => h.rpos | .cur, _ => h.wpos | .fromEnd, _ => h.frames) =
    (absOf h s).base w p := by
  rw [v.abs]
  cases w <;> cases p <;> simp [AbsFile.base, v.rpos, v.wpos, v.frames, v.nframes]

theorem seekMoveH_rw (h : H) (hm : h.mode = .rw) (p : Ptr) (t : Int) :
    seekMoveH h (ptrBits p) t = match p with
      | .both => { h with error := 0, rpos := t, wpos := t, lastOp := .r }
      | .rd => { h with error := 0, rpos := t, lastOp := .r }
      | .wr => { h with error := 0, wpos := t, lastOp := .w } := by
  cases p <;> simp [seekMoveH, ptrBits, hm, modeBits]

theorem RwView.seekMove {h : H} {s : Store} {R W F : Nat} {hdr D : List Byte} (v : RwView h s R W F hdr D)
    (p : Ptr) (T : Nat) :
    RwView (seekMoveH h (ptrBits p) (T : Int)) { bytes := s.bytes, pos := hdr.length + T * h.bw }
      (match p with | .wr => R | _ => T) (match p with | .rd => W | _ => T) F hdr D := by
  rw [seekMoveH_rw h v.mode]
  cases p
  · exact v.rebuild _ _ T T F hdr D rfl rfl rfl rfl rfl v.dataend rfl rfl rfl rfl rfl v.frames v.bytes rfl
      v.dlen (by simp) (fun hc => by simp at hc) (fun _ _ => rfl)
  · exact v.rebuild _ _ T W F hdr D rfl rfl rfl rfl rfl v.dataend rfl rfl rfl rfl v.wpos v.frames v.bytes rfl
      v.dlen (by simp) (fun hc => by simp at hc) (fun _ _ => rfl)
  · exact v.rebuild _ _ R T F hdr D rfl rfl rfl rfl rfl v.dataend rfl rfl rfl v.rpos rfl v.frames v.bytes rfl
      v.dlen (by simp) (fun _ => rfl) (fun hc => by simp at hc)

theorem seekMoveH_bw (h : H) (hm : h.mode = .rw) (p : Ptr) (t : Int) : (seekMoveH h (ptrBits p) t).bw = h.bw := by
  rw [seekMoveH_rw h hm]; cases p <;> rfl

theorem RwView.seek_refines {h : H} {s : Store} {R W F : Nat} {hdr D : List Byte} (v : RwView h s R W F hdr D)
    (w : Whence) (p : Ptr) (off : Int) :
    (stepSeek h s off (whenceCode w p)).2.2.ret = ((absOf h s).seek w p off).1 ∧
    (0 ≤ ((absOf h s).seek w p off).1 → (stepSeek h s off (whenceCode w p)).2.2.err = 0) ∧
    RwInv (stepSeek h s off (whenceCode w p)).1 (stepSeek h s off (whenceCode w p)).2.1 ∧
    absOf (stepSeek h s off (whenceCode w p)).1 (stepSeek h s off (whenceCode w p)).2.1 = ((absOf h s).seek w p off).2 := by
  rw [stepSeek_eq_spec, seekSpec_rw h s v.mode]
  simp only [v.base w p]
  unfold AbsFile.seek
  simp only []
  -- three cases, as in `seekSpec`: a zero-offset qualified SEEK_CUR only tells; a negative target is refused and nothing
  -- but the error moves; otherwise the descriptor goes to the target and the pointer(s) `p` names with it (`seekMove`)
  generalize hb : (absOf h s).base w p = b
  have hb0 : 0 ≤ b := by
    rw [← hb, v.abs]; cases w <;> cases p <;> simp [AbsFile.base] <;> omega
  by_cases htell : off = 0 ∧ w = .cur ∧ p ≠ .both
  · rw [if_pos htell]
    obtain ⟨h0, hw, hp⟩ := htell
    subst h0 hw
    have hn : ¬ b + 0 < 0 := by omega
    rw [if_neg hn]
    refine ⟨by simp [seekTell], fun _ => rfl, ⟨R, W, F, hdr, D, v.setError 0⟩, ?_⟩
    simp only [seekTell]
    rw [(v.setError 0).abs, v.abs]
    rw [v.abs] at hb
    cases p
    · exact absurd rfl hp
    · simp only [AbsFile.base] at hb; simp [← hb]; rfl
    · simp only [AbsFile.base] at hb; simp [← hb]; rfl
  · rw [if_neg htell]
    by_cases hneg : b + off < 0
    · rw [if_pos hneg, if_pos hneg]
      refine ⟨rfl, fun hc => absurd hc (by simp), ⟨R, W, F, hdr, D, v.setError _⟩, ?_⟩
      simp only [seekFail]
      rw [(v.setError _).abs, v.abs]; rfl
    · rw [if_neg hneg, if_neg hneg]
      obtain ⟨T, hT⟩ := Int.eq_ofNat_of_zero_le (show 0 ≤ b + off by omega)
      rw [hT, v.defaultSeek T]
      have vm := v.seekMove p T
      refine ⟨rfl, fun _ => rfl, ⟨_, _, F, hdr, D, vm⟩, ?_⟩
      simp only []
      rw [vm.abs, v.abs, seekMoveH_bw h v.mode]
      cases p <;> simp

theorem RwView.truncate_view {h : H} {s : Store} {R W F : Nat} {hdr D : List Byte} (v : RwView h s R W F hdr D)
    (k : Nat) (hc : h.canTruncate = true) :
    (stepTruncate h s (k : Int)).2.2.ret = 0 ∧ (stepTruncate h s (k : Int)).2.2.err = 0 ∧
    RwView (stepTruncate h s (k : Int)).1 (stepTruncate h s (k : Int)).2.1 k k k hdr (truncBytes D (k * h.bw)) := by
  rw [stepTruncate_ok h s k (by rw [v.mode]; decide) (by omega), if_pos hc, v.defaultSeek k]
  have hby : truncBytes s.bytes (hdr.length + k * h.bw) = hdr ++ truncBytes D (k * h.bw) := by
    obtain ⟨t, hb, _⟩ := v.bytes
    rw [hb, truncBytes_append, truncBytes_zeros_tail]
  refine ⟨rfl, rfl, ?_⟩
  have e := seekMoveH_rw h v.mode .both (k : Int)
  simp only [ptrBits] at e
  rw [e]
  exact v.rebuild _ _ k k k hdr _ rfl rfl rfl rfl rfl v.dataend rfl rfl rfl rfl rfl rfl
    ⟨0, by show truncBytes s.bytes _ = _; rw [hby]; simp [zeros], Or.inl rfl⟩ rfl
    (truncBytes_length _ _) (by simp) (fun hc => by simp at hc) (fun _ _ => rfl)

/-- what a read of `k > 0` whole frames answers with the data region `D` in view: `stepRead_region`, and `stepRead_eof` at or
    beyond the end, in one statement -/
theorem AbsBridge.read_answer (h : H) (s : Store) (ty : Ty) (fc : Bool) (k : Nat) (hk : 0 < k) (hm : h.mode ≠ .w) (hch : 0 < h.ch)
    (hnb : 0 < h.enc.nbytes) (R F : Nat) (D T : List Byte) (hR : h.rpos = R) (hF : h.frames = F) (hD : D.length = F * h.bw)
    (hb : R < F → s.bytes.drop (readPos h s) = D.drop (R * h.bw) ++ T) :
    (stepRead h s ty fc (callCount h fc k)).1.rpos = ((R + min k (F - R) : Nat) : Int) ∧
    (stepRead h s ty fc (callCount h fc k)).2.2.ret = callCount h fc (min k (F - R)) ∧
    (stepRead h s ty fc (callCount h fc k)).2.2.err = 0 ∧
    (stepRead h s ty fc (callCount h fc k)).2.2.data.length = k * h.ch ∧
    (F ≤ R → (stepRead h s ty fc (callCount h fc k)).2.2.data = List.replicate (k * h.ch) 0) ∧
    (stepRead h s ty fc (callCount h fc k)).2.2.data.take (min k (F - R) * h.ch) =
      ((h.enc.decodeAll h.conv ty D).drop (R * h.ch)).take (min k (F - R) * h.ch) := by
  by_cases hlt : R < F
  · rw [stepRead_region h s ty fc _ (callCount_pos h fc hk hch) hm (callCount_aligned h fc k) hch hnb k R (F - R)
      (by rw [reqLen_callCount]; push_cast; rfl) hR (by rw [hF]; congr 1; omega) (by omega) _ T
      (by rw [List.length_drop, hD, ← Nat.sub_mul]) (hb hlt)]
    have e1 : R * h.bw = (R * h.ch) * h.enc.nbytes := by unfold H.bw; rw [Nat.mul_comm h.enc.nbytes, Nat.mul_assoc]
    have e2 : ∀ x, x * h.bw / h.enc.nbytes = x * h.ch := by
      intro x; unfold H.bw; rw [Nat.mul_comm h.enc.nbytes, ← Nat.mul_assoc, Nat.mul_div_cancel _ hnb]
    have hdec : h.enc.decodeAll h.conv ty ((D.drop (R * h.bw)).take (k * h.bw)) =
        ((h.enc.decodeAll h.conv ty D).drop (R * h.ch)).take (k * h.ch) := by
      rw [Enc.decodeAll_take _ _ _ hnb, e2, e1, Enc.decodeAll_drop _ _ _ hnb]
    have hdl : (((h.enc.decodeAll h.conv ty D).drop (R * h.ch)).take (k * h.ch)).length = min k (F - R) * h.ch := by
      rw [List.length_take, List.length_drop, Enc.decodeAll_length _ _ _ hnb, hD, e2, ← Nat.sub_mul, Nat.mul_min_mul_right]
    refine ⟨rfl, rfl, rfl, ?_, fun hle => absurd hle (by omega), ?_⟩
    · show List.length (_ ++ _) = _
      rw [hdec, List.length_append, hdl, List.length_replicate, ← Nat.add_mul]; congr 1; omega
    · show List.take _ (_ ++ _) = _
      rw [hdec, List.take_left' hdl]
      apply List.take_eq_take_iff.mpr
      rw [List.length_drop, Enc.decodeAll_length _ _ _ hnb, hD, e2, ← Nat.sub_mul, Nat.mul_min_mul_right,
        Nat.mul_min_mul_right, Nat.min_assoc, Nat.min_self]
  · have hd0 : min k (F - R) = 0 := by omega
    rw [stepRead_eof h s ty fc _ (callCount_pos h fc hk hch) hm (callCount_aligned h fc k) (by rw [hR, hF]; omega),
      reqLen_callCount, Int.toNat_natCast, hd0]
    exact ⟨hR, by unfold callCount; cases fc <;> simp, rfl, List.length_replicate, fun _ => rfl, by simp⟩

theorem RwView.readPos {h : H} {s : Store} {R W F : Nat} {hdr D : List Byte} (v : RwView h s R W F hdr D) (hlt : R < F) :
    Sf.readPos h s = hdr.length + R * h.bw := by
  unfold Sf.readPos
  by_cases hl : h.lastOp = .r
  · rw [if_neg (by simp [hl]), v.syncR hl hlt, v.hlen]
  · rw [if_pos hl]
    have := v.defaultSeek R
    unfold Sf.defaultSeek Store.seekSet at this
    rw [v.rpos]
    exact congrArg Store.pos this

/-- number of bytes behind the audio data (0, or 1: the pad byte) -/
def tailLen (h : H) (s : Store) : Nat := s.bytes.length - (h.dataoffset.toNat + h.frames.toNat * h.bw)

theorem RwView.tailLen_eq {h : H} {s : Store} {R W F : Nat} {hdr D : List Byte} (v : RwView h s R W F hdr D) (t : Nat)
    (hb : s.bytes = hdr ++ (D ++ zeros t)) : tailLen h s = t := by
  unfold tailLen
  rw [hb, List.length_append, List.length_append, zeros_length, v.doff, v.frames, Int.toNat_natCast, Int.toNat_natCast,
    v.hlen, v.dlen]
  omega

/-- pad-byte samples a read of `k` frames that delivers `d` frames runs into: non-zero only when the request goes past
    the end of a file of 1-byte samples whose odd-length data is followed by the pad byte -/
def tailItems (h : H) (s : Store) (k d : Nat) : Nat := min ((k - d) * h.bw) (tailLen h s) / h.enc.nbytes

/-- the value the undelivered part of the requested region holds after a read that started inside the data: untouched
    (the harness pattern), or zero when the codec read ran into the pad byte (the wrapper then zero-fills) -/
def readFill (h : H) (s : Store) (ty : Ty) (k d : Nat) : Int := if tailItems h s k d = 0 then pattern ty else 0

theorem RwView.read_main {h : H} {s : Store} {R W F : Nat} {hdr D : List Byte} (v : RwView h s R W F hdr D)
    (ty : Ty) (fc : Bool) (k : Nat) (hk : 0 < k) (hlt : R < F) :
    stepRead h s ty fc (callCount h fc k) =
      ({ h with error := 0, rpos := ((R + min k (F - R) : Nat) : Int), lastOp := .r },
       { bytes := s.bytes, pos := hdr.length + (R + min k (F - R)) * h.bw + min ((k - min k (F - R)) * h.bw) (tailLen h s) },
       { ret := callCount h fc (min k (F - R)), err := 0,
         data := h.enc.decodeAll h.conv ty ((D.drop (R * h.bw)).take (k * h.bw)) ++
                 List.replicate ((k - min k (F - R)) * h.ch) (readFill h s ty k (min k (F - R))), hasData := true }) := by
  obtain ⟨t, hb, _⟩ := v.bytes
  have hRle : R * h.bw ≤ D.length := by rw [v.dlen]; exact Nat.mul_le_mul_right _ (by omega)
  have hkd : k - min k (F - R) = k - (F - R) := by omega
  -- from the read position on the store holds the `F − R` frames that are left, then the tail
  rw [stepRead_region h s ty fc _ (callCount_pos h fc hk v.ch_pos) (by rw [v.mode]; decide) (callCount_aligned h fc k)
    v.ch_pos v.nb_pos k R (F - R) (by rw [reqLen_callCount]; push_cast; rfl) v.rpos (by rw [v.frames]; congr 1; omega)
    (by omega) (D.drop (R * h.bw)) (zeros t) (by rw [List.length_drop, v.dlen, ← Nat.sub_mul])
    (by rw [v.readPos hlt, hb, ← List.drop_drop, List.drop_left' rfl, List.drop_append, Nat.sub_eq_zero_of_le hRle,
      List.drop_zero])]
  unfold readFill tailItems
  rw [v.readPos hlt, zeros_length, hkd, v.tailLen_eq t hb, Nat.add_mul]
  simp only [Nat.add_assoc]
  rfl

/-- a read against `AbsFile.read`: the count and the decoded frames; the rest of the requested region holds `readFill`, or zero
    when the read began at or behind the end -/
theorem RwView.read_refines {h : H} {s : Store} {R W F : Nat} {hdr D : List Byte} (v : RwView h s R W F hdr D)
    (ty : Ty) (fc : Bool) (k : Nat) :
    ∃ h' s' o, stepRead h s ty fc (callCount h fc k) = (h', s', o) ∧
      o.ret = callCount h fc ((absOf h s).read k).1.length ∧
      (0 < k → o.err = 0 ∧ o.data = h.enc.decodeAll h.conv ty ((absOf h s).read k).1.flatten ++
        List.replicate ((k - ((absOf h s).read k).1.length) * h.ch)
          (if (absOf h s).rpos < (absOf h s).frames.length then readFill h s ty k ((absOf h s).read k).1.length else 0)) ∧
      RwInv h' s' ∧ absOf h' s' = ((absOf h s).read k).2 := by
  rw [v.abs]
  unfold AbsFile.read
  simp only [v.nframes]
  rcases Nat.eq_zero_or_pos k with hk | hk
  · subst hk
    have := callCount_zero h fc
    rw [this, stepRead_zero]
    refine ⟨_, _, _, rfl, by simp [this], fun hc => absurd hc (by omega), ⟨R, W, F, hdr, D, v⟩, ?_⟩
    rw [v.abs]; simp
  · by_cases hlt : R < F
    · rw [v.read_main ty fc k hk hlt]
      have hfr := groups_slice h.bw v.bw_pos D R k
      have hgl := slice_length D h.bw F R k v.dlen
      have hlen : (((groups h.bw D).drop R).take k).length = min k (F - R) := by
        rw [hfr, groups_length_mul _ v.bw_pos _ _ hgl]
      have vr : RwView { h with error := 0, rpos := ((R + min k (F - R) : Nat) : Int), lastOp := .r }
          { bytes := s.bytes, pos := hdr.length + (R + min k (F - R)) * h.bw + min ((k - min k (F - R)) * h.bw) (tailLen h s) }
          (R + min k (F - R)) W F hdr D :=
        v.rebuild _ _ _ W F hdr D rfl rfl rfl rfl rfl v.dataend rfl rfl rfl rfl v.wpos v.frames v.bytes rfl v.dlen
          (by simp only []; omega) (fun hc => by simp at hc) (fun _ hlt2 => by
            have : min k (F - R) = k := by omega
            simp only [this, Nat.sub_self, Nat.zero_mul, Nat.zero_min, Nat.add_zero])
      refine ⟨_, _, _, rfl, by rw [hlen], fun _ => ⟨rfl, ?_⟩, ⟨_, W, F, hdr, D, vr⟩, ?_⟩
      · simp only [hlen, hlt, if_true]
        rw [hfr, groups_join _ v.bw_pos _ _ hgl]
      · rw [vr.abs]; simp only [hlen]; rfl
    · have he : h.frames ≤ h.rpos := by rw [v.frames, v.rpos]; omega
      have hn : 0 < callCount h fc k := callCount_pos h fc hk v.ch_pos
      have ha := callCount_aligned h fc k
      rw [stepRead_eof h s ty fc _ hn (by rw [v.mode]; decide) ha he, reqLen_callCount, Int.toNat_natCast]
      have hnil : ((groups h.bw D).drop R).take k = [] := by
        rw [List.drop_of_length_le (by rw [v.nframes]; omega)]; simp
      refine ⟨_, _, _, rfl, by rw [hnil]; unfold callCount; cases fc <;> simp, fun _ => ⟨rfl, ?_⟩,
        ⟨R, W, F, hdr, D, v.setError 0⟩, ?_⟩
      · rw [hnil]; simp [hlt, Enc.decodeAll_nil]
      · rw [(v.setError 0).abs, hnil]; rfl

end Sf
