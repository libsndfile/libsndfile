/-
  SfProofs.AlacBits — lemmas about the bit I/O model of SfModel/AlacBits.lean: a field written with `bitsOf` is read back
  by `Rd.read`, fields split, `unpack (pack bs)` is `bs` followed by the zero bits of the byte alignment.
-/
import Mathlib.Tactic.Ring
import SfModel.AlacBits
namespace Sf.AlacCore

theorem bitsOf_length (v n : Nat) : (bitsOf v n).length = n := by
  induction n with
  | zero => rfl
  | succ n ih => simp [bitsOf, ih]

theorem rdBits_bitsOf (v : Nat) (rest : Bits) : ∀ (n acc : Nat), rdBits n (bitsOf v n ++ rest) acc = (acc * 2 ^ n + v % 2 ^ n, rest)
  | 0, acc => by simp [rdBits, bitsOf, Nat.mod_one]
  | n + 1, acc => by
    simp only [bitsOf, List.cons_append, rdBits]
    rw [rdBits_bitsOf v rest n]
    congr 1
    rw [Nat.mod_pow_succ]
    have h2 : v / 2 ^ n % 2 = 0 ∨ v / 2 ^ n % 2 = 1 := by omega
    rcases h2 with h | h <;> simp [h, Nat.pow_succ] <;> ring

theorem read_bitsOf (v n : Nat) (rest : Bits) (p : Nat) :
    (Rd.mk (bitsOf v n ++ rest) p).read n = (v % 2 ^ n, Rd.mk rest (p + n)) := by
  simp [Rd.read, rdBits_bitsOf]

theorem bitsOf_split (v a b : Nat) : bitsOf v (a + b) = bitsOf (v / 2 ^ b) a ++ bitsOf v b := by
  induction a with
  | zero => simp [bitsOf]
  | succ a ih =>
    have : a + 1 + b = (a + b) + 1 := by omega
    rw [this]
    simp only [bitsOf, List.cons_append, ih]
    congr 2
    rw [Nat.div_div_eq_div_mul, ← Nat.pow_add, Nat.add_comm b a]

theorem bitsOf_mod (v : Nat) : ∀ (n m : Nat), n ≤ m → bitsOf (v % 2 ^ m) n = bitsOf v n
  | 0, _, _ => rfl
  | n + 1, m, h => by
    simp only [bitsOf]
    rw [bitsOf_mod v n m (by omega)]
    congr 2
    have e : 2 ^ m = 2 ^ n * 2 ^ (m - n) := by rw [← Nat.pow_add]; congr 1; omega
    rw [e, Nat.mod_mul_right_div_self]
    have : 2 ∣ 2 ^ (m - n) := ⟨2 ^ (m - n - 1), by rw [← Nat.pow_succ']; congr 1; omega⟩
    rw [Nat.mod_mod_of_dvd _ this]

theorem bitsOf_drop (v a b : Nat) : (bitsOf v (a + b)).drop a = bitsOf v b := by
  rw [bitsOf_split, List.drop_left' (bitsOf_length _ _)]

theorem bitsOf_cat (a b m n : Nat) (hb : b < 2 ^ n) : bitsOf (a * 2 ^ n + b) (m + n) = bitsOf a m ++ bitsOf b n := by
  rw [bitsOf_split, ← bitsOf_mod (a * 2 ^ n + b) n n (Nat.le_refl n), Nat.mul_add_mod_self_right, Nat.mod_eq_of_lt hb,
    Nat.add_comm, Nat.add_mul_div_right _ _ (Nat.two_pow_pos n), Nat.div_eq_of_lt hb, Nat.zero_add]

theorem flatMap_bitsOf_length {α : Type} (f : α → Nat) (w : Nat) (l : List α) : (l.flatMap fun a => bitsOf (f a) w).length = w * l.length := by
  induction l with
  | nil => rfl
  | cons a l ih => rw [List.flatMap_cons, List.length_append, bitsOf_length, ih, List.length_cons, Nat.mul_succ, Nat.add_comm]

theorem unpack_length (bs : List Byte) : (unpack bs).length = 8 * bs.length :=
  flatMap_bitsOf_length (fun b => b) 8 bs

theorem rdBits_acc : ∀ (n : Nat) (bs : Bits) (acc : Nat), rdBits n bs acc = (acc * 2 ^ n + (rdBits n bs 0).1, (rdBits n bs 0).2)
  | 0, bs, acc => by simp [rdBits]
  | n + 1, [], acc => by
    rw [rdBits, rdBits, rdBits_acc n [] (2 * acc), rdBits_acc n [] (2 * 0)]
    simp [Nat.pow_succ]; ring
  | n + 1, b :: bs, acc => by
    rw [rdBits, rdBits, rdBits_acc n bs (2 * acc + b.toNat), rdBits_acc n bs (2 * 0 + b.toNat)]
    simp [Nat.pow_succ]; ring

theorem rdBits_lt : ∀ (n : Nat) (bs : Bits), (rdBits n bs 0).1 < 2 ^ n
  | 0, bs => by simp [rdBits]
  | n + 1, [] => by
    rw [rdBits, rdBits_acc]; have := rdBits_lt n []; simp [Nat.pow_succ] at *; omega
  | n + 1, b :: bs => by
    rw [rdBits, rdBits_acc]
    have := rdBits_lt n bs
    have hb : b.toNat ≤ 1 := by cases b <;> simp
    simp only [Nat.pow_succ, Nat.mul_zero, Nat.zero_add] at *
    calc b.toNat * 2 ^ n + (rdBits n bs 0).1 < 1 * 2 ^ n + 2 ^ n := by
          have := Nat.mul_le_mul_right (2 ^ n) hb; omega
      _ = 2 ^ n * 2 := by ring

theorem bitsOf_rdBits : ∀ (n : Nat) (l : Bits), l.length ≤ n → bitsOf (rdBits n l 0).1 n = l ++ List.replicate (n - l.length) false
  | 0, l, h => by rw [List.eq_nil_of_length_eq_zero (Nat.le_zero.mp h)]; rfl
  | n + 1, [], _ => by
    have hlt := rdBits_lt n []
    have ih := bitsOf_rdBits n [] (Nat.zero_le n)
    rw [rdBits, bitsOf, Nat.mul_zero, Nat.div_eq_of_lt hlt, ih]
    rfl
  | n + 1, b :: bs, h => by
    have hlt := rdBits_lt n bs
    have ih := bitsOf_rdBits n bs (Nat.le_of_succ_le_succ h)
    rw [rdBits, rdBits_acc, bitsOf, ← bitsOf_mod _ n n (Nat.le_refl n)]
    simp only [Nat.mul_zero, Nat.zero_add]
    rw [Nat.mul_add_mod_self_right, Nat.mod_eq_of_lt hlt, ih, Nat.add_comm, Nat.add_mul_div_right _ _ (Nat.two_pow_pos n),
      Nat.div_eq_of_lt hlt, Nat.zero_add, List.length_cons, Nat.succ_sub_succ]
    cases b <;> rfl

theorem unpack_pack (bs : Bits) : unpack (pack bs) = bs ++ List.replicate ((8 - bs.length % 8) % 8) false := by
  induction bs using pack.induct with
  | case1 a b c d e f g h rest ih =>
    simp only [pack, unpack, List.flatMap_cons] at ih ⊢
    rw [ih, bitsOf_rdBits 8 [a, b, c, d, e, f, g, h] (Nat.le_refl 8)]
    have : (8 - (rest.length + 8) % 8) % 8 = (8 - rest.length % 8) % 8 := by omega
    simp [this]
  | case2 => rfl
  | case3 l h1 h2 =>
    rcases l with _ | ⟨a, _ | ⟨b, _ | ⟨c, _ | ⟨d, _ | ⟨e, _ | ⟨f, _ | ⟨g, _ | ⟨h, rest⟩⟩⟩⟩⟩⟩⟩⟩
    · exact absurd rfl h2
    all_goals first
      | exact absurd rfl (h1 _ _ _ _ _ _ _ _ _)
      | (simp only [pack, unpack, List.flatMap_cons, List.flatMap_nil, List.append_nil]; exact bitsOf_rdBits 8 _ (by simp))
