/-
  SfProofs.AbsWriteBridgeSampleRun — `sample_pred_good`: the prediction of ANY sample-level container model (`SCont`,
  SfProofs/AbsWriteBridgeSample.lean) that satisfies `SLaws` is `Good`, hence accepted by the write-side predicate
  (`sample_cont_session_accepted`).  The byte-level `small_pred_good` (SfProofs/AbsWriteBridgeSmallRun.lean) is its instance at
  `Cont.toS`.
-/
import SfProofs.AbsWriteBridgeSample
namespace Sf.AbsWriteBridge.Sample
open Sf Sf.AbsWrite Sf.AbsWriteBridge Sf.Geometry

/-- what the campaign reads off an image of the job `p` — header, the encoded samples of `p`, a tail the parser does not count — that
    parses with the configuration's parameters and all the frames: re-opened and read back (`m` frames asked; `readBack` fills the
    region behind what it delivers, so any `m` will do) it is `Decoded` -/
theorem image_decoded (K : SCont) (ty : Ty) (hch : 0 < K.g.ch) (hnb : 0 < K.enc.nbytes) (p : List Small.Op)
    (hvp : Small.Valid K.g.ch ty p) (img : List Byte) (m : Nat)
    (hform : ∃ hdr tail, hdr.length = K.L ∧ img = hdr ++ K.enc.encodeAll {} ty (sData (toS false p)) ++ tail)
    (hparse : ∃ i, K.parse img = .ok i ∧ i.frames = (K.enc.encodeAll {} ty (sData (toS false p))).length / K.bw ∧
      i.ch = K.g.ch ∧ i.fmt % 0x10000000 = K.g.word % 0x10000000) :
    Decoded K.g (fun xs => K.enc.decodeAll {} ty (K.enc.encodeAll {} ty xs)) (samples (Small.callsOf K.g.ch p))
      (framesOf K.g.ch (Small.callsOf K.g.ch p)) (Small.infoOf (K.parse img))
      (readBack K ty (m * K.g.ch) img).1 (readBack K ty (m * K.g.ch) img).2 := by
  obtain ⟨g1, g2⟩ := Small.callsOf_good K.g.ch ty p hvp
  have hlen := samples_length K.g.ch _ g1
  obtain ⟨hdr, tail, hl, hform⟩ := hform
  obtain ⟨i, hp, hfr, hich, hifmt⟩ := hparse
  rw [sData_toS, ← g2] at hform hfr
  rw [frames_of_samples K hnb hch ty _ _ hlen] at hfr
  have hrb := readBack_eval K ty (m * K.g.ch) img hdr tail _ i hnb hp hform hl (by rw [hfr, hlen])
  have hdl := decode_encode_length K.enc hnb {} ty (samples (Small.callsOf K.g.ch p))
  rw [hrb, hp]
  exact { opened := rfl, info := infoOk_complete K.g _ (congrArg Int.ofNat hich) hifmt,
          frames := congrArg Int.ofNat hfr, ret := rfl,
          len := by rw [List.length_append, hdl]; exact Nat.le_add_right _ _,
          data := List.take_left' hdl }

/-- LEVEL B FOR THE SAMPLE-LEVEL CONTAINER MODELS: a lawful container's prediction for any valid job has the list-level
    properties.  `G` (the container's guards) is asked of the reference run and of every prefix (every crash image; the
    whole job is the prefix with nothing behind it). -/
theorem sample_pred_good (K : SCont) (ty : Ty) (G : List SOp → Prop) (L : SLaws K ty G) (stale stale' : Nat) (ops : List Small.Op)
    (hv : Small.Valid K.g.ch ty ops) (hGref : G (toS false (Small.refOps ops)))
    (hG : ∀ p post, ops = p ++ post → G (toS false p)) :
    Good (predOf K ty stale stale' ops) := by
  have hch := L.chpos
  have hnb := L.nb
  obtain ⟨big, hcodec⟩ := L.codec
  have hvR := Small.refOps_valid K.g.ch ty ops hv
  obtain ⟨gS1, gS2⟩ := Small.callsOf_good K.g.ch ty ops hv
  obtain ⟨gR1, gR2⟩ := Small.callsOf_good K.g.ch ty (Small.refOps ops) hvR
  rw [Small.refOps_samples] at gR2
  have hD : sData (toS false (Small.refOps ops)) = sData (toS false ops) := by rw [sData_toS, sData_toS, Small.refOps_samples]
  obtain ⟨i, hp, hfr, hich, hifmt, hirate⟩ := L.closedParse stale _ hGref
  refine good_of_decoded (predOf K ty stale stale' ops) (fun xs => K.enc.decodeAll {} ty (K.enc.encodeAll {} ty xs))
    (decode_prefix K.enc hnb {} ty) ?_ hch L.block gR1 gS1 (gS2.trans gR2.symm)
    (image_decoded K ty hch hnb _ hvR _ _ (L.closedForm stale _ hGref) ⟨i, hp, hfr, hich, hifmt⟩)
    (by show rateOk K.g.major K.g.sr (Small.infoOf (K.parse _)).sr = true; rw [hp]; exact hirate) rfl
    (L.closedFn _ _ _ _ hGref (hG ops [] (by simp)) hD) (L.closedFn _ _ _ _ hGref hGref rfl) ?_
  · intro xs ys hxy hok
    change samples (Small.callsOf K.g.ch (Small.refOps ops)) = _ at hxy
    rw [gR2] at hxy
    exact roundtrip_exact hcodec ty xs
      (fun v hv' => Small.range_of_valid K.g.ch ty ops hv v (by rw [hxy]; exact List.mem_append_left _ hv')) hok
  · intro _ x hx
    obtain ⟨p, hpm, rfl⟩ := List.mem_map.1 hx
    obtain ⟨mid, post, e1, e2, e3⟩ := crashes_spec ops [] false p hpm
    simp only [List.nil_append] at e1
    subst e1
    have hGp := hG p post e2
    -- the calls made before the crash point are the calls of the prefix
    have hbefore : (predOf K ty stale stale' ops).split.calls.take (snapOf K ty stale p).k = Small.callsOf K.g.ch p := by
      show (Small.callsOf K.g.ch ops).take (Small.callsOf K.g.ch p).length = _
      conv => lhs; rw [e2, Small.callsOf_append]
      exact List.take_left' rfl
    rw [hbefore]
    exact image_decoded K ty hch hnb p (fun o ho => hv o (by rw [e2]; simp [ho])) _ _
      (L.storeForm stale _ hGp (e3 false rfl)) (L.storeParse stale _ hGp (e3 false rfl))

/-- the frame counts in a `Good` prediction of a sample-granular container: the re-open reports the frames of the reference call, every
    crash point those of the calls made before it -/
theorem good_frames {K : SCont} {ty : Ty} {stale stale' : Nat} {ops : List Small.Op} (hg : Good (predOf K ty stale stale' ops))
    (hb : K.g.block = 1) (hs : snapScope K.g = true) :
    (recordOf K ty stale stale' ops).info.frames = framesOf K.g.ch (Small.callsOf K.g.ch (Small.refOps ops)) ∧
    (recordOf K ty stale stale' ops).snaps.map (·.info.frames) =
      (Small.crashes [] ops false).map fun p => (framesOf K.g.ch ((Small.callsOf K.g.ch ops).take (Small.callsOf K.g.ch p).length) : Int) := by
  constructor
  · have h1 : ((framesOf K.g.ch (Small.callsOf K.g.ch (Small.refOps ops)) : Nat) : Int) ≤ (predOf K ty stale stale' ops).info.frames :=
      hg.framesLo
    have h2 : (predOf K ty stale stale' ops).info.frames <
        ((framesOf K.g.ch (Small.callsOf K.g.ch (Small.refOps ops)) : Nat) : Int) + (K.g.block : Int) := hg.framesHi
    rw [hb] at h2
    show (predOf K ty stale stale' ops).info.frames = _
    omega
  · show (((Small.crashes [] ops false).map (snapOf K ty stale)).map (LSnap.snap ty)).map (·.info.frames) = _
    rw [List.map_map, List.map_map]
    apply List.map_congr_left
    intro p hp
    have h : (snapOf K ty stale p).info.frames =
        ((floorToBlock (framesOf K.g.ch ((Small.callsOf K.g.ch ops).take (Small.callsOf K.g.ch p).length)) K.g.block : Nat) : Int) :=
      (hg.snaps hs _ (List.mem_map_of_mem hp)).frames
    rw [hb, floorToBlock, Nat.div_one, Nat.mul_one] at h
    exact h

theorem sample_cont_session_accepted (K : SCont) (ty : Ty) (G : List SOp → Prop) (L : SLaws K ty G) (stale stale' : Nat)
    (ops : List Small.Op) (hv : Small.Valid K.g.ch ty ops) (hGref : G (toS false (Small.refOps ops)))
    (hG : ∀ p post, ops = p ++ post → G (toS false p)) :
    accepted (recordOf K ty stale stale' ops) = true :=
  Pred.accepted_of_good _ (sample_pred_good K ty G L stale stale' ops hv hGref hG)

end Sf.AbsWriteBridge.Sample
