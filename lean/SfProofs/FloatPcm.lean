/-
  SfProofs.FloatPcm — the float/double kernels of pcm.c (`PcmFmt.toFloat`, `PcmFmt.ofFloat`): helper lemmas, with the definitions
  they are stated through (`clipSv`, `clipShift`, `clipArg`); `lrint_round` is the rounding lemma behind the unclipped writes.
  Also the float entry of G.711 (`g711Index`, which the statements of SfProps/C02Float.lean mention) and float32.c /
  double64.c's int → float conversion (`floatOfInt_exact`).
-/
import SfModel.Pcm
import SfProofs.FloatExact
namespace Sf.Float
open Sf

/-- convert an integer n·2^j (n fits the significand) and scale by 2^k, −64 ≤ k ≤ 0: both steps are exact -/
theorem int_scale_exact (f : Fmt) (hf : f.Std) (x : Int) (n j : Nat) (k : Int) (hx : x.natAbs = n * 2 ^ j)
    (hn : n < 2 ^ (f.mbits + 1)) (hj : j ≤ 64) (hk1 : -64 ≤ k) (hk2 : k ≤ 0) :
    (f.toDy (f.ofDy ((f.toDy (f.ofInt x)).mul ⟨false, 1, k⟩))).val = x * 2 ^ k ∧
    f.isFinite (f.ofDy ((f.toDy (f.ofInt x)).mul ⟨false, 1, k⟩)) = true := by
  obtain ⟨r1, r2, r3, r4⟩ := std_ranges f hf
  obtain ⟨a, b, c, d⟩ := ofInt_exact_gen f hf x n j hx hn hj
  have hm : ((f.toDy (f.ofInt x)).mul ⟨false, 1, k⟩).mag = (n : ℚ) * 2 ^ ((j : ℤ) + k) := by
    rw [Dy.mul_mag, c, hx]; unfold Dy.mag; push_cast; rw [zpow2_add, zpow_natCast]; ring
  have hrep := rep_of f hf _ n ((j : ℤ) + k) hn (by omega) (by omega) hm
  obtain ⟨a', b', c', d'⟩ := toDy_ofDy_exact f hf _ hrep
  refine ⟨?_, d'⟩
  rw [c', Dy.mul_val, a]; simp [Dy.val]

theorem toFloat_eq (p : PcmFmt) (f : Fmt) (norm : Bool) (c : Int) :
    p.toFloat f norm c = f.ofDy ((f.toDy (f.ofInt (if p.w = 24 then c * 256 else c))).mul
      ⟨false, 1, if norm then -(((if p.w = 24 then 32 else p.w : Nat) : ℤ) - 1) else if p.w = 24 then -8 else 0⟩) := by
  unfold PcmFmt.toFloat
  simp only
  congr 2
  cases norm <;> simp
  split <;> rfl

theorem f32_consts : f32.qmin = -149 ∧ f32.mbits = 23 ∧ f32.huge = 2 ^ (128 : ℤ) := by
  refine ⟨by decide, rfl, ?_⟩
  unfold Fmt.huge; congr 1

/-- an int32 converted to float stays below the overflow threshold (it is at most 2^31) -/
theorem rnd_int32_lt_huge (s : Bool) (m : Nat) (e : Int) (hm : m ≤ 2 ^ 31) (he : e ≤ 0) (he2 : -149 ≤ e + 31):
    (f32.rnd ⟨s, m, e⟩).mag < f32.huge := by
  have hrep : f32.RepMag (2 ^ (e + 31)) := repMag_pow2 f32 _ (by rw [f32_consts.1]; omega)
  have hle : (⟨s, m, e⟩ : Dy).mag ≤ 2 ^ (e + 31) := by
    have := mul_zpow_le m 31 e hm
    unfold Dy.mag; simp only
    rwa [add_comm] at this
  have := rnd_le_of_le_rep f32 _ _ hrep hle
  rw [f32_consts.2.2]
  exact lt_of_le_of_lt this (zpow2_lt (by omega))

/-- 32-bit PCM read as float, normalised: one rounding of c / 2^31 to binary32 (ties to even) -/
theorem toFloat_f32_w32_norm (p : PcmFmt) (hw : p.w = 32) (c : Int) (hc : -(2 ^ 31 : Int) ≤ c ∧ c < (2 ^ 31 : Int)) :
    p.toFloat f32 true c = f32.ofDy ⟨decide (c < 0), c.natAbs, -31⟩ := by
  have hf : f32.Std := Or.inl rfl
  obtain ⟨cq, cm, ch⟩ := f32_consts
  rw [toFloat_eq]
  simp only [hw, Nat.reduceEqDiff, if_false, if_true]
  have hm : c.natAbs ≤ 2 ^ 31 := by omega
  obtain ⟨a, b⟩ := toDy_ofDy f32 hf (Dy.ofInt c)
  have hlt0 := rnd_int32_lt_huge (decide (c < 0)) c.natAbs 0 hm (le_refl _) (by omega)
  have hlt1 := rnd_int32_lt_huge (decide (c < 0)) c.natAbs (-31) hm (by omega) (by omega)
  rw [← ofDy_rnd f32 hf ⟨decide (c < 0), c.natAbs, -31⟩ hlt1]
  apply ofDy_congr
  · unfold Fmt.ofInt; unfold Dy.mul; simp only [a, rnd_neg]; simp [Dy.ofInt]
  · unfold Fmt.ofInt
    rw [Dy.mul_mag, b]
    have e0 : Dy.ofInt c = ⟨decide (c < 0), c.natAbs, 0⟩ := rfl
    rw [e0, min_eq_left (le_of_lt hlt0)]
    by_cases hz : c.natAbs = 0
    · rw [rnd_mag_zero f32 _ hz, rnd_mag_zero f32 _ hz]; simp
    · have hL := (bitLen_bounds _ hz).2.2
      have := rnd_scale_mag f32 (decide (c < 0)) c.natAbs 0 (-31) (by rw [cq, cm]; omega) (by rw [cq, cm]; omega)
      have e31 : (0 : ℤ) + -31 = -31 := by norm_num
      rw [e31] at this
      rw [this]; simp [Dy.mag]

/-- 32-bit PCM read as float, not normalised: `(float) c` -/
theorem toFloat_f32_w32_raw (p : PcmFmt) (hw : p.w = 32) (c : Int) (hc : -(2 ^ 31 : Int) ≤ c ∧ c < (2 ^ 31 : Int)) :
    p.toFloat f32 false c = f32.ofInt c := by
  have hf : f32.Std := Or.inl rfl
  rw [toFloat_eq]
  simp only [hw, Nat.reduceEqDiff, if_false]
  have hm : c.natAbs ≤ 2 ^ 31 := by omega
  have hlt0 := rnd_int32_lt_huge (decide (c < 0)) c.natAbs 0 hm (le_refl _) (by omega)
  have hfin : f32.isFinite (f32.ofInt c) = true := (ofDy_finite_iff f32 hf _).mpr hlt0
  have h1 : f32.ofDy ((f32.toDy (f32.ofInt c)).mul ⟨false, 1, 0⟩) = f32.ofDy (f32.toDy (f32.ofInt c)) := by
    apply ofDy_congr
    · simp [Dy.mul]
    · rw [Dy.mul_mag]; simp [Dy.mag]
  simp only [Bool.false_eq_true, if_false]
  rw [h1]
  exact ofDy_toDy f32 _ (ofDy_lt_width f32 hf _) hfin

theorem int_scale_pattern (f : Fmt) (hf : f.Std) (x : Int) (n j : Nat) (k : Int) (hx : x.natAbs = n * 2 ^ j)
    (hn : n < 2 ^ (f.mbits + 1)) (hj : j ≤ 64) :
    f.ofDy ((f.toDy (f.ofInt x)).mul ⟨false, 1, k⟩) = f.ofDy ⟨decide (x < 0), x.natAbs, k⟩ := by
  obtain ⟨a, b, c, d⟩ := ofInt_exact_gen f hf x n j hx hn hj
  apply ofDy_congr
  · simp [Dy.mul, b]
  · rw [Dy.mul_mag, c]; simp [Dy.mag]

/-- a code of a w-bit sample fits the significand of the caller's format, except a 32-bit code in a `float` -/
theorem code_fits (p : PcmFmt) (f : Fmt) (hf : f.Std) (c : Int) (hw : p.w = 8 ∨ p.w = 16 ∨ p.w = 24 ∨ p.w = 32)
    (hc : -(2 ^ (p.w - 1) : Int) ≤ c ∧ c < (2 ^ (p.w - 1) : Int)) (hfit : p.w = 32 → f = f64) :
    c.natAbs < 2 ^ (f.mbits + 1) := by
  obtain ⟨_, r2, _, _⟩ := std_ranges f hf
  have hpow : 2 ^ 24 ≤ 2 ^ (f.mbits + 1) := Nat.pow_le_pow_right (by omega) (by omega)
  rcases hw with h | h | h | h
  · rw [h] at hc; omega
  · rw [h] at hc; omega
  · rw [h] at hc; omega
  · have := hfit h; subst this
    rw [h] at hc; show c.natAbs < 2 ^ (52 + 1); omega

/-- **every read kernel is ONE correctly rounded conversion** of the code `c` (normalisation off) or of c / 2^(w−1) (on) to
    the caller's format, for all four widths and both formats (for 24-bit samples the kernel's (c·256) · 2^-8 resp.
    (c·256) · 2^-31 is that number) -/
theorem toFloat_pattern (p : PcmFmt) (f : Fmt) (hf : f.Std) (norm : Bool) (c : Int)
    (hw : p.w = 8 ∨ p.w = 16 ∨ p.w = 24 ∨ p.w = 32)
    (hc : -(2 ^ (p.w - 1) : Int) ≤ c ∧ c < (2 ^ (p.w - 1) : Int)) :
    p.toFloat f norm c = f.ofDy ⟨decide (c < 0), c.natAbs, if norm then -((p.w : ℤ) - 1) else 0⟩ := by
  by_cases h32 : p.w = 32 ∧ f = f32
  · -- the only case in which the code need not fit the significand
    obtain ⟨h, rfl⟩ := h32
    rw [h] at hc
    cases norm
    · exact toFloat_f32_w32_raw p h c hc
    · rw [toFloat_f32_w32_norm p h c hc, h]; rfl
  · have hn := code_fits p f hf c hw hc
      (fun h => by rcases hf with rfl | rfl <;> [exact absurd ⟨h, rfl⟩ h32; rfl])
    rw [toFloat_eq]
    by_cases h24 : p.w = 24
    · simp only [h24, if_true]
      rw [int_scale_pattern f hf (c * 256) c.natAbs 8 _ (by rw [Int.natAbs_mul]; rfl) hn (by omega)]
      apply ofDy_congr
      · simp only [decide_eq_decide]; omega
      · unfold Dy.mag; simp only
        rw [Int.natAbs_mul]; push_cast
        have : (256 : ℚ) = 2 ^ (8 : ℤ) := by norm_num
        rw [this, mul_assoc, ← zpow2_add]
        cases norm <;> norm_num
    · simp only [h24, if_false]
      exact int_scale_pattern f hf c c.natAbs 0 _ (by simp) hn (by omega)

/-- the scaled value `x * normfact` as the clipping kernels form it (in the caller's format) -/
def clipSv (p : PcmFmt) (f : Fmt) (norm : Bool) (x : Nat) : Dy :=
  f.toDy (f.ofDy ((f.toDy x).mul (if norm then ⟨false, 2 ^ (p.w - 1), 0⟩ else ⟨false, 1, 0⟩)))

/-- exponent of the clipping normfact: 2^(w−1) or 2^0 -/
def clipShift (p : PcmFmt) (norm : Bool) : Nat := if norm then p.w - 1 else 0

theorem ofFloat_clip_eq (p : PcmFmt) (f : Fmt) (v : Variant) (norm : Bool) (x : Nat) :
    p.ofFloat f v norm true x =
      if ((2 ^ (p.w - 1) - 1 : ℤ) : ℚ) ≤ (clipSv p f norm x).val then 2 ^ (p.w - 1) - 1
      else if (clipSv p f norm x).val ≤ ((-2 ^ (p.w - 1) : ℤ) : ℚ) then -2 ^ (p.w - 1)
      else if p.w = 8 ∧ (!p.unsigned) = true ∧ f = f64 then lrintInt v (f32.toDy (f64to32 (f.ofDy (clipSv p f norm x))))
      else lrintInt v (clipSv p f norm x) := by
  unfold PcmFmt.ofFloat clipSv
  simp only [Bool.not_true, Bool.false_eq_true, if_false, Dy.le_iff, Dy.ofInt_val]

/-- what the clipping kernels compare: x·2^shift, exactly, capped at ±huge (Inf/NaN patterns and overflowing products) -/
theorem clipSv_val (p : PcmFmt) (f : Fmt) (hf : f.Std) (norm : Bool) (x : Nat) :
    (clipSv p f norm x).val = max (-f.huge) (min ((f.toDy x).val * 2 ^ (clipShift p norm)) f.huge) ∧
    (clipSv p f norm x).neg = (f.toDy x).neg ∧
    (clipSv p f norm x).mag = min ((f.toDy x).mag * 2 ^ (clipShift p norm)) f.huge := by
  have hN : ∃ N : Dy, (if norm then (⟨false, 2 ^ (p.w - 1), 0⟩ : Dy) else ⟨false, 1, 0⟩) = N ∧ N.neg = false ∧
      N.mag = 2 ^ (clipShift p norm) := by
    refine ⟨_, rfl, ?_, ?_⟩
    · cases norm <;> rfl
    · cases norm <;> simp [Dy.mag, clipShift]
  obtain ⟨N, hNe, hNn, hNm⟩ := hN
  unfold clipSv
  rw [hNe]
  obtain ⟨a, b⟩ := toDy_ofDy f hf ((f.toDy x).mul N)
  have hmag : ((f.toDy x).mul N).mag = (f.toDy x).mag * 2 ^ (clipShift p norm) := by rw [Dy.mul_mag, hNm]
  have hrep : f.RepMag ((f.toDy x).mul N).mag := by
    obtain ⟨n, q, hn, hq, hm⟩ := toDy_rep f x
    refine ⟨n, q + (clipShift p norm : ℕ), hn, by omega, ?_⟩
    rw [hmag, hm, zpow2_add, zpow_natCast]; ring
  rw [rnd_exact f _ hrep, hmag] at b
  have hneg : (f.toDy (f.ofDy ((f.toDy x).mul N))).neg = (f.toDy x).neg := by rw [a]; simp [Dy.mul, hNn]
  refine ⟨?_, hneg, b⟩
  have hh : 0 < f.huge := two_zpow_pos _
  have hm0 : 0 ≤ (f.toDy x).mag * 2 ^ (clipShift p norm) := mul_nonneg (Dy.mag_nonneg _) (by positivity)
  rw [Dy.val_eq, Dy.val_eq, b, hneg]
  cases hs : (f.toDy x).neg
  · simp only [Bool.false_eq_true, if_false]
    rw [max_eq_right]; linarith [le_min hm0 (le_of_lt hh)]
  · simp only [if_true]
    rw [neg_mul, min_eq_left (by linarith : -((f.toDy x).mag * 2 ^ clipShift p norm) ≤ f.huge)]
    rcases le_total ((f.toDy x).mag * 2 ^ clipShift p norm) f.huge with h | h
    · rw [min_eq_left h, max_eq_right (by linarith)]
    · rw [min_eq_right h, max_eq_left (by linarith)]

theorem lrintInt_of_range (v : Variant) (a : Dy) (h1 : -2147483648 ≤ a.rint) (h2 : a.rint ≤ 2147483647) :
    lrintInt v a = a.rint := by
  unfold lrintInt
  cases v
  · simp only
    have : ¬ (a.rint < -9223372036854775808 ∨ a.rint > 9223372036854775807) := by omega
    simp only [this, if_false]
    unfold wrapS; simp only; split <;> omega
  · simp only
    have : ¬ (a.rint < -2147483648 ∨ a.rint > 2147483647) := by omega
    simp only [this, if_false]

theorem lrintInt_upto_2p31 (v : Variant) (a : Dy) (h1 : -2147483648 ≤ a.rint) (h2 : a.rint ≤ 2147483648) :
    lrintInt v a = if a.rint = 2147483648 then -2147483648 else a.rint := by
  split
  · rename_i h
    unfold lrintInt
    cases v
    · simp only [h]; decide
    · simp only [h]; decide
  · exact lrintInt_of_range v a h1 (by omega)

theorem lrintInt_between (v : Variant) (a : Dy) (lo hi : ℤ) (hlo : -2147483648 ≤ lo) (hhi : hi ≤ 2147483647)
    (h1 : (lo : ℚ) ≤ a.val) (h2 : a.val ≤ hi) : lrintInt v a = a.rint ∧ lo ≤ a.rint ∧ a.rint ≤ hi := by
  have r := Dy.rint_isRNE a
  have b1 := r.ge_int lo h1
  have b2 := r.le_int hi h2
  exact ⟨lrintInt_of_range v a (by omega) (by omega), b1, b2⟩

/-- `d2sc_clip_array`: the detour through `float` is one extra rounding to binary32 -/
theorem d2sc_narrow (p : PcmFmt) (norm : Bool) (x : Nat) (h : (clipSv p f64 norm x).mag < f64.huge) :
    f32.toDy (f64to32 (f64.ofDy (clipSv p f64 norm x))) = f32.toDy (f32.ofDy (clipSv p f64 norm x)) := by
  have hf : f64.Std := Or.inr rfl
  have hfin : f64.isFinite (f64.ofDy ((f64.toDy x).mul (if norm then ⟨false, 2 ^ (p.w - 1), 0⟩ else ⟨false, 1, 0⟩))) = true :=
    (finite_iff_mag_lt f64 hf _).mpr h
  have e : f64.ofDy (clipSv p f64 norm x) =
      f64.ofDy ((f64.toDy x).mul (if norm then ⟨false, 2 ^ (p.w - 1), 0⟩ else ⟨false, 1, 0⟩)) :=
    ofDy_toDy f64 _ (ofDy_lt_width f64 hf _) hfin
  rw [e]
  unfold f64to32
  simp only [hfin, if_true]
  rfl

theorem pow_w_cases (p : PcmFmt) (hw : p.w = 8 ∨ p.w = 16 ∨ p.w = 24 ∨ p.w = 32) :
    (2 : ℤ) ^ (p.w - 1) = 128 ∨ (2 : ℤ) ^ (p.w - 1) = 32768 ∨ (2 : ℤ) ^ (p.w - 1) = 8388608 ∨
    (2 : ℤ) ^ (p.w - 1) = 2147483648 := by
  rcases hw with h | h | h | h <;> simp [h]

/-- what the clipping kernels hand to `lrint` between the two thresholds: the scaled value, which `d2sc_clip_array` alone
    narrows to `float` first -/
def clipArg (p : PcmFmt) (f : Fmt) (norm : Bool) (x : Nat) : Dy :=
  if p.w = 8 ∧ (!p.unsigned) = true ∧ f = f64 then f32.toDy (f32.ofDy (clipSv p f norm x)) else clipSv p f norm x

theorem clipArg_mono (p : PcmFmt) (f : Fmt) (norm : Bool) (x₁ x₂ : Nat)
    (h : (clipSv p f norm x₁).val ≤ (clipSv p f norm x₂).val) : (clipArg p f norm x₁).val ≤ (clipArg p f norm x₂).val := by
  unfold clipArg
  split
  · exact round_mono f32 (Or.inl rfl) _ _ h
  · exact h

theorem ofFloat_clip_mid (p : PcmFmt) (hw : p.w = 8 ∨ p.w = 16 ∨ p.w = 24 ∨ p.w = 32) (f : Fmt) (hf : f.Std)
    (v : Variant) (norm : Bool) (x : Nat) (h1 : ¬ ((2 ^ (p.w - 1) - 1 : ℤ) : ℚ) ≤ (clipSv p f norm x).val)
    (h2 : ¬ (clipSv p f norm x).val ≤ ((-2 ^ (p.w - 1) : ℤ) : ℚ)) :
    p.ofFloat f v norm true x = (clipArg p f norm x).rint ∧
    -(2 ^ (p.w - 1) : ℤ) ≤ (clipArg p f norm x).rint ∧ (clipArg p f norm x).rint ≤ 2 ^ (p.w - 1) - 1 := by
  have hP := pow_w_cases p hw
  rw [ofFloat_clip_eq, if_neg h1, if_neg h2]
  rw [not_le] at h1 h2
  unfold clipArg
  split
  · rename_i hc
    obtain ⟨hw8, _, hf64⟩ := hc
    subst hf64
    have h128 : (2 : ℤ) ^ (p.w - 1) = 128 := by simp [hw8]
    rw [h128] at h1 h2 ⊢
    push_cast at h1 h2
    have hmag : (clipSv p f64 norm x).mag < f64.huge := by
      rw [← Dy.abs_val]
      have : |(clipSv p f64 norm x).val| < 128 := by rw [abs_lt]; constructor <;> linarith
      exact lt_of_lt_of_le this (le_trans (by norm_num) (std_huge f64 hf))
    rw [d2sc_narrow p norm x hmag]
    have hb := round_val_bounds f32 (Or.inl rfl) (clipSv p f64 norm x) (-128) 127
      (by simpa using repMag_nat f32 (Or.inl rfl) 128 (by norm_num))
      (by simpa using repMag_nat f32 (Or.inl rfl) 127 (by norm_num)) (by norm_num) (by norm_num)
      (by linarith) (by linarith)
    have := lrintInt_between v _ (-128) 127 (by norm_num) (by norm_num) (by push_cast; exact hb.1) (by push_cast; exact hb.2)
    exact ⟨this.1, by omega, by omega⟩
  · have := lrintInt_between v (clipSv p f norm x) (-(2 ^ (p.w - 1))) (2 ^ (p.w - 1) - 1) (by omega) (by omega)
      (by push_cast at h2 ⊢; linarith) (by push_cast at h1 ⊢; linarith)
    exact ⟨this.1, this.2.1, this.2.2⟩

/-- **clipping kernels never leave the sample range**, whatever the bit pattern (Inf and NaN included) -/
theorem ofFloat_clip_range (p : PcmFmt) (hw : p.w = 8 ∨ p.w = 16 ∨ p.w = 24 ∨ p.w = 32) (f : Fmt) (hf : f.Std)
    (v : Variant) (norm : Bool) (x : Nat) :
    -(2 ^ (p.w - 1) : ℤ) ≤ p.ofFloat f v norm true x ∧ p.ofFloat f v norm true x ≤ 2 ^ (p.w - 1) - 1 := by
  have hP := pow_w_cases p hw
  by_cases h1 : ((2 ^ (p.w - 1) - 1 : ℤ) : ℚ) ≤ (clipSv p f norm x).val
  · rw [ofFloat_clip_eq, if_pos h1]; omega
  by_cases h2 : (clipSv p f norm x).val ≤ ((-2 ^ (p.w - 1) : ℤ) : ℚ)
  · rw [ofFloat_clip_eq, if_neg h1, if_pos h2]; omega
  obtain ⟨e, lo, hi⟩ := ofFloat_clip_mid p hw f hf v norm x h1 h2
  rw [e]; exact ⟨lo, hi⟩

theorem pow_w_le_huge (p : PcmFmt) (hw : p.w = 8 ∨ p.w = 16 ∨ p.w = 24 ∨ p.w = 32) (f : Fmt) (hf : f.Std) :
    (((2 : ℤ) ^ (p.w - 1) : ℤ) : ℚ) ≤ f.huge := by
  have h1 : (((2 : ℤ) ^ (p.w - 1) : ℤ) : ℚ) ≤ 2 ^ (128 : ℤ) := by
    rcases hw with h | h | h | h <;> simp only [h] <;> norm_num
  exact le_trans h1 (std_huge f hf)

theorem clipSv_mono (p : PcmFmt) (f : Fmt) (hf : f.Std) (norm : Bool) (x₁ x₂ : Nat)
    (h : (f.toDy x₁).val ≤ (f.toDy x₂).val) : (clipSv p f norm x₁).val ≤ (clipSv p f norm x₂).val := by
  rw [(clipSv_val p f hf norm x₁).1, (clipSv_val p f hf norm x₂).1]
  have : (f.toDy x₁).val * 2 ^ clipShift p norm ≤ (f.toDy x₂).val * 2 ^ clipShift p norm :=
    mul_le_mul_of_nonneg_right h (by positivity)
  exact max_le_max_left _ (min_le_min_right _ this)

theorem ofFloat_noclip_eq (p : PcmFmt) (f : Fmt) (v : Variant) (norm : Bool) (x : Nat) :
    p.ofFloat f v norm false x = lrintInt v (f.toDy (f.ofDy ((f.toDy x).mul
      (if norm then f.toDy (f.ofInt (2 ^ (p.w - 1) - 1)) else ⟨false, 1, 0⟩)))) := by
  unfold PcmFmt.ofFloat
  simp

/-- the write normfact 2^(w−1) − 1 is exact in the caller's type, except 0x7FFFFFFF as a float -/
theorem normfact_exact (p : PcmFmt) (hw : p.w = 8 ∨ p.w = 16 ∨ p.w = 24 ∨ p.w = 32) (f : Fmt) (hf : f.Std)
    (hfit : p.w = 32 → f = f64) :
    (f.toDy (f.ofInt (2 ^ (p.w - 1) - 1))).neg = false ∧
    (f.toDy (f.ofInt (2 ^ (p.w - 1) - 1))).mag = (((2 ^ (p.w - 1) - 1 : ℤ)) : ℚ) := by
  have hpos : (0 : ℤ) < 2 ^ (p.w - 1) := Int.pow_pos (by decide)
  have hfitB := code_fits p f hf (2 ^ (p.w - 1) - 1) hw ⟨by omega, by omega⟩ hfit
  obtain ⟨_, b, c, _⟩ := ofInt_exact_gen f hf (2 ^ (p.w - 1) - 1) _ 0 (by simp) hfitB (by omega)
  refine ⟨by rw [b]; simp; omega, ?_⟩
  rw [c, Nat.cast_natAbs, abs_of_nonneg (by exact_mod_cast (by omega : (0 : ℤ) ≤ 2 ^ (p.w - 1) - 1))]

/-- **a value rounded to the format and then to a C `int`**, when its magnitude is at most a representable integer bound
    `B ≤ 2^31`: the nearest integer r of the rounded value stays in [−B, B]; it is within half a unit of the value plus what
    the first rounding moved it; it is THE nearest integer (ties to even) when the value is representable; and `lrint`
    returns r, except that 2^31 (which needs B = 2^31) comes back as INT_MIN in both build variants -/
theorem lrint_round (f : Fmt) (hf : f.Std) (v : Variant) (d : Dy) (B : ℤ) (hB0 : 0 ≤ B) (hB1 : B ≤ 2147483648)
    (hrep : f.RepMag (B : ℚ)) (hle : d.mag ≤ B) :
    ∃ r : ℤ, -B ≤ r ∧ r ≤ B ∧ |(r : ℚ) - d.val| ≤ 1 / 2 + |(f.rnd d).mag - d.mag| ∧ (f.RepMag d.mag → IsRNE d.val r) ∧
      lrintInt v (f.toDy (f.ofDy d)) = if r = 2147483648 then -2147483648 else r := by
  obtain ⟨hn, hmin⟩ := toDy_ofDy f hf d
  have hv : |(f.toDy (f.ofDy d)).val| ≤ B := by rw [Dy.abs_val]; exact round_mag_le f hf d B hrep hle
  rw [abs_le] at hv
  have hr := Dy.rint_isRNE (f.toDy (f.ofDy d))
  have lo := hr.ge_int (-B) (by push_cast; exact hv.1)
  have hi := hr.le_int B hv.2
  -- below the overflow threshold the first rounding is `rnd`
  have hm : (f.toDy (f.ofDy d)).mag = (f.rnd d).mag := by
    rw [hmin]
    refine min_eq_left (le_trans (rnd_le_of_le_rep f d B hrep hle) (le_trans ?_ (std_huge f hf)))
    have : (B : ℚ) ≤ 2147483648 := by exact_mod_cast hB1
    linarith [show (2147483648 : ℚ) ≤ 2 ^ (128 : ℤ) by norm_num]
  refine ⟨_, lo, hi, ?_, fun hd => ?_, lrintInt_upto_2p31 v _ (by omega) (by omega)⟩
  · have e2 : |(f.toDy (f.ofDy d)).val - d.val| = |(f.rnd d).mag - d.mag| := by
      rw [Dy.val_eq, Dy.val_eq d, hn, hm]
      cases d.neg <;> simp only [Bool.false_eq_true, if_false, if_true]
      rw [← abs_neg]; congr 1; ring
    rw [← e2]
    calc |((f.toDy (f.ofDy d)).rint : ℚ) - d.val|
        = |(((f.toDy (f.ofDy d)).rint : ℚ) - (f.toDy (f.ofDy d)).val) + ((f.toDy (f.ofDy d)).val - d.val)| := by congr 1; ring
      _ ≤ _ := le_trans (abs_add_le _ _) (add_le_add hr.abs_le le_rfl)
  · rw [← val_eq_of hn (hm.trans (rnd_exact f d hd))]
    exact hr

theorem quantum_le_of_mag_lt (f : Fmt) (d : Dy) (hm : d.m ≠ 0) (k : ℤ) (h : d.mag < 2 ^ k) (hk : f.qmin ≤ k - 1 - f.mbits) :
    f.quantum d ≤ k - 1 - f.mbits := by
  have := zpow2_lt_iff.mp (lt_of_le_of_lt (Dy.mag_bounds d hm).1 h)
  unfold Fmt.quantum; omega

/-- `(float) 0x7FFFFFFF` is 2^31 -/
theorem normfact_f32_w32 : f32.toDy (f32.ofInt 2147483647) = ⟨false, 8388608, 8⟩ := by decide

/-- 32-bit PCM written from float without clipping: the normfact is 2^31, so the product is exact and the code is
    the nearest integer to x·2^31 — except that the value 2^31 (reached at x = 1.0f) becomes INT_MIN -/
theorem ofFloat_w32_f32 (p : PcmFmt) (hw : p.w = 32) (v : Variant) (x : Nat) (hx : |(f32.toDy x).val| ≤ 1) :
    ∃ r : ℤ, IsRNE ((f32.toDy x).val * 2 ^ 31) r ∧ -2147483648 ≤ r ∧ r ≤ 2147483648 ∧
      p.ofFloat f32 v true false x = if r = 2147483648 then -2147483648 else r := by
  rw [ofFloat_noclip_eq]
  simp only [if_true, hw]
  have e : ((2 : ℤ) ^ (32 - 1) - 1) = 2147483647 := by norm_num
  rw [e, normfact_f32_w32]
  generalize hd : (f32.toDy x).mul ⟨false, 8388608, 8⟩ = d
  have hmag : d.mag = (f32.toDy x).mag * 2 ^ (31 : ℤ) := by
    rw [← hd, Dy.mul_mag]; unfold Dy.mag; simp only; norm_num
  have hval : d.val = (f32.toDy x).val * 2 ^ 31 := by
    rw [← hd, Dy.mul_val]; unfold Dy.val; simp only; norm_num
  have hrepm : f32.RepMag d.mag := by
    obtain ⟨n, q, hn, hq, hm⟩ := toDy_rep f32 x
    refine ⟨n, q + 31, hn, by omega, ?_⟩
    rw [hmag, hm, zpow2_add]; ring
  have hle : d.mag ≤ 2 ^ (31 : ℤ) := by
    rw [hmag]; rw [Dy.abs_val] at hx
    exact mul_le_of_le_one_left (le_of_lt (two_zpow_pos _)) hx
  obtain ⟨r, lo, hi, _, hr, hc⟩ := lrint_round f32 (Or.inl rfl) v d 2147483648 (by omega) le_rfl
    ⟨1, 31, by decide, by decide, by norm_num⟩ (hle.trans_eq (by norm_num))
  exact ⟨r, hval ▸ hr hrepm, lo, hi, hc⟩

/-- the argument `Law.encFloat` passes to the encode table -/
def g711Index (l : G711.Law) (f : Fmt) (v : Variant) (norm : Bool) (x : Nat) : Nat :=
  let r := lrintInt v (f.toDy (f.ofDy ((l.wNormfact norm).mul (f.toDy x))))
  if (f.toDy x).nonneg then r.toNat else (-r).toNat

/-- |x| ≤ 1, normalisation on ⇒ |lrint (normfact·x)| ≤ K where K = ⌈0x7FFF / 2^shift⌉ -/
theorem g711_index_le (l : G711.Law) (f : Fmt) (hf : f.Std) (v : Variant) (x : Nat) (hx : |(f.toDy x).val| ≤ 1)
    (K : ℕ) (hK1 : K < 2 ^ 24) (hK : (0x7FFF : ℚ) * 2 ^ (-(l.shift : ℤ)) ≤ K) :
    (g711Index l f v true x : ℤ) ≤ K := by
  unfold g711Index
  simp only
  generalize hd : (l.wNormfact true).mul (f.toDy x) = d
  have hmag : d.mag = (0x7FFF : ℚ) * 2 ^ (-(l.shift : ℤ)) * (f.toDy x).mag := by
    rw [← hd, Dy.mul_mag]; unfold G711.Law.wNormfact Dy.mag; simp
  have hle : d.mag ≤ (0x7FFF : ℚ) * 2 ^ (-(l.shift : ℤ)) := by
    rw [hmag]; rw [Dy.abs_val] at hx
    exact mul_le_of_le_one_right (by positivity) hx
  obtain ⟨r, lo, hi, _, _, e⟩ := lrint_round f hf v d K (by omega) (by omega) (by exact_mod_cast repMag_nat f hf K hK1)
    (le_trans hle (by exact_mod_cast hK))
  rw [e, if_neg (by omega : r ≠ 2147483648)]
  split <;> omega

/-- the largest binary32 below 1 is 1 − 2^-24 -/
theorem f32_lt_one_grid (x : Nat) (h : (f32.toDy x).mag < 1) : (f32.toDy x).mag * 2 ^ (24 : ℤ) ≤ 2 ^ (24 : ℤ) - 1 := by
  obtain ⟨n, q, hn, hq, hm⟩ := toDy_rep f32 x
  have hnq : (n : ℚ) ≤ 2 ^ (24 : ℤ) - 1 := by
    have : ((n : ℕ) : ℚ) ≤ ((2 ^ 24 - 1 : ℕ) : ℚ) := Nat.cast_le.mpr (Nat.le_sub_one_of_lt hn)
    norm_num at this ⊢; exact this
  rw [hm] at h ⊢
  rw [mul_assoc, ← zpow2_add]
  by_cases hc : 0 ≤ q + 24
  · -- n · 2^(q+24) is a natural number below 2^24
    obtain ⟨j, hj⟩ := Int.eq_ofNat_of_zero_le hc
    have hlt : (n : ℚ) * 2 ^ (q + 24) < 2 ^ (24 : ℤ) := by
      rw [zpow2_add, ← mul_assoc]
      simpa using mul_lt_mul_of_pos_right h (two_zpow_pos 24)
    rw [hj, zpow_natCast] at hlt ⊢
    have : n * 2 ^ j ≤ 2 ^ 24 - 1 := Nat.le_sub_one_of_lt (by exact_mod_cast hlt)
    have : ((n * 2 ^ j : ℕ) : ℚ) ≤ ((2 ^ 24 - 1 : ℕ) : ℚ) := Nat.cast_le.mpr this
    norm_num at this ⊢; exact this
  · have : (n : ℚ) * 2 ^ (q + 24) ≤ n * 2 ^ (0 : ℤ) :=
      mul_le_mul_of_nonneg_left (zpow2_le (by omega)) (Nat.cast_nonneg n)
    rw [zpow_zero, mul_one] at this
    exact le_trans this hnq

/-- `floatOfInt` for a value whose magnitude fits the significand: exactly x·2^k (k = 0, −15, −31) -/
theorem floatOfInt_exact (f : Fmt) (hf : f.Std) (scaleIF : Bool) (ty : Ty) (x : Int)
    (hx : x.natAbs < 2 ^ (f.mbits + 1)) :
    (f.toDy (floatOfInt f scaleIF ty x)).val =
      (x : ℚ) * 2 ^ (if !scaleIF then (0 : ℤ) else if ty = .s16 then -15 else -31) ∧
    f.isFinite (floatOfInt f scaleIF ty x) = true := by
  unfold floatOfInt
  simp only
  exact int_scale_exact f hf x x.natAbs 0 _ (by simp) hx (by omega)
    (by split <;> [omega; (split <;> omega)]) (by split <;> [omega; (split <;> omega)])

end Sf.Float
