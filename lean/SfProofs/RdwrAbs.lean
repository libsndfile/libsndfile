/-
  SfProofs.RdwrAbs — facts about the abstract file alone (SfProofs/RdwrSpec.lean): `upTo`, what a write
  leaves where (`write_inside` / `_at_end` / `_before` / `_after`, `write_read_back`), and the frames after a seek, a read, a
  truncate.
-/
import SfProofs.RdwrSpec
namespace Sf.AbsFile
variable {α : Type}

theorem upTo_length (z : α) (fr : List α) (p : Nat) : (upTo z fr p).length = p := by
  unfold upTo; simp; omega

theorem upTo_of_le (z : α) (fr : List α) (p : Nat) (h : p ≤ fr.length) : upTo z fr p = fr.take p := by
  unfold upTo; rw [Nat.sub_eq_zero_of_le h]; simp

theorem upTo_of_ge (z : α) (fr : List α) (p : Nat) (h : fr.length ≤ p) :
    upTo z fr p = fr ++ List.replicate (p - fr.length) z := by
  unfold upTo; rw [List.take_of_length_le h]

theorem upTo_map {β : Type} (f : α → β) (z : α) (fr : List α) (p : Nat) : (upTo z fr p).map f = upTo (f z) (fr.map f) p := by
  unfold upTo
  rw [List.map_append, List.map_take, List.map_replicate, List.length_map]

theorem upTo_hole (z z' : α) (fr : List α) (p : Nat) (h : p ≤ fr.length ∨ z = z') : upTo z fr p = upTo z' fr p := by
  rcases h with h | rfl
  · rw [upTo_of_le z fr p h, upTo_of_le z' fr p h]
  · rfl

theorem write_frames (z : α) (f : AbsFile α) (fs : List α) (hne : fs ≠ []) :
    (f.write z fs).frames = upTo z f.frames f.wpos ++ fs ++ f.frames.drop (f.wpos + fs.length) := by
  unfold write; rw [if_neg hne]

theorem write_wpos (z : α) (f : AbsFile α) (fs : List α) : (f.write z fs).wpos = f.wpos + fs.length := by
  unfold write; split
  · rename_i h; subst h; rfl
  · rfl

theorem write_rpos (z : α) (f : AbsFile α) (fs : List α) : (f.write z fs).rpos = f.rpos := by
  unfold write; split <;> rfl

theorem write_length (z : α) (f : AbsFile α) (fs : List α) (hne : fs ≠ []) :
    (f.write z fs).frames.length = max f.frames.length (f.wpos + fs.length) := by
  rw [write_frames z f fs hne]
  simp [upTo_length]; omega

theorem write_read_back (z : α) (f : AbsFile α) (fs : List α) (hne : fs ≠ []) :
    ((f.write z fs).frames.drop f.wpos).take fs.length = fs := by
  rw [write_frames z f fs hne, List.append_assoc, List.drop_left' (upTo_length z _ _), List.take_left' rfl]

theorem write_inside (z : α) (f : AbsFile α) (fs : List α) (hne : fs ≠ []) (h : f.wpos + fs.length ≤ f.frames.length) :
    (f.write z fs).frames = f.frames.take f.wpos ++ fs ++ f.frames.drop (f.wpos + fs.length) ∧
    (f.write z fs).frames.length = f.frames.length := by
  refine ⟨by rw [write_frames z f fs hne, upTo_of_le z _ _ (by omega)], ?_⟩
  rw [write_length z f fs hne]; omega

theorem write_at_end (z : α) (f : AbsFile α) (fs : List α) (hne : fs ≠ []) (h : f.frames.length ≤ f.wpos) :
    (f.write z fs).frames = f.frames ++ List.replicate (f.wpos - f.frames.length) z ++ fs ∧
    (f.write z fs).frames.length = f.wpos + fs.length := by
  refine ⟨by rw [write_frames z f fs hne, upTo_of_ge z _ _ h, List.drop_of_length_le (by omega)]; simp, ?_⟩
  rw [write_length z f fs hne]; omega

theorem write_before (z : α) (f : AbsFile α) (fs : List α) (i : Nat) (hi : i < f.wpos) (hl : i < f.frames.length) :
    (f.write z fs).frames[i]? = f.frames[i]? := by
  by_cases hne : fs = []
  · subst hne; simp [write]
  · rw [write_frames z f fs hne, List.append_assoc, List.getElem?_append_left (by rw [upTo_length]; exact hi)]
    unfold upTo
    rw [List.getElem?_append_left (by rw [List.length_take]; omega), List.getElem?_take_of_lt hi]

theorem write_after (z : α) (f : AbsFile α) (fs : List α) (i : Nat) (hi : f.wpos + fs.length ≤ i) :
    (f.write z fs).frames[i]? = f.frames[i]? := by
  by_cases hne : fs = []
  · subst hne; simp [write]
  · rw [write_frames z f fs hne, List.getElem?_append_right (by simp [upTo_length]; omega)]
    simp only [List.length_append, upTo_length, List.getElem?_drop]
    congr 1; omega

theorem seek_set_nat (f : AbsFile α) (p : Ptr) (t : Nat) :
    f.seek .set p (t : Int) = ((t : Int), match p with
      | .both => { f with rpos := t, wpos := t }
      | .rd => { f with rpos := t }
      | .wr => { f with wpos := t }) := by
  unfold seek base
  have : ¬ ((t : Int) < 0) := by omega
  simp only [Int.zero_add, Int.toNat_natCast, this, if_false]
  cases p <;> rfl

theorem seek_frames (f : AbsFile α) (w : Whence) (p : Ptr) (off : Int) : (f.seek w p off).2.frames = f.frames := by
  unfold seek; simp only []; split
  · rfl
  · cases p <;> rfl

theorem read_frames (f : AbsFile α) (k : Nat) : (f.read k).2.frames = f.frames := rfl

theorem truncate_length (z : α) (f : AbsFile α) (n : Nat) : (f.truncate z n).frames.length = n := upTo_length z _ n

theorem truncate_keeps (z : α) (f : AbsFile α) (n i : Nat) (hi : i < n) (hl : i < f.frames.length) :
    (f.truncate z n).frames[i]? = f.frames[i]? := by
  unfold truncate upTo
  simp only
  rw [List.getElem?_append_left (by rw [List.length_take]; omega), List.getElem?_take_of_lt hi]

end Sf.AbsFile
