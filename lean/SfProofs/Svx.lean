/-
  Helper lemmas for the SVX container theorems (SfProps/C04Svx.lean, C04SvxReopen.lean): the length of the header,
  what `Cfg.wf` amounts to (`cfg_facts`), and that `spec c` is a plain `Small.Spec`, so that the session lemmas of
  SfProofs/SmallSession.lean apply.
-/
import SfModel.Svx
import SfProofs.SmallSession
namespace Sf.Svx
open Sf Sf.Small

theorem mk4_len (s : String) (h : s.length = 4) : (mk4 s).length = 4 := by
  unfold mk4; rw [List.length_map]; exact h

theorem strField_length (s : List Byte) : (strField s).length = 4 + (s.length + 1 + (s.length + 1) % 2) := by
  unfold strField
  simp only [List.length_append, be32_length, List.length_replicate]
  omega

theorem annotation_length : annotation.length = 33 := by decide

theorem hdr_length (c : Cfg) (hch : c.ch ≤ 1) (f : Nat) (fl dl : Int) : (hdr c f fl dl).length = hdrLen c := by
  unfold hdr hdrLen
  have h2 : ¬ c.ch = 2 := by omega
  have ht : (if c.bytewidth = 1 then mk4 "8SVX" else mk4 "16SV").length = 4 := by split <;> decide
  simp only [h2, if_false, List.length_append, be32_length, be16_length, strField_length, annotation_length, ht,
    List.length_cons, List.length_nil, mk4_len "FORM" rfl, mk4_len "VHDR" rfl, mk4_len "NAME" rfl, mk4_len "ANNO" rfl, mk4_len "BODY" rfl]
  omega

theorem cfg_facts (c : Cfg) (h : c.wf) : (c.codec = 0x01 ∨ c.codec = 0x02) ∧ c.ch = 1 ∧ c.name.length ≤ 255 := by
  obtain ⟨ha, h1, _, _⟩ := h
  unfold accepted at ha
  simp only [Bool.decide_and, Bool.decide_or, Bool.and_eq_true, Bool.or_eq_true, decide_eq_true_eq] at ha
  exact ⟨ha.1, by omega, ha.2.2.2.1⟩

theorem spec_plain (c : Cfg) (h : c.wf) : (spec c).Plain :=
  ⟨fun f fl dl => hdr_length c (by have := (cfg_facts c h).2.1; omega) f fl dl, rfl, rfl⟩

theorem bw_pos (c : Cfg) (h : c.wf) : 0 < c.bw := by
  obtain ⟨hc, h1, _⟩ := cfg_facts c h
  unfold Cfg.bw Cfg.bytewidth; rcases hc with h | h <;> rw [h, h1] <;> decide

end Sf.Svx
