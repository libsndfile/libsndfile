/-
  What the property files take from the RAW / AU / WAV session: the closed bytes do not depend on interleaved header
  updates (`close_strip`, C11); every image of a session, the closed file among them (`closedImage_eq`), parses with the
  parameters of the open call and re-opens with the session's frames (`image_reads`, the reader's half of C04 and C11).
-/
import SfProofs.ContainerWav
namespace Sf

/-- the part of the session state the closed file depends on -/
def Abs.core (a : Abs) : Nat × List Byte × Option (List Peak) := (a.frames, a.data, a.peak)

def SOp.isWrite : SOp → Bool
  | .write _ => true
  | _ => false

/-- the same session without its header-update requests -/
def stripUpdates (ops : List SOp) : List SOp := ops.filter SOp.isWrite

theorem step_core (c : Cfg) (a a' : Abs) (op : SOp) (h : a.core = a'.core) :
    (a.step c op).core = (if op.isWrite then (a'.step c op).core else a'.core) := by
  simp only [Abs.core, Prod.mk.injEq] at h
  obtain ⟨h1, h2, h3⟩ := h
  cases op with
  | write w =>
    simp only [SOp.isWrite, if_true, Abs.step, Abs.write]
    split
    · simp [Abs.core, h1, h2, h3]
    · have hp : c.protoH a = c.protoH a' := by simp [Cfg.protoH, h1, h3]
      simp [Abs.core, Abs.writeNZ, h1, h2, hp]
  | update => simp [SOp.isWrite, Abs.step, Abs.core, h1, h2, h3]
  | auto b => simp [SOp.isWrite, Abs.step, Abs.core, h1, h2, h3]

theorem run_core (c : Cfg) (ops : List SOp) (a a' : Abs) (h : a.core = a'.core) :
    (a.run c ops).core = (a'.run c (stripUpdates ops)).core := by
  rw [Abs.run, Abs.run, stripUpdates, List.foldl_filter]
  exact List.foldl_rel (r := fun a a' : Abs => a.core = a'.core) h fun op _ a a' h => (step_core c a a' op h).trans (apply_ite Abs.core ..).symm

theorem closedImage_core (c : Cfg) (a a' : Abs) (h : a.core = a'.core) : closedImage c a = closedImage c a' := by
  simp only [Abs.core, Prod.mk.injEq] at h
  obtain ⟨h1, h2, h3⟩ := h
  unfold closedImage snapImage hdrBytes wavPad_ct
  simp only [h1, h2, h3]

/-- final closed bytes with and without interleaved header updates are the same (RAW, AU, WAV) -/
theorem close_strip {ix fmt : Nat} {ch sr : Int} {h0 : H} {s0 : Store} (ops : List SOp)
    (ho : openHandle ix {} .w fmt ch sr = .ok h0 s0) (hv : ∀ op ∈ ops, op.valid ch.toNat) :
    (closeHandle (runS (h0, s0) ops).1 (runS (h0, s0) ops).2).bytes =
    (closeHandle (runS (h0, s0) (stripUpdates ops)).1 (runS (h0, s0) (stripUpdates ops)).2).bytes := by
  obtain ⟨c, hcfg, _, _, _, i⟩ := session_inv ops ho hv
  obtain ⟨c', hcfg', _, _, _, i'⟩ := session_inv (stripUpdates ops) ho fun op ho => hv op (List.mem_filter.mp ho).1
  rw [hcfg] at hcfg'; cases hcfg'
  rw [close_bytes i, close_bytes i']
  exact closedImage_core c _ _ (run_core c ops _ _ rfl)

/-- the reader's half of C04 and C11: every image of a session (`image`: after a header update, an automatic one, or close)
    parses with the parameters of the open call, holds the session's data behind the header, and a second handle opened
    on it reports the session's frames -/
theorem image_reads {fmt : Nat} {ch sr : Int} {c : Cfg} (hcfg : openCfg fmt ch sr = some c) (hnr : c.container ≠ .raw)
    (h1 : 1 ≤ ch) (h2 : ch ≤ 1024) (h3 : 1 ≤ sr) (hsr : sr ≤ 0x7FFFFFFF) (a : Abs) (ha : a.Ok c) (hs : a.peak.isSome = c.hasPeak)
    (fl : Int) (tail : List Byte) (ht : tail = [] ∨ tail.length ≤ 1 ∧ c.container = .wav) (hg : c.container = .wav → a.data.length < 0xFFFFFFFF)
    {img : List Byte} (himg : img = image c a fl tail) :
    ∃ p, c.parser img = .ok p ∧ (p.ch : Int) = ch ∧ p.sr = sr ∧ p.fmtWord = c.word ∧ p.dataoffset = c.hdrLen ∧
      img.drop c.hdrLen = a.data ++ tail ∧
      ∀ (ix' pos fmt0 : Nat) (ch0 sr0 : Int), containerOf fmt0 ≠ some .raw →
        ∃ h' s', openHandle ix' ⟨img, pos⟩ .r fmt0 ch0 sr0 = .ok h' s' ∧ h'.frames = a.frames ∧
          (h'.ch : Int) = ch ∧ h'.sr = sr ∧ h'.fmtWord = p.fmtWord ∧ h'.enc = c.enc ∧ s'.pos = c.hdrLen := by
  subst himg
  obtain ⟨_, f2, f3, f4, _, f6⟩ := openCfg_facts hcfg
  have hc : c.Ok := ⟨by rw [f2]; exact f6, by rw [f4]; omega, by rw [f3]; omega⟩
  obtain ⟨p, hp, hpa, pa⟩ := image_parsed hc hnr a ha fl tail ht hg
  rw [← Abs.off_eq hs]
  refine ⟨p, hp, by rw [pa.ch, f4]; omega, pa.sr.trans f3, pa.word, pa.doff, image_drop c a ha fl tail, ?_⟩
  intro ix' pos fmt0 ch0 sr0 hraw
  obtain ⟨h', s', q, o⟩ := opened_of_parsed hc ha hnr hpa pa .r (by decide) ix' pos fmt0 ch0 sr0 hraw
  exact ⟨h', s', q, o.frames, by rw [o.ch, f4]; omega, o.sr.trans f3, o.word.trans pa.word.symm, o.enc, o.pos⟩

/-- the closed file is an image: nothing behind the data, or the zero pad byte of WAV -/
theorem closedImage_eq (c : Cfg) (a : Abs) :
    ∃ fl t, closedImage c a = image c a fl (zeros t) ∧ (t = 0 ∨ t = 1 ∧ c.container = .wav) ∧
      (c.container = .wav → zeros t = wavPad_ct c a ∧ fl = ((c.hdrLen + a.data.length + (wavPad_ct c a).length : Nat) : Int)) := by
  cases hk : c.container with
  | wav =>
    obtain ⟨t, ht, hz⟩ : ∃ t, (t = 0 ∨ t = 1) ∧ wavPad_ct c a = zeros t := by
      unfold wavPad_ct; split
      · exact ⟨1, Or.inr rfl, rfl⟩
      · exact ⟨0, Or.inl rfl, rfl⟩
    exact ⟨_, t, by simp only [closedImage, hk, image, hz], ht.imp id (⟨·, rfl⟩), fun _ => ⟨hz.symm, rfl⟩⟩
  | raw => exact ⟨_, 0, by simp only [closedImage, hk]; exact snapImage_eq c a, Or.inl rfl, fun h => nomatch h⟩
  | au => exact ⟨_, 0, by simp only [closedImage, hk]; exact snapImage_eq c a, Or.inl rfl, fun h => nomatch h⟩

theorem zeros_tail {c : Cfg} {t : Nat} (ht : t = 0 ∨ t = 1 ∧ c.container = .wav) :
    zeros t = [] ∨ (zeros t).length ≤ 1 ∧ c.container = .wav := by
  rcases ht with rfl | ⟨rfl, hw⟩
  · exact Or.inl rfl
  · exact Or.inr ⟨Nat.le_refl _, hw⟩

/-- RIFF length field (offset 4) and data chunk size field (offset header length − 4) of any image
    header ++ rest, as `wav_write_header` clamps them -/
theorem wav_size_fields (c : Cfg) (a : Abs) (fl dl : Int) (rest : List Byte) (hc : c.container = .wav)
    (hpk : ∀ ps, a.peak = some ps → ps.length = c.ch) (hpkS : a.peak.isSome = c.hasPeak) :
    rd32 c.big (hdrBytes c a fl dl ++ rest) 4 =
      wrapU 32 (if fl < 8 then 8 else (if fl - 8 < 0xFFFFFFFF then fl - 8 else 0xFFFFFFFF)) ∧
    rd32 c.big (hdrBytes c a fl dl ++ rest) (c.hdrLen - 4) = wrapU 32 (if dl < 0xFFFFFFFF then dl else 0xFFFFFFFF) := by
  constructor
  · have hR : (if c.big then marker "RIFX" else marker "RIFF").length = 4 := by cases c.big <;> rfl
    simp only [hdrBytes, hc, wavHdr_ct, List.append_assoc]
    exact rd32_of_At ((FieldAt.head _ _).skip _ _ hR)
  · -- the last four bytes of the header
    obtain ⟨pre, hsplit⟩ : ∃ pre, hdrBytes c a fl dl = pre ++ u32 c.big (if dl < 0xFFFFFFFF then dl else 0xFFFFFFFF) := by
      unfold hdrBytes wavHdr_ct; rw [hc]; exact ⟨_, rfl⟩
    have hlen := hdrBytes_length c a fl dl hpkS hpk
    rw [hsplit, List.length_append, u32_length] at hlen
    rw [hsplit, List.append_assoc, ← hlen, Nat.add_sub_cancel]
    exact rd32_of_At ((FieldAt.head _ _).skip pre _ rfl)

end Sf
