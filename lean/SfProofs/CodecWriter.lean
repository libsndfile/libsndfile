/-
  SfProofs.CodecWriter — the vocabulary of the appending writer (a handle opened for write that is only written to):
  what `writeHeader` does to the handle (`recalc`) and to a store of the shape  header ++ body  (`writeHeader_on`), the
  AU / WAV headers and the PEAK bookkeeping as functions of the fields they read, and the well-formed write call (`ValidW`).
  The invariant and its preservation are SfProofs/CodecInv.lean, the closed file CodecClose / CodecRun / CodecFile.
-/
import SfProofs.HandleBytes
namespace Sf

def hdrOf (h : H) : List Byte :=
  match h.container with
  | .raw => []
  | .au => auHeader h
  | .wav => wavHeader h

def hdrLenOf (h : H) : Nat :=
  match h.container with
  | .raw => 0
  | .au => 24
  | .wav => wavHdrLen h

theorem hdrLenOf_raw {h : H} (hc : h.container = .raw) : hdrLenOf h = 0 := by rw [hdrLenOf, hc]

theorem hdrLenOf_au {h : H} (hc : h.container = .au) : hdrLenOf h = 24 := by rw [hdrLenOf, hc]

theorem hdrLenOf_wav {h : H} (hc : h.container = .wav) : hdrLenOf h = wavHdrLen h := by rw [hdrLenOf, hc]

theorem hdrOf_length (h : H) : (hdrOf h).length = hdrLenOf h := by
  unfold hdrOf hdrLenOf
  cases h.container <;> simp [auHeader_length, wavHeader_length]

/-- the handle after `xxx_write_header (psf, calc_length)` when the file is `fl` bytes long (first component of `writeHeader`) -/
def recalc (h : H) (fl : Nat) (cl : Bool) : H :=
  match h.container with
  | .raw => h
  | .au =>
    let h1 := if cl then
        { h with filelength := fl,
                 datalength := if h.dataend != 0 then ((fl : Int) - h.dataoffset) - ((fl : Int) - h.dataend) else (fl : Int) - h.dataoffset }
      else h
    { h1 with dataoffset := 24 }
  | .wav =>
    let h1 := if cl then
        { h with filelength := fl,
                 datalength := if h.dataend != 0 then ((fl : Int) - h.dataoffset) - ((fl : Int) - h.dataend) else h.frames * h.nb * h.ch }
      else h
    { h1 with dataoffset := (wavHeader h1).length }

/-- (`_cw`: the form used with this file's `recalc`; `writeHeader_fst` of SfProofs/HandleSteps.lean lists the fields) -/
theorem writeHeader_fst_cw (h : H) (s : Store) (cl : Bool) : (writeHeader h s cl).1 = recalc h s.bytes.length cl := by
  unfold writeHeader recalc
  cases h.container <;> cases cl <;> simp

theorem wavHdrLen_congr (h h' : H) (h1 : h'.fmtWord = h.fmtWord) (h2 : h'.peak.map List.length = h.peak.map List.length)
    (h3 : h'.peakAtStart = h.peakAtStart) :
    wavHdrLen h' = wavHdrLen h := by
  unfold wavHdrLen; rw [h1, h2, h3]

theorem hdrLenOf_congr (h h' : H) (h0 : h'.container = h.container) (h1 : h'.fmtWord = h.fmtWord)
    (h2 : h'.peakAtStart = h.peakAtStart) (h3 : h'.peak.map List.length = h.peak.map List.length) :
    hdrLenOf h' = hdrLenOf h := by
  unfold hdrLenOf wavHdrLen
  rw [h0, h1, h2, h3]

/-! headers in terms of the fields they read (so that equal fields give equal headers by `simp`) -/

def auHdr (big : Bool) (datalength : Int) (fmtWord : Nat) (sr : Int) (ch : Nat) : List Byte :=
  let dl : Int := if datalength < 0 ∨ datalength > 0x7FFFFFFF then -1 else datalength
  (if big then marker ".snd" else marker "dns.") ++ u32 big 24 ++ u32 big dl ++
    u32 big (auEncoding (codecOf fmtWord)) ++ u32 big sr ++ u32 big ch

theorem auHeader_eq (h : H) : auHeader h = auHdr h.big h.datalength h.fmtWord h.sr h.ch := rfl

def pkChunk (big : Bool) (ch : Nat) (ps : List Peak) : List Byte :=
  marker "PEAK" ++ u32 big (8 + 8 * ch) ++ u32 big 1 ++ u32 big 1000000000 ++
    ps.flatMap fun p => u32 big (wrF32 (Float.f64to32 p.value)) ++ u32 big p.position

theorem peakChunk_eq (h : H) (ps : List Peak) : peakChunk h ps = pkChunk h.big h.ch ps := rfl

def wavHdr (b : Bool) (filelength : Int) (nb ch : Nat) (sr frames : Int) (pk : Option (List Peak)) (peakAtStart : Bool)
    (datalength : Int) (fmtWord : Nat) : List Byte :=
  let codec := codecOf fmtWord
  let riffLen : Int := if filelength < 8 then 8 else (if filelength - 8 < 0xFFFFFFFF then filelength - 8 else 0xFFFFFFFF)
  let bwid : Int := nb
  let fmtBody := u16 b (wavFormatTag codec) ++ u16 b ch ++ u32 b sr ++ u32 b (sr * bwid * ch) ++
                 u16 b (bwid * ch) ++ u16 b (if codec == 0x10 || codec == 0x11 then 8 else bwid * 8)
  let fmtChunk := if codec == 0x10 || codec == 0x11 then u32 b 18 ++ fmtBody ++ u16 b 0 else u32 b 16 ++ fmtBody
  let fact := if hasFact codec then marker "fact" ++ u32 b 4 ++ u32 b frames else []
  let peak := match pk with
    | some ps => if peakAtStart then pkChunk b ch ps else []
    | none => []
  let dlen : Int := if datalength < 0xFFFFFFFF then datalength else 0xFFFFFFFF
  (if b then marker "RIFX" else marker "RIFF") ++ u32 b riffLen ++ marker "WAVE" ++ marker "fmt " ++ fmtChunk ++
    fact ++ peak ++ marker "data" ++ u32 b dlen

theorem wavHeader_eq (h : H) :
    wavHeader h = wavHdr h.big h.filelength h.enc.nbytes h.ch h.sr h.frames h.peak h.peakAtStart h.datalength h.fmtWord := rfl

/-- `xxx_write_header` changes the two lengths and the data offset of the handle and nothing else -/
theorem recalc_fields (h : H) (fl : Nat) (cl : Bool) :
    recalc h fl cl = { h with filelength := (recalc h fl cl).filelength, datalength := (recalc h fl cl).datalength,
                              dataoffset := (recalc h fl cl).dataoffset } := by
  unfold recalc
  split <;> cases cl <;> rfl

@[simp] theorem recalc_container (h : H) (fl : Nat) (cl : Bool) : (recalc h fl cl).container = h.container := by
  rw [recalc_fields]
@[simp] theorem recalc_enc (h : H) (fl : Nat) (cl : Bool) : (recalc h fl cl).enc = h.enc := by
  rw [recalc_fields]
@[simp] theorem recalc_big (h : H) (fl : Nat) (cl : Bool) : (recalc h fl cl).big = h.big := by
  rw [recalc_fields]
@[simp] theorem recalc_ch (h : H) (fl : Nat) (cl : Bool) : (recalc h fl cl).ch = h.ch := by
  rw [recalc_fields]
@[simp] theorem recalc_sr (h : H) (fl : Nat) (cl : Bool) : (recalc h fl cl).sr = h.sr := by
  rw [recalc_fields]
@[simp] theorem recalc_fmtWord (h : H) (fl : Nat) (cl : Bool) : (recalc h fl cl).fmtWord = h.fmtWord := by
  rw [recalc_fields]
@[simp] theorem recalc_frames (h : H) (fl : Nat) (cl : Bool) : (recalc h fl cl).frames = h.frames := by
  rw [recalc_fields]
@[simp] theorem recalc_autoHeader (h : H) (fl : Nat) (cl : Bool) : (recalc h fl cl).autoHeader = h.autoHeader := by
  rw [recalc_fields]
@[simp] theorem recalc_conv (h : H) (fl : Nat) (cl : Bool) : (recalc h fl cl).conv = h.conv := by
  rw [recalc_fields]
@[simp] theorem recalc_peak (h : H) (fl : Nat) (cl : Bool) : (recalc h fl cl).peak = h.peak := by
  rw [recalc_fields]
@[simp] theorem recalc_peakAtStart (h : H) (fl : Nat) (cl : Bool) : (recalc h fl cl).peakAtStart = h.peakAtStart := by
  rw [recalc_fields]

theorem recalc_filelength (h : H) (fl : Nat) (cl : Bool) :
    (recalc h fl cl).filelength = if cl = true ∧ h.container ≠ .raw then (fl : Int) else h.filelength := by
  unfold recalc; split <;> cases cl <;> simp_all

theorem recalc_dataoffset (h : H) (fl : Nat) (cl : Bool) :
    (recalc h fl cl).dataoffset = match h.container with
      | .raw => h.dataoffset | .au => 24 | .wav => (wavHdrLen h : Int) := by
  unfold recalc
  split <;> cases cl <;> simp_all [wavHeader_length] <;> exact congrArg Nat.cast (wavHdrLen_congr _ h rfl rfl rfl)

theorem recalc_dataoffset' (h : H) (fl : Nat) (cl : Bool) (hd : h.dataoffset = hdrLenOf h) :
    (recalc h fl cl).dataoffset = hdrLenOf h := by
  rw [recalc_dataoffset]
  unfold hdrLenOf at *
  split <;> simp_all

theorem recalc_datalength (h : H) (fl : Nat) (cl : Bool) :
    (recalc h fl cl).datalength =
      if cl = true ∧ h.container ≠ .raw then
        (if h.dataend != 0 then ((fl : Int) - h.dataoffset) - ((fl : Int) - h.dataend)
         else if h.container = .au then (fl : Int) - h.dataoffset else h.frames * h.nb * h.ch)
      else h.datalength := by
  unfold recalc; split <;> cases cl <;> simp_all

theorem Store.write_seek0 (s : Store) (d : List Byte) :
    ((s.seekSet 0).write d).bytes = d ++ s.bytes.drop d.length ∧ ((s.seekSet 0).write d).pos = d.length := by
  unfold Store.write Store.seekSet
  cases d with
  | nil => simp
  | cons x t => simp [writeAt]

theorem recalc_hdrLen (h : H) (fl : Nat) (cl : Bool) : hdrLenOf (recalc h fl cl) = hdrLenOf h := by
  unfold recalc hdrLenOf
  cases hc : h.container <;> cases cl <;> simp [hc] <;> exact wavHdrLen_congr _ _ rfl rfl rfl

theorem hdrOf_recalc (h : H) (fl : Nat) (cl : Bool) :
    hdrOf (recalc h fl cl) = match h.container with
      | .raw => []
      | .au => auHdr h.big (recalc h fl cl).datalength h.fmtWord h.sr h.ch
      | .wav => wavHdr h.big (recalc h fl cl).filelength h.enc.nbytes h.ch h.sr h.frames h.peak h.peakAtStart
                  (recalc h fl cl).datalength h.fmtWord := by
  unfold hdrOf
  rw [recalc_container]
  split <;> simp [auHeader_eq, wavHeader_eq]

theorem wavHdrLen_pos (h : H) : 0 < wavHdrLen h := by unfold wavHdrLen; simp only []; omega

theorem writeHeader_bytes (h : H) (s : Store) (cl : Bool) :
    (writeHeader h s cl).2.bytes = hdrOf (recalc h s.bytes.length cl) ++ s.bytes.drop (hdrLenOf h) := by
  rw [hdrOf_recalc]
  unfold writeHeader hdrLenOf
  cases hc : h.container with
  | raw => simp
  | au =>
    simp only []
    have e : ∀ (s' : Store) (c : Prop) [Decidable c] (p : Nat), (if c then s'.seekSet p else s').bytes = s'.bytes := by
      intro s' c _ p; split <;> rfl
    rw [e, (Store.write_seek0 s _).1, auHeader_length, auHeader_eq]
    cases cl <;> simp [recalc_datalength, hc]
  | wav =>
    simp only []
    have e : ∀ (s' : Store) (c d : Prop) [Decidable c] [Decidable d] (p q : Nat),
        (if c then s'.seekSet p else if d then s'.seekSet q else s').bytes = s'.bytes := by
      intro s' c d _ _ p q; split <;> (try split) <;> rfl
    rw [e, (Store.write_seek0 s _).1, wavHeader_length, wavHeader_eq]
    cases cl
    · simp [recalc_datalength, recalc_filelength, hc]
    · simp [recalc_datalength, recalc_filelength, hc, H.nb]
      congr 1

/-- where a header rewrite leaves the file position: back where it was — except at offset 0 and, in a WAV file, at or in front
    of the data offset, where it stays behind the header just written -/
theorem writeHeader_pos (h : H) (s : Store) (cl : Bool) :
    (writeHeader h s cl).2.pos = match h.container with
      | .raw => s.pos
      | .au => if s.pos > 0 then s.pos else 24
      | .wav => if (s.pos : Int) > h.dataoffset ∧ s.pos > 0 then s.pos else wavHdrLen h := by
  unfold writeHeader
  cases hc : h.container with
  | raw => rfl
  | au =>
    simp only []
    split
    · rfl
    · rw [(Store.write_seek0 s _).2, auHeader_length]
  | wav =>
    have hl : ∀ h1 : H, h1.fmtWord = h.fmtWord → h1.peak = h.peak → h1.peakAtStart = h.peakAtStart →
        (wavHeader h1).length = wavHdrLen h := by
      intro h1 a b c; rw [wavHeader_length]; exact wavHdrLen_congr _ _ a (by rw [b]) c
    simp only []
    by_cases hp : (s.pos : Int) > h.dataoffset
    · by_cases h0 : s.pos > 0
      · simp [hp, h0, Store.seekSet]
      · simp only [hp, h0, decide_true, Bool.not_true, Bool.false_eq_true, if_false, and_false]
        rw [(Store.write_seek0 s _).2]; cases cl <;> exact hl _ rfl rfl rfl
    · simp only [hp, decide_false, Bool.not_false, if_true, false_and, if_false, Store.seekSet]
      cases cl <;> exact hl _ rfl rfl rfl

theorem writeHeader_snd (h : H) (s : Store) (cl : Bool) (hdr body : List Byte) (hb : s.bytes = hdr ++ body)
    (hl : hdr.length = hdrLenOf h) (hd : h.dataoffset = hdrLenOf h) (hpos : hdrLenOf h ≤ s.pos) :
    (writeHeader h s cl).2 = { bytes := hdrOf (recalc h s.bytes.length cl) ++ body, pos := s.pos } := by
  rw [show (writeHeader h s cl).2 = ⟨(writeHeader h s cl).2.bytes, (writeHeader h s cl).2.pos⟩ from rfl,
    writeHeader_bytes, writeHeader_pos, hb, ← hl, List.drop_left' rfl]
  congr 1
  unfold hdrLenOf at hd hpos
  cases hc : h.container <;> simp only [hc] at hd hpos ⊢
  · split <;> omega
  · have := wavHdrLen_pos h
    split <;> omega

theorem writeHeader_on (h : H) (s : Store) (cl : Bool) (hdr body : List Byte) (hb : s.bytes = hdr ++ body)
    (hl : hdr.length = hdrLenOf h) (hd : h.dataoffset = hdrLenOf h) (hpos : hdrLenOf h ≤ s.pos) :
    writeHeader h s cl = (recalc h s.bytes.length cl, { bytes := hdrOf (recalc h s.bytes.length cl) ++ body, pos := s.pos }) :=
  Prod.ext (writeHeader_fst_cw h s cl) (writeHeader_snd h s cl hdr body hb hl hd hpos)

attribute [ext] H

/-- PEAK bookkeeping in terms of the fields it reads -/
def peakUpd (pk : Option (List Peak)) (enc : Enc) (conv : Conv) (ch : Nat) (wpos : Int) (ty : Ty) (vals : List Int) :
    Option (List Peak) :=
  peakUpdate { store := 0, mode := .w, container := .wav, enc := enc, big := false, ch := ch, sr := 0, fmtWord := 0,
               frames := 0, lastOp := .w, peak := pk, conv := conv, wpos := wpos } ty vals

theorem peakUpdate_eq (h : H) (ty : Ty) (vals : List Int) :
    peakUpdate h ty vals = peakUpd h.peak h.enc h.conv h.ch h.wpos ty vals := rfl

def callLen (h : H) (fc : Bool) (n : Int) : Int := if fc then n * h.ch else n

/-- a well-formed, non-empty write call: positive count, whole frames, a buffer of exactly that many items -/
structure ValidW (h : H) (fc : Bool) (n : Int) (data : List Int) : Prop where
  pos : 0 < n
  align : fc = false → n % h.ch = 0
  len : (data.length : Int) = callLen h fc n

theorem ValidW.callLen_pos {h : H} {fc : Bool} {n : Int} {data : List Int} (v : ValidW h fc n data) (hc : 0 < h.ch) :
    0 < callLen h fc n := by
  unfold callLen; split
  · exact Int.mul_pos v.pos (by omega)
  · exact v.pos

theorem peakChunkUpdate_length (f : Float.Fmt) (ch : Nat) (wcur indx : Int) (vals : List Nat) (ps : List Peak) :
    (peakChunkUpdate f ch wcur indx vals ps).length = ch := by
  simp [peakChunkUpdate]

theorem peakUpdate_none (h : H) (ty : Ty) (vals : List Int) (hp : h.peak = none) : peakUpdate h ty vals = none := by
  simp [peakUpdate, hp]

theorem peakUpdate_some (h : H) (ty : Ty) (vals : List Int) (ps : List Peak) (hp : h.peak = some ps)
    (hl : ps.length = h.ch) : ∃ ps', peakUpdate h ty vals = some ps' ∧ ps'.length = h.ch := by
  unfold peakUpdate
  simp only [hp]
  refine ⟨_, rfl, ?_⟩
  clear hp
  generalize (0 : Nat) = k
  generalize chunksOf _ _ = cs
  induction cs generalizing ps k with
  | nil => simpa using hl
  | cons c cs ih =>
    rw [List.foldl_cons]
    exact ih _ (peakChunkUpdate_length _ _ _ _ _ _) _

end Sf
