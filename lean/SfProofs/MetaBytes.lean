/- Helper lemmas for the C12 property files (SfProps/C12*.lean): fixed-width fields at the front of a byte list, the RIFF chunk
   header, the walk of a reader over serialised items (`walk_flatMap`), and two facts about lists that several of them share. -/
import SfModel.Meta
import SfProofs.Fields
namespace Sf.Meta

@[simp] theorem le4_length (v : Nat) : (le4 v).length = 4 := leBytes_length 4 v
@[simp] theorem le2_length (v : Nat) : (le2 v).length = 2 := leBytes_length 2 v
@[simp] theorem zeros_length (n : Nat) : (zeros n).length = n := by simp [zeros]

theorem ofLE_le4 {v : Nat} (h : v < 2 ^ 32) : ofLE (le4 v) = v := ofLE_leBytes_of_lt 4 v h

theorem ofLE_le2 {v : Nat} (h : v < 2 ^ 16) : ofLE (le2 v) = v := ofLE_leBytes_of_lt 2 v h

/-- a chunk as the RIFF writers lay it out (id, little-endian size, payload): the size the readers take from it … -/
theorem chunk_size (id p : List Byte) (n : Nat) (hid : id.length = 4) (hn : n < 2 ^ 32) :
    ofLE (((id ++ (le4 n ++ p)).drop 4).take 4) = n := by
  rw [List.drop_left' hid, List.take_left' (le4_length _), ofLE_le4 hn]

/-- … and the payload -/
theorem chunk_payload (id sz p : List Byte) (hid : id.length = 4) (hsz : sz.length = 4) : (id ++ (sz ++ p)).drop 8 = p := by
  rw [drop_app_skip id _ (by omega), hid, List.drop_left' hsz]

theorem mk_length (s : String) : (mk s).length = s.toList.length := by simp [mk, ascii]

/-- A reader that walks serialised items, one per unit of fuel: from its step on one well-formed item at the front, the walk
    over a whole serialised list, with whatever follows it. -/
theorem walk_flatMap {α β} (ser : α → List Byte) (walk : Nat → List Byte → List β) (f : α → β) (ok : α → Prop)
    (hstep : ∀ fuel a rest, ok a → walk (fuel + 1) (ser a ++ rest) = f a :: walk fuel rest)
    (es : List α) (h : ∀ e ∈ es, ok e) (rest : List Byte) (fuel : Nat) :
    walk (es.length + fuel) (es.flatMap ser ++ rest) = es.map f ++ walk fuel rest := by
  induction es with
  | nil => simp
  | cons e t ih =>
    rw [List.length_cons, Nat.add_right_comm, List.flatMap_cons, List.append_assoc, hstep _ e _ (h e (by simp)),
      ih (fun e he => h e (by simp [he])), List.map_cons, List.cons_append]

theorem flatMap_length_ge {α β} (f : α → List β) (lo : Nat) (l : List α) (h : ∀ a ∈ l, lo ≤ (f a).length) :
    lo * l.length ≤ (l.flatMap f).length := by
  induction l with
  | nil => simp
  | cons a t ih =>
    have := h a (by simp)
    have := ih fun b hb => h b (by simp [hb])
    simp only [List.flatMap_cons, List.length_append, List.length_cons, Nat.mul_succ]; omega

theorem find_key_of_nodup {α κ} [DecidableEq κ] (key : α → κ) (l : List α) (hn : (l.map key).Nodup) (a : α) (ha : a ∈ l) :
    l.find? (fun x => decide (key x = key a)) = some a := by
  induction l with
  | nil => simp at ha
  | cons b t ih =>
    simp only [List.map_cons, List.nodup_cons] at hn
    rcases List.mem_cons.mp ha with rfl | ha'
    · simp
    · have hne : ¬ key b = key a := by
        intro h; apply hn.1; rw [h]; exact List.mem_map_of_mem ha'
      simp [hne, ih hn.2 ha']

end Sf.Meta
