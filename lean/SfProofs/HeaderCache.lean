/-
  Helper lemmas for C03: the header-cache primitives preserve the invariant and stay in bounds.
-/
import SfModel.HeaderCache
namespace Sf.HeaderCache

/-- all buffer accesses of an event list lie inside a buffer of `len` bytes -/
def AllIn (len : Int) (evs : List Ev) : Prop := ∀ e ∈ evs, e.inBounds len

theorem AllIn.nil (len : Int) : AllIn len [] := by intro e h; cases h

theorem AllIn.append {len : Int} {a b : List Ev} (ha : AllIn len a) (hb : AllIn len b) : AllIn len (a ++ b) := by
  intro e h
  rcases List.mem_append.mp h with h | h
  · exact ha e h
  · exact hb e h

theorem AllIn.mono {l1 l2 : Int} {a : List Ev} (h : l1 ≤ l2) (ha : AllIn l1 a) : AllIn l2 a := by
  intro e he
  have := ha e he
  cases e <;> simp [Ev.inBounds] at * <;> omega

theorem AllIn.cons {len : Int} {e : Ev} {a : List Ev} (he : e.inBounds len) (ha : AllIn len a) : AllIn len (e :: a) := by
  intro x hx
  rcases List.mem_cons.mp hx with h | h
  · exact h ▸ he
  · exact ha x h

theorem allIn_one {len : Int} {e : Ev} (h1 : e.inBounds len) : AllIn len [e] := by
  intro x hx; simp at hx; subst hx; exact h1

theorem allIn_wr_ioRead {len a b c d: Int} (h1 : 0 ≤ a ∧ 0 ≤ b ∧ a + b ≤ len) : AllIn len [Ev.wr a b, Ev.ioRead c d] :=
  .cons h1 (allIn_one trivial)

theorem allIn_rd {len a b : Int} (h1 : 0 ≤ a ∧ 0 ≤ b ∧ a + b ≤ len) : AllIn len [Ev.rd a b] := allIn_one h1

theorem bump_spec {s : St} {n : Int} {a : Bool} {s' : St} {failed : Bool} {ev : List Ev}
    (h : Inv s) (hr : bump s n a = (s', failed, ev)) :
    Inv s' ∧ s'.indx = s.indx ∧ s'.end_ = s.end_ ∧ s.len ≤ s'.len ∧
    (failed = false → s.indx + n ≤ s'.len) ∧ AllIn s'.len ev := by
  simp only [bump] at hr
  generalize hnl : (if n > s.len then 2 * (if n > INITIAL then n else INITIAL) else 2 * s.len) = newlen at hr
  unfold Inv at *
  have hb : s.indx + n ≤ newlen ∧ s.len ≤ newlen := by
    subst hnl; unfold INITIAL at *; omega
  by_cases h1 : newlen > CAP ∧ s.indx + n > CAP
  · rw [if_pos h1] at hr
    simp only [Prod.mk.injEq] at hr
    obtain ⟨rfl, rfl, rfl⟩ := hr
    exact ⟨h, rfl, rfl, Int.le_refl _, by simp, allIn_one (by simp [Ev.inBounds])⟩
  · rw [if_neg h1] at hr
    cases a with
    | false =>
      simp only [Bool.not_false, if_true, Prod.mk.injEq] at hr
      obtain ⟨rfl, rfl, rfl⟩ := hr
      exact ⟨h, rfl, rfl, Int.le_refl _, by simp, AllIn.nil _⟩
    | true =>
      simp only [Bool.not_true, Bool.false_eq_true, if_false, Prod.mk.injEq] at hr
      obtain ⟨rfl, rfl, rfl⟩ := hr
      refine ⟨?_, rfl, rfl, ?_, ?_, AllIn.nil _⟩ <;> dsimp only <;> unfold INITIAL CAP at * <;> omega

theorem guard_spec {s : St} {n : Int} {a : Bool} {s' : St} {failed : Bool} {ev : List Ev}
    (h : Inv s) (hr : guard s n a = (s', failed, ev)) :
    Inv s' ∧ s'.indx = s.indx ∧ s'.end_ = s.end_ ∧ s.len ≤ s'.len ∧
    (failed = false → s.indx + n ≤ s'.len) ∧ AllIn s'.len ev := by
  simp only [guard] at hr
  split at hr
  · exact bump_spec h hr
  · simp only [Prod.mk.injEq] at hr
    obtain ⟨rfl, rfl, rfl⟩ := hr
    refine ⟨h, rfl, rfl, Int.le_refl _, ?_, AllIn.nil _⟩
    intro _; omega

theorem clampIO_bounds (ans : Nat) (req : Int) : 0 ≤ clampIO ans req ∧ (0 ≤ req → clampIO ans req ≤ req) ∧ (req ≤ 0 → clampIO ans req = 0) := by
  unfold clampIO
  split
  · omega
  · omega

/-- what every primitive promises from a state `s` satisfying the invariant: the invariant again, all of its accesses inside the
    buffer as it is afterwards, and a buffer that has not shrunk -/
def Good (s : St) (r : St × List Ev) : Prop := Inv r.1 ∧ AllIn r.1.len r.2 ∧ s.len ≤ r.1.len

theorem Good.refl {s : St} (h : Inv s) : Good s (s, []) := ⟨h, AllIn.nil _, Int.le_refl _⟩

theorem Inv_mk {i e l : Int} (h : 0 ≤ i ∧ i ≤ l ∧ 0 ≤ e ∧ e ≤ l ∧ 256 ≤ l ∧ l ≤ 102400) : Inv ⟨i, e, l⟩ := h

/-- the '!' of a format string and the reset before a header is parsed: the buffer is kept, read from its start -/
theorem Good.rewind {s : St} (h : Inv s) : Good s ({ s with indx := 0, end_ := 0 }, []) :=
  have ⟨_, _, _, _, a5, a6⟩ := h
  ⟨Inv_mk (by unfold INITIAL CAP at *; omega), AllIn.nil _, Int.le_refl _⟩

theorem headerRead_spec {s : St} {bytes : Int} (o : Oracle) (h : Inv s) (hb : 0 ≤ bytes) :
    Good s ((headerRead s bytes o).1, (headerRead s bytes o).2.1) := by
  rcases hg : guard s bytes (o.alloc 0) with ⟨s1, failed, ev1⟩
  obtain ⟨hinv, hi, he, hl, hroom, hev⟩ := guard_spec h hg
  simp only [headerRead, hg]
  cases failed with
  | true => exact ⟨hinv, hev, hl⟩
  | false =>
    have hroom' := hroom rfl
    have c := clampIO_bounds (o.io 0) (bytes - (s1.end_ - s1.indx))
    have ⟨a1, a2, a3, a4, a5, a6⟩ := hinv
    unfold INITIAL at a5
    unfold CAP at a6
    simp only [Bool.false_eq_true, if_false]
    refine iteInduction (motive := fun r : St × List Ev × Int => Good s (r.1, r.2.1)) (fun _ => ?_) fun _ => ?_
    · have hw : ∀ c d, AllIn s1.len (ev1 ++ [Ev.wr s1.end_ (bytes - (s1.end_ - s1.indx)), Ev.ioRead c d]) :=
        fun _ _ => AllIn.append hev (allIn_wr_ioRead (by omega))
      refine iteInduction (motive := fun r : St × List Ev × Int => Good s (r.1, r.2.1)) (fun _ => ?_) fun hne => ?_
      · exact ⟨hinv, AllIn.append (hw _ _) (allIn_one trivial), hl⟩
      · have hc : clampIO (o.io 0) (bytes - (s1.end_ - s1.indx)) = bytes - (s1.end_ - s1.indx) := by simpa using hne
        exact ⟨Inv_mk (by omega), AllIn.append (hw _ _) (allIn_rd (by dsimp only; omega)), hl⟩
    · exact ⟨Inv_mk (by omega), AllIn.append hev (allIn_rd (by dsimp only; omega)), hl⟩

theorem headerSeek_spec (pipe : Bool) {s : St} {position whence : Int} (o : Oracle)
    (h : Inv s) (hp : whence = 0 → 0 ≤ position) : Good s (headerSeek pipe s position whence o) := by
  rcases hg : guard s position (o.alloc 0) with ⟨s1, failed, ev1⟩
  obtain ⟨hinv, hi, he, hl, -, hev⟩ := guard_spec h hg
  have c := clampIO_bounds (o.io 0)
  simp only [headerSeek, hg]
  have ⟨a1, a2, a3, a4, a5, a6⟩ := hinv
  unfold INITIAL at a5
  unfold CAP at a6
  refine iteInduction (fun hw0 => ?_) fun _ => iteInduction (fun _ => ?_) fun _ => .refl h
  · have hp' := hp hw0
    refine iteInduction (fun _ => ?_) fun _ => iteInduction (fun _ => ?_) fun _ => ?_
    · exact ⟨Inv_mk (by omega), AllIn.append hev (allIn_one trivial), hl⟩
    · have c1 := (c (position - s1.end_)).1
      have c2 := (c (position - s1.end_)).2.1 (by omega)
      exact ⟨Inv_mk (by omega), AllIn.append hev (allIn_wr_ioRead (by dsimp only; omega)), hl⟩
    · exact ⟨Inv_mk (by omega), hev, hl⟩
  · refine iteInduction (fun _ => ⟨hinv, hev, hl⟩) fun _ => iteInduction (fun _ => ?_) fun _ => iteInduction (fun _ => ?_) fun _ =>
      iteInduction (fun _ => ?_) fun _ => ?_
    · exact ⟨hinv, AllIn.append hev (allIn_one trivial), hl⟩
    · exact ⟨Inv_mk (by omega), hev, hl⟩
    · refine ⟨Inv_mk (by omega), AllIn.append hev (allIn_one ?_), hl⟩
      cases pipe <;> trivial
    · have c1 := (c (position - (s1.end_ - s1.indx))).1
      have c2 := (c (position - (s1.end_ - s1.indx))).2.1 (by omega)
      exact ⟨Inv_mk (by omega), AllIn.append hev (allIn_wr_ioRead (by dsimp only; omega)), hl⟩

theorem getsLoop_spec (o : Oracle) : ∀ (fuel k : Nat) (s : St) (ev : List Ev),
    Inv s → AllIn s.len ev → (fuel ≠ 0 → s.indx + fuel + 1 ≤ s.len) →
    Inv (getsLoop o fuel k s ev).1 ∧ (getsLoop o fuel k s ev).1.len = s.len ∧
      AllIn (getsLoop o fuel k s ev).1.len (getsLoop o fuel k s ev).2.1 := by
  intro fuel
  induction fuel with
  | zero => exact fun k s ev h hev _ => ⟨h, rfl, hev⟩
  | succ fuel ih =>
    intro k s ev h hev hroom
    have hroom' := hroom (by omega)
    have c := clampIO_bounds (o.io k) 1
    simp only [getsLoop]
    by_cases hlt : s.indx < s.end_
    · simp only [hlt, if_true]
      have hinv1 : Inv { s with indx := s.indx + 1 } := by unfold Inv INITIAL CAP at *; dsimp only; omega
      have hev1 : AllIn s.len (ev ++ [Ev.rd s.indx 1]) :=
        AllIn.append hev (allIn_rd (by unfold Inv at h; omega))
      split
      · exact ⟨hinv1, rfl, hev1⟩
      · exact ih (k + 1) _ _ hinv1 hev1 (by intro _; dsimp only; omega)
    · simp only [hlt, if_false]
      have c1 := c.1
      have c2 := c.2.1 (by omega)
      have hinv1 : Inv { s with end_ := s.end_ + clampIO (o.io k) 1, indx := s.end_ + clampIO (o.io k) 1 } := by
        unfold Inv INITIAL CAP at *; dsimp only; omega
      have hev1 : AllIn s.len (ev ++ [Ev.wr s.end_ 1, Ev.ioRead 1 (clampIO (o.io k) 1), Ev.rd s.indx 1]) := by
        refine AllIn.append hev ?_
        unfold Inv at h
        intro e he; simp at he
        rcases he with rfl | rfl | rfl <;> simp [Ev.inBounds] <;> omega
      split
      · exact ⟨hinv1, rfl, hev1⟩
      · exact ih (k + 1) _ _ hinv1 hev1 (by intro _; dsimp only; omega)

theorem headerGets_spec {s : St} {bufsize : Int} (o : Oracle) (h : Inv s) :
    Good s ((headerGets s bufsize o).1, (headerGets s bufsize o).2.1) := by
  rcases hg : guard s bufsize (o.alloc 0) with ⟨s1, failed, ev1⟩
  obtain ⟨hinv, hi, he, hl, hroom, hev⟩ := guard_spec h hg
  simp only [headerGets, hg]
  cases failed with
  | true => exact ⟨hinv, hev, hl⟩
  | false =>
    have hroom' := hroom rfl
    obtain ⟨i2, l2, e2⟩ := getsLoop_spec o (bufsize - 1).toNat 0 s1 ev1 hinv hev (by intro hne; omega)
    exact ⟨i2, e2, by show s.len ≤ (getsLoop o _ 0 s1 ev1).1.len; omega⟩

theorem Good.trans {s s1 s2 : St} {ev1 ev2 : List Ev} (hl : s.len ≤ s1.len) (hev : AllIn s1.len ev1) (hr : Good s1 (s2, ev2)) :
    Good s (s2, ev1 ++ ev2) :=
  ⟨hr.1, AllIn.append (AllIn.mono hr.2.2 hev) hr.2.1, Int.le_trans hl hr.2.2⟩

theorem getsItem_spec {s : St} {count : Int} (o : Oracle) (h : Inv s) :
    Good s ((getsItem s count o).1, (getsItem s count o).2.1) := by
  rcases hgg : guard s count (o.alloc 0) with ⟨sg, gf, evg⟩
  obtain ⟨hinvg, -, -, hlg, -, hevg⟩ := guard_spec h hgg
  simp only [getsItem, hgg]
  cases gf with
  | true => exact ⟨hinvg, hevg, hlg⟩
  | false => exact .trans hlg hevg (headerGets_spec (o.shiftAlloc 1) hinvg)

theorem itemBody_spec (pipe : Bool) {s0 : St} (bc : Int) (o1 : Oracle) {it : Item} (h : Inv s0) (ha : it.argsOk) :
    Good s0 ((itemBody pipe s0 bc o1 it).1, (itemBody pipe s0 bc o1 it).2.1) := by
  cases it with
  | endian | nop | bad => exact .refl h
  | fixed n => exact headerRead_spec o1 h (Int.natCast_nonneg n)
  | b count => exact headerRead_spec o1 h ha
  | G count => exact getsItem_spec o1 h
  | p count => exact headerSeek_spec pipe o1 h (fun _ => ha)
  | j count => exact headerSeek_spec pipe (whence := 1) o1 h (by intro hc; cases hc)
  | bang => exact .rewind h

theorem readfItem_spec (pipe : Bool) {r : Rf} {it : Item} (o : Oracle) (h : Inv r.st) (ha : it.argsOk) :
    Good r.st ((readfItem pipe r it o).1.st, (readfItem pipe r it o).2) := by
  unfold readfItem
  refine iteInduction (motive := fun x : Rf × List Ev => Good r.st (x.1.st, x.2)) (fun _ => .refl h) fun _ => ?_
  rcases hg : guard r.st 16 (o.alloc 0) with ⟨s0, failed, ev0⟩
  obtain ⟨hinv0, -, -, hl0, -, hev0⟩ := guard_spec h hg
  cases failed with
  | true => exact ⟨hinv0, hev0, hl0⟩
  | false =>
    have hb := Good.trans hl0 hev0 (itemBody_spec pipe r.byteCount (o.shiftAlloc 1) hinv0 ha)
    simp only [Bool.false_eq_true, if_false]
    exact iteInduction (motive := fun x : Rf × List Ev => Good r.st (x.1.st, x.2)) (fun _ => hb) fun _ => hb

theorem step_spec {s : St} {op : Op} {o : Oracle} (h : Inv s) (ha : op.argsOk) :
    Inv (step s op o).1 ∧ AllIn (step s op o).1.len (step s op o).2 ∧ s.len ≤ (step s op o).1.len := by
  cases op with
  | read b => exact headerRead_spec o h ha
  | seek pipe p w => exact headerSeek_spec pipe o h ha
  | gets n => exact headerGets_spec o h
  | bump n =>
    obtain ⟨a, -, -, d, -, e⟩ := bump_spec (a := o.alloc 0) (n := n) h rfl
    exact ⟨a, e, d⟩
  | reset => exact Good.rewind h
  | item pipe it => exact readfItem_spec pipe (r := { st := s }) o h ha

theorem run_spec : ∀ (ops : List (Op × Oracle)) (s : St), Inv s → (∀ x ∈ ops, x.1.argsOk) →
    (∀ x ∈ run s ops, Inv x.1 ∧ AllIn x.1.len x.2) ∧ Inv (finalState s ops) := by
  intro ops
  induction ops with
  | nil =>
    intro s h _
    refine ⟨?_, h⟩
    intro x hx
    simp [run] at hx
  | cons hd tl ih =>
    intro s h ha
    obtain ⟨op, o⟩ := hd
    obtain ⟨a, b, -⟩ := step_spec (o := o) h (ha (op, o) (List.mem_cons_self ..))
    obtain ⟨r1, r2⟩ := ih (step s op o).1 a (fun x hx => ha x (List.mem_cons_of_mem _ hx))
    refine ⟨?_, r2⟩
    intro x hx
    simp only [run] at hx
    rcases List.mem_cons.mp hx with rfl | hx
    · exact ⟨a, b⟩
    · exact r1 x hx

end Sf.HeaderCache
