/-
  SfProofs.CafDataEnd — the 'data' chunk of size −1 ("to the end of the file") in the CAF reader (Sf.Caf.walk / negSize / dataCase),
  for EVERY file: the step of the chunk walk that meets such a chunk, and what the 'data' case then reports.
-/
import SfModel.Caf
import SfProofs.HdrReadLemmas
namespace Sf.Caf
open Sf Sf.HdrRd

theorem sext_minus_one : sext 64 (ofBE (beBytes 8 (2 ^ 64 - 1))) = -1 := by decide

theorem data_ne_zero : (mk "data" == [0, 0, 0, 0]) = false := by decide

/-- one step of the chunk walk at a chunk header `'data' −1`: the ordinary 'data' case, entered with the number of bytes between the
    chunk body and the end of the file -/
theorem walk_data_minus_one (bs : List Byte) (ch fuel : Nat) (r r1 : Rd) (s : Scan)
    (h : rdSeq bs [4, 8] r = ([mk "data", beBytes 8 (2 ^ 64 - 1)], r1)) :
    walk bs ch (fuel + 1) r s = dataCase bs ((bs.length : Int) - (r1.indx : Int)) r1 s := by
  rw [walk, h]
  simp only [data_ne_zero, Bool.false_eq_true, if_false, sext_minus_one, negSize]
  simp

/-- the same step under the rule before the repair: the walk ends there, no 'data' chunk found -/
theorem walkOld_data_minus_one (bs : List Byte) (ch fuel : Nat) (r r1 : Rd) (s : Scan)
    (h : rdSeq bs [4, 8] r = ([mk "data", beBytes 8 (2 ^ 64 - 1)], r1)) :
    walkOld bs ch (fuel + 1) r s = .done s := by
  rw [walkOld, h]
  simp only [data_ne_zero, Bool.false_eq_true, if_false, sext_minus_one, negSize]
  simp

/-- the 'data' case entered with "to the end of the file" at offset `p` (the chunk body: edit count, then audio): the audio starts
    behind the edit count and is everything the file has; `dataend` stays unset.  Guard: the audio is at most 2^31 − 1 bytes (as in
    `caf_reopen_info`). -/
theorem dataCase_to_end (bs : List Byte) (p : Nat) (s : Scan) (hp : p + 4 ≤ bs.length) (hsz : bs.length - (p + 4) ≤ 0x7FFFFFFF) :
    dataCase bs ((bs.length : Int) - (p : Int)) ⟨p, p, false⟩ s =
      .done { haveData := true, dataoffset := p + 4, datalength := ((bs.length - (p + 4) : Nat) : Int), dataend := s.dataend } := by
  have h1 := rdBE_drop (n := 4) (List.take_append_drop 4 (bs.drop p)).symm (by rw [List.length_take, List.length_drop]; omega) (by decide)
  have hsk := skip_at bs (p + 4) (bs.length - (p + 4)) (by omega)
  rw [show p + 4 + (bs.length - (p + 4)) = bs.length by omega] at hsk
  unfold dataCase
  simp only [h1]
  have a1 : ¬ ((bs.length : Int) > 0 ∧ (bs.length : Int) - (p : Int) > (bs.length : Int) - ((p + 4 : Nat) : Int) + 10) := by omega
  have a2 : (bs.length : Int) - (p : Int) - 4 = ((bs.length - (p + 4) : Nat) : Int) := by omega
  simp only [a1, if_false, a2]
  have a3 : ¬ (((bs.length - (p + 4) : Nat) : Int) + ((p + 4 : Nat) : Int) < (bs.length : Int)) := by omega
  have a4 : ¬ (((bs.length - (p + 4) : Nat) : Int) < -0x80000000 ∨ ((bs.length - (p + 4) : Nat) : Int) > 0x7FFFFFFF) := by omega
  have a5 : ((bs.length : Nat) : Int) ≥ (bs.length : Int) - 8 := by omega
  simp only [a3, a4, if_false, hsk, ftell_at, a5, if_true, Int.toNat_natCast]

end Sf.Caf
