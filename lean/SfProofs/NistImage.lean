/-
  SfProofs.NistImage — `Sf.Nist.parse` on the images the NIST writer leaves in the store: the header text is
  `flatten env (segs codec big)` (four literals around the three decimal numbers), every `strstr` of the reader is
  decided on the literals (SfProofs/NistSearch.lean) and every `sscanf` conversion ends inside a literal or on a
  decimal number the writer printed.
-/
import SfProofs.NistSearch
namespace Sf.Nist
open Sf Sf.Small2
open Sf.Pvf (digits scanInt skipWs isWs isDigit scanDigits)

def mid (codec : Nat) (big : Bool) : List Byte := 0x0A :: (codecBlock codec big ++ headC)

def segs (codec : Nat) (big : Bool) : List Seg := [.lit headA, .digs 0, .lit headB, .digs 1, .lit (mid codec big), .digs 2, .lit headD]

def env (c : Cfg) (F : Nat) : Nat → List Byte := fun i => if i = 0 then digits c.ch else if i = 1 then digits c.sr else digits F

theorem goodEnv (c : Cfg) (F : Nat) : GoodEnv (env c F) := by
  intro i; unfold env
  split
  · exact ⟨Sf.Pvf.digits_ne_nil _, digits_isDigit _⟩
  · split
    · exact ⟨Sf.Pvf.digits_ne_nil _, digits_isDigit _⟩
    · exact ⟨Sf.Pvf.digits_ne_nil _, digits_isDigit _⟩

theorem text_eq (c : Cfg) (F : Nat) (hF : F < 2 ^ 63) : text c (F : Int) = flatten (env c F) (segs c.codec c.big) := by
  have hs : sdigits (wrapS 64 (F : Int)) = digits F := by
    rw [wrapS_of_range 64 F (by omega) (by omega)]; unfold sdigits
    have : ¬ ((F : Int) < 0) := by omega
    rw [if_neg this]; simp
  simp [text, segs, flatten, env, mid, hs]

def litAfter (key : List Byte) (sg : List Seg) : Option (Option (List Byte × List Seg)) :=
  match ssearch key sg with
  | some (some (.lit suf :: rest)) => if isPrefix key suf then some (some (suf.drop key.length, rest)) else none
  | some none => some none
  | _ => none

theorem isPrefix_length (pat T : List Byte) (h : isPrefix pat T = true) : pat.length ≤ T.length := by
  induction pat generalizing T with
  | nil => simp
  | cons p ps ih =>
    cases T with
    | nil => simp [isPrefix] at h
    | cons b bs =>
      simp only [isPrefix, Bool.and_eq_true] at h
      have := ih bs h.2
      simp; omega

theorem after_of_litAfter (key : List Byte) (ev : Nat → List Byte) (he : GoodEnv ev) (sg : List Seg)
    (l : List Byte) (rest : List Seg) (h : litAfter key sg = some (some (l, rest))) :
    after key (flatten ev sg) = some (l ++ flatten ev rest) := by
  unfold litAfter at h
  split at h
  · rename_i suf rest' hs
    split at h
    · rename_i hp
      simp only [Option.some.injEq, Prod.mk.injEq] at h
      obtain ⟨h1, h2⟩ := h
      subst h1; subst h2
      have := ssearch_sound key ev he sg _ hs
      unfold after
      rw [this]
      simp only [Option.map, flatten]
      rw [List.drop_append_of_le_length (isPrefix_length key suf hp)]
    · cases h
  · cases h
  · cases h

theorem after_none_of_litAfter (key : List Byte) (ev : Nat → List Byte) (he : GoodEnv ev) (sg : List Seg)
    (h : litAfter key sg = some none) : after key (flatten ev sg) = none := by
  unfold litAfter at h
  split at h
  · split at h <;> cases h
  · rename_i hs
    have := ssearch_sound key ev he sg _ hs
    unfold after; rw [this]; rfl
  · cases h

def codecs : List Nat := [1, 2, 3, 4, 0x10, 0x11]

/-- what nist_read_header finds for the encoding `codec` -/
def nbytesOf (codec : Nat) : Int := if codec = 0x10 ∨ codec = 0x11 then 0 else bytewidth codec
def encOf (codec : Nat) : Nat := if codec = 0x10 ∨ codec = 0x11 then codec else 5
def wide (codec : Nat) : Bool := codec = 2 ∨ codec = 3 ∨ codec = 4

/-- The shape of the reader's field conversions, `if ((cptr = strstr (hdr, key))) sscanf (cptr, key "%d %<n>s", …)`:
    `a` without the key, `b` when no number follows it, else `k` of the number and the word. -/
def field (key : List Byte) (n : Nat) (a b : α) (k : Int → List Byte → α) (t : List Byte) : α :=
  match after key t with
  | none => a
  | some r =>
    match scanInt r with
    | none => b
    | some (v, r2) => k v (scanWord n r2)

def intK (v : Int) (_ : List Byte) : Option Int := if inInt v then some v else none

def encK (_ : Int) (w : List Byte) : Nat :=
  if w = asc "pcm" then 5 else if w = asc "alaw" then 0x11 else if w = asc "ulaw" ∨ w = asc "mu-law" then 0x10 else 0

def orderK (bytewidth bytes : Int) (w : List Byte) : Order :=
  if bytes < 0 ∨ bytes > 0x7FFFFFFF then .unmodelled else
  if w = [] then .ok bytewidth 0 else
  if bytes > 1 then
    if bytewidth ≠ 0 ∧ bytewidth ≠ bytes then .err
    else if w = asc "01" then .ok bytes 0x10000000
    else if w = asc "10" then .ok bytes 0x20000000
    else .err
  else .ok bytewidth 0x10000000

theorem intField_eq (key t : List Byte) (dflt : Int) : intField key t dflt = field key 0 (some dflt) (some dflt) intK t := rfl
theorem encodingOf_eq (t : List Byte) : encodingOf t = field kCoding 63 5 0 encK t := rfl
theorem orderOf_eq (t : List Byte) (bw : Int) : orderOf t bw = field kOrder 8 (.ok bw 0) (.ok bw 0) (orderK bw) t := rfl

/-- `field` on segments, when the key occurs in no literal or the key, the number and the end of the word lie in one -/
def fieldLit (key : List Byte) (n : Nat) (a : α) (k : Int → List Byte → α) (sg : List Seg) : Option α :=
  match litAfter key sg with
  | some none => some a
  | some (some (l, _)) =>
    match scanInt l with
    | some (v, r2) => if r2 ≠ [] ∧ wordEnds r2 = true then some (k v (scanWord n r2)) else none
    | none => none
  | none => none

theorem fieldLit_sound (key : List Byte) (n : Nat) (a b : α) (k : Int → List Byte → α) (ev : Nat → List Byte) (he : GoodEnv ev)
    (sg : List Seg) (x : α) (h : fieldLit key n a k sg = some x) : field key n a b k (flatten ev sg) = x := by
  unfold fieldLit at h
  unfold field
  split at h
  · rename_i hl
    rw [after_none_of_litAfter key ev he sg hl]
    exact Option.some.inj h
  · rename_i l rest hl
    rw [after_of_litAfter key ev he sg l rest hl]
    split at h
    · rename_i v r2 hs
      split at h
      · rename_i hc
        simp only [scanInt_lit l _ v r2 hs hc.1, scanWord_lit n r2 _ hc.2]
        exact Option.some.inj h
      · cases h
    · cases h
  · cases h

/-- What the searches and conversions of nist_read_header find in the literals of the header written for `codec`,
    `big`: the `end_head` line, the three numbers right behind their keys, no `channels_interleaved` line, the
    values of the codec lines; and that the middle literal is short and free of NUL. -/
def LitFacts (codec : Nat) (big : Bool) : Prop :=
  ssearch kEnd (segs codec big) = some (some [.lit (asc "end_head\n")]) ∧
  litAfter kChan (segs codec big) = some (some ([], (segs codec big).drop 1)) ∧
  litAfter kRate (segs codec big) = some (some ([], (segs codec big).drop 3)) ∧
  litAfter headC (segs codec big) = some (some ([], (segs codec big).drop 5)) ∧
  ssearch kInter (segs codec big) = some none ∧
  fieldLit kBytes 0 (some 0) intK (segs codec big) = some (some (nbytesOf codec)) ∧
  fieldLit kCoding 63 5 encK (segs codec big) = some (encOf codec) ∧
  fieldLit kOrder 8 (.ok (nbytesOf codec) 0) (orderK (nbytesOf codec)) (segs codec big) =
    some (if wide codec then .ok (bytewidth codec) (if big then 0x20000000 else 0x10000000) else .ok (nbytesOf codec) 0) ∧
  (∀ b ∈ mid codec big, b ≠ 0) ∧ (mid codec big).length ≤ 140

instance (codec : Nat) (big : Bool) : Decidable (LitFacts codec big) := by unfold LitFacts; infer_instance

/-- One evaluation for all of them: most of its work is decoding the string literals of the model, which every
    separate statement would repeat. -/
theorem lit_facts : ∀ codec ∈ codecs, ∀ big ∈ [true, false], LitFacts codec big := by decide +kernel

end Sf.Nist
