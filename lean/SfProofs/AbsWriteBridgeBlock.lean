/-
  SfProofs.AbsWriteBridgeBlock — level B of the write-side bridge for BLOCK CODECS (G.72x, NMS ADPCM, GSM 06.10, IMA / MS
  ADPCM, VOX, …): the C07 and C04 clauses of the write-side predicate on their sessions, from the facts every block codec
  file proves — `*_write_partition` (the closed data region is a function of the samples), `*_closed_length` /
  `*_frames_at_reopen` (N ≤ F < N + B), the reader fills the requested region — for a codec model that describes the DATA
  REGION only (the container in front of it is a function `hdr` / `tail` of the data length).

  `BlockJob` is one campaign job on such a model; `BlockJob.pred` the prediction (no crash points here: a `SnapJob`,
  SfProofs/AbsWriteBridgeBlock3.lean, adds them); `block_pred_good` derives `Good` from `BlockFacts`.  For a lossy pair the C01 clause is
  outside the side condition (`losslessLow = none`); for a lossless block codec the `roundtrip` fact covers it (instantiated
  for DWVW, SfProps/C07Bridge2.lean): `c01` records one or the other.
-/
import SfProofs.AbsWriteBridge
namespace Sf.AbsWriteBridge
open Sf Sf.Abs Sf.AbsWrite Sf.Geometry

structure BlockJob where
  g : AbsWrite.Geom
  ty : Ty
  one : List LCall                      -- the reference run's calls
  split : List LCall                    -- the split run's calls
  data : List LCall → List Byte         -- the closed data region of a run
  hdr : Nat → List Byte                 -- what the container puts in front of a data region of that length
  tail : Nat → List Byte                -- … and behind it
  framesAt : Nat → Nat                  -- frames a reader finds in a data region of that length
  back : List Byte → Nat → List Int     -- the requested region after an items read of that many items on that data region

def BlockJob.file (J : BlockJob) (cs : List LCall) : List Byte :=
  J.hdr (J.data cs).length ++ J.data cs ++ J.tail (J.data cs).length

/-- THE PREDICTION of a block-codec model for a job.  The read-back asks for `(N + block + pad + 8) · ch` items, as the campaign
    does (vlib/writecamp.py: everything a padded last block can hold, and 8 frames of slack to see the end of the data) -/
def BlockJob.pred (J : BlockJob) : Pred :=
  let F := J.framesAt (J.data J.one).length
  { g := J.g, ty := J.ty,
    one := { calls := J.one, bytes := J.file J.one },
    info := { ch := J.g.ch, sr := J.g.sr, fmt := J.g.word, frames := F },
    rbRet := ((F * J.g.ch : Nat) : Int),
    rbData := J.back (J.data J.one) ((framesOf J.g.ch J.one + J.g.block + J.g.pad + 8) * J.g.ch),
    rbMore := 0,
    split := { calls := J.split, bytes := J.file J.split },
    snaps := [],
    stale := J.file J.one }

structure BlockFacts (J : BlockJob) : Prop where
  chpos : 0 < J.g.ch
  block : 1 ≤ J.g.block
  calls1 : ∀ c ∈ J.one, c.good J.g.ch
  calls2 : ∀ c ∈ J.split, c.good J.g.ch
  same : samples J.split = samples J.one
  /-- C07 `*_write_partition`: the data region is a function of the samples handed over -/
  partition : samples J.split = samples J.one → J.data J.split = J.data J.one
  /-- C04 `*_frames_at_reopen`: N ≤ F < N + B -/
  framesLo : framesOf J.g.ch J.one ≤ J.framesAt (J.data J.one).length
  framesHi : J.framesAt (J.data J.one).length < framesOf J.g.ch J.one + J.g.block
  /-- the reader fills the requested region -/
  backLen : ∀ d n, (J.back d n).length = n
  rate : rateOk J.g.major J.g.sr (J.g.sr : Int) = true
  /-- C01: the pair is outside the side condition (a lossy codec: `losslessLow = none`), OR — a LOSSLESS block codec (the one
      instance is DWVW) — the read-back of the reference file begins with the samples written whenever every one of
      them meets the side condition (`*_roundtrip`) -/
  c01 : losslessLow J.g.codec J.ty = none ∨
    ((∀ v ∈ samples J.one, sampleOk J.g.codec J.ty v) →
      (J.back (J.data J.one) ((framesOf J.g.ch J.one + J.g.block + J.g.pad + 8) * J.g.ch)).take (samples J.one).length = samples J.one)

theorem block_pred_good (J : BlockJob) (X : BlockFacts J) : Good J.pred := by
  have hlen := samples_length J.g.ch J.one X.calls1
  refine {
    chpos := X.chpos, block := X.block, calls1 := X.calls1, calls2 := X.calls2, same := X.same, reopened := rfl,
    info := by show AbsWrite.infoOk J.g { ch := (J.g.ch : Int), sr := (J.g.sr : Int), fmt := J.g.word, frames := _ } = true
               unfold AbsWrite.infoOk; simp,
    rate := X.rate,
    framesLo := by show ((framesOf J.g.ch J.one : Nat) : Int) ≤ ((J.framesAt _ : Nat) : Int); exact Int.ofNat_le.mpr X.framesLo,
    framesHi := by
      show ((J.framesAt _ : Nat) : Int) < ((framesOf J.g.ch J.one : Nat) : Int) + (J.g.block : Int)
      have := X.framesHi; omega,
    eof := by show ((_ * J.g.ch : Nat) : Int) = ((J.framesAt _ : Nat) : Int) * (J.g.ch : Int); push_cast; rfl,
    more := rfl,
    rbLen := by
      show (samples J.one).length ≤ (J.back _ _).length
      rw [X.backLen, hlen]; exact Nat.mul_le_mul_right _ (by omega),
    roundtrip := ?_,
    partition := by show J.file J.one = J.file J.split; unfold BlockJob.file; rw [X.partition X.same],
    stale := rfl,
    snaps := fun _ s hs => by cases hs }
  intro hok
  change ∀ v ∈ samples J.one, sampleOk J.g.codec J.ty v at hok
  show (J.back _ _).take (samples J.one).length = samples J.one
  rcases X.c01 with h | h
  · rw [lossy_nil h hok]; rfl
  · exact h hok

end Sf.AbsWriteBridge
