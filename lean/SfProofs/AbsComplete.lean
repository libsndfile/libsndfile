/-
  The converse of AbsMeaning: an answer that satisfies the mathematical contract IS accepted.
  Together with the contract theorems of the concrete handle model (SfProps/C05.lean `read_contract_rmode`, C06.lean
  `seek_result`, …) this is "the predicate never raises an alarm where the property holds": whatever delivers `d = min m
  (frames − rpos)` frames equal to the reference slice, a zero-filled region at the end, −1 + error for a refused seek and
  the requested frame for an accepted one, is judged `ok`, and the abstract state follows.  The read lemma
  (`readOk_complete_gen`) is for geometries without the tail claim (`g.tailClean = false`).
-/
import SfProofs.AbsMeaning
import SfProofs.AbsSeq
namespace Sf.Abs

/-- `k` whole frames as a call counts them: in frames (`fc`) or in items -/
def Geom.count (g : Geom) (fc : Bool) (k : Nat) : Int := if fc then (k : Int) else ((k * g.ch : Nat) : Int)

theorem retItems_count (g : Geom) (fc : Bool) (d : Nat) : retItems g fc (g.count fc d) = d * g.ch := by
  cases fc
  · exact Int.toNat_natCast _
  · exact congrArg (· * g.ch) (Int.toNat_natCast d)

theorem validReq_count (g : Geom) (fc : Bool) (m : Nat) (hch : 0 < g.ch) (hm0 : 0 < m) :
    validReq g fc (g.count fc m) = true := by
  have := Nat.mul_pos hm0 hch
  cases fc
  · simp [validReq, Geom.count]; omega
  · simp [validReq, Geom.count]; omega

theorem count_le_count (g : Geom) (fc : Bool) {d m : Nat} (h : d ≤ m) : g.count fc d ≤ g.count fc m := by
  have := Nat.mul_le_mul_right g.ch h
  cases fc
  · simp only [Geom.count, Bool.false_eq_true, if_false]; omega
  · simp only [Geom.count, if_true]; omega

theorem count_nonneg (g : Geom) (fc : Bool) (d : Nat) : 0 ≤ g.count fc d := by
  cases fc
  · simp only [Geom.count, Bool.false_eq_true, if_false]; omega
  · simp only [Geom.count, if_true]; omega

/-- on a read/write handle the read position may lie beyond the end of the data: `hzero` under `frames ≤ rpos` -/
theorem readOk_complete_gen (g : Geom) (st : St) (ty : Ty) (fc : Bool) (n : Int) (o : Out) (m d : Nat)
    (hch : 0 < g.ch) (htail : g.tailClean = false) (hm : st.mode ≠ .w)
    (hn : n = g.count fc m) (hm0 : 0 < m)
    (hd : d = min m (st.frames - st.rpos))
    (hret : o.ret = g.count fc d)
    (herr : o.err = false) (hsize : o.data.size = m * g.ch * cells ty)
    (hdata : 0 < d → st.valid ty = true → (st.ref ty).size = st.frames * g.cpf ty ∧
      o.data.extract 0 (d * g.ch * cells ty) =
        (st.ref ty).extract (st.rpos * g.cpf ty) (st.rpos * g.cpf ty + d * g.ch * cells ty))
    (hzero : st.frames ≤ st.rpos → allOf o.data 0 0 0 (m * g.ch * cells ty) = true) :
    readOk g st ty fc n o = .ok { st with rpos := st.rpos + d, err := false } := by
  have hvalid : validReq g fc n = true := hn ▸ validReq_count g fc m hch hm0
  have hreq : reqItems g fc n = m * g.ch := by rw [hn]; exact retItems_count g fc m
  have hitems : retItems g fc o.ret = d * g.ch := by rw [hret]; exact retItems_count g fc d
  have hdm : d ≤ m := hd ▸ Nat.min_le_left _ _
  have hdf : d ≤ st.frames - st.rpos := hd ▸ Nat.min_le_right _ _
  rw [readOk_eq_ok_iff g st ty fc n o _ ⟨hvalid, hm⟩, hitems, hreq, Nat.mul_div_cancel _ hch]
  refine ⟨⟨hret ▸ count_nonneg g fc d, hret ▸ hn ▸ count_le_count g fc hdm⟩, Nat.mul_mod_left _ _, hsize, ?_⟩
  -- from here on the counts matter only through `d` and `m`; `omega` would split on the `if`s of `hn` and `hret`
  by_cases hend : st.frames ≤ st.rpos
  · have hd0 : d = 0 := by clear hn hret; omega
    rw [if_pos hend]
    refine ⟨⟨?_, herr⟩, hzero hend, by rw [hd0]; rfl⟩
    rw [hret, hd0]; cases fc <;> simp [Geom.count]
  · rw [if_neg hend]
    have hin : st.rpos + d ≤ st.frames := by clear hn hret; omega
    refine ⟨hin, fun hv => ?_, fun hlt => ?_, herr, fun ht => absurd (htail ▸ ht) Bool.false_ne_true, rfl⟩
    · obtain ⟨hsz, hx⟩ := hdata (by clear hn hret; omega) hv
      refine sliceEq_of_extract o.data (st.ref ty) 0 (st.rpos * g.cpf ty) (d * g.ch * cells ty) ?_ ?_ (by rw [Nat.zero_add]; exact hx)
      · rw [hsize, Nat.zero_add]; exact Nat.mul_le_mul_right _ (Nat.mul_le_mul_right _ hdm)
      · rw [hsz, ← g.mul_cpf, ← Nat.add_mul]; exact Nat.mul_le_mul_right _ hin
    · have : d < m := Nat.lt_of_not_le fun hle => Int.not_le.mpr (hn ▸ hret ▸ hlt) (count_le_count g fc hle)
      clear hn hret hlt
      omega

theorem readOk_complete (g : Geom) (st : St) (ty : Ty) (fc : Bool) (n : Int) (o : Out) (m d : Nat)
    (hch : 0 < g.ch) (htail : g.tailClean = false) (hm : st.mode = .r) (hle : st.rpos ≤ st.frames)
    (hn : n = if fc then (m : Int) else ((m * g.ch : Nat) : Int)) (hm0 : 0 < m)
    (hd : d = min m (st.frames - st.rpos))
    (hret : o.ret = if fc then (d : Int) else ((d * g.ch : Nat) : Int))
    (herr : o.err = false) (hsize : o.data.size = m * g.ch * cells ty)
    (hdata : 0 < d → st.valid ty = true → (st.ref ty).size = st.frames * g.cpf ty ∧
      o.data.extract 0 (d * g.ch * cells ty) =
        (st.ref ty).extract (st.rpos * g.cpf ty) (st.rpos * g.cpf ty + d * g.ch * cells ty))
    (hzero : st.rpos = st.frames → allOf o.data 0 0 0 (m * g.ch * cells ty) = true) :
    readOk g st ty fc n o = .ok { st with rpos := st.rpos + d, err := false } :=
  readOk_complete_gen g st ty fc n o m d hch htail (by rw [hm]; decide) hn hm0 hd hret herr hsize hdata
    (fun hend => hzero (Nat.le_antisymm hle hend))

theorem readOk_complete_invalid (g : Geom) (st : St) (ty : Ty) (fc : Bool) (n : Int) (o : Out)
    (hn : n ≠ 0) (hinv : validReq g fc n = false ∨ st.mode = .w) (hret : o.ret = 0) (herr : o.err = true) :
    readOk g st ty fc n o = .ok { st with err := true } := by
  have hr : ¬ ReadReq g st fc n := by
    rintro ⟨hv, hm⟩
    rcases hinv with h | h
    · rw [hv] at h; cases h
    · exact hm h
  exact (readOk_invalid_iff g st ty fc n o _ hn hr).mpr ⟨⟨hret, herr⟩, rfl⟩

theorem seekOk_complete_refused (g : Geom) (st : St) (off whence : Int) (o : Out)
    (hret : o.ret = -1) (herr : o.err = true)
    (hallow : g.seekable = false ∨ seekTarget st off whence = none ∨
      (¬ (off = 0 ∧ whence % 0x10 = 1) ∧ g.strictSeek = false)) :
    seekOk g st off whence o = .ok { st with err := true } := by
  refine (seekOk_refusal_iff g st off whence o _ hret).mpr ⟨herr, fun t hs ht => ?_, rfl⟩
  rcases hallow with h | h | ⟨h1, h2⟩
  · rw [hs] at h; cases h
  · rw [ht] at h; cases h
  · exact ⟨h1, fun hx => by rw [h2] at hx; cases hx.1⟩

theorem seekOk_complete_moved (g : Geom) (st : St) (off whence : Int) (o : Out) (t : Nat)
    (hs : g.seekable = true) (ht : seekTarget st off whence = some t) (hret : o.ret = (t : Int)) (herr : o.err = false) :
    seekOk g st off whence o = .ok (seekMove st whence t) :=
  (seekOk_answer_iff g st off whence o _ (by omega)).mpr ⟨t, hs, ht, hret, herr, rfl⟩

end Sf.Abs
