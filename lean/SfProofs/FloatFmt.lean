/-
  SfProofs.FloatFmt — structure of `Fmt.ofDy` / `Fmt.toDy`: packing and unpacking of bit patterns,
  `bitLen`, and the normal form  ofDy d = enc sign (rne (m·2^(e−q))) q  with q the quantum of d.
-/
import SfProofs.FloatVal
import SfModel.Float
namespace Sf.Float

/-- the two formats libsndfile uses -/
def Fmt.Std (f : Fmt) : Prop := f = f32 ∨ f = f64

def Fmt.sgnBit (f : Fmt) (s : Bool) : Nat := if s then 2 ^ (f.ebits + f.mbits) else 0

/-- final encoding step of `ofDy`: significand `mant` (< 2^(mbits+1)) at quantum `q` -/
def Fmt.pack (f : Fmt) (s : Bool) (mant : Nat) (q : Int) : Nat :=
  if mant < 2 ^ f.mbits then f.sgnBit s + mant
  else if q - f.qmin + 1 ≥ f.emax then f.sgnBit s + f.emax * 2 ^ f.mbits
  else f.sgnBit s + (q - f.qmin + 1).toNat * 2 ^ f.mbits + (mant - 2 ^ f.mbits)

/-- the quantum (exponent of the last kept bit) `ofDy` rounds at -/
def Fmt.quantum (f : Fmt) (d : Dy) : Int := max f.qmin (d.e + (bitLen d.m : Int) - 1 - f.mbits)

/-- carry step + pack -/
def Fmt.enc (f : Fmt) (s : Bool) (mant0 : Nat) (q : Int) : Nat :=
  if mant0 ≥ 2 ^ (f.mbits + 1) then f.pack s (mant0 / 2) (q + 1) else f.pack s mant0 q

theorem ofDy_eq (f : Fmt) (d : Dy) :
    f.ofDy d = if d.m = 0 then f.sgnBit d.neg else f.enc d.neg (rneScale d.m (d.e - f.quantum d)) (f.quantum d) := by
  have hq : (if d.e + ↑(bitLen d.m) - 1 - ↑f.mbits < f.qmin then f.qmin else d.e + ↑(bitLen d.m) - 1 - ↑f.mbits) = f.quantum d := by
    unfold Fmt.quantum; rw [Int.max_def]; split <;> split <;> omega
  unfold Fmt.ofDy
  simp only [hq]
  by_cases hm : d.m = 0
  · rw [if_pos hm, if_pos hm]; rfl
  · rw [if_neg hm, if_neg hm]
    unfold Fmt.enc Fmt.pack Fmt.sgnBit
    by_cases hc : rneScale d.m (d.e - f.quantum d) ≥ 2 ^ (f.mbits + 1)
    · simp only [hc, if_true]
    · simp only [hc, if_false]

theorem bitLen_zero : bitLen 0 = 0 := by simp [bitLen]

theorem bitLen_bounds (m : Nat) (h : m ≠ 0) : 2 ^ (bitLen m - 1) ≤ m ∧ m < 2 ^ bitLen m ∧ 1 ≤ bitLen m := by
  unfold bitLen
  simp only [h, if_false]
  refine ⟨?_, Nat.lt_log2_self, by omega⟩
  simpa using Nat.log2_self_le h

theorem bitLen_unique (m L : Nat) (h1 : 2 ^ (L - 1) ≤ m) (h2 : m < 2 ^ L) (hL : 1 ≤ L) : bitLen m = L := by
  have hm : m ≠ 0 := by
    have := Nat.two_pow_pos (L - 1); omega
  obtain ⟨b1, b2, b3⟩ := bitLen_bounds m hm
  by_contra hne
  rcases Nat.lt_or_gt_of_ne hne with h | h
  · have : 2 ^ bitLen m ≤ 2 ^ (L - 1) := Nat.pow_le_pow_right (by omega) (by omega)
    omega
  · have : 2 ^ L ≤ 2 ^ (bitLen m - 1) := Nat.pow_le_pow_right (by omega) (by omega)
    omega

theorem frac_lt (f : Fmt) (b : Nat) : f.frac b < 2 ^ f.mbits := Nat.mod_lt _ (Nat.two_pow_pos _)

theorem toDy_normal (f : Fmt) (b : Nat) (h : f.expo b ≠ 0) :
    f.toDy b = ⟨f.sign b, 2 ^ f.mbits + f.frac b, (f.expo b : Int) - 1 + f.qmin⟩ := by
  unfold Fmt.toDy; simp only [h, if_false]
theorem toDy_subnormal (f : Fmt) (b : Nat) (h : f.expo b = 0) : f.toDy b = ⟨f.sign b, f.frac b, f.qmin⟩ := by
  unfold Fmt.toDy; simp only [h, if_true]

theorem toDy_fields (f : Fmt) (s : Bool) (ex fr : Nat) (hex : ex < 2 ^ f.ebits) (hfr : fr < 2 ^ f.mbits) :
    f.sign (f.sgnBit s + ex * 2 ^ f.mbits + fr) = s ∧ f.expo (f.sgnBit s + ex * 2 ^ f.mbits + fr) = ex ∧
    f.frac (f.sgnBit s + ex * 2 ^ f.mbits + fr) = fr := by
  -- the pattern is (S · 2^ebits + ex) · 2^mbits + fr with S the sign as 0 / 1
  obtain ⟨S, hS, hs⟩ : ∃ S, f.sgnBit s = S * 2 ^ f.ebits * 2 ^ f.mbits ∧ (decide (S = 1) = s ∧ S < 2) := by
    cases s
    · exact ⟨0, by simp [Fmt.sgnBit], by decide⟩
    · exact ⟨1, by simp [Fmt.sgnBit, Nat.pow_add], by decide⟩
  have hb : f.sgnBit s + ex * 2 ^ f.mbits + fr = (S * 2 ^ f.ebits + ex) * 2 ^ f.mbits + fr := by rw [hS, Nat.add_mul]
  have hM := Nat.two_pow_pos f.mbits
  have hE := Nat.two_pow_pos f.ebits
  have hdiv : ((S * 2 ^ f.ebits + ex) * 2 ^ f.mbits + fr) / 2 ^ f.mbits = S * 2 ^ f.ebits + ex := by
    rw [Nat.mul_comm, Nat.mul_add_div hM, Nat.div_eq_of_lt hfr, Nat.add_zero]
  unfold Fmt.sign Fmt.expo Fmt.frac
  rw [hb, Nat.pow_add, Nat.mul_comm (2 ^ f.ebits), ← Nat.div_div_eq_div_mul, hdiv]
  refine ⟨?_, ?_, ?_⟩
  · rw [Nat.mul_comm, Nat.mul_add_div hE, Nat.div_eq_of_lt hex, Nat.add_zero, Nat.mod_eq_of_lt hs.2]; exact hs.1
  · rw [Nat.mul_comm, Nat.mul_add_mod, Nat.mod_eq_of_lt hex]
  · rw [Nat.mul_comm, Nat.mul_add_mod, Nat.mod_eq_of_lt hfr]

theorem toDy_packed (f : Fmt) (s : Bool) (ex fr : Nat) (hex : ex < 2 ^ f.ebits) (hfr : fr < 2 ^ f.mbits) :
    f.toDy (f.sgnBit s + ex * 2 ^ f.mbits + fr) =
      if ex = 0 then ⟨s, fr, f.qmin⟩ else ⟨s, 2 ^ f.mbits + fr, (ex : Int) - 1 + f.qmin⟩ := by
  obtain ⟨h1, h2, h3⟩ := toDy_fields f s ex fr hex hfr
  unfold Fmt.toDy
  simp only [h1, h2, h3]

theorem pattern_decomp (f : Fmt) (b : Nat) (hb : b < 2 ^ f.width) :
    b = f.sgnBit (f.sign b) + f.expo b * 2 ^ f.mbits + f.frac b ∧ f.expo b < 2 ^ f.ebits ∧ f.frac b < 2 ^ f.mbits := by
  have hM := Nat.two_pow_pos f.mbits
  have hE := Nat.two_pow_pos f.ebits
  refine ⟨?_, Nat.mod_lt _ hE, Nat.mod_lt _ hM⟩
  have hlt : b / 2 ^ (f.ebits + f.mbits) < 2 := by
    refine Nat.div_lt_of_lt_mul ?_
    rwa [Fmt.width, Nat.add_assoc, Nat.add_comm, Nat.pow_succ] at hb
  have hsgn : f.sgnBit (f.sign b) = b / 2 ^ (f.ebits + f.mbits) * 2 ^ (f.ebits + f.mbits) := by
    unfold Fmt.sgnBit Fmt.sign
    generalize b / 2 ^ (f.ebits + f.mbits) = q at hlt
    have hq : q = 0 ∨ q = 1 := by omega
    rcases hq with rfl | rfl <;> simp
  rw [hsgn]
  unfold Fmt.expo Fmt.frac
  -- b = (b / M / E) · (E · M) + (b / M % E) · M + b % M
  have h1 := Nat.div_add_mod b (2 ^ f.mbits)
  have h2 := Nat.div_add_mod (b / 2 ^ f.mbits) (2 ^ f.ebits)
  rw [Nat.pow_add, Nat.mul_comm (2 ^ f.ebits), ← Nat.div_div_eq_div_mul]
  conv_lhs => rw [← h1, ← h2]
  ring

end Sf.Float
