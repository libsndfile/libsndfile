/-
  The generic block writer over a whole session.  `Ran`: the accounting invariant every instance keeps (the writer's
  own counters add up to the frames handed over, every counted block is out and has the codec's block length, the
  encoder state stays inside an invariant of the codec's own), kept by `pushFrame` (`fold_ran`) and finished by any close
  that emits the started block (`close_ran`).  `frames_session`: a session of calls with staging is one fold of the
  per-frame step over the frames handed over; for one channel (`mono_session`, `mono_typed_session`) the frames are the
  converted samples, and the zero-padding close gives the closed form `mono_typed_closed`.
-/
import SfProofs.BlockClosed
namespace Sf.Block.Proofs
open Sf Sf.Block Sf.Block.Closed

variable {σ : Type}

/-- the writer after `m` frames, for an encoder that keeps `P` on its state and answers blocks satisfying `Q` (a byte
    length, say) on block-sized input: its own counters add up to `m` (quotient and remainder are read off at the end:
    `Ran.nblk`, `Ran.cnt`), every counted block is in `out` -/
structure Ran (w : Writer σ) (P : σ → Prop) (Q : List Byte → Prop) (st : WState σ) (m : Nat) : Prop where
  inv : WInv w st
  sum : st.nblk * w.spb + st.cnt = m
  out : st.out.length = st.nblk
  blk : ∀ b ∈ st.out, Q b
  es  : P st.es

section
variable {w : Writer σ} {P : σ → Prop} {Q : List Byte → Prop} {m : Nat} {st : WState σ} (h : Ran w P Q st m)
include h

theorem Ran.nblk : st.nblk = m / w.spb := by
  rw [← h.sum, Nat.mul_comm, Nat.mul_add_div (Nat.zero_lt_of_lt h.inv.cnt), Nat.div_eq_of_lt h.inv.cnt, Nat.add_zero]

theorem Ran.cnt : st.cnt = m % w.spb := by
  rw [← h.sum, Nat.mul_comm, Nat.mul_add_mod, Nat.mod_eq_of_lt h.inv.cnt]

theorem Ran.out_length : st.out.length = m / w.spb := h.out.trans h.nblk

end

theorem init_ran (w : Writer σ) (wf : WWF w) (P : σ → Prop) (Q : List Byte → Prop) (s0 : σ) (h0 : P s0) : Ran w P Q (w.init s0) 0 :=
  ⟨init_inv_w w wf s0, by simp [Writer.init], rfl, by intro b hb; simp [Writer.init] at hb, h0⟩

theorem Ran.bytes_length {w : Writer σ} {P : σ → Prop} {bpb m : Nat} {st : WState σ} (h : Ran w P (·.length = bpb) st m) :
    st.bytes.length = m / w.spb * bpb := by
  unfold WState.bytes
  rw [flatten_length_const bpb _ (fun b hb => h.blk b (List.mem_reverse.mp hb)), List.length_reverse, h.out_length]

variable (w : Writer σ) (wf : WWF w) (P : σ → Prop) (Q : List Byte → Prop)
  (henc : ∀ (s : σ), P s → ∀ (b : List Int), b.length = w.spb * w.ch → Q (w.enc s b).2 ∧ P (w.enc s b).1)
include wf henc

theorem pushFrame_ran (st : WState σ) (m : Nat) (h : Ran w P Q st m) (f : List Int) (hf : f.length = w.ch) :
    Ran w P Q (pushFrame w st f) (m + 1) := by
  have hs := h.sum
  obtain ⟨buf, hbuf, _, ⟨hlt, e⟩ | ⟨heq, e⟩⟩ := pushFrame_step w st f h.inv hf
  · rw [e]
    exact ⟨⟨hlt, hbuf⟩, by show st.nblk * w.spb + (st.cnt + 1) = m + 1; omega, h.out, h.blk, h.es⟩
  · obtain ⟨l1, p1⟩ := henc st.es h.es buf hbuf
    rw [e]
    exact ⟨⟨wf.spb_pos, hbuf⟩, by show (st.nblk + 1) * w.spb + 0 = m + 1; rw [Nat.add_mul, Nat.one_mul]; omega,
      by show (_ :: st.out).length = st.nblk + 1; rw [List.length_cons, h.out], List.forall_mem_cons.mpr ⟨l1, h.blk⟩, p1⟩

theorem fold_ran : ∀ (fs : List (List Int)) (st : WState σ) (m : Nat), Ran w P Q st m → Uniform w.ch fs →
    Ran w P Q (fs.foldl (pushFrame w) st) (m + fs.length)
  | [], _, _, h, _ => h
  | f :: fs, st, m, h, hu => by
    have := fold_ran fs _ (m + 1) (pushFrame_ran w wf P Q henc st m h f (uniform_cons hu).1) (uniform_cons hu).2
    rwa [List.foldl_cons, List.length_cons, show m + (fs.length + 1) = m + 1 + fs.length by omega]

omit wf in
/-- a close that encodes a started block from a buffer of block size and leaves an empty one alone: ⌈m / spb⌉ blocks -/
theorem close_ran (st : WState σ) (m : Nat) (h : Ran w P Q st m) (buf : List Int) (hbuf : buf.length = w.spb * w.ch) :
    let st' := if st.cnt = 0 then st else w.emit { st with buf := buf }
    st'.out.length = (m + (w.spb - 1)) / w.spb ∧ ∀ b ∈ st'.out, Q b := by
  simp only
  rw [← h.sum, ceil_div _ _ _ h.inv.cnt]
  split
  · exact ⟨h.out, h.blk⟩
  · exact ⟨by show (_ :: st.out).length = _; rw [List.length_cons, h.out],
      List.forall_mem_cons.mpr ⟨(henc st.es h.es buf hbuf).1, h.blk⟩⟩

omit henc P Q

/-- a call cut into staging pieces of `q` frames (`q = 0`: one piece) -/
theorem wcall_fold (q : Nat) (st : WState σ) (fs : List (List Int)) (inv : WInv w st)
    (hu : Uniform w.ch fs) : wcall w (q * w.ch) st fs.flatten = fs.foldl (pushFrame w) st := by
  have h1 := writeChunked_fold w wf q (fs.flatten.length + 1) st fs inv hu
    (by rw [uniform_flatten_length fs hu]; exact Nat.lt_succ_of_le (Nat.le_mul_of_pos_right _ wf.ch_pos))
  unfold wcall
  simp only
  rw [← h1.1, uniform_flatten_length fs hu]

/-- **a session of calls**: each call hands over the items of a whole number of frames through staging pieces of whole
    frames; the writer ends where the per-frame step over all the frames ends -/
theorem frames_session {α : Type} (chunk : α → Nat) (items : α → List Int) (frames : α → List (List Int))
    (hq : ∀ a, ∃ q, chunk a = q * w.ch) (calls : List α) (st : WState σ) (inv : WInv w st)
    (h : ∀ c ∈ calls, (frames c).flatten = items c ∧ Uniform w.ch (frames c)) :
    calls.foldl (fun st c => wcall w (chunk c) st (items c)) st = (calls.flatMap frames).foldl (pushFrame w) st ∧
      WInv w ((calls.flatMap frames).foldl (pushFrame w) st) :=
  have hu := fun c hc => (h c hc).2
  ⟨foldl_calls_fold w wf _ frames calls (fun st c hc i hc' => by
      obtain ⟨q, hq1⟩ := hq c
      rw [hq1, ← (h c hc).1, wcall_fold w wf q st _ i hc']) st inv hu,
    foldl_pushFrame_inv w wf _ st inv (uniform_flatMap frames calls hu)⟩

/-- **a session of calls on a one-channel writer**, each call with its own staging piece size, is the fold of the
    per-sample step over all the samples -/
theorem mono_session (hch : w.ch = 1) (calls : List (Nat × List Int)) (st : WState σ) (inv : WInv w st) :
    calls.foldl (fun st c => wcall w c.1 st c.2) st = ((calls.flatMap (·.2)).map fun x => [x]).foldl (pushFrame w) st ∧
      WInv w (((calls.flatMap (·.2)).map fun x => [x]).foldl (pushFrame w) st) := by
  rw [List.map_flatMap]
  exact frames_session w wf (·.1) (·.2) (fun c => c.2.map fun x => [x]) (fun c => ⟨c.1, by rw [hch, Nat.mul_one]⟩) calls st inv
    (fun c _ => ⟨singles_flatten c.2, hch ▸ singles_uniform c.2⟩)

/-- … with typed calls: piece size and conversion chosen by the caller type -/
theorem mono_typed_session {τ : Type} (hch : w.ch = 1) (chunk : τ → Nat) (conv : τ → Int → Int) (calls : List (τ × List Int))
    (st : WState σ) (inv : WInv w st) :
    calls.foldl (fun st c => wcall w (chunk c.1) st (c.2.map (conv c.1))) st =
      ((calls.flatMap fun c => c.2.map (conv c.1)).map fun x => [x]).foldl (pushFrame w) st ∧
      WInv w (((calls.flatMap fun c => c.2.map (conv c.1)).map fun x => [x]).foldl (pushFrame w) st) := by
  have := mono_session w wf hch (calls.map fun c => (chunk c.1, c.2.map (conv c.1))) st inv
  rwa [List.foldl_map, List.flatMap_map] at this

/-- the closed data region of a one-channel session: the encoder run over the `spb`-chunks of the samples -/
theorem mono_closed_form (hch : w.ch = 1) (s0 : σ) (xs : List Int) :
    (w.close true ((xs.map fun x => [x]).foldl (pushFrame w) (w.init s0))).bytes = encChunks w.enc w.spb (xs.length + 1) s0 xs := by
  have h := closed_form w wf s0 (xs.map fun x => [x]) (hch ▸ singles_uniform xs)
  rwa [singles_flatten, List.length_map, hch, Nat.mul_one] at h

/-- … of a session of typed calls from the open on -/
theorem mono_typed_closed {τ : Type} (hch : w.ch = 1) (chunk : τ → Nat) (conv : τ → Int → Int) (calls : List (τ × List Int))
    (s0 : σ) :
    (w.close true (calls.foldl (fun st c => wcall w (chunk c.1) st (c.2.map (conv c.1))) (w.init s0))).bytes =
      encChunks w.enc w.spb ((calls.flatMap fun c => c.2.map (conv c.1)).length + 1) s0
        (calls.flatMap fun c => c.2.map (conv c.1)) := by
  rw [(mono_typed_session w wf hch chunk conv calls _ (init_inv_w w wf s0)).1]
  exact mono_closed_form w wf hch s0 _

/-- … and its length, when every block of the encoder has `bpb` bytes: one block for each `spb` samples begun -/
theorem mono_typed_closed_length {τ : Type} (hch : w.ch = 1) (chunk : τ → Nat) (conv : τ → Int → Int) (calls : List (τ × List Int))
    (s0 : σ) (bpb : Nat) (henc : ∀ (s : σ) (b : List Int), b.length = w.spb → (w.enc s b).2.length = bpb) :
    (w.close true (calls.foldl (fun st c => wcall w (chunk c.1) st (c.2.map (conv c.1))) (w.init s0))).bytes.length =
      nblocks (calls.flatMap fun c => c.2.map (conv c.1)).length w.spb * bpb := by
  rw [mono_typed_closed w wf hch]
  exact encChunks_length w.enc w.spb bpb wf.spb_pos henc _ _ _ (Nat.lt_succ_self _)

end Sf.Block.Proofs
