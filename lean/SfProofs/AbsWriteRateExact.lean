/-
  SfProofs.AbsWriteRateExact — the EXACT rate clauses of the write-side predicate:

  * `.float32` (IRCAM): `rateOk` accepts exactly `float32Quant sr` (`rateOk_float32_iff`);
  * `.field16` (SVX, MPC2K): exactly `min sr 65535` (`rateOk_field16_iff`);
  * VOC: `rateOkG` — the clause on the whole geometry — accepts, for the block type the encoding and the channel count
    select, exactly the time-constant quantiser where the field can hold the period (`rateOkG_voc_iff`), it refines `rateOk`
    (`rateOk_of_rateOkG`) and is `rateOk` for every other container (`rateOkG_not_voc`);
  * `judgeG` / `acceptedG` (what `sfmodel abs-write` evaluates): `acceptedG_iff` — accepted, and the exact rate clause.
-/
import SfProofs.AbsWriteMeaning
namespace Sf.AbsWriteRate
open Sf Sf.AbsWrite

theorem rateClass_ircam : rateClass 0x0A = .float32 := rfl
theorem rateClass_svx : rateClass 0x06 = .field16 := rfl
theorem rateClass_mpc2k : rateClass 0x21 = .field16 := rfl
theorem rateClass_voc : rateClass 0x08 = .divisor := rfl

theorem rateOk_float32_iff (major sr : Nat) (got : Int) (hc : rateClass major = .float32) :
    rateOk major sr got = true ↔ got = ((float32Quant sr : Nat) : Int) := by
  unfold rateOk; rw [hc]; simp

theorem rateOk_field16_iff (major sr : Nat) (got : Int) (hc : rateClass major = .field16) :
    rateOk major sr got = true ↔ got = ((min sr 65535 : Nat) : Int) := by
  unfold rateOk; rw [hc]; simp

theorem rateOkG_not_voc (g : Geom) (got : Int) (h : g.major ≠ 0x08) : rateOkG g got = rateOk g.major g.sr got := by
  unfold rateOkG
  have : (g.major == 0x08) = false := by simpa using h
  rw [this]; rfl

/-- VOC: the block type decides -/
theorem rateOkG_voc_iff (g : Geom) (got : Int) (h : g.major = 0x08) :
    rateOkG g got = true ↔
      (g.codec ≠ 0x05 ∧ got = (g.sr : Int)) ∨
      (g.codec = 0x05 ∧ g.ch = 1 ∧ periodOk (10 ^ 6) 8 g.sr got = true) ∨
      (g.codec = 0x05 ∧ g.ch ≠ 1 ∧ periodOk (128 * 10 ^ 6) 16 g.sr got = true) := by
  unfold rateOkG vocField
  rw [h]
  by_cases h5 : g.codec = 0x05
  · by_cases h1 : g.ch = 1
    · simp [h5, h1]
    · simp [h5, h1]
  · simp [h5]

/-- the clause of the `.divisor` class: what one of the three block types answers -/
theorem rateOk_divisor_iff (major sr : Nat) (got : Int) (hc : rateClass major = .divisor) :
    rateOk major sr got = true ↔
      got = (sr : Int) ∨ periodOk (10 ^ 6) 8 sr got = true ∨ periodOk (128 * 10 ^ 6) 16 sr got = true := by
  unfold rateOk; rw [hc]; simp [or_assoc]

theorem rateOk_of_rateOkG (g : Geom) (got : Int) (h : rateOkG g got = true) : rateOk g.major g.sr got = true := by
  by_cases hm : g.major = 0x08
  · rw [hm, rateOk_divisor_iff _ _ _ rateClass_voc]
    exact ((rateOkG_voc_iff g got hm).1 h).imp And.right (.imp (·.2.2) (·.2.2))
  · rw [← rateOkG_not_voc g got hm]; exact h

theorem acceptedG_iff (r : Record) : acceptedG r = true ↔ accepted r = true ∧ rateOkG r.g r.info.sr = true := by
  unfold acceptedG judgeG accepted
  constructor
  · intro h
    by_cases ha : (judge r).any rateSettled = true
    · simp only [ha, if_true] at h
      have : judge r = [] := by simpa using h
      rw [this] at ha; simp at ha
    · simp only [ha] at h
      by_cases hr : rateOkG r.g r.info.sr = true
      · simp only [hr, if_true] at h
        exact ⟨by simpa using h, hr⟩
      · simp only [hr] at h
        simp at h
  · rintro ⟨ha, hr⟩
    have hj : judge r = [] := by simpa using ha
    simp [hj, hr]

theorem acceptedG_eq_accepted (r : Record) (h : r.g.major ≠ 0x08) : acceptedG r = accepted r := by
  by_cases ha : accepted r = true
  · rw [ha, acceptedG_iff]
    exact ⟨ha, by rw [rateOkG_not_voc _ _ h]; exact (accepted_meaning r ha).rate⟩
  · have : ¬ acceptedG r = true := fun hg => ha ((acceptedG_iff r).1 hg).1
    simp only [Bool.not_eq_true] at ha this
    rw [ha, this]

end Sf.AbsWriteRate
