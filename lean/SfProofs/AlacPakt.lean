/-
  The packet table of a CAF/ALAC file (SfModel/AlacFile.lean): `alac_pakt_encode` writes each packet size as a big-endian base-128
  numeral (`berEnc`), `alac_pakt_read_decode` reads them back (`berDecLoop`, `paktDecodeLoop`), `alac_reader_calc_frames` counts the
  entries (`countBlocks`).  The loops are followed with a cursor `bs.drop pos = entry ++ rest` (SfProofs/Fields.lean).
-/
import SfModel.AlacFile
import SfProofs.Fields
namespace Sf.C04Alac
open Sf Sf.Alac

/-- a base-128 numeral as `alac_pakt_encode` writes it: the leading digits `hs` with the continuation bit, the last digit `l` without -/
def numeral (hs : List Nat) (l : Nat) : List Byte := hs.map (· + 128) ++ [l]

/-- the value of a digit string, most significant digit first, on top of `a` -/
def digitsVal (a : Nat) (ds : List Nat) : Nat := ds.foldl (fun a d => a * 128 + d) a

/-- what `alac_pakt_encode` writes for `v` is the numeral of `v`: at most four digits below 128, no leading zero -/
theorem berEnc_numeral (v : Nat) (bs : List Byte) (h : berEnc v = some bs) :
    ∃ hs l, bs = numeral hs l ∧ (∀ d ∈ hs, d < 128) ∧ l < 128 ∧ hs.length ≤ 3 ∧ digitsVal 0 (hs ++ [l]) = v ∧ (∀ d, hs.head? = some d → d ≠ 0) := by
  unfold berEnc at h
  by_cases h1 : v < 0x80
  · rw [if_pos h1] at h
    exact ⟨[], v, (Option.some.inj h).symm, by simp, h1, by simp, by simp [digitsVal], by simp⟩
  rw [if_neg h1] at h
  by_cases h2 : v < 0x4000
  · rw [if_pos h2] at h
    refine ⟨[v / 0x80], v % 0x80, (Option.some.inj h).symm, ?_, by omega, by simp, ?_, ?_⟩
    · simp only [List.mem_singleton, forall_eq]; omega
    · simp only [digitsVal, List.cons_append, List.nil_append, List.foldl_cons, List.foldl_nil]; omega
    · simp only [List.head?_cons, Option.some.injEq, forall_eq']; omega
  rw [if_neg h2] at h
  by_cases h3 : v < 0x200000
  · rw [if_pos h3] at h
    refine ⟨[v / 0x4000, v / 0x80 % 0x80], v % 0x80, (Option.some.inj h).symm, ?_, by omega, by simp, ?_, ?_⟩
    · simp only [List.mem_cons, List.not_mem_nil, or_false, forall_eq_or_imp, forall_eq]; omega
    · simp only [digitsVal, List.cons_append, List.nil_append, List.foldl_cons, List.foldl_nil]; omega
    · simp only [List.head?_cons, Option.some.injEq, forall_eq']; omega
  rw [if_neg h3] at h
  by_cases h4 : v < 0x10000000
  · rw [if_pos h4] at h
    refine ⟨[v / 0x200000, v / 0x4000 % 0x80, v / 0x80 % 0x80], v % 0x80, (Option.some.inj h).symm, ?_, by omega, by simp, ?_, ?_⟩
    · simp only [List.mem_cons, List.not_mem_nil, or_false, forall_eq_or_imp, forall_eq]; omega
    · simp only [digitsVal, List.cons_append, List.nil_append, List.foldl_cons, List.foldl_nil]; omega
    · simp only [List.head?_cons, Option.some.injEq, forall_eq']; omega
  · rw [if_neg h4] at h; cases h

/-- the `do … while (byte & 0x80)` loop in front of a numeral, `count` bytes into the entry: the digits are added to `value`, one byte each -/
theorem berDecLoop_numeral (bs rest : List Byte) (n pos : Nat) (l : Nat) (hl : l < 128) : ∀ (hs : List Nat) (fuel count value : Nat),
    bs.drop (pos + count) = numeral hs l ++ rest → (∀ d ∈ hs, d < 128) → count + hs.length + 1 ≤ 4 → pos + (count + hs.length + 1) ≤ n →
    hs.length < fuel → value < 128 ^ count →
    berDecLoop bs n pos fuel count value = (digitsVal value (hs ++ [l]), count + hs.length + 1)
  | [], fuel + 1, count, value, hd, _, hc, hn, _, hv => by
    have hlt : value * 128 + l < 2 ^ 32 := by
      have : 128 ^ count ≤ 128 ^ 3 := Nat.pow_le_pow_right (by decide) (by simp at hc; omega)
      omega
    simp only [berDecLoop, Cursor.getD_at hd]
    rw [if_neg (by simp at hc hn ⊢; omega), if_neg (show ¬ l / 128 % 2 = 1 by omega), Nat.mod_eq_of_lt hl, wrapU_of_lt 32 _ hlt]
    rfl
  | d :: hs, fuel + 1, count, value, hd, hds, hc, hn, hf, hv => by
    have hd1 := hds d (by simp)
    have hp : 128 ^ (count + 1) ≤ 128 ^ 4 := Nat.pow_le_pow_right (by decide) (by simp at hc; omega)
    have hv1 : value * 128 + d < 128 ^ (count + 1) := by rw [Nat.pow_succ]; omega
    simp only [berDecLoop, Cursor.getD_at hd]
    rw [if_neg (by simp at hc hn ⊢; omega), if_pos (show (d + 128) / 128 % 2 = 1 by omega), show (d + 128) % 128 = d by omega,
      wrapU_of_lt 32 _ (by omega),
      berDecLoop_numeral bs rest n pos l hl hs fuel (count + 1) (value * 128 + d) (Cursor.drop_at (p := pos + count) (x := [d + 128]) hd rfl) (fun x hx => hds x (by simp [hx]))
        (by simp at hc ⊢; omega) (by simp at hn ⊢; omega) (by simp at hf; omega) hv1]
    simp only [digitsVal, List.cons_append, List.foldl_cons, List.length_cons, Prod.mk.injEq, true_and]
    omega

theorem berDec_berEnc (v : Nat) (a : List Byte) (h : berEnc v = some a) (bs rest : List Byte) (n pos : Nat)
    (hd : bs.drop pos = a ++ rest) (hn : pos + a.length ≤ n) : berDec bs n pos = (v, a.length) := by
  obtain ⟨hs, l, rfl, hds, hl, h3, hv, _⟩ := berEnc_numeral v a h
  have hlen : (numeral hs l).length = hs.length + 1 := by simp [numeral]
  rw [hlen] at hn ⊢
  have := berDecLoop_numeral bs rest n pos l hl hs 7 0 0 hd hds (by omega) (by omega) (by omega) (by decide)
  rwa [Nat.zero_add, hv] at this

theorem berEnc_length (v : Nat) (bs : List Byte) (h : berEnc v = some bs) : 1 ≤ bs.length ∧ bs.length ≤ 4 := by
  obtain ⟨hs, l, rfl, _, _, h3, _, _⟩ := berEnc_numeral v bs h
  simp only [numeral, List.length_append, List.length_map, List.length_cons, List.length_nil]
  omega

/-- the table loop where a well-formed body stands: `sizes` all in 1 … 2^28 − 1, followed by `pad` zero bytes (0 … 3, what
    psf_save_write_chunk adds) to the end of the chunk: the decoder returns the sizes, and one extra 0 when there was padding -/
theorem paktDecodeLoop_encode (bs : List Byte) : ∀ (sizes : List Nat) (body : List Byte), berEncAll sizes = some body →
    (∀ s ∈ sizes, 0 < s) → ∀ (pos pad fuel n : Nat), bs.drop pos = body ++ zeros pad → n = pos + body.length + pad → body.length + pad < fuel →
    paktDecodeLoop bs n fuel pos = sizes ++ (if pad = 0 then [] else [0])
  | [], body, hb, _, pos, pad, fuel + 1, n, hd, hn, _ => by
    cases hb
    by_cases h0 : pad = 0
    · simp [paktDecodeLoop, h0, show ¬ pos < n by simp at hn; omega]
    · -- a zero byte ends the scan and is appended
      have g0 : bs.getD (pos + 0) 0 = 0 := Cursor.getD_at (rest := zeros (pad - 1)) (by
        rw [Nat.add_zero, hd, List.nil_append, zeros, zeros, ← List.replicate_succ]; congr 1; omega)
      simp only [paktDecodeLoop, show pos < n by omega, if_true, berDec, berDecLoop, g0]
      simp [h0, wrapU]
  | s :: rest, body, hb, hpos, pos, pad, fuel + 1, n, hd, hn, hf => by
    simp only [berEncAll] at hb
    cases he : berEnc s with
    | none => rw [he] at hb; simp at hb
    | some a =>
      cases hr : berEncAll rest with
      | none => rw [he, hr] at hb; simp at hb
      | some b =>
        rw [he, hr] at hb; cases hb
        obtain ⟨hl1, hl4⟩ := berEnc_length s a he
        rw [List.append_assoc] at hd
        rw [List.length_append] at hn hf
        rw [paktDecodeLoop, if_pos (by omega), berDec_berEnc s a he bs _ n pos hd (by omega)]
        simp only
        rw [if_neg (by have := hpos s (by simp); omega),
          paktDecodeLoop_encode bs rest b hr (fun x hx => hpos x (by simp [hx])) (pos + a.length) pad fuel n
            (Cursor.drop_at hd rfl) (by omega) (by omega)]
        rfl

end Sf.C04Alac

namespace Sf.C04AlacBer
open Sf Sf.Alac

/-- `alac_reader_calc_frames` counts every entry of a table of positive sizes below the file length, with or without the
    extra zero entry of a padded chunk -/
theorem countBlocks_all (fl : Nat) : ∀ (sizes : List Nat) (tail : List Nat), (∀ s ∈ sizes, 0 < s ∧ s < fl) →
    (tail = [] ∨ tail = [0]) → countBlocks fl (sizes ++ tail) = sizes.length := by
  intro sizes
  induction sizes with
  | nil =>
    intro tail _ ht
    rcases ht with rfl | rfl <;> simp [countBlocks]
  | cons s rest ih =>
    intro tail hs ht
    have h1 := hs s (by simp)
    have hr : ∀ x ∈ rest, 0 < x ∧ x < fl := fun x hx => hs x (by simp [hx])
    simp only [List.cons_append, countBlocks, List.length_cons]
    rw [if_neg (by omega), if_pos h1.2, ih tail hr ht]; omega

end Sf.C04AlacBer
