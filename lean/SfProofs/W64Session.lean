/-
  W64: the write session keeps "store = some header of the right length ++ the audio written so far", and every
  header written with recomputed lengths is `hdr c N` (helpers for SfProps/C04W64.lean, C11).
-/
import SfProofs.W64Image
import SfProofs.CafBytes
namespace Sf.W64
open Sf Sf.CafW64

theorem writeAt_head (h0 rest h : List Byte) (hl : h.length = h0.length) : writeAt (h0 ++ rest) 0 h = h ++ rest := by
  simp [writeAt, hl]

theorem writeAt_end (bs d : List Byte) : writeAt bs bs.length d = bs ++ d := by simp [writeAt]

/-- the session invariant: `D` is the audio written so far, `w` the frames -/
structure Inv (c : Cfg) (s : St) (D : List Byte) (w : Nat) : Prop where
  hdr0 : ∃ h0 : List Byte, h0.length = hdrLen c ∧ s.bytes = h0 ++ D
  pos : s.pos = s.bytes.length
  off : s.dataoffset = hdrLen c
  wpos : s.wpos = w
  frames : s.frames = w
  dlen : D.length = w * c.bw

theorem Op.data_of_valid {c : Cfg} {k : Nat} {d : List Byte} (hv : d.length = k * c.bw) : (Op.write k d).data = d := by
  show (if k == 0 then [] else d) = d
  split
  · next h => rw [beq_iff_eq.1 h, Nat.zero_mul] at hv; exact (List.length_eq_zero_iff.1 hv).symm
  · rfl

theorem writeHeader_keeps (c : Cfg) (s : St) (b : Bool) :
    (writeHeader c s b).auto = s.auto ∧ (writeHeader c s b).written = s.written ∧ (writeHeader c s b).wpos = s.wpos := by
  unfold writeHeader   -- a bare `rfl` would first try to unify the new state with the old one, field by field
  cases b <;> exact ⟨rfl, rfl, rfl⟩

theorem writeHeader_inv {c : Cfg} {s : St} {D : List Byte} {w : Nat} (i : Inv c s D w) (hbw : 0 < c.bw) (b : Bool) :
    Inv c (writeHeader c s b) D w ∧ (b = true → (writeHeader c s b).bytes = hdr c w ++ D) ∧ (writeHeader c s b).auto = s.auto ∧
      (writeHeader c s b).written = s.written := by
  obtain ⟨h0, hl, hb⟩ := i.hdr0
  have hlen : s.bytes.length = hdrLen c + w * c.bw := by rw [hb]; simp [hl, i.dlen]
  have hpos : s.pos > 0 := by rw [i.pos, hlen]; have := hdrLen_cases c; omega
  obtain ⟨ka, kw, kp⟩ := writeHeader_keeps c s b
  cases b with
  | false =>
    refine ⟨⟨⟨hdrRaw c s.filelength s.datalength s.frames, hdrRaw_length c _ _ _, ?_⟩, ?_, ?_, kp.trans i.wpos, ?_, i.dlen⟩, by simp, ka, kw⟩
    · simp only [writeHeader, Bool.false_eq_true, if_false]; rw [hb]; exact writeAt_head h0 D _ (by rw [hdrRaw_length, hl])
    · simp only [writeHeader, Bool.false_eq_true, if_false, hpos, if_true]
      rw [hb, writeAt_head h0 D _ (by rw [hdrRaw_length, hl]), i.pos, hb]; simp [hdrRaw_length, hl]
    · simp [writeHeader, hdrRaw_length]
    · simp [writeHeader, i.frames]
  | true =>
    have hdl : (s.bytes.length : Int) - s.dataoffset = ((w * c.bw : Nat) : Int) := by rw [i.off, hlen]; push_cast; omega
    have hfr : Int.tdiv ((s.bytes.length : Int) - s.dataoffset) (c.bw : Int) = w := by rw [hdl]; exact tdiv_frames w c.bw hbw
    have hh : hdrRaw c (s.bytes.length : Int) ((s.bytes.length : Int) - s.dataoffset) (Int.tdiv ((s.bytes.length : Int) - s.dataoffset) (c.bw : Int)) = hdr c w := by
      rw [hfr, hdl, hlen]; rfl
    have hbytes : (writeHeader c s true).bytes = hdr c w ++ D := by
      simp only [writeHeader, if_true]; rw [hh, hb]; exact writeAt_head h0 D _ (by rw [hdr_length, hl])
    refine ⟨⟨⟨hdr c w, hdr_length c w, hbytes⟩, ?_, ?_, kp.trans i.wpos, ?_, i.dlen⟩, fun _ => hbytes, ka, kw⟩
    · have : (writeHeader c s true).pos = s.pos := by simp only [writeHeader, if_true, hpos]
      rw [this, hbytes, i.pos, hb]; simp [hdr_length, hl]
    · simp only [writeHeader, if_true]; rw [hh]; simp [hdr_length]
    · simp only [writeHeader, if_true]; exact hfr

theorem openW_inv (c : Cfg) (stale : Int) : Inv c (openW c stale) [] 0 := by
  refine ⟨⟨hdrRaw c 0 0 0, hdrRaw_length c _ _ _, ?_⟩, ?_, ?_, rfl, rfl, by simp⟩
  · simp [openW, writeHeader, writeAt]
  · simp [openW, writeHeader, writeAt, hdrRaw_length]
  · simp [openW, writeHeader, hdrRaw_length]

/-- a write call that transfers something, up to the header rewrite of auto mode: the data lands at the end of the store -/
theorem write_data_inv {c : Cfg} {s : St} {D : List Byte} {w : Nat} (i : Inv c s D w) (hbw : 0 < c.bw) (k : Nat) (data : List Byte)
    (h0 : k ≠ 0) (hk : data.length = k * c.bw) :
    ∃ s3, Inv c s3 (D ++ data) (w + k) ∧ s3.auto = s.auto ∧
      step c s (.write k data) = if s3.auto = true then writeHeader c s3 true else s3 := by
  have hkb : (k == 0) = false := by simpa using h0
  simp only [step, hkb, Bool.false_eq_true, if_false]
  -- the header written before the first data
  generalize hs1 : (if (!s.written) = true then writeHeader c s false else s) = s1
  have i1 : Inv c s1 D w ∧ s1.auto = s.auto := by
    rw [← hs1]; split
    · exact ⟨(writeHeader_inv i hbw false).1, (writeHeader_inv i hbw false).2.2.1⟩
    · exact ⟨i, rfl⟩
  obtain ⟨i1, ha1⟩ := i1
  obtain ⟨h0', hl, hb⟩ := i1.hdr0
  have hgt : s1.wpos + (k : Int) > s1.frames := by rw [i1.wpos, i1.frames]; omega
  have hw : s1.wpos + (k : Int) = ((w + k : Nat) : Int) := by rw [i1.wpos]; push_cast; rfl
  refine ⟨{ s1 with written := true, bytes := writeAt s1.bytes s1.pos data, pos := s1.pos + data.length, wpos := s1.wpos + k,
                    frames := s1.wpos + k }, ⟨⟨h0', hl, ?_⟩, ?_, i1.off, hw, hw, ?_⟩, ha1, ?_⟩
  · show writeAt s1.bytes s1.pos data = _
    rw [i1.pos, writeAt_end, hb, List.append_assoc]
  · show s1.pos + data.length = (writeAt s1.bytes s1.pos data).length
    rw [i1.pos, writeAt_end]; simp
  · simp [i1.dlen, hk, Nat.add_mul]
  · simp only [hgt, if_true]

theorem step_inv {c : Cfg} {s : St} {D : List Byte} {w : Nat} (i : Inv c s D w) (hbw : 0 < c.bw) (op : Op) (hv : op.valid c) :
    Inv c (step c s op) (D ++ op.data) (w + op.frames) := by
  cases op with
  | update => simpa [step, Op.data, Op.frames] using (writeHeader_inv i hbw true).1
  | auto on =>
    simp only [step, Op.data, Op.frames, List.append_nil, Nat.add_zero]
    exact ⟨i.hdr0, i.pos, i.off, i.wpos, i.frames, i.dlen⟩
  | write k data =>
    by_cases h0 : k = 0
    · subst h0; simpa [step, Op.data, Op.frames] using i
    · have hkb : (k == 0) = false := by simpa using h0
      obtain ⟨s3, i3, _, e⟩ := write_data_inv i hbw k data h0 hv
      simp only [Op.data, hkb, Bool.false_eq_true, if_false, Op.frames]
      rw [e]
      split
      · exact (writeHeader_inv i3 hbw true).1
      · exact i3

theorem step_write_auto {c : Cfg} {s : St} {D : List Byte} {w : Nat} (i : Inv c s D w) (hbw : 0 < c.bw) (k : Nat) (data : List Byte)
    (h0 : k ≠ 0) (hk : data.length = k * c.bw) (ha : s.auto = true) :
    (step c s (.write k data)).bytes = hdr c (w + k) ++ (D ++ data) := by
  obtain ⟨s3, i3, ha3, e⟩ := write_data_inv i hbw k data h0 hk
  rw [e, ha3, ha, if_pos rfl]
  exact (writeHeader_inv i3 hbw true).2.1 rfl

theorem run_inv {c : Cfg} (hbw : 0 < c.bw) (ops : List Op) : ∀ {s : St} {D : List Byte} {w : Nat}, Inv c s D w → (∀ op ∈ ops, op.valid c) →
    Inv c (run c s ops) (D ++ sessData ops) (w + sessFrames ops) := by
  induction ops with
  | nil => intro s D w i _; simpa [run, sessData, sessFrames] using i
  | cons op ops ih =>
    intro s D w i hv
    have i1 := step_inv i hbw op (hv op (by simp))
    have := ih i1 (fun o ho => hv o (by simp [ho]))
    simpa [run, sessData, sessFrames, List.flatMap_cons, Nat.add_assoc] using this

/-- what every valid session has reached: its data and its frames -/
theorem session_inv (c : Cfg) (hwf : c.wf) (stale : Int) (ops : List Op) (hv : ∀ op ∈ ops, op.valid c) :
    Inv c (run c (openW c stale) ops) (sessData ops) (sessFrames ops) := by
  simpa using run_inv (wf_bw_pos hwf) ops (openW_inv c stale) hv

end Sf.W64
