/-
  SfProofs.AbsWriteBridgeBlock3 — level B of the write-side bridge for block codecs WITH CRASH POINTS.

  `BlockJob` / `BlockFacts` (AbsWriteBridgeBlock.lean) predict no crash points.  A `SnapJob` adds them: `marks` = the numbers of
  split-run calls after which the campaign copies the store (right after SFC_UPDATE_HEADER_NOW or a write made in auto mode),
  `stored cs` = the DATA REGION the store holds at that moment (for the block writers of SfModel/Block.lean: the blocks flushed
  so far — a partly filled block is still in the codec's buffer).  The image is `hdr n ++ stored ++ tail n` like the closed file.

  `SnapFacts` = `BlockFacts` + the three C11 facts per crash point:
    * `snapFrames`   a reader of the image finds the frames written so far ROUNDED DOWN TO WHOLE BLOCKS (C11's floor clause);
    * `snapFinal`    its read-back agrees, on those frames, with the read-back of the finished file ("exactly that prefix");
    * `snapExact`    for a lossless pair: on those frames it IS the written samples.
  `snap_pred_good` derives `Good`; `snap_facts_of_stream` derives `snapFinal` for a reader that decodes the region front to
  back (`backPrefix`) from "the stored region is a prefix of the closed one" (`storedPrefix`).
-/
import SfProofs.AbsWriteBridgeBlock
namespace Sf.AbsWriteBridge
open Sf Sf.Abs Sf.AbsWrite Sf.Geometry

structure SnapJob extends BlockJob where
  marks : List Nat                       -- crash points: split-run calls made before the copy
  stored : List LCall → List Byte        -- the data region in the store right after those calls and a header update

def SnapJob.nk (J : SnapJob) (k : Nat) : Nat := framesOf J.g.ch (J.split.take k)

/-- the store image at a crash point -/
def SnapJob.image (J : SnapJob) (k : Nat) : List Byte :=
  J.hdr (J.stored (J.split.take k)).length ++ J.stored (J.split.take k) ++ J.tail (J.stored (J.split.take k)).length

def SnapJob.snapOf (J : SnapJob) (k : Nat) : LSnap :=
  let d := J.stored (J.split.take k)
  let F := J.framesAt d.length
  { k := k, info := { ch := J.g.ch, sr := J.g.sr, fmt := J.g.word, frames := F }, ret := ((F * J.g.ch : Nat) : Int),
    data := J.back d ((J.nk k + 8) * J.g.ch) }

def SnapJob.pred (J : SnapJob) : Pred := { J.toBlockJob.pred with snaps := J.marks.map J.snapOf }

/-- items of the whole blocks written by the first `k` calls -/
def SnapJob.items (J : SnapJob) (k : Nat) : Nat := floorToBlock (J.nk k) J.g.block * J.g.ch

structure SnapFacts (J : SnapJob) : Prop where
  base : BlockFacts J.toBlockJob
  /-- C11: "a frame count equal to the frames written so far (rounded down to whole blocks for block encodings)" -/
  snapFrames : ∀ k ∈ J.marks, J.framesAt (J.stored (J.split.take k)).length = floorToBlock (J.nk k) J.g.block
  /-- C11: "and reads back exactly that prefix of the written data" — against the finished file -/
  snapFinal : ∀ k ∈ J.marks, (J.back (J.stored (J.split.take k)) ((J.nk k + 8) * J.g.ch)).take (J.items k) =
    (J.back (J.data J.one) ((framesOf J.g.ch J.one + J.g.block + J.g.pad + 8) * J.g.ch)).take (J.items k)
  /-- … and, for a lossless pair, against the samples themselves -/
  snapExact : losslessLow J.g.codec J.ty = none ∨
    ∀ k ∈ J.marks, (∀ v ∈ samples (J.split.take k), sampleOk J.g.codec J.ty v) →
      (J.back (J.stored (J.split.take k)) ((J.nk k + 8) * J.g.ch)).take (J.items k) = (samples (J.split.take k)).take (J.items k)

theorem snap_pred_good (J : SnapJob) (X : SnapFacts J) : Good J.pred := by
  have hb := block_pred_good J.toBlockJob X.base
  refine { chpos := hb.chpos, block := hb.block, calls1 := hb.calls1, calls2 := hb.calls2, same := hb.same,
           reopened := hb.reopened, info := hb.info, rate := hb.rate, framesLo := hb.framesLo, framesHi := hb.framesHi,
           eof := hb.eof, more := hb.more, rbLen := hb.rbLen, roundtrip := hb.roundtrip, partition := hb.partition,
           stale := hb.stale, snaps := ?_ }
  intro _ s hs
  change s ∈ J.marks.map J.snapOf at hs
  obtain ⟨k, hk, rfl⟩ := List.mem_map.1 hs
  have hF := X.snapFrames k hk
  have hle : floorToBlock (J.nk k) J.g.block * J.g.ch ≤ (J.nk k + 8) * J.g.ch :=
    Nat.mul_le_mul_right _ (Nat.le_trans (floorToBlock_le _ _) (Nat.le_add_right _ _))
  refine { opened := rfl,
           info := by show AbsWrite.infoOk J.g { ch := (J.g.ch : Int), sr := (J.g.sr : Int), fmt := J.g.word, frames := _ } = true
                      unfold AbsWrite.infoOk; simp,
           frames := by
             show ((J.framesAt (J.stored (J.split.take k)).length : Nat) : Int) = ((floorToBlock (J.nk k) J.g.block : Nat) : Int)
             rw [hF],
           short := by
             show floorToBlock (J.nk k) J.g.block * J.g.ch ≤ (((J.framesAt (J.stored (J.split.take k)).length * J.g.ch : Nat) : Int)).toNat
             rw [hF, Int.toNat_natCast]; exact Nat.le_refl _,
           len := by
             show floorToBlock (J.nk k) J.g.block * J.g.ch ≤ (J.back _ _).length
             rw [X.base.backLen]; exact hle,
           final := X.snapFinal k hk,
           exact := ?_ }
  intro hok
  change ∀ v ∈ samples (J.split.take k), sampleOk J.g.codec J.ty v at hok
  show (J.back (J.stored (J.split.take k)) ((J.nk k + 8) * J.g.ch)).take (J.items k) = (samples (J.split.take k)).take (J.items k)
  rcases X.snapExact with h | h
  · -- no sample written so far: no whole block either
    have hsm := lossy_nil h hok
    have hl := samples_length J.g.ch (J.split.take k) (fun c hc => X.base.calls2 c (List.mem_of_mem_take hc))
    rw [hsm] at hl
    have hz : J.nk k * J.g.ch = 0 := by unfold SnapJob.nk; simpa using hl.symm
    have hn : J.nk k = 0 := by
      rcases Nat.mul_eq_zero.1 hz with h0 | h0
      · exact h0
      · have := X.base.chpos; omega
    have hm : J.items k = 0 := by unfold SnapJob.items floorToBlock; rw [hn]; simp
    rw [hm]; simp
  · exact h k hk hok

theorem snap_session_accepted (J : SnapJob) (X : SnapFacts J) : accepted J.pred.record = true :=
  Pred.accepted_of_good _ (snap_pred_good J X)

/-- `snapFinal` for a reader that decodes the data region FRONT TO BACK: what it delivers on the frames a region `d` holds is
    what it delivers on them from any longer region `d ++ e` -/
theorem snap_facts_of_stream (J : SnapJob) (base : BlockFacts J.toBlockJob)
    (snapFrames : ∀ k ∈ J.marks, J.framesAt (J.stored (J.split.take k)).length = floorToBlock (J.nk k) J.g.block)
    (storedPrefix : ∀ k ∈ J.marks, ∃ e, J.data J.split = J.stored (J.split.take k) ++ e)
    (backPrefix : ∀ (d e : List Byte) (n n' : Nat), J.framesAt d.length * J.g.ch ≤ n → J.framesAt d.length * J.g.ch ≤ n' →
      (J.back d n).take (J.framesAt d.length * J.g.ch) = (J.back (d ++ e) n').take (J.framesAt d.length * J.g.ch))
    (snapExact : losslessLow J.g.codec J.ty = none ∨
      ∀ k ∈ J.marks, (∀ v ∈ samples (J.split.take k), sampleOk J.g.codec J.ty v) →
        (J.back (J.stored (J.split.take k)) ((J.nk k + 8) * J.g.ch)).take (J.items k) = (samples (J.split.take k)).take (J.items k)) :
    SnapFacts J := by
  refine { base := base, snapFrames := snapFrames, snapFinal := ?_, snapExact := snapExact }
  intro k hk
  obtain ⟨e, he⟩ := storedPrefix k hk
  have hF := snapFrames k hk
  have hd : J.data J.one = J.stored (J.split.take k) ++ e := by rw [← base.partition base.same]; exact he
  have hnk : J.nk k ≤ framesOf J.g.ch J.one := by
    have h1 := framesOf_take_le J.g.ch J.split k
    have h2 := samples_length J.g.ch J.split base.calls2
    have h3 := samples_length J.g.ch J.one base.calls1
    rw [base.same, h3] at h2
    have := Nat.eq_of_mul_eq_mul_right base.chpos h2
    unfold SnapJob.nk; omega
  have hfl := floorToBlock_le (J.nk k) J.g.block
  have hm : J.items k = J.framesAt (J.stored (J.split.take k)).length * J.g.ch := by unfold SnapJob.items; rw [hF]
  rw [hd, hm]
  apply backPrefix
  · rw [hF]; exact Nat.mul_le_mul_right _ (by omega)
  · rw [hF]; exact Nat.mul_le_mul_right _ (by omega)

end Sf.AbsWriteBridge
