/-
  SfProofs.Peak — helper lemmas for C18: the running (value, bits, position) invariant of the PEAK bookkeeping (`PInv`),
  the per-channel scan of `Sf.peakChunkUpdate`, the staging-buffer chunking of `Sf.peakUpdate` (`Sf.chunksOf`, whose only
  lemmas are here), sequences of calls (`run_allInv`, `run_partition`).  The words the C18 statements are made of are
  defined here too: `fileFmt`, `fileTy`, `convVal`, `callChunk` (the parts of `Sf.peakUpdate` by name), `fileVals`, `WellFormed`.
-/
import SfProofs.FloatExact
import SfProofs.Table
import SfModel.Peak
namespace Sf.Peak
open Sf Sf.Float

/-- after `N` frames of a channel whose magnitudes are `K 0, K 1, …` (stored as the patterns `W 0, W 1, …`) the state is
    `(v, bits, pos)`: untouched (all samples so far are zero), or the first maximum -/
structure PInv (K : Nat → ℚ) (W : Nat → Nat) (N : Nat) (v : ℚ) (bits : Nat) (pos : Int) : Prop where
  nn : 0 ≤ v
  ub : ∀ j < N, K j ≤ v
  at_ : (v = 0 ∧ pos = 0 ∧ bits = 0) ∨ ∃ q < N, pos = (q : Int) ∧ v = K q ∧ 0 < v ∧ bits = W q ∧ ∀ j < q, K j < K q

theorem PInv.init (K : Nat → ℚ) (W : Nat → Nat) : PInv K W 0 0 0 0 :=
  ⟨le_refl _, fun _ h => absurd h (Nat.not_lt_zero _), Or.inl ⟨rfl, rfl, rfl⟩⟩

/-- frames `0 … N-1` bounded by `v`, then a block of `n` frames whose own first maximum is at `q'`: the two outcomes of the comparison
    `v < K (N + q')` -/
theorem block_joins {K : Nat → ℚ} {N n q' : Nat} {v : ℚ} (ub : ∀ j < N, K j ≤ v)
    (hmax : ∀ j < n, K (N + j) ≤ K (N + q')) (hfirst : ∀ j < q', K (N + j) < K (N + q')) :
    (v < K (N + q') → (∀ j < N + n, K j ≤ K (N + q')) ∧ ∀ j < N + q', K j < K (N + q')) ∧
    (¬ v < K (N + q') → ∀ j < N + n, K j ≤ v) := by
  have hblock : ∀ j, N ≤ j → j < N + n → K j ≤ K (N + q') := fun j h1 h2 => by
    have := hmax (j - N) (by omega)
    rwa [show N + (j - N) = j by omega] at this
  refine ⟨fun hlt => ⟨fun j hj => ?_, fun j hj => ?_⟩, fun hlt j hj => ?_⟩ <;> by_cases hjN : j < N
  · exact le_trans (ub j hjN) (le_of_lt hlt)
  · exact hblock j (by omega) hj
  · exact lt_of_le_of_lt (ub j hjN) hlt
  · have := hfirst (j - N) (by omega)
    rwa [show N + (j - N) = j by omega] at this
  · exact ub j hjN
  · exact le_trans (hblock j (by omega) hj) (not_lt.mp hlt)

/-- one update with a block of `n` frames whose own first maximum is at `q'`:
    `if (fmaxval > peaks.value) { value = fmaxval ; position = N + q' }` -/
theorem PInv.step (K : Nat → ℚ) (W : Nat → Nat) (N n q' : Nat)
    (hmax : ∀ j < n, K (N + j) ≤ K (N + q')) (hfirst : ∀ j < q', K (N + j) < K (N + q')) (hq' : q' < n)
    (v : ℚ) (bits : Nat) (pos : Int) (inv : PInv K W N v bits pos) :
    PInv K W (N + n) (if v < K (N + q') then K (N + q') else v) (if v < K (N + q') then W (N + q') else bits)
      (if v < K (N + q') then ((N + q' : Nat) : Int) else pos) := by
  obtain ⟨hwin, hkeep⟩ := block_joins inv.ub hmax hfirst
  by_cases hlt : v < K (N + q')
  · simp only [hlt, if_true]
    exact ⟨le_trans inv.nn (le_of_lt hlt), (hwin hlt).1,
      Or.inr ⟨N + q', by omega, rfl, rfl, lt_of_le_of_lt inv.nn hlt, rfl, (hwin hlt).2⟩⟩
  · simp only [hlt, if_false]
    refine ⟨inv.nn, hkeep hlt, ?_⟩
    rcases inv.at_ with h0 | ⟨q, hq, hp, hv, hpos, hb, hf⟩
    · exact Or.inl h0
    · exact Or.inr ⟨q, by omega, hp, hv, hpos, hb, hf⟩

theorem PInv.final (K : Nat → ℚ) (W : Nat → Nat) (hK : ∀ j, 0 ≤ K j) (N : Nat) (hN : 0 < N) (v : ℚ) (bits : Nat) (pos : Int)
    (inv : PInv K W N v bits pos) :
    ∃ q < N, pos = (q : Int) ∧ v = K q ∧ (∀ j < N, K j ≤ K q) ∧ (∀ j < q, K j < K q) ∧ (bits = W q ∨ (bits = 0 ∧ v = 0)) := by
  rcases inv.at_ with ⟨h0, hp, hb⟩ | ⟨q, hq, hp, hv, _, hb, hf⟩
  · refine ⟨0, hN, by simpa using hp, ?_, ?_, fun j hj => absurd hj (Nat.not_lt_zero _), Or.inr ⟨hb, h0⟩⟩
    · have := inv.ub 0 hN; have := hK 0; linarith
    · intro j hj
      have h1 := inv.ub j hj
      have h2 := inv.ub 0 hN
      have := hK 0; have := hK j
      linarith
  · exact ⟨q, hq, hp, hv, fun j hj => by rw [← hv]; exact inv.ub j hj, hf, Or.inl hb⟩

theorem PInv.unique (K : Nat → ℚ) (W : Nat → Nat) (N : Nat) (v v' : ℚ) (b b' : Nat) (p p' : Int)
    (i1 : PInv K W N v b p) (i2 : PInv K W N v' b' p') : b = b' ∧ p = p' := by
  rcases i1.at_ with ⟨h0, hp, hb⟩ | ⟨q, hq, hp, hv, hpos, hb, hf⟩ <;>
    rcases i2.at_ with ⟨h0', hp', hb'⟩ | ⟨q', hq', hp', hv', hpos', hb', hf'⟩
  · exact ⟨hb.trans hb'.symm, hp.trans hp'.symm⟩
  · exfalso; have := i1.ub q' hq'; rw [h0, ← hv'] at this; linarith
  · exfalso; have := i2.ub q hq; rw [h0', ← hv] at this; linarith
  · have hqq : q = q' := by
      rcases Nat.lt_trichotomy q q' with h | h | h
      · have h1 := hf' q h; have h2 := i1.ub q' hq'; rw [hv] at h2; linarith
      · exact h
      · have h1 := hf q' h; have h2 := i2.ub q hq; rw [hv'] at h2; linarith
    subst hqq
    exact ⟨hb.trans hb'.symm, hp.trans hp'.symm⟩

/-- `peaks [chan].value` is a double: a float maximum is widened (exactly) -/
def widenB (f : Fmt) (v : Nat) : Nat := if f == Float.f32 then Float.f32to64 v else v

def stepF (f : Fmt) (vals : List Nat) (acc : Nat × Nat) (k : Nat) : Nat × Nat :=
  let v := absBits f (vals.getD k 0)
  if (f.toDy acc.1).lt (f.toDy v) then (v, k) else acc

/-- the inner loop for channel `c` over `n` frames: (fmaxval, position) -/
def chanScanN (f : Fmt) (ch c : Nat) (vals : List Nat) (n : Nat) : Nat × Nat :=
  ((List.range n).map fun j => c + j * ch).foldl (stepF f vals) (absBits f (vals.getD c 0), 0)

def chanUpd (f : Fmt) (ch : Nat) (wcur indx : Int) (vals : List Nat) (p : Peak) (c : Nat) : Peak :=
  let r := chanScanN f ch c vals ((vals.length + ch - 1 - c) / ch)
  let mx64 := widenB f r.1
  if (Float.f64.toDy p.value).lt (Float.f64.toDy mx64) then
    { value := mx64, position := wcur + indx + (r.2 / ch : Nat) }
  else p

theorem peakChunkUpdate_eq (f : Fmt) (ch : Nat) (wcur indx : Int) (vals : List Nat) (ps : List Peak) :
    peakChunkUpdate f ch wcur indx vals ps = (List.range ch).map fun c => chanUpd f ch wcur indx vals (ps.getD c {}) c := rfl

/-- magnitude pattern of frame `j` of channel `c` in an interleaved buffer -/
def colB (f : Fmt) (ch c : Nat) (vals : List Nat) (j : Nat) : Nat := absBits f (vals.getD (c + j * ch) 0)

/-- exact value of `colB` -/
def colK (f : Fmt) (ch c : Nat) (vals : List Nat) (j : Nat) : ℚ := (f.toDy (colB f ch c vals j)).val

/-- the pattern kept in `peaks [c].value` when that sample is the maximum -/
def colW (f : Fmt) (ch c : Nat) (vals : List Nat) (j : Nat) : Nat := widenB f (colB f ch c vals j)

theorem chanScanN_spec (f : Fmt) (ch c : Nat) (hc : c < ch) (vals : List Nat) (n : Nat) :
    ∃ q, q < max n 1 ∧ (chanScanN f ch c vals n).2 / ch = q ∧ (chanScanN f ch c vals n).1 = colB f ch c vals q ∧
      (∀ j < max n 1, colK f ch c vals j ≤ colK f ch c vals q) ∧ (∀ j < q, colK f ch c vals j < colK f ch c vals q) := by
  induction n with
  | zero =>
    refine ⟨0, by decide, ?_, ?_, ?_, ?_⟩
    · simp [chanScanN]
    · simp [chanScanN, colB]
    · intro j hj; have : j = 0 := by simp at hj; omega
      subst this; exact le_refl _
    · intro j hj; omega
  | succ n ih =>
    obtain ⟨q, hq, hpos, hmx, hall, hfirst⟩ := ih
    have hstep : chanScanN f ch c vals (n + 1) = stepF f vals (chanScanN f ch c vals n) (c + n * ch) := by
      simp [chanScanN, List.range_succ, List.map_append, List.foldl_append]
    rw [hstep]
    unfold stepF
    have hv : absBits f (vals.getD (c + n * ch) 0) = colB f ch c vals n := rfl
    simp only [hv]
    have hcmp : ((f.toDy (chanScanN f ch c vals n).1).lt (f.toDy (colB f ch c vals n)) = true) ↔
        colK f ch c vals q < colK f ch c vals n := by
      rw [Dy.lt_iff, hmx]; rfl
    -- frame `n` joins the frames seen so far as a block of one
    obtain ⟨hwin, hkeep⟩ := block_joins (K := colK f ch c vals) (N := n) (n := 1) (q' := 0) (fun j hj => hall j (by omega))
      (fun j hj => by rw [Nat.lt_one_iff.mp hj]) (fun j hj => absurd hj (Nat.not_lt_zero _))
    by_cases hlt : colK f ch c vals q < colK f ch c vals n
    · rw [if_pos (hcmp.mpr hlt)]
      refine ⟨n, by omega, ?_, rfl, fun j hj => (hwin hlt).1 j (by omega), (hwin hlt).2⟩
      show (c + n * ch) / ch = n
      rw [Nat.add_mul_div_right _ _ (by omega : 0 < ch), Nat.div_eq_of_lt hc]; omega
    · rw [if_neg (fun h => hlt (hcmp.mp h))]
      exact ⟨q, by omega, hpos, hmx, fun j hj => hkeep hlt j (by omega), hfirst⟩

/-- exact value of a binary64 pattern -/
def V64 (b : Nat) : ℚ := (Float.f64.toDy b).val

theorem scan_frames (n ch c : Nat) (hc : c < ch) : (n * ch + ch - 1 - c) / ch = n := by
  have h : n * ch + ch - 1 - c = (ch - 1 - c) + n * ch := by omega
  rw [h, Nat.add_mul_div_right _ _ (by omega : 0 < ch), Nat.div_eq_of_lt (by omega)]; omega

theorem chanUpd_inv (f : Fmt) (ch c : Nat) (hc : c < ch) (vals : List Nat) (n : Nat) (hlen : vals.length = n * ch) (hn : 0 < n)
    (hw : ∀ j, V64 (colW f ch c vals j) = colK f ch c vals j)
    (K : Nat → ℚ) (W : Nat → Nat) (N : Nat) (hK : ∀ j < n, K (N + j) = colK f ch c vals j)
    (hW : ∀ j < n, W (N + j) = colW f ch c vals j)
    (wcur indx : Int) (hN : wcur + indx = (N : Int)) (p : Peak) (inv : PInv K W N (V64 p.value) p.value p.position) :
    PInv K W (N + n) (V64 (chanUpd f ch wcur indx vals p c).value) (chanUpd f ch wcur indx vals p c).value
      (chanUpd f ch wcur indx vals p c).position := by
  obtain ⟨q, hq, hpos, hmx, hall, hfirst⟩ := chanScanN_spec f ch c hc vals n
  have hqn : q < n := by omega
  have hmax1 : max n 1 = n := by omega
  rw [hmax1] at hall
  have hbits : widenB f (chanScanN f ch c vals n).1 = W (N + q) := by rw [hmx, hW q hqn]; rfl
  have hval : V64 (widenB f (chanScanN f ch c vals n).1) = K (N + q) := by
    rw [hmx, hK q hqn]; exact hw q
  have hstep := PInv.step K W N n q
    (fun j hj => by rw [hK j hj, hK q hqn]; exact hall j hj)
    (fun j hj => by rw [hK j (by omega), hK q hqn]; exact hfirst j hj) hqn _ _ _ inv
  unfold chanUpd
  rw [hlen, scan_frames n ch c hc]
  simp only []
  have hcmp : ((Float.f64.toDy p.value).lt (Float.f64.toDy (widenB f (chanScanN f ch c vals n).1)) = true) ↔
      V64 p.value < K (N + q) := by
    rw [Dy.lt_iff, ← hval]; rfl
  by_cases hlt : V64 p.value < K (N + q)
  · rw [if_pos (hcmp.mpr hlt)]
    rw [if_pos hlt, if_pos hlt, if_pos hlt] at hstep
    have hval2 : V64 (W (N + q)) = K (N + q) := by rw [← hbits]; exact hval
    simp only [hpos, hbits, hval2]
    have : wcur + indx + ((q : Nat) : Int) = ((N + q : Nat) : Int) := by push_cast; omega
    rw [this]; exact hstep
  · rw [if_neg (fun h => hlt (hcmp.mp h))]
    rw [if_neg hlt, if_neg hlt, if_neg hlt] at hstep
    exact hstep

/-- state of all channels after `N` frames of the interleaved file-typed samples `all` -/
def AllInv (f : Fmt) (ch : Nat) (all : List Nat) (N : Nat) (ps : List Peak) : Prop :=
  ps.length = ch ∧ ∀ c < ch, PInv (colK f ch c all) (colW f ch c all) N (V64 (ps.getD c {}).value) (ps.getD c {}).value
    (ps.getD c {}).position

theorem colB_drop (f : Fmt) (ch c : Nat) (hc : c < ch) (all vals rest : List Nat) (N n : Nat)
    (hd : all.drop (N * ch) = vals ++ rest) (hlen : vals.length = n * ch) (j : Nat) (hj : j < n) :
    colB f ch c all (N + j) = colB f ch c vals j := by
  unfold colB
  have hidx : c + (N + j) * ch = N * ch + (c + j * ch) := by ring
  have hlt : c + j * ch < vals.length := by
    rw [hlen]
    calc c + j * ch < ch + j * ch := by omega
      _ = (j + 1) * ch := by ring
      _ ≤ n * ch := Nat.mul_le_mul_right _ (by omega)
  rw [hidx, List.getD_eq_getElem?_getD, List.getD_eq_getElem?_getD, ← List.getElem?_drop, hd, List.getElem?_append_left hlt]

/-- widening keeps the value: true for every finite pattern -/
def WidenOK (f : Fmt) (b : Nat) : Prop := V64 (widenB f b) = (f.toDy b).val

theorem chunk_inv (f : Fmt) (ch : Nat) (all vals rest : List Nat) (N n : Nat) (hd : all.drop (N * ch) = vals ++ rest)
    (hlen : vals.length = n * ch) (hn : 0 < n)
    (hw : ∀ c < ch, ∀ j, WidenOK f (colB f ch c vals j))
    (wcur indx : Int) (hN : wcur + indx = (N : Int)) (ps : List Peak)
    (inv : AllInv f ch all N ps) :
    AllInv f ch all (N + n) (peakChunkUpdate f ch wcur indx vals ps) := by
  rw [peakChunkUpdate_eq]
  refine ⟨by simp, ?_⟩
  intro c hc
  rw [getD_tab _ hc]
  exact chanUpd_inv f ch c hc vals n hlen hn (hw c hc) _ _ N
    (fun j hj => by unfold colK; rw [colB_drop f ch c hc all vals rest N n hd hlen j hj])
    (fun j hj => by unfold colW; rw [colB_drop f ch c hc all vals rest N n hd hlen j hj])
    wcur indx hN _ (inv.2 c hc)

theorem absBits_sign (f : Fmt) (b : Nat) : f.sign (absBits f b) = false := by
  unfold Fmt.sign absBits
  rw [Nat.div_eq_of_lt (Nat.mod_lt _ (Nat.pos_of_ne_zero (by simp)))]
  simp

theorem absBits_val_nonneg (f : Fmt) (b : Nat) : 0 ≤ (f.toDy (absBits f b)).val := by
  rw [Dy.val_eq, toDy_neg, absBits_sign]
  simp only [Bool.false_eq_true, if_false]
  exact Dy.mag_nonneg _

theorem colK_nonneg (f : Fmt) (ch c : Nat) (vals : List Nat) (j : Nat) : 0 ≤ colK f ch c vals j :=
  absBits_val_nonneg f _

theorem absBits_expo (f : Fmt) (b : Nat) : f.expo (absBits f b) = f.expo b := by
  unfold Fmt.expo absBits
  rw [Nat.pow_add, Nat.mul_comm (2 ^ f.ebits), Nat.mod_mul_right_div_self, Nat.mod_mod]

theorem absBits_finite (f : Fmt) (b : Nat) : f.isFinite (absBits f b) = f.isFinite b := by
  unfold Fmt.isFinite; rw [absBits_expo]

theorem V64_zero : V64 0 = 0 := by
  unfold V64; rw [Dy.val_eq]; simp [Fmt.toDy, Fmt.expo, Fmt.frac, Dy.mag]

theorem absBits_zero (f : Fmt) : absBits f 0 = 0 := by simp [absBits]

theorem widenOK_of_finite (f : Fmt) (hf : f = Float.f32 ∨ f = Float.f64) (b : Nat) (hfin : f.isFinite b = true) : WidenOK f b := by
  unfold WidenOK widenB V64
  rcases hf with rfl | rfl
  · simp only [beq_self_eq_true, if_true]
    exact (f32to64_exact b hfin).1
  · have : (Float.f64 == Float.f32) = false := by decide
    simp only [this, Bool.false_eq_true, if_false]

theorem widenOK_col (f : Fmt) (hf : f = Float.f32 ∨ f = Float.f64) (ch c : Nat) (vals : List Nat)
    (h : ∀ x ∈ vals, f.isFinite x = true) (j : Nat) : WidenOK f (colB f ch c vals j) := by
  apply widenOK_of_finite f hf
  unfold colB
  rw [absBits_finite]
  by_cases hi : c + j * ch < vals.length
  · rw [List.getD_eq_getElem?_getD, List.getElem?_eq_getElem hi]
    exact h _ (List.getElem_mem hi)
  · rw [List.getD_eq_getElem?_getD, List.getElem?_eq_none (by omega)]
    rcases hf with rfl | rfl <;> decide

theorem chunksOf_flatten_take {α : Type} (n : Nat) (l : List α) (k : Nat) :
    ((List.range k).map fun i => (l.drop (i * n)).take n).flatten = l.take (k * n) := by
  induction k with
  | zero => simp
  | succ k ih =>
    rw [List.range_succ, List.map_append, List.flatten_append, ih]
    simp only [List.map_cons, List.map_nil, List.flatten_cons, List.flatten_nil, List.append_nil]
    rw [Nat.succ_mul, List.take_add]

theorem ceilDiv_covers (len n : Nat) (hn : 0 < n) :
    len ≤ (len + n - 1) / n * n ∧ ∀ i < (len + n - 1) / n, i * n < len := by
  have h1 := Nat.div_add_mod (len + n - 1) n
  have h2 := Nat.mod_lt (len + n - 1) hn
  have h3 : n * ((len + n - 1) / n) = (len + n - 1) / n * n := Nat.mul_comm _ _
  refine ⟨by omega, fun i hi => ?_⟩
  have h4 : (i + 1) * n ≤ (len + n - 1) / n * n := Nat.mul_le_mul_right _ hi
  have h5 : (i + 1) * n = i * n + n := Nat.succ_mul _ _
  omega

theorem chunksOf_pos {α : Type} (n : Nat) (l : List α) (hn : 0 < n) :
    chunksOf n l = (List.range ((l.length + n - 1) / n)).map fun i => (l.drop (i * n)).take n :=
  if_neg (by simpa using Nat.ne_of_gt hn)

theorem chunksOf_flatten {α : Type} (n : Nat) (l : List α) : (chunksOf n l).flatten = l := by
  rcases Nat.eq_zero_or_pos n with rfl | hn
  · exact List.append_nil l
  · rw [chunksOf_pos n l hn, chunksOf_flatten_take]
    exact List.take_of_length_le (ceilDiv_covers l.length n hn).1

theorem chunksOf_frames {α : Type} (n ch : Nat) (l : List α) (hl : 0 < l.length) (hlm : l.length % ch = 0) (hnm : n % ch = 0) :
    ∀ c ∈ chunksOf n l, 0 < c.length ∧ c.length % ch = 0 := by
  rcases Nat.eq_zero_or_pos n with rfl | hpos
  · intro c hc
    rw [List.mem_singleton.mp hc]
    exact ⟨hl, hlm⟩
  · rw [chunksOf_pos n l hpos]
    intro c hc
    simp only [List.mem_map, List.mem_range] at hc
    obtain ⟨i, hi, rfl⟩ := hc
    have hlt : i * n < l.length := (ceilDiv_covers l.length n hpos).2 i hi
    rw [List.length_take, List.length_drop]
    refine ⟨by omega, ?_⟩
    have hd1 : ch ∣ n := Nat.dvd_of_mod_eq_zero hnm
    have hd2 : ch ∣ l.length - i * n :=
      Nat.dvd_sub (Nat.dvd_of_mod_eq_zero hlm) (Dvd.dvd.mul_left hd1 i)
    rcases Nat.le_total n (l.length - i * n) with h | h
    · rw [Nat.min_eq_left h]; exact Nat.mod_eq_zero_of_dvd hd1
    · rw [Nat.min_eq_right h]; exact Nat.mod_eq_zero_of_dvd hd2

/-- the fold of `peakUpdate` over the buffers of one call that starts at frame `N`: `done` items of the call are already
    accounted for -/
theorem chunks_inv (f : Fmt) (hf : f = Float.f32 ∨ f = Float.f64) (ch : Nat) (hch : 0 < ch) (all : List Nat) (N : Nat) :
    ∀ (cs : List (List Nat)) (rest : List Nat) (done : Nat) (ps : List Peak),
      (∀ c ∈ cs, 0 < c.length ∧ c.length % ch = 0) → (∀ c ∈ cs, ∀ x ∈ c, f.isFinite x = true) →
      done % ch = 0 → all.drop (N * ch + done) = cs.flatten ++ rest →
      AllInv f ch all (N + done / ch) ps →
      AllInv f ch all (N + (done + cs.flatten.length) / ch)
        (cs.foldl (fun (acc : List Peak × Nat) c =>
          (peakChunkUpdate f ch (N : Int) ((acc.2 / ch : Nat) : Int) c acc.1, acc.2 + c.length)) (ps, done)).1 := by
  intro cs
  induction cs with
  | nil => intro rest done ps _ _ _ _ inv; simpa using inv
  | cons c cs ih =>
    intro rest done ps hfr hfin hdone hd inv
    obtain ⟨hcpos, hcm⟩ := hfr c List.mem_cons_self
    -- in frames: `a` done, `k` in this buffer
    obtain ⟨a, rfl⟩ := Nat.dvd_of_mod_eq_zero hdone
    obtain ⟨k, hk⟩ := Nat.dvd_of_mod_eq_zero hcm
    have hk0 : 0 < k := Nat.pos_of_ne_zero fun h => by rw [hk, h] at hcpos; omega
    rw [Nat.mul_div_cancel_left _ hch] at inv
    rw [List.flatten_cons, List.append_assoc, show N * ch + ch * a = (N + a) * ch by ring] at hd
    have hci := chunk_inv f ch all c _ (N + a) k hd (by rw [hk, Nat.mul_comm]) hk0
      (fun c' _ j => widenOK_col f hf ch c' c (hfin c List.mem_cons_self) j) (N : Int) (a : Int) (by push_cast; rfl) ps inv
    have hfr' : (ch * a + c.length) / ch = a + k := by rw [hk, ← Nat.mul_add, Nat.mul_div_cancel_left _ hch]
    have := ih rest (ch * a + c.length) _ (fun c' hc' => hfr c' (List.mem_cons_of_mem _ hc'))
      (fun c' hc' => hfin c' (List.mem_cons_of_mem _ hc')) (by rw [hk, ← Nat.mul_add]; exact Nat.mul_mod_right _ _)
      (by rw [show N * ch + (ch * a + c.length) = (N + a) * ch + c.length by ring, ← List.drop_drop, hd, List.drop_left])
      (by rw [hfr', ← Nat.add_assoc]; exact hci)
    simp only [List.foldl_cons, List.flatten_cons, List.length_append, Nat.mul_div_cancel_left _ hch]
    rw [← Nat.add_assoc]
    exact this

def fileFmt : Enc → Fmt | .dbl _ => Float.f64 | _ => Float.f32
def fileTy : Enc → Ty | .dbl _ => .f64 | _ => .f32

/-- the caller's value as the file-typed bit pattern the PEAK bookkeeping looks at (`conv` inside `Sf.peakUpdate`) -/
def convVal (enc : Enc) (conv : Conv) (ty : Ty) (v : Int) : Nat :=
  match enc with
  | .flt _ => (match ty with | .s16 | .s32 => floatOfInt Float.f32 conv.scaleIF ty v | .f32 => v.toNat | .f64 => Float.f64to32 v.toNat)
  | _ => (match ty with | .s16 | .s32 => floatOfInt Float.f64 conv.scaleIF ty v | .f32 => Float.f32to64 v.toNat | .f64 => v.toNat)

theorem fileFmt_std (enc : Enc) : fileFmt enc = Float.f32 ∨ fileFmt enc = Float.f64 := by
  cases enc <;> simp [fileFmt]

/-- buffer length used for a call: the whole call when the caller's type is the file's, else whole frames of the staging buffer -/
def callChunk (enc : Enc) (ch : Nat) (ty : Ty) : Nat := if ty == fileTy enc then 0 else stagingLen (fileFmt enc) ch

theorem stagingLen_dvd (f : Fmt) (ch : Nat) : ch ∣ stagingLen f ch := Nat.dvd_sub_mod _

theorem callChunk_mod (enc : Enc) (ch : Nat) (ty : Ty) : callChunk enc ch ty % ch = 0 := by
  unfold callChunk; split
  · exact Nat.zero_mod _
  · exact Nat.mod_eq_zero_of_dvd (stagingLen_dvd _ _)

theorem upd_eq (enc : Enc) (hfl : enc.isFloatData = true) (conv : Conv) (ch : Nat) (wpos : Int) (ty : Ty) (vals : List Int)
    (ps : List Peak) :
    upd (some ps) enc conv ch wpos ty vals =
      some ((chunksOf (callChunk enc ch ty) (vals.map (convVal enc conv ty))).foldl (fun (acc : List Peak × Nat) c =>
        (peakChunkUpdate (fileFmt enc) ch wpos ((acc.2 / ch : Nat) : Int) c acc.1, acc.2 + c.length)) (ps, 0)).1 := by
  cases enc with
  | pcm p => simp [Enc.isFloatData] at hfl
  | ulaw => simp [Enc.isFloatData] at hfl
  | alaw => simp [Enc.isFloatData] at hfl
  | flt b => rfl
  | dbl b => rfl

/-- every written sample as the file-typed bit pattern, in file order -/
def fileVals (enc : Enc) (conv : Conv) (calls : List (Ty × List Int)) : List Nat :=
  calls.flatMap fun c => c.2.map (convVal enc conv c.1)

/-- a well-formed call: a positive whole number of frames of samples that are finite in the file's type -/
def WellFormed (enc : Enc) (conv : Conv) (ch : Nat) (call : Ty × List Int) : Prop :=
  0 < call.2.length ∧ call.2.length % ch = 0 ∧
  ∀ x ∈ call.2, (fileFmt enc).isFinite (convVal enc conv call.1 x) = true

/-- one call is the fold of `chunks_inv` over its staging buffers (`upd_eq`), which `chunksOf_frames` shows to be whole frames -/
theorem run_inv (enc : Enc) (hfl : enc.isFloatData = true) (conv : Conv) (ch : Nat) (hch : 0 < ch) (all : List Nat) :
    ∀ (calls : List (Ty × List Int)) (N : Nat) (rest : List Nat) (ps : List Peak),
      (∀ call ∈ calls, WellFormed enc conv ch call) → all.drop (N * ch) = fileVals enc conv calls ++ rest →
      AllInv (fileFmt enc) ch all N ps →
      ∃ ps', run enc conv ch (some ps) (N : Int) calls = some ps' ∧
        AllInv (fileFmt enc) ch all (N + (fileVals enc conv calls).length / ch) ps' := by
  intro calls
  induction calls with
  | nil =>
    intro N rest ps _ _ inv
    exact ⟨ps, rfl, by simpa [fileVals] using inv⟩
  | cons call cs ih =>
    intro N rest ps hgood hd inv
    obtain ⟨ty, data⟩ := call
    obtain ⟨hpos, hmod, hfin⟩ := hgood (ty, data) (List.mem_cons_self)
    simp only at hpos hmod hfin
    -- the call writes `k` frames: the patterns `vals`, handed over buffer by buffer
    generalize hvals : data.map (convVal enc conv ty) = vals at *
    have hvlen : vals.length = data.length := by rw [← hvals, List.length_map]
    obtain ⟨k, hk⟩ := Nat.dvd_of_mod_eq_zero hmod
    have hfv : fileVals enc conv ((ty, data) :: cs) = vals ++ fileVals enc conv cs := by simp [fileVals, hvals]
    have hfl' := chunksOf_flatten (callChunk enc ch ty) vals
    rw [hfv, List.append_assoc] at hd
    have hci := chunks_inv (fileFmt enc) (fileFmt_std enc) ch hch all N (chunksOf (callChunk enc ch ty) vals)
      (fileVals enc conv cs ++ rest) 0 ps
      (chunksOf_frames (callChunk enc ch ty) ch vals (by rw [hvlen]; exact hpos) (by rw [hvlen]; exact hmod) (callChunk_mod enc ch ty))
      (fun c hc x hx => by
        have hxm : x ∈ vals := by rw [← hfl']; exact List.mem_flatten.mpr ⟨c, hc, hx⟩
        rw [← hvals, List.mem_map] at hxm
        obtain ⟨y, hy, rfl⟩ := hxm
        exact hfin y hy)
      (Nat.zero_mod _) (by rw [hfl']; exact hd) (by simpa using inv)
    rw [hfl', Nat.zero_add, hvlen, hk, Nat.mul_div_cancel_left _ hch] at hci
    obtain ⟨ps', hrun, hinv'⟩ := ih (N + k) rest _ (fun c hc => hgood c (List.mem_cons_of_mem _ hc))
      (by rw [show (N + k) * ch = N * ch + vals.length by rw [hvlen, hk]; ring, ← List.drop_drop, hd, List.drop_left]) hci
    refine ⟨ps', ?_, ?_⟩
    · simp only [run]
      rw [upd_eq enc hfl conv ch (N : Int) ty data ps, hvals, hk,
        show (N : Int) + ((ch * k : Nat) : Int) / (ch : Int) = ((N + k : Nat) : Int) by
          push_cast; rw [Int.mul_ediv_cancel_left _ (by omega)]]
      exact hrun
    · rw [hfv, List.length_append, hvlen, hk, Nat.mul_comm ch k, Nat.add_comm (k * ch), Nat.add_mul_div_right _ _ hch,
        Nat.add_comm _ k, ← Nat.add_assoc]
      exact hinv'

theorem allInv_init (f : Fmt) (ch : Nat) (all : List Nat) : AllInv f ch all 0 (mkPeaks ch) := by
  refine ⟨by simp [mkPeaks], ?_⟩
  intro c hc
  have : (mkPeaks ch).getD c {} = ({} : Peak) := by
    simp [mkPeaks, List.getD, hc]
  rw [this]
  show PInv _ _ 0 (V64 0) 0 0
  rw [V64_zero]; exact PInv.init _ _

theorem allInv_unique (f : Fmt) (ch : Nat) (all : List Nat) (N : Nat) (ps1 ps2 : List Peak)
    (h1 : AllInv f ch all N ps1) (h2 : AllInv f ch all N ps2) : ps1 = ps2 := by
  apply List.ext_getElem (by rw [h1.1, h2.1])
  intro c hc1 hc2
  have hc : c < ch := by rw [← h1.1]; exact hc1
  obtain ⟨hb, hp⟩ := PInv.unique _ _ _ _ _ _ _ _ _ (h1.2 c hc) (h2.2 c hc)
  have e1 : ps1.getD c {} = ps1[c] := by simp [List.getD, hc1]
  have e2 : ps2.getD c {} = ps2[c] := by simp [List.getD, hc2]
  rw [e1, e2] at hb hp
  cases h : ps1[c]; cases h' : ps2[c]
  rw [h, h'] at hb hp
  simp only at hb hp
  rw [hb, hp]

theorem run_allInv (enc : Enc) (hfl : enc.isFloatData = true) (conv : Conv) (ch : Nat) (hch : 0 < ch)
    (calls : List (Ty × List Int)) (hgood : ∀ call ∈ calls, WellFormed enc conv ch call) :
    ∃ ps, run enc conv ch (some (mkPeaks ch)) 0 calls = some ps ∧
      AllInv (fileFmt enc) ch (fileVals enc conv calls) ((fileVals enc conv calls).length / ch) ps := by
  obtain ⟨ps, hrun, hinv⟩ := run_inv enc hfl conv ch hch (fileVals enc conv calls) calls 0 [] (mkPeaks ch) hgood
    (by rw [Nat.zero_mul, List.drop_zero, List.append_nil]) (allInv_init (fileFmt enc) ch _)
  exact ⟨ps, hrun, by rwa [Nat.zero_add] at hinv⟩

/-- two well-formed histories that put the same patterns into the file end in the same PEAK state -/
theorem run_partition (enc : Enc) (hfl : enc.isFloatData = true) (conv : Conv) (ch : Nat) (hch : 0 < ch)
    (calls1 calls2 : List (Ty × List Int)) (hsame : fileVals enc conv calls1 = fileVals enc conv calls2)
    (hg1 : ∀ call ∈ calls1, WellFormed enc conv ch call) (hg2 : ∀ call ∈ calls2, WellFormed enc conv ch call) :
    run enc conv ch (some (mkPeaks ch)) 0 calls1 = run enc conv ch (some (mkPeaks ch)) 0 calls2 := by
  obtain ⟨ps1, hr1, hi1⟩ := run_allInv enc hfl conv ch hch calls1 hg1
  obtain ⟨ps2, hr2, hi2⟩ := run_allInv enc hfl conv ch hch calls2 hg2
  rw [hsame] at hi1
  rw [hr1, hr2, allInv_unique _ _ _ _ _ _ hi1 hi2]

end Sf.Peak
