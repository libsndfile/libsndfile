/-
  SfProofs.RdwrReopen — re-opening what a read/write session leaves.  `CfgOf` (SfProofs/HandleOpen.lean: the handle
  came from `sf_open` with these parameters) is kept by the steps; `RwView.reopen_image`: the closed file is an image the parser of SfProofs/ContainerParse.lean reads, for a
  read-only open (`Reopened`: exactly the final frames; the theorem `RwView.reopen` is SfProofs/RdwrCor.lean) and for a
  second SFM_RDWR open (`ReopenedRw`, `Opened.reopenedRw`).
-/
import SfProofs.RdwrClose
import SfProofs.ContainerSnap
import SfProofs.RdwrOpen
import SfProofs.RdwrRun
namespace Sf

theorem CfgOf.congr {fmt : Nat} {ch sr : Int} {h h' : H} (c : CfgOf fmt ch sr h) (sc : SameCfg h h') : CfgOf fmt ch sr h' :=
  ⟨by rw [sc.container]; exact c.cont, by rw [sc.container, sc.big, sc.enc]; exact c.enc,
   by rw [sc.container, sc.big]; exact c.big, by rw [sc.fmtWord]; exact c.fmtWord, c.chr, c.srr, by rw [sc.ch]; exact c.hch,
   by rw [sc.sr]; exact c.hsr⟩

/-- `CfgOf` does not read the harness's `canTruncate` flag -/
theorem CfgOf.setTruncate {fmt : Nat} {ch sr : Int} {h : H} (c : CfgOf fmt ch sr h) (b : Bool) :
    CfgOf fmt ch sr { h with canTruncate := b } :=
  ⟨c.cont, c.enc, c.big, c.fmtWord, c.chr, c.srr, c.hch, c.hsr⟩

theorem open_rw_cfg (ix : Nat) (s0 : Store) (fmt : Nat) (ch sr : Int) (h : H) (s : Store)
    (ho : openHandle ix s0 .rw fmt ch sr = .ok h s) (hf : s0.bytes = [] ∨ containerOf fmt = some .raw) :
    CfgOf fmt ch sr h :=
  (openHandle_byArgs ix s0 .rw fmt ch sr h s ho (.inr (hf.imp_left fun he => ⟨rfl, he⟩))).1

theorem hdrLenOf_wav_ct (h : H) (hc : h.container = .wav) (hpk : PeakOk h) :
    hdrLenOf h = wavHdrLen_ct (codecOf h.fmtWord) h.ch h.peak.isSome := by
  rw [hdrLenOf_wav hc]
  cases hp : h.peak with
  | none =>
    simp only [wavHdrLen, hp, wavHdrLen_ct, wavFmtLen]
    simp
  | some ps =>
    obtain ⟨a, b⟩ := hpk ps hp
    simp only [wavHdrLen, hp, wavHdrLen_ct, wavFmtLen, Option.map_some, a, b]
    simp

theorem Opened.peakOk {c : Cfg} {a : Abs} {tail img : List Byte} {m : Mode} {h' : H} {s' : Store} (o : Opened c a tail m img h' s') :
    PeakOk h' :=
  fun ps hp => ⟨by rw [o.ch]; exact o.pkLen ps hp, o.pas⟩

theorem Opened.hdrLenOf {c : Cfg} {a : Abs} {tail img : List Byte} {m : Mode} {h' : H} {s' : Store} (o : Opened c a tail m img h' s') :
    hdrLenOf h' = a.off c := by
  unfold Abs.off
  cases hk : c.container with
  | raw => rw [hdrLenOf_raw (o.cont.trans hk)]
  | au => rw [hdrLenOf_au (o.cont.trans hk)]
  | wav => rw [hdrLenOf_wav_ct h' (o.cont.trans hk) o.peakOk, o.word, (c.word_facts (by rw [hk]; decide)).2, o.ch, o.pkSome]

/-- the handle on an image with at most the pad byte behind the data has the shape the read/write invariant starts from -/
theorem Opened.padded {c : Cfg} {a : Abs} {m : Mode} {h' : H} {s' : Store} {fl : Int} {t2 : Nat}
    (o : Opened c a (zeros t2) m (image c a fl (zeros t2)) h' s') (ha : a.Ok c)
    (ht2 : t2 = 0 ∨ t2 = 1 ∧ c.container = .wav) : OpenPadded h' s' := by
  have hO := o.hdrLenOf
  have eb : h'.bw = c.bw := by unfold H.bw Cfg.bw; rw [o.enc, o.ch]
  have hl := image_length c a ha fl (zeros t2)
  rw [zeros_length] at hl
  refine ⟨by rw [o.doff, hO], o.peakOk, fun hnw => o.dend ?_, t2, by rw [TailOk, o.cont]; exact ht2, ?_, ?_⟩
  · rcases ht2 with rfl | ⟨_, hw⟩
    · rfl
    · exact absurd (o.cont.trans hw) hnw
  · rw [o.bytes, hl, o.doff, o.frames, eb, ha.dlen]; push_cast; rfl
  · rw [o.bytes, hl, Nat.add_sub_cancel]
    exact List.drop_left' (by rw [List.length_append, hdrBytes_length_off c a _ _ ha.pkLen])

/-- what an RDWR open of a file holding the `F` frames `D` (encoding `enc`, `chn` channels) starts from -/
structure ReopenedRw (enc : Enc) (chn F : Nat) (D : List Byte) (h' : H) (s' : Store) : Prop where
  inv : RwInv h' s'
  abs : absOf h' s' = { frames := groups (enc.nbytes * chn) D, rpos := 0, wpos := F }
  frames : h'.frames = (F : Int)
  ch : h'.ch = chn
  enc : h'.enc = enc

theorem Opened.reopenedRw {c : Cfg} {a : Abs} {h' : H} {s' : Store} {fl : Int} {t2 ix : Nat} {s0 : Store} {fmt : Nat} {ch sr : Int}
    (o : Opened c a (zeros t2) .rw (image c a fl (zeros t2)) h' s') (ho : openHandle ix s0 .rw fmt ch sr = .ok h' s')
    (ha : a.Ok c) (ht2 : t2 = 0 ∨ t2 = 1 ∧ c.container = .wav) : ReopenedRw c.enc c.ch a.frames a.data h' s' := by
  have eb : h'.bw = c.bw := by unfold H.bw Cfg.bw; rw [o.enc, o.ch]
  have r := open_rw_facts ix s0 fmt ch sr h' s' ho
  refine ⟨RwInv_open_padded ix s0 fmt ch sr h' s' ho (o.padded ha ht2), ?_, o.frames, o.ch, o.enc⟩
  unfold absOf dataRegion
  rw [o.doff, o.frames, r.rpos, r.wpos, o.frames, Int.toNat_natCast, Int.toNat_natCast, o.bytes, image_drop c a ha, eb, ← ha.dlen,
    List.take_left' rfl]
  rfl

/-- "the re-opened handle `h'` on store `s'` shows the frames `D` of a file whose configuration is `h`'s" -/
structure Reopened (h : H) (F : Nat) (D : List Byte) (h' : H) (s' : Store) : Prop where
  mode : h'.mode = .r
  frames : h'.frames = (F : Int)
  ch : h'.ch = h.ch
  enc : h'.enc = h.enc
  rpos : h'.rpos = 0
  wpos : h'.wpos = 0
  doff : h'.dataoffset = (hdrLenOf h : Nat)
  data : ∃ tail, s'.bytes.drop (hdrLenOf h) = D ++ tail

theorem Reopened.abs {h h' : H} {F : Nat} {D : List Byte} {s' : Store} (r : Reopened h F D h' s')
    (hD : D.length = F * h.bw) : absOf h' s' = { frames := groups h.bw D, rpos := 0, wpos := 0 } := by
  obtain ⟨tail, ht⟩ := r.data
  have eb : h'.bw = h.bw := by unfold H.bw; rw [r.enc, r.ch]
  unfold absOf dataRegion
  rw [r.doff, r.frames, r.rpos, r.wpos, Int.toNat_natCast, Int.toNat_natCast, ht, eb, ← hD, List.take_left' rfl]
  rfl

theorem open_r_wpos (ix : Nat) (s0 : Store) (fmt : Nat) (ch sr : Int) (h : H) (s : Store)
    (ho : openHandle ix s0 .r fmt ch sr = .ok h s) : h.wpos = 0 := by
  rcases openHandle_ok ix s0 .r fmt ch sr h s ho with ⟨c, enc, _, _, _, _, _, hcase⟩ | ⟨p, c, enc, _, _, _, _, _, _, _, rfl⟩
  · rcases hcase with ⟨_, _, rfl⟩ | ⟨_, h1, rfl, _, rfl⟩ | ⟨_, h1, rfl, _, rfl⟩ <;> rfl
  · rfl

theorem hdrLenOf_wav_nopeak (h : H) (hc : h.container = .wav) (hp : h.peak = none) :
    hdrLenOf h = wavHdrLen_ct (codecOf h.fmtWord) h.ch false := by
  simp only [hdrLenOf_wav hc, wavHdrLen, hp, wavHdrLen_ct, wavFmtLen]
  simp

theorem RwView.off_eq {h : H} {s : Store} {R W F : Nat} {hdr D : List Byte} (v : RwView h s R W F hdr D) :
    (viewAbs h F D).off (viewCfg h) = hdrLenOf h := by
  unfold Abs.off
  cases hc : h.container with
  | raw => simp [viewCfg, hdrLenOf_raw, hc]
  | au => simp [viewCfg, hdrLenOf_au, hc]
  | wav => simp [viewCfg, viewAbs, hc, hdrLenOf_wav_ct h hc v.peak]

/-- whatever the container: the file a read/write session leaves behind opens again, for reading or for both, as the image
    of the frames of the view (WAV: with or without the pad byte; `hguard` is the 4 GiB RIFF limit) -/
theorem RwView.reopen_image {h : H} {s : Store} {R W F : Nat} {hdr D : List Byte} (v : RwView h s R W F hdr D)
    (m : Mode) (hm : m ≠ .w) {fmt : Nat} {ch sr : Int} (cfg : CfgOf fmt ch sr h) (hsr : sr ≤ 0x7FFFFFFF)
    (hguard : h.container = .wav → D.length < 0xFFFFFFFF) (ix pos : Nat) :
    ∃ fl t2 h' s', openHandle ix ⟨(closeHandle h s).bytes, pos⟩ m fmt ch sr = .ok h' s' ∧ (t2 = 0 ∨ t2 = 1 ∧ h.container = .wav) ∧
      Opened (viewCfg h) (viewAbs h F D) (zeros t2) m (image (viewCfg h) (viewAbs h F D) fl (zeros t2)) h' s' := by
  have hok : (viewCfg h).Ok :=
    ⟨by rw [← cfg.fmtWord] at cfg; exact cfg.enc, by show 1 ≤ h.ch ∧ h.ch ≤ 1024; rw [cfg.hch]; have := cfg.chr; omega,
      by show 1 ≤ h.sr ∧ h.sr ≤ 0x7FFFFFFF; rw [cfg.hsr]; exact ⟨cfg.srr, hsr⟩⟩
  obtain ⟨fl, t2, hcl, ht2⟩ := v.close_image
  rw [hcl]
  obtain ⟨h', s', ho, o⟩ := image_opened hok _ v.absOk fl _ (zeros_tail ht2) hguard m hm ix pos fmt ch sr (fun _ => cfg.toOpenCfg)
    (fun hnr => by rw [cfg.cont]; exact fun e => hnr (Option.some.inj e))
  exact ⟨fl, t2, h', s', ho, ht2, o⟩

end Sf
