/-
  DWVW encoder lemmas: the byte packer keeps the bit stream (`estream`), the stream of a sample sequence (`codes`),
  the arithmetic of `deltaOf` / `dwmOf` (wrap-around cases).
-/
import SfProofs.DwvwBits
namespace Sf.Dwvw.Proofs
open Sf Sf.Dwvw

/-- everything the writer has produced so far, as bits: emitted bytes in file order, then the reservoir -/
def estream (e : ESt) : List Bool := bytesBits e.out.reverse ++ e.pend

theorem storeBits_spec (e : ESt) (bs : List Bool) :
    estream (storeBits e bs) = estream e ++ bs ∧ (storeBits e bs).pend.length < 8 ∧
      (storeBits e bs).ldw = e.ldw ∧ (storeBits e bs).last = e.last := by
  unfold storeBits estream
  have := drain_spec ((e.pend ++ bs).length / 8 + 1) (e.pend ++ bs) e.out (by omega)
  refine ⟨?_, this.2, rfl, rfl⟩
  simp only [List.append_assoc] at this ⊢
  exact this.1

/-- the bits of a sample sequence, with the encoder state threaded through -/
def codes (c : Cfg) : Int → Int → List Int → List Bool
  | _, _, [] => []
  | ldw, last, x :: xs => (encSample c ldw last x).bits ++ codes c (encSample c ldw last x).ldw (encSample c ldw last x).last xs

/-- `last_delta_width`, `last_sample` after a sample sequence -/
def endSt (c : Cfg) : Int → Int → List Int → Int × Int
  | ldw, last, [] => (ldw, last)
  | ldw, last, x :: xs => endSt c (encSample c ldw last x).ldw (encSample c ldw last x).last xs

theorem codes_append (c : Cfg) (ldw last : Int) (xs ys : List Int) :
    codes c ldw last (xs ++ ys) = codes c ldw last xs ++ codes c (endSt c ldw last xs).1 (endSt c ldw last xs).2 ys := by
  induction xs generalizing ldw last with
  | nil => rfl
  | cons x xs ih => simp [codes, endSt, ih]

theorem encStep_spec (c : Cfg) (e : ESt) (x : Int) :
    estream (encStep c e x) = estream e ++ (encSample c e.ldw e.last x).bits ∧
      (encStep c e x).ldw = (encSample c e.ldw e.last x).ldw ∧ (encStep c e x).last = (encSample c e.ldw e.last x).last := by
  unfold encStep
  have := storeBits_spec e (encSample c e.ldw e.last x).bits
  exact ⟨by simpa [estream] using this.1, rfl, rfl⟩

theorem encodeData_spec (c : Cfg) (e : ESt) (xs : List Int) :
    estream (encodeData c e xs) = estream e ++ codes c e.ldw e.last xs ∧
      (encodeData c e xs).ldw = (endSt c e.ldw e.last xs).1 ∧ (encodeData c e xs).last = (endSt c e.ldw e.last xs).2 := by
  induction xs generalizing e with
  | nil => simp [encodeData, codes, endSt]
  | cons x xs ih =>
    have h := encStep_spec c e x
    have := ih (encStep c e x)
    simp only [encodeData, List.foldl_cons] at this ⊢
    rw [this.1, this.2.1, this.2.2, h.1, h.2.1, h.2.2]
    simp [codes, endSt]

theorem encStep_pend (c : Cfg) (e : ESt) (x : Int) : (encStep c e x).pend.length < 8 := (storeBits_spec e _).2.1

theorem encodeData_pend (c : Cfg) (e : ESt) (xs : List Int) (h : e.pend.length < 8) : (encodeData c e xs).pend.length < 8 :=
  List.foldlRecOn (motive := fun e : ESt => e.pend.length < 8) xs _ h fun e _ x _ => encStep_pend c e x

/-- the file after close: its bits, followed by fewer than eight bits that stay in the reservoir, are the codes of the
    samples and of the twelve zero samples -/
theorem encodeAll_bits (c : Cfg) (xs : List Int) :
    ∃ p : List Bool, p.length < 8 ∧
      bytesBits (encodeAll c xs) ++ p = codes c 0 0 xs ++ codes c (endSt c 0 0 xs).1 (endSt c 0 0 xs).2 (List.replicate 12 0) := by
  let e1 := encodeData c {} xs
  let e2 := encodeData c e1 (List.replicate 12 0)
  refine ⟨e2.pend, encodeData_pend c e1 _ (encodeData_pend c {} xs (by simp)), ?_⟩
  have h1 := encodeData_spec c {} xs
  have h2 := encodeData_spec c e1 (List.replicate 12 0)
  have : estream e2 = bytesBits (encodeAll c xs) ++ e2.pend := rfl
  rw [← this, h2.1, h1.1, h1.2.1, h1.2.2]
  simp [estream, bytesBits]

theorem cmod_wrap (d0 M : Int) (h1 : -(2 * M) < d0) (h2 : d0 < -M) : M + cmod d0 M = d0 + 2 * M := by
  unfold cmod
  rw [if_neg (by omega)]
  have : (-d0) % M = -d0 - M := by
    rw [Int.emod_eq_sub_self_emod]
    exact Int.emod_eq_of_lt (by omega) (by omega)
  omega

/-- magnitude `m` and sign `n` where the case distinction sets no extra bit: the magnitude `max_delta - 1` gets a
    zero one -/
def plain (c : Cfg) (m : Int) (n : Bool) : Delta := ⟨m, n, if m = c.maxDelta - 1 then 0 else -1⟩

/-! `deltaOf` on each range of the raw difference (between two samples of the range it lies strictly between
    `-span` and `span`); the conditions of the case distinction are decided by `omega`. -/

theorem deltaOf_below (c : Cfg) (d0 : Int) (h1 : -(2 * c.maxDelta) < d0) (h2 : d0 < -c.maxDelta) :
    deltaOf c d0 = plain c (d0 + 2 * c.maxDelta) false := by
  simp only [deltaOf, deltaMag, deltaNeg, extra0, plain, if_pos h2, cmod_wrap d0 _ h1 h2, and_true]

theorem deltaOf_negMax (c : Cfg) : deltaOf c (-c.maxDelta) = ⟨c.maxDelta - 1, true, 1⟩ := by
  simp only [deltaOf, deltaMag, deltaNeg, extra0, Int.lt_irrefl, if_false, if_true, Int.reduceEq, and_false]

theorem deltaOf_above (c : Cfg) (hS : c.span = 2 * c.maxDelta) (d0 : Int) (h1 : c.maxDelta < d0)
    (h2 : d0 < 2 * c.maxDelta) : deltaOf c d0 = plain c (2 * c.maxDelta - d0) true := by
  simp (disch := omega) only [deltaOf, deltaMag, deltaNeg, extra0, plain, iabs, hS, if_pos, if_neg, and_true]

theorem deltaOf_max (c : Cfg) (hM : 0 < c.maxDelta) : deltaOf c c.maxDelta = ⟨c.maxDelta - 1, false, 1⟩ := by
  simp (disch := omega) only [deltaOf, deltaMag, deltaNeg, extra0, if_neg, if_true, Int.reduceEq, and_false, if_false]

theorem deltaOf_neg (c : Cfg) (d0 : Int) (h1 : -c.maxDelta < d0) (h2 : d0 < 0) : deltaOf c d0 = plain c (-d0) true := by
  simp (disch := omega) only [deltaOf, deltaMag, deltaNeg, extra0, plain, iabs, if_pos, if_neg, and_true]

theorem deltaOf_nonneg (c : Cfg) (d0 : Int) (h1 : 0 ≤ d0) (h2 : d0 < c.maxDelta) : deltaOf c d0 = plain c d0 false := by
  simp (disch := omega) only [deltaOf, deltaMag, deltaNeg, extra0, plain, if_neg, and_true]

/-- the signed difference that magnitude, sign and extra bit stand for (the decoder reads the extra bit only behind
    the magnitude `max_delta - 1`) -/
def sval (c : Cfg) (r : Delta) : Int :=
  let D : Int := r.delta + (if r.delta = c.maxDelta - 1 then (if r.extra = 1 then 1 else 0) else 0)
  if r.neg then -D else D

/-- what the decoder rebuilds from `last_sample` and the stored delta -/
def recon (c : Cfg) (last : Int) (r : Delta) : Int :=
  let s0 : Int := last + sval c r
  if s0 ≥ c.maxDelta then s0 - c.span else if s0 < -c.maxDelta then s0 + c.span else s0

/-- The stored delta is well formed and the decoder gets `s` back: in every range `deltaOf` stores `s - last` or
    that plus or minus `span`, of magnitude at most `max_delta`, and one wrap-around of `last + sval` undoes that. -/
theorem deltaOf_spec (c : Cfg) (hS : c.span = 2 * c.maxDelta) (hM : 2 ≤ c.maxDelta) (s last : Int)
    (hs : -c.maxDelta ≤ s ∧ s < c.maxDelta) (hl : -c.maxDelta ≤ last ∧ last < c.maxDelta) :
    0 ≤ (deltaOf c (s - last)).delta ∧ (deltaOf c (s - last)).delta ≤ c.maxDelta - 1 ∧
      ((deltaOf c (s - last)).extra = -1 ∨ (deltaOf c (s - last)).extra = 0 ∨ (deltaOf c (s - last)).extra = 1) ∧
      ((deltaOf c (s - last)).extra ≥ 0 ↔ (deltaOf c (s - last)).delta = c.maxDelta - 1) ∧
      recon c last (deltaOf c (s - last)) = s := by
  unfold recon sval
  by_cases h1 : s - last < -c.maxDelta
  · rw [deltaOf_below c _ (by omega) h1]
    simp only [plain, hS, Bool.false_eq_true, if_false]
    omega
  by_cases h2 : s - last = -c.maxDelta
  · rw [h2, deltaOf_negMax]
    simp only [hS, if_true, or_true, iff_true, true_and]
    omega
  by_cases h3 : s - last > c.maxDelta
  · rw [deltaOf_above c hS _ h3 (by omega)]
    simp only [plain, hS, if_true]
    omega
  by_cases h4 : s - last = c.maxDelta
  · rw [h4, deltaOf_max c (by omega)]
    simp only [hS, Bool.false_eq_true, if_false, if_true, or_true, iff_true, true_and]
    omega
  by_cases h5 : s - last < 0
  · rw [deltaOf_neg c _ (by omega) h5]
    simp only [plain, hS, if_true]
    omega
  rw [deltaOf_nonneg c _ (by omega) (by omega)]
  simp only [plain, hS, Bool.false_eq_true, if_false]
  omega

theorem ok_cases (c : Cfg) (hw : c.ok) : c = ⟨12⟩ ∨ c = ⟨16⟩ ∨ c = ⟨24⟩ := by
  obtain ⟨w⟩ := c
  simpa [Cfg.ok] using hw

theorem cfg_consts (c : Cfg) (hw : c.ok) :
    c.span = 2 * c.maxDelta ∧ 2 ≤ c.maxDelta ∧ c.maxDelta ≤ 2 ^ 23 ∧ (c.maxDelta = 2 ^ (c.w - 1)) ∧ 1 ≤ c.dwmMax ∧
      (c.dwmMax : Int) * 2 = c.w ∧ c.w ≤ 24 ∧ 12 ≤ c.w := by
  rcases ok_cases c hw with rfl | rfl | rfl <;> simp [Cfg.maxDelta, Cfg.span, Cfg.dwmMax]

theorem cmod_small (a b : Int) (h1 : -b < a) (h2 : a < b) : cmod a b = a := by
  unfold cmod
  split
  · exact Int.emod_eq_of_lt (by omega) h2
  · rw [Int.emod_eq_of_lt (by omega) (by omega)]
    omega

/-- The modifier is the difference of the widths, brought into `[-dwm_maxsize, dwm_maxsize]` by one `bit_width`, so
    the decoder's `(last_delta_width + dwm + bit_width) % bit_width` is the new width. -/
theorem dwmOf_spec (c : Cfg) (hK : (c.dwmMax : Int) * 2 = c.w) (dw ldw : Int) (h1 : 0 ≤ dw ∧ dw < c.w)
    (h2 : 0 ≤ ldw ∧ ldw < c.w) :
    iabs (dwmOf c dw ldw) ≤ c.dwmMax ∧ cmod (ldw + dwmOf c dw ldw + c.w) c.w = dw := by
  have hr : (dwmOf c dw ldw = dw - ldw ∨ dwmOf c dw ldw = dw - ldw - c.w ∨ dwmOf c dw ldw = dw - ldw + c.w) ∧
      -(c.dwmMax : Int) ≤ dwmOf c dw ldw ∧ dwmOf c dw ldw ≤ c.dwmMax := by
    unfold dwmOf
    rw [cmod_small (dw - ldw) c.w (by omega) (by omega)]
    simp only
    omega
  generalize dwmOf c dw ldw = r at hr ⊢
  refine ⟨by unfold iabs; omega, ?_⟩
  unfold cmod
  rw [if_pos (by omega)]
  rcases hr.1 with e | e | e
  · rw [show ldw + r + c.w = dw + c.w by omega, Int.add_emod_right, Int.emod_eq_of_lt h1.1 h1.2]
  · rw [show ldw + r + c.w = dw by omega, Int.emod_eq_of_lt h1.1 h1.2]
  · rw [show ldw + r + c.w = dw + c.w + c.w by omega, Int.add_emod_right, Int.add_emod_right,
      Int.emod_eq_of_lt h1.1 h1.2]

end Sf.Dwvw.Proofs
