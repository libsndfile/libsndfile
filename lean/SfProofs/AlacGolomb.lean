/-
  SfProofs.AlacGolomb — the adaptive Golomb codes of ag_enc.c / ag_dec.c symbol by symbol: the 32-bit window over a code
  followed by anything, `lead`, and `dyn_get_32bit (dyn_code_32bit n) = n`, `dyn_get (dyn_code n) = n`.
-/
import SfProofs.AlacBits
import SfModel.AlacEnc
namespace Sf.AlacCore

theorem two_pow_le32 {a : Nat} (ha : a ≤ 32) : 2 ^ a ≤ 4294967296 :=
  Nat.le_trans (Nat.pow_le_pow_right (by decide) ha) (by norm_num)

theorem rdBits_add (b : Nat) : ∀ (a : Nat) (bs : Bits) (acc : Nat),
    rdBits (a + b) bs acc = rdBits b (rdBits a bs acc).2 (rdBits a bs acc).1
  | 0, bs, acc => by simp [rdBits]
  | a + 1, [], acc => by rw [show a + 1 + b = (a + b) + 1 by omega, rdBits, rdBits, rdBits_add b a]
  | a + 1, x :: xs, acc => by rw [show a + 1 + b = (a + b) + 1 by omega, rdBits, rdBits, rdBits_add b a]

theorem window_code (val L off : Nat) (rest : Bits) (hL : L + off ≤ 32) :
    ∃ t, t < 2 ^ (32 - L) ∧ window (bitsOf val L ++ rest) off = val % 2 ^ L * 2 ^ (32 - L) + t := by
  unfold window
  have e : 32 - off = L + (32 - off - L) := by omega
  have h1 : rdBits (32 - off) (bitsOf val L ++ rest) 0 = rdBits (32 - off - L) rest (val % 2 ^ L) := by
    rw [e, rdBits_add, rdBits_bitsOf]; simp
  rw [h1, rdBits_acc]
  refine ⟨(rdBits (32 - off - L) rest 0).1 * 2 ^ off, ?_, ?_⟩
  · have := rdBits_lt (32 - off - L) rest
    calc (rdBits (32 - off - L) rest 0).1 * 2 ^ off < 2 ^ (32 - off - L) * 2 ^ off := Nat.mul_lt_mul_of_pos_right this (Nat.pow_pos (by decide))
      _ = 2 ^ (32 - L) := by rw [← Nat.pow_add]; congr 1; omega
  · simp only
    rw [Nat.add_mul, Nat.mul_assoc, ← Nat.pow_add]
    congr 3; omega

theorem leadFrom_bounds : ∀ (k m : Nat), 32 - k ≤ leadFrom k m ∧ leadFrom k m ≤ 32
  | 0, _ => by simp [leadFrom]
  | k + 1, m => by rw [leadFrom]; split <;> [omega; (have := leadFrom_bounds k m; omega)]

theorem leadFrom_skip : ∀ (k j m : Nat), j ≤ k → m < 2 ^ j → leadFrom k m = leadFrom j m
  | 0, j, m, h, _ => by have : j = 0 := by omega
                        subst this; rfl
  | k + 1, j, m, h, hm => by
    by_cases hj : j = k + 1
    · subst hj; rfl
    · rw [leadFrom]
      have : m / 2 ^ k = 0 := Nat.div_eq_of_lt (Nat.lt_of_lt_of_le hm (Nat.pow_le_pow_right (by decide) (by omega)))
      simp only [this, Nat.zero_mod, Nat.zero_ne_one, if_false]
      exact leadFrom_skip k j m (by omega) hm

theorem leadFrom_top (k m : Nat) (h1 : 2 ^ k ≤ m) (h2 : m < 2 ^ (k + 1)) : leadFrom (k + 1) m = 31 - k := by
  rw [leadFrom]
  have : m / 2 ^ k = 1 := by
    apply Nat.div_eq_of_lt_le
    · simpa using h1
    · rw [Nat.pow_succ] at h2; omega
  simp [this]

theorem lead_eq (m d : Nat) (hd : d < 32) (h1 : 2 ^ (31 - d) ≤ m) (h2 : m < 2 ^ (32 - d)) : lead m = d := by
  unfold lead
  have hm : m < 4294967296 := Nat.lt_of_lt_of_le h2 (two_pow_le32 (Nat.sub_le 32 d))
  rw [Nat.mod_eq_of_lt hm, leadFrom_skip 32 (32 - d) m (by omega) h2]
  have := leadFrom_top (31 - d) m h1 (by rw [show 31 - d + 1 = 32 - d by omega]; exact h2)
  rw [show 31 - d + 1 = 32 - d by omega] at this
  rw [this]; omega

theorem lead_ge (m j : Nat) (hj : j ≤ 32) (h : m < 2 ^ (32 - j)) : j ≤ lead m := by
  unfold lead
  have hm : m < 4294967296 := Nat.lt_of_lt_of_le h (two_pow_le32 (Nat.sub_le 32 j))
  rw [Nat.mod_eq_of_lt hm, leadFrom_skip 32 (32 - j) m (by omega) h]
  have := leadFrom_bounds (32 - j) m; omega

theorem leadOnes_eq (w d : Nat) (hd : d < 32) (h1 : 4294967296 - 2 ^ (32 - d) ≤ w) (h2 : w < 4294967296 - 2 ^ (31 - d)) : leadOnes w = d := by
  unfold leadOnes
  have hp : 2 ^ (31 - d) ≥ 1 := Nat.pow_pos (by decide)
  rw [Nat.mod_eq_of_lt (by omega)]
  apply lead_eq _ d hd
  · omega
  · have := two_pow_le32 (Nat.sub_le 32 d)
    omega

theorem leadOnes_ge9 (w : Nat) (h1 : 4294967296 - 8388608 ≤ w) (h2 : w < 4294967296) : 9 ≤ leadOnes w := by
  unfold leadOnes
  rw [Nat.mod_eq_of_lt h2]
  apply lead_ge _ 9 (by decide)
  norm_num; omega

theorem two_pow_split (a b : Nat) (h : b ≤ a) : 2 ^ a = 2 ^ b * 2 ^ (a - b) := by
  rw [← Nat.pow_add]; congr 1; omega

/-- `d` ones, a zero, then anything below: the prefix length and the `k` bits behind the zero -/
theorem prefix_window (d k P : Nat) (hd : d < 32) (hk : k ≤ 31 - d) (hP : P < 2 ^ (31 - d)) :
    leadOnes (4294967296 - 2 ^ (32 - d) + P) = d ∧
    ((4294967296 - 2 ^ (32 - d) + P) * 2 ^ (d + 1) % 4294967296) / 2 ^ (32 - k) = P / 2 ^ (31 - d - k) := by
  have e1 : 2 ^ (32 - d) = 2 * 2 ^ (31 - d) := by rw [← Nat.pow_succ']; congr 1; omega
  have e2 := two_pow_le32 (Nat.sub_le 32 d)
  constructor
  · apply leadOnes_eq _ d hd <;> omega
  · -- (2^32 - 2^(32-d)) * 2^(d+1) is a multiple of 2^32
    have e3 : 2 ^ (32 - d) * 2 ^ (d + 1) = 2 * 4294967296 := by
      rw [← Nat.pow_add, show 32 - d + (d + 1) = 33 by omega]
    have e4 : 4294967296 * 2 ^ (d + 1) = 4294967296 * (2 ^ (d + 1) - 2) + 2 * 4294967296 := by
      have : 1 < 2 ^ (d + 1) := Nat.one_lt_two_pow (by omega)
      omega
    have e5 : (4294967296 - 2 ^ (32 - d) + P) * 2 ^ (d + 1) = 4294967296 * (2 ^ (d + 1) - 2) + P * 2 ^ (d + 1) := by
      have h : 4294967296 - 2 ^ (32 - d) + 2 ^ (32 - d) = 4294967296 := by omega
      have := congrArg (· * 2 ^ (d + 1)) h
      simp only [Nat.add_mul] at this
      rw [Nat.add_mul]; omega
    have e6 : P * 2 ^ (d + 1) < 4294967296 := by
      calc P * 2 ^ (d + 1) < 2 ^ (31 - d) * 2 ^ (d + 1) := Nat.mul_lt_mul_of_pos_right hP (Nat.pow_pos (by decide))
        _ = 4294967296 := by rw [← Nat.pow_add, show 31 - d + (d + 1) = 32 by omega]
    rw [e5, Nat.mul_add_mod, Nat.mod_eq_of_lt e6]
    -- P * 2^(d+1) / 2^(32-k) = P / 2^(31-d-k)
    rw [two_pow_split (32 - k) (d + 1) (by omega), show 32 - k - (d + 1) = 31 - d - k by omega, Nat.mul_comm P,
      Nat.mul_div_mul_left _ _ (Nat.pow_pos (by decide))]

/-- the window over a code word `d` ones, a zero, payload `p` in `L - d - 1` bits: prefix length and the `k` bits behind the zero -/
theorem code_window (d k L p off : Nat) (rest : Bits) (hd : d < 9) (hL : L + off ≤ 32) (hdL : d + 1 ≤ L)
    (hp : p < 2 ^ (L - d - 1)) (hk : d + k ≤ L) (hL31 : L ≤ 31) :
    ∃ t, t < 2 ^ (32 - L) ∧
      leadOnes (window (bitsOf ((2 ^ d - 1) * 2 ^ (L - d) + p) L ++ rest) off) = d ∧
      (window (bitsOf ((2 ^ d - 1) * 2 ^ (L - d) + p) L ++ rest) off * 2 ^ (d + 1) % 4294967296) / 2 ^ (32 - k) =
        (p * 2 ^ (32 - L) + t) / 2 ^ (31 - d - k) := by
  have hV : (2 ^ d - 1) * 2 ^ (L - d) + p < 2 ^ L := by
    have : 2 ^ L = 2 ^ d * 2 ^ (L - d) := two_pow_split L d (by omega)
    have h2 : 2 ^ (L - d) = 2 * 2 ^ (L - d - 1) := by rw [← Nat.pow_succ']; congr 1; omega
    have h3 : (2 ^ d - 1) * 2 ^ (L - d) + 2 ^ (L - d) = 2 ^ d * 2 ^ (L - d) := by
      have : 1 ≤ 2 ^ d := Nat.pow_pos (by decide)
      rw [← Nat.succ_mul]; congr 1; omega
    omega
  obtain ⟨t, ht, hw⟩ := window_code ((2 ^ d - 1) * 2 ^ (L - d) + p) L off rest hL
  refine ⟨t, ht, ?_⟩
  rw [Nat.mod_eq_of_lt hV] at hw
  have hP : p * 2 ^ (32 - L) + t < 2 ^ (31 - d) := by
    calc p * 2 ^ (32 - L) + t < (p + 1) * 2 ^ (32 - L) := by rw [Nat.succ_mul]; omega
      _ ≤ 2 ^ (L - d - 1) * 2 ^ (32 - L) := Nat.mul_le_mul_right _ hp
      _ = 2 ^ (31 - d) := by rw [← Nat.pow_add]; congr 1; omega
  have hw2 : window (bitsOf ((2 ^ d - 1) * 2 ^ (L - d) + p) L ++ rest) off = 4294967296 - 2 ^ (32 - d) + (p * 2 ^ (32 - L) + t) := by
    rw [hw, Nat.add_mul, Nat.mul_assoc, ← Nat.pow_add, show L - d + (32 - L) = 32 - d by omega, Nat.add_assoc]
    congr 1
    have : 2 ^ d * 2 ^ (32 - d) = 4294967296 := by rw [← Nat.pow_add, show d + (32 - d) = 32 by omega]
    rw [Nat.sub_mul, this]; simp
  rw [hw2]
  exact prefix_window d k (p * 2 ^ (32 - L) + t) (by omega) (by omega) hP

/-- a regular code word — `d` ones, a zero, then `k - 1` zero bits for remainder 0, the `k` bits of `md + 1` otherwise — in the
    window: the prefix length, and the `k` bits behind the zero (0 or 1 for remainder 0: the last of them belongs to what follows) -/
theorem codeWord_window (d k md off : Nat) (rest : Bits) (hd : d < 9) (hk1 : 1 ≤ k) (hmd : md < 2 ^ k - 1) (hoff : off < 8)
    (hL : ¬ d + k + 1 - (if md = 0 then 1 else 0) > 25) :
    leadOnes (window (bitsOf ((2 ^ d - 1) * 2 ^ (d + k + 1 - (if md = 0 then 1 else 0) - d) + md + 1 - (if md = 0 then 1 else 0))
        (d + k + 1 - (if md = 0 then 1 else 0)) ++ rest) off) = d ∧
    (if md = 0 then
      (window (bitsOf ((2 ^ d - 1) * 2 ^ (d + k + 1 - 1 - d) + md + 1 - 1) (d + k + 1 - 1) ++ rest) off * 2 ^ (d + 1) % 4294967296) / 2 ^ (32 - k) < 2
    else
      (window (bitsOf ((2 ^ d - 1) * 2 ^ (d + k + 1 - 0 - d) + md + 1 - 0) (d + k + 1 - 0) ++ rest) off * 2 ^ (d + 1) % 4294967296) / 2 ^ (32 - k) = md + 1) := by
  by_cases hz : md = 0
  · simp only [hz, if_true] at hL ⊢
    rw [show d + k + 1 - 1 = d + k by omega, show (2 ^ d - 1) * 2 ^ (d + k - d) + 0 + 1 - 1 = (2 ^ d - 1) * 2 ^ (d + k - d) + 0 by omega]
    obtain ⟨t, ht, hpre, hv⟩ := code_window d k (d + k) 0 off rest hd (by omega) (by omega)
      (by rw [show d + k - d - 1 = k - 1 by omega]; exact Nat.pow_pos (by decide)) (by omega) (by omega)
    refine ⟨hpre, ?_⟩
    rw [hv, Nat.zero_mul, Nat.zero_add, Nat.div_lt_iff_lt_mul (Nat.pow_pos (by decide))]
    calc t < 2 ^ (32 - (d + k)) := ht
      _ = 2 * 2 ^ (31 - d - k) := by rw [← Nat.pow_succ']; congr 1; omega
  · simp only [hz, if_false, Nat.sub_zero] at hL ⊢
    obtain ⟨t, ht, hpre, hv⟩ := code_window d k (d + k + 1) (md + 1) off rest hd (by omega) (by omega)
      (by rw [show d + k + 1 - d - 1 = k by omega]; omega) (by omega) (by omega)
    rw [show (2 ^ d - 1) * 2 ^ (d + k + 1 - d) + md + 1 = (2 ^ d - 1) * 2 ^ (d + k + 1 - d) + (md + 1) by omega]
    refine ⟨hpre, ?_⟩
    rw [show 32 - (d + k + 1) = 31 - d - k by omega] at ht hv
    rw [hv, Nat.mul_comm, Nat.mul_add_div (Nat.pow_pos (by decide)), Nat.div_eq_of_lt ht, Nat.add_zero]

/-- the escape code of a zero run: 9 ones, then the run length in 16 bits -/
theorem escRun (n off m k : Nat) (rest : Bits) (hoff : off < 8) (hn : n < 65536) :
    dynGet (bitsOf (511 * 65536 + n) 25 ++ rest) off m k = (n, 25) := by
  unfold dynGet
  obtain ⟨t, ht, hw⟩ := window_code (511 * 65536 + n) 25 off rest (by omega)
  generalize window (bitsOf (511 * 65536 + n) 25 ++ rest) off = W at hw ⊢
  simp only [Nat.reducePow, Nat.reduceSub, Nat.reduceMul] at ht hw
  rw [Nat.mod_eq_of_lt (by omega)] at hw
  have hp : 9 ≤ leadOnes W := by rw [hw]; exact leadOnes_ge9 _ (by omega) (by omega)
  simp only [hp, if_true, Nat.reducePow, Nat.reduceAdd, Prod.mk.injEq, and_true]
  omega

/-- `dyn_get (dyn_code (n)) = n` for a run length below 65536 and `m = 2^k - 1`, 1 ≤ k -/
theorem dynGet_dynCode (k n off : Nat) (rest : Bits) (hk1 : 1 ≤ k) (hoff : off < 8) (hn : n < 65536) :
    dynGet (dynCode (2 ^ k - 1) k n ++ rest) off (2 ^ k - 1) k = (n, (dynCode (2 ^ k - 1) k n).length) := by
  have hm2 : 1 < 2 ^ k := Nat.one_lt_two_pow (by omega)
  have hmpos : 0 < 2 ^ k - 1 := by omega
  unfold dynCode
  simp only []
  by_cases hd : n / (2 ^ k - 1) ≥ 9
  · simp only [hd, if_true, bitsOf_length]; exact escRun n off _ k rest hoff hn
  · simp only [hd, if_false]
    have hmdlt : n % (2 ^ k - 1) < 2 ^ k - 1 := Nat.mod_lt _ hmpos
    have hn' : n = (n / (2 ^ k - 1)) * (2 ^ k - 1) + n % (2 ^ k - 1) := by
      have := Nat.div_add_mod n (2 ^ k - 1); rw [Nat.mul_comm] at this; omega
    have hd9 : n / (2 ^ k - 1) < 9 := by omega
    generalize n / (2 ^ k - 1) = d at hd9 hn' ⊢
    generalize n % (2 ^ k - 1) = md at hmdlt hn' ⊢
    by_cases hbig : d + k + 1 - (if md = 0 then 1 else 0) > 25
    · simp only [hbig, if_true, bitsOf_length]; exact escRun n off _ k rest hoff hn
    · simp only [hbig, if_false, bitsOf_length]
      obtain ⟨hpre, hv⟩ := codeWord_window d k md off rest hd9 hk1 hmdlt hoff hbig
      unfold dynGet
      simp only [hpre, show ¬ (d ≥ 9) by omega, if_false]
      by_cases hz : md = 0
      · simp only [hz, if_true] at hv hn' ⊢
        simp only [hv, if_true, Prod.mk.injEq]
        omega
      · simp only [hz, if_false] at hv hn' ⊢
        simp only [hv, show ¬ (md + 1 < 2) by omega, if_false, Prod.mk.injEq]
        refine ⟨?_, by omega⟩
        unfold u32 wrapU
        simp only [Int.reducePow]
        omega

theorem esc32 (maxbits n off m k : Nat) (rest : Bits) (hoff : off < 8) (hn : n < 2 ^ maxbits) :
    dynGet32 ((bitsOf 511 9 ++ bitsOf n maxbits) ++ rest) off m k maxbits = (n, (bitsOf 511 9 ++ bitsOf n maxbits).length) := by
  unfold dynGet32
  rw [List.append_assoc]
  obtain ⟨t, ht, hw⟩ := window_code 511 9 off (bitsOf n maxbits ++ rest) (by omega)
  simp only [Nat.reducePow, Nat.reduceMod, Nat.reduceSub, Nat.reduceMul] at ht hw
  have hp : 9 ≤ leadOnes (window (bitsOf 511 9 ++ (bitsOf n maxbits ++ rest)) off) := by
    rw [hw]; exact leadOnes_ge9 _ (by omega) (by omega)
  simp only [hp, ge_iff_le, if_true]
  rw [List.drop_left' (bitsOf_length 511 9), rdBits_bitsOf]
  simp [bitsOf_length, Nat.mod_eq_of_lt hn]

/-- `dyn_get_32bit (dyn_code_32bit (n)) = n`, whatever follows the code: every Golomb parameter `k ≥ 1` (`m = 2^k - 1`),
    every bit index, every value below `2^maxbits` -/
theorem dynGet32_dynCode32 (maxbits k n off : Nat) (rest : Bits) (hk1 : 1 ≤ k) (hoff : off < 8) (hn : n < 2 ^ maxbits) :
    dynGet32 (dynCode32 maxbits (2 ^ k - 1) k n ++ rest) off (2 ^ k - 1) k maxbits = (n, (dynCode32 maxbits (2 ^ k - 1) k n).length) := by
  have hm2 : 1 < 2 ^ k := Nat.one_lt_two_pow (by omega)
  have hmpos : 0 < 2 ^ k - 1 := by omega
  unfold dynCode32
  simp only []
  by_cases hd : n / (2 ^ k - 1) < 9
  · simp only [hd, if_true]
    have hmd : n - (2 ^ k - 1) * (n / (2 ^ k - 1)) = n % (2 ^ k - 1) := by
      have := Nat.div_add_mod n (2 ^ k - 1); omega
    rw [hmd]
    have hmdlt : n % (2 ^ k - 1) < 2 ^ k - 1 := Nat.mod_lt _ hmpos
    have hn' : n = (n / (2 ^ k - 1)) * (2 ^ k - 1) + n % (2 ^ k - 1) := by
      have := Nat.div_add_mod n (2 ^ k - 1); rw [Nat.mul_comm] at this; omega
    generalize n / (2 ^ k - 1) = d at hd hn' ⊢
    generalize n % (2 ^ k - 1) = md at hmdlt hn' ⊢
    by_cases hbig : d + k + 1 - (if md = 0 then 1 else 0) > 25
    · simp only [hbig, if_true]; exact esc32 maxbits n off _ k rest hoff hn
    · simp only [hbig, if_false, bitsOf_length]
      obtain ⟨hpre, hv⟩ := codeWord_window d k md off rest hd hk1 hmdlt hoff hbig
      unfold dynGet32
      simp only [hpre, show ¬ (d ≥ 9) by omega, if_false]
      by_cases hz : md = 0
      · -- the remainder is zero: with k = 1 there are no bits behind the zero
        simp only [hz, if_true] at hv hn' ⊢
        by_cases hk : k = 1
        · subst hk; simp at hn' ⊢; omega
        · simp only [hk, ne_eq, not_false_eq_true, if_true, show ¬ (_ ≥ 2) from Nat.not_le.mpr hv, if_false, Prod.mk.injEq]
          omega
      · simp only [hz, if_false] at hv hn' ⊢
        have hk : k ≠ 1 := by intro h; subst h; simp at hmdlt; omega
        simp only [hk, ne_eq, not_false_eq_true, if_true, hv, show md + 1 ≥ 2 by omega, Prod.mk.injEq]
        omega
  · simp only [hd, if_false]
    exact esc32 maxbits n off _ k rest hoff hn

end Sf.AlacCore
