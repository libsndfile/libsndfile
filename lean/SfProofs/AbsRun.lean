/-
  Accepted transcripts: what a sequence of accepted reads delivers (the concatenation is a slice of the reference
  stream), the invariant of read-only histories line by line (`check_RInv`; along transcripts:
  C05Abs.read_only_invariant), and `holdsFrom` against `accepts`.
-/
import SfProofs.AbsMeaning
import SfProofs.AbsSeq
namespace Sf.Abs

/-- one read call of a transcript: call variant, count, answer -/
abbrev RdLine := Bool × Int × Out

def rdTr (ty : Ty) (rds : List RdLine) : List (Op × Out) := rds.map fun r => (Op.read ty r.1 r.2.1, r.2.2)

/-- the cells a read call delivered: the first `r` items of the caller's buffer -/
def delivered (g : Geom) (ty : Ty) (r : RdLine) : Array Item := r.2.2.data.extract 0 (retItems g r.1 r.2.2.ret * cells ty)

def deliveredAll (g : Geom) (ty : Ty) : List RdLine → Array Item
  | [] => #[]
  | r :: rs => delivered g ty r ++ deliveredAll g ty rs

theorem whole_frames_cells (g : Geom) (ty : Ty) (items : Nat) (h : items % g.ch = 0) :
    items * cells ty = items / g.ch * g.cpf ty := by
  rw [g.mul_cpf, Nat.div_mul_cancel (Nat.dvd_of_mod_eq_zero h)]

theorem read_step (g : Geom) (st : St) (ty : Ty) (r : RdLine) (st1 : St)
    (hv : validReq g r.1 r.2.1 = true) (hm : st.mode = .r) (hval : st.valid ty = true) (hle : st.rpos ≤ st.frames)
    (h : check g st (Op.read ty r.1 r.2.1) r.2.2 = .ok st1) :
    delivered g ty r = (st.ref ty).extract (st.rpos * g.cpf ty) (st1.rpos * g.cpf ty) ∧
    st.rpos ≤ st1.rpos ∧ st1.rpos ≤ st.frames ∧ st1.frames = st.frames ∧ st1.ref = st.ref ∧ st1.valid = st.valid ∧
    st1.mode = .r ∧ (r.2.2.ret < r.2.1 → st1.rpos = st.frames) := by
  obtain ⟨fc, n, o⟩ := r
  simp only [check] at h
  simp only at hv
  have hr : ReadReq g st fc n := ⟨hv, by rw [hm]; decide⟩
  obtain ⟨h0, h1, hw, hs, he, heof, hmain⟩ := readOk_valid g st ty fc n o st1 hr h
  unfold delivered
  simp only
  by_cases hend : st.frames ≤ st.rpos
  · obtain ⟨hz, _, hst⟩ := heof hend
    subst hst
    have : retItems g fc o.ret = 0 := by unfold retItems; rw [hz]; simp
    rw [this]
    refine ⟨?_, Nat.le_refl _, hle, rfl, rfl, rfl, hm, fun _ => by simp only; omega⟩
    rw [Array.extract_eq_empty_of_le (by simp), Array.extract_eq_empty_of_le (Nat.min_le_left _ _)]
  · obtain ⟨hst, hin, hdat, hshort⟩ := hmain (by omega)
    subst hst
    have hcells := whole_frames_cells g ty (retItems g fc o.ret) hw
    have hx := sliceEq_extract _ _ _ _ _ (hdat hval)
    refine ⟨?_, Nat.le_add_right _ _, hin, rfl, rfl, rfl, hm, fun hlt => hshort hlt⟩
    simp only
    rw [Nat.zero_add] at hx
    rw [hx, hcells, Nat.add_mul]

/-- C06, partition independence in its general form: any accepted sequence of valid reads, of any sizes, items or
    frames calls -/
theorem reads_concat (g : Geom) (ty : Ty) : ∀ (rds : List RdLine) (st st' : St),
    (∀ r ∈ rds, validReq g r.1 r.2.1 = true) → st.mode = .r → st.valid ty = true → st.rpos ≤ st.frames →
    accepts g st (rdTr ty rds) = some st' →
    deliveredAll g ty rds = (st.ref ty).extract (st.rpos * g.cpf ty) (st'.rpos * g.cpf ty) ∧
    st.rpos ≤ st'.rpos ∧ st'.rpos ≤ st.frames ∧ st'.frames = st.frames ∧ st'.ref = st.ref ∧ st'.mode = .r := by
  intro rds
  induction rds with
  | nil =>
    intro st st' _ hm _ hle h
    simp only [rdTr, List.map_nil, accepts] at h
    injection h with h; subst h
    refine ⟨?_, Nat.le_refl _, hle, rfl, rfl, hm⟩
    simp only [deliveredAll]
    rw [Array.extract_eq_empty_of_le (Nat.min_le_left _ _)]
  | cons r rs ih =>
    intro st st' hv hm hval hle h
    simp only [rdTr, List.map_cons, accepts] at h
    split at h
    · rename_i st1 hc
      obtain ⟨hd, h1, h2, h3, h4, h5, h6, _⟩ := read_step g st ty r st1 (hv r (by simp)) hm hval hle hc
      have := ih st1 st' (fun x hx => hv x (by simp [hx])) h6 (by rw [h5]; exact hval) (by rw [h3]; exact h2) h
      obtain ⟨hd', g1, g2, g3, g4, g5⟩ := this
      refine ⟨?_, by omega, by rw [h3] at g2; exact g2, by rw [g3, h3], by rw [g4, h4], g5⟩
      simp only [deliveredAll]
      rw [hd, hd', h4, Array.extract_append_extract]
      have a1 : st.rpos * g.cpf ty ≤ st1.rpos * g.cpf ty := Nat.mul_le_mul_right _ h1
      have a2 : st1.rpos * g.cpf ty ≤ st'.rpos * g.cpf ty := Nat.mul_le_mul_right _ g1
      rw [Nat.min_eq_left a1, Nat.max_eq_right a2]
    · exact absurd h (by simp)

/-- a read-only handle inside its file; an accepted history of read-only operations keeps it and never changes the file
    (`check_RInv`) -/
def RInv (st : St) : Prop := st.mode = .r ∧ st.rpos ≤ st.frames

def rdOnly : Op → Bool
  | .read _ _ _ | .seek _ _ | .rawRead _ | .info | .other | .close => true
  | _ => false

theorem check_rdOnly (g : Geom) (st : St) (op : Op) (o : Out) (st' : St) (hop : rdOnly op = true)
    (h : check g st op o = .ok st') :
    ∃ r w e, st' = { st with rpos := r, wpos := w, err := e } ∧ (st.mode = .r → st.rpos ≤ st.frames → r ≤ st.frames) ∧
      ((∀ off wh, op ≠ .seek off wh) → w = st.wpos) := by
  cases op with
  | read ty fc n =>
    obtain ⟨p, e, rfl, hp⟩ := readOk_frame g st ty fc n o st' h
    exact ⟨p, _, e, rfl, fun _ => hp, fun _ => rfl⟩
  | rawRead n =>
    obtain ⟨p, e, rfl, hp⟩ := rawReadOk_frame g st n o st' h
    exact ⟨p, _, e, rfl, fun _ => hp, fun _ => rfl⟩
  | seek off whence =>
    rcases seekOk_ok g st off whence o st' h with ⟨_, _, rfl⟩ | ⟨t, _, ht, _, _, rfl⟩
    · exact ⟨_, _, _, rfl, fun _ hle => hle, fun hx => absurd rfl (hx off whence)⟩
    · refine ⟨(seekMove st whence t).rpos, (seekMove st whence t).wpos, false, ?_, fun hm _ => ?_,
        fun hx => absurd rfl (hx off whence)⟩
      · unfold seekMove; split
        · rfl
        · split <;> rfl
      · obtain ⟨b, _, _, hb, _⟩ := seekTarget_some st off whence t ht
        rw [seekMove_rpos_r st off whence t hm ht]; exact hb hm
  | info =>
    obtain ⟨_, rfl⟩ := (infoOk_eq_ok_iff st o st').mp h
    exact ⟨_, _, _, rfl, fun _ hle => hle, fun _ => rfl⟩
  | close =>
    obtain ⟨_, rfl⟩ := (closeOk_eq_ok_iff st o st').mp h
    exact ⟨_, _, _, rfl, fun _ hle => hle, fun _ => rfl⟩
  | other =>
    injection h with h; subst h; exact ⟨_, _, _, rfl, fun _ hle => hle, fun _ => rfl⟩
  | write _ _ _ _ => cases hop
  | trunc _ => cases hop
  | rawWrite _ _ => cases hop
  | reopen _ => cases hop

theorem check_RInv (g : Geom) (st : St) (op : Op) (o : Out) (st' : St) (hi : RInv st) (hop : rdOnly op = true)
    (h : check g st op o = .ok st') :
    RInv st' ∧ st'.frames = st.frames ∧ st'.ref = st.ref ∧ st'.valid = st.valid := by
  obtain ⟨r, w, e, rfl, hr, _⟩ := check_rdOnly g st op o st' hop h
  exact ⟨⟨hi.1, hr hi.1 hi.2⟩, rfl, rfl, rfl⟩

theorem accepts_invariant {g : Geom} {P : St → Prop} {Q : Op → Prop}
    (step : ∀ st op o st', P st → Q op → check g st op o = .ok st' → P st') :
    ∀ (tr : List (Op × Out)) (st st' : St), P st → (∀ l ∈ tr, Q l.1) → accepts g st tr = some st' → P st' := by
  intro tr
  induction tr with
  | nil => intro st st' hp _ h; simp only [accepts] at h; injection h with h; exact h ▸ hp
  | cons l tr ih =>
    intro st st' hp hq h
    simp only [accepts] at h
    split at h
    · rename_i st1 hc
      exact ih st1 st' (step st l.1 l.2 st1 hp (hq l (by simp)) hc) (fun x hx => hq x (by simp [hx])) h
    · exact absurd h (by simp)

theorem holdsFrom_ok_iff (g : Geom) : ∀ (tr : List (Op × Out)) (k : Nat) (st : St) (n : Nat),
    holdsFrom g k st tr = .ok n ↔ (∃ st', accepts g st tr = some st') ∧ n = k + tr.length := by
  intro tr
  induction tr with
  | nil =>
    intro k st n
    simp only [holdsFrom, accepts, List.length_nil, Nat.add_zero]
    constructor
    · intro h; injection h with h; exact ⟨⟨st, rfl⟩, h.symm⟩
    · intro ⟨_, h⟩; rw [h]
  | cons l tr ih =>
    intro k st n
    obtain ⟨op, o⟩ := l
    simp only [holdsFrom, accepts, List.length_cons]
    cases hc : check g st op o with
    | ok st1 =>
      simp only
      rw [ih (k + 1) st1 n]
      constructor
      · intro ⟨a, b⟩; exact ⟨a, by omega⟩
      · intro ⟨a, b⟩; exact ⟨a, by omega⟩
    | bad tag r =>
      simp only
      constructor
      · intro h; exact Verdict.noConfusion h
      · intro ⟨⟨_, h⟩, _⟩; cases h
    | skip =>
      simp only
      constructor
      · intro h; exact Verdict.noConfusion h
      · intro ⟨⟨_, h⟩, _⟩; cases h

end Sf.Abs
