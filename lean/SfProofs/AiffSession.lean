/-
  SfProofs.AiffSession — the writer state machine of SfModel.Aiff (open, write calls, header updates, close)
  reduced to the closed forms `closedHdr … ++ data ++ tailBytes` and `snapHdr … ++ data`.
-/
import SfProofs.AiffImage
namespace Sf.Aiff

inductive WOp
  | write (enc : List Byte) (peaks : List Peak) (auto : Bool)     -- one sf_write_* call (encoded bytes, PEAK table after it)
  | update                                                         -- SFC_UPDATE_HEADER_NOW
deriving Repr

def applyOp (c : Cfg) (k : Kind) (s : St) : WOp → St
  | .write enc pk auto => write c k s enc (some pk) auto
  | .update => update c k s

def run (c : Cfg) (k : Kind) (s : St) (ops : List WOp) : St := ops.foldl (applyOp c k) s

/-- the audio bytes a list of calls stores -/
def opsData : List WOp → List Byte
  | [] => []
  | .write enc _ _ :: r => enc ++ opsData r
  | .update :: r => opsData r

theorem hdrRaw_length (c : Cfg) (k : Kind) (ha : accepted c = true) (hk : kindOf c = some k) (fr : Nat) (fl dl : Int)
    (peaks : Option (List Peak)) (hpk : peaks.isSome = c.isFloat) : (hdrRaw c k fr fl dl peaks).length = hdrLen c k := by
  obtain ⟨fenc, _, _, _⟩ := cfg_facts c k ha hk
  unfold hdrRaw hdrLen
  rw [← hpk] at fenc ⊢
  cases peaks <;> cases haifc : k.aifc <;>
    simp only [haifc, if_true, if_false, Bool.false_eq_true, Option.isSome, reduceCtorEq, List.length_append, List.length_cons, List.length_nil,
      mk4_length_FORM, mk4_length_AIFF, mk4_length_AIFC, mk4_length_FVER, mk4_length_COMM, mk4_length_SSND, be32_length, be16_length,
      int2ten_length, peakChunk_length] at fenc ⊢ <;>
    omega

/-- what holds of the writer state between calls -/
structure Inv (c : Cfg) (k : Kind) (s : St) : Prop where
  hlen : s.hdr.length = hdrLen c k
  tail : s.tail = []
  dend : s.dataend = 0
  pk : s.peaks.isSome = c.isFloat

theorem writeHeader_fields (c : Cfg) (k : Kind) (s : St) (b : Bool) :
    (writeHeader c k s b).data = s.data ∧ (writeHeader c k s b).tail = s.tail ∧ (writeHeader c k s b).dataend = s.dataend ∧
    (writeHeader c k s b).peaks = s.peaks := by
  unfold writeHeader   -- a bare `rfl` would first try to unify the new state with the old one, field by field
  exact ⟨rfl, rfl, rfl, rfl⟩

theorem write_peaks (c : Cfg) (k : Kind) (s : St) (enc : List Byte) (pk : Option (List Peak)) (auto : Bool) :
    (write c k s enc pk auto).peaks = if c.isFloat then pk else s.peaks := by
  have h1 : ∀ (b f : Bool) (t : St), (if b then writeHeader c k t f else t).peaks = t.peaks := fun b f t => by
    cases b
    · rfl
    · exact (writeHeader_fields c k t f).2.2.2
  unfold write
  simp only [h1]

theorem writeHeader_inv (c : Cfg) (k : Kind) (ha : accepted c = true) (hk : kindOf c = some k) (s : St) (calcLen : Bool)
    (hp : s.peaks.isSome = c.isFloat) (ht : s.tail = []) (hd : s.dataend = 0) : Inv c k (writeHeader c k s calcLen) := by
  unfold writeHeader
  exact ⟨hdrRaw_length c k ha hk _ _ _ _ hp, ht, hd, hp⟩

theorem inv_open (c : Cfg) (k : Kind) (ha : accepted c = true) (hk : kindOf c = some k) (stale : Nat) : Inv c k (openW c k stale) := by
  unfold openW
  apply writeHeader_inv c k ha hk _ _ _ rfl rfl
  cases h : c.isFloat <;> simp

/-- a header rewrite that may or may not happen (the `have_written` latch, auto-update mode) -/
theorem inv_maybe_header (c : Cfg) (k : Kind) (ha : accepted c = true) (hk : kindOf c = some k) (s : St) (i : Inv c k s) (b calcLen : Bool) :
    Inv c k (if b then writeHeader c k s calcLen else s) ∧ (if b then writeHeader c k s calcLen else s).data = s.data := by
  cases b
  · exact ⟨i, rfl⟩
  · exact ⟨writeHeader_inv c k ha hk s calcLen i.pk i.tail i.dend, (writeHeader_fields c k s calcLen).1⟩

theorem inv_apply (c : Cfg) (k : Kind) (ha : accepted c = true) (hk : kindOf c = some k) (s : St) (i : Inv c k s) (op : WOp) :
    Inv c k (applyOp c k s op) ∧ (applyOp c k s op).data = s.data ++ opsData [op] := by
  cases op with
  | update =>
    exact ⟨writeHeader_inv c k ha hk s true i.pk i.tail i.dend, by rw [opsData, opsData, List.append_nil]; exact (writeHeader_fields c k s true).1⟩
  | write enc pk auto =>
    obtain ⟨j, jd⟩ := inv_maybe_header c k ha hk s i s.data.isEmpty false
    simp only [applyOp, write, opsData, List.append_nil]
    generalize (if s.data.isEmpty then writeHeader c k s false else s) = s1 at j jd ⊢
    have hpk2 : (if c.isFloat = true then some pk else s1.peaks).isSome = c.isFloat := by
      cases h : c.isFloat
      · have := j.pk; rw [h] at this; simpa using this
      · simp
    obtain ⟨j3, jd3⟩ := inv_maybe_header c k ha hk
      { s1 with data := s1.data ++ enc, peaks := if c.isFloat then some pk else s1.peaks, frames := (s1.data ++ enc).length / c.bw, dataend := 0 }
      ⟨j.hlen, j.tail, rfl, hpk2⟩ auto true
    exact ⟨j3, jd3.trans (by rw [jd])⟩

theorem run_inv (c : Cfg) (k : Kind) (ha : accepted c = true) (hk : kindOf c = some k) (ops : List WOp) (s : St) (i : Inv c k s) :
    Inv c k (run c k s ops) ∧ (run c k s ops).data = s.data ++ opsData ops := by
  induction ops generalizing s with
  | nil => simp [run, opsData, i]
  | cons op r ih =>
    obtain ⟨i1, d1⟩ := inv_apply c k ha hk s i op
    obtain ⟨i2, d2⟩ := ih (applyOp c k s op) i1
    refine ⟨i2, ?_⟩
    show (run c k (applyOp c k s op) r).data = _
    rw [d2, d1]
    cases op <;> simp [opsData]

theorem session_inv (c : Cfg) (k : Kind) (ha : accepted c = true) (hk : kindOf c = some k) (stale : Nat) (ops : List WOp) :
    Inv c k (run c k (openW c k stale) ops) ∧ (run c k (openW c k stale) ops).data = opsData ops := by
  obtain ⟨i, d⟩ := run_inv c k ha hk ops _ (inv_open c k ha hk stale)
  exact ⟨i, by rw [d]; simp [openW, writeHeader]⟩

theorem hdrLen_even (c : Cfg) (k : Kind) : hdrLen c k % 2 = 0 := by
  unfold hdrLen; split <;> split <;> omega

theorem hdrLen_ge (c : Cfg) (k : Kind) : 54 ≤ hdrLen c k := by
  unfold hdrLen; split <;> omega

/-- `parse_hdrRaw` under the guard the sessions carry: the whole file is shorter than 2^32 bytes -/
theorem parse_hdrRaw_file (c : Cfg) (k : Kind) (hwf : c.wf) (hk : kindOf c = some k) (fr : Nat) (fl : Int) (peaks : Option (List Peak))
    (hpk : peaks.isSome = c.isFloat) (body tl : List Byte) (htl : tl.length ≤ 8)
    (hg : (hdrRaw c k fr fl (body.length : Int) peaks ++ (body ++ tl)).length < 2 ^ 32) :
    parse (hdrRaw c k fr fl (body.length : Int) peaks ++ (body ++ tl)) =
      .ok { ch := c.ch, fmt := c.fmtWord, sr := c.sr, frames := body.length / c.bw } := by
  refine parse_hdrRaw c k hwf hk fr fl peaks body tl htl ?_
  rw [List.length_append, hdrRaw_length c k hwf.1 hk _ _ _ _ hpk, List.length_append] at hg
  have := hdrLen_ge c k
  omega

theorem nat_ediv_toNat (a b : Nat) : (((a : Int) / (b : Int)).toNat) = a / b := by
  have : (a : Int) / (b : Int) = ((a / b : Nat) : Int) := by simp
  rw [this]; exact Int.toNat_natCast _

/-- `calcLengths` with no data after the audio (`dataend = 0`, no tail): a header-update snapshot -/
theorem calc_snapshot (c : Cfg) (k : Kind) (hbw : 0 < c.bw) (s : St) (i : Inv c k s) :
    calcLengths c k s = (s.data.length / c.bw, ((hdrLen c k + s.data.length : Nat) : Int), (s.data.length : Int)) := by
  unfold calcLengths
  have hbw' : c.bw > 0 := hbw
  have hd : ¬ s.dataend ≠ 0 := by simp [i.dend]
  have hl : s.bytes.length = hdrLen c k + s.data.length := by simp [St.bytes, i.hlen, i.tail]
  simp only [hl, hd, if_false, hbw', if_true]
  have e1 : (((hdrLen c k + s.data.length : Nat) : Int) - (hdrLen c k : Int)) = ((s.data.length : Nat) : Int) := by omega
  rw [e1, nat_ediv_toNat]

theorem update_bytes (c : Cfg) (k : Kind) (hbw : 0 < c.bw) (s : St) (i : Inv c k s) :
    (update c k s).bytes = snapHdr c k s.data.length s.peaks ++ s.data := by
  unfold update writeHeader
  simp only [if_true, calc_snapshot c k hbw s i, St.bytes, i.tail, List.append_nil, snapHdr]

/-- `calcLengths` once a tailer has put `P` bytes behind the audio and set `dataend` `Q` bytes behind it -/
theorem calc_tailed (c : Cfg) (k : Kind) (hbw : 0 < c.bw) (s : St) (P Q : Nat) (hh : s.hdr.length = hdrLen c k) (ht : s.tail.length = P)
    (hd : s.dataend = ((hdrLen c k + s.data.length + Q : Nat) : Int)) :
    calcLengths c k s = ((s.data.length + Q) / c.bw, ((hdrLen c k + s.data.length + P : Nat) : Int), ((s.data.length + Q : Nat) : Int)) := by
  have hl := hdrLen_ge c k
  have hbw' : c.bw > 0 := hbw
  have hne : ((hdrLen c k + s.data.length + Q : Nat) : Int) ≠ 0 := by omega
  have hlen : s.bytes.length = hdrLen c k + s.data.length + P := by simp only [St.bytes, List.length_append, hh, ht]
  have e1 : ((hdrLen c k + s.data.length + P : Nat) : Int) - (hdrLen c k : Int) -
      (((hdrLen c k + s.data.length + P : Nat) : Int) - ((hdrLen c k + s.data.length + Q : Nat) : Int)) = ((s.data.length + Q : Nat) : Int) := by
    omega
  unfold calcLengths
  simp only [hlen, hd, hne, ne_eq, not_false_eq_true, if_true, hbw', e1, nat_ediv_toNat]

theorem tailBytes_length (D : Nat) : (tailBytes D).length = padLen D := by
  unfold tailBytes padLen; split <;> simp <;> omega

theorem padLen_le_one (D : Nat) : padLen D ≤ 1 := Nat.le_of_lt_succ (Nat.mod_lt D (by decide))

/-- the tailer on a state between calls: the pad byte after an odd byte count, `dataend` at the end of the audio -/
theorem writeTailer_eq (c : Cfg) (k : Kind) (s : St) (i : Inv c k s) :
    writeTailer s = { s with tail := tailBytes s.data.length, dataend := ((hdrLen c k + s.data.length : Nat) : Int) } := by
  have he := hdrLen_even c k
  unfold writeTailer tailBytes
  rw [List.length_append, i.hlen]
  by_cases hodd : s.data.length % 2 = 1
  · rw [if_pos (by omega), if_pos hodd]
  · rw [if_neg (by omega), if_neg hodd]

/-- the tailer before the repair of KF-AIFF-ODD-PAD: `dataend` behind the pad byte -/
theorem writeTailerOld_eq (c : Cfg) (k : Kind) (s : St) (i : Inv c k s) :
    writeTailerOld s =
      { s with tail := tailBytes s.data.length, dataend := ((hdrLen c k + s.data.length + padLen s.data.length : Nat) : Int) } := by
  have he := hdrLen_even c k
  unfold writeTailerOld tailBytes padLen
  rw [List.length_append, i.hlen]
  by_cases hodd : s.data.length % 2 = 1
  · rw [if_pos (by omega), if_pos hodd, hodd]; rfl
  · rw [if_neg (by omega), if_neg hodd, show s.data.length % 2 = 0 by omega]; rfl

/-- `aiff_close` on a state between calls: header of the final lengths, the audio, the pad byte -/
theorem close_bytes (c : Cfg) (k : Kind) (hbw : 0 < c.bw) (s : St) (i : Inv c k s) :
    (close c k s).bytes = closedHdr c k s.data.length s.peaks ++ s.data ++ tailBytes s.data.length := by
  have hc := calc_tailed c k hbw { s with tail := tailBytes s.data.length, dataend := ((hdrLen c k + s.data.length : Nat) : Int) }
    (padLen s.data.length) 0 i.hlen (tailBytes_length _) rfl
  unfold close writeHeader
  rw [writeTailer_eq c k s i]
  simp only [if_true, hc, St.bytes, closedHdr, Nat.add_zero]

/-- the old tailer: the pad byte entered datalength and the frame count -/
theorem close_bytes_old (c : Cfg) (k : Kind) (hbw : 0 < c.bw) (s : St) (i : Inv c k s) :
    (closeOld c k s).bytes = closedHdrOld c k s.data.length s.peaks ++ s.data ++ tailBytes s.data.length := by
  have hc := calc_tailed c k hbw
    { s with tail := tailBytes s.data.length, dataend := ((hdrLen c k + s.data.length + padLen s.data.length : Nat) : Int) }
    (padLen s.data.length) (padLen s.data.length) i.hlen (tailBytes_length _) rfl
  unfold closeOld writeHeader
  rw [writeTailerOld_eq c k s i]
  simp only [if_true, hc, St.bytes, closedHdrOld]

/-- where the two size fields of any header of the writer lie: the FORM size behind the marker, the SSND size 12 bytes before the audio -/
theorem hdrRaw_size_fields (c : Cfg) (k : Kind) (ha : accepted c = true) (hk : kindOf c = some k) (fr : Nat) (fl dl : Int)
    (peaks : Option (List Peak)) (hpk : peaks.isSome = c.isFloat) (rest : List Byte) :
    FieldAt (hdrRaw c k fr fl dl peaks ++ rest) 4 (be32 (fl - 8)) ∧
    FieldAt (hdrRaw c k fr fl dl peaks ++ rest) (hdrLen c k - 12) (be32 (dl + 8)) := by
  have hl := hdrRaw_length c k ha hk fr fl dl peaks hpk
  constructor
  · obtain ⟨r, hr⟩ : ∃ r, hdrRaw c k fr fl dl peaks = mk4 "FORM" ++ (be32 (fl - 8) ++ r) := by
      unfold hdrRaw; simp only [List.append_assoc]; exact ⟨_, rfl⟩
    rw [hr]
    exact ((FieldAt.head _ r).skip _ 4 mk4_length_FORM).app rest
  · obtain ⟨pre, hp⟩ : ∃ pre, hdrRaw c k fr fl dl peaks = pre ++ be32 (dl + 8) ++ be32 0 ++ be32 0 := by
      unfold hdrRaw; exact ⟨_, rfl⟩
    rw [hp] at hl ⊢
    simp only [List.length_append, be32_length] at hl
    exact ⟨pre, be32 0 ++ be32 0 ++ rest, by simp only [List.append_assoc], by omega⟩

end Sf.Aiff
