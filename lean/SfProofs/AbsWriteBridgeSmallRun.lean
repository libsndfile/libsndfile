/-
  SfProofs.AbsWriteBridgeSmallRun — `small_pred_good`: the prediction of ANY stand-alone container model that satisfies
  `Laws` is `Good` (hence accepted by the write-side predicate).

  A byte-level container is a sample-level one (`Cont.toS`: each write call's samples are encoded by `enc` before they reach
  the session machine), its prediction is that container's prediction (`predOf_toS`) and its laws are that container's laws
  (`Laws.toS`): the theorem is `Sample.sample_pred_good`.
-/
import SfProofs.AbsWriteBridgeSampleRun
namespace Sf.AbsWriteBridge.Small
open Sf Sf.AbsWrite Sf.AbsWriteBridge Sf.Geometry

/-- one sample-level operation as the byte-level session machine sees it -/
def encOp (K : Cont) (ty : Ty) : Sample.SOp → Small2.WOp
  | .write xs a => .write (K.enc.encodeAll {} ty xs) a
  | .update => .update

def Cont.toS (K : Cont) : Sample.SCont :=
  { g := K.g, enc := K.enc, L := K.L, parse := K.parse,
    closed := fun ty st ops => K.closed st (ops.map (encOp K ty)),
    store := fun ty st ops => K.store st (ops.map (encOp K ty)) }

theorem toW_eq (K : Cont) (ty : Ty) : ∀ (ops : List Op) (a : Bool), toW K ty a ops = (Sample.toS a ops).map (encOp K ty)
  | [], _ => rfl
  | .write _ xs :: r, a => by simp [toW, Sample.toS, encOp, toW_eq K ty r a]
  | .update :: r, a => by simp [toW, Sample.toS, encOp, toW_eq K ty r a]
  | .auto b :: r, _ => by simp [toW, Sample.toS, toW_eq K ty r b]

theorem opsData_encOp (K : Cont) (ty : Ty) : ∀ ops : List Sample.SOp,
    Small2.opsData (ops.map (encOp K ty)) = K.enc.encodeAll {} ty (Sample.sData ops)
  | [] => rfl
  | .write xs a :: r => by simp [encOp, Small2.opsData, Sample.sData, opsData_encOp K ty r, Enc.encodeAll_append]
  | .update :: r => by simp [encOp, Small2.opsData, Sample.sData, opsData_encOp K ty r]

theorem opsData_toW (K : Cont) (ty : Ty) (ops : List Op) (a : Bool) :
    Small2.opsData (toW K ty a ops) = K.enc.encodeAll {} ty (sampleList ops) := by
  rw [toW_eq, opsData_encOp, Sample.sData_toS]

theorem snapOf_toS (K : Cont) (ty : Ty) (stale : Nat) : snapOf K ty stale = Sample.snapOf K.toS ty stale :=
  funext fun p => by simp only [snapOf, Sample.snapOf, toW_eq]; rfl

theorem predOf_toS (K : Cont) (ty : Ty) (stale stale' : Nat) (ops : List Op) :
    predOf K ty stale stale' ops = Sample.predOf K.toS ty stale stale' ops := by
  simp only [predOf, Sample.predOf, toW_eq, snapOf_toS]
  rfl

theorem endsInRewrite_map (K : Cont) (ty : Ty) {ops : List Sample.SOp} (h : Sample.EndsInRewrite ops) :
    EndsInRewrite (ops.map (encOp K ty)) := by
  obtain ⟨w, x, rfl, hx⟩ := h
  refine ⟨w.map (encOp K ty), encOp K ty x, by simp, ?_⟩
  rcases hx with rfl | ⟨xs, _, rfl⟩
  · exact Or.inl rfl
  · exact Or.inr ⟨_, rfl⟩

theorem Laws.toS {K : Cont} {G : List Small2.WOp → Prop} (L : Laws K G) (ty : Ty) :
    Sample.SLaws K.toS ty (fun ops => G (ops.map (encOp K ty))) :=
  { chpos := L.chpos, nb := L.nb, wf := L.wf, block := L.block, notRaw := L.notRaw, codec := L.codec,
    closedForm := fun st ops hg => by have h := L.closedForm st _ hg; rw [opsData_encOp] at h; exact h,
    closedParse := fun st ops hg => by have h := L.closedParse st _ hg; rw [opsData_encOp] at h; exact h,
    closedFn := fun a b ops ops' _ _ e => L.closedFn a b _ _ (by rw [opsData_encOp, opsData_encOp, e]),
    storeForm := fun st ops hg he => by
      have h := L.storeForm st _ hg (endsInRewrite_map K ty he); rw [opsData_encOp] at h; exact h,
    storeParse := fun st ops hg he => by
      have h := L.storeParse st _ hg (endsInRewrite_map K ty he); rw [opsData_encOp] at h; exact h }

/-- LEVEL B FOR THE STAND-ALONE CONTAINER MODELS: a lawful container's prediction for any valid job has the list-level
    properties.  `G` (the container's guards / the complement of its known-finding classes) is asked of the whole job, of
    the reference run and of every prefix (every crash image). -/
theorem small_pred_good (K : Cont) (G : List Small2.WOp → Prop) (L : Laws K G) (ty : Ty) (stale stale' : Nat) (ops : List Op)
    (hv : Valid K.g.ch ty ops) (hGref : G (toW K ty false (refOps ops)))
    (hG : ∀ p post, ops = p ++ post → G (toW K ty false p)) :
    Good (predOf K ty stale stale' ops) := by
  rw [predOf_toS]
  exact Sample.sample_pred_good K.toS ty _ (L.toS ty) stale stale' ops hv (by rw [← toW_eq]; exact hGref)
    (fun p post e => by rw [← toW_eq]; exact hG p post e)

end Sf.AbsWriteBridge.Small
