/-
  A WRAP-FREE twin of the GSM 06.10 decoder (SfModel/Gsm.lean): the same functions with every `int16_t` / `int32_t`
  conversion (`w16`, `w32`, the `0xFFFF &` of gsm_mult_r) removed and the arithmetic done on unbounded integers with
  the Recommendation's saturating operators — `…N` ("no wrap").  This file proves, function by function, that the twin
  equals the wrapping decoder on every state satisfying the decoder invariant `SInv` and every parameter set whose
  fields lie inside their bit widths (`PInv`, `LarInv`) — hence for every byte string and every reachable state
  (SfProps/C06GsmNoWrap.lean).  The only place where the C decoder relies on truncation is the `& 0xFFF8` of
  Postprocessing, which is "round down to a multiple of 8" (`trunc8_exact`).
-/
import SfProofs.GsmSpec
import SfProofs.GsmRec
namespace Sf.Gsm.Twin
open Sf Sf.Gsm Sf.Gsm.Proofs Sf.Gsm.Spec

def larWidths : List Nat := [6, 6, 5, 5, 4, 4, 3, 3]

/-- LARc [i] lies inside ITS bit field (PInv only says < 64) -/
def LarInv (p : Params) : Prop := ∀ i, i < 8 → 0 ≤ p.larc.getD i 0 ∧ p.larc.getD i 0 < ((2 ^ larWidths.getD i 0 : Nat) : Int)

theorem mkParams_larInv (val : List Bool → Nat) (hval : ∀ bs, val bs < 2 ^ bs.length) (bits : List Bool) :
    LarInv (mkParams (fields val fieldWidths bits)) := by
  intro i hi
  have hlen : fieldWidths.length = 76 := by decide
  have hb := fields_getD val hval fieldWidths bits i (by omega)
  have hw : fieldWidths.getD i 0 = larWidths.getD i 0 := by
    have : ∀ i, i < 8 → fieldWidths.getD i 0 = larWidths.getD i 0 := by decide
    exact this i hi
  have hg : (mkParams (fields val fieldWidths bits)).larc.getD i 0 = (fields val fieldWidths bits).getD i 0 := by
    simp only [mkParams]
    rw [List.getD_eq_getElem?_getD, List.getElem?_map, List.getElem?_range hi]
    rfl
  rw [hg, ← hw]
  exact hb

theorem unpack33_larInv (c : List Byte) (p : Params) (h : unpack33 c = some p) : LarInv p := by
  unfold unpack33 at h
  split at h
  · cases h
  · cases h; exact mkParams_larInv valMsb valMsb_lt _

theorem unpack49a_larInv (c : List Byte) : LarInv (unpack49a c).1 := mkParams_larInv valLsb valLsb_lt _
theorem unpack49b_larInv (chain : Nat) (c : List Byte) : LarInv (unpack49b chain c) := mkParams_larInv valLsb valLsb_lt _

def normLoopN : Nat → Int → Int → Int × Int
  | 0, expon, mant => (expon, mant)
  | fuel + 1, expon, mant => if mant ≤ 7 then normLoopN fuel (expon - 1) (2 * mant + 1) else (expon, mant)

def expMantN (xmaxc : Int) : Int × Int :=
  let expon0 : Int := if xmaxc > 15 then xmaxc / 8 - 1 else 0
  let mant0 : Int := xmaxc - expon0 * 8
  if mant0 = 0 then (-4, 7)
  else
    let (e, m) := normLoopN 16 expon0 mant0
    (e, m - 8)

theorem expMantN_eq : ∀ n : Nat, n < 64 → expMantN (n : Int) = expMant (n : Int) := by decide +kernel

/-- one cell of `APCM_inverse_quantization`, as the model computes it -/
def apcm1 (mant expon x : Int) : Int :=
  let temp1 := tab tabFAC mant
  let temp2 := gsmSub 6 expon
  let temp3 := gsmAsl 1 (gsmSub temp2 1)
  let t := w16 (2 * x - 7)
  let t := w16 (shl32 t 12)
  let t := w16 (multR temp1 t)
  let t := w16 (add t temp3)
  gsmAsr t temp2

theorem apcmInv_map (xmc : List Int) (mant expon : Int) : apcmInv xmc mant expon = xmc.map (apcm1 mant expon) := rfl

/-- the same cell on unbounded integers: `temp3 = 2^(5 − expon)` (0 for expon = 6), no conversion anywhere -/
def apcm1N (mant expon x : Int) : Int :=
  let temp1 := tab tabFAC mant
  let temp2 := 6 - expon
  let temp3 : Int := if expon ≤ 5 then 2 ^ (5 - expon).toNat else 0
  let t := (2 * x - 7) * 4096
  let t := (temp1 * t + 16384) / 32768
  let t := Rec.sat16 (t + temp3)
  t / 2 ^ temp2.toNat

/-- 8 codes × 8 mantissas × 11 exponents: every case -/
theorem apcm1N_eq : ∀ x : Nat, x < 8 → ∀ m : Nat, m < 8 → ∀ e : Nat, e < 11 →
    apcm1N (m : Int) ((e : Int) - 4) (x : Int) = apcm1 (m : Int) ((e : Int) - 4) (x : Int) := by decide +kernel

def apcmInvN (xmc : List Int) (mant expon : Int) : List Int := xmc.map (apcm1N mant expon)

theorem apcmInvN_eq (xmc : List Int) (mant expon : Int) (hx : ∀ x ∈ xmc, 0 ≤ x ∧ x < 8) (hm : 0 ≤ mant ∧ mant ≤ 7)
    (he : -4 ≤ expon ∧ expon ≤ 6) : apcmInvN xmc mant expon = apcmInv xmc mant expon := by
  rw [apcmInv_map]
  unfold apcmInvN
  apply List.map_congr_left
  intro x hxm
  obtain ⟨x0, x1⟩ := hx x hxm
  obtain ⟨xn, rfl⟩ : ∃ n : Nat, x = (n : Int) := ⟨x.toNat, by omega⟩
  obtain ⟨mn, rfl⟩ : ∃ n : Nat, mant = (n : Int) := ⟨mant.toNat, by omega⟩
  obtain ⟨en, hen⟩ : ∃ n : Nat, expon = (n : Int) - 4 := ⟨(expon + 4).toNat, by omega⟩
  subst hen
  exact apcm1N_eq xn (by omega) mn (by omega) en (by omega)

def rpeDecodeN (xmaxc mc : Int) (xmc : List Int) : List Int :=
  let (expon, mant) := expMantN xmaxc
  gridPos mc (apcmInvN xmc mant expon)

theorem rpeDecodeN_eq (s : Sub) (h : SubInv s) : rpeDecodeN s.xmaxc s.mc s.xmc = rpeDecode s.xmaxc s.mc s.xmc := by
  obtain ⟨n, hn⟩ : ∃ n : Nat, s.xmaxc = (n : Int) := ⟨s.xmaxc.toNat, by have := h.xmaxc; omega⟩
  have hn64 : n < 64 := by have := h.xmaxc; omega
  unfold rpeDecodeN rpeDecode
  rw [hn, expMantN_eq n hn64]
  obtain ⟨r1, r2, r3, r4⟩ := expMant_range n hn64
  generalize expMant (n : Int) = em at r1 r2 r3 r4
  obtain ⟨e, m⟩ := em
  simp only at r1 r2 r3 r4 ⊢
  rw [apcmInvN_eq s.xmc m e h.xmc_rng ⟨r1, r2⟩ ⟨r3, r4⟩]

theorem apcm1_range (mant expon x : Int) : W16 (apcm1 mant expon x) := by
  unfold apcm1
  exact gsmAsr_range _ _ (w16_range _)

theorem rpeDecode_w16 (xmaxc mc : Int) (xmc : List Int) : AllW16 (rpeDecode xmaxc mc xmc) := by
  unfold rpeDecode
  split
  rename_i e m _
  intro v hv
  simp only [gridPos, List.mem_map] at hv
  obtain ⟨k, _, rfl⟩ := hv
  split
  · rw [apcmInv_map, List.getD_eq_getElem?_getD, List.getElem?_map]
    cases (xmc[((↑k - mc) / 3).toNat]?) with
    | none => exact W16_zero
    | some y => exact apcm1_range _ _ _
  · exact W16_zero

def ltSynthN (hist : List Int) (nr bcr : Int) (erp : List Int) : List Int × List Int :=
  let brp := tab tabQLB bcr
  let old := (hist.drop (120 - nr).toNat).take 40
  let drp := List.zipWith (fun e d => Rec.add e ((brp * d + 16384) / 32768)) erp old
  ((hist ++ drp).drop 40, drp)

theorem add_eq_spec (a b : Int) : Gsm.add a b = Rec.add a b := add_clamped a b
theorem sub_eq_spec (a b : Int) : Gsm.sub a b = Rec.sub a b := sub_clamped a b

theorem ltSynthN_eq (hist : List Int) (nr bcr : Int) (erp : List Int) (hw : AllW16 hist) :
    ltSynthN hist nr bcr erp = ltSynth hist nr bcr erp := by
  unfold ltSynthN ltSynth
  simp only
  have hb := tab_pos tabQLB (by decide) bcr
  have key : List.zipWith (fun e d => Rec.add e ((tab tabQLB bcr * d + 16384) / 32768)) erp
        (List.take 40 (List.drop (120 - nr).toNat hist)) =
      List.zipWith (fun e d => w16 (Gsm.add e (w16 (multR (tab tabQLB bcr) d)))) erp (List.take 40 (List.drop (120 - nr).toNat hist)) := by
    apply zipWith_congr_mem
    intro e _ d hd
    have hdw : W16 d := hw d (List.mem_of_mem_drop (List.mem_of_mem_take hd))
    have hr := multR_range (tab tabQLB bcr) d (by unfold W16; omega) hdw (by omega)
    rw [w16_id _ hr, w16_id _ (add_range _ _), add_eq_spec]
    unfold multR
    rw [asr15]
  rw [key]

def larStepN (larc b mic inva : Int) : Int :=
  let t := Rec.add larc mic * 1024
  let t := Rec.sub t (b * 2)
  let t := (inva * t + 16384) / 32768
  Rec.add t t

/-- 64 + 64 + 32 + 32 + 16 + 16 + 8 + 8 codes: every case -/
theorem larStepN_eq : ∀ i : Nat, i < 8 → ∀ c : Nat, c < 2 ^ larWidths.getD i 0 →
    larStepN (c : Int) (tab tabB i) (tab tabMIC i) (tab tabINVA i) = larStep (c : Int) (tab tabB i) (tab tabMIC i) (tab tabINVA i) := by
  decide +kernel

def decodeLarN (larc : List Int) : List Int :=
  (List.range 8).map fun i => larStepN (larc.getD i 0) (tab tabB i) (tab tabMIC i) (tab tabINVA i)

theorem decodeLarN_eq (p : Params) (h : LarInv p) : decodeLarN p.larc = decodeLar p.larc := by
  unfold decodeLarN decodeLar
  apply List.map_congr_left
  intro i hi
  have hi8 : i < 8 := List.mem_range.mp hi
  obtain ⟨l0, l1⟩ := h i hi8
  obtain ⟨c, hc⟩ : ∃ c : Nat, p.larc.getD i 0 = (c : Int) := ⟨(p.larc.getD i 0).toNat, by omega⟩
  rw [hc] at l1 ⊢
  exact larStepN_eq i hi8 c (by exact_mod_cast l1)

def coeff0_12N (p c : List Int) : List Int :=
  List.zipWith (fun a b => Rec.add (Rec.add (a / 4) (b / 4)) (a / 2)) p c
def coeff13_26N (p c : List Int) : List Int :=
  List.zipWith (fun a b => Rec.add (a / 2) (b / 2)) p c
def coeff27_39N (p c : List Int) : List Int :=
  List.zipWith (fun a b => Rec.add (Rec.add (a / 4) (b / 4)) (b / 2)) p c

theorem sasr1 (x : Int) : sasr x 1 = x / 2 := by simp [sasr, asr]
theorem sasr2 (x : Int) : sasr x 2 = x / 4 := by simp [sasr, asr]

/-- the interpolation needs no range at all: every assignment stores a saturated sum -/
theorem coeffN_eq (p c : List Int) :
    coeff0_12N p c = coeff0_12 p c ∧ coeff13_26N p c = coeff13_26 p c ∧ coeff27_39N p c = coeff27_39 p c := by
  unfold coeff0_12N coeff0_12 coeff13_26N coeff13_26 coeff27_39N coeff27_39
  refine ⟨?_, ?_, ?_⟩
  · congr 1; funext a b
    rw [w16_id _ (add_range _ _), w16_id _ (add_range _ _), sasr1, sasr2, sasr2, add_eq_spec, add_eq_spec]
  · congr 1; funext a b
    rw [w16_id _ (add_range _ _), sasr1, sasr1, add_eq_spec]
  · congr 1; funext a b
    rw [w16_id _ (add_range _ _), w16_id _ (add_range _ _), sasr1, sasr2, sasr2, add_eq_spec, add_eq_spec]

def larpToRpN (x : Int) : Int :=
  let f (temp : Int) : Int :=
    if temp < 11059 then temp * 2 else if temp < 20070 then temp + 11059 else Rec.add (temp / 4) 26112
  if x < 0 then - f (Rec.abs x) else f x

/-- the piecewise-linear map of `LARp_to_rp` on a magnitude `t` of 0 … 32767: the shift does not wrap, and the value is
    again in that range, so that neither it nor its negative wraps -/
theorem larpMag (t : Int) (h0 : 0 ≤ t) (h1 : t ≤ 32767) :
    ∃ r, (0 ≤ r ∧ r ≤ 32767) ∧
      (if t < 11059 then t * 2 else if t < 20070 then t + 11059 else Gsm.add (w16 (asr t 2)) 26112) = r ∧
      (if t < 11059 then t * 2 else if t < 20070 then t + 11059 else Rec.add (t / 4) 26112) = r := by
  have hasr : asr t 2 = t / 4 := by simp [asr]
  rw [hasr, w16_id (t / 4) (by unfold W16; omega), add_eq_spec]
  refine ⟨_, ?_, rfl, rfl⟩
  split
  · omega
  · split
    · omega
    · unfold Rec.add Rec.sat16; split <;> omega

theorem larpToRpN_eq (x : Int) (h : W16 x) : larpToRpN x = larpToRp x := by
  unfold W16 at h
  unfold larpToRpN larpToRp Rec.abs
  simp only
  by_cases hx : x < 0
  · simp only [hx, if_true]
    by_cases hm : x = -32768
    · subst hm; decide
    · simp only [hm, if_false]
      obtain ⟨r, hr, e1, e2⟩ := larpMag (-x) (by omega) (by omega)
      rw [e1, e2, w16_id _ (by unfold W16; omega)]
  · simp only [hx, if_false]
    obtain ⟨r, hr, e1, e2⟩ := larpMag x (by omega) (by omega)
    rw [e1, e2, w16_id _ (by unfold W16; omega)]

theorem larpToRp_range (x : Int) : W16 (larpToRp x) := by
  unfold larpToRp
  simp only
  split <;> exact w16_range _

def synStepN : List (Int × Int) → Int → Int × List Int
  | [], sri => (sri, [])
  | (r, vi) :: rest, sri =>
    -- `Rec.multR`: the special case is the Recommendation's own (mult_r (−32768, −32768) = 32767) and `gsm_mult_r` has it
    -- too; what is removed is the `0xFFFF &` and the `int16_t` store
    let mr (a b : Int) : Int := if a = -32768 ∧ b = -32768 then 32767 else (a * b + 16384) / 32768
    let tmp2 := mr r vi
    let sri := Rec.sub sri tmp2
    let tmp1 := mr r sri
    let vnew := Rec.add vi tmp1
    let (s, vs) := synStepN rest sri
    (s, vnew :: vs)

theorem synStepN_eq : ∀ (ps : List (Int × Int)) (sri : Int), W16 sri → (∀ p ∈ ps, W16 p.1 ∧ W16 p.2) →
    synStepN ps sri = synStep ps sri := by
  intro ps
  induction ps with
  | nil => intro sri _ _; rfl
  | cons p rest ih =>
    intro sri hs hp
    obtain ⟨r, vi⟩ := p
    obtain ⟨hr, hv⟩ := hp (r, vi) (by simp)
    simp only [synStepN, synStep]
    have e1 := gsmMultR_eq r vi hr hv
    have hs1 : W16 (Gsm.sub sri (gsmMultR r vi)) := sub_range _ _
    have e2 := gsmMultR_eq r (Gsm.sub sri (gsmMultR r vi)) hr hs1
    rw [w16_id _ hs1, w16_id _ (add_range _ _), ← e1, ← sub_eq_spec, ← e2, ← add_eq_spec,
      ih _ hs1 (fun q hq => hp q (by simp [hq]))]

def synFilterN (rrp : List Int) : List Int → List Int → List Int × List Int
  | v, [] => (v, [])
  | v, w :: ws =>
    let (sri, vs) := synStepN ((rrp.zip v).reverse) w
    let (vf, out) := synFilterN rrp (sri :: vs.reverse) ws
    (vf, sri :: out)

theorem synFilterN_eq (rrp : List Int) (hr : rrp.length = 8) (hrw : AllW16 rrp) : ∀ (wt v : List Int), v.length = 9 → AllW16 v →
    AllW16 wt → synFilterN rrp v wt = synFilter rrp v wt := by
  intro wt
  induction wt with
  | nil => intro v _ _ _; rfl
  | cons w ws ih =>
    intro v hv hvw hwt
    have hw : W16 w := hwt w (List.mem_cons_self ..)
    have hws : AllW16 ws := fun x hx => hwt x (List.mem_cons_of_mem _ hx)
    simp only [synFilterN, synFilter]
    have hzw : ∀ p ∈ (rrp.zip v).reverse, W16 p.1 ∧ W16 p.2 := fun (a, b) hp =>
      have := List.of_mem_zip (List.mem_reverse.mp hp); ⟨hrw a this.1, hvw b this.2⟩
    rw [synStepN_eq _ w hw hzw]
    obtain ⟨c1, c2, c3⟩ := synStep_spec ((rrp.zip v).reverse) w hw
    have hz : ((rrp.zip v).reverse).length = 8 := by rw [List.length_reverse, List.length_zip, hr, hv]; rfl
    rw [ih ((synStep ((rrp.zip v).reverse) w).1 :: (synStep ((rrp.zip v).reverse) w).2.reverse)
      (by simp [c2, hz]) (AllW16_cons c1 (AllW16_reverse c3)) hws]

def shortTermSynthN (st : State) (larcr : List Int) (wt : List Int) : State × List Int :=
  let cur := decodeLarN larcr
  let prev := if st.j = 0 then st.larpp1 else st.larpp0
  let st1 : State := if st.j = 0 then { st with larpp0 := cur, j := 1 } else { st with larpp1 := cur, j := 0 }
  let (v1, s1) := synFilterN ((coeff0_12N prev cur).map larpToRpN) st.v (wt.take 13)
  let (v2, s2) := synFilterN ((coeff13_26N prev cur).map larpToRpN) v1 ((wt.drop 13).take 14)
  let (v3, s3) := synFilterN ((coeff27_39N prev cur).map larpToRpN) v2 ((wt.drop 27).take 13)
  let (v4, s4) := synFilterN (cur.map larpToRpN) v3 ((wt.drop 40).take 120)
  ({ st1 with v := v4 }, s1 ++ s2 ++ s3 ++ s4)

theorem map_larp_eq (l : List Int) (h : AllW16 l) : l.map larpToRpN = l.map larpToRp :=
  List.map_congr_left (fun x hx => larpToRpN_eq x (h x hx))

theorem map_larp_w16 (l : List Int) : AllW16 (l.map larpToRp) := by
  intro x hx
  obtain ⟨y, _, rfl⟩ := List.mem_map.mp hx
  exact larpToRp_range y

theorem coeff_w16 (p c : List Int) : AllW16 (coeff0_12 p c) ∧ AllW16 (coeff13_26 p c) ∧ AllW16 (coeff27_39 p c) :=
  ⟨AllW16_zipWith_w16 _ _ _, AllW16_zipWith_w16 _ _ _, AllW16_zipWith_w16 _ _ _⟩

theorem shortTermSynthN_eq (st : State) (p : Params) (wt : List Int) (inv : SInv st) (hl : LarInv p)
    (hw : AllW16 wt) : shortTermSynthN st p.larc wt = shortTermSynth st p.larc wt := by
  obtain ⟨cl, cw⟩ := decodeLar_spec p.larc
  have hprev : (if st.j = 0 then st.larpp1 else st.larpp0).length = 8 := by split; exact inv.l1_len; exact inv.l0_len
  unfold shortTermSynthN shortTermSynth
  simp only
  rw [decodeLarN_eq p hl]
  generalize hpv : (if st.j = 0 then st.larpp1 else st.larpp0) = prev at hprev
  obtain ⟨q1, q2, q3⟩ := coeffN_eq prev (decodeLar p.larc)
  obtain ⟨k1, k2, k3⟩ := coeff_w16 prev (decodeLar p.larc)
  rw [q1, q2, q3, map_larp_eq _ k1, map_larp_eq _ k2, map_larp_eq _ k3, map_larp_eq _ cw]
  have r1 : ((coeff0_12 prev (decodeLar p.larc)).map larpToRp).length = 8 := coeff_len _ _ _ hprev cl
  have r2 : ((coeff13_26 prev (decodeLar p.larc)).map larpToRp).length = 8 := coeff_len _ _ _ hprev cl
  have r3 : ((coeff27_39 prev (decodeLar p.larc)).map larpToRp).length = 8 := coeff_len _ _ _ hprev cl
  have r4 : ((decodeLar p.larc).map larpToRp).length = 8 := by rw [List.length_map, cl]
  obtain ⟨a1, a2, _, _⟩ := synFilter_spec _ r1 (wt.take 13) st.v inv.v_len inv.v_w (AllW16_take _ hw)
  rw [synFilterN_eq _ r1 (map_larp_w16 _) (wt.take 13) st.v inv.v_len inv.v_w (AllW16_take _ hw)]
  obtain ⟨b1, b2, _, _⟩ := synFilter_spec _ r2 ((wt.drop 13).take 14) _ a1 a2 (AllW16_take _ (AllW16_drop _ hw))
  rw [synFilterN_eq _ r2 (map_larp_w16 _) ((wt.drop 13).take 14) _ a1 a2 (AllW16_take _ (AllW16_drop _ hw))]
  obtain ⟨c1, c2, _, _⟩ := synFilter_spec _ r3 ((wt.drop 27).take 13) _ b1 b2 (AllW16_take _ (AllW16_drop _ hw))
  rw [synFilterN_eq _ r3 (map_larp_w16 _) ((wt.drop 27).take 13) _ b1 b2 (AllW16_take _ (AllW16_drop _ hw))]
  rw [synFilterN_eq _ r4 (map_larp_w16 _) ((wt.drop 40).take 120) _ c1 c2 (AllW16_take _ (AllW16_drop _ hw))]

def postprocN : Int → List Int → Int × List Int
  | msr, [] => (msr, [])
  | msr, s :: ss =>
    let tmp := (msr * 28180 + 16384) / 32768
    let msr := Rec.add s tmp
    let out := Rec.add msr msr / 8 * 8
    let (m, rest) := postprocN msr ss
    (m, out :: rest)

theorem postprocN_eq : ∀ (l : List Int) (msr : Int), W16 msr → postprocN msr l = postproc msr l := by
  intro l
  induction l with
  | nil => intro msr _; rfl
  | cons s ss ih =>
    intro msr hm
    simp only [postprocN, postproc]
    have hr := multR_range msr 28180 hm (by unfold W16; omega) (by omega)
    have e : multR msr 28180 = (msr * 28180 + 16384) / 32768 := by unfold multR; rw [asr15]
    rw [w16_id _ hr, w16_id _ (add_range _ _), trunc8_exact _ (add_range _ _), add_eq_spec, add_eq_spec, e,
      ih _ (by rw [← add_eq_spec, ← e]; exact add_range _ _)]

def subLoopN : List Sub → Int → List Int → Int × List Int × List Int
  | [], nrp, hist => (nrp, hist, [])
  | sb :: rest, nrp, hist =>
    let erp := rpeDecodeN sb.xmaxc sb.mc sb.xmc
    let nr := nrOf nrp sb.nc
    let (hist1, drp) := ltSynthN hist nr sb.bc erp
    let (n, h, wt) := subLoopN rest nr hist1
    (n, h, drp ++ wt)

theorem subLoopN_eq : ∀ (subs : List Sub) (nrp : Int) (hist : List Int), (∀ s ∈ subs, SubInv s) → hist.length = 120 → 40 ≤ nrp →
    nrp ≤ 120 → AllW16 hist → subLoopN subs nrp hist = subLoop subs nrp hist := by
  intro subs
  induction subs with
  | nil => intro nrp hist _ _ _ _ _; rfl
  | cons sb rest ih =>
    intro nrp hist hs hl h1 h2 hw
    obtain ⟨n1, n2⟩ := nrOf_range nrp sb.nc h1 h2
    simp only [subLoopN, subLoop]
    rw [rpeDecodeN_eq sb (hs sb (by simp)), ltSynthN_eq _ _ _ _ hw]
    obtain ⟨a1, a2, _, _⟩ := ltSynth_spec hist (nrOf nrp sb.nc) sb.bc (rpeDecode sb.xmaxc sb.mc sb.xmc) hl n1 n2
      (rpeDecode_length _ _ _) hw
    rw [ih (nrOf nrp sb.nc) _ (fun s h => hs s (by simp [h])) a1 n1 n2 a2]

def decodeParamsN (st : State) (p : Params) : State × List Int :=
  let hist := st.dp0.take 120
  let (nrp, hist1, wt) := subLoopN p.subs st.nrp hist
  let st1 : State := { st with nrp := nrp, dp0 := hist1 ++ hist1.drop 80 ++ st.dp0.drop 160 }
  let (st2, s) := shortTermSynthN st1 p.larc wt
  let (msr, out) := postprocN st2.msr s
  ({ st2 with msr := msr }, out)

theorem decodeParamsN_eq (st : State) (p : Params) (inv : SInv st) (pi : PInv p) (hl : LarInv p) :
    decodeParamsN st p = decodeParams st p := by
  have hh : (st.dp0.take 120).length = 120 := by rw [List.length_take, inv.dp0_len]; rfl
  obtain ⟨a1, a2, a3, a4, a5, a6⟩ := subLoop_spec p.subs st.nrp (st.dp0.take 120) hh inv.nrp_lo inv.nrp_hi (AllW16_take _ inv.dp0_w)
  rw [pi.subs_len] at a5
  unfold decodeParamsN decodeParams
  simp only
  rw [subLoopN_eq p.subs st.nrp _ pi.subs hh inv.nrp_lo inv.nrp_hi (AllW16_take _ inv.dp0_w)]
  generalize hsl : subLoop p.subs st.nrp (st.dp0.take 120) = sl at a1 a2 a3 a4 a5 a6
  obtain ⟨nrp, hist1, wt⟩ := sl
  simp only at a1 a2 a3 a4 a5 a6 ⊢
  have inv1 := inv.history nrp hist1 a1 a2 a3 a4
  rw [shortTermSynthN_eq _ p wt inv1 hl a6]
  obtain ⟨b1, _, _, _⟩ := shortTermSynth_spec _ p.larc wt inv1 a5 a6
  generalize shortTermSynth { st with nrp := nrp, dp0 := hist1 ++ hist1.drop 80 ++ st.dp0.drop 160 } p.larc wt = sts at b1
  obtain ⟨st2, s⟩ := sts
  simp only at b1 ⊢
  rw [postprocN_eq s st2.msr b1.msr_w]

/-- `gsm_decode` built on the wrap-free frame decoder -/
def gsmDecodeN (st : State) (c : List Byte) : State × Option (List Int) :=
  if st.wavFmt then
    let fi := 1 - st.frameIndex
    if fi = 1 then
      let (p, chain) := unpack49a c
      let (st1, out) := decodeParamsN { st with frameIndex := fi, frameChain := chain } p
      (st1, some out)
    else
      let p := unpack49b st.frameChain c
      let (st1, out) := decodeParamsN { st with frameIndex := fi } p
      (st1, some out)
  else
    match unpack33 c with
    | none => (st, none)
    | some p =>
      let (st1, out) := decodeParamsN st p
      (st1, some out)

end Sf.Gsm.Twin
