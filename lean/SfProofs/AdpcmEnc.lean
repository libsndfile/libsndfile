/-
  Helper lemmas for SfProps/C07Adpcm.lean: the three ADPCM encoders (IMA WAV, IMA AIFF, MS) always emit whole blocks of the
  block length, for every legal writer geometry; ranges of the IMA quantiser and of `choose_predictor`; the encoder-state
  invariant `ESInv`, kept by every block (`encOf_spec`).
-/
import SfModel.AdpcmFile
import SfProofs.BlockWriter
import SfProofs.Bytes
namespace Sf.AdpcmEnc.Proofs
open Sf Sf.Adpcm Sf.AdpcmEnc Sf.Block Sf.Block.Proofs Sf.Float

/-- the first `k` frames of `ch` items each -/
def toFrames (ch : Nat) : Nat → List Int → List (List Int)
  | 0, _ => []
  | k + 1, xs => xs.take ch :: toFrames ch k (xs.drop ch)

theorem toFrames_spec (ch : Nat) : ∀ (k : Nat) (xs : List Int), xs.length = k * ch →
    (toFrames ch k xs).flatten = xs ∧ Uniform ch (toFrames ch k xs) ∧ (toFrames ch k xs).length = k := by
  intro k
  induction k with
  | zero =>
    intro xs h
    have : xs = [] := List.length_eq_zero_iff.mp (by simpa using h)
    subst this
    exact ⟨rfl, fun f hf => by simp [toFrames] at hf, rfl⟩
  | succ k ih =>
    intro xs h
    have hl : (xs.drop ch).length = k * ch := by rw [List.length_drop, h, Nat.succ_mul]; omega
    obtain ⟨h1, h2, h3⟩ := ih (xs.drop ch) hl
    refine ⟨?_, ?_, ?_⟩
    · simp only [toFrames, List.flatten_cons, h1, List.take_append_drop]
    · intro f hf
      simp only [toFrames, List.mem_cons] at hf
      rcases hf with rfl | hf
      · rw [List.length_take, h, Nat.succ_mul]; omega
      · exact h2 f hf
    · simp only [toFrames, List.length_cons, h3]

/-- frames of a list whose length is a multiple of `ch` -/
def framesOf (ch : Nat) (xs : List Int) : List (List Int) := toFrames ch (xs.length / ch) xs

theorem framesOf_spec (ch : Nat) (xs : List Int) (h : xs.length % ch = 0) :
    (framesOf ch xs).flatten = xs ∧ Uniform ch (framesOf ch xs) ∧ (framesOf ch xs).length = xs.length / ch := by
  apply toFrames_spec
  have := Nat.div_add_mod xs.length ch
  rw [h, Nat.add_zero, Nat.mul_comm] at this
  exact this.symm

theorem framesOf_map (ch : Nat) (f : Int → Int) : ∀ (k : Nat) (xs : List Int),
    toFrames ch k (xs.map f) = (toFrames ch k xs).map (fun fr => fr.map f) := by
  intro k
  induction k with
  | zero => intro xs; rfl
  | succ k ih => intro xs; simp only [toFrames, List.map_cons, ← List.map_take, ← List.map_drop, ih]

theorem uniform_flatten_inj (ch : Nat) (hch : 0 < ch) : ∀ (a b : List (List Int)), Uniform ch a → Uniform ch b →
    a.flatten = b.flatten → a = b := by
  intro a
  induction a with
  | nil =>
    intro b _ hb h
    cases b with
    | nil => rfl
    | cons f fs =>
      have := (uniform_cons hb).1
      have h2 : (f :: fs).flatten.length = 0 := by rw [← h]; rfl
      simp only [List.flatten_cons, List.length_append] at h2
      omega
  | cons f fs ih =>
    intro b ha hb h
    obtain ⟨hf, hfs⟩ := uniform_cons ha
    cases b with
    | nil =>
      have h2 : (f :: fs).flatten.length = 0 := by rw [h]; rfl
      simp only [List.flatten_cons, List.length_append] at h2
      omega
    | cons g gs =>
      obtain ⟨hg, hgs⟩ := uniform_cons hb
      simp only [List.flatten_cons] at h
      have h1 : f = g := by
        have := congrArg (List.take ch) h
        rwa [List.take_left' hf, List.take_left' hg] at this
      subst h1
      have h2 : fs.flatten = gs.flatten := List.append_cancel_left h
      rw [ih gs hfs hgs h2]

theorem quantBit_code (mask : Nat) (s : Nat × Int × Int × Int) : (quantBit mask s).1 ≤ s.1 + mask := by
  unfold quantBit
  split <;> simp only <;> omega

theorem imaQuant_code_lt (step diff : Int) : (imaQuant step diff).1 < 16 := by
  unfold imaQuant
  simp only
  have h0 : (if diff < 0 then ((8 : Nat), -diff, asr step 3, step) else (0, diff, asr step 3, step)).1 ≤ 8 := by
    split <;> simp
  generalize (if diff < 0 then ((8 : Nat), -diff, asr step 3, step) else (0, diff, asr step 3, step)) = s0 at h0
  have h1 := quantBit_code 4 s0
  have h2 := quantBit_code 2 (quantBit 4 s0)
  have h3 := quantBit_code 1 (quantBit 2 (quantBit 4 s0))
  omega

theorem clamp16_range (x : Int) : -32768 ≤ clamp16 x ∧ clamp16 x ≤ 32767 := by
  unfold clamp16
  split
  · omega
  · split <;> omega

theorem clampIdx_range (x : Int) : 0 ≤ clampImaStepIndex x ∧ clampImaStepIndex x ≤ 88 := by
  unfold clampImaStepIndex
  split
  · omega
  · split <;> omega

/-- the step index is inside `ima_step_size` -/
structure IdxOk (c : Ch) : Prop where
  lo : 0 ≤ c.idx
  hi : c.idx ≤ 88

theorem idxOk_init : IdxOk {} := ⟨by decide, by decide⟩

theorem imaStep_ok (c : Ch) (x : Int) :
    IdxOk (imaStep c x).1 ∧ (-32768 ≤ (imaStep c x).1.prev ∧ (imaStep c x).1.prev ≤ 32767) ∧ (imaStep c x).2 < 16 := by
  unfold imaStep
  simp only
  exact ⟨⟨(clampIdx_range _).1, (clampIdx_range _).2⟩, clamp16_range _, imaQuant_code_lt _ _⟩

theorem imaRun_ok : ∀ (xs : List Int) (c : Ch), IdxOk c → IdxOk (imaRun c xs).1 ∧ (∀ k ∈ (imaRun c xs).2, k < 16) ∧
    (imaRun c xs).2.length = xs.length := by
  intro xs
  induction xs with
  | nil => intro c h; exact ⟨h, fun k hk => by simp [imaRun] at hk, rfl⟩
  | cons x xs ih =>
    intro c _
    obtain ⟨h1, _, h2⟩ := imaStep_ok c x
    obtain ⟨h3, h4, h5⟩ := ih (imaStep c x).1 h1
    simp only [imaRun]
    exact ⟨h3, List.forall_mem_cons.mpr ⟨h2, h4⟩, by simp only [List.length_cons, h5]⟩

theorem wavEncLoop_ok (channels : Nat) : ∀ (xs : List Int) (k : Nat) (st : Ch × Ch), IdxOk st.1 → IdxOk st.2 →
    IdxOk (wavEncLoop channels k xs st).1.1 ∧ IdxOk (wavEncLoop channels k xs st).1.2 ∧
    (∀ c ∈ (wavEncLoop channels k xs st).2, c < 16) ∧ (wavEncLoop channels k xs st).2.length = xs.length := by
  intro xs
  induction xs with
  | nil => intro k st h1 h2; exact ⟨h1, h2, fun c hc => by simp [wavEncLoop] at hc, rfl⟩
  | cons x xs ih =>
    intro k st h1 h2
    simp only [wavEncLoop]
    by_cases hc : (if channels > 1 then k % 2 else 0) = 0
    · simp only [hc, if_true]
      obtain ⟨a1, _, a2⟩ := imaStep_ok st.1 x
      obtain ⟨b1, b2, b3, b4⟩ := ih (k + 1) ((imaStep st.1 x).1, st.2) a1 h2
      exact ⟨b1, b2, List.forall_mem_cons.mpr ⟨a2, b3⟩, by simp only [List.length_cons, b4]⟩
    · simp only [hc, if_false]
      obtain ⟨a1, _, a2⟩ := imaStep_ok st.2 x
      obtain ⟨b1, b2, b3, b4⟩ := ih (k + 1) (st.1, (imaStep st.2 x).1) h1 a1
      exact ⟨b1, b2, List.forall_mem_cons.mpr ⟨a2, b3⟩, by simp only [List.length_cons, b4]⟩

theorem wavPack1_length : ∀ (l : List Nat), (wavPack1 l).length = l.length / 2
  | [] => rfl
  | [_] => by simp [wavPack1]
  | _ :: _ :: rest => by
    simp only [wavPack1, List.length_cons, wavPack1_length rest]
    omega

theorem aiffPack_length : ∀ (l : List Nat), (aiffPack l).length = (l.length + 1) / 2
  | [] => rfl
  | [_] => by simp [aiffPack]
  | _ :: _ :: rest => by
    simp only [aiffPack, List.length_cons, aiffPack_length rest]
    omega

theorem msPack_length : ∀ (l : List Nat), (msPack l).length = l.length / 2
  | [] => rfl
  | [_] => by simp [msPack]
  | _ :: _ :: rest => by
    simp only [msPack, List.length_cons, msPack_length rest]
    omega

theorem wavPack2_length : ∀ (m : Nat) (l : List Nat), l.length = 16 * m → (wavPack2 l).length = 8 * m := by
  intro m
  induction m with
  | zero =>
    intro l h
    have : l = [] := List.length_eq_zero_iff.mp (by simpa using h)
    subst this; rfl
  | succ m ih =>
    intro l h
    match l, h with
    | _ :: _ :: _ :: _ :: _ :: _ :: _ :: _ :: _ :: _ :: _ :: _ :: _ :: _ :: _ :: _ :: rest, h =>
      simp only [List.length_cons] at h
      simp only [wavPack2, List.length_append, List.length_cons, List.length_nil, ih rest (by omega)]
      omega

theorem msChooseLoop_bpred (channels : Nat) (data : List Int) : ∀ (fuel bpred : Nat) (best : Nat × Nat),
    (msChooseLoop channels data fuel bpred best).1 < bpred + fuel ∨ msChooseLoop channels data fuel bpred best = best := by
  intro fuel
  induction fuel with
  | zero => intro b best; right; rfl
  | succ fuel ih =>
    intro b best
    simp only [msChooseLoop]
    split
    · left; simp only; omega
    · rcases ih (b + 1) (if b = 0 ∨ msTrial channels b data < best.2 then (b, msTrial channels b data) else best) with h | h
      · left; omega
      · rw [h]
        split
        · left; simp only; omega
        · right; rfl

theorem msStep_ok (channels : Nat) (bpred : Nat × Nat) (k : Nat) (x : Int) (idelta : Int × Int) (hist : List Int) :
    (msStep channels bpred k x idelta hist).2.1 < 16 ∧
    -32768 ≤ (msStep channels bpred k x idelta hist).2.2 ∧ (msStep channels bpred k x idelta hist).2.2 ≤ 32767 := by
  unfold msStep
  simp only
  exact ⟨wrapU_lt_pow 4 _, (clamp16_range _).1, (clamp16_range _).2⟩

/-- one pass: a delta of at least 16 stays at least 16 (`if (idelta < 16) idelta = 16`) -/
theorem msStep_idelta (channels : Nat) (bpred : Nat × Nat) (k : Nat) (x : Int) (idelta : Int × Int) (hist : List Int) :
    (16 ≤ idelta.1 → 16 ≤ (msStep channels bpred k x idelta hist).1.1) ∧
    (16 ≤ idelta.2 → 16 ≤ (msStep channels bpred k x idelta hist).1.2) := by
  unfold msStep
  simp only
  have hnd : ∀ (v : Int), 16 ≤ (if v < 16 then 16 else v) := by intro v; split <;> omega
  generalize (if channels > 1 then k % 2 else 0) = chan
  by_cases hc : chan = 0
  · simp only [hc, if_true]; exact ⟨fun _ => hnd _, fun h => h⟩
  · simp only [hc, if_false]; exact ⟨fun h => h, fun _ => hnd _⟩

theorem msEncLoop_spec (channels : Nat) (bpred : Nat × Nat) : ∀ (xs : List Int) (k : Nat) (idelta : Int × Int) (hist : List Int),
    (16 ≤ idelta.1 → 16 ≤ (msEncLoop channels bpred k xs idelta hist).1.1) ∧
    (16 ≤ idelta.2 → 16 ≤ (msEncLoop channels bpred k xs idelta hist).1.2) ∧
    (∀ c ∈ (msEncLoop channels bpred k xs idelta hist).2.1, c < 16) ∧
    (msEncLoop channels bpred k xs idelta hist).2.1.length = xs.length ∧
    (msEncLoop channels bpred k xs idelta hist).2.2.length = xs.length ∧
    (∀ s ∈ (msEncLoop channels bpred k xs idelta hist).2.2, -32768 ≤ s ∧ s ≤ 32767) := by
  intro xs
  induction xs with
  | nil =>
    intro k idelta hist
    exact ⟨fun h => h, fun h => h, fun c hc => by simp [msEncLoop] at hc, rfl, rfl, fun s hs => by simp [msEncLoop] at hs⟩
  | cons x xs ih =>
    intro k idelta hist
    obtain ⟨s3, s4, s5⟩ := msStep_ok channels bpred k x idelta hist
    obtain ⟨s1, s2⟩ := msStep_idelta channels bpred k x idelta hist
    obtain ⟨a1, a2, a3, a4, a5, a6⟩ := ih (k + 1) (msStep channels bpred k x idelta hist).1
      ((msStep channels bpred k x idelta hist).2.2 :: hist)
    simp only [msEncLoop]
    exact ⟨fun h => a1 (s1 h), fun h => a2 (s2 h), List.forall_mem_cons.mpr ⟨s3, a3⟩, by simp only [List.length_cons, a4],
      by simp only [List.length_cons, a5], List.forall_mem_cons.mpr ⟨⟨s4, s5⟩, a6⟩⟩

/-- what `geoOf` produces for 1 and 2 channels, with the block size left general:
    IMA WAV  `m` rounds of 8 samples per channel behind the header sample: blocksize = 4·ch·(m+1), samplesperblock = 8m+1
    IMA AIFF 34-byte packets of 64 samples
    MS       7 header bytes per channel, two samples per following byte -/
def WGeo (g : Geo) : Prop :=
  match g.kind with
  | .imaWav  => (g.ch = 1 ∨ g.ch = 2) ∧ ∃ m, g.ba = 4 * g.ch * (m + 1) ∧ g.spb = 8 * m + 1
  | .imaAiff => (g.ch = 1 ∨ g.ch = 2) ∧ g.ba = 34 ∧ g.spb = 64
  | .ms      => (g.ch = 1 ∧ 7 ≤ g.ba ∧ g.spb = 2 * (g.ba - 6)) ∨ (g.ch = 2 ∧ 14 ≤ g.ba ∧ g.spb = g.ba - 12)

theorem srate2blocksize_cases (p : Nat) :
    Geometry.srate2blocksize p = 256 ∨ Geometry.srate2blocksize p = 512 ∨ Geometry.srate2blocksize p = 1024 ∨
      Geometry.srate2blocksize p = 2048 := by
  unfold Geometry.srate2blocksize
  simp only
  split
  · left; rfl
  · split
    · right; left; rfl
    · split
      · right; right; left; rfl
      · right; right; right; rfl

theorem wgeo_pos (g : Geo) (h : WGeo g) : 0 < g.spb ∧ 0 < g.ch ∧ (g.ch = 1 ∨ g.ch = 2) ∧ 0 < g.ba := by
  unfold WGeo at h
  split at h
  · obtain ⟨hc, m, h1, h2⟩ := h
    rcases hc with hc | hc <;> rw [hc] at h1 ⊢ <;> exact ⟨by omega, by omega, by omega, by omega⟩
  · obtain ⟨hc, h1, h2⟩ := h
    rcases hc with hc | hc <;> rw [hc] <;> exact ⟨by omega, by omega, by omega, by omega⟩
  · rcases h with ⟨hc, h1, h2⟩ | ⟨hc, h1, h2⟩ <;> rw [hc] <;> exact ⟨by omega, by omega, by omega, by omega⟩

theorem deinterleave_length (channels chan : Nat) (l : List Int) : (deinterleave channels chan l).length = l.length / channels := by
  simp [deinterleave]

theorem imaWav_block_spec (ch m : Nat) (hc : ch = 1 ∨ ch = 2) (st : Ch × Ch) (h1 : IdxOk st.1) (h2 : IdxOk st.2)
    (buf : List Int) (hb : buf.length = (8 * m + 1) * ch) :
    (imaWavEncodeBlock ch (8 * m + 1) st buf).2.1.length = 4 * ch * (m + 1) ∧
    (imaWavEncodeBlock ch (8 * m + 1) st buf).2.2.length = (8 * m + 1) * ch ∧
    IdxOk (imaWavEncodeBlock ch (8 * m + 1) st buf).1.1 ∧ IdxOk (imaWavEncodeBlock ch (8 * m + 1) st buf).1.2 := by
  unfold imaWavEncodeBlock
  extract_lets s0 s1 hdr st0 body r block after
  have hst0 : IdxOk st0.1 ∧ IdxOk st0.2 := by
    rcases hc with rfl | rfl
    · exact ⟨⟨h1.lo, h1.hi⟩, h2⟩
    · exact ⟨⟨h1.lo, h1.hi⟩, ⟨h2.lo, h2.hi⟩⟩
  obtain ⟨l1, l2, _, l4⟩ := wavEncLoop_ok ch body ch st0 hst0.1 hst0.2
  have hbody : body.length = 8 * m * ch := by
    simp only [body, List.length_take, List.length_drop, hb]
    rcases hc with rfl | rfl <;> omega
  refine ⟨?_, ?_, l1, l2⟩
  · rcases hc with rfl | rfl
    · simp only [block, hdr, Nat.lt_irrefl, gt_iff_lt, if_false, List.length_append, wavHeaderBytes, List.length_cons,
        List.length_nil, wavPack, if_true, wavPack1_length, r, l4, hbody]
      omega
    · simp only [block, hdr, show (2 : Nat) > 1 from by decide, if_true, List.length_append, wavHeaderBytes, List.length_cons,
        List.length_nil, wavPack, show ((2 : Nat) = 1) = False from by simp, if_false,
        wavPack2_length m r.2 (by rw [l4, hbody]; omega)]
      omega
  · simp only [after, List.length_append, zeros, List.length_replicate, List.length_drop, List.length_take, List.length_map, r,
      l4, hbody, hb]
    rcases hc with rfl | rfl <;> omega

theorem aiffChannel_spec (c : Ch) (h : IdxOk c) (xs : List Int) (hx : xs.length = 64) :
    (aiffEncodeChannel c xs).2.length = 34 ∧ IdxOk (aiffEncodeChannel c xs).1 := by
  obtain ⟨r1, _, r3⟩ := imaRun_ok xs c h
  unfold aiffEncodeChannel
  simp only
  refine ⟨?_, r1⟩
  simp only [List.length_append, aiffHeaderBytes, List.length_cons, List.length_nil, aiffPack_length, r3, hx]

theorem imaAiff_block_spec (ch : Nat) (hc : ch = 1 ∨ ch = 2) (st : Ch × Ch) (h1 : IdxOk st.1) (h2 : IdxOk st.2)
    (buf : List Int) (hb : buf.length = 64 * ch) :
    (imaAiffEncodeBlock ch st buf).2.1.length = ch * 34 ∧ (imaAiffEncodeBlock ch st buf).2.2.length = 64 * ch ∧
    IdxOk (imaAiffEncodeBlock ch st buf).1.1 ∧ IdxOk (imaAiffEncodeBlock ch st buf).1.2 := by
  rcases hc with rfl | rfl
  · obtain ⟨a1, a2⟩ := aiffChannel_spec st.1 h1 buf (by omega)
    unfold imaAiffEncodeBlock
    simp only [Nat.lt_irrefl, if_false, gt_iff_lt]
    exact ⟨by rw [a1], hb, a2, h2⟩
  · obtain ⟨a1, a2⟩ := aiffChannel_spec st.1 h1 (deinterleave 2 0 buf) (by rw [deinterleave_length, hb])
    obtain ⟨b1, b2⟩ := aiffChannel_spec st.2 h2 (deinterleave 2 1 buf) (by rw [deinterleave_length, hb])
    unfold imaAiffEncodeBlock
    simp only [show (2 : Nat) > 1 from by decide, if_true]
    exact ⟨by rw [List.length_append, a1, b1], hb, a2, b2⟩

theorem le16_length (x : Int) : (le16 x).length = 2 := rfl

theorem ms_block_spec (ch ba spb : Nat) (hg : (ch = 1 ∧ 7 ≤ ba ∧ spb = 2 * (ba - 6)) ∨ (ch = 2 ∧ 14 ≤ ba ∧ spb = ba - 12))
    (buf : List Int) (hb : buf.length = spb * ch) :
    (msEncodeBlock ch spb buf).1.length = ba ∧ (msEncodeBlock ch spb buf).2.length = spb * ch := by
  have lc (bp k xs id hist) := (msEncLoop_spec ch bp xs k id hist).2.2.2.1
  have ls (bp k xs id hist) := (msEncLoop_spec ch bp xs k id hist).2.2.2.2.1
  unfold msEncodeBlock
  rcases hg with ⟨rfl, hba, hspb⟩ | ⟨rfl, hba, hspb⟩
  · simp only [if_true, List.length_append, List.length_cons, List.length_nil, le16_length, msPack_length, lc, ls, zeros,
      List.length_replicate, List.length_drop, List.length_take, hb, Nat.mul_one, Nat.min_self]
    omega
  · simp only [show ((2 : Nat) = 1) = False from by simp, if_false, List.length_append, List.length_cons, List.length_nil,
      le16_length, msPack_length, lc, ls, zeros, List.length_replicate, List.length_drop, List.length_take, hb, Nat.sub_mul,
      Nat.min_self]
    omega

/-- the encoder state a handle can be in: step indices inside the table, the stale buffer of block size -/
structure ESInv (g : Geo) (es : ES) : Prop where
  c0 : IdxOk es.st.1
  c1 : IdxOk es.st.2
  stale : es.stale.length = g.spb * g.ch

theorem esInv_init (g : Geo) : ESInv g (ES.init g) :=
  ⟨idxOk_init, idxOk_init, by simp [ES.init, zeros]⟩

theorem encOf_spec (g : Geo) (hg : WGeo g) (es : ES) (inv : ESInv g es) (buf : List Int) (hb : buf.length = g.spb * g.ch) :
    (encOf g es buf).2.length = g.blockBytes ∧ ESInv g (encOf g es buf).1 := by
  unfold WGeo at hg
  unfold encOf Geo.blockBytes
  split at hg
  · rename_i hk
    obtain ⟨hc, m, hba, hspb⟩ := hg
    rw [hspb] at hb
    obtain ⟨a1, a2, a3, a4⟩ := imaWav_block_spec g.ch m hc es.st inv.c0 inv.c1 buf hb
    simp only [hk, hspb]
    exact ⟨by rw [a1, hba]; simp, ⟨a3, a4, by simp only [a2, hspb]⟩⟩
  · rename_i hk
    obtain ⟨hc, hba, hspb⟩ := hg
    rw [hspb] at hb
    obtain ⟨a1, a2, a3, a4⟩ := imaAiff_block_spec g.ch hc es.st inv.c0 inv.c1 buf hb
    simp only [hk]
    exact ⟨by rw [a1, hba]; simp, ⟨a3, a4, by simp only [a2, hspb]⟩⟩
  · rename_i hk
    obtain ⟨a1, a2⟩ := ms_block_spec g.ch g.ba g.spb hg buf hb
    simp only [hk]
    exact ⟨by rw [a1]; simp, ⟨inv.c0, inv.c1, a2⟩⟩

theorem splitBlocksZ_flatten (bsz : Nat) : ∀ (bs : List (List Byte)), (∀ b ∈ bs, b.length = bsz) →
    splitBlocksZ bsz bs.length bs.flatten = bs := by
  intro bs
  induction bs with
  | nil => intro _; rfl
  | cons b bs ih =>
    intro h
    have hb := h b (by simp)
    simp only [List.length_cons, splitBlocksZ, List.flatten_cons]
    rw [List.take_left' hb, List.drop_left' hb, hb, Nat.sub_self, ih (fun c hc => h c (by simp [hc]))]
    simp

theorem adpcmReader_blocks (dec : List Byte → List Int) (ch ba spb : Nat) (hba : 0 < ba) (bs : List (List Byte))
    (h : ∀ b ∈ bs, b.length = ba) :
    (adpcmReader dec ch ba spb bs.flatten).frames = spb * bs.length ∧
    ∀ k, k < bs.length → (adpcmReader dec ch ba spb bs.flatten).src k = fixLen (spb * ch) (dec (bs.getD k [])) := by
  have hlen : bs.flatten.length = bs.length * ba := by
    rw [List.length_flatten, List.map_eq_replicate_iff.mpr h, List.sum_replicate_nat]
  have hnb : (if ba = 0 then 0 else if bs.flatten.length % ba ≠ 0 then bs.flatten.length / ba + 1 else bs.flatten.length / ba) = bs.length := by
    rw [if_neg (by omega), hlen, Nat.mul_mod_left, Nat.mul_div_cancel _ hba]; simp
  unfold adpcmReader
  simp only [hnb, splitBlocksZ_flatten ba bs h]
  refine ⟨trivial, ?_⟩
  intro k hk
  simp [hk]

end Sf.AdpcmEnc.Proofs
