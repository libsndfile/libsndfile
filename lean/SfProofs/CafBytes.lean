/-
  Byte-level lemmas for the CAF / W64 container theorems (C04Caf, C04W64): a fixed-width field read back
  where it lies (`FieldAt`), and `Int.tdiv` on a whole number of frames.
-/
import SfProofs.Fields
namespace Sf.CafW64
open Sf

theorem ofBE_fieldAt {bs : List Byte} {n v off : Nat} (h : FieldAt bs off (beBytes n v)) :
    ofBE ((bs.drop off).take n) = v % 256 ^ n := by
  rw [h.slice n (beBytes_length n v), ofBE_beBytes]

theorem ofLE_fieldAt {bs : List Byte} {n v off : Nat} (h : FieldAt bs off (leBytes n v)) :
    ofLE ((bs.drop off).take n) = v % 256 ^ n := by
  rw [h.slice n (leBytes_length n v), ofLE_leBytes]

/-- `w` frames of `bw` bytes are `w` frames again (the frame count a header rewrite computes from the data length) -/
theorem tdiv_frames (w bw : Nat) (h : 0 < bw) : Int.tdiv (((w * bw : Nat) : Int)) (bw : Int) = w := by
  have : ((w * bw : Nat) : Int) = (w : Int) * (bw : Int) := by simp
  rw [this, Int.mul_tdiv_cancel _ (by omega)]

end Sf.CafW64
