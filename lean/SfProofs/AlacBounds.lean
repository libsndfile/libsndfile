/-
  SfProofs.AlacBounds — what the ALAC decoder model does on ANY input: sizes of what it stores (`dyn_decomp` never stores more than
  `numSamples` residuals, and exactly that many when it succeeds; `unpc_block` turns `num` residuals into `num` samples; an element
  header never yields more than 4095 frames of its own), and the bit position of the reader only grows (so the element loop of
  `alac_decode` needs at most one round per 3 bits of the packet). Per function one statement with both (`*_spec`, `ElemRes.Within`).
-/
import SfModel.AlacDec
namespace Sf.AlacCore

theorem dynLoop_length (p : AgParams) (ms off0 mp : Nat) :
    ∀ (fuel left : Nat) (cur : Bits) (q mb z : Nat) (acc : List Int),
      (dynLoop p ms off0 mp fuel left cur q mb z acc).out.length ≤ acc.length + left ∧
      ((dynLoop p ms off0 mp fuel left cur q mb z acc).ok = true →
        (dynLoop p ms off0 mp fuel left cur q mb z acc).out.length = acc.length + left) := by
  intro fuel
  induction fuel with
  | zero =>
    intro left cur q mb z acc
    simp [dynLoop]
  | succ fuel ih =>
    intro left cur q mb z acc
    rw [dynLoop]
    by_cases h0 : left = 0
    · simp [h0]
    · simp only [h0, if_false]
      by_cases h1 : off0 + q ≥ mp
      · simp only [h1, if_true]; simp
      · simp only [h1, if_false]
        rcases hg : dynGet32 cur ((off0 + q) % 8) (2 ^ min (lg3a (mb / 512)) p.kb - 1) (min (lg3a (mb / 512)) p.kb) ms with ⟨n, used⟩
        simp only []
        generalize mbNext p.pb n ((n + z) % 4294967296) mb = mb1
        by_cases hz : mb1 * 4 % 4294967296 < 512 ∧ left - 1 > 0
        · simp only [hz, and_self, if_true]
          rcases hg2 : dynGet (List.drop used cur) ((off0 + (q + used)) % 8) ((2 ^ (lead mb1 - 24 + (mb1 + 16) / 64) - 1) &&& p.wb)
            (lead mb1 - 24 + (mb1 + 16) / 64) with ⟨n2, used2⟩
          simp only []
          by_cases hle : n2 > left - 1
          · simp only [hle, if_true]; simp; omega
          · simp only [hle, if_false]
            have := ih (left - 1 - n2) (List.drop used2 (List.drop used cur)) (q + used + used2) 0 (if n2 ≥ 65535 then 0 else 1)
              (List.replicate n2 0 ++ delOf ((n + z) % 4294967296) :: acc)
            simp only [List.length_append, List.length_replicate, List.length_cons] at this
            constructor
            · have := this.1; omega
            · intro hok; have := this.2 hok; omega
        · simp only [hz, if_false]
          have := ih (left - 1) (List.drop used cur) (q + used) mb1 0 (delOf ((n + z) % 4294967296) :: acc)
          simp only [List.length_cons] at this
          constructor
          · have := this.1; omega
          · intro hok; have := this.2 hok; omega

theorem dynDecomp_length (p : AgParams) (r : Rd) (byteSize numSamples maxSize : Nat) :
    (dynDecomp p r byteSize numSamples maxSize).1.out.length ≤ numSamples ∧
    ((dynDecomp p r byteSize numSamples maxSize).1.ok = true → (dynDecomp p r byteSize numSamples maxSize).1.out.length = numSamples) := by
  have h := dynLoop_length p maxSize (r.pos % 8) (byteSize * 8) numSamples numSamples r.rest 0 p.mb0 0 []
  simp only [dynDecomp, List.length_nil, Nat.zero_add] at h ⊢
  refine ⟨h.1, ?_⟩
  intro hok
  simp only [Bool.and_eq_true] at hok
  exact h.2 hok.1

theorem unpcLoop_length (na cb ds : Nat) : ∀ (pcs : List Int) (j : Nat) (coefs hist : List Int),
    (unpcLoop na cb ds pcs j coefs hist).length = hist.length + pcs.length
  | [], _, _, _ => by simp [unpcLoop]
  | pc :: pcs, j, coefs, hist => by
    rw [unpcLoop]
    split
    · rw [unpcLoop_length]; simp; omega
    · rcases unpcStep na cb ds coefs hist pc with ⟨o, c⟩
      simp only []
      rw [unpcLoop_length]; simp; omega

theorem foldl_cons_length (f : List Int → Int → Int) : ∀ (pcs : List Int) (acc : List Int),
    (pcs.foldl (fun (acc : List Int) pc => f acc pc :: acc) acc).length = acc.length + pcs.length
  | [], acc => by simp
  | pc :: pcs, acc => by simp [foldl_cons_length f pcs]; omega

theorem unpcBlock_length (pc1 coefs : List Int) (na cb ds : Nat) : (unpcBlock pc1 coefs na cb ds).length = pc1.length := by
  cases pc1 with
  | nil => rfl
  | cons p0 pcs =>
    simp only [unpcBlock]
    split
    · rfl
    · split
      · rw [List.length_reverse, foldl_cons_length (fun acc pc => sx cb (w32 (pc + acc.headD 0)))]; simp; omega
      · rw [List.length_reverse, unpcLoop_length]; simp; omega

theorem rdHeader_bounds (numSamples : Nat) (r r' : Rd) (h : Hdr) (e : rdHeader numSamples r = (.ok h, r')) :
    (h.numSamples = numSamples ∨ h.numSamples < frameLen) ∧ h.bytesShifted ≤ 2 := by
  unfold rdHeader at e
  simp only [] at e
  by_cases h0 : ((r.read 4).2.read 12).1 ≠ 0
  · rw [if_pos h0] at e; cases e
  rw [if_neg h0] at e
  generalize (((r.read 4).2.read 12).2.read 4) = hb at e
  by_cases h3 : hb.1 / 2 % 4 = 3
  · rw [if_pos h3] at e; cases e
  rw [if_neg h3] at e
  by_cases hp : hb.1 / 8 ≠ 0
  · rw [if_pos hp] at e
    by_cases hn : ((hb.2.read 16).1 * 65536 + ((hb.2.read 16).2.read 16).1) < frameLen
    · rw [if_pos hn] at e; cases e; exact ⟨Or.inr hn, by simp only; omega⟩
    · rw [if_neg hn] at e; cases e
  · rw [if_neg hp] at e; cases e; exact ⟨Or.inl rfl, by simp only; omega⟩
theorem read_eq (r : Rd) (n : Nat) : r.read n = ((rdBits n r.rest 0).1, ⟨(rdBits n r.rest 0).2, r.pos + n⟩) := by
  unfold Rd.read
  generalize rdBits n r.rest 0 = y at *

  obtain ⟨v, rest⟩ := y
  rfl

theorem byteAlign_pos (r : Rd) : r.pos ≤ r.byteAlign.pos := by
  unfold Rd.byteAlign Rd.advance
  split <;> simp

theorem rdEscSample_pos (cb : Nat) (r : Rd) : r.pos ≤ (rdEscSample cb r).2.pos := by
  simp only [rdEscSample, read_eq]
  split <;> simp <;> omega

theorem rdEscSampleVOld_pos (cb : Nat) (r : Rd) : r.pos ≤ (rdEscSampleVOld cb r).2.pos := by
  simp only [rdEscSampleVOld]
  split
  · exact rdEscSample_pos cb r
  · simp [read_eq]; omega

theorem rdMonoEsc_spec (cb : Nat) : ∀ (n : Nat) (r : Rd), (rdMonoEsc cb n r).1.length = n ∧ r.pos ≤ (rdMonoEsc cb n r).2.pos
  | 0, _ => ⟨rfl, Nat.le_refl _⟩
  | n + 1, r => by
    have h1 := rdEscSample_pos cb r
    have ih := rdMonoEsc_spec cb n (rdEscSample cb r).2
    rw [rdMonoEsc]
    exact ⟨by simp [ih.1], Nat.le_trans h1 ih.2⟩

theorem rdPairEsc_spec (ru : Rules) (cb : Nat) : ∀ (n : Nat) (r : Rd),
    (rdPairEsc ru cb n r).1.length = n ∧ (rdPairEsc ru cb n r).2.1.length = n ∧ r.pos ≤ (rdPairEsc ru cb n r).2.2.pos
  | 0, _ => ⟨rfl, rfl, Nat.le_refl _⟩
  | n + 1, r => by
    have h1 := rdEscSample_pos cb r
    have h2 : (rdEscSample cb r).2.pos ≤ (if ru.decPairVShift = true then rdEscSample cb (rdEscSample cb r).2 else rdEscSampleVOld cb (rdEscSample cb r).2).2.pos := by
      split
      · exact rdEscSample_pos cb _
      · exact rdEscSampleVOld_pos cb _
    have ih := rdPairEsc_spec ru cb n (if ru.decPairVShift = true then rdEscSample cb (rdEscSample cb r).2 else rdEscSampleVOld cb (rdEscSample cb r).2).2
    rw [rdPairEsc]
    exact ⟨by simp [ih.1], by simp [ih.2.1], Nat.le_trans h1 (Nat.le_trans h2 ih.2.2)⟩

theorem rdHeader_pos (n : Nat) (r : Rd) : r.pos ≤ (rdHeader n r).2.pos := by
  simp only [rdHeader, read_eq]
  repeat' split
  all_goals (simp; try omega)

theorem rdCoefs_pos : ∀ (n : Nat) (r : Rd), r.pos ≤ (rdCoefs n r).2.pos
  | 0, _ => by simp [rdCoefs]
  | n + 1, r => by
    have h := rdCoefs_pos n (r.read 16).2
    have e : (rdCoefs (n + 1) r).2 = (rdCoefs n (r.read 16).2).2 := by rw [rdCoefs]
    rw [e]
    simp only [read_eq] at h ⊢; omega

theorem rdChanParams_pos (r : Rd) : r.pos ≤ (rdChanParams r).2.pos := by
  have e : (rdChanParams r).2 = (rdCoefs (((r.read 8).2.read 8).1 % 32) ((r.read 8).2.read 8).2).2 := by rw [rdChanParams]
  rw [e]
  have h := rdCoefs_pos (((r.read 8).2.read 8).1 % 32) ((r.read 8).2.read 8).2
  simp only [read_eq] at h ⊢; omega

theorem outChan_length (ru : Rules) (depth bs : Nat) (mix : List Int) (sh : List Nat) (o : List Int)
    (e : outChan ru depth bs mix sh = some o) : o.length ≤ mix.length := by
  -- every branch maps over `mix`, or zips it with the shift buffer
  have hz : ∀ f : Int → Nat → Int, (List.zipWith f mix sh).length ≤ mix.length := fun f => by
    rw [List.length_zipWith]; exact Nat.min_le_left _ _
  unfold outChan at e
  by_cases h16 : depth = 16
  · rw [if_pos h16] at e; cases e; simp
  rw [if_neg h16] at e
  by_cases h20 : depth = 20
  · rw [if_pos h20] at e; cases e; simp
  rw [if_neg h20] at e
  by_cases h24 : depth = 24
  · rw [if_pos h24] at e
    by_cases hb : bs ≠ 0
    · rw [if_pos hb] at e; cases e; exact hz _
    · rw [if_neg hb] at e; cases e; simp
  rw [if_neg h24] at e
  by_cases h32 : depth = 32
  · rw [if_pos h32] at e
    by_cases hb : bs ≠ 0
    · rw [if_pos hb] at e; cases e; exact hz _
    · rw [if_neg hb] at e; cases e; split <;> simp
  · rw [if_neg h32] at e; cases e
theorem decChan_spec (cfg : Config) (b n cb : Nat) (pr : Nat × Nat × Nat × List Int) (r : Rd) :
    r.pos ≤ (decChan cfg b n cb pr r).2.pos ∧ ∀ mix, (decChan cfg b n cb pr r).1 = some mix → mix.length = n := by
  obtain ⟨mode, den, pbf, coefs⟩ := pr
  have hl := dynDecomp_length (setAgParams cfg.mb (cfg.pb * pbf / 4) cfg.kb) r b n cb
  have hp : r.pos ≤ (dynDecomp (setAgParams cfg.mb (cfg.pb * pbf / 4) cfg.kb) r b n cb).2.pos := by simp [dynDecomp, Rd.advance]
  simp only [decChan]
  generalize dynDecomp (setAgParams cfg.mb (cfg.pb * pbf / 4) cfg.kb) r b n cb = d at hl hp
  obtain ⟨ag, r1⟩ := d
  split
  · exact ⟨hp, fun mix h => nomatch h⟩
  · rename_i hok
    refine ⟨hp, fun mix h => ?_⟩
    have hok' : ag.ok = true := by simpa using hok
    cases h
    rw [unpcBlock_length]
    split
    · exact hl.2 hok'
    · rw [unpcBlock_length]; exact hl.2 hok'

theorem compMono_spec (ru : Rules) (b : Nat) (cfg : Config) (h : Hdr) (r : Rd) :
    r.pos ≤ (compMono ru b cfg h r).2.pos ∧ ∀ o, (compMono ru b cfg h r).1 = .ok o → (o.getD []).length ≤ h.numSamples := by
  simp only [compMono]
  have h1 : r.pos ≤ (rdChanParams ((r.read 8).2.read 8).2).2.pos := by
    have := rdChanParams_pos ((r.read 8).2.read 8).2
    simp only [read_eq] at this ⊢; omega
  generalize (rdChanParams ((r.read 8).2.read 8).2) = pr at h1
  obtain ⟨pr, r1⟩ := pr
  have h2 : r1.pos ≤ (if h.bytesShifted ≠ 0 then r1.advance (8 * h.bytesShifted * h.numSamples) else r1).pos := by
    split <;> simp [Rd.advance]
  generalize hr2 : (if h.bytesShifted ≠ 0 then r1.advance (8 * h.bytesShifted * h.numSamples) else r1) = r2 at h2
  split
  · exact ⟨by simp only at h1 ⊢; omega, fun o e => nomatch e⟩
  · have h3 := decChan_spec cfg b h.numSamples (cfg.bitDepth - 8 * h.bytesShifted) pr r2
    split
    · rename_i r3 he; rw [he] at h3
      exact ⟨by simp only at h1 h3 ⊢; omega, fun o e => nomatch e⟩
    · rename_i mix r3 he; rw [he] at h3
      refine ⟨by simp only at h1 h3 ⊢; omega, fun o e => ?_⟩
      cases e
      have hm := h3.2 mix rfl
      cases ho : outChan ru cfg.bitDepth h.bytesShifted mix _ with
      | none => simp
      | some o => have := outChan_length _ _ _ _ _ _ ho; simp; omega

theorem compPair_spec (b : Nat) (cfg : Config) (h : Hdr) (r : Rd) :
    r.pos ≤ (compPair b cfg h r).2.pos ∧
      ∀ x y, (compPair b cfg h r).1 = .ok (some (x, y)) → x.length ≤ h.numSamples ∧ y.length ≤ h.numSamples := by
  simp only [compPair]
  have h1 : r.pos ≤ (rdChanParams ((r.read 8).2.read 8).2).2.pos := by
    have := rdChanParams_pos ((r.read 8).2.read 8).2
    simp only [read_eq] at this ⊢; omega
  generalize (rdChanParams ((r.read 8).2.read 8).2) = pu at h1
  obtain ⟨pu, r1⟩ := pu
  have h1b := rdChanParams_pos r1
  generalize rdChanParams r1 = pv at h1b
  obtain ⟨pv, r1b⟩ := pv
  have h2 : r1b.pos ≤ (if h.bytesShifted ≠ 0 then r1b.advance (8 * h.bytesShifted * 2 * h.numSamples) else r1b).pos := by
    split <;> simp [Rd.advance]
  generalize (if h.bytesShifted ≠ 0 then r1b.advance (8 * h.bytesShifted * 2 * h.numSamples) else r1b) = r2 at h2
  split
  · exact ⟨by simp only at h1 h1b ⊢; omega, fun x y e => nomatch e⟩
  · have h3 := decChan_spec cfg b h.numSamples (cfg.bitDepth - 8 * h.bytesShifted + 1) pu r2
    split
    · rename_i r3 he; rw [he] at h3
      exact ⟨by simp only at h1 h1b h3 ⊢; omega, fun x y e => nomatch e⟩
    · rename_i u r3 he; rw [he] at h3
      have h4 := decChan_spec cfg b h.numSamples (cfg.bitDepth - 8 * h.bytesShifted + 1) pv r3
      split
      · rename_i r4 he2; rw [he2] at h4
        exact ⟨by simp only at h1 h1b h3 h4 ⊢; omega, fun x y e => nomatch e⟩
      · rename_i v r4 he2; rw [he2] at h4
        have hu := h3.2 u rfl
        split
        · refine ⟨by simp only at h1 h1b h3 h4 ⊢; omega, fun x y e => ?_⟩
          simp only [Except.ok.injEq, Option.some.injEq, Prod.mk.injEq] at e
          obtain ⟨rfl, rfl⟩ := e
          simp only [List.length_map, List.length_zip]
          omega
        · exact ⟨by simp only at h1 h1b h3 h4 ⊢; omega, fun x y e => nomatch e⟩

/-- the reader an audio element leaves behind -/
def ElemRes.rd : ElemRes → Rd
  | .done _ _ r => r
  | .fail _ r => r

/-- what an audio element of `k` channels may do, on any input: the reader stays or moves on; a decoded element has the frame count
    asked for or one of its own below 4096, and `k` channels of at most that many samples -/
def ElemRes.Within (e : ElemRes) (r : Rd) (reqN k : Nat) : Prop :=
  r.pos ≤ e.rd.pos ∧ ∀ n chans r', e = .done n chans r' → (n = reqN ∨ n < frameLen) ∧ chans.length = k ∧ ∀ ch ∈ chans, ch.length ≤ n

theorem decMono_within (ru : Rules) (b : Nat) (cfg : Config) (reqN : Nat) (r : Rd) : (decMono (comp ru b) ru cfg reqN r).Within r reqN 1 := by
  unfold decMono
  have h1 := rdHeader_pos reqN r
  split
  · rename_i st r1 he; rw [he] at h1
    exact ⟨h1, fun _ _ _ e => nomatch e⟩
  · rename_i h r1 he
    have hb := rdHeader_bounds _ _ _ _ he
    rw [he] at h1
    split
    · have h2 := rdMonoEsc_spec (cfg.bitDepth - 8 * h.bytesShifted) h.numSamples r1
      dsimp only
      generalize rdMonoEsc (cfg.bitDepth - 8 * h.bytesShifted) h.numSamples r1 = y at h2
      obtain ⟨mix, r2⟩ := y
      refine ⟨by simp only [ElemRes.rd] at h1 h2 ⊢; omega, fun n chans r' e => ?_⟩
      cases e
      refine ⟨hb.1, rfl, fun ch hch => ?_⟩
      rw [List.mem_singleton.mp hch]
      cases ho : outChan ru cfg.bitDepth 0 mix [] with
      | none => simp
      | some o => have := outChan_length _ _ _ _ _ _ ho; simp only [Option.getD_some]; have := h2.1; simp only at this; omega
    · have h2 := compMono_spec ru b cfg h r1
      simp only [comp]
      split
      · rename_i st r2 he2; rw [he2] at h2
        exact ⟨by simp only [ElemRes.rd] at h1 h2 ⊢; omega, fun _ _ _ e => nomatch e⟩
      · rename_i o r2 he2; rw [he2] at h2
        refine ⟨by simp only [ElemRes.rd] at h1 h2 ⊢; omega, fun n chans r' e => ?_⟩
        cases e
        exact ⟨hb.1, rfl, fun ch hch => by rw [List.mem_singleton.mp hch]; exact h2.2 o rfl⟩

theorem decPair_within (ru : Rules) (b : Nat) (cfg : Config) (reqN : Nat) (r : Rd) : (decPair (comp ru b) ru cfg reqN r).Within r reqN 2 := by
  unfold decPair
  have h1 := rdHeader_pos reqN r
  split
  · rename_i st r1 he; rw [he] at h1
    exact ⟨h1, fun _ _ _ e => nomatch e⟩
  · rename_i h r1 he
    have hb := rdHeader_bounds _ _ _ _ he
    rw [he] at h1
    -- both channels of a decoded pair: at most `h.numSamples` samples each (none when the depth is not one the switch knows)
    have two : ∀ (x y : List Int), x.length ≤ h.numSamples → y.length ≤ h.numSamples → ∀ ch ∈ [x, y], ch.length ≤ h.numSamples := by
      intro x y hx hy ch hch
      simp only [List.mem_cons, List.not_mem_nil, or_false] at hch
      rcases hch with rfl | rfl <;> assumption
    split
    · have h2 := rdPairEsc_spec ru cfg.bitDepth h.numSamples r1
      generalize rdPairEsc ru cfg.bitDepth h.numSamples r1 = y at h2
      obtain ⟨u, v, r2⟩ := y
      simp only at h2 ⊢
      unfold outPair0
      cases hu : outChan Rules.current cfg.bitDepth 0 u [] with
      | none => exact ⟨by simp only [ElemRes.rd] at h1 ⊢; omega, fun n chans r' e => by cases e; exact ⟨hb.1, rfl, two _ _ (by simp) (by simp)⟩⟩
      | some x =>
        cases hv : outChan Rules.current cfg.bitDepth 0 v [] with
        | none => exact ⟨by simp only [ElemRes.rd] at h1 ⊢; omega, fun n chans r' e => by cases e; exact ⟨hb.1, rfl, two _ _ (by simp) (by simp)⟩⟩
        | some y =>
          have hx := outChan_length _ _ _ _ _ _ hu
          have hy := outChan_length _ _ _ _ _ _ hv
          exact ⟨by simp only [ElemRes.rd] at h1 ⊢; omega, fun n chans r' e => by cases e; exact ⟨hb.1, rfl, two _ _ (by omega) (by omega)⟩⟩
    · have h2 := compPair_spec b cfg h r1
      simp only [comp]
      split
      · rename_i st r2 he2; rw [he2] at h2
        exact ⟨by simp only [ElemRes.rd] at h1 h2 ⊢; omega, fun _ _ _ e => nomatch e⟩
      · rename_i x y r2 he2; rw [he2] at h2
        have := h2.2 x y rfl
        exact ⟨by simp only [ElemRes.rd] at h1 h2 ⊢; omega, fun n chans r' e => by cases e; exact ⟨hb.1, rfl, two _ _ this.1 this.2⟩⟩
      · rename_i r2 he2; rw [he2] at h2
        exact ⟨by simp only [ElemRes.rd] at h1 h2 ⊢; omega, fun n chans r' e => by cases e; exact ⟨hb.1, rfl, two _ _ (by simp) (by simp)⟩⟩

theorem decFill_pos (b : Nat) (r : Rd) : r.pos ≤ (decFill b r).2.pos := by
  simp only [decFill, read_eq]
  split <;> simp [Rd.advance] <;> omega

theorem decDse_pos (b : Nat) (r : Rd) : r.pos ≤ (decDse b r).2.pos := by
  simp only [decDse, read_eq]
  split <;> split <;> simp [Rd.advance] <;>
    first
      | omega
      | (refine Nat.le_trans (Nat.le_trans ?_ (byteAlign_pos _)) (Nat.le_add_right _ _); dsimp only; omega)

/-- the channels `alac_decode` pads with zeros fit the bounds the written ones fit -/
theorem zeroFill_inBounds (nc n : Nat) (written : List (List Int)) (hw : written.length ≤ nc) (hn : n ≤ frameLen)
    (hc : ∀ ch ∈ written, ch.length ≤ frameLen) :
    (zeroFill nc n written).length ≤ nc ∧ ∀ ch ∈ zeroFill nc n written, ch.length ≤ frameLen := by
  unfold zeroFill
  constructor
  · simp; omega
  · intro ch hch
    simp only [List.mem_append, List.mem_replicate] at hch
    rcases hch with h | ⟨_, rfl⟩
    · exact hc ch h
    · simpa using hn

/-- more fuel than the packet has tag bits never changes what the element loop returns -/
theorem decLoop_fuel (ru : Rules) (cfg : Config) (byteSize : Nat) : ∀ (f : Nat) (s : St), 8 * byteSize ≤ s.r.pos + 3 * f → ∀ g, f ≤ g →
    decLoop (comp ru byteSize) ru cfg byteSize f s = decLoop (comp ru byteSize) ru cfg byteSize g s := by
  intro f
  induction f with
  | zero =>
    intro s hs g _
    cases g with
    | zero => rfl
    | succ g =>
      have hc : s.r.curByte ≥ byteSize := by simp only [Rd.curByte]; omega
      rw [decLoop, decLoop]
      simp only [hc, if_true]
  | succ f ih =>
    intro s hs g hg
    obtain ⟨g, rfl⟩ : ∃ g', g = g' + 1 := ⟨g - 1, by omega⟩
    have key : ∀ s1 : St, s.r.pos + 3 ≤ s1.r.pos →
        decLoop (comp ru byteSize) ru cfg byteSize f s1 = decLoop (comp ru byteSize) ru cfg byteSize g s1 :=
      fun s1 h => ih s1 (by omega) g (by omega)
    rw [decLoop, decLoop]
    by_cases hc : s.r.curByte ≥ byteSize
    · simp only [hc, if_true]
    · simp only [hc, if_false]
      have hp : ((s.r.read 3).2).pos = s.r.pos + 3 := by simp [read_eq]
      generalize s.r.read 3 = tr at hp ⊢
      obtain ⟨tag, r⟩ := tr
      simp only at hp ⊢
      by_cases h1 : tag = ID_SCE ∨ tag = ID_LFE
      · simp only [h1, if_true]
        have hm := (decMono_within ru byteSize cfg s.numSamples r).1
        cases hd : decMono (comp ru byteSize) ru cfg s.numSamples r with
        | fail st r' => rfl
        | done n chans r' =>
          rw [hd] at hm
          simp only [ElemRes.rd] at hm ⊢
          rw [key ⟨r', n, n, s.written ++ chans⟩ (by simp only; omega)]
      · simp only [h1, if_false]
        by_cases h2 : tag = ID_CPE
        · simp only [h2, if_true]
          by_cases h3 : s.written.length + 2 > cfg.numChannels
          · simp only [h3, if_true]
          · simp only [h3, if_false]
            have hm := (decPair_within ru byteSize cfg s.numSamples r).1
            cases hd : decPair (comp ru byteSize) ru cfg s.numSamples r with
            | fail st r' => rfl
            | done n chans r' =>
              rw [hd] at hm
              simp only [ElemRes.rd] at hm ⊢
              rw [key ⟨r', n, n, s.written ++ chans⟩ (by simp only; omega)]
        · simp only [h2, if_false]
          have k1 := key { s with r := (decDse byteSize r).2 } (by have := decDse_pos byteSize r; simp only; omega)
          have k2 := key { s with r := (decFill byteSize r).2 } (by have := decFill_pos byteSize r; simp only; omega)
          rw [k1, k2]

end Sf.AlacCore
