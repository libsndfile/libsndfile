/-
  SfProofs.FloatVal — the rational value of a dyadic, and round-to-nearest-even as a relation on ℚ × ℤ.
-/
import SfProofs.FloatRne
import Mathlib.Tactic.Ring
import Mathlib.Tactic.Linarith
import Mathlib.Tactic.Positivity
import Mathlib.Tactic.FieldSimp
import Mathlib.Tactic.NormNum
import Mathlib.Algebra.Order.Field.Power
import Mathlib.Algebra.Order.Field.Rat
namespace Sf.Float

/-- the rational number a dyadic denotes: (-1)^neg · m · 2^e -/
def Dy.val (a : Dy) : ℚ := (if a.neg then -1 else 1) * (a.m : ℚ) * (2 : ℚ) ^ a.e

def Dy.mag (a : Dy) : ℚ := (a.m : ℚ) * (2 : ℚ) ^ a.e

theorem Dy.val_eq (a : Dy) : a.val = (if a.neg then -a.mag else a.mag) := by
  unfold Dy.val Dy.mag; split <;> ring

theorem Dy.mag_nonneg (a : Dy) : 0 ≤ a.mag := by unfold Dy.mag; positivity

theorem two_zpow_pos (k : Int) : (0 : ℚ) < 2 ^ k := by positivity

/-- `n` is the integer nearest to `v`, ties to even -/
def IsRNE (v : ℚ) (n : ℤ) : Prop :=
  v - 1 / 2 ≤ n ∧ (n : ℚ) ≤ v + 1 / 2 ∧ (((n : ℚ) = v + 1 / 2 ∨ (n : ℚ) = v - 1 / 2) → n % 2 = 0)

theorem IsRNE.mono {v₁ v₂ : ℚ} {n₁ n₂ : ℤ} (h₁ : IsRNE v₁ n₁) (h₂ : IsRNE v₂ n₂) (h : v₁ ≤ v₂) : n₁ ≤ n₂ := by
  obtain ⟨a1, b1, c1⟩ := h₁
  obtain ⟨a2, b2, c2⟩ := h₂
  by_contra hlt
  have hge : n₂ + 1 ≤ n₁ := by omega
  have hgeq : ((n₂ : ℚ) + 1) ≤ n₁ := by exact_mod_cast hge
  -- n₂ + 1 ≤ n₁ ≤ v₁ + 1/2 ≤ v₂ + 1/2 ≤ n₂ + 1: both are ties, one unit apart
  have e1 : (n₁ : ℚ) = v₁ + 1 / 2 := by linarith only [b1, a2, hgeq, h]
  have e2 : (n₂ : ℚ) = v₂ - 1 / 2 := by linarith only [b1, a2, hgeq, h]
  have e3 : n₁ = n₂ + 1 := by exact_mod_cast (by linarith only [b1, a2, hgeq, h] : (n₁ : ℚ) = n₂ + 1)
  have := c1 (Or.inl e1)
  have := c2 (Or.inr e2)
  omega

theorem IsRNE.unique {v : ℚ} {n₁ n₂ : ℤ} (h₁ : IsRNE v n₁) (h₂ : IsRNE v n₂) : n₁ = n₂ :=
  Int.le_antisymm (h₁.mono h₂ (le_refl _)) (h₂.mono h₁ (le_refl _))

theorem IsRNE.int (z : ℤ) : IsRNE (z : ℚ) z := by
  refine ⟨by linarith, by linarith, ?_⟩
  rintro (h | h) <;> linarith

theorem IsRNE.neg {v : ℚ} {n : ℤ} (h : IsRNE v n) : IsRNE (-v) (-n) := by
  obtain ⟨a, b, c⟩ := h
  refine ⟨by push_cast; linarith only [b], by push_cast; linarith only [a], ?_⟩
  rintro (h | h)
  · have : n % 2 = 0 := c (Or.inr (by push_cast at h; linarith only [h])); omega
  · have : n % 2 = 0 := c (Or.inl (by push_cast at h; linarith only [h])); omega

theorem IsRNE.le_int {v : ℚ} {n : ℤ} (h : IsRNE v n) (z : ℤ) (hz : v ≤ z) : n ≤ z := h.mono (IsRNE.int z) hz
theorem IsRNE.ge_int {v : ℚ} {n : ℤ} (h : IsRNE v n) (z : ℤ) (hz : (z : ℚ) ≤ v) : z ≤ n := (IsRNE.int z).mono h hz
theorem IsRNE.eq_int {v : ℚ} {n : ℤ} (h : IsRNE v n) (z : ℤ) (hz : v = z) : n = z := by
  subst hz; exact h.unique (IsRNE.int z)

theorem IsRNE.abs_le {v : ℚ} {n : ℤ} (h : IsRNE v n) : |(n : ℚ) - v| ≤ 1 / 2 := by
  rw [_root_.abs_le]; constructor <;> linarith [h.1, h.2.1]

theorem rneShr_isRNE (m k : Nat) : IsRNE ((m : ℚ) / 2 ^ k) (rneShr m k) := by
  have hb := rneShr_bound m k
  have ht := rneShr_tie_even m k
  have hd : (0 : ℚ) < 2 ^ k := by positivity
  have b1 : (2 * ((rneShr m k : ℚ) * 2 ^ k)) ≤ 2 * m + 2 ^ k := by exact_mod_cast hb.1
  have b2 : (2 * (m : ℚ)) ≤ 2 * ((rneShr m k : ℚ) * 2 ^ k) + 2 ^ k := by exact_mod_cast hb.2
  refine ⟨?_, ?_, ?_⟩
  · rw [sub_le_iff_le_add, div_le_iff₀ hd]; push_cast; linarith only [b2]
  · rw [← sub_le_iff_le_add, le_div_iff₀ hd]; push_cast; linarith only [b1]
  · rintro (h | h)
    · have : (2 * ((rneShr m k : ℚ) * 2 ^ k)) = 2 * m + 2 ^ k := by
        push_cast at h; rw [h]; field_simp
      have : 2 * (rneShr m k * 2 ^ k) = 2 * m + 2 ^ k := by exact_mod_cast this
      have := ht (Or.inl this); omega
    · have : (2 * (m : ℚ)) = 2 * ((rneShr m k : ℚ) * 2 ^ k) + 2 ^ k := by
        push_cast at h; rw [h]; field_simp; ring
      have : 2 * m = 2 * (rneShr m k * 2 ^ k) + 2 ^ k := by exact_mod_cast this
      have := ht (Or.inr this); omega

theorem rneShr_mono (m₁ m₂ k : Nat) (h : m₁ ≤ m₂) : rneShr m₁ k ≤ rneShr m₂ k := by
  have := (rneShr_isRNE m₁ k).mono (rneShr_isRNE m₂ k) (div_le_div_of_nonneg_right (Nat.cast_le.mpr h) (by positivity))
  exact_mod_cast this

theorem rneScale_mono (m₁ m₂ : Nat) (k : Int) (h : m₁ ≤ m₂) : rneScale m₁ k ≤ rneScale m₂ k := by
  unfold rneScale
  split
  · exact Nat.mul_le_mul_right _ h
  · exact rneShr_mono _ _ _ h

theorem rneScale_isRNE (m : Nat) (k : Int) : IsRNE ((m : ℚ) * 2 ^ k) (rneScale m k) := by
  unfold rneScale
  split
  · rename_i h
    have : ((m : ℚ) * 2 ^ k) = ((m * 2 ^ k.toNat : Nat) : ℤ) := by
      push_cast
      congr 1
      rw [← zpow_natCast]; congr 1; omega
    rw [this]; exact_mod_cast IsRNE.int _
  · rename_i h
    have : ((m : ℚ) * 2 ^ k) = (m : ℚ) / 2 ^ (-k).toNat := by
      rw [div_eq_mul_inv, ← zpow_natCast, ← zpow_neg]; congr 2; omega
    rw [this]; exact rneShr_isRNE _ _

theorem Dy.rint_isRNE (a : Dy) : IsRNE a.val a.rint := by
  unfold Dy.rint Dy.val
  have := rneScale_isRNE a.m a.e
  cases a.neg
  · simpa using this
  · have := this.neg
    simpa [mul_assoc] using this

end Sf.Float
