/-
  SfProofs.Small2Session — the write-session machine of SfModel/Small2.lean, for every container at once:
  the store is always `header ++ audio`, the audio is the concatenation of what the write calls stored, and after
  a header update (SFC_UPDATE_HEADER_NOW, a write call in auto mode, or the close function of a container that
  rewrites its header) the header is `F.hdr (F.recalc (store length) _)`.

  Also the byte-field lemmas the container parsers need (`cut` on an appended field, `ofBE (be32 v)`, …).
-/
import SfModel.Small2
import SfProofs.Fields
namespace Sf.Small2
open Sf

@[simp] theorem be32_length (v : Int) : (be32 v).length = 4 := beBytes_length 4 _
@[simp] theorem be16_length (v : Int) : (be16 v).length = 2 := beBytes_length 2 _
@[simp] theorem le32_length (v : Int) : (le32 v).length = 4 := leBytes_length 4 _
@[simp] theorem le16_length (v : Int) : (le16 v).length = 2 := leBytes_length 2 _

theorem ofBE_be32 (v : Int) : ofBE (be32 v) = wrapU 32 v := ofBE_beBytes_wrapU 4 v
theorem ofBE_be16 (v : Int) : ofBE (be16 v) = wrapU 16 v := ofBE_beBytes_wrapU 2 v
theorem ofLE_le32 (v : Int) : ofLE (le32 v) = wrapU 32 v := ofLE_leBytes_wrapU 4 v
theorem ofLE_le16 (v : Int) : ofLE (le16 v) = wrapU 16 v := ofLE_leBytes_wrapU 2 v

theorem cut_append (f r : List Byte) (n : Nat) (h : f.length = n) : cut n (f ++ r) = (f, r) := by
  subst h; simp [cut]

/-- the frame count every codec init derives from the file length, on a store `header ++ D bytes` -/
theorem framesOf_nat (H D : Nat) (bw : Nat) (hbw : 0 < bw) :
    (framesOf ((H + D : Nat) : Int) (H : Nat) 0 (bw : Nat)).toNat = D / bw := by
  unfold framesOf
  have h0 : ¬ ((0 : Int) > 0) := by decide
  have hb : ((bw : Nat) : Int) > 0 := by exact_mod_cast hbw
  rw [if_neg h0, if_pos hb]
  by_cases hz : D = 0
  · subst hz
    have : ¬ (((H + 0 : Nat) : Int) > ((H : Nat) : Int)) := by push_cast; omega
    rw [if_neg this]; simp
  · have : ((H + D : Nat) : Int) > ((H : Nat) : Int) := by push_cast; omega
    rw [if_pos this]
    have e : ((H + D : Nat) : Int) - ((H : Nat) : Int) = ((D : Nat) : Int) := by push_cast; omega
    rw [e, Int.tdiv_eq_ediv_of_nonneg (Int.natCast_nonneg _), ← Int.natCast_ediv, Int.toNat_natCast]

/-- the same when the last byte of the file is not audio (`dataend` = file length − 1) -/
theorem framesOf_last (H D bw : Nat) (hH : 0 < H) (hbw : 0 < bw) :
    (framesOf ((H + D : Nat) : Int) (H : Nat) (((H + D : Nat) : Int) - 1) (bw : Nat)).toNat = (D - 1) / bw := by
  unfold framesOf
  have hb : ((bw : Nat) : Int) > 0 := by exact_mod_cast hbw
  rw [if_pos hb]
  by_cases hz : D = 0
  · subst hz
    have : ¬ (((H + 0 : Nat) : Int) > ((H : Nat) : Int)) := by push_cast; omega
    rw [if_neg this]; simp
  · have g1 : ((H + D : Nat) : Int) > ((H : Nat) : Int) := by push_cast; omega
    have g2 : ((H + D : Nat) : Int) - 1 > 0 := by push_cast; omega
    have e : ((H + D : Nat) : Int) - 1 - ((H : Nat) : Int) = ((D - 1 : Nat) : Int) := by omega
    rw [if_pos g1, if_pos g2, e, Int.tdiv_eq_ediv_of_nonneg (Int.natCast_nonneg _), ← Int.natCast_ediv, Int.toNat_natCast]

/-- C04's `N ≤ F < N + B + pad` for a reader that reports `F = bytes / bw` on the `N * bw` audio bytes of `N` frames
    (`B = 1`, `pad = 0`); the `<x>_frames_bound` theorems of the sample-granular containers are this arithmetic -/
theorem frames_bound (bw N : Nat) (hbw : 0 < bw) : (N * bw) / bw = N ∧ N ≤ (N * bw) / bw ∧ (N * bw) / bw < N + 1 := by
  have : (N * bw) / bw = N := Nat.mul_div_cancel _ hbw
  omega

/-! ### divisor quantisers: a rate stored as `U / rate` reads back as `U / (U / rate)` -/

theorem div_div_ge (U sr : Nat) (h1 : 0 < sr) (h2 : sr ≤ U) : sr ≤ U / (U / sr) := by
  have hp : 0 < U / sr := Nat.div_pos h2 h1
  exact (Nat.le_div_iff_mul_le hp).mpr (by rw [Nat.mul_comm]; exact Nat.div_mul_le_self U sr)

theorem div_div_exact (U sr k : Nat) (hU : 0 < U) (h : U = sr * k) (hs : 0 < sr) : sr ≤ U ∧ U / (U / sr) = sr := by
  have hk : 0 < k := Nat.pos_of_ne_zero (by rintro rfl; omega)
  subst h
  exact ⟨Nat.le_mul_of_pos_right _ hk, by rw [Nat.mul_div_cancel_left k hs, Nat.mul_div_cancel _ hk]⟩

/-- quantising twice changes nothing: the stored period of the rate read back is the stored period -/
theorem div_div_stable (U sr : Nat) (h1 : 0 < sr) (h2 : sr ≤ U) : U / (U / (U / sr)) = U / sr :=
  Nat.le_antisymm (Nat.div_le_div_left (div_div_ge U sr h1 h2) h1) (div_div_ge U (U / sr) (Nat.div_pos h2 h1) (Nat.div_le_self _ _))

/-- what the session lemmas ask of a container: every header has the one length, and a header written with
    `calc_length` is a function of the store length alone (`recalc n` sets every running field that `hdr` serialises;
    this is what makes the caller's stale frames value invisible) -/
structure Lawful (F : Fmt) : Prop where
  hlen : ∀ f, (F.hdr f).length = F.hdrLen
  hindep : ∀ n f g, F.hdr (F.recalc n f) = F.hdr (F.recalc n g)

/-- the header a `calc_length` rewrite leaves in a store of `n` bytes -/
def calcHdr (F : Fmt) (n : Nat) : List Byte := F.hdr (F.recalc n {})

theorem emit_data (F : Fmt) (s : St) (b : Bool) : (emit F s b).data = s.data := rfl

theorem emit_hdr_len (F : Fmt) (L : Lawful F) (s : St) (b : Bool) : (emit F s b).hdr.length = F.hdrLen := by
  simp [emit, L.hlen]

theorem emit_true_hdr (F : Fmt) (L : Lawful F) (s : St) :
    (emit F s true).hdr = calcHdr F (s.hdr.length + s.data.length) := by
  simp only [emit, calcHdr, if_true]; exact L.hindep _ _ _

theorem open_data (F : Fmt) (stale : Nat) : (openW F stale).data = [] := rfl
theorem open_hdr_len (F : Fmt) (L : Lawful F) (stale : Nat) : (openW F stale).hdr.length = F.hdrLen := by
  simp [openW, emit, L.hlen]

theorem write_data (F : Fmt) (s : St) (enc : List Byte) (auto : Bool) : (write F s enc auto).data = s.data ++ enc := by
  unfold write; cases auto <;> (split <;> simp [emit])

/-- the audio bytes one operation stores -/
def WOp.bytes : WOp → List Byte
  | .write enc _ => enc
  | .update => []

theorem opsData_eq (ops : List WOp) : opsData ops = ops.flatMap WOp.bytes := by
  induction ops with
  | nil => rfl
  | cons op r ih => cases op <;> simp [opsData, WOp.bytes, ih]

theorem run_data (F : Fmt) (ops : List WOp) : ∀ s : St, (run F s ops).data = s.data ++ opsData ops := by
  induction ops with
  | nil => intro s; simp [run, opsData]
  | cons op r ih =>
    intro s
    show (run F (stepOp F s op) r).data = _
    rw [ih]
    cases op <;> simp [stepOp, update, write_data, emit_data, opsData]

/-- what holds in every state of a session: `P` survives a header write and the storing of audio (with the running frame
    count that sf_write_* keeps) -/
theorem run_induct (F : Fmt) (P : St → Prop) (hemit : ∀ s b, P s → P (emit F s b))
    (hstore : ∀ s enc, P s → P { s with data := s.data ++ enc, f := { s.f with frames := ((s.data ++ enc).length / F.bw : Nat) } })
    (ops : List WOp) (s : St) (h : P s) : P (run F s ops) := by
  refine List.foldlRecOn ops _ h fun s h op _ => ?_
  cases op with
  | update => exact hemit s true h
  | write enc auto =>
    have h1 : P (if s.data.isEmpty then emit F s false else s) := by
      split
      · exact hemit s false h
      · exact h
    have h2 := hstore _ enc h1
    cases auto
    · exact h2
    · exact hemit _ true h2

/-- **the store after a header update**: the recomputed header in front of everything written so far -/
theorem snapshotBytes_eq (F : Fmt) (L : Lawful F) (stale : Nat) (ops : List WOp) :
    snapshotBytes F stale ops = calcHdr F (F.hdrLen + (opsData ops).length) ++ opsData ops := by
  have h1 := run_induct F (fun s => s.hdr.length = F.hdrLen) (fun s b _ => emit_hdr_len F L s b) (fun _ _ h => h) ops _ (open_hdr_len F L stale)
  unfold snapshotBytes update St.bytes
  rw [emit_true_hdr F L, emit_data, h1, run_data, open_data]; simp

/-- **the closed file** of a container whose close function rewrites the header -/
theorem closedBytes_eq (F : Fmt) (L : Lawful F) (hc : F.closeRewrites = true) (stale : Nat) (ops : List WOp) :
    closedBytes F stale ops = calcHdr F (F.hdrLen + (opsData ops).length) ++ opsData ops := by
  have := snapshotBytes_eq F L stale ops
  unfold closedBytes close; rw [hc]; simpa [snapshotBytes, update] using this

theorem closed_is_snapshot (F : Fmt) (hc : F.closeRewrites = true) (stale : Nat) (ops : List WOp) :
    closedBytes F stale ops = snapshotBytes F stale ops := by
  unfold closedBytes snapshotBytes close update; rw [hc]; rfl

/-! ### the usual `calc_length` block: filelength, datalength = filelength − dataoffset, frames = datalength / block width -/

/-- what it computes in a store of `H` header bytes and `D` bytes of audio -/
def stdFields (H bw D : Nat) : Fields :=
  { frames := ((D / bw : Nat) : Int), filelength := ((H + D : Nat) : Int), datalength := (D : Nat) }

theorem calcHdr_std (F : Fmt) (bw : Nat)
    (hr : ∀ n f, F.recalc n f = { filelength := n, datalength := (n : Int) - F.hdrLen, frames := ((n : Int) - F.hdrLen) / ((bw : Nat) : Int) })
    (D : Nat) : calcHdr F (F.hdrLen + D) = F.hdr (stdFields F.hdrLen bw D) := by
  have e : ((F.hdrLen + D : Nat) : Int) - F.hdrLen = (D : Nat) := by omega
  rw [calcHdr, hr, e, ← Int.natCast_ediv]; rfl

/-- **every update image** of such a container: the header over the audio written, then the audio -/
theorem snapshot_std (F : Fmt) (L : Lawful F) (bw : Nat)
    (hr : ∀ n f, F.recalc n f = { filelength := n, datalength := (n : Int) - F.hdrLen, frames := ((n : Int) - F.hdrLen) / ((bw : Nat) : Int) })
    (stale : Nat) (ops : List WOp) :
    snapshotBytes F stale ops = F.hdr (stdFields F.hdrLen bw (opsData ops).length) ++ opsData ops := by
  rw [snapshotBytes_eq F L, calcHdr_std F bw hr]

/-- … and the closed file, when the close function rewrites the header -/
theorem closed_std (F : Fmt) (L : Lawful F) (hc : F.closeRewrites = true) (bw : Nat)
    (hr : ∀ n f, F.recalc n f = { filelength := n, datalength := (n : Int) - F.hdrLen, frames := ((n : Int) - F.hdrLen) / ((bw : Nat) : Int) })
    (stale : Nat) (ops : List WOp) :
    closedBytes F stale ops = F.hdr (stdFields F.hdrLen bw (opsData ops).length) ++ opsData ops :=
  closed_is_snapshot F hc stale ops ▸ snapshot_std F L bw hr stale ops

/-- the caller's frames value never reaches a rewritten header -/
theorem stale_ignored (F : Fmt) (L : Lawful F) (hc : F.closeRewrites = true) (a b : Nat) (ops : List WOp) :
    closedBytes F a ops = closedBytes F b ops := by
  rw [closedBytes_eq F L hc, closedBytes_eq F L hc]

theorem stale_ignored_snapshot (F : Fmt) (L : Lawful F) (a b : Nat) (ops : List WOp) :
    snapshotBytes F a ops = snapshotBytes F b ops := by
  rw [snapshotBytes_eq F L, snapshotBytes_eq F L]

/-! ### containers whose header does not depend on the running lengths (PVF) -/

theorem closedBytes_const (F : Fmt) (hc : ∀ f g, F.hdr f = F.hdr g) (stale : Nat) (ops : List WOp) :
    closedBytes F stale ops = F.hdr {} ++ opsData ops ∧ snapshotBytes F stale ops = F.hdr {} ++ opsData ops := by
  have ho : (openW F stale).hdr = F.hdr {} := by simp [openW, emit, hc _ ({} : Fields)]
  have h1 := run_induct F (fun s => s.hdr = F.hdr {}) (fun s b _ => by simp [emit, hc _ ({} : Fields)]) (fun _ _ h => h) ops _ ho
  have hd : (run F (openW F stale) ops).data = opsData ops := by rw [run_data, open_data]; simp
  refine ⟨?_, ?_⟩
  · unfold closedBytes close St.bytes
    split
    · simp only [emit]; rw [hd]; simp [hc _ ({} : Fields)]
    · rw [h1, hd]
  · unfold snapshotBytes update St.bytes
    simp only [emit]; rw [hd]; simp [hc _ ({} : Fields)]

/-- every write call stores whole frames -/
def wholeOp (bw : Nat) : WOp → Prop
  | .write enc _ => enc.length % bw = 0
  | .update => True

instance (bw : Nat) (op : WOp) : Decidable (wholeOp bw op) := by cases op <;> (unfold wholeOp; infer_instance)

def WholeFrames (bw : Nat) (ops : List WOp) : Prop := ∀ op ∈ ops, wholeOp bw op

instance (bw : Nat) (ops : List WOp) : Decidable (WholeFrames bw ops) := by unfold WholeFrames; infer_instance

theorem opsData_whole (bw : Nat) (ops : List WOp) (h : WholeFrames bw ops) : (opsData ops).length % bw = 0 := by
  rw [opsData_eq]
  refine flatMap_length_mod _ _ _ fun op hm => ?_
  cases op with
  | write enc auto => exact h _ hm
  | update => exact Nat.zero_mod _

theorem snapshot_split (F : Fmt) (L : Lawful F) (stale : Nat) (ops : List WOp) :
    ∃ h, h.length = F.hdrLen ∧ snapshotBytes F stale ops = h ++ opsData ops :=
  ⟨_, L.hlen _, snapshotBytes_eq F L stale ops⟩

end Sf.Small2
