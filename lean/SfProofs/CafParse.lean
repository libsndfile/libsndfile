/-
  CAF: `parse` applied to the files the writer produces (helpers for SfProps/C04Caf.lean: caf_reopen_info).  The chunk walk is
  followed chunk by chunk over a cursor (`bs.drop p = chunk ++ rest`): 'peak', 'free', 'data'; `parse_of_walk` is what `parse` does
  around the walk.
-/
import SfProofs.CafImage
import SfProofs.HdrReadLemmas
namespace Sf.Caf
open Sf Sf.HdrRd Sf.CafW64 Sf.Cursor

theorem sext64_be8 (v : Nat) (h : v < 2 ^ 63) : sext 64 (ofBE (beBytes 8 v)) = v := by
  rw [ofBE_beBytes_of_lt 8 v (by omega), sext_of_lt 64 v h]

theorem mk_cmp : (mk "free" == [0, 0, 0, 0]) = false ∧ (mk "free" == mk "peak") = false ∧ (mk "free" == mk "chan") = false ∧
    (mk "free" == mk "info") = false ∧ (mk "free" == mk "pakt") = false ∧ (mk "free" == mk "data") = false ∧
    (mk "data" == [0, 0, 0, 0]) = false ∧ (mk "data" == mk "peak") = false ∧ (mk "data" == mk "chan") = false ∧
    (mk "data" == mk "info") = false ∧ (mk "data" == mk "pakt") = false ∧ (mk "peak" == [0, 0, 0, 0]) = false := by decide

theorem rd_chunk_head {bs m rest : List Byte} {p v : Nat} (hd : bs.drop p = m ++ (beBytes 8 v ++ rest)) (hm : m.length = 4) :
    rdSeq bs [4, 8] (.at p) = ([m, beBytes 8 v], .at (p + 12)) ∧ bs.drop (p + 12) = rest :=
  ⟨rdSeq_drop [m, beBytes 8 v] (rest := rest) (by rw [hd]; simp) (by simp [hm, beBytes_length]) (by simp [hm, beBytes_length]) (by omega),
    show bs.drop (p + 4 + 8) = rest from drop_at (drop_at hd hm) (beBytes_length 8 v)⟩

theorem walk_free (bs body rest : List Byte) (ch fuel p F : Nat) (s : Scan)
    (hd : bs.drop p = mk "free" ++ (beBytes 8 F ++ (body ++ rest))) (hF : body.length = F)
    (hlim : p + 12 + F ≤ cacheLimit) (hrest : 8 < rest.length) :
    walk bs ch (fuel + 1) (.at p) s = walk bs ch fuel (.at (p + 12 + F)) s ∧ bs.drop (p + 12 + F) = rest := by
  obtain ⟨c1, c2, c3, c4, c5, c6, _⟩ := mk_cmp
  have hL : cacheLimit = 24000 := rfl
  obtain ⟨h1, d1⟩ := rd_chunk_head hd mk_free_length
  have d2 := drop_at d1 hF
  have hlen := len_of_drop d2 (by omega)
  have hs := sext64_be8 F (by omega)
  refine ⟨?_, d2⟩
  rw [walk, h1]
  simp only [c1, Bool.false_eq_true, if_false, hs, c2, c3, c4, c5, c6]
  have e1 : ¬ ((F : Int) < 0) := by omega
  have e2 : ¬ ((F : Int) > (bs.length : Int)) := by omega
  have e3 : ¬ (((p + 12 : Nat) : Int) + (F : Int) > (cacheLimit : Int)) := by omega
  have e4 : ¬ ((F : Int) ≥ 0xffffff00) := by omega
  have e5 : ¬ (((p + 12 + F : Nat) : Int) ≥ (bs.length : Int) - 8) := by omega
  simp only [e1, e2, e3, e4, if_false, skip_at bs (p + 12) F (by omega), ftell_at, e5]

theorem rdPeaks_at (bs : List Byte) : ∀ (pk : List Peak) (p : Nat) (rest : List Byte), bs.drop p = pk.flatMap peakEntry ++ rest → 0 < rest.length →
    rdPeaks bs pk.length (.at p) = .at (p + 12 * pk.length) ∧ bs.drop (p + 12 * pk.length) = rest
  | [], p, rest, hd, _ => ⟨rfl, by simpa using hd⟩
  | q :: ps, p, rest, hd, hr => by
    have hd' : bs.drop p = beBytes 4 (Float.f64to32 q.value) ++ (beBytes 8 (wrapU 64 q.position) ++ (ps.flatMap peakEntry ++ rest)) := by
      rw [hd]; simp [List.flatMap_cons, peakEntry]
    have d1 := drop_at hd' (beBytes_length 4 _)
    have d2 := drop_at d1 (beBytes_length 8 _)
    obtain ⟨ih, d3⟩ := rdPeaks_at bs ps (p + 4 + 8) rest d2 hr
    have e : p + 4 + 8 + 12 * ps.length = p + 12 * (ps.length + 1) := by omega
    rw [e] at ih d3
    refine ⟨?_, d3⟩
    simp only [List.length_cons, rdPeaks]
    rw [rdBE_drop hd' (beBytes_length 4 _) (by omega), rdBE_drop d1 (beBytes_length 8 _) (by omega)]
    exact ih

theorem walk_peak (c : Cfg) (pk : List Peak) (bs rest : List Byte) (fuel p : Nat) (s : Scan) (hpk : pk.length = c.ch) (hch : c.ch ≤ 1024)
    (hd : bs.drop p = peakChunk c pk ++ rest) (hrest : 8 < rest.length) :
    walk bs c.ch (fuel + 1) (.at p) s = walk bs c.ch fuel (.at (p + 16 + 12 * c.ch)) s ∧ bs.drop (p + 16 + 12 * c.ch) = rest := by
  have hp0 := mk_cmp.2.2.2.2.2.2.2.2.2.2.2
  have hd' : bs.drop p = mk "peak" ++ (beBytes 8 (4 + 12 * c.ch) ++ (beBytes 4 0 ++ (pk.flatMap peakEntry ++ rest))) := by
    rw [hd]; simp only [peakChunk, List.append_assoc]
  obtain ⟨h1, d1⟩ := rd_chunk_head hd' mk_peak_length
  have h2 := rdBE_drop d1 (beBytes_length 4 0) (by omega)
  obtain ⟨h3, d3⟩ := rdPeaks_at bs pk (p + 12 + 4) rest (drop_at d1 (beBytes_length 4 0)) (by omega)
  rw [hpk] at h3 d3
  have e16 : p + 12 + 4 + 12 * c.ch = p + 16 + 12 * c.ch := by omega
  rw [e16] at h3 d3
  have hlen := len_of_drop d3 (by omega)
  have hs := sext64_be8 (4 + 12 * c.ch) (by omega)
  refine ⟨?_, d3⟩
  rw [walk, h1]
  simp only [hp0, Bool.false_eq_true, if_false, hs, beq_self_eq_true, if_true]
  have e1 : ¬ (((4 + 12 * c.ch : Nat) : Int) < 0) := by omega
  have e2 : ¬ (((4 + 12 * c.ch : Nat) : Int) > (bs.length : Int)) := by omega
  have e3 : ¬ (((4 + 12 * c.ch : Nat) : Int) ≠ 4 + 12 * (c.ch : Int)) := by omega
  have e4 : ¬ (((4 + 12 * c.ch : Nat) : Int) ≥ 0xffffff00) := by omega
  have e5 : ¬ (((p + 16 + 12 * c.ch : Nat) : Int) ≥ (bs.length : Int) - 8) := by omega
  simp only [e1, e2, e3, e4, if_false, h2, h3, ftell_at, e5]

/-- the 'data' chunk whose size field describes `data` (+ 4 for the edit count `ec`), at most 8 bytes behind it: the walk ends -/
theorem walk_data (bs ec data tl : List Byte) (ch fuel p : Nat) (s : Scan)
    (hd : bs.drop p = mk "data" ++ (beBytes 8 (data.length + 4) ++ (ec ++ (data ++ tl))))
    (hec : ec.length = 4) (hD : data.length ≤ 0x7FFFFFFF) (htl : tl.length ≤ 8) :
    bs.length = p + 16 + data.length + tl.length ∧
    walk bs ch (fuel + 1) (.at p) s =
      .done { haveData := true, dataoffset := p + 16, datalength := data.length,
              dataend := if tl.length = 0 then s.dataend else ((p + 16 + data.length : Nat) : Int) } := by
  obtain ⟨_, _, _, _, _, _, d1, d2, d3, d4, d5, _⟩ := mk_cmp
  obtain ⟨h1, e1⟩ := rd_chunk_head hd mk_data_length
  have h2 := rdBE_drop e1 hec (by omega)
  have e2 := drop_at e1 hec
  have hlen : bs.length = p + 16 + data.length + tl.length := by
    by_cases h0 : data.length + tl.length = 0
    · have := len_of_drop e1 (by rw [List.length_append]; omega)
      rw [List.length_append, List.length_append] at this; omega
    · have := len_of_drop e2 (by rw [List.length_append]; omega)
      rw [List.length_append] at this; omega
  have hs := sext64_be8 (data.length + 4) (by omega)
  refine ⟨hlen, ?_⟩
  rw [walk, h1]
  simp only [d1, Bool.false_eq_true, if_false, hs, d2, d3, d4, d5, beq_self_eq_true, if_true, h2]
  have f1 : ¬ (((data.length + 4 : Nat) : Int) < 0) := by omega
  have f2 : ¬ (((data.length + 4 : Nat) : Int) > (bs.length : Int)) := by omega
  have f3 : ¬ ((bs.length : Int) > 0 ∧ ((data.length + 4 : Nat) : Int) > (bs.length : Int) - ((p + 12 + 4 : Nat) : Int) + 10) := by omega
  have f4 : ((data.length + 4 : Nat) : Int) - 4 = (data.length : Int) := by omega
  have f5 : ¬ ((data.length : Int) < -0x80000000 ∨ (data.length : Int) > 0x7FFFFFFF) := by omega
  simp only [f1, f2, f3, if_false, f4, f5, skip_at bs (p + 12 + 4) data.length (by omega), ftell_at]
  have f6 : ((p + 12 + 4 + data.length : Nat) : Int) ≥ (bs.length : Int) - 8 := by omega
  simp only [f6, if_true, Int.toNat_natCast]
  have e16 : p + 12 + 4 = p + 16 := by omega
  have e : (data.length : Int) + ((p + 16 : Nat) : Int) = ((p + 16 + data.length : Nat) : Int) := by omega
  simp only [e16, e]
  by_cases ht : tl.length = 0
  · rw [if_neg (by omega), if_pos ht]
  · rw [if_pos (by omega), if_neg ht]

def flds52 (c : Cfg) : List (List Byte) :=
  [mk "caff", beBytes 2 1, beBytes 2 0, mk "desc", beBytes 8 32, beBytes 8 (Float.f64.ofInt c.sr), fmtId c.codec, beBytes 4 (fmtFlags c),
   beBytes 4 c.bw, beBytes 4 1, beBytes 4 c.ch, beBytes 4 (8 * bytewidth c.codec)]

theorem flds52_lengths (c : Cfg) : (flds52 c).map List.length = [4, 2, 2, 4, 8, 8, 4, 4, 4, 4, 4, 4] ∧ (flds52 c).flatten.length = 52 := by
  obtain ⟨g1, g2, _⟩ := mk_lengths
  simp [flds52, beBytes_length, fmtId_length, g1, g2]

theorem decodeDesc_cfg (c : Cfg) (hwf : c.wf) :
    decodeDesc { fmtId := fmtId c.codec, flags := fmtFlags c, pktBytes := c.bw, fpp := 1, ch := c.ch, bits := 8 * bytewidth c.codec } =
      some (c.codec, bytewidth c.codec) ∧ (fmtId c.codec == mk "alac") = false ∧
    (if fmtFlags c / 2 % 2 == 1 then 0x10000000 else 0) = (if c.little then 0x10000000 else 0) := by
  obtain ⟨hc, _, h1, h2, _⟩ := hwf
  have hm : ∀ k : Nat, k ≤ 8 → k * c.ch % 4294967296 = k * c.ch := fun k hk => Nat.mod_eq_of_lt (by
    have : k * c.ch ≤ 8 * 1024 := Nat.mul_le_mul hk h2
    omega)
  have m1 : c.ch % 4294967296 = c.ch := by have := hm 1 (by omega); simpa using this
  have m2 := hm 2 (by omega); have m3 := hm 3 (by omega); have m4 := hm 4 (by omega); have m8 := hm 8 (by omega)
  have hfl : (fmtFlags c % 2 == 1) = isFloat c.codec := by unfold fmtFlags; cases c.little <;> cases isFloat c.codec <;> rfl
  have hle : (fmtFlags c / 2 % 2 == 1) = c.little := by unfold fmtFlags; cases c.little <;> cases isFloat c.codec <;> rfl
  have q3 : mk "lpcm" ≠ mk "alac" := by decide
  have q4 : mk "alaw" ≠ mk "lpcm" := by decide
  have q5 : mk "alaw" ≠ mk "alac" := by decide
  have q6 : mk "ulaw" ≠ mk "lpcm" := by decide
  have q7 : mk "ulaw" ≠ mk "alaw" := by decide
  have q8 : mk "ulaw" ≠ mk "alac" := by decide
  refine ⟨?_, ?_, by rw [hle]⟩
  · unfold decodeDesc
    simp only [hfl]
    simp [codecs] at hc
    rcases hc with h | h | h | h | h | h | h | h <;>
      simp [fmtId, isFloat, Cfg.bw, bytewidth, h, m1, m2, m3, m4, m8, q4, q6, q7]
  · simp [codecs] at hc
    rcases hc with h | h | h | h | h | h | h | h <;> simp [fmtId, h, q3, q5, q8]
/-- `parse` on a file that begins with the 52 bytes written for `c` (file header and 'desc' chunk): the parameters are those of `c`,
    the data offset and the audio byte count `D` what the chunk walk behind them finds -/
theorem parse_of_walk (c : Cfg) (hwf : c.wf) (bs rest : List Byte) (hbs : bs = (flds52 c).flatten ++ rest) (sc : Scan)
    (hw : walk bs c.ch bs.length (.at 52) {} = .done sc) (hdata : sc.haveData = true) (D : Nat)
    (hdl : initData sc.dataoffset sc.dataend bs.length = (D : Int)) :
    parse bs = .ok { fmtWord := (if c.little then 0x10000000 else 0) + 0x180000 + c.codec, ch := c.ch, sr := c.sr,
                     frames := D / c.bw, dataoffset := sc.dataoffset, datalength := D } := by
  obtain ⟨g1, g2, _⟩ := mk_lengths
  obtain ⟨_, _, hch1, hch2, hsr1, hsr2⟩ := hwf
  obtain ⟨fl1, fl2⟩ := flds52_lengths c
  have hlen : 52 ≤ bs.length := by rw [hbs, List.length_append, fl2]; omega
  have h52 : rdSeq bs [4, 2, 2, 4, 8, 8, 4, 4, 4, 4, 4, 4] {} = (flds52 c, .at 52) := by
    have := rdSeq_at (flds52 c) (bs := bs) (pre := []) (rest := rest) (e := 12) (by rw [hbs]; rfl) fl1.symm (by simp)
    rw [fl2] at this
    simpa using this
  have t1 : bs.take 4 = mk "caff" := by rw [hbs]; simp [flds52, g1]
  have t2 : (bs.drop 8).take 4 = mk "desc" := by
    have d8 : bs.drop (0 + 4 + 2 + 2) = mk "desc" ++ (((flds52 c).drop 4).flatten ++ rest) :=
      drop_at (drop_at (drop_at (drop_zero (by rw [hbs]; simp [flds52])) g1) (beBytes_length 2 1)) (beBytes_length 2 0)
    rw [show bs.drop 8 = _ from d8]; exact List.take_left' g2
  have hR : Float.f64.ofInt (c.sr : Int) < 2 ^ 64 := Float.ofDy_lt_width Float.f64 (Or.inr rfl) _
  have hfin : Float.f64.isFinite (Float.f64.ofInt (c.sr : Int)) = true :=
    (Float.ofInt_exact_gen Float.f64 (Or.inr rfl) (c.sr : Int) c.sr 0 (by simp) (by show c.sr < 2 ^ 53; omega) (by omega)).2.2.2
  have hrint := rate_roundtrip c.sr (by omega)
  have v1 : ofBE (beBytes 8 32) = 32 := by decide
  have v2 : ofBE (beBytes 8 (Float.f64.ofInt (c.sr : Int))) = Float.f64.ofInt (c.sr : Int) :=
    ofBE_beBytes_of_lt 8 _ hR
  have hb8 : bytewidth c.codec ≤ 8 := by unfold bytewidth; split <;> omega
  have hbwle : c.bw ≤ 8192 := Nat.mul_le_mul hb8 hch2
  have v3 := ofBE_beBytes_of_lt 4 (fmtFlags c) (by unfold fmtFlags; split <;> split <;> omega)
  have v4 := ofBE_beBytes_of_lt 4 c.bw (by omega)
  have v5 : ofBE (beBytes 4 1) = 1 := by decide
  have v6 := ofBE_beBytes_of_lt 4 c.ch (by omega)
  have v7 := ofBE_beBytes_of_lt 4 (8 * bytewidth c.codec) (by omega)
  obtain ⟨dd1, dd2, dd3⟩ := decodeDesc_cfg c ⟨by assumption, by assumption, hch1, hch2, hsr1, hsr2⟩
  have hl12 : ¬ bs.length < 12 := by omega
  unfold parse
  simp only [hl12, if_false, t1, t2, bne_self_eq_false, Bool.false_eq_true, or_self, h52, flds52, v1, v2, v3, v4, v5, v6, v7]
  unfold parseDesc
  have s32 : sext 64 32 = 32 := by decide
  have k1 : ¬ ((32 : Int) < 32) := by omega
  have k2 : ¬ ((c.sr : Int) < -0x80000000 ∨ (c.sr : Int) > 0x7FFFFFFF) := by omega
  have k3 : ¬ (c.ch > 1024) := by omega
  have k4 : ¬ ((32 : Int) - 32 > (cacheLimit : Int)) := by unfold cacheLimit; omega
  have k6 : (c.ch == 0) = false := by simp; omega
  have k7 : ¬ ((c.sr : Int) < 1) := by omega
  have k8 : ¬ ((D : Int) < 0) := by omega
  simp only [s32, k1, if_false, hfin, Bool.not_true, Bool.false_eq_true, hrint, k2, k3, k4, hw, hdata, dd1, dd2, k6, hdl, k7, k8, dd3,
    Int.toNat_natCast]
  rfl

/-- the written header up to the 'data' chunk: the 52 fixed bytes, 'peak' (float / double), 'free' — one or two steps of the walk, so
    that three units of fuel leave one for the 'data' chunk -/
theorem walk_to_data (c : Cfg) (hwf : c.wf) (pk : List Peak) (hpk : isFloat c.codec = true → pk.length = c.ch) (bs rest : List Byte)
    (hbs : bs = (flds52 c).flatten ++ (peakPart c pk ++ (mk "free" ++ (beBytes 8 (freeLen c) ++ (zeros (freeLen c) ++ rest)))))
    (hrest : 8 < rest.length) (n : Nat) :
    (∃ m, walk bs c.ch (n + 3) (.at 52) {} = walk bs c.ch (m + 1) (.at (dataOffset c - 16)) {}) ∧
    bs.drop (dataOffset c - 16) = rest := by
  have hL : cacheLimit = 24000 := rfl
  have hch := hwf.2.2.2.1
  have hfl : freeLen c < 4096 := by unfold freeLen; omega
  have hz : (zeros (freeLen c)).length = freeLen c := List.length_replicate ..
  have hpl := preLen_eq c pk hpk
  have d52 : bs.drop (0 + 52) = _ := drop_at (drop_zero hbs) (flds52_lengths c).2
  cases hf : isFloat c.codec
  · simp only [peakPart, hf, Bool.false_eq_true, if_false, List.nil_append, List.length_nil] at d52 hpl
    obtain ⟨h1, d1⟩ := walk_free bs _ rest c.ch (n + 2) (0 + 52) (freeLen c) {} d52 hz (by omega) hrest
    have e : 0 + 52 + 12 + freeLen c = dataOffset c - 16 := by unfold dataOffset; omega
    rw [e] at h1 d1
    exact ⟨⟨n + 1, h1⟩, d1⟩
  · simp only [peakPart, hf, if_true] at d52 hpl
    rw [peakChunk_length, hpk hf] at hpl
    obtain ⟨h1, d1⟩ := walk_peak c pk bs _ (n + 2) (0 + 52) {} (hpk hf) hch d52
      (by simp only [List.length_append, mk_free_length]; omega)
    obtain ⟨h2, d2⟩ := walk_free bs _ rest c.ch (n + 1) (0 + 52 + 16 + 12 * c.ch) (freeLen c) {} d1 hz (by omega) hrest
    have e : 0 + 52 + 16 + 12 * c.ch + 12 + freeLen c = dataOffset c - 16 := by unfold dataOffset; omega
    rw [e] at h2 d2
    exact ⟨⟨n, h1.trans h2⟩, d2⟩

/-- the codec init on a data chunk of `D` bytes at `off` followed by `T` more bytes -/
theorem initData_image (off D T : Nat) (hoff : 0 < off) :
    initData off (if T = 0 then 0 else ((off + D : Nat) : Int)) (off + D + T) = (D : Int) := by
  unfold initData
  by_cases hT : T = 0
  · subst hT
    simp only [if_true, Nat.add_zero, Int.lt_irrefl, gt_iff_lt, if_false]
    split <;> omega
  · have h1 : off + D + T > off := by omega
    have h2 : ((off + D : Nat) : Int) > 0 := by omega
    simp only [hT, if_false, h1, if_true, h2]
    omega

/-- `parse` on header ++ audio ++ at most one byte: the closed file (`tl = tail c n`) and the store right after a header rewrite
    (`tl = []`, no tailer yet).  Every parameter and the frame count come back.
    Guard: the audio is at most 2^31 − 1 bytes (the parser hands `datalength` to a conversion that takes an `int`). -/
theorem parse_hdr_tail (c : Cfg) (hwf : c.wf) (n : Nat) (pk : List Peak) (data tl : List Byte)
    (hpk : isFloat c.codec = true → pk.length = c.ch) (hd : data.length = n * c.bw) (hsz : n * c.bw ≤ 0x7FFFFFFF)
    (htl : tl.length ≤ 1) :
    parse (hdr c n pk ++ data ++ tl) =
      .ok { fmtWord := (if c.little then 0x10000000 else 0) + 0x180000 + c.codec, ch := c.ch, sr := c.sr, frames := n,
            dataoffset := dataOffset c, datalength := n * c.bw } := by
  have hal := dataOffset_aligned c
  have hbw : 0 < c.bw := wf_bw_pos hwf
  have hw : wrapU 64 (((n * c.bw : Nat) : Int) + 4) = data.length + 4 := by
    have := wrapU_of_lt 64 (data.length + 4) (by omega)
    rw [hd] at this ⊢; simpa using this
  generalize hbs : hdr c n pk ++ data ++ tl = bs
  have hshape : bs = (flds52 c).flatten ++ (peakPart c pk ++ (mk "free" ++ (beBytes 8 (freeLen c) ++ (zeros (freeLen c) ++ (mk "data" ++
      (beBytes 8 (data.length + 4) ++ (beBytes 4 0 ++ (data ++ tl)))))))) := by
    rw [← hbs, ← hw]
    simp only [hdr, hdrRaw_eq, descChunk_eq, descRest, flds52, List.flatten_cons, List.flatten_nil, List.append_assoc, List.append_nil]
  obtain ⟨⟨m, h1⟩, d1⟩ := walk_to_data c hwf pk hpk bs _ hshape (by simp only [List.length_append, mk_data_length, beBytes_length]; omega)
    (bs.length - 3)
  obtain ⟨hlen, h2⟩ := walk_data bs (beBytes 4 0) data tl c.ch m (dataOffset c - 16) {} d1 (beBytes_length 4 0)
    (by omega) (by omega)
  have e16 : dataOffset c - 16 + 16 = dataOffset c := by omega
  rw [e16] at hlen h2
  rw [show bs.length - 3 + 3 = bs.length by omega] at h1
  have := parse_of_walk c hwf bs _ hshape _ (h1.trans h2) rfl data.length (by
    show initData (dataOffset c) (if tl.length = 0 then _ else _) bs.length = _
    rw [hlen]; exact initData_image (dataOffset c) data.length tl.length (by omega))
  rw [this, hd, Nat.mul_div_cancel n hbw]

/-- `caf_read_header` + codec init on a closed file of the writer -/
theorem parse_image (c : Cfg) (hwf : c.wf) (n : Nat) (pk : List Peak) (data : List Byte)
    (hpk : isFloat c.codec = true → pk.length = c.ch) (hd : data.length = n * c.bw) (hsz : n * c.bw ≤ 0x7FFFFFFF) :
    parse (image c n pk data) =
      .ok { fmtWord := (if c.little then 0x10000000 else 0) + 0x180000 + c.codec, ch := c.ch, sr := c.sr, frames := n,
            dataoffset := dataOffset c, datalength := n * c.bw } :=
  parse_hdr_tail c hwf n pk data (tail c n) hpk hd hsz (tail_length_le c n)

end Sf.Caf
