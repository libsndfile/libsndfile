/-
  One read call: whatever `stepRead` answers — to a zero-length, negative or misaligned request, on a write-only handle,
  at or beyond the end of the data, inside the data of a read-only or of a read/write handle (both have the data in view,
  `BInv.dataView`, so `read_answer` serves both) — is accepted by `Abs.readOk`, and `Sim` / `BInv` hold afterwards.
-/
import SfProofs.AbsBridgeRead
import SfProofs.RdwrRun
namespace Sf.AbsBridge
open Sf

/-- what one read step of the bridge delivers -/
def ReadGoal (g : Abs.Geom) (h : H) (s : Store) (st : Abs.St) (ty : Ty) (fc : Bool) (n : Int) : Prop :=
  ∃ st', Abs.readOk g st ty fc n (outOfRead ty (stepRead h s ty fc n).2.2) = .ok st' ∧
    Sim (stepRead h s ty fc n).1 (stepRead h s ty fc n).2.1 st' ∧ BInv (stepRead h s ty fc n).1 (stepRead h s ty fc n).2.1

/-- a request that fails a guard of the wrapper (`bad`: the mode it cannot serve) is one the abstract handle refuses -/
theorem refused_abs {g : Abs.Geom} {h : H} {st : Abs.St} {fc : Bool} {n : Int} (bad : Sf.Mode) (hch : g.ch = h.ch)
    (hmode : st.mode = absMode h.mode) (hq : ¬ (0 < n ∧ h.mode ≠ bad ∧ (fc = true ∨ n % (h.ch : Int) = 0))) :
    Abs.validReq g fc n = false ∨ st.mode = absMode bad := by
  by_cases hm : h.mode = bad
  · exact Or.inr (by rw [hmode, hm])
  · refine Or.inl ?_
    unfold Abs.validReq
    rw [hch]
    -- `validReq` is the negated guard `hq` with the mode test taken out (`hm`)
    cases fc <;> simp_all

theorem drop_eq_take_drop {α} (X : List α) (a b : Nat) (hab : a ≤ b) (hb : b ≤ X.length) :
    X.drop a = (X.take b).drop a ++ X.drop b := by
  conv => lhs; rw [← List.take_append_drop b X]
  rw [List.drop_append_of_le_length (by rw [List.length_take]; omega)]

/-- both kinds of handle that can read have the audio data in view: the data region holds `F` whole frames, and from the
    byte a codec read starts at the store holds the rest of it, then some tail -/
theorem BInv.dataView {h : H} {s : Store} (bi : BInv h s) (hw : h.mode ≠ .w) :
    ∃ R F T, h.rpos = (R : Nat) ∧ h.frames = (F : Nat) ∧ (dataRegion h s).length = F * h.bw ∧
      (R < F → s.bytes.drop (readPos h s) = (dataRegion h s).drop (R * h.bw) ++ T) := by
  rcases mode_cases h.mode with hm | hm | hm
  · -- read-only: `Sf.RInv` (the descriptor follows the read position, the header's frame count is covered by the store)
    have hi := bi.hinv
    have r := hi.rd hm
    obtain ⟨R, hR⟩ := Int.eq_ofNat_of_zero_le hi.rpos_nn
    obtain ⟨O, hO⟩ := Int.eq_ofNat_of_zero_le hi.off_nn
    obtain ⟨F, hF⟩ := Int.eq_ofNat_of_zero_le bi.frames_nn
    have hcov : O + F * h.bw ≤ s.bytes.length := by
      have := r.covers; rw [hF, hO] at this
      exact Int.ofNat_le.mp (by push_cast; exact this)
    refine ⟨R, F, s.bytes.drop (O + F * h.bw), hR, hF, ?_, fun hlt => ?_⟩ <;>
      rw [dataRegion, hO, hF, Int.toNat_natCast, Int.toNat_natCast]
    · rw [List.length_take, List.length_drop]; omega
    · have hp : readPos h s = O + R * h.bw := by
        have := r.sync (by rw [hR, hF]; exact Int.ofNat_lt.mpr hlt)
        rw [hR, hO] at this
        rw [readPos, if_neg (by simp [r.lastOp])]
        exact Int.ofNat.inj (show ((s.pos : Nat) : Int) = ((O + R * h.bw : Nat) : Int) by rw [this]; push_cast; rfl)
      rw [hp, ← List.drop_drop, ← List.drop_drop,
        drop_eq_take_drop (s.bytes.drop O) (R * h.bw) (F * h.bw) (Nat.mul_le_mul_right _ (by omega))
          (by rw [List.length_drop]; omega)]
  · exact absurd hm hw
  · obtain ⟨R, W, F, hdr, D, v⟩ := bi.rw hm
    obtain ⟨t, hb, _⟩ := v.bytes
    refine ⟨R, F, zeros t, v.rpos, v.frames, by rw [v.dataRegion]; exact v.dlen, fun hlt => ?_⟩
    rw [v.dataRegion, v.readPos hlt, hb, ← List.drop_drop, List.drop_left' rfl,
      List.drop_append_of_le_length (by rw [v.dlen]; exact Nat.mul_le_mul_right _ (by omega))]

theorem read_bridge (g : Abs.Geom) (h : H) (s : Store) (st : Abs.St) (ty : Ty) (fc : Bool) (n : Int)
    (hgch : g.ch = h.ch) (htail : g.tailClean = false) (bi : BInv h s) (sim : Sim h s st) : ReadGoal g h s st ty fc n := by
  have hi := bi.hinv
  have hch := hi.ch_pos
  have hnb := hi.nb_pos
  by_cases h0 : n = 0
  · subst h0
    unfold ReadGoal
    rw [stepRead_zero]
    exact ⟨st, by simp [Abs.readOk, outOfRead], sim, bi⟩
  by_cases hv : ¬ (0 < n ∧ h.mode ≠ .w ∧ (fc = true ∨ n % (h.ch : Int) = 0))
  · obtain ⟨e, he, eq⟩ := stepRead_refuses h s ty fc n h0 hv
    unfold ReadGoal
    rw [eq]
    exact ⟨{ st with err := true }, Abs.readOk_complete_invalid g st ty fc n _ h0 (refused_abs .w hgch sim.mode hv) rfl
      (by simp [outOfRead, he]), sim.set_err e true, bi.set_error e⟩
  obtain ⟨hn, hw, ha⟩ := Decidable.not_not.mp hv
  obtain ⟨m, hm0, hnm, hreq⟩ := valid_frames h fc n hch hn ha
  have hstm : st.mode ≠ .w := mt (mode_iff sim.mode .w).mp hw
  have hnm' : n = if fc then (m : Int) else ((m * h.ch : Nat) : Int) := by rw [hnm]; rfl
  obtain ⟨R, F, T, vR, vF, vD, vb⟩ := bi.dataView hw
  have hstF : st.frames = F := by have := sim.frames; omega
  have hstR : st.rpos = R := by have := sim.rpos hw; omega
  obtain ⟨hrp, hret, herr, hlen, hzero, hdat⟩ := read_answer h s ty fc m hm0 hw hch hnb R F _ T vR vF vD vb
  rw [← hnm] at hrp hret herr hlen hzero hdat
  rw [Int.natCast_add, ← vR] at hrp
  have hbi' : BInv (stepRead h s ty fc n).1 (stepRead h s ty fc n).2.1 := by
    refine bi.of_kept (stepRead_kept h s ty fc n hi) (HInv_stepRead h s ty fc n hi) fun inv => ?_
    have step := (rdwr_step h s (.read ty fc m) inv trivial).2.1
    simp only [ROp.toOp, stepAny, ← hnm] at step
    exact step
  refine ⟨{ st with rpos := st.rpos + min m (F - R), err := false }, ?_, sim_after_read h s st ty fc n _ false hi sim hrp, hbi'⟩
  exact read_accept g st ty fc n m _ F R h.ch _ _ hgch hch htail hstm hstF hstR hnm' hm0 rfl
    (by rw [hret]; rfl) herr hlen (items_length h ty _ F hnb vD) hzero (fun _ => hdat) (fun hv => sim.ref hw ty hv)

end Sf.AbsBridge
