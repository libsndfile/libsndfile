/-
  Histories of calls on several handle slots, for any world: the one induction behind "every interleaving gives a handle
  what its own calls alone give it" (SfModel/World.lean, CodecWorld.lean, HeaderText.lean each have a run function of
  this shape and a property-C19 theorem that is an instance).  Core Lean only.
-/
namespace Sf.Slots

variable {σ ε ο ο' : Type}

/-- `run` threads `step` through a history and tags every output with the slot the call was made on -/
structure Runs (step : σ → ε → σ × ο) (slot : ε → Nat) (run : σ → List ε → σ × List (Nat × ο)) : Prop where
  nil : ∀ s, run s [] = (s, [])
  cons : ∀ s e es, run s (e :: es) = ((run (step s e).1 es).1, (slot e, (step s e).2) :: (run (step s e).1 es).2)

variable {step : σ → ε → σ × ο} {slot : ε → Nat} {run : σ → List ε → σ × List (Nat × ο)}

/-- `R s s'`: the worlds `s` and `s'` look the same from slot `i` (`see` is what of an output counts).  If a call of another slot
    keeps `R` against the world it was not made in, and a call of slot `i` made in both keeps `R` and shows the same, then the whole
    history in `s` and slot `i`'s part of it in `s'` end in worlds related by `R`, with the same transcript for slot `i`. -/
theorem Runs.project (hr : Runs step slot run) (i : Nat) (R : σ → σ → Prop) (see : ο → ο') : ∀ (evs : List ε),
    (∀ e ∈ evs, slot e ≠ i → ∀ s s', R s s' → R (step s e).1 s') →
    (∀ e ∈ evs, slot e = i → ∀ s s', R s s' → R (step s e).1 (step s' e).1 ∧ see (step s e).2 = see (step s' e).2) →
    ∀ s s', R s s' →
      R (run s evs).1 (run s' (evs.filter fun e => slot e == i)).1 ∧
      ((run s evs).2.filter fun x => x.1 == i).map (fun x => see x.2) =
        ((run s' (evs.filter fun e => slot e == i)).2.filter fun x => x.1 == i).map (fun x => see x.2)
  | [], _, _, s, s', h => by rw [List.filter_nil, hr.nil, hr.nil]; exact ⟨h, rfl⟩
  | e :: es, other, own, s, s', h => by
    have ih := hr.project i R see es (fun e he => other e (List.mem_cons_of_mem _ he)) (fun e he => own e (List.mem_cons_of_mem _ he))
    by_cases hi : slot e = i
    · obtain ⟨h1, ho⟩ := own e List.mem_cons_self hi s s' h
      have hb : (slot e == i) = true := beq_iff_eq.mpr hi
      simp only [List.filter_cons, hb, if_true, hr.cons, List.map_cons, ho]
      exact ⟨(ih _ _ h1).1, congrArg _ (ih _ _ h1).2⟩
    · have hb : (slot e == i) = false := beq_false_of_ne hi
      simp only [List.filter_cons, hb, Bool.false_eq_true, if_false, hr.cons]
      exact ih _ _ (other e List.mem_cons_self hi s s' h)

theorem Runs.lines (hr : Runs step slot run) (i : Nat) : ∀ (evs : List ε) (s : σ),
    ((run s evs).2.filter fun x => x.1 == i).length = (evs.filter fun e => slot e == i).length
  | [], s => by rw [hr.nil]; rfl
  | e :: es, s => by
    rw [hr.cons, List.filter_cons, List.filter_cons]
    split <;> simp only [List.length_cons, hr.lines i es]

end Sf.Slots
