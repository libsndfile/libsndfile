/-
  What the two loops of SfModel/Abs.lean (`sliceEq`, `allOf`) decide, in terms of `Array.extract`.
-/
import SfModel.Abs
namespace Sf.Abs

/-- `k` frames in cells, by way of the items -/
theorem Geom.mul_cpf (g : Geom) (k : Nat) (ty : Ty) : k * g.cpf ty = k * g.ch * cells ty := (Nat.mul_assoc _ _ _).symm

theorem sliceEq_pointwise (a b : Array Item) (n : Nat) : ∀ (i j : Nat),
    sliceEq a i b j n = true ↔ ∀ k, k < n → i + k < a.size ∧ j + k < b.size ∧ a[i + k]? = b[j + k]? := by
  induction n with
  | zero => intro i j; simp [sliceEq]
  | succ n ih =>
    intro i j
    unfold sliceEq
    constructor
    · intro h
      split at h
      · rename_i hb
        rw [Bool.and_eq_true] at h
        obtain ⟨h0, h1⟩ := h
        have h0' : a[i]'hb.1 = b[j]'hb.2 := by simpa using h0
        have ih' := (ih (i + 1) (j + 1)).1 h1
        intro k hk
        cases k with
        | zero =>
          refine ⟨by simpa using hb.1, by simpa using hb.2, ?_⟩
          simp only [Nat.add_zero]
          rw [Array.getElem?_eq_getElem hb.1, Array.getElem?_eq_getElem hb.2, h0']
        | succ k =>
          have := ih' k (by omega)
          have e1 : i + (k + 1) = i + 1 + k := by omega
          have e2 : j + (k + 1) = j + 1 + k := by omega
          rw [e1, e2]; exact this
      · exact absurd h (by simp)
    · intro h
      have h0 := h 0 (by omega)
      simp only [Nat.add_zero] at h0
      obtain ⟨hA, hB, hE⟩ := h0
      rw [dif_pos ⟨hA, hB⟩, Bool.and_eq_true]
      constructor
      · rw [Array.getElem?_eq_getElem hA, Array.getElem?_eq_getElem hB] at hE
        simpa using hE
      · apply (ih (i + 1) (j + 1)).2
        intro k hk
        have := h (k + 1) (by omega)
        have e1 : i + (k + 1) = i + 1 + k := by omega
        have e2 : j + (k + 1) = j + 1 + k := by omega
        rw [e1, e2] at this; exact this

theorem sliceEq_extract (a b : Array Item) (i j n : Nat) (h : sliceEq a i b j n = true) :
    a.extract i (i + n) = b.extract j (j + n) := by
  have hp := (sliceEq_pointwise a b n i j).1 h
  by_cases hn : n = 0
  · subst hn
    rw [Array.extract_eq_empty_of_le (by omega), Array.extract_eq_empty_of_le (by omega)]
  · have hb : i + n ≤ a.size ∧ j + n ≤ b.size := by
      have := hp (n - 1) (by omega)
      omega
    apply Array.ext
    · simp only [Array.size_extract]; omega
    · intro k h1 h2
      rw [Array.getElem_extract, Array.getElem_extract]
      have hk : k < n := by simp only [Array.size_extract] at h1; omega
      obtain ⟨hA, hB, hE⟩ := hp k hk
      rw [Array.getElem?_eq_getElem hA, Array.getElem?_eq_getElem hB] at hE
      exact Option.some.inj hE

theorem sliceEq_of_extract (a b : Array Item) (i j n : Nat) (ha : i + n ≤ a.size) (hb : j + n ≤ b.size)
    (h : a.extract i (i + n) = b.extract j (j + n)) : sliceEq a i b j n = true := by
  apply (sliceEq_pointwise a b n i j).2
  intro k hk
  refine ⟨by omega, by omega, ?_⟩
  have h1 : k < (a.extract i (i + n)).size := by simp only [Array.size_extract]; omega
  have h2 : k < (b.extract j (j + n)).size := by simp only [Array.size_extract]; omega
  have e : (a.extract i (i + n))[k]'h1 = (b.extract j (j + n))[k]'h2 := by simp only [h]
  rw [Array.getElem_extract, Array.getElem_extract] at e
  rw [Array.getElem?_eq_getElem (by omega), Array.getElem?_eq_getElem (by omega), e]

theorem allOf_pointwise (a : Array Item) (v w : Item) (n : Nat) : ∀ (i : Nat),
    allOf a v w i n = true ↔ ∀ k, k < n → ∃ h : i + k < a.size, a[i + k] = v ∨ a[i + k] = w := by
  induction n with
  | zero => intro i; simp [allOf]
  | succ n ih =>
    intro i
    unfold allOf
    constructor
    · intro h
      split at h
      · rename_i hb
        rw [Bool.and_eq_true] at h
        obtain ⟨h0, h1⟩ := h
        have ih' := (ih (i + 1)).1 h1
        intro k hk
        cases k with
        | zero => exact ⟨by simpa using hb, by simpa using h0⟩
        | succ k =>
          obtain ⟨hh, hv⟩ := ih' k (by omega)
          have e1 : i + (k + 1) = i + 1 + k := by omega
          exact ⟨by omega, by simp only [e1]; exact hv⟩
      · exact absurd h (by simp)
    · intro h
      obtain ⟨h0, hv⟩ := h 0 (by omega)
      rw [dif_pos (by simpa using h0), Bool.and_eq_true]
      constructor
      · simpa using hv
      · apply (ih (i + 1)).2
        intro k hk
        obtain ⟨hh, hv⟩ := h (k + 1) (by omega)
        have e1 : i + (k + 1) = i + 1 + k := by omega
        exact ⟨by omega, by simp only [← e1]; exact hv⟩

theorem allOf_zero (a : Array Item) (i n : Nat) (h : allOf a 0 0 i n = true) :
    i + n ≤ a.size ∨ n = 0 := by
  by_cases hn : n = 0
  · exact Or.inr hn
  · obtain ⟨hh, _⟩ := (allOf_pointwise a 0 0 n i).1 h (n - 1) (by omega)
    left; omega

theorem allOf_zero_get (a : Array Item) (i n : Nat) (h : allOf a 0 0 i n = true) (k : Nat) (hk : k < n) :
    a[i + k]? = some 0 := by
  obtain ⟨hh, hv⟩ := (allOf_pointwise a 0 0 n i).1 h k hk
  rw [Array.getElem?_eq_getElem hh]
  rcases hv with hv | hv <;> rw [hv]

theorem allOf_of_replicate (v w : Item) (n : Nat) (pre : Array Item) (i : Nat) (hi : i = pre.size) (x : Item) (hx : x = v ∨ x = w) :
    allOf (pre ++ Array.replicate n x) v w i n = true := by
  apply (allOf_pointwise _ v w n i).2
  intro k hk
  have hs : i + k < (pre ++ Array.replicate n x).size := by simp; omega
  refine ⟨hs, ?_⟩
  have : (pre ++ Array.replicate n x)[i + k]'hs = x := by
    rw [Array.getElem_append_right (by omega)]
    simp
  rw [this]; exact hx

end Sf.Abs
