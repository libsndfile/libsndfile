/-
  Helper lemmas about the shared write session of the small containers (SfModel/SmallSession.lean): it is the session of
  SfModel/Small2.lean for the format `Spec.fmt`, so what the store holds after any list of write calls / header updates, after
  SFC_UPDATE_HEADER_NOW, and after close is read off SfProofs/Small2Session.lean.
-/
import SfModel.SmallSession
import SfProofs.Small2Session
namespace Sf.Small
open Sf

/-- what the containers of the development have in common: the header writer emits the same number of bytes whatever the
    lengths are, `<x>_close` appends nothing, the caller's frames value reaches the first header -/
structure Spec.Plain (sp : Spec) : Prop where
  hlen : ∀ f fl dl, (sp.hdr f fl dl).length = sp.hdrLen
  term : sp.term = []
  zeroFrames : sp.zeroFrames = false

/-- the codec init on a file of `H` header bytes followed by `B` more bytes (no `dataend`) -/
theorem codecFrames_body (H B bw : Nat) : codecFrames (H + B) (H : Int) 0 (bw : Int) = ((B : Int), ((B / bw : Nat) : Int)) := by
  unfold codecFrames
  by_cases hz : B = 0
  · subst hz; simp
  · have h1 : ((H + B : Nat) : Int) > (H : Int) := by omega
    have e : ((H + B : Nat) : Int) - (H : Int) = (B : Int) := by omega
    simp only [h1, if_true, gt_iff_lt, Int.lt_irrefl, if_false, e]
    by_cases hb : 0 < bw
    · rw [if_pos (by omega), ← Int.ofNat_tdiv]
    · have : bw = 0 := by omega
      subst this; simp

/-! ## the session machine is the one of SfModel/Small2.lean

No `Spec` of the development has a tailer (`term = []`), so a container of this file is a `Small2.Fmt` (`Spec.fmt`) and the two
machines walk in step (`run_to2`); what a session leaves in the store is then read off SfProofs/Small2Session.lean. -/

def Spec.fmt (sp : Spec) : Small2.Fmt where
  hdrLen := sp.hdrLen
  bw := sp.bw
  hdr f := sp.hdr f.frames.toNat f.filelength f.datalength
  recalc n f := if sp.useCalc then
      { filelength := n, datalength := n - sp.hdrLen, frames := (((n : Int) - sp.hdrLen).tdiv sp.bw).toNat } else f
  closeRewrites := sp.closeHdr

def St.to2 (s : St) : Small2.St :=
  { hdr := s.hdr, data := s.data, f := { frames := s.frames, filelength := s.filelength, datalength := s.datalength } }

def WOp.to2 : WOp → Small2.WOp
  | .write enc auto => .write enc auto
  | .update => .update

/-- where the two machines are in step: no tailer, and the header has its length, so that `calc_length` finds
    `frames = data / bw` and the `max` of `write` is idle -/
structure Agree (sp : Spec) (s : St) : Prop where
  tail : s.tail = []
  hlen : s.hdr.length = sp.hdrLen
  frames : s.frames = s.data.length / sp.bw

theorem calc_frames (H D bw : Nat) : ((((H + D : Nat) : Int) - H).tdiv bw).toNat = D / bw := by
  rw [show ((H + D : Nat) : Int) - H = (D : Nat) by omega, ← Int.ofNat_tdiv]; rfl

theorem writeHeader_to2 (sp : Spec) (hp : sp.Plain) (s : St) (a : Agree sp s) (cl : Bool) :
    Agree sp (writeHeader sp s cl) ∧ (writeHeader sp s cl).to2 = Small2.emit sp.fmt s.to2 cl := by
  have hb : s.bytes.length = sp.hdrLen + s.data.length := by simp [St.bytes, a.tail, a.hlen]
  unfold writeHeader Small2.emit
  cases cl <;> cases hu : sp.useCalc <;> refine ⟨⟨a.tail, hp.hlen _ _ _, ?_⟩, ?_⟩ <;>
    simp only [St.to2, Spec.fmt, hu, hb, calc_frames, a.hlen, a.frames, Bool.false_eq_true, false_and, and_false, and_self, if_true,
      if_false, Int.toNat_natCast]

theorem write_to2 (sp : Spec) (hp : sp.Plain) (s : St) (a : Agree sp s) (enc : List Byte) (auto : Bool) :
    Agree sp (write sp s enc auto) ∧ (write sp s enc auto).to2 = Small2.write sp.fmt s.to2 enc auto := by
  unfold write Small2.write
  -- the header re-emitted before the first audio byte
  have h1 : Agree sp (if s.data.isEmpty then writeHeader sp s false else s) ∧
      (if s.data.isEmpty then writeHeader sp s false else s).to2 = if s.to2.data.isEmpty then Small2.emit sp.fmt s.to2 false else s.to2 := by
    show _ ∧ _ = if s.data.isEmpty then _ else _
    split
    · exact writeHeader_to2 sp hp s a false
    · exact ⟨a, rfl⟩
  generalize (if s.data.isEmpty then writeHeader sp s false else s) = s₁ at h1 ⊢
  obtain ⟨a₁, e₁⟩ := h1
  rw [← e₁]
  -- the audio appended: `max` keeps the new count
  have hm : max s₁.frames ((s₁.data ++ enc).length / sp.bw) = (s₁.data ++ enc).length / sp.bw :=
    Nat.max_eq_right (a₁.frames ▸ Nat.div_le_div_right (by simp))
  have a₂ : Agree sp { s₁ with data := s₁.data ++ enc, frames := max s₁.frames ((s₁.data ++ enc).length / sp.bw) } :=
    ⟨a₁.tail, a₁.hlen, hm⟩
  cases auto
  · exact ⟨a₂, by simp only [hm, St.to2, Spec.fmt, Bool.false_eq_true, if_false]⟩
  · simp only [if_true]
    refine ⟨(writeHeader_to2 sp hp _ a₂ true).1, ?_⟩
    rw [(writeHeader_to2 sp hp _ a₂ true).2]
    simp only [hm, St.to2, Spec.fmt]

theorem open_to2 (sp : Spec) (hp : sp.Plain) (stale : Nat) :
    Agree sp (openW sp stale) ∧ (openW sp stale).to2 = Small2.openW sp.fmt stale :=
  ⟨⟨rfl, hp.hlen _ _ _, (Nat.zero_div _).symm⟩, by simp [openW, Small2.openW, writeHeader, Small2.emit, St.to2, Spec.fmt, hp.zeroFrames]⟩

theorem run_to2 (sp : Spec) (hp : sp.Plain) (stale : Nat) (ops : List WOp) :
    Agree sp (run sp (openW sp stale) ops) ∧
      (run sp (openW sp stale) ops).to2 = Small2.run sp.fmt (Small2.openW sp.fmt stale) (ops.map WOp.to2) := by
  unfold run Small2.run
  rw [List.foldl_map]
  refine List.foldl_rel (r := fun s t => Agree sp s ∧ s.to2 = t) (open_to2 sp hp stale) fun op _ s t ⟨a, e⟩ => ?_
  subst e
  cases op with
  | write enc auto => exact write_to2 sp hp s a enc auto
  | update => exact writeHeader_to2 sp hp s a true

theorem opsData_to2 (ops : List WOp) : Small2.opsData (ops.map WOp.to2) = opsData ops := by
  induction ops with
  | nil => rfl
  | cons op r ih => cases op <;> simp [opsData, Small2.opsData, WOp.to2, ih]

theorem Agree.bytes {sp : Spec} {s : St} (a : Agree sp s) : s.bytes = s.to2.bytes := by
  simp [St.bytes, Small2.St.bytes, St.to2, a.tail]

theorem store_to2 (sp : Spec) (hp : sp.Plain) (stale : Nat) (ops : List WOp) :
    (run sp (openW sp stale) ops).bytes = (Small2.run sp.fmt (Small2.openW sp.fmt stale) (ops.map WOp.to2)).bytes := by
  obtain ⟨a, e⟩ := run_to2 sp hp stale ops
  rw [a.bytes, e]

theorem snapshotBytes_to2 (sp : Spec) (hp : sp.Plain) (stale : Nat) (ops : List WOp) :
    snapshotBytes sp stale ops = Small2.snapshotBytes sp.fmt stale (ops.map WOp.to2) := by
  obtain ⟨a, e⟩ := run_to2 sp hp stale ops
  obtain ⟨a', e'⟩ := writeHeader_to2 sp hp _ a true
  unfold snapshotBytes Small2.snapshotBytes update Small2.update
  rw [a'.bytes, e', e]

theorem closedBytes_to2 (sp : Spec) (hp : sp.Plain) (stale : Nat) (ops : List WOp) :
    closedBytes sp stale ops = Small2.closedBytes sp.fmt stale (ops.map WOp.to2) := by
  obtain ⟨a, e⟩ := run_to2 sp hp stale ops
  obtain ⟨a', e'⟩ := writeHeader_to2 sp hp _ a true
  have : { run sp (openW sp stale) ops with tail := sp.term } = run sp (openW sp stale) ops := by rw [hp.term, ← a.tail]
  unfold closedBytes Small2.closedBytes close Small2.close
  rw [this, ← e]
  show _ = Small2.St.bytes (if sp.closeHdr = true then _ else _)
  split
  · rw [a'.bytes, e']
  · exact a.bytes

/-! ### a container whose `write_header` honours `calc_length` -/

theorem fmt_lawful (sp : Spec) (hp : sp.Plain) (hc : sp.useCalc = true) : Small2.Lawful sp.fmt :=
  ⟨fun _ => hp.hlen _ _ _, fun _ _ _ => by simp only [Spec.fmt, hc, if_true]⟩

theorem fmt_calcHdr (sp : Spec) (hc : sp.useCalc = true) (D : Nat) :
    Small2.calcHdr sp.fmt (sp.fmt.hdrLen + D) = sp.hdr (D / sp.bw) ((sp.hdrLen + D : Nat) : Int) ((D : Nat) : Int) := by
  simp only [Small2.calcHdr, Spec.fmt, hc, if_true, calc_frames, Int.toNat_natCast]
  rw [show ((sp.hdrLen + D : Nat) : Int) - sp.hdrLen = (D : Nat) by omega]

theorem snapshot_calc (sp : Spec) (hp : sp.Plain) (hc : sp.useCalc = true) (stale : Nat) (ops : List WOp) :
    snapshotBytes sp stale ops =
      sp.hdr ((opsData ops).length / sp.bw) ((sp.hdrLen + (opsData ops).length : Nat) : Int) (((opsData ops).length : Nat) : Int) ++ opsData ops := by
  rw [snapshotBytes_to2 sp hp, Small2.snapshotBytes_eq _ (fmt_lawful sp hp hc), opsData_to2, fmt_calcHdr sp hc]

theorem closed_is_snapshot (sp : Spec) (hp : sp.Plain) (hch : sp.closeHdr = true)
    (stale : Nat) (ops : List WOp) : closedBytes sp stale ops = snapshotBytes sp stale ops := by
  rw [closedBytes_to2 sp hp, snapshotBytes_to2 sp hp, Small2.closed_is_snapshot _ hch]

/-! ### a container whose header holds no length -/

theorem static_bytes (sp : Spec) (hp : sp.Plain) (h : List Byte)
    (hh : ∀ f fl dl, sp.hdr f fl dl = h) (stale : Nat) (ops : List WOp) :
    closedBytes sp stale ops = h ++ opsData ops ∧ snapshotBytes sp stale ops = h ++ opsData ops := by
  rw [closedBytes_to2 sp hp, snapshotBytes_to2 sp hp, ← opsData_to2, ← hh 0 0 0]
  exact Small2.closedBytes_const sp.fmt (fun _ _ => (hh _ _ _).trans (hh _ _ _).symm) stale _

theorem slice_left (h body : List Byte) (off n : Nat) (hb : off + n ≤ h.length) : slice (h ++ body) off n = (h.drop off).take n := by
  unfold slice
  have : off + n ≤ (h ++ body).length := by rw [List.length_append]; omega
  rw [if_pos this]
  rw [List.drop_append_of_le_length (by omega), List.take_append_of_le_length (by rw [List.length_drop]; omega)]

theorem slice_field (pre fld rest : List Byte) (off n : Nat) (ho : off = pre.length) (hn : n = fld.length) :
    slice (pre ++ (fld ++ rest)) off n = fld := by
  subst ho; subst hn
  unfold slice
  have : pre.length + fld.length ≤ (pre ++ (fld ++ rest)).length := by simp [List.length_append]
  rw [if_pos this]; simp

theorem slice_skip (a r : List Byte) {off n : Nat} (h : a.length ≤ off) : slice (a ++ r) off n = slice r (off - a.length) n := by
  unfold slice
  rw [drop_app_skip a r h, List.length_append]
  have : off + n ≤ a.length + r.length ↔ off - a.length + n ≤ r.length := by omega
  simp only [this]

theorem slice_head (a r : List Byte) {n : Nat} (h : a.length = n) : slice (a ++ r) 0 n = a := by
  unfold slice
  rw [if_pos (by rw [List.length_append]; omega), List.drop_zero, take_app_head a r h]

theorem be32_length (v : Int) : (be32 v).length = 4 := beBytes_length 4 _
theorem be16_length (v : Int) : (be16 v).length = 2 := beBytes_length 2 _
theorem le32_length (v : Int) : (le32 v).length = 4 := leBytes_length 4 _
theorem le16_length (v : Int) : (le16 v).length = 2 := leBytes_length 2 _
theorem le24_length (v : Int) : (le24 v).length = 3 := leBytes_length 3 _
theorem ofBE_be32 (v : Int) : ofBE (be32 v) = wrapU 32 v := ofBE_beBytes_wrapU 4 v
theorem ofBE_be32_nat (v : Nat) (hv : v < 2 ^ 32) : ofBE (be32 (v : Int)) = v := by rw [ofBE_be32, wrapU_of_lt 32 v hv]
theorem ofBE_be16 (v : Int) : ofBE (be16 v) = wrapU 16 v := ofBE_beBytes_wrapU 2 v
theorem ofLE_le32 (v : Int) : ofLE (le32 v) = wrapU 32 v := ofLE_leBytes_wrapU 4 v
theorem ofLE_le16 (v : Int) : ofLE (le16 v) = wrapU 16 v := ofLE_leBytes_wrapU 2 v
theorem ofLE_le24 (v : Int) : ofLE (le24 v) = wrapU 24 v := ofLE_leBytes_wrapU 3 v

end Sf.Small
