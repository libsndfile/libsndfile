/-
  ALAC wrapper (SfModel/AlacFile.lean): the write side as a list of packets.
  `encSeq cd e blocks` = the encoder run over consecutive packets with its state threaded; `Staged cd w0 w blocks`: on top of the
  writer state `w0`, the temporary file of `w` holds the packets `encSeq cd w0.e blocks`, the packet table lists their sizes, every
  block has 4096 frames and fewer than 4096 frames are staged.  `staged_writeLoop`: the staging loop of alac_write_* keeps this and
  `blocks.flatten ++ staged` grows by exactly the frames handed over; `staged_unique`: blocks and staged frames, hence the whole
  state, are determined by that stream — which is why the closed file does not depend on how the calls were cut (C07) and why
  `alac_close` leaves the packets of the stream (`finish_inv`, C01).  For every codec.
-/
import SfModel.AlacFile
namespace Sf.AlacWriter
open Sf Sf.Alac

variable {σ α : Type}

theorem writeLoop_nil (cd : Codec σ α) (w : W σ α) : writeLoop cd w [] = w := by
  rw [writeLoop]; simp

theorem writeLoop_step (cd : Codec σ α) (w : W σ α) (xs : List α) (h : xs ≠ []) :
    writeLoop cd w xs = writeLoop cd (writeStep cd w xs) (xs.drop (wcOf w.staged.length xs.length)) := by
  rw [writeLoop]; simp [h]

theorem writeLoop_short (cd : Codec σ α) (w : W σ α) (xs : List α) (h : w.staged.length + xs.length < fpb) :
    writeLoop cd w xs = { w with staged := w.staged ++ xs } := by
  by_cases hx : xs = []
  · subst hx; rw [writeLoop_nil]; simp
  · have hl : xs.length > 0 := List.length_pos_iff.mpr hx
    have hwc : wcOf w.staged.length xs.length = xs.length := by
      unfold wcOf; rw [if_pos]; right; omega
    rw [writeLoop_step cd w xs hx, hwc, List.drop_length, writeLoop_nil]
    unfold writeStep
    rw [hwc, List.take_length]
    simp only [List.length_append]
    rw [if_neg (by omega)]

theorem writeLoop_full (cd : Codec σ α) (w : W σ α) (xs : List α) (hw : w.staged.length < fpb) (h : ¬ w.staged.length + xs.length < fpb) :
    writeLoop cd w xs = writeLoop cd (encodeBlock cd { w with staged := w.staged ++ xs.take (fpb - w.staged.length) }) (xs.drop (fpb - w.staged.length)) := by
  have hwc : wcOf w.staged.length xs.length = fpb - w.staged.length := by
    unfold wcOf; rw [if_neg (by omega)]
  rw [writeLoop_step cd w xs (by intro h0; subst h0; simp at h; omega), hwc]
  unfold writeStep
  rw [hwc]
  simp only
  rw [if_pos (by rw [List.length_append, List.length_take]; omega)]

def encSeq (cd : Codec σ α) : σ → List (List α) → List (List Byte)
  | _, [] => []
  | e, b :: bs => (cd.enc e b).2 :: encSeq cd (cd.enc e b).1 bs

def encEnd (cd : Codec σ α) : σ → List (List α) → σ
  | e, [] => e
  | e, b :: bs => encEnd cd (cd.enc e b).1 bs

theorem encSeq_append (cd : Codec σ α) : ∀ (bs : List (List α)) (e : σ) (b : List α),
    encSeq cd e (bs ++ [b]) = encSeq cd e bs ++ [(cd.enc (encEnd cd e bs) b).2]
  | [], _, _ => rfl
  | x :: bs, e, b => by simp [encSeq, encEnd, encSeq_append cd bs]

theorem encEnd_append (cd : Codec σ α) : ∀ (bs : List (List α)) (e : σ) (b : List α),
    encEnd cd e (bs ++ [b]) = (cd.enc (encEnd cd e bs) b).1
  | [], _, _ => rfl
  | x :: bs, e, b => by simp [encEnd, encEnd_append cd bs]

theorem encSeq_length (cd : Codec σ α) : ∀ (bs : List (List α)) (e : σ), (encSeq cd e bs).length = bs.length
  | [], _ => rfl
  | x :: bs, e => by simp [encSeq, encSeq_length cd bs]

structure Staged (cd : Codec σ α) (w0 w : W σ α) (blocks : List (List α)) : Prop where
  tmp : w.tmp = w0.tmp ++ (encSeq cd w0.e blocks).flatten
  sizes : w.sizes = w0.sizes ++ (encSeq cd w0.e blocks).map List.length
  e : w.e = encEnd cd w0.e blocks
  full : ∀ b ∈ blocks, b.length = fpb
  staged : w.staged.length < fpb

theorem staged_refl (cd : Codec σ α) (w : W σ α) (h : w.staged.length < fpb) : Staged cd w w [] :=
  ⟨by simp [encSeq], by simp [encSeq], rfl, by simp, h⟩

theorem staged_writeLoop (cd : Codec σ α) (w0 : W σ α) : ∀ (n : Nat) (xs : List α), xs.length = n → ∀ (w : W σ α) (blocks : List (List α)),
    Staged cd w0 w blocks → ∃ blocks', Staged cd w0 (writeLoop cd w xs) blocks' ∧
      blocks'.flatten ++ (writeLoop cd w xs).staged = blocks.flatten ++ w.staged ++ xs ∧ (writeLoop cd w xs).frames = w.frames := by
  intro n
  induction n using Nat.strongRecOn with
  | _ n ih =>
    intro xs hn w blocks hw
    have hst := hw.staged
    by_cases hsh : w.staged.length + xs.length < fpb
    · rw [writeLoop_short cd w xs hsh]
      exact ⟨blocks, ⟨hw.tmp, hw.sizes, hw.e, hw.full, by simp; omega⟩, by simp, rfl⟩
    · rw [writeLoop_full cd w xs hst hsh]
      have hlen1 : (w.staged ++ xs.take (fpb - w.staged.length)).length = fpb := by
        rw [List.length_append, List.length_take]; omega
      -- `alac_encode_block` on the completed packet
      have hw' : Staged cd w0 (encodeBlock cd { w with staged := w.staged ++ xs.take (fpb - w.staged.length) })
          (blocks ++ [w.staged ++ xs.take (fpb - w.staged.length)]) := by
        refine ⟨?_, ?_, ?_, ?_, by simp [encodeBlock, fpb]⟩
        · simp [encodeBlock, encSeq_append, hw.tmp, hw.e]
        · simp [encodeBlock, encSeq_append, hw.sizes, hw.e]
        · simp [encodeBlock, encEnd_append, hw.e]
        · intro b hb
          rcases List.mem_append.mp hb with hb | hb
          · exact hw.full b hb
          · rw [List.mem_singleton.mp hb]; exact hlen1
      obtain ⟨blocks', hi, hfl, hfr⟩ := ih (xs.drop (fpb - w.staged.length)).length (by rw [List.length_drop, ← hn]; omega) _ rfl _ _ hw'
      refine ⟨blocks', hi, ?_, hfr⟩
      rw [hfl]
      simp only [encodeBlock, List.flatten_append, List.flatten_cons, List.flatten_nil, List.append_nil, List.append_assoc]
      rw [List.take_append_drop]

theorem blocks_unique (n : Nat) : ∀ (b1 b2 : List (List α)) (r1 r2 : List α), (∀ b ∈ b1, b.length = n) → (∀ b ∈ b2, b.length = n) →
    r1.length < n → r2.length < n → b1.flatten ++ r1 = b2.flatten ++ r2 → b1 = b2 ∧ r1 = r2
  | [], [], _, _, _, _, _, _, h => ⟨rfl, by simpa using h⟩
  | [], y :: b2, r1, r2, _, h2, hr1, _, h => by
    have := congrArg List.length h
    simp [h2 y (by simp)] at this; omega
  | x :: b1, [], r1, r2, h1, _, _, hr2, h => by
    have := congrArg List.length h
    simp [h1 x (by simp)] at this; omega
  | x :: b1, y :: b2, r1, r2, h1, h2, hr1, hr2, h => by
    simp only [List.flatten_cons, List.append_assoc] at h
    obtain ⟨e1, e2⟩ := List.append_inj h (by rw [h1 x (by simp), h2 y (by simp)])
    obtain ⟨i1, i2⟩ := blocks_unique n b1 b2 r1 r2 (fun b hb => h1 b (by simp [hb])) (fun b hb => h2 b (by simp [hb])) hr1 hr2 e2
    exact ⟨by rw [e1, i1], i2⟩

/-- the writer state is a function of the frames handed over so far (and of the wrapper's frame count, which the loop does not read) -/
theorem staged_unique (cd : Codec σ α) (w0 w1 w2 : W σ α) (b1 b2 : List (List α)) (h1 : Staged cd w0 w1 b1) (h2 : Staged cd w0 w2 b2)
    (hs : b1.flatten ++ w1.staged = b2.flatten ++ w2.staged) (hf : w1.frames = w2.frames) : w1 = w2 := by
  obtain ⟨eb, es⟩ := blocks_unique fpb b1 b2 _ _ h1.full h2.full h1.staged h2.staged hs
  subst eb
  obtain ⟨e1, s1, z1, t1, f1⟩ := w1
  obtain ⟨e2, s2, z2, t2, f2⟩ := w2
  -- encoder state, packet sizes and temporary file are functions of the blocks (`e`, `sizes`, `tmp`); the other two fields are `es`, `hf`
  have := h1.tmp; have := h2.tmp; have := h1.sizes; have := h2.sizes; have := h1.e; have := h2.e
  simp_all

theorem staged_writeCalls (cd : Codec σ α) (w0 : W σ α) : ∀ (calls : List (List α)) (w : W σ α) (blocks : List (List α)),
    Staged cd w0 w blocks → ∃ blocks', Staged cd w0 (writeCalls cd w calls) blocks' ∧
      blocks'.flatten ++ (writeCalls cd w calls).staged = blocks.flatten ++ w.staged ++ calls.flatten ∧
      (writeCalls cd w calls).frames = w.frames + calls.flatten.length
  | [], w, blocks, hw => ⟨blocks, hw, by simp [writeCalls], by simp [writeCalls]⟩
  | c :: cs, w, blocks, hw => by
    obtain ⟨b1, h1, f1, r1⟩ := staged_writeLoop cd w0 _ c rfl w blocks hw
    obtain ⟨b2, h2, f2, r2⟩ := staged_writeCalls cd w0 cs (writeCall cd w c) b1 ⟨h1.tmp, h1.sizes, h1.e, h1.full, h1.staged⟩
    have es : (writeCall cd w c).staged = (writeLoop cd w c).staged := rfl
    have ef : (writeCall cd w c).frames = (writeLoop cd w c).frames + c.length := rfl
    refine ⟨b2, h2, ?_, ?_⟩
    · rw [show writeCalls cd w (c :: cs) = writeCalls cd (writeCall cd w c) cs from rfl, f2, es, f1]
      simp
    · rw [show writeCalls cd w (c :: cs) = writeCalls cd (writeCall cd w c) cs from rfl, r2, ef, r1]
      simp [Nat.add_assoc]

/-- all write calls, then the first half of alac_close: the packets of the closed file -/
theorem finish_inv (cd : Codec σ α) (calls : List (List α)) :
    ∃ blocks, (finish cd (writeCalls cd (W.init cd) calls)).tmp = (encSeq cd cd.init blocks).flatten ∧
      (finish cd (writeCalls cd (W.init cd) calls)).sizes = (encSeq cd cd.init blocks).map List.length ∧
      blocks.flatten = calls.flatten ∧ (∀ b ∈ blocks, 0 < b.length ∧ b.length ≤ fpb) ∧
      (writeCalls cd (W.init cd) calls).frames = calls.flatten.length := by
  obtain ⟨blocks, hi, hfl, hfr⟩ := staged_writeCalls cd (W.init cd) calls _ [] (staged_refl cd _ (by simp [W.init, fpb]))
  generalize writeCalls cd (W.init cd) calls = w at hi hfl hfr
  have hfull : ∀ b ∈ blocks, 0 < b.length ∧ b.length ≤ fpb := fun b hb => by rw [hi.full b hb]; simp [fpb]
  have ht := hi.tmp
  have hs := hi.sizes
  simp only [W.init, List.nil_append, List.flatten_nil, Nat.zero_add] at ht hs hfl hfr
  unfold finish
  by_cases hst : 0 < w.staged.length ∧ w.staged.length < fpb
  · rw [if_pos hst]
    refine ⟨blocks ++ [w.staged], ?_, ?_, by simpa using hfl, ?_, hfr⟩
    · simp [encodeBlock, encSeq_append, ht, hi.e, W.init]
    · simp [encodeBlock, encSeq_append, hs, hi.e, W.init]
    · intro b hb
      rcases List.mem_append.mp hb with hb | hb
      · exact hfull b hb
      · rw [List.mem_singleton.mp hb]; exact ⟨hst.1, Nat.le_of_lt hst.2⟩
  · rw [if_neg hst]
    have h0 : w.staged = [] := List.eq_nil_of_length_eq_zero (by have := hi.staged; omega)
    exact ⟨blocks, ht, hs, by rw [h0] at hfl; simpa using hfl, hfull, hfr⟩

end Sf.AlacWriter
