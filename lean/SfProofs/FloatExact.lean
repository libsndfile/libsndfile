/-
  SfProofs.FloatExact — value-level (ℚ) consequences: exact conversions, order, widening/narrowing.
-/
import SfProofs.FloatRound
namespace Sf.Float

theorem val_eq_of {a b : Dy} (hn : a.neg = b.neg) (hm : a.mag = b.mag) : a.val = b.val := by
  rw [Dy.val_eq, Dy.val_eq, hn, hm]

theorem Dy.abs_val (a : Dy) : |a.val| = a.mag := by
  rw [Dy.val_eq]; split
  · rw [abs_neg, abs_of_nonneg a.mag_nonneg]
  · exact abs_of_nonneg a.mag_nonneg

theorem Dy.mul_mag (a b : Dy) : (a.mul b).mag = a.mag * b.mag := by
  unfold Dy.mul Dy.mag; simp only; push_cast; rw [zpow2_add]; ring

theorem Dy.mul_val (a b : Dy) : (a.mul b).val = a.val * b.val := by
  unfold Dy.mul Dy.val; simp only; push_cast; rw [zpow2_add]
  cases a.neg <;> cases b.neg <;> simp <;> ring

theorem Dy.intScaled_val (x k : Int) : (⟨decide (x < 0), x.natAbs, k⟩ : Dy).val = x * 2 ^ k := by
  unfold Dy.val
  simp only
  rw [Nat.cast_natAbs]
  by_cases h : x < 0
  · simp only [h, decide_true, if_true]
    rw [abs_of_neg h]; push_cast; ring
  · simp only [h, decide_false]
    rw [abs_of_nonneg (not_lt.mp h)]; simp

theorem Dy.ofInt_val (x : Int) : (Dy.ofInt x).val = x := by
  rw [Dy.ofInt, Dy.intScaled_val, zpow_zero, mul_one]

theorem Dy.ofInt_mag (x : Int) : (Dy.ofInt x).mag = x.natAbs := by
  unfold Dy.ofInt Dy.mag; simp

/-- `d` is exactly representable in `f`: m·2^e = n·2^q with n < 2^(mbits+1), q ≥ qmin, below the overflow threshold -/
def Fmt.Rep (f : Fmt) (d : Dy) : Prop := f.RepMag d.mag ∧ d.mag < f.huge

/-- rounding a representable dyadic to the format changes nothing -/
theorem toDy_ofDy_exact (f : Fmt) (hf : f.Std) (d : Dy) (h : f.Rep d) :
    (f.toDy (f.ofDy d)).neg = d.neg ∧ (f.toDy (f.ofDy d)).mag = d.mag ∧ (f.toDy (f.ofDy d)).val = d.val ∧
    f.isFinite (f.ofDy d) = true := by
  obtain ⟨h1, h2⟩ := toDy_ofDy f hf d
  have h3 : (f.rnd d).mag = d.mag := rnd_exact f d h.1
  have h4 : (f.toDy (f.ofDy d)).mag = d.mag := by rw [h2, h3, min_eq_left (le_of_lt h.2)]
  refine ⟨h1, h4, val_eq_of h1 h4, ?_⟩
  rw [ofDy_finite_iff f hf, h3]; exact h.2

theorem Dy.toIntScaled_val (a : Dy) (e : Int) (h : e ≤ a.e) : ((a.toIntScaled e : ℤ) : ℚ) = a.val * 2 ^ (-e) := by
  unfold Dy.toIntScaled Dy.val
  push_cast
  rw [mul_assoc _ _ ((2:ℚ) ^ (-e)), ← zpow2_add, ← zpow_natCast]
  have : ((a.e - e).toNat : ℤ) = a.e + -e := by omega
  rw [this]

theorem Dy.le_iff (a b : Dy) : a.le b = true ↔ a.val ≤ b.val := by
  unfold Dy.le
  simp only [decide_eq_true_eq]
  have key : ∀ e : Int, e ≤ a.e → e ≤ b.e → (a.toIntScaled e ≤ b.toIntScaled e ↔ a.val ≤ b.val) := by
    intro e h1 h2
    have hp := two_zpow_pos (-e)
    rw [← Int.cast_le (R := ℚ), Dy.toIntScaled_val a e h1, Dy.toIntScaled_val b e h2]
    exact mul_le_mul_iff_of_pos_right hp
  split
  · exact key _ (le_refl _) (by assumption)
  · exact key _ (by omega) (le_refl _)

theorem Dy.lt_iff (a b : Dy) : a.lt b = true ↔ a.val < b.val := by
  unfold Dy.lt
  rw [Bool.not_eq_true', ← Bool.not_eq_true, Dy.le_iff]
  exact not_le

theorem std_ranges (f : Fmt) (hf : f.Std) :
    f.qmin ≤ -149 ∧ 23 ≤ f.mbits ∧ f.mbits ≤ 52 ∧ (128 : ℤ) ≤ (f.emax : ℤ) - 1 + f.qmin + f.mbits := by
  rcases hf with rfl | rfl <;> simp [Fmt.qmin, Fmt.bias, Fmt.emax, f32, f64]

theorem std_huge (f : Fmt) (hf : f.Std) : (2 : ℚ) ^ (128 : ℤ) ≤ f.huge := by
  unfold Fmt.huge; exact zpow2_le (std_ranges f hf).2.2.2

/-- 128: 2^128 is binary32's overflow threshold, and so at most that of either format (`std_huge`) -/
theorem rep_of (f : Fmt) (hf : f.Std) (d : Dy) (n : Nat) (q : Int) (hn : n < 2 ^ (f.mbits + 1)) (hq : f.qmin ≤ q)
    (hq2 : q + f.mbits + 1 ≤ 128) (hm : d.mag = (n : ℚ) * 2 ^ q) : f.Rep d := by
  refine ⟨⟨n, q, hn, hq, hm⟩, ?_⟩
  rw [hm]
  have := mul_zpow_lt n (f.mbits + 1) q hn
  exact lt_of_lt_of_le this (le_trans (zpow2_le (by push_cast; omega)) (std_huge f hf))

/-- `(float) x` / `(double) x` is exact when |x| = n·2^j with n below 2^(mbits+1) -/
theorem ofInt_exact_gen (f : Fmt) (hf : f.Std) (x : Int) (n j : Nat) (hx : x.natAbs = n * 2 ^ j)
    (hn : n < 2 ^ (f.mbits + 1)) (hj : j ≤ 64) :
    (f.toDy (f.ofInt x)).val = x ∧ (f.toDy (f.ofInt x)).neg = decide (x < 0) ∧
    (f.toDy (f.ofInt x)).mag = x.natAbs ∧ f.isFinite (f.ofInt x) = true := by
  obtain ⟨r1, r2, r3, r4⟩ := std_ranges f hf
  have hrep : f.Rep (Dy.ofInt x) := rep_of f hf _ n j hn (by omega) (by omega) (by
    rw [Dy.ofInt_mag, hx]; push_cast; rw [zpow_natCast])
  obtain ⟨a, b, c, d⟩ := toDy_ofDy_exact f hf _ hrep
  unfold Fmt.ofInt
  refine ⟨by rw [c, Dy.ofInt_val], by rw [a]; rfl, by rw [b, Dy.ofInt_mag], d⟩

theorem ofInt_exact (f : Fmt) (hf : f.Std) (x : Int) (hx : x.natAbs < 2 ^ (f.mbits + 1)) :
    (f.toDy (f.ofInt x)).val = x :=
  (ofInt_exact_gen f hf x x.natAbs 0 (by simp) hx (by omega)).1

theorem rep_scale (f : Fmt) (b : Nat) (k : Int) (hq : f.qmin ≤ (f.toDy b).e + k)
    (hh : (f.toDy b).mag * 2 ^ k < f.huge) : f.Rep ((f.toDy b).mul ⟨false, 1, k⟩) := by
  have hm : ((f.toDy b).mul ⟨false, 1, k⟩).mag = (f.toDy b).mag * 2 ^ k := by
    rw [Dy.mul_mag]; simp [Dy.mag]
  refine ⟨?_, by rw [hm]; exact hh⟩
  rw [hm]
  have hfr := frac_lt f b
  refine ⟨(f.toDy b).m, (f.toDy b).e + k, ?_, hq, by unfold Dy.mag; rw [zpow2_add]; ring⟩
  unfold Fmt.toDy; simp only; split <;> simp only <;> omega

theorem mul_pow2_exact (f : Fmt) (hf : f.Std) (b : Nat) (k : Int) (hq : f.qmin ≤ (f.toDy b).e + k)
    (hh : (f.toDy b).mag * 2 ^ k < f.huge) :
    (f.toDy (f.ofDy ((f.toDy b).mul ⟨false, 1, k⟩))).val = (f.toDy b).val * 2 ^ k := by
  rw [(toDy_ofDy_exact f hf _ (rep_scale f b k hq hh)).2.2.1, Dy.mul_val]
  simp [Dy.val]

theorem f32_rep_in_f64 (b : Nat) (hfin : f32.isFinite b = true) : f64.Rep (f32.toDy b) := by
  obtain ⟨n, q, hn, hq, hm⟩ := toDy_rep f32 b
  have hlt := (finite_iff_mag_lt f32 (Or.inl rfl) b).mp hfin
  refine ⟨⟨n, q, ?_, ?_, hm⟩, lt_of_lt_of_le hlt ?_⟩
  · simp [f32, f64] at *; omega
  · simp [f32, f64, Fmt.qmin, Fmt.bias] at *; omega
  · unfold Fmt.huge; exact zpow2_le (by simp [f32, f64, Fmt.qmin, Fmt.bias, Fmt.emax])

theorem f32to64_finite (b : Nat) (hfin : f32.isFinite b = true) : f32to64 b = f64.ofDy (f32.toDy b) := by
  simp [f32to64, hfin]

/-- **float → double is exact** for every finite pattern -/
theorem f32to64_exact (b : Nat) (hfin : f32.isFinite b = true) :
    (f64.toDy (f32to64 b)).val = (f32.toDy b).val ∧ f64.isFinite (f32to64 b) = true := by
  rw [f32to64_finite b hfin]
  have := toDy_ofDy_exact f64 (Or.inr rfl) _ (f32_rep_in_f64 b hfin)
  exact ⟨this.2.2.1, this.2.2.2⟩

/-- **double → float undoes float → double** on every finite binary32 pattern -/
theorem f64to32_f32to64 (b : Nat) (hb : b < 2 ^ 32) (hfin : f32.isFinite b = true) : f64to32 (f32to64 b) = b := by
  have h := toDy_ofDy_exact f64 (Or.inr rfl) _ (f32_rep_in_f64 b hfin)
  unfold f64to32
  rw [f32to64_finite b hfin]
  simp only [h.2.2.2, if_true]
  rw [ofDy_congr f32 _ (f32.toDy b) h.1 h.2.1]
  exact ofDy_toDy f32 b (by simpa [Fmt.width, f32] using hb) hfin

/-! ### scaling commutes with rounding away from the subnormal range; rounding is idempotent -/

theorem rnd_scale (f : Fmt) (s : Bool) (m : Nat) (e k : Int)
    (h1 : f.qmin ≤ e + (bitLen m : ℤ) - 1 - f.mbits) (h2 : f.qmin ≤ e + k + (bitLen m : ℤ) - 1 - f.mbits) :
    f.rnd ⟨s, m, e + k⟩ = ⟨s, (f.rnd ⟨s, m, e⟩).m, (f.rnd ⟨s, m, e⟩).e + k⟩ := by
  have q1 : f.quantum ⟨s, m, e⟩ = e + (bitLen m : ℤ) - 1 - f.mbits := by unfold Fmt.quantum; simp only; omega
  have q2 : f.quantum ⟨s, m, e + k⟩ = e + k + (bitLen m : ℤ) - 1 - f.mbits := by unfold Fmt.quantum; simp only; omega
  unfold Fmt.rnd
  simp only [q1, q2]
  congr 1
  · congr 1; omega
  · omega

theorem rnd_scale_mag (f : Fmt) (s : Bool) (m : Nat) (e k : Int)
    (h1 : f.qmin ≤ e + (bitLen m : ℤ) - 1 - f.mbits) (h2 : f.qmin ≤ e + k + (bitLen m : ℤ) - 1 - f.mbits) :
    (f.rnd ⟨s, m, e + k⟩).mag = (f.rnd ⟨s, m, e⟩).mag * 2 ^ k := by
  rw [rnd_scale f s m e k h1 h2]; unfold Dy.mag; simp only; rw [zpow2_add]; ring

theorem rnd_neg (f : Fmt) (d : Dy) : (f.rnd d).neg = d.neg := rfl

theorem ofDy_rnd (f : Fmt) (hf : f.Std) (d : Dy) (h : (f.rnd d).mag < f.huge) : f.ofDy (f.rnd d) = f.ofDy d := by
  obtain ⟨a, b⟩ := toDy_ofDy f hf d
  rw [min_eq_left (le_of_lt h)] at b
  rw [← ofDy_congr f (f.toDy (f.ofDy d)) (f.rnd d) a b]
  exact ofDy_toDy f _ (ofDy_lt_width f hf d) ((ofDy_finite_iff f hf d).mpr h)

theorem repMag_pow2 (f : Fmt) (k : Int) (hk : f.qmin ≤ k) : f.RepMag (2 ^ k) :=
  ⟨1, k, Nat.one_lt_two_pow (by omega), hk, by simp⟩

theorem round_mag_le (f : Fmt) (hf : f.Std) (d : Dy) (B : ℚ) (hB : f.RepMag B) (h : d.mag ≤ B) :
    (f.toDy (f.ofDy d)).mag ≤ B := by
  rw [(toDy_ofDy f hf d).2]
  exact le_trans (min_le_left _ _) (rnd_le_of_le_rep f d B hB h)

theorem round_val_bounds (f : Fmt) (hf : f.Std) (d : Dy) (lo hi : ℚ) (hlo : f.RepMag (-lo)) (hhi : f.RepMag hi)
    (hlo0 : lo ≤ 0) (hhi0 : 0 ≤ hi) (h1 : lo ≤ d.val) (h2 : d.val ≤ hi) :
    lo ≤ (f.toDy (f.ofDy d)).val ∧ (f.toDy (f.ofDy d)).val ≤ hi := by
  have hn := (toDy_ofDy f hf d).1
  have hm0 := Dy.mag_nonneg (f.toDy (f.ofDy d))
  rw [Dy.val_eq] at h1 h2
  rw [Dy.val_eq, hn]
  cases hs : d.neg <;> simp only [hs, Bool.false_eq_true, if_false, if_true] at h1 h2 ⊢
  · have := round_mag_le f hf d hi hhi h2
    constructor <;> linarith
  · have := round_mag_le f hf d (-lo) hlo (by linarith)
    constructor <;> linarith

theorem repMag_nat (f : Fmt) (hf : f.Std) (n : Nat) (hn : n < 2 ^ 24) : f.RepMag (n : ℚ) := by
  obtain ⟨r1, r2, r3, r4⟩ := std_ranges f hf
  have hpow : 2 ^ 24 ≤ 2 ^ (f.mbits + 1) := Nat.pow_le_pow_right (by omega) (by omega)
  exact ⟨n, 0, by omega, by omega, by simp⟩

theorem rnd_mag_mono (f : Fmt) (a b : Dy) (h : a.mag ≤ b.mag) : (f.rnd a).mag ≤ (f.rnd b).mag := by
  by_cases ha : a.m = 0
  · rw [rnd_mag_zero f a ha]; exact Dy.mag_nonneg _
  have hapos : 0 < a.mag := lt_of_lt_of_le (two_zpow_pos _) (Dy.mag_bounds a ha).1
  have hb : b.m ≠ 0 := by
    intro hb0; rw [(Dy.mag_eq_zero_iff b).mpr hb0] at h; linarith
  have ba := Dy.mag_bounds a ha
  have bb := Dy.mag_bounds b hb
  have hE : a.e + (bitLen a.m : ℤ) - 1 < b.e + (bitLen b.m : ℤ) :=
    zpow2_lt_iff.mp (lt_of_le_of_lt (le_trans ba.1 h) bb.2)
  have hqle : f.quantum a ≤ f.quantum b := by unfold Fmt.quantum; omega
  rcases Int.lt_or_eq_of_le hqle with hlt | heq
  · -- different quanta: the power of two 2^E_b separates the two values
    have hqb : f.quantum b = b.e + (bitLen b.m : ℤ) - 1 - f.mbits := by
      have := qmin_le_quantum f a; unfold Fmt.quantum at *; omega
    have hne : f.quantum b ≠ f.qmin := by have := qmin_le_quantum f a; omega
    have hge := rnd_mant_ge f b hb hne
    have h2 : (2 : ℚ) ^ ((f.mbits : ℤ) + f.quantum b) ≤ (f.rnd b).mag := by
      rw [rnd_mag]; exact le_mul_zpow _ _ _ hge
    have hEa : a.e + (bitLen a.m : ℤ) ≤ (f.mbits : ℤ) + f.quantum b := by unfold Fmt.quantum at hlt; omega
    have h1 : a.mag ≤ (2 : ℚ) ^ ((f.mbits : ℤ) + f.quantum b) := le_trans (le_of_lt ba.2) (zpow2_le hEa)
    have hrep : f.RepMag ((2 : ℚ) ^ ((f.mbits : ℤ) + f.quantum b)) :=
      repMag_pow2 f _ (by have := qmin_le_quantum f b; omega)
    exact le_trans (rnd_le_of_le_rep f a _ hrep h1) h2
  · have ra := rnd_isRNE f a
    have rb := rnd_isRNE f b
    rw [heq] at ra
    have hm := ra.mono rb (mul_le_mul_of_nonneg_right h (le_of_lt (two_zpow_pos _)))
    rw [rnd_mag, rnd_mag, heq]
    exact mul_le_mul_of_nonneg_right (by exact_mod_cast hm) (le_of_lt (two_zpow_pos _))

/-- **rounding to binary32 / binary64 is monotone** in the real value (overflow to ±Inf included, read as ±huge) -/
theorem round_mono (f : Fmt) (hf : f.Std) (a b : Dy) (h : a.val ≤ b.val) :
    (f.toDy (f.ofDy a)).val ≤ (f.toDy (f.ofDy b)).val := by
  obtain ⟨na, ma⟩ := toDy_ofDy f hf a
  obtain ⟨nb, mb⟩ := toDy_ofDy f hf b
  have pa := Dy.mag_nonneg (f.toDy (f.ofDy a))
  have pb := Dy.mag_nonneg (f.toDy (f.ofDy b))
  have qa := Dy.mag_nonneg a
  have qb := Dy.mag_nonneg b
  rw [Dy.val_eq] at h
  rw [Dy.val_eq (f.toDy (f.ofDy a)), Dy.val_eq (f.toDy (f.ofDy b)), na, nb]
  rw [Dy.val_eq b] at h
  cases hsa : a.neg <;> cases hsb : b.neg <;> simp only [hsa, hsb, Bool.false_eq_true, if_false, if_true] at h ⊢
  · rw [ma, mb]; exact min_le_min_right _ (rnd_mag_mono f a b h)
  · have h0 : a.mag = 0 := by linarith
    have : a.m = 0 := (Dy.mag_eq_zero_iff a).mp h0
    have hb0 : b.mag = 0 := by linarith
    have : b.m = 0 := (Dy.mag_eq_zero_iff b).mp hb0
    rw [ma, mb, rnd_mag_zero f a ‹a.m = 0›, rnd_mag_zero f b ‹b.m = 0›]
    have hh : 0 < f.huge := two_zpow_pos _
    simp [min_eq_left (le_of_lt hh)]
  · linarith
  · rw [ma, mb]
    have := min_le_min_right f.huge (rnd_mag_mono f b a (by linarith))
    linarith

theorem toDy_neg (f : Fmt) (b : Nat) : (f.toDy b).neg = f.sign b := by
  unfold Fmt.toDy; dsimp only; split <;> rfl

end Sf.Float
