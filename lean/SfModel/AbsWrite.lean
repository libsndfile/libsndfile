/-
  SfModel.AbsWrite — the WRITE-SIDE contract of properties C01 / C04 / C07 / C11 as decidable Boolean checkers over what
  the all-format write campaign (vlib/writecamp.py) records of ONE job:

    * the geometry of the (container, encoding): block length B, pad allowance, rate quantiser class — from
      SfModel/Geometry.lean (`blockFrames`, `padFrames`, `floorToBlock`) and `rateClass` below;
    * run 1, the REFERENCE run: the samples handed to one write call with their caller type, what the call returned, what
      sf_close returned, the bytes of the closed file, the re-open info, the sequential read-back to the end and one
      further read;
    * run 2, the SPLIT run: the same samples split over mixed item / frame calls with SFC_UPDATE_HEADER_NOW /
      SFC_SET_UPDATE_HEADER_AUTO in between, the closed bytes, and for every crash point (a copy of the store taken right
      after a header update) the re-open info and the read-back of the copy;
    * run 3: run 1 again with another stale SF_INFO.frames value at open — its closed bytes.

  Nothing here knows bytes of headers or codecs: the checkers JUDGE what the library answered against the clauses of the
  four statements (quoted from properties.jsonl next to each clause) and name the clauses that fail (`Fail.tag`).
  Cells follow `Sf.Abs`: a caller item is one cell of at most 32 bits, a double is two cells (high half first); a file byte
  is one cell.  The compiled driver (`sfmodel abs-write`, lean/Driver/AbsWrite.lean) evaluates `judgeG` (below: `judge` + the exact rate clause);
  lean/SfProofs/AbsWrite*.lean and lean/SfProps/C01AbsW.lean, C04AbsW.lean, C07AbsW.lean, C11AbsW.lean prove what an
  accepted record means and that what the concrete model's theorems describe is accepted.

  Core Lean only (no Mathlib): the driver links this file.
-/
import SfModel.Abs
import SfModel.Geometry
namespace Sf.AbsWrite
open Sf Sf.Abs Sf.Geometry

/-! ## geometry -/

/-- what the writer was opened with -/
structure Geom where
  word : Nat                            -- format word: container | encoding | endianness
  ch : Nat                              -- channels
  sr : Nat                              -- sample rate asked for

def Geom.major (g : Geom) : Nat := g.word / 0x10000 % 0x1000
def Geom.codec (g : Geom) : Nat := g.word % 0x10000
/-- B: the encoding's block length in frames (SfModel/Geometry.lean) -/
def Geom.block (g : Geom) : Nat := blockFrames g.major g.codec g.ch g.sr
/-- pad frames a container may add when it pads odd byte counts -/
def Geom.pad (g : Geom) : Nat := padFrames g.major g.codec g.ch

/-- C04: "the requested sample rate whenever the container's rate field can represent it exactly … exact rate equality is
    asserted for the containers with integer-Hz or wider fields - WAV, WAVEX, RF64, W64, AIFF, AU, CAF, NIST, PAF, PVF,
    MAT4, MAT5, AVR - and quantisation by the documented unit for SVX/MPC2K (16 bit), IRCAM (float32), HTK/SDS (sample
    period), VOC (divisor), XI/WVE (fixed)" — the quantiser class of a container -/
inductive RateClass
  | exact                 -- integer-Hz or wider field: the rate comes back as asked
  | caller                -- RAW: no header, the caller supplies the rate at re-open
  | field16               -- SVX, MPC2K: 16-bit field
  | float32               -- IRCAM: binary32 field
  | period (unit bits : Nat)   -- HTK (100 ns, 32-bit field), SDS (1 ns, 21-bit field): sample period
  | divisor               -- VOC: 1 MHz / (256 − divisor)
  | fixed                 -- XI, WVE: the container fixes the rate
deriving Repr, DecidableEq

def rateClass (major : Nat) : RateClass :=
  if major == 0x04 then .caller
  else if major == 0x06 || major == 0x21 then .field16
  else if major == 0x0A then .float32
  else if major == 0x10 then .period (10 ^ 7) 31
  else if major == 0x11 then .period (10 ^ 9) 21
  else if major == 0x08 then .divisor
  else if major == 0x0F || major == 0x19 then .fixed
  else .exact

/-- an integer rounded to binary32 (24 significant bits, ties to even) -/
def roundF32 (n : Nat) : Nat :=
  if n < 2 ^ 24 then n
  else
    let e := Nat.log2 n - 23
    let q := n / 2 ^ e
    let r := n % 2 ^ e
    let h := 2 ^ (e - 1)
    (if h < r || (r == h && q % 2 == 1) then q + 1 else q) * 2 ^ e

/-- the rate a reader derives from a sample-period field of `bits` bits in units of 1/`u` s written for the rate `sr`:
    the period `u / sr` (truncating) read back as `u / period` (truncating) — `Sf.Htk.quant`, `Sf.SdsFile.quant`; `none`
    when the field cannot hold the period (0: the rate exceeds the unit; 2^bits and more: the rate is too low) -/
def periodQuant (u bits sr : Nat) : Option Nat :=
  let p := u / sr
  if p == 0 || 2 ^ bits ≤ p then none else some (u / p)

/-- the rate a reader derives from a binary32 field written for the integer rate `sr` (IRCAM): the integer rounded to
    binary32 and cut back to an int; from 2^31 − 64 on the rounded value 2^31 does not fit the reader's int and the writer
    stores the largest binary32 below it, 2^31 − 128 (`Sf.Ircam.rateQ`) -/
def float32Quant (sr : Nat) : Nat := if sr < 2 ^ 31 - 64 then roundF32 sr else 2 ^ 31 - 128

/-- the clause of a sample-period / time-constant field: EXACTLY the documented quantiser where the field can hold the
    period, any positive rate where it cannot -/
def periodOk (u bits sr : Nat) (got : Int) : Bool :=
  match periodQuant u bits sr with
  | some q => got == (q : Int)
  | none => 1 ≤ got

/-- VOC's sound blocks: type 1 (PCM_U8 mono) stores the 8-bit time constant 256 − 10^6 / sr, read back as
    10^6 / (256 − tc) — the sample period in µs in an 8-bit field; type 8 (PCM_U8 stereo) the 16-bit time constant
    65536 − 128·10^6 / sr — the period in units of 1 / 128 µs in a 16-bit field; type 9 (everything else) the rate itself.
    Which block is written depends on the encoding and the channel count: (unit, bits) of the period field, `none` = type 9 -/
def vocField (codec ch : Nat) : Option (Nat × Nat) :=
  if codec == 0x05 then (if ch == 1 then some (10 ^ 6, 8) else some (128 * 10 ^ 6, 16)) else none

/-- the rate a re-open may report for the rate `sr` asked at open, as far as the container (`major`) and `sr` decide it
    (vlib/geometry.py `rate_ok` without the channel count, line by line).  Every clause is EXACT — it accepts exactly the
    model's quantiser value — except `.divisor`, where the quantiser depends on the block type the encoding and the channel
    count select: here it accepts what one of the three block types answers, `rateOkG` below is the exact clause. -/
def rateOk (major sr : Nat) (got : Int) : Bool :=
  match rateClass major with
  | .exact => got == (sr : Int)
  | .caller => true
  | .fixed => true
  | .field16 => got == ((min sr 65535 : Nat) : Int)          -- saturating 16-bit field
  | .float32 => got == ((float32Quant sr : Nat) : Int)      -- EXACTLY the binary32 round trip (capped)
  | .period u b =>
    match periodQuant u b sr with
    | some q => got == (q : Int)          -- EXACTLY the documented quantiser
    | none => 1 ≤ got                     -- the field cannot express the rate: any positive rate
  | .divisor => got == (sr : Int) || periodOk (10 ^ 6) 8 sr got || periodOk (128 * 10 ^ 6) 16 sr got

/-- THE EXACT RATE CLAUSE on a whole geometry (vlib/geometry.py `rate_ok` with the channel count): for VOC the block type
    is known — the type 9 block gives the rate back as asked, the type 1 / type 8 blocks EXACTLY the time-constant
    quantiser `u / (u / sr)` where the field can hold the period (any positive rate where it cannot); every other container
    is decided by `rateOk` -/
def rateOkG (g : Geom) (got : Int) : Bool :=
  if g.major == 0x08 then
    match vocField g.codec g.ch with
    | some (u, b) => periodOk u b g.sr got
    | none => got == (g.sr : Int)
  else rateOk g.major g.sr got

/-- the rule of the `.divisor` class before round 9: a first-order tolerance inside 4000 … 200000 Hz, anything outside -/
def divisorTolOld (sr : Nat) (got : Int) : Bool :=
  !(4000 ≤ sr && sr ≤ 200000) || (got - (sr : Int)).natAbs ≤ max 1 (sr * sr / 10 ^ 6 + 1)

/-- … and of the float32 class: nothing was asked from 2^31 − 64 Hz on -/
def float32CapOld (sr : Nat) (got : Int) : Bool := 2 ^ 31 - 64 ≤ sr || got == (roundF32 sr : Int)

/-- … and of the 16-bit class: nothing was asked from 65536 Hz on -/
def field16Old (sr : Nat) (got : Int) : Bool := 65536 ≤ sr || got == (sr : Int)

/-! ## C01 — the lossless side condition -/

/-- bit width of the integer encodings (PCM_S8 / U8, PCM_16/24/32, DPCM_8/16, DWVW_12/16/24, ALAC_16/20/24/32) -/
def intWidth (codec : Nat) : Option Nat :=
  if codec == 0x01 || codec == 0x05 || codec == 0x50 then some 8
  else if codec == 0x40 then some 12
  else if codec == 0x02 || codec == 0x51 || codec == 0x41 || codec == 0x70 then some 16
  else if codec == 0x71 then some 20
  else if codec == 0x03 || codec == 0x42 || codec == 0x72 then some 24
  else if codec == 0x04 || codec == 0x73 then some 32
  else none

/-- C01: "whose encoding is lossless for the caller's sample type (integer PCM at least as wide as the caller's integers,
    32/64-bit float, ALAC, DWVW, 16-bit DPCM, and low-bit-zero integers for narrower PCM)": the number of low bits of a
    caller integer that must be zero (0 when the encoding is at least as wide), `none` when the pair is lossy. -/
def losslessLow (codec : Nat) (ty : Ty) : Option Nat :=
  match ty with
  | .s16 => (intWidth codec).map (16 - ·)
  | .s32 => (intWidth codec).map (32 - ·)
  | .f32 => if codec == 0x06 || codec == 0x07 then some 0 else none
  | .f64 => if codec == 0x07 then some 0 else none

/-- one cell of the written stream meets the side condition: the low bits of an integer are zero; a float handed to a
    binary64 file is finite ("all sample sequences of N*channels finite values of T"; widening a NaN may quieten it —
    `Sf.lossless`, SfProofs/Codec.lean) -/
def cellOk (codec : Nat) (ty : Ty) (lz : Nat) (c : Item) : Bool :=
  match ty with
  | .s16 => c % 2 ^ lz == 0
  | .s32 => c % 2 ^ lz == 0
  | .f32 => codec != 0x07 || c / 2 ^ 23 % 256 != 255
  | .f64 => true

/-- every cell `a[i+k]`, `k < n`, exists and satisfies `p` (structural: `decide` evaluates it) -/
def cellsAll (p : Item → Bool) (a : Array Item) (i : Nat) : Nat → Bool
  | 0 => true
  | n+1 => if h : i < a.size then p a[i] && cellsAll p a (i+1) n else false

/-- THE SIDE CONDITION of C01 on a written stream `w` of caller type `ty` -/
def losslessFor (g : Geom) (ty : Ty) (w : Array Item) : Bool :=
  match losslessLow g.codec ty with
  | none => false
  | some lz => cellsAll (cellOk g.codec ty lz) w 0 w.size

/-! ## what the campaign records -/

/-- one write call: the samples handed over with their caller type, and what the call returned -/
structure Call where
  ty : Ty
  fc : Bool                -- frames variant (sf_writef_T) or items variant (sf_write_T)
  n : Int                  -- count asked
  data : Array Item        -- the supplied region, in cells
  ret : Int := 0           -- what the call returned

/-- frames the call accepted -/
def Call.accepted (ch : Nat) (c : Call) : Nat := if c.fc then c.ret.toNat else c.ret.toNat / ch
/-- the cells of the accepted frames -/
def Call.taken (ch : Nat) (c : Call) : Array Item := c.data.extract 0 (c.accepted ch * ch * cells c.ty)

/-- N: "the number of frames the write calls accepted" -/
def framesAccepted (ch : Nat) : List Call → Nat
  | [] => 0
  | c :: cs => c.accepted ch + framesAccepted ch cs

def writtenFrom (ch : Nat) (acc : Array Item) : List Call → Array Item
  | [] => acc
  | c :: cs => writtenFrom ch (acc ++ c.taken ch) cs

/-- "the concatenated sequence of samples" the calls handed over and the library accepted -/
def written (ch : Nat) (cs : List Call) : Array Item := writtenFrom ch #[] cs

def handedFrom (acc : Array Item) : List Call → Array Item
  | [] => acc
  | c :: cs => handedFrom (acc ++ c.data) cs

/-- the concatenation of the regions the calls supplied, whatever was accepted -/
def handed (cs : List Call) : Array Item := handedFrom #[] cs

/-- a re-open line: SF_INFO of a reader of the bytes -/
structure Info where
  null : Bool := false
  ch : Int := 0
  sr : Int := 0
  fmt : Nat := 0
  frames : Int := 0
deriving Inhabited

/-- a sequential read-back: one read call asking for more than the file may hold, then one further read -/
structure ReadBack where
  ret : Int := 0               -- items the first call delivered
  data : Array Item := #[]     -- its requested region, in cells
  more : Int := 0              -- what the further read returned
deriving Inhabited

/-- one write session -/
structure Run where
  openNull : Bool := false
  calls : List Call := []
  close : Int := 0             -- what sf_close returned
  bytes : Array Item := #[]    -- the bytes of the closed file

/-- one crash point: a copy of the store taken right after a header update -/
structure Snap where
  calls : Nat                  -- write calls of the split run made before the copy
  info : Info := {}
  rb : ReadBack := {}
deriving Inhabited

structure Record where
  g : Geom
  ty : Ty                      -- caller type of the read-backs
  complete : Bool := true      -- every script line has its transcript line and the expected pieces were found
  one : Run := {}
  info : Info := {}
  rb : ReadBack := {}
  split : Option Run := none
  snaps : List Snap := []
  stale : Option (Array Item) := none

/-- a clause that fails: its tag, the run (1 reference, 2 split, 3 stale-frames) and the write call / crash point -/
structure Fail where
  tag : String
  run : Nat := 1
  idx : Nat := 0
deriving Repr, DecidableEq

/-! ## the clauses -/

/-- C04: "N is the number of frames the write calls accepted"; C05: a write call returns "w … equal to requested unless
    the underlying I/O fails" (the campaign's stores never fail) -/
def callOk (c : Call) : Bool := c.ret == c.n

def firstBadCall : Nat → List Call → Option Nat
  | _, [] => none
  | k, c :: cs => if callOk c then firstBadCall (k + 1) cs else some k

/-- C04: "re-opening the produced bytes reports the requested channel count, container, encoding" (the endianness bits
    of the word are masked: a container that records no byte order reports its own; RAW has no header at all) -/
def infoOk (g : Geom) (i : Info) : Bool :=
  i.ch == (g.ch : Int) && (g.major == 0x04 || i.fmt % 0x10000000 == g.word % 0x10000000)

/-- C04: "a frame count F with N <= F < N + B, where N is the number of frames the write calls accepted and B is the
    encoding's block length in frames; B = 1, i.e. F = N, for sample-granular encodings, except for at most one pad frame
    where a container pads odd byte counts" -/
def framesOk (g : Geom) (N : Nat) (F : Int) : Bool := (N : Int) ≤ F && F < ((N + g.block + g.pad : Nat) : Int)

/-- C04: "Reading that file then delivers exactly F frames followed by end of file" -/
def eofOk (g : Geom) (F : Int) (rb : ReadBack) : Bool := rb.ret == F * (g.ch : Int) && rb.more == 0

/-- all calls were made with the caller type of the read-back ("read with the same sample type") -/
def sameType (ty : Ty) (cs : List Call) : Bool := cs.all (fun c => c.ty == ty)

/-- C01: "writing any sequence of N >= 0 frames, closing, and re-opening for read yields a file whose first N frames, read
    with the same sample type, are bit-identical to what was written" — judged when the side condition holds -/
def roundtripOk (g : Geom) (ty : Ty) (cs : List Call) (rb : ReadBack) : Bool :=
  let w := written g.ch cs
  !(sameType ty cs && losslessFor g ty w) ||
    (w.size ≤ rb.ret.toNat * cells ty && sliceEq rb.data 0 w 0 w.size)

/-- C07: "splitting the same samples across write calls in any way, using item or frame call variants, issuing
    SFC_UPDATE_HEADER_NOW in between … yields byte-identical audio data and headers" -/
def partitionOk (one split : Run) : Bool := one.bytes == split.bytes

/-- C04: "the caller's wrong or stale SF_INFO.frames at open time has no influence" -/
def staleOk (one : Run) (stale : Array Item) : Bool := one.bytes == stale

/-- C11: "forall containers with a rewritable header" (RAW has none); "(ALAC in CAF, which is assembled at close, is
    outside this guarantee.)" -/
def snapScope (g : Geom) : Bool := g.major != 0x04 && !ALAC.contains g.codec

/-- C11: "a reader opening a copy of those bytes … obtains the same parameters" -/
def snapInfoOk (g : Geom) (i : Info) : Bool := infoOk g i

/-- C11: "a frame count equal to the frames written so far (rounded down to whole blocks for block encodings)" -/
def snapFramesOk (g : Geom) (Nk : Nat) (F : Int) : Bool :=
  (floorToBlock Nk g.block : Int) ≤ F && F ≤ ((floorToBlock Nk g.block + g.pad : Nat) : Int)

/-- items of a crash-point read-back that are judged: what it delivered, at most the whole blocks written so far -/
def snapItems (g : Geom) (Nk : Nat) (rb : ReadBack) : Nat := min rb.ret.toNat (floorToBlock Nk g.block * g.ch)

/-- C11: "and reads back exactly that prefix of the written data" — against the read-back of the finished reference file
    (what the encoding makes of the written data), and for a lossless pair against the written cells themselves -/
def snapDataOk (g : Geom) (ty : Ty) (Nk : Nat) (w : Array Item) (lossless : Bool) (final : ReadBack) (rb : ReadBack) : Bool :=
  let m := snapItems g Nk rb * cells ty
  sliceEq rb.data 0 final.data 0 m && (!lossless || sliceEq rb.data 0 w 0 m)

/-- … and the whole prefix is delivered -/
def snapShortOk (g : Geom) (Nk : Nat) (rb : ReadBack) : Bool := floorToBlock Nk g.block * g.ch ≤ rb.ret.toNat

/-! ## one record -/

/-- C04 / C01 on the re-opened reference file -/
def judgeReopen (r : Record) : List Fail :=
  let g := r.g
  let N := framesAccepted g.ch r.one.calls
  (if infoOk g r.info then [] else [{ tag := "info" }]) ++
  (if rateOk g.major g.sr r.info.sr then [] else [{ tag := "rate" }]) ++
  (if framesOk g N r.info.frames then [] else [{ tag := "frames" }]) ++
  (if eofOk g r.info.frames r.rb then [] else [{ tag := "eof" }]) ++
  (if roundtripOk g r.ty r.one.calls r.rb then [] else [{ tag := "roundtrip" }])

/-- C11 on one crash point of the split run -/
def judgeSnap (r : Record) (sp : Run) (k : Nat) (s : Snap) : List Fail :=
  let g := r.g
  if s.info.null then [{ tag := "snapshot-open", run := 2, idx := k }]
  else
    let before := sp.calls.take s.calls
    let Nk := framesAccepted g.ch before
    let w := written g.ch before
    let lossless := sameType r.ty before && losslessFor g r.ty w
    (if snapInfoOk g s.info then [] else [{ tag := "snapshot-info", run := 2, idx := k }]) ++
    (if snapFramesOk g Nk s.info.frames then [] else [{ tag := "snapshot-frames", run := 2, idx := k }]) ++
    (if snapDataOk g r.ty Nk w lossless r.rb s.rb then [] else [{ tag := "snapshot-data", run := 2, idx := k }]) ++
    (if snapShortOk g Nk s.rb then [] else [{ tag := "snapshot-short", run := 2, idx := k }])

def judgeSnaps (r : Record) (sp : Run) : Nat → List Snap → List Fail
  | _, [] => []
  | k, s :: ss => judgeSnap r sp k s ++ judgeSnaps r sp (k + 1) ss

/-- C07 / C11 on the split run -/
def judgeSplit (r : Record) (sp : Run) : List Fail :=
  if sp.openNull then [{ tag := "open", run := 2 }]
  -- the record is a comparison of EQUAL concatenations: the two runs were handed the same samples
  else if handed sp.calls != handed r.one.calls then [{ tag := "record", run := 2 }]
  else
    (match firstBadCall 0 sp.calls with | some k => [{ tag := "write", run := 2, idx := k }] | none => []) ++
    (if partitionOk r.one sp then [] else [{ tag := "partition", run := 2 }]) ++
    (if snapScope r.g then judgeSnaps r sp 0 r.snaps else [])

/-- THE PREDICATE: every clause of C01 / C04 / C07 / C11 that fails on one record, in the order of the runs -/
def judge (r : Record) : List Fail :=
  if !r.complete then [{ tag := "record" }]
  else if r.one.openNull then [{ tag := "open" }]
  else
    let head : List Fail :=
      (match firstBadCall 0 r.one.calls with | some k => [{ tag := "write", idx := k }] | none => []) ++
      (if r.one.close == 0 then [] else [{ tag := "close" }])
    head ++
    (if r.info.null then [{ tag := "reopen" }]
     else judgeReopen r ++ (match r.split with | some sp => judgeSplit r sp | none => [])) ++
    (match r.stale with | some b => if staleOk r.one b then [] else [{ tag := "stale", run := 3 }] | none => [])

/-- the record is accepted: no clause fails -/
def accepted (r : Record) : Bool := (judge r).isEmpty

/-- a clause after which the re-open line is not judged (or the rate clause has failed already) -/
def rateSettled (f : Fail) : Bool := f.tag == "record" || f.tag == "open" || f.tag == "reopen" || f.tag == "rate"

/-- THE PREDICATE WITH THE EXACT RATE CLAUSE (what `sfmodel abs-write` evaluates): `judge`, and on a record whose re-open
    line is judged the rate clause on the whole geometry (`rateOkG`: for VOC the block type decides the quantiser) -/
def judgeG (r : Record) : List Fail :=
  let fs := judge r
  if fs.any rateSettled then fs
  else if rateOkG r.g r.info.sr then fs
  else fs ++ [{ tag := "rate" }]

def acceptedG (r : Record) : Bool := (judgeG r).isEmpty

end Sf.AbsWrite
