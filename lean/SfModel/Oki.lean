/-
  SfModel.Oki — OKI / Dialogic ADPCM (ima_oki_adpcm.c, type OKI) and the VOX codec loops around it
  (vox_adpcm.c): 4-bit codes, two per byte (first sample in the high nibble), 49-entry step table, 12-bit
  precision (`mask = ~0 << 4`).

  The codec packs two samples per byte.  A call with an odd item count leaves half a byte over: the sample is held
  in the codec's private data (`VOX_PRIVATE.have_carry / carry`, here `Option Int`) — a writer puts it in front of
  the next call's samples and `codec_close` encodes a last odd sample with the zero sample the encoder documents
  (`closeCarry`); a reader delivers the held sample first in the next call (`writeBlock`, `readBlock`).

  The rule before the repair of KF-VOX-ODD stays as `writeBlockOld` / `readBlockOld`: `encodeBlock` appends a zero
  sample when it is handed an odd number of samples and *counts it* (`pcm_count ++`), so the write call reported
  one item more than it was given and the pad sample sat in the middle of the stream when more calls followed;
  `vox_read_block` asked for `(len + 1) / 2` bytes and copied `2 * bytes` samples, one more than requested for an
  odd `len`.
-/
import SfModel.Basic
import SfModel.BlockConv
namespace Sf.Oki
open Sf.Block Sf.Float

def steps : List Int :=
  [256, 272, 304, 336, 368, 400, 448, 496, 544, 592, 656, 720, 800, 880, 960,
   1056, 1168, 1280, 1408, 1552, 1712, 1888, 2080, 2288, 2512, 2768, 3040, 3344,
   3680, 4048, 4464, 4912, 5392, 5936, 6528, 7184, 7904, 8704, 9568, 10528,
   11584, 12736, 14016, 15408, 16960, 18656, 20512, 22576, 24832]

def maxStepIndex : Nat := 48
def stepChanges : List Int := [-1, -1, -1, -1, 2, 4, 6, 8]

structure St where
  last : Int := 0        -- last_output
  idx  : Nat := 0        -- step_index
  errors : Nat := 0
deriving Repr, DecidableEq, Inhabited

/-- `x & (~0 << 4)` for an int: clear the low four bits (floor to a multiple of 16) -/
def mask16 (x : Int) : Int := x / 16 * 16

/-- `adpcm_decode` -/
def decode (st : St) (code : Nat) : St × Int :=
  let step := steps.getD st.idx 0
  let m : Int := ((code % 8 * 2 + 1 : Nat) : Int)
  let s0 := mask16 (asr (step * m) 3)
  let s1 := (if code / 8 % 2 = 1 then - s0 else s0) + st.last
  let grace := mask16 (asr step 3)
  let bad := s1 < -32768 ∨ s1 > 32767
  let errs := if bad ∧ (s1 < -32768 - grace ∨ s1 > 32767 + grace) then st.errors + 1 else st.errors
  let s := if s1 < -32768 then -32768 else if s1 > 32767 then 32767 else s1
  let i : Int := (st.idx : Int) + stepChanges.getD (code % 8) 0
  let i := if i < 0 then 0 else if i > maxStepIndex then (maxStepIndex : Int) else i
  (⟨s, i.toNat, errs⟩, s)

/-- `adpcm_encode` -/
def encode (st : St) (sample : Int) : St × Nat :=
  let delta := sample - st.last
  let sign := if delta < 0 then 8 else 0
  let delta := if delta < 0 then - delta else delta
  let code := Int.tdiv (4 * delta) (steps.getD st.idx 1)
  let code := sign + (if code < 7 then code.toNat else 7)
  ((decode st code).1, code)

/-- `ima_oki_adpcm_encode_block` on an even number of samples -/
def encPairs : St → List Int → St × List Byte
  | st, a :: b :: rest =>
    let (s1, c1) := encode st a
    let (s2, c2) := encode s1 b
    let (s3, bs) := encPairs s2 rest
    (s3, (c1 * 16 + c2) % 256 :: bs)
  | st, _ => (st, [])

/-- `ima_oki_adpcm_decode_block` -/
def decBytes : St → List Byte → St × List Int
  | st, [] => (st, [])
  | st, b :: bs =>
    let (s1, x1) := decode st (b / 16)
    let (s2, x2) := decode s1 (b % 16)
    let (s3, xs) := decBytes s2 bs
    (s3, x1 :: x2 :: xs)

/-- `vox_write_block` BEFORE the repair of KF-VOX-ODD: 512-sample pieces; an odd piece (only the last can be) gets a
    zero appended and counted.  Returns (state, bytes, `indx`). `n = xs.length`. -/
def writeBlockOld : Nat → St → List Int → Nat → St × List Byte × Nat
  | 0, st, _, _ => (st, [], 0)
  | fuel + 1, st, xs, n =>
    if n = 0 then (st, [], 0)
    else
      let pc := min 512 n
      let piece := xs.take pc
      let (pc2, piece2) := if pc % 2 = 1 then (pc + 1, piece ++ [0]) else (pc, piece)
      let (s1, bs) := encPairs st piece2
      -- indx += pcm_count : with the pad counted, indx may pass len by one and the loop ends
      let (s2, bs2, t) := writeBlockOld fuel s1 (xs.drop pc) (n - pc)
      (s2, bs ++ bs2, pc2 + t)

/-- `vox_write_block`: the sample the previous call left over (`c`) goes first, then up to 512 samples in all; an odd
    piece gives its last sample back to the carry (half a byte: held for the next call or for `codec_close`); a piece
    that is empty after that ends the loop without an encoder call or a write.
    Returns (state, carry, bytes, `indx`). `n = xs.length`. -/
def writeBlock : Nat → St → Option Int → List Int → Nat → St × Option Int × List Byte × Nat
  | 0, st, c, _, _ => (st, c, [], 0)
  | fuel + 1, st, c, xs, n =>
    if n = 0 then (st, c, [], 0)
    else
      let pre := c.toList
      let cnt := min (512 - pre.length) n
      let buf := pre ++ xs.take cnt
      let odd := (pre.length + cnt) % 2 = 1
      let buf2 := if odd then buf.dropLast else buf
      let c2 := if odd then buf.getLast? else none
      if buf2 = [] then (st, c2, [], cnt)
      else
        let (s1, bs) := encPairs st buf2
        let (s2, c3, bs2, t) := writeBlock fuel s1 c2 (xs.drop cnt) (n - cnt)
        (s2, c3, bs ++ bs2, cnt + t)

/-- `codec_close` of a write handle: a held sample is encoded with the zero sample `ima_oki_adpcm_encode_block` appends
    to an odd block. Returns (state, bytes). -/
def closeCarry (st : St) : Option Int → St × List Byte
  | none => (st, [])
  | some x => encPairs st [x, 0]

/-- short samples of a caller value (`vox_write_s/i/f/d`) -/
def ofCaller (c : Conv) (ty : Ty) (v : Int) : Int :=
  match ty with
  | .s16 => v
  | .s32 => asr v 16
  | .f32 => wrapS 16 (lrintInt c.variant (mulNf f32 (if c.normF then Dy.ofInt 0x7FFF else pow2 0) v.toNat))
  | .f64 => wrapS 16 (lrintInt c.variant (mulNf f64 (if c.normD then Dy.ofInt 0x7FFF else pow2 0) v.toNat))

def toCaller (c : Conv) (ty : Ty) (v : Int) : Int :=
  match ty with
  | .s16 => v
  | .s32 => v * 65536
  | .f32 => intTimes f32 (if c.normF then pow2 (-15) else pow2 0) v
  | .f64 => intTimes f64 (if c.normD then pow2 (-15) else pow2 0) v

/-- staging of the wrappers: short callers in one piece, the others through `ubuf.sbuf` (4096 shorts); the loop
    ends after the first piece whose count differs from the request. Returns (state, carry, bytes, total). -/
def writeCall (chunk : Nat) : Nat → St → Option Int → List Int → Nat → St × Option Int × List Byte × Nat
  | 0, st, c, _, _ => (st, c, [], 0)
  | fuel + 1, st, c, xs, n =>
    if n = 0 then (st, c, [], 0)
    else
      let wc := if chunk = 0 then n else min chunk n
      let (s1, c1, bs, cnt) := writeBlock (wc + 1) st c (xs.take wc) wc
      if cnt ≠ wc then (s1, c1, bs, cnt)
      else
        let (s2, c2, bs2, t) := writeCall chunk fuel s1 c1 (xs.drop wc) (n - wc)
        (s2, c2, bs ++ bs2, cnt + t)

/-- the staging loop before the repair of KF-VOX-ODD (over `writeBlockOld`) -/
def writeCallOld (chunk : Nat) : Nat → St → List Int → Nat → St × List Byte × Nat
  | 0, st, _, _ => (st, [], 0)
  | fuel + 1, st, xs, n =>
    if n = 0 then (st, [], 0)
    else
      let wc := if chunk = 0 then n else min chunk n
      let (s1, bs, cnt) := writeBlockOld (wc + 1) st (xs.take wc) wc
      if cnt ≠ wc then (s1, bs, cnt)
      else
        let (s2, bs2, t) := writeCallOld chunk fuel s1 (xs.drop wc) (n - wc)
        (s2, bs ++ bs2, cnt + t)

def chunkOf (ty : Ty) : Nat := if ty = .s16 then 0 else 4096

/-- `vox_read_block` BEFORE the repair of KF-VOX-ODD, over the bytes still in the file: (state, bytes left, samples
    copied out, `indx`) — for an odd request one sample more than asked for -/
def readBlockOld : Nat → St → List Byte → Nat → St × List Byte × List Int × Nat
  | 0, st, bytes, _ => (st, bytes, [], 0)
  | fuel + 1, st, bytes, n =>
    if n = 0 then (st, bytes, [], 0)
    else
      let cc := if n > 512 then 256 else (n + 1) / 2
      let got := bytes.take cc
      if got = [] then (st, bytes, [], 0)
      else
        let k := got.length
        let (s1, xs) := decBytes st got
        let (s2, rest, ys, t) := readBlockOld fuel s1 (bytes.drop cc) (n - 2 * k)
        (s2, rest, xs ++ ys, 2 * k + t)

/-- the loop of `vox_read_block`: pieces of at most 256 bytes; when the decoded piece holds one sample more than is
    still asked for (the request was odd) that sample is held back and the loop is over.
    Returns (state, carry, bytes left, samples copied out, their number). -/
def readLoop : Nat → St → List Byte → Nat → St × Option Int × List Byte × List Int × Nat
  | 0, st, bytes, _ => (st, none, bytes, [], 0)
  | fuel + 1, st, bytes, n =>
    if n = 0 then (st, none, bytes, [], 0)
    else
      let cc := if n > 512 then 256 else (n + 1) / 2
      let got := bytes.take cc
      if got = [] then (st, none, bytes, [], 0)
      else
        let k := got.length
        let (s1, xs) := decBytes st got
        if 2 * k > n then (s1, xs.getLast?, bytes.drop cc, xs.dropLast, 2 * k - 1)
        else
          let (s2, c, rest, ys, t) := readLoop fuel s1 (bytes.drop cc) (n - 2 * k)
          (s2, c, rest, xs ++ ys, 2 * k + t)

/-- `vox_read_block` over the bytes still in the file: a held sample (`c`) is delivered first -/
def readBlock (fuel : Nat) (st : St) (c : Option Int) (bytes : List Byte) (n : Nat) :
    St × Option Int × List Byte × List Int × Nat :=
  match c with
  | some x =>
    if n = 0 then (st, c, bytes, [], 0)
    else
      let (s, c2, rest, ys, t) := readLoop fuel st bytes (n - 1)
      (s, c2, rest, x :: ys, t + 1)
  | none => readLoop fuel st bytes n

end Sf.Oki
