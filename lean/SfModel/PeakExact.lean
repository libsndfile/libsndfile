/-
  SfModel.PeakExact — the value field of a PEAK entry after the repair of KF-C18-PEAK-SUBNORMAL.

  Every PEAK writer (wavlike_write_peak_chunk, aiff_write_header, caf_write_header) hands the channel maximum, narrowed to
  `float`, to the 'f' of psf_binheader_writef, i.e. to `float32_le_write` / `float32_be_write` (src/float32.c) — always, also
  on hosts with native IEEE floats.  `Sf.wrF32TinyOld` (SfModel/Handle.lean) is that field under the writers' former early return
  (`fabs (in) < FLT_MIN`: a subnormal maximum was stored as 0.0f); `Sf.wrF32` there is the repaired field, as the identity on
  the pattern.  `Sf.PeakExact.wrF32` is the field as the repaired writers compute it — literally the
  bytes of `Sf.Ieee.f32BeWrite` read as a word — and `Sf.PeakExact.chunkBytes` the PEAK chunk with that field
  (`Sf.Peak.chunkBytes` otherwise, line for line).  The two agree on every chunk of finite maxima
  (SfProps/C18Exact.lean `chunk_agrees`).  Core Lean only; `sfmodel c18 peak` prints this chunk.
-/
import SfModel.Peak
import SfModel.Ieee
namespace Sf.PeakExact
open Sf Sf.Peak

/-- the word whose bytes (in the header's byte order, `u32 big`) are the four bytes `float32_be_write` / `float32_le_write`
    store for the binary32 pattern `b` -/
def wrF32 (b : Nat) : Nat := ofBE (Ieee.f32BeWrite b)

/-- wavlike_write_peak_chunk / aiff_write_header / caf_write_header with the repaired value field -/
def chunkBytes (k : Kind) (ch : Nat) (ps : List Peak) : List Byte :=
  match k with
  | .wavLE => marker "PEAK" ++ u32 false (8 + 8 * ch) ++ u32 false 1 ++ u32 false 1000000000 ++
      ps.flatMap fun p => u32 false (wrF32 (Float.f64to32 p.value)) ++ u32 false p.position
  | .wavBE => marker "PEAK" ++ u32 true (8 + 8 * ch) ++ u32 true 1 ++ u32 true 1000000000 ++
      ps.flatMap fun p => u32 true (wrF32 (Float.f64to32 p.value)) ++ u32 true p.position
  | .aiff => marker "PEAK" ++ u32 true (8 + 8 * ch) ++ u32 true 1 ++ u32 true 1000000000 ++
      ps.flatMap fun p => u32 true (wrF32 (Float.f64to32 p.value)) ++ u32 true p.position
  | .caf => marker "peak" ++ u64be (4 + 12 * ch) ++ u32 true 0 ++
      ps.flatMap fun p => u32 true (wrF32 (Float.f64to32 p.value)) ++ u64be p.position

end Sf.PeakExact
