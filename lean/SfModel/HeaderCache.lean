/-
  SfModel.HeaderCache — the growable header cache every parser reads through
  (src/common.c: psf_allocate, psf_bump_header_allocation, header_read, header_seek, header_gets,
  psf_binheader_readf).

  State: the three integers psf->header.{indx,end,len}; the buffer contents are NOT part of the state
  (C03 is about where the code touches the buffer, not what it finds there).  Every primitive is a total
  function returning the new state and the list of events it performs, in program order:

    rd off n   n bytes read from the header buffer at offset off   (memcpy out of it / ptr[k] = hdr[indx])
    wr off n   psf_fread asked to store up to n bytes at offset off (the whole range must be valid)
    ioRead req got / ioSeek off whence / ioSkip n    calls into the I/O layer
    denied newlen   the log line "Request for header allocation of %D denied."
    short           the log line "Error : psf_fread returned short count."

  Everything the C code cannot know in advance is an ORACLE argument:
    alloc k  does the k-th realloc of this call succeed
    io k     what the k-th psf_fread of this call would deliver (clamped to the request: the read
             callback contract `0 ≤ result ≤ count`; nothing else is assumed — 0 forever, short
             counts, anything)
    nl k     is the k-th byte header_gets looks at a '\n'
  so the theorems in SfProps/C03.lean hold for every I/O behaviour and every file content.

  Integers are mathematical (`Int`).  The C computes in sf_count_t (64 bit) with `int` arguments
  (|arg| < 2^31) and len ≤ 102400, so no intermediate value can leave the 64-bit range; see
  `Sf.C03.bump_newlen_small` (SfProps/C03.lean).
-/
namespace Sf.HeaderCache

/-- `#define INITIAL_HEADER_SIZE 256` -/
def INITIAL : Int := 256
/-- the cap in psf_bump_header_allocation: `if (newlen > 100 * 1024)` -/
def CAP : Int := 100 * 1024

structure St where
  indx : Int
  end_ : Int
  len  : Int
deriving Repr, DecidableEq, Inhabited

/-- psf_allocate: calloc (1, INITIAL_HEADER_SIZE), indx = end = 0 -/
def St.init : St := ⟨0, 0, INITIAL⟩

inductive Ev where
  | rd (off n : Int)
  | wr (off n : Int)
  | ioRead (req got : Int)
  | ioSeek (off : Int) (whence : Int)
  | ioSkip (n : Int)
  | denied (newlen : Int)
  | short
deriving Repr, DecidableEq, Inhabited

structure Oracle where
  alloc : Nat → Bool
  io    : Nat → Nat
  nl    : Nat → Bool

/-- the oracle seen by a later part of the same call: answers already consumed are dropped -/
def Oracle.shiftAlloc (o : Oracle) (k : Nat) : Oracle := { o with alloc := fun i => o.alloc (i + k) }
def Oracle.shiftIo (o : Oracle) (k : Nat) : Oracle := { o with io := fun i => o.io (i + k), nl := fun i => o.nl (i + k) }

/-- what psf_fread returns for a request of `req` bytes when the backing store would deliver `ans`:
    the callback contract (0 ≤ r ≤ count); a non-positive request transfers nothing -/
def clampIO (ans : Nat) (req : Int) : Int :=
  if req ≤ 0 then 0 else if (ans : Int) ≤ req then (ans : Int) else req

/-- psf_bump_header_allocation (psf, needed): (state, nonzero-return?, events).
    Since the repair ("fix: the 100k header buffer refused requests that would have fit"): when the doubled request passes the
    cap the buffer grows to the cap itself, provided `header.indx + needed` fits; denied otherwise (the log line still prints
    the doubled size). -/
def bump (s : St) (needed : Int) (allocOk : Bool) : St × Bool × List Ev :=
  let smallest := INITIAL
  let newlen := if needed > s.len then 2 * (if needed > smallest then needed else smallest) else 2 * s.len
  if newlen > CAP ∧ s.indx + needed > CAP then (s, true, [Ev.denied newlen])
  else if !allocOk then (s, true, [])
  else ({ s with len := if newlen > CAP then CAP else newlen }, false, [])

/-- the rule before the repair: denied as soon as the doubled request passes the cap -/
def bumpOld (s : St) (needed : Int) (allocOk : Bool) : St × Bool × List Ev :=
  let smallest := INITIAL
  let newlen := if needed > s.len then 2 * (if needed > smallest then needed else smallest) else 2 * s.len
  if newlen > CAP then (s, true, [Ev.denied newlen])
  else if !allocOk then (s, true, [])
  else ({ s with len := newlen }, false, [])

/-- `if (indx + n >= len && psf_bump_header_allocation (psf, n))` — the recurring guard.
    Returns (state, guard-fired?, events).  `&&` short-circuits: no bump when there is room. -/
def guard (s : St) (n : Int) (allocOk : Bool) : St × Bool × List Ev :=
  if s.indx + n ≥ s.len then bump s n allocOk else (s, false, [])

/-- header_read (psf, ptr, bytes): (state, events, return value) -/
def headerRead (s : St) (bytes : Int) (o : Oracle) : St × List Ev × Int :=
  let (s1, failed, ev1) := guard s bytes (o.alloc 0)
  if failed then (s1, ev1, 0)
  else if s1.indx + bytes > s1.end_ then
    let req := bytes - (s1.end_ - s1.indx)
    let count := clampIO (o.io 0) req
    let ev2 := ev1 ++ [Ev.wr s1.end_ req, Ev.ioRead req count]
    if count ≠ req then (s1, ev2 ++ [Ev.short], count)
    else
      let s2 := { s1 with end_ := s1.end_ + count }
      ({ s2 with indx := s2.indx + bytes }, ev2 ++ [Ev.rd s2.indx bytes], bytes)
  else
    ({ s1 with indx := s1.indx + bytes }, ev1 ++ [Ev.rd s1.indx bytes], bytes)

/-- header_seek (psf, position, whence); whence 0 = SEEK_SET, 1 = SEEK_CUR, anything else logs
    "Bad whence".  `pipe` is psf->is_pipe.  The result of the bump is ignored, as in the C. -/
def headerSeek (pipe : Bool) (s : St) (position : Int) (whence : Int) (o : Oracle) : St × List Ev :=
  if whence = 0 then
    let (s1, _, ev1) := guard s position (o.alloc 0)
    if position > s1.len then
      ({ s1 with indx := 0, end_ := 0 }, ev1 ++ [Ev.ioSeek position 0])
    else if position > s1.end_ then
      let req := position - s1.end_
      let got := clampIO (o.io 0) req
      ({ s1 with end_ := s1.end_ + got, indx := position }, ev1 ++ [Ev.wr s1.end_ req, Ev.ioRead req got])
    else
      ({ s1 with indx := position }, ev1)
  else if whence = 1 then
    let (s1, _, ev1) := guard s position (o.alloc 0)
    if s1.indx + position < 0 then (s1, ev1)
    else if s1.indx ≥ s1.len then (s1, ev1 ++ [Ev.ioSeek position 1])
    else if s1.indx + position ≤ s1.end_ then ({ s1 with indx := s1.indx + position }, ev1)
    else if s1.indx + position > s1.len then
      let position' := position - (s1.end_ - s1.indx)
      -- pipe: `while (skip) psf_fread (junk, 1, min (skip, 16384))` into a 16 KiB stack buffer,
      -- ceil (position' / 16384) iterations; otherwise one psf_fseek (position', SEEK_CUR)
      ({ s1 with indx := s1.end_ }, ev1 ++ [if pipe then Ev.ioSkip position' else Ev.ioSeek position' 1])
    else
      let req := position - (s1.end_ - s1.indx)
      let got := clampIO (o.io 0) req
      let e2 := s1.end_ + got
      ({ s1 with end_ := e2, indx := e2 }, ev1 ++ [Ev.wr s1.end_ req, Ev.ioRead req got])
  else (s, [])

/-- the `for (k = 0 ; k < bufsize - 1 ; k++)` loop of header_gets; `fuel` = iterations left,
    `k` = iteration number (index into the oracle) -/
def getsLoop (o : Oracle) : Nat → Nat → St → List Ev → St × List Ev × Nat
  | 0, k, s, ev => (s, ev, k)
  | fuel + 1, k, s, ev =>
    let (s', ev') :=
      if s.indx < s.end_ then
        ({ s with indx := s.indx + 1 }, ev ++ [Ev.rd s.indx 1])
      else
        let got := clampIO (o.io k) 1
        let e2 := s.end_ + got
        ({ s with end_ := e2, indx := e2 }, ev ++ [Ev.wr s.end_ 1, Ev.ioRead 1 got, Ev.rd s.indx 1])
    if o.nl k then (s', ev', k) else getsLoop o fuel (k + 1) s' ev'

/-- header_gets (psf, ptr, bufsize): (state, events, return value k) -/
def headerGets (s : St) (bufsize : Int) (o : Oracle) : St × List Ev × Int :=
  let (s1, failed, ev1) := guard s bufsize (o.alloc 0)
  if failed then (s1, ev1, 0)
  else
    let (s2, ev2, k) := getsLoop o (bufsize - 1).toNat 0 s1 ev1
    (s2, ev2, k)

/-! ## psf_binheader_readf, one format character at a time -/

inductive Item where
  | endian              -- 'e' / 'E'
  | fixed (n : Nat)     -- 'm' 4, 'h' 16, '1' 1, '2' 2, '3' 3, '4' 4, '8' 8, 'f' 4, 'd' 8
  | b (count : Int)     -- raw bytes
  | G (count : Int)     -- header_gets
  | p (count : Int)     -- header_seek SEEK_SET
  | j (count : Int)     -- header_seek SEEK_CUR
  | bang                -- '!'
  | nop                 -- 's', 'z': log only
  | bad                 -- unknown specifier: psf->error = SFE_INTERNAL
deriving Repr, DecidableEq, Inhabited

def INT_MAX : Int := 2147483647

structure Rf where
  st : St
  byteCount : Int := 0
  internalErr : Bool := false   -- psf->error = SFE_INTERNAL was set
  stopped : Bool := false       -- the while loop was left by `break`
deriving Repr, DecidableEq, Inhabited

/-- `case 'G'`: `if (indx + count >= len && bump (count)) break ;` (leaves the switch only), then
    header_gets with its own guard -/
def getsItem (s0 : St) (count : Int) (o1 : Oracle) : St × List Ev × Int :=
  let g := guard s0 count (o1.alloc 0)
  if g.2.1 then (g.1, g.2.2, 0)
  else let r := headerGets g.1 count (o1.shiftAlloc 1); (r.1, g.2.2 ++ r.2.1, r.2.2)

/-- the `switch (c)` body: (state, events, read_bytes, byte_count, SFE_INTERNAL set?) -/
def itemBody (pipe : Bool) (s0 : St) (byteCount : Int) (o1 : Oracle) : Item → St × List Ev × Int × Int × Bool
  | .endian => (s0, [], 0, byteCount, false)
  | .fixed n => let r := headerRead s0 n o1; (r.1, r.2.1, r.2.2, byteCount, false)
  | .b count => let r := headerRead s0 count o1; (r.1, r.2.1, r.2.2, byteCount, false)
  | .G count => let r := getsItem s0 count o1; (r.1, r.2.1, r.2.2, byteCount, false)
  | .p count => let r := headerSeek pipe s0 count 0 o1; (r.1, r.2, 0, count, false)
  | .j count => let r := headerSeek pipe s0 count 1 o1; (r.1, r.2, count, byteCount, false)
  | .bang => ({ s0 with indx := 0, end_ := 0 }, [], 0, byteCount, false)
  | .nop => (s0, [], 0, byteCount, false)
  | .bad => (s0, [], 0, byteCount, true)

/-- one trip round the `while ((c = *format++))` loop -/
def readfItem (pipe : Bool) (r : Rf) (it : Item) (o : Oracle) : Rf × List Ev :=
  if r.stopped then (r, []) else
  -- if (indx + 16 >= len && bump (16)) break ;
  let g := guard r.st 16 (o.alloc 0)
  if g.2.1 then ({ r with st := g.1, stopped := true }, g.2.2) else
  let b := itemBody pipe g.1 r.byteCount (o.shiftAlloc 1) it
  let readBytes := b.2.2.1
  let byteCount1 := b.2.2.2.1
  if readBytes > 0 ∧ byteCount1 > INT_MAX - readBytes then
    ({ st := b.1, byteCount := byteCount1, internalErr := true, stopped := true }, g.2.2 ++ b.2.1)
  else
    ({ st := b.1, byteCount := byteCount1 + readBytes, internalErr := r.internalErr || b.2.2.2.2, stopped := false }, g.2.2 ++ b.2.1)

/-- a whole call: the items of the format string, each with its own oracle -/
def readf (pipe : Bool) (s : St) (l : List (Item × Oracle)) : Rf × List Ev :=
  l.foldl (fun (acc : Rf × List Ev) (io : Item × Oracle) =>
            let (r, ev) := readfItem pipe acc.1 io.1 io.2
            (r, acc.2 ++ ev)) ({ st := s }, [])

/-! ## primitive operations as data (for "all sequences of primitives") -/

inductive Op where
  | read (bytes : Int)
  | seek (pipe : Bool) (position : Int) (whence : Int)
  | gets (bufsize : Int)
  | bump (needed : Int)
  | reset
  | item (pipe : Bool) (it : Item)    -- one psf_binheader_readf format character, guards included
deriving Repr, DecidableEq, Inhabited

def step (s : St) (op : Op) (o : Oracle) : St × List Ev :=
  match op with
  | .read b => let (s', ev, _) := headerRead s b o; (s', ev)
  | .seek pipe p w => headerSeek pipe s p w o
  | .gets n => let (s', ev, _) := headerGets s n o; (s', ev)
  | .bump n => let (s', _, ev) := bump s n (o.alloc 0); (s', ev)
  | .reset => ({ s with indx := 0, end_ := 0 }, [])
  | .item pipe it => let (r, ev) := readfItem pipe { st := s } it o; (r.st, ev)

/-- run a sequence; the result lists, per step, the state *after* the step and the step's events
    (an access is judged against the buffer length in force when it happens, which is the length
    after the step's own bumps: every primitive bumps before it touches the buffer) -/
def run (s : St) : List (Op × Oracle) → List (St × List Ev)
  | [] => []
  | (op, o) :: rest => let (s', ev) := step s op o; (s', ev) :: run s' rest

def finalState (s : St) : List (Op × Oracle) → St
  | [] => s
  | (op, o) :: rest => finalState (step s op o).1 rest

/-! ## the argument ranges under which the code is safe

The C would overrun for a negative `bytes` in header_read (memcpy with a huge size_t) and for a
negative SEEK_SET position (indx becomes negative, the next read starts before the buffer).  Those
are the hypotheses the proofs force; SfProps/C03.lean proves both that they suffice and (by concrete
counter-example) that they are necessary.  Call-site review: every 'p' argument in src/*.c is a
constant ≥ 0, `(int) psf->dataoffset` = PAF_HEADER_LENGTH, or the ID3 length (4 × 7 bits + 10);
'b'/fixed sizes are sizeof-style constants or values range-checked by the caller — with ONE exception
found by the C03 fuzz runs: caf_read_strings on non-seekable input (its range check uses
psf->filelength, which is SF_COUNT_MAX on a pipe): `caf_info_count*` in SfProps/C03Loops.lean, known finding KF-C03-caf-info-pipe. -/
def Item.argsOk : Item → Prop
  | .b count => 0 ≤ count
  | .p count => 0 ≤ count
  | _ => True

instance : (it : Item) → Decidable it.argsOk
  | .b _ => by unfold Item.argsOk; infer_instance
  | .p _ => by unfold Item.argsOk; infer_instance
  | .endian | .fixed _ | .G _ | .j _ | .bang | .nop | .bad => by unfold Item.argsOk; infer_instance

def Op.argsOk : Op → Prop
  | .read b => 0 ≤ b
  | .seek _ p w => w = 0 → 0 ≤ p
  | .item _ it => it.argsOk
  | _ => True

instance : (op : Op) → Decidable op.argsOk
  | .read _ => by unfold Op.argsOk; infer_instance
  | .seek _ _ _ => by unfold Op.argsOk; infer_instance
  | .item _ _ => by unfold Op.argsOk; infer_instance
  | .gets _ | .bump _ | .reset => by unfold Op.argsOk; infer_instance

/-- the invariant -/
def Inv (s : St) : Prop :=
  0 ≤ s.indx ∧ s.indx ≤ s.len ∧ 0 ≤ s.end_ ∧ s.end_ ≤ s.len ∧ INITIAL ≤ s.len ∧ s.len ≤ CAP

instance (s : St) : Decidable (Inv s) := by unfold Inv; infer_instance

/-- a buffer access lies inside a buffer of `len` bytes -/
def Ev.inBounds (len : Int) : Ev → Prop
  | .rd off n => 0 ≤ off ∧ 0 ≤ n ∧ off + n ≤ len
  | .wr off n => 0 ≤ off ∧ 0 ≤ n ∧ off + n ≤ len
  | _ => True

instance (len : Int) : (e : Ev) → Decidable (e.inBounds len)
  | .rd _ _ => by unfold Ev.inBounds; infer_instance
  | .wr _ _ => by unfold Ev.inBounds; infer_instance
  | .ioRead _ _ | .ioSeek _ _ | .ioSkip _ | .denied _ | .short => by unfold Ev.inBounds; infer_instance

end Sf.HeaderCache
