/-
  SfModel.Faults — C15: the I/O layer as an adversarial ORACLE.

  `Sf.Handle` talks to a byte store that always works.  Here the five SF_VIRTUAL_IO callbacks are answered by an
  oracle: a function from the history of (request, answer) pairs to the next answer, constrained only by the
  callback contract (`Oracle.Contract`).  The loops of the sample-granular codecs (pcm.c, float32.c, double64.c,
  ulaw.c, alaw.c), the 16 read/write wrappers and `sf_seek` of sndfile.c, `psf_default_seek`, the AU / WAV header
  writers, `wav_write_tailer` and the close path are rewritten over that oracle — as total functions WITHOUT fuel:
  Lean's termination checker accepts them for EVERY oracle, inside or outside the contract.

  What is modelled (code-shaped, bug for bug):
    psf_fread / psf_fwrite on virtual I/O   one callback, item count = bytes / width (a partial item is dropped,
                                            although the callback has consumed its bytes)
    psf->file.seek_failed                   (round 8) set by a psf_fseek whose callback answers < 0, cleared by the next
                                            psf_fseek that succeeds; while it is set psf_fwrite makes NO callback and
                                            returns 0.  The latch is a function of the history: `seekFailed`.
    whole_frames (sndfile.c, round 8)       a codec count that ends inside a frame is rounded down to whole frames and
                                            psf->last_op is cleared (0: neither SFM_READ nor SFM_WRITE, modelled as
                                            `Mode.rw`, the value a RDWR handle starts with): the next call seeks first.
    The rules before the two repairs stay next to the new ones: `fwriteOld`, `readTailOld`, `writeTailOld`.
    codec loops                             `while (len > 0) { … if (count < bufferlen) break ; len -= count ; }`
                                            with the staging length of each (encoding, caller type) pair
    sf_read_* / sf_readf_* / sf_write_* / sf_writef_*, sf_seek, psf_default_seek (fc49efc, 9b1ea83 included)
    au_write_header, wav_write_header, wav_write_tailer, au_close, wav_close, psf_close (virtual I/O: psf_fclose
    makes no callback; every psf_fseek / psf_fwrite result in the header writers is ignored, as in the C)

  NOT modelled here (monitored only by the fault enumeration of vlib/props/c15.py): the block codecs' I/O loops
  (ima_adpcm.c, ms_adpcm.c, gsm610.c, g72x.c, nms_adpcm.c, vox via ima_oki, dwvw.c, paf.c 24-bit, sds.c, alac.c incl. its
  packet-table scan, xi.c dpcm), psf_binheader_readf / header_read (the header cache), every header parser, the
  open path, the other 20 containers' header writers, the descriptor route of
  file_io.c (`while (items > 0) { count = read (…) ; if (count == -1 && errno == EINTR) continue ; … }` — that loop
  does not terminate for an oracle that answers EINTR for ever).
  sf_read_raw / sf_write_raw over this oracle: SfModel/FaultsRaw.lean.
-/
import SfModel.Handle
namespace Sf.Faults
open Sf

/-! ## the oracle -/

inductive Req
  | len
  | tell
  | seek (off : Int) (whence : Nat)
  | read (n : Nat)
  | write (data : List Byte)
deriving Repr, Inhabited

/-- what a callback answers: `n` is the returned sf_count_t (position, length, bytes written);
    for a read the delivered bytes are `data` and the count is `data.length` -/
structure Ans where
  n : Int := 0
  data : List Byte := []
deriving Repr, Inhabited

/-- newest first -/
abbrev Hist := List (Req × Ans)

abbrev Oracle := Hist → Req → Ans

/-- the SF_VIRTUAL_IO callback contract -/
def Ans.ok : Req → Ans → Prop
  | .read n, a => a.data.length ≤ n
  | .write d, a => 0 ≤ a.n ∧ a.n ≤ d.length
  | .seek _ _, a => -1 ≤ a.n
  | .len, a => 0 ≤ a.n
  | .tell, a => 0 ≤ a.n

def Oracle.Contract (o : Oracle) : Prop := ∀ hist r, Ans.ok r (o hist r)

def call (o : Oracle) (hist : Hist) (r : Req) : Ans × Hist := (o hist r, (r, o hist r) :: hist)

def ioTell (o : Oracle) (hist : Hist) : Int × Hist := ((call o hist .tell).1.n, (call o hist .tell).2)
def ioLen (o : Oracle) (hist : Hist) : Int × Hist := ((call o hist .len).1.n, (call o hist .len).2)
def ioSeek (o : Oracle) (hist : Hist) (off : Int) (whence : Nat) : Int × Hist :=
  ((call o hist (.seek off whence)).1.n, (call o hist (.seek off whence)).2)

/-- `psf_fread (ptr, width, items)` on virtual I/O: (bytes delivered, items = bytes / width, history) -/
def fread (o : Oracle) (hist : Hist) (width items : Nat) : List Byte × Nat × Hist :=
  if width = 0 ∨ items = 0 then ([], 0, hist) else
  ((call o hist (.read (width * items))).1.data, (call o hist (.read (width * items))).1.data.length / width,
   (call o hist (.read (width * items))).2)

/-- `psf->file.seek_failed`: the most recent psf_fseek of the history was answered with a negative value
    (`psf->file.seek_failed = (absolute_position < 0)` in psf_fseek; nothing else touches the flag) -/
def seekFailed : Hist → Bool
  | [] => false
  | (.seek _ _, a) :: _ => decide (a.n < 0)
  | _ :: rest => seekFailed rest

/-- `psf_fwrite (ptr, width, items)` on virtual I/O: (items = bytes accepted / width, history).
    After a failed seek (`seekFailed`) nothing is handed to the callback. -/
def fwrite (o : Oracle) (hist : Hist) (width items : Nat) (data : List Byte) : Nat × Hist :=
  if width = 0 ∨ items = 0 then (0, hist) else
  if seekFailed hist then (0, hist) else
  ((call o hist (.write data)).1.n.toNat / width, (call o hist (.write data)).2)

/-- psf_fwrite before the repair of KF-C15-HEADER-POSITION: it wrote wherever a failed seek had left the file -/
def fwriteOld (o : Oracle) (hist : Hist) (width items : Nat) (data : List Byte) : Nat × Hist :=
  if width = 0 ∨ items = 0 then (0, hist) else
  ((call o hist (.write data)).1.n.toNat / width, (call o hist (.write data)).2)

/-! ## codec loops -/

/-- items per staging-buffer round of the loop that serves (file encoding, caller type); 0 = the call is a single
    psf_fread / psf_fwrite straight from / into the caller's buffer (BUF_UNION is 8192 bytes) -/
def stageLen (e : Enc) (ty : Ty) (wr : Bool) : Nat :=
  match e with
  | .pcm p =>
    if p.w == 8 then 8192
    else if p.w == 16 then (if ty == .s16 ∧ (!wr ∨ !p.big) then 0 else 4096)
    else if p.w == 24 then 2730
    else (if ty == .s32 ∧ (!wr ∨ !p.big) then 0 else 2048)
  | .flt big => if ty == .f32 ∧ !big then 0 else 2048
  | .dbl big => if ty == .f64 ∧ (!wr ∨ !big) then 0 else 1024
  | .ulaw | .alaw => 8192

def roundLen (B len : Nat) : Nat := if B = 0 then len else min len B

/-- `while (len > 0) { if (len < bufferlen) bufferlen = len ; readcount = psf_fread (…) ; convert readcount items ;
     total += readcount ; if (readcount < bufferlen) break ; len -= readcount ; }`
    returns (bytes of the whole items delivered, total, history). -/
def readLoop (o : Oracle) (w B : Nat) (len : Nat) (hist : Hist) (acc : List Byte) (total : Nat) : List Byte × Nat × Hist :=
  if hl : len = 0 then (acc, total, hist) else
  let r := fread o hist w (roundLen B len)
  if hb : r.2.1 < roundLen B len then (acc ++ r.1.take (r.2.1 * w), total + r.2.1, r.2.2)
  else readLoop o w B (len - r.2.1) r.2.2 (acc ++ r.1.take (r.2.1 * w)) (total + r.2.1)
termination_by len
decreasing_by
  have : 0 < roundLen B len := by unfold roundLen; split <;> omega
  have hb2 : ¬ (fread o hist w (roundLen B len)).2.1 < roundLen B len := hb
  omega

/-- the write loops; `bytes` are the encoded items of the whole call.
    returns (total, items handed to psf_fwrite in all rounds, history) -/
def writeLoop (o : Oracle) (w B : Nat) (bytes : List Byte) (len : Nat) (hist : Hist) (total attempted : Nat) : Nat × Nat × Hist :=
  if hl : len = 0 then (total, attempted, hist) else
  let r := fwrite o hist w (roundLen B len) ((bytes.drop (total * w)).take (roundLen B len * w))
  if hb : r.1 < roundLen B len then (total + r.1, attempted + roundLen B len, r.2)
  else writeLoop o w B bytes (len - r.1) r.2 (total + r.1) (attempted + roundLen B len)
termination_by len
decreasing_by
  have : 0 < roundLen B len := by unfold roundLen; split <;> omega
  have hb2 : ¬ (fwrite o hist w (roundLen B len) ((bytes.drop (total * w)).take (roundLen B len * w))).1 < roundLen B len := hb
  omega

/-! ## seeking -/

def E_SEEK_FAILED : Int := 1009
def E_INTERNAL : Int := 1010
def E_SYSTEM : Int := 2

/-- `psf_default_seek`: the frame, or -1 with the positions untouched -/
def defaultSeek (o : Oracle) (h : H) (hist : Hist) (frame : Int) : Int × H × Hist :=
  if h.bw = 0 ∨ h.dataoffset < 0 then (-1, { h with error := E_BAD_SEEK }, hist) else
  let position : Int := h.dataoffset + (h.bw : Int) * frame
  let r := ioSeek o hist position 0
  if r.1 ≠ position then (-1, { h with error := E_SEEK_FAILED }, r.2) else (frame, h, r.2)

/-! ## header writers (every seek and write result is ignored, as in the C) -/

/-- `xxx_write_header (psf, calc_length)`: (returned error, handle, history) -/
def writeHeader (o : Oracle) (h : H) (hist : Hist) (calcLen : Bool) : Int × H × Hist :=
  match h.container with
  | .raw => (0, h, hist)
  | .au =>
    let t := ioTell o hist
    let current := t.1
    let hl : H × Hist := if calcLen then
        let l := ioLen o t.2
        let fl := l.1
        let dl := fl - h.dataoffset
        ({ h with filelength := fl, datalength := if h.dataend != 0 then dl - (fl - h.dataend) else dl }, l.2)
      else (h, t.2)
    let h := hl.1
    let hdr := auHeader h
    let s0 := ioSeek o hl.2 0 0
    let wr := fwrite o s0.2 hdr.length 1 hdr
    if h.error != 0 then (h.error, h, wr.2) else
    let h := { h with dataoffset := 24 }
    (h.error, h, if current > 0 then (ioSeek o wr.2 current 0).2 else wr.2)
  | .wav =>
    let t := ioTell o hist
    let current := t.1
    let hasData : Bool := current > h.dataoffset
    let hl : H × Hist := if calcLen then
        let l := ioLen o t.2
        let fl := l.1
        let dl := fl - h.dataoffset
        let dl := if h.dataend != 0 then dl - (fl - h.dataend) else h.frames * h.nb * h.ch
        ({ h with filelength := fl, datalength := dl }, l.2)
      else (h, t.2)
    let h := hl.1
    let hdr := wavHeader h
    let s0 := ioSeek o hl.2 0 0
    let wr := fwrite o s0.2 hdr.length 1 hdr
    if h.error != 0 then (h.error, h, wr.2) else
    if hasData ∧ h.dataoffset ≠ hdr.length then (E_INTERNAL, { h with error := E_INTERNAL }, wr.2) else
    let h := { h with dataoffset := hdr.length }
    (h.error, h, if !hasData then (ioSeek o wr.2 hdr.length 0).2 else if current > 0 then (ioSeek o wr.2 current 0).2 else wr.2)

/-- `wav_write_tailer` -/
def wavTailer (o : Oracle) (h : H) (hist : Hist) : H × Hist :=
  let dl : Int := h.frames * h.nb * h.ch
  let h := { h with datalength := dl, dataend := h.dataoffset + dl }
  let hh : H × Hist :=
    if h.dataend > 0 then (h, (ioSeek o hist h.dataend 0).2)
    else ({ h with dataend := (ioSeek o hist 0 2).1 }, (ioSeek o hist 0 2).2)
  let h := hh.1
  let pad : List Byte := if h.dataend % 2 == 1 then [0] else []
  let peak : List Byte := match h.peak with
    | some ps => if !h.peakAtStart then peakChunk h ps else []
    | none => []
  let tail := pad ++ peak
  (h, if tail.length > 0 then (fwrite o hh.2 tail.length 1 tail).2 else hh.2)

/-- `psf_close`: codec_close (none for these codecs), container_close, psf_fclose (no callback on virtual I/O), free.
    Always returns 0 on virtual I/O. -/
def closeHandle (o : Oracle) (h : H) (hist : Hist) : Int × Hist :=
  let h := { h with error := 0 }
  if h.mode == .r then (0, hist) else
  match h.container with
  | .raw => (0, hist)
  | .au => (0, (writeHeader o h hist true).2.2)
  | .wav =>
    let th := wavTailer o h hist
    let hh : H × Hist := if th.1.mode == .rw then
        let t := ioTell o th.2
        if t.1 < th.1.filelength then
          -- psf_ftruncate on virtual I/O: since 7f90196 it returns -1 without touching a descriptor and without latching SFE_SYSTEM
          ({ th.1 with filelength := t.1 }, t.2)
        else (th.1, t.2)
      else th
    (0, (writeHeader o hh.1 hh.2 true).2.2)

/-! ## the wrappers of sndfile.c -/

structure Res where
  h : H
  hist : Hist
  out : Out

/-- `whole_frames (psf, count, channels)` of sndfile.c: the count the caller is told, and psf->last_op afterwards
    (`op` when the count is whole frames; cleared -- `Mode.rw` = neither read nor write -- otherwise) -/
def wholeFrames (count : Int) (ch : Nat) (op : Mode) : Int × Mode :=
  if ch ≤ 1 ∨ count % ch = 0 then (count, op) else (count - count % ch, .rw)

/-- the codec call and the end clamp of sf_read_* (after the guards and the optional seek) -/
def readTail (o : Oracle) (h : H) (hist : Hist) (ty : Ty) (frameCall : Bool) (len : Int) : Res :=
  let lp := readLoop o h.nb (stageLen h.enc ty false) len.toNat hist [] 0
  let count : Int := lp.2.1
  let vals := h.enc.decodeAll h.conv ty lp.1
  let cr : Int × Int :=
    if count ≤ (h.frames - h.rpos) * h.ch then (count, h.rpos + count / h.ch)
    else ((h.frames - h.rpos) * h.ch, h.frames)
  let wf := wholeFrames cr.1 h.ch .r
  ⟨{ h with rpos := cr.2, lastOp := wf.2 }, lp.2.2,
   { ret := if frameCall then wf.1 / h.ch else wf.1, err := 0, data := vals.take wf.1.toNat, hasData := true }⟩

/-- sf_read_* before the repair of KF-C15-PARTIAL-FRAME: the codec's count went to the caller as it was -/
def readTailOld (o : Oracle) (h : H) (hist : Hist) (ty : Ty) (frameCall : Bool) (len : Int) : Res :=
  let lp := readLoop o h.nb (stageLen h.enc ty false) len.toNat hist [] 0
  let count : Int := lp.2.1
  let vals := h.enc.decodeAll h.conv ty lp.1
  let cr : Int × Int :=
    if count ≤ (h.frames - h.rpos) * h.ch then (count, h.rpos + count / h.ch)
    else ((h.frames - h.rpos) * h.ch, h.frames)
  ⟨{ h with rpos := cr.2, lastOp := .r }, lp.2.2,
   { ret := if frameCall then cr.1 / h.ch else cr.1, err := 0, data := vals.take cr.1.toNat, hasData := true }⟩

/-- `if (psf->last_op != SFM_READ) if (psf->seek (psf, SFM_READ, psf->read_current) < 0) return 0 ;` then the codec -/
def readCore (o : Oracle) (h : H) (hist : Hist) (ty : Ty) (frameCall : Bool) (len : Int) : Res :=
  if h.lastOp != .r then
    (if (defaultSeek o h hist h.rpos).1 < 0 then
      ⟨(defaultSeek o h hist h.rpos).2.1, (defaultSeek o h hist h.rpos).2.2, { ret := 0, err := (defaultSeek o h hist h.rpos).2.1.error }⟩
     else readTail o (defaultSeek o h hist h.rpos).2.1 (defaultSeek o h hist h.rpos).2.2 ty frameCall len)
  else readTail o h hist ty frameCall len

/-- the guards of sf_read_* in the order of the C; `some e`: the call returns 0 with psf->error = e (0 = end of data) -/
def readGuard (h : H) (frameCall : Bool) (n : Int) : Option Int :=
  if n < 0 then some E_NEG_LEN
  else if h.mode == .w then some E_NOT_READMODE
  else if !frameCall ∧ n % h.ch != 0 then some E_BAD_ALIGN
  else if h.rpos ≥ h.frames then some 0
  else none

def stepRead (o : Oracle) (h : H) (hist : Hist) (ty : Ty) (frameCall : Bool) (n : Int) : Res :=
  if n == 0 then ⟨h, hist, { ret := 0, err := h.error }⟩ else
  match readGuard h frameCall n with
  | some e => ⟨{ h with error := e }, hist, { ret := 0, err := e }⟩
  | none => readCore o { h with error := 0 } hist ty frameCall (if frameCall then n * h.ch else n)

/-- the codec call and the position bookkeeping of sf_write_* (after the guards, the seek and the first header) -/
def writeTail (o : Oracle) (h : H) (hist : Hist) (ty : Ty) (frameCall : Bool) (len : Int) (data : List Int) : Res :=
  let vals := data.take len.toNat
  let lp := writeLoop o h.nb (stageLen h.enc ty true) (h.enc.encodeAll h.conv ty vals) len.toNat hist 0 0
  let count : Int := lp.1
  let wpos := h.wpos + count / h.ch
  -- PEAK tracking runs once per staging round, before the round is written
  let peak := peakUpdate h ty (vals.take lp.2.1)
  let wf := wholeFrames count h.ch .w
  ⟨{ h with haveWritten := true, wpos := wpos, lastOp := wf.2, peak := peak,
            frames := if wpos > h.frames then wpos else h.frames,
            dataend := if wpos > h.frames then 0 else h.dataend },
   lp.2.2, { ret := if frameCall then wf.1 / h.ch else wf.1, err := 0 }⟩

/-- sf_write_* before the repair of KF-C15-PARTIAL-FRAME -/
def writeTailOld (o : Oracle) (h : H) (hist : Hist) (ty : Ty) (frameCall : Bool) (len : Int) (data : List Int) : Res :=
  let vals := data.take len.toNat
  let lp := writeLoop o h.nb (stageLen h.enc ty true) (h.enc.encodeAll h.conv ty vals) len.toNat hist 0 0
  let count : Int := lp.1
  let wpos := h.wpos + count / h.ch
  let peak := peakUpdate h ty (vals.take lp.2.1)
  ⟨{ h with haveWritten := true, wpos := wpos, lastOp := .w, peak := peak,
            frames := if wpos > h.frames then wpos else h.frames,
            dataend := if wpos > h.frames then 0 else h.dataend },
   lp.2.2, { ret := if frameCall then count / h.ch else count, err := 0 }⟩

/-- the seek, the first header, the codec, the auto header of sf_write_* -/
def writeCore (o : Oracle) (h : H) (hist : Hist) (ty : Ty) (frameCall : Bool) (len : Int) (data : List Int) : Res :=
  let sk : Int × H × Hist := if h.lastOp != .w then defaultSeek o h hist h.wpos else (0, h, hist)
  if sk.1 < 0 then ⟨sk.2.1, sk.2.2, { ret := 0, err := sk.2.1.error }⟩ else
  let h := sk.2.1
  -- if (psf->have_written == SF_FALSE && psf->write_header != NULL) if ((psf->error = psf->write_header (psf, SF_FALSE))) return 0 ;
  let wh : Int × H × Hist := if !h.haveWritten ∧ h.container != .raw then writeHeader o h sk.2.2 false else (0, h, sk.2.2)
  if wh.1 != 0 then ⟨{ wh.2.1 with error := wh.1 }, wh.2.2, { ret := 0, err := wh.1 }⟩ else
  let t := writeTail o wh.2.1 wh.2.2 ty frameCall len data
  if t.h.autoHeader ∧ t.h.container != .raw then
    ⟨(writeHeader o t.h t.hist true).2.1, (writeHeader o t.h t.hist true).2.2, t.out⟩
  else t

def writeGuard (h : H) (frameCall : Bool) (n : Int) : Option Int :=
  if n < 0 then some E_NEG_LEN
  else if h.mode == .r then some E_NOT_WRITEMODE
  else if !frameCall ∧ n % h.ch != 0 then some E_BAD_ALIGN
  else none

def stepWrite (o : Oracle) (h : H) (hist : Hist) (ty : Ty) (frameCall : Bool) (n : Int) (data : List Int) : Res :=
  if n == 0 then ⟨h, hist, { ret := 0, err := h.error }⟩ else
  match writeGuard h frameCall n with
  | some e => ⟨{ h with error := e }, hist, { ret := 0, err := e }⟩
  | none => writeCore o { h with error := 0 } hist ty frameCall (if frameCall then n * h.ch else n) data

def stepSeek (o : Oracle) (h : H) (hist : Hist) (off : Int) (whence : Int) : Res :=
  let h := { h with error := 0 }
  let wm := whence % 0x100 / 0x10 * 0x10
  let wm := wm % 0x40
  let fail (e : Int) : Res := ⟨{ h with error := e }, hist, { ret := -1, err := e }⟩
  if (wm == 0x20 ∧ h.mode == .r) ∨ (wm == 0x10 ∧ h.mode == .w) then fail E_WRONG_SEEK else
  let r : Except Int (Sum Int Int) :=
    if whence == 0 ∨ whence == 0x10 ∨ whence == 0x20 ∨ whence == 0x30 then .ok (.inl off)
    else if whence == 1 then
      if off == 0 ∧ h.mode == .r then .ok (.inr h.rpos)
      else if off == 0 ∧ h.mode == .w then .ok (.inr h.wpos)
      else if h.mode == .r then .ok (.inl (h.rpos + off)) else .ok (.inl (h.wpos + off))
    else if whence == 0x11 then (if off == 0 then .ok (.inr h.rpos) else .ok (.inl (h.rpos + off)))
    else if whence == 0x21 then (if off == 0 then .ok (.inr h.wpos) else .ok (.inl (h.wpos + off)))
    else if whence == 2 ∨ whence == 0x12 ∨ whence == 0x22 then .ok (.inl (h.frames + off))
    else .error E_BAD_SEEK
  match r with
  | .error e => fail e
  | .ok (.inr v) => ⟨h, hist, { ret := v, err := 0 }⟩
  | .ok (.inl target) =>
    if (h.mode == .rw ∨ h.mode == .w) ∧ target < 0 then fail E_BAD_SEEK
    else if h.mode == .r ∧ (target < 0 ∨ target > h.frames) then fail E_BAD_SEEK
    else
      let newMode : Int := if wm != 0 then wm else modeBits h.mode
      let sk := defaultSeek o h hist target
      -- 9b1ea83: a failed codec seek returns -1 and keeps the positions
      if sk.1 < 0 then ⟨sk.2.1, sk.2.2, { ret := -1, err := sk.2.1.error }⟩ else
      let h := if newMode == 0x10 then { h with rpos := target, lastOp := .r }
               else if newMode == 0x20 then { h with wpos := target, lastOp := .w }
               else { h with rpos := target, wpos := target, lastOp := .r }
      ⟨h, sk.2.2, { ret := target, err := 0 }⟩

/-- SFC_UPDATE_HEADER_NOW (0x1060) and SFC_SET_UPDATE_HEADER_AUTO (0x1061); the result of write_header is dropped -/
def stepCmd (o : Oracle) (h : H) (hist : Hist) (cmd : Nat) (size : Int) : Res :=
  let h := { h with error := 0 }
  match cmd with
  | 0x1061 => ⟨{ h with autoHeader := size != 0 }, hist, { ret := if size != 0 then 1 else 0 }⟩
  | 0x1060 =>
    if h.mode != .r ∧ h.container != .raw then
      ⟨(writeHeader o h hist true).2.1, (writeHeader o h hist true).2.2, { ret := 0 }⟩
    else ⟨h, hist, { ret := 0 }⟩
  | _ => ⟨h, hist, { ret := 0 }⟩

/-! ## a concrete oracle: the memory store of harness/vio.c with its fault kinds (used by `sfmodel faults`
    and by the witnesses of SfProps/C15.lean) -/

structure Fault where
  at_ : Nat := 0          -- first failing callback (1-based), 0 = never
  kind : Nat := 0
  single : Bool := false
deriving Repr, Inhabited

structure Mem where
  bytes : List Byte := []
  pos : Nat := 0
  calls : Nat := 0
  fired : Nat := 0
deriving Repr, Inhabited

def Fault.now (f : Fault) (calls : Nat) : Bool :=
  f.at_ != 0 ∧ f.kind != 0 ∧ (if f.single then calls == f.at_ else calls ≥ f.at_)

/-- `shorten` of vio.c: (new count, fired) -/
def shorten (kind count : Nat) : Nat × Bool :=
  if kind == 1 ∨ kind == 8 then (0, true)
  else if kind == 2 then (if count > 0 then (count / 2, true) else (count, false))
  else if kind == 7 then (if count > 0 then (count - 1, true) else (count, false))
  else (count, false)

def memStep (f : Fault) (m : Mem) (r : Req) : Ans × Mem :=
  let m := { m with calls := m.calls + 1 }
  let now := f.now m.calls
  match r with
  | .len =>
    if now ∧ f.kind == 4 then ({ n := m.bytes.length + 1000 }, { m with fired := m.fired + 1 })
    else if now ∧ (f.kind == 5 ∨ f.kind == 8) then ({ n := (m.bytes.length / 2 : Nat) }, { m with fired := m.fired + 1 })
    else ({ n := m.bytes.length }, m)
  | .tell =>
    if now ∧ f.kind == 6 then ({ n := m.pos + 7 }, { m with fired := m.fired + 1 }) else ({ n := m.pos }, m)
  | .seek off whence =>
    if now ∧ (f.kind == 3 ∨ f.kind == 8) then ({ n := -1 }, { m with fired := m.fired + 1 }) else
    let np : Int := if whence == 0 then off else if whence == 1 then m.pos + off else m.bytes.length + off
    if whence > 2 ∨ np < 0 then ({ n := -1 }, m) else ({ n := np }, { m with pos := np.toNat })
  | .read n =>
    let c := if now then shorten f.kind n else (n, false)
    let m := if c.2 then { m with fired := m.fired + 1 } else m
    let got := (m.bytes.drop m.pos).take c.1
    ({ n := got.length, data := got }, { m with pos := m.pos + got.length })
  | .write d =>
    let c := if now then shorten f.kind d.length else (d.length, false)
    let m := if c.2 then { m with fired := m.fired + 1 } else m
    let d := d.take c.1
    if d.isEmpty then ({ n := 0 }, m) else
    ({ n := d.length }, { m with bytes := writeAt m.bytes m.pos d, pos := m.pos + d.length })

/-- state of the store after a history (oldest request first) -/
def memAfter (f : Fault) (m0 : Mem) (hist : Hist) : Mem :=
  hist.foldr (fun ra m => (memStep f m ra.1).2) m0

def memOracle (f : Fault) (m0 : Mem) : Oracle := fun hist r => (memStep f (memAfter f m0 hist) r).1

end Sf.Faults
