/-
  SfModel.Peak — what C18 needs on top of SfModel.Handle:

  * `run`        : PEAK state after a list of write calls (the bookkeeping itself is `Sf.peakUpdate` /
                   `Sf.peakChunkUpdate` of SfModel.Handle: one update per staging-buffer chunk when the caller's type
                   is not the file's type; `runOld` is the same over `Sf.peakUpdateOld`, `float fmaxval` in double64.c);
  * `chunkBytes` / `parseChunk` : the PEAK chunk of WAV / RIFX (= WAVEX, RF64), AIFF and CAF.  The value is written
                   as binary32 in every container, for DOUBLE files too;
  * `getSignalMax`, `getMaxAll` : SFC_GET_SIGNAL_MAX / SFC_GET_MAX_ALL_CHANNELS;
  * `foldMax`, `calcSignalMax`, `calcMaxAll` : the scan loops of psf_calc_signal_max / psf_calc_max_all_channels over
                   the buffers `sf_read_double` fills (1024 − 1024 % channels items each);
  * `stepCalc`   : the four SFC_CALC_* commands on the handle model (save norm_double, set it, remember the
                   position(s), seek to 0, read to the end, seek back, restore norm_double).

  Core Lean only.
-/
import SfModel.Handle

deriving instance DecidableEq for Sf.Peak

namespace Sf.Peak
open Sf

/-! ## PEAK bookkeeping over a list of calls -/

/-- `peakUpdate` in terms of the fields it reads (same construction as `Sf.peakUpd` of SfProofs.CodecWriter) -/
def upd (pk : Option (List Peak)) (enc : Enc) (conv : Conv) (ch : Nat) (wpos : Int) (ty : Ty) (vals : List Int) :
    Option (List Peak) :=
  peakUpdate { store := 0, mode := .w, container := .wav, enc := enc, big := false, ch := ch, sr := 0, fmtWord := 0,
               frames := 0, lastOp := .w, peak := pk, conv := conv, wpos := wpos } ty vals

/-- PEAK state after the item calls `calls` (caller type, buffer), the first one made at write position `wpos` -/
def run (enc : Enc) (conv : Conv) (ch : Nat) : Option (List Peak) → Int → List (Ty × List Int) → Option (List Peak)
  | pk, _, [] => pk
  | pk, wpos, (ty, data) :: cs => run enc conv ch (upd pk enc conv ch wpos ty data) (wpos + (data.length : Int) / ch) cs

/-- the same under the rules before the repairs (`Sf.peakUpdateOld`) -/
def updOld (pk : Option (List Peak)) (enc : Enc) (conv : Conv) (ch : Nat) (wpos : Int) (ty : Ty) (vals : List Int) :
    Option (List Peak) :=
  peakUpdateOld { store := 0, mode := .w, container := .wav, enc := enc, big := false, ch := ch, sr := 0, fmtWord := 0,
                  frames := 0, lastOp := .w, peak := pk, conv := conv, wpos := wpos } ty vals

def runOld (enc : Enc) (conv : Conv) (ch : Nat) : Option (List Peak) → Int → List (Ty × List Int) → Option (List Peak)
  | pk, _, [] => pk
  | pk, wpos, (ty, data) :: cs => runOld enc conv ch (updOld pk enc conv ch wpos ty data) (wpos + (data.length : Int) / ch) cs

/-! ## the chunk -/

inductive Kind | wavLE | wavBE | aiff | caf
deriving Repr, DecidableEq, Inhabited

def u64be (v : Int) : List Byte := beBytes 8 (wrapU 64 v)

/-- wavlike_write_peak_chunk / aiff_write_header / caf_write_header: timestamp = the harness' pinned clock,
    CAF edit count 0.  `'t8'` in the WAV/AIFF format strings writes the low 32 bits of the 64-bit position. -/
def chunkBytes (k : Kind) (ch : Nat) (ps : List Peak) : List Byte :=
  match k with
  | .wavLE => marker "PEAK" ++ u32 false (8 + 8 * ch) ++ u32 false 1 ++ u32 false 1000000000 ++
      ps.flatMap fun p => u32 false (wrF32 (Float.f64to32 p.value)) ++ u32 false p.position
  | .wavBE => marker "PEAK" ++ u32 true (8 + 8 * ch) ++ u32 true 1 ++ u32 true 1000000000 ++
      ps.flatMap fun p => u32 true (wrF32 (Float.f64to32 p.value)) ++ u32 true p.position
  | .aiff => marker "PEAK" ++ u32 true (8 + 8 * ch) ++ u32 true 1 ++ u32 true 1000000000 ++
      ps.flatMap fun p => u32 true (wrF32 (Float.f64to32 p.value)) ++ u32 true p.position
  | .caf => marker "peak" ++ u64be (4 + 12 * ch) ++ u32 true 0 ++
      ps.flatMap fun p => u32 true (wrF32 (Float.f64to32 p.value)) ++ u64be p.position

def rd64be (bs : List Byte) (off : Nat) : Nat := ofBE ((bs.drop off).take 8)

def parseCaf (bs : List Byte) (off : Nat) : Nat → List Peak
  | 0 => []
  | n+1 => { value := Float.f32to64 (rd32 true bs off), position := sext 64 (rd64be bs (off + 4)) } :: parseCaf bs (off + 12) n

/-- wavlike_read_peak_chunk / aiff.c / caf.c on the bytes of one chunk (marker included); `none` = size mismatch
    (the library refuses the file) -/
def parseChunk (k : Kind) (ch : Nat) (bs : List Byte) : Option (List Peak) :=
  match k with
  | .wavLE => if rd32 false bs 4 != 8 + 8 * ch then none else some (parsePeaks false bs 16 ch)
  | .wavBE | .aiff => if rd32 true bs 4 != 8 + 8 * ch then none else some (parsePeaks true bs 16 ch)
  | .caf => if rd64be bs 4 != 4 + 12 * ch then none else some (parseCaf bs 16 ch)

/-! ## SFC_GET_SIGNAL_MAX / SFC_GET_MAX_ALL_CHANNELS -/

/-- C `a > b` on two finite doubles given as bit patterns -/
def gtD (a b : Nat) : Bool := (Float.f64.toDy b).lt (Float.f64.toDy a)

/-- psf_get_signal_max: `peak[0] = SF_MAX (peak[0], peaks[k].value)` -/
def getSignalMax (ps : List Peak) : Nat :=
  match ps with
  | [] => 0
  | p :: rest => rest.foldl (fun m q => if gtD m q.value then m else q.value) p.value

def getMaxAll (ps : List Peak) : List Nat := ps.map (·.value)

/-! ## the CALC scan -/

def absD (b : Nat) : Nat := b % 2 ^ 63

/-- `temp = fabs (data [k]) ; max_val = temp > max_val ? temp : max_val` over one buffer -/
def foldMax (acc : Nat) (xs : List Nat) : Nat :=
  xs.foldl (fun m x => if gtD (absD x) m then absD x else m) acc

/-- the same with `peaks [chan]`, `chan = (chan + 1) % channels` -/
def foldMaxAll (ch : Nat) (st : List Nat × Nat) (xs : List Nat) : List Nat × Nat :=
  xs.foldl (fun (st : List Nat × Nat) x =>
    let cur := st.1.getD st.2 0
    (st.1.set st.2 (if gtD (absD x) cur then absD x else cur), (st.2 + 1) % ch)) st

/-- items per `sf_read_double` call of the scan: `ARRAY_LEN (ubuf.dbuf) - ARRAY_LEN (ubuf.dbuf) % channels` -/
def calcLen (ch : Nat) : Nat := 1024 - 1024 % ch

/-- the scan over a decoded stream delivered in buffers of `calcLen ch` items -/
def calcSignalMax (ch : Nat) (stream : List Nat) : Nat := (chunksOf (calcLen ch) stream).foldl foldMax 0
def calcMaxAll (ch : Nat) (stream : List Nat) : List Nat :=
  ((chunksOf (calcLen ch) stream).foldl (foldMaxAll ch) (List.replicate ch 0, 0)).1

/-! ## SFC_CALC_* on the handle -/

/-- accumulator of the scan: signal max, or (per-channel maxima, channel counter) -/
structure Acc where
  sig : Nat := 0
  all : List Nat × Nat := ([], 0)
deriving Repr, Inhabited

def Acc.step (ch : Nat) (a : Acc) (xs : List Nat) : Acc :=
  { sig := foldMax a.sig xs, all := foldMaxAll ch a.all xs }

/-- `for (readcount = 1 ; readcount > 0 ;) { readcount = sf_read_double (psf, data, len) ; … }` -/
def calcLoop : Nat → H → Store → Acc → H × Store × Acc
  | 0, h, s, a => (h, s, a)
  | fuel+1, h, s, a =>
    let r := stepRead h s .f64 false (calcLen h.ch)
    if r.2.2.ret ≤ 0 then (r.1, r.2.1, a)
    else calcLoop fuel r.1 r.2.1 (a.step h.ch ((r.2.2.data.take r.2.2.ret.toNat).map Int.toNat))

/-- first part of psf_calc_signal_max / psf_calc_max_all_channels as reached through sf_command, on a handle that can read
    (`mode ≠ w`; in write mode `psf->read_double` is NULL and the command fails with SFE_UNIMPLEMENTED): clear the error,
    save and set norm_double, remember the position(s), rewind.  On a read/write handle only the read pointer is moved
    (`SEEK_SET | SFM_READ`, repair of KF-C18-CALC-RDWR-BLOCK).  Result: handle, store, saved flag, read position, position. -/
def calcPre (h : H) (s : Store) (normalize : Bool) : H × Store × Bool × Int × Int :=
  let h := { h with error := 0 }                                  -- VALIDATE_SNDFILE_AND_ASSIGN_PSF (…, 1)
  let save := h.conv.normD                                        -- sf_command (SFC_GET_NORM_DOUBLE)
  let c := stepCmdFlag h s 0x1012 (if normalize then 1 else 0)    -- sf_command (SFC_SET_NORM_DOUBLE, normalize)
  let readPosition := c.1.rpos
  if c.1.mode == .rw then
    let r := stepSeek c.1 c.2.1 0 0x10                            -- sf_seek (psf, 0, SEEK_SET | SFM_READ)
    (r.1, r.2.1, save, readPosition, c.1.wpos)
  else
    let t := stepSeek c.1 c.2.1 0 1                               -- position = sf_seek (psf, 0, SEEK_CUR)
    let r := stepSeek t.1 t.2.1 0 0                               -- sf_seek (psf, 0, SEEK_SET)
    (r.1, r.2.1, save, readPosition, t.2.2.ret)

/-- last part: seek back (read/write handle: the read pointer only), restore norm_double -/
def calcPost (h : H) (s : Store) (save : Bool) (readPosition position : Int) : H × Store :=
  let r := if h.mode == .rw then stepSeek h s readPosition 0x10 else stepSeek h s position 0
  let c := stepCmdFlag r.1 r.2.1 0x1012 (if save then 1 else 0)   -- sf_command (SFC_SET_NORM_DOUBLE, save_state)
  (c.1, c.2.1)

def stepCalc (h : H) (s : Store) (normalize : Bool) : H × Store × Acc :=
  let p := calcPre h s normalize
  let l := calcLoop (p.1.frames.toNat + 1) p.1 p.2.1 { all := (List.replicate p.1.ch 0, 0) }
  let q := calcPost l.1 l.2.1 p.2.2.1 p.2.2.2.1 p.2.2.2.2
  (q.1, q.2, l.2.2)

end Sf.Peak
