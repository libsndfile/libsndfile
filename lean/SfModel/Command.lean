/-
  SfModel.Command — `sf_command` (src/sndfile.c) as a table of guards and byte ranges.

  For every command identifier the model gives, as a function of (datasize, what lies behind the
  data pointer, the handle's relevant facts):
    * the guard exactly as written (`!=`, `<`, or a field of `*data` read *before* datasize is looked at),
    * the byte ranges of `data` that are read and written,
    * whether a NULL data pointer is dereferenced,
    * the return value (exact, one of a few, or undefined = depends on bytes outside the block),
    * the abstract handle state afterwards, and `isQuery`.
  The model follows the code as it is now.  Four rules were different before commits ff9108b, dc376ca,
  8501a42 and 604e547 (strlen() after an snprintf of size 0; the length field of `broadcast_var_set` /
  `cart_var_set` read before datasize was compared; `psf_strlcpy_crlf` looking at src[1] when src[0] is the
  last byte; `psf_calc_signal_max` restoring the position with a read/write-mode seek).  They are kept at
  the end of this file under `old…` names, used by nothing but the history theorems of SfProps/C17.lean.
  Core Lean only.
-/
import SfModel.Basic
import SfModel.ChmapVerdict
namespace Sf.Command

/-! ## platform constants (x86-64 Linux; compared with `sfh grid c17 consts` on every run) -/
def szInfo : Nat := 32
def szFormatInfo : Nat := 24
def szDither : Nat := 24
def szEmbed : Nat := 16
def szLoop : Nat := 44
def szInstrument : Nat := 272
def bextFixed : Nat := 608      -- offsetof (SF_BROADCAST_INFO, coding_history)
def bextSizeOff : Nat := 604    -- offsetof (SF_BROADCAST_INFO, coding_history_size)
def bextCap : Nat := 16992      -- sizeof (SF_BROADCAST_INFO_16K)
def szBext : Nat := 864
def cartFixed : Nat := 2052     -- offsetof (SF_CART_INFO, tag_text)
def cartSizeOff : Nat := 2048   -- offsetof (SF_CART_INFO, tag_text_size)
def cartCap : Nat := 18436      -- sizeof (SF_CART_INFO_16K)
def szCart : Nat := 2308
def szCuePoint : Nat := 280
def szCues : Nat := 28004
def szCount : Nat := 8          -- sizeof (sf_count_t)
def szDouble : Nat := 8
def szInt : Nat := 4
def chanMapMax : Nat := 27      -- SF_CHANNEL_MAP_MAX

def eMalloc : Nat := 17
def eUnimplemented : Nat := 18
def eBadParam : Nat := 30       -- SFE_BAD_COMMAND_PARAM
def eNotSeekable : Nat := 40
def eHasData : Nat := 48
def eBextSize : Nat := 49
def eBextBig : Nat := 50
def eCartSize : Nat := 51
def eCartBig : Nat := 52

def cWAV : Nat := 0x010000
def cAIFF : Nat := 0x020000
def cRAW : Nat := 0x040000
def cWAVEX : Nat := 0x130000
def cCAF : Nat := 0x180000
def cRF64 : Nat := 0x220000
def codFLOAT : Nat := 6
def codDOUBLE : Nat := 7

/-! ## inputs -/

inductive Mode | r | w | rw
  deriving DecidableEq, Repr

/-- The handle as far as `sf_command` and C17 are concerned: mode and format, the two cursors, the
    settings, which metadata exist (and how large), and two epochs standing for "metadata contents" and
    "bytes of the file" (bumped whenever a command may overwrite them). -/
structure H where
  mode : Mode
  container : Nat
  codec : Nat
  channels : Nat
  seekable : Bool
  hasCommand : Bool        -- psf->command != NULL (WAV, WAVEX, RF64, AIFF, CAF)
  haveWritten : Bool
  readCur : Nat
  writeCur : Nat
  normFloat : Bool
  normDouble : Bool
  clipping : Bool
  floatIntMult : Bool
  scaleIntFloat : Bool
  autoHeader : Bool
  ieeeReplace : Bool
  endswap : Bool
  ambisonic : Nat
  rf64Downgrade : Bool
  bext : Option Nat        -- bc_min_size of the stored chunk; none = psf->broadcast_16k == NULL
  cart : Option Nat
  cues : Option Nat        -- cue_count
  hasInstrument : Bool
  hasLoop : Bool
  hasChanMap : Bool
  hasPeak : Bool
  logLen : Nat
  metaEpoch : Nat
  fileEpoch : Nat
  virtualIo : Bool := true   -- psf->virtual_io (the C17 grid opens through sf_open_virtual unless the flavour names a route: @path, @fd, @pipe)
  deriving DecidableEq, Repr

/-- process-wide facts -/
structure G where
  verLen : Nat             -- strlen (sf_version_string ())
  gLogLen : Nat            -- strlen (sf_parselog)
  simpleCount : Nat
  majorCount : Nat
  subtypeCount : Nat
  deriving Repr

/-- What lies behind a non-NULL data pointer: `byte i` is the byte at data+i (whatever is there, also
    past the caller's block); `len` only bounds the search of strlen() in the model. -/
structure Mem where
  len : Nat
  byte : Nat → Nat

inductive Ret
  | exact (v : Int)
  | among (vs : List Int)
  | undef                    -- depends on bytes outside [0, datasize)
  deriving DecidableEq, Repr

structure Res where
  reads : List (Nat × Nat) := []     -- [lo, hi) ranges of data that are read
  writes : List (Nat × Nat) := []
  derefNull : Bool := false
  ret : Ret
  err : Option Nat := none           -- sf_error afterwards where the model determines it
  h' : Option H

/-! ## helpers -/

def rd32 (m : Nat → Nat) (o : Nat) : Nat :=
  m o % 256 + 256 * (m (o + 1) % 256) + 65536 * (m (o + 2) % 256) + 16777216 * (m (o + 3) % 256)

/-- index of the first NUL among the first `n` bytes starting at `i`, else `i + n` -/
def firstNul (m : Nat → Nat) : Nat → Nat → Nat
  | 0, i => i
  | n + 1, i => if m i = 0 then i else firstNul m n (i + 1)

/-- `psf_strlcpy_crlf (dest, src, destmax, srcmax)`: `n` source bytes are left, the next one is at
    offset `i`, `room` = destend - dest.  Returns the exclusive end of the source region examined.
    The pair test `src + 1 < srcend && ((src[0]=='\r' && src[1]=='\n') || (src[0]=='\n' && src[1]=='\r'))`
    looks at src[1] only when src[0] is CR or LF *and* another byte is left (8501a42). -/
def crlfEnd (m : Nat → Nat) : Nat → Nat → Nat → Nat
  | 0, i, _ => i
  | 1, i, room => if room = 0 then i else i + 1
  | n + 2, i, room =>
    if room = 0 then i
    else if m i = 13 ∨ m i = 10 then
      if (m i = 13 ∧ m (i + 1) = 10) ∨ (m i = 10 ∧ m (i + 1) = 13) then
        max (i + 2) (crlfEnd m n (i + 2) (room - 2))
      else max (i + 2) (crlfEnd m (n + 1) (i + 1) (room - 2))
    else max (i + 1) (crlfEnd m (n + 1) (i + 1) (room - 1))

/-- SFC_SET_CHANNEL_MAP_INFO validation loop: how many ints are looked at (stops at the first invalid) -/
def chanExamined (m : Nat → Nat) : Nat → Nat → Nat
  | 0, _ => 0
  | n + 1, k =>
    let v := sext 32 (rd32 m (4 * k))
    if v ≤ 0 ∨ v ≥ chanMapMax then 1 else 1 + chanExamined m n (k + 1)

def b2i (b : Bool) : Int := if b then 1 else 0

def writable (h : H) : Bool := h.mode = .w ∨ h.mode = .rw

/-- psf->read_double is set (the codec initialisers install read functions in read and read/write mode only) -/
def canRead (h : H) : Bool := h.mode = .r ∨ h.mode = .rw

/-- the header is rewritten (psf->write_header): bytes of the file may change -/
def rewriteHeader (h : H) : H := { h with fileEpoch := h.fileEpoch + 1 }

/-- `if (data == NULL) …; if (datasize < 1) return 0; snprintf (data, size, "%s", s); return strlen (data)`
    — with strlen(s) = `l` (ff9108b added the datasize test) -/
def stringOut (l size : Nat) (data : Option Mem) (h : Option H) (errNull : Option Nat) (retNull : Int) : Res :=
  match data with
  | none => { ret := .exact retNull, err := errNull, h' := h }
  | some _ =>
    if size = 0 then { ret := .exact 0, h' := h }
    else
      let k := min l (size - 1)
      { writes := [(0, k + 1)], reads := [(0, k + 1)], ret := .exact k, err := some 0, h' := h }

/-- `broadcast_var_set` / `cart_var_set`: `datasize < offsetof (variable part) || min_size (info) > datasize`
    — the length field is read only when datasize reaches past it (dc376ca) -/
def varSet (sizeOff fixed cap eSize eBig : Nat) (h : H) (size : Nat) (data : Option Mem) (h2 : H) : Res :=
  match data with
  | none => { ret := .exact 0, err := some 0, h' := some h }
  | some m =>
    if size < fixed then { ret := .exact 0, err := some eSize, h' := some h }
    else
      let n := rd32 m.byte sizeOff
      if fixed + n > size then { reads := [(sizeOff, sizeOff + 4)], ret := .exact 0, err := some eSize, h' := some h }
      else if size ≥ cap then { reads := [(sizeOff, sizeOff + 4)], ret := .exact 0, err := some eBig, h' := some h }
      else
        { reads := [(sizeOff, sizeOff + 4), (0, fixed), (fixed, crlfEnd m.byte (size - fixed) fixed (cap - fixed - 2))],
          ret := .exact 1, h' := some (rewriteHeader h2) }      -- write_header may leave an error code behind

/-- since "fix: SFC_SET_BROADCAST_INFO / SFC_SET_CART_INFO after audio data could overwrite the audio" a block set again after
    the audio is accepted only when its normalised text has the size of the block present (SF_TRUE), and refused otherwise (SF_FALSE,
    SFE_CMD_HAS_DATA, block kept).  Which of the two depends on the normalised length of the caller's text and on the line
    gen_coding_history would add — modelled in SfModel/Meta.lean (`step`), not here: this model only says "0 or 1". -/
def lateVar (late : Bool) (r : Res) : Res :=
  if late then (match r.ret with | .exact 1 => { r with ret := .among [0, 1], err := none } | _ => r) else r

def varGet (stored : Option Nat) (h : H) (size : Nat) (data : Option Mem) : Res :=
  match data with
  | none => { ret := .exact 0, err := some eBadParam, h' := some h }
  | some _ =>
    match stored with
    | none => { ret := .exact 0, err := some 0, h' := some h }
    | some s => { writes := [(0, min size s)], ret := .exact 1, err := some 0, h' := some h }

/-- guard `data == NULL || datasize != want` failing with (ret, err); otherwise `k` -/
def guardEq (want size : Nat) (data : Option Mem) (h : Option H) (failRet : Int) (failErr : Option Nat)
    (k : Mem → Res) : Res :=
  match data with
  | none => { ret := .exact failRet, err := failErr, h' := h }
  | some m => if size ≠ want then { ret := .exact failRet, err := failErr, h' := h } else k m

/-- the container's command handler (wav_command, rf64_command, aiff_command, caf_command) or none;
    none of them touches `data` -/
def containerCommand (h : H) (cmd : Int) (size : Nat) : Res :=
  if ¬ h.hasCommand then
    { ret := .exact eBadParam, err := some eBadParam, h' := some { h with logLen := h.logLen + 1 } }
  else if (h.container = cWAV ∨ h.container = cWAVEX ∨ h.container = cRF64) ∧ cmd = 0x1200 then
    if h.container = cWAVEX then
      if size = 0x40 ∨ size = 0x41 then { ret := .exact size, err := some 0, h' := some { h with ambisonic := size } }
      else { ret := .exact 0, err := some 0, h' := some h }
    else { ret := .exact h.ambisonic, err := some 0, h' := some h }
  else if (h.container = cWAV ∨ h.container = cWAVEX ∨ h.container = cRF64) ∧ cmd = 0x1201 then
    { ret := .exact h.ambisonic, err := some 0, h' := some h }
  else if h.container = cRF64 ∧ cmd = 0x1210 then
    let d := if h.haveWritten then h.rf64Downgrade else decide (size ≠ 0)
    { ret := .exact (b2i d), err := some 0, h' := some { h with rf64Downgrade := d } }
  else { ret := .exact 0, err := some 0, h' := some h }

/-- the ints of a channel map behind `data` (validated entries are 1 … 26: the unsigned reading is the value) -/
def chanMapOf (m : Nat → Nat) (channels : Nat) : List Nat := (List.range channels).map fun i => rd32 m (4 * i)

/-- case SFC_SET_CHANNEL_MAP_INFO.  The validated map is copied, then the container's handler is asked
    (`Sf.ChmapVerdict.containerAccepts`: wavlike_gen_channel_mask / aiff_caf_find_channel_layout_tag; no handler = refused).
    A refused map is freed again and psf->channel_map (with the handler's mask / tag) is what it was: no effect.
    `keep = true` is the rule before that repair (KF-C09-CHMAP-REFUSED-KEPT): the refused map stayed on a handle that had none
    (the model then did not know the container's answer: `among [0, 1]`). -/
def chmapSet (keep : Bool) (h : H) (size : Nat) (data : Option Mem) : Res :=
  let sh := some h
  if h.haveWritten then { ret := .exact 0, err := some eHasData, h' := sh }
  else guardEq (szInt * h.channels) size data sh 0 (some eBadParam) fun m =>
    let k := chanExamined m.byte h.channels 0
    let v := sext 32 (rd32 m.byte (4 * (k - 1)))
    if k > 0 ∧ (v ≤ 0 ∨ v ≥ chanMapMax) then
      { reads := [(0, szInt * k)], ret := .exact 0, err := some eBadParam, h' := sh }
    else if keep then
      { reads := [(0, szInt * k), (0, size)], ret := if h.hasCommand then .among [0, 1] else .exact 0,
        h' := some { h with hasChanMap := true, metaEpoch := h.metaEpoch + 1 } }
    else if h.hasCommand ∧ ChmapVerdict.containerAccepts h.container (chanMapOf m.byte h.channels) = true then
      { reads := [(0, szInt * k), (0, size)], ret := .exact 1,
        h' := some { h with hasChanMap := true, metaEpoch := h.metaEpoch + 1 } }
    else
      { reads := [(0, szInt * k), (0, size)], ret := .exact 0, h' := sh }

/-- case SFC_CALC_SIGNAL_MAX / SFC_CALC_NORM_SIGNAL_MAX behind the size guard: `*data = psf_calc_signal_max (…) ; return psf->error`.
    psf_calc_signal_max refuses a handle that cannot seek (SFE_NOT_SEEKABLE) or cannot read (SFE_UNIMPLEMENTED) by recording the error
    and returning 0.0 (which is stored in the block); since "fix: SFC_CALC_SIGNAL_MAX / SFC_CALC_NORM_SIGNAL_MAX returned 0 (success)
    when the scan was refused" the recorded error is the return value, as for the _ALL_CHANNELS pair.  After a scan the error is 0 on
    return (cleared on entry and by the nested SFC_SET_NORM_DOUBLE) unless the restoring seek failed: the model leaves `err` open.
    `retZero = true` is the rule before that repair (KF-C09-CALC-SIGNAL-MAX-RET0): the case ended in `break`, i.e. `return 0`. -/
def calcSignalMax (retZero : Bool) (h : H) : Res :=
  if ¬ h.seekable then
    { writes := [(0, szDouble)], ret := .exact (if retZero then 0 else eNotSeekable), err := some eNotSeekable, h' := some h }
  else if ¬ canRead h then
    { writes := [(0, szDouble)], ret := .exact (if retZero then 0 else eUnimplemented), err := some eUnimplemented, h' := some h }
  else { writes := [(0, szDouble)], ret := .exact 0, h' := some h }

/-! ## the switch -/

/-- commands that only query information -/
def isQuery (cmd : Int) : Bool :=
  cmd ∈ ([0x1000, 0x1001, 0x1002, 0x1010, 0x1011, 0x1020, 0x1021, 0x1028, 0x1030, 0x1031, 0x1032, 0x1033,
          0x1040, 0x1041, 0x1042, 0x1043, 0x1044, 0x1045, 0x10A2, 0x10A3, 0x10B0, 0x10C1, 0x10CD, 0x10CE,
          0x10D0, 0x10E0, 0x10F0, 0x1100, 0x1110, 0x1201, 0x1304, 0x1306, 0x1401, 0x1501] : List Int)

/-- string-returning commands -/
def isStringCmd (cmd : Int) : Bool := cmd = 0x1000 ∨ cmd = 0x1001

def formatIndexed (count : Nat) (clearOnFail : Bool) (size : Nat) (data : Option Mem) (h : Option H) : Res :=
  guardEq szFormatInfo size data h eBadParam none fun m =>
    let idx := sext 32 (rd32 m.byte 0)
    if idx < 0 ∨ idx ≥ count then
      { reads := [(0, 4)], writes := if clearOnFail then [(0, 4)] else [], ret := .exact eBadParam, h' := h }
    else { reads := [(0, 4)], writes := [(0, szFormatInfo)], ret := .exact 0, h' := h }

/-- the first switch of `sf_command`: commands that run before the handle is looked at
    (`none` = not one of them) -/
def preHandle (g : G) (h : Option H) (cmd : Int) (size : Nat) (data : Option Mem) : Option Res :=
  if cmd = 0x1000 then some (stringOut g.verLen size data h (h.map fun _ => eBadParam) 0)
  else if cmd = 0x1020 ∨ cmd = 0x1030 ∨ cmd = 0x1032 then
    some (guardEq szInt size data h eBadParam none fun _ => { writes := [(0, szInt)], ret := .exact 0, h' := h })
  else if cmd = 0x1021 then some (formatIndexed g.simpleCount false size data h)
  else if cmd = 0x1031 then some (formatIndexed g.majorCount false size data h)
  else if cmd = 0x1033 then some (formatIndexed g.subtypeCount true size data h)
  else if cmd = 0x1028 then
    some (guardEq szFormatInfo size data h eBadParam none fun _ =>
      { reads := [(0, 4)], writes := [(0, szFormatInfo)], ret := .among [0, eBadParam], h' := h })
  else none

/-- which arm of the second switch a command id selects -/
inductive Cls
  | k1013 | k1002 | k1012 | k1011 | k1010 | k1014 | k1015 | k1050 | k1051 | k1001 | k1040 | k1042 | k1044 | k1045 | k1060 | k1061 | k1070 | k10A0 | k1080 | k1090 | k10B0 | k6001 | k10C0 | k10C1 | k10E0 | k10F1 | k10F0 | k1400 | k1401 | k10CD | k10CE | k10CF | k10D0 | k10D1 | k1110 | k1100 | k1101 | k1300 | other
  deriving DecidableEq, Repr

def classify (cmd : Int) : Cls :=
  if cmd = 0x1013 then .k1013
  else if cmd = 0x1002 then .k1002
  else if cmd = 0x1012 then .k1012
  else if cmd = 0x1011 then .k1011
  else if cmd = 0x1010 then .k1010
  else if cmd = 0x1014 then .k1014
  else if cmd = 0x1015 then .k1015
  else if cmd = 0x1050 then .k1050
  else if cmd = 0x1051 then .k1051
  else if cmd = 0x1001 then .k1001
  else if cmd = 0x1040 ∨ cmd = 0x1041 then .k1040
  else if cmd = 0x1042 ∨ cmd = 0x1043 then .k1042
  else if cmd = 0x1044 then .k1044
  else if cmd = 0x1045 then .k1045
  else if cmd = 0x1060 then .k1060
  else if cmd = 0x1061 then .k1061
  else if cmd = 0x1070 ∨ cmd = 0x1071 then .k1070
  else if cmd = 0x10A0 ∨ cmd = 0x10A1 then .k10A0
  else if cmd = 0x1080 then .k1080
  else if cmd = 0x1090 then .k1090
  else if cmd = 0x10B0 then .k10B0
  else if cmd = 0x6001 then .k6001
  else if cmd = 0x10C0 then .k10C0
  else if cmd = 0x10C1 then .k10C1
  else if cmd = 0x10E0 then .k10E0
  else if cmd = 0x10F1 then .k10F1
  else if cmd = 0x10F0 then .k10F0
  else if cmd = 0x1400 then .k1400
  else if cmd = 0x1401 then .k1401
  else if cmd = 0x10CD then .k10CD
  else if cmd = 0x10CE then .k10CE
  else if cmd = 0x10CF then .k10CF
  else if cmd = 0x10D0 then .k10D0
  else if cmd = 0x10D1 then .k10D1
  else if cmd = 0x1110 then .k1110
  else if cmd = 0x1100 then .k1100
  else if cmd = 0x1101 then .k1101
  else if cmd = 0x1300 ∨ cmd = 0x1302 then .k1300
  else .other

/-- the condition under which `classify` answers a given arm -/
def Cls.cond : Cls → Int → Prop
  | .k1013, cmd => cmd = 0x1013
  | .k1002, cmd => cmd = 0x1002
  | .k1012, cmd => cmd = 0x1012
  | .k1011, cmd => cmd = 0x1011
  | .k1010, cmd => cmd = 0x1010
  | .k1014, cmd => cmd = 0x1014
  | .k1015, cmd => cmd = 0x1015
  | .k1050, cmd => cmd = 0x1050
  | .k1051, cmd => cmd = 0x1051
  | .k1001, cmd => cmd = 0x1001
  | .k1040, cmd => cmd = 0x1040 ∨ cmd = 0x1041
  | .k1042, cmd => cmd = 0x1042 ∨ cmd = 0x1043
  | .k1044, cmd => cmd = 0x1044
  | .k1045, cmd => cmd = 0x1045
  | .k1060, cmd => cmd = 0x1060
  | .k1061, cmd => cmd = 0x1061
  | .k1070, cmd => cmd = 0x1070 ∨ cmd = 0x1071
  | .k10A0, cmd => cmd = 0x10A0 ∨ cmd = 0x10A1
  | .k1080, cmd => cmd = 0x1080
  | .k1090, cmd => cmd = 0x1090
  | .k10B0, cmd => cmd = 0x10B0
  | .k6001, cmd => cmd = 0x6001
  | .k10C0, cmd => cmd = 0x10C0
  | .k10C1, cmd => cmd = 0x10C1
  | .k10E0, cmd => cmd = 0x10E0
  | .k10F1, cmd => cmd = 0x10F1
  | .k10F0, cmd => cmd = 0x10F0
  | .k1400, cmd => cmd = 0x1400
  | .k1401, cmd => cmd = 0x1401
  | .k10CD, cmd => cmd = 0x10CD
  | .k10CE, cmd => cmd = 0x10CE
  | .k10CF, cmd => cmd = 0x10CF
  | .k10D0, cmd => cmd = 0x10D0
  | .k10D1, cmd => cmd = 0x10D1
  | .k1110, cmd => cmd = 0x1110
  | .k1100, cmd => cmd = 0x1100
  | .k1101, cmd => cmd = 0x1101
  | .k1300, cmd => cmd = 0x1300 ∨ cmd = 0x1302
  | .other, _ => True

/-- the second switch: the handle is valid -/
def withHandle (h : H) (cmd : Int) (size : Nat) (data : Option Mem) : Res :=
  let sh := some h
  let bad : Res := { ret := .exact eBadParam, err := some eBadParam, h' := sh }
  let false30 : Res := { ret := .exact 0, err := some eBadParam, h' := sh }
  match classify cmd with
  | .k1013 =>
    { ret := .exact (b2i h.normFloat), err := some 0, h' := some { h with normFloat := decide (size ≠ 0) } }
  | .k1002 =>
    guardEq szInfo size data sh eBadParam (some 0) fun _ => { writes := [(0, szInfo)], ret := .exact 0, err := some 0, h' := sh }
  | .k1012 =>
    { ret := .exact (b2i h.normDouble), err := some 0, h' := some { h with normDouble := decide (size ≠ 0) } }
  | .k1011 =>
    { ret := .exact (b2i h.normFloat), err := some 0, h' := sh }
  | .k1010 =>
    { ret := .exact (b2i h.normDouble), err := some 0, h' := sh }
  | .k1014 =>
    -- may run psf_calc_signal_max the first time it is switched on
    { ret := .exact (b2i h.floatIntMult), h' := some { h with floatIntMult := decide (size ≠ 0) } }
  | .k1015 =>
    { ret := .exact (b2i h.scaleIntFloat), err := some 0, h' := some { h with scaleIntFloat := decide (size ≠ 0) } }
  | .k1050 =>
    if ¬ (h.container = cAIFF ∨ h.container = cCAF ∨ h.container = cWAV ∨ h.container = cWAVEX ∨ h.container = cRF64) then
      { ret := .exact 0, err := some 0, h' := sh }
    else if ¬ (h.codec = codFLOAT ∨ h.codec = codDOUBLE) then { ret := .exact 0, err := some 0, h' := sh }
    else if ¬ writable h then { ret := .exact 0, err := some 0, h' := sh }
    else if h.haveWritten then { ret := .exact 0, err := some eHasData, h' := sh }
    else { ret := .exact size, h' := some (rewriteHeader { h with hasPeak := if size = 0 ∧ h.hasPeak then false else true }) }
  | .k1051 =>
    { ret := .exact 0, err := some 0, h' := sh }
  | .k1001 =>
    stringOut h.logLen size data sh (some 0) eBadParam
  | .k1040 =>
    guardEq szDouble size data sh eBadParam (some eBadParam) fun _ => calcSignalMax false h
  | .k1042 =>
    guardEq (szDouble * h.channels) size data sh eBadParam (some eBadParam) fun _ =>
      if ¬ h.seekable then { ret := .exact eNotSeekable, err := some eNotSeekable, h' := sh }
      else if ¬ canRead h then { ret := .exact eUnimplemented, err := some eUnimplemented, h' := sh }
      else { writes := [(0, szDouble * h.channels)], ret := .exact 0, h' := sh }
  | .k1044 =>
    guardEq szDouble size data sh 0 (some eBadParam) fun _ =>
      if h.hasPeak then { writes := [(0, szDouble)], ret := .exact 1, err := some 0, h' := sh }
      else { ret := .exact 0, err := some 0, h' := sh }
  | .k1045 =>
    guardEq (szDouble * h.channels) size data sh 0 (some eBadParam) fun _ =>
      if h.hasPeak then { writes := [(0, szDouble * h.channels)], ret := .exact 1, err := some 0, h' := sh }
      else { ret := .exact 0, err := some 0, h' := sh }
  | .k1060 =>
    { ret := .exact 0, h' := some (rewriteHeader h) }
  | .k1061 =>
    { ret := .exact (b2i (decide (size ≠ 0))), err := some 0, h' := some { h with autoHeader := decide (size ≠ 0) } }
  | .k1070 =>
    { ret := .exact 0, err := some 0, h' := sh }
  | .k10A0 =>
    guardEq szDither size data sh eBadParam (some eBadParam) fun _ =>
      { reads := [(0, szDither)], ret := .exact 0, h' := some { h with metaEpoch := h.metaEpoch + 1 } }
  | .k1080 =>
    if ¬ writable h then { ret := .exact 1, err := some 0, h' := sh }
    -- since 7f90196: SF_VIRTUAL_IO has no truncate callback; refused before datasize / data are looked at and before anything changes
    else if h.virtualIo then { ret := .exact 1, err := some 0, h' := sh }
    else if size ≠ szCount then { ret := .exact 1, err := some 0, h' := sh }
    else match data with
      | none => false30
      | some _ => { reads := [(0, szCount)], ret := .among [0, 1, -1], h' := some (rewriteHeader { h with metaEpoch := h.metaEpoch + 1 }) }
  | .k1090 =>
    guardEq szCount size data sh eBadParam (some eBadParam) fun _ =>
      if h.container ≠ cRAW then bad
      else { reads := [(0, szCount)], ret := .exact 0, h' := some { h with metaEpoch := h.metaEpoch + 1 } }
  | .k10B0 =>
    guardEq szEmbed size data sh eBadParam (some eBadParam) fun _ => { writes := [(0, szEmbed)], ret := .exact 0, err := some 0, h' := sh }
  | .k6001 =>
    if h.codec = codFLOAT ∨ h.codec = codDOUBLE then
      -- float32_init / double64_init run again (they recompute sf.frames from the data length)
      { ret := .exact 0, err := some 0, h' := some { h with ieeeReplace := decide (size ≠ 0), metaEpoch := h.metaEpoch + 1 } }
    else { ret := .exact eBadParam, err := some eBadParam, h' := some { h with ieeeReplace := decide (size ≠ 0) } }
  | .k10C0 =>
    { ret := .exact (b2i (decide (size ≠ 0))), err := some 0, h' := some { h with clipping := decide (size ≠ 0) } }
  | .k10C1 =>
    { ret := .exact (b2i h.clipping), err := some 0, h' := sh }
  | .k10E0 =>
    guardEq szLoop size data sh 0 (some eBadParam) fun _ =>
      if h.hasLoop then { writes := [(0, szLoop)], ret := .exact 1, err := some 0, h' := sh }
      else { ret := .exact 0, err := some 0, h' := sh }
  | .k10F1 =>
    if ¬ (h.container = cWAV ∨ h.container = cWAVEX ∨ h.container = cRF64) then { ret := .exact 0, err := some 0, h' := sh }
    else if ¬ writable h then { ret := .exact 0, err := some 0, h' := sh }
    else if h.bext = none ∧ h.haveWritten then { ret := .exact 0, err := some eHasData, h' := sh }
    else lateVar h.haveWritten (varSet bextSizeOff bextFixed bextCap eBextSize eBextBig h size data { h with bext := some bextFixed, metaEpoch := h.metaEpoch + 1 })
  | .k10F0 =>
    varGet h.bext h size data
  | .k1400 =>
    if ¬ (h.container = cWAV ∨ h.container = cRF64) then { ret := .exact 0, err := some 0, h' := sh }
    else if ¬ writable h then { ret := .exact 0, err := some 0, h' := sh }
    else if h.cart = none ∧ h.haveWritten then { ret := .exact 0, err := some eHasData, h' := sh }
    else lateVar h.haveWritten (varSet cartSizeOff cartFixed cartCap eCartSize eCartBig h size data { h with cart := some cartFixed, metaEpoch := h.metaEpoch + 1 })
  | .k1401 =>
    varGet h.cart h size data
  | .k10CD =>
    guardEq szInt size data sh 0 (some eBadParam) fun _ =>
      match h.cues with
      | some _ => { writes := [(0, szInt)], ret := .exact 1, err := some 0, h' := sh }
      | none => { ret := .exact 0, err := some 0, h' := sh }
  | .k10CE =>
    match data with
    | none => false30
    | some _ =>
      if size < szInt then false30
      else match h.cues with
        | none => { ret := .exact 0, err := some 0, h' := sh }
        | some c => { writes := [(0, szInt + szCuePoint * min ((size - szInt) / szCuePoint) c)], ret := .exact 1, err := some 0, h' := sh }
  | .k10CF =>
    if h.haveWritten then { ret := .exact 0, err := some eHasData, h' := sh }
    else match data with
      | none => false30
      | some m =>
        if size < szInt then false30
        else
          -- since "fix: a second SFC_SET_CUE returned SF_TRUE but kept the first set of cue points" the block is always read and
          -- replaces the cue points present (before: `some _ => ret 1` without touching the data)
          let c := rd32 m.byte 0
          if c ≤ (size - szInt) / szCuePoint then
            { reads := [(0, szInt), (0, szInt + szCuePoint * c)], ret := .exact 1, err := some 0,
              h' := some { h with cues := some c, metaEpoch := h.metaEpoch + 1 } }
          else { reads := [(0, szInt)], ret := .exact 0, err := some eMalloc, h' := sh }
  | .k10D0 =>
    guardEq szInstrument size data sh 0 (some eBadParam) fun _ =>
      if h.hasInstrument then { writes := [(0, szInstrument)], ret := .exact 1, err := some 0, h' := sh }
      else { ret := .exact 0, err := some 0, h' := sh }
  | .k10D1 =>
    if h.haveWritten then { ret := .exact 0, err := some eHasData, h' := sh }
    else guardEq szInstrument size data sh 0 (some eBadParam) fun _ =>
      { reads := [(0, szInstrument)], ret := .exact 1, err := some 0, h' := some { h with hasInstrument := true, metaEpoch := h.metaEpoch + 1 } }
  | .k1110 =>
    { ret := .exact (b2i h.endswap), err := some 0, h' := sh }
  | .k1100 =>
    if ¬ h.hasChanMap then { ret := .exact 0, err := some 0, h' := sh }
    else guardEq (szInt * h.channels) size data sh 0 (some eBadParam) fun _ =>
      { writes := [(0, size)], ret := .exact 1, err := some 0, h' := sh }
  | .k1101 => chmapSet false h size data
  | .k1300 =>
    -- reads a double, then re-enters sf_command with SFC_SET_COMPRESSION_LEVEL / SFC_SET_OGG_PAGE_LATENCY
    guardEq szDouble size data sh 0 none fun _ =>
      let r := containerCommand h (if cmd = 0x1300 then 0x1301 else 0x1303) szDouble
      { r with reads := [(0, szDouble)] }
  | .other => containerCommand h cmd size

/-- `sf_command (sndfile, cmd, data, datasize)` for `datasize ≥ 0` -/
def run (g : G) (h : Option H) (cmd : Int) (size : Nat) (data : Option Mem) : Res :=
  match preHandle g h cmd size data with
  | some r => r
  | none =>
    match h with
    | none =>
      if cmd = 0x1001 then stringOut g.gLogLen size data none none eBadParam
      else { ret := .exact 0, err := some 10, h' := none }      -- SFE_BAD_SNDFILE_PTR
    | some hh => withHandle hh cmd size data

/-! ## predicates used by the property -/

/-- the part of the handle C17 speaks about (position, audio, settings, metadata): everything but the
    length of the diagnostic log, which grows when a handle without a container command handler logs
    an unknown command id -/
def H.core (h : H) : H := { h with logLen := 0 }

def sameState (a b : Option H) : Bool := a.map H.core = b.map H.core

def rangeIn (size : Nat) (r : Nat × Nat) : Bool := decide (r.1 ≤ r.2 ∧ r.2 ≤ size)

/-- every byte range touched lies in [0, datasize) and NULL is not dereferenced -/
def Res.inBounds (r : Res) (size : Nat) : Bool :=
  r.reads.all (rangeIn size) && r.writes.all (rangeIn size) && !r.derefNull

def Res.retDefined (r : Res) : Bool := r.ret ≠ .undef

/-- a string command given a non-NULL buffer of datasize ≥ 1 writes a NUL inside it: the model's write
    range ends with the terminator at index `hi - 1 < datasize` -/
def Res.terminates (r : Res) (size : Nat) : Bool :=
  match r.writes, r.ret with
  | [(0, hi)], .exact k => decide (hi = k.toNat + 1 ∧ hi ≤ size ∧ 0 ≤ k)
  | _, _ => false

/-! ## the rules before the four repairs (history; nothing above uses them) -/

/-- before ff9108b: `snprintf (data, size, …) ; return strlen (data)` also for size 0 — nothing is written and
    strlen walks the caller's memory -/
def oldStringOut (l size : Nat) (data : Option Mem) (h : Option H) (errNull : Option Nat) (retNull : Int) : Res :=
  match data with
  | none => { ret := .exact retNull, err := errNull, h' := h }
  | some m =>
    if size = 0 then { reads := [(0, firstNul m.byte m.len 0 + 1)], ret := .undef, h' := h }
    else
      let k := min l (size - 1)
      { writes := [(0, k + 1)], reads := [(0, k + 1)], ret := .exact k, err := some 0, h' := h }

/-- before 8501a42: src[1] is looked at whenever src[0] is CR or LF, also when src[0] is the last byte (n = 1) -/
def oldCrlfEnd (m : Nat → Nat) : Nat → Nat → Nat → Nat
  | 0, i, _ => i
  | 1, i, room =>
    if room = 0 then i
    else if m i = 13 ∨ m i = 10 then i + 2 else i + 1
  | n + 2, i, room =>
    if room = 0 then i
    else if m i = 13 ∨ m i = 10 then
      if (m i = 13 ∧ m (i + 1) = 10) ∨ (m i = 10 ∧ m (i + 1) = 13) then
        max (i + 2) (oldCrlfEnd m n (i + 2) (room - 2))
      else max (i + 2) (oldCrlfEnd m (n + 1) (i + 1) (room - 2))
    else max (i + 1) (oldCrlfEnd m (n + 1) (i + 1) (room - 1))

/-- before dc376ca (and 8501a42): the length field is read before datasize is compared with anything -/
def oldVarSet (sizeOff fixed cap eSize eBig : Nat) (h : H) (size : Nat) (data : Option Mem) (h2 : H) : Res :=
  match data with
  | none => { ret := .exact 0, err := some 0, h' := some h }
  | some m =>
    let n := rd32 m.byte sizeOff
    if fixed + n > size then { reads := [(sizeOff, sizeOff + 4)], ret := .exact 0, err := some eSize, h' := some h }
    else if size ≥ cap then { reads := [(sizeOff, sizeOff + 4)], ret := .exact 0, err := some eBig, h' := some h }
    else
      { reads := [(sizeOff, sizeOff + 4), (0, fixed), (fixed, oldCrlfEnd m.byte (size - fixed) fixed (cap - fixed - 2))],
        ret := .exact 1, h' := some (rewriteHeader h2) }

/-- before 604e547: `psf_calc_signal_max` / `psf_calc_max_all_channels` saved the position with
    `sf_seek (0, SEEK_CUR)`, which in read/write mode seeks *both* cursors to the write cursor, and restored
    it with `sf_seek (position, SEEK_SET)` -/
def oldAfterCalc (h : H) : H :=
  match h.mode with
  | .rw => { h with readCur := h.writeCur }
  | _ => h

end Sf.Command
