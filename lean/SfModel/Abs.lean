/-
  SfModel.Abs — L0: the ABSTRACT model of one handle on ANY container, and the contract of properties
  C05 / C06 / C08 as decidable Boolean checkers over one transcript line (`Sf.Abs.check`) and over a whole
  transcript (`Sf.Abs.holdsOn`).

  Nothing here knows bytes, headers or codecs.  A file is a number of frames; what a sequential decode of it
  delivers to a caller of sample type `ty` is a PARAMETER (`St.ref ty`, DESIGN §6 "opaque codecs": the reference
  stream of one sequential read through a separate handle).  The checkers do not compute what a call answers —
  they JUDGE an answer (`Out`, one transcript line of the harness) against the clauses of the property statements
  (quoted from properties.jsonl next to each clause) and return the next abstract state, or the tag of the first
  clause that fails together with a state from which judging can go on.

  The compiled driver (`sfmodel abs`, lean/Driver/Abs.lean) evaluates exactly these definitions on the
  implementation's own transcripts; lean/SfProps/C05Abs.lean, C06Abs.lean, C08Abs.lean prove what an accepted
  transcript means, lean/SfProps/C05Bridge.lean that every transcript of the concrete handle model
  (SfModel/Handle.lean) is accepted.

  Core Lean only (no Mathlib): the driver links this file.
-/
import SfModel.Pcm
namespace Sf.Abs
open Sf

/-- one CELL of a caller buffer: the bit pattern of a 16- or 32-bit host value as the harness prints it; a 64-bit item
    (double) is two cells, high half first.  (Cells of at most 32 bits are unboxed scalars in the compiled driver.) -/
abbrev Item := Nat

/-- cells per item -/
def cells : Ty → Nat | .f64 => 2 | _ => 1

inductive Mode | r | w | rw
deriving Repr, DecidableEq, Inhabited

/-- the cell the harness pre-fills read buffers with (0xA5 bytes) -/
def pat : Ty → Item
  | .s16 => 0xA5A5 | _ => 0xA5A5A5A5

/-- geometry of the container / encoding: everything the contract depends on that is not the data -/
structure Geom where
  ch : Nat                              -- channels (items per frame)
  block : Nat := 1                      -- B: block length of the encoding in frames (1 = sample-granular)
  pad : Nat := 0                        -- pad rule: frames a container may add when it pads odd byte counts (C04)
  seekable : Bool := true               -- SF_INFO.seekable
  bw : Nat := 0                         -- bytes per frame for sf_read_raw / sf_write_raw; 0 = not offered
  canTrunc : Bool := false              -- the route has ftruncate (descriptor routes; not SF_VIRTUAL_IO)
  strictSeek : Bool := false            -- a seek to a frame in [0, frames] must succeed (sample-granular RDWR files)
  ioMayFail : Bool := false             -- the underlying I/O may fail: short writes are inside the contract
  lossless : Ty → Bool := fun _ => false  -- C01: caller types the encoding stores exactly
  holeZero : Ty → Bool := fun _ => false  -- does a frame nobody wrote (seek past the end, extending truncate) read as 0?
  tailClean : Bool := false             -- the reader leaves the rest of the requested region untouched or zero-filled
                                        -- (true of the modelled RAW/AU/WAV readers; NOT of the statement: a reader that finds
                                        -- part of a sample behind the data, e.g. VOC's terminator byte, or a block decoder that
                                        -- stages through the caller's buffer, e.g. DWVW, leaves other bytes there)
  frames0 : Nat := 0                    -- F: frames of the file when the transcript starts
  mode0 : Mode := .r                    -- mode of the handle when the transcript starts

/-- abstract state of a handle -/
structure St where
  mode : Mode
  frames : Nat
  rpos : Nat
  wpos : Nat
  err : Bool := false                   -- the handle's error flag as the last call left it
  ref : Ty → Array Item                 -- the item stream a sequential read of the file delivers, per caller type
  valid : Ty → Bool                     -- is `ref ty` known? (a write through another type makes it unknown)
  raw : Array Item := #[]               -- the bytes of the data section (sf_read_raw), when known
  rawValid : Bool := false

/-- state at the start of a transcript: the file of `g.frames0` frames with the given reference streams -/
def St.init (g : Geom) (ref : Ty → Array Item) (valid : Ty → Bool) (raw : Array Item := #[]) (rawValid : Bool := false) : St :=
  { mode := g.mode0, frames := g.frames0, rpos := 0, wpos := if g.mode0 = .rw then g.frames0 else 0,
    ref := ref, valid := valid, raw := raw, rawValid := rawValid }

/-- one operation line of a script -/
inductive Op
  | read (ty : Ty) (fc : Bool) (n : Int)                        -- sf_read_T (fc = false: items) / sf_readf_T (frames)
  | write (ty : Ty) (fc : Bool) (n : Int) (data : Array Item)   -- sf_write_T / sf_writef_T
  | seek (off : Int) (whence : Int)
  | trunc (n : Int)                                             -- SFC_FILE_TRUNCATE
  | rawRead (n : Int)                                           -- sf_read_raw, n bytes
  | rawWrite (n : Int) (data : Array Item)
  | info                                                        -- SFC_GET_CURRENT_SF_INFO
  | close
  | reopen (mode : Mode)                                        -- a fresh open of the closed file
  | other                                                       -- a call the three statements are silent about

/-- one transcript line: what the call answered -/
structure Out where
  ret : Int := 0
  err : Bool := false            -- sf_error (handle) ≠ 0 after the call
  data : Array Item := #[]       -- the whole requested region of the caller's buffer after a read
  frames : Int := 0              -- SF_INFO.frames (info / open lines)
  null : Bool := false           -- open returned NULL

/-- result of judging one line -/
inductive Res
  | ok (st : St)
  | bad (tag : String) (resume : St)     -- clause `tag` fails; judging may go on from `resume`
  | skip                                 -- the container refuses the open mode: the history says nothing

/-! ## item sequences -/

/-- `a[i+k] = b[j+k]` for every `k < n`, all cells existing -/
def sliceEq (a : Array Item) (i : Nat) (b : Array Item) (j : Nat) : Nat → Bool
  | 0 => true
  | n+1 => if h : i < a.size ∧ j < b.size then a[i]'h.1 == b[j]'h.2 && sliceEq a (i+1) b (j+1) n else false

/-- every cell `a[i+k]`, `k < n`, exists and equals `v` or `w` -/
def allOf (a : Array Item) (v w : Item) (i : Nat) : Nat → Bool
  | 0 => true
  | n+1 => if h : i < a.size then (a[i] == v || a[i] == w) && allOf a v w (i+1) n else false

/-- the frames in front of item `p`; a hole (`p` past the end) reads as `hole` -/
def upTo (hole : Item) (a : Array Item) (p : Nat) : Array Item :=
  a.extract 0 p ++ Array.replicate (p - a.size) hole

/-- overwrite / extend: `d` stored at item `p` -/
def writeAt (hole : Item) (a : Array Item) (p : Nat) (d : Array Item) : Array Item :=
  upTo hole a p ++ d ++ a.extract (p + d.size) a.size

/-! ## requests -/

/-- cells per frame for a caller type -/
def Geom.cpf (g : Geom) (ty : Ty) : Nat := g.ch * cells ty

/-- items a request covers -/
def reqItems (g : Geom) (fc : Bool) (n : Int) : Nat := if fc then n.toNat * g.ch else n.toNat

/-- items a return value stands for -/
def retItems (g : Geom) (fc : Bool) (r : Int) : Nat := if fc then r.toNat * g.ch else r.toNat

/-- a request the read/write wrappers accept (`n = 0` is answered before the handle is looked at) -/
def validReq (g : Geom) (fc : Bool) (n : Int) : Bool := 0 < n && (fc || n % (g.ch : Int) == 0)

/-! ## C05 — read -/

/-- C05: "A read call returns r with 0 <= r <= requested (a whole number of frames), stores exactly the next r items
    of the stream at the start of the caller's buffer, never touches memory outside the requested region, advances the
    read position by exactly r, returns less than requested only when the data ends, and at end of data returns 0,
    zero-fills the requested region and sets no error."
    C06: "reading it in any partition into calls of any sizes, through item or frame call variants, yields the same
    sequence as one sequential read" — the `data` clause against the reference stream. -/
def readOk (g : Geom) (st : St) (ty : Ty) (fc : Bool) (n : Int) (o : Out) : Res :=
  if n = 0 then
    -- a zero-length request: 0, nothing changes
    if o.ret = 0 then .ok st else .bad "count" st
  else if !validReq g fc n || st.mode = .w then
    -- invalid request ⇒ 0 + error + no state change
    if o.ret = 0 ∧ o.err then .ok { st with err := true } else .bad "invalid" st
  else
    let req := reqItems g fc n * cells ty                  -- cells of the requested region
    let items := retItems g fc o.ret
    let k := items / g.ch                                  -- frames delivered
    let got := items * cells ty                            -- cells delivered
    let st' : St := { st with rpos := st.rpos + k, err := false }
    -- "0 <= r <= requested (a whole number of frames)"
    if o.ret < 0 ∨ n < o.ret then .bad "count" st
    else if items % g.ch ≠ 0 then .bad "count" st'
    -- the harness hands over exactly the requested region ("never touches memory outside" is ASan's part)
    else if o.data.size ≠ req then .bad "count" st'
    else if st.frames ≤ st.rpos then
      -- "at end of data returns 0, zero-fills the requested region and sets no error"
      if o.ret ≠ 0 ∨ o.err then .bad "eof" st
      else if !allOf o.data 0 0 0 req then .bad "eof" st
      else .ok { st with err := false }
    -- "stores exactly the next r items of the stream at the start of the caller's buffer"
    else if st.frames < st.rpos + k then .bad "data" { st' with rpos := st.frames }
    else if st.valid ty && !sliceEq o.data 0 (st.ref ty) (st.rpos * g.cpf ty) got then .bad "data" st'
    -- "returns less than requested only when the data ends"
    else if o.ret < n ∧ st.rpos + k ≠ st.frames then .bad "short" st'
    -- a call that delivered what was asked leaves no error
    else if o.err then .bad "error" st'
    -- the rest of the requested region: untouched (0xA5 pre-fill) or zero-filled, as the wrapper dictates
    else if g.tailClean && !allOf o.data (pat ty) 0 got (req - got) then .bad "tail" st'
    -- "advances the read position by exactly r"
    else .ok st'

/-! ## C05 — write -/

/-- C05: "A write call returns w with 0 <= w <= requested, equal to requested unless the underlying I/O fails, never
    reads outside the supplied region and advances the write position and frame count by exactly w."
    C08: "writing inside existing data overwrites it without changing the length, writing at or past the end extends
    the frame count … existing content not overwritten is preserved". -/
def writeOk (g : Geom) (st : St) (ty : Ty) (fc : Bool) (n : Int) (data : Array Item) (o : Out) : Res :=
  if n = 0 then
    if o.ret = 0 then .ok st else .bad "wcount" st
  else if !validReq g fc n || st.mode = .r then
    if o.ret = 0 ∧ o.err then .ok { st with err := true } else .bad "invalid" st
  else
    let req := reqItems g fc n
    let items := retItems g fc o.ret
    let k := items / g.ch
    let wpos' := st.wpos + k
    let keep := g.lossless ty && st.valid ty && (st.wpos ≤ st.frames || g.holeZero ty)
    let st' : St :=
      if k = 0 then { st with err := o.err } else
      { st with wpos := wpos', frames := max st.frames wpos', err := o.err,
                ref := fun t => if t = ty then writeAt 0 (st.ref ty) (st.wpos * g.cpf ty) (data.extract 0 (items * cells ty)) else st.ref t,
                valid := fun t => t = ty && keep,
                rawValid := false }
    if data.size < req * cells ty then .bad "wcount" st            -- the script supplies the whole region
    else if o.ret < 0 ∨ n < o.ret then .bad "wcount" st
    else if items % g.ch ≠ 0 then .bad "wcount" st'
    -- "equal to requested unless the underlying I/O fails"
    else if o.ret < n ∧ !g.ioMayFail then .bad "wshort" st'
    else if o.ret = n ∧ o.err then .bad "error" st'
    -- "advances the write position and frame count by exactly w"
    else .ok st'

/-! ## C06 / C08 — seek -/

/-- whence values sf_seek knows: SEEK_SET / SEEK_CUR / SEEK_END, plain or with SFM_READ (0x10) / SFM_WRITE (0x20);
    SEEK_SET also with SFM_RDWR (0x30).  The frame the offset is relative to — C08: a plain SEEK_CUR on a read/write
    handle is relative to the WRITE position. -/
def seekBase (st : St) (whence : Int) : Option Nat :=
  if whence = 0 ∨ whence = 0x10 ∨ whence = 0x20 ∨ whence = 0x30 then some 0
  else if whence = 1 then some (if st.mode = .r then st.rpos else st.wpos)
  else if whence = 0x11 then some st.rpos
  else if whence = 0x21 then some st.wpos
  else if whence = 2 ∨ whence = 0x12 ∨ whence = 0x22 then some st.frames
  else none

/-- the SFM_ qualifier of a known whence value -/
def seekQual (whence : Int) : Int := whence / 0x10 * 0x10

/-- which pointer(s) a whence value names: its SFM_ qualifier, or the mode of the handle for a plain value -/
def seekPtr (st : St) (whence : Int) : Int :=
  if seekQual whence = 0 then (match st.mode with | .r => 0x10 | .w => 0x20 | .rw => 0x30) else seekQual whence

/-- C08: "whence values combined with SFM_READ or SFM_WRITE move only that pointer while plain whence values move both" -/
def seekMove (st : St) (whence : Int) (t : Nat) : St :=
  if seekPtr st whence = 0x10 then { st with rpos := t, err := false }
  else if seekPtr st whence = 0x20 then { st with wpos := t, err := false }
  else { st with rpos := t, wpos := t, err := false }

/-- the absolute frame a seek asks for, when the request is one sf_seek may accept -/
def seekTarget (st : St) (off whence : Int) : Option Nat :=
  match seekBase st whence with
  | none => none
  | some b =>
    let t : Int := (b : Int) + off
    if (seekQual whence = 0x20 ∧ st.mode = .r) ∨ (seekQual whence = 0x10 ∧ st.mode = .w) then none
    else if t < 0 then none
    else if st.mode = .r ∧ (st.frames : Int) < t then none
    else some t.toNat

/-- C06: "sf_seek returns either the requested absolute position or -1 with an error set, and a zero-offset SEEK_CUR
    always reports the index of the next frame to be delivered."  A refused seek changes no position. -/
def seekOk (g : Geom) (st : St) (off whence : Int) (o : Out) : Res :=
  let tgt := if g.seekable then seekTarget st off whence else none
  if o.ret = -1 then
    if !o.err then .bad "seek" st
    else match tgt with
      | some t =>
        -- "a zero-offset SEEK_CUR ALWAYS reports the index of the next frame to be delivered"
        if off = 0 ∧ whence % 0x10 = 1 then .bad "position" { st with err := true }
        else if g.strictSeek ∧ t ≤ st.frames then .bad "seek-refused" { st with err := true }
        else .ok { st with err := true }
      | none => .ok { st with err := true }
  else match tgt with
    | none => .bad "seek" st                                  -- a request that must be refused was answered
    | some t =>
      if o.ret ≠ (t : Int) then
        .bad (if off = 0 ∧ whence % 0x10 = 1 then "position" else "seek") (if 0 ≤ o.ret then seekMove st whence o.ret.toNat else st)
      else if o.err then .bad "seek" (seekMove st whence t)
      else .ok (seekMove st whence t)

/-! ## C08 — truncate -/

/-- C08: "SFC_FILE_TRUNCATE shortens the file to the requested count."  Where the route has no `ftruncate`
    (SF_VIRTUAL_IO), in read mode, or for a negative count the command is an invalid request: non-zero answer, nothing
    changes. -/
def truncOk (g : Geom) (st : St) (n : Int) (o : Out) : Res :=
  if st.mode = .r ∨ !g.canTrunc ∨ n < 0 then
    if o.ret ≠ 0 then .ok { st with err := o.err } else .bad "trunc-refuse" st
  else
    let m := n.toNat
    let st' : St := { st with frames := m, rpos := m, wpos := m, err := false,
                              ref := fun t => upTo 0 ((st.ref t).extract 0 (m * g.cpf t)) (m * g.cpf t),
                              valid := fun t => st.valid t && (m ≤ st.frames || g.holeZero t),
                              rawValid := st.rawValid && m ≤ st.frames,
                              raw := upTo 0 (st.raw.extract 0 (m * g.bw)) (m * g.bw) }
    if o.ret ≠ 0 ∨ o.err then .bad "trunc" st else .ok st'

/-! ## raw reads and writes (sample-granular encodings) -/

/-- C05: "plus sf_read_raw/sf_write_raw on sample-granular encodings": whole frames only, the same count / position /
    end-of-data clauses in bytes -/
def rawReadOk (g : Geom) (st : St) (n : Int) (o : Out) : Res :=
  if g.bw = 0 then .ok st
  else if st.mode = .w then
    if o.ret = 0 ∧ o.err then .ok { st with err := true } else .bad "invalid" st
  else if 0 ≤ n ∧ st.frames ≤ st.rpos then
    -- sf_read_raw tests end of data before the alignment of the request
    if o.ret = 0 ∧ !o.err then .ok { st with err := false } else .bad "eof" st
  else if n < 0 ∨ n.toNat % g.bw ≠ 0 then
    if o.ret = 0 ∧ o.err then .ok { st with err := true } else .bad "invalid" st
  else
    let want := min (n.toNat / g.bw) (st.frames - st.rpos)
    let st' : St := { st with rpos := st.rpos + want, err := false }
    if o.ret ≠ ((want * g.bw : Nat) : Int) then .bad "count" st'
    else if st.rawValid && !sliceEq o.data 0 st.raw (st.rpos * g.bw) (want * g.bw) then .bad "data" st'
    else if o.err then .bad "error" st'
    else .ok st'

def rawWriteOk (g : Geom) (st : St) (n : Int) (data : Array Item) (o : Out) : Res :=
  if g.bw = 0 then .ok st
  else if st.mode = .r ∨ n < 0 ∨ n.toNat % g.bw ≠ 0 then
    if o.ret = 0 ∧ o.err then .ok { st with err := true } else .bad "invalid" st
  else if n = 0 then (if o.ret = 0 then .ok st else .bad "wcount" st)
  else
    let k := n.toNat / g.bw
    let wpos' := st.wpos + k
    let st' : St := { st with wpos := wpos', frames := max st.frames wpos', err := false, valid := fun _ => false,
                              raw := writeAt 0 st.raw (st.wpos * g.bw) (data.extract 0 n.toNat) }
    if data.size < n.toNat then .bad "wcount" st
    else if o.ret ≠ n then .bad "wshort" st'
    else if o.err then .bad "error" st'
    else .ok st'

/-! ## info, close, re-open -/

def infoOk (st : St) (o : Out) : Res :=
  if o.frames = (st.frames : Int) then .ok st else .bad "frames" st

def closeOk (st : St) (o : Out) : Res :=
  if o.ret = 0 then .ok st else .bad "close" st

/-- C08: "After close, a fresh open sees exactly the final frame sequence and count".  C04: the count a re-open
    reports is `N ≤ F < N + B` (+ the container's pad frames); when it is not `N` the streams are no longer known. -/
def reopenOk (g : Geom) (st : St) (m : Mode) (o : Out) : Res :=
  if o.null then (if m = .rw then .skip else .bad "open" st)
  else if m = .w then
    .ok { st with mode := .w, frames := 0, rpos := 0, wpos := 0, err := false, ref := fun _ => #[], valid := fun _ => true,
                  raw := #[], rawValid := true }
  else
    let fresh (f : Nat) (keep : Bool) : St :=
      { st with mode := m, frames := f, rpos := 0, wpos := if m = .rw then f else 0, err := false,
                valid := fun t => keep && st.valid t, rawValid := keep && st.rawValid }
    if o.frames = (st.frames : Int) then .ok (fresh st.frames true)
    else if (st.frames : Int) ≤ o.frames ∧ o.frames < ((st.frames + max g.block 1 + g.pad : Nat) : Int) then
      .ok (fresh o.frames.toNat false)
    else .bad "reopen-frames" (fresh o.frames.toNat false)

/-! ## one line, a whole transcript -/

def check (g : Geom) (st : St) (op : Op) (o : Out) : Res :=
  match op with
  | .read ty fc n => readOk g st ty fc n o
  | .write ty fc n data => writeOk g st ty fc n data o
  | .seek off whence => seekOk g st off whence o
  | .trunc n => truncOk g st n o
  | .rawRead n => rawReadOk g st n o
  | .rawWrite n data => rawWriteOk g st n data o
  | .info => infoOk st o
  | .close => closeOk st o
  | .reopen m => reopenOk g st m o
  | .other => .ok st

/-- the state after a transcript every line of which is accepted -/
def accepts (g : Geom) : St → List (Op × Out) → Option St
  | st, [] => some st
  | st, (op, o) :: tr =>
    match check g st op o with
    | .ok st' => accepts g st' tr
    | _ => none

inductive Verdict
  | ok (n : Nat)                        -- every one of the `n` lines is accepted
  | bad (k : Nat) (tag : String)        -- line `k` (from 0) fails clause `tag`
  | skip (k : Nat)                      -- line `k` is an open the container refuses
deriving Repr, DecidableEq

def holdsFrom (g : Geom) : Nat → St → List (Op × Out) → Verdict
  | k, _, [] => .ok k
  | k, st, (op, o) :: tr =>
    match check g st op o with
    | .ok st' => holdsFrom g (k + 1) st' tr
    | .bad tag _ => .bad k tag
    | .skip => .skip k

/-- THE PREDICATE: the verdict of properties C05 / C06 / C08 on one transcript of the implementation -/
def holdsOn (g : Geom) (ref : Ty → Array Item) (valid : Ty → Bool) (tr : List (Op × Out)) : Verdict :=
  holdsFrom g 0 (St.init g ref valid) tr

/-- every failing line, judging on from the `resume` state after each (what the driver prints; `limit` bounds the list) -/
def failures (g : Geom) : Nat → Nat → St → List (Op × Out) → List (Nat × String)
  | _, _, _, [] => []
  | 0, _, _, _ => []
  | limit+1, k, st, (op, o) :: tr =>
    match check g st op o with
    | .ok st' => failures g (limit+1) (k + 1) st' tr
    | .bad tag st' => (k, tag) :: failures g limit (k + 1) st' tr
    | .skip => [(k, "skip")]

end Sf.Abs
