/-
  SfModel.MetaX — metadata of the containers beside RIFF/WAVE (property C12): AIFF text chunks and markers, CAF `info`
  strings, the `chan` / `CHAN` chunk and the channel-layout table.

  Code-shaped model of
    src/aiff.c     aiff_write_strings (APPL/m3ga, NAME, (c), AUTH, ANNO), the readers of those chunks in aiff_read_header /
                   aiff_read_text_chunk (buffer allocated from the chunk size since the repair, 8 KiB scratch buffer before;
                   psf_sanitize_string on (c), the printable prefix of APPL), the MARK writer
                   (pascal strings of the 'p' format) and reader, the CHAN chunk and aiff_read_chanmap
    src/caf.c      caf_write_strings / put_key_value (buffer allocated from the string storage since the repair, 16 KiB before),
                   caf_read_strings, the chan chunk and caf_read_chanmap
    src/chanmap.c  aiff_caf_find_channel_layout_tag, aiff_caf_of_channel_layout_tag over the table extracted from the
                   source into Generated/ChanMap.lean
    src/common.c   the 'S' and 'p' cases of psf_binheader_writef
  as the code is after the repairs "fix: AIFF APPL chunk reader appended up to four stale bytes …" and "fix: an AIFF file with a
  text chunk of 8 KiB or more could not be opened" (the rules before them are kept next to the new ones).
  Core Lean only.  Builds on the string table of SfModel.Meta.
-/
import SfModel.Meta
import SfModel.Generated.ChanMap
namespace Sf.MetaX
open Sf.Meta

def be4 (v : Nat) : List Byte := beBytes 4 v
def be2 (v : Nat) : List Byte := beBytes 2 v
def be8 (v : Nat) : List Byte := beBytes 8 v

def isPrint (b : Byte) : Bool := 0x20 ≤ b && b ≤ 0x7e

/-! ## 1. AIFF text chunks -/

/-- the 'S' case of psf_binheader_writef: length, text, and the terminator as pad byte when the length is odd -/
def serS (s : List Byte) : List Byte := be4 s.length ++ s ++ zeros (s.length % 2)

/-- the chunk aiff_write_strings emits for a string type (DATE, ALBUM, LICENSE, TRACKNUMBER, GENRE: none) -/
def aiffItem (e : Nat × List Byte) : List Byte :=
  match e.1 with
  | 3 => mk "APPL" ++ be4 (e.2.length + 4) ++ mk "m3ga" ++ e.2 ++ zeros (e.2.length % 2)
  | 1 => mk "NAME" ++ serS e.2
  | 2 => mk "(c) " ++ serS e.2
  | 4 => mk "AUTH" ++ serS e.2
  | 5 => mk "ANNO" ++ serS e.2
  | _ => []

def aiffStrings (es : List (Nat × List Byte)) : List Byte := es.flatMap aiffItem

def SCRATCH : Nat := 8192      -- sizeof (ubuf.scbuf)

/-- psf_sanitize_string: every byte that is not printable ASCII becomes '.' -/
def sanitize (s : List Byte) : List Byte := s.map fun b => if isPrint b then b else 46

/-- the APPL reader: the text ends at the first byte that is not printable -/
def printablePrefix (s : List Byte) : List Byte := s.takeWhile isPrint

/-- the chunk sizes from which on a text chunk is skipped instead of read -/
structure AiffLimits where
  c    : Nat
  auth : Nat
  name : Nat
  anno : Nat
  appl : Nat
deriving DecidableEq, Repr

/-- since the repair ("fix: AIFF strings of 8 KiB or more could be written but not read back"): the text is read into a buffer
    allocated from the chunk size; only `chunk_size > 100 * 1024` (more than the header cache holds) is skipped -/
def aiffLimits : AiffLimits := ⟨HEADER_CAP + 1, HEADER_CAP + 1, HEADER_CAP + 1, HEADER_CAP + 1, HEADER_CAP + 1⟩

/-- before it: the 8 KiB scratch union, `chunk_size >= sizeof (ubuf.scbuf) - slack` -/
def aiffLimitsOld : AiffLimits := ⟨SCRATCH, SCRATCH - 1, SCRATCH - 2, SCRATCH - 2, SCRATCH - 1⟩

/-- what a text chunk hands to psf_store_string.  `none`: nothing is stored (empty chunk, or beyond the limit: skipped). -/
def aiffReadTextW (L : AiffLimits) (m : List Byte) (size : Nat) (payload : List Byte) : Option (Nat × List Byte) :=
  if size = 0 then none
  else if m = mk "(c) " then (if size ≥ L.c then none else some (2, cstr (sanitize (payload.take size))))
  else if m = mk "AUTH" then (if size ≥ L.auth then none else some (4, cstr (payload.take size)))
  else if m = mk "NAME" then (if size ≥ L.name then none else some (1, cstr (payload.take size)))
  else if m = mk "ANNO" then (if size ≥ L.anno then none else some (5, cstr (payload.take size)))
  else if m = mk "APPL" then
    (if size ≥ L.appl ∨ size < 4 then none else some (3, printablePrefix (cstr ((payload.drop 4).take (size - 4)))))
  else none

def aiffReadText : List Byte → Nat → List Byte → Option (Nat × List Byte) := aiffReadTextW aiffLimits
def aiffReadTextOld : List Byte → Nat → List Byte → Option (Nat × List Byte) := aiffReadTextW aiffLimitsOld

def isAiffText (m : List Byte) : Bool := m = mk "(c) " || m = mk "AUTH" || m = mk "NAME" || m = mk "ANNO" || m = mk "APPL"

/-- the chunk walk of aiff_read_header restricted to text chunks (the walk of the whole header is SfModel.Aiff): marker, size,
    payload, pad byte of an odd size.  Any other marker ends this walk. -/
def aiffParseW (L : AiffLimits) : Nat → List Byte → List (Nat × List Byte)
  | 0, _ => []
  | fuel+1, b =>
    if b.length < 8 then []
    else
      let m := b.take 4
      let size := ofBE ((b.drop 4).take 4)
      let p := b.drop 8
      if !isAiffText m ∨ size > p.length then []
      else
        let rest := p.drop (size + size % 2)
        match aiffReadTextW L m size p with
        | some e => e :: aiffParseW L fuel rest
        | none => aiffParseW L fuel rest

def aiffParse : Nat → List Byte → List (Nat × List Byte) := aiffParseW aiffLimits
def aiffParseOld : Nat → List Byte → List (Nat × List Byte) := aiffParseW aiffLimitsOld

/-- the limits under which an AIFF text survives, for a reader with the skip thresholds `L` -/
def aiffOkW (L : AiffLimits) (e : Nat × List Byte) : Prop :=
  (∀ b ∈ e.2, b ≠ 0) ∧ e.2 ≠ [] ∧ e.2.length + 4 < 2 ^ 32 ∧
  ((e.1 = 1 ∧ e.2.length < L.name) ∨ (e.1 = 5 ∧ e.2.length < L.anno) ∨ (e.1 = 4 ∧ e.2.length < L.auth) ∨
   (e.1 = 2 ∧ e.2.length < L.c ∧ ∀ b ∈ e.2, isPrint b = true) ∨ (e.1 = 3 ∧ e.2.length + 4 < L.appl ∧ ∀ b ∈ e.2, isPrint b = true))

/-- what an AIFF text must be to survive since the repair: a non-empty C string whose chunk the header cache can hold
    (`HEADER_CAP`); copyright and software printable ASCII (the `(c)` reader sanitises, the APPL reader stops at the first other
    byte: known finding KF.aiffSanitize).  No 8 KiB limit any more. -/
def aiffOk (e : Nat × List Byte) : Prop :=
  (∀ b ∈ e.2, b ≠ 0) ∧ e.2 ≠ [] ∧
  ((e.1 = 1 ∧ e.2.length ≤ HEADER_CAP) ∨ (e.1 = 5 ∧ e.2.length ≤ HEADER_CAP) ∨ (e.1 = 4 ∧ e.2.length ≤ HEADER_CAP) ∨
   (e.1 = 2 ∧ e.2.length ≤ HEADER_CAP ∧ ∀ b ∈ e.2, isPrint b = true) ∨ (e.1 = 3 ∧ e.2.length + 4 ≤ HEADER_CAP ∧ ∀ b ∈ e.2, isPrint b = true))

/-- the limits of the old reader: title / comment < 8190 bytes, author < 8191, copyright < 8192, software + 4 < 8191 -/
def aiffOkOld (e : Nat × List Byte) : Prop := aiffOkW aiffLimitsOld e

/-- the APPL reader before the repair: the buffer was terminated 4 bytes behind the text, so up to four bytes of whatever an
    earlier chunk had left there (`stale`) followed it -/
def applTextOld (stale : List Byte) (text : List Byte) : List Byte :=
  printablePrefix (cstr (text ++ (if text.length % 2 = 1 then [0] else []) ++ stale.take 4 ++ [0]))

/-! ## 2. AIFF markers -/

/-- the 'p' case of psf_binheader_writef: a length byte (odd; at most `cap`) and that many bytes of the name buffer, which is
    zero-filled behind the text -/
def pascalW (cap : Nat) (name : List Byte) : List Byte :=
  let size := if name.length % 2 = 1 then name.length else name.length + 1
  let size := min size cap
  size :: (name ++ zeros 256).take size

/-- the repaired rule: a pascal string holds up to 255 characters (count byte + text is always even) -/
def pascal (name : List Byte) : List Byte := pascalW 255 name

/-- before the repair of KF-C12-AIFF-CUE-NAME-254: the cap was 254, so a name of 254 / 255 characters was written as count 254 + 254
    bytes — an odd total, one byte less than `markStringLength` counts -/
def pascalOld (name : List Byte) : List Byte := pascalW 254 name

structure Mark where
  id : Nat
  position : Nat
  name : List Byte
deriving DecidableEq, Repr

def serMark (m : Mark) : List Byte := be2 (m.id % 65536) ++ be4 m.position ++ pascal m.name

def markStringLength (m : Mark) : Nat := m.name.length + 1 + (if (m.name.length + 1) % 2 = 0 then 0 else 1)

/-- the MARK chunk of aiff_write_header (written when cue points are set, with or without an instrument:
    `MetaFix.aiffMarkWritten`) -/
def writeMarks (ms : List Mark) : List Byte :=
  mk "MARK" ++ be4 (2 + ms.length * 6 + (ms.map markStringLength).sum) ++ be2 ms.length ++ ms.flatMap serMark

/-- one marker of the MARK reader: id, position, pascal string (an even length byte means one more byte follows) -/
def parseMarks : Nat → List Byte → List Mark
  | 0, _ => []
  | n+1, b =>
    if b.length < 7 then []
    else
      let ch := b.getD 6 0
      let plen := if ch % 2 = 1 then ch else ch + 1
      ⟨ofBE (b.take 2), ofBE ((b.drop 2).take 4), (cstr ((b.drop 7).take plen)).take 255⟩ :: parseMarks n (b.drop (7 + plen))

def readMarks (chunk : List Byte) : Option (List Mark) :=
  let size := ofBE ((chunk.drop 4).take 4)
  let p := (chunk.drop 8).take size
  let n := ofBE (p.take 2)
  if n > 2500 then none else some (parseMarks n (p.drop 2))

def Mark.ok (m : Mark) : Prop := m.id < 65536 ∧ m.position < 2 ^ 32 ∧ m.name.length ≤ 253 ∧ ∀ b ∈ m.name, b ≠ 0

/-- a cue point as AIFF keeps it: 16-bit id, sample_offset, name; position / chunk_start / block_start are 0 and fcc_chunk is
    'data' after re-open -/
def markOfCue (c : Cue) : Mark := ⟨c.indx % 65536, c.sampleOffset, c.name⟩
def cueOfMark (m : Mark) : Cue := ⟨m.id, 0, 0x61746164, 0, 0, m.position, m.name⟩

/-! ## 3. CAF `info` strings -/

def cafKey (ty : Nat) : Option (List Byte) :=
  match ty with
  | 1 => some (ascii "title") | 2 => some (ascii "copyright") | 3 => some (ascii "software") | 4 => some (ascii "artist")
  | 5 => some (ascii "comment") | 6 => some (ascii "date") | 7 => some (ascii "album") | 8 => some (ascii "license")
  | 9 => some (ascii "tracknumber") | 16 => some (ascii "genre") | _ => none

def cafType (key : List Byte) : Option Nat :=
  if key = ascii "title" then some 1 else if key = ascii "copyright" then some 2 else if key = ascii "software" then some 3
  else if key = ascii "artist" then some 4 else if key = ascii "comment" ∨ key = ascii "comments" then some 5
  else if key = ascii "date" then some 6 else if key = ascii "album" then some 7 else if key = ascii "license" then some 8
  else if key = ascii "tracknumber" then some 9 else if key = ascii "genre" then some 16 else none

def CAF_BUF : Nat := 16 * 1024

/-- put_key_value over the entries in slot order, for a buffer of `cap` bytes: (bytes collected, number of strings put).
    An entry that does not fit the buffer is skipped silently. -/
def cafPut (cap : Nat) : List Byte → Nat → List (Nat × List Byte) → List Byte × Nat
  | buf, cnt, [] => (buf, cnt)
  | buf, cnt, e :: rest =>
    match cafKey e.1 with
    | none => cafPut cap buf cnt rest
    | some k =>
      if buf.length + k.length + e.2.length + 2 > cap ∨ buf.length + (k.length + e.2.length + 2) ≥ cap then cafPut cap buf cnt rest
      else cafPut cap (buf ++ k ++ [0] ++ e.2 ++ [0]) (cnt + 1) rest

/-- caf_write_strings with a buffer of `cap` bytes: the `info` chunk (nothing when no string was put) -/
def writeCafInfoW (cap : Nat) (es : List (Nat × List Byte)) : List Byte :=
  let r := cafPut cap [] 0 es
  if r.2 = 0 ∨ r.1.length = 0 then [] else mk "info" ++ be8 (r.1.length + 4) ++ be4 r.2 ++ r.1

/-- since the repair ("fix: CAF strings beyond 16 KiB in total were silently left out of the file"): the buffer is allocated
    with `strings.storage_used + SF_MAX_STRINGS * 16` bytes; `used` = psf->strings.storage_used -/
def writeCafInfo (used : Nat) (es : List (Nat × List Byte)) : List Byte := writeCafInfoW (used + SF_MAX_STRINGS * 16) es

/-- before it: `char s [16 * 1024]` -/
def writeCafInfoOld (es : List (Nat × List Byte)) : List Byte := writeCafInfoW CAF_BUF es

/-- the key/value walk of caf_read_strings over the bytes behind the count -/
def cafPairs : Nat → List Byte → List (Nat × List Byte)
  | 0, _ => []
  | fuel+1, b =>
    if b = [] then []
    else
      let key := cstr b
      if key.length + 1 > b.length then []
      else
        let b1 := b.drop (key.length + 1)
        let value := cstr b1
        let rest := b1.drop (value.length + 1)
        match cafType key with
        | some ty => (ty, value) :: cafPairs fuel rest
        | none => cafPairs fuel rest

/-- the `info` case of caf_read_header and caf_read_strings: a string area of more than 100 KiB is not read (it could not
    pass the header cache) -/
def readCafInfo (chunk : List Byte) : List (Nat × List Byte) :=
  let size := ofBE ((chunk.drop 4).take 8)
  if size ≤ 4 ∨ size - 4 > HEADER_CAP then [] else
  let b := (chunk.drop 16).take (size - 4)
  cafPairs (b.length + 1) b

def cafOk (e : Nat × List Byte) : Prop := (∀ b ∈ e.2, b ≠ 0) ∧ (cafKey e.1).isSome

/-- the total the buffer must hold -/
def cafNeed : List (Nat × List Byte) → Nat
  | [] => 0
  | e :: rest => ((cafKey e.1).getD []).length + e.2.length + 2 + cafNeed rest

/-! ## 4. Channel layout tags and the `chan` chunk -/

/-- aiff_caf_find_channel_layout_tag: the first table entry of that channel count whose map equals the caller's -/
def findTagIn (table : List (Nat × Option (List Nat))) (groups : Nat) (map : List Nat) : Nat :=
  if map.length < 1 ∨ map.length ≥ groups then 0
  else match table.find? (fun e => e.1 % 65536 = map.length && e.2 = some map) with
    | some e => e.1
    | none => 0

/-- aiff_caf_of_channel_layout_tag -/
def ofTagIn (table : List (Nat × Option (List Nat))) (groups : Nat) (tag : Nat) : Option (Nat × Option (List Nat)) :=
  if tag % 65536 ≥ groups then none else table.find? (fun e => e.1 = tag)

def findTag (map : List Nat) : Nat := findTagIn layoutTable layoutGroups map
def ofTag (tag : Nat) : Option (Nat × Option (List Nat)) := ofTagIn layoutTable layoutGroups tag

def SF_CHANNEL_MAP_MAX : Nat := 27

/-- SFC_SET_CHANNEL_MAP_INFO for AIFF / CAF before the audio: the map is stored when every code is valid, the result is whether a
    layout tag exists for it.  Returns (result, stored map, tag). -/
def setChannelMap (channels : Nat) (map : List Nat) : Option (Nat × List Nat × Nat) :=
  if map.length ≠ channels ∨ map.any (fun c => c = 0 ∨ c ≥ SF_CHANNEL_MAP_MAX) then none
  else some ((if findTag map ≠ 0 then 1 else 0), map, findTag map)

def writeChanAiff (tag : Nat) : List Byte := if tag = 0 then [] else mk "CHAN" ++ be4 12 ++ be4 tag ++ be4 0 ++ be4 0
def writeChanCaf (tag : Nat) : List Byte := if tag = 0 then [] else mk "chan" ++ be8 12 ++ be4 tag ++ be4 0 ++ be4 0

/-- aiff_read_chanmap / caf_read_chanmap: the map of the tag's table entry, cut to the channel count (CAF masks the tag with 0xff) -/
def readChan (caf : Bool) (channels : Nat) (payload : List Byte) : Option (List Nat) :=
  let tag := ofBE (payload.take 4)
  match ofTag tag with
  | some (_, some m) => some (m.take (min channels (if caf then tag % 256 else tag % 65536)))
  | _ => none

end Sf.MetaX
