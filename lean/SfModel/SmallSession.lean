/-
  SfModel.SmallSession — the part of a write session that the small containers SVX, IRCAM, PAF, AVR have in common
  (VOC and NIST, of the same shape, are modelled over SfModel/Small2.lean): `<x>_open` in SFM_WRITE writes a first
  header, `sf_write_*` re-emits it before the first audio byte (the `have_written` latch) and keeps `sf.frames`,
  SFC_UPDATE_HEADER_NOW / SFC_SET_UPDATE_HEADER_AUTO call `write_header (psf, SF_TRUE)`, `<x>_close` appends what the
  container appends (`Spec.term`: nothing, for these four) and calls `write_header (psf, SF_TRUE)` once more (IRCAM
  and PAF: nothing).

  `write_header (psf, calc_length)` of all of them has the same shape:

      if (calc_length) { filelength = psf_get_filelen ; datalength = filelength - dataoffset ;
                         if (dataend) … ; sf.frames = datalength / (bytewidth * channels) ; }
      <put the header together from sf.frames, filelength, datalength> ; dataoffset = header.indx

  (`dataend` is 0 on every write path of these containers; IRCAM and PAF ignore `calc_length`.)  A container is
  described by a `Spec`; its model file supplies the `hdr` function.  Sequential writing only (no seeks).

  Core Lean only; names live in `Sf.Small`.
-/
import SfModel.Basic
namespace Sf.Small
open Sf

def mk4 (s : String) : List Byte := s.toList.map Char.toNat
def ascii (s : String) : List Byte := s.toList.map Char.toNat
/-- header_put_be_int / _le_int / _be_short / _le_short / _le_3byte of the low bits of a C integer -/
def be32 (v : Int) : List Byte := beBytes 4 (wrapU 32 v)
def le32 (v : Int) : List Byte := leBytes 4 (wrapU 32 v)
def be16 (v : Int) : List Byte := beBytes 2 (wrapU 16 v)
def le16 (v : Int) : List Byte := leBytes 2 (wrapU 16 v)
def le24 (v : Int) : List Byte := leBytes 3 (wrapU 24 v)

/-- a field of `n` bytes at offset `off` as the header cache delivers it when the fields before it were read in
    order: the bytes when the file has them, zeros (the cleared destination) on a short read -/
def slice (bs : List Byte) (off n : Nat) : List Byte :=
  if off + n ≤ bs.length then (bs.drop off).take n else List.replicate n 0

structure Spec where
  hdr : Nat → Int → Int → List Byte      -- sf.frames, filelength, datalength ↦ the header bytes
  hdrLen : Nat                            -- their number (constant over a session)
  bw : Nat                                -- bytewidth * channels
  useCalc : Bool := true                  -- write_header honours calc_length
  closeHdr : Bool := true                 -- <x>_close rewrites the header
  term : List Byte := []                  -- what <x>_close appends first
  zeroFrames : Bool := false              -- <x>_open stores 0 in sf.frames before the first header

structure St where
  hdr : List Byte := []
  data : List Byte := []
  tail : List Byte := []
  frames : Nat := 0                       -- psf->sf.frames
  filelength : Int := 0
  datalength : Int := -1
deriving Repr, DecidableEq, Inhabited

def St.bytes (s : St) : List Byte := s.hdr ++ s.data ++ s.tail

/-- `write_header (psf, calc_length)` -/
def writeHeader (sp : Spec) (s : St) (cl : Bool) : St :=
  let s := if cl ∧ sp.useCalc then
      let fl : Int := s.bytes.length
      let dl : Int := fl - sp.hdrLen
      { s with filelength := fl, datalength := dl, frames := (dl.tdiv (sp.bw : Int)).toNat }
    else s
  { s with hdr := sp.hdr s.frames s.filelength s.datalength }

/-- `<x>_open` (SFM_WRITE); `stale` = the frames value the caller left in SF_INFO.  It reaches the first header; the
    codec init that follows (pcm_init, ulaw_init, alaw_init, float32_init, paf24_init) then recomputes
    `datalength = 0` and `sf.frames = 0` from the still empty file, so the header re-emitted before the first audio
    byte no longer holds it. -/
def openW (sp : Spec) (stale : Nat) : St :=
  let s := writeHeader sp { frames := if sp.zeroFrames then 0 else stale } false
  { s with frames := 0, datalength := 0 }

/-- one `sf_write_*` call storing `enc` (whole frames of encoded audio); `auto` = SFC_SET_UPDATE_HEADER_AUTO is on -/
def write (sp : Spec) (s : St) (enc : List Byte) (auto : Bool) : St :=
  let s := if s.data.isEmpty then writeHeader sp s false else s
  let s := { s with data := s.data ++ enc }
  let s := { s with frames := max s.frames (s.data.length / sp.bw) }
  if auto then writeHeader sp s true else s

/-- SFC_UPDATE_HEADER_NOW -/
def update (sp : Spec) (s : St) : St := writeHeader sp s true

/-- `<x>_close` -/
def close (sp : Spec) (s : St) : St :=
  if sp.closeHdr then writeHeader sp { s with tail := sp.term } true else s

inductive WOp
  | write (enc : List Byte) (auto : Bool)
  | update
deriving Repr, DecidableEq

def applyOp (sp : Spec) (s : St) : WOp → St
  | .write enc auto => write sp s enc auto
  | .update => update sp s

def run (sp : Spec) (s : St) (ops : List WOp) : St := ops.foldl (applyOp sp) s

/-- the audio bytes of a session -/
def opsData : List WOp → List Byte
  | [] => []
  | .write enc _ :: r => enc ++ opsData r
  | .update :: r => opsData r

/-- the store after `sf_close` -/
def closedBytes (sp : Spec) (stale : Nat) (ops : List WOp) : List Byte := (close sp (run sp (openW sp stale) ops)).bytes
/-- the store right after SFC_UPDATE_HEADER_NOW at the end of `ops` -/
def snapshotBytes (sp : Spec) (stale : Nat) (ops : List WOp) : List Byte := (update sp (run sp (openW sp stale) ops)).bytes

/-! ## reader side: what every container's `parse` returns -/

structure Info where
  ch : Nat
  fmt : Nat
  sr : Nat
  frames : Nat
deriving Repr, DecidableEq, Inhabited

inductive ParseRes
  | ok (i : Info)
  | err                      -- sf_open returns NULL
  | unmodelled               -- outside what the model describes
deriving Repr, DecidableEq, Inhabited

/-- the data length and frame count the codec init (pcm_init / ulaw_init / alaw_init / float32_init) derives -/
def codecFrames (flen : Nat) (dataoffset dataend : Int) (bw : Int) : Int × Int :=
  let dl : Int := if (flen : Int) > dataoffset then (if dataend > 0 then dataend - dataoffset else flen - dataoffset) else 0
  (dl, if bw > 0 then dl.tdiv bw else 0)

/-- the signatures `guess_file_type` tests before it reaches a marker that sits late in its list (AVR's "2BIT"):
    none of them can match a file that starts with four given bytes unless this returns true.  Only the HTK test
    looks beyond the first word. -/
def htkCoincidence (bs : List Byte) : Bool :=
  (bs.drop 8).take 4 = [0, 2, 0, 0] ∧ 2 * ofBE (bs.take 4) + 12 = bs.length

end Sf.Small
