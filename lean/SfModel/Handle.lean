/-
  SfModel.Handle — the handle state machine of sndfile.c (the 16 read/write wrappers, sf_seek,
  the commands that matter to positions, open and close) over a byte store, for the
  sample-granular encodings in the containers whose header bytes are modelled (RAW, AU, WAV).

  Everything is a total function: each call is a `step… : H → Store → … → H × Store × Out` (`stepRead`, `stepWrite`, `stepSeek`,
  `stepCmdFlag`, `stepTruncate`); the dispatch over an `Op`, `Sf.stepAny` / `Sf.runOps`, is in SfProofs/HandlePres.lean.
-/
import SfModel.Basic
import SfModel.Float
import SfModel.Pcm
namespace Sf

/-! ## byte store (what the SF_VIRTUAL_IO callbacks see) -/

structure Store where
  bytes : List Byte := []
  pos   : Nat := 0
deriving Repr, Inhabited

def zeros (n : Nat) : List Byte := List.replicate n 0

/-- write `data` at `pos`, zero-filling a hole if `pos` is past the end -/
def writeAt (bs : List Byte) (pos : Nat) (data : List Byte) : List Byte :=
  let pre := if pos ≤ bs.length then bs.take pos else bs ++ zeros (pos - bs.length)
  pre ++ data ++ bs.drop (pos + data.length)

def Store.write (s : Store) (data : List Byte) : Store :=
  if data.isEmpty then s else { bytes := writeAt s.bytes s.pos data, pos := s.pos + data.length }

/-- read up to `n` bytes at the current position -/
def Store.read (s : Store) (n : Nat) : List Byte × Store :=
  let got := (s.bytes.drop s.pos).take n
  (got, { s with pos := s.pos + got.length })

def Store.seekSet (s : Store) (p : Nat) : Store := { s with pos := p }

/-! ## formats -/

inductive Mode | r | w | rw
deriving Repr, DecidableEq, Inhabited

inductive Container | raw | au | wav
deriving Repr, DecidableEq, Inhabited

def containerOf (fmt : Nat) : Option Container :=
  match fmt / 0x10000 % 0x1000 with
  | 0x04 => some .raw | 0x03 => some .au | 0x01 => some .wav | _ => none

def Container.code : Container → Nat | .raw => 0x040000 | .au => 0x030000 | .wav => 0x010000

def endianOf (fmt : Nat) : Nat := fmt / 0x10000000 % 4      -- 0 FILE, 1 LITTLE, 2 BIG, 3 CPU
def codecOf (fmt : Nat) : Nat := fmt % 0x10000

/-- data byte order chosen by raw_open / au_open / wav_open in write mode (host is little-endian) -/
def dataBig (c : Container) (fmt : Nat) : Bool :=
  match c with
  | .raw => endianOf fmt == 2
  | .au  => !(endianOf fmt == 1 || endianOf fmt == 3)
  | .wav => endianOf fmt == 2

/-- the sample encoding for a codec code, or none if this container does not offer it (sf_format_check) -/
def encOf (c : Container) (codec : Nat) (big : Bool) : Option Enc :=
  match codec with
  | 0x01 => if c == .wav then none else some (.pcm ⟨8, false, big⟩)
  | 0x05 => if c == .au then none else some (.pcm ⟨8, true, big⟩)
  | 0x02 => some (.pcm ⟨16, false, big⟩)
  | 0x03 => some (.pcm ⟨24, false, big⟩)
  | 0x04 => some (.pcm ⟨32, false, big⟩)
  | 0x06 => some (.flt big)
  | 0x07 => some (.dbl big)
  | 0x10 => some .ulaw
  | 0x11 => some .alaw
  | _ => none

def Enc.isFloatData : Enc → Bool | .flt _ | .dbl _ => true | _ => false

/-! ## the handle -/

structure Peak where
  value : Nat := 0        -- binary64 bits of peaks[ch].value
  position : Int := 0
deriving Repr, Inhabited

structure H where
  store : Nat
  mode : Mode
  container : Container
  enc : Enc
  big : Bool                       -- data/header byte order
  ch : Nat
  sr : Int
  fmtWord : Nat                    -- sf.format as reported
  frames : Int
  rpos : Int := 0
  wpos : Int := 0
  lastOp : Mode
  haveWritten : Bool := false
  autoHeader : Bool := false
  error : Int := 0
  conv : Conv := {}
  dataoffset : Int := 0
  datalength : Int := 0
  dataend : Int := 0
  filelength : Int := 0
  peak : Option (List Peak) := none       -- only WAV float/double opened for write
  peakAtStart : Bool := true
  canTruncate : Bool := false             -- ftruncate works on descriptors, not on SF_VIRTUAL_IO
deriving Repr, Inhabited

def H.nb (h : H) : Nat := h.enc.nbytes
def H.bw (h : H) : Nat := h.enc.nbytes * h.ch

structure World where
  stores : List Store := List.replicate 64 {}
  handles : List (Option H) := List.replicate 16 none
  sfErrno : Int := 0                       -- the process-wide sf_errno
deriving Inhabited

def World.store (w : World) (i : Nat) : Store := w.stores.getD i {}
def World.setStore (w : World) (i : Nat) (s : Store) : World := { w with stores := w.stores.set i s }
def World.setHandle (w : World) (i : Nat) (h : Option H) : World := { w with handles := w.handles.set i h }

/-! ## header writers -/

def u32 (big : Bool) (v : Int) : List Byte := if big then beBytes 4 (wrapU 32 v) else leBytes 4 (wrapU 32 v)
def u16 (big : Bool) (v : Int) : List Byte := if big then beBytes 2 (wrapU 16 v) else leBytes 2 (wrapU 16 v)
def marker (s : String) : List Byte := s.toList.map Char.toNat

def auEncoding : Nat → Nat
  | 0x01 => 2 | 0x02 => 3 | 0x03 => 4 | 0x04 => 5 | 0x06 => 6 | 0x07 => 7 | 0x10 => 1 | 0x11 => 27 | _ => 0

/-- `au_write_header`: 24 bytes -/
def auHeader (h : H) : List Byte :=
  let dl : Int := if h.datalength < 0 ∨ h.datalength > 0x7FFFFFFF then -1 else h.datalength
  (if h.big then marker ".snd" else marker "dns.") ++ u32 h.big 24 ++ u32 h.big dl ++
    u32 h.big (auEncoding (codecOf h.fmtWord)) ++ u32 h.big h.sr ++ u32 h.big h.ch

def wavFormatTag : Nat → Nat
  | 0x06 | 0x07 => 3 | 0x10 => 7 | 0x11 => 6 | _ => 1

def hasFact (codec : Nat) : Bool := codec == 0x06 || codec == 0x07 || codec == 0x10 || codec == 0x11

/-- the `f` of psf_binheader_writef goes through float32_le_write / float32_be_write.  Since the repair 71c426d these write the
    binary32 bit string of every finite value (subnormals and zero included: `Sf.PeakExact.wrF32`, SfProps/C20Ieee `ieee_write_finite_f32`);
    a PEAK value is the binary32 of a maximum of absolute values, so the field is the bit string itself.  Before 71c426d the field
    stayed zero when `fabs (in) < FLT_MIN` (`wrF32TinyOld`), before ec5379c when `< 1e-30` (`wrF32Old`). -/
def wrF32 (b : Nat) : Nat := b
def wrF32TinyOld (b : Nat) : Nat := if b % 2 ^ 31 < 0x00800000 then 0 else b
/-- 0x0DA2425F is the largest binary32 below the double 1e-30 -/
def wrF32Old (b : Nat) : Nat := if b % 2 ^ 31 < 0x0DA24260 then 0 else b

/-- `wavlike_write_peak_chunk`: value as binary32 (through the portable serialiser), 4-byte position;
    timestamp is the pinned clock of the harness -/
def peakChunk (h : H) (ps : List Peak) : List Byte :=
  marker "PEAK" ++ u32 h.big (8 + 8 * h.ch) ++ u32 h.big 1 ++ u32 h.big 1000000000 ++
    ps.flatMap fun p => u32 h.big (wrF32 (Float.f64to32 p.value)) ++ u32 h.big p.position

/-- `wav_write_header` (WAV container, the chunks this model knows: fmt, fact, PEAK, data) -/
def wavHeader (h : H) : List Byte :=
  let codec := codecOf h.fmtWord
  let b := h.big
  let riffLen : Int := if h.filelength < 8 then 8 else (if h.filelength - 8 < 0xFFFFFFFF then h.filelength - 8 else 0xFFFFFFFF)
  let bwid : Int := h.nb
  let fmtBody := u16 b (wavFormatTag codec) ++ u16 b h.ch ++ u32 b h.sr ++ u32 b (h.sr * bwid * h.ch) ++
                 u16 b (bwid * h.ch) ++ u16 b (if codec == 0x10 || codec == 0x11 then 8 else bwid * 8)
  let fmtChunk := if codec == 0x10 || codec == 0x11 then u32 b 18 ++ fmtBody ++ u16 b 0 else u32 b 16 ++ fmtBody
  let fact := if hasFact codec then marker "fact" ++ u32 b 4 ++ u32 b h.frames else []
  let peak := match h.peak with
    | some ps => if h.peakAtStart then peakChunk h ps else []
    | none => []
  let dlen : Int := if h.datalength < 0xFFFFFFFF then h.datalength else 0xFFFFFFFF
  (if b then marker "RIFX" else marker "RIFF") ++ u32 b riffLen ++ marker "WAVE" ++ marker "fmt " ++ fmtChunk ++
    fact ++ peak ++ marker "data" ++ u32 b dlen

/-! ## header parsers (the subset of files these writers produce; anything else: `none` = not modelled) -/

structure Parsed where
  fmtWord : Nat
  ch : Nat
  sr : Int
  big : Bool
  dataoffset : Nat
  datalength : Int
  dataend : Int
  filelength : Int
  peak : Option (List Peak) := none
  peakAtStart : Bool := true
deriving Repr

inductive ParseRes
  | ok (p : Parsed)
  | err                      -- the library refuses the file
  | unmodelled               -- outside what this model describes
deriving Repr

def rd32 (big : Bool) (bs : List Byte) (off : Nat) : Nat :=
  let b := (bs.drop off).take 4
  if big then ofBE b else ofLE b
def rd16 (big : Bool) (bs : List Byte) (off : Nat) : Nat :=
  let b := (bs.drop off).take 2
  if big then ofBE b else ofLE b

def auCodec : Nat → Option Nat
  | 1 => some 0x10 | 2 => some 0x01 | 3 => some 0x02 | 4 => some 0x03 | 5 => some 0x04
  | 6 => some 0x06 | 7 => some 0x07 | 27 => some 0x11 | _ => none

/-- `au_read_header` for a plain (not embedded) file -/
def auParse (bs : List Byte) : ParseRes :=
  let m := bs.take 4
  if bs.length < 24 then (if m == marker ".snd" ∨ m == marker "dns." then .unmodelled else .err) else
  let big := m == marker ".snd"
  if !(big ∨ m == marker "dns.") then .err else
  let dataoffset := rd32 big bs 4
  let datasize : Int := sext 32 (rd32 big bs 8)
  let encoding := rd32 big bs 12
  let sr : Int := sext 32 (rd32 big bs 16)
  let ch : Int := sext 32 (rd32 big bs 20)
  let flen : Int := bs.length
  let dataEnd : Int := (sext 32 dataoffset) + datasize
  let flen' : Int := if datasize == -1 ∨ dataEnd == flen then flen else if dataEnd < flen then dataEnd else flen
  match auCodec encoding with
  | none => .unmodelled
  | some codec =>
    if ch < 1 ∨ ch > 1024 then .err else
    if dataoffset != 24 then .unmodelled else
    .ok { fmtWord := (if big then 0 else 0x10000000) + 0x030000 + codec, ch := ch.toNat, sr := sr, big := big,
          dataoffset := dataoffset, datalength := flen' - dataoffset, dataend := 0, filelength := flen' }

/-- walk of RIFF chunks as `wav_read_header` performs it, for the chunk kinds fmt / fact / PEAK / data / PAD -/
structure WavScan where
  fmtTag : Nat := 0
  ch : Nat := 0
  sr : Int := 0
  bits : Nat := 0
  haveFmt : Bool := false
  dataoffset : Nat := 0
  datalength : Int := 0
  dataend : Int := 0
  peak : Option (List Peak) := none
  peakAtStart : Bool := true
  haveData : Bool := false
deriving Repr

def parsePeaks (big : Bool) (bs : List Byte) (off : Nat) : Nat → List Peak
  | 0 => []
  | n+1 => { value := Float.f32to64 (rd32 big bs off), position := rd32 big bs (off + 4) } :: parsePeaks big bs (off + 8) n

/-- returns none when a chunk outside the modelled subset is met -/
def wavScan (big : Bool) (bs : List Byte) (flen : Nat) : Nat → Nat → WavScan → Option WavScan
  | 0, _, s => some s
  | fuel+1, pos, s =>
    if pos + 8 > flen then some s else
    let m := (bs.drop pos).take 4
    let size := rd32 big bs (pos + 4)
    let body := pos + 8
    let next (s : WavScan) (sz : Nat) : Option WavScan :=
      let p := body + sz
      -- the parser stops when fewer than 4 bytes remain (`psf_ftell >= filelength - 4`)
      if sz ≥ flen then some s
      else if p + 4 ≥ flen + 0 ∧ p ≥ flen - 4 then some s
      else wavScan big bs flen fuel (p + sz % 2) s
    if m == marker "fmt " then
      if s.haveFmt then next s size else
      if size < 16 then none else
      next { s with fmtTag := rd16 big bs body, ch := rd16 big bs (body + 2), sr := rd32 big bs (body + 4),
                    bits := rd16 big bs (body + 14), haveFmt := true } size
    else if m == marker "fact" then next s size
    else if m == marker "PAD " then next s size
    else if m == marker "PEAK" then
      if !s.haveFmt ∨ size != 8 + 8 * s.ch then none else
      next { s with peak := some (parsePeaks big bs (body + 8) s.ch), peakAtStart := !s.haveData } size
    else if m == marker "data" then
      if !s.haveFmt then none else
      let avail : Int := (flen : Int) - body
      let dl : Int := if (size : Int) > avail then avail else size
      let dend : Int := if dl + body < flen then dl + body else 0
      let dl' := dl + size % 2
      let s' := { s with dataoffset := body, datalength := dl', dataend := dend, haveData := true }
      -- seek past the data and go on
      let p : Int := body + dl'
      if p.toNat + 4 ≥ flen ∧ p.toNat ≥ flen - 4 then some s'
      else wavScan big bs flen fuel p.toNat s'
    else none

def wavParse (bs : List Byte) : ParseRes :=
  let m := bs.take 4
  let big := m == marker "RIFX"
  if !(big ∨ m == marker "RIFF") then .err else
  if bs.length < 12 then .unmodelled else
  if (bs.drop 8).take 4 != marker "WAVE" then .err else
  match wavScan big bs bs.length 64 12 {} with
  | none => .unmodelled
  | some s =>
    if !s.haveData ∨ !s.haveFmt then .unmodelled else
    let codec : Option Nat :=
      match s.fmtTag, s.bits with
      | 1, 8 => some 0x05 | 1, 16 => some 0x02 | 1, 24 => some 0x03 | 1, 32 => some 0x04
      | 3, 32 => some 0x06 | 3, 64 => some 0x07 | 7, 8 => some 0x10 | 6, 8 => some 0x11
      | _, _ => none
    match codec with
    | none => .unmodelled
    | some c =>
      if s.ch < 1 ∨ s.ch > 1024 then .err else
      .ok { fmtWord := (if big then 0x20000000 else 0) + 0x010000 + c, ch := s.ch, sr := s.sr, big := big,
            dataoffset := s.dataoffset, datalength := s.datalength, dataend := s.dataend, filelength := bs.length,
            peak := s.peak, peakAtStart := s.peakAtStart }

/-! ## write_header / close -/

/-- `xxx_write_header (psf, calc_length)`: recompute lengths, rewrite the header at offset 0, restore the
    position. Returns the new handle and store. -/
def writeHeader (h : H) (s : Store) (calcLen : Bool) : H × Store :=
  match h.container with
  | .raw => (h, s)
  | .au =>
    let cur := s.pos
    let h := if calcLen then
        let fl : Int := s.bytes.length
        let dl := fl - h.dataoffset
        { h with filelength := fl, datalength := if h.dataend != 0 then dl - (fl - h.dataend) else dl }
      else h
    let s := (s.seekSet 0).write (auHeader h)
    let h := { h with dataoffset := 24 }
    (h, if cur > 0 then s.seekSet cur else s)
  | .wav =>
    let cur := s.pos
    let hasData : Bool := (cur : Int) > h.dataoffset
    let h := if calcLen then
        let fl : Int := s.bytes.length
        let dl := fl - h.dataoffset
        let dl := if h.dataend != 0 then dl - (fl - h.dataend) else h.frames * h.nb * h.ch
        { h with filelength := fl, datalength := dl }
      else h
    let hdr := wavHeader h
    let s := (s.seekSet 0).write hdr
    -- (has_data && dataoffset != header length) would be SFE_INTERNAL; it cannot happen for this chunk set
    let h := { h with dataoffset := hdr.length }
    (h, if !hasData then s.seekSet hdr.length else if cur > 0 then s.seekSet cur else s)

/-- `wav_write_tailer` -/
def wavTailer (h : H) (s : Store) : H × Store :=
  let dl : Int := h.frames * h.nb * h.ch
  let h := { h with datalength := dl, dataend := h.dataoffset + dl }
  let s := if h.dataend > 0 then s.seekSet h.dataend.toNat else s.seekSet s.bytes.length
  let h := if h.dataend > 0 then h else { h with dataend := s.bytes.length }
  let pad : List Byte := if h.dataend % 2 == 1 then [0] else []
  let peak : List Byte := match h.peak with
    | some ps => if !h.peakAtStart then peakChunk h ps else []
    | none => []
  (h, s.write (pad ++ peak))

def closeHandle (h : H) (s : Store) : Store :=
  if h.mode == .r then s else
  match h.container with
  | .raw => s
  | .au => (writeHeader h s true).2
  | .wav =>
    let (h, s) := wavTailer h s
    let (h, s) := if h.mode == .rw then
        let cur := s.pos
        if (cur : Int) < h.filelength then
          ({ h with filelength := cur }, if h.canTruncate then { s with bytes := s.bytes.take cur } else s)
        else (h, s)
      else (h, s)
    (writeHeader h s true).2

/-! ## open -/

inductive OpenRes
  | ok (h : H) (s : Store)
  | fail (s : Store)            -- sf_open returned NULL
  | unmodelled

def initFrames (dataoffset dataend filelength : Int) (bw : Nat) : Int × Int :=
  let dl := if filelength > dataoffset then (if dataend > 0 then dataend - dataoffset else filelength - dataoffset) else 0
  (dl, if bw > 0 then dl / bw else 0)

def mkPeaks (ch : Nat) : List Peak := List.replicate ch {}

def openHandle (storeIx : Nat) (s : Store) (mode : Mode) (fmt : Nat) (ch : Int) (sr : Int) : OpenRes :=
  let s := s.seekSet 0
  let flen := s.bytes.length
  let fresh := mode == .w ∨ (mode == .rw ∧ flen == 0)
  if fresh ∨ containerOf fmt == some .raw then
    -- SF_INFO must describe the file: sf_format_check
    match containerOf fmt with
    | none => .unmodelled
    | some c =>
      if ch < 1 ∨ ch > 1024 ∨ sr < 0 then .fail s else
      let big := dataBig c fmt
      match encOf c (codecOf fmt) big with
      | none => .unmodelled
      | some enc =>
        if sr < 1 then .fail s else
        let chn := ch.toNat
        let bw := enc.nbytes * chn
        let h0 : H := { store := storeIx, mode := mode, container := c, enc := enc, big := big, ch := chn, sr := sr,
                        fmtWord := fmt, frames := 0, lastOp := mode }
        match c with
        | .raw =>
          let (dl, fr) := initFrames 0 0 flen bw
          .ok { h0 with datalength := dl, frames := fr, filelength := flen, wpos := if mode == .rw then fr else 0,
                        haveWritten := mode == .rw ∧ fr > 0 } s
        | .au =>
          -- au_open writes a header at once (datalength unknown = -1), then codec init sees filelength 0
          let h1 := { h0 with datalength := -1, dataoffset := -1 }
          let (h1, s) := writeHeader h1 s false
          .ok { h1 with datalength := 0, frames := 0 } s
        | .wav =>
          let peak := if mode == .w ∧ enc.isFloatData then some (mkPeaks chn) else none
          let h1 := { h0 with peak := peak, filelength := 0, datalength := 0, dataoffset := 0 }
          let (h1, s) := writeHeader h1 s false
          .ok h1 s
  else
    -- existing file: parse the header (read or rdwr)
    let parsed : ParseRes :=
      let m := s.bytes.take 4
      if m == marker "RIFF" ∨ m == marker "RIFX" then wavParse s.bytes
      else if m == marker ".snd" ∨ m == marker "dns." then auParse s.bytes
      else .unmodelled
    match parsed with
    | .err => .fail s
    | .unmodelled => .unmodelled
    | .ok p =>
      match containerOf p.fmtWord with
      | none => .unmodelled
      | some c =>
        match encOf c (codecOf p.fmtWord) p.big with
        | none => .unmodelled
        | some enc =>
          if p.sr < 1 then .fail s else
          let bw := enc.nbytes * p.ch
          let (dl, fr) := initFrames p.dataoffset p.dataend p.filelength bw
          let h : H := { store := storeIx, mode := mode, container := c, enc := enc, big := p.big, ch := p.ch, sr := p.sr,
                         fmtWord := p.fmtWord, frames := fr, lastOp := mode, dataoffset := p.dataoffset, datalength := dl,
                         dataend := p.dataend, filelength := p.filelength,
                         peak := p.peak, peakAtStart := p.peakAtStart,
                         wpos := if mode == .rw then fr else 0, haveWritten := mode == .rw ∧ fr > 0 }
          .ok h (s.seekSet p.dataoffset)

/-! ## operations -/

inductive Op
  | read  (h : Nat) (ty : Ty) (frameCall : Bool) (n : Int)
  | write (h : Nat) (ty : Ty) (frameCall : Bool) (n : Int) (data : List Int)
  | seek  (h : Nat) (off : Int) (whence : Int)
  | cmdFlag (h : Nat) (cmd : Nat) (size : Int)          -- commands that carry their argument in `datasize`
  | truncate (h : Nat) (frames : Int)
  | close (h : Nat)
deriving Repr

/-- what a call returns and leaves in the caller's buffer -/
structure Out where
  ret : Int := 0
  err : Int := 0
  data : List Int := []        -- buffer contents after a read (`pattern` where untouched)
  hasData : Bool := false
deriving Repr, Inhabited

/-- buffer cell the harness pre-fills (0xA5 bytes) -/
def pattern (ty : Ty) : Int :=
  match ty with
  | .s16 => sext 16 0xA5A5 | .s32 => sext 32 0xA5A5A5A5 | .f32 => 0xA5A5A5A5 | .f64 => 0xA5A5A5A5A5A5A5A5

-- symbolic error numbers (the transcript only distinguishes zero / non-zero)
def E_NOT_READMODE : Int := 1001
def E_NOT_WRITEMODE : Int := 1002
def E_BAD_ALIGN : Int := 1003
def E_NEG_LEN : Int := 1004
def E_BAD_SEEK : Int := 1005
def E_WRONG_SEEK : Int := 1006
def E_AMBIGUOUS_SEEK : Int := 1007
def E_BAD_CMD : Int := 1008

/-- `psf_default_seek` on the store -/
def defaultSeek (h : H) (s : Store) (frame : Int) : Store :=
  s.seekSet (h.dataoffset + (h.bw : Int) * frame).toNat

/-- PEAK bookkeeping of float32.c / double64.c for one write call.  `float32_peak_update` / `double64_peak_update` run once
    per staging buffer when the caller's type is not the file's type, once per call otherwise; they take item k of the
    buffer for channel k % channels.  The running maximum `fmaxval` has the sample's own type (a `double` in
    double64.c since the repair of KF-C18-DOUBLE-NARROW), and the staging buffer is cut at a whole number of frames
    (repair of KF-C18-STAGING-MISALIGN).  The rules before the repairs are `peakChunkUpdateOld` / `peakUpdateOld` below. -/
def absBits (f : Float.Fmt) (b : Nat) : Nat := b % 2 ^ (f.ebits + f.mbits)

def peakChunkUpdate (f : Float.Fmt) (ch : Nat) (wcur : Int) (indx : Int) (vals : List Nat) (ps : List Peak) : List Peak :=
  -- vals: the file-typed values of this buffer (bit patterns of `f`); `fmaxval` is a value of the same type
  let widen (v : Nat) : Nat := if f == Float.f32 then Float.f32to64 v else v          -- peaks [chan].value is a double
  (List.range ch).map fun c =>
    let p := ps.getD c {}
    let first := absBits f (vals.getD c 0)
    let idxs := (List.range ((vals.length + ch - 1 - c) / ch)).map fun j => c + j * ch
    let (mx, pos) := idxs.foldl (fun (acc : Nat × Nat) k =>
        let v := absBits f (vals.getD k 0)
        if (f.toDy acc.1).lt (f.toDy v) then (v, k) else acc) (first, 0)
    let mx64 := widen mx
    if (Float.f64.toDy p.value).lt (Float.f64.toDy mx64) then
      { value := mx64, position := wcur + indx + (pos / ch : Nat) }
    else p

def chunksOf (n : Nat) (l : List α) : List (List α) :=
  if n == 0 then [l] else
  (List.range ((l.length + n - 1) / n)).map fun i => (l.drop (i * n)).take n

/-- items per staging buffer: `bufferlen = ARRAY_LEN (ubuf.Xbuf) ; bufferlen -= bufferlen % channels` -/
def stagingLen (f : Float.Fmt) (ch : Nat) : Nat := 8192 / (f.width / 8) - 8192 / (f.width / 8) % ch

def peakUpdate (h : H) (ty : Ty) (vals : List Int) : Option (List Peak) :=
  match h.peak with
  | none => none
  | some ps =>
    let (f, fileTy) : Float.Fmt × Ty := match h.enc with | .dbl _ => (Float.f64, .f64) | _ => (Float.f32, .f32)
    -- file-typed values
    let conv (v : Int) : Nat :=
      match h.enc with
      | .flt _ => (match ty with | .s16 | .s32 => floatOfInt Float.f32 h.conv.scaleIF ty v | .f32 => v.toNat | .f64 => Float.f64to32 v.toNat)
      | _ => (match ty with | .s16 | .s32 => floatOfInt Float.f64 h.conv.scaleIF ty v | .f32 => Float.f32to64 v.toNat | .f64 => v.toNat)
    let fv := vals.map conv
    let whole := ty == fileTy           -- host_write_f / host_write_d update once for the whole call
    let csz := if whole then 0 else stagingLen f h.ch
    let cs := chunksOf csz fv
    let (ps, _) := cs.foldl (fun (acc : List Peak × Nat) c =>
        (peakChunkUpdate f h.ch h.wpos ((acc.2 / h.ch : Nat) : Int) c acc.1, acc.2 + c.length)) (ps, 0)
    some ps

/-! ### the rules before the repairs (kept for the `…_old_rule` theorems of C18 / C07) -/

/-- `float fmaxval` in double64.c: a double sample was narrowed when it became the running maximum, but the comparison
    `fmaxval < fabs (buffer [k])` was made against the un-narrowed sample -/
def peakChunkUpdateOld (f : Float.Fmt) (ch : Nat) (wcur : Int) (indx : Int) (vals : List Nat) (ps : List Peak) : List Peak :=
  let narrow (v : Nat) : Nat := if f == Float.f32 then v else Float.f64to32 v
  let dyOf (v : Nat) : Float.Dy := f.toDy v
  (List.range ch).map fun c =>
    let p := ps.getD c {}
    let first := narrow (absBits f (vals.getD c 0))
    let idxs := (List.range ((vals.length + ch - 1 - c) / ch)).map fun j => c + j * ch
    let (mx, pos) := idxs.foldl (fun (acc : Nat × Nat) k =>
        let v := absBits f (vals.getD k 0)
        if (Float.f32.toDy acc.1).lt (dyOf v) then (narrow v, k) else acc) (first, 0)
    let mx64 := Float.f32to64 mx
    if (Float.f64.toDy p.value).lt (Float.f64.toDy mx64) then
      { value := mx64, position := wcur + indx + (pos / ch : Nat) }
    else p

/-- staging buffers of 8192 / sizeof (file sample) items whatever the channel count -/
def peakUpdateOld (h : H) (ty : Ty) (vals : List Int) : Option (List Peak) :=
  match h.peak with
  | none => none
  | some ps =>
    let (f, fileTy) : Float.Fmt × Ty := match h.enc with | .dbl _ => (Float.f64, .f64) | _ => (Float.f32, .f32)
    let conv (v : Int) : Nat :=
      match h.enc with
      | .flt _ => (match ty with | .s16 | .s32 => floatOfInt Float.f32 h.conv.scaleIF ty v | .f32 => v.toNat | .f64 => Float.f64to32 v.toNat)
      | _ => (match ty with | .s16 | .s32 => floatOfInt Float.f64 h.conv.scaleIF ty v | .f32 => Float.f32to64 v.toNat | .f64 => v.toNat)
    let fv := vals.map conv
    let whole := ty == fileTy
    let csz := if whole then 0 else 8192 / (f.width / 8)
    let cs := chunksOf csz fv
    let (ps, _) := cs.foldl (fun (acc : List Peak × Nat) c =>
        (peakChunkUpdateOld f h.ch h.wpos ((acc.2 / h.ch : Nat) : Int) c acc.1, acc.2 + c.length)) (ps, 0)
    some ps

def stepRead (h : H) (s : Store) (ty : Ty) (frameCall : Bool) (n : Int) : H × Store × Out :=
  if n == 0 then (h, s, { ret := 0, err := h.error }) else        -- returns before the handle is even looked at
  let h := { h with error := 0 }
  let len : Int := if frameCall then n * h.ch else n
  let blank : List Int := List.replicate len.toNat (pattern ty)
  if n < 0 then ({ h with error := E_NEG_LEN }, s, { ret := 0, err := E_NEG_LEN, data := [], hasData := true }) else
  if h.mode == .w then ({ h with error := E_NOT_READMODE }, s, { ret := 0, err := E_NOT_READMODE, data := blank, hasData := true }) else
  if !frameCall ∧ len % h.ch != 0 then ({ h with error := E_BAD_ALIGN }, s, { ret := 0, err := E_BAD_ALIGN, data := blank, hasData := true }) else
  if h.rpos ≥ h.frames then (h, s, { ret := 0, err := 0, data := List.replicate len.toNat 0, hasData := true }) else
  let s := if h.lastOp != .r then defaultSeek h s h.rpos else s
  -- codec read: `len` items straight from the current position
  let (got, s) := s.read (len.toNat * h.nb)
  let count : Int := got.length / h.nb
  let vals := h.enc.decodeAll h.conv ty got
  let (count, rpos, tail) :=
    if count ≤ (h.frames - h.rpos) * h.ch then (count, h.rpos + count / h.ch, List.replicate (len - count).toNat (pattern ty))
    else
      let c := (h.frames - h.rpos) * h.ch
      (c, h.frames, List.replicate (len - c).toNat 0)
  let h := { h with rpos := rpos, lastOp := .r }
  (h, s, { ret := if frameCall then count / h.ch else count, err := 0, data := vals.take count.toNat ++ tail, hasData := true })

def stepWrite (h : H) (s : Store) (ty : Ty) (frameCall : Bool) (n : Int) (data : List Int) : H × Store × Out :=
  if n == 0 then (h, s, { ret := 0, err := h.error }) else
  let h := { h with error := 0 }
  let len : Int := if frameCall then n * h.ch else n
  if n < 0 then ({ h with error := E_NEG_LEN }, s, { ret := 0, err := E_NEG_LEN }) else
  if h.mode == .r then ({ h with error := E_NOT_WRITEMODE }, s, { ret := 0, err := E_NOT_WRITEMODE }) else
  if !frameCall ∧ len % h.ch != 0 then ({ h with error := E_BAD_ALIGN }, s, { ret := 0, err := E_BAD_ALIGN }) else
  let s := if h.lastOp != .w then defaultSeek h s h.wpos else s
  let (h, s) := if !h.haveWritten ∧ h.container != .raw then writeHeader h s false else (h, s)
  let h := { h with haveWritten := true }
  let vals := data.take len.toNat
  let peak := peakUpdate h ty vals
  let s := s.write (h.enc.encodeAll h.conv ty vals)
  let count := len
  let wpos := h.wpos + count / h.ch
  let h := { h with wpos := wpos, lastOp := .w, peak := peak }
  let h := if wpos > h.frames then { h with frames := wpos, dataend := 0 } else h
  let (h, s) := if h.autoHeader ∧ h.container != .raw then writeHeader h s true else (h, s)
  (h, s, { ret := if frameCall then count / h.ch else count, err := 0 })

def modeBits : Mode → Int | .r => 0x10 | .w => 0x20 | .rw => 0x30

def stepSeek (h : H) (s : Store) (off : Int) (whence : Int) : H × Store × Out :=
  let h := { h with error := 0 }
  let wm := whence % 0x100 / 0x10 * 0x10        -- whence & SFM_MASK (0x30)
  let wm := wm % 0x40
  let fail (e : Int) : H × Store × Out := ({ h with error := e }, s, { ret := -1, err := e })
  if (wm == 0x20 ∧ h.mode == .r) ∨ (wm == 0x10 ∧ h.mode == .w) then fail E_WRONG_SEEK else
  -- (frames from start, or an immediate return value)
  let r : Except Int (Sum Int Int) :=
    if whence == 0 ∨ whence == 0x10 ∨ whence == 0x20 ∨ whence == 0x30 then .ok (.inl off)
    else if whence == 1 then
      if off == 0 ∧ h.mode == .r then .ok (.inr h.rpos)
      else if off == 0 ∧ h.mode == .w then .ok (.inr h.wpos)
      else if h.mode == .r then .ok (.inl (h.rpos + off)) else .ok (.inl (h.wpos + off))
    else if whence == 0x11 then (if off == 0 then .ok (.inr h.rpos) else .ok (.inl (h.rpos + off)))
    else if whence == 0x21 then (if off == 0 then .ok (.inr h.wpos) else .ok (.inl (h.wpos + off)))
    else if whence == 2 ∨ whence == 0x12 ∨ whence == 0x22 then .ok (.inl (h.frames + off))
    else .error E_BAD_SEEK
  match r with
  | .error e => fail e
  | .ok (.inr v) => (h, s, { ret := v, err := 0 })
  | .ok (.inl target) =>
    if (h.mode == .rw ∨ h.mode == .w) ∧ target < 0 then fail E_BAD_SEEK
    else if h.mode == .r ∧ (target < 0 ∨ target > h.frames) then fail E_BAD_SEEK
    else
      let newMode : Int := if wm != 0 then wm else modeBits h.mode
      let s := defaultSeek h s target
      let h := if newMode == 0x10 then { h with rpos := target, lastOp := .r }
               else if newMode == 0x20 then { h with wpos := target, lastOp := .w }
               else { h with rpos := target, wpos := target, lastOp := .r }
      (h, s, { ret := target, err := 0 })

/-- SFC_SET_NORM_FLOAT … : the argument travels in `datasize`; returns as sf_command does -/
def stepCmdFlag (h : H) (s : Store) (cmd : Nat) (size : Int) : H × Store × Out :=
  let h := { h with error := 0 }
  let b := size != 0
  let ofB (x : Bool) : Int := if x then 1 else 0
  match cmd with
  | 0x1013 => ({ h with conv := { h.conv with normF := b } }, s, { ret := ofB h.conv.normF })
  | 0x1012 => ({ h with conv := { h.conv with normD := b } }, s, { ret := ofB h.conv.normD })
  | 0x1011 => (h, s, { ret := ofB h.conv.normF })
  | 0x1010 => (h, s, { ret := ofB h.conv.normD })
  | 0x10C0 => ({ h with conv := { h.conv with clip := b } }, s, { ret := ofB b })
  | 0x10C1 => (h, s, { ret := ofB h.conv.clip })
  | 0x1015 => ({ h with conv := { h.conv with scaleIF := b } }, s, { ret := ofB h.conv.scaleIF })
  | 0x1061 => ({ h with autoHeader := b }, s, { ret := ofB b })
  | 0x1060 =>
    let (h, s) := if h.mode != .r ∧ h.container != .raw then writeHeader h s true else (h, s)
    (h, s, { ret := 0 })
  | _ => (h, s, { ret := 0, err := 0 })

/-- ftruncate: cut, or extend with zero bytes -/
def truncBytes (bs : List Byte) (n : Nat) : List Byte :=
  if n ≤ bs.length then bs.take n else bs ++ zeros (n - bs.length)

/-- SFC_FILE_TRUNCATE with a valid 8-byte argument -/
def stepTruncate (h : H) (s : Store) (frames : Int) : H × Store × Out :=
  let h := { h with error := 0 }
  if h.mode == .r then (h, s, { ret := 1 }) else
  -- since the TRUNC-VIO repair: SF_VIRTUAL_IO has no truncate callback; refused before the seek and before sf.frames is touched
  if !h.canTruncate then (h, s, { ret := 1 }) else
  let (h, s, o) := stepSeek h s frames 0
  if o.ret != frames then (h, s, { ret := 1, err := h.error }) else
  let h := { h with frames := frames }
  (h, { s with bytes := truncBytes s.bytes s.pos }, { ret := 0, err := 0 })

end Sf
