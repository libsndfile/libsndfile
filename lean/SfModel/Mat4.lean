/-
  SfModel.Mat4 — stand-alone byte-exact (L1) model of the MATLAB 4 / GNU Octave 2.0 container of src/mat4.c: two
  matrices, each "type, rows, cols, imag, name size, name, data": a 1 x 1 double "samplerate" and the
  channels x frames matrix "wavedata" (PCM_16, PCM_32, FLOAT or DOUBLE), everything in the byte order of the file.

  * `f64OfNat`, `natOfF64`   the sample rate as a binary64: `double64_{le,be}_write ((double) samplerate)` of an
                             integer in [1, 2^31) is that integer's IEEE bit string (SfProps/C20Ieee.lean,
                             `ieee_write_finite_f64`), `psf_lrint (double64_*_read (…))` of such a bit string is
                             the integer; other doubles are outside this model
  * `hdr`, `fmt`             mat4_write_header; the write session is `Sf.Small2.run (fmt c)`
  * `parse`                  sf_open (SFM_READ): guess_file_type, mat4_read_header, the codec init, validate_sfinfo
-/
import SfModel.Small2
namespace Sf.Mat4
open Sf Sf.Small2

/-! ## the rate as a double -/

/-- IEEE-754 binary64 bit string of the integer `n` (1 ≤ n < 2^53) -/
def f64OfNat (n : Nat) : Nat :=
  if n = 0 then 0 else
  let e := Nat.log2 n
  (1023 + e) * 2 ^ 52 + (n - 2 ^ e) * 2 ^ (52 - e)

/-- the integer a binary64 bit string stands for, when it is +0 or a positive integer below 2^31 -/
def natOfF64 (b : Nat) : Option Nat :=
  if b = 0 then some 0 else
  let E := b / 2 ^ 52 % 2048
  let T := b % 2 ^ 52
  if b / 2 ^ 63 = 0 ∧ 1023 ≤ E ∧ E ≤ 1053 ∧ T % 2 ^ (52 - (E - 1023)) = 0 then some (2 ^ (E - 1023) + T / 2 ^ (52 - (E - 1023)))
  else none

/-! ## configuration -/

structure Cfg where
  codec : Nat          -- PCM_16 = 2, PCM_32 = 4, FLOAT = 6, DOUBLE = 7
  endian : Nat         -- endian bits of the format word: 0 FILE, 1 LITTLE, 2 BIG, 3 CPU
  ch : Nat
  sr : Nat
deriving Repr, DecidableEq, Inhabited

def bytewidth (codec : Nat) : Nat := if codec = 2 then 2 else if codec = 7 then 8 else 4

/-- psf->endian: FILE and CPU mean little endian on this host -/
def Cfg.little (c : Cfg) : Bool := c.endian ≠ 2

def Cfg.wf (c : Cfg) : Prop :=
  (c.codec = 2 ∨ c.codec = 4 ∨ c.codec = 6 ∨ c.codec = 7) ∧ c.endian < 4 ∧ 1 ≤ c.ch ∧ c.ch ≤ 1024 ∧ 1 ≤ c.sr ∧ c.sr ≤ 0x7FFFFFFF
instance (c : Cfg) : Decidable c.wf := by unfold Cfg.wf; infer_instance

def Cfg.bw (c : Cfg) : Nat := bytewidth c.codec * c.ch

/-- the `sf.format` word a reader reports: the container records the byte order -/
def Cfg.fmtWord (c : Cfg) : Nat := (if c.little then 0x10000000 else 0x20000000) + 0x0C0000 + c.codec

/-- 32-bit and 64-bit fields in the byte order of the file -/
def w32 (little : Bool) (v : Int) : List Byte := if little then le32 v else be32 v
def w64 (little : Bool) (v : Nat) : List Byte := if little then leBytes 8 v else beBytes 8 v
def r32 (little : Bool) (b : List Byte) : Nat := if little then ofLE b else ofBE b

/-- the type word of a matrix: MAT4_{BE,LE}_{DOUBLE,FLOAT,PCM_32,PCM_16} (BE: 1000 + 10 k as a big-endian int;
    LE: 10 k as a little-endian int) -/
def typeIdx (codec : Nat) : Nat := if codec = 7 then 0 else if codec = 6 then 1 else if codec = 4 then 2 else 3
def typeWord (little : Bool) (k : Nat) : List Byte := if little then le32 (10 * k : Nat) else be32 (1000 + 10 * k : Nat)

/-- "samplerate\0" and "wavedata\0" -/
def srName : List Byte := [0x73, 0x61, 0x6D, 0x70, 0x6C, 0x65, 0x72, 0x61, 0x74, 0x65, 0]
def wdName : List Byte := [0x77, 0x61, 0x76, 0x65, 0x64, 0x61, 0x74, 0x61, 0]

/-- mat4_write_header: "m444" double 1 1 0, "4bd" 11 "samplerate" rate, "tm484" encoding channels frames 0,
    "4b" 9 "wavedata" -/
def hdr (c : Cfg) (f : Fields) : List Byte :=
  let l := c.little
  typeWord l 0 ++ w32 l 1 ++ w32 l 1 ++ w32 l 0 ++ w32 l 11 ++ srName ++ w64 l (f64OfNat c.sr) ++
  typeWord l (typeIdx c.codec) ++ w32 l c.ch ++ w32 l f.frames ++ w32 l 0 ++ w32 l 9 ++ wdName

def fmt (c : Cfg) : Fmt :=
  { hdrLen := 68, bw := c.bw, hdr := hdr c,
    recalc := fun n _ => { filelength := n, datalength := (n : Int) - 68, frames := ((n : Int) - 68) / ((c.bw : Nat) : Int) } }

/-- the rate field is a binary64: every rate in [1, 2^31 − 1] is exact -/
def quant (sr : Nat) : Nat := (natOfF64 (f64OfNat sr)).getD 0

/-! ## reader -/

/-- the `switch (marker)` of mat4_read_header on the second matrix: (codec, bytewidth) -/
def codecOf (m : List Byte) : Option (Nat × Nat) :=
  if m = [0, 0, 0x03, 0xE8] ∨ m = [0, 0, 0, 0] then some (7, 8)
  else if m = [0, 0, 0x03, 0xF2] ∨ m = [0x0A, 0, 0, 0] then some (6, 4)
  else if m = [0, 0, 0x03, 0xFC] ∨ m = [0x14, 0, 0, 0] then some (4, 4)
  else if m = [0, 0, 0x04, 0x06] ∨ m = [0x1E, 0, 0, 0] then some (2, 2)
  else none

/-- mat4_read_header + the codec init + validate_sfinfo; files that end inside the header are not described -/
def readHeader (bs : List Byte) : ParseRes :=
  if bs.length < 20 then .unmodelled else
  let (m1, r) := cut 4 bs
  let little : Bool := m1 = [0, 0, 0, 0]
  if m1 ≠ [0, 0, 0x03, 0xE8] ∧ m1 ≠ [0, 0, 0, 0] then .err else          -- SFE_UNIMPLEMENTED
  let (rows1, r) := cut 4 r
  let (cols1, r) := cut 4 r
  let (_, r) := cut 4 r
  let (ns1b, r) := cut 4 r
  let ns1 := r32 little ns1b
  if ns1 ≥ 64 then .err else                                               -- SFE_MAT4_BAD_NAME
  if bs.length < 20 + ns1 + 8 + 20 then .unmodelled else
  let (_, r) := cut ns1 r
  let (val, r) := cut 8 r
  if r32 little rows1 ≠ 1 ∨ r32 little cols1 ≠ 1 then .err else           -- SFE_MAT4_NO_SAMPLERATE
  let (m2, r) := cut 4 r
  let (rows2, r) := cut 4 r
  let (cols2, r) := cut 4 r
  let (_, r) := cut 4 r
  let (ns2b, _) := cut 4 r
  let ns2 := r32 little ns2b
  if ns2 ≥ 64 then .err else
  let dataoffset := 20 + ns1 + 8 + 20 + ns2
  if bs.length < dataoffset then .unmodelled else
  let rows : Int := sext 32 (r32 little rows2)
  let cols : Int := sext 32 (r32 little cols2)
  if rows = 0 ∨ rows > 1024 then .err else                                 -- SFE_CHANNEL_COUNT_ZERO / SFE_CHANNEL_COUNT
  match codecOf m2 with
  | none => .err                                                           -- SFE_UNIMPLEMENTED
  | some (codec, bytew) =>
    match natOfF64 (r32 little val) with
    | none => .unmodelled                                                  -- a rate that is not a small integer
    | some sr =>
      let room : Int := (bs.length : Int) - dataoffset
      let need : Int := rows * cols * bytew
      let dataend : Int := if room > need then dataoffset + need else 0
      let dl : Int := if (bs.length : Int) > dataoffset then (if dataend > 0 then dataend - dataoffset else room) else 0
      if rows < 1 ∨ dl < 0 ∨ sr < 1 then .err else                         -- codec init, validate_sfinfo, validate_psf
      .ok { ch := rows.toNat, fmt := (if little then 0x10000000 else 0x20000000) + 0x0C0000 + codec, sr := sr,
            frames := (framesOf bs.length dataoffset dataend (bytew * rows)).toNat }

/-- `sf_open_virtual (SFM_READ)` on `bs` -/
def parse (bs : List Byte) : ParseRes :=
  if bs.length < 12 then .err else                    -- guess_file_type: SFE_BAD_FILE_READ
  match guess bs with
  | some (.fmt 0x0C0000) => readHeader bs
  | _ => .unmodelled

end Sf.Mat4
