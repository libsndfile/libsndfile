/-
  sf_read_raw / sf_write_raw over the adversarial I/O oracle of SfModel/Faults.lean (round 8, gap worker gape; the code as of /repo
  41084a9 plus the `whole_frames` rounding of the later repair 230abc1).  SfModel/Faults.lean leaves the two raw entry
  points out; in an SFM_RDWR session they share `last_op` with the typed calls, so each of them starts with the re-seek

      if (psf->last_op != SFM_WRITE) if (psf->seek (psf, SFM_WRITE, psf->write_current) < 0) return 0 ;

  whose failure must keep the call from transferring anything: the file position is then still the one of the OTHER direction.

    stepWriteRaw o h hist n data     sf_write_raw (n bytes): guards, re-seek, first header, ONE psf_fwrite (ptr, 1, n), positions, auto header
    stepReadRaw o h hist n           sf_read_raw (n bytes): guards, re-seek, ONE psf_fread (ptr, 1, n), the clamp at the end of the data
  `Out.data` of a raw read = the delivered bytes (one byte per cell).  `sfmodel faults` interprets `wraw` / `rraw` lines with them.
-/
import SfModel.Faults
namespace Sf.FaultsRaw
open Sf Sf.Faults

/-- `(psf->bytewidth > 0) ? psf->bytewidth : 1`, `(psf->blockwidth > 0) ? psf->blockwidth : 1` -/
def bytewidth1 (h : H) : Nat := if h.nb > 0 then h.nb else 1
def blockwidth1 (h : H) : Nat := if h.bw > 0 then h.bw else 1

def rawWriteGuard (h : H) (n : Int) : Option Int :=
  if n < 0 then some E_NEG_LEN
  else if h.mode == .r then some E_NOT_WRITEMODE
  else if n % ((h.ch * bytewidth1 h : Nat) : Int) != 0 then some E_BAD_ALIGN
  else none

/-- after the guards: the re-seek, the first header, the transfer, the bookkeeping, the auto header -/
def writeRawCore (o : Oracle) (h : H) (hist : Hist) (len : Nat) (data : List Byte) : Res :=
  let sk : Int × H × Hist := if h.lastOp != .w then Faults.defaultSeek o h hist h.wpos else (0, h, hist)
  if sk.1 < 0 then ⟨sk.2.1, sk.2.2, { ret := 0, err := sk.2.1.error }⟩ else
  let wh : Int × H × Hist := if !sk.2.1.haveWritten ∧ sk.2.1.container != .raw then Faults.writeHeader o sk.2.1 sk.2.2 false else (0, sk.2.1, sk.2.2)
  if wh.1 != 0 then ⟨{ wh.2.1 with error := wh.1 }, wh.2.2, { ret := 0, err := wh.1 }⟩ else
  let fw := fwrite o wh.2.2 1 len (data.take len)
  let count : Int := fw.1
  let wpos := wh.2.1.wpos + count / (blockwidth1 wh.2.1 : Nat)
  -- since 230abc1: `count = whole_frames (psf, count, blockwidth)` — the byte count handed back is rounded down to whole frames and
  -- `last_op` is cleared when it had to be rounded (the next call re-seeks)
  let wf := Faults.wholeFrames count (blockwidth1 wh.2.1) .w
  let h' : H := { wh.2.1 with haveWritten := true, wpos := wpos, lastOp := wf.2,
                              frames := if wpos > wh.2.1.frames then wpos else wh.2.1.frames,
                              dataend := if wpos > wh.2.1.frames then 0 else wh.2.1.dataend }
  if h'.autoHeader ∧ h'.container != .raw then
    ⟨(Faults.writeHeader o h' fw.2 true).2.1, (Faults.writeHeader o h' fw.2 true).2.2, { ret := wf.1, err := 0 }⟩
  else ⟨h', fw.2, { ret := wf.1, err := 0 }⟩

def stepWriteRaw (o : Oracle) (h : H) (hist : Hist) (n : Int) (data : List Byte) : Res :=
  if n == 0 then ⟨h, hist, { ret := 0, err := h.error }⟩ else
  match rawWriteGuard h n with
  | some e => ⟨{ h with error := e }, hist, { ret := 0, err := e }⟩
  | none => writeRawCore o { h with error := 0 } hist n.toNat data

/-- sf_read_raw after its guards -/
def readRawCore (o : Oracle) (h : H) (hist : Hist) (len : Nat) : Res :=
  let sk : Int × H × Hist := if h.lastOp != .r then Faults.defaultSeek o h hist h.rpos else (0, h, hist)
  if sk.1 < 0 then ⟨sk.2.1, sk.2.2, { ret := 0, err := sk.2.1.error }⟩ else
  let fr := fread o sk.2.2 1 len
  let count : Int := fr.2.1
  let room : Int := (sk.2.1.frames - sk.2.1.rpos) * (blockwidth1 sk.2.1 : Nat)
  let cr : Int × Int :=
    if count ≤ room then (count, sk.2.1.rpos + count / (blockwidth1 sk.2.1 : Nat)) else (room, sk.2.1.frames)
  let wf := Faults.wholeFrames cr.1 (blockwidth1 sk.2.1) .r      -- since 230abc1: whole frames only, `last_op` cleared when rounded
  ⟨{ sk.2.1 with rpos := cr.2, lastOp := wf.2 }, fr.2.2,
   { ret := wf.1, err := 0, data := (fr.1.take cr.1.toNat).map (fun (b : Byte) => Int.ofNat b), hasData := true }⟩

def stepReadRaw (o : Oracle) (h : H) (hist : Hist) (n : Int) : Res :=
  if n == 0 then ⟨h, hist, { ret := 0, err := h.error }⟩ else
  if h.mode == .w then ⟨{ h with error := E_NOT_READMODE }, hist, { ret := 0, err := E_NOT_READMODE }⟩ else
  if n < 0 ∨ h.rpos ≥ h.frames then ⟨{ h with error := 0 }, hist, { ret := 0, err := 0, hasData := true }⟩ else
  if n % ((h.ch * bytewidth1 h : Nat) : Int) != 0 then ⟨{ h with error := E_BAD_ALIGN }, hist, { ret := 0, err := E_BAD_ALIGN }⟩ else
  readRawCore o { h with error := 0 } hist n.toNat

/-- the write requests of a history -/
def writesOf (hist : Hist) : List (List Byte) := hist.filterMap fun ra => match ra.1 with | .write d => some d | _ => none

end Sf.FaultsRaw
