/-
  SD2 (src/sd2.c): Sound Designer II.  The data file is raw big-endian PCM (8 / 16 / 24 / 32 bits); everything a
  reader needs -- sample size, sample rate, channel count -- lives in the Macintosh RESOURCE FORK, which the library
  keeps in a side file `._<name>` (path route only; sf_open_fd / sf_open_virtual refuse SD2).

  Writer: `rsrc c` = the bytes sd2_write_rsrc_fork puts into the side file, bug for bug:
    * the fork is assembled in psf->header (256 bytes at that moment, memset to 0xEA; every later
      psf_bump_header_allocation zero-fills what it adds): bytes nobody writes are 0xEA below offset 256 and 0 above
      (`fill`; `rsrcWith f` = the fork over an arbitrary background `f`, `rsrcOn zeroNew mem` = over a given heap);
    * the second copy of the four header longs ("very start of resource map") is written at 0x5A, right behind
      the 'Sd2f' 'lsf1' markers, not at map_offset;
    * the Pascal names of the resources are written with 'p' (length byte + an odd number of bytes) but the offset
      advances by strlen only: each name overwrites the tail of its predecessor and the last one is cut (`strArea`);
    * the item list has room for five items, four are written (the fifth stays background);
    * the values are Pascal strings "<len><decimal text>" (rate: "%d.000000"), the 'sdML' item is 8 zero bytes.
  Reader: `parseFork len` = sd2_parse_rsrc_fork + parse_str_rsrc as a PROGRAM OF BYTE READS (`Prog`: a tree whose
  only effect is `read i` = one access to rsrc_data [i]); `Prog.run g` interprets it over the bytes `g` and returns the
  answer together with the list of offsets it touched.  The guards are the C guards (read_rsrc_char / _short / _int /
  _marker / _str return 0 / "" when the offset is outside), C `int` additions of file-supplied numbers wrap
  (`wrapS 32`, what gcc does; they are signed overflows, i.e. undefined, in C).  Every other addition is exact: it
  cannot overflow for forks shorter than 2^30 bytes.
  `openInfo` = the rest of sd2_open (format word, pcm_init, validate_sfinfo) on the parsed triple and the length of
  the data file.
-/
import SfModel.Basic
import SfModel.Small2
import SfModel.Pvf

namespace Sf.Sd2
open Sf Sf.Small2
open Sf.Pvf (digits scanInt)

/-! ## programs of byte reads -/

inductive Prog (α : Type) where
  | pure : α → Prog α
  | read : Nat → (Byte → Prog α) → Prog α

namespace Prog

def bind : Prog α → (α → Prog β) → Prog β
  | .pure a, f => f a
  | .read i k, f => .read i (fun b => (k b).bind f)

instance : Monad Prog where
  pure := Prog.pure
  bind := Prog.bind

/-- the answer and the offsets read, in order -/
def run (g : Nat → Byte) : Prog α → α × List Nat
  | .pure a => (a, [])
  | .read i k => let r := (k (g i)).run g; (r.1, i :: r.2)

/-- every `read` the program can ever perform, whatever the bytes are, lies below `len` -/
inductive Bounded (len : Nat) : Prog α → Prop where
  | pure (a : α) : Bounded len (.pure a)
  | read (i : Nat) (k : Byte → Prog α) : i < len → (∀ b, Bounded len (k b)) → Bounded len (.read i k)

end Prog

/-! ## writer -/

structure Cfg where
  size : Nat            -- psf->bytewidth: 1 … 4
  rate : Nat
  ch : Nat
  name : List Byte := []   -- psf->file.name (no NUL)
deriving Repr, DecidableEq, Inhabited

/-- what sf_open accepts for SD2 in write mode (the name bound keeps the Pascal file name below offset 0x100) -/
def Cfg.wf (c : Cfg) : Prop :=
  1 ≤ c.size ∧ c.size ≤ 4 ∧ 1 ≤ c.ch ∧ c.ch ≤ 1024 ∧ 1 ≤ c.rate ∧ c.rate ≤ 0x7FFFFFFF ∧ c.name.length ≤ 200

instance (c : Cfg) : Decidable c.wf := by unfold Cfg.wf; infer_instance

/-- SF_FORMAT_PCM_S8 / 16 / 24 / 32 of a byte width -/
def codecOf (size : Nat) : Nat := size

/-- 'p' of psf_binheader_writef on a NUL-terminated string that lies in a zeroed array -/
def pascal (s : List Byte) : List Byte :=
  let n := s.length
  let sz := min (if n % 2 = 1 then n else n + 1) 254
  sz :: (s ++ List.replicate 255 0).take sz

/-- `buf` with `bs` stored at `off` -/
def poke (buf : List Byte) (off : Nat) (bs : List Byte) : List Byte := buf.take off ++ bs ++ buf.drop (off + bs.length)

/-- the decimal texts of resources 1000 / 1001 / 1002 -/
def sizeText (c : Cfg) : List Byte := digits c.size
def rateText (c : Cfg) : List Byte := digits c.rate ++ asc ".000000"
def chText (c : Cfg) : List Byte := digits c.ch

/-- `snprintf (value, 32, "_%d…")`, then value [0] = strlen - 1 -/
def pstr (t : List Byte) : List Byte := t.length :: t

/-- the four values: three Pascal strings and the eight zero bytes of 'sdML' 1000 -/
def values (c : Cfg) : List (List Byte) := [pstr (sizeText c), pstr (rateText c), pstr (chText c), List.replicate 8 0]

/-- one resource in the data region: length, bytes -/
def entry (v : List Byte) : List Byte := be32 v.length ++ v

def dataRegion (c : Cfg) : List Byte := entry (pstr (sizeText c)) ++ entry (pstr (rateText c)) ++ entry (pstr (chText c)) ++ entry (List.replicate 8 0)

/-- offsets of the four resources inside the data region -/
def off0 (_ : Cfg) : Nat := 0
def off1 (c : Cfg) : Nat := 5 + (sizeText c).length
def off2 (c : Cfg) : Nat := off1 c + 5 + (rateText c).length
def off3 (c : Cfg) : Nat := off2 c + 5 + (chText c).length
def dataLen (c : Cfg) : Nat := off3 c + 12
def mapOff (c : Cfg) : Nat := 256 + dataLen c
def mapLen : Nat := 147
def total (c : Cfg) : Nat := mapOff c + mapLen

/-- `n` background bytes from offset `start` -/
def gap (f : Nat → Byte) (start n : Nat) : List Byte := (List.range n).map (fun j => f (start + j))

/-- the 41 bytes the overlapping 'p' writes of "_sample-size" "_sample-rate" "_channels" "_Markers" leave, cut at
    map_length -/
def strArea : List Byte :=
  [0x0d, 0x0b] ++ asc "sample-siz" ++ [0x0d, 0x0b] ++ asc "sample-rat" ++ [0x09, 0x08] ++ asc "channel" ++ [0x09, 0x07] ++ asc "Marker"

/-- one 12-byte reference-list item: id, name offset, data offset, 4 bytes nobody writes -/
def item (f : Nat → Byte) (pos id nameOff dataOff : Nat) : List Byte :=
  be16 id ++ be16 nameOff ++ be32 dataOff ++ gap f (pos + 8) 4

def mapRegion (f : Nat → Byte) (c : Cfg) : List Byte :=
  let m := mapOff c
  gap f m 12 ++ be32 mapLen ++ [1, 0x12, 0x34, 0x56, 0x78, 0xab, 0xcd, 0] ++ be16 28 ++ be16 106 ++ be16 1
  ++ asc "STR " ++ be16 2 ++ be16 0x12 ++ asc "sdML" ++ be16 0 ++ be16 0x36
  ++ item f (m + 46) 1000 0 (off0 c) ++ item f (m + 58) 1001 12 (off1 c) ++ item f (m + 70) 1002 24 (off2 c)
  ++ item f (m + 82) 1000 33 (off3 c) ++ gap f (m + 94) 12 ++ strArea

/-- the first 256 bytes -/
def head (f : Nat → Byte) (c : Cfg) : List Byte :=
  let m : Int := mapOff c
  let d : Int := dataLen c
  let b1 := poke (gap f 0 256) 0x30 (pascal c.name)
  let b2 := poke b1 0x50 ([0, 0] ++ asc "Sd2f" ++ asc "lsf1" ++ be32 m ++ be32 256 ++ be32 m ++ be32 d)
  poke b2 0 (be32 256 ++ be32 m ++ be32 d ++ be32 mapLen)

/-- the fork over the background `f` -/
def rsrcWith (f : Nat → Byte) (c : Cfg) : List Byte := head f c ++ dataRegion c ++ mapRegion f c

/-- the header buffer before the first write: `memset (…, 0xea, 256)`, then psf_bump_header_allocation doubles it to
    512 bytes and (`zeroNew`, the current code) clears the new half; `mem` = what the heap held -/
def fill (zeroNew : Bool) (mem : Nat → Byte) (i : Nat) : Byte :=
  if i < 256 then 0xEA else if i < 512 ∧ zeroNew then 0 else mem i

def rsrcOn (zeroNew : Bool) (mem : Nat → Byte) (c : Cfg) : List Byte := rsrcWith (fill zeroNew mem) c

/-- the resource fork sd2_write_rsrc_fork writes -/
def rsrc (c : Cfg) : List Byte := rsrcOn true (fun _ => 0) c

/-! ## reader -/

/-- the SFE_SD2_* codes of sd2_parse_rsrc_fork / parse_str_rsrc -/
inductive E
  | badDataOffset | badMapOffset | badDataLength | badMapLength | badRsrc | badSampleSize
deriving Repr, DecidableEq, Inhabited

structure Params where
  size : Int
  rate : Int
  ch : Int
deriving Repr, DecidableEq, Inhabited

inductive PRes
  | ok (p : Params)
  | err (e : E)
  | fuel                     -- the loop bound of the model was too small (never: `sd2_parse_never_fuel`)
deriving Repr, DecidableEq, Inhabited

def isPrint (b : Byte) : Bool := 0x20 ≤ b ∧ b ≤ 0x7E

section reads
variable (len : Int)

/-- `data [off]` for an offset the guard has let through -/
def byteAt (off : Int) : Prog Int := .read off.toNat (fun b => .pure (b : Int))

def rdChar (off : Int) : Prog Int :=
  if off < 0 ∨ off ≥ len then pure 0 else byteAt off

def rdShort (off : Int) : Prog Int :=
  if off < 0 ∨ off + 1 ≥ len then pure 0 else do
    let a ← byteAt off
    let b ← byteAt (off + 1)
    pure (a * 256 + b)

def rdInt (off : Int) : Prog Int :=
  if off < 0 ∨ off + 3 ≥ len then pure 0 else do
    let a ← byteAt off
    let b ← byteAt (off + 1)
    let c ← byteAt (off + 2)
    let d ← byteAt (off + 3)
    pure (wrapS 32 (a * 16777216 + b * 65536 + c * 256 + d))

/-- read_rsrc_marker compared with a four-character code: the four bytes, or `none` when the guard refuses -/
def rdMarker (off : Int) : Prog (Option (List Int)) :=
  if off < 0 ∨ off + 3 ≥ len then pure none else do
    let a ← byteAt off
    let b ← byteAt (off + 1)
    let c ← byteAt (off + 2)
    let d ← byteAt (off + 3)
    pure (some [a, b, c, d])

/-- the copy loop of read_rsrc_str: `n` = buffer_len - 1 characters at most, stops at (and has read) the first
    character that is not printable -/
def copyLoop : Nat → Int → Prog (List Byte)
  | 0, _ => pure []
  | n + 1, off => .read off.toNat (fun b => if isPrint b then (copyLoop n (off + 1)).bind (fun r => .pure (b :: r)) else .pure [])

def rdStr (off : Int) (bufLen : Int) : Prog (List Byte) :=
  if off < 0 ∨ off + bufLen ≥ len then pure [] else copyLoop (bufLen - 1).toNat off

end reads

/-- `strstr (value, "Photoshop")` -/
def hasInfix (pat : List Byte) : List Byte → Bool
  | [] => pat.isEmpty
  | b :: r => pat.isPrefixOf (b :: r) || hasInfix pat r

/-- `(int) strtol (value, NULL, 10)` on a string of printable characters: no digits = 0, LONG range saturates -/
def strtol (s : List Byte) : Int :=
  match scanInt s with
  | none => 0
  | some (v, _) =>
    let l : Int := if v > 0x7FFFFFFFFFFFFFFF then 0x7FFFFFFFFFFFFFFF else if v < -0x8000000000000000 then -0x8000000000000000 else v
    wrapS 32 l

structure LoopSt where
  strOff : Int
  dataOff : Int := 0
  dataLen : Int := 0
  size : Int := 0
  rate : Int := 0
  ch : Int := 0
deriving Repr, DecidableEq, Inhabited

/-- the `for (k = 0 ; data_offset + data_len < rsrc_len ; k++)` loop of parse_str_rsrc; `some s` = the loop has
    ended in state `s`, `none` = out of fuel -/
def strLoopK (len rsrcDataOff itemOff : Int) : Nat → Int → LoopSt → Prog (Option LoopSt)
  | 0, _, _ => pure none
  | fuel + 1, k, s =>
    if ¬ (s.dataOff + s.dataLen < len) then pure (some s) else do
      let slen ← rdChar len s.strOff
      let _name ← rdStr len (s.strOff + 1) (min 32 (slen + 1))
      let strOff := s.strOff + slen + 1
      let idOff := itemOff + k * 12
      if idOff < 0 ∨ idOff + 1 ≥ len then pure (some { s with strOff := strOff }) else do
        let id ← rdShort len idOff
        let rel ← rdInt len (itemOff + k * 12 + 4)
        let dataOff := wrapS 32 (rsrcDataOff + rel)
        if dataOff < 0 ∨ dataOff > len then pure (some { s with strOff := strOff, dataOff := dataOff }) else do
          let dataLen ← rdInt len dataOff
          if dataLen < 0 ∨ dataLen > len then pure (some { s with strOff := strOff, dataOff := dataOff, dataLen := dataLen }) else do
            let vlen ← rdChar len (dataOff + 4)
            let value ← rdStr len (dataOff + 5) (min 32 (vlen + 1))
            let s1 := { s with strOff := strOff, dataOff := dataOff, dataLen := dataLen }
            if hasInfix (asc "Photoshop") value then pure (some s1) else
              let s2 : LoopSt :=
                if id = 1000 ∧ s1.size = 0 then { s1 with size := strtol value }
                else if id = 1001 ∧ s1.rate = 0 then { s1 with rate := strtol value }
                else if id = 1002 ∧ s1.ch = 0 then { s1 with ch := strtol value }
                else s1
              strLoopK len rsrcDataOff itemOff fuel (k + 1) s2

/-- what parse_str_rsrc does with the three numbers once the loop has ended -/
def finish (s : LoopSt) : PRes :=
  let (rate, size) := if s.rate ≤ 4 ∧ s.size > 4 then (s.size, s.rate) else (s.rate, s.size)
  if rate < 0 then .err .badRsrc else
  if s.ch < 0 then .err .badRsrc else
  if size = 1 ∨ size = 2 ∨ size = 3 ∨ size = 4 then .ok { size := size, rate := rate, ch := s.ch } else .err .badSampleSize

/-- iterations of the string loop a fork of `len` bytes can make: iteration k needs item_offset + 12 k + 1 < len -/
def loopFuel (len : Int) : Nat := len.toNat / 12 + 2

def parseStr (len rsrcDataOff itemOff strOff : Int) : Prog PRes := do
  match ← strLoopK len rsrcDataOff itemOff (loopFuel len) 0 { strOff := strOff } with
  | none => pure .fuel
  | some s => pure (finish s)

/-- the type-list loop: the first 'STR ' type starts parse_str_rsrc -/
def typeLoop (len rsrcDataOff typeOff itemOff strOff : Int) : Nat → Int → Prog PRes
  | 0, _ => pure (.err .badRsrc)                                    -- "No 'STR ' resource."
  | n + 1, k => do
    let m ← rdMarker len (typeOff + k * 8)
    if m = some [0x53, 0x54, 0x52, 0x20] then do
      let _strCount ← rdShort len (typeOff + k * 8 + 4)
      parseStr len rsrcDataOff itemOff strOff
    else typeLoop len rsrcDataOff typeOff itemOff strOff n (k + 1)

/-- sd2_parse_rsrc_fork on a fork of `len` bytes (the two `goto cleanup` with error = 0 -- "Bad map offset." after the
    string offset and "Bad rsrc marker." inside the type loop -- cannot be reached: the tests before them are stronger) -/
def parseFork (len : Int) : Prog PRes := do
  let d0 ← rdInt len 0
  let m0 ← rdInt len 4
  let dl0 ← rdInt len 8
  let ml0 ← rdInt len 12
  let (dOff, mOff, dLen, mLen) ←
    (if d0 = 0x51607 ∧ m0 = 0x20000 then do
      let a ← rdInt len 0x52
      let b ← rdInt len (0x52 + 4)
      let c ← rdInt len (0x52 + 8)
      let d ← rdInt len (0x52 + 12)
      pure (wrapS 32 (a + 0x52), wrapS 32 (b + 0x52), c, d)
    else pure (d0, m0, dl0, ml0) : Prog (Int × Int × Int × Int))
  if dOff > len then pure (.err .badDataOffset) else
  if mOff > len then pure (.err .badMapOffset) else
  if dLen > len then pure (.err .badDataLength) else
  if mLen > len then pure (.err .badMapLength) else
  if wrapS 32 (dOff + dLen) ≠ mOff ∨ wrapS 32 (mOff + mLen) ≠ len then pure (.err .badRsrc) else
  if mOff + 28 ≥ len then pure (.err .badRsrc) else do
    let so ← rdShort len (mOff + 26)
    let strOff := mOff + so
    if strOff > len then pure (.err .badRsrc) else do
      let typeOff := mOff + 30
      let tc ← rdShort len (mOff + 28)
      let typeCount := tc + 1
      if typeCount < 1 then pure (.err .badRsrc) else
        let itemOff := typeOff + typeCount * 8
        if itemOff < 0 ∨ itemOff > len then pure (.err .badRsrc) else
          typeLoop len dOff typeOff itemOff strOff typeCount.toNat 0

/-- the parser on a byte string: answer and offsets read -/
def parseRun (bs : List Byte) : PRes × List Nat := (parseFork bs.length).run (fun i => bs.getD i 0)

def parseRsrc (bs : List Byte) : PRes := (parseRun bs).1

/-- the offsets of the fork the parser reads on `bs` -/
def parseReads (bs : List Byte) : List Nat := (parseRun bs).2

/-! ## the rest of sd2_open (read mode) -/

/-- SF_INFO of the handle, given the parsed parameters and the length of the data file: format word, pcm_init
    (frames = file length / block width), validate_sfinfo -/
def openInfo (p : Params) (dataFileLen : Nat) : ParseRes :=
  if p.ch < 1 ∨ p.ch > 1024 ∨ p.rate < 1 then .err else
  .ok { ch := p.ch.toNat, fmt := 0x160000 + codecOf p.size.toNat, sr := p.rate.toNat,
        frames := dataFileLen / (p.size.toNat * p.ch.toNat) }

/-- re-open of an SD2 file whose data file was recognised as nothing else: fork bytes + data file length -/
def reopen (fork : List Byte) (dataFileLen : Nat) : ParseRes :=
  if fork = [] then .err else                        -- no (or an empty) side file: not an SD2 file
  match parseRsrc fork with
  | .ok p => openInfo p dataFileLen
  | .err _ => .err
  | .fuel => .unmodelled

/-- the tests of guess_file_type that lie between the HTK test and try_resource_fork, on a file of at least 12 bytes:
    `some true` = the resource fork is tried, `some false` = another branch decides, `none` = not described here (ID3
    tags are skipped and the test restarts) -/
def laterTests (data : List Byte) : Option Bool :=
  match Small2.guess data with
  | some _ => some false
  | none =>
    let a := data.take 4
    let b := (data.drop 4).take 4
    let c := (data.drop 8).take 4
    if a = asc "fLaC" ∨ a = asc "2BIT" ∨ (a = asc "RF64" ∧ c = asc "WAVE") then some false
    else if a.take 3 = asc "ID3" ∧ (a.getD 3 0 = 2 ∨ a.getD 3 0 = 3 ∨ a.getD 3 0 = 4) then none
    else if (a = asc "SOUN" ∧ b = asc "D SA") ∨ a = asc "SY80" ∨ a = asc "SY85" ∨ a = asc "ajkg" then some false
    else some true

/-- does guess_file_type reach try_resource_fork on this data file?  A file too short for the 12-byte probe has no
    header of any kind: the resource fork is tried (the repaired rule) -/
def reachesFork (data : List Byte) : Option Bool :=
  if data.length < 12 then some true else laterTests data

/-- before the repair of KF-C04-SD2-SHORT-DATA: a short probe read ended the open with SFE_BAD_FILE_READ -/
def reachesForkOld (data : List Byte) : Option Bool :=
  if data.length < 12 then some false else laterTests data

/-- sf_open (SFM_READ) on the data file `data` with the side file `fork` -/
def reopenFileWith (rf : List Byte → Option Bool) (data fork : List Byte) : ParseRes :=
  match rf data with
  | some true => reopen fork data.length
  | some false => if data.length < 12 then .err else .unmodelled     -- another container's reader decides
  | none => .unmodelled

def reopenFile (data fork : List Byte) : ParseRes := reopenFileWith reachesFork data fork
def reopenFileOld (data fork : List Byte) : ParseRes := reopenFileWith reachesForkOld data fork

end Sf.Sd2
