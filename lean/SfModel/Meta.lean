/-
  SfModel.Meta — metadata that is set before the audio and must survive close and re-open (property C12).

  Code-shaped model (bug for bug) of
    src/strings.c    psf_store_string (32 slots, replacement marks -1, start/end placement, software suffix through a
                     128-byte buffer, growth of the store), psf_get_string, psf_location_string_count
    src/wavlike.c    wavlike_write_strings (LIST/INFO: id, length incl. NUL, even padding, size back-patch),
                     wavlike_subchunk_parse (INFO part; text buffer sized by the LIST chunk since the repair, `char buffer [2048]`
                     before), wavlike_write_bext_chunk /
                     wavlike_read_bext_chunk, wavlike_write_cart_chunk / wavlike_read_cart_chunk
    src/broadcast.c  broadcast_var_set (psf_strlcpy_crlf, added line end, added history line, even size, version 2)
    src/cart.c       cart_var_set
    src/common.c     psf_strlcpy_crlf, psf_strlcat, the 's' case of psf_binheader_writef
    src/wav.c        the `cue ` and `smpl` writers of wav_write_header, the `cue ` reader, wav_read_smpl_chunk
    src/sndfile.c    the guards of sf_set_string, SFC_SET_BROADCAST_INFO, SFC_SET_CART_INFO, SFC_SET_CUE,
                     SFC_SET_INSTRUMENT (container, mode, have_written)
  for little-endian RIFF/WAVE files on a little-endian host.  Core Lean only (the driver links against this).
-/
import SfModel.Basic
namespace Sf.Meta

/-! ## 0. Bytes -/

/-- the C string at the start of a buffer: the bytes before the first NUL -/
def cstr (b : List Byte) : List Byte := b.takeWhile (· ≠ 0)

def le4 (v : Nat) : List Byte := leBytes 4 v
def le2 (v : Nat) : List Byte := leBytes 2 v
def zeros (n : Nat) : List Byte := List.replicate n 0

/-- a field of fixed width: the caller's bytes cut or zero-filled to `n` -/
def fixW (n : Nat) (b : List Byte) : List Byte := b.take n ++ zeros (n - b.length)

def ascii (s : String) : List Byte := s.toList.map Char.toNat

/-- `strstr (hay, needle) != NULL` -/
def isInfix (needle : List Byte) : List Byte → Bool
  | [] => needle.isEmpty
  | h :: t => needle.isPrefixOf (h :: t) || isInfix needle t

/-! ## 1. The string table (strings.c) -/

def SF_STR_ALLOW_START : Nat := 0x0100
def SF_STR_ALLOW_END : Nat := 0x0200
def SF_STR_LOCATE_START : Nat := 0x0400
def SF_STR_LOCATE_END : Nat := 0x0800
def SF_MAX_STRINGS : Nat := 32

def SFE_STR_NO_SUPPORT : Nat := 53
def SFE_STR_NOT_WRITE : Nat := 54
def SFE_STR_MAX_DATA : Nat := 55
def SFE_STR_MAX_COUNT : Nat := 56
def SFE_STR_BAD_TYPE : Nat := 57
def SFE_STR_NO_ADD_END : Nat := 58
def SFE_STR_BAD_STRING : Nat := 59
def SFE_STR_WEIRD : Nat := 60

/-- one `STR_DATA` element: `type` 0 = free, -1 = replaced, otherwise SF_STR_* -/
structure Slot where
  type   : Int
  flags  : Nat
  offset : Nat
deriving DecidableEq, Repr

def Slot.free : Slot := ⟨0, 0, 0⟩

/-- `psf->strings`: `used` bytes of `storage` are in use, `cap` is `storage_len` -/
structure Strings where
  slots   : List Slot
  storage : List Byte
  cap     : Nat
  flags   : Nat
deriving DecidableEq, Repr

def Strings.init (flags : Nat) : Strings := ⟨List.replicate SF_MAX_STRINGS Slot.free, [], 0, flags⟩

def Strings.used (t : Strings) : Nat := t.storage.length

inductive Mode | read | write | rdwr
deriving DecidableEq, Repr

/-- the slot loop of psf_store_string before the repair: entries of the same type are marked -1 on the way, the walk stops at the first
    free slot.  Returns the slots as the loop leaves them and the index `k` (= number of slots when none is free).
    With `ty = 0` every free slot "matches" and is marked -1 (the caller's type is validated only later). -/
def scan (ty : Int) : List Slot → List Slot × Nat
  | [] => ([], 0)
  | s :: rest =>
    let s1 : Slot := if s.type = ty then { s with type := -1 } else s
    if s1.type = 0 then (s1 :: rest, 0)
    else ((s1 :: (scan ty rest).1), (scan ty rest).2 + 1)

def validType (ty : Int) : Bool :=
  ty = 1 || ty = 2 || ty = 3 || ty = 4 || ty = 5 || ty = 6 || ty = 7 || ty = 8 || ty = 9 || ty = 16

/-- the text stored for SF_STR_SOFTWARE in write mode: the suffix is appended unless the package name already occurs
    (built in a buffer of the size it needs since the repair) -/
def softwareText (pkgName pkgVersion s : List Byte) : List Byte :=
  if isInfix pkgName s then s
  else if s.isEmpty then pkgName ++ [45] ++ pkgVersion
  else s ++ [32, 40] ++ pkgName ++ [45] ++ pkgVersion ++ [41]

/-- the rule before the repair ("fix: SF_STR_SOFTWARE strings were cut to 127 bytes"): the text went through
    `char new_str [128]` -/
def softwareTextOld (pkgName pkgVersion s : List Byte) : List Byte := (softwareText pkgName pkgVersion s).take 127

structure Env where
  mode        : Mode
  haveWritten : Bool
  pkgName     : List Byte
  pkgVersion  : List Byte
deriving Repr

def isWriteMode (m : Mode) : Bool := m = .write || m = .rdwr

/-- the slot loop since the repair ("fix: a refused sf_set_string erased the string it was meant to replace"): the index of
    the first free slot (= number of slots when none is free); nothing is modified -/
def firstFree : List Slot → Nat
  | [] => 0
  | s :: rest => if s.type = 0 then 0 else firstFree rest + 1

/-- entries of type `ty` among the first `k` slots are marked as replaced (done only once the call cannot fail any more) -/
def markBefore (ty : Int) : Nat → List Slot → List Slot
  | 0, l => l
  | _, [] => []
  | k+1, s :: rest => (if s.type = ty then { s with type := -1 } else s) :: markBefore ty k rest

/-- `psf_store_string (psf, str_type, str)` for a non-NULL `str` (a NUL-free byte list).  Returns the error code
    (0 = stored) and the table afterwards; a refused call leaves the table as it was. -/
def store (e : Env) (t : Strings) (ty : Int) (str : List Byte) : Nat × Strings :=
  if isWriteMode e.mode && (t.flags &&& SF_STR_ALLOW_START) = 0 then (SFE_STR_NO_SUPPORT, t)
  else if isWriteMode e.mode && e.haveWritten && (t.flags &&& SF_STR_ALLOW_END) = 0 then (SFE_STR_NO_SUPPORT, t)
  else if isWriteMode e.mode && ty ≠ 3 && str.isEmpty then (SFE_STR_BAD_STRING, t)
  else
    let k := firstFree t.slots
    let atEnd : Bool := e.mode = .rdwr || e.haveWritten
    if atEnd && (t.flags &&& SF_STR_ALLOW_END) = 0 then (SFE_STR_NO_ADD_END, t)
    else if k ≥ t.slots.length then (SFE_STR_MAX_COUNT, t)
    else if k = 0 && t.used ≠ 0 then (SFE_STR_WEIRD, t)
    else if k ≠ 0 && t.used = 0 then (SFE_STR_WEIRD, t)
    else if !validType ty then (SFE_STR_BAD_TYPE, t)
    else
      let text := if ty = 3 && isWriteMode e.mode then softwareText e.pkgName e.pkgVersion str else str
      let len := text.length + 1
      let cap := if t.storage.length + len + 1 > t.cap then max 256 (2 * t.cap + len + 1) else t.cap
      let fl := if atEnd then SF_STR_LOCATE_END else SF_STR_LOCATE_START
      (0, { slots := (markBefore ty k t.slots).set k ⟨ty, fl, t.storage.length⟩, storage := t.storage ++ text ++ [0], cap := cap, flags := t.flags ||| fl })

/-- psf_store_string before the repair: the slot loop (`scan`) marked entries while searching, so its marks persisted on the error
    paths that come after it; the software text went through the 128-byte buffer -/
def storeOld (e : Env) (t : Strings) (ty : Int) (str : List Byte) : Nat × Strings :=
  if isWriteMode e.mode && (t.flags &&& SF_STR_ALLOW_START) = 0 then (SFE_STR_NO_SUPPORT, t)
  else if isWriteMode e.mode && e.haveWritten && (t.flags &&& SF_STR_ALLOW_END) = 0 then (SFE_STR_NO_SUPPORT, t)
  else if isWriteMode e.mode && ty ≠ 3 && str.isEmpty then (SFE_STR_BAD_STRING, t)
  else
    let sc := scan ty t.slots
    let t1 : Strings := { t with slots := sc.1 }
    let k := sc.2
    let atEnd : Bool := e.mode = .rdwr || e.haveWritten
    if atEnd && (t.flags &&& SF_STR_ALLOW_END) = 0 then (SFE_STR_NO_ADD_END, t1)
    else if k ≥ t.slots.length then (SFE_STR_MAX_COUNT, t1)
    else if k = 0 && t.used ≠ 0 then (SFE_STR_WEIRD, t1)
    else if k ≠ 0 && t.used = 0 then (SFE_STR_WEIRD, t1)
    else if !validType ty then (SFE_STR_BAD_TYPE, t1)
    else
      let text := if ty = 3 && isWriteMode e.mode then softwareTextOld e.pkgName e.pkgVersion str else str
      let len := text.length + 1
      let cap := if t.storage.length + len + 1 > t.cap then max 256 (2 * t.cap + len + 1) else t.cap
      let fl := if atEnd then SF_STR_LOCATE_END else SF_STR_LOCATE_START
      (0, { slots := sc.1.set k ⟨ty, fl, t.storage.length⟩, storage := t.storage ++ text ++ [0], cap := cap, flags := t.flags ||| fl })

/-- `psf_get_string`: the first slot of that type -/
def get (t : Strings) (ty : Int) : Option (List Byte) :=
  (t.slots.find? (·.type = ty)).map fun s => cstr (t.storage.drop s.offset)

/-- the (type, text) pairs a header writer visits for `location`: slots in order up to the first free one, replaced
    ones skipped -/
def entriesOf (t : Strings) (location : Nat) : List (Nat × List Byte) :=
  ((t.slots.takeWhile (·.type ≠ 0)).filter fun s => s.type > 0 && s.flags = location).map
    fun s => (s.type.toNat, cstr (t.storage.drop s.offset))

def locationCount (t : Strings) (location : Nat) : Nat :=
  (t.slots.filter fun s => s.type > 0 && (s.flags &&& location) ≠ 0).length

/-- the invariant of the table: 32 slots, `used ≤ cap`, and every live slot points at a text that ends inside the
    used part of the store -/
def Strings.Inv (t : Strings) : Prop :=
  t.slots.length = SF_MAX_STRINGS ∧ t.used ≤ t.cap ∧
  ∀ s ∈ t.slots, s.type > 0 → s.offset < t.used ∧ s.offset + (cstr (t.storage.drop s.offset)).length < t.used

/-! ## 2. LIST/INFO (wavlike_write_strings, wavlike_subchunk_parse) -/

def mk (s : String) : List Byte := ascii s

/-- the INFO id written for a string type (SF_STR_LICENSE has none) -/
def infoMarker (ty : Nat) : Option (List Byte) :=
  match ty with
  | 3 => some (mk "ISFT") | 1 => some (mk "INAM") | 2 => some (mk "ICOP") | 4 => some (mk "IART")
  | 5 => some (mk "ICMT") | 6 => some (mk "ICRD") | 16 => some (mk "IGNR") | 7 => some (mk "IPRD")
  | 9 => some (mk "ITRK") | _ => none

/-- what the parser does with a sub-chunk id: `some (some ty)` text stored as `ty`; `some none` text read (2048 limit)
    but not stored -/
def markerType (m : List Byte) : Option (Option Nat) :=
  if m = mk "ISFT" then some (some 3) else if m = mk "ICOP" then some (some 2)
  else if m = mk "INAM" then some (some 1) else if m = mk "IART" then some (some 4)
  else if m = mk "ICMT" then some (some 5) else if m = mk "ICRD" then some (some 6)
  else if m = mk "IGNR" then some (some 16) else if m = mk "IPRD" then some (some 7)
  else if m = mk "ITRK" then some (some 9)
  else if m = mk "IARL" ∨ m = mk "IENG" ∨ m = mk "ISBJ" ∨ m = mk "ISRC" ∨ m = mk "IAUT" then some none
  else none

/-- the 's' case of psf_binheader_writef: length field = strlen + 1 rounded up to even, the text, NUL, pad; the last
    byte is forced to 0 -/
def serString (s : List Byte) : List Byte :=
  let n := s.length + 1
  le4 (n + n % 2) ++ s ++ [0] ++ zeros (n % 2)

def serItem (e : Nat × List Byte) : List Byte :=
  match infoMarker e.1 with
  | some m => m ++ serString e.2
  | none => []

def infoBody (es : List (Nat × List Byte)) : List Byte := mk "INFO" ++ es.flatMap serItem

/-- the whole chunk, with the size field back-patched to the body length -/
def serInfo (es : List (Nat × List Byte)) : List Byte :=
  let body := infoBody es
  mk "LIST" ++ le4 body.length ++ body

/-- wavlike_write_strings: nothing at all when no string has that location -/
def writeStrings (t : Strings) (location : Nat) : List Byte :=
  if locationCount t location = 0 then [] else serInfo (entriesOf t location)

def INFO_BUFFER : Nat := 2048
/-- the header cache never holds more than this (psf_bump_header_allocation) -/
def HEADER_CAP : Nat := 100 * 1024

/-- the sub-chunk loop of wavlike_subchunk_parse on the bytes that follow the LIST size field, for a text buffer of `buf`
    bytes.  `fuel` bounds the walk (callers pass the length).  The result lists the (type, text) pairs handed to
    psf_store_string, in file order.  An item that overruns the list ends the walk (`goto cleanup_subchunk_parse`).  An item
    whose padded size is ≥ `buf`: since the repair ("fix: one over-long LIST/INFO string made the WAV/RF64 reader drop every
    later string", `skipLong = true`) only that item is skipped; before it the walk ended there and every later item was
    dropped (`skipLong = false`).  `labl`, `DISP`, `ltxt`, `note`, `exif`, `data` and a zero marker end the walk as well
    (labl: see SfModel/MetaFix.lean). -/
def parseItemsW (buf : Nat) (skipLong : Bool) : Nat → List Byte → List (Nat × List Byte)
  | 0, _ => []
  | fuel+1, b =>
    if b.length < 4 then []
    else
      let m := b.take 4
      let b1 := b.drop 4
      if m = mk "INFO" ∨ m = mk "adtl" then parseItemsW buf skipLong fuel b1
      else match markerType m with
        | some st =>
          let sz := ofLE (b1.take 4)
          let sz1 := sz + sz % 2
          let b2 := b1.drop 4
          if sz1 > b2.length then []
          else if sz1 ≥ buf then (if skipLong then parseItemsW buf skipLong fuel (b2.drop sz1) else [])
          else match st with
            | some ty => (ty, cstr (b2.take sz1)) :: parseItemsW buf skipLong fuel (b2.drop sz1)
            | none => parseItemsW buf skipLong fuel (b2.drop sz1)
        | none =>
          if m = mk "labl" ∨ m = mk "DISP" ∨ m = mk "ltxt" ∨ m = mk "note" ∨ m = mk "exif" ∨ m = mk "data" ∨ m = [0, 0, 0, 0] then []
          else
            let sz := ofLE (b1.take 4)
            let sz1 := sz + sz % 2
            let b2 := b1.drop 4
            if sz1 > b2.length then [] else parseItemsW buf skipLong fuel (b2.drop sz1)

/-- the text buffer of the repaired parser ("fix: WAV/RF64 strings of 2046 bytes or more could be written but not read back"):
    `calloc (1, SF_MAX (SF_MIN (chunk_length, 100 * 1024), 2047) + 1)` — sized by the LIST chunk, bounded by what the header
    cache can deliver -/
def infoBufSize (chunkLength : Nat) : Nat := max (min chunkLength HEADER_CAP) 2047 + 1

/-- the current parser on the body of a LIST chunk -/
def parseItems (fuel : Nat) (body : List Byte) : List (Nat × List Byte) := parseItemsW (infoBufSize body.length) true fuel body

/-- the parser before the two repairs: `char buffer [2048]`, and a too-long item ended the walk -/
def parseItemsOld (fuel : Nat) (body : List Byte) : List (Nat × List Byte) := parseItemsW INFO_BUFFER false fuel body

/-- the parser applied to a whole `LIST` chunk as the writer lays it out (id, size, body).  A list of 8 bytes or less
    is only logged.  (`body` is the declared length clamped to the bytes that are there, as the parser clamps it to the file
    length.) -/
def parseInfoWith (items : Nat → List Byte → List (Nat × List Byte)) (chunk : List Byte) : List (Nat × List Byte) :=
  let len := ofLE ((chunk.drop 4).take 4)
  let body := (chunk.drop 8).take len
  if len ≤ 8 then [] else items body.length body

def parseInfo (chunk : List Byte) : List (Nat × List Byte) := parseInfoWith parseItems chunk
def parseInfoOld (chunk : List Byte) : List (Nat × List Byte) := parseInfoWith parseItemsOld chunk

/-- the strings of a re-opened file: every parsed pair goes through psf_store_string in read mode -/
def loadAll (es : List (Nat × List Byte)) : Strings :=
  es.foldl (fun t e => (store ⟨.read, false, [], []⟩ t (e.1 : Int) e.2).2) (Strings.init 0)

/-- what an INFO text must be to survive: a C string (no NUL inside) of a type RIFF INFO has an id for.  No length limit
    of its own since the repair: the limit is the header cache (`HEADER_CAP`) for the whole list. -/
def infoOk (e : Nat × List Byte) : Prop := (∀ b ∈ e.2, b ≠ 0) ∧ (infoMarker e.1).isSome

/-- the limit of the old parser: strlen + 1 rounded up to even < 2048 -/
def infoOkOld (e : Nat × List Byte) : Prop := infoOk e ∧ e.2.length ≤ 2045

/-! ## 3. psf_strlcpy_crlf / psf_strlcat and the two variable-length texts -/

/-- psf_strlcpy_crlf: `room` = destend - dest; `skip` = the byte that, if it comes next, is the second half of a line
    end already emitted.  CR LF, LF CR, CR and LF all become CR LF.  Source bytes are copied up to `srcmax`, NULs
    included (the caller then takes strlen). -/
def crlfGo : Nat → Option Byte → List Byte → List Byte
  | _, _, [] => []
  | room, skip, a :: rest =>
    if skip = some a then crlfGo room none rest
    else if room = 0 then []
    else if a = 13 then 13 :: 10 :: crlfGo (room - 2) (some 10) rest
    else if a = 10 then 13 :: 10 :: crlfGo (room - 2) (some 13) rest
    else a :: crlfGo (room - 1) none rest

def VAR_TEXT : Nat := 16384       -- sizeof coding_history / tag_text in the _16K structs

def crlfCopy (src : List Byte) : List Byte := cstr (crlfGo (VAR_TEXT - 2) none src)

/-- psf_strlcat (dest, n, src): strncat of at most n - strlen (dest) - 1 bytes -/
def strlcat (n : Nat) (d s : List Byte) : List Byte := d ++ s.take (n - d.length - 1)

def endsWithLF (t : List Byte) : Bool := t.getLast? = some 10

/-- the line end added when the text is not empty and does not end in LF -/
def closeLine (t : List Byte) : List Byte :=
  if !t.isEmpty && !endsWithLF t then strlcat VAR_TEXT t [13, 10] else t

/-! ## 4. bext -/

structure Bext where
  description : List Byte     -- 256
  originator  : List Byte     -- 32
  originatorRef : List Byte   -- 32
  date : List Byte            -- 10
  time : List Byte            -- 8
  timeLow : Nat
  timeHigh : Nat
  version : Nat
  umid : List Byte            -- 64
  l1 : Nat
  l2 : Nat
  l3 : Nat
  l4 : Nat
  l5 : Nat                    -- loudness_value … max_shortterm_loudness (16 bit each)
  reserved : List Byte        -- 180
  history : List Byte         -- coding_history [0 .. coding_history_size)
deriving DecidableEq, Repr

def BEXT_MIN : Nat := 602
def BEXT_MAX : Nat := BEXT_MIN + 16 * 1024      -- WAV_BEXT_MAX_CHUNK_SIZE since the repair: what the writer can produce
def BEXT_MAX_OLD : Nat := 10 * 1024            -- … before ("fix: bext chunks with more than 9638 bytes of coding history were dropped on reading")
def BEXT_STRUCT_16K : Nat := 608 + 16384

/-- the field widths hold (what the C struct guarantees) -/
def Bext.wf (b : Bext) : Prop :=
  b.description.length = 256 ∧ b.originator.length = 32 ∧ b.originatorRef.length = 32 ∧ b.date.length = 10 ∧
  b.time.length = 8 ∧ b.timeLow < 2 ^ 32 ∧ b.timeHigh < 2 ^ 32 ∧ b.version < 2 ^ 16 ∧ b.umid.length = 64 ∧
  b.l1 < 2 ^ 16 ∧ b.l2 < 2 ^ 16 ∧ b.l3 < 2 ^ 16 ∧ b.l4 < 2 ^ 16 ∧ b.l5 < 2 ^ 16 ∧ b.reserved.length = 180

instance (b : Bext) : Decidable b.wf := by unfold Bext.wf; exact inferInstance

/-- the coding history as broadcast_var_set leaves it: `src` = the caller's bytes after the fixed part
    (datasize - 608 of them), `line` = the line gen_coding_history produces (added in SFM_WRITE only) -/
def normHistory (mode : Mode) (line src : List Byte) : List Byte :=
  let t := closeLine (crlfCopy src)
  let t := if mode = .write then strlcat VAR_TEXT t line else t
  t ++ zeros (t.length % 2)

/-- broadcast_var_set: the fixed part is copied, the history normalised, `version` forced to 2 -/
def setBext (mode : Mode) (line : List Byte) (info : Bext) : Bext :=
  { info with history := normHistory mode line info.history, version := 2 }

def writeBext (b : Bext) : List Byte :=
  mk "bext" ++ le4 (BEXT_MIN + b.history.length) ++ b.description ++ b.originator ++ b.originatorRef ++ b.date ++ b.time ++
  le4 b.timeLow ++ le4 b.timeHigh ++ le2 b.version ++ b.umid ++ le2 b.l1 ++ le2 b.l2 ++ le2 b.l3 ++ le2 b.l4 ++ le2 b.l5 ++ zeros 180 ++ b.history

/-- cut `n` bytes off the front -/
def splitAtN (n : Nat) (b : List Byte) : List Byte × List Byte := (b.take n, b.drop n)

/-- wavlike_read_bext_chunk on the chunk (id, size, payload).  `none`: the chunk is skipped. -/
def readBextWith (maxSize : Nat) (chunk : List Byte) : Option Bext :=
  let size := ofLE ((chunk.drop 4).take 4)
  let p := chunk.drop 8
  if size < BEXT_MIN ∨ size > maxSize ∨ size ≥ BEXT_STRUCT_16K then none
  else
    some { description := p.take 256, originator := (p.drop 256).take 32, originatorRef := (p.drop 288).take 32,
           date := (p.drop 320).take 10, time := (p.drop 330).take 8,
           timeLow := ofLE ((p.drop 338).take 4), timeHigh := ofLE ((p.drop 342).take 4), version := ofLE ((p.drop 346).take 2),
           umid := (p.drop 348).take 64,
           l1 := ofLE ((p.drop 412).take 2), l2 := ofLE ((p.drop 414).take 2), l3 := ofLE ((p.drop 416).take 2),
           l4 := ofLE ((p.drop 418).take 2), l5 := ofLE ((p.drop 420).take 2),
           reserved := zeros 180,
           history := (p.drop 602).take (size - BEXT_MIN) }

def readBext (chunk : List Byte) : Option Bext := readBextWith BEXT_MAX chunk
def readBextOld (chunk : List Byte) : Option Bext := readBextWith BEXT_MAX_OLD chunk

/-! ## 5. cart -/

/-- `head` = version … post_timers (748 bytes, laid out in the struct exactly as in the chunk), `reserved` 276,
    `url` 1024, `tag` = tag_text [0 .. tag_text_size) -/
structure Cart where
  head : List Byte
  reserved : List Byte
  url : List Byte
  tag : List Byte
deriving DecidableEq, Repr

def CART_MIN : Nat := 2048
def CART_STRUCT_16K : Nat := 2052 + 16384

def Cart.wf (c : Cart) : Prop := c.head.length = 748 ∧ c.reserved.length = 276 ∧ c.url.length = 1024

instance (c : Cart) : Decidable c.wf := by unfold Cart.wf; exact inferInstance

/-- cart_var_set: text normalised like the coding history (no added line), then `len += (len & 1) ? 1 : 2`: one NUL
    and, for an even length, one more byte of the malloc'ed block that nothing has written (`junk`) -/
def normTag (junk : Byte) (src : List Byte) : List Byte :=
  let t := closeLine (crlfCopy src)
  t ++ [0] ++ (if t.length % 2 = 0 then [junk] else [])

def setCart (junk : Byte) (info : Cart) : Cart := { info with tag := normTag junk info.tag }

def writeCart (c : Cart) : List Byte :=
  mk "cart" ++ le4 (CART_MIN + c.tag.length) ++ c.head ++ zeros 276 ++ c.url ++ c.tag

def readCartWith (limit : Nat) (chunk : List Byte) : Option Cart :=
  let size := ofLE ((chunk.drop 4).take 4)
  let p := chunk.drop 8
  if size < CART_MIN ∨ size ≥ limit then none
  else some { head := p.take 748, reserved := (p.drop 748).take 276, url := (p.drop 1024).take 1024,
              tag := (p.drop 2048).take (size - CART_MIN) }

/-- `chunksize > sizeof (SF_CART_INFO_16K) - 4` since the repair; `>=` before ("fix: a cart chunk whose tag text fills
    SF_CART_INFO_16K was refused on reading") -/
def readCart (chunk : List Byte) : Option Cart := readCartWith (CART_STRUCT_16K - 3) chunk
def readCartOld (chunk : List Byte) : Option Cart := readCartWith (CART_STRUCT_16K - 4) chunk

/-! ## 6. cue points -/

structure Cue where
  indx : Nat
  position : Nat
  fcc : Nat
  chunkStart : Nat
  blockStart : Nat
  sampleOffset : Nat
  name : List Byte
deriving DecidableEq, Repr

def Cue.wf (c : Cue) : Prop :=
  c.indx < 2 ^ 32 ∧ c.position < 2 ^ 32 ∧ c.fcc < 2 ^ 32 ∧ c.chunkStart < 2 ^ 32 ∧ c.blockStart < 2 ^ 32 ∧ c.sampleOffset < 2 ^ 32

instance (c : Cue) : Decidable c.wf := by unfold Cue.wf; exact inferInstance

def serCue (c : Cue) : List Byte :=
  le4 c.indx ++ le4 c.position ++ le4 c.fcc ++ le4 c.chunkStart ++ le4 c.blockStart ++ le4 c.sampleOffset

def writeCues (cs : List Cue) : List Byte :=
  mk "cue " ++ le4 (4 + cs.length * 24) ++ le4 cs.length ++ cs.flatMap serCue

def parseCue (b : List Byte) : Cue :=
  ⟨ofLE (b.take 4), ofLE ((b.drop 4).take 4), ofLE ((b.drop 8).take 4), ofLE ((b.drop 12).take 4), ofLE ((b.drop 16).take 4),
   ofLE ((b.drop 20).take 4), []⟩

def parseCues : Nat → List Byte → List Cue
  | 0, _ => []
  | n+1, b => if b.length < 24 then [] else parseCue (b.take 24) :: parseCues n (b.drop 24)

def MAX_CUES : Nat := 2500

/-- the `cue ` case of wav_read_header; `none` = the chunk is skipped (more than 2500 cues).  Names are set to "" —
    they come from the `labl` entries of an `adtl` list, which is modelled in SfModel/MetaFix.lean (`writeLabels`, `reopenCues`). -/
def readCues (chunk : List Byte) : Option (List Cue) :=
  let p := chunk.drop 8
  let n := ofLE (p.take 4)
  if n > MAX_CUES then none else some (parseCues n (p.drop 4))

/-- what survives of a cue point: everything but the name -/
def Cue.stripName (c : Cue) : Cue := { c with name := [] }

/-! ## 7. instrument (`smpl`) -/

structure Loop where
  mode : Int
  start : Nat
  stop : Nat        -- `end`
  count : Nat
deriving DecidableEq, Repr

structure Inst where
  gain : Int
  basenote : Int
  detune : Int
  velLo : Int
  velHi : Int
  keyLo : Int
  keyHi : Int
  loops : List Loop      -- loops [0 .. loop_count)
deriving DecidableEq, Repr

def SF_LOOP_NONE : Int := 800
def SF_LOOP_FORWARD : Int := 801
def SF_LOOP_BACKWARD : Int := 802
def SF_LOOP_ALTERNATING : Int := 803

def loopTypeEnc (m : Int) : Nat :=
  if m = SF_LOOP_FORWARD then 0 else if m = SF_LOOP_BACKWARD then 2 else if m = SF_LOOP_ALTERNATING then 1 else 32

def loopTypeDec (t : Nat) : Int :=
  if t = 0 then SF_LOOP_FORWARD else if t = 1 then SF_LOOP_ALTERNATING else if t = 2 then SF_LOOP_BACKWARD else SF_LOOP_NONE

/-- `(uint32_t) (detune * (0x40000000 / 25.0) + 0.5)` (conversion truncates towards zero, then wraps: x86-64) -/
def detuneEnc (d : Int) : Nat := wrapU 32 (Int.tdiv (d * 2 ^ 31 + 25) 50)

/-- `(int8_t) (pitch / (0x40000000 / 25.0) + 0.5)` -/
def detuneDec (p : Nat) : Int := wrapS 8 (((p : Int) * 50 + 2 ^ 30) / 2 ^ 31)

def serLoop (k : Nat) (l : Loop) : List Byte :=
  le4 k ++ le4 (loopTypeEnc l.mode) ++ le4 l.start ++ le4 (wrapU 32 ((l.stop : Int) - 1)) ++ le4 0 ++ le4 l.count

def serLoops : Nat → List Loop → List Byte
  | _, [] => []
  | k, l :: ls => serLoop k l ++ serLoops (k + 1) ls

/-- the `smpl` chunk of wav_write_header (`period` = (int) (1e9 / samplerate)), for 0 … 16 loops -/
def writeSmpl (period : Nat) (i : Inst) : List Byte :=
  mk "smpl" ++ le4 (36 + i.loops.length * 24) ++ le4 0 ++ le4 0 ++ le4 period ++ le4 (wrapU 32 i.basenote) ++
  le4 (detuneEnc i.detune) ++ le4 0 ++ le4 0 ++ le4 i.loops.length ++ le4 0 ++ serLoops 0 i.loops

def parseLoop (b : List Byte) : Loop :=
  ⟨loopTypeDec (ofLE ((b.drop 4).take 4)), ofLE ((b.drop 8).take 4), (ofLE ((b.drop 12).take 4) + 1) % 2 ^ 32, ofLE ((b.drop 20).take 4)⟩

/-- the loop walk of wav_read_smpl_chunk: while the declared count is positive and 24 bytes are left; only the first 16
    are kept -/
def parseLoops : Nat → List Byte → List Loop
  | 0, _ => []
  | n+1, b => if b.length < 24 then [] else parseLoop (b.take 24) :: parseLoops n (b.drop 24)

/-- wav_read_smpl_chunk on the chunk (id, size, payload) -/
def readSmpl (chunk : List Byte) : Option Inst :=
  let size := ofLE ((chunk.drop 4).take 4)
  let len := size + size % 2
  let p := (chunk.drop 8).take len
  let note := ofLE ((p.drop 12).take 4)
  let pitch := ofLE ((p.drop 16).take 4)
  let lc := ofLE ((p.drop 28).take 4)
  if lc = 0 ∧ len = 32 then none
  else
    let ls := if lc = 0 then [] else parseLoops (p.length / 24 + 1) (p.drop 36)
    some { gain := 1, basenote := wrapS 8 note, detune := detuneDec pitch, velLo := 0, velHi := 127, keyLo := 0, keyHi := 127,
           loops := ls.take 16 }

def normLoop (l : Loop) : Loop := ⟨loopTypeDec (loopTypeEnc l.mode), l.start, l.stop, l.count⟩

/-- what survives of an instrument in a WAV file -/
def normInst (i : Inst) : Inst :=
  { gain := 1, basenote := wrapS 8 (wrapU 32 i.basenote), detune := detuneDec (detuneEnc i.detune), velLo := 0, velHi := 127, keyLo := 0, keyHi := 127,
    loops := i.loops.map normLoop }

/-! ## 8. The handle: which calls are accepted, and what a closed WAV file holds -/

inductive Container | wav | wavex | rf64 | aiff | caf | w64 | other
deriving DecidableEq, Repr

/-- containers whose open sets `strings.flags = ALLOW_START | ALLOW_END` -/
def Container.hasStrings : Container → Bool
  | .wav | .wavex | .rf64 | .aiff | .caf => true
  | _ => false

structure MetaState where
  cont : Container
  mode : Mode
  haveWritten : Bool
  strings : Strings
  bext : Option Bext
  cart : Option Cart
  cues : Option (List Cue)
  inst : Option Inst
  audio : List Byte            -- the audio bytes written so far
deriving Repr

inductive Op
  | setString (ty : Int) (s : List Byte)
  | setBext (line : List Byte) (b : Bext) (declared datasize : Nat)   -- `b.history` = the datasize - 608 bytes after the fixed part
  | setCart (junk : Byte) (c : Cart) (declared datasize : Nat)       -- `declared` = the caller's coding_history_size / tag_text_size
  | setCues (cs : List Cue)
  | setInst (i : Inst)
  | writeAudio (bytes : List Byte)

def MetaState.open (c : Container) : MetaState :=
  ⟨c, .write, false, Strings.init (if c.hasStrings then SF_STR_ALLOW_START ||| SF_STR_ALLOW_END else 0), none, none, none, none, []⟩

/-- result code (`sf_set_string`: 0 = ok; `sf_command`: 1 = SF_TRUE) and the state afterwards -/
def step (pkgName pkgVersion : List Byte) (h : MetaState) : Op → Nat × MetaState
  | .setString ty s =>
    if h.mode = .read then (SFE_STR_NOT_WRITE, h)
    else
      let r := store ⟨h.mode, h.haveWritten, pkgName, pkgVersion⟩ h.strings ty s
      (r.1, { h with strings := r.2 })
  | .setBext line b declared datasize =>
    if h.cont ≠ .wav ∧ h.cont ≠ .wavex ∧ h.cont ≠ .rf64 then (0, h)
    else if h.mode = .read then (0, h)
    else if h.bext.isNone ∧ h.haveWritten then (0, h)
    else if datasize < 608 ∨ 608 + declared > datasize then (0, h)
    else if datasize ≥ BEXT_STRUCT_16K then (0, h)
    -- after the audio the chunk must keep its size ("fix: SFC_SET_BROADCAST_INFO / SFC_SET_CART_INFO after audio data could
    -- overwrite the audio"); before the repair every second block was accepted
    else if h.haveWritten ∧ (h.bext.map fun o => o.history.length) ≠ some (setBext h.mode line b).history.length then (0, h)
    else (1, { h with bext := some (setBext h.mode line b) })
  | .setCart junk c declared datasize =>
    if h.cont ≠ .wav ∧ h.cont ≠ .rf64 then (0, h)
    else if h.mode = .read then (0, h)
    else if h.cart.isNone ∧ h.haveWritten then (0, h)
    else if datasize < 2052 ∨ 2052 + declared > datasize then (0, h)
    else if datasize ≥ CART_STRUCT_16K then (0, h)
    else if h.haveWritten ∧ (h.cart.map fun o => o.tag.length) ≠ some (setCart junk c).tag.length then (0, h)
    else (1, { h with cart := some (setCart junk c) })
  | .setCues cs =>
    if h.haveWritten then (0, h)
    else (1, { h with cues := some cs })        -- a later call replaces the earlier one ("fix: a second SFC_SET_CUE …")
  | .setInst i =>
    if h.haveWritten then (0, h)
    else (1, { h with inst := some i })
  | .writeAudio bytes => (bytes.length, { h with haveWritten := true, audio := h.audio ++ bytes })

/-- the three rules of `step` as they were before the repairs: a second SFC_SET_CUE reported success and kept the first set;
    a second bext / cart block after the audio was accepted whatever its size -/
def stepOld (pkgName pkgVersion : List Byte) (h : MetaState) : Op → Nat × MetaState
  | .setCues cs =>
    if h.haveWritten then (0, h)
    else if h.cues.isSome then (1, h)
    else (1, { h with cues := some cs })
  | .setBext line b declared datasize =>
    if h.cont ≠ .wav ∧ h.cont ≠ .wavex ∧ h.cont ≠ .rf64 then (0, h)
    else if h.mode = .read then (0, h)
    else if h.bext.isNone ∧ h.haveWritten then (0, h)
    else if datasize < 608 ∨ 608 + declared > datasize then (0, h)
    else if datasize ≥ BEXT_STRUCT_16K then (0, h)
    else (1, { h with bext := some (setBext h.mode line b) })
  | op => step pkgName pkgVersion h op

/-- the metadata chunks wav_write_header puts between `fmt ` and `data`, in its order -/
def headerMeta (period : Nat) (h : MetaState) : List Byte :=
  (if (h.strings.flags &&& SF_STR_LOCATE_START) ≠ 0 then writeStrings h.strings SF_STR_LOCATE_START else []) ++
  (match h.bext with | some b => writeBext b | none => []) ++
  (match h.cart with | some c => writeCart c | none => []) ++
  (match h.cues with | some cs => writeCues cs | none => []) ++
  (match h.inst with | some i => writeSmpl period i | none => [])

/-- what a re-opened WAV file returns, computed chunk by chunk from the bytes the writer produced -/
structure Reopened where
  strings : List (Nat × List Byte)
  bext : Option Bext
  cart : Option Cart
  cues : Option (List Cue)
  inst : Option Inst
deriving Repr

/-- before the repair of KF-C12-RF64-ODD-PAD: rf64_read_header did not skip the pad byte that follows an odd number of audio bytes, so
    the LIST chunk behind the audio of such a file was not found again -/
def trailerFoundOld (h : MetaState) : Bool := !(h.cont = .rf64 && h.audio.length % 2 = 1)

def reopen (period : Nat) (h : MetaState) : Reopened :=
  { strings := (if (h.strings.flags &&& SF_STR_LOCATE_START) ≠ 0 ∧ locationCount h.strings SF_STR_LOCATE_START ≠ 0
                then parseInfo (writeStrings h.strings SF_STR_LOCATE_START) else []) ++
               -- the trailing LIST (rf64_read_header skips the pad byte behind an odd number of audio bytes since the repair of
               -- KF-C12-RF64-ODD-PAD; the rule before it is `trailerFoundOld` above)
               (if (h.strings.flags &&& SF_STR_LOCATE_END) ≠ 0 ∧ locationCount h.strings SF_STR_LOCATE_END ≠ 0
                then parseInfo (writeStrings h.strings SF_STR_LOCATE_END) else []),
    bext := h.bext.bind fun b => readBext (writeBext b),
    cart := h.cart.bind fun c => readCart (writeCart c),
    -- rf64.c: `cue ` is never written, `smpl` is written but rf64_read_header does not interpret it
    cues := if h.cont = .rf64 then none else h.cues.bind fun cs => readCues (writeCues cs),
    inst := if h.cont = .rf64 then none else h.inst.bind fun i => readSmpl (writeSmpl period i) }

end Sf.Meta
