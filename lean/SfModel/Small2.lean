/-
  SfModel.Small2 — what the stand-alone byte-exact (L1) models of the small containers MAT4, MAT5, PVF, XI, HTK,
  WVE, MPC2K, NIST and VOC share (one model file per container: SfModel/Htk.lean, Wve.lean, Mpc2k.lean, Pvf.lean,
  Mat4.lean, Mat5.lean, Xi.lean, Nist.lean, Voc.lean; Sd2.lean and SdsFile.lean take the byte helpers, `guess` and
  `ParseRes` from here, not the session):

  * `Fields`, `Fmt`, `St`, `openW`, `write`, `update`, `close`, `run`
        the write side of sndfile.c as far as a container sees it: psf_open_file copies the caller's SF_INFO
        (so `sf.frames` is the caller's stale value while the container writes its first header), datalength = -1,
        filelength = 0; the codec init (pcm_init / alaw_init / float32_init / double64_init / dpcm_init) then sets
        datalength = 0 and sf.frames = 0; the first sf_write_* call re-emits the header with the current fields
        (`have_written` latch); SFC_UPDATE_HEADER_NOW, every write call in SFC_SET_UPDATE_HEADER_AUTO mode and
        the container's close function run `write_header (psf, SF_TRUE)`, whose `calc_length` block is `Fmt.recalc`.
        None of these containers writes a tailer (VOC's terminator byte is added by `Sf.Voc.closeSt`, outside this
        machine): the store is always `hdr ++ data`.
  * `preHtk`, `guess`
        `guess_file_type`: the marker tests in the order of the C function, up to and including the HTK test.
  * `cut`, `Info`, `ParseRes`
        pieces of the readers.

  Core Lean only; names live in `Sf.Small2`.
-/
import SfModel.Basic
namespace Sf.Small2
open Sf

def asc (s : String) : List Byte := s.toList.map Char.toNat

/-- header_put_{be,le}_{short,int} of the low bits of a C integer -/
def be32 (v : Int) : List Byte := beBytes 4 (wrapU 32 v)
def be16 (v : Int) : List Byte := beBytes 2 (wrapU 16 v)
def le32 (v : Int) : List Byte := leBytes 4 (wrapU 32 v)
def le16 (v : Int) : List Byte := leBytes 2 (wrapU 16 v)

/-- the first `n` bytes and the rest -/
def cut (n : Nat) (bs : List Byte) : List Byte × List Byte := (bs.take n, bs.drop n)

/-! ## the write side -/

/-- the SF_PRIVATE fields a header writer looks at -/
structure Fields where
  frames : Int := 0          -- psf->sf.frames
  filelength : Int := 0
  datalength : Int := 0
deriving Repr, DecidableEq, Inhabited

/-- one container configuration as the session machine sees it -/
structure Fmt where
  hdrLen : Nat                                  -- psf->dataoffset once a header has been written
  bw : Nat                                      -- bytewidth * channels
  hdr : Fields → List Byte                      -- the bytes <container>_write_header emits from the current fields
  recalc : Nat → Fields → Fields                  -- its `if (calc_length)` block, given the store length
  closeRewrites : Bool := true                  -- the container's close function calls write_header (psf, SF_TRUE)

structure St where
  hdr : List Byte := []
  data : List Byte := []
  f : Fields := {}
deriving Repr, DecidableEq, Inhabited

def St.bytes (s : St) : List Byte := s.hdr ++ s.data

/-- `<container>_write_header (psf, calc_length)` -/
def emit (F : Fmt) (s : St) (calcLen : Bool) : St :=
  let f := if calcLen then F.recalc (s.hdr.length + s.data.length) s.f else s.f
  { s with f := f, hdr := F.hdr f }

/-- sf_open (SFM_WRITE): first header from the caller's SF_INFO, then the codec init -/
def openW (F : Fmt) (callerFrames : Nat) : St :=
  let s := emit F { f := { frames := callerFrames, filelength := 0, datalength := -1 } } false
  { s with f := { frames := 0, filelength := 0, datalength := 0 } }

/-- one sf_write_* call storing `enc` (whole frames of encoded audio); `auto` = SFC_SET_UPDATE_HEADER_AUTO is on -/
def write (F : Fmt) (s : St) (enc : List Byte) (auto : Bool) : St :=
  let s := if s.data.isEmpty then emit F s false else s
  let s := { s with data := s.data ++ enc }
  let s := { s with f := { s.f with frames := (s.data.length / F.bw : Nat) } }
  if auto then emit F s true else s

/-- SFC_UPDATE_HEADER_NOW -/
def update (F : Fmt) (s : St) : St := emit F s true

/-- sf_close -/
def close (F : Fmt) (s : St) : St := if F.closeRewrites then emit F s true else s

inductive WOp
  | write (enc : List Byte) (auto : Bool)
  | update
deriving Repr, DecidableEq, Inhabited

def stepOp (F : Fmt) (s : St) : WOp → St
  | .write enc auto => write F s enc auto
  | .update => update F s

def run (F : Fmt) (s : St) (ops : List WOp) : St := ops.foldl (stepOp F) s

/-- the audio bytes of a session, in order -/
def opsData : List WOp → List Byte
  | [] => []
  | .write enc _ :: r => enc ++ opsData r
  | .update :: r => opsData r

def closedBytes (F : Fmt) (stale : Nat) (ops : List WOp) : List Byte := (close F (run F (openW F stale) ops)).bytes

/-- the store right after SFC_UPDATE_HEADER_NOW (or after a write call in auto mode) at the end of `ops` -/
def snapshotBytes (F : Fmt) (stale : Nat) (ops : List WOp) : List Byte := (update F (run F (openW F stale) ops)).bytes

/-! ## the read side -/

structure Info where
  ch : Nat
  fmt : Nat
  sr : Nat
  frames : Nat
deriving Repr, DecidableEq, Inhabited

inductive ParseRes
  | ok (i : Info)
  | err                      -- sf_open returns NULL
  | unmodelled               -- outside what the model describes
deriving Repr, DecidableEq, Inhabited

inductive Guess
  | fmt (major : Nat)        -- SF_FORMAT_* major (internal codes for DWD / TXW / REX2)
  | zero                     -- `return 0`
deriving Repr, DecidableEq, Inhabited

/-- one marker test of `guess_file_type` on the three 32-bit words it has read (`a`, `b`, `c` = bytes 0…3, 4…7,
    8…11) and what the function returns when it matches -/
structure Rule where
  test : List Byte → List Byte → List Byte → Bool
  res : Guess

/-- the tests that come before the HTK test, in the order of the C function (the nested FORM test is spelt as three
    consecutive rules) -/
def rules : List Rule := [
  ⟨fun a _ c => (a = [0x52, 0x49, 0x46, 0x46] ∨ a = [0x52, 0x49, 0x46, 0x58]) ∧ c = [0x57, 0x41, 0x56, 0x45], .fmt 0x010000⟩,
  ⟨fun a _ c => a = [0x46, 0x4F, 0x52, 0x4D] ∧ (c = [0x41, 0x49, 0x46, 0x46] ∨ c = [0x41, 0x49, 0x46, 0x43]), .fmt 0x020000⟩,
  ⟨fun a _ c => a = [0x46, 0x4F, 0x52, 0x4D] ∧ (c = [0x38, 0x53, 0x56, 0x58] ∨ c = [0x31, 0x36, 0x53, 0x56]), .fmt 0x060000⟩,
  ⟨fun a _ _ => a = [0x46, 0x4F, 0x52, 0x4D], .zero⟩,
  ⟨fun a _ _ => a = [0x2E, 0x73, 0x6E, 0x64] ∨ a = [0x64, 0x6E, 0x73, 0x2E], .fmt 0x030000⟩,
  ⟨fun a _ _ => a = [0x66, 0x61, 0x70, 0x20] ∨ a = [0x20, 0x70, 0x61, 0x66], .fmt 0x050000⟩,
  ⟨fun a _ _ => a = [0x4E, 0x49, 0x53, 0x54], .fmt 0x070000⟩,
  ⟨fun a b _ => a = [0x43, 0x72, 0x65, 0x61] ∧ b = [0x74, 0x69, 0x76, 0x65], .fmt 0x080000⟩,
  ⟨fun a _ _ => (a.getD 0 0 = 0x64 ∧ a.getD 1 0 = 0xA3 ∧ a.getD 2 0 < 8 ∧ a.getD 3 0 = 0) ∨
                (a.getD 0 0 = 0 ∧ a.getD 1 0 < 8 ∧ a.getD 2 0 = 0xA3 ∧ a.getD 3 0 = 0x64), .fmt 0x0A0000⟩,
  ⟨fun a _ _ => a = [0x72, 0x69, 0x66, 0x66], .fmt 0x0B0000⟩,
  ⟨fun a b c => a = [0, 0, 0x03, 0xE8] ∧ b = [0, 0, 0, 1] ∧ c = [0, 0, 0, 1], .fmt 0x0C0000⟩,
  ⟨fun a b c => a = [0, 0, 0, 0] ∧ b = [1, 0, 0, 0] ∧ c = [1, 0, 0, 0], .fmt 0x0C0000⟩,
  ⟨fun a b _ => a = [0x4D, 0x41, 0x54, 0x4C] ∧ b = [0x41, 0x42, 0x20, 0x35], .fmt 0x0D0000⟩,
  ⟨fun a _ _ => a = [0x50, 0x56, 0x46, 0x31], .fmt 0x0E0000⟩,
  ⟨fun a b c => a = [0x45, 0x78, 0x74, 0x65] ∧ b = [0x6E, 0x64, 0x65, 0x64] ∧ c = [0x20, 0x49, 0x6E, 0x73], .fmt 0x0F0000⟩,
  ⟨fun a _ c => a = [0x63, 0x61, 0x66, 0x66] ∧ c = [0x64, 0x65, 0x73, 0x63], .fmt 0x180000⟩,
  ⟨fun a _ _ => a = [0x4F, 0x67, 0x67, 0x53], .fmt 0x200000⟩,
  ⟨fun a b c => a = [0x41, 0x4C, 0x61, 0x77] ∧ b = [0x53, 0x6F, 0x75, 0x6E] ∧ c = [0x64, 0x46, 0x69, 0x6C], .fmt 0x190000⟩,
  ⟨fun a b c => a = [0x44, 0x69, 0x61, 0x6D] ∧ b = [0x6F, 0x6E, 0x64, 0x57] ∧ c = [0x61, 0x72, 0x65, 0x20], .fmt 0x4030000⟩,
  ⟨fun a _ _ => a = [0x4C, 0x4D, 0x38, 0x39] ∨ a = [0x35, 0x33, 0, 0], .fmt 0x4020000⟩,
  ⟨fun a _ _ => a.getD 0 0 = 0xF0 ∧ a.getD 1 0 = 0x7E ∧ a.getD 2 0 < 0x80 ∧ a.getD 3 0 = 1, .fmt 0x110000⟩,
  ⟨fun a _ _ => a.getD 0 0 = 1 ∧ a.getD 1 0 = 4, .fmt 0x210000⟩,
  ⟨fun a _ c => a = [0x43, 0x41, 0x54, 0x20] ∧ c = [0x52, 0x45, 0x58, 0x32], .fmt 0x4050000⟩,
  ⟨fun a b _ => a = [0x30, 0x26, 0xB2, 0x75] ∧ b = [0x8E, 0x66, 0xCF, 0x11], .zero⟩]

/-- the first matching test decides; `none` = none of them matches -/
def preHtk (a b c : List Byte) : Option Guess := (rules.find? fun r => r.test a b c).map (·.res)

/-- `guess_file_type` on a file of at least 12 bytes, as far as the HTK test; `none`: a later test decides -/
def guess (bs : List Byte) : Option Guess :=
  let a := bs.take 4
  let b := (bs.drop 4).take 4
  let c := (bs.drop 8).take 4
  match preHtk a b c with
  | some g => some g
  | none => if c = [0, 2, 0, 0] ∧ 2 * ofBE a + 12 = bs.length then some (.fmt 0x100000) else none

/-- the 12 bytes `guess_file_type` looks at since the repair of KF-PVF-TINY-FILE: what the file has, zeros behind it
    (`probe = filelength` when 0 < filelength < 12; the buffer is cleared first) -/
def probe12 (bs : List Byte) : List Byte := (bs ++ List.replicate 12 0).take 12

/-- `guess_file_type` on a non-empty file of ANY length, as far as the HTK test: the marker tests run on the zero-padded
    probe, the HTK test compares with the true file length; `none`: a later test decides.  On a file of at least 12
    bytes this is `guess` (`guessProbe_eq_guess`, SfProofs/PvfImage.lean). -/
def guessProbe (bs : List Byte) : Option Guess :=
  let p := probe12 bs
  let a := p.take 4
  let b := (p.drop 4).take 4
  let c := (p.drop 8).take 4
  match preHtk a b c with
  | some g => some g
  | none => if c = [0, 2, 0, 0] ∧ 2 * ofBE a + 12 = bs.length then some (.fmt 0x100000) else none

/-- the case labels of the read-mode switch in pcm_init: bytewidth * 0x10000 + endian + chars -/
def pcmKeys : List Nat :=
  [0x10000 + 0x20000000 + 200, 0x10000 + 0x10000000 + 200, 0x10000 + 0x20000000 + 201, 0x10000 + 0x10000000 + 201,
   0x20000 + 0x20000000, 0x30000 + 0x20000000, 0x40000 + 0x20000000,
   0x20000 + 0x10000000, 0x30000 + 0x10000000, 0x40000 + 0x10000000]

/-- the end of every codec init in read mode: `datalength` and `sf.frames` from the file length
    (`dataend` = 0 or the end of the audio region) -/
def framesOf (flen dataoffset dataend : Int) (bw : Int) : Int :=
  let dl : Int := if flen > dataoffset then (if dataend > 0 then dataend - dataoffset else flen - dataoffset) else 0
  if bw > 0 then dl.tdiv bw else 0

end Sf.Small2
