import SfProofs.Table
import SfProofs.Bytes
import SfProofs.Adpcm
import SfProofs.G711
import SfProofs.FormatCheck
import SfProofs.FloatPcm
import SfProofs.Groups
import SfProofs.Codec
import SfProofs.HandleSteps
import SfProofs.HandleInv
import SfProofs.HandleRead
import SfProofs.HandlePres
import SfProofs.HandleOpen
import SfProofs.HandleContract
import SfProofs.HandleSeek
import SfProofs.HandleBytes
import SfProofs.CodecWriter
import SfProofs.CodecInv
import SfProofs.CodecClose
import SfProofs.CodecRun
import SfProofs.CodecTwo
import SfProofs.CodecFile
import SfProofs.Command
import SfProofs.HeaderCache
import SfProofs.ContainerSession
import SfProofs.ContainerWrite
import SfProofs.ContainerOpen
import SfProofs.ContainerParse
import SfProofs.ContainerWav
import SfProofs.ContainerSnap
import SfProofs.Faults
import SfProofs.BlockCodecs
import SfProofs.Dpcm
import SfProofs.BlockReader
import SfProofs.CafBytes
import SfProofs.CafImage
import SfProofs.W64Image
import SfProofs.CafSession
import SfProofs.W64Session
import SfProofs.Fields
import SfProofs.AiffRate
import SfProofs.AiffRead
import SfProofs.AiffImage
import SfProofs.AiffSession
import SfProofs.RdwrSpec
import SfProofs.RdwrCalls
import SfProofs.RdwrBytes
import SfProofs.RdwrInv
import SfProofs.RdwrSteps
import SfProofs.RdwrWrite
import SfProofs.RdwrRun
import SfProofs.RdwrOpen
import SfProofs.RdwrClose
import SfProofs.RdwrReopen
import SfProofs.RdwrAbs
import SfProofs.RdwrCor
import SfProofs.Ledger
import SfProofs.MetaBytes
import SfProofs.MetaStrings
import SfProofs.Ieee
import SfProofs.BlockWriter
import SfProofs.BlockVoxCarry
import SfProofs.HdrReadLemmas
import SfProofs.CafParse
import SfProofs.CafDataEnd
import SfProofs.W64Parse
import SfProofs.WavexSession
import SfProofs.DwvwBits
import SfProofs.DwvwEnc
import SfProofs.DwvwCalls
import SfProofs.DwvwDec
import SfProofs.AbsSeq
import SfProofs.AbsMeaning
import SfProofs.AbsRun
import SfProofs.AbsComplete
import SfProofs.AbsWriteLemmas
import SfProofs.NmsCodec
import SfProofs.G72x
import SfProofs.G72xRead
import SfProofs.G72xInv
import SfProofs.G72xPack
import SfProofs.NistSearch
import SfProofs.NistImage
import SfProofs.NistParse
import SfProofs.VocImage
import SfProofs.XiImage
import SfProofs.GsmLemmas
import SfProofs.GsmFileLemmas
import SfProofs.AbsBridgeEnc
import SfProofs.AbsBridge
import SfProofs.AbsBridgeRead
import SfProofs.AbsBridgeReadStep
import SfProofs.AbsCompleteW
import SfProofs.AbsBridgeLossless
import SfProofs.AbsBridgeSteps
import SfProofs.AbsBridgeRun
import SfProofs.AbsWriteMeaning
import SfProofs.AbsWriteComplete
import SfProofs.AbsRefine
import SfProofs.AbsRefineRun
import SfProofs.AbsSized
import SfProofs.Mat5Image
import SfProofs.SdsFileLemmas
import SfProofs.AdpcmEnc
import SfProofs.AdpcmRound
import SfProofs.BlockClosed
import SfProofs.NmsBlocks
import SfProofs.BlockStaged
import SfProofs.BlockPastEnd
import SfProofs.GsmSpec
import SfProofs.GsmRec
import SfProofs.GsmTwin
import SfProofs.GsmEncSums
import SfProofs.PeakStale
import SfProofs.AlacBits
import SfProofs.AlacEscape
import SfProofs.AlacLoop
import SfProofs.AlacBounds
import SfProofs.AlacInverse
import SfProofs.AlacMix
import SfProofs.AlacGolomb
import SfProofs.AlacGolombLoop
import SfProofs.AlacMono
import SfProofs.AlacEncState
import SfProofs.AlacPair
import SfProofs.Sd2Bounded
import SfProofs.Sd2Fuel
import SfProofs.AbsMetaMeaning
import SfProofs.AbsChunkMeaning
import SfProofs.AbsWriteBridge
import SfProofs.AbsWriteBridgeEnc
import SfProofs.AbsWriteBridgeRead
import SfProofs.AbsWriteBridgeHandle
import SfProofs.AbsWriteBridgeSmall
import SfProofs.AbsWriteBridgeSmallRun
import SfProofs.AbsWriteBridgeSmall2
import SfProofs.AbsBridgeHoles
import SfProofs.AbsWriteBridgeBlock
import SfProofs.AbsWriteBridgeSmall1
import SfProofs.Sd2Eval
import SfProofs.Sd2Walk
import SfProofs.AlacPakt
import SfProofs.AlacStream
import SfProofs.AlacWriter
import SfProofs.AbsWriteRate
import SfProofs.AbsWriteBridgeBlock3
import SfProofs.AbsWriteBridgeBlock3Writer
import SfProofs.AbsWriteBridgeBlock3Codec
import SfProofs.HandleGRefine
import SfProofs.HandleGInv2
import SfProofs.AbsWriteRateExact
import SfProofs.AbsWriteBridgeSample
import SfProofs.AbsWriteBridgeSampleRun
import SfProofs.AbsWriteBridgeSamplePeak
import SfProofs.ImaSeek
