import SfProps.C17
import SfProps.C08Calc
import SfProps.C17Routes
import SfProps.C17Size
#print axioms Sf.C17.cmd_in_bounds
#print axioms Sf.C17.string_cmds_terminate
#print axioms Sf.C17.queries_are_pure
#print axioms Sf.C17.strlen_after_empty_snprintf_old_rule
#print axioms Sf.C17.len_before_check_old_rule
#print axioms Sf.C17.len_before_check_old_vs_new
#print axioms Sf.C17.crlf_last_old_rule
#print axioms Sf.C17.crlf_old_rule_one_byte
#print axioms Sf.C17.calc_rdwr_old_rule
#print axioms Sf.C08Calc.read_from_rpos
#print axioms Sf.C08Calc.write_lands_wpos
#print axioms Sf.C08Calc.read_coherent
#print axioms Sf.C08Calc.write_coherent
#print axioms Sf.C08Calc.seekSet_coherent
#print axioms Sf.C08Calc.seekSet_rd_coherent
#print axioms Sf.C08Calc.seekSet_plain_coherent
#print axioms Sf.C08Calc.readF_sync
#print axioms Sf.C08Calc.scan_end
#print axioms Sf.C08Calc.calc_eq_rdwr
#print axioms Sf.C08Calc.calc_eq_read
#print axioms Sf.C08Calc.calc_same_pos
#print axioms Sf.C08Calc.calc_coherent
#print axioms Sf.C08Calc.calc_next_write_lands
#print axioms Sf.C08Calc.calc_next_read_from
#print axioms Sf.C08Calc.calc_invisible
#print axioms Sf.C08Calc.calc_restores_all
#print axioms Sf.C08Calc.calcTellFirst_old_rule
#print axioms Sf.C08Calc.calcTellFirst_read_handle
#print axioms Sf.C08Calc.calcKeepLastOp_old_rule
#print axioms Sf.C08Calc.calcKeepLastOp_same_pos
#print axioms Sf.C08Calc.calcKeepLastOp_write_lands_on_read_pointer
#print axioms Sf.C17Routes.truncate_route_guards
#print axioms Sf.C17Routes.calc_all_route_guards
#print axioms Sf.C17Routes.calc_signal_max_route_guards
#print axioms Sf.C17Size.minSize_no_wrap
#print axioms Sf.C17Size.guard64_exact
#print axioms Sf.C17Size.safe_by_datasize
#print axioms Sf.C17Size.safe_as_written
#print axioms Sf.C17Size.safe_field_bound_64
#print axioms Sf.C17Size.safe_site_a_alone
#print axioms Sf.C17Size.seeded_rule_reads_outside
#print axioms Sf.C17Size.varSet_guard_is_c_guard
