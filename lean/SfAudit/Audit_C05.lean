import SfProps.C05
import SfProps.C03Clamp
import SfProps.C04HandleG
import SfProps.C04RawWrite
import SfProps.C05Abs
import SfProps.C05Bridge
import SfProps.C05Foreign
import SfProps.C05G72x
import SfProps.C05HandleG
import SfProps.C05Stage
import SfProps.C05SvxPad
import SfProps.C05Vox
import SfProps.C06CodecsPastEnd
import SfProps.C06G72x
import SfProps.C06Gsm
import SfProps.C06GsmNoWrap
import SfProps.C06Nms
import SfProps.C06Query
import SfProps.C06VocBlocks
import SfProps.C07Adpcm
import SfProps.C07GsmEncSums
import SfProps.C07Nms
import SfProps.C08Holes
import SfProps.C08Raw
import SfProps.C15
import SfProps.C20CodecTables
import SfProps.C20G72x
import SfProps.C20G72xTrack
#print axioms Sf.C05.HInv_initial
#print axioms Sf.C05.HInv_preserved
#print axioms Sf.C05.HInv_reachable
#print axioms Sf.C05.HInv_gives
#print axioms Sf.C05.rdwr_positions_unbounded
#print axioms Sf.C05.read_contract
#print axioms Sf.C05.read_at_end
#print axioms Sf.C05.read_valid_no_error
#print axioms Sf.C05.read_data_any_mode
#print axioms Sf.C05.read_data_read_mode
#print axioms Sf.C05.read_contract_rmode
#print axioms Sf.C05.read_whole_frames
#print axioms Sf.C05.read_short_only_at_end
#print axioms Sf.C05.wH_opened
#print axioms Sf.C05.read_whole_frames_full_fails
#print axioms Sf.C05.read_whole_frames_old_rule
#print axioms Sf.C05.read_whole_frames_partial
#print axioms Sf.C05.write_contract
#print axioms Sf.C05.write_reads_only_request
#print axioms Sf.C03Clamp.cap_eq_req_mul
#print axioms Sf.C03Clamp.readTailOldC_eq_of_no_wrap
#print axioms Sf.C03Clamp.read_clamp_c_is_model
#print axioms Sf.C03Clamp.read_clamp_c_safe
#print axioms Sf.C03Clamp.read_clamp_overflow_old_rule
#print axioms Sf.C03Clamp.read_clamp_witness_repaired
#print axioms Sf.C03Clamp.read_clamp_old_rule_agrees_small
#print axioms Sf.C04HandleG.instances_lawful_all
#print axioms Sf.C04HandleG.aiff_rdwr_HInv
#print axioms Sf.C04HandleG.restore_rules_keep_bytes
#print axioms Sf.C04HandleG.closed_bytes_generic
#print axioms Sf.C04HandleG.closed_bytes_no_rewrite
#print axioms Sf.C04HandleG.write_two_calls_generic
#print axioms Sf.C04RawWrite.stepWriteRaw_plain
#print axioms Sf.C04RawWrite.write_raw_counts_frames
#print axioms Sf.C04RawWrite.fullOracle_contract
#print axioms Sf.C04RawWrite.channels_rule_iff_one_byte
#print axioms Sf.C04RawWrite.write_raw_complete
#print axioms Sf.C05Abs.predicate_ok_iff
#print axioms Sf.C05Abs.read_contract_abs
#print axioms Sf.C05Abs.read_invalid_abs
#print axioms Sf.C05Abs.read_only_invariant
#print axioms Sf.C05Bridge.geomOf_for
#print axioms Sf.C05Bridge.BInv_read_only
#print axioms Sf.C05Bridge.BInv_write_only
#print axioms Sf.C05Bridge.BInv_read_write
#print axioms Sf.C05Bridge.BInv_preserved
#print axioms Sf.C05Bridge.transcript_length
#print axioms Sf.C05Bridge.handle_run_accepted_from
#print axioms Sf.C05Bridge.absSt_stands_for
#print axioms Sf.C05Bridge.handle_run_accepted
#print axioms Sf.C05Bridge.opened_run_accepted
#print axioms Sf.C05Bridge.model_never_flagged
#print axioms Sf.C05Bridge.conv_command_replaces_stream
#print axioms Sf.C05Bridge.exOps_judged
#print axioms Sf.C05Foreign.foreign_info_frames
#print axioms Sf.C05Foreign.foreign_whole_read
#print axioms Sf.C05Foreign.foreign_read_at_end
#print axioms Sf.C05G72x.g72x_tables_extracted
#print axioms Sf.C05G72x.g72x_state_inv
#print axioms Sf.C05G72x.g72x_step_size_range
#print axioms Sf.C05G72x.step_safe
#print axioms Sf.C05G72x.g72x_encode_safe
#print axioms Sf.C05G72x.g72x_decode_safe
#print axioms Sf.C05G72x.g72x_rates_valid
#print axioms Sf.C05G72x.g72x_fmult_shifts
#print axioms Sf.C05G72x.g72x_quantize_shift
#print axioms Sf.C05G72x.g72x_float_shifts
#print axioms Sf.C05G72x.g72x_code_range
#print axioms Sf.C05G72x.g72x_codes_range
#print axioms Sf.C05G72x.g72x_decoder_short
#print axioms Sf.C05G72x.g72x_pack_unpack
#print axioms Sf.C05G72x.g72x_block_roundtrip
#print axioms Sf.C05G72x.g72x_decoder_tracks_encoder
#print axioms Sf.C05HandleG.handleG_refines_handle
#print axioms Sf.C05HandleG.handleG_step_refines
#print axioms Sf.C05HandleG.HInv_preserved_generic
#print axioms Sf.C05HandleG.HInv_history_generic
#print axioms Sf.C05HandleG.spec_satisfies_laws
#print axioms Sf.C05HandleG.instances_lawful
#print axioms Sf.C05HandleG.read_is_container_independent
#print axioms Sf.C05HandleG.seek_is_container_independent
#print axioms Sf.C05HandleG.write_contract_generic
#print axioms Sf.StageLoop.stored_call_write
#print axioms Sf.StageLoop.fwrite_stored
#print axioms Sf.StageLoop.writeLoop_counts_stored
#print axioms Sf.StageLoop.wholeFrames_eq
#print axioms Sf.StageLoop.write_call_counts_stored
#print axioms Sf.StageLoop.halfOracle_contract
#print axioms Sf.StageLoop.countedFull_overcounts
#print axioms Sf.StageLoop.notCounted_undercounts
#print axioms Sf.StageLoop.asWritten_counts
#print axioms Sf.StageLoop.no_fragment_partial
#print axioms Sf.StageLoop.tO_contract
#print axioms Sf.StageLoop.torn_item_witness
#print axioms Sf.StageLoop.no_fragment_full_fails
#print axioms Sf.StageLoop.judge_meaning
#print axioms Sf.StageLoop.accepted_count
#print axioms Sf.StageLoop.kernels_length
#print axioms Sf.StageLoop.kernels_stage
#print axioms Sf.StageLoop.direct_kernels
#print axioms Sf.C05SvxPad.frames_from_body
#print axioms Sf.C05SvxPad.frames_from_file_length_old_rule
#print axioms Sf.C05SvxPad.svx_pad_byte_is_not_audio
#print axioms Sf.C05SvxPad.svx_pad_byte_old_rule
#print axioms Sf.C05SvxPad.svx_unpadded_same
#print axioms Sf.C05Vox.vox_read_contract
#print axioms Sf.C05Vox.vox_read_call_contract
#print axioms Sf.C05Vox.vox_odd_read_overruns_old_rule
#print axioms Sf.C05Vox.vox_write_contract
#print axioms Sf.C05Vox.vox_odd_write_overcounts_old_rule
#print axioms Sf.C05Vox.vox_read_partition
#print axioms Sf.C05Vox.vox_read_partition_invariant
#print axioms Sf.C05Vox.vox_read_partition_old_rule
#print axioms Sf.C05Vox.vox_frames_bound
#print axioms Sf.C05Vox.vox_frames_old_rule
#print axioms Sf.C05Vox.vox_reopen_delivers_frames
#print axioms Sf.C05Vox.vox_handle_open_inv
#print axioms Sf.C05Vox.vox_handle_read
#print axioms Sf.C06CodecsPastEnd.nms_read_any
#print axioms Sf.C06CodecsPastEnd.nms_read_crossing_end
#print axioms Sf.C06CodecsPastEnd.gsm_read_any
#print axioms Sf.C06CodecsPastEnd.gsm_read_crossing_end
#print axioms Sf.C06CodecsPastEnd.g72x_read_crossing_end
#print axioms Sf.C06G72x.g72x_reader_wf
#print axioms Sf.C06G72x.g72x_reader_frames
#print axioms Sf.C06G72x.g72x_open_inv
#print axioms Sf.C06G72x.g72x_read_contract
#print axioms Sf.C06G72x.g72x_read_eof
#print axioms Sf.C06G72x.min_add_min
#print axioms Sf.C06G72x.deliveries_spec
#print axioms Sf.C06G72x.g72x_read_partition
#print axioms Sf.C06G72x.g72x_read_partition_one
#print axioms Sf.C06G72x.g72x_two_handles
#print axioms Sf.C06G72x.g72x_seek_refused
#print axioms Sf.C06G72x.g72x_samples_are_shorts
#print axioms Sf.C06Gsm.gsm_sat_ops_in_int16
#print axioms Sf.C06Gsm.gsm_add_is_clamped_sum
#print axioms Sf.C06Gsm.gsm_sub_is_clamped_difference
#print axioms Sf.C06Gsm.gsm_w16_exact_in_range
#print axioms Sf.C06Gsm.gsm_postproc_truncation_exact
#print axioms Sf.C06Gsm.gsm_multR_min_min
#print axioms Sf.C06Gsm.gsm_frame_fields_in_range
#print axioms Sf.C06Gsm.gsm_wav49_fields_in_range
#print axioms Sf.C06Gsm.gsm_bad_magic_untouched
#print axioms Sf.C06Gsm.gsm_expmant_in_range
#print axioms Sf.C06Gsm.gsm_expmant_loop_terminates
#print axioms Sf.C06Gsm.gsm_decoder_indices_in_range
#print axioms Sf.C06Gsm.gsm_decode_safe
#print axioms Sf.C06Gsm.gsm_reachable_states_safe
#print axioms Sf.C06Gsm.array_getD_mem
#print axioms Sf.C06Gsm.gsm_block_has_spb_samples
#print axioms Sf.C06Gsm.gsm_reader_wf
#print axioms Sf.C06Gsm.gsm_reads_deliver_stream
#print axioms Sf.C06Gsm.gsm_read_partition
#print axioms Sf.C06Gsm.gsm_read_staged
#print axioms Sf.C06Gsm.gsm_open_hinv
#print axioms Sf.C06Gsm.gsm_read_call_contract
#print axioms Sf.C06Gsm.gsm_read_at_end
#print axioms Sf.C06Gsm.gsm_seek_always_refused
#print axioms Sf.C06Gsm.gsm610_seek_as_written_loads_wrong_bytes
#print axioms Sf.C06GsmNoWrap.gsm_decoder_never_wraps
#print axioms Sf.C06GsmNoWrap.gsm_decoder_never_wraps_stream
#print axioms Sf.C06GsmNoWrap.gsm_decoder_mult_r_is_spec
#print axioms Sf.C06GsmNoWrap.gsm_postproc_is_floor8
#print axioms Sf.C06GsmNoWrap.gsm_lar_wrap_needs_out_of_field_code
#print axioms Sf.C06Nms.nms_reader_wf
#print axioms Sf.C06Nms.nms_open_inv
#print axioms Sf.C06Nms.nms_open_pos
#print axioms Sf.C06Nms.chunk_cases
#print axioms Sf.C06Nms.nms_read_inside
#print axioms Sf.C06Nms.nms_read_partition
#print axioms Sf.C06Nms.toCaller_zero
#print axioms Sf.C06Nms.nms_read_eof
#print axioms Sf.C06Nms.nms_sf_seek_refused
#print axioms Sf.C06Nms.nms_seek_cur_zero_refused
#print axioms Sf.C06Nms.nms_codec_seek_fails
#print axioms Sf.C06Nms.nms_codec_seek_rewinds
#print axioms Sf.C06Nms.nms_frames_at_reopen
#print axioms Sf.C06Nms.nms_partial_block_counts
#print axioms Sf.C06Nms.nms_short_block_ignores_buffer
#print axioms Sf.C06Nms.nms_short_block_old_rule
#print axioms Sf.C06Query.check_query
#print axioms Sf.C06Query.accepts_cons_query
#print axioms Sf.C06Query.stripQ_query
#print axioms Sf.C06Query.stripQ_keep
#print axioms Sf.C06Query.accepts_strip_queries
#print axioms Sf.C06Query.holds_iff_stripped
#print axioms Sf.C06Query.reads_with_queries_concat
#print axioms Sf.C06Query.read_query_read
#print axioms Sf.C06Query.get_chunk_data_restores_position
#print axioms Sf.C06Query.early_return_moves_position
#print axioms Sf.C06Query.early_return_same_when_nonempty
#print axioms Sf.C06VocBlocks.skipLen_sound
#print axioms Sf.C06VocBlocks.skipLen_end
#print axioms Sf.C06VocBlocks.skipLen_text
#print axioms Sf.C06VocBlocks.skipLen_repeat
#print axioms Sf.C06VocBlocks.text_then_sound
#print axioms Sf.C06VocBlocks.text_text_then_sound
#print axioms Sf.C06VocBlocks.repeat_text_then_sound
#print axioms Sf.C06VocBlocks.logged_rule_differs
#print axioms Sf.C06VocBlocks.logged_rule_agrees_below
#print axioms Sf.C06VocBlocks.readBlock_eq
#print axioms Sf.C06VocBlocks.readBlockAt_first
#print axioms Sf.C07Adpcm.frameList_spec
#print axioms Sf.C07Adpcm.adpcm_writer_wf
#print axioms Sf.C07Adpcm.adpcm_init_inv
#print axioms Sf.C07Adpcm.adpcm_chunk_whole_frames
#print axioms Sf.C07Adpcm.adpcm_write_is_fold
#print axioms Sf.C07Adpcm.adpcm_write_partition
#print axioms Sf.C07Adpcm.adpcm_closed_bytes_single
#print axioms Sf.C07Adpcm.shorts_of_tagged
#print axioms Sf.C07Adpcm.adpcm_write_partition_typed
#print axioms Sf.C07Adpcm.adpcm_geometry
#print axioms Sf.C07Adpcm.frameList_length
#print axioms Sf.C07Adpcm.adpcm_session_ran
#print axioms Sf.C07Adpcm.adpcm_session_state
#print axioms Sf.C07Adpcm.flatten_length_const
#print axioms Sf.C07Adpcm.closeSt_blocks
#print axioms Sf.C07Adpcm.adpcm_closed_length
#print axioms Sf.C07Adpcm.framesAtOpen_blocks
#print axioms Sf.C07Adpcm.adpcm_frames_at_reopen
#print axioms Sf.C07Adpcm.adpcm_header_frames
#print axioms Sf.C07Adpcm.ima_step_in_range
#print axioms Sf.C07Adpcm.ima_table_indices_safe
#print axioms Sf.C07Adpcm.adpcm_session_indices
#print axioms Sf.C07Adpcm.ms_predictor_in_range
#print axioms Sf.C07Adpcm.ms_step_in_range
#print axioms Sf.C07Adpcm.ms_table_indices_safe
#print axioms Sf.C07Adpcm.adpcm_refused_seek_clean
#print axioms Sf.C07Adpcm.adpcm_refused_seek_old_rule
#print axioms Sf.C07Adpcm.adpcm_write_seek_results
#print axioms Sf.C07Adpcm.adpcm_written_stream
#print axioms Sf.C07Adpcm.adpcm_written_stream_partition
#print axioms Sf.C07Adpcm.adpcm_int_narrowing
#print axioms Sf.C07Adpcm.ima_decoder_tracks_encoder
#print axioms Sf.C07Adpcm.ima_decoder_run_tracks
#print axioms Sf.C07Adpcm.ima_wav_mono_roundtrip
#print axioms Sf.C07GsmEncSums.autocorr_uses_scaled
#print axioms Sf.C07GsmEncSums.scaled_le
#print axioms Sf.C07GsmEncSums.gsm_autocorr_scaled_range
#print axioms Sf.C07GsmEncSums.gsm_autocorr_no_overflow
#print axioms Sf.C07GsmEncSums.gsm_ltp_power_no_overflow
#print axioms Sf.C07GsmEncSums.gsm_weighting_no_overflow
#print axioms Sf.C07GsmEncSums.gsm_grid_energy_no_overflow
#print axioms Sf.C07Nms.antilog_index_in_range
#print axioms Sf.C07Nms.antilog_shift_in_range
#print axioms Sf.C07Nms.code_index_in_range
#print axioms Sf.C07Nms.search_index_in_range
#print axioms Sf.C07Nms.encodeSample_state
#print axioms Sf.C07Nms.decodeSample_state
#print axioms Sf.C07Nms.reach_shape
#print axioms Sf.C07Nms.codec_step_safe
#print axioms Sf.C07Nms.decode_sample_range
#print axioms Sf.C07Nms.encode_sample_code
#print axioms Sf.C07Nms.masked_code_shape
#print axioms Sf.C07Nms.unpack32_pack32
#print axioms Sf.C07Nms.writer_wf
#print axioms Sf.C07Nms.nms_write_calls_fold
#print axioms Sf.C07Nms.nms_write_partition
#print axioms Sf.C07Nms.shortsOf_pieces
#print axioms Sf.C07Nms.nms_write_splits
#print axioms Sf.C07Nms.nms_close_flush
#print axioms Sf.C08Holes.zero_bytes_decode_zero
#print axioms Sf.C08Holes.zero_region_decodes_zero
#print axioms Sf.C08Holes.hole_zero_table
#print axioms Sf.C08Holes.zero_byte_u8_ulaw_alaw
#print axioms Sf.C08Holes.write_past_end_zero_fills
#print axioms Sf.C08Holes.truncate_extends_with_zeros
#print axioms Sf.C08Holes.geomOfH_for
#print axioms Sf.C08Holes.handle_run_accepted_holes
#print axioms Sf.C08Holes.model_never_flagged_holes
#print axioms Sf.C08Holes.hH_inv
#print axioms Sf.C08Raw.rawRead_keeps_write_side
#print axioms Sf.C08Raw.rawRead_meaning
#print axioms Sf.C08Raw.write_rawRead_write
#print axioms Sf.C08Raw.read_keeps_write_side
#print axioms Sf.C08Raw.readLike_keeps_write_side
#print axioms Sf.C08Raw.rawWrite_meaning
#print axioms Sf.C08Raw.update_keeps_frames
#print axioms Sf.C08Raw.update_after_growth
#print axioms Sf.C08Raw.update_old_rule_inflates
#print axioms Sf.C08Raw.rules_agree_without_tail
#print axioms Sf.C08Raw.update_with_mark
#print axioms Sf.C08Raw.stale_mark_loses_frames
#print axioms Sf.C15.calls_terminate_seek
#print axioms Sf.C15.defaultSeek_keeps
#print axioms Sf.C15.defaultSeek_fails_iff
#print axioms Sf.C15.readTail_hist_le
#print axioms Sf.C15.readTail_hist_extends
#print axioms Sf.C15.readCore_cases
#print axioms Sf.C15.readCore_hist_le
#print axioms Sf.C15.readGuard_none
#print axioms Sf.C15.calls_terminate
#print axioms Sf.C15.calls_terminate_write
#print axioms Sf.C15.wholeFrames_ret_range
#print axioms Sf.C15.readTail_ret_eq
#print axioms Sf.C15.readTail_ret_range
#print axioms Sf.C15.readCore_ret_range
#print axioms Sf.C15.returns_in_range
#print axioms Sf.C15.writeTail_ret_eq
#print axioms Sf.C15.returns_in_range_write
#print axioms Sf.C15.readTail_rpos
#print axioms Sf.C15.position_matches_count
#print axioms Sf.C15.position_matches_count_full_holds
#print axioms Sf.C15.partial_frame_clears_last_op
#print axioms Sf.C15.next_read_seeks_after_partial_frame
#print axioms Sf.C15.wO_loop
#print axioms Sf.C15.witness_ret_old_rule
#print axioms Sf.C15.witness_ret
#print axioms Sf.C15.position_matches_count_fails_old_rule
#print axioms Sf.C15.position_matches_count_exact_old_rule
#print axioms Sf.C15.readTail_eq_old_outside_class
#print axioms Sf.C15.position_matches_count_write
#print axioms Sf.C15.write_partial_frame_old_rule
#print axioms Sf.C15.seek_failure_keeps_position
#print axioms Sf.C15.accepted_prefix_preserved
#print axioms Sf.C20CodecTables.nms_table_expn_extracted
#print axioms Sf.C20CodecTables.nms_table_scale_factor_step_extracted
#print axioms Sf.C20CodecTables.nms_table_step_extracted
#print axioms Sf.C20CodecTables.nms_table_step_search_extracted
#print axioms Sf.C20CodecTables.nms_geometry_extracted
#print axioms Sf.C20CodecTables.nms_tables_extracted
#print axioms Sf.C20CodecTables.gsm_table_A_extracted
#print axioms Sf.C20CodecTables.gsm_table_B_extracted
#print axioms Sf.C20CodecTables.gsm_table_MIC_extracted
#print axioms Sf.C20CodecTables.gsm_table_MAC_extracted
#print axioms Sf.C20CodecTables.gsm_table_INVA_extracted
#print axioms Sf.C20CodecTables.gsm_table_DLB_extracted
#print axioms Sf.C20CodecTables.gsm_table_QLB_extracted
#print axioms Sf.C20CodecTables.gsm_table_H_extracted
#print axioms Sf.C20CodecTables.gsm_table_NRFAC_extracted
#print axioms Sf.C20CodecTables.gsm_table_FAC_extracted
#print axioms Sf.C20CodecTables.gsm_tables_extracted
#print axioms Sf.C20CodecTables.gsm_bitoff_extracted
#print axioms Sf.C20G72x.g72x_published_tables
#print axioms Sf.C20G72x.g72x_quantizer_monotone
#print axioms Sf.C20G72x.g72x_tables_symmetric
#print axioms Sf.C20G72x.g72x_reconstruction_in_cell
#print axioms Sf.C20G72x.g723_16_levels
#print axioms Sf.C20G72x.quan_cell
#print axioms Sf.C20G72x.quan_then_recon
#print axioms Sf.C20G72x.quan_pos
#print axioms Sf.C20G72x.g72x_quantize_then_reconstruct
#print axioms Sf.C20G72x.g72x_predictor_limits
#print axioms Sf.C20G72x.a2p_before_limc
#print axioms Sf.C20G72x.g72x_limc_upper_dead
#print axioms Sf.C20G72xTrack.directory_rate
#print axioms Sf.C20G72xTrack.g72x_decoder_tracks_encoder_all
#print axioms Sf.C20G72xTrack.g72x_tracks_over_blocks
#print axioms Sf.C20G72xTrack.encode_old_eq
#print axioms Sf.C20G72xTrack.runFitting_spec
#print axioms Sf.C20G72xTrack.encodeList_append_fst
#print axioms Sf.C20G72xTrack.first_block
#print axioms Sf.C20G72xTrack.stOld130_eq
#print axioms Sf.C20G72xTrack.g721_old_rule_sum_leaves_int16
#print axioms Sf.C20G72xTrack.g721_old_rule_decoder_diverges
#print axioms Sf.C20G72xTrack.g721_old_rule_bytes_differ
