import SfProps.C13
import SfProps.C13Abs
import SfProps.C13Late
import SfProps.C13QuerySeek
#print axioms Sf.C13.save_ok
#print axioms Sf.C13.wtab_inv
#print axioms Sf.C13.wtab_overflow_old_rule
#print axioms Sf.C13.storeRead_eq_save
#print axioms Sf.C13.rtab_inv
#print axioms Sf.C13.readSize_sizeField
#print axioms Sf.C13.parse_step
#print axioms Sf.C13.serAll_cons
#print axioms Sf.C13.ser_length
#print axioms Sf.C13.parse_serAll
#print axioms Sf.C13.iterRun_none
#print axioms Sf.C13.first_cons
#print axioms Sf.C13.iterNext_eq_first
#print axioms Sf.C13.iterRun_first
#print axioms Sf.C13.wanted_eq
#print axioms Sf.C13.wanted_all
#print axioms Sf.C13.iter_all_any_state
#print axioms Sf.C13.stale_iterator_old_rule
#print axioms Sf.C13.iter_by_id
#print axioms Sf.C13.mem_wanted
#print axioms Sf.C13.wanted_sorted
#print axioms Sf.C13.next_after_last
#print axioms Sf.C13.writef_flags_length
#print axioms Sf.C13.emitChunk_all
#print axioms Sf.C13.emitChunks_all
#print axioms Sf.C13.region_of_fits
#print axioms Sf.Chunk.HC.Wrote.refl
#print axioms Sf.Chunk.HC.Wrote.trans
#print axioms Sf.Chunk.HC.Wrote.advance
#print axioms Sf.C13.bump_grants
#print axioms Sf.C13.writef_all_kept
#print axioms Sf.C13.chunkItems_spec
#print axioms Sf.C13.writeChunks_all_kept
#print axioms Sf.C13.hdr_fits_up_to_cap
#print axioms Sf.C13.one_chunk_always_fits
#print axioms Sf.C13.hdr_not_always_fits
#print axioms Sf.C13.chunks_beyond_cap_dropped
#print axioms Sf.C13.one_big_chunk_is_dropped_old_rule
#print axioms Sf.C13.cstr_ne_zero
#print axioms Sf.C13.markerOf_a_ne_zero
#print axioms Sf.C13.u32_ne_zero
#print axioms Sf.C13.interpreted_covered
#print axioms Sf.C13.legalId_mark
#print axioms Sf.C13.toW_ok
#print axioms Sf.C13.entries_expected
#print axioms Sf.C13.chunks_roundtrip
#print axioms Sf.C13.le_totalLen
#print axioms Sf.C13.chunks_roundtrip_within_cap
#print axioms Sf.C13.lookup_uses_stored_marker
#print axioms Sf.C13.ids_refused_or_roundtrip
#print axioms Sf.C13.set_chunk_refusals
#print axioms Sf.C13.ids_outside_legal_old_rule
#print axioms Sf.C13.short_id_old_rule
#print axioms Sf.C13.ids_roundtrip_old_rule
#print axioms Sf.C13.tag_trailer_old_rule
#print axioms Sf.C13.get_data_bounded
#print axioms Sf.C13.zero_length_read_safe
#print axioms Sf.C13.zero_length_read_old_rule
#print axioms Sf.C13.late_set_harmless_partial
#print axioms Sf.C13.late_set_refused
#print axioms Sf.C13.late_set_harmless
#print axioms Sf.C13.late_set_old_rule
#print axioms Sf.C13.set_chunk_step
#print axioms Sf.C13Abs.chunks_contract_abs
#print axioms Sf.C13Abs.never_alarm_abs
#print axioms Sf.C13Abs.chunks_retrievable_by_id_abs
#print axioms Sf.C13Abs.get_data_copies_min_abs
#print axioms Sf.C13Abs.audio_untouched_abs
#print axioms Sf.C13Abs.model_entries_accepted
#print axioms Sf.C13Abs.model_set_answers_accepted
#print axioms Sf.C13Late.writeBy_sets_written
#print axioms Sf.C13Late.writeBy_refused_same
#print axioms Sf.C13Late.late_set_refused_after_any_write
#print axioms Sf.C13Late.writeAll_eq
#print axioms Sf.C13Late.late_set_refused_after_history
#print axioms Sf.C13Late.late_set_harmless_every_entry_point
#print axioms Sf.C13Late.lost_assignment_accepts_late_chunk
#print axioms Sf.C13Late.lost_assignment_hidden_by_other_entry_point
#print axioms Sf.C13QuerySeek.restore_needs_no_codec_seek
#print axioms Sf.C13QuerySeek.read_after_restore
#print axioms Sf.C13QuerySeek.forget_rule_same_when_seekable
#print axioms Sf.C13QuerySeek.forget_rule_loses_audio_when_seek_refused
#print axioms Sf.C13QuerySeek.dwvw_forget_rule
#print axioms Sf.C13QuerySeek.never_forget_rule
