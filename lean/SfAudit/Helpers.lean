/-
  Axiom audit of lemmas that property files use and that live under SfProofs (the per-property lists `Audit_Cxx.lean`,
  which every check run rewrites, cover the theorems of `SfProps/Cxx*.lean` only).
-/
import SfProofs.AlacBits
import SfProofs.AlacBounds
import SfProofs.AlacEncState
import SfProofs.AlacPakt
import SfProofs.MetaBytes
import SfProofs.MetaStrings
#print axioms Sf.AlacCore.bitsOf_drop
#print axioms Sf.AlacCore.bitsOf_mod
#print axioms Sf.AlacCore.decLoop_fuel
#print axioms Sf.AlacCore.encMono_cases
#print axioms Sf.AlacCore.encPair_cases
#print axioms Sf.AlacCore.monoSearch_ok
#print axioms Sf.AlacCore.monoTry_ok
#print axioms Sf.AlacCore.wrapU8_small
#print axioms Sf.AlacCore.zeroFill_inBounds
#print axioms Sf.C04Alac.berDec_berEnc
#print axioms Sf.C04Alac.berEnc_length
#print axioms Sf.C04Alac.paktDecodeLoop_encode
#print axioms Sf.C04AlacBer.countBlocks_all
#print axioms Sf.Meta.cstr_append_zero
#print axioms Sf.Meta.cstr_append_zero_gen
#print axioms Sf.Meta.find_key_of_nodup
#print axioms Sf.Meta.init_inv
#print axioms Sf.Meta.store_get
#print axioms Sf.Meta.store_inv
#print axioms Sf.Meta.store_ok
#print axioms Sf.Meta.store_refused_unchanged
