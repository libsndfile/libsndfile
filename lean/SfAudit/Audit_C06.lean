import SfProps.C06
import SfProps.C01AlacFile
import SfProps.C01Dwvw
import SfProps.C05Bridge
import SfProps.C05Foreign
import SfProps.C05G72x
import SfProps.C05HandleG
import SfProps.C05SvxPad
import SfProps.C05Vox
import SfProps.C06Abs
import SfProps.C06Alac
import SfProps.C06AlacStream
import SfProps.C06Block
import SfProps.C06CodecsPastEnd
import SfProps.C06G72x
import SfProps.C06Gsm
import SfProps.C06GsmNoWrap
import SfProps.C06ImaSeek
import SfProps.C06Nms
import SfProps.C06Query
import SfProps.C06VocBlocks
import SfProps.C07Adpcm
import SfProps.C07CodecsClosed
import SfProps.C08Holes
import SfProps.C13QuerySeek
import SfProps.C20CodecTables
#print axioms Sf.C06.seek_result
#print axioms Sf.C06.seek_success_read_mode
#print axioms Sf.C06.seek_cur_zero
#print axioms Sf.C06.seek_cur_zero_rdwr
#print axioms Sf.C06.seek_cur_zero_reports_next_frame
#print axioms Sf.C06.seek_cur_zero_partial
#print axioms Sf.C06.rwH0_opened
#print axioms Sf.C06.seek_cur_zero_full_fails
#print axioms Sf.C06.seek_then_read
#print axioms Sf.C06.seek_then_read_stream
#print axioms Sf.C06.partition_invariance
#print axioms Sf.C06.partition_invariance_items
#print axioms Sf.C06.call_variants_agree
#print axioms Sf.C01AlacFile.encSeq_ok
#print axioms Sf.C01AlacFile.alac_file_roundtrip
#print axioms Sf.C01AlacFile.coreCodec_ok
#print axioms Sf.C01AlacFile.alac_core_file_roundtrip
#print axioms Sf.C01Dwvw.dwvw_partition
#print axioms Sf.C01Dwvw.dwvw_partition_file
#print axioms Sf.C01Dwvw.dwvw_partition_caller
#print axioms Sf.C01Dwvw.dwvw_width_bounded
#print axioms Sf.C01Dwvw.dwvw_int_exact
#print axioms Sf.C01Dwvw.dwvw_short_exact
#print axioms Sf.C01Dwvw.dwvw_roundtrip
#print axioms Sf.C01Dwvw.dwvw_roundtrip_exact
#print axioms Sf.C01Dwvw.dwvw_file_nonempty
#print axioms Sf.C01Dwvw.dwvw_short_file_old_rule
#print axioms Sf.C01Dwvw.dwvw_read_split
#print axioms Sf.C01Dwvw.dwvw_read_split_full_holds
#print axioms Sf.C01Dwvw.dwvw_tail_witness_bytes
#print axioms Sf.C01Dwvw.dwvw_read_split_old_rule
#print axioms Sf.C01Dwvw.dwvw_read_split_full_old_rule_fails
#print axioms Sf.C01Dwvw.dwvw_read_calls
#print axioms Sf.C01Dwvw.dwvw_prefix_delivered
#print axioms Sf.C01Dwvw.frameScan_mono
#print axioms Sf.C01Dwvw.frameScan_ge
#print axioms Sf.C01Dwvw.dwvw_samples_le_bits
#print axioms Sf.C01Dwvw.dwvw_scan_ge
#print axioms Sf.C01Dwvw.dwvw_aiff_frames_exact
#print axioms Sf.C01Dwvw.dwvw_raw_frames_partial
#print axioms Sf.C01Dwvw.dwvw_raw_frames_full_false
#print axioms Sf.C05Bridge.geomOf_for
#print axioms Sf.C05Bridge.BInv_read_only
#print axioms Sf.C05Bridge.BInv_write_only
#print axioms Sf.C05Bridge.BInv_read_write
#print axioms Sf.C05Bridge.BInv_preserved
#print axioms Sf.C05Bridge.transcript_length
#print axioms Sf.C05Bridge.handle_run_accepted_from
#print axioms Sf.C05Bridge.absSt_stands_for
#print axioms Sf.C05Bridge.handle_run_accepted
#print axioms Sf.C05Bridge.opened_run_accepted
#print axioms Sf.C05Bridge.model_never_flagged
#print axioms Sf.C05Bridge.conv_command_replaces_stream
#print axioms Sf.C05Bridge.exOps_judged
#print axioms Sf.C05Foreign.foreign_info_frames
#print axioms Sf.C05Foreign.foreign_whole_read
#print axioms Sf.C05Foreign.foreign_read_at_end
#print axioms Sf.C05G72x.g72x_tables_extracted
#print axioms Sf.C05G72x.g72x_state_inv
#print axioms Sf.C05G72x.g72x_step_size_range
#print axioms Sf.C05G72x.step_safe
#print axioms Sf.C05G72x.g72x_encode_safe
#print axioms Sf.C05G72x.g72x_decode_safe
#print axioms Sf.C05G72x.g72x_rates_valid
#print axioms Sf.C05G72x.g72x_fmult_shifts
#print axioms Sf.C05G72x.g72x_quantize_shift
#print axioms Sf.C05G72x.g72x_float_shifts
#print axioms Sf.C05G72x.g72x_code_range
#print axioms Sf.C05G72x.g72x_codes_range
#print axioms Sf.C05G72x.g72x_decoder_short
#print axioms Sf.C05G72x.g72x_pack_unpack
#print axioms Sf.C05G72x.g72x_block_roundtrip
#print axioms Sf.C05G72x.g72x_decoder_tracks_encoder
#print axioms Sf.C05HandleG.handleG_refines_handle
#print axioms Sf.C05HandleG.handleG_step_refines
#print axioms Sf.C05HandleG.HInv_preserved_generic
#print axioms Sf.C05HandleG.HInv_history_generic
#print axioms Sf.C05HandleG.spec_satisfies_laws
#print axioms Sf.C05HandleG.instances_lawful
#print axioms Sf.C05HandleG.read_is_container_independent
#print axioms Sf.C05HandleG.seek_is_container_independent
#print axioms Sf.C05HandleG.write_contract_generic
#print axioms Sf.C05SvxPad.frames_from_body
#print axioms Sf.C05SvxPad.frames_from_file_length_old_rule
#print axioms Sf.C05SvxPad.svx_pad_byte_is_not_audio
#print axioms Sf.C05SvxPad.svx_pad_byte_old_rule
#print axioms Sf.C05SvxPad.svx_unpadded_same
#print axioms Sf.C05Vox.vox_read_contract
#print axioms Sf.C05Vox.vox_read_call_contract
#print axioms Sf.C05Vox.vox_odd_read_overruns_old_rule
#print axioms Sf.C05Vox.vox_write_contract
#print axioms Sf.C05Vox.vox_odd_write_overcounts_old_rule
#print axioms Sf.C05Vox.vox_read_partition
#print axioms Sf.C05Vox.vox_read_partition_invariant
#print axioms Sf.C05Vox.vox_read_partition_old_rule
#print axioms Sf.C05Vox.vox_frames_bound
#print axioms Sf.C05Vox.vox_frames_old_rule
#print axioms Sf.C05Vox.vox_reopen_delivers_frames
#print axioms Sf.C05Vox.vox_handle_open_inv
#print axioms Sf.C05Vox.vox_handle_read
#print axioms Sf.C06Abs.seek_result_abs
#print axioms Sf.C06Abs.seek_cur_zero_abs
#print axioms Sf.C06Abs.seek_then_read_abs
#print axioms Sf.C06Abs.partition_independence_abs
#print axioms Sf.C06Abs.sequential_equals_any_partition
#print axioms Sf.C06Alac.decodeBlock_cur
#print axioms Sf.C06Alac.decodeBlock_exhausted
#print axioms Sf.C06Alac.decodeBlock_true
#print axioms Sf.C06Alac.decodeBlock_ok
#print axioms Sf.C06Alac.readLoop_le
#print axioms Sf.C06Alac.readLoop_cur
#print axioms Sf.C06Alac.readLoop_within
#print axioms Sf.C06Alac.read_partition_within
#print axioms Sf.C06Alac.seekR_lands
#print axioms Sf.C06Alac.seekR_zero
#print axioms Sf.C06AlacStream.fresh_at_zero
#print axioms Sf.C06AlacStream.read_stream_cross_packet
#print axioms Sf.C06AlacStream.read_count_cross_packet
#print axioms Sf.C06AlacStream.take_take_drop
#print axioms Sf.C06AlacStream.read_sequence_cross_packet
#print axioms Sf.C06AlacStream.read_partition_cross_packet
#print axioms Sf.C06Block.lt_mul_ch_succ
#print axioms Sf.C06Block.block_reader_refines_stream
#print axioms Sf.C06Block.block_reader_init
#print axioms Sf.C06Block.block_reader_eof
#print axioms Sf.C06Block.block_reader_past_end
#print axioms Sf.C06Block.partition_invariance_block
#print axioms Sf.C06Block.seek_then_read_block
#print axioms Sf.C06Block.paf24_reader_wf
#print axioms Sf.C06Block.adpcm_reader_wf
#print axioms Sf.C06Block.ima_wav_seek_then_read
#print axioms Sf.C06Block.ms_seek_then_read
#print axioms Sf.C06Block.toy_wf
#print axioms Sf.C06CodecsPastEnd.nms_read_any
#print axioms Sf.C06CodecsPastEnd.nms_read_crossing_end
#print axioms Sf.C06CodecsPastEnd.gsm_read_any
#print axioms Sf.C06CodecsPastEnd.gsm_read_crossing_end
#print axioms Sf.C06CodecsPastEnd.g72x_read_crossing_end
#print axioms Sf.C06G72x.g72x_reader_wf
#print axioms Sf.C06G72x.g72x_reader_frames
#print axioms Sf.C06G72x.g72x_open_inv
#print axioms Sf.C06G72x.g72x_read_contract
#print axioms Sf.C06G72x.g72x_read_eof
#print axioms Sf.C06G72x.min_add_min
#print axioms Sf.C06G72x.deliveries_spec
#print axioms Sf.C06G72x.g72x_read_partition
#print axioms Sf.C06G72x.g72x_read_partition_one
#print axioms Sf.C06G72x.g72x_two_handles
#print axioms Sf.C06G72x.g72x_seek_refused
#print axioms Sf.C06G72x.g72x_samples_are_shorts
#print axioms Sf.C06Gsm.gsm_sat_ops_in_int16
#print axioms Sf.C06Gsm.gsm_add_is_clamped_sum
#print axioms Sf.C06Gsm.gsm_sub_is_clamped_difference
#print axioms Sf.C06Gsm.gsm_w16_exact_in_range
#print axioms Sf.C06Gsm.gsm_postproc_truncation_exact
#print axioms Sf.C06Gsm.gsm_multR_min_min
#print axioms Sf.C06Gsm.gsm_frame_fields_in_range
#print axioms Sf.C06Gsm.gsm_wav49_fields_in_range
#print axioms Sf.C06Gsm.gsm_bad_magic_untouched
#print axioms Sf.C06Gsm.gsm_expmant_in_range
#print axioms Sf.C06Gsm.gsm_expmant_loop_terminates
#print axioms Sf.C06Gsm.gsm_decoder_indices_in_range
#print axioms Sf.C06Gsm.gsm_decode_safe
#print axioms Sf.C06Gsm.gsm_reachable_states_safe
#print axioms Sf.C06Gsm.array_getD_mem
#print axioms Sf.C06Gsm.gsm_block_has_spb_samples
#print axioms Sf.C06Gsm.gsm_reader_wf
#print axioms Sf.C06Gsm.gsm_reads_deliver_stream
#print axioms Sf.C06Gsm.gsm_read_partition
#print axioms Sf.C06Gsm.gsm_read_staged
#print axioms Sf.C06Gsm.gsm_open_hinv
#print axioms Sf.C06Gsm.gsm_read_call_contract
#print axioms Sf.C06Gsm.gsm_read_at_end
#print axioms Sf.C06Gsm.gsm_seek_always_refused
#print axioms Sf.C06Gsm.gsm610_seek_as_written_loads_wrong_bytes
#print axioms Sf.C06GsmNoWrap.gsm_decoder_never_wraps
#print axioms Sf.C06GsmNoWrap.gsm_decoder_never_wraps_stream
#print axioms Sf.C06GsmNoWrap.gsm_decoder_mult_r_is_spec
#print axioms Sf.C06GsmNoWrap.gsm_postproc_is_floor8
#print axioms Sf.C06GsmNoWrap.gsm_lar_wrap_needs_out_of_field_code
#print axioms Sf.ImaSeek.seek_forgets
#print axioms Sf.ImaSeek.seek_after_history
#print axioms Sf.ImaSeek.seek_lands
#print axioms Sf.ImaSeek.read_within
#print axioms Sf.ImaSeek.read_across
#print axioms Sf.ImaSeek.pos_atBlock
#print axioms Sf.ImaSeek.seek_then_read
#print axioms Sf.ImaSeek.fast_path_unit_one
#print axioms Sf.ImaSeek.aiffStereo_wf
#print axioms Sf.ImaSeek.fast_path_aiff_stereo_wrong
#print axioms Sf.ImaSeek.read_slice
#print axioms Sf.ImaSeek.read_partition
#print axioms Sf.ImaSeek.seek_then_read_stream
#print axioms Sf.ImaSeek.wavMono_wf
#print axioms Sf.C06Nms.nms_reader_wf
#print axioms Sf.C06Nms.nms_open_inv
#print axioms Sf.C06Nms.nms_open_pos
#print axioms Sf.C06Nms.chunk_cases
#print axioms Sf.C06Nms.nms_read_inside
#print axioms Sf.C06Nms.nms_read_partition
#print axioms Sf.C06Nms.toCaller_zero
#print axioms Sf.C06Nms.nms_read_eof
#print axioms Sf.C06Nms.nms_sf_seek_refused
#print axioms Sf.C06Nms.nms_seek_cur_zero_refused
#print axioms Sf.C06Nms.nms_codec_seek_fails
#print axioms Sf.C06Nms.nms_codec_seek_rewinds
#print axioms Sf.C06Nms.nms_frames_at_reopen
#print axioms Sf.C06Nms.nms_partial_block_counts
#print axioms Sf.C06Nms.nms_short_block_ignores_buffer
#print axioms Sf.C06Nms.nms_short_block_old_rule
#print axioms Sf.C06Query.check_query
#print axioms Sf.C06Query.accepts_cons_query
#print axioms Sf.C06Query.stripQ_query
#print axioms Sf.C06Query.stripQ_keep
#print axioms Sf.C06Query.accepts_strip_queries
#print axioms Sf.C06Query.holds_iff_stripped
#print axioms Sf.C06Query.reads_with_queries_concat
#print axioms Sf.C06Query.read_query_read
#print axioms Sf.C06Query.get_chunk_data_restores_position
#print axioms Sf.C06Query.early_return_moves_position
#print axioms Sf.C06Query.early_return_same_when_nonempty
#print axioms Sf.C06VocBlocks.skipLen_sound
#print axioms Sf.C06VocBlocks.skipLen_end
#print axioms Sf.C06VocBlocks.skipLen_text
#print axioms Sf.C06VocBlocks.skipLen_repeat
#print axioms Sf.C06VocBlocks.text_then_sound
#print axioms Sf.C06VocBlocks.text_text_then_sound
#print axioms Sf.C06VocBlocks.repeat_text_then_sound
#print axioms Sf.C06VocBlocks.logged_rule_differs
#print axioms Sf.C06VocBlocks.logged_rule_agrees_below
#print axioms Sf.C06VocBlocks.readBlock_eq
#print axioms Sf.C06VocBlocks.readBlockAt_first
#print axioms Sf.C07Adpcm.frameList_spec
#print axioms Sf.C07Adpcm.adpcm_writer_wf
#print axioms Sf.C07Adpcm.adpcm_init_inv
#print axioms Sf.C07Adpcm.adpcm_chunk_whole_frames
#print axioms Sf.C07Adpcm.adpcm_write_is_fold
#print axioms Sf.C07Adpcm.adpcm_write_partition
#print axioms Sf.C07Adpcm.adpcm_closed_bytes_single
#print axioms Sf.C07Adpcm.shorts_of_tagged
#print axioms Sf.C07Adpcm.adpcm_write_partition_typed
#print axioms Sf.C07Adpcm.adpcm_geometry
#print axioms Sf.C07Adpcm.frameList_length
#print axioms Sf.C07Adpcm.adpcm_session_ran
#print axioms Sf.C07Adpcm.adpcm_session_state
#print axioms Sf.C07Adpcm.flatten_length_const
#print axioms Sf.C07Adpcm.closeSt_blocks
#print axioms Sf.C07Adpcm.adpcm_closed_length
#print axioms Sf.C07Adpcm.framesAtOpen_blocks
#print axioms Sf.C07Adpcm.adpcm_frames_at_reopen
#print axioms Sf.C07Adpcm.adpcm_header_frames
#print axioms Sf.C07Adpcm.ima_step_in_range
#print axioms Sf.C07Adpcm.ima_table_indices_safe
#print axioms Sf.C07Adpcm.adpcm_session_indices
#print axioms Sf.C07Adpcm.ms_predictor_in_range
#print axioms Sf.C07Adpcm.ms_step_in_range
#print axioms Sf.C07Adpcm.ms_table_indices_safe
#print axioms Sf.C07Adpcm.adpcm_refused_seek_clean
#print axioms Sf.C07Adpcm.adpcm_refused_seek_old_rule
#print axioms Sf.C07Adpcm.adpcm_write_seek_results
#print axioms Sf.C07Adpcm.adpcm_written_stream
#print axioms Sf.C07Adpcm.adpcm_written_stream_partition
#print axioms Sf.C07Adpcm.adpcm_int_narrowing
#print axioms Sf.C07Adpcm.ima_decoder_tracks_encoder
#print axioms Sf.C07Adpcm.ima_decoder_run_tracks
#print axioms Sf.C07Adpcm.ima_wav_mono_roundtrip
#print axioms Sf.C07CodecsClosed.block_writer_closed_form
#print axioms Sf.C07CodecsClosed.nms_encode_all_eq
#print axioms Sf.C07CodecsClosed.nms_closed_form
#print axioms Sf.C07CodecsClosed.nms_closed_length
#print axioms Sf.C07CodecsClosed.nms_frames_at_reopen_closed
#print axioms Sf.C07CodecsClosed.nms_decode_block_160
#print axioms Sf.C07CodecsClosed.nms_stream_flat
#print axioms Sf.C07CodecsClosed.nms_written_stream
#print axioms Sf.C07CodecsClosed.g72x_closed_form
#print axioms Sf.C07CodecsClosed.g72x_closed_length_chunks
#print axioms Sf.C07CodecsClosed.g72x_frames_at_reopen_closed
#print axioms Sf.C07CodecsClosed.g72x_written_stream
#print axioms Sf.C07CodecsClosed.gsm_closed_form
#print axioms Sf.C07CodecsClosed.gsm_closed_length
#print axioms Sf.C07CodecsClosed.gsm_frames_at_reopen_closed
#print axioms Sf.C07CodecsClosed.gsm_written_stream
#print axioms Sf.C08Holes.zero_bytes_decode_zero
#print axioms Sf.C08Holes.zero_region_decodes_zero
#print axioms Sf.C08Holes.hole_zero_table
#print axioms Sf.C08Holes.zero_byte_u8_ulaw_alaw
#print axioms Sf.C08Holes.write_past_end_zero_fills
#print axioms Sf.C08Holes.truncate_extends_with_zeros
#print axioms Sf.C08Holes.geomOfH_for
#print axioms Sf.C08Holes.handle_run_accepted_holes
#print axioms Sf.C08Holes.model_never_flagged_holes
#print axioms Sf.C08Holes.hH_inv
#print axioms Sf.C13QuerySeek.restore_needs_no_codec_seek
#print axioms Sf.C13QuerySeek.read_after_restore
#print axioms Sf.C13QuerySeek.forget_rule_same_when_seekable
#print axioms Sf.C13QuerySeek.forget_rule_loses_audio_when_seek_refused
#print axioms Sf.C13QuerySeek.dwvw_forget_rule
#print axioms Sf.C13QuerySeek.never_forget_rule
#print axioms Sf.C20CodecTables.nms_table_expn_extracted
#print axioms Sf.C20CodecTables.nms_table_scale_factor_step_extracted
#print axioms Sf.C20CodecTables.nms_table_step_extracted
#print axioms Sf.C20CodecTables.nms_table_step_search_extracted
#print axioms Sf.C20CodecTables.nms_geometry_extracted
#print axioms Sf.C20CodecTables.nms_tables_extracted
#print axioms Sf.C20CodecTables.gsm_table_A_extracted
#print axioms Sf.C20CodecTables.gsm_table_B_extracted
#print axioms Sf.C20CodecTables.gsm_table_MIC_extracted
#print axioms Sf.C20CodecTables.gsm_table_MAC_extracted
#print axioms Sf.C20CodecTables.gsm_table_INVA_extracted
#print axioms Sf.C20CodecTables.gsm_table_DLB_extracted
#print axioms Sf.C20CodecTables.gsm_table_QLB_extracted
#print axioms Sf.C20CodecTables.gsm_table_H_extracted
#print axioms Sf.C20CodecTables.gsm_table_NRFAC_extracted
#print axioms Sf.C20CodecTables.gsm_table_FAC_extracted
#print axioms Sf.C20CodecTables.gsm_tables_extracted
#print axioms Sf.C20CodecTables.gsm_bitoff_extracted
