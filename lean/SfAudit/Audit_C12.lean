import SfProps.C12
import SfProps.C12Abs
import SfProps.C12Crlf
import SfProps.C12Fix
import SfProps.C12Get
import SfProps.C12Late
import SfProps.C12Order
import SfProps.C12Round
import SfProps.C12Twin
import SfProps.C12X
import SfProps.C12XState
import SfProps.C13Late
#print axioms Sf.Meta.serCue_length
#print axioms Sf.Meta.parseCue_serCue
#print axioms Sf.Meta.parseCues_flatMap
#print axioms Sf.Meta.cue_roundtrip
#print axioms Sf.Meta.cue_names_lost
#print axioms Sf.Meta.cue_roundtrip_partial
#print axioms Sf.Meta.cue_count_limit_witness
#print axioms Sf.Meta.bext_chunk_roundtrip_with
#print axioms Sf.Meta.bext_chunk_roundtrip
#print axioms Sf.Meta.crlfGo_replicate
#print axioms Sf.Meta.crlfCopy_length
#print axioms Sf.Meta.strlcat_length
#print axioms Sf.Meta.closeLine_length
#print axioms Sf.Meta.normHistory_length
#print axioms Sf.Meta.bext_roundtrip
#print axioms Sf.Meta.bextSample_wf
#print axioms Sf.Meta.bext_full
#print axioms Sf.Meta.bext_over_limit_old_rule
#print axioms Sf.Meta.bext_history_limit_old_rule
#print axioms Sf.Meta.cart_chunk_roundtrip_with
#print axioms Sf.Meta.cart_chunk_roundtrip
#print axioms Sf.Meta.normTag_length
#print axioms Sf.Meta.cart_roundtrip
#print axioms Sf.Meta.cartSample_wf
#print axioms Sf.Meta.cart_full_size_old_rule
#print axioms Sf.Meta.normTag_plain_line_length
#print axioms Sf.Meta.infoMarker_spec
#print axioms Sf.Meta.serString_length
#print axioms Sf.Meta.serItem_length
#print axioms Sf.Meta.parseItemsW_front
#print axioms Sf.Meta.parseItemsW_item
#print axioms Sf.Meta.info_long_item_skipped
#print axioms Sf.Meta.info_long_item_ends_walk_old_rule
#print axioms Sf.Meta.parseItemsW_items_append
#print axioms Sf.Meta.parseItemsW_nil
#print axioms Sf.Meta.parseItemsW_items
#print axioms Sf.Meta.flatMap_serItem_length
#print axioms Sf.Meta.paddedLen_le_flatMap
#print axioms Sf.Meta.infoBody_length
#print axioms Sf.Meta.infoBody_length_sum
#print axioms Sf.Meta.parseInfoWith_serInfo
#print axioms Sf.Meta.parseItemsW_infoBody
#print axioms Sf.Meta.parseInfoWith_roundtrip
#print axioms Sf.Meta.info_roundtrip
#print axioms Sf.Meta.info_roundtrip_table
#print axioms Sf.Meta.info_full
#print axioms Sf.Meta.infoOk_replicate
#print axioms Sf.Meta.infoOk_long_title
#print axioms Sf.Meta.long_title_size
#print axioms Sf.Meta.parseInfoOld_long_item
#print axioms Sf.Meta.info_limit_old_rule
#print axioms Sf.Meta.info_later_items_dropped_old_rule
#print axioms Sf.Meta.info_roundtrip_short_items_old_rule
#print axioms Sf.Meta.loopTypeEnc_lt
#print axioms Sf.Meta.stop_roundtrip
#print axioms Sf.Meta.serLoop_length
#print axioms Sf.Meta.serLoops_length
#print axioms Sf.Meta.parseLoop_serLoop
#print axioms Sf.Meta.parseLoops_serLoops
#print axioms Sf.Meta.inst_roundtrip
#print axioms Sf.Meta.inst_ranges_lost
#print axioms Sf.Meta.inst_detune_sign_lost
#print axioms Sf.Meta.inst_roundtrip_partial
#print axioms Sf.Meta.detune_exact_range
#print axioms Sf.Meta.strings_store_inv
#print axioms Sf.Meta.software_suffix
#print axioms Sf.Meta.software_truncated_old_rule
#print axioms Sf.Meta.refused_set_erases_old_rule
#print axioms Sf.Meta.type_zero_bricks_table_old_rule
#print axioms Sf.Meta.step_effect
#print axioms Sf.Meta.step_refused_eq
#print axioms Sf.Meta.late_or_unsupported_is_harmless
#print axioms Sf.Meta.late_bext_keeps_size
#print axioms Sf.Meta.late_cart_keeps_size
#print axioms Sf.Meta.late_grow_old_rule
#print axioms Sf.Meta.set_cue_last_wins
#print axioms Sf.Meta.second_set_cue_old_rule
#print axioms Sf.C12Abs.metadata_survives_abs
#print axioms Sf.C12Abs.refused_or_late_harmless_abs
#print axioms Sf.C12Abs.order_independent_abs
#print axioms Sf.C12Abs.never_alarm_abs
#print axioms Sf.C12Abs.expOf_append
#print axioms Sf.C12Abs.foldl_bext_untouched
#print axioms Sf.C12Abs.expOf_bext_last
#print axioms Sf.C12Abs.bext_survives_abs
#print axioms Sf.C12Abs.normString_model
#print axioms Sf.C12Abs.normCueWav_model
#print axioms Sf.C12Abs.normCueAiff_model
#print axioms Sf.C12Abs.normCues_aiff_model
#print axioms Sf.C12Abs.bextP1_length
#print axioms Sf.C12Abs.bextP3_length
#print axioms Sf.C12Abs.seg_eq
#print axioms Sf.C12Abs.normBext_model
#print axioms Sf.C12Abs.model_bext_accepted
#print axioms Sf.C12Abs.normCart_model
#print axioms Sf.C12Abs.model_cart_accepted
#print axioms Sf.C12Crlf.crlfGo_some
#print axioms Sf.C12Crlf.crlfGo_none
#print axioms Sf.C12Crlf.first_token
#print axioms Sf.C12Crlf.crlfGo_toks
#print axioms Sf.C12Crlf.toks_clean
#print axioms Sf.C12Crlf.toks_length
#print axioms Sf.C12Crlf.toks_render
#print axioms Sf.C12Crlf.render_length
#print axioms Sf.C12Crlf.crlf_canonical
#print axioms Sf.C12Crlf.crlf_keeps_lines
#print axioms Sf.C12Crlf.crlf_eol_count
#print axioms Sf.C12Crlf.crlf_idempotent
#print axioms Sf.C12Crlf.crlf_truncates_at_token
#print axioms Sf.C12Crlf.crlfGo_length
#print axioms Sf.C12Crlf.crlfCopy_keeps_lines
#print axioms Sf.C12Crlf.collapse_rule_loses_empty_line
#print axioms Sf.C12Fix.cueText_no_zero
#print axioms Sf.C12Fix.cueText_length
#print axioms Sf.C12Fix.parseLabels_label
#print axioms Sf.C12Fix.parseLabels_labels
#print axioms Sf.C12Fix.serLabel_length_bounds
#print axioms Sf.C12Fix.flatMap_serLabel_length_le
#print axioms Sf.C12Fix.readLabels_writeLabels
#print axioms Sf.C12Fix.applyLabels_cons
#print axioms Sf.C12Fix.strip_eq_norm_of_unnamed
#print axioms Sf.C12Fix.applyLabels_named
#print axioms Sf.C12Fix.cue_names_roundtrip
#print axioms Sf.C12Fix.cue_names_old_rule
#print axioms Sf.C12Fix.cue_names_lost_old_rule
#print axioms Sf.C12Fix.aiff_cues_with_inst
#print axioms Sf.C12Fix.aiff_cues_with_inst_old_rule
#print axioms Sf.C12Fix.ssndHeader_length
#print axioms Sf.C12Fix.late_replace_audio_in_place
#print axioms Sf.C12Fix.late_replace_old_rule
#print axioms Sf.C12Get.store_read
#print axioms Sf.C12Get.shape_init
#print axioms Sf.C12Get.store_read_step
#print axioms Sf.C12Get.loadAll_runStr
#print axioms Sf.C12Get.allOk_read
#print axioms Sf.C12Get.get_init
#print axioms Sf.C12Get.get_loadAll
#print axioms Sf.C12Get.get_loadAll_nodup
#print axioms Sf.C12Late.list_back
#print axioms Sf.C12Late.meta_roundtrip_riff_any
#print axioms Sf.C12Late.rf64_odd_late_strings_lost_old_rule
#print axioms Sf.Meta.find_key_perm
#print axioms Sf.Meta.foldl_keyed
#print axioms Sf.Meta.foldl_perm_of_keyed
#print axioms Sf.Meta.get_run
#print axioms Sf.Meta.strings_order_independent
#print axioms Sf.Meta.step_frame
#print axioms Sf.Meta.step_reads_own
#print axioms Sf.Meta.field_order_independent
#print axioms Sf.Meta.meta_order_independent
#print axioms Sf.C12Round.bind_eq_map
#print axioms Sf.C12Round.strings_back
#print axioms Sf.C12Round.reopenNow_items
#print axioms Sf.C12Round.meta_roundtrip_riff
#print axioms Sf.C12Round.meta_roundtrip_wav
#print axioms Sf.C12Round.meta_roundtrip_wavex
#print axioms Sf.C12Round.meta_roundtrip_rf64
#print axioms Sf.C12Round.sampleHandle_within
#print axioms Sf.C12Round.bext_set_reopen
#print axioms Sf.C12Round.cart_set_reopen
#print axioms Sf.C12Round.aiff_cues_back
#print axioms Sf.C12Round.meta_roundtrip_aiff
#print axioms Sf.C12Round.meta_roundtrip_caf
#print axioms Sf.C12Round.chan_all_layout_tags
#print axioms Sf.C12Round.chan_tag_of_map_all
#print axioms Sf.C12Twin.twin_run_model
#print axioms Sf.C12Twin.setChannelMap_refused
#print axioms Sf.C12Twin.xstep_refused_eq
#print axioms Sf.C12Twin.chmap_refused_keeps_map
#print axioms Sf.C12Twin.twin_run_model_x
#print axioms Sf.C12Twin.chmap_refused_erases_old_rule
#print axioms Sf.MetaX.be4_length
#print axioms Sf.MetaX.be2_length
#print axioms Sf.MetaX.be8_length
#print axioms Sf.MetaX.ofBE_be4
#print axioms Sf.MetaX.ofBE_be2
#print axioms Sf.MetaX.ofBE_be8
#print axioms Sf.MetaX.sanitize_printable
#print axioms Sf.MetaX.printablePrefix_printable
#print axioms Sf.MetaX.aiffParseW_chunk
#print axioms Sf.MetaX.isPrint_ne_zero
#print axioms Sf.MetaX.sanitize_no_zero
#print axioms Sf.MetaX.aiffParseW_front
#print axioms Sf.MetaX.aiffParseW_item
#print axioms Sf.MetaX.aiffParseW_items
#print axioms Sf.MetaX.aiffOk_limits
#print axioms Sf.MetaX.aiff_text_roundtrip
#print axioms Sf.MetaX.aiff_text_roundtrip_short_old_rule
#print axioms Sf.MetaX.aiff_text_limits_witness
#print axioms Sf.MetaX.aiff_text_lengths_full
#print axioms Sf.MetaX.long_title_admissible
#print axioms Sf.MetaX.aiff_text_8190_old_rule
#print axioms Sf.MetaX.appl_stale_old_rule
#print axioms Sf.MetaX.cafKey_spec
#print axioms Sf.MetaX.cafPut_fits
#print axioms Sf.MetaX.cafPut_skip
#print axioms Sf.MetaX.flatMap_pairBytes_length
#print axioms Sf.MetaX.length_le_cafNeed
#print axioms Sf.MetaX.writeCafInfoW_skip
#print axioms Sf.MetaX.cafPairs_pair
#print axioms Sf.MetaX.cafPairs_pairs
#print axioms Sf.MetaX.caf_info_roundtrip_cap
#print axioms Sf.MetaX.cafNeed_le_stored
#print axioms Sf.MetaX.caf_info_roundtrip
#print axioms Sf.MetaX.cafOk_long_comment
#print axioms Sf.MetaX.caf_info_roundtrip_16k_old_rule
#print axioms Sf.MetaX.caf_buffer_limit_old_rule
#print axioms Sf.MetaX.layout_tags_nodup
#print axioms Sf.MetaX.layout_tags_lt
#print axioms Sf.MetaX.chan_roundtrip
#print axioms Sf.MetaX.pascal_spec
#print axioms Sf.MetaX.pascal_254_255
#print axioms Sf.MetaX.pascal_254_old_rule
#print axioms Sf.MetaX.serMark_length
#print axioms Sf.MetaX.parseMarks_mark
#print axioms Sf.MetaX.parseMarks_all
#print axioms Sf.MetaX.flatMap_serMark_length
#print axioms Sf.MetaX.mark_roundtrip
#print axioms Sf.C12XState.aiffItem_other
#print axioms Sf.C12XState.aiffStrings_filter
#print axioms Sf.C12XState.aiffItem_pos
#print axioms Sf.C12XState.aiffStrings_length_ge
#print axioms Sf.C12XState.aiff_strings_back
#print axioms Sf.C12XState.chanBack_norm
#print axioms Sf.C12XState.meta_roundtrip_aiff_state
#print axioms Sf.C12XState.meta_roundtrip_caf_state
#print axioms Sf.C12XState.sampleAiff_within
#print axioms Sf.C12XState.sampleCaf_within
#print axioms Sf.C13Late.writeBy_sets_written
#print axioms Sf.C13Late.writeBy_refused_same
#print axioms Sf.C13Late.late_set_refused_after_any_write
#print axioms Sf.C13Late.writeAll_eq
#print axioms Sf.C13Late.late_set_refused_after_history
#print axioms Sf.C13Late.late_set_harmless_every_entry_point
#print axioms Sf.C13Late.lost_assignment_accepts_late_chunk
#print axioms Sf.C13Late.lost_assignment_hidden_by_other_entry_point
