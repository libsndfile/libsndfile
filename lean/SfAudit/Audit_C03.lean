import SfProps.C03
import SfProps.C01AlacBits
import SfProps.C03Alac
import SfProps.C03AudioDetect
import SfProps.C03Clamp
import SfProps.C03Loops
import SfProps.C03Nist
import SfProps.C03Sites
import SfProps.C04Sd2
#print axioms Sf.C03.hdr_inv_init
#print axioms Sf.C03.hdr_inv
#print axioms Sf.C03.hdr_in_bounds
#print axioms Sf.C03.hdr_len_monotone
#print axioms Sf.C03.hdr_all_sequences
#print axioms Sf.C03.hdr_readf_safe
#print axioms Sf.C03.hdr_args_necessary
#print axioms Sf.C03.bump_denied_old_rule
#print axioms Sf.C03.bump_newlen_small
#print axioms Sf.C03.firstError_none
#print axioms Sf.C03.firstError_some
#print axioms Sf.C03.openFile_spec
#print axioms Sf.C03.open_postcondition
#print axioms Sf.C03.open_geometry
#print axioms Sf.C03.open_failure_reports
#print axioms Sf.C03.open_errs_nonzero
#print axioms Sf.C03.open_consts_agree
#print axioms Sf.C03.open_failure_message
#print axioms Sf.C03.readTail_asked
#print axioms Sf.C03.readWrap_ind
#print axioms Sf.C03.read_clamp
#print axioms Sf.C03.tdiv_le_of_le_mul
#print axioms Sf.C03.safe_fail
#print axioms Sf.C03.wholeItems_bounds
#print axioms Sf.C03.safe_tail
#print axioms Sf.C03.read_wrapper_safe
#print axioms Sf.C03.seek_range
#print axioms Sf.C03.chunk_query_in_buffer
#print axioms Sf.C03.chunk_query_total
#print axioms Sf.C03.scan_terminates
#print axioms Sf.C03.sds_scan_bounded_by_length
#print axioms Sf.C03.scan_current_stops_on_short_read
#print axioms Sf.C03.sds_scan_bounded
#print axioms Sf.C03.scan_eof_runs_old_rule
#print axioms Sf.C03.sds_scan_unbounded_old_rule
#print axioms Sf.C03.svx_eof_runs_old_rule
#print axioms Sf.C03.svx_eof_exits_fails_old_rule
#print axioms Sf.C03.svx_eof_exits_partial_old_rule
#print axioms Sf.C03.loop_progress_terminates_old_rule
#print axioms Sf.C03.svx_loop_bounded_partial_old_rule
#print axioms Sf.C03.nist_coding
#print axioms Sf.C03.nist_coding_fails_old_rule
#print axioms Sf.C03.nist_coding_partial_old_rule
#print axioms Sf.AlacCore.unpack3
#print axioms Sf.AlacCore.unpack2
#print axioms Sf.AlacCore.window_top
#print axioms Sf.AlacCore.read_drop_bitsOf
#print axioms Sf.AlacCore.bbWindow_reads
#print axioms Sf.AlacCore.bbWindow_eq_bits
#print axioms Sf.AlacCore.bbWindowSmall_reads
#print axioms Sf.AlacCore.bbWindowSmall_eq_bits
#print axioms Sf.AlacCore.bbWindow_18_fails
#print axioms Sf.AlacCore.decLoop_inBounds
#print axioms Sf.AlacCore.alac_decode_in_bounds
#print axioms Sf.AlacCore.dyn_decomp_in_bounds
#print axioms Sf.AlacCore.unpc_block_length
#print axioms Sf.AlacCore.alac_decode_total
#print axioms Sf.AlacCore.alac_decode_history_witness
#print axioms Sf.C03AudioDetect.b4_le
#print axioms Sf.C03AudioDetect.step_votes
#print axioms Sf.C03AudioDetect.groups_votes
#print axioms Sf.C03AudioDetect.vote_leFloat_all_or_nothing
#print axioms Sf.C03AudioDetect.vote_bounds
#print axioms Sf.C03AudioDetect.vote_in_bounds
#print axioms Sf.C03AudioDetect.verdict_range
#print axioms Sf.C03AudioDetect.audioDetect_range
#print axioms Sf.C03AudioDetect.audioDetect_short
#print axioms Sf.C03AudioDetect.verdict_threshold_4096
#print axioms Sf.C03AudioDetect.scan_range
#print axioms Sf.C03AudioDetect.scan_short
#print axioms Sf.C03AudioDetect.install_consistent
#print axioms Sf.C03AudioDetect.brokenLayout_consistent
#print axioms Sf.C03AudioDetect.analyze_consistent
#print axioms Sf.C03AudioDetect.install_keeps_major
#print axioms Sf.C03AudioDetect.analyze_outcome
#print axioms Sf.C03AudioDetect.analyze_pipe
#print axioms Sf.C03AudioDetect.analyze_short_file
#print axioms Sf.C03Clamp.cap_eq_req_mul
#print axioms Sf.C03Clamp.readTailOldC_eq_of_no_wrap
#print axioms Sf.C03Clamp.read_clamp_c_is_model
#print axioms Sf.C03Clamp.read_clamp_c_safe
#print axioms Sf.C03Clamp.read_clamp_overflow_old_rule
#print axioms Sf.C03Clamp.read_clamp_witness_repaired
#print axioms Sf.C03Clamp.read_clamp_old_rule_agrees_small
#print axioms Sf.C03.loop_current_step
#print axioms Sf.C03.chunk_loop_terminates
#print axioms Sf.C03.chunk_loop_bounded_by_input
#print axioms Sf.C03.chunk_loop_bounded_by_length
#print axioms Sf.C03.chunk_loop_last_iteration
#print axioms Sf.C03.chunk_loop_stuck_runs_old_rule
#print axioms Sf.C03.svx_backjump_unbounded_old_rule
#print axioms Sf.C03.pipe_eof_unbounded_old_rule
#print axioms Sf.C03.chunk_loop_same_outside_class_old_rule
#print axioms Sf.C03.caf_info_count
#print axioms Sf.C03.caf_info_count_fails_old_rule
#print axioms Sf.C03.caf_info_count_partial_old_rule
#print axioms Sf.C03Nist.nist_parse_short_file
#print axioms Sf.C03Nist.nist_short_file_verdict_fixed
#print axioms Sf.C03Nist.nist_readHeader_short
#print axioms Sf.C03.sites_consts
#print axioms Sf.C03.safe_quiet
#print axioms Sf.C03.ok_mk
#print axioms Sf.C03.copy_ok
#print axioms Sf.C03.text_ok
#print axioms Sf.C03.fixed_ok
#print axioms Sf.C03.bextFixed_ok
#print axioms Sf.C03.cartFixed_ok
#print axioms Sf.C03.bext_in_bounds
#print axioms Sf.C03.cart_in_bounds
#print axioms Sf.C03.cart_get_in_bounds
#print axioms Sf.C03.cart_get_overreads_old_rule
#print axioms Sf.C03.cart_get_in_bounds_partial_old_rule
#print axioms Sf.C03.peak_in_bounds
#print axioms Sf.C03.u32_range
#print axioms Sf.C03.infoBufSize_ge
#print axioms Sf.C03.info_string_in_bounds
#print axioms Sf.C03.info_skip_goes_forward
#print axioms Sf.C03.info_string_in_bounds_old_rule
#print axioms Sf.C03.labl_in_bounds
#print axioms Sf.C03.cue_in_bounds
#print axioms Sf.C03.smplIter_nonneg
#print axioms Sf.C03.smpl_in_bounds
#print axioms Sf.C03.aiff_text_in_bounds
#print axioms Sf.C03.aiff_text_in_bounds_old_rule
#print axioms Sf.C03.aiff_mark_in_bounds
#print axioms Sf.C03.aiff_comt_in_bounds
#print axioms Sf.C03.caf_info_in_bounds
#print axioms Sf.C03.caf_chan_in_bounds
#print axioms Sf.C04Sd2.sd2_parse_in_bounds
#print axioms Sf.C04Sd2.sd2_parse_in_bounds_any
#print axioms Sf.C04Sd2.sd2_str_copy_fits
#print axioms Sf.C04Sd2.sd2_buffer_len_le
#print axioms Sf.C04Sd2.sd2_parse_never_fuel
#print axioms Sf.C04Sd2.sd2_finish_sane
#print axioms Sf.C04Sd2.sd2_open_sane
#print axioms Sf.C04Sd2.sd2_decimal_roundtrip
#print axioms Sf.C04Sd2.sd2_rate_text_roundtrip
#print axioms Sf.C04Sd2.sd2_frames_from_data_file
#print axioms Sf.C04Sd2.sd2_reopen_info_instances
#print axioms Sf.C04Sd2.sd2_reopen_written
#print axioms Sf.C04Sd2.sd2_short_data_reaches_fork
#print axioms Sf.C04Sd2.sd2_short_data_reopens
#print axioms Sf.C04Sd2.sd2_short_data_old_rule
#print axioms Sf.C04Sd2.gap_congr
#print axioms Sf.C04Sd2.rsrcWith_congr
#print axioms Sf.C04Sd2.sd2_rsrc_deterministic
#print axioms Sf.C04Sd2.sd2_rsrc_stale_heap_rule
