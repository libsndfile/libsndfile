import SfProps.C02
import SfProps.C02Cross
import SfProps.C02Float
import SfProps.C02Label
import SfProps.C02Query
import SfProps.C07Adpcm
import SfProps.C20Cross
#print axioms Sf.C02.pcm_code_roundtrip
#print axioms Sf.C02.int_msb_rule_write_s16
#print axioms Sf.C02.int_msb_rule_write_s32
#print axioms Sf.C02.int_msb_rule_read_s32
#print axioms Sf.C02.int_msb_rule_read_s16
#print axioms Sf.C02.cross_type_agree_int
#print axioms Sf.C02.int_write_in_range
#print axioms Sf.C02.s16_write_read_id
#print axioms Sf.C02.s32_write_read_truncates
#print axioms Sf.C02.u8_offset
#print axioms Sf.C02Cross.pcm_read_agree
#print axioms Sf.C02Cross.wrapS32_shl16
#print axioms Sf.C02Cross.pcm16_valid
#print axioms Sf.C02Cross.pcm8_valid
#print axioms Sf.C02Cross.pcm24_valid
#print axioms Sf.C02Cross.pcm32_valid
#print axioms Sf.C02Cross.oki_view
#print axioms Sf.C02Cross.gsm_view
#print axioms Sf.C02Cross.nms_view
#print axioms Sf.C02Cross.g72x_view
#print axioms Sf.C02Cross.dpcm16_view
#print axioms Sf.C02Cross.dpcm8_view
#print axioms Sf.C02Cross.dwvw_view
#print axioms Sf.C02Cross.paf24_view
#print axioms Sf.C02Cross.readAgree_congr
#print axioms Sf.C02Cross.cross_type_read_agree_vox
#print axioms Sf.C02Cross.cross_type_read_agree_gsm
#print axioms Sf.C02Cross.cross_type_read_agree_nms
#print axioms Sf.C02Cross.cross_type_read_agree_g72x
#print axioms Sf.C02Cross.cross_type_read_agree_dpcm16
#print axioms Sf.C02Cross.cross_type_read_agree_dpcm8
#print axioms Sf.C02Cross.cross_type_read_agree_dwvw
#print axioms Sf.C02Cross.cross_type_read_agree_paf24
#print axioms Sf.C02Cross.cross_type_read_agree_sds
#print axioms Sf.C02Cross.cross_type_read_agree_g711
#print axioms Sf.C02Cross.narrowOf_int
#print axioms Sf.C02Cross.cross_type_write_agree_g72x
#print axioms Sf.C02Cross.cross_type_write_agree_nms
#print axioms Sf.C02Cross.cross_type_write_agree_vox
#print axioms Sf.C02Cross.cross_type_write_agree_gsm
#print axioms Sf.C02Cross.cross_type_write_agree_dpcm16
#print axioms Sf.C02Cross.cross_type_write_agree_dpcm8
#print axioms Sf.C02Cross.cross_type_write_agree_pcm
#print axioms Sf.C02Cross.cross_type_write_agree_pcm_bytes
#print axioms Sf.C02Cross.cross_type_widen_agree_pcm
#print axioms Sf.C02Cross.cross_type_widen_agree_16bit
#print axioms Sf.C02Cross.cross_type_widen_agree_wide
#print axioms Sf.C02Cross.mulNf_congr
#print axioms Sf.C02Cross.top_of_twin
#print axioms Sf.C02Cross.scale_consts
#print axioms Sf.C02Cross.float_twin
#print axioms Sf.C02Cross.cross_type_write_float_g72x
#print axioms Sf.C02Cross.cross_type_write_float_nms
#print axioms Sf.C02Cross.cross_type_write_float_vox
#print axioms Sf.C02Cross.cross_type_write_float_gsm
#print axioms Sf.C02Cross.cross_type_write_float_dpcm16
#print axioms Sf.C02Cross.cross_type_write_float_dpcm8
#print axioms Sf.C02Cross.cross_type_write_float_paf24_norm_off
#print axioms Sf.C02Cross.paf24_norm_off_write_old_rule
#print axioms Sf.C02Cross.cross_type_write_agree_g711
#print axioms Sf.C02Cross.g711_tables_top
#print axioms Sf.C02Cross.g711_int_min_sign_old_rule
#print axioms Sf.C02Cross.relAll_meaning
#print axioms Sf.C02Cross.narrow_accept_meaning
#print axioms Sf.C02Cross.widen_accept_meaning
#print axioms Sf.C02Cross.float_accept_meaning
#print axioms Sf.C02Cross.firstDisagree_none
#print axioms Sf.C02Cross.refs_accept_meaning
#print axioms Sf.C02Cross.switch_step_meaning
#print axioms Sf.C02Cross.switch_accept_cons
#print axioms Sf.C02Cross.switch_accept_append
#print axioms Sf.C02Cross.dpcm_read_state_type_independent
#print axioms Sf.C02Cross.dpcm_read_values
#print axioms Sf.C02Cross.cross_type_switch_g72x
#print axioms Sf.C02.rneShr_half_ulp
#print axioms Sf.C02.rneShr_ties_to_even
#print axioms Sf.C02.rneShr_monotone
#print axioms Sf.C02.rneShr_of_multiple
#print axioms Sf.C02.rint_nearest_even
#print axioms Sf.C02.rint_monotone
#print axioms Sf.C02.rint_of_int
#print axioms Sf.C02.ofDy_toDy_exact
#print axioms Sf.C02.toDy_ofDy_rounds
#print axioms Sf.C02.f32_ofInt_exact
#print axioms Sf.C02.f64_ofInt_exact
#print axioms Sf.C02.mul_pow2_exact_normal
#print axioms Sf.C02.f32to64_exact
#print axioms Sf.C02.f64to32_f32to64
#print axioms Sf.C02.float_read_exact
#print axioms Sf.C02.float_read_single_rounding
#print axioms Sf.C02.float_read_w32_raw
#print axioms Sf.C02.cross_type_agree_float
#print axioms Sf.C02.float_read_of_int_read
#print axioms Sf.C02.cross_type_agree_float32
#print axioms Sf.C02.nonfinite_is_huge
#print axioms Sf.C02.clip_in_range
#print axioms Sf.C02.clip_saturates
#print axioms Sf.C02.clip_monotone
#print axioms Sf.C02.float_write_inrange
#print axioms Sf.C02.double_rounding_witness
#print axioms Sf.C02.float_write_inrange_full_fails
#print axioms Sf.C02.float_write_w32_one_wraps
#print axioms Sf.C02.float_write_w32_from_float
#print axioms Sf.C02.norm_off_passthrough
#print axioms Sf.C02.g711_float_reads_index
#print axioms Sf.C02.g711_float_index_in_table
#print axioms Sf.C02.scale_int_float_write_rule
#print axioms Sf.C02.float_int_read_rule
#print axioms Sf.Label.keepAll_meaning
#print axioms Sf.Label.keepOk_meaning
#print axioms Sf.Label.keep_cross_container
#print axioms Sf.Label.keepTop_low_zero
#print axioms Sf.Label.keepTop_idem
#print axioms Sf.Label.keepTop_32
#print axioms Sf.Label.keep_rejects_wider
#print axioms Sf.Label.voc_writes_spec_label
#print axioms Sf.Label.voc_reads_spec_label
#print axioms Sf.Label.voc_label_swap_rejected
#print axioms Sf.Label.wavex_guid_is_wave_tag
#print axioms Sf.C02Query.switchFrom_isNone_index
#print axioms Sf.C02Query.switchFromQ_strip
#print axioms Sf.C02Query.switchOkQ_iff_strip
#print axioms Sf.C02Query.strip_append
#print axioms Sf.C02Query.switchOkQ_query_insert
#print axioms Sf.C02Query.wqueryOk_meaning
#print axioms Sf.C02Query.calc_keeps_normalisation
#print axioms Sf.C02Query.setNormD_returns_previous
#print axioms Sf.C02Query.calc_folded_save_fails
#print axioms Sf.C02Query.get_norm_keeps_state
#print axioms Sf.C02Query.decode_own_switch_only
#print axioms Sf.C02Query.decode_f64_ignores_normF
#print axioms Sf.C02Query.decode_f32_ignores_normD
#print axioms Sf.C02Query.mixed_switches_witness
#print axioms Sf.C07Adpcm.frameList_spec
#print axioms Sf.C07Adpcm.adpcm_writer_wf
#print axioms Sf.C07Adpcm.adpcm_init_inv
#print axioms Sf.C07Adpcm.adpcm_chunk_whole_frames
#print axioms Sf.C07Adpcm.adpcm_write_is_fold
#print axioms Sf.C07Adpcm.adpcm_write_partition
#print axioms Sf.C07Adpcm.adpcm_closed_bytes_single
#print axioms Sf.C07Adpcm.shorts_of_tagged
#print axioms Sf.C07Adpcm.adpcm_write_partition_typed
#print axioms Sf.C07Adpcm.adpcm_geometry
#print axioms Sf.C07Adpcm.frameList_length
#print axioms Sf.C07Adpcm.adpcm_session_ran
#print axioms Sf.C07Adpcm.adpcm_session_state
#print axioms Sf.C07Adpcm.flatten_length_const
#print axioms Sf.C07Adpcm.closeSt_blocks
#print axioms Sf.C07Adpcm.adpcm_closed_length
#print axioms Sf.C07Adpcm.framesAtOpen_blocks
#print axioms Sf.C07Adpcm.adpcm_frames_at_reopen
#print axioms Sf.C07Adpcm.adpcm_header_frames
#print axioms Sf.C07Adpcm.ima_step_in_range
#print axioms Sf.C07Adpcm.ima_table_indices_safe
#print axioms Sf.C07Adpcm.adpcm_session_indices
#print axioms Sf.C07Adpcm.ms_predictor_in_range
#print axioms Sf.C07Adpcm.ms_step_in_range
#print axioms Sf.C07Adpcm.ms_table_indices_safe
#print axioms Sf.C07Adpcm.adpcm_refused_seek_clean
#print axioms Sf.C07Adpcm.adpcm_refused_seek_old_rule
#print axioms Sf.C07Adpcm.adpcm_write_seek_results
#print axioms Sf.C07Adpcm.adpcm_written_stream
#print axioms Sf.C07Adpcm.adpcm_written_stream_partition
#print axioms Sf.C07Adpcm.adpcm_int_narrowing
#print axioms Sf.C07Adpcm.ima_decoder_tracks_encoder
#print axioms Sf.C07Adpcm.ima_decoder_run_tracks
#print axioms Sf.C07Adpcm.ima_wav_mono_roundtrip
#print axioms Sf.C20Cross.encode_flt_eq
#print axioms Sf.C20Cross.encode_dbl_eq
#print axioms Sf.C20Cross.replace_write_cross_f32
#print axioms Sf.C20Cross.replace_write_cross_f64
#print axioms Sf.C20Cross.replace_read_cross_f32
#print axioms Sf.C20Cross.replace_read_cross_f64
#print axioms Sf.C20Cross.deliver32_is_decode
#print axioms Sf.C20Cross.deliver64_is_decode
#print axioms Sf.C20Cross.replace_read_d2f_old_rule_fails
#print axioms Sf.C20Cross.replace_read_clip_old_rule_fails
