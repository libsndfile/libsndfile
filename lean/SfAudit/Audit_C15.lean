import SfProps.C15
import SfProps.C03Loops
import SfProps.C05Stage
import SfProps.C06Alac
import SfProps.C06VocBlocks
import SfProps.C07ShortIo
import SfProps.C14Latch
import SfProps.C15Latch
import SfProps.C15RawRw
import SfProps.C15Second
#print axioms Sf.C15.calls_terminate_seek
#print axioms Sf.C15.defaultSeek_keeps
#print axioms Sf.C15.defaultSeek_fails_iff
#print axioms Sf.C15.readTail_hist_le
#print axioms Sf.C15.readTail_hist_extends
#print axioms Sf.C15.readCore_cases
#print axioms Sf.C15.readCore_hist_le
#print axioms Sf.C15.readGuard_none
#print axioms Sf.C15.calls_terminate
#print axioms Sf.C15.calls_terminate_write
#print axioms Sf.C15.wholeFrames_ret_range
#print axioms Sf.C15.readTail_ret_eq
#print axioms Sf.C15.readTail_ret_range
#print axioms Sf.C15.readCore_ret_range
#print axioms Sf.C15.returns_in_range
#print axioms Sf.C15.writeTail_ret_eq
#print axioms Sf.C15.returns_in_range_write
#print axioms Sf.C15.readTail_rpos
#print axioms Sf.C15.position_matches_count
#print axioms Sf.C15.position_matches_count_full_holds
#print axioms Sf.C15.partial_frame_clears_last_op
#print axioms Sf.C15.next_read_seeks_after_partial_frame
#print axioms Sf.C15.wO_loop
#print axioms Sf.C15.witness_ret_old_rule
#print axioms Sf.C15.witness_ret
#print axioms Sf.C15.position_matches_count_fails_old_rule
#print axioms Sf.C15.position_matches_count_exact_old_rule
#print axioms Sf.C15.readTail_eq_old_outside_class
#print axioms Sf.C15.position_matches_count_write
#print axioms Sf.C15.write_partial_frame_old_rule
#print axioms Sf.C15.seek_failure_keeps_position
#print axioms Sf.C15.accepted_prefix_preserved
#print axioms Sf.C03.loop_current_step
#print axioms Sf.C03.chunk_loop_terminates
#print axioms Sf.C03.chunk_loop_bounded_by_input
#print axioms Sf.C03.chunk_loop_bounded_by_length
#print axioms Sf.C03.chunk_loop_last_iteration
#print axioms Sf.C03.chunk_loop_stuck_runs_old_rule
#print axioms Sf.C03.svx_backjump_unbounded_old_rule
#print axioms Sf.C03.pipe_eof_unbounded_old_rule
#print axioms Sf.C03.chunk_loop_same_outside_class_old_rule
#print axioms Sf.C03.caf_info_count
#print axioms Sf.C03.caf_info_count_fails_old_rule
#print axioms Sf.C03.caf_info_count_partial_old_rule
#print axioms Sf.StageLoop.stored_call_write
#print axioms Sf.StageLoop.fwrite_stored
#print axioms Sf.StageLoop.writeLoop_counts_stored
#print axioms Sf.StageLoop.wholeFrames_eq
#print axioms Sf.StageLoop.write_call_counts_stored
#print axioms Sf.StageLoop.halfOracle_contract
#print axioms Sf.StageLoop.countedFull_overcounts
#print axioms Sf.StageLoop.notCounted_undercounts
#print axioms Sf.StageLoop.asWritten_counts
#print axioms Sf.StageLoop.no_fragment_partial
#print axioms Sf.StageLoop.tO_contract
#print axioms Sf.StageLoop.torn_item_witness
#print axioms Sf.StageLoop.no_fragment_full_fails
#print axioms Sf.StageLoop.judge_meaning
#print axioms Sf.StageLoop.accepted_count
#print axioms Sf.StageLoop.kernels_length
#print axioms Sf.StageLoop.kernels_stage
#print axioms Sf.StageLoop.direct_kernels
#print axioms Sf.C06Alac.decodeBlock_cur
#print axioms Sf.C06Alac.decodeBlock_exhausted
#print axioms Sf.C06Alac.decodeBlock_true
#print axioms Sf.C06Alac.decodeBlock_ok
#print axioms Sf.C06Alac.readLoop_le
#print axioms Sf.C06Alac.readLoop_cur
#print axioms Sf.C06Alac.readLoop_within
#print axioms Sf.C06Alac.read_partition_within
#print axioms Sf.C06Alac.seekR_lands
#print axioms Sf.C06Alac.seekR_zero
#print axioms Sf.C06VocBlocks.skipLen_sound
#print axioms Sf.C06VocBlocks.skipLen_end
#print axioms Sf.C06VocBlocks.skipLen_text
#print axioms Sf.C06VocBlocks.skipLen_repeat
#print axioms Sf.C06VocBlocks.text_then_sound
#print axioms Sf.C06VocBlocks.text_text_then_sound
#print axioms Sf.C06VocBlocks.repeat_text_then_sound
#print axioms Sf.C06VocBlocks.logged_rule_differs
#print axioms Sf.C06VocBlocks.logged_rule_agrees_below
#print axioms Sf.C06VocBlocks.readBlock_eq
#print axioms Sf.C06VocBlocks.readBlockAt_first
#print axioms Sf.C07ShortIo.fread_prefix
#print axioms Sf.C07ShortIo.fread_complete
#print axioms Sf.C07ShortIo.fwriteLoop_eq_fread
#print axioms Sf.C07ShortIo.fwrite_prefix
#print axioms Sf.C07ShortIo.fwrite_complete
#print axioms Sf.C07ShortIo.fwrite_split_independent
#print axioms Sf.C07ShortIo.good_replicate_took
#print axioms Sf.C07ShortIo.tooks_append
#print axioms Sf.C07ShortIo.schedule_good
#print axioms Sf.C07ShortIo.fwrite_schedule_complete
#print axioms Sf.C07ShortIo.fwrite_scheduleAfter_complete
#print axioms Sf.C07ShortIo.eintr_first_only_rule_differs
#print axioms Sf.C07ShortIo.restart_rule_differs
#print axioms Sf.C14Latch.fseekL_obs
#print axioms Sf.C14Latch.fseekL_vio_latch
#print axioms Sf.C14Latch.fseekL_pipe_keeps
#print axioms Sf.C14Latch.fseekL_bad_whence_keeps
#print axioms Sf.C14Latch.fseekL_fd_latch
#print axioms Sf.C14Latch.fwriteL_latched
#print axioms Sf.C14Latch.fwriteL_clear
#print axioms Sf.C14Latch.stepL_clear
#print axioms Sf.C14Latch.runL_eq_run_of_clear
#print axioms Sf.C15.memAfter_cons
#print axioms Sf.C15.memStep_read_bytes
#print axioms Sf.C15.ioTell_bytes
#print axioms Sf.C15.ioLen_bytes
#print axioms Sf.C15.ioSeek_bytes
#print axioms Sf.C15.memStep_seek0
#print axioms Sf.C15.memStep_write_at0
#print axioms Sf.C15.failed_seek_latches
#print axioms Sf.C15.good_seek_unlatches
#print axioms Sf.C15.latch_only_moved_by_seeks
#print axioms Sf.C15.write_refused_after_failed_seek
#print axioms Sf.C15.seek0_write_contained
#print axioms Sf.C15.header_write_contained
#print axioms Sf.C15.header_over_audio_old_rule
#print axioms Sf.C15RawRw.defaultSeek_no_write
#print axioms Sf.C15RawRw.failed_reseek_contained
#print axioms Sf.C15RawRw.write_raw_seek_failure_contained
#print axioms Sf.C15RawRw.read_raw_seek_failure_contained
#print axioms Sf.C15RawRw.anyway_rule_writes
#print axioms Sf.RsrcSwap.opened_closed_free
#print axioms Sf.RsrcSwap.writeFork_code
#print axioms Sf.RsrcSwap.code_rule_releases
#print axioms Sf.RsrcSwap.early_rule_leaks
#print axioms Sf.RsrcSwap.early_rule_same_when_write_ok
#print axioms Sf.RsrcSwap.obsOk_meaning
