import SfProps.C11
import SfProps.C01Bridge
import SfProps.C01BridgeFacts
import SfProps.C01BridgeReopen
import SfProps.C01BridgeRun
import SfProps.C04Aiff
import SfProps.C04Avr
import SfProps.C04Bridge
import SfProps.C04Bridge2
import SfProps.C04Bridge2Ex
import SfProps.C04Bridge3
import SfProps.C04BridgeAiff
import SfProps.C04BridgeCaf
import SfProps.C04BridgeW64
import SfProps.C04Caf
import SfProps.C04Gsm
import SfProps.C04GsmPad
import SfProps.C04Htk
import SfProps.C04Ircam
import SfProps.C04Mat4
import SfProps.C04Mat5
import SfProps.C04Mpc2k
import SfProps.C04Nist
import SfProps.C04Paf
import SfProps.C04Pvf
import SfProps.C04Rf64
import SfProps.C04Sd2
import SfProps.C04Sds
import SfProps.C04Svx
import SfProps.C04Voc
import SfProps.C04W64
import SfProps.C04Wavex
import SfProps.C04Wve
import SfProps.C04Xi
import SfProps.C07Bridge3
import SfProps.C07BridgeDpcm
import SfProps.C08Raw
import SfProps.C11AbsW
import SfProps.C11BlockEdge
import SfProps.C11Rdwr
#print axioms Sf.C11.snapshot_valid_au
#print axioms Sf.C11.snapshot_valid_wav
#print axioms Sf.C11.auto_write_is_snapshot
#print axioms Sf.C11.updates_dont_change_audio
#print axioms Sf.C01Bridge.model_session_accepted
#print axioms Sf.C01Bridge.model_session_never_flagged
#print axioms Sf.C01Bridge.model_session_clauses
#print axioms Sf.C01Bridge.model_session_good
#print axioms Sf.C01Bridge.model_crash_points
#print axioms Sf.C01Bridge.exS_ok
#print axioms Sf.AbsWriteBridge.strip_runW
#print axioms Sf.AbsWriteBridge.toW_ok
#print axioms Sf.AbsWriteBridge.toW_hasTy
#print axioms Sf.AbsWriteBridge.toW_samples
#print axioms Sf.AbsWriteBridge.closed_eq_oneCall
#print axioms Sf.AbsWriteBridge.closed_partition
#print axioms Sf.AbsWriteBridge.image_reopen
#print axioms Sf.AbsWriteBridge.geom_block
#print axioms Sf.AbsWriteBridge.geom_rate
#print axioms Sf.AbsWriteBridge.run_data_ty
#print axioms Sf.AbsWriteBridge.reopen_read
#print axioms Sf.AbsWriteBridge.sessFrames_append
#print axioms Sf.AbsWriteBridge.crashPoints_spec
#print axioms Sf.AbsWriteBridge.predOf_g
#print axioms Sf.AbsWriteBridge.predOf_ty
#print axioms Sf.AbsWriteBridge.predOf_split_calls
#print axioms Sf.AbsWriteBridge.predOf_one_calls
#print axioms Sf.AbsWriteBridge.snapOf_k
#print axioms Sf.AbsWriteBridge.geom_ch
#print axioms Sf.AbsWriteBridge.handle_pred_good
#print axioms Sf.C04Aiff.aiff_rate_roundtrip
#print axioms Sf.C04Aiff.aiff_rate_full_holds
#print axioms Sf.C04Aiff.aiff_rate_collapse_old_rule
#print axioms Sf.C04Aiff.aiff_rate_full_fails_old_rule
#print axioms Sf.C04Aiff.aiff_rate_partial_old_rule
#print axioms Sf.C04Aiff.aiff_old_files_new_reader
#print axioms Sf.C04Aiff.closedBytes_eq
#print axioms Sf.C04Aiff.aiff_reopen_info
#print axioms Sf.C04Aiff.aiff_frames_exact
#print axioms Sf.C04Aiff.closedBytesOld_eq
#print axioms Sf.C04Aiff.aiff_reopen_info_old_rule
#print axioms Sf.C04Aiff.aiff_frames_bound_old_rule
#print axioms Sf.C04Aiff.aiff_frames_exact_fails_old_rule
#print axioms Sf.C04Aiff.aiff_size_fields
#print axioms Sf.C04Aiff.stale_frames_ignored_aiff
#print axioms Sf.C04Aiff.snapshotBytes_eq
#print axioms Sf.C04Aiff.auto_write_is_update
#print axioms Sf.C04Aiff.aiff_snapshot_valid
#print axioms Sf.C04Avr.snapshotBytes_eq
#print axioms Sf.C04Avr.closedBytes_eq
#print axioms Sf.C04Avr.avr_reopen_info
#print axioms Sf.C04Avr.avr_frames_bound
#print axioms Sf.C04Avr.avr_size_fields
#print axioms Sf.C04Avr.stale_frames_ignored_avr
#print axioms Sf.C04Avr.avr_snapshot_valid
#print axioms Sf.C04Avr.auto_write_is_update
#print axioms Sf.C04Bridge.cont_session_accepted
#print axioms Sf.C04Bridge.whole_single
#print axioms Sf.C04Bridge.guardOf_data
#print axioms Sf.C04Bridge.parse_single
#print axioms Sf.C04Bridge.sampleList_prefix_le
#print axioms Sf.C04Bridge.guardOf_toW
#print axioms Sf.C04Bridge.guarded_session_accepted
#print axioms Sf.C04Bridge.encFor_raw
#print axioms Sf.C04Bridge.geom_facts
#print axioms Sf.C04Bridge.small2_facts
#print axioms Sf.C04Bridge.wve_laws
#print axioms Sf.C04Bridge.wve_session_accepted
#print axioms Sf.C04Bridge.mat4_facts
#print axioms Sf.C04Bridge.mat4_session_accepted
#print axioms Sf.C04Bridge.mpc2k_facts
#print axioms Sf.C04Bridge.mpc2k_session_accepted
#print axioms Sf.C04Bridge.htk_rate_exact_accepted
#print axioms Sf.C04Bridge.htk_rate_exact_only
#print axioms Sf.C04Bridge.htk_facts
#print axioms Sf.C04Bridge.htk_session_accepted
#print axioms Sf.C04Bridge.htk_rate_tolerance
#print axioms Sf.C04Bridge.htk_rate_tolerance_old_rule
#print axioms Sf.C04Bridge.pvf_facts
#print axioms Sf.C04Bridge.pvf_session_accepted_all
#print axioms Sf.C04Bridge.pvf_session_accepted
#print axioms Sf.C04Bridge.avr_facts
#print axioms Sf.C04Bridge.avr_session_accepted
#print axioms Sf.C04Bridge2.paf_facts
#print axioms Sf.C04Bridge2.paf_session_accepted
#print axioms Sf.C04Bridge2.ircam_facts
#print axioms Sf.C04Bridge2.ircam_session_accepted
#print axioms Sf.C04Bridge2.svx_facts
#print axioms Sf.C04Bridge2.svx_session_accepted
#print axioms Sf.C04Bridge2.laws_fixStale
#print axioms Sf.C04Bridge2.nist_facts
#print axioms Sf.C04Bridge2.nistCont_is_model
#print axioms Sf.C04Bridge2.nist_session_accepted
#print axioms Sf.C04Bridge2.mat5_facts
#print axioms Sf.C04Bridge2.mat5_session_accepted
#print axioms Sf.C04Bridge2.laws_withClosed
#print axioms Sf.C04Bridge2.voc_rate_ok9
#print axioms Sf.C04Bridge2.voc_codec
#print axioms Sf.C04Bridge2.voc_bw
#print axioms Sf.C04Bridge2.voc_laws
#print axioms Sf.C04Bridge2.voc_session_accepted
#print axioms Sf.C04Bridge2.ircam_rate_clause
#print axioms Sf.C04Bridge2.voc_rate_clause_u8
#print axioms Sf.C04Bridge3.ircam_rate_exact_accepted
#print axioms Sf.C04Bridge3.ircam_rate_exact_only
#print axioms Sf.C04Bridge3.ircam_rate_cap_old_rule
#print axioms Sf.C04Bridge3.ircam_session_accepted_every_rate
#print axioms Sf.C04Bridge3.svx_rate_exact_accepted
#print axioms Sf.C04Bridge3.svx_rate_exact_only
#print axioms Sf.C04Bridge3.mpc2k_rate_exact_only
#print axioms Sf.C04Bridge3.field16_old_rule
#print axioms Sf.C04Bridge3.vocGeom_major
#print axioms Sf.C04Bridge3.vocGeom_codec
#print axioms Sf.C04Bridge3.voc_rate_exact_accepted
#print axioms Sf.C04Bridge3.voc_rate_ok
#print axioms Sf.C04Bridge3.voc_rate_exact_only
#print axioms Sf.C04Bridge3.voc_rate_tolerance_old_rule
#print axioms Sf.C04Bridge3.voc_record_rate
#print axioms Sf.C04Bridge3.voc_session_accepted_every_rate
#print axioms Sf.C04Bridge3.acceptedG_of_accepted
#print axioms Sf.C04Bridge3.svx_reopen_info
#print axioms Sf.C04Bridge3.svx_snapshot_valid_parse
#print axioms Sf.C04Bridge3.svx_session_accepted_all
#print axioms Sf.C04Bridge3.svx_reopen_info_old_rule_fails
#print axioms Sf.C04Bridge3.svx_reopen_info_old_rule
#print axioms Sf.C04Bridge3.whole_toS
#print axioms Sf.C04Bridge3.peakOk_toS
#print axioms Sf.C04Bridge3.peakJob_refOps
#print axioms Sf.C04Bridge3.peakJob_prefix
#print axioms Sf.C04Bridge3.peakJob_example
#print axioms Sf.C04Bridge3.peak_session_good
#print axioms Sf.C04Bridge3.w64_session_good
#print axioms Sf.C04Bridge3.w64_session_accepted
#print axioms Sf.C04Bridge3.aiff_session_good
#print axioms Sf.C04Bridge3.aiff_session_accepted
#print axioms Sf.C04Bridge3.caf_session_good
#print axioms Sf.C04Bridge3.caf_session_accepted
#print axioms Sf.AbsWriteBridge.Sample.aiffCont_closed
#print axioms Sf.AbsWriteBridge.Sample.aiffCont_store
#print axioms Sf.AbsWriteBridge.Sample.aiffCont_parse
#print axioms Sf.AbsWriteBridge.Sample.aiff_encOf_raw
#print axioms Sf.AbsWriteBridge.Sample.aiffGeom_facts
#print axioms Sf.AbsWriteBridge.Sample.aiff_enc_nbytes
#print axioms Sf.AbsWriteBridge.Sample.aiff_enc_float
#print axioms Sf.AbsWriteBridge.Sample.aiff_fmtWord
#print axioms Sf.AbsWriteBridge.Sample.aiffOps_append
#print axioms Sf.AbsWriteBridge.Sample.opsData_aiffOps
#print axioms Sf.AbsWriteBridge.Sample.aiff_run_append
#print axioms Sf.AbsWriteBridge.Sample.aiff_applyOp_peaks
#print axioms Sf.AbsWriteBridge.Sample.aiff_run_peaks
#print axioms Sf.AbsWriteBridge.Sample.aiff_finalPeaks
#print axioms Sf.AbsWriteBridge.Sample.aiff_closed_eq
#print axioms Sf.AbsWriteBridge.Sample.aiff_hdr_length
#print axioms Sf.AbsWriteBridge.Sample.aiff_snapshot_form
#print axioms Sf.AbsWriteBridge.Sample.aiff_store_snapshot
#print axioms Sf.AbsWriteBridge.Sample.aiff_slaws
#print axioms Sf.AbsWriteBridge.Sample.aiff_example_cfg
#print axioms Sf.AbsWriteBridge.Sample.aiff_example_guard
#print axioms Sf.AbsWriteBridge.Sample.cafCont_parse
#print axioms Sf.AbsWriteBridge.Sample.caf_codec_table
#print axioms Sf.AbsWriteBridge.Sample.cafEnc_nbytes
#print axioms Sf.AbsWriteBridge.Sample.cafEnc_float
#print axioms Sf.AbsWriteBridge.Sample.cafGeom_facts
#print axioms Sf.AbsWriteBridge.Sample.cafTableOk_upd
#print axioms Sf.AbsWriteBridge.Sample.cafWritePeaks_length
#print axioms Sf.AbsWriteBridge.Sample.caf_run_append
#print axioms Sf.AbsWriteBridge.Sample.cafOps_append
#print axioms Sf.AbsWriteBridge.Sample.cafTableOk_of_inv
#print axioms Sf.AbsWriteBridge.Sample.cafOp_inv
#print axioms Sf.AbsWriteBridge.Sample.cafOps_inv
#print axioms Sf.AbsWriteBridge.Sample.cafTable_partition
#print axioms Sf.AbsWriteBridge.Sample.caf_open_inv
#print axioms Sf.AbsWriteBridge.Sample.caf_run_inv
#print axioms Sf.AbsWriteBridge.Sample.caf_closed_image
#print axioms Sf.AbsWriteBridge.Sample.caf_store_hdr
#print axioms Sf.AbsWriteBridge.Sample.caf_form_parse
#print axioms Sf.AbsWriteBridge.Sample.caf_slaws
#print axioms Sf.AbsWriteBridge.Sample.caf_slaws_pcm
#print axioms Sf.AbsWriteBridge.Sample.w64Cont_parse
#print axioms Sf.AbsWriteBridge.Sample.w64_codec_table
#print axioms Sf.AbsWriteBridge.Sample.w64Enc_nbytes
#print axioms Sf.AbsWriteBridge.Sample.w64Geom_facts
#print axioms Sf.AbsWriteBridge.Sample.w64Ops_append
#print axioms Sf.AbsWriteBridge.Sample.w64_run_append
#print axioms Sf.AbsWriteBridge.Sample.w64OpOf_inv
#print axioms Sf.AbsWriteBridge.Sample.w64Ops_inv
#print axioms Sf.AbsWriteBridge.Sample.w64_closed_image
#print axioms Sf.AbsWriteBridge.Sample.w64_store_image
#print axioms Sf.AbsWriteBridge.Sample.w64_image_form
#print axioms Sf.AbsWriteBridge.Sample.w64_image_parse
#print axioms Sf.AbsWriteBridge.Sample.w64_slaws
#print axioms Sf.C04Caf.caf_header_length
#print axioms Sf.C04Caf.image_fields
#print axioms Sf.C04Caf.caf_size_fields
#print axioms Sf.C04Caf.caf_rate_field
#print axioms Sf.C04Caf.stale_frames_ignored_caf
#print axioms Sf.C04Caf.snapshot_valid_caf
#print axioms Sf.C04Caf.auto_write_is_snapshot_caf
#print axioms Sf.C04Caf.caf_reopen_info
#print axioms Sf.C04Caf.caf_reopen_data
#print axioms Sf.C04Caf.caf_session_reopen
#print axioms Sf.C04Gsm.blocksOf_add
#print axioms Sf.C04Gsm.gsm_frames_exact
#print axioms Sf.C04Gsm.gsm_frames_bound
#print axioms Sf.C04Gsm.gsm_frames_at_open_rule
#print axioms Sf.C04Gsm.gsm_aiff_pad_dropped
#print axioms Sf.C04Gsm.wav_gsm_pad_counts_extra_block
#print axioms Sf.C04Gsm.wav_gsm_frames_exact_full_fails
#print axioms Sf.C04Gsm.wav_gsm_frames
#print axioms Sf.C04Gsm.wav_gsm_odd_blocks_one_extra
#print axioms Sf.C04Gsm.wav_gsm_frames_exact_partial
#print axioms Sf.C04Gsm.wav_gsm_frames_exact_new_rule
#print axioms Sf.C04GsmPad.reopen_blocks
#print axioms Sf.C04GsmPad.wav_gsm_reopen_frames
#print axioms Sf.C04GsmPad.wav_gsm_reopen_old_rule
#print axioms Sf.C04GsmPad.wav_gsm_pad_witness
#print axioms Sf.C04GsmPad.truncated_rounds_up
#print axioms Sf.C04Htk.htk_rate_exact
#print axioms Sf.C04Htk.htk_rate_quantised
#print axioms Sf.C04Htk.htk_rate_fallback
#print axioms Sf.C04Htk.closedBytes_eq
#print axioms Sf.C04Htk.htk_reopen_info
#print axioms Sf.C04Htk.htk_clash_not_reopened
#print axioms Sf.C04Htk.clash_witness
#print axioms Sf.C04Htk.htk_reopen_full_fails
#print axioms Sf.C04Htk.htk_size_fields
#print axioms Sf.C04Htk.htk_frames_bound
#print axioms Sf.C04Htk.stale_frames_ignored_htk
#print axioms Sf.C04Htk.htk_snapshot_valid
#print axioms Sf.C04Ircam.closedBytes_eq
#print axioms Sf.C04Ircam.snapshotBytes_eq
#print axioms Sf.C04Ircam.reopenSpec_eq
#print axioms Sf.C04Ircam.ircam_reopen_info
#print axioms Sf.C04Ircam.ircam_reopen_full_holds
#print axioms Sf.C04Ircam.ircam_be_channels_old_rule
#print axioms Sf.C04Ircam.ircam_reopen_info_old_rule
#print axioms Sf.C04Ircam.ircam_reopen_full_old_rule_fails
#print axioms Sf.C04Ircam.ircam_rate_old_rule
#print axioms Sf.C04Ircam.ircam_rate_boundaries
#print axioms Sf.C04Ircam.ircam_size_fields
#print axioms Sf.C04Ircam.ircam_frames_bound
#print axioms Sf.C04Ircam.stale_frames_ignored_ircam
#print axioms Sf.C04Ircam.ircam_snapshot_valid
#print axioms Sf.C04Mat4.mat4_rate_exact
#print axioms Sf.C04Mat4.closedBytes_eq
#print axioms Sf.C04Mat4.mat4_reopen_info
#print axioms Sf.C04Mat4.mat4_size_fields
#print axioms Sf.C04Mat4.mat4_frames_bound
#print axioms Sf.C04Mat4.stale_frames_ignored_mat4
#print axioms Sf.C04Mat4.mat4_open_image_stale
#print axioms Sf.C04Mat4.mat4_snapshot_valid
#print axioms Sf.C04Mat5.mat5_rate_exact
#print axioms Sf.C04Mat5.mat5_rate_element_boundary
#print axioms Sf.C04Mat5.closedBytes_eq
#print axioms Sf.C04Mat5.mat5_reopen_info
#print axioms Sf.C04Mat5.ex_wf
#print axioms Sf.C04Mat5.mat5_size_fields
#print axioms Sf.C04Mat5.mat5_frames_bound
#print axioms Sf.C04Mat5.stale_frames_ignored_mat5
#print axioms Sf.C04Mat5.mat5_open_image_stale
#print axioms Sf.C04Mat5.mat5_snapshot_valid
#print axioms Sf.C04Mat5.mat5_crash_image_any_header
#print axioms Sf.C04Mat5.mat5_updates_dont_change_file
#print axioms Sf.C04Mat5.mat5_reader_variants
#print axioms Sf.C04Mpc2k.mpc2k_rate16
#print axioms Sf.C04Mpc2k.closedBytesQ_eq
#print axioms Sf.C04Mpc2k.closedBytes_eq
#print axioms Sf.C04Mpc2k.mpc2k_reopen_info
#print axioms Sf.C04Mpc2k.mpc2k_reopen_full_holds
#print axioms Sf.C04Mpc2k.mpc2k_reopen_old_rule
#print axioms Sf.C04Mpc2k.mpc2k_reopen_full_old_rule_fails
#print axioms Sf.C04Mpc2k.mpc2k_size_fields
#print axioms Sf.C04Mpc2k.mpc2k_frames_bound
#print axioms Sf.C04Mpc2k.stale_frames_ignored_mpc2k
#print axioms Sf.C04Mpc2k.mpc2k_open_image_stale
#print axioms Sf.C04Mpc2k.mpc2k_snapshot_valid
#print axioms Sf.C04Nist.nist_rate_exact
#print axioms Sf.C04Nist.nist_decimal_roundtrip
#print axioms Sf.C04Nist.closedBytes_eq
#print axioms Sf.C04Nist.nist_reopen_info
#print axioms Sf.C04Nist.nist_size_fields
#print axioms Sf.C04Nist.nist_frames_bound
#print axioms Sf.C04Nist.stale_frames_ignored_nist
#print axioms Sf.C04Nist.nist_snapshot_valid
#print axioms Sf.C04Nist.nist_updates_dont_change_file
#print axioms Sf.C04Paf.closedBytes_eq
#print axioms Sf.C04Paf.snapshotBytes_eq
#print axioms Sf.C04Paf.paf_reopen_info
#print axioms Sf.C04Paf.maxBlocks_whole
#print axioms Sf.C04Paf.paf_frames_bound
#print axioms Sf.C04Paf.paf_size_fields
#print axioms Sf.C04Paf.stale_frames_ignored_paf
#print axioms Sf.C04Paf.paf_snapshot_valid
#print axioms Sf.C04Paf.paf_frames_floor
#print axioms Sf.C04Pvf.pvf_rate_exact
#print axioms Sf.C04Pvf.pvf_decimal_roundtrip
#print axioms Sf.C04Pvf.closedBytes_eq
#print axioms Sf.C04Pvf.snapshotBytes_eq
#print axioms Sf.C04Pvf.digits_length_one
#print axioms Sf.C04Pvf.pvf_short_header_class
#print axioms Sf.C04Pvf.pvf_reopen_info
#print axioms Sf.C04Pvf.pvf_reopen_holds
#print axioms Sf.C04Pvf.pvf_reopen_partial
#print axioms Sf.C04Pvf.pvf_short_header_old_rule
#print axioms Sf.C04Pvf.pvf_reopen_info_old_rule
#print axioms Sf.C04Pvf.pvf_tiny_not_reopened_old_rule
#print axioms Sf.C04Pvf.pvf_reopen_info_probe12_old_rule
#print axioms Sf.C04Pvf.pvf_short_witness
#print axioms Sf.C04Pvf.pvf_reopen_old_rule_fails
#print axioms Sf.C04Pvf.pvf_reopen_probe12_old_rule_fails
#print axioms Sf.C04Pvf.pvf_size_fields
#print axioms Sf.C04Pvf.pvf_frames_bound
#print axioms Sf.C04Pvf.stale_frames_ignored_pvf
#print axioms Sf.C04Pvf.pvf_snapshot_valid
#print axioms Sf.C04Rf64.le_length
#print axioms Sf.C04Rf64.rf64_header_length
#print axioms Sf.C04Rf64.rf64_open_header_shows_stale_frames
#print axioms Sf.C04Rf64.rf64_empty_downgrade_size_field
#print axioms Sf.C04Sd2.sd2_parse_in_bounds
#print axioms Sf.C04Sd2.sd2_parse_in_bounds_any
#print axioms Sf.C04Sd2.sd2_str_copy_fits
#print axioms Sf.C04Sd2.sd2_buffer_len_le
#print axioms Sf.C04Sd2.sd2_parse_never_fuel
#print axioms Sf.C04Sd2.sd2_finish_sane
#print axioms Sf.C04Sd2.sd2_open_sane
#print axioms Sf.C04Sd2.sd2_decimal_roundtrip
#print axioms Sf.C04Sd2.sd2_rate_text_roundtrip
#print axioms Sf.C04Sd2.sd2_frames_from_data_file
#print axioms Sf.C04Sd2.sd2_reopen_info_instances
#print axioms Sf.C04Sd2.sd2_reopen_written
#print axioms Sf.C04Sd2.sd2_short_data_reaches_fork
#print axioms Sf.C04Sd2.sd2_short_data_reopens
#print axioms Sf.C04Sd2.sd2_short_data_old_rule
#print axioms Sf.C04Sd2.gap_congr
#print axioms Sf.C04Sd2.rsrcWith_congr
#print axioms Sf.C04Sd2.sd2_rsrc_deterministic
#print axioms Sf.C04Sd2.sd2_rsrc_stale_heap_rule
#print axioms Sf.C04Sds.sds_rate_inrange
#print axioms Sf.C04Sds.sds_rate_ge
#print axioms Sf.C04Sds.sds_rate_exact
#print axioms Sf.C04Sds.sds_rate_outside
#print axioms Sf.C04Sds.stale_frames_ignored_sds
#print axioms Sf.C04Sds.sds_updates_dont_change_file
#print axioms Sf.C04Sds.sds_size_fields
#print axioms Sf.C04Sds.sds_reopen_info
#print axioms Sf.C04Sds.sds_reopen_frames
#print axioms Sf.C04Sds.sds_frames_bound
#print axioms Sf.C04Sds.sds_length_field_wraps
#print axioms Sf.C04Sds.sds_snapshot_valid
#print axioms Sf.C04Sds.sds_snapshot_tail_is_stale
#print axioms Sf.C04Sds.sds_blocks_counted
#print axioms Sf.C04Svx.closedBytes_eq
#print axioms Sf.C04Svx.snapshotBytes_eq
#print axioms Sf.C04Svx.svx_size_fields
#print axioms Sf.C04Svx.stale_frames_ignored_svx
#print axioms Sf.C04Svx.svx_snapshot_is_closed_file
#print axioms Sf.C04Svx.svx_rate
#print axioms Sf.C04Svx.svx_rate_full_holds
#print axioms Sf.C04Svx.svx_rate_old_rule
#print axioms Sf.C04Svx.svx_rate_full_old_rule_fails
#print axioms Sf.C04Svx.svx_rate_field
#print axioms Sf.C04Svx.svx_reopen_examples
#print axioms Sf.C04Voc.voc_rate8_inrange
#print axioms Sf.C04Voc.voc_rate8_ge
#print axioms Sf.C04Voc.voc_rate8_exact
#print axioms Sf.C04Voc.voc_rate16_inrange
#print axioms Sf.C04Voc.voc_rate16_ge
#print axioms Sf.C04Voc.voc_rate16_exact
#print axioms Sf.C04Voc.voc_rate_exact9
#print axioms Sf.C04Voc.calcHdr_eq
#print axioms Sf.C04Voc.close_datalength
#print axioms Sf.C04Voc.close_frames
#print axioms Sf.C04Voc.closed_eq
#print axioms Sf.C04Voc.snapshot_eq
#print axioms Sf.C04Voc.voc_reopen_info
#print axioms Sf.C04Voc.voc_reopen_info_full_holds
#print axioms Sf.C04Voc.voc_mono_g711_old_rule
#print axioms Sf.C04Voc.voc_reopen_info_full_old_rule_fails
#print axioms Sf.C04Voc.voc_frames_bound
#print axioms Sf.C04Voc.voc_size_fields
#print axioms Sf.C04Voc.stale_frames_ignored_voc
#print axioms Sf.C04Voc.voc_open_image_stale
#print axioms Sf.C04Voc.voc_snapshot_valid
#print axioms Sf.C04Voc.voc_snapshot_valid_full_holds
#print axioms Sf.C04Voc.voc_snapshot_u8_old_rule
#print axioms Sf.C04Voc.voc_snapshot_valid_full_old_rule_fails
#print axioms Sf.C04Voc.voc_old_reader_refuses_new_image
#print axioms Sf.C04Voc.voc_updates_dont_change_file
#print axioms Sf.C04W64.w64_header_length
#print axioms Sf.C04W64.image_fields
#print axioms Sf.C04W64.w64_size_fields
#print axioms Sf.C04W64.w64_fact_frames
#print axioms Sf.C04W64.stale_frames_ignored_w64
#print axioms Sf.C04W64.w64_open_header_ignores_stale_frames
#print axioms Sf.C04W64.w64_open_header_shows_stale_frames_old_rule
#print axioms Sf.C04W64.snapshot_valid_w64
#print axioms Sf.C04W64.auto_write_is_snapshot_w64
#print axioms Sf.C04W64.w64_reopen_info
#print axioms Sf.C04W64.w64_reopen_data
#print axioms Sf.C04W64.w64_session_reopen
#print axioms Sf.C04W64.w64_trailing_bytes_counted
#print axioms Sf.C04Wavex.wavex_header_length
#print axioms Sf.C04Wavex.stale_frames_ignored_wavex
#print axioms Sf.C04Wavex.snapshot_valid_wavex
#print axioms Sf.C04Wavex.auto_write_is_snapshot_wavex
#print axioms Sf.C04Wve.wve_rate_fixed
#print axioms Sf.C04Wve.closedBytes_eq
#print axioms Sf.C04Wve.wve_reopen_info
#print axioms Sf.C04Wve.wve_size_fields
#print axioms Sf.C04Wve.wve_frames_bound
#print axioms Sf.C04Wve.stale_frames_ignored_wve
#print axioms Sf.C04Wve.wve_snapshot_valid
#print axioms Sf.C04Xi.xi_rate_fixed
#print axioms Sf.C04Xi.xi_reopen_info
#print axioms Sf.C04Xi.ex_wf
#print axioms Sf.C04Xi.xi_size_fields
#print axioms Sf.C04Xi.xi_frames_bound
#print axioms Sf.C04Xi.stale_frames_ignored_xi
#print axioms Sf.C04Xi.xi_snapshot_valid
#print axioms Sf.C04Xi.xi_updates_dont_change_file
#print axioms Sf.C04Xi.xi_close_old_rule
#print axioms Sf.C07Bridge3.xi_bw
#print axioms Sf.C07Bridge3.xi_job_is_container
#print axioms Sf.C07Bridge3.xi_sample_exact
#print axioms Sf.C07Bridge3.xi_lossy
#print axioms Sf.C07Bridge3.xi_session_accepted
#print axioms Sf.AbsWriteBridge.Dpcm3.wrapS16_id
#print axioms Sf.AbsWriteBridge.Dpcm3.sext16_ofLE
#print axioms Sf.AbsWriteBridge.Dpcm3.st8_mul
#print axioms Sf.AbsWriteBridge.Dpcm3.cur8_wrapS
#print axioms Sf.AbsWriteBridge.Dpcm3.write_wide
#print axioms Sf.AbsWriteBridge.Dpcm3.write_narrow
#print axioms Sf.AbsWriteBridge.Dpcm3.delta8_cur8_state
#print axioms Sf.AbsWriteBridge.Dpcm3.write_narrow_good
#print axioms Sf.AbsWriteBridge.Dpcm3.write_append
#print axioms Sf.AbsWriteBridge.Dpcm3.write_nil
#print axioms Sf.AbsWriteBridge.Dpcm3.fold_eq
#print axioms Sf.AbsWriteBridge.Dpcm3.run_eq_one_call
#print axioms Sf.AbsWriteBridge.Dpcm3.data_eq
#print axioms Sf.AbsWriteBridge.Dpcm3.data_length
#print axioms Sf.AbsWriteBridge.Dpcm3.decode_data_16
#print axioms Sf.AbsWriteBridge.Dpcm3.decode_data_8
#print axioms Sf.AbsWriteBridge.Dpcm3.cur16_range
#print axioms Sf.AbsWriteBridge.Dpcm3.out16_cur16
#print axioms Sf.AbsWriteBridge.Dpcm3.top8_exact
#print axioms Sf.AbsWriteBridge.Dpcm3.out8_cur8
#print axioms Sf.AbsWriteBridge.Dpcm3.decode_data
#print axioms Sf.AbsWriteBridge.Dpcm3.back_length
#print axioms Sf.AbsWriteBridge.Dpcm3.back_data
#print axioms Sf.AbsWriteBridge.Dpcm3.back_data_take
#print axioms Sf.C08Raw.rawRead_keeps_write_side
#print axioms Sf.C08Raw.rawRead_meaning
#print axioms Sf.C08Raw.write_rawRead_write
#print axioms Sf.C08Raw.read_keeps_write_side
#print axioms Sf.C08Raw.readLike_keeps_write_side
#print axioms Sf.C08Raw.rawWrite_meaning
#print axioms Sf.C08Raw.update_keeps_frames
#print axioms Sf.C08Raw.update_after_growth
#print axioms Sf.C08Raw.update_old_rule_inflates
#print axioms Sf.C08Raw.rules_agree_without_tail
#print axioms Sf.C08Raw.update_with_mark
#print axioms Sf.C08Raw.stale_mark_loses_frames
#print axioms Sf.C11AbsW.snapshot_abs
#print axioms Sf.C11AbsW.snapshot_frames_accepted
#print axioms Sf.C11AbsW.snapshot_valid_au_accepted
#print axioms Sf.C11BlockEdge.fold_leaves_no_full_block
#print axioms Sf.C11BlockEdge.write_leaves_no_full_block
#print axioms Sf.C11BlockEdge.wcall_leaves_no_full_block
#print axioms Sf.C11BlockEdge.session_all_complete_blocks
#print axioms Sf.C11BlockEdge.gsm_session_all_complete_blocks
#print axioms Sf.C11BlockEdge.lazy_rule_defers_block
#print axioms Sf.C11Rdwr.image_open_meaning
#print axioms Sf.C11Rdwr.image_read_meaning
