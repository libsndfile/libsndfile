import SfProps.C18
import SfProps.C08Calc
import SfProps.C18Exact
import SfProps.C18Long
import SfProps.C18PeakLoc
import SfProps.C18Stale
#print axioms Sf.C18.peak_is_max_first
#print axioms Sf.C18.peak_is_max_first_full_holds
#print axioms Sf.C18.narrow_witness_run
#print axioms Sf.C18.narrow_witness_old_rule
#print axioms Sf.C18.peak_is_max_first_old_rule_fails
#print axioms Sf.C18.staging_misaligned_old_rule
#print axioms Sf.C18.staging_witness_run
#print axioms Sf.C18.peak_partition_independent
#print axioms Sf.C18.peak_partition_old_rule_fails
#print axioms Sf.C18.peak_chunk_value_is_binary32
#print axioms Sf.C18.chunk_roundtrip_wav
#print axioms Sf.C18.chunk_roundtrip_aiff
#print axioms Sf.C18.calc_scan_is_max
#print axioms Sf.C18.calc_scan_buffering
#print axioms Sf.C18.calc_loop_keeps_file
#print axioms Sf.C18.calc_seek_back
#print axioms Sf.C18.calc_restores_state_witness
#print axioms Sf.C18.calc_scan_all_is_max
#print axioms Sf.C18.calc_restores_state
#print axioms Sf.C08Calc.read_from_rpos
#print axioms Sf.C08Calc.write_lands_wpos
#print axioms Sf.C08Calc.read_coherent
#print axioms Sf.C08Calc.write_coherent
#print axioms Sf.C08Calc.seekSet_coherent
#print axioms Sf.C08Calc.seekSet_rd_coherent
#print axioms Sf.C08Calc.seekSet_plain_coherent
#print axioms Sf.C08Calc.readF_sync
#print axioms Sf.C08Calc.scan_end
#print axioms Sf.C08Calc.calc_eq_rdwr
#print axioms Sf.C08Calc.calc_eq_read
#print axioms Sf.C08Calc.calc_same_pos
#print axioms Sf.C08Calc.calc_coherent
#print axioms Sf.C08Calc.calc_next_write_lands
#print axioms Sf.C08Calc.calc_next_read_from
#print axioms Sf.C08Calc.calc_invisible
#print axioms Sf.C08Calc.calc_restores_all
#print axioms Sf.C08Calc.calcTellFirst_old_rule
#print axioms Sf.C08Calc.calcTellFirst_read_handle
#print axioms Sf.C08Calc.calcKeepLastOp_old_rule
#print axioms Sf.C08Calc.calcKeepLastOp_same_pos
#print axioms Sf.C08Calc.calcKeepLastOp_write_lands_on_read_pointer
#print axioms Sf.C18Exact.peak_field_exact
#print axioms Sf.C18Exact.peak_field_bytes
#print axioms Sf.C18Exact.peak_field_old_rule
#print axioms Sf.C18Exact.peak_field_old_rule_fails
#print axioms Sf.C18Exact.field_agrees
#print axioms Sf.C18Exact.field_agrees_old_rule
#print axioms Sf.C18Exact.chunk_agrees
#print axioms Sf.C18Exact.heldWith_exact
#print axioms Sf.C18Exact.peak_chunk_roundtrip_exact
#print axioms Sf.C18Long.staging_whole_frames
#print axioms Sf.C18Long.pass_offset_is_item_frame
#print axioms Sf.C18Long.pass_offset_units
#print axioms Sf.C18Long.mixed_units_differ
#print axioms Sf.C18Long.mixed_units_agree_mono
#print axioms Sf.C18Long.mixed_units_agree_first_pass
#print axioms Sf.C18Long.long_call_second_pass
#print axioms Sf.C18PeakLoc.close_keeps_peak
#print axioms Sf.C18PeakLoc.close_without_peak
#print axioms Sf.C18PeakLoc.close_parse_close
#print axioms Sf.C18PeakLoc.tailer_without_peak_same_at_start
#print axioms Sf.C18PeakLoc.tailer_without_peak_loses_end_peak
#print axioms Sf.C18PeakLoc.parse_foreign_layouts
#print axioms Sf.C18Stale.calc_ignores_peak_chunk
#print axioms Sf.C18Stale.calc_same_whatever_the_chunk
#print axioms Sf.C18Stale.stale_peak_by_overwrite
