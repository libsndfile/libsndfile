import SfProps.C09
import SfProps.C09Chmap
import SfProps.C09ChmapPriv
import SfProps.C09CmdFail
import SfProps.C09ErrApi
import SfProps.C09FailedOpen
import SfProps.C09Table
import SfProps.C09Twin
#print axioms Sf.invalid_fails_guard
#print axioms Sf.seekBase_none_of_unknown
#print axioms Sf.read_error_irrelevant
#print axioms Sf.write_error_irrelevant
#print axioms Sf.seek_error_irrelevant
#print axioms Sf.OpInvalid_error
#print axioms Sf.C09.invalid_read_no_effect
#print axioms Sf.C09.invalid_write_no_effect
#print axioms Sf.C09.invalid_seek_no_effect
#print axioms Sf.C09.invalid_call_classes
#print axioms Sf.C09.stepAny_invalid
#print axioms Sf.C09.invalid_sequence_no_effect
#print axioms Sf.C09.truncate_vio_no_effect
#print axioms Sf.C09.truncate_negative_no_effect
#print axioms Sf.C09.truncate_invalid_no_effect
#print axioms Sf.C09.truncate_invalid_no_effect_full_holds
#print axioms Sf.C09.tH_opened
#print axioms Sf.C09.truncate_minus_one_sets_frames
#print axioms Sf.C09.truncate_negative_refused_full_fails
#print axioms Sf.C09.truncate_negative_refused_partial
#print axioms Sf.C09.truncate_minus_one_sets_frames_old_rule
#print axioms Sf.C09.truncate_invalid_no_effect_old_rule
#print axioms Sf.C09.read_success_clears_error
#print axioms Sf.C09.write_success_clears_error
#print axioms Sf.C09.seek_success_clears_error
#print axioms Sf.C09.cmd_flag_clears_error
#print axioms Sf.C09.zero_count_returns_early
#print axioms Sf.C09.success_clears_error_partial
#print axioms Sf.C09.eH_opened
#print axioms Sf.C09.success_clears_error_full_fails
#print axioms Sf.C09Chmap.Refuses.kept
#print axioms Sf.C09Chmap.Refuses.ite
#print axioms Sf.C09Chmap.guardEq_refuses
#print axioms Sf.C09Chmap.varSet_refuses
#print axioms Sf.C09Chmap.lateVar_refuses
#print axioms Sf.C09Chmap.chmapSet_refuses
#print axioms Sf.C09Chmap.refused_setter_no_effect
#print axioms Sf.C09Chmap.chmap_refused_but_kept_old_rule
#print axioms Sf.C09Chmap.refused_chmap_no_effect_old_rule_fails
#print axioms Sf.C09Chmap.setMap_cases
#print axioms Sf.C09Chmap.setMap_refused_no_effect
#print axioms Sf.C09Chmap.getMap_after_refused
#print axioms Sf.C09Chmap.setMap_accepted
#print axioms Sf.C09Chmap.no_hook_refuses
#print axioms Sf.C09Chmap.setMap_old_rules
#print axioms Sf.C09Chmap.remask_witness
#print axioms Sf.C09ChmapPriv.refused_leaves_priv_of
#print axioms Sf.C09ChmapPriv.refused_leaves_priv
#print axioms Sf.C09ChmapPriv.inv_preserved
#print axioms Sf.C09ChmapPriv.inv_fresh
#print axioms Sf.C09ChmapPriv.refused_leaves_file_mask
#print axioms Sf.C09ChmapPriv.transactional_refused_leaves_priv
#print axioms Sf.C09ChmapPriv.overwrite_without_rederive_zeroes_mask
#print axioms Sf.C09ChmapPriv.refused_no_effect_any_combination_fails
#print axioms Sf.C09CmdFail.calc_all_refusal_convention
#print axioms Sf.C09CmdFail.calc_all_success_clean
#print axioms Sf.C09CmdFail.calc_signal_max_refusal_convention
#print axioms Sf.C09CmdFail.calc_signal_max_refusal_holds
#print axioms Sf.C09CmdFail.calc_signal_max_success_clean
#print axioms Sf.C09CmdFail.calc_signal_max_old_rule
#print axioms Sf.C09CmdFail.calc_signal_max_refusal_old_rule
#print axioms Sf.C09CmdFail.calc_signal_max_old_rule_differs_only_in_ret
#print axioms Sf.C09CmdFail.calcAllSeeded_old_rule
#print axioms Sf.C09ErrApi.boundedCopy_zero
#print axioms Sf.C09ErrApi.boundedCopy_pos
#print axioms Sf.C09ErrApi.boundedCopy_beyond
#print axioms Sf.C09ErrApi.boundedCopy_length
#print axioms Sf.C09ErrApi.boundedCopy_terminated
#print axioms Sf.C09ErrApi.boundedCopy_prefix
#print axioms Sf.C09ErrApi.boundedCopy_whole
#print axioms Sf.C09ErrApi.sfErrorStr_pure
#print axioms Sf.C09ErrApi.sfPerror_pure
#print axioms Sf.C09ErrApi.sfWriteSync_pure
#print axioms Sf.C09ErrApi.writeSync_twin
#print axioms Sf.C09ErrApi.sfErrorStr_ret
#print axioms Sf.C09ErrApi.table_strings_fit
#print axioms Sf.C09ErrApi.tableMsg_length
#print axioms Sf.C09ErrApi.sfErrorStr_table_whole
#print axioms Sf.C09FailedOpen.divisor_ne_zero
#print axioms Sf.C09FailedOpen.mem_events
#print axioms Sf.C09FailedOpen.closes_writing_valid
#print axioms Sf.C09FailedOpen.failed_open_never_divides_by_zero
#print axioms Sf.C09FailedOpen.failed_open_rewrites_only_from_valid_info
#print axioms Sf.C09FailedOpen.failed_open_old_rule_traps
#print axioms Sf.C09FailedOpen.failed_open_old_rule_traps_by_wraparound
#print axioms Sf.C09FailedOpen.failed_open_writes_nothing_refuted
#print axioms Sf.C09FailedOpen.failed_open_writes_iff_class
#print axioms Sf.C09FailedOpen.failed_open_writes_nothing_partial
#print axioms Sf.C09FailedOpen.read_mode_failed_open_writes_nothing
#print axioms Sf.C09FailedOpen.reader_refusal_writes_nothing
#print axioms Sf.C09FailedOpen.error_exit_mode_releases_the_same
#print axioms Sf.C09.error_text_nonempty
#print axioms Sf.C09Twin.writeHeader_error
#print axioms Sf.C09Twin.wavTailer_error
#print axioms Sf.C09Twin.closeHandle_error
#print axioms Sf.C09Twin.stepAny_error_blind
#print axioms Sf.C09Twin.refused_no_effect
#print axioms Sf.C09Twin.twin_state
#print axioms Sf.C09Twin.invalid_calls_do_not_change_state
#print axioms Sf.C09Twin.invalid_calls_do_not_change_closed_file
#print axioms Sf.C09Twin.twin_reopen_equal
#print axioms Sf.C09Twin.insFail_none
#print axioms Sf.C09Twin.pairFail_none
#print axioms Sf.C09Twin.twinOk_meaning
#print axioms Sf.C09Twin.accepted_closed_files_equal
