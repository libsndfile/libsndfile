import SfProps.C10
#print axioms Sf.C10.majors_internal
#print axioms Sf.C10.subtypes_internal
#print axioms Sf.C10.format_lists_wellformed
#print axioms Sf.C10.enumerated_internal
#print axioms Sf.C10.check_channel_bounds
#print axioms Sf.C10.check_samplerate_neg
#print axioms Sf.C10.check_true_bounds
#print axioms Sf.C10.check_samplerate_pos_fails
#print axioms Sf.C10.check_samplerate_pos_partial
#print axioms Sf.C10.check_false_error
#print axioms Sf.C10.check_false_rejected
#print axioms Sf.C10.accepts_check
#print axioms Sf.C10.accepts_of_good
#print axioms Sf.C10.check_good
#print axioms Sf.C10.rate0_witness
#print axioms Sf.C10.check_iff_writable_fails
#print axioms Sf.C10.rate_ok
#print axioms Sf.C10.check_iff_writable_internal
#print axioms Sf.C10.check_iff_writable_partial
#print axioms Sf.C10.word_parts
#print axioms Sf.C10.container_rebuilt
#print axioms Sf.C10.reopenEndian_mem
#print axioms Sf.C10.reopenEndian_cases
#print axioms Sf.C10.rate0_roundtrip_witness
#print axioms Sf.C10.ircam_rate_old_rule
#print axioms Sf.C10.rate0_open_refused
#print axioms Sf.C10.open_never_dies
#print axioms Sf.C10.enumerated_of_words
#print axioms Sf.C10.rate0_open_fails_cleanly
#print axioms Sf.C10.rate0_died_old_rule
#print axioms Sf.C10.C10_fails
#print axioms Sf.C10.alac_over8_rejected
#print axioms Sf.C10.roundTrips_opened
#print axioms Sf.C10.roundTrips_iff_internal
#print axioms Sf.C10.C10_partial
#print axioms Sf.C10.vox_odd_write_old_rule
#print axioms Sf.C10.format_lists_nodup
#print axioms Sf.C10.simple_formats_pass
#print axioms Sf.C10.major_has_subtype
#print axioms Sf.C10.format_info_consistent
