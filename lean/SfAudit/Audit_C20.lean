import SfProps.C20
import SfProps.C06GsmNoWrap
import SfProps.C06ImaSeek
import SfProps.C18Exact
import SfProps.C20CodecTables
import SfProps.C20Cross
import SfProps.C20G72x
import SfProps.C20G72xTrack
import SfProps.C20Gsm
import SfProps.C20Ieee
import SfProps.C20Order
import SfProps.C20Quant
import SfProps.C20Adpcm
#print axioms Sf.C20.ulaw_decode_table_spec
#print axioms Sf.C20.alaw_decode_table_spec
#print axioms Sf.C20.ulaw_encode_table_spec
#print axioms Sf.C20.alaw_encode_table_spec
#print axioms Sf.C20.ulaw_enc_dec_id
#print axioms Sf.C20.ulaw_two_zeros
#print axioms Sf.C20.alaw_enc_dec_id
#print axioms Sf.C20.ulaw_encS16_spec
#print axioms Sf.C20.alaw_encS16_spec
#print axioms Sf.C06GsmNoWrap.gsm_decoder_never_wraps
#print axioms Sf.C06GsmNoWrap.gsm_decoder_never_wraps_stream
#print axioms Sf.C06GsmNoWrap.gsm_decoder_mult_r_is_spec
#print axioms Sf.C06GsmNoWrap.gsm_postproc_is_floor8
#print axioms Sf.C06GsmNoWrap.gsm_lar_wrap_needs_out_of_field_code
#print axioms Sf.ImaSeek.seek_forgets
#print axioms Sf.ImaSeek.seek_after_history
#print axioms Sf.ImaSeek.seek_lands
#print axioms Sf.ImaSeek.read_within
#print axioms Sf.ImaSeek.read_across
#print axioms Sf.ImaSeek.pos_atBlock
#print axioms Sf.ImaSeek.seek_then_read
#print axioms Sf.ImaSeek.fast_path_unit_one
#print axioms Sf.ImaSeek.aiffStereo_wf
#print axioms Sf.ImaSeek.fast_path_aiff_stereo_wrong
#print axioms Sf.ImaSeek.read_slice
#print axioms Sf.ImaSeek.read_partition
#print axioms Sf.ImaSeek.seek_then_read_stream
#print axioms Sf.ImaSeek.wavMono_wf
#print axioms Sf.C18Exact.peak_field_exact
#print axioms Sf.C18Exact.peak_field_bytes
#print axioms Sf.C18Exact.peak_field_old_rule
#print axioms Sf.C18Exact.peak_field_old_rule_fails
#print axioms Sf.C18Exact.field_agrees
#print axioms Sf.C18Exact.field_agrees_old_rule
#print axioms Sf.C18Exact.chunk_agrees
#print axioms Sf.C18Exact.heldWith_exact
#print axioms Sf.C18Exact.peak_chunk_roundtrip_exact
#print axioms Sf.C20CodecTables.nms_table_expn_extracted
#print axioms Sf.C20CodecTables.nms_table_scale_factor_step_extracted
#print axioms Sf.C20CodecTables.nms_table_step_extracted
#print axioms Sf.C20CodecTables.nms_table_step_search_extracted
#print axioms Sf.C20CodecTables.nms_geometry_extracted
#print axioms Sf.C20CodecTables.nms_tables_extracted
#print axioms Sf.C20CodecTables.gsm_table_A_extracted
#print axioms Sf.C20CodecTables.gsm_table_B_extracted
#print axioms Sf.C20CodecTables.gsm_table_MIC_extracted
#print axioms Sf.C20CodecTables.gsm_table_MAC_extracted
#print axioms Sf.C20CodecTables.gsm_table_INVA_extracted
#print axioms Sf.C20CodecTables.gsm_table_DLB_extracted
#print axioms Sf.C20CodecTables.gsm_table_QLB_extracted
#print axioms Sf.C20CodecTables.gsm_table_H_extracted
#print axioms Sf.C20CodecTables.gsm_table_NRFAC_extracted
#print axioms Sf.C20CodecTables.gsm_table_FAC_extracted
#print axioms Sf.C20CodecTables.gsm_tables_extracted
#print axioms Sf.C20CodecTables.gsm_bitoff_extracted
#print axioms Sf.C20Cross.encode_flt_eq
#print axioms Sf.C20Cross.encode_dbl_eq
#print axioms Sf.C20Cross.replace_write_cross_f32
#print axioms Sf.C20Cross.replace_write_cross_f64
#print axioms Sf.C20Cross.replace_read_cross_f32
#print axioms Sf.C20Cross.replace_read_cross_f64
#print axioms Sf.C20Cross.deliver32_is_decode
#print axioms Sf.C20Cross.deliver64_is_decode
#print axioms Sf.C20Cross.replace_read_d2f_old_rule_fails
#print axioms Sf.C20Cross.replace_read_clip_old_rule_fails
#print axioms Sf.C20G72x.g72x_published_tables
#print axioms Sf.C20G72x.g72x_quantizer_monotone
#print axioms Sf.C20G72x.g72x_tables_symmetric
#print axioms Sf.C20G72x.g72x_reconstruction_in_cell
#print axioms Sf.C20G72x.g723_16_levels
#print axioms Sf.C20G72x.quan_cell
#print axioms Sf.C20G72x.quan_then_recon
#print axioms Sf.C20G72x.quan_pos
#print axioms Sf.C20G72x.g72x_quantize_then_reconstruct
#print axioms Sf.C20G72x.g72x_predictor_limits
#print axioms Sf.C20G72x.a2p_before_limc
#print axioms Sf.C20G72x.g72x_limc_upper_dead
#print axioms Sf.C20G72xTrack.directory_rate
#print axioms Sf.C20G72xTrack.g72x_decoder_tracks_encoder_all
#print axioms Sf.C20G72xTrack.g72x_tracks_over_blocks
#print axioms Sf.C20G72xTrack.encode_old_eq
#print axioms Sf.C20G72xTrack.runFitting_spec
#print axioms Sf.C20G72xTrack.encodeList_append_fst
#print axioms Sf.C20G72xTrack.first_block
#print axioms Sf.C20G72xTrack.stOld130_eq
#print axioms Sf.C20G72xTrack.g721_old_rule_sum_leaves_int16
#print axioms Sf.C20G72xTrack.g721_old_rule_decoder_diverges
#print axioms Sf.C20G72xTrack.g721_old_rule_bytes_differ
#print axioms Sf.C20Gsm.gsm_add_conforms
#print axioms Sf.C20Gsm.gsm_sub_conforms
#print axioms Sf.C20Gsm.gsm_abs_conforms
#print axioms Sf.C20Gsm.gsm_mult_r_conforms
#print axioms Sf.C20Gsm.gsm_mult_conforms
#print axioms Sf.C20Gsm.gsm_mult_r_macro_conforms
#print axioms Sf.C20Gsm.gsm_mult_macro_conforms
#print axioms Sf.C20Gsm.gsm_mult_r_macro_differs
#print axioms Sf.C20Gsm.gsm_decoder_mult_r_sites
#print axioms Sf.C20Gsm.gsm_l_mult_conforms
#print axioms Sf.C20Gsm.gsm_l_add_conforms
#print axioms Sf.C20Gsm.shifted_lo
#print axioms Sf.C20Gsm.shifted_hi
#print axioms Sf.C20Gsm.gsm_norm_conforms_pos
#print axioms Sf.C20Gsm.gsm_norm_conforms_neg
#print axioms Sf.C20Gsm.gsm_div_conforms
#print axioms Sf.C20Gsm.gsm_encoder_reflection_not_min
#print axioms Sf.C20Ieee.spec_isNormal_iff
#print axioms Sf.C20Ieee.spec_value_finite
#print axioms Sf.C20Ieee.spec_encode_fields
#print axioms Sf.C20Ieee.ieee_read_finite_f32
#print axioms Sf.C20Ieee.ieee_read_finite_f64
#print axioms Sf.C20Ieee.finite_of_spec_normal
#print axioms Sf.C20Ieee.ieee_read_native_f32
#print axioms Sf.C20Ieee.ieee_read_native_f64
#print axioms Sf.C20Ieee.ofDy_toDy_emax
#print axioms Sf.C20Ieee.f32_read_inf_nan
#print axioms Sf.C20Ieee.f64_read_inf_nan
#print axioms Sf.C20Ieee.read_zero_old_rule
#print axioms Sf.C20Ieee.f32_read_subnormal_old_rule
#print axioms Sf.C20Ieee.f64_read_subnormal_old_rule
#print axioms Sf.C20Ieee.flushes_iff_not_normal
#print axioms Sf.C20Ieee.f32WriteBytesWith_normal
#print axioms Sf.C20Ieee.f64WriteBytesWith_normal
#print axioms Sf.C20Ieee.ieee_write_finite_f32
#print axioms Sf.C20Ieee.ieee_write_finite_f64
#print axioms Sf.C20Ieee.ieee_write_native_f32
#print axioms Sf.C20Ieee.ieee_write_native_f64
#print axioms Sf.C20Ieee.ieee_write_tiny_old_rule
#print axioms Sf.C20Ieee.ieee_write_native_tiny_old_rule
#print axioms Sf.C20Ieee.ieee_write_finite_tiny_old_rule_fails
#print axioms Sf.C20Ieee.ieee_write_f32_old_rule_fails
#print axioms Sf.C20Ieee.ieee_write_f64_old_rule_fails
#print axioms Sf.C20Ieee.flushes_old_rule_iff_f32
#print axioms Sf.C20Ieee.flushes_old_rule_iff_f64
#print axioms Sf.C20Ieee.ieee_flush_boundary_old_rule
#print axioms Sf.C20Ieee.ieee_write_old_rule_partial
#print axioms Sf.C20Ieee.write_read_finite_f32
#print axioms Sf.C20Ieee.write_read_finite_f64
#print axioms Sf.C20Ieee.write_read_roundtrip_f32
#print axioms Sf.C20Ieee.write_read_roundtrip_f64
#print axioms Sf.C20Ieee.replace_roundtrip
#print axioms Sf.C20Ieee.replace_roundtrip_old_rule_fails
#print axioms Sf.C20Ieee.replace_roundtrip_old_rule_partial
#print axioms Sf.C20Ieee.endswap_reverses_bytes
#print axioms Sf.C20Ieee.endswap32_mod
#print axioms Sf.C20Ieee.endswap64_reverses_bytes
#print axioms Sf.C20Ieee.endswap16_lt
#print axioms Sf.C20Ieee.endswap32_lt
#print axioms Sf.C20Ieee.endswap64_lt
#print axioms Sf.C20Ieee.endswap16_involutive
#print axioms Sf.C20Ieee.endswap32_involutive
#print axioms Sf.C20Ieee.endswap64_involutive
#print axioms Sf.C20Ieee.endswap_involutive
#print axioms Sf.C20Ieee.byteAt_eq_wrapU
#print axioms Sf.C20Ieee.putBe_eq
#print axioms Sf.C20Ieee.byteAt_lt
#print axioms Sf.C20Ieee.getBe_eq
#print axioms Sf.C20Ieee.getBe_putBe
#print axioms Sf.C20Ieee.get_put_roundtrip
#print axioms Sf.C20Ieee.get_put_be64
#print axioms Sf.C20Ieee.beBytes_wrapU_wrapS_ofBE
#print axioms Sf.C20Ieee.put_get_be64
#print axioms Sf.C20Ieee.put_get_be16
#print axioms Sf.C20Ieee.put_get_be32
#print axioms Sf.C20Ieee.get_le_is_get_be_reversed
#print axioms Sf.C20Ieee.or_shift_add
#print axioms Sf.C20Ieee.bvswap16_eq
#print axioms Sf.C20Ieee.bvswap32_eq
#print axioms Sf.C20Ieee.bvswap64_eq
#print axioms Sf.C20Ieee.bvswap_involutive
#print axioms Sf.C20Ieee.staged_write
#print axioms Sf.C20Ieee.staged_read
#print axioms Sf.C20Ieee.replace_write_finite_f32
#print axioms Sf.C20Ieee.replace_read_finite_f32
#print axioms Sf.C20Ieee.replace_write_finite_f64
#print axioms Sf.C20Ieee.replace_read_finite_f64
#print axioms Sf.C20Ieee.replace_write_native_f32
#print axioms Sf.C20Ieee.replace_read_native_f32
#print axioms Sf.C20Ieee.replace_write_native_f64
#print axioms Sf.C20Ieee.replace_read_native_f64
#print axioms Sf.C20Ieee.replace_buffer_roundtrip
#print axioms Sf.C20Order.g711_decode_own_flag_only
#print axioms Sf.C20Order.map_history_nth
#print axioms Sf.C20Order.g711_float_read_order_independent
#print axioms Sf.C20Order.g711_history_permutation
#print axioms Sf.C20Order.g711_encode_order_independent
#print axioms Sf.C20Order.cached_table_rule_fails
#print axioms Sf.C20.cell_midpoint
#print axioms Sf.C20.ulawDecode_fields
#print axioms Sf.C20.ulawEncMag_fields
#print axioms Sf.C20.ulaw_magnitude_error
#print axioms Sf.C20.ulaw_quantiser_error
#print axioms Sf.C20.alaw_mask
#print axioms Sf.C20.alawDecode_fields
#print axioms Sf.C20.alawEncMag_fields
#print axioms Sf.C20.alaw_magnitude_error
#print axioms Sf.C20.alaw_quantiser_error
#print axioms Sf.C20.ulaw_not_nearest_witness
#print axioms Sf.C20.ima_step_table_spec
#print axioms Sf.C20.ima_index_table_spec
#print axioms Sf.C20.ms_adaptation_table_spec
#print axioms Sf.C20.ms_coeff_table_spec
#print axioms Sf.C20.ima_wav_decode_ref
#print axioms Sf.C20.ima_aiff_decode_ref
#print axioms Sf.C20.ms_decode_ref
#print axioms Sf.C20.ima_wav_samples_int16
#print axioms Sf.C20.ima_aiff_samples_int16
#print axioms Sf.C20.ms_samples_int16
#print axioms Sf.C20.ima_step_index_clamped
#print axioms Sf.C20.ima_step_index_range
