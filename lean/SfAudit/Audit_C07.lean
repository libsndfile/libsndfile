import SfProps.C07
import SfProps.C01Bridge
import SfProps.C01BridgeFacts
import SfProps.C01BridgeReopen
import SfProps.C01BridgeRun
import SfProps.C01Dwvw
import SfProps.C04Bridge
import SfProps.C04Bridge2
import SfProps.C04Bridge2Ex
import SfProps.C04Bridge3
import SfProps.C04BridgeAiff
import SfProps.C04BridgeCaf
import SfProps.C04BridgeW64
import SfProps.C04HandleG
import SfProps.C04Sds
import SfProps.C04Xi
import SfProps.C05G72x
import SfProps.C05Vox
import SfProps.C07AbsW
import SfProps.C07Adpcm
import SfProps.C07Alac
import SfProps.C07AlacTyped
import SfProps.C07Block
import SfProps.C07Bridge
import SfProps.C07Bridge2
import SfProps.C07Bridge3
import SfProps.C07Bridge3Snap
import SfProps.C07BridgeDpcm
import SfProps.C07CodecsClosed
import SfProps.C07G72x
import SfProps.C07Gsm
import SfProps.C07GsmEncSums
import SfProps.C07HandleG
import SfProps.C07Nms
import SfProps.C07NmsBlock
import SfProps.C07NmsPack
import SfProps.C07ShortIo
import SfProps.C19HeapInit
import SfProps.C20CodecTables
import SfProps.C20G72xTrack
#print axioms Sf.C07.kernel_append
#print axioms Sf.C07.kernel_flatten
#print axioms Sf.C07.winv_initial
#print axioms Sf.C07.winv_step
#print axioms Sf.C07.write_partition_store
#print axioms Sf.C07.write_partition_store_nopeak
#print axioms Sf.C07.file_bytes_fn
#print axioms Sf.C07.file_bytes_partition_peak
#print axioms Sf.C07.file_bytes_partition_partial
#print axioms Sf.C07.file_bytes_partition_splits
#print axioms Sf.C07.file_bytes_partition_finite
#print axioms Sf.C07.file_data_partition
#print axioms Sf.C01Bridge.model_session_accepted
#print axioms Sf.C01Bridge.model_session_never_flagged
#print axioms Sf.C01Bridge.model_session_clauses
#print axioms Sf.C01Bridge.model_session_good
#print axioms Sf.C01Bridge.model_crash_points
#print axioms Sf.C01Bridge.exS_ok
#print axioms Sf.AbsWriteBridge.strip_runW
#print axioms Sf.AbsWriteBridge.toW_ok
#print axioms Sf.AbsWriteBridge.toW_hasTy
#print axioms Sf.AbsWriteBridge.toW_samples
#print axioms Sf.AbsWriteBridge.closed_eq_oneCall
#print axioms Sf.AbsWriteBridge.closed_partition
#print axioms Sf.AbsWriteBridge.image_reopen
#print axioms Sf.AbsWriteBridge.geom_block
#print axioms Sf.AbsWriteBridge.geom_rate
#print axioms Sf.AbsWriteBridge.run_data_ty
#print axioms Sf.AbsWriteBridge.reopen_read
#print axioms Sf.AbsWriteBridge.sessFrames_append
#print axioms Sf.AbsWriteBridge.crashPoints_spec
#print axioms Sf.AbsWriteBridge.predOf_g
#print axioms Sf.AbsWriteBridge.predOf_ty
#print axioms Sf.AbsWriteBridge.predOf_split_calls
#print axioms Sf.AbsWriteBridge.predOf_one_calls
#print axioms Sf.AbsWriteBridge.snapOf_k
#print axioms Sf.AbsWriteBridge.geom_ch
#print axioms Sf.AbsWriteBridge.handle_pred_good
#print axioms Sf.C01Dwvw.dwvw_partition
#print axioms Sf.C01Dwvw.dwvw_partition_file
#print axioms Sf.C01Dwvw.dwvw_partition_caller
#print axioms Sf.C01Dwvw.dwvw_width_bounded
#print axioms Sf.C01Dwvw.dwvw_int_exact
#print axioms Sf.C01Dwvw.dwvw_short_exact
#print axioms Sf.C01Dwvw.dwvw_roundtrip
#print axioms Sf.C01Dwvw.dwvw_roundtrip_exact
#print axioms Sf.C01Dwvw.dwvw_file_nonempty
#print axioms Sf.C01Dwvw.dwvw_short_file_old_rule
#print axioms Sf.C01Dwvw.dwvw_read_split
#print axioms Sf.C01Dwvw.dwvw_read_split_full_holds
#print axioms Sf.C01Dwvw.dwvw_tail_witness_bytes
#print axioms Sf.C01Dwvw.dwvw_read_split_old_rule
#print axioms Sf.C01Dwvw.dwvw_read_split_full_old_rule_fails
#print axioms Sf.C01Dwvw.dwvw_read_calls
#print axioms Sf.C01Dwvw.dwvw_prefix_delivered
#print axioms Sf.C01Dwvw.frameScan_mono
#print axioms Sf.C01Dwvw.frameScan_ge
#print axioms Sf.C01Dwvw.dwvw_samples_le_bits
#print axioms Sf.C01Dwvw.dwvw_scan_ge
#print axioms Sf.C01Dwvw.dwvw_aiff_frames_exact
#print axioms Sf.C01Dwvw.dwvw_raw_frames_partial
#print axioms Sf.C01Dwvw.dwvw_raw_frames_full_false
#print axioms Sf.C04Bridge.cont_session_accepted
#print axioms Sf.C04Bridge.whole_single
#print axioms Sf.C04Bridge.guardOf_data
#print axioms Sf.C04Bridge.parse_single
#print axioms Sf.C04Bridge.sampleList_prefix_le
#print axioms Sf.C04Bridge.guardOf_toW
#print axioms Sf.C04Bridge.guarded_session_accepted
#print axioms Sf.C04Bridge.encFor_raw
#print axioms Sf.C04Bridge.geom_facts
#print axioms Sf.C04Bridge.small2_facts
#print axioms Sf.C04Bridge.wve_laws
#print axioms Sf.C04Bridge.wve_session_accepted
#print axioms Sf.C04Bridge.mat4_facts
#print axioms Sf.C04Bridge.mat4_session_accepted
#print axioms Sf.C04Bridge.mpc2k_facts
#print axioms Sf.C04Bridge.mpc2k_session_accepted
#print axioms Sf.C04Bridge.htk_rate_exact_accepted
#print axioms Sf.C04Bridge.htk_rate_exact_only
#print axioms Sf.C04Bridge.htk_facts
#print axioms Sf.C04Bridge.htk_session_accepted
#print axioms Sf.C04Bridge.htk_rate_tolerance
#print axioms Sf.C04Bridge.htk_rate_tolerance_old_rule
#print axioms Sf.C04Bridge.pvf_facts
#print axioms Sf.C04Bridge.pvf_session_accepted_all
#print axioms Sf.C04Bridge.pvf_session_accepted
#print axioms Sf.C04Bridge.avr_facts
#print axioms Sf.C04Bridge.avr_session_accepted
#print axioms Sf.C04Bridge2.paf_facts
#print axioms Sf.C04Bridge2.paf_session_accepted
#print axioms Sf.C04Bridge2.ircam_facts
#print axioms Sf.C04Bridge2.ircam_session_accepted
#print axioms Sf.C04Bridge2.svx_facts
#print axioms Sf.C04Bridge2.svx_session_accepted
#print axioms Sf.C04Bridge2.laws_fixStale
#print axioms Sf.C04Bridge2.nist_facts
#print axioms Sf.C04Bridge2.nistCont_is_model
#print axioms Sf.C04Bridge2.nist_session_accepted
#print axioms Sf.C04Bridge2.mat5_facts
#print axioms Sf.C04Bridge2.mat5_session_accepted
#print axioms Sf.C04Bridge2.laws_withClosed
#print axioms Sf.C04Bridge2.voc_rate_ok9
#print axioms Sf.C04Bridge2.voc_codec
#print axioms Sf.C04Bridge2.voc_bw
#print axioms Sf.C04Bridge2.voc_laws
#print axioms Sf.C04Bridge2.voc_session_accepted
#print axioms Sf.C04Bridge2.ircam_rate_clause
#print axioms Sf.C04Bridge2.voc_rate_clause_u8
#print axioms Sf.C04Bridge3.ircam_rate_exact_accepted
#print axioms Sf.C04Bridge3.ircam_rate_exact_only
#print axioms Sf.C04Bridge3.ircam_rate_cap_old_rule
#print axioms Sf.C04Bridge3.ircam_session_accepted_every_rate
#print axioms Sf.C04Bridge3.svx_rate_exact_accepted
#print axioms Sf.C04Bridge3.svx_rate_exact_only
#print axioms Sf.C04Bridge3.mpc2k_rate_exact_only
#print axioms Sf.C04Bridge3.field16_old_rule
#print axioms Sf.C04Bridge3.vocGeom_major
#print axioms Sf.C04Bridge3.vocGeom_codec
#print axioms Sf.C04Bridge3.voc_rate_exact_accepted
#print axioms Sf.C04Bridge3.voc_rate_ok
#print axioms Sf.C04Bridge3.voc_rate_exact_only
#print axioms Sf.C04Bridge3.voc_rate_tolerance_old_rule
#print axioms Sf.C04Bridge3.voc_record_rate
#print axioms Sf.C04Bridge3.voc_session_accepted_every_rate
#print axioms Sf.C04Bridge3.acceptedG_of_accepted
#print axioms Sf.C04Bridge3.svx_reopen_info
#print axioms Sf.C04Bridge3.svx_snapshot_valid_parse
#print axioms Sf.C04Bridge3.svx_session_accepted_all
#print axioms Sf.C04Bridge3.svx_reopen_info_old_rule_fails
#print axioms Sf.C04Bridge3.svx_reopen_info_old_rule
#print axioms Sf.C04Bridge3.whole_toS
#print axioms Sf.C04Bridge3.peakOk_toS
#print axioms Sf.C04Bridge3.peakJob_refOps
#print axioms Sf.C04Bridge3.peakJob_prefix
#print axioms Sf.C04Bridge3.peakJob_example
#print axioms Sf.C04Bridge3.peak_session_good
#print axioms Sf.C04Bridge3.w64_session_good
#print axioms Sf.C04Bridge3.w64_session_accepted
#print axioms Sf.C04Bridge3.aiff_session_good
#print axioms Sf.C04Bridge3.aiff_session_accepted
#print axioms Sf.C04Bridge3.caf_session_good
#print axioms Sf.C04Bridge3.caf_session_accepted
#print axioms Sf.AbsWriteBridge.Sample.aiffCont_closed
#print axioms Sf.AbsWriteBridge.Sample.aiffCont_store
#print axioms Sf.AbsWriteBridge.Sample.aiffCont_parse
#print axioms Sf.AbsWriteBridge.Sample.aiff_encOf_raw
#print axioms Sf.AbsWriteBridge.Sample.aiffGeom_facts
#print axioms Sf.AbsWriteBridge.Sample.aiff_enc_nbytes
#print axioms Sf.AbsWriteBridge.Sample.aiff_enc_float
#print axioms Sf.AbsWriteBridge.Sample.aiff_fmtWord
#print axioms Sf.AbsWriteBridge.Sample.aiffOps_append
#print axioms Sf.AbsWriteBridge.Sample.opsData_aiffOps
#print axioms Sf.AbsWriteBridge.Sample.aiff_run_append
#print axioms Sf.AbsWriteBridge.Sample.aiff_applyOp_peaks
#print axioms Sf.AbsWriteBridge.Sample.aiff_run_peaks
#print axioms Sf.AbsWriteBridge.Sample.aiff_finalPeaks
#print axioms Sf.AbsWriteBridge.Sample.aiff_closed_eq
#print axioms Sf.AbsWriteBridge.Sample.aiff_hdr_length
#print axioms Sf.AbsWriteBridge.Sample.aiff_snapshot_form
#print axioms Sf.AbsWriteBridge.Sample.aiff_store_snapshot
#print axioms Sf.AbsWriteBridge.Sample.aiff_slaws
#print axioms Sf.AbsWriteBridge.Sample.aiff_example_cfg
#print axioms Sf.AbsWriteBridge.Sample.aiff_example_guard
#print axioms Sf.AbsWriteBridge.Sample.cafCont_parse
#print axioms Sf.AbsWriteBridge.Sample.caf_codec_table
#print axioms Sf.AbsWriteBridge.Sample.cafEnc_nbytes
#print axioms Sf.AbsWriteBridge.Sample.cafEnc_float
#print axioms Sf.AbsWriteBridge.Sample.cafGeom_facts
#print axioms Sf.AbsWriteBridge.Sample.cafTableOk_upd
#print axioms Sf.AbsWriteBridge.Sample.cafWritePeaks_length
#print axioms Sf.AbsWriteBridge.Sample.caf_run_append
#print axioms Sf.AbsWriteBridge.Sample.cafOps_append
#print axioms Sf.AbsWriteBridge.Sample.cafTableOk_of_inv
#print axioms Sf.AbsWriteBridge.Sample.cafOp_inv
#print axioms Sf.AbsWriteBridge.Sample.cafOps_inv
#print axioms Sf.AbsWriteBridge.Sample.cafTable_partition
#print axioms Sf.AbsWriteBridge.Sample.caf_open_inv
#print axioms Sf.AbsWriteBridge.Sample.caf_run_inv
#print axioms Sf.AbsWriteBridge.Sample.caf_closed_image
#print axioms Sf.AbsWriteBridge.Sample.caf_store_hdr
#print axioms Sf.AbsWriteBridge.Sample.caf_form_parse
#print axioms Sf.AbsWriteBridge.Sample.caf_slaws
#print axioms Sf.AbsWriteBridge.Sample.caf_slaws_pcm
#print axioms Sf.AbsWriteBridge.Sample.w64Cont_parse
#print axioms Sf.AbsWriteBridge.Sample.w64_codec_table
#print axioms Sf.AbsWriteBridge.Sample.w64Enc_nbytes
#print axioms Sf.AbsWriteBridge.Sample.w64Geom_facts
#print axioms Sf.AbsWriteBridge.Sample.w64Ops_append
#print axioms Sf.AbsWriteBridge.Sample.w64_run_append
#print axioms Sf.AbsWriteBridge.Sample.w64OpOf_inv
#print axioms Sf.AbsWriteBridge.Sample.w64Ops_inv
#print axioms Sf.AbsWriteBridge.Sample.w64_closed_image
#print axioms Sf.AbsWriteBridge.Sample.w64_store_image
#print axioms Sf.AbsWriteBridge.Sample.w64_image_form
#print axioms Sf.AbsWriteBridge.Sample.w64_image_parse
#print axioms Sf.AbsWriteBridge.Sample.w64_slaws
#print axioms Sf.C04HandleG.instances_lawful_all
#print axioms Sf.C04HandleG.aiff_rdwr_HInv
#print axioms Sf.C04HandleG.restore_rules_keep_bytes
#print axioms Sf.C04HandleG.closed_bytes_generic
#print axioms Sf.C04HandleG.closed_bytes_no_rewrite
#print axioms Sf.C04HandleG.write_two_calls_generic
#print axioms Sf.C04Sds.sds_rate_inrange
#print axioms Sf.C04Sds.sds_rate_ge
#print axioms Sf.C04Sds.sds_rate_exact
#print axioms Sf.C04Sds.sds_rate_outside
#print axioms Sf.C04Sds.stale_frames_ignored_sds
#print axioms Sf.C04Sds.sds_updates_dont_change_file
#print axioms Sf.C04Sds.sds_size_fields
#print axioms Sf.C04Sds.sds_reopen_info
#print axioms Sf.C04Sds.sds_reopen_frames
#print axioms Sf.C04Sds.sds_frames_bound
#print axioms Sf.C04Sds.sds_length_field_wraps
#print axioms Sf.C04Sds.sds_snapshot_valid
#print axioms Sf.C04Sds.sds_snapshot_tail_is_stale
#print axioms Sf.C04Sds.sds_blocks_counted
#print axioms Sf.C04Xi.xi_rate_fixed
#print axioms Sf.C04Xi.xi_reopen_info
#print axioms Sf.C04Xi.ex_wf
#print axioms Sf.C04Xi.xi_size_fields
#print axioms Sf.C04Xi.xi_frames_bound
#print axioms Sf.C04Xi.stale_frames_ignored_xi
#print axioms Sf.C04Xi.xi_snapshot_valid
#print axioms Sf.C04Xi.xi_updates_dont_change_file
#print axioms Sf.C04Xi.xi_close_old_rule
#print axioms Sf.C05G72x.g72x_tables_extracted
#print axioms Sf.C05G72x.g72x_state_inv
#print axioms Sf.C05G72x.g72x_step_size_range
#print axioms Sf.C05G72x.step_safe
#print axioms Sf.C05G72x.g72x_encode_safe
#print axioms Sf.C05G72x.g72x_decode_safe
#print axioms Sf.C05G72x.g72x_rates_valid
#print axioms Sf.C05G72x.g72x_fmult_shifts
#print axioms Sf.C05G72x.g72x_quantize_shift
#print axioms Sf.C05G72x.g72x_float_shifts
#print axioms Sf.C05G72x.g72x_code_range
#print axioms Sf.C05G72x.g72x_codes_range
#print axioms Sf.C05G72x.g72x_decoder_short
#print axioms Sf.C05G72x.g72x_pack_unpack
#print axioms Sf.C05G72x.g72x_block_roundtrip
#print axioms Sf.C05G72x.g72x_decoder_tracks_encoder
#print axioms Sf.C05Vox.vox_read_contract
#print axioms Sf.C05Vox.vox_read_call_contract
#print axioms Sf.C05Vox.vox_odd_read_overruns_old_rule
#print axioms Sf.C05Vox.vox_write_contract
#print axioms Sf.C05Vox.vox_odd_write_overcounts_old_rule
#print axioms Sf.C05Vox.vox_read_partition
#print axioms Sf.C05Vox.vox_read_partition_invariant
#print axioms Sf.C05Vox.vox_read_partition_old_rule
#print axioms Sf.C05Vox.vox_frames_bound
#print axioms Sf.C05Vox.vox_frames_old_rule
#print axioms Sf.C05Vox.vox_reopen_delivers_frames
#print axioms Sf.C05Vox.vox_handle_open_inv
#print axioms Sf.C05Vox.vox_handle_read
#print axioms Sf.C07AbsW.partition_abs
#print axioms Sf.C07AbsW.handed_concat
#print axioms Sf.C07AbsW.file_bytes_partition_accepted
#print axioms Sf.C07Adpcm.frameList_spec
#print axioms Sf.C07Adpcm.adpcm_writer_wf
#print axioms Sf.C07Adpcm.adpcm_init_inv
#print axioms Sf.C07Adpcm.adpcm_chunk_whole_frames
#print axioms Sf.C07Adpcm.adpcm_write_is_fold
#print axioms Sf.C07Adpcm.adpcm_write_partition
#print axioms Sf.C07Adpcm.adpcm_closed_bytes_single
#print axioms Sf.C07Adpcm.shorts_of_tagged
#print axioms Sf.C07Adpcm.adpcm_write_partition_typed
#print axioms Sf.C07Adpcm.adpcm_geometry
#print axioms Sf.C07Adpcm.frameList_length
#print axioms Sf.C07Adpcm.adpcm_session_ran
#print axioms Sf.C07Adpcm.adpcm_session_state
#print axioms Sf.C07Adpcm.flatten_length_const
#print axioms Sf.C07Adpcm.closeSt_blocks
#print axioms Sf.C07Adpcm.adpcm_closed_length
#print axioms Sf.C07Adpcm.framesAtOpen_blocks
#print axioms Sf.C07Adpcm.adpcm_frames_at_reopen
#print axioms Sf.C07Adpcm.adpcm_header_frames
#print axioms Sf.C07Adpcm.ima_step_in_range
#print axioms Sf.C07Adpcm.ima_table_indices_safe
#print axioms Sf.C07Adpcm.adpcm_session_indices
#print axioms Sf.C07Adpcm.ms_predictor_in_range
#print axioms Sf.C07Adpcm.ms_step_in_range
#print axioms Sf.C07Adpcm.ms_table_indices_safe
#print axioms Sf.C07Adpcm.adpcm_refused_seek_clean
#print axioms Sf.C07Adpcm.adpcm_refused_seek_old_rule
#print axioms Sf.C07Adpcm.adpcm_write_seek_results
#print axioms Sf.C07Adpcm.adpcm_written_stream
#print axioms Sf.C07Adpcm.adpcm_written_stream_partition
#print axioms Sf.C07Adpcm.adpcm_int_narrowing
#print axioms Sf.C07Adpcm.ima_decoder_tracks_encoder
#print axioms Sf.C07Adpcm.ima_decoder_run_tracks
#print axioms Sf.C07Adpcm.ima_wav_mono_roundtrip
#print axioms Sf.C07Alac.closed_bytes_partition_independent
#print axioms Sf.C07AlacTyped.framesOf_append
#print axioms Sf.C07AlacTyped.frames_of_history
#print axioms Sf.C07AlacTyped.writeTypedCalls_eq
#print axioms Sf.C07AlacTyped.typed_partition_independent
#print axioms Sf.C07AlacTyped.same_type_partition_independent
#print axioms Sf.C07Block.dpcm16_partition
#print axioms Sf.C07Block.dpcm8_partition
#print axioms Sf.C07Block.vox_partition_pads_old_rule
#print axioms Sf.C07Block.vox_partition
#print axioms Sf.C07Block.vox_file_bytes_partition
#print axioms Sf.C07Block.vox_file_bytes_depend_on_samples_only
#print axioms Sf.C07Block.vox_write_call_staging
#print axioms Sf.C07Block.block_writer_close
#print axioms Sf.C07Block.block_writer_is_fold
#print axioms Sf.C07Block.block_writer_partition
#print axioms Sf.C07Block.paf24_chunk_whole_frames
#print axioms Sf.C07Block.paf24_chunk_old_rule
#print axioms Sf.C07Block.paf24_chunk_new_rule_witness
#print axioms Sf.C07Block.paf24_write_partition
#print axioms Sf.C07Bridge.block_session_accepted
#print axioms Sf.C07Bridge.flatMap_typed
#print axioms Sf.C07Bridge.framesOf_one
#print axioms Sf.C07Bridge.mono_block_facts
#print axioms Sf.C07Bridge.g72x_block
#print axioms Sf.C07Bridge.g72x_lossy
#print axioms Sf.C07Bridge.g72x_block_facts
#print axioms Sf.C07Bridge.g72x_session_accepted
#print axioms Sf.C07Bridge.nms_session_accepted
#print axioms Sf.C07Bridge.gsm_session_accepted
#print axioms Sf.C07Bridge2.framesOf_eq
#print axioms Sf.C07Bridge2.nframes_typed
#print axioms Sf.C07Bridge2.adpcm_block_agrees
#print axioms Sf.C07Bridge2.whole_typed
#print axioms Sf.C07Bridge2.adpcm_lossy
#print axioms Sf.C07Bridge2.adpcm_block_facts
#print axioms Sf.C07Bridge2.adpcm_session_accepted
#print axioms Sf.C07Bridge2.voxCalls_flatten
#print axioms Sf.C07Bridge2.vox_session_accepted
#print axioms Sf.C07Bridge2.dwvwData_eq
#print axioms Sf.C07Bridge2.dwvwCode.ok
#print axioms Sf.C07Bridge2.dwvw_sample_exact
#print axioms Sf.C07Bridge2.dwvw_session_accepted
#print axioms Sf.C07Bridge2.dwvw_range_int
#print axioms Sf.C07Bridge3.xi_bw
#print axioms Sf.C07Bridge3.xi_job_is_container
#print axioms Sf.C07Bridge3.xi_sample_exact
#print axioms Sf.C07Bridge3.xi_lossy
#print axioms Sf.C07Bridge3.xi_session_accepted
#print axioms Sf.C07Bridge3Snap.g72x_after
#print axioms Sf.C07Bridge3Snap.g72x_snap_session_accepted
#print axioms Sf.C07Bridge3Snap.typed_append
#print axioms Sf.C07Bridge3Snap.closeSt_prefix
#print axioms Sf.C07Bridge3Snap.adpcm_snap_session_accepted
#print axioms Sf.C07Bridge3Snap.zeroBack_stream
#print axioms Sf.AbsWriteBridge.Dpcm3.wrapS16_id
#print axioms Sf.AbsWriteBridge.Dpcm3.sext16_ofLE
#print axioms Sf.AbsWriteBridge.Dpcm3.st8_mul
#print axioms Sf.AbsWriteBridge.Dpcm3.cur8_wrapS
#print axioms Sf.AbsWriteBridge.Dpcm3.write_wide
#print axioms Sf.AbsWriteBridge.Dpcm3.write_narrow
#print axioms Sf.AbsWriteBridge.Dpcm3.delta8_cur8_state
#print axioms Sf.AbsWriteBridge.Dpcm3.write_narrow_good
#print axioms Sf.AbsWriteBridge.Dpcm3.write_append
#print axioms Sf.AbsWriteBridge.Dpcm3.write_nil
#print axioms Sf.AbsWriteBridge.Dpcm3.fold_eq
#print axioms Sf.AbsWriteBridge.Dpcm3.run_eq_one_call
#print axioms Sf.AbsWriteBridge.Dpcm3.data_eq
#print axioms Sf.AbsWriteBridge.Dpcm3.data_length
#print axioms Sf.AbsWriteBridge.Dpcm3.decode_data_16
#print axioms Sf.AbsWriteBridge.Dpcm3.decode_data_8
#print axioms Sf.AbsWriteBridge.Dpcm3.cur16_range
#print axioms Sf.AbsWriteBridge.Dpcm3.out16_cur16
#print axioms Sf.AbsWriteBridge.Dpcm3.top8_exact
#print axioms Sf.AbsWriteBridge.Dpcm3.out8_cur8
#print axioms Sf.AbsWriteBridge.Dpcm3.decode_data
#print axioms Sf.AbsWriteBridge.Dpcm3.back_length
#print axioms Sf.AbsWriteBridge.Dpcm3.back_data
#print axioms Sf.AbsWriteBridge.Dpcm3.back_data_take
#print axioms Sf.C07CodecsClosed.block_writer_closed_form
#print axioms Sf.C07CodecsClosed.nms_encode_all_eq
#print axioms Sf.C07CodecsClosed.nms_closed_form
#print axioms Sf.C07CodecsClosed.nms_closed_length
#print axioms Sf.C07CodecsClosed.nms_frames_at_reopen_closed
#print axioms Sf.C07CodecsClosed.nms_decode_block_160
#print axioms Sf.C07CodecsClosed.nms_stream_flat
#print axioms Sf.C07CodecsClosed.nms_written_stream
#print axioms Sf.C07CodecsClosed.g72x_closed_form
#print axioms Sf.C07CodecsClosed.g72x_closed_length_chunks
#print axioms Sf.C07CodecsClosed.g72x_frames_at_reopen_closed
#print axioms Sf.C07CodecsClosed.g72x_written_stream
#print axioms Sf.C07CodecsClosed.gsm_closed_form
#print axioms Sf.C07CodecsClosed.gsm_closed_length
#print axioms Sf.C07CodecsClosed.gsm_frames_at_reopen_closed
#print axioms Sf.C07CodecsClosed.gsm_written_stream
#print axioms Sf.C07G72x.g72x_writer_wf
#print axioms Sf.C07G72x.g72x_init_inv
#print axioms Sf.C07G72x.g72x_write_is_fold
#print axioms Sf.C07G72x.g72x_write_partition
#print axioms Sf.C07G72x.g72x_closed_bytes_single
#print axioms Sf.C07G72x.shorts_of_tagged
#print axioms Sf.C07G72x.g72x_write_partition_typed
#print axioms Sf.C07G72x.encodeBlock_length
#print axioms Sf.C07G72x.g72x_closed_length
#print axioms Sf.C07G72x.g72x_frames_at_reopen
#print axioms Sf.C07Gsm.gsm_writer_wwf
#print axioms Sf.C07Gsm.gsm_write_init_inv
#print axioms Sf.C07Gsm.gsm_write_partition
#print axioms Sf.C07Gsm.flatMap_singletons
#print axioms Sf.C07Gsm.gsm_file_bytes_partition
#print axioms Sf.C07Gsm.gsm_one_call_or_split
#print axioms Sf.C07Gsm.bytesMsb_length
#print axioms Sf.C07Gsm.bytesLsb_length
#print axioms Sf.C07Gsm.gsm_encode_33_bytes
#print axioms Sf.C07Gsm.gsm_block_size
#print axioms Sf.C07Gsm.gsm_lag_in_range
#print axioms Sf.C07Gsm.gsm_ltp_params_in_range
#print axioms Sf.C07GsmEncSums.autocorr_uses_scaled
#print axioms Sf.C07GsmEncSums.scaled_le
#print axioms Sf.C07GsmEncSums.gsm_autocorr_scaled_range
#print axioms Sf.C07GsmEncSums.gsm_autocorr_no_overflow
#print axioms Sf.C07GsmEncSums.gsm_ltp_power_no_overflow
#print axioms Sf.C07GsmEncSums.gsm_weighting_no_overflow
#print axioms Sf.C07GsmEncSums.gsm_grid_energy_no_overflow
#print axioms Sf.C07HandleG.write_call_phases
#print axioms Sf.C07HandleG.write_partition_generic
#print axioms Sf.C07Nms.antilog_index_in_range
#print axioms Sf.C07Nms.antilog_shift_in_range
#print axioms Sf.C07Nms.code_index_in_range
#print axioms Sf.C07Nms.search_index_in_range
#print axioms Sf.C07Nms.encodeSample_state
#print axioms Sf.C07Nms.decodeSample_state
#print axioms Sf.C07Nms.reach_shape
#print axioms Sf.C07Nms.codec_step_safe
#print axioms Sf.C07Nms.decode_sample_range
#print axioms Sf.C07Nms.encode_sample_code
#print axioms Sf.C07Nms.masked_code_shape
#print axioms Sf.C07Nms.unpack32_pack32
#print axioms Sf.C07Nms.writer_wf
#print axioms Sf.C07Nms.nms_write_calls_fold
#print axioms Sf.C07Nms.nms_write_partition
#print axioms Sf.C07Nms.shortsOf_pieces
#print axioms Sf.C07Nms.nms_write_splits
#print axioms Sf.C07Nms.nms_close_flush
#print axioms Sf.C07NmsBlock.unpack24_pack24
#print axioms Sf.C07NmsBlock.encodeSamples_codes
#print axioms Sf.C07NmsBlock.mask_r16
#print axioms Sf.C07NmsBlock.mask_r24
#print axioms Sf.C07NmsBlock.nms_pack_unpack
#print axioms Sf.C07NmsBlock.wordsOfLE_wordsLE
#print axioms Sf.C07NmsBlock.u16_lt
#print axioms Sf.C07NmsBlock.pack32_lt
#print axioms Sf.C07NmsBlock.pack16_lt
#print axioms Sf.C07NmsBlock.group24_lt
#print axioms Sf.C07NmsBlock.pack24_lt
#print axioms Sf.C07NmsBlock.pack_lt
#print axioms Sf.C07NmsBlock.nms_block_roundtrip
#print axioms Sf.C07NmsPack.nibbles_or
#print axioms Sf.C07NmsPack.u16_or
#print axioms Sf.C07NmsPack.u16_of_lt
#print axioms Sf.C07NmsPack.shl_lt
#print axioms Sf.C07NmsPack.word4_or
#print axioms Sf.C07NmsPack.zipWith_or_zero
#print axioms Sf.C07NmsPack.lanes32
#print axioms Sf.C07NmsPack.word4_nibbles
#print axioms Sf.C07NmsPack.Unpacks16.or
#print axioms Sf.C07NmsPack.lanes16
#print axioms Sf.C07NmsPack.word8_or
#print axioms Sf.C07NmsPack.word8_unpack
#print axioms Sf.C07NmsPack.unpack16_pack16
#print axioms Sf.C07NmsPack.plane_or
#print axioms Sf.C07NmsPack.plane_free
#print axioms Sf.C07NmsPack.rebuilt_or
#print axioms Sf.C07NmsPack.Unpacks24.or
#print axioms Sf.C07NmsPack.code2
#print axioms Sf.C07NmsPack.lanes24
#print axioms Sf.C07NmsPack.word4_even
#print axioms Sf.C07NmsPack.group24_words
#print axioms Sf.C07NmsPack.group24_unpack
#print axioms Sf.C07ShortIo.fread_prefix
#print axioms Sf.C07ShortIo.fread_complete
#print axioms Sf.C07ShortIo.fwriteLoop_eq_fread
#print axioms Sf.C07ShortIo.fwrite_prefix
#print axioms Sf.C07ShortIo.fwrite_complete
#print axioms Sf.C07ShortIo.fwrite_split_independent
#print axioms Sf.C07ShortIo.good_replicate_took
#print axioms Sf.C07ShortIo.tooks_append
#print axioms Sf.C07ShortIo.schedule_good
#print axioms Sf.C07ShortIo.fwrite_schedule_complete
#print axioms Sf.C07ShortIo.fwrite_scheduleAfter_complete
#print axioms Sf.C07ShortIo.eintr_first_only_rule_differs
#print axioms Sf.C07ShortIo.restart_rule_differs
#print axioms Sf.C19HeapInit.fresh_calloc_independent
#print axioms Sf.C19HeapInit.fresh_clear_all
#print axioms Sf.C19HeapInit.first_block_independent
#print axioms Sf.C19HeapInit.first_block_independent_clear_all
#print axioms Sf.C19HeapInit.full_block_hides_init
#print axioms Sf.C19HeapInit.partial_clear_leaks_into_first_block
#print axioms Sf.C19HeapInit.carry_in_fresh_calloc
#print axioms Sf.C19HeapInit.carry_in_fresh_clear_all
#print axioms Sf.C19HeapInit.partial_clear_bogus_carry
#print axioms Sf.C20CodecTables.nms_table_expn_extracted
#print axioms Sf.C20CodecTables.nms_table_scale_factor_step_extracted
#print axioms Sf.C20CodecTables.nms_table_step_extracted
#print axioms Sf.C20CodecTables.nms_table_step_search_extracted
#print axioms Sf.C20CodecTables.nms_geometry_extracted
#print axioms Sf.C20CodecTables.nms_tables_extracted
#print axioms Sf.C20CodecTables.gsm_table_A_extracted
#print axioms Sf.C20CodecTables.gsm_table_B_extracted
#print axioms Sf.C20CodecTables.gsm_table_MIC_extracted
#print axioms Sf.C20CodecTables.gsm_table_MAC_extracted
#print axioms Sf.C20CodecTables.gsm_table_INVA_extracted
#print axioms Sf.C20CodecTables.gsm_table_DLB_extracted
#print axioms Sf.C20CodecTables.gsm_table_QLB_extracted
#print axioms Sf.C20CodecTables.gsm_table_H_extracted
#print axioms Sf.C20CodecTables.gsm_table_NRFAC_extracted
#print axioms Sf.C20CodecTables.gsm_table_FAC_extracted
#print axioms Sf.C20CodecTables.gsm_tables_extracted
#print axioms Sf.C20CodecTables.gsm_bitoff_extracted
#print axioms Sf.C20G72xTrack.directory_rate
#print axioms Sf.C20G72xTrack.g72x_decoder_tracks_encoder_all
#print axioms Sf.C20G72xTrack.g72x_tracks_over_blocks
#print axioms Sf.C20G72xTrack.encode_old_eq
#print axioms Sf.C20G72xTrack.runFitting_spec
#print axioms Sf.C20G72xTrack.encodeList_append_fst
#print axioms Sf.C20G72xTrack.first_block
#print axioms Sf.C20G72xTrack.stOld130_eq
#print axioms Sf.C20G72xTrack.g721_old_rule_sum_leaves_int16
#print axioms Sf.C20G72xTrack.g721_old_rule_decoder_diverges
#print axioms Sf.C20G72xTrack.g721_old_rule_bytes_differ
