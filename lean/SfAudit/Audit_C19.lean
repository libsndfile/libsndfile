import SfProps.C19
import SfProps.C14LowFd
import SfProps.C19Caps
import SfProps.C19Codec
import SfProps.C19Fd
import SfProps.C19Heap
import SfProps.C19HeapInit
import SfProps.C19Spool
import SfProps.C19Text
#print axioms Sf.C19.step_frame
#print axioms Sf.C19.step_local
#print axioms Sf.C19.error_state_isolated
#print axioms Sf.C19.mask_only_null
#print axioms Sf.C19.globals_only_null
#print axioms Sf.C19.interleaving_irrelevant
#print axioms Sf.C19.proj_eq_tag
#print axioms Sf.C19.every_merge_equals_solo
#print axioms Sf.C19.proj_tag
#print axioms Sf.C19.proj_none
#print axioms Sf.C19.history_irrelevant
#print axioms Sf.C19.prelude_irrelevant
#print axioms Sf.C14LowFd.releaseBy_is_release
#print axioms Sf.C14LowFd.release_closes_owned
#print axioms Sf.C14LowFd.release_keeps_lent
#print axioms Sf.C14LowFd.open_close_restores
#print axioms Sf.C14LowFd.stdio_number_rule_leaks
#print axioms Sf.C14LowFd.low_numbers_open_close_restores
#print axioms Sf.C19Caps.init_ignores_static
#print axioms Sf.C19Caps.step_path_self
#print axioms Sf.C19Caps.step_path_other
#print axioms Sf.C19Caps.own_step
#print axioms Sf.C19Caps.open_after_any_history
#print axioms Sf.C19Caps.own_run
#print axioms Sf.C19Caps.cache_rule_leaks_across_handles
#print axioms Sf.C19Caps.paths_differ_on_infinity
#print axioms Sf.C19Codec.upd_same
#print axioms Sf.C19Codec.upd_other
#print axioms Sf.C19Codec.codec_state_is_per_handle
#print axioms Sf.C19Codec.codec_step_local
#print axioms Sf.C19Codec.crun_runs
#print axioms Sf.C19Codec.codec_interleaving_irrelevant
#print axioms Sf.C19Codec.view_length
#print axioms Sf.C19Codec.view_cons_same
#print axioms Sf.C19Codec.writer_session
#print axioms Sf.C19Fd.Foreign.refl
#print axioms Sf.C19Fd.Foreign.trans
#print axioms Sf.C19Fd.lowestFree_free
#print axioms Sf.C19Fd.osOpen_at
#print axioms Sf.C19Fd.osOpen_snd
#print axioms Sf.C19Fd.osOpen_new
#print axioms Sf.C19Fd.osOpen_keeps
#print axioms Sf.C19Fd.osOpen_foreign
#print axioms Sf.C19Fd.set_TInv
#print axioms Sf.C19Fd.osOpen_TInv
#print axioms Sf.C19Fd.osClose_at
#print axioms Sf.C19Fd.closeOpt_at
#print axioms Sf.C19Fd.closeOpt_TInv
#print axioms Sf.C19Fd.osOpen_close_at
#print axioms Sf.C19Fd.release_TInv
#print axioms Sf.C19Fd.closeKept_other
#print axioms Sf.C19Fd.closeKept_TInv
#print axioms Sf.C19Fd.Live.mine
#print axioms Sf.C19Fd.closeKept_foreign
#print axioms Sf.C19Fd.Mid.of_live
#print axioms Sf.C19Fd.Mid.keeps
#print axioms Sf.C19Fd.Mid.start
#print axioms Sf.C19Fd.Mid.rsrcStage
#print axioms Sf.C19Fd.Mid.tmpStage
#print axioms Sf.C19Fd.doOpen_eq
#print axioms Sf.C19Fd.opened_mid
#print axioms Sf.C19Fd.setH_same
#print axioms Sf.C19Fd.setH_other
#print axioms Sf.C19Fd.Local.refl
#print axioms Sf.C19Fd.Local.winv
#print axioms Sf.C19Fd.doOpen_local
#print axioms Sf.C19Fd.doClose_local
#print axioms Sf.C19Fd.step_local
#print axioms Sf.C19Fd.step_isolated
#print axioms Sf.C19Fd.caller_step_isolated
#print axioms Sf.C19Fd.step_WInv
#print axioms Sf.C19Fd.run_WInv
#print axioms Sf.C19Fd.start_WInv
#print axioms Sf.C19Fd.run_isolated
#print axioms Sf.C19Fd.keeps_rule_closes_foreign
#print axioms Sf.C19Heap.tail_zero_irrel
#print axioms Sf.C19Heap.bump_zero_irrel
#print axioms Sf.C19Heap.wstep_zero_irrel
#print axioms Sf.C19Heap.wrun_independent_of_heap
#print axioms Sf.C19Heap.emit_independent_of_heap
#print axioms Sf.C19Heap.bump_zero
#print axioms Sf.C19Heap.gap_is_zero
#print axioms Sf.C19Heap.no_clearing_rule_leaks_heap
#print axioms Sf.C19HeapInit.fresh_calloc_independent
#print axioms Sf.C19HeapInit.fresh_clear_all
#print axioms Sf.C19HeapInit.first_block_independent
#print axioms Sf.C19HeapInit.first_block_independent_clear_all
#print axioms Sf.C19HeapInit.full_block_hides_init
#print axioms Sf.C19HeapInit.partial_clear_leaks_into_first_block
#print axioms Sf.C19HeapInit.carry_in_fresh_calloc
#print axioms Sf.C19HeapInit.carry_in_fresh_clear_all
#print axioms Sf.C19HeapInit.partial_clear_bogus_carry
#print axioms Sf.C19Spool.writeAt_end
#print axioms Sf.C19Spool.fwrite_frame
#print axioms Sf.C19Spool.fopen_fresh
#print axioms Sf.C19Spool.fopen_shared_truncates
#print axioms Sf.C19Spool.inv_init
#print axioms Sf.C19Spool.step_inv
#print axioms Sf.C19Spool.run_isolated
#print axioms Sf.C19Spool.astep_other
#print axioms Sf.C19Spool.two_writers_isolated
#print axioms Sf.C19Spool.two_writers_shared_name
#print axioms Sf.C19Text.step_other
#print axioms Sf.C19Text.step_same
#print axioms Sf.C19Text.run_isolated
#print axioms Sf.C19Text.header_isolated
#print axioms Sf.C19Text.global_rule_old_rule
#print axioms Sf.C19Text.global_rule_not_isolated
