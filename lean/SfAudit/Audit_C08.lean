import SfProps.C08
import SfProps.C04HandleG
import SfProps.C04IeeeReinit
import SfProps.C05Bridge
import SfProps.C05HandleG
import SfProps.C06Query
import SfProps.C07HandleG
import SfProps.C08Abs
import SfProps.C08Bridge
import SfProps.C08Calc
import SfProps.C08Holes
import SfProps.C08Raw
import SfProps.C08Refine
import SfProps.C08SdsRdwr
#print axioms Sf.C08.seek_read_moves_only_read
#print axioms Sf.C08.seek_write_moves_only_write
#print axioms Sf.C08.seek_plain_moves_both
#print axioms Sf.C08.read_position_query
#print axioms Sf.C08.write_position_query
#print axioms Sf.C08.write_extends_or_keeps
#print axioms Sf.C08.truncate_shortens
#print axioms Sf.C04HandleG.instances_lawful_all
#print axioms Sf.C04HandleG.aiff_rdwr_HInv
#print axioms Sf.C04HandleG.restore_rules_keep_bytes
#print axioms Sf.C04HandleG.closed_bytes_generic
#print axioms Sf.C04HandleG.closed_bytes_no_rewrite
#print axioms Sf.C04HandleG.write_two_calls_generic
#print axioms Sf.C04IeeeReinit.replace_command_keeps_length
#print axioms Sf.C04IeeeReinit.step_atEnd
#print axioms Sf.C04IeeeReinit.session_frames
#print axioms Sf.C04IeeeReinit.session_frames_old_rule
#print axioms Sf.C04IeeeReinit.session_frames_full_old_rule_fails
#print axioms Sf.C05Bridge.geomOf_for
#print axioms Sf.C05Bridge.BInv_read_only
#print axioms Sf.C05Bridge.BInv_write_only
#print axioms Sf.C05Bridge.BInv_read_write
#print axioms Sf.C05Bridge.BInv_preserved
#print axioms Sf.C05Bridge.transcript_length
#print axioms Sf.C05Bridge.handle_run_accepted_from
#print axioms Sf.C05Bridge.absSt_stands_for
#print axioms Sf.C05Bridge.handle_run_accepted
#print axioms Sf.C05Bridge.opened_run_accepted
#print axioms Sf.C05Bridge.model_never_flagged
#print axioms Sf.C05Bridge.conv_command_replaces_stream
#print axioms Sf.C05Bridge.exOps_judged
#print axioms Sf.C05HandleG.handleG_refines_handle
#print axioms Sf.C05HandleG.handleG_step_refines
#print axioms Sf.C05HandleG.HInv_preserved_generic
#print axioms Sf.C05HandleG.HInv_history_generic
#print axioms Sf.C05HandleG.spec_satisfies_laws
#print axioms Sf.C05HandleG.instances_lawful
#print axioms Sf.C05HandleG.read_is_container_independent
#print axioms Sf.C05HandleG.seek_is_container_independent
#print axioms Sf.C05HandleG.write_contract_generic
#print axioms Sf.C06Query.check_query
#print axioms Sf.C06Query.accepts_cons_query
#print axioms Sf.C06Query.stripQ_query
#print axioms Sf.C06Query.stripQ_keep
#print axioms Sf.C06Query.accepts_strip_queries
#print axioms Sf.C06Query.holds_iff_stripped
#print axioms Sf.C06Query.reads_with_queries_concat
#print axioms Sf.C06Query.read_query_read
#print axioms Sf.C06Query.get_chunk_data_restores_position
#print axioms Sf.C06Query.early_return_moves_position
#print axioms Sf.C06Query.early_return_same_when_nonempty
#print axioms Sf.C07HandleG.write_call_phases
#print axioms Sf.C07HandleG.write_partition_generic
#print axioms Sf.C08Abs.write_contract_abs
#print axioms Sf.C08Abs.write_then_read_abs
#print axioms Sf.C08Abs.untouched_preserved_abs
#print axioms Sf.C08Abs.whence_pointers_abs
#print axioms Sf.C08Abs.truncate_abs
#print axioms Sf.C08Bridge.accepted_line_refines
#print axioms Sf.C08Bridge.accepted_rdwr_refines
#print axioms Sf.C08Bridge.holdsOn_rdwr_refines
#print axioms Sf.C08Bridge.frames_is_length
#print axioms Sf.C08Bridge.ref_size_invariant
#print axioms Sf.C08Bridge.ref_size_from_init
#print axioms Sf.C08Bridge.rdwr_handle_run_accepted
#print axioms Sf.C08Calc.read_from_rpos
#print axioms Sf.C08Calc.write_lands_wpos
#print axioms Sf.C08Calc.read_coherent
#print axioms Sf.C08Calc.write_coherent
#print axioms Sf.C08Calc.seekSet_coherent
#print axioms Sf.C08Calc.seekSet_rd_coherent
#print axioms Sf.C08Calc.seekSet_plain_coherent
#print axioms Sf.C08Calc.readF_sync
#print axioms Sf.C08Calc.scan_end
#print axioms Sf.C08Calc.calc_eq_rdwr
#print axioms Sf.C08Calc.calc_eq_read
#print axioms Sf.C08Calc.calc_same_pos
#print axioms Sf.C08Calc.calc_coherent
#print axioms Sf.C08Calc.calc_next_write_lands
#print axioms Sf.C08Calc.calc_next_read_from
#print axioms Sf.C08Calc.calc_invisible
#print axioms Sf.C08Calc.calc_restores_all
#print axioms Sf.C08Calc.calcTellFirst_old_rule
#print axioms Sf.C08Calc.calcTellFirst_read_handle
#print axioms Sf.C08Calc.calcKeepLastOp_old_rule
#print axioms Sf.C08Calc.calcKeepLastOp_same_pos
#print axioms Sf.C08Calc.calcKeepLastOp_write_lands_on_read_pointer
#print axioms Sf.C08Holes.zero_bytes_decode_zero
#print axioms Sf.C08Holes.zero_region_decodes_zero
#print axioms Sf.C08Holes.hole_zero_table
#print axioms Sf.C08Holes.zero_byte_u8_ulaw_alaw
#print axioms Sf.C08Holes.write_past_end_zero_fills
#print axioms Sf.C08Holes.truncate_extends_with_zeros
#print axioms Sf.C08Holes.geomOfH_for
#print axioms Sf.C08Holes.handle_run_accepted_holes
#print axioms Sf.C08Holes.model_never_flagged_holes
#print axioms Sf.C08Holes.hH_inv
#print axioms Sf.C08Raw.rawRead_keeps_write_side
#print axioms Sf.C08Raw.rawRead_meaning
#print axioms Sf.C08Raw.write_rawRead_write
#print axioms Sf.C08Raw.read_keeps_write_side
#print axioms Sf.C08Raw.readLike_keeps_write_side
#print axioms Sf.C08Raw.rawWrite_meaning
#print axioms Sf.C08Raw.update_keeps_frames
#print axioms Sf.C08Raw.update_after_growth
#print axioms Sf.C08Raw.update_old_rule_inflates
#print axioms Sf.C08Raw.rules_agree_without_tail
#print axioms Sf.C08Raw.update_with_mark
#print axioms Sf.C08Raw.stale_mark_loses_frames
#print axioms Sf.C08Refine.RwInv_initial_new
#print axioms Sf.C08Refine.RwInv_initial_raw
#print axioms Sf.C08Refine.RwInv_initial_tight
#print axioms Sf.C08Refine.RwInv_initial_padded
#print axioms Sf.C08Refine.RwInv_preserved
#print axioms Sf.C08Refine.RwInv_reachable
#print axioms Sf.C08Refine.RwInv_gives
#print axioms Sf.C08Refine.rdwr_refines
#print axioms Sf.C08Refine.rdwr_refines_run
#print axioms Sf.C08Refine.write_then_read
#print axioms Sf.C08Refine.write_puts_values
#print axioms Sf.C08Refine.read_returns_values
#print axioms Sf.C08Refine.overwrite_keeps_length
#print axioms Sf.C08Refine.write_at_end_extends
#print axioms Sf.C08Refine.whence_moves_only_that_pointer
#print axioms Sf.C08Refine.plain_whence_moves_both
#print axioms Sf.C08Refine.whence_sfm_rdwr
#print axioms Sf.C08Refine.truncate_shortens
#print axioms Sf.C08Refine.truncate_refused_without_ftruncate
#print axioms Sf.C08Refine.untouched_preserved
#print axioms Sf.C08Refine.reopen_sees_final
#print axioms Sf.C08Refine.reopen_reads_final
#print axioms Sf.C08Refine.reopen_rdwr_continues
#print axioms Sf.C08Refine.prepopulated_opens_rdwr
#print axioms Sf.C08Refine.rdwr_session
#print axioms Sf.C08Refine.tH_opened
#print axioms Sf.C08Refine.tH_inv
#print axioms Sf.C08Refine.truncate_vio_witness_new_rule
#print axioms Sf.C08Refine.rdwr_refines_old_rule
#print axioms Sf.C08Refine.truncate_rule_unchanged_with_ftruncate
#print axioms Sf.C08Refine.pH_opened
#print axioms Sf.C08Refine.RwInv_initial_full_fails
#print axioms Sf.C08Refine.partial_frame_hole_not_zero
#print axioms Sf.C08Refine.RwInv_initial_partial
#print axioms Sf.C08Refine.eH_opened
#print axioms Sf.C08Refine.eH_inv
#print axioms Sf.C08Refine.odd_wav_reopens_with_dataend
#print axioms Sf.C08Refine.oH_opened
#print axioms Sf.C08Refine.odd_wav_second_session
#print axioms Sf.C08SdsRdwr.period_stable
#print axioms Sf.C08SdsRdwr.header_count
#print axioms Sf.C08SdsRdwr.open_fields
#print axioms Sf.C08SdsRdwr.rdwr_idle_keeps_file
#print axioms Sf.C08SdsRdwr.rdwr_idle_keeps_session_file
#print axioms Sf.C08SdsRdwr.rdwr_append_count
#print axioms Sf.C08SdsRdwr.rdwr_idle_old_rule
#print axioms Sf.C08SdsRdwr.rdwr_append_old_rule
#print axioms Sf.C08SdsRdwr.rdwr_idle_full_old_rule_fails
