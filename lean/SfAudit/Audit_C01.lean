import SfProps.C01
import SfProps.C01AbsW
import SfProps.C01Aiff
import SfProps.C01Alac
import SfProps.C01AlacBits
import SfProps.C01AlacFile
import SfProps.C01AlacGolomb
import SfProps.C01AlacInv
import SfProps.C01AlacLossless
import SfProps.C01AlacLosslessAll
import SfProps.C01Block
import SfProps.C01Bridge
import SfProps.C01BridgeFacts
import SfProps.C01BridgeReopen
import SfProps.C01BridgeRun
import SfProps.C01Dwvw
import SfProps.C01WavexGuid
import SfProps.C04AlacBer
import SfProps.C04Bridge
import SfProps.C04Bridge2
import SfProps.C04Bridge2Ex
import SfProps.C04Bridge3
import SfProps.C04BridgeAiff
import SfProps.C04BridgeCaf
import SfProps.C04BridgeW64
import SfProps.C04HandleG
import SfProps.C05HandleG
import SfProps.C06AlacStream
import SfProps.C07Bridge2
import SfProps.C07Bridge3
import SfProps.C07BridgeDpcm
import SfProps.C20Ieee
#print axioms Sf.C01.pcm_wf_iff
#print axioms Sf.C01.enc_of_open_wf
#print axioms Sf.C01.sample_roundtrip
#print axioms Sf.C01.sample_roundtrip_nofloat
#print axioms Sf.C01.encode_length_cw
#print axioms Sf.C01.data_roundtrip
#print axioms Sf.C01.data_roundtrip_nofloat
#print axioms Sf.C01.file_roundtrip_bytes
#print axioms Sf.C01.file_roundtrip
#print axioms Sf.C01.file_roundtrip_raw_reopen
#print axioms Sf.C01.widenExact
#print axioms Sf.C01.sample_roundtrip_all
#print axioms Sf.C01AbsW.roundtrip_abs
#print axioms Sf.C01AbsW.side_condition_abs
#print axioms Sf.C01AbsW.wrapU_mod
#print axioms Sf.C01AbsW.low_bits_rule
#print axioms Sf.C01AbsW.side_condition_matches_model
#print axioms Sf.C01AbsW.file_roundtrip_accepted
#print axioms Sf.C01Aiff.toW_write
#print axioms Sf.C01Aiff.opsData_typed
#print axioms Sf.C01Aiff.encOf_props
#print axioms Sf.C01Aiff.aiff_file_roundtrip
#print axioms Sf.AlacCore.alac_escape_result
#print axioms Sf.AlacCore.alac_escape_roundtrip
#print axioms Sf.AlacCore.trunc_inRange
#print axioms Sf.AlacCore.alac_escape_roundtrip_exact
#print axioms Sf.AlacCore.escape_old_rule_pair20_width
#print axioms Sf.AlacCore.escape_old_rule_pair24_stale
#print axioms Sf.AlacCore.escape_old_rule_pair24_witness
#print axioms Sf.AlacCore.escape_old_rule_pair_vshift
#print axioms Sf.AlacCore.escape_old_rule_mono32_shl8
#print axioms Sf.AlacCore.unpack3
#print axioms Sf.AlacCore.unpack2
#print axioms Sf.AlacCore.window_top
#print axioms Sf.AlacCore.read_drop_bitsOf
#print axioms Sf.AlacCore.bbWindow_reads
#print axioms Sf.AlacCore.bbWindow_eq_bits
#print axioms Sf.AlacCore.bbWindowSmall_reads
#print axioms Sf.AlacCore.bbWindowSmall_eq_bits
#print axioms Sf.AlacCore.bbWindow_18_fails
#print axioms Sf.C01AlacFile.encSeq_ok
#print axioms Sf.C01AlacFile.alac_file_roundtrip
#print axioms Sf.C01AlacFile.coreCodec_ok
#print axioms Sf.C01AlacFile.alac_core_file_roundtrip
#print axioms Sf.AlacCore.alac_dyn_get32_code32
#print axioms Sf.AlacCore.alac_dyn_get_code
#print axioms Sf.AlacCore.alac_dyn_decomp_dyn_comp_inverse
#print axioms Sf.AlacCore.alac_unpc_pc_inverse
#print axioms Sf.AlacCore.alac_unmix_mix_inverse
#print axioms Sf.AlacCore.alac_unmix_mix_encoder
#print axioms Sf.AlacCore.decMono_enc
#print axioms Sf.AlacCore.alac_mono_element_lossless
#print axioms Sf.AlacCore.init_stateOk
#print axioms Sf.AlacCore.alac_encode_keeps_state
#print axioms Sf.AlacCore.decPair_enc
#print axioms Sf.AlacCore.alac_pair_element_lossless
#print axioms Sf.AlacCore.default_pairStateOk
#print axioms Sf.AlacCore.allOk_set
#print axioms Sf.AlacCore.encMono_pairStateOk
#print axioms Sf.AlacCore.encElems_allOk
#print axioms Sf.AlacCore.encMono_length_pos
#print axioms Sf.AlacCore.encElems_eq
#print axioms Sf.AlacCore.alac_encode_state_ok
#print axioms Sf.AlacCore.init_allOk
#print axioms Sf.AlacCore.alac_lossless_elems
#print axioms Sf.AlacCore.alac_lossless
#print axioms Sf.AlacCore.alac_lossless_exact
#print axioms Sf.AlacCore.alac_lossless_stream
#print axioms Sf.AlacCore.alac_lossless_mono
#print axioms Sf.AlacCore.alac_lossless_mono_stream
#print axioms Sf.C01Block.paf24_pack_roundtrip
#print axioms Sf.C01Block.paf24_pack_truncates
#print axioms Sf.C01Block.sds_pack_roundtrip_2
#print axioms Sf.C01Block.sds_pack_roundtrip_3
#print axioms Sf.C01Block.sds_pack_roundtrip_4
#print axioms Sf.C01Block.sds16_short_exact
#print axioms Sf.C01Block.sds24_exact
#print axioms Sf.C01Block.dpcm16_pair
#print axioms Sf.C01Block.dpcm16_roundtrip
#print axioms Sf.C01Block.dpcm8_roundtrip
#print axioms Sf.C01Block.dpcm16_state_agrees
#print axioms Sf.C01Block.oki_decode_step
#print axioms Sf.C01Block.vox_write_count
#print axioms Sf.C01Block.vox_odd_write_pads_old_rule
#print axioms Sf.C01Block.vox_write_count_old_rule_fails
#print axioms Sf.C01Block.vox_write_count_even_old_rule
#print axioms Sf.C01Block.vox_even_unchanged
#print axioms Sf.C01Block.vox_odd_read_overcounts_old_rule
#print axioms Sf.C01Block.vox_odd_read_exact
#print axioms Sf.C01Bridge.model_session_accepted
#print axioms Sf.C01Bridge.model_session_never_flagged
#print axioms Sf.C01Bridge.model_session_clauses
#print axioms Sf.C01Bridge.model_session_good
#print axioms Sf.C01Bridge.model_crash_points
#print axioms Sf.C01Bridge.exS_ok
#print axioms Sf.AbsWriteBridge.strip_runW
#print axioms Sf.AbsWriteBridge.toW_ok
#print axioms Sf.AbsWriteBridge.toW_hasTy
#print axioms Sf.AbsWriteBridge.toW_samples
#print axioms Sf.AbsWriteBridge.closed_eq_oneCall
#print axioms Sf.AbsWriteBridge.closed_partition
#print axioms Sf.AbsWriteBridge.image_reopen
#print axioms Sf.AbsWriteBridge.geom_block
#print axioms Sf.AbsWriteBridge.geom_rate
#print axioms Sf.AbsWriteBridge.run_data_ty
#print axioms Sf.AbsWriteBridge.reopen_read
#print axioms Sf.AbsWriteBridge.sessFrames_append
#print axioms Sf.AbsWriteBridge.crashPoints_spec
#print axioms Sf.AbsWriteBridge.predOf_g
#print axioms Sf.AbsWriteBridge.predOf_ty
#print axioms Sf.AbsWriteBridge.predOf_split_calls
#print axioms Sf.AbsWriteBridge.predOf_one_calls
#print axioms Sf.AbsWriteBridge.snapOf_k
#print axioms Sf.AbsWriteBridge.geom_ch
#print axioms Sf.AbsWriteBridge.handle_pred_good
#print axioms Sf.C01Dwvw.dwvw_partition
#print axioms Sf.C01Dwvw.dwvw_partition_file
#print axioms Sf.C01Dwvw.dwvw_partition_caller
#print axioms Sf.C01Dwvw.dwvw_width_bounded
#print axioms Sf.C01Dwvw.dwvw_int_exact
#print axioms Sf.C01Dwvw.dwvw_short_exact
#print axioms Sf.C01Dwvw.dwvw_roundtrip
#print axioms Sf.C01Dwvw.dwvw_roundtrip_exact
#print axioms Sf.C01Dwvw.dwvw_file_nonempty
#print axioms Sf.C01Dwvw.dwvw_short_file_old_rule
#print axioms Sf.C01Dwvw.dwvw_read_split
#print axioms Sf.C01Dwvw.dwvw_read_split_full_holds
#print axioms Sf.C01Dwvw.dwvw_tail_witness_bytes
#print axioms Sf.C01Dwvw.dwvw_read_split_old_rule
#print axioms Sf.C01Dwvw.dwvw_read_split_full_old_rule_fails
#print axioms Sf.C01Dwvw.dwvw_read_calls
#print axioms Sf.C01Dwvw.dwvw_prefix_delivered
#print axioms Sf.C01Dwvw.frameScan_mono
#print axioms Sf.C01Dwvw.frameScan_ge
#print axioms Sf.C01Dwvw.dwvw_samples_le_bits
#print axioms Sf.C01Dwvw.dwvw_scan_ge
#print axioms Sf.C01Dwvw.dwvw_aiff_frames_exact
#print axioms Sf.C01Dwvw.dwvw_raw_frames_partial
#print axioms Sf.C01Dwvw.dwvw_raw_frames_full_false
#print axioms Sf.WavexGuid.guid_roundtrip
#print axioms Sf.WavexGuid.amb_flag_roundtrip
#print axioms Sf.WavexGuid.written_guid_opens
#print axioms Sf.WavexGuid.merged_branches_lose_float
#print axioms Sf.WavexGuid.merged_agrees_without_flag
#print axioms Sf.C04AlacBer.berVal_numeral
#print axioms Sf.C04AlacBer.flagsOk_numeral
#print axioms Sf.C04AlacBer.berEnc_spec
#print axioms Sf.C04AlacBer.berEnc_digits
#print axioms Sf.C04AlacBer.berEnc_terminator_iff
#print axioms Sf.C04AlacBer.berEnc_boundaries
#print axioms Sf.C04AlacBer.reopen_counts_every_packet
#print axioms Sf.C04Bridge.cont_session_accepted
#print axioms Sf.C04Bridge.whole_single
#print axioms Sf.C04Bridge.guardOf_data
#print axioms Sf.C04Bridge.parse_single
#print axioms Sf.C04Bridge.sampleList_prefix_le
#print axioms Sf.C04Bridge.guardOf_toW
#print axioms Sf.C04Bridge.guarded_session_accepted
#print axioms Sf.C04Bridge.encFor_raw
#print axioms Sf.C04Bridge.geom_facts
#print axioms Sf.C04Bridge.small2_facts
#print axioms Sf.C04Bridge.wve_laws
#print axioms Sf.C04Bridge.wve_session_accepted
#print axioms Sf.C04Bridge.mat4_facts
#print axioms Sf.C04Bridge.mat4_session_accepted
#print axioms Sf.C04Bridge.mpc2k_facts
#print axioms Sf.C04Bridge.mpc2k_session_accepted
#print axioms Sf.C04Bridge.htk_rate_exact_accepted
#print axioms Sf.C04Bridge.htk_rate_exact_only
#print axioms Sf.C04Bridge.htk_facts
#print axioms Sf.C04Bridge.htk_session_accepted
#print axioms Sf.C04Bridge.htk_rate_tolerance
#print axioms Sf.C04Bridge.htk_rate_tolerance_old_rule
#print axioms Sf.C04Bridge.pvf_facts
#print axioms Sf.C04Bridge.pvf_session_accepted_all
#print axioms Sf.C04Bridge.pvf_session_accepted
#print axioms Sf.C04Bridge.avr_facts
#print axioms Sf.C04Bridge.avr_session_accepted
#print axioms Sf.C04Bridge2.paf_facts
#print axioms Sf.C04Bridge2.paf_session_accepted
#print axioms Sf.C04Bridge2.ircam_facts
#print axioms Sf.C04Bridge2.ircam_session_accepted
#print axioms Sf.C04Bridge2.svx_facts
#print axioms Sf.C04Bridge2.svx_session_accepted
#print axioms Sf.C04Bridge2.laws_fixStale
#print axioms Sf.C04Bridge2.nist_facts
#print axioms Sf.C04Bridge2.nistCont_is_model
#print axioms Sf.C04Bridge2.nist_session_accepted
#print axioms Sf.C04Bridge2.mat5_facts
#print axioms Sf.C04Bridge2.mat5_session_accepted
#print axioms Sf.C04Bridge2.laws_withClosed
#print axioms Sf.C04Bridge2.voc_rate_ok9
#print axioms Sf.C04Bridge2.voc_codec
#print axioms Sf.C04Bridge2.voc_bw
#print axioms Sf.C04Bridge2.voc_laws
#print axioms Sf.C04Bridge2.voc_session_accepted
#print axioms Sf.C04Bridge2.ircam_rate_clause
#print axioms Sf.C04Bridge2.voc_rate_clause_u8
#print axioms Sf.C04Bridge3.ircam_rate_exact_accepted
#print axioms Sf.C04Bridge3.ircam_rate_exact_only
#print axioms Sf.C04Bridge3.ircam_rate_cap_old_rule
#print axioms Sf.C04Bridge3.ircam_session_accepted_every_rate
#print axioms Sf.C04Bridge3.svx_rate_exact_accepted
#print axioms Sf.C04Bridge3.svx_rate_exact_only
#print axioms Sf.C04Bridge3.mpc2k_rate_exact_only
#print axioms Sf.C04Bridge3.field16_old_rule
#print axioms Sf.C04Bridge3.vocGeom_major
#print axioms Sf.C04Bridge3.vocGeom_codec
#print axioms Sf.C04Bridge3.voc_rate_exact_accepted
#print axioms Sf.C04Bridge3.voc_rate_ok
#print axioms Sf.C04Bridge3.voc_rate_exact_only
#print axioms Sf.C04Bridge3.voc_rate_tolerance_old_rule
#print axioms Sf.C04Bridge3.voc_record_rate
#print axioms Sf.C04Bridge3.voc_session_accepted_every_rate
#print axioms Sf.C04Bridge3.acceptedG_of_accepted
#print axioms Sf.C04Bridge3.svx_reopen_info
#print axioms Sf.C04Bridge3.svx_snapshot_valid_parse
#print axioms Sf.C04Bridge3.svx_session_accepted_all
#print axioms Sf.C04Bridge3.svx_reopen_info_old_rule_fails
#print axioms Sf.C04Bridge3.svx_reopen_info_old_rule
#print axioms Sf.C04Bridge3.whole_toS
#print axioms Sf.C04Bridge3.peakOk_toS
#print axioms Sf.C04Bridge3.peakJob_refOps
#print axioms Sf.C04Bridge3.peakJob_prefix
#print axioms Sf.C04Bridge3.peakJob_example
#print axioms Sf.C04Bridge3.peak_session_good
#print axioms Sf.C04Bridge3.w64_session_good
#print axioms Sf.C04Bridge3.w64_session_accepted
#print axioms Sf.C04Bridge3.aiff_session_good
#print axioms Sf.C04Bridge3.aiff_session_accepted
#print axioms Sf.C04Bridge3.caf_session_good
#print axioms Sf.C04Bridge3.caf_session_accepted
#print axioms Sf.AbsWriteBridge.Sample.aiffCont_closed
#print axioms Sf.AbsWriteBridge.Sample.aiffCont_store
#print axioms Sf.AbsWriteBridge.Sample.aiffCont_parse
#print axioms Sf.AbsWriteBridge.Sample.aiff_encOf_raw
#print axioms Sf.AbsWriteBridge.Sample.aiffGeom_facts
#print axioms Sf.AbsWriteBridge.Sample.aiff_enc_nbytes
#print axioms Sf.AbsWriteBridge.Sample.aiff_enc_float
#print axioms Sf.AbsWriteBridge.Sample.aiff_fmtWord
#print axioms Sf.AbsWriteBridge.Sample.aiffOps_append
#print axioms Sf.AbsWriteBridge.Sample.opsData_aiffOps
#print axioms Sf.AbsWriteBridge.Sample.aiff_run_append
#print axioms Sf.AbsWriteBridge.Sample.aiff_applyOp_peaks
#print axioms Sf.AbsWriteBridge.Sample.aiff_run_peaks
#print axioms Sf.AbsWriteBridge.Sample.aiff_finalPeaks
#print axioms Sf.AbsWriteBridge.Sample.aiff_closed_eq
#print axioms Sf.AbsWriteBridge.Sample.aiff_hdr_length
#print axioms Sf.AbsWriteBridge.Sample.aiff_snapshot_form
#print axioms Sf.AbsWriteBridge.Sample.aiff_store_snapshot
#print axioms Sf.AbsWriteBridge.Sample.aiff_slaws
#print axioms Sf.AbsWriteBridge.Sample.aiff_example_cfg
#print axioms Sf.AbsWriteBridge.Sample.aiff_example_guard
#print axioms Sf.AbsWriteBridge.Sample.cafCont_parse
#print axioms Sf.AbsWriteBridge.Sample.caf_codec_table
#print axioms Sf.AbsWriteBridge.Sample.cafEnc_nbytes
#print axioms Sf.AbsWriteBridge.Sample.cafEnc_float
#print axioms Sf.AbsWriteBridge.Sample.cafGeom_facts
#print axioms Sf.AbsWriteBridge.Sample.cafTableOk_upd
#print axioms Sf.AbsWriteBridge.Sample.cafWritePeaks_length
#print axioms Sf.AbsWriteBridge.Sample.caf_run_append
#print axioms Sf.AbsWriteBridge.Sample.cafOps_append
#print axioms Sf.AbsWriteBridge.Sample.cafTableOk_of_inv
#print axioms Sf.AbsWriteBridge.Sample.cafOp_inv
#print axioms Sf.AbsWriteBridge.Sample.cafOps_inv
#print axioms Sf.AbsWriteBridge.Sample.cafTable_partition
#print axioms Sf.AbsWriteBridge.Sample.caf_open_inv
#print axioms Sf.AbsWriteBridge.Sample.caf_run_inv
#print axioms Sf.AbsWriteBridge.Sample.caf_closed_image
#print axioms Sf.AbsWriteBridge.Sample.caf_store_hdr
#print axioms Sf.AbsWriteBridge.Sample.caf_form_parse
#print axioms Sf.AbsWriteBridge.Sample.caf_slaws
#print axioms Sf.AbsWriteBridge.Sample.caf_slaws_pcm
#print axioms Sf.AbsWriteBridge.Sample.w64Cont_parse
#print axioms Sf.AbsWriteBridge.Sample.w64_codec_table
#print axioms Sf.AbsWriteBridge.Sample.w64Enc_nbytes
#print axioms Sf.AbsWriteBridge.Sample.w64Geom_facts
#print axioms Sf.AbsWriteBridge.Sample.w64Ops_append
#print axioms Sf.AbsWriteBridge.Sample.w64_run_append
#print axioms Sf.AbsWriteBridge.Sample.w64OpOf_inv
#print axioms Sf.AbsWriteBridge.Sample.w64Ops_inv
#print axioms Sf.AbsWriteBridge.Sample.w64_closed_image
#print axioms Sf.AbsWriteBridge.Sample.w64_store_image
#print axioms Sf.AbsWriteBridge.Sample.w64_image_form
#print axioms Sf.AbsWriteBridge.Sample.w64_image_parse
#print axioms Sf.AbsWriteBridge.Sample.w64_slaws
#print axioms Sf.C04HandleG.instances_lawful_all
#print axioms Sf.C04HandleG.aiff_rdwr_HInv
#print axioms Sf.C04HandleG.restore_rules_keep_bytes
#print axioms Sf.C04HandleG.closed_bytes_generic
#print axioms Sf.C04HandleG.closed_bytes_no_rewrite
#print axioms Sf.C04HandleG.write_two_calls_generic
#print axioms Sf.C05HandleG.handleG_refines_handle
#print axioms Sf.C05HandleG.handleG_step_refines
#print axioms Sf.C05HandleG.HInv_preserved_generic
#print axioms Sf.C05HandleG.HInv_history_generic
#print axioms Sf.C05HandleG.spec_satisfies_laws
#print axioms Sf.C05HandleG.instances_lawful
#print axioms Sf.C05HandleG.read_is_container_independent
#print axioms Sf.C05HandleG.seek_is_container_independent
#print axioms Sf.C05HandleG.write_contract_generic
#print axioms Sf.C06AlacStream.fresh_at_zero
#print axioms Sf.C06AlacStream.read_stream_cross_packet
#print axioms Sf.C06AlacStream.read_count_cross_packet
#print axioms Sf.C06AlacStream.take_take_drop
#print axioms Sf.C06AlacStream.read_sequence_cross_packet
#print axioms Sf.C06AlacStream.read_partition_cross_packet
#print axioms Sf.C07Bridge2.framesOf_eq
#print axioms Sf.C07Bridge2.nframes_typed
#print axioms Sf.C07Bridge2.adpcm_block_agrees
#print axioms Sf.C07Bridge2.whole_typed
#print axioms Sf.C07Bridge2.adpcm_lossy
#print axioms Sf.C07Bridge2.adpcm_block_facts
#print axioms Sf.C07Bridge2.adpcm_session_accepted
#print axioms Sf.C07Bridge2.voxCalls_flatten
#print axioms Sf.C07Bridge2.vox_session_accepted
#print axioms Sf.C07Bridge2.dwvwData_eq
#print axioms Sf.C07Bridge2.dwvwCode.ok
#print axioms Sf.C07Bridge2.dwvw_sample_exact
#print axioms Sf.C07Bridge2.dwvw_session_accepted
#print axioms Sf.C07Bridge2.dwvw_range_int
#print axioms Sf.C07Bridge3.xi_bw
#print axioms Sf.C07Bridge3.xi_job_is_container
#print axioms Sf.C07Bridge3.xi_sample_exact
#print axioms Sf.C07Bridge3.xi_lossy
#print axioms Sf.C07Bridge3.xi_session_accepted
#print axioms Sf.AbsWriteBridge.Dpcm3.wrapS16_id
#print axioms Sf.AbsWriteBridge.Dpcm3.sext16_ofLE
#print axioms Sf.AbsWriteBridge.Dpcm3.st8_mul
#print axioms Sf.AbsWriteBridge.Dpcm3.cur8_wrapS
#print axioms Sf.AbsWriteBridge.Dpcm3.write_wide
#print axioms Sf.AbsWriteBridge.Dpcm3.write_narrow
#print axioms Sf.AbsWriteBridge.Dpcm3.delta8_cur8_state
#print axioms Sf.AbsWriteBridge.Dpcm3.write_narrow_good
#print axioms Sf.AbsWriteBridge.Dpcm3.write_append
#print axioms Sf.AbsWriteBridge.Dpcm3.write_nil
#print axioms Sf.AbsWriteBridge.Dpcm3.fold_eq
#print axioms Sf.AbsWriteBridge.Dpcm3.run_eq_one_call
#print axioms Sf.AbsWriteBridge.Dpcm3.data_eq
#print axioms Sf.AbsWriteBridge.Dpcm3.data_length
#print axioms Sf.AbsWriteBridge.Dpcm3.decode_data_16
#print axioms Sf.AbsWriteBridge.Dpcm3.decode_data_8
#print axioms Sf.AbsWriteBridge.Dpcm3.cur16_range
#print axioms Sf.AbsWriteBridge.Dpcm3.out16_cur16
#print axioms Sf.AbsWriteBridge.Dpcm3.top8_exact
#print axioms Sf.AbsWriteBridge.Dpcm3.out8_cur8
#print axioms Sf.AbsWriteBridge.Dpcm3.decode_data
#print axioms Sf.AbsWriteBridge.Dpcm3.back_length
#print axioms Sf.AbsWriteBridge.Dpcm3.back_data
#print axioms Sf.AbsWriteBridge.Dpcm3.back_data_take
#print axioms Sf.C20Ieee.spec_isNormal_iff
#print axioms Sf.C20Ieee.spec_value_finite
#print axioms Sf.C20Ieee.spec_encode_fields
#print axioms Sf.C20Ieee.ieee_read_finite_f32
#print axioms Sf.C20Ieee.ieee_read_finite_f64
#print axioms Sf.C20Ieee.finite_of_spec_normal
#print axioms Sf.C20Ieee.ieee_read_native_f32
#print axioms Sf.C20Ieee.ieee_read_native_f64
#print axioms Sf.C20Ieee.ofDy_toDy_emax
#print axioms Sf.C20Ieee.f32_read_inf_nan
#print axioms Sf.C20Ieee.f64_read_inf_nan
#print axioms Sf.C20Ieee.read_zero_old_rule
#print axioms Sf.C20Ieee.f32_read_subnormal_old_rule
#print axioms Sf.C20Ieee.f64_read_subnormal_old_rule
#print axioms Sf.C20Ieee.flushes_iff_not_normal
#print axioms Sf.C20Ieee.f32WriteBytesWith_normal
#print axioms Sf.C20Ieee.f64WriteBytesWith_normal
#print axioms Sf.C20Ieee.ieee_write_finite_f32
#print axioms Sf.C20Ieee.ieee_write_finite_f64
#print axioms Sf.C20Ieee.ieee_write_native_f32
#print axioms Sf.C20Ieee.ieee_write_native_f64
#print axioms Sf.C20Ieee.ieee_write_tiny_old_rule
#print axioms Sf.C20Ieee.ieee_write_native_tiny_old_rule
#print axioms Sf.C20Ieee.ieee_write_finite_tiny_old_rule_fails
#print axioms Sf.C20Ieee.ieee_write_f32_old_rule_fails
#print axioms Sf.C20Ieee.ieee_write_f64_old_rule_fails
#print axioms Sf.C20Ieee.flushes_old_rule_iff_f32
#print axioms Sf.C20Ieee.flushes_old_rule_iff_f64
#print axioms Sf.C20Ieee.ieee_flush_boundary_old_rule
#print axioms Sf.C20Ieee.ieee_write_old_rule_partial
#print axioms Sf.C20Ieee.write_read_finite_f32
#print axioms Sf.C20Ieee.write_read_finite_f64
#print axioms Sf.C20Ieee.write_read_roundtrip_f32
#print axioms Sf.C20Ieee.write_read_roundtrip_f64
#print axioms Sf.C20Ieee.replace_roundtrip
#print axioms Sf.C20Ieee.replace_roundtrip_old_rule_fails
#print axioms Sf.C20Ieee.replace_roundtrip_old_rule_partial
#print axioms Sf.C20Ieee.endswap_reverses_bytes
#print axioms Sf.C20Ieee.endswap32_mod
#print axioms Sf.C20Ieee.endswap64_reverses_bytes
#print axioms Sf.C20Ieee.endswap16_lt
#print axioms Sf.C20Ieee.endswap32_lt
#print axioms Sf.C20Ieee.endswap64_lt
#print axioms Sf.C20Ieee.endswap16_involutive
#print axioms Sf.C20Ieee.endswap32_involutive
#print axioms Sf.C20Ieee.endswap64_involutive
#print axioms Sf.C20Ieee.endswap_involutive
#print axioms Sf.C20Ieee.byteAt_eq_wrapU
#print axioms Sf.C20Ieee.putBe_eq
#print axioms Sf.C20Ieee.byteAt_lt
#print axioms Sf.C20Ieee.getBe_eq
#print axioms Sf.C20Ieee.getBe_putBe
#print axioms Sf.C20Ieee.get_put_roundtrip
#print axioms Sf.C20Ieee.get_put_be64
#print axioms Sf.C20Ieee.beBytes_wrapU_wrapS_ofBE
#print axioms Sf.C20Ieee.put_get_be64
#print axioms Sf.C20Ieee.put_get_be16
#print axioms Sf.C20Ieee.put_get_be32
#print axioms Sf.C20Ieee.get_le_is_get_be_reversed
#print axioms Sf.C20Ieee.or_shift_add
#print axioms Sf.C20Ieee.bvswap16_eq
#print axioms Sf.C20Ieee.bvswap32_eq
#print axioms Sf.C20Ieee.bvswap64_eq
#print axioms Sf.C20Ieee.bvswap_involutive
#print axioms Sf.C20Ieee.staged_write
#print axioms Sf.C20Ieee.staged_read
#print axioms Sf.C20Ieee.replace_write_finite_f32
#print axioms Sf.C20Ieee.replace_read_finite_f32
#print axioms Sf.C20Ieee.replace_write_finite_f64
#print axioms Sf.C20Ieee.replace_read_finite_f64
#print axioms Sf.C20Ieee.replace_write_native_f32
#print axioms Sf.C20Ieee.replace_read_native_f32
#print axioms Sf.C20Ieee.replace_write_native_f64
#print axioms Sf.C20Ieee.replace_read_native_f64
#print axioms Sf.C20Ieee.replace_buffer_roundtrip
