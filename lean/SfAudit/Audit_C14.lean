import SfProps.C14
import SfProps.C07ShortIo
import SfProps.C14Api
import SfProps.C14BigSkip
import SfProps.C14CloseOwn
import SfProps.C14Id3
import SfProps.C14Latch
import SfProps.C14LowFd
import SfProps.C14Skip
import SfProps.C14Stdio
#print axioms Sf.C14.OpsOk_frame
#print axioms Sf.C14.step_lead
#print axioms Sf.C14.routes_equivalent_partial
#print axioms Sf.C14.routes_equivalent
#print axioms Sf.C14.logical_of_rel
#print axioms Sf.C14.written_bytes_route_independent
#print axioms Sf.C14.rel_vio
#print axioms Sf.C14.rel_path
#print axioms Sf.C14.truncate_vio_refused_cleanly
#print axioms Sf.C14.truncate_vio_old_rule
#print axioms Sf.C14.truncate_embedded_respects_offset
#print axioms Sf.C14.truncate_embedded_old_rule
#print axioms Sf.C14.routes_equivalent_full_fails
#print axioms Sf.C14.filelen_fresh_embedded
#print axioms Sf.C14.filelen_first_call_old_rule
#print axioms Sf.C14.filelen_read
#print axioms Sf.C14.seek_before_window_diverges
#print axioms Sf.C14.bad_whence_diverges
#print axioms Sf.C14.embedded_window_lead
#print axioms Sf.C14.absStep_trailing
#print axioms Sf.C14.trailing_bytes_invisible
#print axioms Sf.C14.seek_end_sees_trailing_bytes
#print axioms Sf.C14.close_desc_iff
#print axioms Sf.C14.fclose_world
#print axioms Sf.C14.openFileEmbed_dnc
#print axioms Sf.C14.open_fd_ownership
#print axioms Sf.C14.sd2_fd_refused
#print axioms Sf.C14.embedded_rdwr_refused
#print axioms Sf.C14.embedded_short_descriptor_refused
#print axioms Sf.C14.embedded_min_header_passes
#print axioms Sf.C14.min_embedded_old_rule
#print axioms Sf.C14.embedded_whitelist
#print axioms Sf.C14.plain_not_gated
#print axioms Sf.C14.failed_open_closes_iff
#print axioms Sf.C14.pipe_step
#print axioms Sf.C14.pipe_equivalent
#print axioms Sf.C14.pipe_seek_is_noop
#print axioms Sf.C07ShortIo.fread_prefix
#print axioms Sf.C07ShortIo.fread_complete
#print axioms Sf.C07ShortIo.fwriteLoop_eq_fread
#print axioms Sf.C07ShortIo.fwrite_prefix
#print axioms Sf.C07ShortIo.fwrite_complete
#print axioms Sf.C07ShortIo.fwrite_split_independent
#print axioms Sf.C07ShortIo.good_replicate_took
#print axioms Sf.C07ShortIo.tooks_append
#print axioms Sf.C07ShortIo.schedule_good
#print axioms Sf.C07ShortIo.fwrite_schedule_complete
#print axioms Sf.C07ShortIo.fwrite_scheduleAfter_complete
#print axioms Sf.C07ShortIo.eintr_first_only_rule_differs
#print axioms Sf.C07ShortIo.restart_rule_differs
#print axioms Sf.C14.psfIsPipe_valid
#print axioms Sf.C14.openFd_read_rel
#print axioms Sf.C14.defaultSeek_sim
#print axioms Sf.C14.absRead_nonneg
#print axioms Sf.C14.GSim.early
#print axioms Sf.C14.readTail_sim
#print axioms Sf.C14.GSim.ite
#print axioms Sf.C14.api_step_sim
#print axioms Sf.C14.api_routes_equivalent
#print axioms Sf.C14.step_openFds
#print axioms Sf.C14.defaultSeek_openFds
#print axioms Sf.C14.readTail_openFds
#print axioms Sf.C14.api_openFds
#print axioms Sf.C14.run_openFds
#print axioms Sf.C14.session_end_to_end
#print axioms Sf.C14.read_raw_clamp_old_rule
#print axioms Sf.C14.read_raw_within_audio
#print axioms Sf.C14BigSkip.junkReadsP_pieces
#print axioms Sf.C14BigSkip.asked_reads
#print axioms Sf.C14BigSkip.junk_loop_lands
#print axioms Sf.C14BigSkip.junk_loop_asks_gap
#print axioms Sf.C14BigSkip.junkReads_lands
#print axioms Sf.C14BigSkip.seekCur_lands
#print axioms Sf.C14BigSkip.big_skip_branches_agree
#print axioms Sf.C14BigSkip.opsPipe_reads
#print axioms Sf.C14BigSkip.pipe_big_skip_first_audio
#print axioms Sf.C14BigSkip.items_not_bytes_swallows_the_audio
#print axioms Sf.C14CloseOwn.close_releases_iff_owned
#print axioms Sf.C14CloseOwn.close_blind_to_handlers
#print axioms Sf.C14CloseOwn.close_result_is_fclose
#print axioms Sf.C14CloseOwn.close_routes_agree
#print axioms Sf.C14CloseOwn.first_error_rule_leaks
#print axioms Sf.C14Id3.fseekT_no_tag
#print axioms Sf.C14Id3.ftellT_no_tag
#print axioms Sf.C14Id3.vioSeek_set
#print axioms Sf.C14Id3.vio_behind_tag
#print axioms Sf.C14Id3.vio_behind_tag_old_rule
#print axioms Sf.C14Id3.pipe_tell_behind_tag
#print axioms Sf.C14Id3.tag_test_ignores_offset
#print axioms Sf.C14Id3.tag_test_old_rule
#print axioms Sf.C14Latch.fseekL_obs
#print axioms Sf.C14Latch.fseekL_vio_latch
#print axioms Sf.C14Latch.fseekL_pipe_keeps
#print axioms Sf.C14Latch.fseekL_bad_whence_keeps
#print axioms Sf.C14Latch.fseekL_fd_latch
#print axioms Sf.C14Latch.fwriteL_latched
#print axioms Sf.C14Latch.fwriteL_clear
#print axioms Sf.C14Latch.stepL_clear
#print axioms Sf.C14Latch.runL_eq_run_of_clear
#print axioms Sf.C14LowFd.releaseBy_is_release
#print axioms Sf.C14LowFd.release_closes_owned
#print axioms Sf.C14LowFd.release_keeps_lent
#print axioms Sf.C14LowFd.open_close_restores
#print axioms Sf.C14LowFd.stdio_number_rule_leaks
#print axioms Sf.C14LowFd.low_numbers_open_close_restores
#print axioms Sf.C14Skip.pipe_first_audio_read_forward
#print axioms Sf.C14Skip.seekable_first_audio
#print axioms Sf.C14Skip.abs_after_read_forward
#print axioms Sf.C14Skip.abs_after_seek_set
#print axioms Sf.C14Skip.rules_agree_on_the_logical_file
#print axioms Sf.C14Skip.au_pipe_first_audio
#print axioms Sf.C14Skip.aiff_pipe_first_audio
#print axioms Sf.C14Skip.aiff_pipe_old_rule
#print axioms Sf.C14Stdio.setStdio_is_openPath
#print axioms Sf.C14Stdio.setStdio_rdwr_refused
#print axioms Sf.C14Stdio.setStdio_shim
#print axioms Sf.C14Stdio.stdio_close_leaves_descriptor
#print axioms Sf.C14Stdio.stdio_close_old_rule
