import SfProps.C16
import SfProps.C09FailedOpen
import SfProps.C16CloseRet
import SfProps.C16Sites
import SfProps.C16Tmp
#print axioms Sf.C16.held_closed
#print axioms Sf.C16.close_releases_all
#print axioms Sf.C16.close_ends_handle
#print axioms Sf.C16.failed_open_leaves_no_handle
#print axioms Sf.C16.close_releases_all_after_close
#print axioms Sf.C16.close_releases_all_after_failed_open
#print axioms Sf.C16.no_double_free
#print axioms Sf.C16.replace_frees_old
#print axioms Sf.C16.replace_frees_old_channel_map
#print axioms Sf.C16.close_returns_zero_when_io_ok
#print axioms Sf.C16.multi_close_releases_all
#print axioms Sf.C16.handles_isolated
#print axioms Sf.C16.dither_good_step
#print axioms Sf.C16.dither_write_terminates
#print axioms Sf.C16.dither_write_old_rule
#print axioms Sf.C16.aiff_ima_seek_never_calls_null
#print axioms Sf.C16.aiff_ima_seek_old_rule
#print axioms Sf.C09FailedOpen.divisor_ne_zero
#print axioms Sf.C09FailedOpen.mem_events
#print axioms Sf.C09FailedOpen.closes_writing_valid
#print axioms Sf.C09FailedOpen.failed_open_never_divides_by_zero
#print axioms Sf.C09FailedOpen.failed_open_rewrites_only_from_valid_info
#print axioms Sf.C09FailedOpen.failed_open_old_rule_traps
#print axioms Sf.C09FailedOpen.failed_open_old_rule_traps_by_wraparound
#print axioms Sf.C09FailedOpen.failed_open_writes_nothing_refuted
#print axioms Sf.C09FailedOpen.failed_open_writes_iff_class
#print axioms Sf.C09FailedOpen.failed_open_writes_nothing_partial
#print axioms Sf.C09FailedOpen.read_mode_failed_open_writes_nothing
#print axioms Sf.C09FailedOpen.reader_refusal_writes_nothing
#print axioms Sf.C09FailedOpen.error_exit_mode_releases_the_same
#print axioms Sf.C16CloseRet.close_returns_fclose_status
#print axioms Sf.C16CloseRet.close_zero_when_descriptor_closes
#print axioms Sf.C16CloseRet.site_a_alone_harmless
#print axioms Sf.C16CloseRet.site_b_alone_harmless
#print axioms Sf.C16CloseRet.seeded_rule_returns_header_status
#print axioms Sf.C16Sites.site_released
#print axioms Sf.C16Sites.hook_cells
#print axioms Sf.C16Sites.nested_all_listed
#print axioms Sf.C16Sites.failed_open_clean_at_every_point
#print axioms Sf.C16Sites.close_on_failing_io_releases_all
#print axioms Sf.C16Sites.close_io_independent
#print axioms Sf.C16Sites.late_hook_rule_leaks
#print axioms Sf.C16Tmp.name_is_file
#print axioms Sf.C16Tmp.tmpfile_removed
#print axioms Sf.C16Tmp.openTmpSeeded_old_rule
#print axioms Sf.C16Tmp.openTmpSeeded_blocked_dir
#print axioms Sf.C16Tmp.openTmpSeeded_usable_dir_fine
