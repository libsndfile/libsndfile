-- properties: C01 C04 C07 C11
/-
  SfProps.C01BridgeRun — the prediction of the concrete handle model for ANY valid session is `Good`
  (AbsWriteBridge.lean): `handle_pred_good`.  Crash points: `crashPoints_spec` (every recorded image is the snapshot image of
  a prefix of the session: C11 `stepUpdate_inv` / `stepWrite_inv`).
-/
import SfProps.C01BridgeReopen
import SfProps.C01BridgeFacts
namespace Sf.AbsWriteBridge
open Sf Sf.AbsWrite Sf.Geometry

theorem sessFrames_append (ch : Nat) (xs ys : List SOp) : sessFrames ch (xs ++ ys) = sessFrames ch xs + sessFrames ch ys := by
  simp [sessFrames]

/-- every crash point is the snapshot image of a prefix of the run -/
theorem crashPoints_spec {c : Cfg} : ∀ (ops : List SOp) {a : Sf.Abs} {h : H} {s : Store}, Inv c a h s →
    (∀ op ∈ ops, op.valid c.ch) → ∀ (k nf : Nat) (x : Nat × Nat × List Byte), x ∈ crashPoints c.ch (h, s) k nf ops →
    ∃ pre post, ops = pre ++ post ∧ x.1 = k + (callsOf c.ch (h, s) pre).length ∧ x.2.1 = nf + sessFrames c.ch pre ∧
      x.2.2 = snapImage c (a.run c pre)
  | [], _, _, _, _, _, _, _, x, hx => by simp [crashPoints] at hx
  | op :: ops, a, h, s, i, hv, k, nf, x, hx => by
    have hop := hv op (by simp)
    -- the point is taken right after `op` (a header update, or a write in auto mode: the store is the snapshot image), or later
    have hx : x = (k + (callsOf c.ch (h, s) [op]).length, nf + sessFrames c.ch [op], snapImage c (a.step c op)) ∨
        x ∈ crashPoints c.ch (stepS (h, s) op) (k + (callsOf c.ch (h, s) [op]).length) (nf + sessFrames c.ch [op]) ops := by
      cases op with
      | write w =>
        simp only [crashPoints, List.mem_append] at hx
        refine hx.imp (fun hx => ?_) (by simp [callsOf, sessFrames, SOp.frames])
        split at hx
        · rename_i hc
          rw [List.mem_singleton.1 hx, (stepWrite_inv i w hop).2 (by rw [← i.auto]; exact hc.1) hc.2]
          simp [callsOf, sessFrames, SOp.frames, Sf.Abs.step]
        · cases hx
      | update =>
        simp only [crashPoints, List.mem_cons] at hx
        exact hx.imp (fun hx => by rw [hx, (stepUpdate_inv i).2]; simp [callsOf, sessFrames, SOp.frames, Sf.Abs.step])
          (by simp [callsOf, sessFrames, SOp.frames])
      | auto b => exact Or.inr (by simpa [crashPoints, callsOf, sessFrames, SOp.frames] using hx)
    rcases hx with rfl | hx
    · exact ⟨[op], ops, rfl, rfl, rfl, rfl⟩
    · obtain ⟨pre, post, e, e1, e2, e3⟩ := crashPoints_spec ops (stepS_inv i op hop) (fun o ho => hv o (by simp [ho])) _ _ x hx
      refine ⟨op :: pre, post, by rw [e]; rfl, ?_, ?_, e3⟩
      · rw [e1, Nat.add_assoc, ← List.length_append]
        exact congrArg (k + List.length ·) (callsOf_append c.ch [op] pre (h, s)).symm
      · rw [e2, Nat.add_assoc]; exact congrArg (nf + ·) (sessFrames_append c.ch [op] pre).symm

theorem predOf_g (S : Sess) (hs : H × Store) : (predOf S hs).g = S.geom := rfl
theorem predOf_ty (S : Sess) (hs : H × Store) : (predOf S hs).ty = S.ty := rfl
theorem predOf_split_calls (S : Sess) (hs : H × Store) : (predOf S hs).split.calls = callsOf S.ch.toNat hs S.ops := rfl
theorem predOf_one_calls (S : Sess) (hs : H × Store) : (predOf S hs).one.calls = callsOf S.ch.toNat hs (refOps S) := rfl
theorem snapOf_k (S : Sess) (y : Nat × Nat × List Byte) : (snapOf S y).k = y.1 := rfl
theorem geom_ch (S : Sess) : S.geom.ch = S.ch.toNat := rfl

/-- the hypotheses on a session under which the model's prediction is judged: the open succeeded, the calls are what the
    API accepts (`SOp.valid`), one caller type, values of that C type, a rate the 32-bit fields hold, the RIFF guard, and — on
    PEAK-carrying files — finite samples (the quantifier of C07) -/
structure Sess.Ok (S : Sess) (h : H) (s : Store) : Prop where
  opened : openHandle 0 {} .w S.fmt S.ch S.sr = .ok h s
  valid : ∀ op ∈ S.ops, op.valid S.ch.toNat
  oneTy : ∀ op ∈ S.ops, SOp.hasTy S.ty op
  range : ∀ v ∈ sampleList S.ch.toNat S.ops, S.ty.inRange v
  rate : S.sr ≤ 0x7FFFFFFF
  guard : containerOf S.fmt = some .wav → (closedOf (h, s) S.ops).length < 2 ^ 32
  finite : carriesPeak S.fmt = true → FiniteSamples h S.ty (sampleList S.ch.toNat S.ops)

/-- LEVEL B FOR Sf.Handle: the prediction of the concrete model for any such session has the list-level properties -/
theorem handle_pred_good (S : Sess) (h : H) (s : Store) (ok : S.Ok h s) : Good (predOf S (h, s)) := by
  obtain ⟨c, hcfg, h1, h2, h3, i0⟩ := open_ok ok.opened
  obtain ⟨f1, f2, f3, f4, f5, f6⟩ := openCfg_facts hcfg
  have hpos : 0 < S.ch.toNat := by omega
  have hnb : 0 < c.enc.nbytes := encOf_nbytes_pos f6
  have hvR := refOps_valid S hpos ok.valid
  have hsR := refOps_samples S hpos ok.valid
  have iR := runS_inv (refOps S) i0 (by rw [f4]; exact hvR)
  have iS := runS_inv S.ops i0 (by rw [f4]; exact ok.valid)
  obtain ⟨gR1, gR2, gR3⟩ := callsOf_good (refOps S) i0 (by rw [f4]; exact hvR)
  obtain ⟨gS1, gS2, gS3⟩ := callsOf_good S.ops i0 (by rw [f4]; exact ok.valid)
  rw [f4] at gR1 gR2 gR3 gS1 gS2 gS3
  have hNR : sessFrames S.ch.toNat (refOps S) = sessFrames S.ch.toNat S.ops := by
    have hlenR := sampleList_length S.ch.toNat hpos (refOps S) hvR
    rw [hsR, sampleList_length S.ch.toNat hpos S.ops ok.valid] at hlenR
    exact (Nat.eq_of_mul_eq_mul_right hpos hlenR).symm
  have hpart := closed_partition S h s ok.opened ok.valid ok.oneTy ok.finite
  -- the RIFF guard, on the data: what the reader needs of the closed file and of every image before it
  have hg : c.container = .wav → (c.init.run c S.ops).data.length < 0xFFFFFFFF := fun hc => by
    have hl := ok.guard (by rw [f1, hc])
    obtain ⟨fl, t, e, _⟩ := closedImage_eq c (c.init.run c S.ops)
    rw [show closedOf (h, s) S.ops = _ from close_bytes iS, e, image_length c _ iS.absOk, Abs.off_eq iS.pkSome] at hl
    have := (Cfg.hdrLen_wav hc).2
    omega
  obtain ⟨r1, r2, r3⟩ :=
    reopen_read S c hcfg h1 h2 h3 ok.rate (refOps S) iR (refOps_hasTy S) hvR _ (Or.inl (close_bytes iR))
      (by rw [run_data_ty S c hcfg _ (refOps_hasTy S), hsR, ← run_data_ty S c hcfg _ ok.oneTy]; exact hg)
      (sessFrames S.ch.toNat S.ops + S.geom.block + S.geom.pad + 8) (by rw [hNR]; omega)
  rw [← gR2, ← gR3] at r1
  -- `good_of_decoded` at rt = decode ∘ encode, fed with the re-open and read-back of the reference run (`r1`–`r3`); left
  -- are the C01 clause (`roundtrip_exact`), equal samples of the two runs, and for every crash point `reopen_read` again,
  -- on the prefix of the session that `crashPoints_spec` names
  refine good_of_decoded (predOf S (h, s)) (fun xs => c.enc.decodeAll {} S.ty (c.enc.encodeAll {} S.ty xs))
    (decode_prefix c.enc hnb {} S.ty) ?_ hpos (geom_block S c hcfg) gR1 gS1 ?_ r1 r2 r3 hpart rfl ?_
  · intro xs ys hxy hok
    change samples (callsOf _ _ (refOps S)) = _ at hxy
    rw [gR2, hsR] at hxy
    exact roundtrip_exact f6 S.ty xs
      (fun v hv => ok.range v (by rw [hxy]; exact List.mem_append_left _ hv)) hok
  · show samples (callsOf _ _ S.ops) = samples (callsOf _ _ (refOps S))
    rw [gS2, gR2, hsR]
  · intro _ x hx
    obtain ⟨y, hy, rfl⟩ := List.mem_map.1 hx
    obtain ⟨pre, post, e, e1, e2, e3⟩ := crashPoints_spec S.ops i0 (by rw [f4]; exact ok.valid) 0 0 y (by rw [f4]; exact hy)
    rw [f4] at e1 e2
    simp only [Nat.zero_add] at e1 e2
    have hvP : ∀ op ∈ pre, op.valid S.ch.toNat := fun o ho => ok.valid o (by rw [e]; simp [ho])
    have iP := runS_inv pre i0 (by rw [f4]; exact hvP)
    obtain ⟨_, gP2, gP3⟩ := callsOf_good pre i0 (by rw [f4]; exact hvP)
    rw [f4] at gP2 gP3
    have hbefore : (predOf S (h, s)).split.calls.take (snapOf S y).k = callsOf S.ch.toNat (h, s) pre := by
      show (callsOf S.ch.toNat (h, s) S.ops).take y.1 = _
      rw [e1]; conv => lhs; rw [e]
      rw [callsOf_append]; exact List.take_left' rfl
    have hd : (c.init.run c pre).data.length ≤ (c.init.run c S.ops).data.length := by
      rw [run_data, run_data]; conv => rhs; rw [e]
      simp [sessData]
    rw [hbefore]
    show Decoded S.geom _ _ (framesOf S.ch.toNat _) _ _ _
    rw [gP2, gP3]
    exact (reopen_read S c hcfg h1 h2 h3 ok.rate pre iP (fun o ho => ok.oneTy o (by rw [e]; simp [ho])) hvP y.2.2 (Or.inr e3)
      (fun hc => Nat.lt_of_le_of_lt hd (hg hc)) (y.2.1 + 8) (by rw [e2]; omega)).1

end Sf.AbsWriteBridge
