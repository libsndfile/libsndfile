/-
  C07 (NMS ADPCM) — whole-list `unpack24 ∘ pack24` (any number of groups of sixteen 3-bit codewords; the per-group fact
  is `group24_unpack`, SfProps/C07NmsPack.lean), and the block round trip for all three rates: the words
  `nms_adpcm_encode_block` stores are unpacked by `nms_adpcm_decode_block` into exactly the encoder's 160 codewords, so
  decoding a written block runs the per-sample decoder over the encoder's codes (the twin of `g72x_block_roundtrip`).
-/
import SfProps.C07Nms
import SfProofs.NmsBlocks
namespace Sf.C07NmsBlock
open Sf Sf.Nms Sf.C07Nms Sf.C07NmsPack Sf.Nms.Proofs

theorem unpack24_pack24 : ∀ (n fuel : Nat) (cs : List Nat), cs.length = 16 * n → n < fuel →
    (∀ c ∈ cs, c < 16 ∧ c % 2 = 0) → unpack24 (pack24 fuel cs) = cs := by
  intro n
  induction n with
  | zero =>
    intro fuel cs h _ _
    have : cs = [] := List.eq_nil_of_length_eq_zero (by omega)
    subst this
    cases fuel <;> simp [pack24, unpack24]
  | succ n ih =>
    intro fuel cs h hf hc
    obtain ⟨fuel, rfl⟩ : ∃ k, fuel = k + 1 := ⟨fuel - 1, by omega⟩
    rw [pack24, if_neg (by omega),
      group24_unpack _ (by rw [List.length_take]; omega) (fun c hm => hc c (List.mem_of_mem_take hm)),
      ih fuel _ (by rw [List.length_drop]; omega) (by omega) (fun c hm => hc c (List.mem_of_mem_drop hm)),
      List.take_append_drop]

example : unpack24 (pack24 3 ([2, 14, 0, 8, 6, 6, 0, 12, 10, 4, 2, 0, 14, 14, 2, 8] ++ [0, 2, 4, 6, 8, 10, 12, 14, 14, 12, 10, 8, 6, 4, 2, 0])) =
    [2, 14, 0, 8, 6, 6, 0, 12, 10, 4, 2, 0, 14, 14, 2, 8] ++ [0, 2, 4, 6, 8, 10, 12, 14, 14, 12, 10, 8, 6, 4, 2, 0] := by decide +kernel

theorem encodeSamples_codes : ∀ (xs : List Int) (s : St) (rms : Nat),
    ∀ c ∈ (encodeSamples s xs rms).2.1, c < 16 ∧ c &&& maskOf s.tOff = c := by
  intro xs
  induction xs with
  | nil => intro s rms c hc; simp [encodeSamples] at hc
  | cons x xs ih =>
    intro s rms c hc
    simp only [encodeSamples, List.mem_cons] at hc
    rcases hc with rfl | hc
    · exact encode_sample_code s x
    · have h := ih (encodeSample s x).1 _ c hc
      have ht : (encodeSample s x).1.tOff = s.tOff := by
        obtain ⟨i, hi⟩ := encodeSample_state s x
        rw [hi]; rfl
      rw [ht] at h
      exact h

theorem mask_r16 : maskOf (Rate.tOff .r16) = 0xc := rfl
theorem mask_r24 : maskOf (Rate.tOff .r24) = 0xe := rfl

/-- **the packers are inverted by the unpackers on the encoder's codewords, whole blocks, all three rates** -/
theorem nms_pack_unpack (r : Rate) (s : St) (hs : s.tOff = r.tOff) (samples : List Int) (h : samples.length = spb) :
    unpack r (pack r (encodeSamples s samples 0).2.1) = (encodeSamples s samples 0).2.1 := by
  have hlen : (encodeSamples s samples 0).2.1.length = 160 := by rw [encodeSamples_length]; exact h
  have hc := encodeSamples_codes samples s 0
  rw [hs] at hc
  cases r
  · exact unpack16_pack16 20 _ (by omega) (fun c hcm => by
      obtain ⟨h1, h2⟩ := hc c hcm
      exact ⟨h1, (masked_code_shape c h1).1 h2⟩)
  · show unpack24 (pack24 ((encodeSamples s samples 0).2.1.length / 16 + 1) _) = _
    rw [hlen]
    exact unpack24_pack24 10 11 _ (by omega) (by omega) (fun c hcm => by
      obtain ⟨h1, h2⟩ := hc c hcm
      exact ⟨h1, (masked_code_shape c h1).2 h2⟩)
  · exact unpack32_pack32 40 _ (by omega) (fun c hcm => (hc c hcm).1)

theorem wordsOfLE_wordsLE : ∀ (ws : List Nat), (∀ w ∈ ws, w < 65536) → wordsOfLE (wordsLE ws) = ws := by
  intro ws
  induction ws with
  | nil => intro _; rfl
  | cons w ws ih =>
    intro h
    have hw := h w (by simp)
    simp only [wordsLE, List.flatMap_cons, List.cons_append, List.nil_append, wordsOfLE]
    have := ih (fun x hx => h x (by simp [hx]))
    unfold wordsLE at this
    rw [this]
    congr 1
    omega

theorem u16_lt (x : Nat) : u16 x < 65536 := Nat.mod_lt _ (by decide)

theorem pack32_lt (cs : List Nat) : ∀ w ∈ pack32 cs, w < 65536 := by
  fun_induction pack32 cs with
  | case1 c0 c1 c2 c3 rest ih =>
    intro w hw
    rcases List.mem_cons.mp hw with rfl | hw
    · exact u16_lt _
    · exact ih w hw
  | case2 => intro w hw; cases hw

theorem pack16_lt (cs : List Nat) : ∀ w ∈ pack16 cs, w < 65536 := by
  fun_induction pack16 cs with
  | case1 c0 c1 c2 c3 c4 c5 c6 c7 rest ih =>
    intro w hw
    rcases List.mem_cons.mp hw with rfl | hw
    · exact u16_lt _
    · exact ih w hw
  | case2 => intro w hw; cases hw

theorem group24_lt (c : List Nat) : ∀ w ∈ group24 c, w < 65536 := by
  intro w hw
  unfold group24 at hw
  simp only [List.mem_cons, List.not_mem_nil, or_false] at hw
  rcases hw with rfl | rfl | rfl <;> exact u16_lt _

theorem pack24_lt : ∀ (fuel : Nat) (cs : List Nat), ∀ w ∈ pack24 fuel cs, w < 65536 := by
  intro fuel
  induction fuel with
  | zero => intro cs w hw; simp [pack24] at hw
  | succ fuel ih =>
    intro cs w hw
    unfold pack24 at hw
    split at hw
    · simp at hw
    · rcases List.mem_append.mp hw with hw | hw
      · exact group24_lt _ w hw
      · exact ih _ w hw

theorem pack_lt (r : Rate) (codes : List Nat) : ∀ w ∈ pack r codes, w < 65536 := by
  cases r
  · exact pack16_lt codes
  · exact pack24_lt _ codes
  · exact pack32_lt codes

/-- **block round trip, all three rates**: the `shortsperblock` words read back from the bytes of an encoded block are
    unpacked into exactly the encoder's 160 codewords — decoding a written block is the per-sample decoder run over
    the encoder's codes (from whatever decoder state) -/
theorem nms_block_roundtrip (r : Rate) (s : St) (hs : s.tOff = r.tOff) (samples : List Int) (h : samples.length = spb)
    (sd : St) (prev : List Nat) :
    decodeBlock r sd (blockWords r prev (encodeBlock r s samples).2) = decodeCodes sd (encodeSamples s samples 0).2.1 := by
  have hlen : (encodeSamples s samples 0).2.1.length = 160 := by rw [encodeSamples_length]; exact h
  have hpl := pack_length r _ hlen
  unfold encodeBlock
  simp only
  generalize hrms : (wrapU 16 (wrapU 32 (((encodeSamples s samples 0).2.2 : Int) * 4096)) : Nat) = rmsw
  have hrl : rmsw < 65536 := by
    rw [← hrms]; unfold wrapU; exact Int.toNat_lt (Int.emod_nonneg _ (by decide)) |>.mpr (Int.emod_lt_of_pos _ (by decide))
  have hw : wordsOfLE (wordsLE (pack r (encodeSamples s samples 0).2.1 ++ [rmsw])) = pack r (encodeSamples s samples 0).2.1 ++ [rmsw] :=
    wordsOfLE_wordsLE _ (by
      intro w hw
      rcases List.mem_append.mp hw with hw | hw
      · exact pack_lt r _ w hw
      · simp only [List.mem_singleton] at hw; rw [hw]; exact hrl)
  have hsh : (pack r (encodeSamples s samples 0).2.1 ++ [rmsw]).length = r.shorts := by
    rw [List.length_append, hpl]; cases r <;> rfl
  unfold blockWords decodeBlock
  simp only [hw, hsh, Nat.sub_self, List.replicate_zero, List.append_nil]
  rw [List.take_of_length_le (Nat.le_of_eq hsh), List.take_left' hpl, nms_pack_unpack r s hs samples h]

/-- non-vacuity: one block of a ramp at 24 kbit/s through encoder, packer, byte store, word load, unpacker, decoder -/
example : (decodeBlock .r24 (St.init .r24) (blockWords .r24 [] (encodeBlock .r24 (St.init .r24) ((List.range 160).map fun (i : Nat) => (i : Int) * 100 - 8000)).2)).2.length = 160 := by
  decide +kernel

end Sf.C07NmsBlock
