-- properties: C05 C06
/-
  C05 / C06 for G.721 / G.723 read handles (src/g72x.c) on the bit-exact model of SfModel/G72x.lean, G72xFile.lean: the
  reader is an instance of the generic block reader whose block source is the REAL decoder run over the data region
  (decoder state carried from block to block, the stale tail of the block buffer after a short last read included).
  Helpers in SfProofs/G72x.lean, G72xRead.lean, BlockReader.lean.

  * `g72x_reader_wf`, `g72x_open_inv`       the reader over ANY data bytes is well formed; the handle invariant holds after open
  * `g72x_read_contract`  (C05)              ∀ request size, ∀ position, ∀ staging piece (the caller type `ty` selects the piece
                                             length only; the cells are the decoded shorts, before `G72x.toCaller`): returns
                                             c = min (n, F − pos), delivers stream [pos, pos + c), zero-fills the rest of the
                                             requested region, advances by c
  * `g72x_read_eof`       (C05)              at the end of the data: 0, the region zero-filled
  * `g72x_read_partition` (C06)              ∀ sequences of requests of any sizes and types from any reachable handle: the
                                             concatenated deliveries are one slice of the stream — a function of the data
                                             bytes and of the frame position only
  * `g72x_two_handles`    (C06)              two handles on the same bytes deliver the same items at the same positions
  * `g72x_seek_refused`   (C06)              the handle is not seekable: every sf_seek fails and moves nothing, so
                                             "seek succeeded ⇒ the following reads start at the target" holds vacuously
  * `g72x_samples_are_shorts`                every delivered cell is a C `short` (the decoder never leaves the 16-bit range)
-/
import SfProofs.G72xRead
import SfProofs.G72x
namespace Sf.C06G72x
open Sf Sf.G72x Sf.G72x.Proofs Sf.Block Sf.Block.Proofs

theorem g72x_reader_wf (r : Rate) (data : List Byte) : WF (reader r data) :=
  ⟨by show 0 < 120; omega, by show 0 < 1; omega, reader_src_length r data⟩

/-- the frame count at open is computed from the data length alone -/
theorem g72x_reader_frames (r : Rate) (data : List Byte) :
    (G72x.RHandle.open r data).frames = framesAtOpen r data.length ∧ (G72x.RHandle.open r data).pos = 0 := ⟨rfl, rfl⟩

/-- the handle `g72x_init` leaves after an open for reading -/
theorem g72x_open_inv (r : Rate) (data : List Byte) : HInv (G72x.RHandle.open r data) :=
  ⟨g72x_reader_wf r data, rfl, rfl, Nat.zero_le _, Or.inr (init_inv _)⟩

/-- read contract (C05), any request at any position; the invariant is returned, so the statement applies again -/
theorem g72x_read_contract (h : G72x.RHandle) (hi : HInv h) (ty : Ty) (n : Nat) :
    (h.read ty n).2.2 = min n (h.frames - h.pos) ∧
    (h.read ty n).2.1 = h.r.slice h.pos (h.read ty n).2.2 ++ zeros (n - (h.read ty n).2.2) ∧
    (h.read ty n).2.1.length = n ∧
    (h.read ty n).1.pos = h.pos + (h.read ty n).2.2 ∧
    ((h.read ty n).2.2 < n → (h.read ty n).1.pos = h.frames) ∧
    HInv (h.read ty n).1 := by
  obtain ⟨h1, h2, h3, _, _, h6⟩ := read_spec h hi ty n
  rw [h2]
  refine ⟨rfl, h1, ?_, h3, ?_, h6⟩
  · rw [h1, List.length_append, slice_length, zeros, List.length_replicate]; omega
  · intro hlt
    rw [h3]
    have := hi.le
    omega

theorem g72x_read_eof (h : G72x.RHandle) (hi : HInv h) (ty : Ty) (n : Nat) (he : h.pos = h.frames) :
    (h.read ty n).2 = (zeros n, 0) := by
  obtain ⟨h1, h2, _⟩ := read_spec h hi ty n
  have hz : min n (h.frames - h.pos) = 0 := by omega
  rw [hz] at h1 h2
  rw [Prod.ext_iff]
  exact ⟨by rw [h1]; simp [slice_zero], h2⟩

/-- run a list of read requests; collect what each call delivered (its first `ret` cells) -/
def deliveries : G72x.RHandle → List (Ty × Nat) → G72x.RHandle × List Int
  | h, [] => (h, [])
  | h, (ty, n) :: rest =>
    let (h1, d, ret) := h.read ty n
    let (h2, ds) := deliveries h1 rest
    (h2, d.take ret ++ ds)

def total (reqs : List (Ty × Nat)) : Nat := (reqs.map (·.2)).sum

theorem min_add_min (n m F : Nat) : min n F + min m (F - min n F) = min (n + m) F := by
  rcases Nat.le_total n F with h | h
  · rw [Nat.min_eq_left h]; omega
  · rw [Nat.min_eq_right h, Nat.sub_self, Nat.min_zero, Nat.min_eq_right (by omega)]; rfl

theorem deliveries_spec : ∀ (reqs : List (Ty × Nat)) (h : G72x.RHandle), HInv h →
    (deliveries h reqs).2 = h.r.slice h.pos (min (total reqs) (h.frames - h.pos)) ∧
    (deliveries h reqs).1.pos = h.pos + min (total reqs) (h.frames - h.pos) ∧
    (deliveries h reqs).1.r = h.r ∧ (deliveries h reqs).1.frames = h.frames ∧ HInv (deliveries h reqs).1 := by
  intro reqs
  induction reqs with
  | nil => intro h hi; simpa [deliveries, total, slice_zero] using hi
  | cons q qs ih =>
    intro h hi
    obtain ⟨ty, n⟩ := q
    have hs := read_spec h hi ty n
    simp only [deliveries]
    generalize h.read ty n = res at hs ⊢
    obtain ⟨h', d, ret⟩ := res
    obtain ⟨rfl, rfl, h3, h4, h5, h6⟩ := hs
    obtain ⟨i1, i2, i3, i4, i5⟩ := ih h' h6
    simp only at h3 h4 h5 ⊢
    rw [i1, i2, i3, i4, h3, h4, h5]
    have htot : total ((ty, n) :: qs) = n + total qs := by simp [total]
    rw [htot]
    generalize total qs = m
    generalize hc : min n (h.frames - h.pos) = c
    have hsl : (h.r.slice h.pos c ++ zeros (n - c)).take c = h.r.slice h.pos c := by
      rw [List.take_left' (slice_length _ _ _)]
    have key : c + min m (h.frames - (h.pos + c)) = min (n + m) (h.frames - h.pos) := by
      rw [Nat.sub_add_eq, ← hc]
      exact min_add_min n m _
    rw [hsl, ← slice_append, Nat.add_assoc, key]
    exact ⟨rfl, rfl, rfl, rfl, i5⟩

/-- **partition invariance (C06), full strength**: any sequence of requests — any sizes, any caller types, running
    past the end or not — delivers, concatenated, exactly the stream items from the starting position on: what one
    request of the summed size delivers -/
theorem g72x_read_partition : ∀ (reqs : List (Ty × Nat)) (h : G72x.RHandle), HInv h →
    (deliveries h reqs).2 = h.r.slice h.pos (min (total reqs) (h.frames - h.pos)) ∧
    (deliveries h reqs).1.pos = h.pos + min (total reqs) (h.frames - h.pos) :=
  fun reqs h hi => ⟨(deliveries_spec reqs h hi).1, (deliveries_spec reqs h hi).2.1⟩

/-- one request of the summed size delivers the same items -/
theorem g72x_read_partition_one (reqs : List (Ty × Nat)) (h : G72x.RHandle) (hi : HInv h) (ty : Ty) :
    (deliveries h reqs).2 = (h.read ty (total reqs)).2.1.take (h.read ty (total reqs)).2.2 := by
  obtain ⟨h1, h2, _⟩ := read_spec h hi ty (total reqs)
  rw [(g72x_read_partition reqs h hi).1, h1, h2, List.take_left' (slice_length _ _ _)]

/-- the stream is a function of the data bytes: two handles opened on the same bytes, each after its own history of
    reads, deliver the same items wherever their positions meet -/
theorem g72x_two_handles (r : Rate) (data : List Byte) (reqs1 reqs2 : List (Ty × Nat)) (ty1 ty2 : Ty) (n : Nat)
    (hp : total reqs1 = total reqs2) :
    ((deliveries (G72x.RHandle.open r data) reqs1).1.read ty1 n).2 = ((deliveries (G72x.RHandle.open r data) reqs2).1.read ty2 n).2 := by
  obtain ⟨_, p1, b1, c1, a1⟩ := deliveries_spec reqs1 _ (g72x_open_inv r data)
  obtain ⟨_, p2, b2, c2, a2⟩ := deliveries_spec reqs2 _ (g72x_open_inv r data)
  obtain ⟨x1, x2, _⟩ := read_spec _ a1 ty1 n
  obtain ⟨y1, y2, _⟩ := read_spec _ a2 ty2 n
  rw [Prod.ext_iff, x1, x2, y1, y2, b1, b2, c1, c2, p1, p2, hp]
  exact ⟨rfl, rfl⟩

/-- `sf.seekable = 0`: every seek (any offset, any whence) is refused and the handle is left as it was -/
theorem g72x_seek_refused (h : G72x.RHandle) (offset : Int) (whence : Nat) : h.seek offset whence = none := rfl

/-- every cell a read hands to the conversion is a C `short` -/
theorem g72x_samples_are_shorts (r : Rate) (data : List Byte) (p n : Nat) :
    ∀ v ∈ (reader r data).slice p n, -32768 ≤ v ∧ v ≤ 32767 := by
  intro v hv
  simp only [Reader.slice, List.mem_map, List.mem_range] at hv
  obtain ⟨i, _, rfl⟩ := hv
  unfold Reader.itemAt
  generalize hl : List.drop _ ((reader r data).src _) = l
  cases l with
  | nil => simp
  | cons a t =>
    have hm : a ∈ (reader r data).src ((p + i) / ((reader r data).spb * (reader r data).ch)) := by
      have : a ∈ List.drop ((p + i) % ((reader r data).spb * (reader r data).ch))
          ((reader r data).src ((p + i) / ((reader r data).spb * (reader r data).ch))) := by rw [hl]; simp
      exact List.mem_of_mem_drop this
    exact reader_src_range r data _ a hm

/-- non-vacuity: 61 bytes of G.721 data (one block and one byte: two blocks, 240 frames); 100 + 30 + 200 items asked,
    240 delivered, the same as one request of 330 -/
example : (deliveries (G72x.RHandle.open g721 (List.replicate 61 0x7A)) [(.s16, 100), (.f32, 30), (.s32, 200)]).2 =
    ((G72x.RHandle.open g721 (List.replicate 61 0x7A)).read .s16 330).2.1.take 240 ∧
    ((G72x.RHandle.open g721 (List.replicate 61 0x7A)).read .s16 330).2.2 = 240 := by
  have hi := g72x_open_inv g721 (List.replicate 61 0x7A)
  have hret : ((G72x.RHandle.open g721 (List.replicate 61 0x7A)).read .s16 330).2.2 = 240 :=
    (g72x_read_contract _ hi .s16 330).1.trans (by decide +kernel)
  have hp := g72x_read_partition_one [(.s16, 100), (.f32, 30), (.s32, 200)] _ hi .s16
  rw [show total [(.s16, 100), (.f32, 30), (.s32, 200)] = 330 from rfl, hret] at hp
  exact ⟨hp, hret⟩

end Sf.C06G72x
