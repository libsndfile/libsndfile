-- properties: C04 C11
/-
  C04 / C11 — WAVEX files (SfModel/Wavex.lean), sample-granular encodings, write side.  Property theorems only
  (helpers: SfProofs/WavexSession.lean).  `image c N pk data = hdr c N pk ++ data ++ tail c N` is the closed file.
-/
import SfProofs.WavexSession
namespace Sf.C04Wavex
open Sf Sf.Wavex

/-- the header is 80 bytes, plus 16 + 8·channels for the PEAK chunk of float / double files, whatever lengths and peaks
    are written into it; the closed file is header, audio and one zero byte exactly when the audio ends on an odd offset -/
theorem wavex_header_length (c : Cfg) (n : Nat) (pk : List Peak) (data : List Byte)
    (hpk : isFloat c.codec = true → pk.length = c.ch) (hd : data.length = n * c.bw) :
    (hdr c n pk).length = hdrLen c ∧ (image c n pk data).length = hdrLen c + data.length + (hdrLen c + data.length) % 2 ∧
    (image c n pk data).length % 2 = 0 := by
  have h1 : (hdr c n pk).length = hdrLen c := hdrRaw_length c _ _ _ _ hpk
  have h4 : (tail c n).length = (hdrLen c + data.length) % 2 := by
    unfold tail; rw [hd]
    by_cases h : (hdrLen c + n * c.bw) % 2 = 1
    · simp [h]
    · simp [h]; omega
  refine ⟨h1, ?_, ?_⟩ <;> simp [image, h1, h4] <;> omega

/-- `stale_frames_ignored` for WAVEX: the closed file of any valid session is `image c N pk data` — no stale value, no trace
    of how the frames were split or of header updates — and the header written by sf_open does not depend on it either -/
theorem stale_frames_ignored_wavex (c : Cfg) (stale : Int) (ops : List Op) (hv : ∀ op ∈ ops, op.valid c) :
    (close c (run c (openW c stale) ops)).bytes = image c (sessFrames ops) (sessPeaks c ops) (sessData ops) ∧
    (openW c stale).bytes = (openW c 0).bytes :=
  ⟨close_bytes (session_inv c stale ops hv), rfl⟩

/-- C11 `snapshot_valid` for WAVEX: when SFC_UPDATE_HEADER_NOW returns the store is `hdrSnap c N_k pk_k` — the header whose
    RIFF size, fact count and data size describe exactly the frames written so far — followed by exactly their bytes -/
theorem snapshot_valid_wavex (c : Cfg) (stale : Int) (ops : List Op) (hv : ∀ op ∈ ops, op.valid c) :
    (step c (run c (openW c stale) ops) .update).bytes = hdrSnap c (sessFrames ops) (sessPeaks c ops) ++ sessData ops :=
  (writeHeader_inv (session_inv c stale ops hv) true).2.1 rfl

/-- …and in auto mode every write call that transferred something ends in such a crash point -/
theorem auto_write_is_snapshot_wavex (c : Cfg) (stale : Int) (ops : List Op) (hv : ∀ op ∈ ops, op.valid c)
    (k : Nat) (data : List Byte) (p : List Peak) (hk : k ≠ 0) (hd : data.length = k * c.bw) (hp : p.length = c.ch)
    (hauto : (run c (openW c stale) ops).auto = true) :
    (step c (run c (openW c stale) ops) (.write k data p)).bytes =
      hdrSnap c (sessFrames ops + k) (sessPeaks c (ops ++ [.write k data p])) ++ (sessData ops ++ data) := by
  have := (step_inv (session_inv c stale ops hv) (.write k data p) ⟨hd, hp⟩).2 k data p rfl hk hauto
  simpa [sessPeaks, List.foldl_append] using this

/-- a float session (RIFF, 1 channel): 3 frames in two calls around an update, auto mode on; 104 + 12 bytes, fact = 3 -/
def exCfg : Cfg := { codec := 0x06, endian := 0, ch := 1, sr := 8000 }
def exOps : List Op :=
  [.write 1 [0, 0, 0, 63] [{ value := 0x3FE0000000000000, position := 0 }], .update, .auto true,
   .write 2 [0, 0, 128, 63, 0, 0, 0, 0] [{ value := 0x3FF0000000000000, position := 1 }]]
example : exCfg.wf ∧ (∀ op ∈ exOps, op.valid exCfg) ∧ sessFrames exOps = 3 ∧
    (close exCfg (run exCfg (openW exCfg 99999) exOps)).bytes.length = 104 + 12 ∧
    ofLE (((close exCfg (run exCfg (openW exCfg 99999) exOps)).bytes.drop 4).take 4) = 108 ∧
    ofLE (((close exCfg (run exCfg (openW exCfg 99999) exOps)).bytes.drop 68).take 4) = 3 := by decide +kernel

end Sf.C04Wavex
