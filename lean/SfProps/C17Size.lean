/-
  The size guards of SFC_SET_CART_INFO / SFC_SET_BROADCAST_INFO cannot wrap (model: SfModel/CmdSize.lean), and the guard of the
  command model Sf.Command.varSet (unbounded Nat) IS the C guard.

  A `size_t` (64-bit) sum of an offset below 2^32 and a 32-bit field is the mathematical sum, so "accepted" means
  `offsetof + text_size ≤ datasize` for EVERY field value.  The seeded regression C17-cart-minsize-wrap touches two sites of
  src/cart.c: A, the width in which `cart_min_size ()` computes the sum (32 bits for 64), and B, the bound of the copy in
  `cart_var_set ()` (the field for datasize).  Of the four combinations three keep the copy inside datasize for every field value and
  every datasize; the fourth (A and B together) is refuted by tag_text_size = 2^32 - 16, datasize = sizeof (SF_CART_INFO).
-/
import SfProofs.Command
import SfModel.CmdSize
namespace Sf.C17Size
open Sf Sf.CmdSize

theorem minSize_no_wrap (fixed n : Nat) (hf : fixed < 2 ^ 32) (hn : n < 2 ^ 32) : minSize 64 fixed n = fixed + n := by
  unfold minSize
  apply Nat.mod_eq_of_lt
  have : (2 : Nat) ^ 64 = 2 ^ 32 * 2 ^ 32 := by decide
  omega

theorem guard64_exact (fixed n size : Nat) (hf : fixed < 2 ^ 32) (hn : n < 2 ^ 32) :
    accepts 64 fixed n size = decide (fixed + n ≤ size) := by
  unfold accepts
  rw [minSize_no_wrap fixed n hf hn]
  by_cases h : fixed + n ≤ size
  · have : fixed ≤ size := by omega
    simp [h, this]
  · simp [h]

/-- a copy bounded by datasize stays inside whatever width the guard's sum is computed in: the guard's first test,
    `datasize < offsetof`, is all it needs -/
theorem safe_by_datasize (w fixed : Nat) : Safe w .byDatasize fixed := by
  intro n size _ h
  simp only [accepts, Bool.and_eq_true, decide_eq_true_eq] at h
  show decide (fixed + (size - fixed) ≤ size) = true
  exact decide_eq_true (by omega)

/-- the code as it is: 64-bit sum, copy bounded by datasize -/
theorem safe_as_written (fixed : Nat) : Safe 64 .byDatasize fixed := safe_by_datasize 64 fixed

/-- site B alone (the field as the copy bound) is safe as long as the sum cannot wrap -/
theorem safe_field_bound_64 (fixed : Nat) (hf : fixed < 2 ^ 32) : Safe 64 .byField fixed := by
  intro n size hn h
  rw [guard64_exact fixed n size hf hn] at h
  exact h

/-- site A alone (32-bit sum) lets wrong structs through, but the copy stays inside datasize -/
theorem safe_site_a_alone (fixed : Nat) : Safe 32 .byDatasize fixed := safe_by_datasize 32 fixed

/-- both sites together: the guard accepts tag_text_size = 2^32 - 16 at datasize = sizeof (SF_CART_INFO) and the copy is bounded by
    4 GiB of source (in fact by the 16 KiB destination): it reads past datasize -/
theorem seeded_rule_reads_outside : ¬ Safe 32 .byField Command.cartFixed := by
  intro h
  have := h (2 ^ 32 - 16) Command.szCart (by decide) (by decide)
  revert this
  decide

-- non-vacuity: an honest struct is accepted (and copied inside), a lying one is refused, under the rule as written
example : accepts 64 Command.cartFixed 10 Command.szCart = true ∧ copyInside .byDatasize Command.cartFixed 10 Command.szCart = true ∧
    accepts 64 Command.cartFixed (2 ^ 32 - 16) Command.szCart = false ∧ accepts 32 Command.cartFixed (2 ^ 32 - 16) Command.szCart = true := by
  decide

/-- the command model's test `fixed + n > size` (Nat) refuses exactly the structs the C guard (64-bit) refuses, for every block
    content: the model quantifies over memory, and no field value makes the two differ -/
theorem varSet_guard_is_c_guard (m : Nat → Nat) (sizeOff fixed size : Nat) (hf : fixed < 2 ^ 32) :
    (fixed + Command.rd32 m sizeOff > size) ↔ accepts 64 fixed (Command.rd32 m sizeOff) size = false := by
  rw [guard64_exact fixed _ size hf (Command.rd32_lt m sizeOff)]
  simp only [decide_eq_false_iff_not]
  omega

end Sf.C17Size
