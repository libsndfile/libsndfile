-- properties: C01 C04 C07 C11
/-
  SfProps.C01BridgeFacts — the closed bytes of a Sf.Handle session do not depend on the split: C07
  (`file_bytes_partition_finite` / `_partial`) is stated over the writer operations `WOp` of SfProofs/CodecRun.lean, the bridge's
  sessions are lists of `SOp` (SfProofs/ContainerWrite.lean).  `toW` reads the write calls of a session as `WOp`s; header updates
  and auto mode have no counterpart there and are stripped first (C11: `close_strip`).
-/
import SfProofs.AbsWriteBridgeHandle
import SfProps.C07
import SfProofs.ContainerSnap
namespace Sf.AbsWriteBridge
open Sf Sf.AbsWrite

/-- the write calls of a session as writer operations of C01 / C07 (buffers cut to the request) -/
def toW (ch : Nat) (ops : List SOp) : List WOp :=
  ops.filterMap fun
    | .write w => some (.write w.ty w.frameCall w.n (w.data.take (w.items ch)))
    | _ => none

theorem strip_runW {c : Cfg} : ∀ (ops : List SOp) {a : Sf.Abs} {h : H} {s : Store}, Inv c a h s → (∀ op ∈ ops, op.valid c.ch) →
    runS (h, s) (stripUpdates ops) = runW (h, s) (toW c.ch ops)
  | [], _, _, _, _, _ => rfl
  | .write w :: ops, a, h, s, i, hv => by
    have i1 := stepS_inv i (.write w) (hv (.write w) (by simp))
    have ih := strip_runW ops i1 (fun o ho => hv o (by simp [ho]))
    -- a write looks at the requested part of the buffer only
    have e : stepS (h, s) (.write w) = stepW (h, s) (.write w.ty w.frameCall w.n (w.data.take (w.items c.ch))) := by
      simp only [stepS, stepW]
      rw [write_take_self h s w.ty w.frameCall w.n w.data, ← i.ch]; rfl
    -- both lists start with this call: the filter keeps it, `toW` translates it
    show runS (stepS (h, s) (.write w)) (stripUpdates ops) = runW (stepW (h, s) _) (toW c.ch ops)
    rw [← e]; exact ih
  | .update :: ops, a, h, s, i, hv | .auto _ :: ops, a, h, s, i, hv =>
    strip_runW ops i (fun o ho => hv o (by simp [ho]))

theorem toW_ok (h0 : H) (ch : Nat) (hch : h0.ch = ch) (hpos : 0 < ch) (ops : List SOp) (hv : ∀ op ∈ ops, op.valid ch) :
    ∀ op ∈ toW ch ops, op.ok h0 := by
  subst hch
  intro op hop
  obtain ⟨o, ho, e⟩ := List.mem_filterMap.mp hop
  cases o <;> cases e
  exact (Decidable.em _).imp_right (WCall.validW (hv _ ho) hpos)

theorem toW_hasTy (ty : Ty) (ch : Nat) (ops : List SOp) (hv : ∀ op ∈ ops, SOp.hasTy ty op) : ∀ op ∈ toW ch ops, op.hasTy ty := by
  intro op hop
  obtain ⟨o, ho, e⟩ := List.mem_filterMap.mp hop
  cases o <;> cases e
  exact hv _ ho

theorem toW_samples (ch : Nat) (ops : List SOp) : (toW ch ops).flatMap WOp.samples = sampleList ch ops := by
  rw [sampleList_eq, toW, List.filterMap_eq_flatMap_toList, List.flatMap_assoc]
  congr 1; funext op
  cases op with
  | write w =>
    simp only [Option.toList, List.flatMap_cons, List.flatMap_nil, List.append_nil, WOp.samples, SOp.xs]
    split
    · rename_i h0; simp [items_zero w ch h0]
    · rfl
  | _ => rfl

/-- the samples are finite in the file's sample type (the quantifier of C07 on PEAK-carrying files) -/
def FiniteSamples (h : H) (ty : Ty) (xs : List Int) : Prop :=
  ∀ x ∈ xs, (Peak.fileFmt h.enc).isFinite (Peak.convVal h.enc h.conv ty x) = true

/-- the closed bytes of a valid session of one caller type are a function of its samples (C07) -/
theorem closed_eq_oneCall (fmt : Nat) (ch sr : Int) (h : H) (s : Store) (ho : openHandle 0 {} .w fmt ch sr = .ok h s) (ty : Ty)
    (ops : List SOp) (hv : ∀ op ∈ ops, op.valid ch.toNat) (ht : ∀ op ∈ ops, SOp.hasTy ty op)
    (hfin : carriesPeak fmt = true → FiniteSamples h ty (sampleList ch.toNat ops)) :
    some (closedOf (h, s) ops) =
      closeBytes fmt ch sr [.write ty false (sampleList ch.toNat ops).length (sampleList ch.toNat ops)] := by
  obtain ⟨c, hcfg, h1, h2, h3, i0⟩ := open_ok ho
  have hcch := openCfg_ch hcfg
  have hhch : h.ch = ch.toNat := by rw [i0.ch, hcch]
  have hpos : 0 < ch.toNat := by omega
  have hstrip : closedOf (h, s) ops = closedOf (h, s) (stripUpdates ops) := close_strip ops ho hv
  have hrun := strip_runW ops i0 (by rw [hcch]; exact hv)
  rw [hcch] at hrun
  have hcb : closeBytes fmt ch sr (toW ch.toNat ops) = some (closedOf (h, s) ops) := by
    unfold closeBytes; rw [ho]; simp only []; rw [hstrip]; unfold closedOf; rw [hrun]
  have hok := toW_ok h ch.toNat hhch hpos ops hv
  have hty := toW_hasTy ty ch.toNat ops ht
  rw [← hcb]
  have hone : C07.oneCall ty (toW ch.toNat ops) =
      .write ty false (sampleList ch.toNat ops).length (sampleList ch.toNat ops) := by
    unfold C07.oneCall; rw [toW_samples]
  rw [← hone]
  by_cases hp : carriesPeak fmt = true
  · exact C07.file_bytes_partition_finite fmt ch sr h s ho ty _ hok hty (by
      intro x hx; rw [toW_samples] at hx; exact hfin hp x hx)
  · exact C07.file_bytes_partition_partial fmt ch sr h s ho (by simpa using hp) ty _ hok hty

/-- C07 for the bridge: the split run and the reference run close to the same bytes -/
theorem closed_partition (S : Sess) (h : H) (s : Store) (ho : openHandle 0 {} .w S.fmt S.ch S.sr = .ok h s)
    (hv : ∀ op ∈ S.ops, op.valid S.ch.toNat) (ht : ∀ op ∈ S.ops, SOp.hasTy S.ty op)
    (hfin : carriesPeak S.fmt = true → FiniteSamples h S.ty (sampleList S.ch.toNat S.ops)) :
    closedOf (h, s) (refOps S) = closedOf (h, s) S.ops := by
  have h1 := (open_props 0 {} S.fmt S.ch S.sr h s ho).chr.1
  have hpos : 0 < S.ch.toNat := by omega
  have e1 := closed_eq_oneCall S.fmt S.ch S.sr h s ho S.ty S.ops hv ht hfin
  have e2 := closed_eq_oneCall S.fmt S.ch S.sr h s ho S.ty (refOps S) (refOps_valid S hpos hv) (refOps_hasTy S)
    (by rw [refOps_samples S hpos hv]; exact hfin)
  rw [refOps_samples S hpos hv, ← e1] at e2
  exact Option.some.inj e2

end Sf.AbsWriteBridge
