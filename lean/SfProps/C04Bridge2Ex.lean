/-
  C01 / C04 / C07 / C11 — the write-side bridge for the remaining containers (lean/SfProps/C04Bridge2.lean): NON-VACUITY of every
  `<x>_session_accepted` — the hypotheses (configuration accepted by sf_open, `Valid` job, guards, rate clause) hold for a concrete
  job with a frames call, SFC_UPDATE_HEADER_NOW, auto mode and an items call; for SVX and VOC the whole record is evaluated in the
  kernel (two crash points with 1 and 3 frames; accepted) — and the rate clauses of IRCAM (binary32) and VOC / PCM_U8 (divisor) on the
  models' quantisers at the campaigns' rates.

  -- properties: C01 C04 C07 C11
-/
import SfProps.C04Bridge2
import SfModel.AbsWrite
import SfModel.Ircam
import SfModel.Voc
import SfProps.C04SvxReopen
namespace Sf.C04Bridge2
open Sf Sf.AbsWrite Sf.AbsWriteBridge Sf.C04Bridge
open Sf.AbsWriteBridge.Small (Cont Laws Valid small2Cont)

/-- the hypotheses of `paf_session_accepted`, `ircam_session_accepted` (a rate the binary32 field rounds: 2^24 + 1 → 2^24),
    `nist_session_accepted`, `mat5_session_accepted` hold for the stereo 16-bit job -/
example : exPaf.wf ∧ exPaf.codec ≠ 0x03 ∧ Valid exPaf.ch .s16 exOps := by decide
example : exIrcam.wf ∧ Ircam.rateQ exIrcam.sr = some 16777216 ∧ rateOk 0x0A exIrcam.sr 16777216 = true ∧ Valid exIrcam.ch .s16 exOps := by
  decide +kernel
example : C04Nist.exCfg.wf ∧ Valid C04Nist.exCfg.ch .s16 exOps ∧
    (Small.sampleList exOps).length * (encFor C04Nist.exCfg.codec C04Nist.exCfg.big).nbytes / C04Nist.exCfg.bw < 2 ^ 63 := by decide
example : C04Mat5.exCfg.wf ∧ Valid C04Mat5.exCfg.ch .s16 exOps := ⟨C04Mat5.ex_wf.1, by decide⟩

/-- SVX (mono 16SV with a file name): hypotheses, and the record evaluated -/
example : C04Svx.exCfg.wf ∧ Valid C04Svx.exCfg.ch .s16 exOps1 ∧
    (Small.recordOf (Small.small1Cont (Svx.spec C04Svx.exCfg) Svx.parse (svxGeom C04Svx.exCfg) (encFor 2 true)) .s16 0 99999 exOps1).snaps.map (·.info.frames) = [1, 3] ∧
    accepted (Small.recordOf (Small.small1Cont (Svx.spec C04Svx.exCfg) Svx.parse (svxGeom C04Svx.exCfg) (encFor 2 true)) .s16 0 99999 exOps1) = true := by
  have hwf : C04Svx.exCfg.wf := by decide
  have hv : Valid C04Svx.exCfg.ch .s16 exOps1 := by decide
  have hre : SvxReopens C04Svx.exCfg := fun st w _ hD => SvxReopen.svx_reopens _ hwf st w hD
  exact ⟨hwf, hv, by decide +kernel, svx_session_accepted _ hwf hre _ _ _ _ hv (by unfold svxGuard; decide)⟩

/-- VOC: stereo PCM_16 (type 9 block) and mono PCM_U8 at 11025 Hz (divisor 166 = 11111 Hz: inside the divisor clause); the closed file ends
    in the terminator byte, the crash images do not -/
example : C04Voc.exPcm.wf ∧ rateOk 0x08 C04Voc.exPcm.sr ((Voc.quant C04Voc.exPcm : Nat) : Int) = true ∧ Valid C04Voc.exPcm.ch .s16 exOps ∧
    (Small.sampleList exOps).length * (encFor C04Voc.exPcm.codec false).nbytes + 14 < 2 ^ 24 ∧
    (Small.recordOf (vocCont C04Voc.exPcm) .s16 0 99999 exOps).snaps.map (·.info.frames) = [1, 3] ∧
    (Small.recordOf (vocCont C04Voc.exPcm) .s16 0 99999 exOps).one.bytes.size = 42 + 12 + 1 ∧
    accepted (Small.recordOf (vocCont C04Voc.exPcm) .s16 0 99999 exOps) = true ∧
    rateOk 0x08 11025 ((Voc.quant ⟨5, 1, 11025⟩ : Nat) : Int) = true ∧
    (Small.recordOf (vocCont ⟨5, 1, 11025⟩) .s16 0 99999 exOps1).info.sr = 11111 ∧
    accepted (Small.recordOf (vocCont ⟨5, 1, 11025⟩) .s16 0 99999 exOps1) = true := by
  have hwf : C04Voc.exPcm.wf := by decide
  have hrate : rateOk 0x08 C04Voc.exPcm.sr ((Voc.quant C04Voc.exPcm : Nat) : Int) = true := by decide +kernel
  have hv : Valid C04Voc.exPcm.ch .s16 exOps := by decide
  have hguard : (Small.sampleList exOps).length * (encFor C04Voc.exPcm.codec false).nbytes + 14 < 2 ^ 24 := by decide
  have hrate8 : rateOk 0x08 11025 ((Voc.quant ⟨5, 1, 11025⟩ : Nat) : Int) = true := by decide +kernel
  -- the two values of the first record in one evaluation
  refine (fun h2 => ⟨hwf, hrate, hv, hguard, h2.1, h2.2,
    voc_session_accepted _ hwf hrate _ _ _ _ hv hguard, hrate8, by decide +kernel,
    voc_session_accepted ⟨5, 1, 11025⟩ (by decide) hrate8 _ _ _ exOps1 (by decide) (by unfold vocGuard; decide)⟩ : (_ ∧ _) → _) ?_
  decide +kernel

/-- the two rate hypotheses at the rates the campaigns ask for: the model's IEEE round trip of the rate IS the predicate's `roundF32`
    (exact up to 2^24, ties-to-even above, the cap 2^31 − 128 inside the class the clause leaves open) -/
theorem ircam_rate_clause : ∀ sr ∈ [1, 8000, 11025, 44100, 48000, 65535, 65536, 96000, 2 ^ 24, 2 ^ 24 + 1, 2 ^ 24 + 3, 2 ^ 30 - 1, 2 ^ 30, 2 ^ 30 + 1,
      2 ^ 31 - 65, 2 ^ 31 - 64, 2 ^ 31 - 1],
    ∃ q, Ircam.rateQ sr = some q ∧ rateOk 0x0A sr (q : Int) = true ∧ (sr < 2 ^ 31 - 64 → q = roundF32 sr) := by
  decide +kernel


/-- the PCM_U8 divisor clause at the campaign's rates (one and two channels), by evaluation -/
theorem voc_rate_clause_u8 : ∀ sr ∈ [1, 3906, 3907, 4000, 8000, 11025, 22050, 44100, 48000, 96000, 200000, 200001, 1000000, 2 ^ 31 - 1], ∀ ch ∈ [1, 2],
    rateOk 0x08 sr ((Voc.quant ⟨5, ch, sr⟩ : Nat) : Int) = true := by decide

end Sf.C04Bridge2
