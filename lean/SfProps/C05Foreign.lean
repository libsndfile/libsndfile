/-
  C05 / C06 on FOREIGN-BUT-VALID files (vlib/foreignread.py): a file the campaign BUILT — the audio bytes of a library-written
  base file under another, valid layout (SSND offset with chunks behind it, VOC text / repeat blocks, chunks around the audio …) —
  is judged by `Sf.Abs.holdsOn` with the geometry and the reference streams of the CONSTRUCTION (`frames0` := frames of the base file,
  `ref` := its streams), not with what the file's own first read delivers.  What an accepted transcript of the campaign's shape
  (info line; one read of everything and more; seek; read) then says, whatever parser produced the answers:
-- properties: C05 C06
-/
import SfProofs.AbsMeaning
import SfProofs.AbsSeq
namespace Sf.C05Foreign
open Sf Sf.Abs

/-- the `info` line in front of an accepted transcript reported exactly the frame count of the construction -/
theorem foreign_info_frames (g : Geom) (ref : Ty → Array Item) (valid : Ty → Bool) (o : Out) (tr : List (Op × Out)) (n : Nat)
    (h : holdsOn g ref valid ((.info, o) :: tr) = .ok n) : o.frames = (g.frames0 : Int) := by
  have hfr : (St.init g ref valid).frames = g.frames0 := rfl
  by_cases hf : o.frames = ((St.init g ref valid).frames : Int)
  · rw [hf, hfr]
  · exfalso
    unfold holdsOn holdsFrom at h
    simp only [check, infoOk, if_neg hf] at h
    exact Verdict.noConfusion h

/-- ONE read from the start that asks for more than the construction holds delivers exactly the construction: `frames0` whole
    frames — not one more (the bytes of a chunk behind the audio), not one less —, equal to the first `frames0 · ch` items of the
    reference stream, and the read position stands at the end.  (The deterministic prelude of every history of the campaign.) -/
theorem foreign_whole_read (g : Geom) (ref : Ty → Array Item) (valid : Ty → Bool) (ty : Ty) (fc : Bool) (n : Int) (o : Out) (st' : St)
    (hm : g.mode0 = .r) (hF : 0 < g.frames0) (hv : validReq g fc n = true)
    (hbig : g.frames0 * g.ch < reqItems g fc n)
    (h : readOk g (St.init g ref valid) ty fc n o = .ok st') :
    retItems g fc o.ret = g.frames0 * g.ch ∧ st'.rpos = g.frames0 ∧ o.err = false ∧
    (valid ty = true → o.data.extract 0 (g.frames0 * g.ch * cells ty) = (ref ty).extract 0 (g.frames0 * g.ch * cells ty)) := by
  have hrr : ReadReq g (St.init g ref valid) fc n := ⟨hv, by simp [St.init, hm]⟩
  obtain ⟨h0, _, hmod, _, herr, _, hmain⟩ := readOk_valid g _ ty fc n o st' hrr h
  have hlt : (St.init g ref valid).rpos < (St.init g ref valid).frames := by simp [St.init]; exact hF
  obtain ⟨hs, hle, hdat, hshort⟩ := hmain hlt
  simp only [St.init] at hle hshort hdat
  have hdiv : retItems g fc o.ret / g.ch * g.ch = retItems g fc o.ret := Nat.div_mul_cancel (Nat.dvd_of_mod_eq_zero hmod)
  have hle' : retItems g fc o.ret ≤ g.frames0 * g.ch := by
    have : retItems g fc o.ret / g.ch ≤ g.frames0 := by omega
    calc retItems g fc o.ret = retItems g fc o.ret / g.ch * g.ch := hdiv.symm
      _ ≤ g.frames0 * g.ch := Nat.mul_le_mul_right _ this
  have hlt2 : o.ret < n := retItems_lt_of g fc n o.ret h0 (by omega)
  have hend := hshort hlt2
  have hk : retItems g fc o.ret / g.ch = g.frames0 := by omega
  have hret : retItems g fc o.ret = g.frames0 * g.ch := by rw [← hdiv, hk]
  refine ⟨hret, ?_, herr, fun hval => ?_⟩
  · rw [hs]; simp [St.init, hk]
  · have hx := sliceEq_extract _ _ _ _ _ (hdat hval)
    simp only [Nat.zero_mul, Nat.zero_add, hret] at hx
    exact hx

/-- a further read at the end of the construction delivers nothing and sets no error (the chunk behind the audio is not audio) -/
theorem foreign_read_at_end (g : Geom) (st : St) (ty : Ty) (fc : Bool) (n : Int) (o : Out) (st' : St)
    (hm : st.mode = .r) (hv : validReq g fc n = true) (hend : st.rpos = st.frames)
    (h : readOk g st ty fc n o = .ok st') : o.ret = 0 ∧ o.err = false ∧ st'.rpos = st.rpos := by
  have hrr : ReadReq g st fc n := ⟨hv, by rw [hm]; decide⟩
  obtain ⟨_, _, _, _, herr, heof, _⟩ := readOk_valid g st ty fc n o st' hrr h
  obtain ⟨hz, _, hs⟩ := heof (by omega)
  exact ⟨hz, herr, by rw [hs]⟩

/-- non-vacuity: a two-frame stereo construction; the answers a correct reader gives are accepted, and the answers of a reader that
    counts one frame too many (the defect class of the SSND-offset / text-block parsers) are refused with clause `frames` -/
def exG : Geom := { ch := 2, frames0 := 2, mode0 := .r }
def exRef : Ty → Array Item := fun _ => #[1, 2, 3, 4]

example : holdsOn exG exRef (fun _ => true)
    [(.info, { frames := 2 }), (.read .s16 false 6, { ret := 4, data := #[1, 2, 3, 4, 0xA5A5, 0xA5A5] })] = .ok 2 := by decide
example : holdsOn exG exRef (fun _ => true) [(.info, { frames := 3 })] = .bad 0 "frames" := by decide
example : holdsOn exG exRef (fun _ => true)
    [(.info, { frames := 2 }), (.read .s16 false 6, { ret := 6, data := #[1, 2, 3, 4, 9, 9] })] = .bad 1 "data" := by decide
/-- the hypotheses of `foreign_whole_read` can be met: the theorem applied to the accepted answer above (any equation about the
    resulting proof would do; proofs of a proposition are equal by `rfl`) -/
example : (foreign_whole_read exG exRef (fun _ => true) .s16 false 6 { ret := 4, data := #[1, 2, 3, 4, 0xA5A5, 0xA5A5] }
    _ rfl (by decide) (by decide) (by decide) rfl).1 = rfl := rfl

end Sf.C05Foreign
