/-
  C09 — sf_perror, sf_error_str and sf_write_sync report and never disturb: the handle's error state, the global error, the positions and
  the file are what they were (purity), sf_error_str writes at most `maxlen` bytes of the caller's buffer, terminates what it wrote
  whenever maxlen > 0 and delivers a prefix of the error table's string (the whole string when the buffer is large enough).
  Model: SfModel/ErrApi.lean; correspondence and twin runs: vlib/c09errapi.py (harness/errapi.c).
-/
import SfModel.ErrApi
import SfModel.Generated.ErrorTable
namespace Sf.C09ErrApi
open Sf.ErrApi

/-- maxlen = 0 writes nothing at all -/
theorem boundedCopy_zero (msg buf : List Nat) : boundedCopy msg 0 buf = buf := by simp [boundedCopy]

theorem boundedCopy_pos (msg buf : List Nat) {len : Nat} (h : 0 < len) :
    boundedCopy msg len buf = msg.take (len - 1) ++ 0 :: buf.drop ((msg.take (len - 1)).length + 1) := by
  unfold boundedCopy
  rw [if_neg (by omega)]
  exact List.append_assoc ..

/-- never more than maxlen bytes: every byte of the caller's buffer at index >= maxlen is untouched (the guard band of the campaign) -/
theorem boundedCopy_beyond (msg buf : List Nat) (len i : Nat) (hi : len ≤ i) : (boundedCopy msg len buf)[i]? = buf[i]? := by
  by_cases h0 : len = 0
  · rw [h0, boundedCopy_zero]
  · have hl : (msg.take (len - 1)).length ≤ len - 1 := by rw [List.length_take]; omega
    rw [boundedCopy_pos _ _ (by omega), List.getElem?_append_right (by omega), List.getElem?_cons, if_neg (by omega),
      List.getElem?_drop]
    congr 1
    omega

/-- the buffer keeps its length (nothing is appended behind the caller's block) -/
theorem boundedCopy_length (msg buf : List Nat) (len : Nat) (h : len ≤ buf.length) : (boundedCopy msg len buf).length = buf.length := by
  by_cases h0 : len = 0
  · rw [h0, boundedCopy_zero]
  · have hl : (msg.take (len - 1)).length ≤ len - 1 := by rw [List.length_take]; omega
    rw [boundedCopy_pos _ _ (by omega), List.length_append, List.length_cons, List.length_drop]
    omega

/-- always terminated when maxlen > 0: the byte behind the copied prefix is NUL, and it lies inside the first maxlen bytes -/
theorem boundedCopy_terminated (msg buf : List Nat) (len : Nat) (h : 0 < len) :
    (boundedCopy msg len buf)[min msg.length (len - 1)]? = some 0 ∧ min msg.length (len - 1) < len := by
  refine ⟨?_, by omega⟩
  have hl : (msg.take (len - 1)).length = min msg.length (len - 1) := by rw [List.length_take]; omega
  rw [boundedCopy_pos _ _ h, ← hl, List.getElem?_append_right (Nat.le_refl _), Nat.sub_self]
  rfl

/-- a prefix of the table's string: the first min (strlen, maxlen - 1) bytes are the message's -/
theorem boundedCopy_prefix (msg buf : List Nat) (len : Nat) (h : 0 < len) :
    (boundedCopy msg len buf).take (min msg.length (len - 1)) = msg.take (len - 1) := by
  have hl : (msg.take (len - 1)).length = min msg.length (len - 1) := by rw [List.length_take]; omega
  rw [boundedCopy_pos _ _ h, ← hl, List.take_left]

/-- the whole message arrives when the buffer has room for it and its terminator -/
theorem boundedCopy_whole (msg buf : List Nat) (len : Nat) (h : msg.length < len) :
    (boundedCopy msg len buf).take (msg.length + 1) = msg ++ [0] := by
  have ht : msg.take (len - 1) = msg := List.take_of_length_le (by omega)
  rw [boundedCopy_pos _ _ (by omega), ht, List.take_append, List.take_of_length_le (Nat.le_succ _)]
  simp

/-- none of the three calls changes the handle's error, sf_errno, a position or the file — for every state, handle and argument.
    (The model functions hand the state back as they got it, hence `rfl`: that the C does the same is what vlib/c09errapi.py
    observes, sf_error / sf_strerror before and after every call.) -/
theorem sfErrorStr_pure (internal : Int) (msgOf : Int → List Nat) (isNull : Bool) (s : St) (buf : Option (List Nat)) (len : Nat) :
    (sfErrorStr internal msgOf isNull s buf len).2.2 = s := by
  cases buf <;> rfl

theorem sfPerror_pure (msgOf : Int → List Nat) (isNull : Bool) (s : St) : (sfPerror msgOf isNull s).2.2 = s ∧ (sfPerror msgOf isNull s).1 = 0 := ⟨rfl, rfl⟩

theorem sfWriteSync_pure (isNull : Bool) (s : St) : sfWriteSync isNull s = s := rfl

/-- a history with an sf_write_sync call behind every operation ends in the same state as the history without them
    (`sfWriteSync` is the identity of the model: `sfWriteSync_pure`) -/
theorem writeSync_twin (ops : List (St → St)) (s : St) (isNull : Bool) :
    (ops.flatMap fun f => [f, sfWriteSync isNull]).foldl (fun st f => f st) s = ops.foldl (fun st f => f st) s := by
  rw [List.foldl_flatMap]; rfl

/-- sf_error_str answers SFE_NO_ERROR with a buffer, SFE_INTERNAL without one, and reads the error it reports from the right place -/
theorem sfErrorStr_ret (internal : Int) (msgOf : Int → List Nat) (isNull : Bool) (s : St) (b : List Nat) (len : Nat) :
    (sfErrorStr internal msgOf isNull s (some b) len).1 = 0 ∧ (sfErrorStr internal msgOf isNull s none len).1 = internal ∧
    (sfErrorStr internal msgOf isNull s (some b) len).2.1 = some (boundedCopy (msgOf (if isNull then s.sfErrno else s.error)) len b) := ⟨rfl, rfl, rfl⟩

/-- the message of error number `k` in the running library's table (regenerated on every run), the fallback text outside it -/
def tableMsg (k : Int) : List Nat :=
  if k < 0 then Sf.Generated.badErrnum
  else match Sf.Generated.errTable.find? (fun e => e.1 = k.toNat) with
    | some e => e.2
    | none => Sf.Generated.badErrnum

/-- every string of the table (and the fallback) is shorter than 256 bytes and holds no NUL: a 256-byte buffer always receives the WHOLE message -/
theorem table_strings_fit :
    Sf.Generated.errTable.all (fun e => decide (e.2.length < 256) && e.2.all (· != 0)) = true ∧ Sf.Generated.badErrnum.length < 256 := by
  constructor <;> decide +kernel

theorem tableMsg_length (k : Int) : (tableMsg k).length < 256 := by
  have h := table_strings_fit
  unfold tableMsg
  split
  · exact h.2
  · split
    · rename_i e he
      have hm := List.mem_of_find?_eq_some he
      have := (List.all_eq_true.mp h.1) e hm
      simp only [Bool.and_eq_true, decide_eq_true_eq] at this
      exact this.1
    · exact h.2

/-- sf_error_str with a buffer of 256 bytes or more delivers the complete message of the table, terminated, for every error state -/
theorem sfErrorStr_table_whole (internal : Int) (isNull : Bool) (s : St) (b : List Nat) (len : Nat) (hl : 256 ≤ len) :
    ∃ out, (sfErrorStr internal tableMsg isNull s (some b) len).2.1 = some out ∧
      out.take ((tableMsg (errnumOf isNull s)).length + 1) = tableMsg (errnumOf isNull s) ++ [0] := by
  refine ⟨boundedCopy (tableMsg (errnumOf isNull s)) len b, rfl, ?_⟩
  exact boundedCopy_whole _ _ _ (by have := tableMsg_length (errnumOf isNull s); omega)

example : tableMsg 0 = [78, 111, 32, 69, 114, 114, 111, 114, 46] := by decide +kernel
example : boundedCopy [78, 111, 32, 69] 3 [0xA5, 0xA5, 0xA5, 0xA5, 0xA5] = [78, 111, 0, 0xA5, 0xA5] := by decide
example : boundedCopy [78, 111, 32, 69] 1 [0xA5, 0xA5] = [0, 0xA5] := by decide
example : boundedCopy [78, 111] 5 [1, 2, 3, 4, 5, 6] = [78, 111, 0, 4, 5, 6] := by decide
example : (sfErrorStr 29 (fun _ => [65]) false { error := 7, sfErrno := 0, rpos := 3, wpos := 0, file := [1] } (some [9, 9, 9]) 3).2.1 = some [65, 0, 9] := by decide

end Sf.C09ErrApi
