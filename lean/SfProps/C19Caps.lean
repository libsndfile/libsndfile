/-
  C19 — SFC_TEST_IEEE_FLOAT_REPLACE on one handle never changes which float code ANOTHER handle runs, whatever was opened or
  switched before: with the rule of the code the path of a handle is a function of its own flag.  Model: SfModel/CapsWorld.lean;
  campaign vlib/cmdreach.py (every SFC_* command on a handle A, then B is opened: B's transcript = B's transcript without A).
-/
import SfModel.CapsWorld
namespace Sf.C19Caps
open Sf Sf.CapsWorld

/-- the code: the static is dead across calls -/
theorem init_ignores_static (st st' : Caps) (f : Bool) : (init .probeAlways st f).2 = (init .probeAlways st' f).2 := rfl

theorem step_path_self (w : W) (i : Nat) : ((step .probeAlways w (.open i)).path i) = .host ∧
    ∀ on, (step .probeAlways w (.replace i on)).path i = probe on := by
  refine ⟨by simp [step, init, probe], fun on => by simp [step, init]⟩

theorem step_path_other (r : Rule) (w : W) (ev : Ev) (j : Nat) (hj : ∀ i, (ev = .open i ∨ ∃ on, ev = .replace i on) → i ≠ j) :
    (step r w ev).path j = w.path j ∧ (step r w ev).flag j = w.flag j := by
  cases ev with
  | «open» i => have := hj i (Or.inl rfl); simp [step, Ne.symm this]
  | replace i on => have := hj i (Or.inr ⟨on, rfl⟩); simp [step, Ne.symm this]

/-- the invariant of the code's rule: every handle that has a path has the path of its own flag -/
def Own (w : W) : Prop := ∀ j, w.path j = .unknown ∨ w.path j = probe (w.flag j)

theorem own_step (w : W) (h : Own w) (ev : Ev) : Own (step .probeAlways w ev) := by
  intro j
  cases ev with
  | «open» i =>
    by_cases hj : j = i
    · subst hj; right; simp [step, init, probe]
    · have := h j; simpa [step, hj] using this
  | replace i on =>
    by_cases hj : j = i
    · subst hj; right; simp [step, init]
    · have := h j; simpa [step, hj] using this

/-- after ANY sequence of opens and switches (on any handles), a handle opened now runs the host code -/
theorem open_after_any_history (evs : List Ev) (w : W) (i : Nat) :
    (run .probeAlways w (evs ++ [.open i])).path i = .host := by
  simp [run, List.foldl_append, step, init, probe]

theorem own_run (evs : List Ev) (w : W) (h : Own w) : Own (run .probeAlways w evs) :=
  List.foldlRecOn evs _ h fun w h ev _ => own_step w h ev

/-- the caching rule: handle 0 sets the switch, handle 1 is opened afterwards with its own flag off — and runs the portable code -/
theorem cache_rule_leaks_across_handles :
    (run .cacheUnlessReplace {} [.open 0, .replace 0 true, .open 1]).path 1 = .portable ∧
    (run .cacheUnlessReplace {} [.open 0, .replace 0 true, .open 1]).flag 1 = false ∧
    (run .cacheUnlessReplace {} [.open 1]).path 1 = .host ∧
    (run .probeAlways {} [.open 0, .replace 0 true, .open 1]).path 1 = .host := by
  refine ⟨by decide, by decide, by decide, by decide⟩

/-- … and the two paths store different bytes for +Inf (0x7F800000): the portable writer has no encoding for it -/
theorem paths_differ_on_infinity : storeLE .host 0x7F800000 = [0x00, 0x00, 0x80, 0x7F] ∧ storeLE .portable 0x7F800000 ≠ storeLE .host 0x7F800000 := by
  refine ⟨by decide, by decide⟩

example : Own ({} : W) := fun _ => Or.inl rfl

end Sf.C19Caps
