/-
  C09 — invalid calls fail cleanly; valid calls leave no error.  The part of the property that lives in the
  handle state machine (SfModel/Handle.lean): the read / write wrappers, `sf_seek`, SFC_FILE_TRUNCATE and the flag
  commands.

  "State unchanged" is equality of the whole handle record up to the `error` field, and equality of the store
  (bytes and position).
-/
import SfProofs.HandleSeek
import SfProofs.HandleOpen
namespace Sf

/-- the invalid-argument classes of the read wrappers (for `n ≠ 0`) -/
def ReadInvalid (h : H) (fc : Bool) (n : Int) : Prop :=
  n ≠ 0 ∧ (n < 0 ∨ h.mode = .w ∨ (fc = false ∧ n % (h.ch : Int) ≠ 0))

/-- the invalid-argument classes of the write wrappers (for `n ≠ 0`) -/
def WriteInvalid (h : H) (fc : Bool) (n : Int) : Prop :=
  n ≠ 0 ∧ (n < 0 ∨ h.mode = .r ∨ (fc = false ∧ n % (h.ch : Int) ≠ 0))

/-- the invalid-argument classes of `sf_seek`: unknown whence, a mode-qualified whence that contradicts the handle's
    mode, a target outside the file -/
def SeekInvalid (h : H) (off whence : Int) : Prop :=
  ¬ seekKnown whence ∨
  ((seekWm whence = 0x20 ∧ h.mode = .r) ∨ (seekWm whence = 0x10 ∧ h.mode = .w)) ∨
  (∃ b, seekBase h whence = some b ∧ ¬ seekIsTell h off whence ∧ (b + off < 0 ∨ (h.mode = .r ∧ b + off > h.frames)))

/-- the classes of `ReadInvalid` / `WriteInvalid` are the requests that fail a guard of the wrapper (`bad`: the mode it cannot serve) -/
theorem invalid_fails_guard {m bad : Mode} {fc : Bool} {n : Int} {ch : Nat}
    (hc : n < 0 ∨ m = bad ∨ (fc = false ∧ n % (ch : Int) ≠ 0)) : ¬ (0 < n ∧ m ≠ bad ∧ (fc = true ∨ n % (ch : Int) = 0)) := by
  rintro ⟨hn, hm, ha⟩
  rcases hc with x | x | ⟨hf, hna⟩
  · omega
  · exact hm x
  · exact ha.elim (by simp [hf]) hna

theorem seekBase_none_of_unknown (h : H) (whence : Int) (hw : ¬ seekKnown whence) : seekBase h whence = none := by
  unfold seekKnown at hw
  simp only [not_or] at hw
  obtain ⟨a0, a1, a2, a3, a4, a5, a6, a7, a8, a9⟩ := hw
  simp [seekBase, a0, a1, a2, a3, a4, a5, a6, a7, a8, a9]

/-- for `n ≠ 0` the wrappers clear the error field on entry: the previous error has no influence -/
theorem read_error_irrelevant (h : H) (s : Store) (ty : Ty) (fc : Bool) (n : Int) (e : Int) (hn : n ≠ 0) :
    stepRead { h with error := e } s ty fc n = stepRead h s ty fc n := by
  have h0 : (n == 0) = false := by simpa using hn
  unfold stepRead
  rw [h0]
  rfl

theorem write_error_irrelevant (h : H) (s : Store) (ty : Ty) (fc : Bool) (n : Int) (data : List Int) (e : Int)
    (hn : n ≠ 0) :
    stepWrite { h with error := e } s ty fc n data = stepWrite h s ty fc n data := by
  have h0 : (n == 0) = false := by simpa using hn
  unfold stepWrite
  rw [h0]
  rfl

theorem seek_error_irrelevant (h : H) (s : Store) (off whence : Int) (e : Int) :
    stepSeek { h with error := e } s off whence = stepSeek h s off whence := rfl

/-- an operation that is an invalid call in state `h` (read / write / seek classes) -/
def OpInvalid (h : H) : Op → Prop
  | .read _ _ fc n => ReadInvalid h fc n
  | .write _ _ fc n _ => WriteInvalid h fc n
  | .seek _ off whence => SeekInvalid h off whence
  | _ => False

theorem OpInvalid_error (h : H) (e : Int) (op : Op) : OpInvalid { h with error := e } op ↔ OpInvalid h op := by
  cases op <;> exact Iff.rfl

end Sf

namespace Sf.C09
open Sf

/-- read wrappers: a negative count, a write-only handle, or an item count that is not a multiple of the channel
    count (`ReadInvalid`, for `n ≠ 0`) returns 0, sets a non-zero error, and leaves every other field and the store
    as they were -/
theorem invalid_read_no_effect (h : H) (s : Store) (ty : Ty) (fc : Bool) (n : Int) (hv : ReadInvalid h fc n) :
    ∃ e, e ≠ 0 ∧ (stepRead h s ty fc n).1 = { h with error := e } ∧ (stepRead h s ty fc n).2.1 = s ∧
      (stepRead h s ty fc n).2.2.ret = 0 ∧ (stepRead h s ty fc n).2.2.err = e := by
  obtain ⟨e, he, eq⟩ := stepRead_refuses h s ty fc n hv.1 (invalid_fails_guard hv.2)
  rw [eq]; exact ⟨e, he, rfl, rfl, rfl, rfl⟩

/-- write wrappers: negative count, read-only handle, misaligned item count -/
theorem invalid_write_no_effect (h : H) (s : Store) (ty : Ty) (fc : Bool) (n : Int) (data : List Int)
    (hv : WriteInvalid h fc n) :
    ∃ e, e ≠ 0 ∧ (stepWrite h s ty fc n data).1 = { h with error := e } ∧ (stepWrite h s ty fc n data).2.1 = s ∧
      (stepWrite h s ty fc n data).2.2.ret = 0 ∧ (stepWrite h s ty fc n data).2.2.err = e := by
  obtain ⟨e, he, eq⟩ := stepWrite_refuses h s ty fc n data hv.1 (invalid_fails_guard hv.2)
  rw [eq]; exact ⟨e, he, rfl, rfl, rfl, rfl⟩

/-- `sf_seek`: an unknown whence value, a mode-qualified whence that contradicts the handle's mode, or a target outside
    the file (negative; beyond the last frame on a read-only handle) returns −1, sets a non-zero error, and changes
    nothing else -/
theorem invalid_seek_no_effect (h : H) (s : Store) (off whence : Int) (hv : SeekInvalid h off whence) :
    ∃ e, e ≠ 0 ∧ stepSeek h s off whence = ({ h with error := e }, s, { ret := -1, err := e }) := by
  rcases stepSeek_cases h s off whence with ⟨e, he, eq⟩ | ⟨b, hb, ht, n1, n2, eq⟩ | ⟨b, hb, nt, h0, hfr, n1, n2, eq⟩
  · exact ⟨e, he, eq⟩
  · exfalso
    rcases hv with x | x | ⟨b', hb', nt, _⟩
    · rw [seekBase_none_of_unknown h whence x] at hb; contradiction
    · rcases x with x | x
      · exact n1 x
      · exact n2 x
    · exact nt ht
  · exfalso
    rcases hv with x | x | ⟨b', hb', _, hr⟩
    · rw [seekBase_none_of_unknown h whence x] at hb; contradiction
    · rcases x with x | x
      · exact n1 x
      · exact n2 x
    · rw [hb] at hb'; injection hb' with hb'; subst hb'
      rcases hr with x | ⟨hm, x⟩
      · omega
      · have := hfr hm; omega

/-- the individual classes with the error each one records -/
theorem invalid_call_classes (h : H) (s : Store) (ty : Ty) (fc : Bool) (n : Int) (data : List Int) :
    (n < 0 → (stepRead h s ty fc n).1 = { h with error := E_NEG_LEN } ∧ (stepRead h s ty fc n).2.2.ret = 0) ∧
    (0 < n → h.mode = .w →
      (stepRead h s ty fc n).1 = { h with error := E_NOT_READMODE } ∧ (stepRead h s ty fc n).2.2.ret = 0) ∧
    (0 < n → h.mode ≠ .w → n % (h.ch : Int) ≠ 0 →
      (stepRead h s ty false n).1 = { h with error := E_BAD_ALIGN } ∧ (stepRead h s ty false n).2.2.ret = 0) ∧
    (n < 0 → (stepWrite h s ty fc n data).1 = { h with error := E_NEG_LEN } ∧ (stepWrite h s ty fc n data).2.2.ret = 0) ∧
    (0 < n → h.mode = .r →
      (stepWrite h s ty fc n data).1 = { h with error := E_NOT_WRITEMODE } ∧ (stepWrite h s ty fc n data).2.2.ret = 0) ∧
    (0 < n → h.mode ≠ .r → n % (h.ch : Int) ≠ 0 →
      (stepWrite h s ty false n data).1 = { h with error := E_BAD_ALIGN } ∧ (stepWrite h s ty false n data).2.2.ret = 0) :=
  ⟨fun a => by rw [stepRead_neg _ _ _ _ _ a]; exact ⟨rfl, rfl⟩,
   fun a b => by rw [stepRead_wmode _ _ _ _ _ a b]; exact ⟨rfl, rfl⟩,
   fun a b c => by rw [stepRead_align _ _ _ _ a b c]; exact ⟨rfl, rfl⟩,
   fun a => by rw [stepWrite_neg _ _ _ _ _ _ a]; exact ⟨rfl, rfl⟩,
   fun a b => by rw [stepWrite_rmode _ _ _ _ _ _ a b]; exact ⟨rfl, rfl⟩,
   fun a b c => by rw [stepWrite_align _ _ _ _ _ a b c]; exact ⟨rfl, rfl⟩⟩

theorem stepAny_invalid (h : H) (s : Store) (op : Op) (hv : OpInvalid h op) :
    ∃ e, e ≠ 0 ∧ (stepAny h s op).1 = { h with error := e } ∧ (stepAny h s op).2.1 = s := by
  cases op with
  | read _ ty fc n =>
    obtain ⟨e, he, e1, e2, _⟩ := invalid_read_no_effect h s ty fc n hv
    exact ⟨e, he, e1, e2⟩
  | write _ ty fc n data =>
    obtain ⟨e, he, e1, e2, _⟩ := invalid_write_no_effect h s ty fc n data hv
    exact ⟨e, he, e1, e2⟩
  | seek _ off whence =>
    obtain ⟨e, he, eq⟩ := invalid_seek_no_effect h s off whence hv
    exact ⟨e, he, by show (stepSeek h s off whence).1 = _; rw [eq], by show (stepSeek h s off whence).2.1 = _; rw [eq]⟩
  | cmdFlag _ _ _ => exact absurd hv id
  | truncate _ _ => exact absurd hv id
  | close _ => exact absurd hv id

/-- lifted to histories: any sequence of invalid read / write / seek calls, of any length, leaves the handle unchanged
    up to the error field and the store untouched (and `HInv` is preserved by *every* sequence, `Sf.HInv_reachable`
    in SfProofs/HandleOpen.lean, so valid and invalid calls may be interleaved freely around it) -/
theorem invalid_sequence_no_effect (ops : List Op) (h : H) (s : Store) (hv : ∀ op ∈ ops, OpInvalid h op) :
    ∃ e, runOps h s ops = ({ h with error := e }, s) := by
  induction ops generalizing h with
  | nil => exact ⟨h.error, rfl⟩
  | cons op ops ih =>
    obtain ⟨e, _, e1, e2⟩ := stepAny_invalid h s op (hv op (List.mem_cons_self ..))
    -- the classes do not look at the error field: the rest of the calls are invalid in the new state too
    obtain ⟨e', he'⟩ := ih { h with error := e } fun op' hop => (OpInvalid_error h e op').mpr (hv op' (List.mem_cons_of_mem _ hop))
    refine ⟨e', ?_⟩
    show runOps (stepAny h s op).1 (stepAny h s op).2.1 ops = _
    rw [e1, e2, he']

/-! ### SFC_FILE_TRUNCATE

`stepTruncate` mirrors `sf_command (SFC_FILE_TRUNCATE)`: refuse a read-only handle, refuse a virtual-I/O handle (since the
KF-C14-TRUNC-VIO repair: SF_VIRTUAL_IO has no truncate callback), then seek, compare the seek result with the requested
position, set `sf.frames`, call `psf_ftruncate`.  `h.canTruncate` is the route flag: true for path / descriptor routes. -/

/-- NEW RULE (KF-C14-TRUNC-VIO repair): on a handle without `ftruncate` (SF_VIRTUAL_IO) the command is refused for EVERY argument
    before anything is touched: it returns SF_TRUE (1), reports no error, and the handle (up to the cleared error field)
    and the store are unchanged — in particular the frame count -/
theorem truncate_vio_no_effect (h : H) (s : Store) (f : Int) (hm : h.mode ≠ .r) (hc : h.canTruncate = false) :
    stepTruncate h s f = ({ h with error := 0 }, s, { ret := 1 }) :=
  stepTruncate_vio h s f hm hc

/-- a negative frame count other than −1 is rejected without effect on a descriptor route (the command's failure value is 1) -/
theorem truncate_negative_no_effect (h : H) (s : Store) (f : Int) (hm : h.mode ≠ .r) (hc : h.canTruncate = true)
    (hf : f < 0) (hf1 : f ≠ -1) :
    stepTruncate h s f = ({ h with error := E_BAD_SEEK }, s, { ret := 1, err := E_BAD_SEEK }) :=
  stepTruncate_neg h s f hm hc hf hf1

/-- the "invalid call has no effect" statement for the command, at FULL strength (every mode, every route, every argument): a call that
    reports failure (non-zero return) leaves the whole handle unchanged up to the error field — the frame count and both
    positions included — and the store untouched.  (Before the repair this failed on virtual I/O:
    `truncate_invalid_no_effect_old_rule`.) -/
theorem truncate_invalid_no_effect (h : H) (s : Store) (f : Int) (hr : (stepTruncate h s f).2.2.ret ≠ 0) :
    ∃ e, (stepTruncate h s f).1 = { h with error := e } ∧ (stepTruncate h s f).2.1 = s ∧
      (stepTruncate h s f).1.frames = h.frames := by
  by_cases hm : h.mode = .r
  · rw [stepTruncate_rmode _ _ _ hm]; exact ⟨0, rfl, rfl, rfl⟩
  by_cases hc : h.canTruncate = true
  case neg => rw [stepTruncate_vio _ _ _ hm (by simpa using hc)]; exact ⟨0, rfl, rfl, rfl⟩
  by_cases hf : 0 ≤ f
  · rw [stepTruncate_ok _ _ _ hm hf, if_pos hc] at hr; exact absurd rfl hr
  · by_cases hf1 : f = -1
    · subst hf1; rw [stepTruncate_minus1 _ _ hm, if_pos hc] at hr; exact absurd rfl hr
    · rw [stepTruncate_neg _ _ _ hm hc (by omega) hf1]; exact ⟨E_BAD_SEEK, rfl, rfl, rfl⟩

/-- the full statement; true since the KF-C14-TRUNC-VIO repair -/
def truncate_invalid_no_effect_full : Prop :=
  ∀ (h : H) (s : Store) (f : Int), HInv h s → (stepTruncate h s f).2.2.ret ≠ 0 →
    (stepTruncate h s f).1.frames = h.frames

theorem truncate_invalid_no_effect_full_holds : truncate_invalid_no_effect_full := by
  intro h s f _ hr
  obtain ⟨_, _, _, e⟩ := truncate_invalid_no_effect h s f hr
  exact e

/-- what is still wrong (descriptor routes only): a negative frame count must be refused -/
def truncate_negative_refused_full : Prop :=
  ∀ (h : H) (s : Store) (f : Int), HInv h s → h.mode ≠ .r → f < 0 →
    (stepTruncate h s f).2.2.ret ≠ 0 ∧ (stepTruncate h s f).1.frames = h.frames

def tS : Store := { bytes := [1,0, 2,0, 3,0], pos := 0 }
/-- a 6-byte stereo 16-bit RAW file opened RDWR through virtual I/O … -/
def tH : H := { store := 0, mode := .rw, container := .raw, enc := .pcm ⟨16, false, false⟩, big := false, ch := 2,
                sr := 8000, fmtWord := 0x040002, frames := 1, wpos := 1, lastOp := .rw, haveWritten := true,
                datalength := 6, filelength := 6 }
/-- … and through a descriptor (the harness records `canTruncate` after the open) -/
def tHfd : H := { tH with canTruncate := true }
theorem tH_opened : openHandle 0 tS .rw 0x040002 2 8000 = .ok tH tS := by rfl

/-- witness (descriptor route): the request −1 equals `sf_seek`'s failure value, so the failed seek is taken for success:
    the call returns 0 (success!), the frame count becomes −1, the error left by the seek stays in the handle, and the
    file is cut at the current position — here at 0, all audio lost.  (Repaired and unrepaired library alike, descriptor
    route, same script: `ret=0 err=39`, then `frames=-1`.)  On virtual I/O the same request is refused cleanly. -/
theorem truncate_minus_one_sets_frames :
    (stepTruncate tHfd tS (-1)).2.2.ret = 0 ∧ (stepTruncate tHfd tS (-1)).1.error ≠ 0 ∧
    (stepTruncate tHfd tS (-1)).1.frames = -1 ∧ (stepTruncate tHfd tS (-1)).2.1.bytes = [] ∧
    stepTruncate tH tS (-1) = ({ tH with error := 0 }, tS, { ret := 1 }) ∧
    stepTruncate tH tS 2 = ({ tH with error := 0 }, tS, { ret := 1 }) := by
  refine ⟨by decide, by decide, by decide, by decide, by rfl, by rfl⟩

theorem truncate_negative_refused_full_fails : ¬ truncate_negative_refused_full := by
  intro hfull
  have hi : HInv tHfd tS :=
    (HInv_openHandle 0 tS .rw 0x040002 2 8000 tH tS tH_opened).of_writable (by decide) rfl rfl (by decide) (by decide) (by decide)
  exact absurd (hfull tHfd tS (-1) hi (by decide) (by decide)).1 (by decide)

/-- what holds: every negative count except −1 (`truncate_negative_no_effect`), and every count on virtual I/O
    (`truncate_vio_no_effect`) -/
theorem truncate_negative_refused_partial (h : H) (s : Store) (f : Int) (hm : h.mode ≠ .r) (hf : f < 0)
    (hx : h.canTruncate = false ∨ f ≠ -1) :
    (stepTruncate h s f).2.2.ret ≠ 0 ∧ (stepTruncate h s f).1.frames = h.frames := by
  by_cases hc : h.canTruncate = true
  case neg => rw [stepTruncate_vio _ _ _ hm (by simpa using hc)]; exact ⟨Int.one_ne_zero, rfl⟩
  rcases hx with hx | hx
  · rw [hc] at hx; cases hx
  · rw [stepTruncate_neg _ _ _ hm hc hf hx]; exact ⟨Int.one_ne_zero, rfl⟩

/-- OLD RULE (before the KF-C14-TRUNC-VIO repair, `stepTruncateOld`, virtual I/O): witness 1 — the request −1 was taken for a
    successful seek, the frame count became −1 and `psf_ftruncate` then failed: −1 with an error;
    witness 2 — `psf_ftruncate` failed *after* `sf.frames` was set, so a request of 2 frames on a 1-frame file returned −1
    with an error and left `frames = 2` -/
theorem truncate_minus_one_sets_frames_old_rule :
    (stepTruncateOld tH tS (-1)).2.2.ret = -1 ∧ (stepTruncateOld tH tS (-1)).2.2.err ≠ 0 ∧
    (stepTruncateOld tH tS (-1)).1.frames = -1 ∧
    (stepTruncateOld tH tS 2).2.2.ret = -1 ∧ (stepTruncateOld tH tS 2).2.2.err ≠ 0 ∧ (stepTruncateOld tH tS 2).1.frames = 2 := by
  decide

/-- OLD RULE: with `stepTruncateOld` the full statement failed (a failing call changed the frame count) -/
theorem truncate_invalid_no_effect_old_rule :
    ¬ (∀ (h : H) (s : Store) (f : Int), HInv h s → (stepTruncateOld h s f).2.2.ret ≠ 0 →
        (stepTruncateOld h s f).1.frames = h.frames) := by
  intro hfull
  have hi := HInv_openHandle 0 tS .rw 0x040002 2 8000 tH tS tH_opened
  exact absurd (hfull tH tS 2 hi (by decide)) (by decide)

/-- non-vacuity of `truncate_invalid_no_effect`: the three refusing classes are inhabited (read-only handle, virtual I/O,
    negative count on a descriptor route), and a successful call (which the theorem does not speak about) does change
    the frame count -/
example : (stepTruncate { tH with mode := .r } tS 0).2.2.ret ≠ 0 ∧ (stepTruncate tH tS 0).2.2.ret ≠ 0 ∧
    (stepTruncate tHfd tS (-2)).2.2.ret ≠ 0 ∧ (stepTruncate tHfd tS 0).2.2.ret = 0 ∧ (stepTruncate tHfd tS 0).1.frames = 0 := by
  decide

/-- consequence for C05: since the repair the refused command leaves the virtual-I/O handle exactly as it was, and a
    valid items read after it returns whole frames (2 items of the 1-frame file; the old rule delivered 3 of an
    inflated frame count, C05 `read_whole_frames_old_rule`) -/
example :
    let st := runOps tH tS [.truncate 0 2, .seek 0 0 0]
    (stepRead st.1 st.2 .s16 false 4).2.2.ret = 2 ∧ (stepRead st.1 st.2 .s16 false 4).2.2.err = 0 ∧
    (stepRead st.1 st.2 .s16 false 4).1.rpos = 1 ∧ (stepRead st.1 st.2 .s16 false 4).1.frames = 1 := by decide

/-- a valid read (`n > 0`) leaves error 0 in the handle and reports 0, whatever the error was before; indeed for
    `n ≠ 0` the previous error has no influence on the call at all -/
theorem read_success_clears_error (h : H) (s : Store) (ty : Ty) (fc : Bool) (n : Int) (e : Int) (hi : HInv h s)
    (hv : ReadValid h fc n) :
    (stepRead { h with error := e } s ty fc n).1.error = 0 ∧ (stepRead { h with error := e } s ty fc n).2.2.err = 0 ∧
    stepRead { h with error := e } s ty fc n = stepRead h s ty fc n := by
  have hn : n ≠ 0 := by have := hv.1; omega
  rw [read_error_irrelevant h s ty fc n e hn]
  exact ⟨(read_valid_err h s ty fc n hi hv).2, (read_valid_err h s ty fc n hi hv).1, rfl⟩

theorem write_success_clears_error (h : H) (s : Store) (ty : Ty) (fc : Bool) (n : Int) (data : List Int) (e : Int)
    (hi : HInv h s) (hv : WriteValid h fc n) :
    (stepWrite { h with error := e } s ty fc n data).1.error = 0 ∧
    (stepWrite { h with error := e } s ty fc n data).2.2.err = 0 ∧
    stepWrite { h with error := e } s ty fc n data = stepWrite h s ty fc n data := by
  have hn : n ≠ 0 := by have := hv.1; omega
  rw [write_error_irrelevant h s ty fc n data e hn]
  obtain ⟨_, a, b, _⟩ := write_contract_valid h s ty fc n data hi hv
  exact ⟨b, a, rfl⟩

/-- `sf_seek` ignores the previous error; when it succeeds (does not return −1 with an error) the error is 0 -/
theorem seek_success_clears_error (h : H) (s : Store) (off whence : Int) (e : Int) :
    stepSeek { h with error := e } s off whence = stepSeek h s off whence ∧
    ((stepSeek h s off whence).2.2.err = 0 → (stepSeek h s off whence).1.error = 0) := by
  refine ⟨rfl, fun hok => ?_⟩
  rcases seek_result_any h s off whence with ⟨_, hne, _⟩ | ⟨_, _, _, _, he, _⟩
  · exact absurd hok hne
  · exact he

/-- the flag commands always succeed and leave error 0 -/
theorem cmd_flag_clears_error (h : H) (s : Store) (cmd : Nat) (size : Int) :
    (stepCmdFlag h s cmd size).1.error = 0 ∧ (stepCmdFlag h s cmd size).2.2.err = 0 := by
  obtain ⟨cv, ah, ⟨fl, dl, off, e, _⟩, he, _⟩ := stepCmdFlag_fields h s cmd size
  exact ⟨by rw [e], he⟩

/-! ### the special case `n = 0`

`sf_read_* (f, p, 0)` / `sf_write_* (f, p, 0)` return 0 before the handle is looked at: the call neither validates
the mode nor clears the error. -/

theorem zero_count_returns_early (h : H) (s : Store) (ty : Ty) (fc : Bool) (data : List Int) :
    stepRead h s ty fc 0 = (h, s, { ret := 0, err := h.error }) ∧
    stepWrite h s ty fc 0 data = (h, s, { ret := 0, err := h.error }) :=
  ⟨stepRead_zero h s ty fc, stepWrite_zero h s ty fc data⟩

/-- the full statement: every call that is not invalid leaves error 0 (here for reads with `n ≥ 0`) -/
def success_clears_error_full : Prop :=
  ∀ (h : H) (s : Store) (ty : Ty) (fc : Bool) (n : Int), HInv h s →
    0 ≤ n → h.mode ≠ .w → (fc = true ∨ n % (h.ch : Int) = 0) → (stepRead h s ty fc n).1.error = 0

/-- what holds: `n ≠ 0` -/
theorem success_clears_error_partial (h : H) (s : Store) (ty : Ty) (fc : Bool) (n : Int) (hi : HInv h s)
    (hn : 0 ≤ n) (hn0 : n ≠ 0) (hm : h.mode ≠ .w) (ha : fc = true ∨ n % (h.ch : Int) = 0) :
    (stepRead h s ty fc n).1.error = 0 :=
  (read_valid_err h s ty fc n hi ⟨by omega, hm, ha⟩).2

def eS : Store := { bytes := [1,0, 2,0, 3,0, 4,0], pos := 0 }
def eH : H := { store := 0, mode := .r, container := .raw, enc := .pcm ⟨16, false, false⟩, big := false, ch := 2,
                sr := 8000, fmtWord := 0x040002, frames := 2, lastOp := .r, datalength := 8, filelength := 8 }
theorem eH_opened : openHandle 0 eS .r 0x040002 2 8000 = .ok eH eS := by rfl

/-- witness: the read-only handle `eH`, a failed seek (error set), then a zero-length read: the error stays -/
theorem success_clears_error_full_fails : ¬ success_clears_error_full := by
  intro hfull
  have hi := HInv_reachable 0 eS .r 0x040002 2 8000 eH eS eH_opened [.seek 0 9 0]
  exact absurd (hfull _ _ .s16 true 0 hi (by decide) (by decide) (Or.inl rfl)) (by decide)

example : ReadInvalid eH false 3 ∧ ReadInvalid eH true (-1) ∧ WriteInvalid eH true 1 ∧
    SeekInvalid eH 0 7 ∧ SeekInvalid eH 3 0 ∧ SeekInvalid eH 0 0x20 := by
  refine ⟨by unfold ReadInvalid; decide, by unfold ReadInvalid; decide, by unfold WriteInvalid; decide,
    Or.inl (by unfold seekKnown; decide), Or.inr (Or.inr ⟨0, by decide, by unfold seekIsTell; decide, by decide⟩),
    Or.inr (Or.inl (by decide))⟩
example : (stepRead eH eS .s16 false 3).2.2.err = E_BAD_ALIGN ∧ (stepSeek eH eS 3 0).2.2.ret = -1 ∧
    (stepSeek eH eS 0 7).2.2.err = E_BAD_SEEK ∧ (stepSeek eH eS 0 0x20).2.2.err = E_WRONG_SEEK ∧
    (stepRead (stepSeek eH eS 3 0).1 (stepSeek eH eS 3 0).2.1 .s16 true 1).1.error = 0 := by decide

end Sf.C09
