/-
  C18, stale PEAK chunks.  The PEAK bookkeeping of libsndfile only ever grows: seeking back in a write session and overwriting the
  loudest frame, overwriting it through an SFM_RDWR handle, or truncating it away leaves a PEAK chunk that no longer describes the
  stored samples — and files from other software carry whatever their writer put there.  The statement asks of SFC_CALC_* "the true
  maximum absolute value of the stored samples"; SFC_GET_SIGNAL_MAX / SFC_GET_MAX_ALL_CHANNELS are the commands that report the
  header.  In the model the scan is `Sf.Peak.stepCalc` (save, rewind, read to the end, seek back, restore); the
  theorems say that it never looks at the PEAK state, and run the legitimate history "write 1.0, 0.25 — seek back — write 0.5 — close"
  on a mono float WAV: SFC_GET_SIGNAL_MAX after re-open reports the chunk's 1.0, SFC_CALC_SIGNAL_MAX the true maximum 0.5.
  (vlib/c18stale.py is the campaign: overwrite in write mode, overwrite and truncate through SFM_RDWR, PEAK chunk patched in the file.)
-/
import SfProofs.PeakStale
namespace Sf.C18Stale
open Sf Sf.Peak

/-- **SFC_CALC_* never look at the PEAK chunk**: replace the handle's PEAK state by anything; values, store and (up to that state)
    handle after the command are the same. -/
theorem calc_ignores_peak_chunk (h : H) (s : Store) (normalize : Bool) (p : Option (List Sf.Peak)) :
    (stepCalc (withPeak h p) s normalize).2.2.sig = (stepCalc h s normalize).2.2.sig ∧
    (stepCalc (withPeak h p) s normalize).2.2.all = (stepCalc h s normalize).2.2.all ∧
    (stepCalc (withPeak h p) s normalize).2.1 = (stepCalc h s normalize).2.1 ∧
    (stepCalc (withPeak h p) s normalize).1 = withPeak (stepCalc h s normalize).1 p := by
  have e := stepCalc_peak h s normalize p
  -- the two runs are named before `e` is used, so that no step looks inside `stepCalc`
  generalize stepCalc (withPeak h p) s normalize = x at e ⊢
  generalize stepCalc h s normalize = y at e ⊢
  subst e
  exact ⟨rfl, rfl, rfl, rfl⟩

/-- two handles on the same file that agree on everything but the PEAK state get the same four answers -/
theorem calc_same_whatever_the_chunk (h1 h2 : H) (s : Store) (normalize : Bool) (he : withPeak h1 none = withPeak h2 none) :
    (stepCalc h1 s normalize).2.2.sig = (stepCalc h2 s normalize).2.2.sig ∧
    (stepCalc h1 s normalize).2.2.all = (stepCalc h2 s normalize).2.2.all := by
  have a := calc_ignores_peak_chunk h1 s normalize none
  have b := calc_ignores_peak_chunk h2 s normalize none
  rw [he] at a
  exact ⟨a.1.symm.trans b.1, a.2.1.symm.trans b.2.1⟩

/-- open a mono FLOAT WAV for writing, write [1.0, 0.25], seek back to frame 0, write [0.5], close -/
def staleFile : Option Store :=
  match openHandle 0 {} .w 0x010006 1 8000 with
  | .ok h s =>
    let a := stepWrite h s .f32 false 2 [0x3F800000, 0x3E800000]
    let b := stepSeek a.1 a.2.1 0 0
    let c := stepWrite b.1 b.2.1 .f32 false 1 [0x3F000000]
    some (closeHandle c.1 c.2.1)
  | _ => none

/-- (SFC_GET_SIGNAL_MAX after re-open, SFC_CALC_SIGNAL_MAX, SFC_CALC_MAX_ALL_CHANNELS, read position afterwards) -/
def staleAnswers : Option (Nat × Nat × List Nat × Int) :=
  match staleFile with
  | some s =>
    (match openHandle 0 s .r 0 0 0 with
     | .ok h s =>
       let r := stepCalc h s false
       some ((h.peak.map getSignalMax).getD 0, r.2.2.sig, r.2.2.all.1, r.1.rpos)
     | _ => none)
  | none => none

/-- the chunk says 1.0 (0x3FF0…), the stored samples are 0.5 and 0.25: CALC answers 0.5 (0x3FE0…), GET answers the chunk -/
theorem stale_peak_by_overwrite :
    staleAnswers = some (0x3FF0000000000000, 0x3FE0000000000000, [0x3FE0000000000000], 0) := by decide +kernel

/-- non-vacuity of `calc_same_whatever_the_chunk`: the re-opened handle (which has a PEAK state), the same handle told "no PEAK chunk" and told "2.0 at frame 1" -/
example : (match staleFile with
    | some s => (match openHandle 0 s .r 0 0 0 with
       | .ok h s => h.peak.isSome && decide ((stepCalc (withPeak h none) s false).2.2.sig = 0x3FE0000000000000) &&
                    decide ((stepCalc (withPeak h (some [{ value := 0x4000000000000000, position := 1 }])) s true).2.2.sig = 0x3FE0000000000000)
       | _ => false)
    | none => false) = true := by decide +kernel

end Sf.C18Stale
