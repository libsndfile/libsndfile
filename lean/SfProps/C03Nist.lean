-- properties: C03
/-
  C03 — NIST / SPHERE files shorter than the 1024-byte header (model SfModel/Nist.lean).

  nist_read_header reads the header into `char psf_header [NIST_HEADER_LENGTH + 2]`, a stack array, with
  `psf_binheader_readf (psf, "pb", 0, psf_header, NIST_HEADER_LENGTH)`.  The 'b' conversion clears the destination
  before it calls header_read, and header_read copies nothing when the file ends early: the parser then works on 1024
  NUL bytes, never on what the stack held (checked under valgrind memcheck by vlib/vgcheck.py at every truncation
  point).  The verdict for a short file is therefore the same refusal whatever bytes are present.
-/
import SfModel.Nist
namespace Sf.C03Nist
open Sf Sf.Small2 Sf.Nist

/-- a file that is recognised as NIST and ends before the header does is refused -/
theorem nist_parse_short_file (bs : List Byte) (hs : bs.length < 1024) (hg : guess bs = some (.fmt 0x070000)) :
    parse bs = .err := by
  unfold parse
  split
  · rfl
  · rw [hg]
    simp [readHeader, hs]

/-- the verdict for a short file is a function of the bytes present — the constant one: two short NIST files get the
    same answer, nothing but the file takes part in it -/
theorem nist_short_file_verdict_fixed (bs bs' : List Byte) (hs : bs.length < 1024) (hs' : bs'.length < 1024)
    (hg : guess bs = some (.fmt 0x070000)) (hg' : guess bs' = some (.fmt 0x070000)) : parse bs = parse bs' := by
  rw [nist_parse_short_file bs hs hg, nist_parse_short_file bs' hs' hg']

theorem nist_readHeader_short (bs : List Byte) (hs : bs.length < 1024) : readHeader bs = .err := by
  simp [readHeader, hs]

example : guess (asc "NIST_1A\n   1024\nchannel_count -i 2\n") = some (.fmt 0x070000) ∧
    parse (asc "NIST_1A\n   1024\nchannel_count -i 2\n") = .err := by decide +kernel

end Sf.C03Nist
