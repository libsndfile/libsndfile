-- properties: C05 C06 C07
/-
  Codec-level facts about the G.721 / G.723 core (src/G72x/*.c) on the bit-exact model SfModel/G72x.lean — what makes
  the block-level theorems of C06G72x / C07G72x meaningful, and the C03-style memory safety of the codec core proved
  rather than observed.  Helpers in SfProofs/G72x.lean, G72xInv.lean, G72xPack.lean.

  * `g72x_tables_extracted`  the transcribed tables and the block geometry equal the arrays extracted by execution
  * `g72x_state_inv`         every state reachable from `private_init_state` by encoding any samples / decoding any codes:
                             544 ≤ yu ≤ 5120, 34816 ≤ yl ≤ 327680 (the C `long` never overflows), 0 ≤ ap ≤ 512,
                             |a[1]| ≤ 12288 and |a[0]| ≤ 15360 − a[1] (LIMC / LIMD: the stable region of the pole predictor), six b / dq
  * `g72x_step_size_range`   544 ≤ y ≤ 5120 in every reachable state
  * `g72x_encode_safe`, `g72x_decode_safe`   in every reachable state, for every input sample / every code byte: the index into
                             `_dqlntab`, `_witab`, `_fitab` is inside the table, the ANTILOG shift count 14 − dex is in [0, 14],
                             the TRANS shift count `ylint` is in [1, 10]
  * `g72x_fmult_shifts`, `g72x_quantize_shift`, `g72x_float_shifts`   the other variable shift counts are in [0, 31] for ANY arguments
  * `g72x_code_range`        encoder output code < 2^bits (so `pack_bytes` ORs disjoint fields)
  * `g72x_decoder_short`     every decoded value is a C `short` (the decoder never leaves the 16-bit range: the `<< 2` of the
                             14-bit reconstruction is stored into a `short`, the model's `s16`)
  * `g72x_pack_unpack`       `unpack (pack codes) = codes` for whole blocks, ∀ rate
  * `g72x_block_roundtrip`   decoding an encoded block runs the per-sample decoder over exactly the encoder's codes
  * `g72x_decoder_tracks_encoder`   (rates with `seInt = false`: all four of the tree) fed the encoder's code, the decoder lands
                             in the encoder's state
-/
import SfProofs.G72xInv
import SfProofs.G72xPack
import SfModel.Generated.G72xTables
namespace Sf.C05G72x
open Sf Sf.G72x Sf.G72x.Proofs

/-- **tables by execution**: the model's transcribed tables (quantizer levels, log-domain reconstruction levels, scale
    factor multipliers, speed-control weights of the four rates, `power2`) and block geometry are the static arrays of the
    tree under test, as printed by a program that #includes its sources (lean/SfModel/Generated/G72xTables.lean is
    regenerated on every run) -/
theorem g72x_tables_extracted :
    g721.qtab = Generated.G72x.g721_qtab ∧ g721.dqlntab = Generated.G72x.g721_dqlntab ∧
    g721.witab = Generated.G72x.g721_witab ∧ g721.fitab = Generated.G72x.g721_fitab ∧
    g723_16.qtab = Generated.G72x.g723_16_qtab ∧ g723_16.dqlntab = Generated.G72x.g723_16_dqlntab ∧
    g723_16.witab = Generated.G72x.g723_16_witab ∧ g723_16.fitab = Generated.G72x.g723_16_fitab ∧
    g723_24.qtab = Generated.G72x.g723_24_qtab ∧ g723_24.dqlntab = Generated.G72x.g723_24_dqlntab ∧
    g723_24.witab = Generated.G72x.g723_24_witab ∧ g723_24.fitab = Generated.G72x.g723_24_fitab ∧
    g723_40.qtab = Generated.G72x.g723_40_qtab ∧ g723_40.dqlntab = Generated.G72x.g723_40_dqlntab ∧
    g723_40.witab = Generated.G72x.g723_40_witab ∧ g723_40.fitab = Generated.G72x.g723_40_fitab ∧
    power2 = Generated.G72x.power2 ∧
    [(blockSamples : Int), g723_16.blockBytes, g723_24.blockBytes, g721.blockBytes, g723_40.blockBytes] = Generated.G72x.geometry := by
  decide

/-- the states the C can be in: `private_init_state`, then any mix of encoder and decoder steps on any inputs -/
inductive Reachable (r : Rate) : St → Prop
  | init : Reachable r St.init
  | enc (st : St) (x : Int) : Reachable r st → Reachable r (encode r st x).1
  | dec (st : St) (c : Int) : Reachable r st → Reachable r (decode r st c).1

/-- **state invariant**, ∀ rates (any tables), ∀ histories -/
theorem g72x_state_inv (r : Rate) (st : St) (h : Reachable r st) : Inv st := by
  induction h with
  | init => exact init_inv_st
  | enc st x _ ih => exact update_inv _ _ _ _ _ _ _ st ih
  | dec st c _ ih => exact update_inv _ _ _ _ _ _ _ st ih

theorem g72x_step_size_range (r : Rate) (st : St) (h : Reachable r st) : 544 ≤ stepSize st ∧ stepSize st ≤ 5120 :=
  stepSize_range st (g72x_state_inv r st h)

/-- everything state-dependent that one encoder / decoder step indexes or shifts by, for the code `i` -/
structure StepSafe (r : Rate) (st : St) (i : Int) : Prop where
  idx   : 0 ≤ i ∧ i < r.dqlntab.length ∧ i < r.witab.length ∧ i < r.fitab.length
  dex   : 0 ≤ s16 (tabAt r.dqlntab i + shr (s16 (stepSize st)) 2) →
            0 ≤ 14 - s16 ((shr (s16 (tabAt r.dqlntab i + shr (s16 (stepSize st)) 2)) 7) % 16) ∧
            14 - s16 ((shr (s16 (tabAt r.dqlntab i + shr (s16 (stepSize st)) 2)) 7) % 16) ≤ 14
  ylint : 1 ≤ s16 (shr st.yl 15) ∧ s16 (shr st.yl 15) ≤ 10

theorem step_safe (r : Rate) (v : ValidRate r) (st : St) (h : Reachable r st) (i : Int) (h0 : 0 ≤ i) (h1 : i < 2 ^ r.bits) :
    StepSafe r st i := by
  have inv := g72x_state_inv r st h
  have hy := stepSize_range st inv
  have hpow : ((2 : Int) ^ r.bits) = ((2 ^ r.bits : Nat) : Int) := by norm_cast
  rw [hpow] at h1
  have hl : i < r.dqlntab.length := by rw [v.dqln]; exact h1
  refine ⟨⟨h0, hl, by rw [v.wi]; exact h1, by rw [v.fi]; exact h1⟩, ?_, trans_shift_count st inv⟩
  rw [s16_id (stepSize st) (by omega) (by omega)]
  exact reconstruct_shift_count _ _ hy (v.rng _ (tabAt_mem _ i h0 hl))

/-- **encoder step**: for every reachable state and EVERY input sample -/
theorem g72x_encode_safe (r : Rate) (v : ValidRate r) (st : St) (h : Reachable r st) (x : Int) : StepSafe r st (encode r st x).2 := by
  have hc := encode_code_range r v st x
  exact step_safe r v st h _ hc.1 hc.2

/-- **decoder step**: for every reachable state and EVERY code word (`i &= mask`) -/
theorem g72x_decode_safe (r : Rate) (v : ValidRate r) (st : St) (h : Reachable r st) (c : Int) : StepSafe r st (c % 2 ^ r.bits) := by
  have hp : (0 : Int) < 2 ^ r.bits := Int.pow_pos (by omega)
  exact step_safe r v st h _ (Int.emod_nonneg _ (by omega)) (Int.emod_lt_of_pos _ hp)

/-- the four rates of the codec directory are valid (tables of 2^bits entries, quantizer of 2^(bits−1) − 1 levels) -/
theorem g72x_rates_valid : ValidRate g721 ∧ ValidRate g723_16 ∧ ValidRate g723_24 ∧ ValidRate g723_40 :=
  ⟨valid_g721, valid_g723_16, valid_g723_24, valid_g723_40⟩

/-- `fmult`: `anmag >> anexp` / `anmag << -anexp` and `wanmant << wanexp` / `wanmant >> -wanexp` -/
theorem g72x_fmult_shifts (an srn : Int) :
    let anmag := s16 (if an > 0 then an else (-an) % 8192)
    let anexp := s16 (quan anmag power2 - 6)
    let wanexp := s16 (anexp + (shr srn 6) % 16 - 13)
    (if anexp ≥ 0 then okShift anexp else okShift (-anexp)) ∧ (if wanexp ≥ 0 then okShift wanexp else okShift (-wanexp)) := by
  intro anmag anexp wanexp
  have hq := quan_power2 anmag
  have he : anexp = quan anmag power2 - 6 := s16_id _ (by omega) (by omega)
  have hm : 0 ≤ (shr srn 6) % 16 ∧ (shr srn 6) % 16 ≤ 15 := by omega
  have hw : wanexp = anexp + (shr srn 6) % 16 - 13 := s16_id _ (by omega) (by omega)
  unfold okShift
  constructor
  · split <;> omega
  · split <;> omega

/-- `quantize`: `(dqm << 7) >> expon` -/
theorem g72x_quantize_shift (d : Int) : okShift (s16 (quan (shr (s16 (d.natAbs : Int)) 1) power2)) := by
  have hq := quan_power2 (shr (s16 (d.natAbs : Int)) 1)
  rw [s16_id _ (by omega) (by omega)]
  unfold okShift; omega

/-- `update` FLOAT A / FLOAT B: `(mag << 6) >> expon` -/
theorem g72x_float_shifts (mag : Int) : okShift (quan mag power2) := by
  have hq := quan_power2 mag
  unfold okShift; omega

theorem g72x_code_range (r : Rate) (v : ValidRate r) (st : St) (x : Int) :
    0 ≤ (encode r st x).2 ∧ (encode r st x).2 < 2 ^ r.bits := encode_code_range r v st x

theorem g72x_codes_range (r : Rate) (v : ValidRate r) : ∀ (xs : List Int) (st : St), ∀ c ∈ (encodeList r st xs).2, c < 2 ^ r.bits := by
  intro xs
  induction xs with
  | nil => intro st c hc; simp [encodeList] at hc
  | cons x xs ih =>
    intro st c hc
    simp only [encodeList] at hc
    rcases List.mem_cons.mp hc with h | h
    · have := encode_code_range r v st x
      rw [h]
      have hpow : ((2 : Int) ^ r.bits) = ((2 ^ r.bits : Nat) : Int) := by norm_cast
      rw [hpow] at this
      omega
    · exact ih _ c h

theorem g72x_decoder_short (r : Rate) (st : St) (c : Int) : -32768 ≤ (decode r st c).2 ∧ (decode r st c).2 ≤ 32767 :=
  decode_range r st c

/-- **pack / unpack round trip**, whole blocks, every code width the packer is used with -/
theorem g72x_pack_unpack (bits : Nat) (hb1 : 1 ≤ bits) (hb : bits ≤ 8) (codes : List Nat) (hl : codes.length = blockSamples)
    (hc : ∀ c ∈ codes, c < 2 ^ bits) : unpack bits (pack bits codes) = codes := by
  unfold unpack pack
  obtain ⟨p1, p2, p3⟩ := pack_value bits hb codes 0 0 (by decide) (by decide) hc
  have hlen := packLoop_length bits hb codes 0 0 (by decide)
  rw [hl] at p3 hlen
  have hz : (0 + bits * blockSamples) % 8 = 0 := by simp only [blockSamples]; omega
  rw [hz] at p3
  rw [p3] at p2
  have he : (packEnd bits 0 0 codes).1 = 0 := by omega
  rw [he] at p1
  simp only [Nat.mul_zero, Nat.add_zero, Nat.zero_add, Nat.pow_zero, Nat.one_mul] at p1
  rw [unpack_value bits hb blockSamples 0 0 _ (by decide) (packLoop_bytes bits codes 0 0)
    (by rw [hlen]; simp only [blockSamples]; omega)]
  simp only [Nat.zero_add, Nat.pow_zero, Nat.one_mul]
  rw [p1, ← hl]
  exact digits_valC bits codes hc

/-- decoding an encoded block is the per-sample decoder run over exactly the encoder's codes -/
theorem g72x_block_roundtrip (r : Rate) (v : ValidRate r) (se sd : St) (xs : List Int) (hl : xs.length = blockSamples) :
    decodeBlock r sd (encodeBlock r se xs).2 = decodeList r sd (encodeList r se xs).2 := by
  simp only [decodeBlock, encodeBlock]
  rw [g72x_pack_unpack r.bits (by have := v.bits; omega) (by have := v.bits; omega) _ (by rw [encodeList_length, hl])
    (g72x_codes_range r v xs se)]

/-- Rates whose encoder forms `se` through the `short sei` as the decoder does (`seInt = false`: G.721 and the three G.723
    rates of the tree; only `g721Old` is excluded): fed the code the encoder just produced, the decoder makes the very same
    state transition — encoder and decoder states stay equal sample by sample -/
theorem g72x_decoder_tracks_encoder (r : Rate) (v : ValidRate r) (hs : r.seInt = false) (st : St) (x : Int) :
    (decode r st (encode r st x).2).1 = (encode r st x).1 := by
  have hc := encode_code_range r v st x
  have hm : (encode r st x).2 % 2 ^ r.bits = (encode r st x).2 := Int.emod_eq_of_lt hc.1 hc.2
  simp only [decode, hm]
  simp only [encode, hs]
  rfl

/-- non-vacuity: two full-scale samples through G.721 give a reachable state; one block (120 samples) of a full-scale square
    wave encodes to 60 bytes, and a block of 4-bit codes packs and unpacks to itself; a G.723-24 decoder step tracks the encoder -/
example : Reachable g721 (encode g721 (encode g721 St.init 32767).1 (-32768)).1 := .enc _ _ (.enc _ _ .init)
example : (encodeBlock g721 St.init ((List.range 120).map fun i => if i % 2 = 0 then (32767 : Int) else -32768)).2.length = 60 ∧
    unpack 4 (pack 4 ((List.range 120).map fun i => i % 16)) = (List.range 120).map fun i => i % 16 := by decide +kernel
example : (decode g723_24 St.init (encode g723_24 St.init 12345).2).1 = (encode g723_24 St.init 12345).1 := by decide +kernel

end Sf.C05G72x
