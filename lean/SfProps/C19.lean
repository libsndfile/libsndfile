/-
  C19 — handles are isolated from each other and from earlier library use.

  Model: SfModel/World.lean (`Sf.World.wstep`: slot table, stores, process-wide state written where the C writes it).
  The lemmas about `wstep` are in SfProofs/World.lean; here the property theorems, the three facts about `proj` / `tag` they
  need, and the worlds of the non-vacuity examples.  All statements are universal: any number of slots, any
  operations, histories of any length, arbitrary store contents.

  Vocabulary (`Owned`, `Scoped`, `Agree`, `view`, `proj` are defined in SfProofs/World.lean, `mask` in the model).
  `owner : Nat → Nat` assigns every store to the one slot that may use it ("each handle on its own
  backing store"); `Scoped owner ev` says an open names a store of the calling slot; `Owned owner w` says every live
  handle of `w` is bound to a store of its slot.  `mask` replaces what a call made with a NULL handle shows of the
  process-wide state (`sf_error (NULL)`, `sf_strerror (NULL)`, `sf_command (NULL, SFC_GET_LOG_INFO)`) by a fixed token:
  these are the outputs the property statement does not speak about (they are not results of a handle).
-/
import SfProofs.World
namespace Sf.C19
open Sf Sf.World

/-- a call on slot `i` changes no field of any other slot's handle (nor its unique id), and no byte or position of
    any store other than the one it is bound to / opens -/
theorem step_frame (w : W) (i : Nat) (op : WOp) :
    (∀ j, j ≠ i → (wstep w (i, op)).1.handles j = w.handles j ∧ (wstep w (i, op)).1.uids j = w.uids j) ∧
    (∀ k, touched (w.handles i) op ≠ some k → (wstep w (i, op)).1.stores k = w.stores k) :=
  ⟨fun j hj => ⟨wstep_handles_frame w i op j hj, wstep_uids_frame w i op j hj⟩,
   fun k hk => wstep_stores_frame w i op k hk⟩

/-- … and reads nothing of them: in two worlds that agree on slot `i` and on the store the call reaches — and on
    nothing else: other slots, other stores and the process-wide state are arbitrary — the call returns the same
    (masked) output and leaves the same handle and the same store; with equal process-wide state the outputs are equal
    without the mask and the new process-wide state is equal too -/
theorem step_local (w w' : W) (i : Nat) (op : WOp)
    (hh : w.handles i = w'.handles i)
    (hs : ∀ k, touched (w.handles i) op = some k → w.stores k = w'.stores k) :
    (wstep w (i, op)).1.handles i = (wstep w' (i, op)).1.handles i ∧
    (∀ k, touched (w.handles i) op = some k → (wstep w (i, op)).1.stores k = (wstep w' (i, op)).1.stores k) ∧
    mask (wstep w (i, op)).2 = mask (wstep w' (i, op)).2 ∧
    (w.g = w'.g → (wstep w (i, op)).2 = (wstep w' (i, op)).2 ∧ (wstep w (i, op)).1.g = (wstep w' (i, op)).1.g) :=
  wstep_local w w' i op hh hs

/-- the error state of a handle is not changed by a call on another handle: `sf_error (h_j)` asked after any call on
    slot `i ≠ j` answers what it would have answered before -/
theorem error_state_isolated (w : W) (i j : Nat) (op : WOp) (hj : j ≠ i) (h : H) (hl : w.handles j = some h) :
    (wstep (wstep w (i, op)).1 (j, .herror)).2 = .err h.error ∧ (wstep w (j, .herror)).2 = .err h.error := by
  have e : (wstep w (i, op)).1.handles j = some h := by rw [wstep_handles_frame w i op j hj, hl]
  exact ⟨wstep_herror_live _ j h e, wstep_herror_live w j h hl⟩

def isNullOut : WOut → Bool
  | .nullCall _ | .nullErr _ | .nullLog _ => true
  | _ => false

/-- the mask hides nothing else: two outputs that agree under the mask are equal, or both are results of a call made
    with a NULL handle -/
theorem mask_only_null (o o' : WOut) (h : mask o = mask o') : o = o' ∨ (isNullOut o = true ∧ isNullOut o' = true) := by
  -- the mask keeps the kind of an output, and is the identity on every kind but the three NULL-handle ones
  have kind : ∀ x, isNullOut (mask x) = isNullOut x := fun x => by cases x <;> rfl
  have fix : ∀ x, isNullOut x = false → mask x = x := fun x hx => by cases x <;> first | rfl | cases hx
  have hk : isNullOut o' = isNullOut o := by rw [← kind o', ← h, kind o]
  cases hn : isNullOut o with
  | true => exact Or.inr ⟨rfl, hk.trans hn⟩
  | false => exact Or.inl (by rw [← fix o hn, h, fix o' (hk.trans hn)])

/-- the process-wide state (sf_errno, sf_parselog, sf_syserr, the random seed, the float capability statics) influences
    nothing per-handle: run the same history — any history — from two worlds that differ only in that state; every
    slot ends with the same handle, every store with the same bytes and position, and the transcripts are equal line
    by line except inside the results of NULL-handle calls -/
theorem globals_only_null (evs : List Ev) (w w' : W) (hh : ∀ i, w.handles i = w'.handles i) (hs : ∀ k, w.stores k = w'.stores k) :
    (∀ i, (run w evs).1.handles i = (run w' evs).1.handles i) ∧
    (∀ k, (run w evs).1.stores k = (run w' evs).1.stores k) ∧
    (run w evs).2.map (fun x => (x.1, mask x.2)) = (run w' evs).2.map (fun x => (x.1, mask x.2)) := by
  obtain ⟨⟨a, b⟩, c⟩ := SameLocal_run evs w w' ⟨hh, hs⟩
  exact ⟨a, b, c⟩

/-- for EVERY history `evs` of calls by any number of slots, each on stores of its own (that is: for every merge of
    per-handle scripts), slot `i` gets the transcript, the final handle and the final store bytes of the run in which
    only its own calls `proj i evs` are made.  (The solo run starts from the same world `w`; `history_irrelevant`
    below removes even that.) -/
theorem interleaving_irrelevant (owner : Nat → Nat) (evs : List Ev) (w : W) (ho : Owned owner w)
    (hsc : ∀ ev ∈ evs, Scoped owner ev) (i : Nat) :
    view i (run w evs).2 = view i (run w (proj i evs)).2 ∧
    (run w evs).1.handles i = (run w (proj i evs)).1.handles i ∧
    (∀ k, owner k = i → (run w evs).1.stores k = (run w (proj i evs)).1.stores k) := by
  obtain ⟨⟨_, _, a, b⟩, c⟩ := run_project owner i evs w w ho ho hsc (Agree.refl owner i w)
  exact ⟨c, a, b⟩

/-- `evs` is a merge of the per-slot scripts `parts` -/
def IsMerge (parts : Nat → List WOp) (evs : List Ev) : Prop := ∀ i, (proj i evs).map (·.2) = parts i

/-- the slot's own script, tagged -/
def tag (i : Nat) (ops : List WOp) : List Ev := ops.map (fun op => (i, op))

theorem proj_eq_tag (i : Nat) (evs : List Ev) : proj i evs = tag i ((proj i evs).map (·.2)) := by
  unfold tag
  rw [List.map_map]
  refine (List.map_id _).symm.trans (List.map_congr_left fun ev hev => ?_)
  rw [← beq_iff_eq.mp (List.mem_filter.mp hev).2]
  rfl

/-- the same, phrased with scripts: whatever the merge, slot `i` sees what it sees when its script runs alone -/
theorem every_merge_equals_solo (owner : Nat → Nat) (parts : Nat → List WOp) (evs : List Ev) (hm : IsMerge parts evs)
    (w : W) (ho : Owned owner w) (hsc : ∀ ev ∈ evs, Scoped owner ev) (i : Nat) :
    view i (run w evs).2 = view i (run w (tag i (parts i))).2 ∧
    (run w evs).1.handles i = (run w (tag i (parts i))).1.handles i ∧
    (∀ k, owner k = i → (run w evs).1.stores k = (run w (tag i (parts i))).1.stores k) := by
  have e : proj i evs = tag i (parts i) := by rw [proj_eq_tag, hm i]
  rw [← e]
  exact interleaving_irrelevant owner evs w ho hsc i

theorem proj_tag (i : Nat) (script : List WOp) : proj i (tag i script) = tag i script :=
  List.filter_eq_self.mpr fun ev hev => by
    obtain ⟨op, _, rfl⟩ := List.mem_map.mp hev
    exact beq_self_eq_true i

theorem proj_none (i : Nat) (evs : List Ev) (h : ∀ ev ∈ evs, ev.1 ≠ i) : proj i evs = [] :=
  List.filter_eq_nil_iff.mpr fun ev hev => by simpa using h ev hev

/-- a slot's behaviour does not depend on the world's earlier history: take two worlds produced by any two histories —
    other handles open or not, process-wide state arbitrary — that agree only on slot `i` itself (e.g. it is empty in
    both) and on the bytes of slot `i`'s stores.  Any script of slot `i` then produces the same transcript (up to the
    NULL-handle outputs), the same final handle and the same final store bytes in both. -/
theorem history_irrelevant (owner : Nat → Nat) (i : Nat) (script : List WOp) (w w' : W) (ho : Owned owner w) (ho' : Owned owner w')
    (hsc : ∀ op ∈ script, Scoped owner (i, op)) (ha : Agree owner i w w') :
    view i (run w (tag i script)).2 = view i (run w' (tag i script)).2 ∧
    Agree owner i (run w (tag i script)).1 (run w' (tag i script)).1 := by
  have hp : proj i (tag i script) = tag i script := proj_tag i script
  have hs : ∀ ev ∈ tag i script, Scoped owner ev := by
    intro ev he
    simp only [tag, List.mem_map] at he
    obtain ⟨op, hop, rfl⟩ := he
    exact hsc op hop
  obtain ⟨⟨_, _, a⟩, c⟩ := run_project owner i (tag i script) w w' ho ho' hs ha
  rw [hp] at a c
  exact ⟨c, a⟩

/-- in particular a prelude of any length made by other slots (opens, failing opens, every codec, closes) changes
    nothing for a script that follows it -/
theorem prelude_irrelevant (owner : Nat → Nat) (i : Nat) (prelude : List Ev) (script : List WOp) (w : W) (ho : Owned owner w)
    (hpre : ∀ ev ∈ prelude, Scoped owner ev ∧ ev.1 ≠ i) (hsc : ∀ op ∈ script, Scoped owner (i, op)) :
    view i (run (run w prelude).1 (tag i script)).2 = view i (run w (tag i script)).2 ∧
    Agree owner i (run (run w prelude).1 (tag i script)).1 (run w (tag i script)).1 := by
  -- none of the prelude's calls is slot `i`'s: from slot `i` the world after it looks like `w`
  obtain ⟨⟨ho1, _, ha⟩, _⟩ := run_project owner i prelude w w ho ho (fun ev he => (hpre ev he).1) (Agree.refl owner i w)
  rw [proj_none i prelude (fun ev he => (hpre ev he).2)] at ha
  exact history_irrelevant owner i script _ w ho1 ho hsc ha

/-! ## non-vacuity: concrete worlds on which the hypotheses hold and the conclusions say something -/

/-- what a transcript line shows: (return value, error number) -/
def shown : WOut → Int × Int
  | .call o => (o.ret, o.err)
  | .nullCall o => (o.ret, o.err)
  | .opened h => (1, h.error)
  | .openFailed => (0, 1)
  | .info h => (0, h.frames)
  | .closed => (0, 0)
  | .err e => (0, e)
  | .nullErr e => (0, e)
  | .nullInfo => (0, 0)
  | .nullLog _ => (0, 0)
  | .unmodelled => (-99, -99)

def lines (tr : List (Nat × WOut)) : List (Nat × Int × Int) := tr.map (fun x => (x.1, shown x.2))

/-- slot 0 writes a RAW 16-bit file on store 0 (and tries to read from the write-only handle) -/
def a0 : WOp := .open 0 .w 0x040002 1 8000 false
def a1 : WOp := .call (.write 0 .s16 false 2 [1, 2])
def a2 : WOp := .call (.read 0 .s16 false 1)
def a3 : WOp := .herror
def a4 : WOp := .call (.close 0)
def scriptA : List WOp := [a0, a1, a2, a3, a4]
/-- slot 1: an open that fails (0 channels) on store 1, then sf_error (NULL), then a write to the NULL handle -/
def b0 : WOp := .open 1 .w 0x040002 0 8000 false
def b1 : WOp := .nullError
def b2 : WOp := .call (.write 0 .s16 false 1 [7])
def scriptB : List WOp := [b0, b1, b2, b1]

/-- one merge of the two -/
def merged : List Ev := [(1, b0), (0, a0), (1, b1), (0, a1), (0, a2), (1, b2), (0, a3), (1, b1), (0, a4)]

example : IsMerge (fun i => match i with | 0 => scriptA | 1 => scriptB | _ => []) merged := by
  intro i
  match i with
  | 0 => rfl
  | 1 => rfl
  | n + 2 => rfl

example : Owned id ({} : W) := by intro i h hh; cases hh
example : ∀ ev ∈ merged, Scoped id ev := by
  intro ev he
  simp only [merged, List.mem_cons, List.not_mem_nil, or_false] at he
  rcases he with rfl | rfl | rfl | rfl | rfl | rfl | rfl | rfl | rfl <;> simp [Scoped, a0, a1, a2, a3, a4, b0, b1, b2]

/-- the merged run: slot 1's failed open sets sf_errno, slot 0's successful open clears it again, so slot 1's
    `sf_error (NULL)` shows 0 where its solo run shows the open failure — the one place where the transcripts
    differ, and exactly what `mask` covers.  Slot 0's invalid read (write-only handle) leaves its error in
    slot 0 only; the NULL write of slot 1 sets sf_errno to SFE_BAD_SNDFILE_PTR. -/
example : lines (run {} merged).2 =
    [(1, 0, 1), (0, 1, 0), (1, 0, 0), (0, 2, 0), (0, 0, E_NOT_READMODE), (1, 0, E_BAD_SNDFILE_PTR), (0, 0, E_NOT_READMODE),
     (1, 0, E_BAD_SNDFILE_PTR), (0, 0, 0)] := by decide
example : lines (run {} (tag 1 scriptB)).2 = [(1, 0, 1), (1, 0, E_OPEN_FAILED), (1, 0, E_BAD_SNDFILE_PTR), (1, 0, E_BAD_SNDFILE_PTR)] := by decide
example : lines (run {} (tag 0 scriptA)).2 = [(0, 1, 0), (0, 2, 0), (0, 0, E_NOT_READMODE), (0, 0, E_NOT_READMODE), (0, 0, 0)] := by decide
/-- final bytes of slot 0's store, merged = solo -/
example : ((run {} merged).1.stores 0).bytes = [1, 0, 2, 0] ∧ ((run {} (tag 0 scriptA)).1.stores 0).bytes = [1, 0, 2, 0] := by decide
/-- the process-wide state after the merged run, and the unique ids drawn (slot 0 first in the solo run, second in the merge) -/
example : (run {} merged).1.g.errno = E_BAD_SNDFILE_PTR ∧ (run {} merged).1.g.rand ≠ 0 ∧
    (run {} merged).1.uids 0 ≠ (run {} (tag 0 scriptA)).1.uids 0 := by decide
/-- globals_only_null is not vacuous: the process-wide state does show in a NULL-handle output -/
example : shown (wstep { g := { errno := 5 } } (0, .nullError)).2 = (0, 5) ∧ shown (wstep {} (0, .nullError)).2 = (0, 0) := by decide
/-- error_state_isolated: slot 0 holds a write-only handle whose last call failed; a failing call on slot 1 leaves it -/
example : ∃ h, (run {} (tag 0 (scriptA.take 3))).1.handles 0 = some h ∧ h.error = E_NOT_READMODE := ⟨_, rfl, by decide⟩

end Sf.C19
