/-
  C12 — `meta_roundtrip`, one theorem per container: everything a handle holds when the audio starts comes back after close
  and re-open as `normalise` says, for EVERY handle state within the containers' limits, which are explicit and the same
  for writer and reader (the string readers take their buffers from the chunk sizes, the header cache grows to its
  100 KiB limit).

  `normalise…` are explicit functions: what the container keeps of each item.  The documented normalisations of the SET calls
  (library suffix on the software string, CR/LF line ends, added line end, added coding-history line, even padding) are applied
  by `Sf.Meta.step` when the item is stored (`softwareText`, `normHistory`, `normTag`); the functions here add what the file
  format itself imposes: reserved fields zeroed, cue names as C strings of at most 255 bytes, the `smpl` fields (known findings
  KF.smplRanges / KF.smplDetune live in `normInst`), AIFF markers (16-bit id, position, name).

  Also here: bext / cart on RF64 from the SET call to the re-opened file, and the `chan` chunk for every layout tag of the table.
-/
import SfProps.C12Fix
namespace Sf.C12Round
open Sf Sf.Meta

/-- what a re-opened file returns with the CURRENT writers and readers: `Sf.Meta.reopen`, the cue points through the
    `cue ` chunk plus the LIST/adtl labels of the repaired writer.  (`sfmodel meta` prints `Sf.Meta.reopen` with the same
    override of the cue points spelt out in Driver/Meta.lean `metaLine`: the driver does not import this file.) -/
def reopenNow (period : Nat) (h : MetaState) : Reopened :=
  { reopen period h with cues := if h.cont = .rf64 then none else h.cues.bind MetaFix.reopenCues }

/-- the value the re-opened RIFF file must return for a handle whose strings were all set before the audio -/
def normaliseRiff (h : MetaState) : Reopened :=
  { strings := entriesOf h.strings SF_STR_LOCATE_START,
    bext := h.bext.map Bext.reread,
    cart := h.cart.map Cart.reread,
    -- rf64.c writes no `cue ` chunk and rf64_read_header does not interpret `smpl`: the statement lists cue points and
    -- instruments for WAV and AIFF only
    cues := if h.cont = .rf64 then none else h.cues.map fun cs => cs.map MetaFix.Cue.normName,
    inst := if h.cont = .rf64 then none else h.inst.map normInst }

/-- the limits of a RIFF handle, all explicit: strings are C strings of types INFO has ids for whose LIST chunk the header
    cache holds; bext / cart blocks as the SET calls store them (at most 16 KiB of text); at most 2500 cue points with unique
    ids; at most 16 loops -/
structure WithinRiff (period : Nat) (h : MetaState) : Prop where
  someEarly : (h.strings.flags &&& SF_STR_LOCATE_START) ≠ 0 ∧ locationCount h.strings SF_STR_LOCATE_START ≠ 0
  noneLate : (h.strings.flags &&& SF_STR_LOCATE_END) = 0
  strings : ∀ e ∈ entriesOf h.strings SF_STR_LOCATE_START, infoOk e
  listFits : (infoBody (entriesOf h.strings SF_STR_LOCATE_START)).length ≤ HEADER_CAP
  bext : ∀ b, h.bext = some b → b.wf ∧ b.history.length ≤ 16384
  cart : ∀ c, h.cart = some c → c.wf ∧ c.tag.length ≤ 16384
  cues : ∀ cs, h.cues = some cs → cs.length ≤ MAX_CUES ∧ (∀ c ∈ cs, c.wf) ∧ (cs.map (·.indx)).Nodup
  inst : ∀ i, h.inst = some i → period < 2 ^ 32 ∧ i.loops.length ≤ 16 ∧ ∀ l ∈ i.loops, l.start < 2 ^ 32 ∧ l.stop < 2 ^ 32 ∧ l.count < 2 ^ 32

theorem bind_eq_map {α β} (o : Option α) (f : α → Option β) (g : α → β) (h : ∀ a, o = some a → f a = some (g a)) : o.bind f = o.map g := by
  cases o with
  | none => rfl
  | some a => simp [h a rfl]

theorem strings_back (t : Strings) (loc : Nat) (hcount : locationCount t loc ≠ 0) (hok : ∀ e ∈ entriesOf t loc, infoOk e)
    (hfit : (infoBody (entriesOf t loc)).length ≤ HEADER_CAP) : parseInfo (writeStrings t loc) = entriesOf t loc := by
  unfold writeStrings
  rw [if_neg hcount, info_roundtrip _ hok hfit]

/-- bext, cart, cue points and instrument of the re-opened file, wherever the strings were set: each chunk reader on its own
    writer's output, within the limits that `WithinRiff` and `C12Late.WithinRiffAny` share -/
theorem reopenNow_items (period : Nat) (h : MetaState)
    (hbext : ∀ b, h.bext = some b → b.wf ∧ b.history.length ≤ 16384)
    (hcart : ∀ c, h.cart = some c → c.wf ∧ c.tag.length ≤ 16384)
    (hcues : ∀ cs, h.cues = some cs → cs.length ≤ MAX_CUES ∧ (∀ c ∈ cs, c.wf) ∧ (cs.map (·.indx)).Nodup)
    (hinst : ∀ i, h.inst = some i → period < 2 ^ 32 ∧ i.loops.length ≤ 16 ∧ ∀ l ∈ i.loops, l.start < 2 ^ 32 ∧ l.stop < 2 ^ 32 ∧ l.count < 2 ^ 32) :
    reopenNow period h = { normaliseRiff h with strings := (reopen period h).strings } := by
  unfold reopenNow normaliseRiff reopen
  rw [bind_eq_map h.bext _ Bext.reread fun b hb => bext_chunk_roundtrip b (hbext b hb).1 (hbext b hb).2,
    bind_eq_map h.cart _ Cart.reread fun c hc => cart_chunk_roundtrip c (hcart c hc).1 (hcart c hc).2,
    bind_eq_map h.cues _ (·.map MetaFix.Cue.normName) fun cs hcs =>
      C12Fix.cue_names_roundtrip cs (hcues cs hcs).1 (hcues cs hcs).2.1 (hcues cs hcs).2.2,
    bind_eq_map h.inst _ normInst fun i hi => inst_roundtrip period i (hinst i hi).1 (hinst i hi).2.1 (hinst i hi).2.2]

/-- **meta_roundtrip** for WAV, WAVEX and RF64 (the container is a field of the handle): get after re-open = normalise (set),
    for every handle within the limits -/
theorem meta_roundtrip_riff (period : Nat) (h : MetaState) (w : WithinRiff period h) : reopenNow period h = normaliseRiff h := by
  obtain ⟨hA, hB, hstr, hfit, hbext, hcart, hcues, hinst⟩ := w
  have hs : (reopen period h).strings = entriesOf h.strings SF_STR_LOCATE_START := by
    unfold reopen
    rw [if_pos hA, if_neg (by simp [hB]), strings_back _ _ hA.2 hstr hfit, List.append_nil]
  rw [reopenNow_items period h hbext hcart hcues hinst, hs]
  rfl

theorem meta_roundtrip_wav (period : Nat) (h : MetaState) (_hc : h.cont = .wav) (w : WithinRiff period h) :
    reopenNow period h = normaliseRiff h := meta_roundtrip_riff period h w
theorem meta_roundtrip_wavex (period : Nat) (h : MetaState) (_hc : h.cont = .wavex) (w : WithinRiff period h) :
    reopenNow period h = normaliseRiff h := meta_roundtrip_riff period h w
/-- RF64: strings, bext and cart come back; cue points and instrument are not stored by this container -/
theorem meta_roundtrip_rf64 (period : Nat) (h : MetaState) (hc : h.cont = .rf64) (w : WithinRiff period h) :
    reopenNow period h = normaliseRiff h ∧ (reopenNow period h).cues = none ∧ (reopenNow period h).inst = none := by
  refine ⟨meta_roundtrip_riff period h w, ?_, ?_⟩ <;> simp [reopenNow, reopen, hc]

/-- non-vacuity: a WAV handle with a title, a software string, a bext block, two cue points (one named) and an instrument -/
def sampleHandle (c : Container) : MetaState :=
  let pn := ascii "libsndfile"
  let pv := ascii "1.2.2"
  let h0 := MetaState.open c
  let h1 := (step pn pv h0 (.setString 1 (ascii "Title"))).2
  let h2 := (step pn pv h1 (.setString 3 (ascii "me"))).2
  let h3 := (step pn pv h2 (.setBext (ascii "T=x\r\n") bextSample 6 614)).2
  let h4 := (step pn pv h3 (.setCues [⟨1, 10, 0x61746164, 0, 0, 10, ascii "one"⟩, ⟨7, 20, 0x61746164, 1, 2, 3, []⟩])).2
  (step pn pv h4 (.setInst instSample)).2

theorem sampleHandle_within : WithinRiff 22675 (sampleHandle .wav) := by
  refine ⟨by decide +kernel, by decide +kernel, ?_, by decide +kernel, ?_, ?_, ?_, ?_⟩
  · intro e he
    have : entriesOf (sampleHandle .wav).strings SF_STR_LOCATE_START = [(1, ascii "Title"), (3, ascii "me (libsndfile-1.2.2)")] := by decide +kernel
    rw [this] at he
    simp only [List.mem_cons, List.mem_nil_iff, or_false] at he
    rcases he with rfl | rfl <;> exact ⟨by decide, by decide⟩
  · intro b hb
    have : (sampleHandle .wav).bext = some (setBext .write (ascii "T=x\r\n") bextSample) := by decide +kernel
    rw [this] at hb; cases hb
    exact ⟨by decide +kernel, by decide +kernel⟩
  · intro c hc
    have : (sampleHandle .wav).cart = none := by decide +kernel
    rw [this] at hc; cases hc
  · intro cs hcs
    have : (sampleHandle .wav).cues = some [⟨1, 10, 0x61746164, 0, 0, 10, ascii "one"⟩, ⟨7, 20, 0x61746164, 1, 2, 3, []⟩] := by decide +kernel
    rw [this] at hcs; cases hcs
    exact ⟨by decide, by decide, by decide⟩
  · intro i hi
    have : (sampleHandle .wav).inst = some instSample := by decide +kernel
    rw [this] at hi; cases hi
    exact ⟨by decide, by decide, by decide⟩

example : (normaliseRiff (sampleHandle .wav)).strings = [(1, ascii "Title"), (3, ascii "me (libsndfile-1.2.2)")] ∧
    ((normaliseRiff (sampleHandle .wav)).bext.map (·.history)) = some (ascii "A=PCM\r\nT=x\r\n") ∧
    (reopenNow 22675 (sampleHandle .wav)).strings = (normaliseRiff (sampleHandle .wav)).strings ∧
    (reopenNow 22675 (sampleHandle .wav)).bext = (normaliseRiff (sampleHandle .wav)).bext ∧
    (reopenNow 22675 (sampleHandle .wav)).cues = some [⟨1, 10, 0x61746164, 0, 0, 10, ascii "one"⟩, ⟨7, 20, 0x61746164, 1, 2, 3, []⟩] ∧
    (reopenNow 22675 (sampleHandle .wav)).inst = some instSample ∧
    (reopenNow 22675 (sampleHandle .rf64)).cues = none := by
  -- the re-opened file is `normaliseRiff` of the handle (`meta_roundtrip_riff`): what is left to compute is what the handle holds
  rw [meta_roundtrip_riff 22675 _ sampleHandle_within]
  refine ⟨by decide +kernel, by decide +kernel, rfl, rfl, by decide +kernel, by decide +kernel, ?_⟩
  simp [reopenNow, show (sampleHandle .rf64).cont = .rf64 by decide +kernel]

/-- … and that handle is within the limits: the hypothesis of the theorem is met -/
example : WithinRiff 22675 (sampleHandle .wav) := sampleHandle_within

/-- SFC_SET_BROADCAST_INFO before the audio on a WAV, WAVEX or RF64 handle with a well-formed block whose size fields are
    consistent is accepted, and the re-opened file returns exactly `normBext` of it -/
theorem bext_set_reopen (c : Container) (hc : c = .wav ∨ c = .wavex ∨ c = .rf64) (period : Nat) (pn pv line : List Byte) (info : Bext)
    (declared datasize : Nat) (hwf : info.wf) (h1 : 608 ≤ datasize) (h2 : 608 + declared ≤ datasize) (h3 : datasize < BEXT_STRUCT_16K) :
    (step pn pv (MetaState.open c) (.setBext line info declared datasize)).1 = 1 ∧
    (reopenNow period (step pn pv (MetaState.open c) (.setBext line info declared datasize)).2).bext = some (normBext .write line info) := by
  have hstep : step pn pv (MetaState.open c) (.setBext line info declared datasize)
      = (1, { MetaState.open c with bext := some (setBext .write line info) }) := by
    have e1 : ¬ (datasize < 608 ∨ 608 + declared > datasize) := by omega
    have e2 : ¬ (datasize ≥ BEXT_STRUCT_16K) := by omega
    rcases hc with rfl | rfl | rfl <;> simp [step, MetaState.open, Container.hasStrings, e1, e2]
  rw [hstep]
  refine ⟨rfl, ?_⟩
  simp only [reopenNow, reopen, Option.bind_some]
  exact bext_roundtrip .write line info hwf

example : (reopenNow 0 (step [] [] (MetaState.open .rf64) (.setBext (ascii "T=x\r\n") bextSample 6 614)).2).bext
    = some (normBext .write (ascii "T=x\r\n") bextSample) :=
  (bext_set_reopen .rf64 (Or.inr (Or.inr rfl)) 0 [] [] _ bextSample 6 614 bextSample_wf (by decide) (by decide) (by decide)).2

/-- SFC_SET_CART_INFO before the audio on a WAV or RF64 handle: accepted, and the re-opened file returns `normCart` of it -/
theorem cart_set_reopen (c : Container) (hc : c = .wav ∨ c = .rf64) (period : Nat) (pn pv : List Byte) (junk : Byte) (info : Cart)
    (declared datasize : Nat) (hwf : info.wf) (h1 : 2052 ≤ datasize) (h2 : 2052 + declared ≤ datasize) (h3 : datasize < CART_STRUCT_16K) :
    (step pn pv (MetaState.open c) (.setCart junk info declared datasize)).1 = 1 ∧
    (reopenNow period (step pn pv (MetaState.open c) (.setCart junk info declared datasize)).2).cart = some (normCart junk info) := by
  have hstep : step pn pv (MetaState.open c) (.setCart junk info declared datasize)
      = (1, { MetaState.open c with cart := some (setCart junk info) }) := by
    have e1 : ¬ (datasize < 2052 ∨ 2052 + declared > datasize) := by omega
    have e2 : ¬ (datasize ≥ CART_STRUCT_16K) := by omega
    rcases hc with rfl | rfl <;> simp [step, MetaState.open, Container.hasStrings, e1, e2]
  rw [hstep]
  refine ⟨rfl, ?_⟩
  simp only [reopenNow, reopen, Option.bind_some]
  exact cart_roundtrip junk info hwf

example : (reopenNow 0 (step [] [] (MetaState.open .rf64) (.setCart 0 cartSample 8 2060)).2).cart = some (normCart 0 cartSample) :=
  (cart_set_reopen .rf64 (Or.inr rfl) 0 [] [] 0 cartSample 8 2060 cartSample_wf (by decide) (by decide) (by decide)).2

open Sf.MetaX

/-- what an AIFF handle holds when the audio starts: the (type, text) pairs of its string table in slot order, the cue points,
    whether an instrument was set, the channel map -/
structure XItems where
  strings : List (Nat × List Byte)
  cues : Option (List Cue)
  inst : Bool
  chmap : Option (List Nat)

theorem aiff_cues_back (inst : Bool) (cues : Option (List Cue)) (hq : ∀ cs, cues = some cs → cs.length ≤ 2500 ∧ ∀ c ∈ cs, (markOfCue c).ok) :
    MetaFix.aiffCues inst cues = cues.map fun cs => (cs.map markOfCue).map cueOfMark := by
  cases cues with
  | none => simp [MetaFix.aiffCues, MetaFix.aiffCuesWith, MetaFix.aiffMarkWritten]
  | some cs => simpa using C12Fix.aiff_cues_with_inst inst cs (hq cs rfl).1 (hq cs rfl).2

/-- **meta_roundtrip** for AIFF: every text (NAME, (c), APPL, AUTH, ANNO) within `aiffOk`, up to 2500 markers (16-bit id, sample
    offset, name of at most 253 bytes) with or without an instrument, and every channel map a layout tag exists for -/
theorem meta_roundtrip_aiff (x : XItems) (hs : ∀ e ∈ x.strings, aiffOk e)
    (hq : ∀ cs, x.cues = some cs → cs.length ≤ 2500 ∧ ∀ c ∈ cs, (markOfCue c).ok)
    (hm : ∀ m, x.chmap = some m → findTag m ≠ 0) :
    aiffParse (x.strings.length + 1) (aiffStrings x.strings) = x.strings ∧
    MetaFix.aiffCues x.inst x.cues = x.cues.map (fun cs => (cs.map markOfCue).map cueOfMark) ∧
    (∀ m, x.chmap = some m → readChan false m.length (be4 (findTag m)) = some m) :=
  ⟨aiff_text_roundtrip x.strings hs _ (by omega), aiff_cues_back x.inst x.cues hq, fun m hmm => chan_roundtrip false m (hm m hmm)⟩

/-- **meta_roundtrip** for CAF: every table of strings (any of the ten types, C strings) whose `info` chunk the header cache
    holds, and every channel map a layout tag exists for -/
theorem meta_roundtrip_caf (used : Nat) (strings : List (Nat × List Byte)) (chmap : Option (List Nat))
    (hs : ∀ e ∈ strings, cafOk e) (h32 : strings.length ≤ SF_MAX_STRINGS) (hused : storedBytes strings ≤ used)
    (hcap : cafNeed strings ≤ HEADER_CAP) (hm : ∀ m, chmap = some m → findTag m ≠ 0) :
    readCafInfo (writeCafInfo used strings) = strings ∧
    (∀ m, chmap = some m → readChan true m.length (be4 (findTag m)) = some m) :=
  ⟨caf_info_roundtrip used strings hs h32 hused hcap, fun m hmm => chan_roundtrip true m (hm m hmm)⟩

example : aiffOk (1, ascii "Title") ∧ cafOk (8, ascii "a licence") ∧ findTag [2, 3] ≠ 0 ∧
    (markOfCue ⟨1, 0, 0, 0, 0, 10, ascii "one"⟩).ok := by
  refine ⟨⟨by decide, by decide, by decide⟩, ⟨by decide, by decide⟩, by decide +kernel, ⟨by decide, by decide, by decide, by decide⟩⟩

/-- every entry of the layout table that carries a channel map: writing its tag and reading it back (AIFF and CAF) returns that
    very map — for all tags of src/chanmap.c (the table is regenerated from the tree under test on every run) -/
theorem chan_all_layout_tags :
    layoutTable.all (fun e => match e.2 with
      | some m => readChan false m.length (be4 e.1) == some m && readChan true m.length (be4 e.1) == some m
      | none => true) = true := by decide +kernel

/-- … and the tag found for a map always carries that map (so SET → tag → GET is the identity on every map that has a tag) -/
theorem chan_tag_of_map_all :
    layoutTable.all (fun e => match e.2 with
      | some m => findTag m != 0 && (ofTag (findTag m)).map (·.2) == some (some m)
      | none => true) = true := by decide +kernel

end Sf.C12Round
