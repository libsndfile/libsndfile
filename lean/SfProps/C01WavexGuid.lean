/-
  C01 — a WAVEX file re-opens as the encoding it was written with, whatever SFC_WAVEX_SET_AMBISONIC said before the audio
  (lean/SfModel/WavexGuid.lean; campaign vlib/precmd.py).

  * `guid_roundtrip`: for every encoding WAVEX carries and both values of the flag, the GUID the writer emits is read back as that very
    encoding (so a re-opened handle would run the same sample codec over the same bytes, of which `C01.data_roundtrip` is the
    round trip; no WAVEX handle or parser is modelled, this file is about the GUID alone);
  * `amb_flag_roundtrip`: PCM / float files keep the flag;
  * `merged_branches_lose_float`: with the two Ambisonic branches of the reader folded into one (seeded/C01-wavex-ambisonic-float-guid-merged)
    an Ambisonic FLOAT file re-opens as PCM_32 and an Ambisonic DOUBLE file not at all — outside `guid_roundtrip`.
-/
import SfModel.WavexGuid
namespace Sf.WavexGuid

theorem guid_roundtrip : ∀ amb : Bool, ∀ codec ∈ codecs,
    ∃ g, guidOf amb codec = some g ∧ subformatOf g (bytewidth codec) = some codec := by decide

theorem amb_flag_roundtrip : ∀ amb : Bool, ∀ codec ∈ [0x05, 0x02, 0x03, 0x04, 0x06, 0x07],
    ∃ g, guidOf amb codec = some g ∧ ambOf g = amb := by decide

/-- the writer never emits a GUID the reader refuses, and a file it wrote is accepted by the codec initialisation -/
theorem written_guid_opens : ∀ amb : Bool, ∀ codec ∈ codecs, opens ((guidOf amb codec).bind fun g => subformatOf g (bytewidth codec)) = true := by decide

theorem merged_branches_lose_float :
    subformatMerged AMB_FLOAT (bytewidth 0x06) = some 0x04 ∧ opens (subformatMerged AMB_FLOAT (bytewidth 0x07)) = false ∧
    subformatOf AMB_FLOAT (bytewidth 0x06) = some 0x06 ∧ subformatOf AMB_FLOAT (bytewidth 0x07) = some 0x07 := by decide

/-- without the flag the merged chain is indistinguishable from the real one: only files made after the command show the difference -/
theorem merged_agrees_without_flag : ∀ codec ∈ codecs, ∀ g, guidOf false codec = some g →
    subformatMerged g (bytewidth codec) = subformatOf g (bytewidth codec) := by decide

/-- non-vacuity: the Ambisonic float GUID is the one written for FLOAT with the flag set -/
example : guidOf true 0x06 = some AMB_FLOAT ∧ subformatOf AMB_FLOAT 4 = some 0x06 ∧ ambOf AMB_FLOAT = true := by decide

end Sf.WavexGuid
