/-
  C12 — the containers beside RIFF/WAVE: theorems about SfModel/MetaX.lean (AIFF text chunks and markers, CAF info strings,
  channel layout tags), the definitions `sfmodel meta` runs against the library for AIFF and CAF scripts.  (`KF.aiffSanitize` and
  the like are class labels of known_findings.jsonl, not Lean names.)
-/
import SfModel.MetaX
import SfProofs.MetaBytes
import SfProofs.MetaStrings
namespace Sf.MetaX
open Sf.Meta

@[simp] theorem be4_length (v : Nat) : (be4 v).length = 4 := beBytes_length 4 v
@[simp] theorem be2_length (v : Nat) : (be2 v).length = 2 := beBytes_length 2 v
@[simp] theorem be8_length (v : Nat) : (be8 v).length = 8 := beBytes_length 8 v

theorem ofBE_be4 {v : Nat} (h : v < 2 ^ 32) : ofBE (be4 v) = v := ofBE_beBytes_of_lt 4 v h
theorem ofBE_be2 {v : Nat} (h : v < 2 ^ 16) : ofBE (be2 v) = v := ofBE_beBytes_of_lt 2 v h
theorem ofBE_be8 {v : Nat} (h : v < 2 ^ 64) : ofBE (be8 v) = v := ofBE_beBytes_of_lt 8 v h

instance (L : AiffLimits) (e : Nat × List Byte) : Decidable (aiffOkW L e) := by unfold aiffOkW; exact inferInstance

theorem sanitize_printable (s : List Byte) (h : ∀ b ∈ s, isPrint b = true) : sanitize s = s := by
  unfold sanitize
  exact map_eq_self fun b hb => by simp [h b hb]

theorem printablePrefix_printable (s : List Byte) (h : ∀ b ∈ s, isPrint b = true) : printablePrefix s = s := by
  unfold printablePrefix; exact takeWhile_all _ s h

/-- one step of the walk on a text chunk as the writer lays it out: what the chunk reader returns is kept, and the walk goes
    on behind the pad byte -/
theorem aiffParseW_chunk (L : AiffLimits) (fuel : Nat) (m : List Byte) (hm4 : m.length = 4) (htext : isAiffText m = true)
    (payload : List Byte) (size : Nat) (hsz : size < 2 ^ 32) (hpl : payload.length = size + size % 2) (rest : List Byte) :
    aiffParseW L (fuel + 1) (m ++ be4 size ++ payload ++ rest) =
      (aiffReadTextW L m size (payload ++ rest)).toList ++ aiffParseW L fuel rest := by
  rw [aiffParseW, if_neg (by simp [hm4]; omega)]
  -- marker, size and payload are read by walking the chunk as it was written
  simp only [List.append_assoc, drop_app_skip, take_app_head, hm4, be4_length, Nat.reduceLeDiff, Nat.reduceSub, Nat.le_refl, List.drop_zero,
    ofBE_be4 hsz]
  rw [if_neg (by simp [htext]; omega), List.drop_left' hpl]
  cases aiffReadTextW L m size (payload ++ rest) <;> rfl

/-- the skip threshold the reader holds the chunk size of a text of type `ty` against -/
def AiffLimits.of (L : AiffLimits) : Nat → Nat
  | 1 => L.name | 2 => L.c | 3 => L.appl | 4 => L.auth | _ => L.anno

/-- what the reader makes of a text written as type `ty`: copyright is sanitised, software cut at the first byte that is not
    printable (known finding KF.aiffSanitize), the others come back as they are -/
def aiffBack (ty : Nat) (s : List Byte) : List Byte :=
  if ty = 2 then sanitize s else if ty = 3 then printablePrefix s else s

theorem isPrint_ne_zero (b : Byte) (h : isPrint b = true) : b ≠ 0 := by
  intro h0; subst h0; simp [isPrint] at h

theorem sanitize_no_zero (s : List Byte) : ∀ b ∈ sanitize s, b ≠ 0 := by
  intro b hb
  obtain ⟨a, _, rfl⟩ := List.mem_map.mp hb
  split
  · exact isPrint_ne_zero a ‹_›
  · decide

/-- One text chunk of any of the five kinds at the front of the walk, for any thresholds: skipped when its size reaches the
    threshold of its kind, otherwise read back as `aiffBack` says; the walk goes on behind its pad byte. -/
theorem aiffParseW_front (L : AiffLimits) (fuel ty : Nat) (s rest : List Byte) (hty : ty ∈ [1, 2, 3, 4, 5]) (hz : ∀ b ∈ s, b ≠ 0)
    (hne : s ≠ []) (h32 : s.length + 4 < 2 ^ 32) :
    aiffParseW L (fuel + 1) (aiffItem (ty, s) ++ rest) =
      (if L.of ty ≤ s.length + (if ty = 3 then 4 else 0) then [] else [(ty, aiffBack ty s)]) ++ aiffParseW L fuel rest := by
  have hpos : 0 < s.length := List.length_pos_iff.mpr hne
  have hcs := cstr_no_zero s hz
  have opt : ∀ (c : Prop) [Decidable c] (x : Nat × List Byte), (if c then none else some x).toList = if c then [] else [x] := by
    intro c _ x; split <;> rfl
  -- the four chunks written with `serS`: marker `m`, read by `aiffReadTextW` into `r`
  have plain : ∀ (m : List Byte) r, m.length = 4 → isAiffText m = true →
      aiffReadTextW L m s.length (s ++ zeros (s.length % 2) ++ rest) = r →
      aiffParseW L (fuel + 1) (m ++ serS s ++ rest) = r.toList ++ aiffParseW L fuel rest := by
    intro m r hm4 htext hread
    have := aiffParseW_chunk L fuel m hm4 htext (s ++ zeros (s.length % 2)) s.length (by omega) (by simp) rest
    rw [hread] at this
    simpa [serS, List.append_assoc] using this
  simp only [List.mem_cons, List.not_mem_nil, or_false] at hty
  rcases hty with rfl | rfl | rfl | rfl | rfl
  · -- NAME
    rw [← opt]
    refine plain (mk "NAME") _ (by decide) (by decide) ?_
    simp only [aiffReadTextW]
    rw [if_neg (by omega), if_neg (by decide), if_neg (by decide), if_pos trivial]
    rw [List.append_assoc, List.take_left' rfl, hcs]; rfl
  · -- (c): sanitised
    rw [← opt]
    refine plain (mk "(c) ") _ (by decide) (by decide) ?_
    simp only [aiffReadTextW]
    rw [if_neg (by omega), if_pos trivial]
    rw [List.append_assoc, List.take_left' rfl, cstr_no_zero _ (sanitize_no_zero s)]; rfl
  · -- APPL: the text stands behind the application signature
    have := aiffParseW_chunk L fuel (mk "APPL") (by decide) (by decide) (mk "m3ga" ++ s ++ zeros (s.length % 2)) (s.length + 4) (by omega)
      (by simp [mk_length]; omega) rest
    have hread : aiffReadTextW L (mk "APPL") (s.length + 4) (mk "m3ga" ++ s ++ zeros (s.length % 2) ++ rest) =
        if L.appl ≤ s.length + 4 then none else some (3, printablePrefix s) := by
      simp only [aiffReadTextW]
      rw [if_neg (by omega), if_neg (by decide), if_neg (by decide), if_neg (by decide), if_neg (by decide), if_pos trivial]
      have e4 : (mk "m3ga").length = 4 := by decide
      rw [List.append_assoc, List.append_assoc, List.drop_left' e4, Nat.add_sub_cancel, List.take_left' rfl, hcs]
      by_cases hl : L.appl ≤ s.length + 4
      · rw [if_pos (Or.inl hl), if_pos hl]
      · rw [if_neg (by omega), if_neg hl]
    rw [hread, opt] at this
    simpa [aiffItem, List.append_assoc, AiffLimits.of, aiffBack] using this
  · -- AUTH
    rw [← opt]
    refine plain (mk "AUTH") _ (by decide) (by decide) ?_
    simp only [aiffReadTextW]
    rw [if_neg (by omega), if_neg (by decide), if_pos trivial]
    rw [List.append_assoc, List.take_left' rfl, hcs]; rfl
  · -- ANNO
    rw [← opt]
    refine plain (mk "ANNO") _ (by decide) (by decide) ?_
    simp only [aiffReadTextW]
    rw [if_neg (by omega), if_neg (by decide), if_neg (by decide), if_neg (by decide), if_pos trivial]
    rw [List.append_assoc, List.take_left' rfl, hcs]; rfl

theorem aiffParseW_item (L : AiffLimits) (fuel : Nat) (e : Nat × List Byte) (rest : List Byte) (h : aiffOkW L e) :
    aiffParseW L (fuel + 1) (aiffItem e ++ rest) = e :: aiffParseW L fuel rest := by
  obtain ⟨ty, s⟩ := e
  obtain ⟨hz, hne, h32, hty⟩ := h
  simp only at hz hne hty h32
  rcases hty with ⟨rfl, hl⟩ | ⟨rfl, hl⟩ | ⟨rfl, hl⟩ | ⟨rfl, hl, hp⟩ | ⟨rfl, hl, hp⟩ <;>
    rw [aiffParseW_front L fuel _ s rest (by decide) hz hne h32, if_neg (by simpa [AiffLimits.of] using hl)]
  · rfl
  · rfl
  · rfl
  · simp [aiffBack, sanitize_printable s hp]
  · simp [aiffBack, printablePrefix_printable s hp]

theorem aiffParseW_items (L : AiffLimits) (es : List (Nat × List Byte)) (h : ∀ e ∈ es, aiffOkW L e) :
    ∀ fuel, es.length ≤ fuel → aiffParseW L fuel (aiffStrings es) = es := by
  intro fuel hf
  have hnil : aiffParseW L (fuel - es.length) [] = [] := by cases fuel - es.length <;> simp [aiffParseW]
  simpa [aiffStrings, Nat.add_sub_cancel' hf, hnil] using
    walk_flatMap aiffItem (aiffParseW L) id (aiffOkW L) (aiffParseW_item L) es h [] (fuel - es.length)

theorem aiffOk_limits (e : Nat × List Byte) (h : aiffOk e) : aiffOkW aiffLimits e := by
  obtain ⟨hz, hne, hty⟩ := h
  refine ⟨hz, hne, ?_, ?_⟩
  · unfold HEADER_CAP at hty; omega
  · unfold aiffLimits; simp only
    rcases hty with ⟨a, b⟩ | ⟨a, b⟩ | ⟨a, b⟩ | ⟨a, b, c⟩ | ⟨a, b, c⟩
    · exact Or.inl ⟨a, by omega⟩
    · exact Or.inr (Or.inl ⟨a, by omega⟩)
    · exact Or.inr (Or.inr (Or.inl ⟨a, by omega⟩))
    · exact Or.inr (Or.inr (Or.inr (Or.inl ⟨a, by omega, c⟩)))
    · exact Or.inr (Or.inr (Or.inr (Or.inr ⟨a, by omega, c⟩)))

/-- get after re-open = what was set (full strength in the lengths since the repair of the reader), for every list of AIFF
    texts `aiffOk` admits: non-empty C strings whose chunk the header cache can hold (100 KiB; the writer cannot produce more
    either), copyright and software printable ASCII (known finding KF.aiffSanitize) -/
theorem aiff_text_roundtrip (es : List (Nat × List Byte)) (h : ∀ e ∈ es, aiffOk e) :
    ∀ fuel, es.length ≤ fuel → aiffParse fuel (aiffStrings es) = es :=
  aiffParseW_items aiffLimits es (fun e he => aiffOk_limits e (h e he))

example : aiffParse 9 (aiffStrings [(1, ascii "Title"), (3, ascii "tools (libsndfile-1.2.2)"), (2, ascii "(c) me"), (5, ascii "odd")]) =
    [(1, ascii "Title"), (3, ascii "tools (libsndfile-1.2.2)"), (2, ascii "(c) me"), (5, ascii "odd")] :=
  aiffParseW_items aiffLimits _ (by decide +kernel) 9 (by decide)

/-- the old reader's round trip under its limits (title / comment < 8190 bytes, author < 8191, copyright < 8192, …) -/
theorem aiff_text_roundtrip_short_old_rule (es : List (Nat × List Byte)) (h : ∀ e ∈ es, aiffOkOld e) :
    ∀ fuel, es.length ≤ fuel → aiffParseOld fuel (aiffStrings es) = es :=
  aiffParseW_items aiffLimitsOld es h

/-- the full statement puts no limit on the texts -/
def aiff_text_full : Prop := ∀ es : List (Nat × List Byte), (∀ e ∈ es, (∀ b ∈ e.2, b ≠ 0) ∧ e.2 ≠ [] ∧ e.1 ∈ [1, 2, 3, 4, 5]) →
  aiffParse (es.length + 1) (aiffStrings es) = es

/-- known finding KF.aiffSanitize (still open): a copyright text with a byte outside printable ASCII comes back with '.' in its
    place, a software text is cut there -/
theorem aiff_text_limits_witness : ¬ aiff_text_full := by
  intro h
  have := h [(2, [169, 32, 90])] (by decide)
  revert this; decide +kernel

example : aiffParse 3 (aiffStrings [(3, [90, 111, 195, 171])]) = [(3, [90, 111])] := by decide +kernel

/-- the statement for lengths: printable texts of any length the header cache can hold -/
def aiff_text_lengths_full_for (parse : Nat → List Byte → List (Nat × List Byte)) : Prop :=
  ∀ es : List (Nat × List Byte), (∀ e ∈ es, e.2 ≠ [] ∧ e.1 ∈ [1, 2, 3, 4, 5] ∧ e.2.length + 4 ≤ HEADER_CAP ∧ ∀ b ∈ e.2, isPrint b = true) →
  parse (es.length + 1) (aiffStrings es) = es

/-- full strength for the repaired reader: no 8 KiB limit -/
theorem aiff_text_lengths_full : aiff_text_lengths_full_for aiffParse := by
  intro es h
  apply aiff_text_roundtrip es _ _ (by omega)
  intro e he
  obtain ⟨hne, hty, hl, hp⟩ := h e he
  refine ⟨fun b hb => isPrint_ne_zero b (hp b hb), hne, ?_⟩
  simp only [List.mem_cons, List.mem_nil_iff, or_false] at hty
  rcases hty with a | a | a | a | a
  · exact Or.inl ⟨a, by omega⟩
  · exact Or.inr (Or.inr (Or.inr (Or.inl ⟨a, by omega, hp⟩)))
  · exact Or.inr (Or.inr (Or.inr (Or.inr ⟨a, hl, hp⟩)))
  · exact Or.inr (Or.inr (Or.inl ⟨a, by omega⟩))
  · exact Or.inr (Or.inl ⟨a, by omega⟩)

theorem long_title_admissible (n : Nat) (hn : 0 < n) (hc : n + 4 ≤ HEADER_CAP) :
    ∀ e ∈ [((4 : Nat), ([65] : List Byte)), (1, List.replicate n 65)],
      e.2 ≠ [] ∧ e.1 ∈ [1, 2, 3, 4, 5] ∧ e.2.length + 4 ≤ HEADER_CAP ∧ ∀ b ∈ e.2, isPrint b = true := by
  intro e he
  simp only [List.mem_cons, List.mem_nil_iff, or_false] at he
  rcases he with rfl | rfl
  · decide
  · refine ⟨by cases n <;> simp_all [List.replicate], by simp, by simpa using hc, ?_⟩
    intro b hb
    rw [(List.mem_replicate.mp hb).2]; decide

/-- a title of 8190 bytes is read back … -/
example : aiffParse 3 (aiffStrings [(4, [65]), (1, List.replicate 8190 65)]) = [(4, [65]), (1, List.replicate 8190 65)] :=
  aiff_text_lengths_full _ (long_title_admissible 8190 (by decide) (by decide))

/-- … and was skipped by the reader with the 8 KiB scratch buffer -/
theorem aiff_text_8190_old_rule : ¬ aiff_text_lengths_full_for aiffParseOld := by
  intro h
  have hall := h [(4, [65]), (1, List.replicate 8190 65)] (long_title_admissible 8190 (by decide) (by decide))
  -- the old reader on an artist and any title of 8190 bytes: the artist is read, the title is at the limit of the scratch buffer
  have hold : ∀ s : List Byte, (∀ b ∈ s, b ≠ 0) → s.length = 8190 → aiffParseOld 3 (aiffStrings [(4, [65]), (1, s)]) = [(4, [65])] := by
    intro s hz hs
    have hne : s ≠ [] := fun h0 => by rw [h0] at hs; cases hs
    rw [aiffParseOld, aiffStrings, List.flatMap_cons, List.flatMap_cons, List.flatMap_nil, List.append_nil,
      aiffParseW_item aiffLimitsOld 2 (4, [65]) _ (by decide),
      ← List.append_nil (aiffItem (1, s)), aiffParseW_front aiffLimitsOld 1 1 s [] (by decide) hz hne (by omega),
      if_pos (by rw [hs]; decide)]
    rfl
  rw [show ([(4, [65]), (1, List.replicate 8190 65)] : List (Nat × List Byte)).length + 1 = 3 from rfl,
    hold _ (fun b hb => List.eq_of_mem_replicate hb ▸ by decide) List.length_replicate] at hall
  exact absurd (congrArg List.length hall) (by simp only [List.length_cons, List.length_nil]; omega)

/-- before the repair of the APPL reader the software text could come back with up to four stale bytes behind it -/
theorem appl_stale_old_rule : applTextOld (ascii "fer!") (ascii "tools (libsndfile-1.2.2)") = ascii "tools (libsndfile-1.2.2)fer!" ∧
    applTextOld (ascii "fer!") (ascii "tool (libsndfile-1.2.2)") = ascii "tool (libsndfile-1.2.2)" := by decide +kernel

instance (e : Nat × List Byte) : Decidable (cafOk e) := by unfold cafOk; exact inferInstance

def pairBytes (e : Nat × List Byte) : List Byte := ((cafKey e.1).getD []) ++ [0] ++ e.2 ++ [0]

theorem cafKey_spec {ty : Nat} {k : List Byte} (h : cafKey ty = some k) :
    (∀ b ∈ k, b ≠ 0) ∧ cafType k = some ty ∧ k ≠ [] ∧ k.length ≤ 11 := by
  unfold cafKey at h
  split at h <;> simp at h <;> subst h <;> decide

/-- while everything fits the buffer, put_key_value collects every pair in order -/
theorem cafPut_fits (cap : Nat) (es : List (Nat × List Byte)) (h : ∀ e ∈ es, cafOk e) (rest : List (Nat × List Byte)) :
    ∀ (buf : List Byte) (cnt : Nat), buf.length + cafNeed es < cap →
      cafPut cap buf cnt (es ++ rest) = cafPut cap (buf ++ es.flatMap pairBytes) (cnt + es.length) rest := by
  induction es with
  | nil => intro buf cnt _; simp
  | cons e t ih =>
    intro buf cnt hfit
    obtain ⟨_, hk⟩ := h e (by simp)
    obtain ⟨k, hk⟩ := Option.isSome_iff_exists.mp hk
    simp only [cafNeed, hk, Option.getD_some] at hfit
    simp only [List.cons_append, cafPut, hk]
    rw [if_neg (by omega)]
    rw [ih (fun e he => h e (by simp [he])) _ _ (by simp only [List.length_append, List.length_cons, List.length_nil]; omega)]
    congr 1
    · simp [pairBytes, hk, List.append_assoc]
    · simp only [List.length_cons]; omega

/-- … and a pair that does not fit is left out -/
theorem cafPut_skip (cap : Nat) (e : Nat × List Byte) (rest : List (Nat × List Byte)) (buf : List Byte) (cnt : Nat)
    (h : cap ≤ buf.length + cafNeed [e]) : cafPut cap buf cnt (e :: rest) = cafPut cap buf cnt rest := by
  simp only [cafNeed] at h
  rw [cafPut]
  cases hk : cafKey e.1 with
  | none => rfl
  | some k =>
    simp only [hk, Option.getD_some] at h ⊢
    rw [if_pos (Or.inr (by omega))]

theorem flatMap_pairBytes_length (es : List (Nat × List Byte)) : (es.flatMap pairBytes).length = cafNeed es := by
  induction es with
  | nil => simp [cafNeed]
  | cons e t ih => simp only [List.flatMap_cons, List.length_append, ih, cafNeed, pairBytes, List.length_cons, List.length_nil]; omega

theorem length_le_cafNeed (es : List (Nat × List Byte)) : es.length ≤ cafNeed es := by
  induction es with
  | nil => simp
  | cons e t ih => simp only [List.length_cons, cafNeed]; omega

/-- the `info` chunk when one string does not fit behind the ones before it: it is the chunk of the list without that string -/
theorem writeCafInfoW_skip (cap : Nat) (es : List (Nat × List Byte)) (e : Nat × List Byte) (rest : List (Nat × List Byte))
    (h : ∀ x ∈ es, cafOk x) (hfit : cafNeed es < cap) (hbig : cap ≤ cafNeed es + cafNeed [e]) :
    writeCafInfoW cap (es ++ e :: rest) = writeCafInfoW cap (es ++ rest) := by
  unfold writeCafInfoW
  rw [cafPut_fits cap es h _ [] 0 (by simpa using hfit), cafPut_fits cap es h rest [] 0 (by simpa using hfit),
    cafPut_skip _ _ _ _ _ (by rw [List.nil_append, flatMap_pairBytes_length]; exact hbig)]

theorem cafPairs_pair (fuel : Nat) (e : Nat × List Byte) (rest : List Byte) (h : cafOk e) :
    cafPairs (fuel + 1) (pairBytes e ++ rest) = e :: cafPairs fuel rest := by
  obtain ⟨ty, v⟩ := e
  obtain ⟨hz, hk⟩ := h
  obtain ⟨k, hk⟩ := Option.isSome_iff_exists.mp hk
  simp only at hz hk
  obtain ⟨kz, kt, kne, _⟩ := cafKey_spec hk
  have hb : pairBytes (ty, v) ++ rest = k ++ 0 :: (v ++ 0 :: rest) := by simp [pairBytes, hk]
  rw [hb, cafPairs]
  dsimp only
  rw [if_neg (by cases k <;> simp_all), cstr_append_zero k _ kz, if_neg (by simp only [List.length_append, List.length_cons]; omega)]
  -- the walk steps over key and value, each with its terminator
  simp only [drop_app_skip, Nat.le_add_right, Nat.add_sub_cancel_left, List.drop_succ_cons, List.drop_zero, cstr_append_zero v _ hz, kt]

theorem cafPairs_pairs (es : List (Nat × List Byte)) (h : ∀ e ∈ es, cafOk e) (fuel : Nat) (hf : es.length ≤ fuel) :
    cafPairs fuel (es.flatMap pairBytes) = es := by
  have hnil : cafPairs (fuel - es.length) [] = [] := by cases fuel - es.length <;> simp [cafPairs]
  simpa [Nat.add_sub_cancel' hf, hnil] using walk_flatMap pairBytes cafPairs id cafOk cafPairs_pair es h [] (fuel - es.length)

/-- get after re-open = what was set, for every list of CAF strings (any of the ten types, no NUL) that fits the writer's
    buffer of `cap` bytes and the 100 KiB the reader accepts -/
theorem caf_info_roundtrip_cap (cap : Nat) (es : List (Nat × List Byte)) (h : ∀ e ∈ es, cafOk e) (hfit : cafNeed es < cap)
    (hcap : cafNeed es ≤ HEADER_CAP) : readCafInfo (writeCafInfoW cap es) = es := by
  cases es with
  | nil => simp [writeCafInfoW, cafPut, readCafInfo, ofBE, ofLE]
  | cons e t =>
    have hput := cafPut_fits cap (e :: t) h [] [] 0 (by simpa using hfit)
    rw [List.append_nil, cafPut] at hput
    have hlen := flatMap_pairBytes_length (e :: t)
    have hpos : 0 < cafNeed (e :: t) := by simp only [cafNeed]; omega
    unfold HEADER_CAP at hcap
    unfold writeCafInfoW
    simp only [hput, List.nil_append, Nat.zero_add]
    rw [if_neg (by simp only [hlen, List.length_cons]; omega)]
    unfold readCafInfo
    have e4 : (mk "info").length = 4 := by decide
    -- size and string area are read by walking the chunk as it was written
    simp only [List.append_assoc, drop_app_skip, take_app_head, e4, be8_length, be4_length, Nat.reduceLeDiff, Nat.reduceSub, Nat.le_refl,
      List.drop_zero, ofBE_be8 (show ((e :: t).flatMap pairBytes).length + 4 < 2 ^ 64 by omega), Nat.add_sub_cancel, List.take_length]
    rw [if_neg (by unfold HEADER_CAP; omega)]
    exact cafPairs_pairs (e :: t) h _ (by rw [hlen]; have := length_le_cafNeed (e :: t); omega)

/-- the bytes the strings occupy in `psf->strings.storage` (text + NUL each) -/
def storedBytes (es : List (Nat × List Byte)) : Nat := (es.map fun e => e.2.length + 1).sum

theorem cafNeed_le_stored (es : List (Nat × List Byte)) : cafNeed es ≤ storedBytes es + 12 * es.length := by
  induction es with
  | nil => simp [cafNeed, storedBytes]
  | cons e t ih =>
    have hk : ((cafKey e.1).getD []).length ≤ 11 := by
      cases hc : cafKey e.1 with
      | none => simp
      | some k => simpa using (cafKey_spec hc).2.2.2
    simp only [cafNeed, storedBytes, List.map_cons, List.sum_cons, List.length_cons] at ih ⊢
    omega

/-- `caf_info_roundtrip` (full strength since the repair of the writer's buffer): get after re-open = what was set for every
    list of CAF strings a string table can hold (at most 32 entries, any of the ten types, no NUL) — `used`
    (`strings.storage_used`) is at least the bytes these strings occupy there — whose `info` chunk the header cache can hold -/
theorem caf_info_roundtrip (used : Nat) (es : List (Nat × List Byte)) (h : ∀ e ∈ es, cafOk e) (h32 : es.length ≤ SF_MAX_STRINGS)
    (hused : storedBytes es ≤ used) (hcap : cafNeed es ≤ HEADER_CAP) : readCafInfo (writeCafInfo used es) = es := by
  apply caf_info_roundtrip_cap _ es h _ hcap
  have := cafNeed_le_stored es
  unfold SF_MAX_STRINGS at *
  omega

example : readCafInfo (writeCafInfo 20 [(1, ascii "T"), (8, ascii "a licence"), (16, ascii "genre")]) =
    [(1, ascii "T"), (8, ascii "a licence"), (16, ascii "genre")] :=
  caf_info_roundtrip 20 _ (by decide +kernel) (by decide) (by decide +kernel) (by decide +kernel)

/-- the list of the two witnesses below: a title, a comment of `n` bytes, an artist -/
theorem cafOk_long_comment (n : Nat) : ∀ e ∈ [(1, [84]), (5, List.replicate n 99), (4, [65])], cafOk e := by
  intro e he
  simp only [List.mem_cons, List.mem_nil_iff, or_false] at he
  rcases he with rfl | rfl | rfl
  · exact ⟨by decide, by decide⟩
  · exact ⟨fun b hb => List.eq_of_mem_replicate hb ▸ by decide, rfl⟩
  · exact ⟨by decide, by decide⟩

/-- more than 16 KiB of strings come back … -/
example : readCafInfo (writeCafInfo 16372 [(1, [84]), (5, List.replicate 16367 99), (4, [65])]) =
    [(1, [84]), (5, List.replicate 16367 99), (4, [65])] := by
  have hstored : storedBytes [(1, [84]), (5, List.replicate 16367 99), (4, [65])] = 16372 := by
    simp only [storedBytes, List.map_cons, List.map_nil, List.sum_cons, List.sum_nil, List.length_replicate, List.length_cons, List.length_nil]
    decide
  apply caf_info_roundtrip _ _ (cafOk_long_comment 16367) (by decide) (Nat.le_of_eq hstored)
  have := cafNeed_le_stored [(1, [84]), (5, List.replicate 16367 99), (4, [65])]
  rw [hstored] at this
  exact Nat.le_trans this (by decide)

/-- the old writer's round trip under its limit `cafNeed es < 16384` -/
theorem caf_info_roundtrip_16k_old_rule (es : List (Nat × List Byte)) (h : ∀ e ∈ es, cafOk e) (hfit : cafNeed es < CAF_BUF) :
    readCafInfo (writeCafInfoOld es) = es :=
  caf_info_roundtrip_cap CAF_BUF es h hfit (by unfold CAF_BUF at hfit; unfold HEADER_CAP; omega)

/-- … where the fixed 16 KiB buffer dropped the string that did not fit, silently -/
theorem caf_buffer_limit_old_rule :
    readCafInfo (writeCafInfoOld [(1, [84]), (5, List.replicate 16367 99), (4, [65])]) = [(1, [84]), (4, [65])] := by
  -- any comment of 16367 bytes: it needs 16376 bytes behind the 8 of the title, one more than the 16 KiB buffer has left
  have key : ∀ l : List Byte, l.length = 16367 →
      readCafInfo (writeCafInfoOld [(1, [84]), (5, l), (4, [65])]) = [(1, [84]), (4, [65])] := by
    intro l hl
    have hkeys : ((cafKey 1).getD []).length = 5 ∧ ((cafKey 5).getD []).length = 7 := by decide
    rw [writeCafInfoOld, show [(1, [84]), (5, l), (4, [65])] = [(1, [84])] ++ (5, l) :: [(4, [65])] from rfl,
      writeCafInfoW_skip CAF_BUF [(1, [84])] (5, l) [(4, [65])] (by decide) (by decide)
        (by simp only [cafNeed, hkeys.1, hkeys.2, hl, List.length_cons, List.length_nil]; decide)]
    exact caf_info_roundtrip_16k_old_rule [(1, [84]), (4, [65])] (by decide) (by decide)
  exact key _ List.length_replicate

/-- the tags of chanmap.c are pairwise different and fit 32 bits (checked on the table extracted from the source) -/
theorem layout_tags_nodup : (layoutTable.map (·.1)).Nodup := by decide +kernel
theorem layout_tags_lt : ∀ e ∈ layoutTable, e.1 < 2 ^ 32 := by decide +kernel

/-- channel map round trip for AIFF (`CHAN`) and CAF (`chan`): whenever SFC_SET_CHANNEL_MAP_INFO finds a layout tag for the
    caller's map, the re-opened file returns exactly that map -/
theorem chan_roundtrip (caf : Bool) (m : List Nat) (h : findTag m ≠ 0) : readChan caf m.length (be4 (findTag m)) = some m := by
  unfold findTag findTagIn at h
  split at h
  · simp at h
  · rename_i hr
    split at h
    · rename_i e hf
      have hmem := List.mem_of_find?_eq_some hf
      have hp := List.find?_some hf
      simp only [Bool.and_eq_true, decide_eq_true_eq] at hp
      obtain ⟨hlen, hmap⟩ := hp
      have htag : findTag m = e.1 := by
        unfold findTag findTagIn; rw [if_neg hr, hf]
      have hlt := layout_tags_lt e hmem
      unfold readChan
      rw [htag, List.take_of_length_le (by simp), ofBE_be4 hlt]
      unfold ofTag ofTagIn
      have hcond : ¬ e.1 % 65536 ≥ layoutGroups := by omega
      have hfind := find_key_of_nodup (·.1) _ layout_tags_nodup e hmem
      obtain ⟨t, om⟩ := e
      simp only at hlen hmap hcond hfind
      subst hmap
      dsimp only
      simp only [if_neg hcond, hfind]
      congr 1
      apply List.take_of_length_le
      have hg : layoutGroups ≤ 256 := by decide
      cases caf <;> simp <;> omega
    · simp at h

example : findTag [2, 3] = 6619138 ∧ readChan false 2 (be4 6619138) = some [2, 3] ∧ findTag [3, 4] = 0 := by decide +kernel

theorem pascal_spec (name : List Byte) (hl : name.length ≤ 253) (hz : ∀ b ∈ name, b ≠ 0) :
    ∃ (size : Nat) (body : List Byte), pascal name = size :: body ∧ size % 2 = 1 ∧ body.length = size ∧
      1 + size = name.length + 1 + (if (name.length + 1) % 2 = 0 then 0 else 1) ∧ cstr body = name := by
  unfold pascal pascalW
  rcases Nat.mod_two_eq_zero_or_one name.length with he | ho
  · have hne : ¬ name.length % 2 = 1 := by omega
    have h1 : (name.length + 1) % 2 = 1 := by omega
    refine ⟨name.length + 1, name ++ [0], ?_, h1, by simp, ?_, ?_⟩
    · simp only [hne, if_false]
      rw [Nat.min_eq_left (by omega)]
      congr 1
      have hz256 : zeros 256 = 0 :: zeros 255 := rfl
      rw [hz256, show name ++ 0 :: zeros 255 = (name ++ [0]) ++ zeros 255 by simp]
      exact List.take_left' (by simp)
    · simp [h1]; omega
    · simpa using cstr_append_zero name [] hz
  · have h0 : (name.length + 1) % 2 = 0 := by omega
    refine ⟨name.length, name, ?_, ho, rfl, ?_, cstr_no_zero name hz⟩
    · simp only [ho, if_true]
      rw [Nat.min_eq_left (by omega)]
      simp
    · simp [h0]; omega

/-- repaired (KF-C12-AIFF-CUE-NAME-254): names of 254 and 255 characters — the longest SF_CUE_POINT.name holds — are written with an odd
    count and an even total, exactly the bytes `markStringLength` counts for the MARK chunk size -/
theorem pascal_254_255 :
    (pascal (List.replicate 254 110)).length = 256 ∧ (pascal (List.replicate 255 110)).length = 256 ∧
    (pascal (List.replicate 254 110)).head? = some 255 ∧
    markStringLength ⟨1, 2, List.replicate 254 110⟩ = 256 ∧ markStringLength ⟨1, 2, List.replicate 255 110⟩ = 256 := by decide +kernel

/-- the rule before the repair wrote 255 bytes where the chunk size counts 256: the MARK chunk was one byte short -/
theorem pascal_254_old_rule :
    (pascalOld (List.replicate 254 110)).length = 255 ∧ (pascalOld (List.replicate 255 110)).length = 255 ∧
    (pascalOld (List.replicate 253 110)) = pascal (List.replicate 253 110) := by decide +kernel

theorem serMark_length (m : Mark) (h : m.ok) : (serMark m).length = 6 + markStringLength m := by
  obtain ⟨_, _, hl, hz⟩ := h
  obtain ⟨size, body, hp, _, hb, hsz, _⟩ := pascal_spec m.name hl hz
  simp only [serMark, hp, List.length_append, be2_length, be4_length, List.length_cons, hb, markStringLength]; omega

theorem parseMarks_mark (n : Nat) (m : Mark) (rest : List Byte) (h : m.ok) :
    parseMarks (n + 1) (serMark m ++ rest) = m :: parseMarks n rest := by
  obtain ⟨hid, hpos, hl, hz⟩ := h
  obtain ⟨size, body, hp, hodd, hb, _, hcs⟩ := pascal_spec m.name hl hz
  have hmod : m.id % 65536 = m.id := Nat.mod_eq_of_lt hid
  rw [parseMarks, if_neg (by simp [serMark, hp]; omega)]
  -- id, position, the count byte and the name are read by walking the marker as it was written
  simp only [serMark, hp, hmod, List.append_assoc, List.cons_append, getD_app_skip, drop_app_skip, take_app_head, be2_length, be4_length,
    Nat.reduceLeDiff, Nat.reduceSub, Nat.le_refl, List.getD_cons_zero, List.drop_succ_cons, List.drop_zero, hodd, if_true, ofBE_be2 hid,
    ofBE_be4 hpos]
  rw [take_app_head _ _ hb, hcs, List.take_of_length_le (by omega), ← List.drop_drop]
  simp only [drop_app_skip, be2_length, be4_length, Nat.reduceLeDiff, Nat.reduceSub, List.drop_succ_cons, List.drop_zero, List.drop_left' hb]

theorem parseMarks_all (ms : List Mark) (h : ∀ m ∈ ms, m.ok) : parseMarks ms.length (ms.flatMap serMark) = ms := by
  simpa [parseMarks] using walk_flatMap serMark parseMarks id Mark.ok parseMarks_mark ms h [] 0

theorem flatMap_serMark_length (ms : List Mark) (h : ∀ m ∈ ms, m.ok) :
    (ms.flatMap serMark).length = ms.length * 6 + (ms.map markStringLength).sum := by
  induction ms with
  | nil => simp
  | cons m t ih =>
    simp only [List.flatMap_cons, List.length_append, serMark_length m (h m (by simp)), ih (fun m hm => h m (by simp [hm])), List.length_cons,
      List.map_cons, List.sum_cons]; omega

/-- AIFF markers: 16-bit id, position and name (at most 253 bytes, no NUL) survive, for up to 2500 markers -/
theorem mark_roundtrip (ms : List Mark) (hn : ms.length ≤ 2500) (h : ∀ m ∈ ms, m.ok) : readMarks (writeMarks ms) = some ms := by
  have hlen := flatMap_serMark_length ms h
  have hsum : (ms.map markStringLength).sum ≤ 256 * ms.length := by
    clear hlen
    induction ms with
    | nil => simp
    | cons m t ih =>
      have := (h m (by simp)).2.2.1
      have := ih (by simp at hn; omega) (fun m hm => h m (by simp [hm]))
      simp only [List.map_cons, List.sum_cons, List.length_cons, markStringLength]; split <;> omega
  have e4 : (mk "MARK").length = 4 := by decide
  have htake : (be2 ms.length ++ ms.flatMap serMark).take (2 + ms.length * 6 + (ms.map markStringLength).sum) = be2 ms.length ++ ms.flatMap serMark :=
    List.take_of_length_le (by simp only [List.length_append, be2_length, hlen]; omega)
  unfold readMarks writeMarks
  -- size, count and the markers are read by walking the chunk as it was written
  simp only [List.append_assoc, drop_app_skip, take_app_head, e4, be4_length, be2_length, Nat.reduceLeDiff, Nat.reduceSub, Nat.le_refl,
    List.drop_zero, ofBE_be4 (show 2 + ms.length * 6 + (ms.map markStringLength).sum < 2 ^ 32 by omega), htake,
    ofBE_be2 (show ms.length < 2 ^ 16 by omega)]
  rw [if_neg (by omega), parseMarks_all ms h]

example : readMarks (writeMarks [⟨1, 10, ascii "one"⟩, ⟨7, 20, ascii "even"⟩, ⟨9, 30, []⟩]) = some [⟨1, 10, ascii "one"⟩, ⟨7, 20, ascii "even"⟩, ⟨9, 30, []⟩] := by
  decide +kernel

/-- the cue fields AIFF has no place for come back as 0 / 'data' (an assumption of the check, stated here as what the model does) -/
example : cueOfMark (markOfCue ⟨70000, 5, 7, 8, 9, 44, ascii "n"⟩) = ⟨70000 % 65536, 0, 0x61746164, 0, 0, 44, ascii "n"⟩ := by decide

end Sf.MetaX
