/-
-- properties: C01
  C01 (ALAC, "lossless, bit exact") — the REAL encoder on every channel count:

  * `alac_lossless` (FULL): for every bit depth 16 / 20 / 24 / 32, 1 … 8 channels (every element layout of `alac_encode`),
    every encoder state (per channel index: two 16 x 16 tables of int16 coefficients and a last mixing ratio 0 … 4 — what the
    encoder carries from packet to packet), every packet of 1 … 4096 frames of int32 samples:
    `alac_decode (alac_encode (frames))` = the frames with the low `32 - depth` bits cleared — whatever the searches of
    EncodeMono (order) and EncodeStereo (mixing ratio, orders) pick, whether an element ends compressed or as an escape
    element ("compressed frame too big" included). `alac_encode_state_ok`: the state after the packet is of the same kind, so the
    statement holds for every packet of a stream (`alac_lossless_stream`). `alac_lossless_exact`: samples within the depth's
    range come back bit exact.
  * `alac_pair_element_lossless`: one ID_CPE element inside any packet.
  * `alac_lossless_elems`: the same, asking of the state only what the packet's elements read; `alac_lossless` and
    `alac_lossless_mono` are its instances.
  * `alac_lossless_mono` (FULL for 1 channel), `alac_lossless_mono_stream`: the one-channel case, where the state need only
    hold a table of int16 rows in `mCoefsU [0]` (a mono packet is written from that table alone).
  Built from: `decMono_comp` / `decPair_comp` (parameter block, shifted-off bytes, dyn_decomp ∘ dyn_comp, unpc ∘ pc, unmix ∘ mix,
  output conversion), the escape theorems of C01Alac.lean and the invariants of SfProofs/AlacEncState.lean.
-/
import SfProofs.AlacPair
import SfProps.C01AlacLossless
import SfProps.C01Alac
namespace Sf.AlacCore

/-- what EncodeStereo writes, whatever the encoder state, decodes to both channels' samples with the low bits cleared wherever it stands -/
theorem decPair_enc {cfg : Config} (hd : Depth cfg.bitDepth) (hmb : cfg.mb = 10) (hpb : cfg.pb = 40) (hkb : cfg.kb = 14)
    (st : EncChan) (hst : PairStateOk st) (byteSize : Nat) (ls rs : List Int) (hlen : ls.length = rs.length)
    (hls : ∀ x ∈ ls, I32 x) (hrs : ∀ x ∈ rs, I32 x) {n : Nat} (hl : ls.length = n) (hn : n ≤ frameLen) :
    DecodesTo (decPair (comp Rules.current byteSize) Rules.current cfg) byteSize n (encPair cfg.bitDepth frameLen st ls rs).1
      [ls.map (trunc cfg.bitDepth), rs.map (trunc cfg.bitDepth)] := by
  rcases (encPair_cases cfg.bitDepth st ls rs hst).1 with he | ⟨mixRes, cU, cV, numU, numV, hm, hcu, hcv, hnu, hnv, he⟩
  · rw [he, hl]
    exact decPair_esc _ hd byteSize ls rs hlen hls hrs hl hn _
  · rw [he]
    exact decPair_comp hd hmb hpb hkb byteSize ls rs hlen mixRes hm cU cV numU numV
      (by rw [hcu.1]; rcases hnu with h | h <;> rw [h] <;> decide) (by rw [hcv.1]; rcases hnv with h | h <;> rw [h] <;> decide)
      (by rcases hnu with h | h <;> rw [h] <;> decide) (by rcases hnv with h | h <;> rw [h] <;> decide)
      (fun c hc => hcu.2 c (List.mem_of_mem_take hc)) (fun c hc => hcv.2 c (List.mem_of_mem_take hc)) hls hrs hl hn

/-- one channel pair of `alac_encode`, whatever the encoder state, decodes to both channels' samples with the low bits cleared -/
theorem alac_pair_element_lossless {cfg : Config} (hd : Depth cfg.bitDepth) (hmb : cfg.mb = 10) (hpb : cfg.pb = 40) (hkb : cfg.kb = 14)
    (st : EncChan) (hst : PairStateOk st) (byteSize inst reqN : Nat) (ls rs : List Int) (hlen : ls.length = rs.length)
    (hls : ∀ x ∈ ls, I32 x) (hrs : ∀ x ∈ rs, I32 x) (hn : ls.length ≤ frameLen) (hreq : ls.length = frameLen → reqN = frameLen)
    (rest : Bits) (p : Nat) (hroom : p + 4 + (encPair cfg.bitDepth frameLen st ls rs).1.length ≤ byteSize * 8) :
    decPair (comp Rules.current byteSize) Rules.current cfg reqN ⟨bitsOf inst 4 ++ ((encPair cfg.bitDepth frameLen st ls rs).1 ++ rest), p⟩ =
      .done ls.length [ls.map (trunc cfg.bitDepth), rs.map (trunc cfg.bitDepth)]
        ⟨rest, p + 4 + (encPair cfg.bitDepth frameLen st ls rs).1.length⟩ :=
  decPair_enc hd hmb hpb hkb st hst byteSize ls rs hlen hls hrs rfl hn inst reqN rest p hreq hroom

/-- the encoder state: every channel index holds two int16 coefficient tables and a mixing ratio 0 … 4 -/
def AllOk (st : EncState) : Prop := ∀ c, PairStateOk (st.getD c {})

theorem default_pairStateOk : PairStateOk ({} : EncChan) := by
  unfold PairStateOk RowsOk CoefsOk Int16
  decide

theorem allOk_set (st : EncState) (c : Nat) (s1 : EncChan) (h : AllOk st) (h1 : PairStateOk s1) : AllOk (st.set c s1) := by
  intro k
  by_cases hk : k = c
  · subst hk
    by_cases hl : k < st.length
    · rw [List.getD_eq_getElem?_getD, List.getElem?_set_self hl]; exact h1
    · rw [List.getD_eq_getElem?_getD, List.getElem?_eq_none (by simp; omega)]; exact default_pairStateOk
  · have := h k
    rw [List.getD_eq_getElem?_getD] at this ⊢
    rw [List.getElem?_set_ne (by omega)]; exact this

/-- EncodeMono touches only `mCoefsU` of its channel index -/
theorem encMono_pairStateOk (depth : Nat) (st : EncChan) (xs : List Int) (h : PairStateOk st) : PairStateOk (encMono depth frameLen st xs).2 := by
  have hr := (encMono_cases depth st xs h.1).2
  rcases encMono_outcomes depth frameLen st xs with e | e | e
  all_goals rw [e] at hr ⊢; exact ⟨hr, h.2⟩

theorem encElems_allOk (depth : Nat) (frames : List (List Int)) : ∀ (ts : List Nat) (c m s : Nat) (st : EncState), AllOk st →
    AllOk (encElems depth frameLen frames ts c m s st).2
  | [], _, _, _, _, h => h
  | t :: ts, c, m, s, st, h => by
    rw [encElems]
    split
    · exact encElems_allOk depth frames ts _ _ _ _ (allOk_set st c _ h (encPair_cases depth _ _ _ (h c)).2)
    · exact encElems_allOk depth frames ts _ _ _ _ (allOk_set st c _ h (encMono_pairStateOk depth _ _ (h c)))

theorem encMono_length_pos (depth : Nat) (st : EncChan) (xs : List Int) (h : RowsOk st.coefsU) : 16 ≤ (encMono depth frameLen st xs).1.length := by
  rcases (encMono_cases depth st xs h).1 with he | ⟨coefs, numU, hc, hu, he⟩
  · rw [he, encMonoEsc_length]; unfold escHeaderLen; split <;> omega
  · rw [he, compMonoBits_length _ _ _ _ _ (by rw [hc.1]; rcases hu with h | h <;> rw [h] <;> decide)]; split <;> omega

/-- within one packet every element finds at its channel index the state the packet started with: the indices only grow -/
theorem encElems_eq (depth : Nat) (frames : List (List Int)) (st : EncState) : ∀ (ts : List Nat) (c m s : Nat) (st' : EncState),
    (∀ i, c ≤ i → st'.getD i {} = st.getD i {}) →
    (encElems depth frameLen frames ts c m s st').1 =
      elemsBits (fun c _ => (encMono depth frameLen (st.getD c {}) (chanOf frames c)).1)
        (fun c _ => (encPair depth frameLen (st.getD c {}) (chanOf frames c) (chanOf frames (c + 1))).1) ts c m s
  | [], _, _, _, _, _ => rfl
  | t :: ts, c, m, s, st', h => by
    have hset : ∀ (x : EncChan) (k : Nat), 0 < k → ∀ i, c + k ≤ i → (st'.set c x).getD i {} = st.getD i {} := fun x k hk i hi => by
      rw [List.getD_eq_getElem?_getD, List.getElem?_set_ne (by omega), ← List.getD_eq_getElem?_getD]
      exact h i (by omega)
    rw [encElems, elemsBits]
    split
    · simp only [encElems_eq depth frames st ts _ _ _ _ (hset _ 2 (by decide)), h c (Nat.le_refl c)]
    · simp only [encElems_eq depth frames st ts _ _ _ _ (hset _ 1 (by decide)), h c (Nat.le_refl c)]

theorem alac_encode_state_ok (cfg : Config) (st : EncState) (hst : AllOk st) (frames : List (List Int)) : AllOk (encode cfg st frames).2 := by
  unfold encode
  exact encElems_allOk cfg.bitDepth frames _ _ _ _ _ hst

theorem init_allOk (n : Nat) : AllOk (EncState.init n) := by
  intro c
  unfold EncState.init
  rw [List.getD_eq_getElem?_getD]
  by_cases h : c < max n 8
  · rw [List.getElem?_replicate]; simp [h]; exact default_pairStateOk
  · rw [List.getElem?_eq_none (by simp; omega)]; exact default_pairStateOk

/-- ALAC is lossless on every packet whose elements find what they read in the encoder state: at the channel index of each mono
    element a table of int16 rows, at that of each pair both tables and a mixing ratio 0 … 4 -/
theorem alac_lossless_elems (cfg : Config) (hd : Depth cfg.bitDepth) (hc1 : 1 ≤ cfg.numChannels) (hc8 : cfg.numChannels ≤ 8)
    (hmb : cfg.mb = 10) (hpb : cfg.pb = 40) (hkb : cfg.kb = 14) (st : EncState)
    (hsce : ∀ c, (ID_SCE, c) ∈ elemsAt (layout cfg.numChannels) 0 → RowsOk (st.getD c {}).coefsU)
    (hcpe : ∀ c, (ID_CPE, c) ∈ elemsAt (layout cfg.numChannels) 0 → PairStateOk (st.getD c {})) (frames : List (List Int))
    (hn : frames.length ≤ 4096) (hf : ∀ f ∈ frames, f.length = cfg.numChannels ∧ ∀ x ∈ f, I32 x) :
    decodeFresh cfg (encode cfg st frames).1 = frames.map (·.map (trunc cfg.bitDepth)) := by
  have hI := chanOf_I32 frames fun f h => (hf f h).2
  obtain ⟨_, h2, h3⟩ := decode_elemsBits cfg hc1 hc8 frames _ _
    (fun byteSize c _ h => decMono_enc hd hmb hpb hkb _ (hsce c h) byteSize _ (hI c) (chanOf_length frames c) hn)
    (fun byteSize c _ h => decPair_enc hd hmb hpb hkb _ (hcpe c h) byteSize _ _ (by simp [chanOf_length]) (hI c) (hI (c + 1)) (chanOf_length frames c) hn)
  unfold decodeFresh
  rw [show (encode cfg st frames).1 = pack (_ ++ bitsOf ID_END 3) from rfl, encElems_eq cfg.bitDepth frames st _ 0 0 0 st fun _ _ => rfl]
  exact frames_of_chans _ _ _ frames h2 h3 (fun f h => (hf f h).1)

/-- ALAC is lossless: for every depth, 1 … 8 channels, every encoder state, every packet of 1 … 4096 frames of int32 samples,
    `alac_decode (alac_encode (frames))` = the frames with the low `32 - depth` bits cleared -/
theorem alac_lossless (cfg : Config) (hd : Depth cfg.bitDepth) (hc1 : 1 ≤ cfg.numChannels) (hc8 : cfg.numChannels ≤ 8)
    (hmb : cfg.mb = 10) (hpb : cfg.pb = 40) (hkb : cfg.kb = 14) (st : EncState) (hst : AllOk st) (frames : List (List Int))
    (hn : frames.length ≤ 4096) (hf : ∀ f ∈ frames, f.length = cfg.numChannels ∧ ∀ x ∈ f, I32 x) :
    decodeFresh cfg (encode cfg st frames).1 = frames.map (·.map (trunc cfg.bitDepth)) :=
  alac_lossless_elems cfg hd hc1 hc8 hmb hpb hkb st (fun c _ => (hst c).1) (fun c _ => hst c) frames hn hf

/-- lossless, bit exact: samples within the depth's range come back unchanged -/
theorem alac_lossless_exact (cfg : Config) (hd : Depth cfg.bitDepth) (hc1 : 1 ≤ cfg.numChannels) (hc8 : cfg.numChannels ≤ 8)
    (hmb : cfg.mb = 10) (hpb : cfg.pb = 40) (hkb : cfg.kb = 14) (st : EncState) (hst : AllOk st) (frames : List (List Int))
    (hn : frames.length ≤ 4096) (hf : ∀ f ∈ frames, f.length = cfg.numChannels ∧ ∀ x ∈ f, InRange cfg.bitDepth x) :
    decodeFresh cfg (encode cfg st frames).1 = frames := by
  rw [alac_lossless cfg hd hc1 hc8 hmb hpb hkb st hst frames hn (fun f h => ⟨(hf f h).1, fun x hx => ((hf f h).2 x hx).1⟩)]
  exact map_id_of_fix frames fun f hfm x hx => trunc_inRange ((hf f hfm).2 x hx)

/-- the packets `alac_encode` writes for a sequence of staged blocks, the state carried along -/
def encodeAll (cfg : Config) : EncState → List (List (List Int)) → List (List Byte)
  | _, [] => []
  | st, fr :: rest => (encode cfg st fr).1 :: encodeAll cfg (encode cfg st fr).2 rest

/-- a whole stream: every packet of the file decodes to what was staged for it -/
theorem alac_lossless_stream (cfg : Config) (hd : Depth cfg.bitDepth) (hc1 : 1 ≤ cfg.numChannels) (hc8 : cfg.numChannels ≤ 8)
    (hmb : cfg.mb = 10) (hpb : cfg.pb = 40) (hkb : cfg.kb = 14) : ∀ (blocks : List (List (List Int))) (st : EncState), AllOk st →
    (∀ fr ∈ blocks, fr.length ≤ 4096 ∧ ∀ f ∈ fr, f.length = cfg.numChannels ∧ ∀ x ∈ f, I32 x) →
    (encodeAll cfg st blocks).map (decodeFresh cfg) = blocks.map fun fr => fr.map (·.map (trunc cfg.bitDepth))
  | [], _, _, _ => rfl
  | fr :: rest, st, hst, h => by
    obtain ⟨h1, h2⟩ := h fr (by simp)
    simp only [encodeAll, List.map_cons]
    rw [alac_lossless cfg hd hc1 hc8 hmb hpb hkb st hst fr h1 h2,
      alac_lossless_stream cfg hd hc1 hc8 hmb hpb hkb rest _ (alac_encode_state_ok cfg st hst fr) (fun fr' h' => h fr' (by simp [h']))]

/-! ## Mono files: any table of `mCoefsU [0]` will do -/

/-- ALAC is lossless on mono files: for every depth, every encoder state (any table of int16 coefficient rows), every
    packet of 1 … 4096 int32 samples, `alac_decode (alac_encode (frames))` = the frames with the low `32 - depth` bits cleared -/
theorem alac_lossless_mono (cfg : Config) (hd : Depth cfg.bitDepth) (hc : cfg.numChannels = 1) (hmb : cfg.mb = 10) (hpb : cfg.pb = 40)
    (hkb : cfg.kb = 14) (st : EncState) (hst : StateOk st) (frames : List (List Int)) (hn : frames.length ≤ 4096)
    (hf : ∀ f ∈ frames, f.length = 1 ∧ ∀ x ∈ f, I32 x) :
    decodeFresh cfg (encode cfg st frames).1 = frames.map (·.map (trunc cfg.bitDepth)) := by
  have hl : elemsAt (layout cfg.numChannels) 0 = [(ID_SCE, 0)] := by rw [hc]; rfl
  refine alac_lossless_elems cfg hd (by omega) (by omega) hmb hpb hkb st (fun c h => ?_) (fun c h => ?_) frames hn (by rw [hc]; exact hf)
  · rw [hl, List.mem_singleton] at h
    exact (Prod.mk.inj h).2 ▸ hst
  · rw [hl, List.mem_singleton] at h
    exact absurd (Prod.mk.inj h).1 (by decide)

/-- a whole mono stream: every packet of the file decodes to what was staged for it -/
theorem alac_lossless_mono_stream (cfg : Config) (hd : Depth cfg.bitDepth) (hc : cfg.numChannels = 1) (hmb : cfg.mb = 10) (hpb : cfg.pb = 40)
    (hkb : cfg.kb = 14) : ∀ (blocks : List (List (List Int))) (st : EncState), StateOk st → 0 < st.length →
    (∀ fr ∈ blocks, fr.length ≤ 4096 ∧ ∀ f ∈ fr, f.length = 1 ∧ ∀ x ∈ f, I32 x) →
    (encodeAll cfg st blocks).map (decodeFresh cfg) = blocks.map fun fr => fr.map (·.map (trunc cfg.bitDepth))
  | [], _, _, _, _ => rfl
  | fr :: rest, st, hst, hl, h => by
    obtain ⟨h1, h2⟩ := h fr (by simp)
    obtain ⟨k1, k2⟩ := alac_encode_keeps_state cfg hc st hst hl fr
    simp only [encodeAll, List.map_cons]
    rw [alac_lossless_mono cfg hd hc hmb hpb hkb st hst fr h1 h2,
      alac_lossless_mono_stream cfg hd hc hmb hpb hkb rest _ k1 k2 (fun fr' h' => h fr' (by simp [h']))]

/-- non-vacuity: the first packet of a 24-bit mono file (the encoder's initial state) -/
example : decodeFresh ⟨24, 1, 40, 10, 14, 255⟩ (encode ⟨24, 1, 40, 10, 14, 255⟩ (EncState.init 1) [[256], [-512], [2147483392]]).1 =
    [[256], [-512], [2147483392]].map (·.map (trunc 24)) :=
  alac_lossless_mono ⟨24, 1, 40, 10, 14, 255⟩ (by unfold Depth; decide) rfl rfl rfl rfl _ init_stateOk _ (by decide)
    (by intro f hf; simp at hf; rcases hf with rfl | rfl | rfl <;> (refine ⟨rfl, ?_⟩; intro x hx; simp at hx; subst hx; unfold I32; decide))

/-- non-vacuity: the first packet of a 20-bit, 3-channel file (an SCE and a CPE element), the encoder's initial state -/
example : decodeFresh ⟨20, 3, 40, 10, 14, 255⟩ (encode ⟨20, 3, 40, 10, 14, 255⟩ (EncState.init 3) [[4096, -8192, 12288], [2147479552, -2147483648, 0]]).1 =
    [[4096, -8192, 12288], [2147479552, -2147483648, 0]] :=
  alac_lossless_exact ⟨20, 3, 40, 10, 14, 255⟩ (by unfold Depth; decide) (by decide) (by decide) rfl rfl rfl _ (init_allOk 3) _ (by decide)
    (by intro f hf; simp at hf; rcases hf with rfl | rfl <;> (refine ⟨rfl, ?_⟩; intro x hx; simp at hx; rcases hx with rfl | rfl | rfl <;> (unfold InRange I32; decide)))

end Sf.AlacCore
