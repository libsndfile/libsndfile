-- properties: C04 C11
/-
  C04 / C11 — the PAF container (stand-alone L1 model SfModel/Paf.lean over SfModel/SmallSession.lean; the frame count
  of the 24-bit block encoding is `Sf.Paf24.maxBlocks` of SfModel/Paf24.lean; helpers SfProofs/SmallSession.lean,
  SfProofs/Paf.lean).

  The 2048-byte header holds no length and is written once, at open.  For the 24-bit encoding the audio bytes of a
  session are the 32-bytes-per-channel blocks the codec stores (the last, partial block is stored by paf24_close).
-/
import SfProofs.Paf
namespace Sf.C04Paf
open Sf Sf.Small Sf.Paf

theorem closedBytes_eq (c : Cfg) (stale : Nat) (ops : List WOp) : closedBytes (spec c) stale ops = hdr c ++ opsData ops :=
  (static_bytes (spec c) (spec_plain c) (hdr c) (fun _ _ _ => rfl) stale ops).1

theorem snapshotBytes_eq (c : Cfg) (stale : Nat) (ops : List WOp) : snapshotBytes (spec c) stale ops = hdr c ++ opsData ops :=
  (static_bytes (spec c) (spec_plain c) (hdr c) (fun _ _ _ => rfl) stale ops).2

/-- **paf_reopen_info.**  For every accepted configuration (PCM S8 / 16 / 24, either byte order, up to 1024 channels,
    any rate up to 2^31 − 1: the rate field has 32 bits) and every session the closed file re-opens with the requested
    channels, format word (the byte order is always recorded) and rate; frames = audio bytes / block width for
    PCM S8 / 16 and ten per started 32-byte-per-channel block for the 24-bit encoding. -/
theorem paf_reopen_info (c : Cfg) (hwf : c.wf) (stale : Nat) (ops : List WOp) :
    parse (closedBytes (spec c) stale ops) =
      .ok { ch := c.ch, fmt := c.fmtWord, sr := c.sr, frames := framesOf c (opsData ops).length } := by
  rw [closedBytes_eq]; exact parse_hdr c hwf _

theorem maxBlocks_whole (ch k : Nat) (hch : 0 < ch) : Paf24.maxBlocks ch (k * (32 * ch)) = k := by
  unfold Paf24.maxBlocks Paf24.chanBytes
  have h0 : k * (32 * ch) % 32 = 0 := by
    have : k * (32 * ch) = 32 * (k * ch) := by rw [Nat.mul_left_comm]
    rw [this]; exact Nat.mul_mod_right 32 _
  rw [if_neg (by simp [h0])]
  exact Nat.mul_div_cancel _ (by omega)

/-- **paf_frames_bound.**  PCM S8 / 16: N whole frames written re-open as exactly N.  24-bit: the ⌈N / 10⌉ blocks the
    codec stores re-open as F = 10 ⌈N / 10⌉ frames, N ≤ F < N + 10 (block length 10). -/
theorem paf_frames_bound (c : Cfg) (hwf : c.wf) (N D : Nat) :
    (c.codec ≠ 0x03 → D = N * c.bw → framesOf c D = N) ∧
    (c.codec = 0x03 → D = ((N + 9) / 10) * (32 * c.ch) → N ≤ framesOf c D ∧ framesOf c D < N + 10 ∧ framesOf c D = 10 * ((N + 9) / 10)) := by
  obtain ⟨_, h1, _⟩ := cfg_cases c hwf
  constructor
  · intro h3 hD
    unfold framesOf; rw [if_neg h3, hD, Nat.mul_div_cancel _ (bw_pos c hwf)]
  · intro h3 hD
    unfold framesOf; rw [if_pos h3, hD, maxBlocks_whole c.ch _ (by omega)]
    unfold Paf24.spb
    omega

def exCfg : Cfg := ⟨0x02, 0, 2, 44100⟩
def exLe24 : Cfg := ⟨0x03, 3, 1, 2147483647⟩
def exOps : List WOp := [.write [0, 1, 0, 2] false, .update, .write [0, 3, 0, 4, 0, 5, 0, 6] true]

example : exCfg.wf ∧ (closedBytes (spec exCfg) 99 exOps).length = 2060 ∧
    parse (closedBytes (spec exCfg) 99 exOps) = .ok ⟨2, 0x20050002, 44100, 3⟩ := by
  refine ⟨by decide, ?_, ?_⟩
  · rw [closedBytes_eq, List.length_append, hdr_length]; rfl
  · rw [paf_reopen_info exCfg (by decide)]; decide
example : exLe24.wf ∧ framesOf exLe24 64 = 20 ∧ exLe24.fmtWord = 0x10050003 ∧ framesOf exLe24 33 = 20 := by decide

/-- **paf_size_fields.**  The header holds no length field; the file is 2048 header bytes plus the audio. -/
theorem paf_size_fields (c : Cfg) (stale : Nat) (ops : List WOp) :
    (closedBytes (spec c) stale ops).length = 2048 + (opsData ops).length ∧
    (closedBytes (spec c) stale ops).take 2048 = hdr c := by
  rw [closedBytes_eq]
  exact ⟨by rw [List.length_append, hdr_length]; rfl, List.take_left' (hdr_length c)⟩

/-- **stale_frames_ignored_paf.**  No byte of a PAF file depends on the frames value the caller left in SF_INFO. -/
theorem stale_frames_ignored_paf (c : Cfg) (a b : Nat) (ops : List WOp) :
    closedBytes (spec c) a ops = closedBytes (spec c) b ops ∧ snapshotBytes (spec c) a ops = snapshotBytes (spec c) b ops ∧
    (openW (spec c) a).bytes = (openW (spec c) b).bytes := by
  rw [closedBytes_eq, closedBytes_eq, snapshotBytes_eq, snapshotBytes_eq]
  exact ⟨rfl, rfl, rfl⟩

example : closedBytes (spec exCfg) 0 exOps = closedBytes (spec exCfg) 123456 exOps := by rw [closedBytes_eq, closedBytes_eq]

/-- **paf_snapshot_valid** (C11).  After any session prefix the image a header update leaves in the store is the
    header followed by exactly the audio bytes stored so far and parses with the requested parameters; for the 24-bit
    encoding the stored bytes are the completed blocks, so the count is the frames written rounded down to whole blocks
    (`paf_frames_floor`). -/
theorem paf_snapshot_valid (c : Cfg) (hwf : c.wf) (stale : Nat) (ops : List WOp) :
    parse (snapshotBytes (spec c) stale ops) =
      .ok { ch := c.ch, fmt := c.fmtWord, sr := c.sr, frames := framesOf c (opsData ops).length } ∧
    snapshotBytes (spec c) stale ops = hdr c ++ opsData ops := by
  rw [snapshotBytes_eq]; exact ⟨parse_hdr c hwf _, rfl⟩

/-- ⌊N / 10⌋ completed blocks of the 24-bit encoding are reported as 10 ⌊N / 10⌋ frames -/
theorem paf_frames_floor (c : Cfg) (hwf : c.wf) (h3 : c.codec = 0x03) (N : Nat) :
    framesOf c ((N / 10) * (32 * c.ch)) = 10 * (N / 10) := by
  obtain ⟨_, h1, _⟩ := cfg_cases c hwf
  unfold framesOf; rw [if_pos h3, maxBlocks_whole c.ch _ (by omega)]; rfl

example : framesOf exLe24 ((25 / 10) * (32 * 1)) = 20 := by decide

end Sf.C04Paf
