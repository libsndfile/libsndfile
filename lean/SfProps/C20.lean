/-
  C20 — built-in codec kernels conform to their published definitions for every input.
  G.711 part: tables, encode ∘ decode, the short entry point; G.711 as a quantiser is in SfProps/C20Quant.lean, its independence of
  the process history in C20Order.lean.  The other kernels: C20Ieee.lean and C20Cross.lean (IEEE serialisers, byte order),
  C20Adpcm.lean, C20G72x.lean, C20G72xTrack.lean, C20Gsm.lean, C20CodecTables.lean (NMS and GSM tables).
-/
import SfModel.Generated.G711Tables
import SfProofs.Table
import SfProofs.G711
namespace Sf.C20
open Sf.G711 Sf.Generated

/-! The tables the library uses are the G.711 definition.  `*Tab` (SfModel/Generated/G711Tables.lean) are regenerated
from the running library on every check run; these `decide` proofs are re-checked by the kernel against them, so they
are theorems about what the code computes. -/

theorem ulaw_decode_table_spec : ulawDecodeTab = (List.range 256).map ulawDecode :=
  tabIs_spec _ _ _ (by decide +kernel)
theorem alaw_decode_table_spec : alawDecodeTab = (List.range 256).map alawDecode :=
  tabIs_spec _ _ _ (by decide +kernel)

/-! The encode tables are evaluated against the closed forms of the compressors (`ulawEncLog`, `alawEncLog`: the segment as
the position of the leading one).  The generated tables are chains `t₀ ++ t₁ ++ … ++ tₙ` of private chunks, nested to the
left: walked as they stand every entry is copied once per chunk behind it, so the chain is re-associated first. -/

theorem ulaw_encode_table_spec : ulawEncodeTab = (List.range 8193).map ulawEncMag := by
  rw [List.map_congr_left fun m _ => ulawEncMag_eq_log m]
  apply tabIs_spec
  unfold ulawEncodeTab
  simp only [List.append_assoc]
  decide +kernel
theorem alaw_encode_table_spec : alawEncodeTab = (List.range 2049).map alawEncMag := by
  rw [List.map_congr_left fun m hm => alawEncMag_eq_log m (Nat.le_of_lt_succ (List.mem_range.mp hm))]
  apply tabIs_spec
  unfold alawEncodeTab
  simp only [List.append_assoc]
  decide +kernel

/-! encode ∘ decode is the identity on codes, except that µ-law has two zeros: code 0x7F decodes to 0, which encodes
to 0xFF (G.711 itself; stated as such). -/

theorem ulaw_enc_dec_id : ∀ c, c < 256 → c ≠ 0x7F → ulawEncode (ulawDecode c) = c := by decide +kernel
theorem ulaw_two_zeros : ulawDecode 0x7F = 0 ∧ ulawDecode 0xFF = 0 ∧ ulawEncode 0 = 0xFF := by decide
theorem alaw_enc_dec_id : ∀ c, c < 256 → alawEncode (alawDecode c) = c := by decide +kernel

/-! `G711.ulaw` / `alaw` carry the spec functions (`ulawDecode`, `ulawEncMag`, …) in the place of the library's tables, which the
theorems above tie to them; so the two theorems below say nothing of a table: they compare the index arithmetic of
`Law.encS16` (`s2ulaw_array` / `s2alaw_array`: C's truncating `x / 4`, `x / -4`) with the floor of the definition
(`Law.encS16_floor`, SfProofs/G711.lean), and hold for every `Int`: the range hypotheses are not used. -/

theorem ulaw_encS16_spec (x : Int) (h1 : -32768 ≤ x) (h2 : x ≤ 32767) : ulaw.encS16 x = ulawEncode x := by
  simp only [Law.encS16_floor, ulawEncode, ulaw, Int.reducePow]

theorem alaw_encS16_spec (x : Int) (h1 : -32768 ≤ x) (h2 : x ≤ 32767) : alaw.encS16 x = alawEncode x := by
  simp only [Law.encS16_floor, alawEncode, alaw, Int.reducePow]

/-- non-vacuity: the hypotheses are met by ordinary samples and the function is not constant -/
example : ulaw.encS16 1000 = 0xCE ∧ ulaw.encS16 (-1000) = 0x4E ∧ alaw.encS16 1000 = 0xFA := by decide

end Sf.C20
