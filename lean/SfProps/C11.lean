/-
  C11 — after a header update the bytes on disk are already a valid file (crash points).
  Helpers: SfProofs/Container*.lean.  This file has the containers of the `Sf.Handle` model: AU, WAV (RAW has no
  header: its store is always exactly the audio written so far).  The other containers state the same two facts in
  their C04 file, over their own session model (`<x>_snapshot_valid` or `snapshot_valid_<x>`, `<x>_updates_dont_change_file`);
  block codecs: C11BlockEdge; the predicate: C11AbsW.

  A crash point is the instant after `stepCmdFlag h s 0x1060 0` (SFC_UPDATE_HEADER_NOW) returns, or after a
  write call returns while SFC_SET_UPDATE_HEADER_AUTO is on.  The snapshot is the store's byte list at that
  instant; "a reader opening a copy" is `openHandle … .r` on those bytes in another store.
  N_k = `sessFrames` of the operations so far.  All encodings here are sample-granular, so no rounding to
  blocks occurs (`C04.floor_bound` is the arithmetic for block codecs).
-/
import SfProofs.ContainerSnap
namespace Sf.C11
open Sf

/-- AU: after any valid session so far and SFC_UPDATE_HEADER_NOW, the store parses with the same parameters,
    a reader reports frames = N_k, and the data region is exactly the encoded audio written so far.  `hsr`: the
    rate field is a signed 32-bit word, a larger rate does not read back. -/
theorem snapshot_valid_au (ix fmt : Nat) (ch sr : Int) (h0 : H) (s0 : Store) (ops : List SOp)
    (hc : containerOf fmt = some .au) (ho : openHandle ix {} .w fmt ch sr = .ok h0 s0)
    (hsr : sr ≤ 0x7FFFFFFF) (hv : ∀ op ∈ ops, op.valid ch.toNat) :
    let cur := runS (h0, s0) ops
    let snap := (stepCmdFlag cur.1 cur.2 0x1060 0).2.1.bytes
    ∃ p c, auParse snap = .ok p ∧ openCfg fmt ch sr = some c ∧ (p.ch : Int) = ch ∧ p.sr = sr ∧
      p.fmtWord = (if dataBig .au fmt then 0 else 0x10000000) + 0x030000 + codecOf fmt ∧ p.dataoffset = 24 ∧
      snap.drop 24 = sessData c ops ∧
      ∀ (ix' pos fmt0 : Nat) (ch0 sr0 : Int), containerOf fmt0 ≠ some .raw →
        ∃ h' s', openHandle ix' ⟨snap, pos⟩ .r fmt0 ch0 sr0 = .ok h' s' ∧ h'.frames = sessFrames ch.toNat ops ∧
          (h'.ch : Int) = ch ∧ h'.sr = sr ∧ h'.fmtWord = p.fmtWord ∧ h'.enc = c.enc ∧ s'.pos = 24 := by
  intro cur snap
  obtain ⟨c, hcfg, h1, h2, h3, i⟩ := session_inv ops ho hv
  have hch := openCfg_ch hcfg
  have hk : c.container = .au := openCfg_container hcfg hc
  obtain ⟨p, hp, p1, p2, p3, p4, p5, p6⟩ := image_reads (img := snap) hcfg (by rw [hk]; decide) h1 h2 h3 hsr _ i.absOk i.pkSome _ []
    (Or.inl rfl) (fun h => by rw [hk] at h; cases h) ((stepUpdate_inv i).2.trans (snapImage_eq _ _))
  rw [Cfg.hdrLen_au hk] at p4 p5 p6
  refine ⟨p, c, by simpa only [Cfg.parser, hk] using hp, hcfg, p1, p2, by rw [p3, openCfg_word hcfg, hk], p4,
    by rw [p5, List.append_nil, init_run_data], ?_⟩
  intro ix' pos fmt0 ch0 sr0 hraw
  obtain ⟨h', s', q1, q2, q⟩ := p6 ix' pos fmt0 ch0 sr0 hraw
  exact ⟨h', s', q1, by rw [q2, init_run_frames, hch], q⟩

/-- WAV: the same, under the RIFF guard (snapshot shorter than 2^32 bytes).  No pad byte exists yet, and for an
    odd-length data chunk the reader still reports N_k (`initFrames` uses the file length, not the padded
    chunk size). -/
theorem snapshot_valid_wav (ix fmt : Nat) (ch sr : Int) (h0 : H) (s0 : Store) (ops : List SOp)
    (hc : containerOf fmt = some .wav) (ho : openHandle ix {} .w fmt ch sr = .ok h0 s0)
    (hsr : sr ≤ 0x7FFFFFFF) (hv : ∀ op ∈ ops, op.valid ch.toNat)
    (hguard : (stepCmdFlag (runS (h0, s0) ops).1 (runS (h0, s0) ops).2 0x1060 0).2.1.bytes.length < 2 ^ 32) :
    let cur := runS (h0, s0) ops
    let snap := (stepCmdFlag cur.1 cur.2 0x1060 0).2.1.bytes
    ∃ p c, wavParse snap = .ok p ∧ openCfg fmt ch sr = some c ∧ (p.ch : Int) = ch ∧ p.sr = sr ∧
      p.fmtWord = (if dataBig .wav fmt then 0x20000000 else 0) + 0x010000 + codecOf fmt ∧ p.dataoffset = c.hdrLen ∧
      snap.drop c.hdrLen = sessData c ops ∧
      ∀ (ix' pos fmt0 : Nat) (ch0 sr0 : Int), containerOf fmt0 ≠ some .raw →
        ∃ h' s', openHandle ix' ⟨snap, pos⟩ .r fmt0 ch0 sr0 = .ok h' s' ∧ h'.frames = sessFrames ch.toNat ops ∧
          (h'.ch : Int) = ch ∧ h'.sr = sr ∧ h'.fmtWord = p.fmtWord ∧ h'.enc = c.enc ∧ s'.pos = c.hdrLen := by
  intro cur snap
  obtain ⟨c, hcfg, h1, h2, h3, i⟩ := session_inv ops ho hv
  have hch := openCfg_ch hcfg
  have hk : c.container = .wav := openCfg_container hcfg hc
  have hsnap : snap = snapImage c (c.init.run c ops) := (stepUpdate_inv i).2
  have hg : snap.length < 2 ^ 32 := hguard
  rw [hsnap, snapImage, List.length_append, hdrBytes_length c _ _ _ i.pkSome i.pkLen] at hg
  have hL := (Cfg.hdrLen_wav hk).2
  obtain ⟨p, hp, p1, p2, p3, p4, p5, p6⟩ := image_reads (img := snap) hcfg (by rw [hk]; decide) h1 h2 h3 hsr _ i.absOk i.pkSome _ []
    (Or.inl rfl) (fun _ => by omega) (hsnap.trans (snapImage_eq _ _))
  refine ⟨p, c, by simpa only [Cfg.parser, hk] using hp, hcfg, p1, p2, by rw [p3, openCfg_word hcfg, hk], p4,
    by rw [p5, List.append_nil, init_run_data], ?_⟩
  intro ix' pos fmt0 ch0 sr0 hraw
  obtain ⟨h', s', q1, q2, q⟩ := p6 ix' pos fmt0 ch0 sr0 hraw
  exact ⟨h', s', q1, by rw [q2, init_run_frames, hch], q⟩

/-! ### auto mode: every write call ends in a crash point -/

/-- in auto-update mode the store after a write call that transferred something is byte for byte the store an
    explicit SFC_UPDATE_HEADER_NOW would leave — so `snapshot_valid_au` / `snapshot_valid_wav` apply to it
    (RAW, AU, WAV) -/
theorem auto_write_is_snapshot (ix fmt : Nat) (ch sr : Int) (h0 : H) (s0 : Store) (ops : List SOp) (w : WCall)
    (ho : openHandle ix {} .w fmt ch sr = .ok h0 s0)
    (hv : ∀ op ∈ ops, op.valid ch.toNat) (hw : w.valid ch.toNat) (hn : w.n ≠ 0)
    (hauto : (runS (h0, s0) ops).1.autoHeader = true) :
    let after := runS (h0, s0) (ops ++ [.write w])
    after.2.bytes = (stepCmdFlag after.1 after.2 0x1060 0).2.1.bytes := by
  intro after
  obtain ⟨c, hcfg, h1, h2, h3, i⟩ := session_inv ops ho hv
  have hch := openCfg_ch hcfg
  have hrun : after = stepS (runS (h0, s0) ops) (.write w) := List.foldl_append ..
  have ha : (c.init.run c ops).auto = true := by rw [← i.auto]; exact hauto
  obtain ⟨i2, hb⟩ := stepWrite_inv i w (by rw [hch]; exact hw)
  rw [hrun]
  rw [hb ha hn]
  exact (stepUpdate_inv i2).2.symm

/-- final closed bytes are the same with and without interleaved header updates (explicit or automatic) — for
    every session on RAW, AU and WAV.  (XI, whose writer was the known witness against the general statement before
    the repair of KF-XI-HEADER: `C04Xi.xi_updates_dont_change_file`, `xi_close_old_rule`.) -/
theorem updates_dont_change_audio (ix fmt : Nat) (ch sr : Int) (h0 : H) (s0 : Store) (ops : List SOp)
    (ho : openHandle ix {} .w fmt ch sr = .ok h0 s0) (hv : ∀ op ∈ ops, op.valid ch.toNat) :
    (closeHandle (runS (h0, s0) ops).1 (runS (h0, s0) ops).2).bytes =
    (closeHandle (runS (h0, s0) (stripUpdates ops)).1 (runS (h0, s0) (stripUpdates ops)).2).bytes :=
  close_strip ops ho hv

/-! ### non-vacuity -/

/-- a WAV µ-law session with an odd number of bytes at the crash point, in auto mode -/
def exOps : List SOp := [.auto true, .write ⟨.s16, true, 2, [0, 1000]⟩, .write ⟨.s16, true, 1, [-1000]⟩]
def snapOf (fmt : Nat) (ch sr : Int) (ops : List SOp) : Option (List Byte) :=
  match openHandle 0 {} .w fmt ch sr with
  | .ok h s => some (stepCmdFlag (runS (h, s) ops).1 (runS (h, s) ops).2 0x1060 0).2.1.bytes
  | _ => none

example : (openHandle 0 {} .w 0x010010 1 8000).isOk_ct = true ∧ (∀ op ∈ exOps, op.valid 1) ∧
    (snapOf 0x010010 1 8000 exOps).map List.length = some 61 ∧
    (snapOf 0x010010 1 8000 exOps).bind (reopenFrames ·) = some 3 ∧
    snapOf 0x010010 1 8000 exOps = sessionStore 0 0x010010 1 8000 exOps := by decide +kernel
example : (openHandle 0 {} .w 0x030002 2 44100).isOk_ct = true ∧
    (snapOf 0x030002 2 44100 [.write ⟨.s16, true, 1, [1, -2]⟩]).bind (reopenFrames ·) = some 1 := by decide +kernel
example : sessionBytes 0 0x010010 1 8000 exOps = sessionBytes 0 0x010010 1 8000 (stripUpdates exOps) ∧
    (sessionBytes 0 0x010010 1 8000 exOps).map List.length = some 62 := by
  refine ⟨?_, by decide +kernel⟩
  unfold sessionBytes
  cases ho : openHandle 0 {} .w 0x010010 1 8000 with
  | ok h s => exact congrArg some (updates_dont_change_audio _ _ _ _ h s exOps ho (by decide))
  | _ => rfl

end Sf.C11
