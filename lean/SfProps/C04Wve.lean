-- properties: C04 C11
/-
  C04 / C11 — the Psion WVE container (stand-alone L1 model SfModel/Wve.lean; helpers SfProofs/WveImage.lean,
  SfProofs/Small2Session.lean).

  A *session* is `openW` (sf_open SFM_WRITE; the caller's frames value is a parameter), any list of `WOp`s (write
  calls, with or without SFC_SET_UPDATE_HEADER_AUTO; SFC_UPDATE_HEADER_NOW), then `close`.  One frame is one byte.
-/
import SfProofs.WveImage
namespace Sf.C04Wve
open Sf Sf.Small2 Sf.Wve

/-- the container has no rate field: every file is 8000 Hz, so exactly the requested rate 8000 is reported back -/
theorem wve_rate_fixed (sr : Nat) : quant sr = 8000 ∧ (sr = 8000 → quant sr = sr) := ⟨rfl, fun h => by rw [h]; rfl⟩

example : quant 44100 = 8000 := rfl

theorem closedBytes_eq (stale : Nat) (ops : List WOp) :
    closedBytes fmt stale ops =
      magic ++ be16 3856 ++ be32 ((opsData ops).length : Nat) ++ [0, 0, 0, 0, 0, 0, 0, 0, 0, 0] ++ opsData ops :=
  closed_std fmt lawful rfl 1 (fun _ _ => rfl) stale ops

/-- **wve_reopen_info.**  For every accepted configuration and every session — no size guard is needed, the reader
    takes the length from the file, not from the 32-bit field — the closed file re-opens as one channel of
    WVE / A-law at 8000 Hz with exactly the frames (bytes) written. -/
theorem wve_reopen_info (ch sr : Nat) (_hwf : wf ch sr) (stale : Nat) (ops : List WOp) :
    parse (closedBytes fmt stale ops) =
      .ok { ch := 1, fmt := 0x190011, sr := quant sr, frames := (opsData ops).length } := by
  rw [closedBytes_eq]
  have := parse_image (be16 3856 ++ be32 ((opsData ops).length : Nat) ++ [0, 0, 0, 0, 0, 0, 0, 0, 0, 0]) (by simp) (opsData ops)
  simpa [List.append_assoc, quant] using this

def exOps : List WOp := [.write [0xD5, 0x55] false, .update, .write [0x2A] true]
example : wf 1 8000 ∧ (closedBytes fmt 77 exOps).length = 35 ∧
    parse (closedBytes fmt 77 exOps) = .ok ⟨1, 0x190011, 8000, 3⟩ := by decide +kernel

/-- **wve_size_fields.**  The file is the 32-byte header plus the audio; the data-length field (offset 18) holds
    the low 32 bits of the number of audio bytes = file length − 32. -/
theorem wve_size_fields (stale : Nat) (ops : List WOp) (bytes : List Byte) (D : Nat)
    (hbytes : bytes = closedBytes fmt stale ops) (hD : D = (opsData ops).length) :
    bytes.length = 32 + D ∧ ofBE ((bytes.drop 18).take 4) = (bytes.length - 32) % 2 ^ 32 ∧ bytes.drop 32 = opsData ops := by
  rw [closedBytes_eq] at hbytes
  have hlen : bytes.length = 32 + D := by rw [hbytes, hD]; simp [magic]; omega
  have hm : magic.length = 16 := rfl
  rw [hlen]
  refine ⟨rfl, ?_, ?_⟩ <;>
    simp only [hbytes, List.append_assoc, drop_app_skip, take_app_head, hm, be16_length, be32_length, List.length_cons, List.length_nil, Nat.reduceAdd,
      Nat.reduceSub, Nat.reduceLeDiff, Nat.le_refl, List.drop_zero, ofBE_be32, wrapU_natCast, hD, Nat.add_sub_cancel_left]

example : ofBE (((closedBytes fmt 77 exOps).drop 18).take 4) = 3 := by decide +kernel

/-- **wve_frames_bound.**  One frame is one byte and nothing is padded: `N` frames re-open as exactly `N`
    (B = 1, no pad frame). -/
theorem wve_frames_bound (N : Nat) : (N * 1) / 1 = N ∧ N ≤ N * 1 ∧ N * 1 < N + 1 := by omega

example : (5 * 1) / 1 = 5 := by decide

/-- **stale_frames_ignored_wve.**  Closed bytes and update images do not depend on the caller's frames value. -/
theorem stale_frames_ignored_wve (a b : Nat) (ops : List WOp) :
    closedBytes fmt a ops = closedBytes fmt b ops ∧ snapshotBytes fmt a ops = snapshotBytes fmt b ops :=
  ⟨stale_ignored fmt lawful rfl a b ops, stale_ignored_snapshot fmt lawful a b ops⟩

example : closedBytes fmt 0 exOps = closedBytes fmt 123456 exOps := by decide +kernel

/-- **wve_snapshot_valid.**  After any session prefix, the image a header update leaves in the store parses with
    the same parameters and exactly the frames written so far, and is the 32-byte header followed by the audio
    written so far. -/
theorem wve_snapshot_valid (ch sr : Nat) (hwf : wf ch sr) (stale : Nat) (ops : List WOp) :
    parse (snapshotBytes fmt stale ops) =
      .ok { ch := 1, fmt := 0x190011, sr := quant sr, frames := (opsData ops).length } ∧
    ∃ hdr, hdr.length = 32 ∧ snapshotBytes fmt stale ops = hdr ++ opsData ops :=
  ⟨closed_is_snapshot fmt rfl stale ops ▸ wve_reopen_info ch sr hwf stale ops, snapshot_split fmt lawful stale ops⟩

example : parse (snapshotBytes fmt 5 [.write [1, 2] false]) = .ok ⟨1, 0x190011, 8000, 2⟩ := by decide +kernel

end Sf.C04Wve
