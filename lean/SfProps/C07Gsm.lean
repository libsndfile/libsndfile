/-
  C07 (GSM 06.10) — write-partition independence of the closed data region with the REAL encoder
  (SfModel/GsmEnc.lean `encodeBlock`, the block writer instance `Sf.Gsm.writer` of SfModel/GsmFile.lean):
  for both geometries, every sequence of sf_write_* / sf_writef_* calls of any of the four caller types and any sizes
  (the staging pieces of 4096 shorts of the int / float / double entry points included), the encoder state, the
  emitted blocks and the bytes after close are a function of the concatenated sequence of converted samples only.
  Also: every emitted block has the geometry's block size; the encoder's lag and gain indices are in range.
-/
import SfModel.GsmFile
import SfProofs.BlockSession
namespace Sf.C07Gsm
open Sf Sf.Gsm Sf.Block Sf.Block.Proofs

theorem gsm_writer_wwf (c : Cfg) : WWF (writer c) :=
  ⟨by show 0 < c.spb; unfold Cfg.spb; split <;> decide, Nat.one_pos⟩

theorem gsm_write_init_inv (c : Cfg) : WInv (writer c) (writeInit c) := init_inv_w _ (gsm_writer_wwf c) _

/-- **∀ splits, ∀ caller types**: the writer state after any list of calls (each with its own staging piece size:
    one piece for short callers, 4096 shorts for the others) is the per-sample fold over the concatenated codec
    samples — it depends on the concatenation only -/
theorem gsm_write_partition (c : Cfg) (calls : List (Ty × List Int)) (st : WState State) (inv : WInv (writer c) st) :
    calls.foldl (fun st k => wcall (writer c) (chunkOf k.1) st k.2) st =
      (calls.flatMap fun k => k.2.map fun x => [x]).foldl (pushFrame (writer c)) st := by
  have := (mono_session (writer c) (gsm_writer_wwf c) rfl (calls.map fun k => (chunkOf k.1, k.2)) st inv).1
  rwa [List.foldl_map, List.flatMap_map, List.map_flatMap] at this

/-- the codec samples a list of typed calls amounts to -/
def samplesOf (cv : Conv) (calls : List (Ty × List Int)) : List Int := calls.flatMap fun k => k.2.map (ofCaller cv k.1)

theorem flatMap_singletons (cv : Conv) (calls : List (Ty × List Int)) :
    (calls.map fun k => (k.1, k.2.map (ofCaller cv k.1))).flatMap (fun k => k.2.map fun x => [x]) =
      (samplesOf cv calls).map fun x => [x] := by
  rw [List.flatMap_map, samplesOf, List.map_flatMap]

/-- **C07 for GSM files, full strength**: two call histories — any partitions, any mix of short / int / float / double
    calls, item or frame variants (one channel: the same thing) — whose converted samples concatenate to the same
    sequence leave the same bytes in the data region after close, in both geometries -/
theorem gsm_file_bytes_partition (c : Cfg) (cv : Conv) (calls1 calls2 : List (Ty × List Int))
    (h : samplesOf cv calls1 = samplesOf cv calls2) :
    closeBytes c (calls1.foldl (fun st k => writeCall c cv k.1 st k.2) (writeInit c)) =
    closeBytes c (calls2.foldl (fun st k => writeCall c cv k.1 st k.2) (writeInit c)) := by
  have key : ∀ calls : List (Ty × List Int),
      calls.foldl (fun st k => writeCall c cv k.1 st k.2) (writeInit c) =
        ((samplesOf cv calls).map fun x => [x]).foldl (pushFrame (writer c)) (writeInit c) :=
    fun calls => (mono_typed_session (writer c) (gsm_writer_wwf c) rfl chunkOf (ofCaller cv) calls _ (gsm_write_init_inv c)).1
  rw [key calls1, key calls2, h]

theorem gsm_one_call_or_split (c : Cfg) (cv : Conv) (ty : Ty) (xs ys : List Int) :
    closeBytes c (writeCall c cv ty (writeCall c cv ty (writeInit c) xs) ys) =
    closeBytes c (writeCall c cv ty (writeInit c) (xs ++ ys)) := by
  have := gsm_file_bytes_partition c cv [(ty, xs), (ty, ys)] [(ty, xs ++ ys)] (by simp [samplesOf])
  simpa using this

/-- non-vacuity of the hypothesis of `gsm_file_bytes_partition`: a short call and an int call against one int call -/
example : samplesOf {} [(.s16, [5, -7]), (.s32, [65536 * 9])] = samplesOf {} [(.s32, [65536 * 5, 65536 * (-7), 65536 * 9])] := by
  decide

theorem bytesMsb_length : ∀ (n : Nat) (bs : List Bool), (bytesMsb n bs).length = n := by
  intro n; induction n with
  | zero => intro bs; rfl
  | succ n ih => intro bs; simp [bytesMsb, ih]

theorem bytesLsb_length : ∀ (n : Nat) (bs : List Bool), (bytesLsb n bs).length = n := by
  intro n; induction n with
  | zero => intro bs; rfl
  | succ n ih => intro bs; simp [bytesLsb, ih]

theorem gsm_encode_33_bytes (st : State) (s : List Int) : (gsmEncode st s).2.length = 33 := by
  unfold gsmEncode
  simp only
  split
  · split
    · exact bytesLsb_length _ _
    · exact bytesLsb_length _ _
  · exact bytesMsb_length _ _

/-- every block written to the file has the geometry's block size: 33, or 65 = 32 + 33 (the second WAV49 frame starts
    in the byte that holds the first frame's last nibble) -/
theorem gsm_block_size (c : Cfg) (st : State) (s : List Int) : (encodeBlock c.wav st s).2.length = c.blocksize := by
  unfold encodeBlock Cfg.blocksize
  split
  · simp only [List.length_append, List.length_take, gsm_encode_33_bytes]; rfl
  · exact gsm_encode_33_bytes _ _

/-- the LTP lag search returns a lag in 40 .. 120 (an index into the 120-cell history) -/
theorem gsm_lag_in_range (wt hist : List Int) : ∀ (fuel lag : Nat) (lmax nc : Int), 40 ≤ nc → nc ≤ 120 → lag + fuel = 121 → 40 ≤ lag →
    40 ≤ (lagSearch wt hist fuel lag lmax nc).2 ∧ (lagSearch wt hist fuel lag lmax nc).2 ≤ 120 := by
  intro fuel
  induction fuel with
  | zero => intro lag lmax nc h1 h2 _ _; exact ⟨h1, h2⟩
  | succ fuel ih =>
    intro lag lmax nc h1 h2 h3 h4
    unfold lagSearch
    simp only
    split
    · exact ih (lag + 1) _ _ (by omega) (by omega) (by omega) (by omega)
    · exact ih (lag + 1) _ _ h1 h2 (by omega) (by omega)

/-- `Calculation_of_the_LTP_parameters` always answers a gain index 0..3 (an index into gsm_QLB) and a lag 40..120 -/
theorem gsm_ltp_params_in_range (d hist : List Int) :
    (0 ≤ (ltpParams d hist).1 ∧ (ltpParams d hist).1 ≤ 3) ∧ (40 ≤ (ltpParams d hist).2 ∧ (ltpParams d hist).2 ≤ 120) := by
  refine ⟨?_, ?_⟩
  · unfold ltpParams
    simp only
    unfold ltpGain
    split
    · decide
    · split
      · decide
      · simp only
        split
        · decide
        · split
          · decide
          · split <;> decide
  · exact gsm_lag_in_range _ hist 81 40 0 40 (by decide) (by decide) (by decide) (by decide)

end Sf.C07Gsm
