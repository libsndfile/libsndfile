-- properties: C05 C07
/-
  C20 (G.721 / G.723) — the decoder tracks the encoder: fed the code the encoder just produced, the decoder makes the
  very same state transition, so the encoder's local reconstruction IS what every conforming decoder computes (the
  premise of ADPCM, and what the Recommendation's common ACCUM block guarantees).

    `g72x_decoder_tracks_encoder_all`   current rule, ALL FOUR rates, every state, every sample (full strength)
    `g72x_tracks_over_blocks`           hence over any sample list: encoder state = decoder state after every prefix
    `g721_old_rule_sum_leaves_int16`    the rule before the repair of KF-G721-ENC-SE: after 130 samples of a
                                        ±32700 square wave of period 32 the ACCUM sum is −33908: outside 16 bits
    `g721_old_rule_decoder_diverges`    … and from that state the old encoder and the decoder take different transitions
                                        (the witness that under the old rule the decoder did NOT track the encoder)
    `g721_old_rule_bytes_differ`        … visible in the file: the data region the old encoder wrote for 140 such samples
                                        differs from the current one

  The old rule and the current one are the same step wherever the sum fits 16 bits (`encode_old_eq`).  Over the first
  block of the wave it always does (`first_block`); everything about the old rule is then read off the few samples after that block, starting from the state `st120` both rules have reached.
-/
import SfProps.C05G72x
import SfProps.C07CodecsClosed
namespace Sf.C20G72xTrack
open Sf Sf.G72x Sf.G72x.Proofs

theorem directory_rate (r : Rate) (hr : r = g721 ∨ r = g723_16 ∨ r = g723_24 ∨ r = g723_40) : ValidRate r ∧ r.seInt = false := by
  rcases hr with rfl | rfl | rfl | rfl
  · exact ⟨valid_g721, rfl⟩
  · exact ⟨valid_g723_16, rfl⟩
  · exact ⟨valid_g723_24, rfl⟩
  · exact ⟨valid_g723_40, rfl⟩

/-- **full strength, current rule**: every rate of the codec directory -/
theorem g72x_decoder_tracks_encoder_all (r : Rate) (hr : r = g721 ∨ r = g723_16 ∨ r = g723_24 ∨ r = g723_40) (st : St) (x : Int) :
    (decode r st (encode r st x).2).1 = (encode r st x).1 :=
  C05G72x.g72x_decoder_tracks_encoder r (directory_rate r hr).1 (directory_rate r hr).2 st x

theorem g72x_tracks_over_blocks (r : Rate) (hr : r = g721 ∨ r = g723_16 ∨ r = g723_24 ∨ r = g723_40) :
    ∀ (xs : List Int) (st : St), (decodeList r st (encodeList r st xs).2).1 = (encodeList r st xs).1 := by
  intro xs
  induction xs with
  | nil => intro st; rfl
  | cons x xs ih =>
    intro st
    have hc : ((encode r st x).2.toNat : Int) = (encode r st x).2 :=
      Int.toNat_of_nonneg (encode_code_range r (directory_rate r hr).1 st x).1
    simp only [encodeList, decodeList]
    rw [hc, g72x_decoder_tracks_encoder_all r hr st x, ih]

example : (decodeList g721 St.init (encodeList g721 St.init [1000, -2000, 30000, -32768]).2).1 =
    (encodeList g721 St.init [1000, -2000, 30000, -32768]).1 := g72x_tracks_over_blocks g721 (.inl rfl) _ _

/-- the witness input: a ±32700 square wave of period 32, starting low -/
def square (n : Nat) : List Int := (List.range n).map fun k => if (k / 16) % 2 = 1 then (32700 : Int) else -32700

/-- the old encoder's state after 130 samples of it -/
def stOld130 : St := (encodeList g721Old St.init (square 130)).1

/-- the ACCUM sum SEZI + (WA1 + WA2) fits 16 bits: the `short sei` of the current rule changes nothing -/
def sumFits (st : St) : Bool := s16 (s16 (predictorZero st) + predictorPole st) = s16 (predictorZero st) + predictorPole st

theorem encode_old_eq (st : St) (h : sumFits st = true) (x : Int) : encode g721Old st x = encode g721 st x := by
  have h := of_decide_eq_true h
  simp only [encode, g721Old, if_true, h]
  rfl

/-- the state after the samples, provided the sum fits before each of them -/
def runFitting : St → List Int → Option St
  | st, [] => some st
  | st, x :: xs => if sumFits st then runFitting (encode g721 st x).1 xs else none

theorem runFitting_spec : ∀ (xs : List Int) (st st' : St), runFitting st xs = some st' →
    encodeList g721Old st xs = encodeList g721 st xs ∧ (encodeList g721 st xs).1 = st' := by
  intro xs
  induction xs with
  | nil => intro st st' h; exact ⟨rfl, Option.some.inj h⟩
  | cons x xs ih =>
    intro st st' h
    unfold runFitting at h
    split at h
    · rename_i hf
      obtain ⟨e, hs⟩ := ih _ _ h
      simp only [encodeList, encode_old_eq st hf, e, hs, and_self]
    · exact absurd h (by simp)

theorem encodeList_append_fst (r : Rate) : ∀ (xs ys : List Int) (st : St),
    (encodeList r st (xs ++ ys)).1 = (encodeList r (encodeList r st xs).1 ys).1 := by
  intro xs ys
  induction xs with
  | nil => intro st; rfl
  | cons x xs ih => intro st; exact ih _

/-- where both rules are after the first block (120 samples) of the wave -/
def st120 : St :=
  { yl := 255900, yu := 4574, dms := 760, dml := 2194, ap := 497, a0 := 14581, a1 := -6331, pk0 := false, pk1 := false,
    b := [8913, 7537, 7067, 5686, 4290, 2898], dq := [760, 684, 756, -992, 868, -131], sr0 := 894, sr1 := 895, td := false }

theorem first_block : runFitting St.init (square 120) = some st120 := by decide +kernel

theorem stOld130_eq : stOld130 =
    { yl := 260164, yu := 5120, dms := 865, dml := 2357, ap := 497, a0 := 15529, a1 := -7087, pk0 := true, pk1 := true,
      b := [9579, 8000, 7547, 5972, 4629, 3042], dq := [-86, -212, 699, 755, 699, 736], sr0 := -90, sr1 := 864, td := false } := by
  obtain ⟨e, hs⟩ := runFitting_spec _ _ _ first_block
  unfold stOld130
  rw [show square 130 = square 120 ++ (square 130).drop 120 by decide +kernel, encodeList_append_fst, e, hs]
  decide +kernel

/-- there the ACCUM sum SEZI + (WA1 + WA2) is −33908: it does not fit 16 bits -/
theorem g721_old_rule_sum_leaves_int16 : s16 (predictorZero stOld130) + predictorPole stOld130 = -33908 := by
  rw [stOld130_eq]
  decide +kernel

/-- **old rule: the decoder does not track the encoder** — from that (reachable) state, for the next sample of the wave,
    the old encoder (`int` sum) and the decoder (16-bit `sei`) land in different states -/
theorem g721_old_rule_decoder_diverges :
    (decode g721Old stOld130 (encode g721Old stOld130 (-32700)).2).1 ≠ (encode g721Old stOld130 (-32700)).1 := by
  rw [stOld130_eq]
  decide +kernel

/-- the same from the freshly opened file, in bytes: the data region the old encoder left for 140 samples of the wave (two
    blocks, 120 bytes) is not the one the current encoder leaves -/
theorem g721_old_rule_bytes_differ :
    closedBytes g721Old {} [(.s16, square 140)] ≠ closedBytes g721 {} [(.s16, square 140)] ∧
    (closedBytes g721 {} [(.s16, square 140)]).length = 120 := by
  constructor
  · obtain ⟨e, hs⟩ := runFitting_spec _ _ _ first_block
    -- the data region: the block of the first 120 samples, then the block of the last 20
    have two (r : Rate) : closedBytes r {} [(.s16, square 140)] = (encodeBlock r St.init (square 120)).2 ++
        (encodeBlock r (encodeList r St.init (square 120)).1 ((square 140).drop 120 ++ Block.zeros 100)).2 := by
      rw [C07CodecsClosed.g72x_closed_form,
        show C07G72x.shorts {} [(.s16, square 140)] = square 120 ++ (square 140).drop 120 by decide +kernel,
        show (square 120 ++ (square 140).drop 120).length + 1 = 139 + 1 + 1 by decide +kernel,
        Block.Closed.encChunks_full _ _ _ _ _ _ (by decide +kernel) (by decide),
        Block.Closed.encChunks_last _ _ _ _ _ (by decide +kernel) (by decide +kernel)]
      rfl
    -- the first is the same under both rules; the second, encoded from `st120`, differs in its sixth byte
    rw [two, two, e, hs]
    have b1 : (encodeBlock g721Old St.init (square 120)).2 = (encodeBlock g721 St.init (square 120)).2 := by
      unfold encodeBlock; rw [e]; rfl
    rw [b1]
    intro h
    have : ((encodeBlock g721Old st120 ((square 140).drop 120 ++ Block.zeros 100)).2.take 6 ≠
        (encodeBlock g721 st120 ((square 140).drop 120 ++ Block.zeros 100)).2.take 6) := by decide +kernel
    exact this (congrArg (List.take 6) (List.append_cancel_left h))
  · rw [C07G72x.g72x_closed_length g721 (by decide)]
    decide +kernel

end Sf.C20G72xTrack
