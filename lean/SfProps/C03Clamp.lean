/-
  C03 / C05 — the end-of-data clamp of the read wrappers in the C's own 64-bit arithmetic.
  -- properties: C03 C05

  `read_wrapper_safe` (SfProps/C03.lean) is about `Sf.ReadWrap.readTail`, whose product `(frames - rc) * ch` is formed
  over the unbounded integers; in the C it is an int64 product.  On the call of findings/kf_c03_read_clamp_overflow.txt
  it wrapped: a genuine memory error of the code, introduced by the repair /repo fc49efc and repaired by 58598c2.
  `readTailC` is the repaired clamp in 64-bit arithmetic, `readTailOldC` the one in between; the tie
  `read_clamp_c_is_model` makes `read_wrapper_safe` speak about the repaired C.
-/
import SfModel.ReadWrapC
import SfProofs.Bytes
import SfProps.C03
namespace Sf.C03Clamp
open Sf.ReadWrap Sf.C03

/-- a call inside the API contract: the handle is a read handle below the end, counts fit `sf_count_t`,
    the request is whole frames, and the codec answered between 0 and the request -/
structure Contract (h : H) (k : Kind) (n c : Int) : Prop where
  ch : 1 ≤ h.ch
  rc0 : 0 ≤ h.rc
  below : h.rc < h.frames
  frames63 : h.frames < 2 ^ 63
  n0 : 0 ≤ n
  cap63 : capacity h k n < 2 ^ 63
  aligned : k = .items → Int.tmod n h.ch = 0
  c0 : 0 ≤ c
  c1 : c ≤ capacity h k n

theorem cap_eq_req_mul (h : H) (k : Kind) (n : Int) (hal : k = .items → Int.tmod n h.ch = 0) :
    capacity h k n = reqFrames h k n * h.ch := by
  cases k
  · simp only [capacity, reqFrames]
    have := hal rfl
    have h2 := Int.mul_tdiv_add_tmod n h.ch
    rw [this, Int.add_zero] at h2
    rw [Int.mul_comm]; exact h2.symm
  · simp [capacity, reqFrames]

theorem readTailOldC_eq_of_no_wrap (h : H) (k : Kind) (n c : Int) (hw : remItemsC h = (h.frames - h.rc) * h.ch) :
    readTailOldC h k n c = readTail h k n c := by
  rw [readTailOldC_def, hw]
  by_cases hle : c ≤ (h.frames - h.rc) * h.ch
  · simp only [hle, decide_true]
    rw [tailWith_true]; unfold readTail; simp only [hle, if_true]
    rfl
  · simp only [hle, decide_false]
    rw [tailWith_false, hw]; unfold readTail; simp only [hle, if_false]
    rfl

/-- THE TIE: for every call inside the contract — any frame count below 2^63 — the repaired C clamp computes what the
    integer model computes. -/
theorem read_clamp_c_is_model (h : H) (k : Kind) (n c : Int) (hc : Contract h k n c) :
    readTailC h k n c = readTail h k n c := by
  obtain ⟨hch, hrc0, hlt, hf63, hn0, hcap63, hal, hc0, hc1⟩ := hc
  have hcap := cap_eq_req_mul h k n hal
  by_cases hge : h.frames - h.rc ≥ reqFrames h k n
  · -- enough frames remain: the product is never formed, and the model's test is true
    have hle : c ≤ (h.frames - h.rc) * h.ch := by
      have : reqFrames h k n * h.ch ≤ (h.frames - h.rc) * h.ch :=
        Int.mul_le_mul_of_nonneg_right hge (by omega)
      omega
    have : decide (h.frames - h.rc ≥ reqFrames h k n ∨ c ≤ remItemsC h) = true := by
      simp [hge]
    rw [readTailC_def, this, tailWith_true]
    unfold readTail
    simp only [hle, if_true]
    rfl
  · -- fewer than requested remain: the first test fails, and the product is below the request, hence below 2^63
    have hprod : (h.frames - h.rc) * h.ch < reqFrames h k n * h.ch :=
      Int.mul_lt_mul_of_pos_right (by omega) (by omega)
    have hp0 : 0 ≤ (h.frames - h.rc) * h.ch := Int.mul_nonneg (by omega) (by omega)
    rw [← readTailOldC_eq_of_no_wrap h k n c (wrapS_of_range 64 _ (by omega) (by omega)), readTailC_def, readTailOldC_def]
    simp only [hge, false_or]

/-- hence the repaired clamp is Safe (zero fills inside the buffer, return in [0, requested], position ≤ frames) -/
theorem read_clamp_c_safe (h : H) (k : Kind) (n c : Int) (hc : Contract h k n c) :
    Safe h (capacity h k n) n (readTailC h k n c) := by
  rw [read_clamp_c_is_model h k n c hc]
  exact safe_tail h k n c hc.ch hc.below hc.c0 hc.c1

/-- the thorough tier's witness: 8936830510563328500 frames announced, 2 channels, sf_readf_float of 64 frames -/
def hugeH : H := { rc := 0, frames := 8936830510563328500, ch := 2 }

example : Contract hugeH .frames 64 128 := by
  refine ⟨by decide, by decide, by decide, by decide, by decide, by decide, (by intro h; cases h), by decide, by decide⟩

/-- OLD RULE (fc49efc … 58598c2): the product wraps to −573083052582894616, the clamp takes the "beyond the end" branch
    and zero-fills from that negative offset — the memset ASan reported. -/
theorem read_clamp_overflow_old_rule :
    (readTailOldC hugeH .frames 64 128).zeroed = [(-573083052582894616, 128 + 573083052582894616)] ∧
    ¬ Safe hugeH (capacity hugeH .frames 64) 64 (readTailOldC hugeH .frames 64 128) := by
  have hz : (readTailOldC hugeH .frames 64 128).zeroed = [(-573083052582894616, 128 + 573083052582894616)] := by
    decide +kernel
  refine ⟨hz, ?_⟩
  intro hs
  have := hs.1 (-573083052582894616, 128 + 573083052582894616) (by rw [hz]; exact List.mem_singleton.mpr rfl)
  omega

/-- the same call through the repaired clamp: 64 frames delivered, nothing zeroed -/
theorem read_clamp_witness_repaired :
    (readTailC hugeH .frames 64 128).ret = 64 ∧ (readTailC hugeH .frames 64 128).zeroed = [] := by
  decide +kernel

/-- the class of the defect: the remaining frames times the channel count leave int64 -/
def KF.hugeFrames (h : H) : Prop := 2 ^ 63 ≤ (h.frames - h.rc) * h.ch

/-- outside the class the old clamp computed the model too (so nothing else changed with the repair) -/
theorem read_clamp_old_rule_agrees_small (h : H) (k : Kind) (n c : Int) (hc : Contract h k n c)
    (hsmall : ¬ KF.hugeFrames h) : readTailOldC h k n c = readTail h k n c := by
  obtain ⟨hch, hrc0, hlt, hf63, hn0, hcap63, hal, hc0, hc1⟩ := hc
  have hp0 : 0 ≤ (h.frames - h.rc) * h.ch := Int.mul_nonneg (by omega) (by omega)
  exact readTailOldC_eq_of_no_wrap h k n c (wrapS_of_range 64 _ (by omega) (by unfold KF.hugeFrames at hsmall; omega))

end Sf.C03Clamp
