-- properties: C05
/-
  C07 / C05 (GSM 06.10 ENCODER) — the `int32_t` (`longword`) accumulations of the encoder never overflow, for EVERY input
  block: signed overflow would be undefined behaviour in C, and the model's `w32` at those sites would wrap where the C
  might do anything.  Proved here: at each site the wrapping fold equals the exact integer sum.

    `gsm_autocorr_scaled_range`     after the dynamic scaling of `Autocorrelation` every sample lies in [−2048, 2048]
                                    (whatever the 160 int16 samples are: scalauto = 4 − norm (smax << 16) is exactly
                                    what brings the block maximum below 2^11)
    `gsm_autocorr_no_overflow`      hence for every lag k = 0 … 8 the nine L_ACF sums — products taken through the `float`
                                    multiplication of the USE_FLOAT_MUL build, exactly (|product| ≤ 2^22 < 2^24) — are the
                                    exact sums, at most 160 · 2^22, and the final `<<= 1` is an exact doubling
    `gsm_ltp_power_no_overflow`     `L_power` of `Calculation_of_the_LTP_parameters`: 40 squares of `dp >> 3`, then `<<= 1`
    `gsm_weighting_no_overflow`     the 11-tap `Weighting_filter` accumulation from the rounding constant 4096, any e
    `gsm_grid_energy_no_overflow`   `RPE_grid_selection`: 13 squares of `x >> 2`, then `<<= 1`
  (The cross-correlation of the LTP search is accumulated in a `float` register in this build, not in an `int32_t`.)
-/
import SfProofs.GsmEncSums
import SfProps.C20Gsm
namespace Sf.C07GsmEncSums
open Sf Sf.Gsm Sf.Gsm.Proofs Sf.Gsm.Spec Sf.Gsm.EncSums

/-- the block after the dynamic scaling of `Autocorrelation` (what the nine sums are taken over) -/
def scaledOf (s : List Int) : List Int :=
  let smax := maxAbs s
  let scalauto : Int := if smax = 0 then 0 else w16 (4 - gsmNorm (shl32 smax 16))
  if scalauto > 0 then s.map fun x => w16 (multR x (asr 16384 (scalauto - 1).toNat)) else s

theorem autocorr_uses_scaled (s : List Int) : (autocorr s).1 = (List.range 9).map fun k => sasl32 (acfK (scaledOf s) k) 1 := rfl

/-- a sample of fewer than `B` in magnitude times the multiplier `M = 2^26 / B`, rounded to 15 fractional bits -/
theorem scaled_le (y B M : Int) (hM : 0 < M) (hBM : B * M = 67108864) (hy : -B ≤ y ∧ y < B) :
    -2048 ≤ w16 (multR y M) ∧ w16 (multR y M) ≤ 2048 := by
  have h1 : y * M ≤ (B - 1) * M := Int.mul_le_mul_of_nonneg_right (by omega) (by omega)
  have h2 : -B * M ≤ y * M := Int.mul_le_mul_of_nonneg_right (by omega) (by omega)
  rw [Int.sub_mul, Int.one_mul, hBM] at h1
  rw [Int.neg_mul, hBM] at h2
  unfold multR
  rw [asr15]
  generalize y * M = p at h1 h2
  rw [w16_id _ (by unfold W16; omega)]
  omega

theorem gsm_autocorr_scaled_range (s : List Int) (hw : AllW16 s) : ∀ x ∈ scaledOf s, -2048 ≤ x ∧ x ≤ 2048 := by
  obtain ⟨m0, m1, m2⟩ := maxAbs_spec s hw
  have hx0 : ∀ x ∈ s, -(maxAbs s + 1) ≤ x ∧ x ≤ maxAbs s := fun x hx => of_gabs_le x _ (hw x hx) (m2 x hx)
  unfold scaledOf
  simp only
  generalize maxAbs s = smax at m0 m1 hx0
  by_cases hz : smax = 0
  · subst hz
    simp only [if_true]
    intro x hx
    have := hx0 x (by simpa using hx)
    have hnot : ¬ ((0 : Int) > 0) := by omega
    simp only [hnot, if_false] at hx
    have := hx0 x hx
    omega
  · simp only [hz, if_false]
    have hL : shl32 smax 16 = smax * 65536 := by
      unfold shl32
      rw [w32_id _ (by omega)]
      norm_num
    rw [hL]
    obtain ⟨n0, n1, n2⟩ := C20Gsm.gsm_norm_conforms_pos (smax * 65536) (by omega) (by norm_num; omega)
    generalize gsmNorm (smax * 65536) = k at n0 n1 n2
    obtain ⟨k', rfl⟩ : ∃ k' : Nat, k = (k' : Int) := ⟨k.toNat, by omega⟩
    unfold Rec.normalises at n2
    have hpos : smax * 65536 > 0 := by omega
    simp only [hpos, if_true, Int.toNat_natCast] at n2
    have hsc : w16 (4 - (k' : Int)) = 4 - (k' : Int) := w16_id _ (by unfold W16; omega)
    rw [hsc]
    by_cases hs : (4 : Int) - (k' : Int) > 0
    · simp only [hs, if_true]
      have hk : k' = 0 ∨ k' = 1 ∨ k' = 2 ∨ k' = 3 := by omega
      intro x hx
      obtain ⟨y, hy, rfl⟩ := List.mem_map.mp hx
      have hyb := hx0 y hy
      -- the maximum has 15 − k' bits and the multiplier is 2^(11 + k')
      rcases hk with rfl | rfl | rfl | rfl
      · exact scaled_le y 32768 _ (by decide) (by decide) ⟨by omega, by omega⟩
      · exact scaled_le y 16384 _ (by decide) (by decide) ⟨by omega, by omega⟩
      · exact scaled_le y 8192 _ (by decide) (by decide) ⟨by omega, by omega⟩
      · exact scaled_le y 4096 _ (by decide) (by decide) ⟨by omega, by omega⟩
    · simp only [hs, if_false]
      have hk4 : 4 ≤ k' := by omega
      have hp : (2 : Int) ^ 4 ≤ 2 ^ k' := pow_le_pow_right₀ (by decide) hk4
      have hlt := lt_of_le_of_lt (Int.mul_le_mul_of_nonneg_left hp (by omega : 0 ≤ smax * 65536)) n2.2
      intro x hx
      have := hx0 x hx
      omega

/-- the autocorrelation products of two scaled samples go through `float` unchanged, and the sums do not overflow -/
theorem gsm_autocorr_no_overflow (s : List Int) (hw : AllW16 s) (hl : s.length ≤ 160) (k : Nat) :
    acfK (scaledOf s) k = (List.zipWith (· * ·) ((scaledOf s).drop k) (scaledOf s)).foldl (· + ·) 0 ∧
    -671088640 ≤ acfK (scaledOf s) k ∧ acfK (scaledOf s) k ≤ 671088640 ∧
    sasl32 (acfK (scaledOf s) k) 1 = 2 * acfK (scaledOf s) k := by
  have hb := gsm_autocorr_scaled_range s hw
  have hlen : (scaledOf s).length ≤ 160 := by
    have e : (scaledOf s).length = s.length := by
      unfold scaledOf
      simp only
      by_cases h : (if maxAbs s = 0 then (0 : Int) else w16 (4 - gsmNorm (shl32 (maxAbs s) 16))) > 0
      · rw [if_pos h, List.length_map]
      · rw [if_neg h]
    rw [e]; exact hl
  generalize scaledOf s = sc at hb hlen
  have hz : List.zipWith (fun a b => f32r (a * b)) (sc.drop k) sc = List.zipWith (· * ·) (sc.drop k) sc := by
    apply zipWith_congr_mem
    intro a ha b hbm
    have hp := mul_bound a b 2048 2048 (hb a (List.mem_of_mem_drop ha)) (hb b hbm)
    exact f32r_exact _ (by
      have : (a * b).natAbs ≤ 4194304 := by omega
      omega)
  have hterm : ∀ p ∈ List.zipWith (· * ·) (sc.drop k) sc, (-4194304 : Int) ≤ p ∧ p ≤ 4194304 := by
    intro p hp
    obtain ⟨a, ha, b, hbm, rfl⟩ := mem_zipWith _ _ _ p hp
    have := mul_bound a b 2048 2048 (hb a (List.mem_of_mem_drop ha)) (hb b hbm)
    omega
  have hzl : ((List.zipWith (· * ·) (sc.drop k) sc).length : Int) ≤ 160 := by
    rw [List.length_zipWith]
    have : min (sc.drop k).length sc.length ≤ 160 := Nat.le_trans (Nat.min_le_right _ _) hlen
    exact_mod_cast this
  obtain ⟨e1, e2, e3⟩ := foldl_w32_exact 4194304 (by decide) _ 0 0 hterm (by omega) (by omega)
  unfold acfK
  rw [hz, e1]
  refine ⟨rfl, by omega, by omega, ?_⟩
  unfold sasl32
  rw [w32_id _ (by norm_num; omega)]
  ring

/-- `L_power` of the LTP parameter calculation, for any history of int16 values and any lag -/
theorem gsm_ltp_power_no_overflow (hist : List Int) (hw : AllW16 hist) (off : Nat) :
    w32 (2 * (((hist.drop off).take 40).map fun x => sasr x 3).foldl (fun acc t => w32 (acc + t * t)) 0) =
      2 * ((((hist.drop off).take 40).map fun x => sasr x 3).map fun t => t * t).foldl (· + ·) 0 ∧
    0 ≤ 2 * ((((hist.drop off).take 40).map fun x => sasr x 3).map fun t => t * t).foldl (· + ·) 0 + 1342177280 ∧
    2 * ((((hist.drop off).take 40).map fun x => sasr x 3).map fun t => t * t).foldl (· + ·) 0 ≤ 1342177280 := by
  generalize hl : ((hist.drop off).take 40).map (fun x => sasr x 3) = l
  have hlen : (l.length : Int) ≤ 40 := by
    rw [← hl, List.length_map, List.length_take]
    have : min 40 (hist.drop off).length ≤ 40 := Nat.min_le_left _ _
    exact_mod_cast this
  have hb : ∀ t ∈ l, -4096 ≤ t ∧ t ≤ 4096 := by
    intro t ht
    rw [← hl] at ht
    obtain ⟨x, hx, rfl⟩ := List.mem_map.mp ht
    have := hw x (List.mem_of_mem_drop (List.mem_of_mem_take hx))
    unfold W16 at this
    simp only [sasr, asr]
    norm_num
    omega
  obtain ⟨e, h0, h1⟩ := sumsq_w32 l 4096 40 hb hlen (by decide)
  exact ⟨e, by omega, by omega⟩

/-- the `Weighting_filter` accumulation `L_result = 4096 + Σ e [k + i] · H [i]`, any 16-bit (even 17-bit) e -/
theorem gsm_weighting_no_overflow (wt : List Int) (hb : ∀ a ∈ wt, -32768 ≤ a ∧ a ≤ 32768) (k : Nat) :
    (List.zipWith (fun a h => a * h) (wt.drop k) tabH).foldl (fun s p => w32 (s + p)) 4096 =
      (List.zipWith (fun a h => a * h) (wt.drop k) tabH).foldl (· + ·) 4096 ∧
    -812584960 ≤ (List.zipWith (fun a h => a * h) (wt.drop k) tabH).foldl (· + ·) 4096 ∧
    (List.zipWith (fun a h => a * h) (wt.drop k) tabH).foldl (· + ·) 4096 ≤ 812584960 := by
  have hs : ((tabH.map fun h => (h.natAbs : Int)).sum) = 24798 := by decide
  obtain ⟨e1, e2, e3⟩ := foldl_w32_weighted tabH (wt.drop k) 4096 4096 (fun a ha => hb a (List.mem_of_mem_drop ha)) (by omega)
    (by rw [hs]; norm_num)
  rw [hs] at e2 e3
  exact ⟨e1, by omega, by omega⟩

/-- the energy of a candidate grid: 13 squares of `x >> 2`, doubled -/
theorem gsm_grid_energy_no_overflow (x : List Int) (hw : AllW16 x) (m : Nat) :
    gridEnergy x m = 2 * (((List.range 13).map fun (i : Nat) => sasr (x.getD (m + 3 * i) 0) 2).map fun t => t * t).foldl (· + ·) 0 ∧
    0 ≤ gridEnergy x m ∧ gridEnergy x m ≤ 1744830464 := by
  generalize hl : ((List.range 13).map fun (i : Nat) => sasr (x.getD (m + 3 * i) 0) 2) = l
  have hlen : (l.length : Int) = 13 := by rw [← hl]; simp
  have hb : ∀ t ∈ l, -8192 ≤ t ∧ t ≤ 8192 := by
    intro t ht
    rw [← hl] at ht
    obtain ⟨i, _, rfl⟩ := List.mem_map.mp ht
    have hx : W16 (x.getD (m + 3 * i) 0) := by
      rw [List.getD_eq_getElem?_getD]
      cases h : x[m + 3 * i]? with
      | none => exact W16_zero
      | some v => exact hw v (List.mem_of_getElem? h)
    unfold W16 at hx
    generalize x.getD (m + 3 * i) 0 = v at hx ⊢
    simp only [sasr, asr]
    norm_num
    omega
  obtain ⟨e, h0, h1⟩ := sumsq_w32 l 8192 13 hb (by omega) (by decide)
  unfold gridEnergy
  rw [hl, e]
  exact ⟨rfl, by omega, by omega⟩

/-- non-vacuity: a full-scale block (160 × ±32767, −32768) is scaled into ±2048 and its energy sum is what the exact sum is -/
example : ∀ x ∈ scaledOf ((List.range 160).map fun (i : Nat) => if i % 2 = 0 then (32767 : Int) else -32768), -2048 ≤ x ∧ x ≤ 2048 :=
  gsm_autocorr_scaled_range _ (by unfold AllW16 W16; decide +kernel)
example : acfK (scaledOf (List.replicate 160 (-32768))) 0 = 160 * 2048 * 2048 := by decide +kernel

end Sf.C07GsmEncSums
