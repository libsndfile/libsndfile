/-
-- properties: C01
  C01 (ALAC, "lossless, bit exact") — the REAL encoder, search included, one mono element:

  * `alac_mono_element_lossless`: for every bit depth 16 / 20 / 24 / 32, every encoder state reachable or not (any 16 x 16
    table of int16 coefficient rows — the state the encoder carries from packet to packet), every 1 … 4096 int32 samples,
    one ID_SCE / ID_LFE element of `alac_encode` inside any packet (any position, any bits behind it) is decoded to the
    samples with the low `32 - depth` bits cleared, whether EncodeMono's search picks order 4 or 8, whether it ends in a
    compressed element or falls back to the escape element ("compressed frame too big" included);
    `alac_encode_keeps_state`: the state after a mono packet is again such a table.
  It puts together the parameter block, the shifted-off bytes, `dyn_decomp ∘ dyn_comp = id` (C01AlacGolomb),
  `unpc_block ∘ pc_block = id` (C01AlacInv) and the output conversion. Channel pairs, whole packets of every channel count
  (`alac_lossless`) and the mono file as their one-channel case (`alac_lossless_mono`, `alac_lossless_mono_stream`):
  lean/SfProps/C01AlacLosslessAll.lean.
-/
import SfProofs.AlacEncState
namespace Sf.AlacCore

/-- what EncodeMono writes, whatever the encoder state, decodes to the samples with the low bits cleared wherever it stands -/
theorem decMono_enc {cfg : Config} (hd : Depth cfg.bitDepth) (hmb : cfg.mb = 10) (hpb : cfg.pb = 40) (hkb : cfg.kb = 14)
    (st : EncChan) (hst : RowsOk st.coefsU) (byteSize : Nat) (xs : List Int) (hxs : ∀ x ∈ xs, I32 x) {n : Nat} (hl : xs.length = n) (hn : n ≤ frameLen) :
    DecodesTo (decMono (comp Rules.current byteSize) Rules.current cfg) byteSize n (encMono cfg.bitDepth frameLen st xs).1 [xs.map (trunc cfg.bitDepth)] := by
  rcases (encMono_cases cfg.bitDepth st xs hst).1 with he | ⟨coefs, numU, hc, hu, he⟩
  · rw [he, hl]
    exact decMono_esc _ hd byteSize xs hxs hl hn
  · rw [he]
    exact decMono_comp hd hmb hpb hkb byteSize xs coefs numU (by rw [hc.1]; rcases hu with h | h <;> rw [h] <;> decide)
      (by rcases hu with h | h <;> rw [h] <;> decide) (fun c hcm => hc.2 c (List.mem_of_mem_take hcm)) hxs hl hn

/-- one mono element of `alac_encode`, whatever the encoder state, decodes to the samples with the low bits cleared -/
theorem alac_mono_element_lossless {cfg : Config} (hd : Depth cfg.bitDepth) (hmb : cfg.mb = 10) (hpb : cfg.pb = 40) (hkb : cfg.kb = 14)
    (st : EncChan) (hst : RowsOk st.coefsU) (byteSize inst reqN : Nat) (xs : List Int) (hxs : ∀ x ∈ xs, I32 x) (hn : xs.length ≤ frameLen)
    (hreq : xs.length = frameLen → reqN = frameLen) (rest : Bits) (p : Nat)
    (hroom : p + 4 + (encMono cfg.bitDepth frameLen st xs).1.length ≤ byteSize * 8) :
    decMono (comp Rules.current byteSize) Rules.current cfg reqN ⟨bitsOf inst 4 ++ ((encMono cfg.bitDepth frameLen st xs).1 ++ rest), p⟩ =
      .done xs.length [xs.map (trunc cfg.bitDepth)] ⟨rest, p + 4 + (encMono cfg.bitDepth frameLen st xs).1.length⟩ :=
  decMono_enc hd hmb hpb hkb st hst byteSize xs hxs rfl hn inst reqN rest p hreq hroom

/-- the encoder state of a mono file: the coefficient table of channel 0 -/
def StateOk (st : EncState) : Prop := RowsOk (st.getD 0 {}).coefsU

theorem init_stateOk : StateOk (EncState.init 1) := by
  unfold StateOk RowsOk CoefsOk Int16
  decide

theorem alac_encode_keeps_state (cfg : Config) (hc : cfg.numChannels = 1) (st : EncState) (hst : StateOk st) (hlen : 0 < st.length)
    (frames : List (List Int)) : StateOk (encode cfg st frames).2 ∧ 0 < (encode cfg st frames).2.length := by
  unfold encode
  simp only [hc, layout, if_true, encElems, ID_SCE, ID_CPE, Nat.zero_ne_one, if_false]
  unfold StateOk at hst ⊢
  have := (encMono_cases cfg.bitDepth (st.getD 0 {}) (chanOf frames 0) hst).2
  constructor
  · rw [List.getD_eq_getElem?_getD, List.getElem?_set_self (by simpa using hlen)]
    exact this
  · simpa using hlen

end Sf.AlacCore
