/-
  C14, second part — the open functions establish the relation; sf_seek / sf_read_raw over the routes; a whole
  read session `open → calls → close` end to end.
-/
import SfModel.RoutesApi
import SfProps.C14
namespace Sf.C14
open Sf Sf.Routes

theorem psfIsPipe_valid {sh : Shim} {w : World} (hv : sh.virtualIo = false) (hval : w.valid sh.filedes = true)
    (hp : w.isPipe = false) : psfIsPipe sh w = false := by
  have h1 : ¬ ((w.file.length : Int) = -1) := by omega
  simp [psfIsPipe, hv, fstatSize, hval, hp, h1]

/-- **sf_open_fd (SFM_READ) establishes the relation**: a valid descriptor of a regular file standing at offset k, with at
    least 24 bytes behind it when k > 0, opens without error, presents the logical file `file.drop k` at position 0,
    records ownership as given and leaves the world as it was. -/
theorem openFd_read_rel (w : World) (fd : Int) (cd : Bool) (major : Nat) (hm : major ≠ SD2)
    (hval : w.valid fd = true) (hp : w.isPipe = false) (hk : w.off ≤ w.file.length)
    (hlen : w.off = 0 ∨ 24 ≤ w.file.length - w.off) :
    (openFd w fd .r cd major).err = .none ∧
    Rel (openFd w fd .r cd major).sh (openFd w fd .r cd major).w ⟨w.file.drop w.off, 0⟩ ∧
    (openFd w fd .r cd major).sh.doNotClose = !cd ∧ (openFd w fd .r cd major).w = w ∧
    (openFd w fd .r cd major).sh.filedes = fd ∧ (openFd w fd .r cd major).sh.virtualIo = false := by
  have hv0 : ({ mode := .r, doNotClose := !cd, filedes := fd } : Shim).virtualIo = false := rfl
  have hpipe := psfIsPipe_valid (sh := { mode := .r, doNotClose := !cd, filedes := fd }) hv0 hval hp
  have hft := ftell_fd (sh := { mode := .r, doNotClose := !cd, filedes := fd, isPipe := false }) (w := w) rfl rfl hval hp
  have h1 : ¬ ((w.file.length : Int) = -1) := by omega
  unfold openFd
  simp only [hm, if_false, hpipe, hft, Int.sub_zero]
  unfold openFileHead openFileLen
  have hpipe2 := psfIsPipe_valid (sh := { mode := .r, doNotClose := !cd, filedes := fd, fileoffset := (w.off : Int) }) rfl hval hp
  simp only [hpipe2, Bool.false_eq_true, if_false]
  simp only [getFilelen, fstatSize, hval, Bool.not_true, hp, h1, if_false, Bool.false_eq_true]
  unfold openFileEmbed
  by_cases hz : w.off = 0
  · simp only [hz, Int.natCast_zero, Int.lt_irrefl, gt_iff_lt, if_false]
    exact ⟨trivial, Window.rel (L := []) ⟨rfl, rfl, hp, hval, rfl, by simp, by simp [hz], fun _ => rfl⟩,
      trivial, trivial, trivial, trivial⟩
  · have hpos : (w.off : Int) > 0 := by omega
    have hl : 24 ≤ w.file.length - w.off := hlen.resolve_left hz
    have hnot : ¬ ((w.file.length : Int) - (w.off : Int) < minEmbedded) := by unfold minEmbedded; omega
    simp only [hpos, gt_iff_lt, if_true, Int.lt_irrefl, if_false, hnot]
    exact ⟨trivial, Window.rel (L := w.file.take w.off) ⟨rfl, rfl, hp, hval, by simp [hk], by simp, by simp [hk], fun h => by cases h⟩,
      trivial, trivial, trivial, trivial⟩

def absStepper : Stepper Abs := absStep

/-- what the container's open function guarantees about its numbers -/
def CoreInv (c : Core) : Prop := 0 ≤ c.dataoffset ∧ 0 ≤ c.blockwidth ∧ 0 ≤ c.rcur ∧ 0 ≤ c.frames

theorem defaultSeek_sim {sh : Shim} {w : World} {a : Abs} (c : Core) (sfs : Int) (h : Rel sh w a)
    (hc : 0 ≤ c.dataoffset ∧ 0 ≤ c.blockwidth) (hs : 0 ≤ sfs) :
    (gDefaultSeek concStep c (sh, w) sfs).1 = (gDefaultSeek absStepper c a sfs).1 ∧
    Rel (gDefaultSeek concStep c (sh, w) sfs).2.1 (gDefaultSeek concStep c (sh, w) sfs).2.2 (gDefaultSeek absStepper c a sfs).2 ∧
    Frame sh (gDefaultSeek concStep c (sh, w) sfs).2.1 := by
  unfold gDefaultSeek
  by_cases h1 : c.blockwidth = 0 ∨ c.dataoffset < 0
  · rw [if_pos h1, if_pos h1]; exact ⟨rfl, h, Frame.refl _⟩
  rw [if_neg h1, if_neg h1]
  by_cases h2 : (!c.seekable) = true
  · rw [if_pos h2, if_pos h2]; exact ⟨rfl, h, Frame.refl _⟩
  rw [if_neg h2, if_neg h2]
  have hnn : 0 ≤ c.dataoffset + c.blockwidth * sfs := Int.add_nonneg hc.1 (Int.mul_nonneg hc.2 hs)
  obtain ⟨e1, e2⟩ := step_sim (.seek (c.dataoffset + c.blockwidth * sfs) 0) h (by simp [Op.ok, whBase, hnn])
  have e3 := step_frame sh w (.seek (c.dataoffset + c.blockwidth * sfs) 0)
  have e1r : (concStep (sh, w) (.seek (c.dataoffset + c.blockwidth * sfs) 0)).1.1 =
      (absStepper a (.seek (c.dataoffset + c.blockwidth * sfs) 0)).1.1 := (Prod.mk.inj e1).1
  rw [e1r]
  by_cases heq : (absStepper a (.seek (c.dataoffset + c.blockwidth * sfs) 0)).1.1 = c.dataoffset + c.blockwidth * sfs
  · rw [if_pos heq, if_pos heq]; exact ⟨rfl, e2, e3⟩
  · rw [if_neg heq, if_neg heq]; exact ⟨rfl, e2, e3⟩

theorem absRead_nonneg (a : Abs) (i : Int) : 0 ≤ (absStep a (.read 1 i)).1.1 := by
  simp only [absStep]
  split; · simp
  split; · simp
  simp [cdiv]

/-- one public call run on a route and on the logical file: the caller sees the same, the bookkeeping is the same, and the two
    states still present the same file -/
structure GSim (sh : Shim) (r : GRes (Shim × World)) (r' : GRes Abs) : Prop where
  ret : r.ret = r'.ret
  data : r.data = r'.data
  err : r.err = r'.err
  c : r.c = r'.c
  rel : Rel r.s.1 r.s.2 r'.s
  frame : Frame sh r.s.1
  inv : CoreInv r'.c

theorem GSim.early {sh : Shim} {w : World} {a : Abs} {c : Core} (h : Rel sh w a) (hc : CoreInv c) (ret : Int) (data : List Byte)
    (err : Bool) : GSim sh ⟨ret, data, err, c, (sh, w)⟩ ⟨ret, data, err, c, a⟩ :=
  ⟨rfl, rfl, rfl, rfl, h, Frame.refl _, hc⟩

theorem readTail_sim {sh : Shim} {w : World} {a : Abs} (c : Core) (bytes : Int) (h : Rel sh w a) (hc : CoreInv c) :
    GSim sh (gReadTail concStep c (sh, w) bytes) (gReadTail absStepper c a bytes) := by
  obtain ⟨e1, e2⟩ := step_sim (.read 1 bytes) h rfl
  have e3 := step_frame sh w (.read 1 bytes)
  have er : (concStep (sh, w) (.read 1 bytes)).1 = (absStepper a (.read 1 bytes)).1 := e1
  have hnn := absRead_nonneg a bytes
  obtain ⟨c1, c2, c3, c4⟩ := hc
  unfold gReadTail
  simp only [er]
  have hbw : 0 < (if c.blockwidth > 0 then c.blockwidth else 1) := by split <;> omega
  generalize (if c.blockwidth > 0 then c.blockwidth else 1) = bw at hbw ⊢
  by_cases hle : (absStepper a (.read 1 bytes)).1.1 ≤ (c.frames - c.rcur) * bw
  · rw [if_pos hle, if_pos hle]
    have hdiv : 0 ≤ cdiv (absStep a (.read 1 bytes)).1.1 bw := Int.tdiv_nonneg hnn (by omega)
    exact ⟨rfl, rfl, rfl, rfl, e2, e3, c1, c2, Int.add_nonneg c3 hdiv, c4⟩
  · rw [if_neg hle, if_neg hle]
    exact ⟨rfl, rfl, rfl, rfl, e2, e3, c1, c2, c4, c4⟩

theorem GSim.ite {sh : Shim} {c : Prop} [Decidable c] {a b : GRes (Shim × World)} {a' b' : GRes Abs}
    (ha : c → GSim sh a a') (hb : ¬ c → GSim sh b b') : GSim sh (if c then a else b) (if c then a' else b') := by
  by_cases hc : c
  · rw [if_pos hc, if_pos hc]; exact ha hc
  · rw [if_neg hc, if_neg hc]; exact hb hc

theorem api_step_sim {sh : Shim} {w : World} {a : Abs} (c : Core) (op : ApiOp) (h : Rel sh w a) (hc : CoreInv c) :
    GSim sh (gApi concStep c (sh, w) op) (gApi absStepper c a op) := by
  have ⟨c1, c2, c3, c4⟩ := hc
  cases op with
  | seek off wh =>
    simp only [gApi, gSeek]
    refine .ite (fun _ => .early h hc ..) fun _ => .ite (fun _ => .early h hc ..) fun _ => ?_
    generalize (if wh = 0 then off else if wh = 1 then c.rcur + off else c.frames + off) = sfs
    refine .ite (fun _ => .early h hc ..) fun h3 => ?_
    obtain ⟨d1, d2, d3⟩ := defaultSeek_sim c sfs h ⟨c1, c2⟩ (by omega)
    rw [d1]
    exact .ite (fun _ => ⟨rfl, rfl, rfl, rfl, d2, d3, hc⟩) fun _ =>
      ⟨rfl, rfl, rfl, rfl, d2, d3, c1, c2, by show 0 ≤ (gDefaultSeek absStepper c a sfs).1; omega, c4⟩
  | readRaw n =>
    simp only [gApi, gReadRaw]
    refine .ite (fun _ => .early h hc ..) fun _ => .ite (fun _ => .early h hc ..) fun _ => .ite (fun _ => .early h hc ..) fun _ =>
      .ite (fun _ => readTail_sim c n h hc) fun _ => ?_
    obtain ⟨d1, d2, d3⟩ := defaultSeek_sim c c.rcur h ⟨c1, c2⟩ c3
    rw [d1]
    refine .ite (fun _ => ⟨rfl, rfl, rfl, rfl, d2, d3, hc⟩) fun _ => ?_
    have t := readTail_sim c n d2 hc
    exact { t with frame := Frame.trans d3 t.frame }

/-- **api_routes_equivalent**: every sequence of sf_seek / sf_read_raw calls gives, on any route presenting the logical
    file, exactly what it gives on the logical file — hence the same on all routes (no bound on length or sizes) -/
theorem api_routes_equivalent : ∀ (ops : List ApiOp) (c : Core) (sh : Shim) (w : World) (a : Abs),
    Rel sh w a → CoreInv c →
    (gRun concStep c (sh, w) ops).1 = (gRun absStepper c a ops).1 ∧
    Rel (gRun concStep c (sh, w) ops).2.2.1 (gRun concStep c (sh, w) ops).2.2.2 (gRun absStepper c a ops).2.2 ∧
    Frame sh (gRun concStep c (sh, w) ops).2.2.1
  | [], _, _, _, _, h, _ => ⟨rfl, h, Frame.refl _⟩
  | op :: ops, c, sh, w, a, h, hc => by
    have e := api_step_sim c op h hc
    have ih := api_routes_equivalent ops (gApi absStepper c a op).c _ _ _ e.rel e.inv
    simp only [gRun]
    rw [e.c, e.ret, e.data, e.err]
    exact ⟨by rw [ih.1], ih.2.1, Frame.trans e.frame ih.2.2⟩

/-- the primitives build their worlds by updating fields other than `openFds`: push the projection through the `if`s -/
theorem step_openFds (sh : Shim) (w : World) (op : Op) : (step sh w op).w.openFds = w.openFds := by
  cases op
  case filelen => simp only [step, getFilelen]; cases sh.mode <;> simp only [apply_ite R.w, ite_self]
  all_goals
    simp only [step, fseek, fread, fwrite, ftell, ftruncate, lseek, osRead, osWrite, osTruncate, vioSeek, vioRead, vioWrite,
      apply_ite R.w, apply_ite World.openFds, apply_ite Prod.snd, ite_self]

theorem defaultSeek_openFds (c : Core) (s : Shim × World) (sfs : Int) :
    (gDefaultSeek concStep c s sfs).2.2.openFds = s.2.openFds := by
  unfold gDefaultSeek
  (repeat' split) <;> first | rfl | exact step_openFds s.1 s.2 _

theorem readTail_openFds (c : Core) (s : Shim × World) (n : Int) :
    (gReadTail concStep c s n).s.2.openFds = s.2.openFds := by
  unfold gReadTail
  dsimp only
  (repeat' split) <;> exact step_openFds s.1 s.2 _

theorem api_openFds (c : Core) (s : Shim × World) (op : ApiOp) : (gApi concStep c s op).s.2.openFds = s.2.openFds := by
  cases op <;>
    simp only [gApi, gSeek, gReadRaw, apply_ite GRes.s, apply_ite Prod.snd, apply_ite World.openFds, readTail_openFds,
      defaultSeek_openFds, ite_self]

theorem run_openFds : ∀ (ops : List ApiOp) (c : Core) (s : Shim × World),
    (gRun concStep c s ops).2.2.2.openFds = s.2.openFds
  | [], _, _ => rfl
  | op :: ops, c, s => by
    simp only [gRun]
    rw [run_openFds ops, api_openFds]

/-- **session_end_to_end**: sf_open_fd on a descriptor standing at offset k of any file (any bytes in front, any bytes
    behind), any sequence of sf_seek / sf_read_raw, sf_close:
      * the open succeeds, the calls return what they return on the bare bytes `file.drop k`,
      * afterwards the descriptor is open iff close_desc was false, every other descriptor is as before. -/
theorem session_end_to_end (w : World) (fd : Nat) (cd : Bool) (major : Nat) (c : Core) (ops : List ApiOp)
    (hm : major ≠ SD2) (hval : w.valid fd = true) (hp : w.isPipe = false) (hk : w.off ≤ w.file.length)
    (hlen : w.off = 0 ∨ 24 ≤ w.file.length - w.off) (hc : CoreInv c) (hnd : w.openFds.Nodup) :
    (fdSession w fd cd major c ops).1 = .none ∧
    (fdSession w fd cd major c ops).2.1 = (gRun absStepper c ⟨w.file.drop w.off, 0⟩ ops).1 ∧
    (∀ d : Nat, d ∈ (fdSession w fd cd major c ops).2.2.openFds ↔ d ∈ w.openFds ∧ ¬ (cd = true ∧ d = fd)) := by
  obtain ⟨o1, o2, o3, o4, o5, o6⟩ := openFd_read_rel w fd cd major hm hval hp hk hlen
  obtain ⟨r1, -, sameRoute, -, sameFd, -, -, -, sameOwner⟩ := api_routes_equivalent ops c _ _ _ o2 hc
  unfold fdSession
  simp only [o1, ne_eq, not_true_eq_false, if_false]
  refine ⟨trivial, r1, ?_⟩
  intro d
  have hfds : (gRun concStep c ((openFd w fd .r cd major).sh, (openFd w fd .r cd major).w) ops).2.2.2.openFds = w.openFds :=
    (run_openFds ops c ((openFd w fd .r cd major).sh, (openFd w fd .r cd major).w)).trans (by simp [o4])
  have hnd2 : (gRun concStep c ((openFd w fd .r cd major).sh, (openFd w fd .r cd major).w) ops).2.2.2.openFds.Nodup := by rw [hfds]; exact hnd
  rw [close_desc_iff _ _ d hnd2, hfds, sameRoute, sameFd, sameOwner, o3, o5, o6]
  cases cd <;> simp <;> omega

/-- the sf_read_raw clamp before d9097b4.  16-bit mono, two frames of audio followed by one more byte (a pad byte, the first
    byte of a trailing chunk): a request past the last frame returned 5 bytes — not a whole number of frames, the fifth from
    beyond the audio data — under the old rule; the repaired rule returns the 4 bytes of the two frames -/
theorem read_raw_clamp_old_rule :
    (gReadTailOld absStepper { dataoffset := 0, blockwidth := 2, align := 2, frames := 2 } ⟨[1, 2, 3, 4, 9], 0⟩ 6).ret = 5 ∧
    (gReadTailOld absStepper { dataoffset := 0, blockwidth := 2, align := 2, frames := 2 } ⟨[1, 2, 3, 4, 9], 0⟩ 6).data = [1, 2, 3, 4, 9] ∧
    (gReadTail absStepper { dataoffset := 0, blockwidth := 2, align := 2, frames := 2 } ⟨[1, 2, 3, 4, 9], 0⟩ 6).ret = 4 ∧
    (gReadTail absStepper { dataoffset := 0, blockwidth := 2, align := 2, frames := 2 } ⟨[1, 2, 3, 4, 9], 0⟩ 6).data = [1, 2, 3, 4] := by decide +kernel

/-- the repaired rule never returns more than the audio that is left, on any route -/
theorem read_raw_within_audio {σ : Type} (st : Stepper σ) (c : Core) (s : σ) (bytes : Int) :
    (gReadTail st c s bytes).ret ≤ (c.frames - c.rcur) * (if c.blockwidth > 0 then c.blockwidth else 1) := by
  unfold gReadTail
  dsimp only
  generalize (if c.blockwidth > 0 then c.blockwidth else 1) = bw
  by_cases h : (st s (.read 1 bytes)).1.1 ≤ (c.frames - c.rcur) * bw
  · simp only [h, if_true]
  · simp only [h, if_false]; exact Int.le_refl _

def demoCore : Core := { dataoffset := 2, blockwidth := 1, align := 1, frames := 30 }
def demoWorld : World := { file := leadBytes ++ List.range 40, off := 3, openFds := [3, 7] }
  where leadBytes : List Byte := [9, 8, 7]
def demoCalls : List ApiOp := [.readRaw 4, .seek 10 0, .readRaw 3, .seek (-2) 1, .readRaw 100, .seek 0 2, .readRaw 1, .seek 31 0]

example : CoreInv demoCore := by simp [CoreInv, demoCore]
example : demoWorld.valid 3 = true ∧ demoWorld.off ≤ demoWorld.file.length ∧ 24 ≤ demoWorld.file.length - demoWorld.off := by decide
example : (fdSession demoWorld 3 true 0x03 demoCore demoCalls).1 = .none := by decide
example : (fdSession demoWorld 3 true 0x03 demoCore demoCalls).2.1 =
    (gRun concStep demoCore (openVio .r, { mem := List.range 40 }) demoCalls).1 := by decide +kernel
example : (fdSession demoWorld 3 true 0x03 demoCore demoCalls).2.1 =
    [(4, [2, 3, 4, 5], false), (10, [], false), (3, [12, 13, 14], false), (11, [], false), (19, List.range' 13 19, false),
     (30, [], false), (0, [], false), (-1, [], true)] := by decide +kernel
example : 3 ∉ (fdSession demoWorld 3 true 0x03 demoCore demoCalls).2.2.openFds ∧ 7 ∈ (fdSession demoWorld 3 true 0x03 demoCore demoCalls).2.2.openFds := by decide +kernel
example : 3 ∈ (fdSession demoWorld 3 false 0x03 demoCore demoCalls).2.2.openFds := by decide +kernel

end Sf.C14
