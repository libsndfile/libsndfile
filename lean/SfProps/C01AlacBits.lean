/-
-- properties: C01 C03
  C01 / C03 (ALAC bit I/O) — the window arithmetic of src/ALAC/ALACBitUtilities.c is the bit-list reader of the model
  (lean/SfModel/AlacBits.lean), for every call the decoder makes:

  * `bbWindow_eq_bits`: `BitBufferRead (bits, n)` — three bytes at `cur`, shifted left by the bit index, masked to 24 bits,
    top `n` bits — is "the next n bits, most significant first" for every byte content, bit index 0 … 7 and n ≤ 16;
  * `bbWindowSmall_eq_bits`: the same for the 16-bit window of `BitBufferReadSmall`, n ≤ 8.
  Both are the case "bit index ≤ 7" of `bbWindow_reads` / `bbWindowSmall_reads`: any field that ends within the window.
  (18 bits at bit index 7 is a request the 24-bit window does not cover: `bbWindow_18_fails`; no call site asks for more than 16.)
-/
import SfProofs.AlacEscape
namespace Sf.AlacCore

theorem unpack3 (b0 b1 b2 : Nat) (h1 : b1 < 256) (h2 : b2 < 256) :
    unpack [b0, b1, b2] = bitsOf (b0 * 65536 + b1 * 256 + b2) 24 := by
  have e : b0 * 65536 + b1 * 256 + b2 = (b0 * 2 ^ 8 + b1) * 2 ^ 8 + b2 := by omega
  rw [e, bitsOf_cat _ b2 16 8 h2, bitsOf_cat b0 b1 8 8 h1]
  simp [unpack]

theorem unpack2 (b0 b1 : Nat) (h1 : b1 < 256) : unpack [b0, b1] = bitsOf (b0 * 256 + b1) 16 := by
  rw [show b0 * 256 + b1 = b0 * 2 ^ 8 + b1 from rfl, bitsOf_cat b0 b1 8 8 h1]
  simp [unpack]

/-- a window of `w` bits, shifted left by `bi` and cut back to `w` bits: its top `n` bits are the `n` bits of the window that
    start `bi` bits below the top -/
theorem window_top (W w bi n : Nat) (h : bi + n ≤ w) : W * 2 ^ bi % 2 ^ w / 2 ^ (w - n) = W / 2 ^ (w - bi - n) % 2 ^ n := by
  have hw : 2 ^ w = 2 ^ (w - bi) * 2 ^ bi := by rw [← Nat.pow_add, Nat.sub_add_cancel (by omega)]
  have hn : 2 ^ (w - n) = 2 ^ bi * 2 ^ (w - bi - n) := by rw [← Nat.pow_add]; congr 1; omega
  have hb : 2 ^ (w - bi) = 2 ^ (w - bi - n) * 2 ^ n := by rw [← Nat.pow_add, Nat.sub_add_cancel (by omega)]
  rw [hw, Nat.mul_mod_mul_right, hn, ← Nat.div_div_eq_div_mul, Nat.mul_div_cancel _ (Nat.two_pow_pos bi), hb, Nat.mod_mul_right_div_self]

/-- the `n` bits read `bi` bits into a field of `w` bits -/
theorem read_drop_bitsOf (W w bi n : Nat) (h : bi + n ≤ w) : ((Rd.mk ((bitsOf W w).drop bi) 0).read n).1 = W / 2 ^ (w - bi - n) % 2 ^ n := by
  have e : (bitsOf W w).drop bi = bitsOf W (n + (w - bi - n)) ++ [] := by
    have hw : bitsOf W w = bitsOf W (bi + (n + (w - bi - n))) := by congr 1; omega
    rw [List.append_nil, hw, bitsOf_drop]
  rw [e, read_split]

/-- the 24-bit window covers every field that ends within it -/
theorem bbWindow_reads (b0 b1 b2 bi n : Nat) (h1 : b1 < 256) (h2 : b2 < 256) (h : bi + n ≤ 24) :
    bbWindow b0 b1 b2 bi n = ((Rd.mk ((unpack [b0, b1, b2]).drop bi) 0).read n).1 := by
  rw [unpack3 b0 b1 b2 h1 h2, read_drop_bitsOf _ 24 bi n h]
  exact window_top _ 24 bi n h

/-- `BitBufferRead`: the 24-bit window arithmetic reads the next `n` bits, for every n ≤ 16 -/
theorem bbWindow_eq_bits (b0 b1 b2 bi n : Nat) (h0 : b0 < 256) (h1 : b1 < 256) (h2 : b2 < 256) (hbi : bi < 8) (hn : n ≤ 16) :
    bbWindow b0 b1 b2 bi n = ((Rd.mk ((unpack [b0, b1, b2]).drop bi) 0).read n).1 :=
  bbWindow_reads b0 b1 b2 bi n h1 h2 (by omega)

/-- the 16-bit window, the result cast to uint8_t: every field of at most 8 bits that ends within it -/
theorem bbWindowSmall_reads (b0 b1 bi n : Nat) (h1 : b1 < 256) (h : bi + n ≤ 16) (hn : n ≤ 8) :
    bbWindowSmall b0 b1 bi n = ((Rd.mk ((unpack [b0, b1]).drop bi) 0).read n).1 := by
  have h8 : (b0 * 256 + b1) / 2 ^ (16 - bi - n) % 2 ^ n < 256 :=
    Nat.lt_of_lt_of_le (Nat.mod_lt _ (Nat.two_pow_pos n)) (Nat.pow_le_pow_right (by decide) hn)
  rw [unpack2 b0 b1 h1, read_drop_bitsOf _ 16 bi n h, bbWindowSmall, show 65536 = 2 ^ 16 from rfl, window_top _ 16 bi n h, Nat.mod_eq_of_lt h8]

/-- `BitBufferReadSmall`: the 16-bit window arithmetic (result cast to uint8_t) reads the next `n` bits, for every n ≤ 8 -/
theorem bbWindowSmall_eq_bits (b0 b1 bi n : Nat) (h0 : b0 < 256) (h1 : b1 < 256) (hbi : bi < 8) (hn : n ≤ 8) :
    bbWindowSmall b0 b1 bi n = ((Rd.mk ((unpack [b0, b1]).drop bi) 0).read n).1 :=
  bbWindowSmall_reads b0 b1 bi n h1 (by omega) hn

/-- the limit of the window: 18 bits at bit index 7 need a fourth byte -/
theorem bbWindow_18_fails : bbWindow 0 0 0 7 18 ≠ ((Rd.mk ((unpack [0, 0, 0, 255]).drop 7) 0).read 18).1 := by decide

/-- non-vacuity -/
example : bbWindow 0xA5 0x3C 0xF0 3 13 = 0x53C ∧ ((Rd.mk ((unpack [0xA5, 0x3C, 0xF0]).drop 3) 0).read 13).1 = 0x53C := by decide

end Sf.AlacCore
