/-
  C13 (and the "too late" half of C12): a chunk set after audio has been written is refused and harmless — for EVERY way
  audio can have been written.  Model: SfModel/ChunkWrite.lean (`Sf.ChunkW.writeBy`: the nine write entry points as steps of
  the chunk write handle of SfModel/Chunk.lean).
-- properties: C13 C12
-/
import SfModel.ChunkWrite
import SfProps.C13
namespace Sf.C13Late
open Sf Sf.Chunk Sf.ChunkW

/-- a call that passes its guards marks the handle as "audio written", whatever the entry point -/
theorem writeBy_sets_written (h : WHandle) (fn : WriteFn) (e : ChunkW.Enc) (n : Int) (hp : fn.passes e n = true) :
    (writeBy h fn e n).wrote = true := by
  simp [writeBy, hp]

/-- a call refused by its guards (zero / negative count, a partial frame) leaves the handle as it was -/
theorem writeBy_refused_same (h : WHandle) (fn : WriteFn) (e : ChunkW.Enc) (n : Int) (hp : fn.passes e n = false) :
    writeBy h fn e n = h := by
  simp [writeBy, hp]

/-- Per entry point: after audio written through ANY of the nine entry points `sf_set_chunk` is refused
    and changes nothing on the handle (the write table, hence the header assembled at the next rewrite and at close) -/
theorem late_set_refused_after_any_write (h : WHandle) (fn : WriteFn) (e : ChunkW.Enc) (n : Int) (hp : fn.passes e n = true)
    (id : Id) (payload : List Byte) :
    (writeBy h fn e n).setChunk id payload = (writeBy h fn e n, false) := by
  have hw := writeBy_sets_written h fn e n hp
  simp [WHandle.setChunk, accepts, hw]

/-- A history of write calls in closed form: `have_written` is set exactly when one of the calls got past its guards, and
    nothing else on the handle is touched. -/
theorem writeAll_eq (e : ChunkW.Enc) : ∀ (cs : List (WriteFn × Int)) (h : WHandle),
    writeAll h e cs = { h with wrote := h.wrote || cs.any fun c => c.1.passes e c.2 }
  | [], h => by simp [writeAll]
  | (fn, n) :: cs, h => by
    rw [writeAll, writeAll_eq e cs]
    unfold writeBy
    split <;> simp [*]

/-- Histories: after ANY history of write calls that stored audio (at least one call got past its guards —
    typed items, typed frames, raw, in any mix) a late `sf_set_chunk` is refused, the chunks set before the audio are all
    still there, and nothing else on the handle changed -/
theorem late_set_refused_after_history (h : WHandle) (e : ChunkW.Enc) (cs : List (WriteFn × Int))
    (hex : ∃ c ∈ cs, c.1.passes e c.2 = true) (id : Id) (payload : List Byte) :
    (writeAll h e cs).setChunk id payload = (writeAll h e cs, false) ∧ (writeAll h e cs).chunks = h.chunks := by
  have hany : (cs.any fun c => c.1.passes e c.2) = true := List.any_eq_true.mpr hex
  rw [writeAll_eq]
  exact ⟨by simp [WHandle.setChunk, accepts, hany], rfl⟩

/-- … hence the header written at the next rewrite / at close is the one the audio was written behind and the audio is
    byte for byte what was stored (C13.late_set_harmless, for every entry point) -/
theorem late_set_harmless_every_entry_point (h : WHandle) (e : ChunkW.Enc) (cs : List (WriteFn × Int))
    (hex : ∃ c ∈ cs, c.1.passes e c.2 = true) (id : Id) (payload hdr audio : List Byte)
    (hdrOf : List WChunk → List Byte) (hh : hdr = hdrOf (writeAll h e cs).chunks) :
    audioAfter hdr (hdrOf ((writeAll h e cs).setChunk id payload).1.chunks) audio = audio := by
  rw [(late_set_refused_after_history h e cs hex id payload).1, ← hh]
  exact C13.late_set_harmless_partial hdr hdr audio rfl

/-- the rule with ONE entry point's assignment lost (the seeded regression, `lost = .raw`): a history that used only that entry
    point leaves `have_written` clear and the late chunk is accepted — the full statement fails for that rule -/
theorem lost_assignment_accepts_late_chunk (lost : WriteFn) (e : ChunkW.Enc) (n : Int) :
    ((writeByLost lost (WHandle.init .wav) lost e n).setChunk [108, 97, 116, 101] [7]).2 = true := by
  simp [writeByLost, WHandle.setChunk, WHandle.init, accepts]
  decide

/-- … while every OTHER entry point still protects the file under that rule: only the single-entry-point history shows it -/
theorem lost_assignment_hidden_by_other_entry_point (lost fn : WriteFn) (e : ChunkW.Enc) (n : Int) (hne : fn ≠ lost)
    (hp : fn.passes e n = true) (h : WHandle) (id : Id) (payload : List Byte) :
    ((writeByLost lost h fn e n).setChunk id payload).2 = false := by
  have : (fn != lost) = true := by simpa using hne
  simp [writeByLost, WHandle.setChunk, accepts, hp, this]

/-- 16-bit mono: 5 items through sf_write_short, 3 frames through sf_writef_double, 6 bytes through sf_write_raw all pass; a
    partial frame of raw bytes and a zero count do not -/
example : (WriteFn.typed .s16 false).passes ⟨1, 2⟩ 5 = true ∧ (WriteFn.typed .f64 true).passes ⟨1, 2⟩ 3 = true ∧
    WriteFn.raw.passes ⟨1, 2⟩ 6 = true ∧ WriteFn.raw.passes ⟨1, 2⟩ 5 = false ∧ WriteFn.raw.passes ⟨2, 3⟩ 12 = true ∧
    (WriteFn.typed .s32 false).passes ⟨2, 2⟩ 3 = false ∧ (WriteFn.typed .s32 true).passes ⟨2, 2⟩ 0 = false := by decide

/-- every one of the nine entry points, used alone, makes the late chunk refused and keeps the early chunk -/
example : WriteFn.all.all (fun fn =>
    let h := ((WHandle.init .caf).setChunk [101, 114, 108, 121] [1, 2]).1
    let h' := writeBy h fn ⟨1, 2⟩ 6
    (h'.setChunk [108, 97, 116, 101] [7]).2 == false && h'.chunks.length == 1) = true := by decide

/-- a refused raw write (5 bytes of 16-bit mono) does not count as audio: the chunk is still accepted -/
example : ((writeBy (WHandle.init .wav) .raw ⟨1, 2⟩ 5).setChunk [108, 97, 116, 101] [7]).2 = true := by decide

example : ∃ c ∈ [((WriteFn.raw, (5 : Int))), (WriteFn.typed .f32 true, 2)], c.1.passes ⟨1, 2⟩ c.2 = true :=
  ⟨(WriteFn.typed .f32 true, 2), by simp, by decide⟩

end Sf.C13Late
