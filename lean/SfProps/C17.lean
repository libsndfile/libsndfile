/-
  C17 — sf_command never touches more than datasize bytes, string commands terminate, queries are pure.
  Model: SfModel/Command.lean, helper lemmas: SfProofs/Command.lean.

  The three statements hold of /repo with the fixes ff9108b, dc376ca, 8501a42 and 604e547.
  The `_old_rule` theorems at the end state what was wrong under the rules before those repairs.
-/
import SfProofs.Command
namespace Sf.C17
open Sf.Command

/-- For every command id (defined or not), every handle (NULL or open, any state), every datasize ≥ 0 and
    whatever lies behind the data pointer: every byte range `sf_command` reads or writes through data lies
    inside [0, datasize), a NULL data pointer is never dereferenced, and the return value is defined
    (does not depend on bytes outside the block).  The content is in the ranges: no arm of the model sets `derefNull`, and
    `Ret.undef` is produced by `oldStringOut` alone, so for the current `run` those two clauses hold by the shape of the model
    (that nothing is read or written when `data = none` is stated for SFC_FILE_TRUNCATE and the two CALC pairs, in C17Routes.lean). -/
theorem cmd_in_bounds (g : G) (h : Option H) (cmd : Int) (size : Nat) (data : Option Mem) :
    (run g h cmd size data).inBounds size = true ∧ (run g h cmd size data).retDefined = true := by
  unfold run
  cases hp : preHandle g h cmd size data with
  | some r => exact preHandle_ok g h cmd size data r hp
  | none =>
    cases h with
    | none =>
      simp only []
      split
      · apply stringOut_ok
      · simp [Res.inBounds, Res.retDefined]
    | some hh => exact withHandle_ok hh cmd size data

/-- a write-mode WAV / PCM16 handle, nothing written yet (the `w plain` handle of the grid) -/
def wavW : H :=
  { mode := .w, container := cWAV, codec := 2, channels := 2, seekable := true, hasCommand := true, haveWritten := false,
    readCur := 0, writeCur := 0, normFloat := true, normDouble := true, clipping := false, floatIntMult := false,
    scaleIntFloat := false, autoHeader := false, ieeeReplace := false, endswap := false, ambisonic := 0x40,
    rf64Downgrade := false, bext := none, cart := none, cues := none, hasInstrument := false, hasLoop := false,
    hasChanMap := false, hasPeak := false, logLen := 11, metaEpoch := 0, fileEpoch := 0 }

def g0 : G := { verLen := 16, gLogLen := 0, simpleCount := 13, majorCount := 23, subtypeCount := 28 }

/-- non-vacuity: calls that do touch data, and the four points that failed under the old rules, answered inside the block -/
example : (run g0 (some wavW) 0x1002 32 (some ⟨32, fun _ => 0xA5⟩)).writes = [(0, 32)] ∧
          (run g0 (some wavW) 0x10F1 864 (some ⟨864, fun _ => 0⟩)).ret = .exact 1 ∧
          (run g0 none 0x1000 0 (some ⟨0, fun _ => 0xA5⟩)).reads = [] ∧
          (run g0 none 0x1000 0 (some ⟨0, fun _ => 0xA5⟩)).ret = .exact 0 ∧
          (run g0 (some wavW) 0x10F1 600 (some ⟨600, fun _ => 0⟩)).reads = [] ∧
          (run g0 (some wavW) 0x10F1 600 (some ⟨600, fun _ => 0⟩)).err = some eBextSize ∧
          (run g0 (some wavW) 0x10F1 609 (some ⟨609, fun i => if i + 1 = 609 then 10 else 0⟩)).reads = [(604, 608), (0, 608), (608, 609)] := by
  decide

/-- SFC_GET_LIB_VERSION / SFC_GET_LOG_INFO with a non-NULL buffer and datasize ≥ 1 write a string whose
    terminating NUL lies inside datasize, and return its length. -/
theorem string_cmds_terminate (g : G) (h : Option H) (cmd : Int) (size : Nat) (m : Mem)
    (hc : isStringCmd cmd = true) (hs : 1 ≤ size) : (run g h cmd size (some m)).terminates size = true := by
  simp only [isStringCmd, Bool.decide_or, Bool.or_eq_true, decide_eq_true_eq] at hc
  rcases hc with hc | hc <;> subst hc
  · simp only [run, preHandle, if_true]
    exact stringOut_terminates _ _ _ _ _ _ hs
  · have hp : preHandle g h 0x1001 size (some m) = none := by simp [preHandle]
    have hcl : classify 0x1001 = Cls.k1001 := by decide
    cases h with
    | none => simp only [run, hp, if_true]; exact stringOut_terminates _ _ _ _ _ _ hs
    | some hh => simp only [run, hp, withHandle, hcl]; exact stringOut_terminates _ _ _ _ _ _ hs

/-- non-vacuity: exact fit and truncation -/
example : (run g0 none 0x1000 17 (some ⟨17, fun _ => 0xA5⟩)).writes = [(0, 17)] ∧
          (run g0 none 0x1000 5 (some ⟨5, fun _ => 0xA5⟩)).ret = .exact 4 ∧
          (run g0 none 0x1000 1 (some ⟨1, fun _ => 0xA5⟩)).writes = [(0, 1)] := by decide

/-- A command that only queries information leaves position, audio, settings and metadata as they were —
    for every handle state, datasize and data. -/
theorem queries_are_pure (g : G) (h : Option H) (cmd : Int) (size : Nat) (data : Option Mem)
    (hq : isQuery cmd = true) : sameState (run g h cmd size data).h' h = true := by
  unfold run
  cases hp : preHandle g h cmd size data with
  | some r => simp [preHandle_pure g h cmd size data r hp, sameState]
  | none =>
    cases h with
    | none =>
      simp only []
      split
      · rw [stringOut_h']; exact sameState_self _
      · exact sameState_self _
    | some hh => exact withHandle_pure hh cmd size data hq

/-- a read/write WAV handle with 8 frames written and the read cursor at 3 (the `rw used` handle of the grid) -/
def wavRW : H := { wavW with mode := .rw, haveWritten := true, readCur := 3, writeCur := 8 }

/-- non-vacuity: queries that write data, SFC_CALC_SIGNAL_MAX on the handle with diverging cursors, and a
    non-query that does change the handle -/
example : isQuery 0x1002 = true ∧ (run g0 (some wavRW) 0x1002 32 (some ⟨32, fun _ => 0⟩)).writes = [(0, 32)] ∧
          isQuery 0x1040 = true ∧ (run g0 (some wavRW) 0x1040 8 (some ⟨8, fun _ => 0⟩)).writes = [(0, 8)] ∧
          (run g0 (some wavRW) 0x1040 8 (some ⟨8, fun _ => 0⟩)).h' = some wavRW ∧
          isQuery 0x1013 = false ∧ (run g0 (some wavW) 0x1013 0 none).h' ≠ some wavW := by decide

/-! The four rules before the repairs: `oldStringOut`, `oldVarSet`, `oldCrlfEnd`, `oldAfterCalc`
(end of SfModel/Command.lean). Nothing below is about the current code. -/

/-- before ff9108b — SFC_GET_LIB_VERSION / SFC_GET_LOG_INFO with datasize 0 and a non-NULL buffer: nothing is
    written, strlen reads at least byte 0 of a zero-length block, and the return value is undefined -/
theorem strlen_after_empty_snprintf_old_rule (l : Nat) (m : Mem) (h : Option H) (e : Option Nat) (r : Int) :
    (oldStringOut l 0 (some m) h e r).inBounds 0 = false ∧ (oldStringOut l 0 (some m) h e r).retDefined = false := by
  simp [oldStringOut, Res.inBounds, Res.retDefined, rangeIn]

/-- before dc376ca — `broadcast_var_set` / `cart_var_set` read the 4-byte length field at `sizeOff` whatever
    datasize is: out of bounds for every datasize that does not reach past it -/
theorem len_before_check_old_rule (sizeOff fixed cap eS eB : Nat) (h h2 : H) (size : Nat) (m : Mem)
    (hs : size < sizeOff + 4) : (oldVarSet sizeOff fixed cap eS eB h size (some m) h2).inBounds size = false := by
  unfold oldVarSet
  simp only
  split
  · simp [Res.inBounds, rangeIn]; omega
  · split
    · simp [Res.inBounds, rangeIn]; omega
    · simp [Res.inBounds, rangeIn]; omega

/-- the same two inputs under the old and the current rule: SFC_SET_BROADCAST_INFO, 600-byte block -/
theorem len_before_check_old_vs_new :
    (oldVarSet bextSizeOff bextFixed bextCap eBextSize eBextBig wavW 600 (some ⟨600, fun _ => 0⟩) wavW).reads = [(604, 608)] ∧
    (varSet bextSizeOff bextFixed bextCap eBextSize eBextBig wavW 600 (some ⟨600, fun _ => 0⟩) wavW).reads = [] := by decide

/-- before 8501a42 — `psf_strlcpy_crlf` with one source byte left that is CR or LF looked at the byte after it:
    609 bytes, coding_history_size = 0, last byte LF: byte 609 is read; the current rule stops at 609 -/
theorem crlf_last_old_rule :
    oldCrlfEnd (fun i => if i + 1 = 609 then 10 else 0) 1 608 16382 = 610 ∧
    crlfEnd (fun i => if i + 1 = 609 then 10 else 0) 1 608 16382 = 609 ∧
    (oldVarSet bextSizeOff bextFixed bextCap eBextSize eBextBig wavW 609
        (some ⟨609, fun i => if i + 1 = 609 then 10 else 0⟩) wavW).inBounds 609 = false := by decide

/-- the old rule never went further than that one byte -/
theorem crlf_old_rule_one_byte (m : Nat → Nat) (n i room : Nat) : oldCrlfEnd m n i room ≤ i + n + 1 := by
  fun_induction oldCrlfEnd m n i room <;> omega

/-- before 604e547 — SFC_CALC_* on a read/write handle: the read cursor ends up on the write cursor, so a query
    moved the handle whenever the two differed -/
theorem calc_rdwr_old_rule (h : H) (hm : h.mode = .rw) (hne : h.readCur ≠ h.writeCur) :
    (oldAfterCalc h).readCur = h.writeCur ∧ sameState (some (oldAfterCalc h)) (some h) = false := by
  cases h with
  | mk mode =>
    simp only at hm
    subst hm
    simp [oldAfterCalc, sameState, H.core]
    intro hx; exact absurd hx.symm hne

end Sf.C17
