/-
  C07 (CAF/ALAC) — the bytes of a closed ALAC file depend only on the concatenated frames, for EVERY codec core
  (`Sf.Alac.Codec`, any state type, any encoder function): the staging loop of `alac_write_*` cuts the stream into
  packets of 4096 frames wherever the calls were cut.  Model: SfModel/AlacFile.lean.
-/
import SfProofs.AlacWriter
namespace Sf.C07Alac
open Sf Sf.Alac Sf.AlacWriter

variable {σ α : Type}

/-- C07 for CAF/ALAC, every codec core: two histories of write calls with the same concatenated frames give the same file,
    byte for byte (header with kuki and pakt chunks, packets, pad byte) -/
theorem closed_bytes_partition_independent (c : Cfg) (cd : Codec σ α) (calls1 calls2 : List (List α))
    (h : calls1.flatten = calls2.flatten) :
    closedBytes c cd (writeCalls cd (W.init cd) calls1) = closedBytes c cd (writeCalls cd (W.init cd) calls2) := by
  have h0 := staged_refl cd (W.init cd) (by simp [W.init, fpb])
  obtain ⟨b1, s1, f1, r1⟩ := staged_writeCalls cd _ calls1 _ [] h0
  obtain ⟨b2, s2, f2, r2⟩ := staged_writeCalls cd _ calls2 _ [] h0
  rw [staged_unique cd _ _ _ b1 b2 s1 s2 (by rw [f1, f2, h]) (by rw [r1, r2, h])]

/-- non-vacuity: 4097 frames written as 4095 + 2 and as 1 + 4096 through a codec whose packets record their frame count -/
example :
    let cd : Codec Unit Unit := { init := (), enc := fun _ st => ((), [st.length % 256, st.length / 256]), dec := fun _ => [] }
    (writeCalls cd (W.init cd) [List.replicate 4095 (), List.replicate 2 ()]).sizes = [2] ∧
    (finish cd (writeCalls cd (W.init cd) [List.replicate 1 (), List.replicate 4096 ()])).tmp = [0, 16, 1, 0] := by
  intro cd
  -- `n` then `m` frames on a new file, together one packet and a rest: the first call only stages, the second completes the packet (this
  -- coder records its length) and stages the rest — by the closed forms of the staging loop, so that only lengths are computed
  have key : ∀ n m : Nat, n < fpb → ¬ n + m < fpb → m ≤ fpb →
      let w := writeCalls cd (W.init cd) [List.replicate n (), List.replicate m ()]
      w.sizes = [2] ∧ w.tmp = [(n + min (fpb - n) m) % 256, (n + min (fpb - n) m) / 256] ∧ w.staged.length = m - (fpb - n) := by
    intro n m hn hm hc
    have e : (W.init cd).staged = [] := rfl
    simp only [writeCalls, List.foldl, writeCall]
    rw [writeLoop_short cd (W.init cd) _ (by simp only [e, List.length_nil, List.length_replicate]; omega),
      writeLoop_full cd _ _ (by simp only [e, List.nil_append, List.length_replicate]; exact hn)
        (by simp only [e, List.nil_append, List.length_replicate]; exact hm),
      writeLoop_short cd _ _ (by simp only [encodeBlock, e, List.nil_append, List.length_nil, List.length_drop, List.length_replicate]; omega)]
    refine ⟨rfl, ?_, ?_⟩
    · show [(List.replicate n () ++ _).length % 256, _] = _
      simp only [e, List.nil_append, List.length_append, List.length_take, List.length_replicate]
    · show ([] ++ List.drop _ _).length = _
      simp only [e, List.nil_append, List.length_drop, List.length_replicate]
  refine ⟨(key 4095 2 (by decide) (by decide) (by decide)).1, ?_⟩
  obtain ⟨_, ht, hs⟩ := key 1 4096 (by decide) (by decide) (by decide)
  unfold finish
  rw [hs, if_pos (by decide)]
  show (writeCalls cd _ _).tmp ++ [(writeCalls cd _ _).staged.length % 256, (writeCalls cd _ _).staged.length / 256] = _
  rw [ht, hs]
  decide

end Sf.C07Alac
