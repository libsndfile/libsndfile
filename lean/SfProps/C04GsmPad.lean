-- properties: C04 C11
/-
  C04 / C11 — GSM 6.10 in WAV / WAVEX: the frame count a re-open reports (model SfModel/GsmGeom.lean; the correspondence
  is vlib/gsmgeom.py).

  KF-WAV-GSM-PAD (repaired): wav_read_header adds the RIFF pad byte to `datalength`, and gsm610_init forgave
  `datalength % blocksize == 1` for the 33-byte block only, so a file of an odd number of 65-byte blocks re-opened with
  one block (320 frames) too many.
-/
import SfModel.GsmGeom
import SfProps.C04Gsm
namespace Sf.C04GsmPad
open Sf.GsmGeom

/-! `blocks fx 65` and `framesAtOpen fx 65` are, by unfolding, `blocksOfWith fx ⟨true⟩` and `framesWith fx ⟨true⟩ · none` of
   SfModel/GsmFile.lean (the same rule of `gsm610_init` written down twice), so the facts of SfProps/C04Gsm.lean apply. -/

/-- the re-open of the closed file: the reader is handed the chunk and, for an odd number of blocks, its pad byte; the
    rule before the repair takes that byte for one more block -/
theorem reopen_blocks (fx : Bool) (W : Nat) : wavReopenFrames fx W =
    320 * (blocksWritten 320 W + if blocksWritten 320 W % 2 = 1 ∧ fx = false then 1 else 0) := by
  have hs : wavSeen (wavChunk W) (wavAvail W) = 65 * blocksWritten 320 W + (65 * blocksWritten 320 W) % 2 := by
    unfold wavSeen wavAvail wavChunk
    exact congrArg (· + _) (Nat.min_eq_left (Nat.le_add_right _ _))
  unfold wavReopenFrames
  rw [hs]
  exact C04Gsm.wav_gsm_frames fx (blocksWritten 320 W)

/-- **wav_gsm_reopen_frames** (C04, full strength since the repair of KF-WAV-GSM-PAD).  For every number `W` of written
    frames the closed WAV / WAVEX file re-opens with F = 320 · ⌈W / 320⌉ frames: W ≤ F < W + 320 (F = 0 for W = 0). -/
theorem wav_gsm_reopen_frames (W : Nat) :
    wavReopenFrames true W = 320 * blocksWritten 320 W ∧ W ≤ wavReopenFrames true W ∧ wavReopenFrames true W < W + 320 := by
  rw [reopen_blocks, if_neg (by simp), Nat.add_zero]
  unfold blocksWritten
  refine ⟨rfl, ?_, ?_⟩ <;> omega

example : wavReopenFrames true 1 = 320 ∧ wavReopenFrames true 320 = 320 ∧ wavReopenFrames true 321 = 640 ∧ wavReopenFrames true 0 = 0 := by decide

/-- the class of the repaired defect: an odd number of blocks in the closed file -/
def KF.oddBlocks (W : Nat) : Prop := blocksWritten 320 W % 2 = 1
instance (W : Nat) : Decidable (KF.oddBlocks W) := by unfold KF.oddBlocks; infer_instance

/-- **wav_gsm_reopen_old_rule.**  Under the rule before the repair, inside the class the re-open reported one block
    (320 frames) more than the file holds — outside the bound C04 allows — and outside the class the same as now. -/
theorem wav_gsm_reopen_old_rule (W : Nat) :
    (KF.oddBlocks W → wavReopenFrames false W = 320 * blocksWritten 320 W + 320 ∧ ¬ wavReopenFrames false W < W + 320) ∧
    (¬ KF.oddBlocks W → wavReopenFrames false W = wavReopenFrames true W) := by
  unfold KF.oddBlocks
  rw [reopen_blocks, reopen_blocks]
  constructor
  · intro hk
    rw [if_pos ⟨hk, rfl⟩]
    refine ⟨rfl, ?_⟩
    unfold blocksWritten; omega
  · intro hk
    rw [if_neg (fun h => hk h.1), if_neg (by simp)]

/-- the recorded witness (findings/kf_wav_gsm_pad.txt): one frame written = one block; 640 frames before, 320 now -/
theorem wav_gsm_pad_witness : KF.oddBlocks 1 ∧ wavReopenFrames false 1 = 640 ∧ wavReopenFrames true 1 = 320 := by decide

/-- a truncated file is still rounded up: k whole blocks and 2 … 64 further bytes count as k + 1 blocks (both rules) -/
theorem truncated_rounds_up (fx : Bool) (k r : Nat) (h2 : 2 ≤ r) (h65 : r < 65) : blocks fx 65 (65 * k + r) = k + 1 := by
  refine (C04Gsm.blocksOf_add fx ⟨true⟩ k r h65).trans ?_
  rw [if_neg (by omega), if_neg (by omega)]

example : blocks true 65 (65 * 3 + 40) = 4 ∧ blocks true 33 (33 * 3 + 1) = 3 ∧ blocks false 33 (33 * 3 + 1) = 3 := by decide

end Sf.C04GsmPad
