/-
  C14 — path, descriptor, virtual I/O and embedded access agree; descriptor ownership; pipes.  Property theorems.

  The model is SfModel/Routes.lean (the POSIX half of src/file_io.c as written, plus sf_open_fd and the route
  related parts of psf_open_file).  `Rel sh w a` (SfProofs/Routes.lean) says that the concrete state — a shim `sh`
  over a world `w` — presents the logical file `a` (content, position):
      callbacks : the user's store is the content;
      descriptor: the bytes of the OS file from `fileoffset` on are the content, offset = fileoffset + position
                  (sf_open: fileoffset = 0; sf_open_fd: fileoffset = where the descriptor stood).
  `Op.ok` is the decidable set of operations covered.  Of the four classes outside it (listed at `Op.ok`) three have a witness
  below (`routes_equivalent_full_fails`: truncate through callbacks, `seek_before_window_diverges`, `bad_whence_diverges`); for
  psf_get_filelen after a parser has set `filelength` there is the formula `filelen_read`, no witness.
-/
import SfProofs.Routes
namespace Sf.C14
open Sf Sf.Routes

/-- every operation of the sequence is covered when it is issued -/
def OpsOk (sh : Shim) : Abs → List Op → Prop
  | _, [] => True
  | a, op :: ops => Op.ok sh a op = true ∧ OpsOk sh (absStep a op).2 ops

instance decOpsOk (sh : Shim) : (a : Abs) → (ops : List Op) → Decidable (OpsOk sh a ops)
  | _, [] => isTrue trivial
  | a, op :: ops => @instDecidableAnd _ _ _ (decOpsOk sh (absStep a op).2 ops)

theorem OpsOk_frame {s s' : Shim} (h : Frame s s') : ∀ (ops : List Op) (a : Abs), OpsOk s a ops → OpsOk s' a ops
  | [], _, _ => trivial
  | op :: ops, a, ⟨h1, h2⟩ => ⟨by rw [Op.ok_frame h]; exact h1, OpsOk_frame h ops _ h2⟩

/-- one step never changes a byte in front of `fileoffset` (covered operations, truncate included: KF-C14-TRUNC-EMBED) -/
theorem step_lead {sh : Shim} {w : World} {a : Abs} (op : Op) (hv : sh.virtualIo = false) (h : Rel sh w a)
    (hok : Op.ok sh a op = true) :
    (step sh w op).w.file.take sh.fileoffset.toNat = w.file.take sh.fileoffset.toNat := by
  obtain ⟨L, h⟩ := (Rel_fd hv).mp h
  rw [h.lead, ← (step_frame sh w op).2.2.2.1]
  exact (step_sim_fd op h hok).2.lead

/-- **routes_equivalent** (simulation, by induction over the operation sequence — no bound on its length, on the
    sizes or on the offsets): whatever route presents the logical file `a`, the results (returned counts / positions
    and the bytes delivered) of every covered operation sequence are those of the logical file, and the route still
    presents the logical file afterwards; on a descriptor route the bytes in front of `fileoffset` are as they were. -/
theorem routes_equivalent_partial : ∀ (ops : List Op) (sh : Shim) (w : World) (a : Abs),
    Rel sh w a → OpsOk sh a ops →
    (run sh w ops).1 = (absRun a ops).1 ∧ Rel (run sh w ops).2.1 (run sh w ops).2.2 (absRun a ops).2 ∧
    Frame sh (run sh w ops).2.1 ∧
    (sh.virtualIo = false → (run sh w ops).2.2.file.take sh.fileoffset.toNat = w.file.take sh.fileoffset.toNat)
  | [], sh, w, a, h, _ => ⟨rfl, h, Frame.refl _, fun _ => rfl⟩
  | op :: ops, sh, w, a, h, ⟨hok, hrest⟩ => by
    obtain ⟨h1, h2⟩ := step_sim op h hok
    have h3 := step_frame sh w op
    obtain ⟨i1, i2, i3, i4⟩ := routes_equivalent_partial ops _ _ _ h2 (OpsOk_frame h3 ops _ hrest)
    refine ⟨?_, i2, Frame.trans h3 i3, fun hv => ?_⟩
    · simp only [run, absRun]
      rw [i1, ← h1]
    · obtain ⟨sameRoute, -, -, sameOffset, -⟩ := h3
      have ih := i4 (sameRoute.trans hv)
      rw [sameOffset] at ih
      exact ih.trans (step_lead op hv h hok)

/-- two routes over the same logical file give the same results: path vs descriptor vs callbacks vs a descriptor
    positioned at offset k of a larger file (any leading bytes, any bytes after) -/
theorem routes_equivalent (ops : List Op) (sh₁ sh₂ : Shim) (w₁ w₂ : World) (a : Abs)
    (h₁ : Rel sh₁ w₁ a) (h₂ : Rel sh₂ w₂ a) (ok₁ : OpsOk sh₁ a ops) (ok₂ : OpsOk sh₂ a ops) :
    (run sh₁ w₁ ops).1 = (run sh₂ w₂ ops).1 := by
  rw [(routes_equivalent_partial ops _ _ _ h₁ ok₁).1, (routes_equivalent_partial ops _ _ _ h₂ ok₂).1]

/-- the logical content a concrete state holds -/
def logical (sh : Shim) (w : World) : List Byte := if sh.virtualIo then w.mem else w.file.drop sh.fileoffset.toNat

theorem logical_of_rel {sh : Shim} {w : World} {a : Abs} (h : Rel sh w a) : logical sh w = a.content := by
  unfold logical
  cases hv : sh.virtualIo with
  | true => simp only [Rel, hv, if_true] at h; simp [h.1]
  | false =>
    obtain ⟨L, h⟩ := (Rel_fd hv).mp h
    simp [h.offset, h.file]

/-- **written_bytes_route_independent**: after the same covered operation sequence (writes, seeks, …) the logical
    content is the same on every route — for a descriptor route that is the file from `fileoffset` on. -/
theorem written_bytes_route_independent (ops : List Op) (sh₁ sh₂ : Shim) (w₁ w₂ : World) (a : Abs)
    (h₁ : Rel sh₁ w₁ a) (h₂ : Rel sh₂ w₂ a) (ok₁ : OpsOk sh₁ a ops) (ok₂ : OpsOk sh₂ a ops) :
    logical (run sh₁ w₁ ops).2.1 (run sh₁ w₁ ops).2.2 = logical (run sh₂ w₂ ops).2.1 (run sh₂ w₂ ops).2.2 := by
  rw [logical_of_rel (routes_equivalent_partial ops _ _ _ h₁ ok₁).2.1,
      logical_of_rel (routes_equivalent_partial ops _ _ _ h₂ ok₂).2.1]

theorem rel_vio (mode : Mode) (w : World) : Rel (openVio mode) w ⟨w.mem, w.mpos⟩ := by
  simp [Rel, openVio]

theorem rel_path (mode : Mode) (w : World) (hp : w.isPipe = false) :
    Rel (openPath w mode).1 (openPath w mode).2 ⟨if mode = .w then [] else w.file, 0⟩ := by
  refine Window.rel (L := []) ⟨rfl, rfl, hp, ?_, rfl, by simp [openPath], by simp [openPath], fun _ => rfl⟩
  simp [openPath, World.valid]

/-- the statement at full strength: every operation, no side condition -/
def routes_equivalent_full : Prop :=
  ∀ (ops : List Op) (sh : Shim) (w : World) (a : Abs), Rel sh w a → (run sh w ops).1 = (absRun a ops).1

def wOpen (file : List Byte) (off : Nat) : World := { file := file, off := off, openFds := [3, 7] }
def shFd (mode : Mode) (k : Int) : Shim := { mode := mode, filedes := 3, fileoffset := k }

/-- psf_ftruncate through virtual I/O (KF-C14-TRUNC-VIO, repaired in /repo by 7f90196): SF_VIRTUAL_IO has no truncate callback, the
    call is refused with -1 and NOTHING is touched — not the store, not its position, not the handle's error -/
theorem truncate_vio_refused_cleanly (sh : Shim) (w : World) (n : Int) (hv : sh.virtualIo = true) :
    (ftruncate sh w n).ret = -1 ∧ (ftruncate sh w n).w = w ∧ (ftruncate sh w n).sh = sh := by
  unfold ftruncate; split <;> simp

/-- the rule before the repair (KF-C14-TRUNC-VIO): ftruncate (-1) — the handle is left with SFE_SYSTEM -/
theorem truncate_vio_old_rule :
    (ftruncateOld (openVio .w) { mem := [1, 2, 3, 4], mpos := 4 } 2).ret = -1 ∧
    (ftruncateOld (openVio .w) { mem := [1, 2, 3, 4], mpos := 4 } 2).sh.error = .system ∧
    (ftruncate (openVio .w) { mem := [1, 2, 3, 4], mpos := 4 } 2).sh.error = .none := by decide

/-- psf_ftruncate with fileoffset > 0 (KF-C14-TRUNC-EMBED, repaired in /repo by 22358b7): the cut lands at fileoffset + len, the bytes in
    front of the embedded file stay (in general: `routes_equivalent_partial` and `embedded_window_lead`, which cover truncate) -/
theorem truncate_embedded_respects_offset :
    (step (shFd .w 3) (wOpen [9, 9, 9, 1, 2, 3, 4] 7) (.truncate 2)).ret = 0 ∧
    (step (shFd .w 3) (wOpen [9, 9, 9, 1, 2, 3, 4] 7) (.truncate 2)).w.file = [9, 9, 9, 1, 2] ∧
    (absStep ⟨[1, 2, 3, 4], 4⟩ (.truncate 2)).2.content = [1, 2] := by decide

/-- the rule before the repair (KF-C14-TRUNC-EMBED): the cut landed `fileoffset` bytes too early — here it removed the whole
    embedded file and a byte of the enclosing one -/
theorem truncate_embedded_old_rule :
    (ftruncateOld (shFd .w 3) (wOpen [9, 9, 9, 1, 2, 3, 4] 7) 2).ret = 0 ∧
    (ftruncateOld (shFd .w 3) (wOpen [9, 9, 9, 1, 2, 3, 4] 7) 2).w.file = [9, 9] := by decide

/-- what is outside `Op.ok` (all by design or never issued): truncate through callbacks (refused), an unknown whence,
    a seek in front of the window, psf_get_filelen after a parser has set filelength to the header's own size.
    The witness used here is the first. -/
theorem routes_equivalent_full_fails : ¬ routes_equivalent_full := by
  intro h
  have := h [.truncate 2] (openVio .w) { mem := [1, 2, 3, 4], mpos := 4 } ⟨[1, 2, 3, 4], 4⟩ (by simp [Rel, openVio])
  revert this; decide

/-- KF-C14-EMBED-SHORT, repaired in /repo by b9f7166: the first psf_get_filelen of an embedded READ handle (psf_open_file, before any
    container parser has set `filelength`) answers the length of the embedded part, like every other route -/
theorem filelen_fresh_embedded {sh : Shim} {w : World} {a : Abs} (hv : sh.virtualIo = false) (h : Rel sh w a)
    (hm : sh.mode = .r) (hl : sh.filelength ≤ 0) : (getFilelen sh w).ret = a.content.length := by
  have hok : Op.ok sh a .filelen = true := by simp [Op.ok, hm, hl]
  have := (step_sim .filelen h hok).1
  simp only [step, absStep] at this
  exact (Prod.mk.inj this).1

/-- the rule before the repair (KF-C14-EMBED-SHORT): the size of the whole descriptor, leading bytes included -/
theorem filelen_first_call_old_rule :
    (getFilelenOld (shFd .r 3) (wOpen [9, 9, 9, 1, 2, 3, 4] 3)).ret = 7 ∧
    (getFilelen (shFd .r 3) (wOpen [9, 9, 9, 1, 2, 3, 4] 3)).ret = 4 ∧
    (absStep ⟨[1, 2, 3, 4], 0⟩ .filelen).1.1 = 4 := by decide

/-- in general: the READ-mode answer of an embedded handle is `filelength` once it is set, else the size behind the offset -/
theorem filelen_read (sh : Shim) (w : World) (hv : sh.virtualIo = false) (hm : sh.mode = .r)
    (hval : w.valid sh.filedes = true) (hp : w.isPipe = false) :
    (getFilelen sh w).ret = if sh.fileoffset > 0 then (if sh.filelength > 0 then sh.filelength else (w.file.length : Int) - sh.fileoffset)
                            else (w.file.length : Int) := by
  have h1 : ¬ ((w.file.length : Int) = -1) := by omega
  simp [getFilelen, hv, fstatSize, hval, hp, h1, hm]

/-- not issued by the upper layer: a seek in front of the window moves an embedded descriptor into the enclosing
    file (the next read delivers its bytes), while a plain descriptor refuses the seek -/
theorem seek_before_window_diverges :
    (run (shFd .r 3) (wOpen [9, 8, 7, 1, 2, 3, 4] 3) [.seek (-1) 0, .read 1 1]).1 = [(-1, []), (1, [7])] ∧
    (run (shFd .r 0) (wOpen [1, 2, 3, 4] 0) [.seek (-1) 0, .read 1 1]).1 = [(-1, []), (1, [1])] := by decide +kernel

/-- not issued by the upper layer: an unknown whence is answered 0 by the descriptor route, -1 by the callbacks -/
theorem bad_whence_diverges :
    (step (shFd .r 0) (wOpen [1, 2] 0) (.seek 0 3)).ret = 0 ∧
    (step (openVio .r) { mem := [1, 2] } (.seek 0 3)).ret = -1 := by decide

/-- **embedded_window, lower edge**: for every covered operation sequence the bytes of the enclosing file in front of
    `fileoffset` are never modified, in any mode -/
theorem embedded_window_lead : ∀ (ops : List Op) (sh : Shim) (w : World) (a : Abs), sh.virtualIo = false →
    Rel sh w a → OpsOk sh a ops →
    (run sh w ops).2.2.file.take sh.fileoffset.toNat = w.file.take sh.fileoffset.toNat :=
  fun ops sh w a hv h hok => (routes_equivalent_partial ops sh w a h hok).2.2.2 hv

/-- reads that stay inside the first `L` bytes, seeks by SEEK_SET / SEEK_CUR, tell: what a reader confined to the
    window `[0, L)` issues -/
def inWindow (L : Nat) (a : Abs) : Op → Bool
  | .seek _ wh => decide (wh ≤ 1)
  | .read b i => decide (a.pos + (b * i).toNat ≤ L)
  | .tell => true
  | _ => false

def OpsWithin (L : Nat) : Abs → List Op → Prop
  | _, [] => True
  | a, op :: ops => inWindow L a op = true ∧ OpsWithin L (absStep a op).2 ops

instance decOpsWithin (L : Nat) : (a : Abs) → (ops : List Op) → Decidable (OpsWithin L a ops)
  | _, [] => isTrue trivial
  | a, op :: ops => @instDecidableAnd _ _ _ (decOpsWithin L (absStep a op).2 ops)

theorem absStep_trailing (c t t' : List Byte) (p : Nat) (op : Op) (hin : inWindow c.length ⟨c ++ t, p⟩ op = true) :
    (absStep ⟨c ++ t, p⟩ op).1 = (absStep ⟨c ++ t', p⟩ op).1 ∧
    ∃ p', (absStep ⟨c ++ t, p⟩ op).2 = ⟨c ++ t, p'⟩ ∧ (absStep ⟨c ++ t', p⟩ op).2 = ⟨c ++ t', p'⟩ := by
  cases op with
  | seek off wh =>
    simp only [inWindow, decide_eq_true_eq] at hin
    have hb : ∀ l, whBase wh p l = whBase wh p 0 := by
      intro l; unfold whBase; split; · rfl
      split; · rfl
      omega
    simp only [absStep, hb (c ++ t).length, hb (c ++ t').length]
    (repeat' split) <;> exact ⟨rfl, _, rfl, rfl⟩
  | read b i =>
    simp only [inWindow, decide_eq_true_eq] at hin
    simp only [absStep, readAt_append _ _ _ _ hin]
    (repeat' split) <;> exact ⟨rfl, _, rfl, rfl⟩
  | tell => exact ⟨rfl, p, rfl, rfl⟩
  | write b i d => cases hin
  | filelen => cases hin
  | truncate n => cases hin

/-- **embedded_window, upper edge**: a reader that stays inside the window cannot tell what follows it — its results
    are the same for every trailing content (and therefore, with `routes_equivalent`, the same as on the bare file) -/
theorem trailing_bytes_invisible (c t t' : List Byte) : ∀ (ops : List Op) (p : Nat),
    OpsWithin c.length ⟨c ++ t, p⟩ ops →
    (absRun ⟨c ++ t, p⟩ ops).1 = (absRun ⟨c ++ t', p⟩ ops).1 ∧ OpsWithin c.length ⟨c ++ t', p⟩ ops
  | [], _, _ => ⟨rfl, trivial⟩
  | op :: ops, p, ⟨hin, hrest⟩ => by
    obtain ⟨h1, p', h2, h3⟩ := absStep_trailing c t t' p op hin
    have hin' : inWindow c.length ⟨c ++ t', p⟩ op = true := by cases op <;> exact hin
    rw [h2] at hrest
    obtain ⟨i1, i2⟩ := trailing_bytes_invisible c t t' ops p' hrest
    simp only [absRun, OpsWithin, h1, h2, h3, i1]
    exact ⟨trivial, hin', i2⟩

/-- SEEK_END is outside that set for a reason: psf_fseek hands it to lseek unchanged, so on an embedded file it is
    relative to the real end of the enclosing file — trailing bytes are counted -/
theorem seek_end_sees_trailing_bytes :
    (step (shFd .r 2) (wOpen [9, 9, 1, 2, 3, 8, 8, 8] 2) (.seek 0 2)).ret = 6 ∧
    (step (shFd .r 0) (wOpen [1, 2, 3] 0) (.seek 0 2)).ret = 3 := by decide

/-- **close_desc_iff**: after psf_fclose a descriptor `d` is open exactly when it was open before and it is not the
    handle's own descriptor being closed — which happens iff the route is a descriptor route and
    do_not_close_descriptor = 0.  No other descriptor is ever touched.  (That nothing else in the world changes is `fclose_world`.) -/
theorem close_desc_iff (sh : Shim) (w : World) (d : Nat) (hnd : w.openFds.Nodup) :
    d ∈ (fclose sh w).w.openFds ↔
      d ∈ w.openFds ∧ ¬ (sh.virtualIo = false ∧ sh.doNotClose = false ∧ sh.filedes = (d : Int)) := by
  unfold fclose
  -- callbacks, or a descriptor that is not the handle's to close: psf_fclose calls no close () and `simp` closes the case;
  -- what is left is the descriptor route with do_not_close_descriptor = 0, where `osClose` erases `filedes` if it is open
  cases hv : sh.virtualIo <;> cases hd : sh.doNotClose <;> simp
  by_cases hneg : sh.filedes < 0
  · simp [hneg]; intro _; omega
  · simp only [hneg, if_false, osClose]
    by_cases hc : w.openFds.contains sh.filedes.toNat
    · simp only [hc, if_true]
      rw [hnd.mem_erase_iff]
      constructor
      · rintro ⟨h1, h2⟩; exact ⟨h2, by omega⟩
      · rintro ⟨h1, h2⟩; exact ⟨by omega, h1⟩
    · simp only [hc]
      simp only [List.contains_iff_mem] at hc
      simp
      intro hm he
      have : sh.filedes.toNat = d := by omega
      simp [this, hm] at hc

theorem fclose_world (sh : Shim) (w : World) : (fclose sh w).w = { w with openFds := (fclose sh w).w.openFds } := by
  unfold fclose osClose
  split; · rfl
  split; · rfl
  split; · rfl
  split <;> rfl

/-- psf_open_file's route-related head never changes the ownership flag -/
theorem openFileEmbed_dnc (sh : Shim) (w : World) (hok : (openFileEmbed sh w).err = .none) :
    (openFileEmbed sh w).sh.doNotClose = sh.doNotClose := by
  unfold openFileEmbed at hok ⊢
  by_cases hpos : sh.fileoffset > 0
  · simp only [hpos, if_true] at hok ⊢
    cases hm : sh.mode with
    | r =>
      simp only [hm] at hok ⊢
      by_cases h44 : sh.filelength < minEmbedded
      · simp [h44, failOpen] at hok
      · simp [h44]
    | w => simp only [ftell_dnc, fseek_dnc]
    | rw => simp [hm, failOpen] at hok
  · simp [hpos]

/-- sf_open_fd records ownership as given: do_not_close_descriptor = !close_desc -/
theorem open_fd_ownership (w : World) (fd : Int) (mode : Mode) (cd : Bool) (major : Nat) (hm : major ≠ SD2)
    (hok : (openFd w fd mode cd major).err = .none) : (openFd w fd mode cd major).sh.doNotClose = !cd := by
  unfold openFd at hok ⊢
  simp only [hm, if_false] at hok ⊢
  unfold openFileHead at hok ⊢
  rw [openFileEmbed_dnc _ _ hok, openFileLen_dnc]
  simp [ftell_dnc]

/-- sf_open_fd refuses SD2 before anything else and closes the descriptor iff close_desc -/
theorem sd2_fd_refused (w : World) (fd : Nat) (mode : Mode) (cd : Bool) (hnd : w.openFds.Nodup) (ho : fd ∈ w.openFds) :
    (openFd w fd mode cd SD2).err = .sd2Fd ∧ (fd ∈ (openFd w fd mode cd SD2).w.openFds ↔ cd = false) := by
  cases cd
  · simp [openFd, ho]
  · simp [openFd, osClose, ho, hnd.mem_erase_iff]

/-- an embedded file (fileoffset > 0) cannot be opened read/write: SFE_NO_EMBEDDED_RDWR, whatever the container -/
theorem embedded_rdwr_refused (sh : Shim) (w : World) (hk : sh.fileoffset > 0) (hm : sh.mode = .rw) :
    (openFileEmbed sh w).err = .noEmbeddedRdwr := by
  simp [openFileEmbed, hk, hm, failOpen]

/-- an embedded read is refused when the part behind the offset is shorter than the smallest header that can be embedded
    (AU, 24 bytes) — "supplied offset beyond end of file" -/
theorem embedded_short_descriptor_refused (sh : Shim) (w : World) (hk : sh.fileoffset > 0) (hm : sh.mode = .r)
    (hl : sh.filelength < 24) : (openFileEmbed sh w).err = .badOffset := by
  have : sh.filelength < minEmbedded := hl
  simp [openFileEmbed, hk, hm, this, failOpen]

/-- … and is let through from 24 bytes on (KF-C14-EMBED-MIN44, repaired in /repo by 825680a: the bound was 44, a WAV header, applied to
    the whole descriptor, so that AU files below it were refused) -/
theorem embedded_min_header_passes (sh : Shim) (w : World) (hk : sh.fileoffset > 0) (hm : sh.mode = .r)
    (hl : 24 ≤ sh.filelength) : (openFileEmbed sh w).err = .none := by
  have : ¬ sh.filelength < minEmbedded := by unfold minEmbedded; omega
  simp [openFileEmbed, hk, hm, this]

theorem min_embedded_old_rule : minEmbeddedOld = 44 ∧ minEmbedded = 24 := by decide

/-- the embedding whitelist: with fileoffset > 0 the open survives iff the container is WAV, WAVEX, AIFF, AU (MPEG, FLAC) -/
theorem embedded_whitelist (sh : Shim) (w : World) (major : Nat) (hk : sh.fileoffset > 0) :
    (openFileTail sh w major).err = .none ↔ major ∈ embedWhitelist := by
  unfold openFileTail
  by_cases h : embedWhitelist.contains major
  · simp [List.contains_iff_mem.mp h]
  · have : major ∉ embedWhitelist := fun hm => h (List.contains_iff_mem.mpr hm)
    simp [hk, this, failOpen]

/-- without an offset the whitelist plays no role -/
theorem plain_not_gated (sh : Shim) (w : World) (major : Nat) (hk : sh.fileoffset = 0) :
    (openFileTail sh w major).err = .none := by
  simp [openFileTail, hk]

/-- a refused open runs psf_fclose: the descriptor is closed iff close_desc -/
theorem failed_open_closes_iff (e : Err) (sh : Shim) (w : World) (d : Nat) (hnd : w.openFds.Nodup) :
    d ∈ (failOpen e sh w).w.openFds ↔
      d ∈ w.openFds ∧ ¬ (sh.virtualIo = false ∧ sh.doNotClose = false ∧ sh.filedes = (d : Int)) :=
  close_desc_iff sh w d hnd

/-- a non-seekable descriptor presents the logical stream `a`: everything consumed so far is counted in pipeoffset -/
def RelPipe (sh : Shim) (w : World) (a : Abs) : Prop :=
  sh.virtualIo = false ∧ sh.isPipe = true ∧ w.valid sh.filedes = true ∧ w.file = a.content ∧ w.off = a.pos ∧
  sh.pipeoffset = (a.pos : Int)

/-- what a sequential reader issues: reads, tell, and the "seek to where we already are" psf_fseek lets through -/
def pipeOk (a : Abs) : Op → Bool
  | .read _ _ => true
  | .tell => true
  | .seek off wh => decide (wh = 0) && decide (off = (a.pos : Int))
  | _ => false

def OpsPipe : Abs → List Op → Prop
  | _, [] => True
  | a, op :: ops => pipeOk a op = true ∧ OpsPipe (absStep a op).2 ops

instance decOpsPipe : (a : Abs) → (ops : List Op) → Decidable (OpsPipe a ops)
  | _, [] => isTrue trivial
  | a, op :: ops => @instDecidableAnd _ _ _ (decOpsPipe (absStep a op).2 ops)

theorem pipe_step {sh : Shim} {w : World} {a : Abs} (op : Op) (h : RelPipe sh w a) (hok : pipeOk a op = true) :
    ((step sh w op).ret, (step sh w op).data) = (absStep a op).1 ∧
    RelPipe (step sh w op).sh (step sh w op).w (absStep a op).2 := by
  obtain ⟨hv, hp, hval, hc, hoff, hpo⟩ := h
  cases op with
  | seek off wh =>
    simp only [pipeOk, Bool.and_eq_true, decide_eq_true_eq] at hok
    obtain ⟨h0, h1⟩ := hok
    subst h0
    have h2 : ¬ ((0 : Int) + off < 0) := by omega
    simp only [step, fseek, hv, hp, Bool.false_eq_true, if_false, if_true, absStep, whBase, h2]
    have h3 : ¬ (2 < 0) := by omega
    simp only [h3, if_false, Int.zero_add]
    refine ⟨by trivial, hv, hp, hval, hc, ?_, ?_⟩ <;> simp [h1, hoff, hpo]
  | read b i =>
    simp only [step, fread, absStep]
    by_cases hz : b = 0 ∨ i = 0
    · simp only [hz, if_true]; exact ⟨by trivial, hv, hp, hval, hc, hoff, hpo⟩
    · simp only [hz, if_false, hv, Bool.false_eq_true, Int.mul_comm i b]
      by_cases hneg : b * i ≤ 0
      · simp only [hneg, if_true]; exact ⟨by trivial, hv, hp, hval, hc, hoff, hpo⟩
      · simp only [hneg, if_false, osRead, hval, Bool.not_true, hp, Bool.false_eq_true, if_true, hc, hoff]
        refine ⟨by trivial, by simpa using hv, by simp, by simpa [World.valid] using hval, by simp, by simp, by simp [hpo]⟩
  | tell =>
    simp only [step, ftell, hv, hp, Bool.false_eq_true, if_false, if_true, absStep]
    exact ⟨by simp [hpo], hv, hp, hval, hc, hoff, hpo⟩
  | write b i d => simp [pipeOk] at hok
  | filelen => simp [pipeOk] at hok
  | truncate n => simp [pipeOk] at hok

/-- **pipe_equivalent**: a sequential reader gets from a pipe exactly what it gets from the logical file -/
theorem pipe_equivalent : ∀ (ops : List Op) (sh : Shim) (w : World) (a : Abs),
    RelPipe sh w a → OpsPipe a ops → (run sh w ops).1 = (absRun a ops).1
  | [], _, _, _, _, _ => rfl
  | op :: ops, sh, w, a, h, ⟨hok, hrest⟩ => by
    obtain ⟨h1, h2⟩ := pipe_step op h hok
    have ih := pipe_equivalent ops _ _ _ h2 hrest
    simp only [run, absRun]
    rw [ih, ← h1]

/-- on a pipe every seek "succeeds" and does nothing -/
theorem pipe_seek_is_noop (sh : Shim) (w : World) (off : Int) (wh : Nat) (hv : sh.virtualIo = false) (hp : sh.isPipe = true) :
    (fseek sh w off wh).ret = off ∧ (fseek sh w off wh).w = w ∧ (fseek sh w off wh).sh = sh := by
  simp [fseek, hv, hp]

def demoFile : List Byte := [9, 8, 7, 1, 2, 3, 4, 5, 6]      -- three leading bytes, then the sound file [1..6]
def demoOps : List Op := [.read 2 1, .tell, .seek 1 0, .read 1 3, .seek (-2) 1, .write 1 2 [50, 51], .seek 0 2, .tell, .filelen]

example : Rel (shFd .w 3) (wOpen demoFile 3) ⟨[1, 2, 3, 4, 5, 6], 0⟩ :=
  Window.rel (L := [9, 8, 7]) ⟨rfl, rfl, rfl, by decide, rfl, rfl, rfl, by decide⟩
example : Rel (shFd .w 0) (wOpen [1, 2, 3, 4, 5, 6] 0) ⟨[1, 2, 3, 4, 5, 6], 0⟩ :=
  Window.rel (L := []) ⟨rfl, rfl, rfl, by decide, rfl, rfl, rfl, by decide⟩
example : Rel (openVio .w) { mem := [1, 2, 3, 4, 5, 6] } ⟨[1, 2, 3, 4, 5, 6], 0⟩ := rel_vio _ _
example : OpsOk (shFd .w 3) ⟨[1, 2, 3, 4, 5, 6], 0⟩ demoOps := by decide
example : OpsOk (openVio .w) ⟨[1, 2, 3, 4, 5, 6], 0⟩ demoOps := by decide
example : (run (shFd .w 3) (wOpen demoFile 3) demoOps).1 = (run (openVio .w) { mem := [1, 2, 3, 4, 5, 6] } demoOps).1 := by decide +kernel
example : (run (shFd .w 3) (wOpen demoFile 3) demoOps).1 =
    [(1, [1, 2]), (2, []), (1, []), (3, [2, 3, 4]), (2, []), (2, []), (6, []), (6, []), (6, [])] := by decide +kernel
example : (run (shFd .w 3) (wOpen demoFile 3) demoOps).2.2.file = [9, 8, 7, 1, 2, 50, 51, 5, 6] := by decide +kernel
example : logical (run (openVio .w) { mem := [1, 2, 3, 4, 5, 6] } demoOps).2.1 (run (openVio .w) { mem := [1, 2, 3, 4, 5, 6] } demoOps).2.2
    = [1, 2, 50, 51, 5, 6] := by decide
example : OpsWithin 4 ⟨[1, 2, 3, 4] ++ [8, 8], 0⟩ [.read 1 2, .seek 1 1, .read 1 1, .tell] := by decide
example : 3 ∈ (fclose { filedes := 3, doNotClose := true } (wOpen [] 0)).w.openFds := by decide
example : 3 ∉ (fclose { filedes := 3, doNotClose := false } (wOpen [] 0)).w.openFds := by decide
example : 7 ∈ (fclose { filedes := 3, doNotClose := false } (wOpen [] 0)).w.openFds := by decide
example : (openFd (wOpen demoFile 3) 3 .r false 0x01).err = .badOffset := by decide      -- 6 bytes behind the offset < 24
example : (openFd (wOpen (List.replicate 50 0) 3) 3 .r false 0x01).err = .none ∧
          (openFd (wOpen (List.replicate 50 0) 3) 3 .r false 0x01).sh.fileoffset = 3 ∧
          (openFd (wOpen (List.replicate 50 0) 3) 3 .r false 0x01).sh.filelength = 47 := by decide
example : (openFd (wOpen demoFile 3) 3 .w true 0x01).sh.fileoffset = 9 := by decide        -- write: appended at the end
example : (openFd (wOpen demoFile 3) 3 .rw true 0x01).err = .noEmbeddedRdwr ∧
          3 ∉ (openFd (wOpen demoFile 3) 3 .rw true 0x01).w.openFds := by decide
example : (openFileTail (shFd .r 3) (wOpen demoFile 3) 0x05).err = .noEmbedSupport := by decide   -- PAF
example : RelPipe { filedes := 3, isPipe := true } { (wOpen [1, 2, 3] 0) with isPipe := true } ⟨[1, 2, 3], 0⟩ := by
  exact ⟨rfl, rfl, by decide, rfl, rfl, rfl⟩
example : OpsPipe ⟨[1, 2, 3], 0⟩ [.read 1 2, .tell, .seek 2 0, .read 1 5] := by decide
example : (run { filedes := 3, isPipe := true } { (wOpen [1, 2, 3] 0) with isPipe := true } [.read 1 2, .tell, .seek 2 0, .read 1 5]).1
    = [(2, [1, 2]), (2, []), (2, []), (1, [3])] := by decide

end Sf.C14
