-- properties: C04 C11
/-
  C04 / C11 — the AVR container (stand-alone L1 model SfModel/Avr.lean over SfModel/SmallSession.lean; helpers
  SfProofs/SmallSession.lean, SfProofs/Avr.lean).

  A *session* is `openW` (sf_open SFM_WRITE; the frames value the caller left in SF_INFO is a parameter), any list of
  `WOp`s (write calls storing encoded audio, with or without SFC_SET_UPDATE_HEADER_AUTO; SFC_UPDATE_HEADER_NOW), then
  `close`.  `parse` is sf_open (SFM_READ) of the produced bytes.
-/
import SfProofs.Avr
namespace Sf.C04Avr
open Sf Sf.Small Sf.Avr

/-- the image of a header update: the 128-byte header of the frame count so far, then the audio -/
theorem snapshotBytes_eq (c : Cfg) (stale : Nat) (ops : List WOp) :
    snapshotBytes (spec c) stale ops = hdr c ((opsData ops).length / c.bw) ++ opsData ops := by
  simpa [spec] using snapshot_calc (spec c) (spec_plain c) rfl stale ops

/-- … and `avr_close` is one more header update -/
theorem closedBytes_eq (c : Cfg) (stale : Nat) (ops : List WOp) :
    closedBytes (spec c) stale ops = hdr c ((opsData ops).length / c.bw) ++ opsData ops := by
  rw [closed_is_snapshot (spec c) (spec_plain c) rfl, snapshotBytes_eq]

/-- **avr_reopen_info.**  For every accepted configuration (PCM S8 / U8 / 16, one or two channels, any rate up to
    2^31 − 1: the rate field has 32 bits, nothing is quantised) and every session, the closed file re-opens with the
    requested channels, format word and rate, and frames = audio bytes / block width.  No size guard: the reader
    takes the frame count from the file length, not from the 32-bit field. -/
theorem avr_reopen_info (c : Cfg) (hwf : c.wf) (stale : Nat) (ops : List WOp) :
    parse (closedBytes (spec c) stale ops) =
      .ok { ch := c.ch, fmt := c.fmtWord, sr := c.sr, frames := (opsData ops).length / c.bw } := by
  rw [closedBytes_eq]; exact parse_hdr c hwf _ _

/-- **avr_frames_bound.**  N whole frames written: the re-opened count is exactly N (block length 1, no padding) -/
theorem avr_frames_bound (c : Cfg) (hwf : c.wf) (stale : Nat) (ops : List WOp) (N : Nat) (hN : (opsData ops).length = N * c.bw) :
    ∃ F, parse (closedBytes (spec c) stale ops) = .ok { ch := c.ch, fmt := c.fmtWord, sr := c.sr, frames := F } ∧ N ≤ F ∧ F < N + 1 := by
  refine ⟨N, ?_, Nat.le_refl _, Nat.lt_succ_self _⟩
  rw [avr_reopen_info c hwf, hN, Nat.mul_div_cancel _ (bw_pos c hwf)]

def exCfg : Cfg := ⟨0x02, 0, 2, 44100⟩
def exOps : List WOp := [.write [0, 1, 0, 2] false, .update, .write [0, 3, 0, 4, 0, 5, 0, 6] true]
def exU8 : Cfg := ⟨0x05, 2, 1, 2147483647⟩

example : exCfg.wf ∧ (closedBytes (spec exCfg) 99 exOps).length = 140 ∧
    parse (closedBytes (spec exCfg) 99 exOps) = .ok ⟨2, 0x120002, 44100, 3⟩ :=
  ⟨by decide, by rw [closedBytes_eq, List.length_append, hdr_length]; decide, (avr_reopen_info exCfg (by decide) 99 exOps).trans (by decide)⟩
example : exU8.wf ∧ parse (closedBytes (spec exU8) 0 [.write [1, 2, 3] false]) = .ok ⟨1, 0x120005, 2147483647, 3⟩ :=
  ⟨by decide, (avr_reopen_info exU8 (by decide) 0 _).trans (by decide)⟩

/-- **avr_size_fields.**  For every session: the file is the 128-byte header plus the audio bytes, and the frames
    field (offset 26, big-endian) holds the low 32 bits of the frame count. -/
theorem avr_size_fields (c : Cfg) (stale : Nat) (ops : List WOp) (bytes : List Byte) (D : Nat)
    (hbytes : bytes = closedBytes (spec c) stale ops) (hD : D = (opsData ops).length) :
    bytes.length = 128 + D ∧ ofBE (slice bytes 26 4) = (D / c.bw) % 2 ^ 32 := by
  rw [hbytes, closedBytes_eq, ← hD]
  refine ⟨by rw [List.length_append, hdr_length, hD]; rfl, ?_⟩
  simp only [hdr, List.append_assoc, slice_skip, slice_head, be16_length, be32_length, mk4_2BIT_length, List.length_replicate,
    Nat.reduceSub, Nat.reduceLeDiff, Nat.le_refl, ofBE_be32, wrapU_natCast]

example : ofBE (slice (closedBytes (spec exCfg) 99 exOps) 26 4) = 3 := (avr_size_fields exCfg 99 exOps _ _ rfl rfl).2.trans (by decide)

/-- **stale_frames_ignored_avr.**  `avr_open` keeps the caller's frames value in the first header it writes, but
    every header update and `avr_close` recompute it from the file length: neither the closed bytes nor any
    header-update image depend on it. -/
theorem stale_frames_ignored_avr (c : Cfg) (a b : Nat) (ops : List WOp) :
    closedBytes (spec c) a ops = closedBytes (spec c) b ops ∧ snapshotBytes (spec c) a ops = snapshotBytes (spec c) b ops :=
  ⟨by rw [closedBytes_eq, closedBytes_eq], by rw [snapshotBytes_eq, snapshotBytes_eq]⟩

example : closedBytes (spec exCfg) 0 exOps = closedBytes (spec exCfg) 123456 exOps ∧
    (openW (spec exCfg) 0).bytes ≠ (openW (spec exCfg) 123456).bytes :=
  ⟨(stale_frames_ignored_avr exCfg 0 123456 exOps).1, by decide +kernel⟩

/-- **avr_snapshot_valid** (C11).  After any session prefix, the image a header update (SFC_UPDATE_HEADER_NOW, or a
    write call in auto mode) leaves in the store is a complete file: it parses with the requested parameters and
    frames = audio bytes written so far / block width, and it is the 128-byte header followed by exactly the audio. -/
theorem avr_snapshot_valid (c : Cfg) (hwf : c.wf) (stale : Nat) (ops : List WOp) :
    parse (snapshotBytes (spec c) stale ops) =
      .ok { ch := c.ch, fmt := c.fmtWord, sr := c.sr, frames := (opsData ops).length / c.bw } ∧
    ∃ h, h.length = 128 ∧ snapshotBytes (spec c) stale ops = h ++ opsData ops := by
  rw [snapshotBytes_eq]
  exact ⟨parse_hdr c hwf _ _, _, hdr_length c _, rfl⟩

/-- a write call with SFC_SET_UPDATE_HEADER_AUTO on is the plain write call followed by a header update -/
theorem auto_write_is_update (c : Cfg) (s : St) (enc : List Byte) :
    write (spec c) s enc true = update (spec c) (write (spec c) s enc false) := by
  simp [write, update]

example : parse (snapshotBytes (spec exCfg) 7 [.write [0, 1, 0, 2] false]) = .ok ⟨2, 0x120002, 44100, 1⟩ := by decide +kernel

end Sf.C04Avr
