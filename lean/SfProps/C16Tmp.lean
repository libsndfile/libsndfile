/-
  C16 — the ALAC spool file is removed at close for every state of the temp directory (model: SfModel/TmpFile.lean); the seeded
  fallback that stores no name leaves the file behind as soon as the temp directory is unusable.
-/
import SfModel.TmpFile
namespace Sf.C16Tmp
open Sf.TmpFile

theorem name_is_file (e : Env) (r1 r2 : Nat) (f0 : Option Path) : (openTmp e r1 r2 f0).fname = (openTmp e r1 r2 f0).file := by
  unfold openTmp
  split
  · rfl
  · split <;> rfl

theorem tmpfile_removed (e : Env) (r1 r2 : Nat) (fs : Fs) : life openTmp e r1 r2 fs = fs := by
  have hn := name_is_file e r1 r2 none
  simp only [life, afterClose, afterOpen, hn]
  cases h : (openTmp e r1 r2 none).file with
  | none => rfl
  | some p => simp

-- non-vacuity: the three paths through the function
example : life openTmp ⟨true, true, true⟩ 7 9 [(.cwd, 1)] = [(.cwd, 1)] ∧ (openTmp ⟨true, true, true⟩ 7 9 none).file = some (.tmp, 7) ∧
    (openTmp ⟨false, true, true⟩ 7 9 none).file = some (.cwd, 9) ∧ (openTmp ⟨true, false, true⟩ 7 9 none).file = some (.cwd, 9) ∧
    (openTmp ⟨true, false, false⟩ 7 9 none).file = none := by decide

/-- the seeded rule: temp directory missing -> the file created in the current directory stays -/
theorem openTmpSeeded_old_rule : ¬ ∀ (e : Env) (r1 r2 : Nat) (fs : Fs), life openTmpSeeded e r1 r2 fs = fs := by
  intro h
  have := h ⟨false, false, true⟩ 7 9 []
  revert this
  decide

/-- … also when the directory passes access () and only the fopen inside it fails (the name of the file that could not be created
    is what gets removed) -/
theorem openTmpSeeded_blocked_dir : life openTmpSeeded ⟨true, false, true⟩ 7 9 [] = [(.cwd, 7)] := by decide

theorem openTmpSeeded_usable_dir_fine (r1 r2 : Nat) (fs : Fs) (c : Bool) :
    life openTmpSeeded ⟨true, true, c⟩ r1 r2 fs = fs := by
  simp [life, openTmpSeeded, afterOpen, afterClose]

end Sf.C16Tmp
