/-
  C19 — "results are independent of what the library did earlier in the same process", for the header bytes a writer emits:
  with the buffer growth that clears what it gains (the code as it is) the emitted header is a function of the writer's own
  operations — whatever the heap held (`emit_independent_of_heap`), gaps left by the 'o' specifier are zero bytes (`gap_is_zero`);
  without the clearing the bytes of a gap beyond the 256 initial bytes are the heap's (`no_clearing_rule_leaks_heap`).
  Model: SfModel/HeaderBuf.lean.  Campaign: vlib/heapcamp.py (every writer script under three allocator fills, SD2 resource fork
  included).
-/
import SfModel.HeaderBuf
namespace Sf.C19Heap
open Sf Sf.HeaderBuf

theorem tail_zero_irrel (j j' : Junk) (n : Nat) : tail .zeroTail j n = tail .zeroTail j' n := rfl

theorem bump_zero_irrel (j j' : Junk) (b : Buf) (n : Nat) : bump .zeroTail j b n = bump .zeroTail j' b n := rfl

theorem wstep_zero_irrel (j j' : Junk) (b : Buf) (op : WOp) : wstep .zeroTail j b op = wstep .zeroTail j' b op := by
  cases op <;> rfl

/-- any sequence of header-writing operations, from any buffer state, any two heaps: the same buffer
    (hence the same emitted bytes) -/
theorem wrun_independent_of_heap (j j' : Junk) (ops : List WOp) (b : Buf) : wrun .zeroTail j b ops = wrun .zeroTail j' b ops := by
  have : wstep .zeroTail j = wstep .zeroTail j' := funext fun b => funext fun op => wstep_zero_irrel j j' b op
  unfold wrun
  rw [this]

theorem emit_independent_of_heap (j j' : Junk) (ops : List WOp) (b : Buf) :
    emit (wrun .zeroTail j b ops) = emit (wrun .zeroTail j' b ops) := by
  rw [wrun_independent_of_heap j j']

theorem bump_zero (j : Junk) (m i n : Nat) :
    bump .zeroTail j ⟨List.replicate m 0, i⟩ n = ⟨List.replicate (m + (newLen m n - m)) 0, i⟩ := by
  simp [bump, tail, List.replicate_append_replicate]

/-- gaps are zero bytes: a fresh handle whose writer jumps to offset `off` (any offset, beyond the initial 256 bytes too) and
    stores `d` there emits `off` zero bytes and then `d`, whatever the heap held -/
theorem gap_is_zero (j : Junk) (off : Nat) (d : List Byte) :
    emit (wrun .zeroTail j Buf.init [.at_ off, .put d]) = List.replicate off 0 ++ d := by
  -- after the jump a zero buffer is a zero buffer LONGER than `off` (the guard of 'o' is `off >= len`)
  have jump : ∀ m i, 0 < m → ∃ m', off < m' ∧ wstep .zeroTail j ⟨List.replicate m 0, i⟩ (.at_ off) = ⟨List.replicate m' 0, off⟩ := by
    intro m i hm
    unfold wstep
    dsimp only
    split
    · rename_i hge
      rw [bump_zero]
      refine ⟨_, ?_, rfl⟩
      simp only [List.length_replicate] at hge
      unfold newLen
      split
      · split <;> omega
      · omega
    · rename_i hlt
      exact ⟨m, by simpa using hlt, rfl⟩
  -- the store may grow it once more; it stays zero and at least as long
  have put : ∀ m, ∃ m', m ≤ m' ∧
      wstep .zeroTail j ⟨List.replicate m 0, off⟩ (.put d) = ⟨store (List.replicate m' 0) off d, off + d.length⟩ := by
    intro m
    unfold wstep
    dsimp only
    split
    · rw [bump_zero]
      exact ⟨_, Nat.le_add_right _ _, rfl⟩
    · exact ⟨m, Nat.le_refl _, rfl⟩
  obtain ⟨m, hm, e1⟩ := jump 256 0 (by omega)
  obtain ⟨m', hm', e2⟩ := put m
  rw [wrun, List.foldl_cons, List.foldl_cons, List.foldl_nil, show Buf.init = ⟨List.replicate 256 0, 0⟩ from rfl, e1, e2]
  unfold emit store
  dsimp only
  rw [List.take_replicate, Nat.min_eq_left (by omega)]
  exact List.take_left' (by simp)

/-- the same program under the growth WITHOUT the memset: the gap beyond byte 256 is the heap's — two heaps, two files.
    (offset 300 and one byte, the shape of sd2_write_rsrc_fork: data section at 0x100, items placed with 'o') -/
theorem no_clearing_rule_leaks_heap :
    emit (wrun .keepJunk (fun _ => 0x4b) Buf.init [.at_ 300, .put [1]]) ≠
    emit (wrun .keepJunk (fun _ => 0xd7) Buf.init [.at_ 300, .put [1]]) ∧
    (emit (wrun .keepJunk (fun _ => 0x4b) Buf.init [.at_ 300, .put [1]])).drop 256 = List.replicate 44 0x4b ++ [1] := by
  refine ⟨by decide +kernel, by decide +kernel⟩

/-- non-vacuity: the SD2-like layout under the real rule, two different heaps -/
example : emit (wrun .zeroTail (fun _ => 0x4b) Buf.init [.put [1, 2], .at_ 300, .put [7], .at_ 600, .put [9]]) =
    emit (wrun .zeroTail (fun k => k % 256) Buf.init [.put [1, 2], .at_ 300, .put [7], .at_ 600, .put [9]]) ∧
    (emit (wrun .zeroTail (fun _ => 0x4b) Buf.init [.put [1, 2], .at_ 300, .put [7], .at_ 600, .put [9]])).length = 601 :=
  ⟨emit_independent_of_heap _ _ _ _, by decide +kernel⟩

end Sf.C19Heap
