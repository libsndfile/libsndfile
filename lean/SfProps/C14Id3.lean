/-
  C14 — a sound file behind an ID3v2 tag reads the same through SF_VIRTUAL_IO as by path / descriptor: positions count from
  psf->fileoffset on every route (repair of KF-C14-ID3-VIO-PIPE).  Model: SfModel/RoutesId3.lean; campaign: the `id3v2-tag` variants
  of vlib/foreign.py (every container, every route, reference = whichever route reads the base file out of it).
-/
import SfModel.RoutesId3
namespace Sf.C14Id3
open Sf Sf.Routes Sf.RoutesId3

/-- without a tag (fileoffset = 0: every callback or pipe shim that `openVio` / `openPath` / `openFd` produce; `Rel` itself does not ask
    it of a callback shim) the tag-aware primitives are those of Sf.Routes -/
theorem fseekT_no_tag (sh : Shim) (w : World) (off : Int) (wh : Nat) (h0 : sh.fileoffset = 0) : fseekT sh w off wh = fseek sh w off wh := by
  by_cases hv : sh.virtualIo = true
  · by_cases hneg : (vioSeek w off wh).1 < 0 <;> simp [fseekT, fseek, hv, h0, hneg]
  · simp [fseekT, hv]

theorem ftellT_no_tag (sh : Shim) (w : World) (h0 : sh.fileoffset = 0) : ftellT sh w = ftell sh w := by
  by_cases hv : sh.virtualIo = true
  · simp [ftellT, ftell, hv, h0]
  · by_cases hp : sh.isPipe = true <;> simp [ftellT, ftell, hv, hp, h0]

theorem vioSeek_set (w : World) (q : Nat) : vioSeek w (q : Int) 0 = ((q : Int), { w with mpos := q }) := by
  have h : ¬ ((0 : Int) + (q : Int) < 0) := by omega
  simp [vioSeek, whBase]

/-- **virtual I/O behind a tag**: the store holds `tag ++ content`, id3_skip has moved fileoffset behind the tag; a seek to frame
    byte `p` of the sound file followed by a read of `m` bytes returns position `p` and the bytes of `content` at `p` — what
    sf_open on the same bytes gives (there by `routes_equivalent_partial` with fileoffset = tag length) -/
theorem vio_behind_tag (tag content : List Byte) (mode : Mode) (mpos p m : Nat) :
    seekRead fseekT (skipTag (openVio mode) tag.length) { mem := tag ++ content, mpos := mpos } p m
      = ((p : Int), readAt content p m) := by
  have hq : (p : Int) + (0 + (tag.length : Int)) = ((tag.length + p : Nat) : Int) := by omega
  have hnn : ¬ (((tag.length + p : Nat) : Int) < 0) := by omega
  have hdrop : List.drop (tag.length + p) (tag ++ content) = List.drop p content := by
    rw [List.drop_append]; simp
  by_cases hm : m = 0
  · subst hm
    simp only [seekRead, fseekT, skipTag, openVio, if_true, hq, vioSeek_set, hnn, if_false, fread, readAt]
    simp
    omega
  · have hm1 : ¬ ((1 : Int) = 0 ∨ (m : Int) = 0) := by omega
    have hm2 : ¬ ((1 : Int) * (m : Int) < 0) := by omega
    simp only [seekRead, fseekT, skipTag, openVio, if_true, hq, vioSeek_set, hnn, if_false, fread, hm1, vioRead, readAt,
      Int.one_mul, Int.toNat_natCast, hdrop]
    have hmn : ¬ ((m : Int) < 0) := by omega
    simp [hmn]
    omega

/-- **the rule before the repair** (Sf.Routes.fseek on the callbacks ignores fileoffset): a tag of 3 bytes in front of the audio
    1, 2, 3, 4 — the seek to byte 1 lands inside the tag, the read delivers tag bytes and the first audio byte -/
theorem vio_behind_tag_old_rule :
    seekRead fseek (skipTag (openVio .r) 3) { mem := [9, 9, 9] ++ [1, 2, 3, 4], mpos := 3 } 1 3 = (1, [9, 9, 1]) ∧
    seekRead fseekT (skipTag (openVio .r) 3) { mem := [9, 9, 9] ++ [1, 2, 3, 4], mpos := 3 } 1 3 = (1, [2, 3, 4]) ∧
    (ftell (skipTag (openVio .r) 3) { mem := [9, 9, 9] ++ [1, 2, 3, 4], mpos := 3 }).ret = 3 ∧
    (ftellT (skipTag (openVio .r) 3) { mem := [9, 9, 9] ++ [1, 2, 3, 4], mpos := 3 }).ret = 0 := by
  refine ⟨by decide, by decide, by decide, by decide⟩

/-- pipe: psf_ftell counts from behind the tag as well (the parsers compare it with chunk positions taken from the header cache).
    `h0`, `hpo`: a fresh pipe handle whose `n` consumed bytes are exactly the tag. -/
theorem pipe_tell_behind_tag (sh : Shim) (w : World) (n : Nat) (hv : sh.virtualIo = false) (hp : sh.isPipe = true) (h0 : sh.fileoffset = 0)
    (hpo : sh.pipeoffset = (n : Int)) : (ftellT (skipTag sh n) w).ret = 0 := by
  simp [ftellT, skipTag, hv, hp, h0, hpo]

/-- the tag test gives the same answer for the same bytes wherever they sit in an enclosing file … -/
theorem tag_test_ignores_offset (k len filelength : Nat) : tagFits k len filelength = tagFits 0 len filelength := rfl

/-- … the test before the repair did not: a tag of 60 bytes, 304 bytes of tag + file; at offset 0 it passes, at offset 4096 it fails -/
theorem tag_test_old_rule : tagFitsOld 0 60 304 = true ∧ tagFitsOld 4096 60 304 = false ∧ tagFits 4096 60 304 = true := by
  refine ⟨by decide, by decide, by decide⟩

example : seekRead fseekT (skipTag (openVio .r) 3) { mem := [9, 9, 9] ++ [1, 2, 3, 4], mpos := 3 } 0 4 = (0, [1, 2, 3, 4]) := by decide

end Sf.C14Id3
