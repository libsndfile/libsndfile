/-
  C06 / C05 (GSM 06.10) — the decoder core and the read side of src/gsm610.c, on the bit-exact model
  (SfModel/Gsm.lean, GsmFile.lean).
  -- properties: C05 C06

  * arithmetic layer: the saturating macros stay inside int16 and equal the clamped exact result;
  * memory safety of the decoder core, PROVED: for every reachable decoder state and EVERY input frame (any bytes),
    every table index and every array index the decoder forms is in range, every value it stores is an int16, and
    it delivers exactly 160 int16 samples (`gsm_decode_safe`, `gsm_decoder_indices_in_range`,
    `gsm_reachable_states_safe`);
  * totality: every loop of the decoder is a counted `for` (structural recursion here) except the normalisation loop
    `while (mant <= 7)` of APCM_quantization_xmaxc_to_exp_mant, which runs at most 3 times for every 6-bit xmaxc
    (`gsm_expmant_loop_terminates`);
  * the wrapper: every block of a GSM file decodes to exactly `samplesperblock` int16 samples; a read inside the data,
    through any of the four caller types (staging pieces of 4096), delivers the slice of the one sequential decode at
    the handle's position and keeps the handle invariant, and two calls deliver what one call of the sum delivers; the seek contract as implemented: `sf_seek` refuses every call (the C06 seek clause holds
    vacuously), and `gsm610_seek` as written — unreachable — would load the wrong bytes.
  Helpers in SfProofs/GsmLemmas.lean, GsmFileLemmas.lean.
-/
import SfProofs.GsmFileLemmas
import SfProofs.BlockPastEnd
import SfProps.C06Block
namespace Sf.C06Gsm
open Sf Sf.Gsm Sf.Gsm.Proofs Sf.Block Sf.Block.Proofs

/-- GSM_ADD, GSM_SUB, gsm_mult_r and every `int16_t` assignment produce int16 values, whatever the operands -/
theorem gsm_sat_ops_in_int16 (a b : Int) : W16 (add a b) ∧ W16 (sub a b) ∧ W16 (gsmMultR a b) ∧ W16 (w16 a) ∧ W16 (sat a) :=
  ⟨add_range a b, sub_range a b, gsmMultR_range a b, w16_range a, sat_range a⟩

/-- GSM_ADD (written with `>= MAX_WORD` / `<= MIN_WORD`) is the exact sum clamped to int16 -/
theorem gsm_add_is_clamped_sum (a b : Int) :
    add a b = (if a + b > 32767 then 32767 else if a + b < -32768 then -32768 else a + b) := add_clamped a b

theorem gsm_sub_is_clamped_difference (a b : Int) :
    sub a b = (if a - b > 32767 then 32767 else if a - b < -32768 then -32768 else a - b) := sub_clamped a b

/-- an `int16_t` assignment of a value already in range changes nothing (the conversions only matter where the C
    relies on truncation: `& 0xFFF8` in Postprocessing, GSM_MULT_R (MIN_WORD, MIN_WORD)) -/
theorem gsm_w16_exact_in_range (x : Int) (h : W16 x) : w16 x = x := w16_id x h

/-- Postprocessing: `GSM_ADD (msr, msr) & 0xFFF8` stored in an `int16_t` is the saturated sum rounded down to a multiple
    of 8 — the mask and the conversion together never wrap -/
theorem gsm_postproc_truncation_exact (x : Int) (h : W16 x) :
    w16 (((wrapU 16 x / 8 * 8 : Nat) : Int)) = x / 8 * 8 := trunc8_exact x h

/-- the one product GSM_MULT_R cannot represent: it yields 32768, which the `int16_t` assignment wraps to −32768;
    `gsm_mult_r` (and its open-coded twin in the synthesis filter) special-cases it to 32767 -/
theorem gsm_multR_min_min : multR (-32768) (-32768) = 32768 ∧ w16 (multR (-32768) (-32768)) = -32768 ∧
    gsmMultR (-32768) (-32768) = 32767 := by decide

example : W16 (-32768) ∧ w16 (((wrapU 16 (-32768 : Int) / 8 * 8 : Nat) : Int)) = -32768 ∧ w16 (((wrapU 16 (-3 : Int) / 8 * 8 : Nat) : Int)) = -8 := by
  refine ⟨by unfold W16; omega, by decide, by decide⟩

example : add 32767 1 = 32767 ∧ add (-32768) (-1) = -32768 ∧ add 100 (-30) = 70 ∧ sub (-32768) 1 = -32768 := by decide

/-- whatever the 33 bytes are, the parameters unpacked from them lie inside their bit fields -/
theorem gsm_frame_fields_in_range (c : List Byte) (p : Params) (h : unpack33 c = some p) : PInv p := unpack33_inv c p h

/-- the same for both halves of a WAV49 block; the carried half byte is a nibble -/
theorem gsm_wav49_fields_in_range (chain : Nat) (c : List Byte) :
    PInv (unpack49a c).1 ∧ (unpack49a c).2 < 16 ∧ PInv (unpack49b chain c) :=
  ⟨(unpack49a_inv c).1, (unpack49a_inv c).2, unpack49b_inv chain c⟩

example : ∃ p, unpack33 (0xDF :: List.replicate 32 0xFF) = some p ∧ p.larc = [63, 63, 31, 31, 15, 15, 7, 7] := by
  refine ⟨_, rfl, ?_⟩; decide

/-- a frame whose first nibble is not 0xD is refused before anything is touched -/
theorem gsm_bad_magic_untouched (st : State) (c : List Byte) (hw : st.wavFmt = false) (h : (c.getD 0 0) / 16 % 16 ≠ 13) :
    gsmDecode st c = (st, none) := by
  unfold gsmDecode
  rw [if_neg (by rw [hw]; decide)]
  unfold unpack33
  rw [if_pos h]

/-- for every 6-bit xmaxc: the mantissa indexes gsm_FAC [0..7], the exponent is in −4..6 (so `6 − expon` is a shift
    count in 0..10) -/
theorem gsm_expmant_in_range (x : Int) (h0 : 0 ≤ x) (h1 : x < 64) :
    0 ≤ (expMant x).2 ∧ (expMant x).2 ≤ 7 ∧ -4 ≤ (expMant x).1 ∧ (expMant x).1 ≤ 6 := by
  have := expMant_range x.toNat (by omega)
  rwa [Int.toNat_of_nonneg h0] at this

/-- the only unbounded-looking loop of the decoder, `while (mant <= 7)`, ends within 3 rounds for every mantissa that
    can reach it (1..15): with fuel 3 the loop has left `mant > 7` -/
theorem gsm_expmant_loop_terminates : ∀ m : Nat, 1 ≤ m → m ≤ 15 → ∀ e : Int, -1 ≤ e → e ≤ 6 →
    7 < (normLoop 3 e m).2 ∧ normLoop 16 e m = normLoop 3 e m := by
  intro m h1 h2
  have key : ∀ m : Nat, m < 16 → ∀ e : Nat, e < 8 → 1 ≤ m →
      7 < (normLoop 3 ((e : Int) - 1) m).2 ∧ normLoop 16 ((e : Int) - 1) m = normLoop 3 ((e : Int) - 1) m := by decide +kernel
  intro e he1 he2
  have := key m (by omega) (e + 1).toNat (by omega) h1
  rwa [Int.toNat_of_nonneg (by omega), Int.add_sub_cancel] at this

/-- every index the decoder forms for one sub-frame is in range, in every state satisfying the invariant and for
    every parameter set that can come out of the unpackers:
    `gsm_FAC [mant]`, `gsm_QLB [bcr]`, the lag `Nr` (so that `drp [k - Nr]`, k = 0..39, reads cells −120..−1 of the
    history and never a cell being written), the grid position `Mc` (RPE_grid_positioning writes exactly 40 cells) -/
theorem gsm_decoder_indices_in_range (st : State) (s : Sub) (inv : SInv st) (si : SubInv s) :
    (0 ≤ (expMant s.xmaxc).2 ∧ (expMant s.xmaxc).2 < (tabFAC.length : Int)) ∧
    (0 ≤ s.bc ∧ s.bc < (tabQLB.length : Int)) ∧
    (∀ nrp : Int, 40 ≤ nrp → nrp ≤ 120 → ∀ k : Int, 0 ≤ k → k < 40 →
      -120 ≤ k - nrOf nrp s.nc ∧ k - nrOf nrp s.nc ≤ -1) ∧
    (40 ≤ nrOf st.nrp s.nc ∧ nrOf st.nrp s.nc ≤ 120) ∧
    (0 ≤ s.mc ∧ s.mc ≤ 3) ∧ (rpeDecode s.xmaxc s.mc s.xmc).length = 40 := by
  obtain ⟨m0, m1, _, _⟩ := gsm_expmant_in_range s.xmaxc si.xmaxc.1 si.xmaxc.2
  have hfac : (tabFAC.length : Int) = 8 := by decide
  have hqlb : (tabQLB.length : Int) = 4 := by decide
  have hmc := si.mc.2
  have hbc := si.bc.2
  refine ⟨⟨m0, by omega⟩, ⟨si.bc.1, by omega⟩, ?_, nrOf_range _ _ inv.nrp_lo inv.nrp_hi, ⟨si.mc.1, by omega⟩,
    rpeDecode_length _ _ _⟩
  intro nrp h1 h2 k k0 k1
  have := nrOf_range nrp s.nc h1 h2
  omega

/-- `gsm_decode` on ANY byte string, from any state satisfying the invariant: the state after it satisfies the
    invariant again (array lengths, every stored word an int16, 40 ≤ nrp ≤ 120, j and frame_index bits,
    frame_chain a nibble) and, when it does not refuse the frame, it delivers exactly 160 int16 samples.
    Totality is by construction: the model is a total function. -/
theorem gsm_decode_safe (st : State) (c : List Byte) (inv : SInv st) :
    SInv (gsmDecode st c).1 ∧ ∀ o, (gsmDecode st c).2 = some o → o.length = 160 ∧ AllW16 o := gsmDecode_spec st c inv

/-- every state reachable from `gsm_create` (33-byte or WAV49 mode) by decoding any sequence of frames satisfies the
    invariant — no bound on the number of frames, no condition on their bytes -/
theorem gsm_reachable_states_safe (frames : List (List Byte)) :
    SInv (frames.foldl (fun s c => (gsmDecode s c).1) State.init) ∧
    SInv (frames.foldl (fun s c => (gsmDecode s c).1) State.initWav) := by
  have key (s : State) (h : SInv s) : SInv (frames.foldl (fun s c => (gsmDecode s c).1) s) :=
    List.foldlRecOn frames _ h fun s h c _ => (gsmDecode_spec s c h).1
  exact ⟨key _ SInv_init, key _ SInv_initWav⟩

example : SInv State.init ∧ State.init.nrp = 40 := ⟨SInv_init, rfl⟩
/-- non-vacuity of the index theorem: the sub-frame of an all-ones frame (lag 127 outside 40..120, gain 3, xmaxc 63) -/
example : SubInv ⟨127, 3, 3, 63, List.replicate 13 7⟩ ∧ nrOf 40 127 = 40 ∧ (expMant 63).2 = 7 := by
  refine ⟨⟨by decide, by decide, by decide, by decide, by decide, ?_⟩, by decide, by decide⟩
  intro x hx
  have := List.eq_of_mem_replicate hx
  subst this; decide

theorem array_getD_mem {α} (l : List α) (k : Nat) (d : α) (h : k < l.length) : l.toArray.getD k d ∈ l := by
  have : l.toArray.getD k d = l[k] := by simp [Array.getD, h]
  rw [this]; exact List.getElem_mem h

/-- every block of a GSM file — whatever its bytes, also the block after a short read and blocks with a wrong magic
    nibble — decodes to exactly `samplesperblock` samples, all of them int16 -/
theorem gsm_block_has_spb_samples (c : Cfg) (file : List Byte) (dlen k : Nat) :
    ((reader c file dlen).src k).length = c.spb ∧ AllW16 ((reader c file dlen).src k) := by
  obtain ⟨hl, hx⟩ := seqDecode_spec c (blocksOf c dlen) (DSt.init c) file (DInv_init c)
  simp only [reader]
  split
  · rename_i hk
    have hm := array_getD_mem (seqDecode c (blocksOf c dlen) (DSt.init c) file) k [] (by rw [hl]; exact hk)
    obtain ⟨h1, h2⟩ := hx _ hm
    rw [show Gsm.fixLen c.spb _ = _ from fixLen_id _ _ h1]
    exact ⟨h1, h2⟩
  · exact ⟨by simp [zeros], AllW16_replicate _⟩

/-- the GSM reader is a well-formed instance of the generic block reader (`Sf.Gsm.fixLen` is `Sf.Block.fixLen` written
    down again, so `tableSrc_length` applies as it stands) -/
theorem gsm_reader_wf (c : Cfg) (file : List Byte) (dlen : Nat) : WF (reader c file dlen) :=
  ⟨spb_pos c, Nat.one_pos, fun _ => (tableSrc_length ..).trans (Nat.mul_one _).symm⟩

/-- C05 / C06, short callers: from any state satisfying the reader invariant, a read of n frames that ends inside the
    data returns n, delivers items [pos, pos + n) of the sequential decode and advances the position by n -/
theorem gsm_reads_deliver_stream (c : Cfg) (file : List Byte) (dlen : Nat) (st : RState)
    (inv : Inv (reader c file dlen) st) (n : Nat) (h : (reader c file dlen).pos st + n ≤ (reader c file dlen).frames) :
    ((reader c file dlen).read st n).2.1 = (reader c file dlen).slice ((reader c file dlen).pos st) n ∧
    ((reader c file dlen).read st n).2.2 = n ∧ Inv (reader c file dlen) ((reader c file dlen).read st n).1 ∧
    (reader c file dlen).pos ((reader c file dlen).read st n).1 = (reader c file dlen).pos st + n := by
  have hch : (reader c file dlen).ch = 1 := rfl
  have := C06Block.block_reader_refines_stream _ (gsm_reader_wf c file dlen) st inv n (by rw [hch] at *; exact h)
  rw [hch, Nat.mul_one, Nat.mul_one] at this
  exact this

/-- C06 partition clause for two calls inside the data: a then b frames = one read of a + b frames -/
theorem gsm_read_partition (c : Cfg) (file : List Byte) (dlen : Nat) (st : RState) (inv : Inv (reader c file dlen) st) (a b : Nat)
    (h : (reader c file dlen).pos st + (a + b) ≤ (reader c file dlen).frames) :
    ((reader c file dlen).read st (a + b)).2.1 =
      ((reader c file dlen).read st a).2.1 ++ ((reader c file dlen).read ((reader c file dlen).read st a).1 b).2.1 := by
  have hch : (reader c file dlen).ch = 1 := rfl
  have := (C06Block.partition_invariance_block _ (gsm_reader_wf c file dlen) st inv a b h).1
  rw [hch, Nat.mul_one, Nat.mul_one, Nat.mul_one] at this
  exact this

/-- the staging loops of gsm610_read_i / _f / _d (pieces of 4096 shorts) and of gsm610_read_s (one piece): for EVERY
    piece size the loop delivers the same n items as one inner call, so the four caller types see the same samples -/
theorem gsm_read_staged (c : Cfg) (file : List Byte) (dlen chunk : Nat) (st : RState) (inv : Inv (reader c file dlen) st) (n : Nat)
    (h : (reader c file dlen).pos st + n ≤ (reader c file dlen).frames) :
    ∃ st', (reader c file dlen).readChunked chunk (n + 1) st n [] 0 =
        (st', (reader c file dlen).slice ((reader c file dlen).pos st) n, n) ∧
      Inv (reader c file dlen) st' ∧ (reader c file dlen).pos st' = (reader c file dlen).pos st + n := by
  simpa using (readChunked_staged _ (gsm_reader_wf c file dlen) rfl chunk (n + 1) st n [] 0 inv rfl (Nat.lt_succ_self n)).inside h

/-- non-vacuity of the three reader theorems: the state after open satisfies the invariant, and 3 + 4 frames lie
    inside a one-block file -/
example : Inv (reader ⟨true⟩ (List.replicate 65 0) 65) (reader ⟨true⟩ (List.replicate 65 0) 65).init ∧
    (reader ⟨true⟩ (List.replicate 65 0) 65).pos (reader ⟨true⟩ (List.replicate 65 0) 65).init + (3 + 4) ≤
      (reader ⟨true⟩ (List.replicate 65 0) 65).frames :=
  ⟨(init_inv _).1, by rw [(init_inv _).2]; decide⟩

/-- handle level (`sf_read_T`): a handle whose position agrees with its reader state -/
structure HInv (h : RHandle) : Prop where
  wf   : WF h.r
  ch1  : h.r.ch = 1
  inv  : Inv h.r h.st
  pos  : h.pos = h.r.pos h.st
  frm  : h.frames ≤ h.r.frames

theorem gsm_open_hinv (c : Cfg) (file : List Byte) (dlen : Nat) (hdr : Option Nat) : HInv (openRead c file dlen hdr) := by
  refine ⟨gsm_reader_wf c file dlen, rfl, (init_inv _).1, (init_inv _).2.symm, ?_⟩
  show framesAtOpen c dlen hdr ≤ c.spb * blocksOf c dlen
  unfold framesAtOpen framesWith blocksOf
  cases hdr with
  | none => exact Nat.le_refl _
  | some x => simp only; split <;> omega

/-- C05 read contract for every caller type, request inside the data: `sf_read_T (h, n)` returns n, fills the n cells
    with the caller-type image of items [pos, pos + n) of the sequential decode, advances the position by n and
    leaves a handle satisfying the invariant — for the short, int, float and double entry points alike -/
theorem gsm_read_call_contract (h : RHandle) (hi : HInv h) (cv : Conv) (ty : Ty) (n : Nat) (hn : n ≠ 0)
    (hend : h.pos + n ≤ h.frames) :
    (readCall h cv ty n).2.2 = n ∧ (readCall h cv ty n).2.1 = (h.r.slice h.pos n).map (toCaller cv ty) ∧
    (readCall h cv ty n).1.pos = h.pos + n ∧ HInv (readCall h cv ty n).1 := by
  obtain ⟨h', e, hp, hf, hr, inv', hp'⟩ := (PastEnd.read_any h hi.wf hi.ch1 hi.inv hi.pos.symm hi.frm (chunkOf ty) n).inside hend
  unfold readCall
  rw [e]
  exact ⟨rfl, rfl, hp, hr ▸ hi.wf, hr ▸ hi.ch1, inv', hp'.symm, by rw [hf, hr]; exact hi.frm⟩

/-- C05 end-of-data clause: at or after `frames` a read returns 0, zero-fills the whole request and changes nothing -/
theorem gsm_read_at_end (h : RHandle) (cv : Conv) (ty : Ty) (n : Nat) (hn : n ≠ 0) (hend : h.pos ≥ h.frames) :
    (readCall h cv ty n).2.2 = 0 ∧ (readCall h cv ty n).1 = h ∧ (readCall h cv ty n).2.1.length = n := by
  unfold readCall RHandle.read
  simp [hn, hend, zeros]

/-- non-vacuity: a one-frame RAW file has 160 frames, the freshly opened handle satisfies the invariant at position 0,
    and a read of 5 items lies inside the data -/
example : (openRead ⟨false⟩ (0xD0 :: List.replicate 32 0) 33 none).frames = 160 ∧
    (openRead ⟨false⟩ (0xD0 :: List.replicate 32 0) 33 none).pos + 5 ≤ (openRead ⟨false⟩ (0xD0 :: List.replicate 32 0) 33 none).frames ∧
    HInv (openRead ⟨false⟩ (0xD0 :: List.replicate 32 0) 33 none) :=
  ⟨by decide, by decide, gsm_open_hinv _ _ _ _⟩

/-- `sf_seek` never reports success on a GSM handle (sf.seekable = 0), for any offset and whence — also SEEK_CUR 0 —,
    sets an error, and leaves the handle as it was: the C06 clause "whenever sf_seek reports success …" is vacuous,
    and what follows any number of refused seeks is still the sequential stream -/
theorem gsm_seek_always_refused (h : RHandle) (off : Int) (wh : Nat) :
    (sfSeek h off wh).2.1 = -1 ∧ (sfSeek h off wh).2.2 = true ∧ (sfSeek h off wh).1 = h := ⟨rfl, rfl, rfl⟩

/-- `gsm610_seek` AS WRITTEN (reachable only by calling `psf->seek` directly, never through the public API) does NOT
    implement "load block k / spb": it positions the file at byte `newblock * samplesperblock` instead of
    `newblock * blocksize`.  33-byte geometry, target frame 160 = the start of block 1 (bytes 33..65): the block it
    loads is bytes 160..192 -/
theorem gsm610_seek_as_written_loads_wrong_bytes (blocks : Nat) (file : List Byte) (s : SeekSt) (hb : 2 ≤ blocks)
    (hf : 193 ≤ file.length) :
    (seekAsWritten ⟨false⟩ false blocks file 0 s 160).2 = some 160 ∧
    (seekAsWritten ⟨false⟩ false blocks file 0 s 160).1.d.block.take 33 = (file.drop 160).take 33 := by
  have h160 : ¬ ((160 : Int) < 0 ∨ (160 : Int) > (blocks : Int) * (((⟨false⟩ : Cfg).spb : Nat) : Int)) := by
    have : (⟨false⟩ : Cfg).spb = 160 := rfl
    rw [this]; omega
  have hlen : ((file.drop 160).take 33).length = 33 := by rw [List.length_take, List.length_drop]; omega
  have hnb : (160 : Int).toNat / (⟨false⟩ : Cfg).spb = 1 := by decide
  have hns : (160 : Int).toNat % (⟨false⟩ : Cfg).spb = 0 := by decide
  unfold seekAsWritten
  rw [if_neg (by decide), if_neg h160]
  simp only [hnb, hns]
  rw [if_pos (by decide)]
  refine ⟨rfl, ?_⟩
  unfold decodeAt
  rw [if_neg (by show ¬ (1 + 1 > blocks); omega)]
  simp only [decodeBlock_block]
  have hsp : 1 * (⟨false⟩ : Cfg).spb = 160 := rfl
  have hbs : (⟨false⟩ : Cfg).blocksize = 33 := rfl
  rw [hsp, hbs, hlen]
  rw [List.take_append_of_le_length (by omega), List.take_of_length_le (by omega)]

example : 2 ≤ 3 ∧ 193 ≤ (List.replicate 200 (0 : Byte)).length := ⟨by decide, by rw [List.length_replicate]; decide⟩

end Sf.C06Gsm
