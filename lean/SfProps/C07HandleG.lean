/-
  C07 on the GENERIC handle machine `Sf.HandleG`: the part of a write call behind the header latch (`wBody`: codec write,
  write position, frame count, data end) of `xs` then of `ys` is that of `xs ++ ys` — handle and store, every container
  record, every state (not only appending sessions: overwrites in SFM_RDWR included).
-/
-- properties: C07 C08
import SfProofs.CodecTwo
import SfModel.HandleGInst
namespace Sf.C07HandleG
open Sf Sf.HandleG

/-- a valid write call on the generic machine is `wPre` (seek back, header latch), `wBody`, `wPost` (automatic header) -/
theorem write_call_phases (c : Cont) (h : H) (s : Store) (ty : Ty) (fc : Bool) (n : Int) (data : List Int)
    (hn : 0 < n) (hm : h.mode ≠ .r) (ha : fc = true ∨ n % h.ch = 0) :
    (HandleG.stepWrite c h s ty fc n data).1 = (HandleG.wPost c (HandleG.wBody (HandleG.wPre c h s) ty (reqLen h fc n) data)).1 ∧
    (HandleG.stepWrite c h s ty fc n data).2.1 = (HandleG.wPost c (HandleG.wBody (HandleG.wPre c h s) ty (reqLen h fc n) data)).2 := by
  rw [HandleG.stepWrite_main c h s ty fc n data hn hm ha]
  exact ⟨rfl, rfl⟩

/-- write-partition independence of the codec write, generic: two bodies = one body with the concatenated buffer
    (whole frames in the first; no PEAK bookkeeping) — same handle (write position, frames, data end …), same store bytes
    and position -/
theorem write_partition_generic (p : H × Store) (ty : Ty) (xs ys : List Int)
    (hch : 0 < p.1.ch) (hd : (xs.length : Int) % p.1.ch = 0) (hp : p.1.peak = none) :
    HandleG.wBody (HandleG.wBody p ty xs.length xs) ty ys.length ys = HandleG.wBody p ty ((xs.length : Int) + ys.length) (xs ++ ys) :=
  HandleG.wBody_two p ty xs ys hd (PeakAgree_of_none p.1 ty xs ys hp)

/-- non-vacuity on an AVR handle: the stores after (1 frame, 2 frames) and after 3 frames are the same bytes -/
example :
    (match avrSpec.openH 0 {} .w 0x120002 2 8000 0 with
     | .ok h s =>
        let p := HandleG.wPre avrSpec.toCont h s
        decide ((HandleG.wBody (HandleG.wBody p .s16 2 [1, 2]) .s16 4 [3, 4, 5, 6]).2.bytes = (HandleG.wBody p .s16 6 [1, 2, 3, 4, 5, 6]).2.bytes ∧
                (HandleG.wBody p .s16 6 [1, 2, 3, 4, 5, 6]).2.bytes.length = 128 + 12 ∧ p.1.peak = none ∧ 0 < p.1.ch)
     | _ => false) = true := by decide +kernel

end Sf.C07HandleG
