-- properties: C08 C17 C18
/-
  SfProps.C08Calc — the scanning commands (SFC_CALC_*) restore BOTH pointers AND the descriptor (model: SfModel/AbsCalc.lean).

  C08: "keeps separate read and write positions"; C17: "commands that only query information leave the handle's position [and]
  audio … unchanged"; C18: the CALC commands on every seekable handle.  The caller sees the positions (`SamePos`); the audio is
  touched by what the NEXT read delivers / where the NEXT write lands, which is decided by the descriptor and `last_op`
  (`Coherent`).  Universally quantified over the handle state, the scan's buffer length and the request that follows; the two
  seeded variants are refuted by concrete handles.
-/
import SfModel.AbsCalc
namespace Sf.C08Calc
open Sf.AbsCalc

theorem read_from_rpos (s : P) (n : Nat) (h : Coherent s) : (readF s n).2.1 = s.rpos := by
  unfold readF
  by_cases hl : s.lastOp = .read
  · simp [hl, h.1 hl]
  · simp [hl]

theorem write_lands_wpos (s : P) (n : Nat) (h : Coherent s) : (writeF s n).2 = s.wpos := by
  unfold writeF
  by_cases hl : s.lastOp = .write
  · simp [hl, h.2 hl]
  · simp [hl]

theorem read_coherent (s : P) (n : Nat) (h : Coherent s) : Coherent (readF s n).1 := by
  unfold readF Coherent
  by_cases hl : s.lastOp = .read
  · simp [hl, h.1 hl]
  · simp [hl]

theorem write_coherent (s : P) (n : Nat) (h : Coherent s) : Coherent (writeF s n).1 := by
  unfold writeF Coherent
  by_cases hl : s.lastOp = .write
  · simp [hl, h.2 hl]
  · simp [hl]

theorem seekSet_coherent (s : P) (q : Qual) (p : Nat) (h : Coherent s) : Coherent (seekSet s q p) := by
  unfold seekSet Coherent
  cases q <;> cases hr : s.rdwr <;> simp_all [Coherent]

theorem seekSet_rd_coherent (s : P) (p : Nat) : Coherent (seekSet s .rd p) := by
  simp [seekSet, Coherent]

theorem seekSet_plain_coherent (s : P) (p : Nat) : Coherent (seekSet s .plain p) := by
  unfold seekSet Coherent
  cases hr : s.rdwr <;> simp

theorem readF_sync (s : P) (n : Nat) (hl : s.lastOp = .read) (hfd : s.fd = s.rpos) :
    readF s n = ({ s with rpos := s.rpos + min n (s.frames - s.rpos), fd := s.rpos + min n (s.frames - s.rpos) },
      s.rpos, min n (s.frames - s.rpos)) := by
  unfold readF
  simp only [hl, if_true, hfd]

theorem scan_end (len : Nat) (hlen : 0 < len) :
    ∀ (fuel : Nat) (s : P), s.lastOp = .read → s.fd = s.rpos → s.rpos ≤ s.frames → s.frames - s.rpos < fuel →
      scan len fuel s = { s with rpos := s.frames, fd := s.frames } := by
  intro fuel
  induction fuel with
  | zero => intro s _ _ _ h; omega
  | succ fuel ih =>
    intro s hl hfd hle hfuel
    unfold scan
    rw [readF_sync s len hl hfd]
    by_cases hk : min len (s.frames - s.rpos) = 0
    · -- nothing left: the pointer is at the end already
      have he : s.rpos + min len (s.frames - s.rpos) = s.frames := by omega
      simp only [hk, if_true]; rw [← hk, he]
    · simp only [hk, if_false]
      exact ih { s with rpos := s.rpos + min len (s.frames - s.rpos), fd := s.rpos + min len (s.frames - s.rpos) } hl rfl
        (by show s.rpos + min len (s.frames - s.rpos) ≤ s.frames; omega)
        (by show s.frames - (s.rpos + min len (s.frames - s.rpos)) < fuel; omega)

theorem calc_eq_rdwr (len : Nat) (hlen : 0 < len) (s : P) (hr : s.rdwr = true) :
    calcCmd len s = { s with fd := s.rpos, lastOp := .read } := by
  unfold calcCmd
  simp only [hr, if_true]
  rw [scan_end len hlen]
  · cases s; simp_all [seekSet]
  · simp [seekSet]
  · simp [seekSet]
  · simp [seekSet]
  · simp [seekSet]

theorem calc_eq_read (len : Nat) (hlen : 0 < len) (s : P) (hr : s.rdwr = false) :
    calcCmd len s = { s with fd := s.rpos, lastOp := .read } := by
  unfold calcCmd
  simp only [hr, tell]
  rw [scan_end len hlen]
  · cases s; simp_all [seekSet]
  · simp [seekSet, hr]
  · simp [seekSet, hr]
  · simp [seekSet, hr]
  · simp [seekSet, hr]

/-- FULL STRENGTH: on every handle state (read or read/write, any two pointers, whatever the last operation was, even an
    incoherent descriptor) the command leaves frame count, read pointer and write pointer as they were … -/
theorem calc_same_pos (len : Nat) (hlen : 0 < len) (s : P) : SamePos (calcCmd len s) s := by
  cases hr : s.rdwr
  · rw [calc_eq_read len hlen s hr]; simp [SamePos]
  · rw [calc_eq_rdwr len hlen s hr]; simp [SamePos]

/-- … and a descriptor that stands where `last_op` says -/
theorem calc_coherent (len : Nat) (hlen : 0 < len) (s : P) : Coherent (calcCmd len s) := by
  cases hr : s.rdwr
  · rw [calc_eq_read len hlen s hr]; simp [Coherent]
  · rw [calc_eq_rdwr len hlen s hr]; simp [Coherent]

/-- the write right after the command (no seek) lands at the write pointer from before the command -/
theorem calc_next_write_lands (len : Nat) (hlen : 0 < len) (s : P) (n : Nat) : (writeF (calcCmd len s) n).2 = s.wpos := by
  rw [write_lands_wpos _ _ (calc_coherent len hlen s)]
  exact (calc_same_pos len hlen s).2.2.2

/-- the read right after the command (no seek) delivers the frames at the read pointer from before the command -/
theorem calc_next_read_from (len : Nat) (hlen : 0 < len) (s : P) (n : Nat) : (readF (calcCmd len s) n).2.1 = s.rpos := by
  rw [read_from_rpos _ _ (calc_coherent len hlen s)]
  exact (calc_same_pos len hlen s).2.2.1

/-- the command is invisible in front of any read / write: same landing place, same source frame, same count as without it -/
theorem calc_invisible (len : Nat) (hlen : 0 < len) (s : P) (h : Coherent s) (n : Nat) :
    (writeF (calcCmd len s) n).2 = (writeF s n).2 ∧ (readF (calcCmd len s) n).2 = (readF s n).2 := by
  refine ⟨by rw [calc_next_write_lands len hlen, write_lands_wpos s n h], ?_⟩
  have h1 := calc_next_read_from len hlen s n
  have h2 := read_from_rpos s n h
  have hp := calc_same_pos len hlen s
  have hk : (readF (calcCmd len s) n).2.2 = (readF s n).2.2 := by
    simp only [readF]; rw [hp.2.1, hp.2.2.1]
  exact Prod.ext (by rw [h1, h2]) hk

-- non-vacuity: a read/write handle whose last operation was a write, pointers apart, 10 frames, scan buffer of 4
example : let s : P := { rdwr := true, frames := 10, rpos := 2, wpos := 8, fd := 8, lastOp := .write }
    Coherent s ∧ SamePos (calcCmd 4 s) s ∧ (writeF (calcCmd 4 s) 1).2 = 8 ∧ (readF (calcCmd 4 s) 3).2 = (2, 3) := by decide

example : let s : P := { rdwr := false, frames := 10, rpos := 7, wpos := 0, fd := 7, lastOp := .read }
    Coherent s ∧ SamePos (calcCmd 4 s) s ∧ (readF (calcCmd 4 s) 5).2 = (7, 3) := by decide

/-- the statement the variants are measured against -/
def RestoresAll (c : P → P) : Prop :=
  ∀ s : P, Coherent s → s.rpos ≤ s.frames → SamePos (c s) s ∧ Coherent (c s)

theorem calc_restores_all (len : Nat) (hlen : 0 < len) : RestoresAll (calcCmd len) :=
  fun s _ _ => ⟨calc_same_pos len hlen s, calc_coherent len hlen s⟩

/-- "tell first": on a read/write handle with the pointers apart the read pointer ends at the write pointer -/
theorem calcTellFirst_old_rule : ¬ RestoresAll (calcTellFirst 4) := by
  intro h
  have := h { rdwr := true, frames := 10, rpos := 2, wpos := 8, fd := 8, lastOp := .write } (by decide) (by decide)
  revert this
  decide

/-- … and is harmless on every read handle and whenever the pointers coincide (what the test-suite exercises) -/
theorem calcTellFirst_read_handle (len : Nat) (s : P) (hr : s.rdwr = false) :
    calcTellFirst len s = calcCmd len s := by
  unfold calcTellFirst calcCmd
  simp [hr, tell]

/-- "keep last_op": positions are reported unchanged, but after a write the descriptor is left at the READ pointer while
    last_op says SFM_WRITE — the next write lands on the read pointer -/
theorem calcKeepLastOp_old_rule : ¬ RestoresAll (calcKeepLastOp 4) := by
  intro h
  have := h { rdwr := true, frames := 10, rpos := 2, wpos := 8, fd := 8, lastOp := .write } (by decide) (by decide)
  revert this
  decide

theorem calcKeepLastOp_same_pos (len : Nat) (hlen : 0 < len) (s : P) : SamePos (calcKeepLastOp len s) s := by
  have := calc_same_pos len hlen s
  simpa [calcKeepLastOp, SamePos] using this

theorem calcKeepLastOp_write_lands_on_read_pointer :
    let s : P := { rdwr := true, frames := 10, rpos := 2, wpos := 8, fd := 8, lastOp := .write }
    (writeF (calcKeepLastOp 4 s) 1).2 = 2 ∧ (writeF s 1).2 = 8 := by decide

end Sf.C08Calc
