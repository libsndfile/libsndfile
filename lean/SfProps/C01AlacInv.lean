/-
-- properties: C01
  C01 (ALAC, compressed path) — the decoder's stages invert the encoder's, whatever the encoder's search picks:

  * `alac_unpc_pc_inverse` (FULL for orders 0 … 30): `unpc_block (pc_block (x)) = x` for every predictor order except the
    first-order mode 31 (never written by the encoder), every starting coefficient row, every denominator shift, every
    channel width up to 32 bits and every block of samples that fit the width — the sign-driven coefficient adaptation
    runs identically on both sides, int32 wrap-around included (lean/SfModel/AlacDp.lean, AlacEnc.lean; dp_dec.c, dp_enc.c).
  * `alac_unmix_mix_inverse` (FULL under the stated no-overflow conditions): `unmix (mix (l, r)) = (l, r)` for every
    mixbits and mixres as long as `l - r`, `mixres * l + (2^mixbits - mixres) * r` and `mixres * (l - r)` are int32
    values; `alac_unmix_mix_encoder`: the conditions hold for everything the encoder does (mixbits 2, mixres 0 … 4,
    inputs of at most 25 bits: 16 / 20-bit samples, 24 / 32-bit samples with the low bytes shifted off).
  The adaptive Golomb coder is lean/SfProps/C01AlacGolomb.lean (`dyn_decomp (dyn_comp (r)) = r`); the packet-level statements
  (parameter block + shift bytes + the three inverses put together, the encoder's searches included) are C01AlacLossless.lean (mono)
  and C01AlacLosslessAll.lean (`alac_lossless`, 1 … 8 channels).
-/
import SfProofs.AlacMix
namespace Sf.AlacCore

theorem alac_unpc_pc_inverse (inp coefs : List Int) (numactive chanbits denshift : Nat) (hcb : chanbits ≤ 32) (hna : numactive ≠ 31)
    (hfit : ∀ x ∈ inp, sx chanbits x = x) :
    unpcBlock (pcBlock inp coefs numactive chanbits denshift).1 coefs numactive chanbits denshift = inp :=
  unpcBlock_pcBlock inp coefs numactive chanbits denshift hcb hna hfit

/-- non-vacuity: a 17-bit block (the side channel of a 16-bit pair), order 4, the encoder's initial coefficients -/
example : unpcBlock (pcBlock [65535, -65536, 3, 40000, -7, 12, 13, 14, -30000, 1] initCoefs 4 17 9).1 initCoefs 4 17 9 =
    [65535, -65536, 3, 40000, -7, 12, 13, 14, -30000, 1] :=
  alac_unpc_pc_inverse _ _ 4 17 9 (by decide) (by decide) (by decide)

theorem alac_unmix_mix_inverse (mixbits : Nat) (mixres l r : Int)
    (hl : w32 l = l) (hr : w32 r = r) (hv : w32 (l - r) = l - r)
    (hs : w32 (mixres * l + ((2 : Int) ^ mixbits - mixres) * r) = mixres * l + ((2 : Int) ^ mixbits - mixres) * r)
    (hq : w32 (mixres * (l - r)) = mixres * (l - r)) :
    unmixLR mixbits mixres (mixUV mixbits mixres l r).1 (mixUV mixbits mixres l r).2 = (l, r) :=
  unmixLR_mixUV mixbits mixres l r hl hr hv hs hq

/-- what the encoder does: mixbits 2, mixres 0 … 4, inputs of at most 25 bits -/
theorem alac_unmix_mix_encoder (mixres l r : Int) (hm : 0 ≤ mixres ∧ mixres ≤ 4)
    (hl : -16777216 ≤ l ∧ l < 16777216) (hr : -16777216 ≤ r ∧ r < 16777216) :
    unmixLR 2 mixres (mixUV 2 mixres l r).1 (mixUV 2 mixres l r).2 = (l, r) :=
  unmixLR_mixUV_encoder mixres l r hm hl hr

example : unmixLR 2 3 (mixUV 2 3 (-8388608) 8388607).1 (mixUV 2 3 (-8388608) 8388607).2 = (-8388608, 8388607) :=
  alac_unmix_mix_encoder 3 _ _ (by decide) (by decide) (by decide)

end Sf.AlacCore
