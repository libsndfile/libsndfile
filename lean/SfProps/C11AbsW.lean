/-
  C11 on the WRITE-SIDE PREDICATE (SfModel/AbsWrite.lean) — the clauses `snapshot-open snapshot-info snapshot-frames
  snapshot-data snapshot-short` of `Sf.AbsWrite.judge`, which the check evaluates on the implementation's own records
  (`sfmodel abs-write`): what an accepted record MEANS for each crash point, and that the answers the concrete model is
  proved to give (`C11.snapshot_valid_au`, `C04.floor_bound`) ARE accepted.
  Property theorems only; lemmas in SfProofs/AbsWrite*.lean.
-/
import SfProofs.AbsWriteComplete
import SfProps.C11
import SfProps.C04Geometry
namespace Sf.C11AbsW
open Sf Sf.Abs Sf.AbsWrite Sf.Geometry

/-- MEANING (C11 at full strength, every container with a rewritable header, ALAC excluded as the statement says): in an
    accepted record, for EVERY crash point `s` — a copy of the store taken right after a header update, `s.calls` write
    calls into the split run — with N_k the frames those calls accepted: the copy opens, reports the same channel count
    (and container / encoding), a frame count EQUAL to ⌊N_k⌋_B (`= N_k` when B = 1), N_k ≤ the frames of the whole run;
    its read-back delivers at least ⌊N_k⌋_B·ch items and those are the first items of the finished file's read-back — and,
    for a lossless pair, the written cells themselves: exactly that prefix of the written data. -/
theorem snapshot_abs (r : Record) (sp : Run) (h : accepted r = true) (hs : r.split = some sp) (hsc : snapScope r.g = true)
    (i : Nat) (s : Snap) (hi : r.snaps[i]? = some s) :
    let before := sp.calls.take s.calls
    let Nk := framesAccepted r.g.ch before
    let m := floorToBlock Nk r.g.block * r.g.ch * cells r.ty
    s.info.null = false ∧ s.info.ch = (r.g.ch : Int) ∧
    s.info.frames = (floorToBlock Nk r.g.block : Int) ∧ (r.g.block = 1 → s.info.frames = (Nk : Int)) ∧
    Nk ≤ framesAccepted r.g.ch sp.calls ∧
    floorToBlock Nk r.g.block * r.g.ch ≤ s.rb.ret.toNat ∧
    s.rb.data.extract 0 m = r.rb.data.extract 0 m ∧
    written r.g.ch sp.calls = written r.g.ch before ++ written r.g.ch (sp.calls.drop s.calls) ∧
    (sameType r.ty before = true → losslessFor r.g r.ty (written r.g.ch before) = true →
      s.rb.data.extract 0 m = (written r.g.ch before).extract 0 m) := by
  intro before Nk m
  have a := accepted_meaning r h
  obtain ⟨_, _, _, _, h5⟩ := a.split sp hs
  obtain ⟨n1, n2, n3, n4, n5⟩ := judgeSnap_nil r sp i s (h5 hsc i s hi)
  have f1 := (snapFramesOk_iff _ _ _).1 n3
  obtain ⟨d1, d2, d3⟩ := snapDataOk_meaning _ _ _ _ _ _ _ n4 n5
  refine ⟨n1, (infoOk_meaning _ _ n2).1, f1, fun hb => by rw [f1, hb, floorToBlock, Nat.div_one, Nat.mul_one], framesAccepted_take_le _ _ _, d1, d2, written_take_prefix _ _ _, fun t1 t2 => ?_⟩
  exact d3 (by simp [before] at t1 t2 ⊢; exact ⟨t1, t2⟩)

/-- COMPLETENESS against the floor-to-block rule (`C04.floor_bound`): the count ⌊N_k⌋_B is accepted, and it is the only
    accepted count: it lies in `(N_k − B, N_k]` -/
theorem snapshot_frames_accepted (g : AbsWrite.Geom) (Nk : Nat) (hb : 1 ≤ g.block) :
    snapFramesOk g Nk (floorToBlock Nk g.block : Int) = true ∧
    floorToBlock Nk g.block ≤ Nk ∧ Nk < floorToBlock Nk g.block + g.block ∧
    (∀ F : Int, snapFramesOk g Nk F = true → F = (floorToBlock Nk g.block : Int)) := by
  obtain ⟨h1, h2⟩ := C04.floor_bound Nk g.block hb
  exact ⟨(snapFramesOk_iff g Nk _).2 rfl, h1, h2, fun F => (snapFramesOk_iff g Nk F).1⟩

/-- COMPLETENESS against `C11.snapshot_valid_au`: for every AU session of the concrete model, after
    SFC_UPDATE_HEADER_NOW every reader of the store image answers what the clauses `snapshot-frames` and `snapshot-info`
    (channels) of the predicate accept, with N_k = the session's frames so far -/
theorem snapshot_valid_au_accepted (ix fmt : Nat) (ch sr : Int) (h0 : H) (s0 : Store) (ops : List SOp)
    (hc : containerOf fmt = some .au) (ho : openHandle ix {} .w fmt ch sr = .ok h0 s0)
    (hsr : sr ≤ 0x7FFFFFFF) (hv : ∀ op ∈ ops, op.valid ch.toNat)
    (g : AbsWrite.Geom) (hg : (g.ch : Int) = ch) (hb : g.block = 1)
    (ix' pos fmt0 : Nat) (ch0 sr0 : Int) (hraw : containerOf fmt0 ≠ some .raw) :
    ∃ h' s', openHandle ix' ⟨(stepCmdFlag (runS (h0, s0) ops).1 (runS (h0, s0) ops).2 0x1060 0).2.1.bytes, pos⟩ .r fmt0 ch0 sr0
        = .ok h' s' ∧
      snapFramesOk g (sessFrames ch.toNat ops) h'.frames = true ∧ (h'.ch : Int) = (g.ch : Int) := by
  obtain ⟨p, c, _, _, _, _, _, _, _, hr⟩ := C11.snapshot_valid_au ix fmt ch sr h0 s0 ops hc ho hsr hv
  obtain ⟨h', s', q1, q2, q3, _⟩ := hr ix' pos fmt0 ch0 sr0 hraw
  exact ⟨h', s', q1, (snapFramesOk_iff g _ _).2 (by rw [q2, hb]; simp [floorToBlock]), by rw [q3, hg]⟩

/-! ## non-vacuity: the stereo 16-bit AU job with one crash point after the first call of the split run, and an IMA ADPCM
    geometry for the floor rule -/

def exG : AbsWrite.Geom := { word := 0x00030002, ch := 2, sr := 44100 }
def exBytes : Array Item :=
  #[46,115,110,100, 0,0,0,24, 0,0,0,12, 0,0,0,3, 0,0,172,68, 0,0,0,2, 0,1,255,254,0,3,255,252,0,5,0,6]
def exInfo (f : Int) : Info := { ch := 2, sr := 44100, fmt := 0x00030002, frames := f }
def exSplit : Run :=
  { calls := [{ ty := .s16, fc := true, n := 1, data := #[1, 0xFFFE], ret := 1 },
              { ty := .s16, fc := false, n := 4, data := #[3, 0xFFFC, 5, 6], ret := 4 }], bytes := exBytes }
def exSnap : Snap := { calls := 1, info := exInfo 1, rb := { ret := 2, data := #[1, 0xFFFE, 0xA5A5, 0xA5A5] } }
def exRec : Record :=
  { g := exG, ty := .s16,
    one := { calls := [{ ty := .s16, fc := true, n := 3, data := #[1, 0xFFFE, 3, 0xFFFC, 5, 6], ret := 3 }], bytes := exBytes },
    info := exInfo 3,
    rb := { ret := 6, data := #[1, 0xFFFE, 3, 0xFFFC, 5, 6, 0xA5A5, 0xA5A5] },
    split := some exSplit, snaps := [exSnap] }

example : accepted exRec = true ∧ exRec.split = some exSplit ∧ snapScope exRec.g = true ∧ exRec.snaps[0]? = some exSnap :=
  ⟨by decide +kernel, rfl, by decide, rfl⟩
/-- the image reports the frames of the PREVIOUS update (0), reports them right but delivers nothing, delivers a wrong
    sample, cannot be opened: each refused with its clause -/
example : judge { exRec with snaps := [{ exSnap with info := exInfo 0 }] } = [{ tag := "snapshot-frames", run := 2 }] := by decide +kernel
example : judge { exRec with snaps := [{ exSnap with rb := { ret := 0, data := #[0, 0, 0, 0] } }] } = [{ tag := "snapshot-short", run := 2 }] := by decide +kernel
example : judge { exRec with snaps := [{ exSnap with rb := { ret := 2, data := #[1, 0xFFFF, 0xA5A5, 0xA5A5] } }] } = [{ tag := "snapshot-data", run := 2 }] := by decide +kernel
example : judge { exRec with snaps := [exSnap, { exSnap with info := { null := true } }] } = [{ tag := "snapshot-open", run := 2, idx := 1 }] := by decide +kernel
/-- RAW has no header to update and ALAC is assembled at close: their crash points are not judged -/
example : snapScope ⟨0x00040002, 2, 44100⟩ = false ∧ snapScope ⟨0x00180070, 2, 44100⟩ = false := by decide
/-- IMA ADPCM in WAV, 8 kHz mono, B = 505: after 1000 frames the image holds ⌊1000⌋_505 = 505 frames; 1000 and 0 are refused -/
example : floorToBlock 1000 505 = 505 ∧ snapFramesOk ⟨0x00010012, 1, 8000⟩ 1000 505 = true ∧
    snapFramesOk ⟨0x00010012, 1, 8000⟩ 1000 1000 = false ∧ snapFramesOk ⟨0x00010012, 1, 8000⟩ 1000 0 = false := by decide

end Sf.C11AbsW
