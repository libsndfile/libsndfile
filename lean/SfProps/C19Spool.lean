/-
  C19 — the spool files of simultaneously open CAF/ALAC writers.  A process with any number of writers, any interleaving of their
  opens, packet writes and closes (`Sf.SpoolWorld.run`), against the specification in which every handle is a machine of its own
  (`arun`: what each handle does ALONE): when the spool names of different handles differ (`nm` injective — the code as it is: two
  values of the process-wide generator per name) every handle's file receives exactly the bytes that handle spooled, for every
  history (`run_isolated`); with a name two live handles share (the output file's base name; "" for descriptor / virtual-I/O
  handles) it does not (`two_writers_shared_name`): `fopen "wb+"` without O_EXCL hands out — and empties — the other handle's file.
  Model: SfModel/SpoolWorld.lean.  Campaigns: vlib/fdworld.py (name class), vlib/spoolcamp.py.
-/
import SfModel.SpoolWorld
namespace Sf.C19Spool
open Sf Sf.SpoolWorld

theorem writeAt_end (x bs : List Byte) : writeAt x x.length bs = x ++ bs := by
  simp [writeAt]

/-- spooling into one writer's file changes no other file of the directory -/
theorem fwrite_frame (d : Dir) (h : H) (bs : List Byte) (k : Nat) (hk : k ≠ h.fid) :
    (fwrite d h bs).1.files k = d.files k := by
  simp [fwrite, hk]

/-- a name nobody holds gets a NEW file: every existing file keeps its contents -/
theorem fopen_fresh (d : Dir) (n : Name) (hn : d.names n = none) :
    (fopenWb d n).2.fid = d.next ∧ ∀ k, k < d.next → (fopenWb d n).1.files k = d.files k := by
  simp only [fopenWb, hn]
  refine ⟨trivial, ?_⟩
  intro k hk
  have : k ≠ d.next := by omega
  simp [this]

/-- a name somebody holds hands out THAT file, emptied: the holder's spooled packets are gone and both streams now write one file -/
theorem fopen_shared_truncates (d : Dir) (n : Name) (k : Nat) (hn : d.names n = some k) :
    (fopenWb d n).2.fid = k ∧ (fopenWb d n).1.files k = [] := by
  simp [fopenWb, hn]

/-- what ties the process to the specification: every open handle holds a file of its own, entered under its own name, holding
    exactly what the handle spooled; the directory has no other entries -/
def Inv (nm : Namer) (w : W) (a : A) : Prop :=
  (∀ i, a.acc i = none ↔ w.live i = none) ∧
  (∀ i h x, w.live i = some h → a.acc i = some x →
      h.name = nm i ∧ w.dir.names (nm i) = some h.fid ∧ w.dir.files h.fid = x ∧ h.pos = x.length) ∧
  (∀ n k, w.dir.names n = some k → k < w.dir.next ∧ ∃ i h, w.live i = some h ∧ nm i = n ∧ h.fid = k) ∧
  (∀ n m k, w.dir.names n = some k → w.dir.names m = some k → n = m) ∧
  (∀ i, w.out i = a.out i)

theorem inv_init (nm : Namer) : Inv nm {} {} := by
  refine ⟨fun _ => ⟨fun _ => rfl, fun _ => rfl⟩, ?_, ?_, ?_, fun _ => rfl⟩
  · intro i h x hl; simp at hl
  · intro n k hn; simp at hn
  · intro n m k hn; simp at hn

theorem step_inv (nm : Namer) (hinj : ∀ i j, nm i = nm j → i = j) (w : W) (a : A) (op : Op) (hI : Inv nm w a)
    (hwf : match op with | .open i => a.acc i = none | _ => True) : Inv nm (step nm w op) (astep a op) := by
  -- Injectivity of `nm` is what keeps the handles apart: an open finds its name free (`hfree`: by `hdir` a taken name would belong
  -- to an open slot, and that slot would be i itself); a write reaches no other handle's file (`g.fid ≠ h.fid`, through `hnames`);
  -- an open or a close changes the directory under this handle's name only, and the others' entries lie under other names.
  obtain ⟨hdom, hfile, hdir, hnames, hout⟩ := hI
  cases op with
  | «open» i =>
    have hli : w.live i = none := (hdom i).mp hwf
    have hfree : w.dir.names (nm i) = none := by
      cases hn : w.dir.names (nm i) with
      | none => rfl
      | some k =>
        obtain ⟨_, j, h, hj, hnm, _⟩ := hdir _ _ hn
        have := hinj _ _ hnm; subst this; rw [hli] at hj; cases hj
    simp only [step, astep, fopenWb, hfree]
    refine ⟨?_, ?_, ?_, ?_, hout⟩
    · intro j; by_cases hj : j = i <;> simp [hj]; exact hdom j
    · intro j h x hl ha
      by_cases hj : j = i
      · subst hj; simp at hl ha; subst hl; subst ha; simp
      · simp only [hj, if_false] at hl ha
        obtain ⟨e1, e2, e3, e4⟩ := hfile j h x hl ha
        have hne : nm j ≠ nm i := fun e => hj (hinj _ _ e)
        have hlt := (hdir _ _ e2).1
        have hne2 : h.fid ≠ w.dir.next := by omega
        simp [hne, hne2, e1, e2, e3, e4]
    · intro n k hn
      by_cases hni : n = nm i
      · subst hni; simp at hn; subst hn
        exact ⟨by simp, i, ⟨nm i, w.dir.next, 0⟩, by simp, rfl, rfl⟩
      · simp only [hni, if_false] at hn
        obtain ⟨hlt, j, h, hj, hnm, hf⟩ := hdir _ _ hn
        have hji : j ≠ i := by intro e; subst e; rw [hli] at hj; cases hj
        exact ⟨by simp; omega, j, h, by simp [hji, hj], hnm, hf⟩
    · intro n m k hn hm
      by_cases hni : n = nm i <;> by_cases hmi : m = nm i
      · rw [hni, hmi]
      · simp only [hni, if_true, hmi, if_false] at hn hm
        have := (hdir _ _ hm).1; cases hn; omega
      · simp only [hni, if_false, hmi, if_true] at hn hm
        have := (hdir _ _ hn).1; cases hm; omega
      · simp only [hni, hmi, if_false] at hn hm; exact hnames _ _ _ hn hm
  | write i bs =>
    cases hl : w.live i with
    | none =>
      have : a.acc i = none := (hdom i).mpr hl
      simp only [step, astep, hl, this]
      exact ⟨hdom, hfile, hdir, hnames, hout⟩
    | some h =>
      cases ha : a.acc i with
      | none => have := (hdom i).mp ha; rw [hl] at this; cases this
      | some x =>
        obtain ⟨e1, e2, e3, e4⟩ := hfile i h x hl ha
        simp only [step, astep, hl, ha, fwrite]
        refine ⟨?_, ?_, ?_, ?_, hout⟩
        · intro j; by_cases hj : j = i <;> simp [hj]; exact hdom j
        · intro j g y hlj haj
          by_cases hj : j = i
          · subst hj; simp at hlj haj; subst hlj; subst haj
            simp [e1, e2, e3, e4, writeAt_end]
          · simp only [hj, if_false] at hlj haj
            obtain ⟨f1, f2, f3, f4⟩ := hfile j g y hlj haj
            have hne : g.fid ≠ h.fid := by
              intro e; rw [e] at f2
              exact hj (hinj _ _ (hnames _ _ _ f2 e2))
            simp [hne, f1, f2, f3, f4]
        · intro n k hn
          obtain ⟨hlt, j, g, hj, hnm, hf⟩ := hdir _ _ hn
          refine ⟨hlt, ?_⟩
          by_cases hji : j = i
          · subst hji; rw [hl] at hj; cases hj
            exact ⟨j, { h with pos := h.pos + bs.length }, by simp, hnm, hf⟩
          · exact ⟨j, g, by simp [hji, hj], hnm, hf⟩
        · exact hnames
  | close i =>
    cases hl : w.live i with
    | none =>
      have : a.acc i = none := (hdom i).mpr hl
      simp only [step, astep, hl, this]
      exact ⟨hdom, hfile, hdir, hnames, hout⟩
    | some h =>
      cases ha : a.acc i with
      | none => have := (hdom i).mp ha; rw [hl] at this; cases this
      | some x =>
        obtain ⟨e1, e2, e3, e4⟩ := hfile i h x hl ha
        simp only [step, astep, hl, ha, closeCopy]
        refine ⟨?_, ?_, ?_, ?_, ?_⟩
        · intro j; by_cases hj : j = i <;> simp [hj]; exact hdom j
        · intro j g y hlj haj
          by_cases hj : j = i
          · subst hj; simp at hlj
          · simp only [hj, if_false] at hlj haj
            obtain ⟨f1, f2, f3, f4⟩ := hfile j g y hlj haj
            have hne : nm j ≠ h.name := by rw [e1]; exact fun e => hj (hinj _ _ e)
            simp [hne, f1, f2, f3, f4]
        · intro n k hn
          by_cases hni : n = h.name
          · simp [hni] at hn
          · simp only [hni, if_false] at hn
            obtain ⟨hlt, j, g, hj, hnm, hf⟩ := hdir _ _ hn
            have hji : j ≠ i := by
              intro e; subst e; rw [hl] at hj; cases hj; exact hni (by rw [← hnm, e1])
            exact ⟨hlt, j, g, by simp [hji, hj], hnm, hf⟩
        · intro n m k hn hm
          by_cases hni : n = h.name <;> by_cases hmi : m = h.name
          · rw [hni, hmi]
          · simp [hni] at hn
          · simp [hmi] at hm
          · simp only [hni, hmi, if_false] at hn hm; exact hnames _ _ _ hn hm
        · intro j; by_cases hj : j = i <;> simp [hj, e3]; exact hout j

/-- any number of writers, any interleaving of opens, packet writes and closes in which no slot is
    opened twice at once: when different handles get different spool names, the bytes each handle's file receives at close are those
    of the specification, where every handle runs alone -/
theorem run_isolated (nm : Namer) (hinj : ∀ i j, nm i = nm j → i = j) : ∀ (ops : List Op) (w : W) (a : A),
    Inv nm w a → wellFormed a ops → ∀ i, (run nm w ops).out i = (arun a ops).out i := by
  intro ops
  induction ops with
  | nil => intro w a hI _ i; obtain ⟨_, _, _, _, hout⟩ := hI; exact hout i
  | cons op ops ih =>
    intro w a hI hwf i
    simp only [run, arun, List.foldl_cons]
    exact ih _ _ (step_inv nm hinj w a op hI hwf.1) hwf.2 i

/-- the specification really is "each handle alone": an operation of another handle does not touch handle i's machine -/
theorem astep_other (a : A) (op : Op) (i : Nat) (h : op.handle ≠ i) :
    (astep a op).acc i = a.acc i ∧ (astep a op).out i = a.out i := by
  cases op with
  | «open» j => simp only [Op.handle] at h; simp [astep, Ne.symm h]
  | write j bs =>
    simp only [Op.handle] at h
    simp only [astep]; split <;> simp [Ne.symm h]
  | close j =>
    simp only [Op.handle] at h
    simp only [astep]; split <;> simp [Ne.symm h]

/-- per-handle names: both writers get exactly what they spooled — for ALL data -/
theorem two_writers_isolated (a b b2 : List Byte) : twoWriters freshNamer a b b2 = (some a, some (b ++ b2)) := by
  have hinj : ∀ i j, freshNamer i = freshNamer j → i = j := fun _ _ h => h
  have hwf : wellFormed {} [.open 0, .open 1, .write 0 a, .write 1 b, .close 0, .write 1 b2, .close 1] := by
    simp [wellFormed, astep]
  unfold twoWriters
  simp only [run_isolated freshNamer hinj _ {} {} (inv_init _) hwf]
  simp [arun, astep]

/-- a shared name (base name of the output file, or none): A's file gets B's packet and B's file keeps a piece of A's — neither
    is what its handle wrote -/
theorem two_writers_shared_name :
    twoWriters baseNameNamer [1, 2, 3] [9] [8] = (some [9, 2, 3], some [9, 8, 3]) ∧
    twoWriters freshNamer [1, 2, 3] [9] [8] = (some [1, 2, 3], some [9, 8]) := by
  exact ⟨by decide, two_writers_isolated _ _ _⟩

/-- non-vacuity of `run_isolated`: three writers, interleaved, slot 0 used twice -/
example : wellFormed {} [.open 0, .open 1, .write 1 [5], .open 2, .write 0 [1], .close 0, .open 0, .write 2 [7], .write 0 [2], .close 1, .close 0, .close 2] := by
  simp [wellFormed, astep]

end Sf.C19Spool
