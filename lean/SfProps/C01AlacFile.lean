-- properties: C01 C06
/-
  C01 (CAF/ALAC) — write, close, re-open, read back, in the model: wrapper ∘ codec.  The wrapper of src/alac.c
  (SfModel/AlacFile.lean) cuts whatever the write calls hand over into packets of 4096 frames and a short final one
  (SfProofs/AlacWriter.lean `finish_inv`), the reader walks the packet table and the data region across packet boundaries
  (SfProofs/AlacStream.lean `readLoop_stream`); with a codec core whose decoder inverts its encoder on every packet
  (`CodecOk`; for the real core: `alac_lossless_exact` + `alac_encode_state_ok` of SfProps/C01AlacLosslessAll.lean) every
  partition of reads of the re-opened file delivers the frames written, in order.
-/
import SfProofs.AlacWriter
import SfModel.AlacCodec
import SfProps.C06AlacStream
import SfProps.C01AlacLosslessAll
namespace Sf.C01AlacFile
open Sf Sf.Alac Sf.AlacStream Sf.AlacWriter

variable {σ α : Type}

/-- what the wrapper needs of the codec core: from a state that satisfies the invariant `I`, a packet of 1 … 4096 frames that
    satisfy `P` is encoded into 1 … maxPacket bytes which decode to the same frames, and the new state satisfies `I` -/
structure CodecOk (cd : Codec σ α) (I : σ → Prop) (P : α → Prop) : Prop where
  init : I cd.init
  step : ∀ e b, I e → 0 < b.length → b.length ≤ fpb → (∀ x ∈ b, P x) →
    I (cd.enc e b).1 ∧ cd.dec (cd.enc e b).2 = b ∧ 0 < (cd.enc e b).2.length ∧ (cd.enc e b).2.length ≤ maxPacket

theorem encSeq_ok (cd : Codec σ α) (I : σ → Prop) (P : α → Prop) (hc : CodecOk cd I P) : ∀ (blocks : List (List α)) (e : σ), I e →
    (∀ b ∈ blocks, 0 < b.length ∧ b.length ≤ fpb ∧ ∀ x ∈ b, P x) →
    streamOf cd (encSeq cd e blocks) = blocks.flatten ∧ ∀ p ∈ encSeq cd e blocks, 0 < p.length ∧ p.length ≤ maxPacket
  | [], _, _, _ => ⟨rfl, by simp [encSeq]⟩
  | b :: bs, e, he, h => by
    obtain ⟨h1, h2, h3⟩ := h b (by simp)
    obtain ⟨s1, s2, s3, s4⟩ := hc.step e b he h1 h2 h3
    obtain ⟨i1, i2⟩ := encSeq_ok cd I P hc bs _ s1 (fun b' hb' => h b' (by simp [hb']))
    refine ⟨?_, ?_⟩
    · simp only [encSeq, streamOf_cons, i1, s2, List.flatten_cons]
    · intro p hp
      simp only [encSeq, List.mem_cons] at hp
      rcases hp with rfl | hp
      · exact ⟨s3, s4⟩
      · exact i2 p hp

/-- C01 for ALAC in the model, wrapper ∘ codec: for every list of write calls whose frames satisfy `P`, the data region and
    the packet table `alac_close` leaves are such that a reader started on them (table = the written sizes, plus the zero
    entry when the 'pakt' chunk was padded) delivers, for EVERY sequence of read calls, the frames written in order: the
    k-th call gets the k-th piece, across packet boundaries, and reading N = (number of frames written) frames returns
    exactly what was written -/
theorem alac_file_roundtrip (cd : Codec σ α) (I : σ → Prop) (P : α → Prop) (hc : CodecOk cd I P) (calls : List (List α))
    (hP : ∀ c ∈ calls, ∀ x ∈ c, P x) (extra : List Nat) (hx : extra = [] ∨ extra = [0]) (r : R α)
    (hs : r.sizes = (finish cd (writeCalls cd (W.init cd) calls)).sizes ++ extra) (h0 : r.cur = 0 ∧ r.inPos = 0 ∧ r.ftb = 0)
    (lens : List Nat) :
    let io := fileIO (finish cd (writeCalls cd (W.init cd) calls)).tmp
    (lens.foldl (fun (acc : R α × List α) len => ((readCall cd io acc.1 len).1, acc.2 ++ (readCall cd io acc.1 len).2)) (r, [])).2
      = calls.flatten.take lens.sum ∧
    (readCall cd io r calls.flatten.length).2 = calls.flatten ∧
    (writeCalls cd (W.init cd) calls).frames = calls.flatten.length := by
  intro io
  obtain ⟨blocks, ht, hsz, hfl, hb, hfr⟩ := finish_inv cd calls
  have hPb : ∀ b ∈ blocks, 0 < b.length ∧ b.length ≤ fpb ∧ ∀ x ∈ b, P x := by
    intro b hbm
    refine ⟨(hb b hbm).1, (hb b hbm).2, fun x hx' => ?_⟩
    have : x ∈ calls.flatten := by rw [← hfl]; exact List.mem_flatten.mpr ⟨b, hbm, hx'⟩
    obtain ⟨c, hcm, hxc⟩ := List.mem_flatten.mp this
    exact hP c hcm x hxc
  obtain ⟨hst, hpk⟩ := encSeq_ok cd I P hc blocks cd.init hc.init hPb
  have hg : Good (encSeq cd cd.init blocks) extra := ⟨hpk, hx⟩
  have hs' : r.sizes = sizesOf (encSeq cd cd.init blocks) extra := by rw [hs, hsz]; rfl
  have hat := Sf.C06AlacStream.fresh_at_zero cd (encSeq cd cd.init blocks) r h0.1 h0.2.1 h0.2.2
  have hio : io = fileIO (encSeq cd cd.init blocks).flatten := by show fileIO _ = _; rw [ht]
  refine ⟨?_, ?_, hfr⟩
  · rw [hio, Sf.C06AlacStream.read_sequence_cross_packet cd _ extra hg lens r 0 hs' hat, hst, hfl]; rfl
  · rw [hio, (Sf.C06AlacStream.read_stream_cross_packet cd _ extra hg r _ 0 hs' hat).1, hst, hfl]
    simp only [List.drop_zero, List.take_length]

/-- the real codec core satisfies `CodecOk` as far as its statement is proved: decode ∘ encode = id on every packet of
    in-range samples from every reachable encoder state (`alac_lossless_exact`, `alac_encode_state_ok`); the packet size bounds
    (at least one byte, at most ALAC_MAX_CHANNEL_COUNT * ALAC_BYTE_BUFFER_SIZE) are the hypothesis `hsize`, which asks them of
    EVERY state and EVERY list of frames, not only of the packets of 1 … 4096 in-range frames from an `AllOk` state that
    `CodecOk.step` is about; a long enough list of frames yields more than `maxPacket` bytes (at 24 / 32 bits the shifted-off
    bytes alone are 1 / 2 per sample), so `hsize` cannot be discharged as it stands -/
theorem coreCodec_ok (cfg : Sf.AlacCore.Config) (hd : Sf.AlacCore.Depth cfg.bitDepth) (hc1 : 1 ≤ cfg.numChannels) (hc8 : cfg.numChannels ≤ 8)
    (hmb : cfg.mb = 10) (hpb : cfg.pb = 40) (hkb : cfg.kb = 14)
    (hsize : ∀ st fr, 0 < (Sf.AlacCore.encode cfg st fr).1.length ∧ (Sf.AlacCore.encode cfg st fr).1.length ≤ maxPacket) :
    CodecOk (Sf.AlacCore.coreCodec cfg) Sf.AlacCore.AllOk
      (fun f => f.length = cfg.numChannels ∧ ∀ x ∈ f, Sf.AlacCore.InRange cfg.bitDepth x) where
  init := Sf.AlacCore.init_allOk cfg.numChannels
  step := fun e b he _ h2 h3 =>
    ⟨Sf.AlacCore.alac_encode_state_ok cfg e he b,
     Sf.AlacCore.alac_lossless_exact cfg hd hc1 hc8 hmb hpb hkb e he b (by simpa [fpb] using h2) h3,
     (hsize e b).1, (hsize e b).2⟩

/-- C01 for ALAC end to end in the model (wrapper ∘ real core), under the packet-size hypothesis `hsize` of `coreCodec_ok` (see
    there): every depth, 1 … 8 channels, every list of write calls of in-range samples; close; a reader on the written table and
    data region; reading N frames returns the samples written -/
theorem alac_core_file_roundtrip (cfg : Sf.AlacCore.Config) (hd : Sf.AlacCore.Depth cfg.bitDepth) (hc1 : 1 ≤ cfg.numChannels) (hc8 : cfg.numChannels ≤ 8)
    (hmb : cfg.mb = 10) (hpb : cfg.pb = 40) (hkb : cfg.kb = 14)
    (hsize : ∀ st fr, 0 < (Sf.AlacCore.encode cfg st fr).1.length ∧ (Sf.AlacCore.encode cfg st fr).1.length ≤ maxPacket)
    (calls : List (List (List Int))) (hP : ∀ c ∈ calls, ∀ f ∈ c, f.length = cfg.numChannels ∧ ∀ x ∈ f, Sf.AlacCore.InRange cfg.bitDepth x)
    (extra : List Nat) (hx : extra = [] ∨ extra = [0]) (r : R (List Int))
    (hs : r.sizes = (finish (Sf.AlacCore.coreCodec cfg) (writeCalls (Sf.AlacCore.coreCodec cfg) (W.init (Sf.AlacCore.coreCodec cfg)) calls)).sizes ++ extra)
    (h0 : r.cur = 0 ∧ r.inPos = 0 ∧ r.ftb = 0) :
    (readCall (Sf.AlacCore.coreCodec cfg)
      (fileIO (finish (Sf.AlacCore.coreCodec cfg) (writeCalls (Sf.AlacCore.coreCodec cfg) (W.init (Sf.AlacCore.coreCodec cfg)) calls)).tmp)
      r calls.flatten.length).2 = calls.flatten :=
  (alac_file_roundtrip _ _ _ (coreCodec_ok cfg hd hc1 hc8 hmb hpb hkb hsize) calls hP extra hx r hs h0 []).2.1

/-- non-vacuity: a codec that stores one byte per frame satisfies `CodecOk` for frames below 256; two calls (3 + 2 frames) are
    read back as 2 + 9 frames -/
example :
    let cd : Codec Unit Nat := { init := (), enc := fun _ st => ((), st), dec := fun p => p }
    let w := finish cd (writeCalls cd (W.init cd) [[1, 2, 3], [4, 5]])
    let r0 : R Nat := { sizes := w.sizes ++ [0] }
    w.sizes = [5] ∧ (readCall cd (fileIO w.tmp) r0 2).2 = [1, 2] ∧
      (readCall cd (fileIO w.tmp) (readCall cd (fileIO w.tmp) r0 2).1 9).2 = [3, 4, 5] := by
  refine ⟨by decide +kernel, by decide +kernel, by decide +kernel⟩

end Sf.C01AlacFile
