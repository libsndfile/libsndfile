-- properties: C05 C06 C07 C20
/-
  Tables by execution for NMS ADPCM and GSM 06.10 (the twin of `g72x_tables_extracted`, SfProps/C05G72x.lean).

  lean/SfModel/Generated/NmsTables.lean and GsmTables.lean are rewritten on every C05 / C06 / C07 / C20 run by
  vlib/codectab.py `pregen` from the tree under test (throw-away programs that #include src/nms_adpcm.c resp.
  src/GSM610/table.c + add.c and print the arrays).  The theorems below say that the tables TRANSCRIBED in
  SfModel/Nms.lean and SfModel/Gsm.lean — the published ones: the NMS tables of the codec's only definition, the tables
  4.1 – 4.6 of GSM 06.10 section 4.4 — are the arrays the tree under test computes with.  One theorem per table, so a
  changed entry stops a theorem that names the table (vlib/codectab.py names the entry and looks for a failing input).

  The sources inline the entries of gsm_A, gsm_B, gsm_MIC, gsm_MAC, gsm_INVA and gsm_H at their points of use
  (`STEP (0, -32, 13107)` …) where the model reads its tables: an edit of one of those six arrays stops its theorem
  but changes no behaviour (`no-failing-input-found`), an edit of an inlined constant shows in the correspondence.
-/
import SfModel.Nms
import SfModel.GsmEnc
import SfModel.Generated.NmsTables
import SfModel.Generated.GsmTables
import SfProofs.Table
namespace Sf.C20CodecTables
open Sf

theorem nms_table_expn_extracted : Nms.tableExpn = Generated.Nms.expn := by decide
theorem nms_table_scale_factor_step_extracted : Nms.tableScaleFactorStep = Generated.Nms.scale_factor_step := by decide
theorem nms_table_step_extracted : Nms.tableStep = Generated.Nms.step := by decide
theorem nms_table_step_search_extracted : Nms.tableStepSearch = Generated.Nms.step_search := by decide
/-- NMS_SAMPLES_PER_BLOCK, NMS_BLOCK_SHORTS_16 / 24 / 32 -/
theorem nms_geometry_extracted :
    [(Nms.spb : Int), Nms.Rate.r16.shorts, Nms.Rate.r24.shorts, Nms.Rate.r32.shorts] = Generated.Nms.geometry := by decide

/-- **tables by execution**: the four transcribed tables and the block geometry are the static arrays / #defines of the
    tree under test -/
theorem nms_tables_extracted :
    Nms.tableExpn = Generated.Nms.expn ∧ Nms.tableScaleFactorStep = Generated.Nms.scale_factor_step ∧
    Nms.tableStep = Generated.Nms.step ∧ Nms.tableStepSearch = Generated.Nms.step_search ∧
    [(Nms.spb : Int), Nms.Rate.r16.shorts, Nms.Rate.r24.shorts, Nms.Rate.r32.shorts] = Generated.Nms.geometry :=
  ⟨nms_table_expn_extracted, nms_table_scale_factor_step_extracted, nms_table_step_extracted,
   nms_table_step_search_extracted, nms_geometry_extracted⟩

/-- non-vacuity: the tables are not empty and the extracted ones are really used by the model's decoder — the first
    decoded sample of the all-ones 4-bit codeword moves by `table_step [16 + 7] * y >> 12` -/
example : Generated.Nms.step.length = 24 ∧ Generated.Nms.expn.length = 32 ∧
    (Nms.decodeSample (Nms.St.init .r32) 7).2 ≠ (Nms.decodeSample (Nms.St.init .r32) 0).2 := by decide

theorem gsm_table_A_extracted : Gsm.tabA = Generated.Gsm.A := by decide
theorem gsm_table_B_extracted : Gsm.tabB = Generated.Gsm.B := by decide
theorem gsm_table_MIC_extracted : Gsm.tabMIC = Generated.Gsm.MIC := by decide
theorem gsm_table_MAC_extracted : Gsm.tabMAC = Generated.Gsm.MAC := by decide
theorem gsm_table_INVA_extracted : Gsm.tabINVA = Generated.Gsm.INVA := by decide
theorem gsm_table_DLB_extracted : Gsm.tabDLB = Generated.Gsm.DLB := by decide
theorem gsm_table_QLB_extracted : Gsm.tabQLB = Generated.Gsm.QLB := by decide
theorem gsm_table_H_extracted : Gsm.tabH = Generated.Gsm.H := by decide
theorem gsm_table_NRFAC_extracted : Gsm.tabNRFAC = Generated.Gsm.NRFAC := by decide
theorem gsm_table_FAC_extracted : Gsm.tabFAC = Generated.Gsm.FAC := by decide

/-- **tables by execution**: the ten arrays of table.c -/
theorem gsm_tables_extracted :
    Gsm.tabA = Generated.Gsm.A ∧ Gsm.tabB = Generated.Gsm.B ∧ Gsm.tabMIC = Generated.Gsm.MIC ∧ Gsm.tabMAC = Generated.Gsm.MAC ∧
    Gsm.tabINVA = Generated.Gsm.INVA ∧ Gsm.tabDLB = Generated.Gsm.DLB ∧ Gsm.tabQLB = Generated.Gsm.QLB ∧
    Gsm.tabH = Generated.Gsm.H ∧ Gsm.tabNRFAC = Generated.Gsm.NRFAC ∧ Gsm.tabFAC = Generated.Gsm.FAC :=
  ⟨gsm_table_A_extracted, gsm_table_B_extracted, gsm_table_MIC_extracted, gsm_table_MAC_extracted, gsm_table_INVA_extracted,
   gsm_table_DLB_extracted, gsm_table_QLB_extracted, gsm_table_H_extracted, gsm_table_NRFAC_extracted, gsm_table_FAC_extracted⟩

example : Generated.Gsm.FAC.length = 8 ∧ Generated.Gsm.H.length = 11 ∧ Gsm.tab Gsm.tabQLB 3 = 32767 := by decide

/-- `bitoff [i]` (add.c, the table behind `gsm_norm`) = 8 − (number of binary digits of i), for all 256 bytes: the
    model's `gsmNorm` computes the count arithmetically (`bitlen`) -/
theorem gsm_bitoff_extracted :
    Generated.Gsm.bitoff = (List.range 256).map fun i => (8 : Int) - (Gsm.bitlen i : Int) := by
  apply tabIs_spec
  decide +kernel

example : Generated.Gsm.bitoff.length = 256 ∧ Generated.Gsm.bitoff.getD 0 0 = 8 ∧ Generated.Gsm.bitoff.getD 255 0 = 0 := by
  rw [gsm_bitoff_extracted]
  exact ⟨by simp, getD_tab _ (by decide) 0, getD_tab _ (by decide) 0⟩

end Sf.C20CodecTables
