-- properties: C04 C11
/-
  C04 / C11 — the W64 container (SfModel/W64.lean), sample-granular encodings.
  (helpers: SfProofs/CafBytes.lean, W64Image.lean, W64Session.lean, W64Parse.lean).

  `image c N data = hdr c N ++ data` is the closed file of N frames whose encoded audio is `data`;
  `openW / step / close` is the write session (w64_open, the write call's bookkeeping, header updates, w64_close).
-/
import SfProofs.W64Session
import SfProofs.W64Parse
namespace Sf.C04W64
open Sf Sf.W64 Sf.CafW64

/-- the header is 104 bytes (PCM) or 136 bytes (with the 'fact' chunk: float, double, µ-law, A-law), always a multiple
    of 8, whatever the lengths written into it; nothing is appended after the audio data (no 8-byte padding) -/
theorem w64_header_length (c : Cfg) (n : Nat) (data : List Byte) :
    (hdr c n).length = hdrLen c ∧ hdrLen c % 8 = 0 ∧ (image c n data).length = hdrLen c + data.length := by
  refine ⟨hdr_length c n, ?_, image_length c n data⟩
  rcases hdrLen_cases c with h | h <;> omega

theorem image_fields (c : Cfg) (n : Nat) (data : List Byte) :
    let img := image c n data
    FieldAt img 16 (leBytes 8 (wrapU 64 ((hdrLen c + n * c.bw : Nat) : Int))) ∧ FieldAt img 56 (leBytes 8 (wrapU 64 40)) ∧
    FieldAt img (hdrLen c - 8) (leBytes 8 (wrapU 64 (((n * c.bw : Nat) : Int) + 24))) ∧
    (hasFact c.codec = true → FieldAt img 104 (leBytes 8 (wrapU 64 (n : Int)))) := by
  intro img
  obtain ⟨g1, g2, g3, g4, g5⟩ := guid_lengths
  have e : img = [riffG, le 8 ((hdrLen c + n * c.bw : Nat) : Int), waveG, fmtG, le 8 40, fmtBody c, factPart c n, dataG,
      le 8 (((n * c.bw : Nat) : Int) + 24), data].flatten := by
    simp only [img, image, tail, hdr, hdrRaw_eq, List.flatten_cons, List.flatten_nil, List.append_assoc, List.append_nil]
  refine ⟨.seg _ e 1 _ rfl (by simp [g1]), .seg _ e 4 _ rfl (by simp [le_length, g1, g2, g3]), .seg _ e 8 _ rfl ?_, fun hf => ?_⟩
  · simp [le_length, g1, g2, g3, g5, fmtBody_length, factPart_length, hdrLen]; omega
  · have ef : factPart c n = [factG, le 8 32, le 8 (n : Int)].flatten := by
      simp only [factPart, hf, if_true, List.flatten_cons, List.flatten_nil, List.append_assoc, List.append_nil]
    have hfact : FieldAt img 80 (factPart c n) := .seg _ e 6 _ rfl (by simp [le_length, g1, g2, g3, fmtBody_length])
    exact hfact.trans (.seg _ ef 2 24 rfl (by simp [le_length, g4]))

/-- every size field of the closed file equals the real length, for every N (all fields are 64-bit, so the only
    guard is 2^64): the 'riff' size is the file length, the 'fmt ' size is 40 = 24 + 16, the 'data' size is the audio
    byte count + 24 — each INCLUDING the 24-byte chunk header -/
theorem w64_size_fields (c : Cfg) (n : Nat) (data : List Byte) (hd : data.length = n * c.bw)
    (hsz : hdrLen c + n * c.bw + 24 < 2 ^ 64) :
    let img := image c n data
    ofLE ((img.drop 16).take 8) = img.length ∧
    ofLE ((img.drop 56).take 8) = 40 ∧
    ofLE ((img.drop (hdrLen c - 8)).take 8) = data.length + 24 := by
  intro img
  obtain ⟨f1, f2, f3, _⟩ := image_fields c n data
  have hlen : img.length = hdrLen c + data.length := image_length c n data
  have e64 : (256 : Nat) ^ 8 = 2 ^ 64 := by decide
  have hw : wrapU 64 (((n * c.bw : Nat) : Int) + 24) = n * c.bw + 24 := by
    have := wrapU_of_lt 64 (n * c.bw + 24) (by omega)
    simpa using this
  refine ⟨?_, (ofLE_fieldAt f2).trans (by decide), ?_⟩
  · rw [ofLE_fieldAt f1, wrapU_of_lt 64 _ (by omega), hlen, hd, e64]
    exact Nat.mod_eq_of_lt (by omega)
  · rw [ofLE_fieldAt f3, hw, hd, e64]
    exact Nat.mod_eq_of_lt (by omega)

/-- the 'fact' chunk of float / double / µ-law / A-law files holds the frame count -/
theorem w64_fact_frames (c : Cfg) (n : Nat) (data : List Byte) (hf : hasFact c.codec = true) (hn : n < 2 ^ 64) :
    ofLE (((image c n data).drop 104).take 8) = n := by
  have e64 : (256 : Nat) ^ 8 = 2 ^ 64 := by decide
  rw [ofLE_fieldAt ((image_fields c n data).2.2.2 hf), wrapU_of_lt 64 n hn, e64]
  exact Nat.mod_eq_of_lt hn

/-- non-vacuity and a concrete re-open: a stereo 24-bit file of 2 frames and a mono µ-law file of 3 frames parse back
    with the written parameters; the parser takes the frame count from the FILE length (trailing bytes would count) -/
example : ({ codec := 0x03, ch := 2, sr := 44100 } : Cfg).wf ∧
    parse (image { codec := 0x03, ch := 2, sr := 44100 } 2 (List.replicate 12 7)) =
      .ok { fmtWord := 0x0B0003, ch := 2, sr := 44100, frames := 2, dataoffset := 104, datalength := 12 } :=
  ⟨by decide, parse_image _ (by decide) 2 _ (by decide) (by decide)⟩
example : parse (image { codec := 0x10, ch := 1, sr := 8000 } 3 [1, 2, 3]) =
      .ok { fmtWord := 0x0B0010, ch := 1, sr := 8000, frames := 3, dataoffset := 136, datalength := 3 } :=
  parse_image _ (by decide) 3 _ (by decide) (by decide)
example : parse (image { codec := 0x10, ch := 1, sr := 8000 } 3 [1, 2, 3] ++ [9, 9]) =
      .ok { fmtWord := 0x0B0010, ch := 1, sr := 8000, frames := 5, dataoffset := 136, datalength := 5 } :=
  parse_image_tail _ (by decide) 3 _ [9, 9] (by decide) (by decide) (by decide)

/-- `stale_frames_ignored` for W64 (sample-granular encodings): whatever SF_INFO.frames held at open, and however the
    frames were split over write calls and interleaved with header updates, the closed file is `image c N data` — an
    expression in which the stale value does not occur.  (Before the repair of w64_open the value reached the header
    written at open — `w64_open_header_shows_stale_frames_old_rule` — and, for the block codecs, the closed file.) -/
theorem stale_frames_ignored_w64 (c : Cfg) (hwf : c.wf) (stale : Int) (ops : List Op) (hv : ∀ op ∈ ops, op.valid c) :
    (close c (run c (openW c stale) ops)).bytes = image c (sessFrames ops) (sessData ops) := by
  have i := session_inv c hwf stale ops hv
  have := (writeHeader_inv i (wf_bw_pos hwf) true).2.1 rfl
  simpa [close, image, tail] using this

/-- since the repair of w64_open the header written by sf_open does not depend on the caller's value either: it is the
    header of an empty file whose lengths are not yet known (riff size 0, data size 24, fact 0) -/
theorem w64_open_header_ignores_stale_frames (c : Cfg) (stale : Int) :
    (openW c stale).bytes = hdrRaw c 0 0 0 ∧ (openW c stale).bytes = (openW c 0).bytes := by
  refine ⟨?_, rfl⟩
  simp [openW, writeHeader, writeAt]

/-- the rule before the repair (`openW_old`): the 'fact' chunk of the header written by sf_open held the caller's value
    until the first header update — a crash before that left it on disk -/
theorem w64_open_header_shows_stale_frames_old_rule :
    ofLE (((openW_old { codec := 0x06, ch := 1, sr := 8000 } 99999).bytes.drop 104).take 8) = 99999 ∧
    (openW_old { codec := 0x06, ch := 1, sr := 8000 } 99999).bytes ≠ (openW_old { codec := 0x06, ch := 1, sr := 8000 } 0).bytes ∧
    ofLE (((openW_old { codec := 0x02, ch := 1, sr := 8000 } 0).bytes.drop 96).take 8) = 23 := by
  decide +kernel

/-- C11 `snapshot_valid` for W64: when SFC_UPDATE_HEADER_NOW returns, the store is byte for byte the closed file of the
    frames written so far (there is no tailer) — so everything proved about `image` holds for the crash-point copy -/
theorem snapshot_valid_w64 (c : Cfg) (hwf : c.wf) (stale : Int) (ops : List Op) (hv : ∀ op ∈ ops, op.valid c) :
    (step c (run c (openW c stale) ops) .update).bytes = image c (sessFrames ops) (sessData ops) := by
  have i := session_inv c hwf stale ops hv
  have := (writeHeader_inv i (wf_bw_pos hwf) true).2.1 rfl
  simpa [step, image, tail] using this

/-- …and in auto mode every write call that transferred something ends in such a crash point -/
theorem auto_write_is_snapshot_w64 (c : Cfg) (hwf : c.wf) (stale : Int) (ops : List Op) (hv : ∀ op ∈ ops, op.valid c)
    (k : Nat) (data : List Byte) (hk : k ≠ 0) (hd : data.length = k * c.bw) (hauto : (run c (openW c stale) ops).auto = true) :
    (step c (run c (openW c stale) ops) (.write k data)).bytes = image c (sessFrames ops + k) (sessData ops ++ data) := by
  have i := session_inv c hwf stale ops hv
  have := step_write_auto i (wf_bw_pos hwf) k data hk hd hauto
  simpa [image, tail] using this

example : ({ codec := 0x10, ch := 1, sr := 8000 } : Cfg).wf ∧ (∀ op ∈ [Op.write 2 [1, 2], .update, .auto true, .write 1 [3]], op.valid { codec := 0x10, ch := 1, sr := 8000 }) ∧
    (close { codec := 0x10, ch := 1, sr := 8000 } (run { codec := 0x10, ch := 1, sr := 8000 } (openW { codec := 0x10, ch := 1, sr := 8000 } 77) [Op.write 2 [1, 2], .update, .auto true, .write 1 [3]])).bytes =
      image { codec := 0x10, ch := 1, sr := 8000 } 3 [1, 2, 3] :=
  ⟨by decide, by decide, stale_frames_ignored_w64 _ (by decide) 77 _ (by decide)⟩

/-- `reopen_info` for W64: for every configuration sf_open accepts, every N and every encoded audio of N frames, the reader
    of the closed file reports the requested channels, W64 | encoding, the requested rate and frames = N; the audio starts
    right after the header.  (Guard 2^62: the reader treats larger data sizes as damage.) -/
theorem w64_reopen_info (c : Cfg) (hwf : c.wf) (n : Nat) (data : List Byte) (hd : data.length = n * c.bw)
    (hsz : hdrLen c + n * c.bw + 24 < 2 ^ 62) :
    parse (image c n data) =
      .ok { fmtWord := 0x0B0000 + c.codec, ch := c.ch, sr := c.sr, frames := n, dataoffset := hdrLen c, datalength := n * c.bw } :=
  parse_image c hwf n data hd hsz

/-- `read_to_eof`: the reported data region is exactly the audio written -/
theorem w64_reopen_data (c : Cfg) (n : Nat) (data : List Byte) (hd : data.length = n * c.bw) :
    ((image c n data).drop (hdrLen c)).take (n * c.bw) = data := by
  have h := hdr_length c n
  simp only [image, tail, List.append_nil]
  rw [← h, ← hd]
  simp

/-- the closed file of ANY valid write session, and the crash-point copy after ANY header update, re-open with the frames
    written so far (C04 and C11 `snapshot_valid` with the parser in the statement) -/
theorem w64_session_reopen (c : Cfg) (hwf : c.wf) (stale : Int) (ops : List Op) (hv : ∀ op ∈ ops, op.valid c)
    (hsz : hdrLen c + sessFrames ops * c.bw + 24 < 2 ^ 62) :
    parse (close c (run c (openW c stale) ops)).bytes =
      .ok { fmtWord := 0x0B0000 + c.codec, ch := c.ch, sr := c.sr, frames := sessFrames ops, dataoffset := hdrLen c,
            datalength := sessFrames ops * c.bw } ∧
    parse (step c (run c (openW c stale) ops) .update).bytes =
      .ok { fmtWord := 0x0B0000 + c.codec, ch := c.ch, sr := c.sr, frames := sessFrames ops, dataoffset := hdrLen c,
            datalength := sessFrames ops * c.bw } := by
  have i := session_inv c hwf stale ops hv
  rw [stale_frames_ignored_w64 c hwf stale ops hv, snapshot_valid_w64 c hwf stale ops hv]
  have := parse_image c hwf (sessFrames ops) (sessData ops) i.dlen hsz
  exact ⟨this, this⟩

/-- KF-W64-READER-LENGTH as a proved witness (foreign files only): two bytes appended to a library-written 3-frame u-law file
    are reported as two more frames — the reader takes the audio length from the file length, not from the 'data' size -/
theorem w64_trailing_bytes_counted :
    parse (image { codec := 0x10, ch := 1, sr := 8000 } 3 [1, 2, 3] ++ [9, 9]) =
      .ok { fmtWord := 0x0B0010, ch := 1, sr := 8000, frames := 5, dataoffset := 136, datalength := 5 } :=
  parse_image_tail _ (by decide) 3 _ [9, 9] (by decide) (by decide) (by decide)

end Sf.C04W64
