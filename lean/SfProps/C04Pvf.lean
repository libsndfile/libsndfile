-- properties: C04 C11
/-
  C04 / C11 — the Portable Voice Format container (stand-alone L1 model SfModel/Pvf.lean; helpers
  SfProofs/PvfImage.lean, SfProofs/Small2Session.lean).

  A *session* is `openW`, any list of `WOp`s (write calls, SFC_UPDATE_HEADER_NOW, auto mode), then `close`.  The PVF
  header holds no length, so every header update rewrites the same text and the closed file is simply
  `header ++ audio`.
-/
import SfProofs.PvfImage
namespace Sf.C04Pvf
open Sf Sf.Small2 Sf.Pvf

/-- the rate is stored as decimal text: every rate in [1, 2^31 − 1] is reported back exactly -/
theorem pvf_rate_exact (sr : Nat) : quant sr = sr := rfl

/-- printf "%d" followed by sscanf "%d" is the identity on every non-negative int -/
theorem pvf_decimal_roundtrip (n : Nat) : scanInt (digits n) = some ((n : Int), []) := by
  have := scanInt_digits n [] (by intro b r h; cases h)
  simpa using this

example : digits 44100 = [0x34, 0x34, 0x31, 0x30, 0x30] ∧ scanInt (digits 2147483647) = some (2147483647, []) := by decide +kernel

theorem closedBytes_eq (c : Cfg) (stale : Nat) (ops : List WOp) : closedBytes (fmt c) stale ops = hdr c ++ opsData ops :=
  (closedBytes_const (fmt c) (lawfulConst c) stale ops).1

theorem snapshotBytes_eq (c : Cfg) (stale : Nat) (ops : List WOp) : snapshotBytes (fmt c) stale ops = hdr c ++ opsData ops :=
  (closedBytes_const (fmt c) (lawfulConst c) stale ops).2

/-- the class of the repaired defect KF-PVF-SHORT-HEADER: the text header is shorter than the 12 bytes that
    `guess_file_type` leaves in the header cache -/
def KF.shortHeader (c : Cfg) : Prop := (hdr c).length < 12
instance (c : Cfg) : Decidable (KF.shortHeader c) := by unfold KF.shortHeader; infer_instance

theorem digits_length_one (n : Nat) : (digits n).length = 1 ↔ n < 10 := by
  constructor
  · intro h
    by_cases hn : n < 10
    · exact hn
    · rw [digits_ge hn, List.length_append, List.length_singleton] at h
      have := digits_length_pos (n / 10)
      omega
  · intro hn
    rw [digits_lt hn]; rfl

/-- the class in terms of the configuration: 8-bit samples, fewer than 10 channels, a rate below 10 Hz
    ("PVF1\nC R 8\n" is 11 bytes) -/
theorem pvf_short_header_class (c : Cfg) (hwf : c.wf) : KF.shortHeader c ↔ c.codec = 1 ∧ c.ch < 10 ∧ c.sr < 10 := by
  have hl : (hdr c).length = 8 + (digits c.ch).length + (digits c.sr).length + (digits (bytewidth c.codec * 8)).length := by
    simp [hdr, line]; omega
  have p1 := digits_length_pos c.ch
  have p2 := digits_length_pos c.sr
  have p3 := digits_length_pos (bytewidth c.codec * 8)
  have hb : bytewidth c.codec * 8 < 10 ↔ c.codec = 1 := by
    unfold bytewidth; rcases hwf.1 with h | h | h <;> simp [h]
  unfold KF.shortHeader
  rw [hl]
  -- all three numbers have one digit
  have key : 8 + (digits c.ch).length + (digits c.sr).length + (digits (bytewidth c.codec * 8)).length < 12 ↔
      (digits c.ch).length = 1 ∧ (digits c.sr).length = 1 ∧ (digits (bytewidth c.codec * 8)).length = 1 := by omega
  rw [key, digits_length_one, digits_length_one, digits_length_one, hb]
  exact ⟨fun ⟨a, b, d⟩ => ⟨d, a, b⟩, fun ⟨d, a, b⟩ => ⟨a, b, d⟩⟩

/-- what C04 asks of PVF, of a reader `p` and of files of at least `lo` bytes -/
def reopenFull (p : List Byte → ParseRes) (lo : Nat) : Prop :=
  ∀ (c : Cfg), c.wf → ∀ (stale : Nat) (ops : List WOp), lo ≤ (hdr c).length + (opsData ops).length →
    p (closedBytes (fmt c) stale ops) =
      .ok { ch := c.ch, fmt := 0x0E0000 + c.codec, sr := c.sr, frames := (opsData ops).length / (bytewidth c.codec * c.ch) }

/-- the full statement: every closed file -/
def pvf_reopen_full : Prop := reopenFull parse 0

/-- the class of the repaired defect KF-PVF-TINY-FILE: the whole file is shorter than the 12 bytes the type detection
    used to insist on (an 11-byte header and no audio) -/
def KF.tinyFile (c : Cfg) (ops : List WOp) : Prop := (hdr c).length + (opsData ops).length < 12
instance (c : Cfg) (ops : List WOp) : Decidable (KF.tinyFile c ops) := by unfold KF.tinyFile; infer_instance

/-- **pvf_reopen_info** (full strength: no class is excluded; KF.shortHeader and KF.tinyFile are the classes of the
    repaired KF-PVF-SHORT-HEADER and KF-PVF-TINY-FILE: `guess_file_type` probes what a file shorter than 12 bytes
    has).  For every accepted configuration and every session — also the 11-byte file without audio —
    the closed file re-opens with the requested channels, PVF / the requested PCM width, exactly the requested rate, and
    frames = audio bytes / block width. -/
theorem pvf_reopen_info (c : Cfg) (hwf : c.wf) (stale : Nat) (ops : List WOp) :
    parse (closedBytes (fmt c) stale ops) =
      .ok { ch := c.ch, fmt := 0x0E0000 + c.codec, sr := quant c.sr, frames := (opsData ops).length / (bytewidth c.codec * c.ch) } := by
  rw [closedBytes_eq c stale ops]
  show parseWith true _ = _
  rw [parseWith_image true c hwf _ (by intro h; cases h)]
  have : offOf true c = (hdr c).length := rfl
  rw [this, Nat.add_sub_cancel_left]; rfl

theorem pvf_reopen_holds : pvf_reopen_full := fun c hwf stale ops _ => pvf_reopen_info c hwf stale ops

theorem pvf_reopen_partial : reopenFull parse 12 := fun c hwf stale ops _ => pvf_reopen_info c hwf stale ops

/-- **pvf_short_header_old_rule.**  Before the repair (`psf->dataoffset = psf_ftell (psf)`), inside the class
    KF.shortHeader and with at least one byte of audio, the reader started the audio one byte late (data offset 12
    instead of 11): it reported (audio bytes − 1) / block width frames and shifted samples -/
theorem pvf_short_header_old_rule (c : Cfg) (hwf : c.wf) (stale : Nat) (ops : List WOp) (hk : KF.shortHeader c)
    (h1 : 12 ≤ (hdr c).length + (opsData ops).length) :
    parseOld (closedBytes (fmt c) stale ops) =
      .ok { ch := c.ch, fmt := 0x0E0000 + c.codec, sr := c.sr,
            frames := ((hdr c).length + (opsData ops).length - 12) / (bytewidth c.codec * c.ch) } := by
  unfold KF.shortHeader at hk
  rw [closedBytes_eq c stale ops]
  show parseWith false _ = _
  rw [parseWith_image false c hwf _ (fun _ => by simp; omega)]
  have : offOf false c = 12 := by unfold offOf; exact Nat.max_eq_left (by omega)
  rw [this]

/-- … and outside that class the old reader did what the current one does -/
theorem pvf_reopen_info_old_rule (c : Cfg) (hwf : c.wf) (stale : Nat) (ops : List WOp) (hk : ¬ KF.shortHeader c) :
    parseOld (closedBytes (fmt c) stale ops) =
      .ok { ch := c.ch, fmt := 0x0E0000 + c.codec, sr := c.sr, frames := (opsData ops).length / (bytewidth c.codec * c.ch) } := by
  unfold KF.shortHeader at hk
  rw [closedBytes_eq c stale ops]
  show parseWith false _ = _
  rw [parseWith_image false c hwf _ (fun _ => by simp; omega)]
  have : offOf false c = (hdr c).length := by unfold offOf; exact Nat.max_eq_right (by omega)
  rw [this, Nat.add_sub_cancel_left]

/-- **pvf_tiny_not_reopened_old_rule.**  Before the repair of KF-PVF-TINY-FILE (a 12-byte probe or SFE_BAD_FILE_READ) every
    closed file in the class KF.tinyFile was refused -/
theorem pvf_tiny_not_reopened_old_rule (c : Cfg) (stale : Nat) (ops : List WOp) (h : KF.tinyFile c ops) :
    parseProbe12 (closedBytes (fmt c) stale ops) = .err := by
  unfold KF.tinyFile at h
  rw [closedBytes_eq c stale ops]
  unfold parseProbe12 parseWithP
  rw [if_pos ⟨by simp; omega, Or.inl rfl⟩]

/-- … and outside that class the old probe did what the current one does -/
theorem pvf_reopen_info_probe12_old_rule (c : Cfg) (stale : Nat) (ops : List WOp) (hk : ¬ KF.tinyFile c ops) :
    parseProbe12 (closedBytes (fmt c) stale ops) = parse (closedBytes (fmt c) stale ops) := by
  unfold KF.tinyFile at hk
  rw [closedBytes_eq c stale ops]
  unfold parseProbe12 parse parseWith parseWithP
  have h12 : ¬ (hdr c ++ opsData ops).length < 12 := by simp; omega
  rw [if_neg (fun h => h12 h.1), if_neg (fun h => h12 h.1)]

/-- two channels of 8-bit samples at 1 Hz, three frames (findings/kf_pvf_short_header.txt) -/
def shortCfg : Cfg := ⟨1, 2, 1⟩
def shortOps : List WOp := [.write [1, 2, 3, 4, 5, 6] false]

/-- the witness of the repaired KF-PVF-SHORT-HEADER re-opens with its three frames; the old reader found two; the
    11-byte file without audio (the repaired KF-PVF-TINY-FILE, findings/kf_pvf_tiny_file.txt) re-opens with no frames,
    the old probe refused it -/
theorem pvf_short_witness : shortCfg.wf ∧ KF.shortHeader shortCfg ∧
    parse (closedBytes (fmt shortCfg) 0 shortOps) = .ok ⟨2, 0x0E0001, 1, 3⟩ ∧
    parseOld (closedBytes (fmt shortCfg) 0 shortOps) = .ok ⟨2, 0x0E0001, 1, 2⟩ ∧
    KF.tinyFile shortCfg [] ∧ (closedBytes (fmt shortCfg) 7 []).length = 11 ∧
    parse (closedBytes (fmt shortCfg) 7 []) = .ok ⟨2, 0x0E0001, 1, 0⟩ ∧
    parseProbe12 (closedBytes (fmt shortCfg) 7 []) = .err := by decide +kernel

/-- the full statement failed for the old reader on files of at least 12 bytes: the three frames re-opened as two -/
theorem pvf_reopen_old_rule_fails : ¬ reopenFull parseOld 12 := by
  intro h
  obtain ⟨hwf, _, _, oldFindsTwo, _⟩ := pvf_short_witness
  have h1 := h shortCfg hwf 0 shortOps (by decide +kernel)
  rw [oldFindsTwo] at h1
  revert h1; decide

/-- the full statement failed for the old probe, for the 11-byte file (KF-PVF-TINY-FILE) -/
theorem pvf_reopen_probe12_old_rule_fails : ¬ reopenFull parseProbe12 0 := by
  intro h
  obtain ⟨hwf, _, _, _, _, _, _, probeRefuses⟩ := pvf_short_witness
  have h1 := h shortCfg hwf 7 [] (by decide)
  rw [probeRefuses] at h1
  revert h1; decide

def exCfg : Cfg := ⟨2, 2, 44100⟩
def exOps : List WOp := [.write [0, 1, 0, 2] false, .update, .write [0, 3, 0, 4, 0, 5, 0, 6] true]
example : exCfg.wf ∧ (closedBytes (fmt exCfg) 77 exOps).length = 28 ∧
    parse (closedBytes (fmt exCfg) 77 exOps) = .ok ⟨2, 0x0E0002, 44100, 3⟩ := by decide +kernel

/-- **pvf_size_fields.**  PVF has no size field: the closed file is exactly the text header followed by the audio
    (nothing is padded), so its length is header + audio bytes. -/
theorem pvf_size_fields (c : Cfg) (stale : Nat) (ops : List WOp) (bytes : List Byte) (D : Nat)
    (hbytes : bytes = closedBytes (fmt c) stale ops) (hD : D = (opsData ops).length) :
    bytes.length = (hdr c).length + D ∧ bytes.take (hdr c).length = hdr c ∧ bytes.drop (hdr c).length = opsData ops := by
  rw [closedBytes_eq c stale ops] at hbytes
  subst hbytes hD
  exact ⟨by simp, List.take_left' rfl, List.drop_left' rfl⟩

example : (closedBytes (fmt exCfg) 77 exOps).take 16 = hdr exCfg := by decide +kernel

/-- **pvf_frames_bound.**  PCM is sample-granular and nothing is padded: `N` frames re-open as exactly `N`. -/
theorem pvf_frames_bound (bw N : Nat) (hbw : 0 < bw) : (N * bw) / bw = N ∧ N ≤ (N * bw) / bw ∧ (N * bw) / bw < N + 1 :=
  frames_bound bw N hbw

example : (3 * 4) / 4 = 3 := by decide

/-- **stale_frames_ignored_pvf.**  No image of the store depends on the frames value the caller left in SF_INFO. -/
theorem stale_frames_ignored_pvf (c : Cfg) (a b : Nat) (ops : List WOp) :
    closedBytes (fmt c) a ops = closedBytes (fmt c) b ops ∧ snapshotBytes (fmt c) a ops = snapshotBytes (fmt c) b ops := by
  rw [closedBytes_eq c a ops, closedBytes_eq c b ops, snapshotBytes_eq c a ops, snapshotBytes_eq c b ops]
  exact ⟨rfl, rfl⟩

example : closedBytes (fmt exCfg) 0 exOps = closedBytes (fmt exCfg) 123456 exOps := by decide +kernel

/-- **pvf_snapshot_valid.**  After any session prefix, the image a header update leaves in the store is the file
    a close at that instant would produce; it parses with the same parameters and exactly the frames written so far
    (also the 11-byte image of an update issued before any audio: KF-PVF-TINY-FILE is repaired). -/
theorem pvf_snapshot_valid (c : Cfg) (hwf : c.wf) (stale : Nat) (ops : List WOp) :
    parse (snapshotBytes (fmt c) stale ops) =
      .ok { ch := c.ch, fmt := 0x0E0000 + c.codec, sr := quant c.sr, frames := (opsData ops).length / (bytewidth c.codec * c.ch) } ∧
    snapshotBytes (fmt c) stale ops = hdr c ++ opsData ops := by
  have := pvf_reopen_info c hwf stale ops
  rw [closedBytes_eq c stale ops] at this
  rw [snapshotBytes_eq c stale ops]
  exact ⟨this, rfl⟩

example : parse (snapshotBytes (fmt exCfg) 5 [.write [1, 2, 3, 4] false]) = .ok ⟨2, 0x0E0002, 44100, 1⟩ ∧
    parse (snapshotBytes (fmt shortCfg) 5 [.update]) = .ok ⟨2, 0x0E0001, 1, 0⟩ := by decide +kernel

end Sf.C04Pvf
