/-
  C11 for read/write sessions on RE-OPENED files: what the Lean predicate (`Sf.Abs.check`, evaluated by `sfmodel abs` on the
  transcript "history up to the image, then the image opened read-only and read") says about a crash-point image.
  The image is opened while the writer is still open; for the abstract model that is a `reopen .r` line judged in the state the
  history has reached.  Property theorems only.
-/
import SfProofs.AbsMeaning
namespace Sf.C11Rdwr
open Sf Sf.Abs

/-- "a reader opening a copy of those bytes obtains … a frame count equal to the frames written so far": for a sample-granular
    encoding (block 1, no pad frames) an accepted image open reports EXACTLY the frame count of the writer at that instant — the old
    frames kept, the frames appended across the old end counted, nothing behind the audio counted — and starts at frame 0 of the same
    stream -/
theorem image_open_meaning (g : Geom) (st : St) (o : Out) (st1 : St) (hb : g.block ≤ 1) (hp : g.pad = 0)
    (h : reopenOk g st .r o = .ok st1) :
    o.null = false ∧ o.frames = (st.frames : Int) ∧ st1.frames = st.frames ∧ st1.rpos = 0 ∧ st1.mode = .r ∧ st1.ref = st.ref ∧
    st1.valid = st.valid := by
  obtain ⟨hnull, h⟩ := (reopenOk_eq_ok_iff g st .r o st1).mp h
  rw [if_neg (by decide)] at h
  split at h
  · rename_i he
    subst h; exact ⟨hnull, he, rfl, rfl, rfl, rfl, rfl⟩
  · -- with block 1 and no pad frames the window `frames ≤ F < frames + 1` holds the history's count only
    rename_i he
    obtain ⟨hc, _⟩ := h
    have : max g.block 1 = 1 := by omega
    rw [this, hp] at hc
    omega

/-- "… and reads back exactly that prefix of the written data": the whole-file read of an accepted image delivers the stream the
    history has built (for the caller type the writer used losslessly, the samples it wrote), all of it, then the end of data -/
theorem image_read_meaning (g : Geom) (st : St) (o : Out) (st1 st2 : St) (ty : Ty) (n : Int) (r : Out)
    (hb : g.block ≤ 1) (hp : g.pad = 0) (ho : reopenOk g st .r o = .ok st1) (hval : st.valid ty = true)
    (hv : validReq g false n = true) (hpos : 0 < st.frames) (hrd : readOk g st1 ty false n r = .ok st2)
    (hall : (st.frames * g.ch : Nat) ≤ n.toNat) :
    retItems g false r.ret / g.ch = st.frames ∧
    sliceEq r.data 0 (st.ref ty) 0 (retItems g false r.ret * cells ty) = true := by
  obtain ⟨_, _, hf, hr0, hm, href, hvalid⟩ := image_open_meaning g st o st1 hb hp ho
  have hreq : ReadReq g st1 false n := ⟨hv, by rw [hm]; simp⟩
  obtain ⟨h0, hle, _, _, _, _, hmain⟩ := readOk_valid g st1 ty false n r st2 hreq hrd
  obtain ⟨_, hin, hdat, hshort⟩ := hmain (by rw [hr0, hf]; exact hpos)
  rw [hr0, Nat.zero_add, hf] at hin
  have hd := hdat (by rw [hvalid]; exact hval)
  rw [hr0, href, Nat.zero_mul] at hd
  refine ⟨?_, hd⟩
  by_cases hlt : r.ret < n
  · have := hshort hlt
    rw [hr0, Nat.zero_add, hf] at this
    exact this
  · have hret : r.ret = n := by omega
    have hi : retItems g false r.ret = n.toNat := by simp [retItems, hret]
    have hch : 0 < g.ch := by
      rcases Nat.eq_zero_or_pos g.ch with hz | hz
      · exfalso
        have hv' := hv
        simp [validReq, hz] at hv'
        omega
      · exact hz
    rw [hi] at hin ⊢
    have : st.frames ≤ n.toNat / g.ch := (Nat.le_div_iff_mul_le hch).mpr hall
    omega

def exG : Geom := { ch := 1, bw := 2, frames0 := 0, mode0 := .w, strictSeek := true, lossless := fun ty => ty = .s16 }

def exTr : List (Op × Out) :=
  [(.reopen .w, {}), (.write .s16 true 3 #[1, 2, 3], { ret := 3 }), (.other, {}), (.close, { ret := 0 }), (.reopen .rw, { frames := 3 }),
   (.seek (-1) 0x22, { ret := 2 }), (.write .s16 true 3 #[7, 8, 9], { ret := 3 }), (.other, {}), (.info, { frames := 5 }), (.other, {}),
   (.reopen .r, { frames := 5 }), (.read .s16 false 8, { ret := 5, data := #[1, 2, 7, 8, 9, 0, 0, 0] })]

example : holdsOn exG (fun _ => #[]) (fun _ => true) exTr = .ok 12 := by decide +kernel
/-- an image whose header still carries the old length (the stale end-of-audio mark), or one that counts the bytes behind the audio:
    refused, clause `reopen-frames` -/
example : holdsOn exG (fun _ => #[]) (fun _ => true) (exTr.take 10 ++ [(.reopen .r, { frames := 3 })]) = .bad 10 "reopen-frames" := by decide +kernel
example : holdsOn exG (fun _ => #[]) (fun _ => true) (exTr.take 10 ++ [(.reopen .r, { frames := 29 })]) = .bad 10 "reopen-frames" := by decide +kernel
example : exG.block ≤ 1 ∧ exG.pad = 0 ∧ validReq exG false 8 = true := by decide

end Sf.C11Rdwr
