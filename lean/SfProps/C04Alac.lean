/-
  C04 (CAF/ALAC) — what the closed file says about what was written, for EVERY codec core:
  * the BER integers of the packet table: `alac_pakt_read_decode` reads back what `alac_pakt_encode` wrote, for every
    list of packet sizes in 1 … 2^28 − 1 (the true bound of the encoder: at 2^28 it gives up), with the quirk that a
    table padded to a multiple of four bytes comes back with one extra zero entry;
  * the packet table's header: the writer's frame counter is N exactly after every history of write calls
    (`pakt_valid_frames`), and `paktEncode` stores the frame count it is given at offset 8 of the chunk (`pakt_header_fields`);
    that `alac_close` hands the counter to `paktEncode` is `Alac.closeChunks` of the model, no theorem here goes through the
    closed file.
  Model: SfModel/AlacFile.lean.  Property theorems only.
-/
import SfProofs.AlacWriter
import SfProofs.AlacPakt
namespace Sf.C04Alac
open Sf Sf.Alac Sf.AlacWriter

theorem berEnc_isSome (v : Nat) : (berEnc v).isSome = true ↔ v < 2 ^ 28 := by
  unfold berEnc
  split
  · simp; omega
  split
  · simp; omega
  split
  · simp; omega
  split
  · simp; omega
  · simp; omega

/-- BER round trip through the chunk as stored: ∀ lists of sizes in 1 … 2^28 − 1 -/
theorem paktDecode_paktEncode (sizes : List Nat) (frames saved : Nat) (chunk : List Byte)
    (h : paktEncode sizes frames saved = some chunk) (hpos : ∀ s ∈ sizes, 0 < s) :
    paktDecode (chunk ++ zeros (pad4 chunk.length)) = sizes ++ (if pad4 chunk.length = 0 then [] else [0]) := by
  unfold paktEncode at h
  cases hb : berEncAll sizes with
  | none => rw [hb] at h; simp at h
  | some body =>
    rw [hb] at h; cases h
    have hh : (paktHeader sizes.length frames saved).length = 24 := by simp [paktHeader, beBytes, leBytes]
    exact paktDecodeLoop_encode _ sizes body hb hpos 24 _ _ _ (by rw [List.append_assoc, ← hh, List.drop_left])
      (by simp [hh, zeros]; omega) (by simp [zeros]; omega)

/-- the bound is sharp: a packet of 2^28 bytes makes `alac_pakt_encode` give up -/
theorem paktEncode_bound : paktEncode [2 ^ 28] 1 1 = none ∧ (paktEncode [2 ^ 28 - 1] 1 1).isSome = true := by decide

/-- non-vacuity: sizes on both sides of every BER boundary; 13 body bytes, so three pad bytes and the extra zero entry -/
example : paktDecode ((paktEncode [127, 128, 16383, 16384, 2097151, 2097152] 5 5).getD [] ++ zeros 3) =
    [127, 128, 16383, 16384, 2097151, 2097152, 0] := by decide +kernel

/-- a write call that leaves the staged block of 4096 frames unfilled adds no entry to the packet table: the entry comes with the call
    that completes the block, or with `alac_close` -/
theorem sizes_length_short (cd : Codec σ α) (w : W σ α) (xs : List α) (h : w.staged.length + xs.length < fpb) :
    (writeLoop cd w xs).sizes = w.sizes := by
  rw [writeLoop_short cd w xs h]

/-- valid frames: the counter `alac_close` puts into the 'pakt' header's second field is the number of frames the write calls
    accepted, for every codec and every history of calls -/
theorem pakt_valid_frames (cd : Codec σ α) (calls : List (List α)) :
    (writeCalls cd (W.init cd) calls).frames = calls.flatten.length := by
  obtain ⟨_, _, _, _, _, h⟩ := finish_inv cd calls
  exact h

/-- non-vacuity: 4097 frames in calls of 1 and 4096 frames -/
example :
    let cd : Codec Unit Unit := { init := (), enc := fun _ st => ((), [st.length % 256]), dec := fun _ => [] }
    (writeCalls cd (W.init cd) [List.replicate 1 (), List.replicate 4096 ()]).frames = 4097 ∧
    (finish cd (writeCalls cd (W.init cd) [List.replicate 1 (), List.replicate 4096 ()])).sizes.length = 2 := by
  intro cd
  refine ⟨by rw [pakt_valid_frames]; simp only [List.flatten_cons, List.flatten_nil, List.length_append, List.length_replicate, List.length_nil], ?_⟩
  -- `n` then `m` frames on a new file, together more than one packet and less than two: the first call only stages, the second completes
  -- the packet and stages the rest, which `finish` encodes — by the closed forms of the staging loop, so that only lengths are computed
  have key : ∀ n m : Nat, n < fpb → ¬ n + m < fpb → m < fpb + (fpb - n) → 0 < m - (fpb - n) →
      (finish cd (writeCalls cd (W.init cd) [List.replicate n (), List.replicate m ()])).sizes.length = 2 := by
    intro n m hn hm hc h0
    have e : (W.init cd).staged = [] := rfl
    have es : (W.init cd).sizes = [] := rfl
    simp only [writeCalls, List.foldl, writeCall]
    rw [writeLoop_short cd (W.init cd) _ (by simp only [e, List.length_nil, List.length_replicate]; omega),
      writeLoop_full cd _ _ (by simp only [e, List.nil_append, List.length_replicate]; exact hn)
        (by simp only [e, List.nil_append, List.length_replicate]; exact hm),
      writeLoop_short cd _ _ (by simp only [encodeBlock, e, List.nil_append, List.length_nil, List.length_drop, List.length_replicate]; omega)]
    unfold finish
    rw [if_pos (by simp only [encodeBlock, e, List.nil_append, List.length_drop, List.length_replicate]; omega)]
    simp only [encodeBlock, es, List.nil_append, List.length_append, List.length_cons, List.length_nil]
  exact key 1 4096 (by decide) (by decide) (by decide) (by decide)

/-- `paktEncode` serialises the packet count at offset 0 and the frame count it is given at offset 8 -/
theorem pakt_header_fields (sizes : List Nat) (frames saved : Nat) (chunk : List Byte)
    (h : paktEncode sizes frames saved = some chunk) :
    chunk.take 8 = beBytes 8 sizes.length ∧ (chunk.drop 8).take 8 = beBytes 8 frames := by
  unfold paktEncode at h
  cases hb : berEncAll sizes with
  | none => rw [hb] at h; simp at h
  | some body =>
    rw [hb] at h; simp only [Option.map_some, Option.some.injEq] at h; subst h
    have h8 : ∀ v, (beBytes 8 v).length = 8 := by intro v; simp [beBytes, leBytes]
    unfold paktHeader
    constructor
    · simp [List.append_assoc, h8]
    · simp [List.append_assoc, h8]

end Sf.C04Alac
