-- properties: C04 C07 C11
/-
  C04 / C11 (and the header-update clause of C07) — the MIDI Sample Dump Standard container as a whole file
  (stand-alone L1 model SfModel/SdsFile.lean over the packet codec of SfModel/Sds.lean and the block scan of
  SfModel/SdsScan.lean; helpers SfProofs/SdsFileLemmas.lean).  Property theorems only.

  A *session* is `openW` (sf_open SFM_WRITE with any stale SF_INFO.frames), any list of `WOp`s — write calls of
  32-bit samples with or without auto header mode, SFC_UPDATE_HEADER_NOW in between — then `close`.
-/
import SfProofs.SdsFileLemmas
import SfProofs.Small2Session
namespace Sf.C04Sds
open Sf Sf.Sds Sf.SdsFile

/-- **sds_rate_inrange.**  For 477 ≤ rate ≤ 10^9 the period 10^9 / rate fits the 21-bit field and a reader computes
    10^9 / (10^9 / rate). -/
theorem sds_rate_inrange (sr : Nat) (h1 : 477 ≤ sr) (h2 : sr ≤ 1000000000) : quant sr = 1000000000 / (1000000000 / sr) := by
  have hp1 : 1 ≤ 1000000000 / sr := Nat.div_pos h2 (by omega)
  have hp2 : 1000000000 / sr < 2 ^ 21 := (Nat.div_lt_iff_lt_mul (by omega)).mpr (by omega)
  unfold quant period rateOf
  rw [Nat.mod_eq_of_lt hp2, if_pos (by omega)]

/-- the quantised rate is never below the requested one… -/
theorem sds_rate_ge (sr : Nat) (h1 : 477 ≤ sr) (h2 : sr ≤ 1000000000) : sr ≤ quant sr := by
  rw [sds_rate_inrange sr h1 h2]; exact Small2.div_div_ge _ _ (by omega) h2

/-- …and exact when the rate divides 10^9 (8000, 16000, 31250, 62500, 10^6, …) -/
theorem sds_rate_exact (sr k : Nat) (h1 : 477 ≤ sr) (h : 1000000000 = sr * k) : quant sr = sr := by
  obtain ⟨h2, e⟩ := Small2.div_div_exact 1000000000 sr k (by decide) h (by omega)
  rw [sds_rate_inrange sr h1 h2]; exact e

example : quant 44100 = 1000000000 / (1000000000 / 44100) ∧ 44100 ≤ quant 44100 ∧ quant 31250 = 31250 ∧ 1000000000 = 31250 * 32000 ∧
    period 477 = 2096436 ∧ period 477 < 2 ^ 21 := by decide +kernel

/-- outside the field: below 477 Hz the period loses its high bits (1 Hz reads back as 569 Hz, 250 Hz as 525 Hz, 476 Hz as 271149 Hz),
    above 1 GHz it is 0 and the reader guesses 16000 -/
theorem sds_rate_outside : quant 1 = 569 ∧ quant 250 = 525 ∧ quant 476 = 271149 ∧ quant 477 = 477 ∧ quant 1000000001 = 16000 ∧
    quant 44100 = 44101 ∧ quant 8000 = 8000 ∧ quant 48000 = 48000 ∧ quant 11025 = 11025 := by decide +kernel

/-- **stale_frames_ignored_sds.**  sds_open overwrites psf->sf.frames, and the header is made of that field (the model's
    `total`, see the head of SfModel/SdsFile.lean): the caller's frames value reaches neither the open image, nor an
    update image, nor the closed file. -/
theorem stale_frames_ignored_sds (c : Cfg) (a b : Nat) (ops : List WOp) :
    closedBytes c a ops = closedBytes c b ops ∧ snapshotBytes c a ops = snapshotBytes c b ops ∧ (openW c a).bytes = (openW c b).bytes :=
  ⟨rfl, rfl, rfl⟩

example : closedBytes ⟨2, 44100⟩ 0 [.write [1, 2, 3] true, .update] = closedBytes ⟨2, 44100⟩ 99999 [.write [1, 2, 3] true, .update] ∧
    (openW ⟨2, 44100⟩ 7).bytes = header 16 44100 0 := ⟨rfl, by decide +kernel⟩

/-- **sds_updates_dont_change_file** (C07 / C11).  However the samples are split over write calls, with or without
    auto header mode, with any number of SFC_UPDATE_HEADER_NOW in between — each of which writes the partly filled
    packet out, seeks back and restores the packet state — the closed file is byte for byte the file of ONE write
    call of all the samples.  (seeded/C07-sds-update-zeroes-pending and seeded/C11-sds-update-no-seekback break this.) -/
theorem sds_updates_dont_change_file (c : Cfg) (hwf : c.wf) (stale : Nat) (ops : List WOp) :
    closedBytes c stale ops = closedBytes c stale [.write (opsData ops) false] := by
  rw [closed_eq_canon c hwf stale ops, closed_eq_canon c hwf stale [.write (opsData ops) false]]
  simp [opsData]

def ex16 : Cfg := ⟨2, 44100⟩
def ex8 : Cfg := ⟨1, 8000⟩
def ex24 : Cfg := ⟨3, 48000⟩
/-- 45 samples in three calls around a header update inside the second packet of 40 -/
def exOps : List WOp :=
  [.write ((List.range 41).map fun (i : Nat) => (i : Int) * 65536 - 1000000) false, .update, .write [7 * 65536, -8 * 65536] true, .write [2147483647, -2147483648] false]
example : ex16.wf ∧ (opsData exOps).length = 45 ∧ closedBytes ex16 0 exOps = closedBytes ex16 9 [.write (opsData exOps) false] ∧
    (closedBytes ex16 0 exOps).length = 21 + 2 * 127 := by
  have hwf : ex16.wf := by decide
  obtain ⟨body, hb, hl⟩ := closed_parts ex16 hwf 0 exOps
  exact ⟨hwf, by decide, sds_updates_dont_change_file ex16 hwf 0 exOps,
    by rw [hb, List.length_append, hl, header_length]; decide⟩

/-- **sds_size_fields.**  The closed file is the 21-byte header for exactly the `N` samples the write calls
    accepted — `F0 7E 00 01 00 00 <bits> <period> <N mod 2^21, 3 x 7 bits> 0…0 F7` — followed by ⌈N / spb⌉ packets of
    127 bytes (spb = 60 / 40 / 30 for 8 / 16 / 24 bits); nothing else. -/
theorem sds_size_fields (c : Cfg) (hwf : c.wf) (stale : Nat) (ops : List WOp) (N : Nat) (hN : N = (opsData ops).length) :
    ∃ body : List Byte, closedBytes c stale ops = header c.bitwidth c.sr N ++ body ∧
      body.length = 127 * ((N + c.spb - 1) / c.spb) ∧
      dec3 (((closedBytes c stale ops).drop 10).take 3) = N % 2 ^ 21 ∧
      dec3 (((closedBytes c stale ops).drop 7).take 3) = period c.sr := by
  obtain ⟨body, hb, hl⟩ := closed_parts c hwf stale ops
  rw [hN]
  refine ⟨body, hb, hl, ?_, ?_⟩
  · rw [hb]; obtain ⟨_, _, _, _, _, h6, _⟩ := header_reads c.bitwidth c.sr (opsData ops).length body
    rw [h6, dec3_enc3]
  · rw [hb]; obtain ⟨_, _, _, _, h5, _, _⟩ := header_reads c.bitwidth c.sr (opsData ops).length body
    rw [h5, dec3_enc3]; rfl

example : (closedBytes ex8 3 [.write [1, 2, 3] false]).take 21 = [0xF0, 0x7E, 0, 1, 0, 0, 8, 0x48, 0x50, 0x07, 3, 0, 0, 0, 0, 0, 0, 0, 0, 0, 0xF7] := by
  decide +kernel

/-- **sds_reopen_info.**  For every accepted configuration and every session the closed file re-opens as one channel,
    SDS / the requested width, the quantised rate, and the frames written modulo 2^21 (the 21-bit data-length
    field); below 2^21 frames that is exactly the frames written (`sds_reopen_frames`). -/
theorem sds_reopen_info (c : Cfg) (hwf : c.wf) (stale : Nat) (ops : List WOp) :
    parse (closedBytes c stale ops) = .ok { ch := 1, fmt := c.fmtWord, sr := quant c.sr, frames := (opsData ops).length % 2 ^ 21 } := by
  obtain ⟨body, hb, _⟩ := closed_parts c hwf stale ops
  rw [hb]
  exact parse_header c hwf _ body

theorem sds_reopen_frames (c : Cfg) (hwf : c.wf) (stale : Nat) (ops : List WOp) (hg : (opsData ops).length < 2 ^ 21) :
    parse (closedBytes c stale ops) = .ok { ch := 1, fmt := c.fmtWord, sr := quant c.sr, frames := (opsData ops).length } := by
  rw [sds_reopen_info c hwf stale ops, Nat.mod_eq_of_lt hg]

example : parse (closedBytes ex16 5 exOps) = .ok ⟨1, 0x110002, 44101, 45⟩ ∧ parse (closedBytes ex24 0 []) = .ok ⟨1, 0x110003, 48000, 0⟩ ∧
    parse (closedBytes ex8 0 [.write [5] true]) = .ok ⟨1, 0x110001, 8000, 1⟩ :=
  ⟨(sds_reopen_frames ex16 (by decide) 5 exOps (by decide)).trans (by decide), (sds_reopen_frames ex24 (by decide) 0 [] (by decide)).trans (by decide),
    (sds_reopen_frames ex8 (by decide) 0 _ (by decide)).trans (by decide)⟩

/-- **sds_frames_bound.**  The header carries the sample count itself (not a packet count): `N` frames re-open as `N`
    (B = 1) although the audio region is padded with zero samples to whole packets. -/
theorem sds_frames_bound (N : Nat) (hg : N < 2 ^ 21) : N % 2 ^ 21 = N ∧ N ≤ N % 2 ^ 21 ∧ N % 2 ^ 21 < N + 1 := by
  rw [Nat.mod_eq_of_lt hg]; omega

example : (45 : Nat) % 2 ^ 21 = 45 := by decide

/-- beyond the field (2^21 = 2097152 frames and more) the count wraps: the witness is the header of such a file -/
theorem sds_length_field_wraps : dec3 ((header 16 44100 2097153).drop 10 |>.take 3) = 1 := by decide +kernel

/-- **sds_snapshot_valid** (C11).  After any session prefix, the image a header update leaves in the store is the
    header for the frames written so far, the complete packets of the plain run of those samples, and — when a packet
    is partly filled — one more whole packet that starts with the pending samples (the rest of it is what the staging
    buffer still held); it parses with the same parameters and exactly the frames written so far. -/
theorem sds_snapshot_valid (c : Cfg) (hwf : c.wf) (stale : Nat) (ops : List WOp) :
    parse (snapshotBytes c stale ops) =
      .ok { ch := 1, fmt := c.fmtWord, sr := quant c.sr, frames := (opsData ops).length % 2 ^ 21 } ∧
    ∃ (S : St), snapshotBytes c stale ops = header c.bitwidth c.sr (opsData ops).length ++
        ((canon c (opsData ops)).pkts.reverse.flatten ++ (if S.wcount > 0 then (encBlock c.w S.wblock S.buf).2 else [])) ∧
      S.wcount = (canon c (opsData ops)).wcount ∧ S.buf.take S.wcount = (canon c (opsData ops)).buf.take S.wcount := by
  obtain ⟨S, _, hb, hwc, hfr⟩ := snapshot_parts c hwf stale ops
  refine ⟨?_, S, hb, hwc, hfr⟩
  rw [hb]
  exact parse_header c hwf _ _

example : parse (snapshotBytes ex16 5 (exOps.take 1)) = .ok ⟨1, 0x110002, 44101, 41⟩ ∧
    (snapshotBytes ex16 5 (exOps.take 1)).length = 21 + 2 * 127 := by decide +kernel

/-- the flushed partial packet carries stale samples behind the pending ones (here: sample 1 of the second packet is
    sample 1 of the first), and sds_close replaces them with zeros — the update image and the closed file differ there,
    the closed files do not -/
theorem sds_snapshot_tail_is_stale :
    let ops : List WOp := [.write ((List.range 41).map fun (i : Nat) => (i : Int) * 65536 + 65536) false]
    ((snapshotBytes ex16 0 ops).drop (21 + 127 + 5 + 3)).take 3 = ((snapshotBytes ex16 0 ops).drop (21 + 5 + 3)).take 3 ∧
    ((closedBytes ex16 0 ops).drop (21 + 127 + 5 + 3)).take 3 = [0x40, 0, 0] ∧
    ((snapshotBytes ex16 0 ops).drop (21 + 127 + 5)).take 3 = ((closedBytes ex16 0 ops).drop (21 + 127 + 5)).take 3 := by decide +kernel

/-- **sds_blocks_counted.**  The block-count scan of sds_read_header (Sf.SdsScan.scan, current rule) run on the
    files of the examples counts their packets, stops at a zero marker and at a file that ends inside a marker. -/
theorem sds_blocks_counted :
    blocks (closedBytes ex16 5 exOps) = 2 ∧ blocks (closedBytes ex24 0 []) = 0 ∧
    blocks (closedBytes ex16 5 exOps ++ [0, 0, 1]) = 2 ∧ blocks (closedBytes ex16 5 exOps ++ [0, 1]) = 3 ∧
    blocks (closedBytes ex16 5 exOps ++ [1]) = 2 ∧ blocks ((closedBytes ex16 5 exOps).take (21 + 127 + 2)) = 2 ∧
    blocks ((closedBytes ex16 5 exOps).take (21 + 127 + 1)) = 1 ∧
    seekEnd (closedBytes ex16 5 exOps) = 45 ∧ seekEnd ((closedBytes ex16 5 exOps).take (21 + 127)) = 45 ∧ seekEnd ((closedBytes ex16 5 exOps).take 21) = -1 := by decide +kernel

end Sf.C04Sds
