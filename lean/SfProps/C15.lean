/-
  C15 — I/O failures at any point are contained (DESIGN.md §7 C15).
  -- properties: C15 C05

  The theorems are about `Sf.Faults`: the sample-granular codec loops, the read/write/seek wrappers and the AU/WAV
  header writers running against an ORACLE I/O layer.  `∀ o : Oracle` is "every fault sequence, persistent or
  single-shot, inside or outside the callback contract"; `o.Contract` restricts to the SF_VIRTUAL_IO contract.
-/
import SfProofs.Faults
namespace Sf.C15
open Sf Sf.Faults

/-- a handle and an oracle used by the non-vacuity examples: mono u-law RAW opened for reading; every callback answers "nothing" -/
def wH0 : H := { store := 0, mode := .r, container := .raw, enc := .ulaw, big := false, ch := 1, sr := 8000,
                 fmtWord := 0x040010, frames := 10, lastOp := .r }
def wO0 : Oracle := fun _ _ => {}

def reqItems (h : H) (frameCall : Bool) (n : Int) : Int := if frameCall then n * h.ch else n

theorem calls_terminate_seek (o : Oracle) (h : H) (hist : Hist) (f : Int) :
    (Faults.defaultSeek o h hist f).2.2.length ≤ hist.length + 1 :=
  defaultSeek_cases (P := fun r => r.2.2.length ≤ hist.length + 1) o h hist f (fun _ => by simp) fun _ _ => by simp

theorem defaultSeek_keeps (o : Oracle) (h : H) (hist : Hist) (f : Int) :
    (Faults.defaultSeek o h hist f).2.1.rpos = h.rpos ∧ (Faults.defaultSeek o h hist f).2.1.wpos = h.wpos ∧
    (Faults.defaultSeek o h hist f).2.1.ch = h.ch ∧ (Faults.defaultSeek o h hist f).2.1.frames = h.frames ∧
    (Faults.defaultSeek o h hist f).2.1.enc = h.enc :=
  defaultSeek_cases (P := fun r => r.2.1.rpos = h.rpos ∧ r.2.1.wpos = h.wpos ∧ r.2.1.ch = h.ch ∧ r.2.1.frames = h.frames ∧ r.2.1.enc = h.enc)
    o h hist f (fun _ => ⟨rfl, rfl, rfl, rfl, rfl⟩) fun _ _ => ⟨rfl, rfl, rfl, rfl, rfl⟩

theorem defaultSeek_fails_iff (o : Oracle) (h : H) (hist : Hist) (f : Int) (hg : ¬ (h.bw = 0 ∨ h.dataoffset < 0)) (hf : 0 ≤ f) :
    (Faults.defaultSeek o h hist f).1 < 0 ↔ (o hist (.seek (h.dataoffset + ↑h.bw * f) 0)).n ≠ h.dataoffset + ↑h.bw * f := by
  rw [defaultSeek_eq, if_neg hg]
  split <;> rename_i hn
  · exact ⟨fun _ => hn, fun _ => by simp⟩
  · exact ⟨fun hlt => absurd hlt (Int.not_lt.mpr hf), fun hne => absurd hne hn⟩

/-! calls_terminate.
  Every function of `Sf.Faults` is a total definition accepted by Lean's termination checker WITHOUT fuel and for
  every oracle (`readLoop`, `writeLoop`: measure `len`; a round that does not break transferred `≥ bufferlen ≥ 1`
  items).  Covered: all pcm/float/double/ulaw/alaw read and write loops, the 16 wrappers, sf_seek, psf_default_seek,
  au/wav header writers, wav tailer, close.  The theorems make the bound explicit, whatever the I/O layer answers: a read call
  (`stepRead`, wrapper included) makes at most `1 + requested items` callbacks, the codec's write loop (`writeTail`) at most
  `requested items`. -/

theorem readTail_hist_le (o : Oracle) (h : H) (hist : Hist) (ty : Ty) (fc : Bool) (len : Int) :
    (readTail o h hist ty fc len).hist.length ≤ hist.length + len.toNat := by
  unfold readTail
  exact readLoop_hist_le o _ _ _ _ _ _

theorem readTail_hist_extends (o : Oracle) (h : H) (hist : Hist) (ty : Ty) (fc : Bool) (len : Int) :
    ∃ rest, (readTail o h hist ty fc len).hist = rest ++ hist := by
  unfold readTail
  exact readLoop_hist_extends o _ _ _ _ _ _

/-- the ways through `readCore`: no seek, or — stated together over the seek's result `s` — the seek failed (return 0) or the codec
    runs in the state the seek left -/
theorem readCore_cases {P : Res → Prop} (o : Oracle) (h : H) (hist : Hist) (ty : Ty) (fc : Bool) (len : Int)
    (direct : h.lastOp = .r → P (readTail o h hist ty fc len))
    (seek : ∀ s, s = Faults.defaultSeek o h hist h.rpos →
      P ⟨s.2.1, s.2.2, { ret := 0, err := s.2.1.error }⟩ ∧ P (readTail o s.2.1 s.2.2 ty fc len)) :
    P (readCore o h hist ty fc len) := by
  unfold readCore
  by_cases hr : h.lastOp = .r
  · simpa [hr] using direct hr
  · simp only [bne_iff_ne, ne_eq, hr, not_false_eq_true, if_true]
    split
    · exact (seek _ rfl).1
    · exact (seek _ rfl).2

theorem readCore_hist_le (o : Oracle) (h : H) (hist : Hist) (ty : Ty) (fc : Bool) (len : Int) :
    (readCore o h hist ty fc len).hist.length ≤ hist.length + 1 + len.toNat := by
  refine readCore_cases (P := fun r => r.hist.length ≤ hist.length + 1 + len.toNat) o h hist ty fc len (fun _ => ?_) fun s e => ?_
  · have := readTail_hist_le o h hist ty fc len
    omega
  · have hs : s.2.2.length ≤ hist.length + 1 := e ▸ calls_terminate_seek o h hist h.rpos
    have := readTail_hist_le o s.2.1 s.2.2 ty fc len
    exact ⟨Nat.le_trans hs (Nat.le_add_right _ _), by omega⟩

theorem readGuard_none {h : H} {fc : Bool} {n : Int} (hg : readGuard h fc n = none) : 0 ≤ n ∧ h.rpos < h.frames := by
  unfold readGuard at hg
  split at hg
  · simp at hg
  · split at hg
    · simp at hg
    · split at hg
      · simp at hg
      · split at hg
        · simp at hg
        · omega

theorem calls_terminate (o : Oracle) (h : H) (hist : Hist) (ty : Ty) (fc : Bool) (n : Int) :
    (Faults.stepRead o h hist ty fc n).hist.length ≤ hist.length + 1 + (reqItems h fc n).toNat := by
  unfold Faults.stepRead reqItems
  split
  · exact Nat.le_trans (Nat.le_add_right _ 1) (Nat.le_add_right _ _)
  · split
    · exact Nat.le_trans (Nat.le_add_right _ 1) (Nat.le_add_right _ _)
    · exact readCore_hist_le o _ hist ty fc _

/-- the same bound for the codec's write loop, `writeTail`.  The wrapper around it (`stepWrite`: a seek, and header rewrites through
    `writeHeader`) makes further callbacks; no theorem here counts those. -/
theorem calls_terminate_write (o : Oracle) (h : H) (hist : Hist) (ty : Ty) (fc : Bool) (len : Int) (data : List Int) :
    (writeTail o h hist ty fc len data).hist.length ≤ hist.length + len.toNat := by
  unfold writeTail
  exact writeLoop_hist_le o _ _ _ _ _ _ _

example : (Faults.stepRead wO0 wH0 [] .s16 false 4).hist.length ≤ ([] : Hist).length + 1 + (reqItems wH0 false 4).toNat :=
  calls_terminate _ _ _ _ _ _

theorem wholeFrames_ret_range (c len : Int) (ch : Nat) (op : Mode) (fc : Bool) (hch : 0 < ch) (hc : 0 ≤ c) (hcl : c ≤ len) :
    0 ≤ (if fc then (wholeFrames c ch op).1 / ch else (wholeFrames c ch op).1) ∧
    (if fc then (wholeFrames c ch op).1 / ch else (wholeFrames c ch op).1) ≤ (if fc then len / ch else len) := by
  have hchz : (0 : Int) < (ch : Int) := by exact_mod_cast hch
  obtain ⟨nonneg, le, -, -, -⟩ := wholeFrames_spec c ch op hch hc
  cases fc
  · simp only [Bool.false_eq_true, if_false]; omega
  · simp only [if_true]
    exact ⟨Int.ediv_nonneg nonneg (by omega), Int.ediv_le_ediv hchz (by omega)⟩

/-- the count after the end clamp of sf_read_* -/
def clampCount (h : H) (c : Int) : Int := if c ≤ (h.frames - h.rpos) * h.ch then c else (h.frames - h.rpos) * h.ch

theorem readTail_ret_eq (o : Oracle) (h : H) (hist : Hist) (ty : Ty) (fc : Bool) (len : Int) :
    (readTail o h hist ty fc len).out.ret =
      (if fc then (wholeFrames (clampCount h (readLoop o h.nb (stageLen h.enc ty false) len.toNat hist [] 0).2.1) h.ch .r).1 / h.ch
       else (wholeFrames (clampCount h (readLoop o h.nb (stageLen h.enc ty false) len.toNat hist [] 0).2.1) h.ch .r).1) := by
  unfold readTail clampCount
  simp only [apply_ite Prod.fst]

theorem readTail_ret_range (o : Oracle) (hc : o.Contract) (h : H) (hist : Hist) (ty : Ty) (fc : Bool) (len : Int)
    (hch : 0 < h.ch) (hpos : h.rpos < h.frames) (hlen : 0 ≤ len) :
    0 ≤ (readTail o h hist ty fc len).out.ret ∧
    (readTail o h hist ty fc len).out.ret ≤ (if fc then len / h.ch else len) := by
  have hl := readLoop_total_le o hc h.nb (stageLen h.enc ty false) len.toNat hist [] 0
  rw [readTail_ret_eq]
  generalize (readLoop o h.nb (stageLen h.enc ty false) len.toNat hist [] 0).2.1 = c at hl
  have hfr : 0 ≤ (h.frames - h.rpos) * (h.ch : Int) := Int.mul_nonneg (by omega) (by omega)
  have hcc : 0 ≤ clampCount h c ∧ clampCount h c ≤ len := by
    unfold clampCount; omega
  exact wholeFrames_ret_range _ len h.ch .r fc hch hcc.1 hcc.2

theorem readCore_ret_range (o : Oracle) (hc : o.Contract) (h : H) (hist : Hist) (ty : Ty) (fc : Bool) (len : Int)
    (hch : 0 < h.ch) (hpos : h.rpos < h.frames) (hlen : 0 ≤ len) :
    0 ≤ (readCore o h hist ty fc len).out.ret ∧ (readCore o h hist ty fc len).out.ret ≤ (if fc then len / h.ch else len) := by
  refine readCore_cases (P := fun r => 0 ≤ r.out.ret ∧ r.out.ret ≤ (if fc then len / h.ch else len)) o h hist ty fc len
    (fun _ => readTail_ret_range o hc h hist ty fc len hch hpos hlen) fun s e => ⟨⟨Int.le_refl 0, ?_⟩, ?_⟩
  · cases fc
    · exact hlen
    · exact Int.ediv_nonneg hlen (Int.natCast_nonneg _)
  · obtain ⟨krpos, -, kch, kframes, -⟩ := e ▸ defaultSeek_keeps o h hist h.rpos
    have := readTail_ret_range o hc s.2.1 s.2.2 ty fc len
      (by rw [kch]; exact hch) (by rw [krpos, kframes]; exact hpos) hlen
    rw [kch] at this
    exact this

/-- sf_read_* / sf_readf_*: under every oracle inside the callback contract the returned count is within [0, requested] -/
theorem returns_in_range (o : Oracle) (hc : o.Contract) (h : H) (hist : Hist) (ty : Ty) (fc : Bool) (n : Int) (hch : 0 < h.ch) :
    0 ≤ (Faults.stepRead o h hist ty fc n).out.ret ∧ (Faults.stepRead o h hist ty fc n).out.ret ≤ max n 0 := by
  have hchz : (0 : Int) < (h.ch : Int) := by exact_mod_cast hch
  unfold Faults.stepRead
  split
  · simp; omega
  · split
    · simp; omega
    · rename_i hg
      have hn := readGuard_none hg
      have := readCore_ret_range o hc { h with error := 0 } hist ty fc (if fc = true then n * ↑h.ch else n) hch hn.2
        (by cases fc <;> simp <;> first | omega | exact Int.mul_nonneg hn.1 (by omega))
      cases fc
      · simp at this ⊢; omega
      · simp only [if_true] at this ⊢
        rw [Int.mul_ediv_cancel _ (by omega)] at this
        omega

example : 0 ≤ (Faults.stepRead wO0 wH0 [] .s16 false 4).out.ret ∧ (Faults.stepRead wO0 wH0 [] .s16 false 4).out.ret ≤ max 4 0 :=
  returns_in_range wO0 (by intro hist r; cases r <;> simp [Ans.ok, wO0]) wH0 [] .s16 false 4 (by decide)

theorem writeTail_ret_eq (o : Oracle) (h : H) (hist : Hist) (ty : Ty) (fc : Bool) (len : Int) (data : List Int) :
    (writeTail o h hist ty fc len data).out.ret =
      (if fc then (wholeFrames (writeLoop o h.nb (stageLen h.enc ty true) (h.enc.encodeAll h.conv ty (data.take len.toNat)) len.toNat hist 0 0).1 h.ch .w).1 / h.ch
       else (wholeFrames (writeLoop o h.nb (stageLen h.enc ty true) (h.enc.encodeAll h.conv ty (data.take len.toNat)) len.toNat hist 0 0).1 h.ch .w).1) := by
  unfold writeTail
  rfl

/-- the write side, for the codec call `writeTail` (its count is what sf_write_* / sf_writef_* hand back when their own guards and
    header rewrites pass): within [0, requested] -/
theorem returns_in_range_write (o : Oracle) (hc : o.Contract) (h : H) (hist : Hist) (ty : Ty) (fc : Bool) (len : Int) (data : List Int)
    (hch : 0 < h.ch) (hlen : 0 ≤ len) :
    0 ≤ (writeTail o h hist ty fc len data).out.ret ∧
    (writeTail o h hist ty fc len data).out.ret ≤ (if fc then len / h.ch else len) := by
  rw [writeTail_ret_eq]
  have hl := writeLoop_total_le o hc h.nb (stageLen h.enc ty true)
    (h.enc.encodeAll h.conv ty (data.take len.toNat)) len.toNat hist 0 0
  generalize (writeLoop o h.nb (stageLen h.enc ty true) (h.enc.encodeAll h.conv ty (data.take len.toNat)) len.toNat hist 0 0).1 = c at hl ⊢
  exact wholeFrames_ret_range c len h.ch .w fc hch (Int.natCast_nonneg c) (by omega)

theorem readTail_rpos (o : Oracle) (h : H) (hist : Hist) (ty : Ty) (fc : Bool) (len : Int) (hch : 0 < h.ch) :
    (readTail o h hist ty fc len).h.rpos =
      h.rpos + clampCount h (readLoop o h.nb (stageLen h.enc ty false) len.toNat hist [] 0).2.1 / h.ch := by
  have hchz : (h.ch : Int) ≠ 0 := by omega
  unfold readTail clampCount
  simp only []
  split
  · rfl
  · rw [Int.mul_ediv_cancel _ hchz]; omega

/-- FULL STATEMENT, for EVERY oracle (inside or outside the callback contract, persistent or single-shot faults): an item call
    returns a whole number of frames and the read position advances by exactly that many frames; a frame call advances the
    position by exactly the frames it returns. -/
theorem position_matches_count (o : Oracle) (h : H) (hist : Hist) (ty : Ty) (len : Int) (hch : 0 < h.ch) (hpos : h.rpos ≤ h.frames) :
    (readTail o h hist ty false len).out.ret % h.ch = 0 ∧
    (readTail o h hist ty false len).h.rpos = h.rpos + (readTail o h hist ty false len).out.ret / h.ch ∧
    (readTail o h hist ty true len).h.rpos = h.rpos + (readTail o h hist ty true len).out.ret := by
  have hchz : (0 : Int) < (h.ch : Int) := by exact_mod_cast hch
  rw [readTail_rpos o h hist ty false len hch, readTail_rpos o h hist ty true len hch, readTail_ret_eq, readTail_ret_eq]
  generalize (readLoop o h.nb (stageLen h.enc ty false) len.toNat hist [] 0).2.1 = c
  have hcc : 0 ≤ clampCount h c := by
    unfold clampCount; split
    · exact Int.natCast_nonneg c
    · exact Int.mul_nonneg (by omega) (by omega)
  obtain ⟨-, -, whole, sameFrames, -⟩ := wholeFrames_spec (clampCount h c) h.ch .r hch hcc
  simp only [Bool.false_eq_true, if_false, if_true]
  exact ⟨whole, by rw [sameFrames], by rw [sameFrames]⟩

/-- the same statement as a proposition (what `position_matches_count` proves) -/
def position_matches_count_full : Prop :=
  ∀ (o : Oracle) (h : H) (hist : Hist) (ty : Ty) (len : Int), 0 < h.ch → h.rpos ≤ h.frames →
    (readTail o h hist ty false len).out.ret % h.ch = 0 ∧
    (readTail o h hist ty false len).h.rpos = h.rpos + (readTail o h hist ty false len).out.ret / h.ch

theorem position_matches_count_full_holds : position_matches_count_full :=
  fun o h hist ty len hch hpos => ⟨(position_matches_count o h hist ty len hch hpos).1, (position_matches_count o h hist ty len hch hpos).2.1⟩

/-- the class of KF-C15-PARTIAL-FRAME (repaired in /repo by 230abc1): the codec's item count (after the end clamp) is not a whole number of frames
    (a callback transferred a byte count that ends inside a frame) -/
def KF.partialFrame (o : Oracle) (h : H) (hist : Hist) (ty : Ty) (len : Int) : Prop :=
  clampCount h (readLoop o h.nb (stageLen h.enc ty false) len.toNat hist [] 0).2.1 % h.ch ≠ 0

instance (o : Oracle) (h : H) (hist : Hist) (ty : Ty) (len : Int) : Decidable (KF.partialFrame o h hist ty len) := by
  unfold KF.partialFrame; exact inferInstance

/-- exactly in that class psf->last_op is cleared, so that the NEXT call starts with psf->seek (psf, SFM_READ, read_current) -/
theorem partial_frame_clears_last_op (o : Oracle) (h : H) (hist : Hist) (ty : Ty) (fc : Bool) (len : Int) (hch : 0 < h.ch) :
    ((readTail o h hist ty fc len).h.lastOp = .r ↔ ¬ KF.partialFrame o h hist ty len) ∧
    (KF.partialFrame o h hist ty len → (readTail o h hist ty fc len).h.lastOp = .rw) := by
  unfold KF.partialFrame
  have hl : (readTail o h hist ty fc len).h.lastOp =
      (wholeFrames (clampCount h (readLoop o h.nb (stageLen h.enc ty false) len.toNat hist [] 0).2.1) h.ch .r).2 := by
    unfold readTail clampCount
    simp only []
    split <;> rfl
  rw [hl, wholeFrames_lastOp]
  generalize clampCount h (readLoop o h.nb (stageLen h.enc ty false) len.toNat hist [] 0).2.1 = c
  by_cases h1 : c % (h.ch : Int) = 0
  · simp [h1]
  · have h2 : ¬ h.ch ≤ 1 := by
      intro h2
      have : h.ch = 1 := by omega
      rw [this] at h1; simp at h1
    simp [h1, h2]

/-- … and the call after a partial frame re-seeks: its first callback is the seek to `dataoffset + blockwidth * read_current`
    (`readCore` is what sf_read_* does after its guards) -/
theorem next_read_seeks_after_partial_frame (o : Oracle) (h : H) (hist : Hist) (ty ty2 : Ty) (fc fc2 : Bool) (len len2 : Int) (hch : 0 < h.ch)
    (hk : KF.partialFrame o h hist ty len) (hg : ¬ ((readTail o h hist ty fc len).h.bw = 0 ∨ (readTail o h hist ty fc len).h.dataoffset < 0)) :
    ∃ rest, (readCore o (readTail o h hist ty fc len).h (readTail o h hist ty fc len).hist ty2 fc2 len2).hist =
      rest ++ [(Req.seek ((readTail o h hist ty fc len).h.dataoffset + (readTail o h hist ty fc len).h.bw * (readTail o h hist ty fc len).h.rpos) 0,
                o (readTail o h hist ty fc len).hist (Req.seek ((readTail o h hist ty fc len).h.dataoffset + (readTail o h hist ty fc len).h.bw * (readTail o h hist ty fc len).h.rpos) 0))]
              ++ (readTail o h hist ty fc len).hist := by
  have hl := (partial_frame_clears_last_op o h hist ty fc len hch).2 hk
  generalize (readTail o h hist ty fc len).h = h1 at hl hg ⊢
  generalize (readTail o h hist ty fc len).hist = hist1
  have hds : (Faults.defaultSeek o h1 hist1 h1.rpos).2.2 =
      (Req.seek (h1.dataoffset + h1.bw * h1.rpos) 0, o hist1 (Req.seek (h1.dataoffset + h1.bw * h1.rpos) 0)) :: hist1 :=
    defaultSeek_cases (P := fun r => r.2.2 = _ :: hist1) o h1 hist1 h1.rpos (fun g => absurd g hg) fun _ _ => rfl
  refine readCore_cases (P := fun r => ∃ rest, r.hist = rest ++ [_] ++ hist1) o h1 hist1 ty2 fc2 len2 ?_ fun s e => ?_
  · intro hr
    rw [hl] at hr
    cases hr
  · rw [← e] at hds
    obtain ⟨rest, hr⟩ := readTail_hist_extends o s.2.1 s.2.2 ty2 fc2 len2
    exact ⟨⟨[], hds⟩, rest, by rw [hr, hds]; simp⟩

/-- witness: 16-bit stereo, 4 items asked, the read callback delivers 7 of the 8 bytes (inside the contract) -/
def wH : H := { store := 0, mode := .r, container := .raw, enc := .pcm ⟨16, false, false⟩, big := false, ch := 2, sr := 8000,
                fmtWord := 0x10040002, frames := 10, lastOp := .r }
def wO : Oracle := fun _ r => match r with
  | .read _ => { n := 7, data := [1, 0, 2, 0, 3, 0, 4] }
  | _ => {}

theorem wO_loop : readLoop wO wH.nb (stageLen wH.enc .s16 false) (4 : Int).toNat [] [] 0 = ([1, 0, 2, 0, 3, 0], 3, [(.read 8, wO [] (.read 8))]) := by
  have hnb : wH.nb = 2 := by decide
  have hst : stageLen wH.enc .s16 false = 0 := by decide
  have h4 : (4 : Int).toNat = 4 := by decide
  rw [hnb, hst, h4, readLoop]
  simp [roundLen, fread, call, wO]

theorem witness_ret_old_rule : (readTailOld wO wH [] .s16 false 4).out.ret = 3 ∧ (readTailOld wO wH [] .s16 false 4).h.rpos = 1 ∧
    (readTailOld wO wH [] .s16 false 4).h.lastOp = .r := by
  unfold readTailOld
  rw [wO_loop]
  simp [wH]

/-- the same call on the repaired wrapper: 2 items (one frame), position 1, last_op cleared -/
theorem witness_ret : (readTail wO wH [] .s16 false 4).out.ret = 2 ∧ (readTail wO wH [] .s16 false 4).h.rpos = 1 ∧
    (readTail wO wH [] .s16 false 4).h.lastOp = .rw := by
  unfold readTail
  rw [wO_loop]
  simp [wH, wholeFrames]

/-- the code before the repair violated the full statement (DESIGN §8 #14) -/
theorem position_matches_count_fails_old_rule :
    ¬ (∀ (o : Oracle) (h : H) (hist : Hist) (ty : Ty) (len : Int), 0 < h.ch → h.rpos < h.frames → 0 ≤ len → len % h.ch = 0 →
        (∀ n, Ans.ok (.read n) (o hist (.read n)) ∨ n ≠ 8) →
        (readTailOld o h hist ty false len).out.ret % h.ch = 0) := by
  intro hall
  have := hall wO wH [] .s16 4 (by decide) (by decide) (by decide) (by decide)
    (by intro n; by_cases hn : n = 8
        · left; subst hn; simp [Ans.ok, wO]
        · right; exact hn)
  rw [witness_ret_old_rule.1] at this
  revert this; decide

/-- the old wrapper: outside the class the conclusion held, inside the class it failed — the class was exact -/
theorem position_matches_count_exact_old_rule (o : Oracle) (h : H) (hist : Hist) (ty : Ty) (len : Int) :
    (readTailOld o h hist ty false len).out.ret % h.ch = 0 ↔ ¬ KF.partialFrame o h hist ty len := by
  unfold KF.partialFrame readTailOld clampCount
  simp only [Bool.false_eq_true, if_false]
  split <;> simp

/-- on whole-frame counts the repaired wrapper IS the old one: the repair changes nothing outside the class -/
theorem readTail_eq_old_outside_class (o : Oracle) (h : H) (hist : Hist) (ty : Ty) (fc : Bool) (len : Int)
    (hk : ¬ KF.partialFrame o h hist ty len) : readTail o h hist ty fc len = readTailOld o h hist ty fc len := by
  unfold KF.partialFrame clampCount at hk
  unfold readTail readTailOld wholeFrames
  simp only []
  split at hk <;> rename_i hcl
  · simp only [hcl, if_true]
    have : (h.ch ≤ 1 ∨ ((readLoop o h.nb (stageLen h.enc ty false) len.toNat hist [] 0).2.1 : Int) % (h.ch : Int) = 0) := Or.inr (by simpa using hk)
    simp only [this, if_true]
  · simp only [hcl, if_false]
    have : (h.ch ≤ 1 ∨ ((h.frames - h.rpos) * (h.ch : Int)) % (h.ch : Int) = 0) := Or.inr (Int.mul_emod_left _ _)
    simp only [this, if_true]

example : KF.partialFrame wO wH [] .s16 4 := by
  unfold KF.partialFrame clampCount
  rw [wO_loop]; decide

example : ¬ KF.partialFrame (fun _ _ => {}) wH [] .s16 4 := by
  unfold KF.partialFrame clampCount
  have : readLoop (fun _ _ => {}) wH.nb (stageLen wH.enc .s16 false) (4 : Int).toNat [] [] 0 = ([], 0, [(.read 8, {})]) := by
    have hnb : wH.nb = 2 := by decide
    have hst : stageLen wH.enc .s16 false = 0 := by decide
    have h4 : (4 : Int).toNat = 4 := by decide
    rw [hnb, hst, h4, readLoop]
    simp [roundLen, fread, call]
  rw [this]; decide

example : (readTail wO wH [] .s16 false 4).out.ret % wH.ch = 0 := (position_matches_count wO wH [] .s16 4 (by decide) (by decide)).1

/-- write side, FULL STATEMENT, every oracle: an item call reports whole frames, the write position advances by exactly that many
    frames, and a frame call advances it by exactly the frames it returns -/
theorem position_matches_count_write (o : Oracle) (h : H) (hist : Hist) (ty : Ty) (len : Int) (data : List Int) (hch : 0 < h.ch) :
    (writeTail o h hist ty false len data).out.ret % h.ch = 0 ∧
    (writeTail o h hist ty false len data).h.wpos = h.wpos + (writeTail o h hist ty false len data).out.ret / h.ch ∧
    (writeTail o h hist ty true len data).h.wpos = h.wpos + (writeTail o h hist ty true len data).out.ret := by
  rw [writeTail_ret_eq, writeTail_ret_eq]
  have hp : ∀ fc, (writeTail o h hist ty fc len data).h.wpos =
      h.wpos + ((writeLoop o h.nb (stageLen h.enc ty true) (h.enc.encodeAll h.conv ty (data.take len.toNat)) len.toNat hist 0 0).1 : Int) / h.ch := by
    intro fc; unfold writeTail; rfl
  rw [hp, hp]
  generalize (writeLoop o h.nb (stageLen h.enc ty true) (h.enc.encodeAll h.conv ty (data.take len.toNat)) len.toNat hist 0 0).1 = c
  obtain ⟨-, -, whole, sameFrames, -⟩ := wholeFrames_spec (c : Int) h.ch .w hch (Int.natCast_nonneg c)
  simp only [Bool.false_eq_true, if_false, if_true]
  exact ⟨whole, by rw [sameFrames], by rw [sameFrames]⟩

/-- the old write wrapper returned the codec's count as it was: a 3-item answer for 2 channels went to the caller -/
theorem write_partial_frame_old_rule :
    ∃ (o : Oracle) (h : H) (data : List Int), 0 < h.ch ∧ (writeTailOld o h [] .s16 false 4 data).out.ret % h.ch ≠ 0 := by
  refine ⟨fun _ r => match r with | .write _ => { n := 7 } | _ => {}, { wH with mode := .w, lastOp := .w }, [1, 2, 3, 4], by decide, ?_⟩
  unfold writeTailOld
  have hnb : ({ wH with mode := .w, lastOp := .w } : H).nb = 2 := by decide
  have hst : stageLen ({ wH with mode := .w, lastOp := .w } : H).enc .s16 true = 0 := by decide
  have h4 : (4 : Int).toNat = 4 := by decide
  simp only [hnb, hst, h4]
  rw [writeLoop]
  simp [roundLen, fwrite, call, seekFailed, wH]

/-- sf_seek's promise about one outcome: a return of −1 comes with both positions as they were in `h` -/
def Keeps (h : H) (r : Res) : Prop := r.out.ret = -1 → r.h.rpos = h.rpos ∧ r.h.wpos = h.wpos

/-- when sf_seek returns −1 both positions are what they were (repaired by 9b1ea83).  That psf_default_seek answers −1 exactly when its
    I/O request is not answered with the requested offset is `defaultSeek_fails_iff`. -/
theorem seek_failure_keeps_position (o : Oracle) (h : H) (hist : Hist) (off : Int) (whence : Int) :
    (Faults.stepSeek o h hist off whence).out.ret = -1 →
    (Faults.stepSeek o h hist off whence).h.rpos = h.rpos ∧ (Faults.stepSeek o h hist off whence).h.wpos = h.wpos := by
  show Keeps h _
  have fail : ∀ e, Keeps h ⟨{ h with error := e }, hist, { ret := -1, err := e }⟩ := fun _ _ => ⟨rfl, rfl⟩
  unfold Faults.stepSeek
  simp only []
  refine iteInduction (fun _ => fail _) fun _ => ?_
  generalize (if (whence == 0 ∨ whence == 0x10 ∨ whence == 0x20 ∨ whence == 0x30) then
    (Except.ok (Sum.inl off) : Except Int (Sum Int Int)) else _) = r
  rcases r with e | target | v
  · exact fail e
  · -- a target reaches psf->seek only through the range checks, so a seek that succeeds does not return −1
    refine iteInduction (fun _ => fail _) fun hw => iteInduction (fun _ => fail _) fun hr => iteInduction (fun _ => ?_) fun _ => ?_
    · intro _
      obtain ⟨krpos, kwpos, -⟩ := defaultSeek_keeps o { h with error := 0 } hist target
      exact ⟨krpos, kwpos⟩
    · intro hret
      have hret : target = -1 := hret
      exfalso
      cases hm : h.mode <;> simp [hm, hret] at hw hr
  · exact fun _ => ⟨rfl, rfl⟩

/-- one callback of the harness's memory store, whatever the fault: bytes below the current position are never changed,
    and a failing seek does not move the position -/
theorem accepted_prefix_preserved (f : Fault) (m : Mem) (r : Req) (hp : m.pos ≤ m.bytes.length) :
    ((memStep f m r).2.bytes.take m.pos = m.bytes.take m.pos) ∧
    (∀ off wh, r = .seek off wh → (memStep f m r).1.n = -1 → (memStep f m r).2.pos = m.pos) := by
  constructor
  · rcases memStep_bytes f m r with h | ⟨d, k, -, h⟩
    · rw [h]
    · rw [h, writeAt_take _ _ _ hp]
  · intro off wh hr
    subst hr
    simp only [memStep]
    by_cases h1 : (f.now (m.calls + 1) = true ∧ ((f.kind == 3) = true ∨ (f.kind == 8) = true))
    · simp only [h1, and_self, if_true]; intro _; trivial
    · simp only [h1, if_false]
      generalize (if (wh == 0) = true then off else if (wh == 1) = true then (m.pos : Int) + off else (m.bytes.length : Int) + off) = np
      by_cases h2 : (wh > 2 ∨ np < 0)
      · simp [h2]
      · simp only [h2, if_false]
        intro hn
        simp only [not_or, Int.not_lt] at h2
        omega

example : (writeTail wO0 wH0 [] .s16 false 4 [1, 2, 3, 4]).hist.length ≤ ([] : Hist).length + (4 : Int).toNat :=
  calls_terminate_write _ _ _ _ _ _ _
example : 0 ≤ (writeTail wO0 wH0 [] .s16 false 4 [1, 2, 3, 4]).out.ret ∧ (writeTail wO0 wH0 [] .s16 false 4 [1, 2, 3, 4]).out.ret ≤ 4 :=
  returns_in_range_write wO0 (by intro hist r; cases r <;> simp [Ans.ok, wO0]) wH0 [] .s16 false 4 _ (by decide) (by decide)
example : (writeTail wO0 wH0 [] .s16 false 4 [1, 2, 3, 4]).h.wpos = wH0.wpos + (writeTail wO0 wH0 [] .s16 false 4 [1, 2, 3, 4]).out.ret / wH0.ch :=
  (position_matches_count_write _ _ _ _ _ _ (by decide)).2.1
/-- a seek whose I/O request is answered 0 instead of the offset fails: the hypothesis of `seek_failure_keeps_position` is satisfiable -/
example : (Faults.stepSeek wO0 wH0 [] 3 0).out.ret = -1 := by
  simp [Faults.stepSeek, Faults.defaultSeek, ioSeek, call, wO0, wH0, H.bw, Enc.nbytes, E_SEEK_FAILED]
example : ((memStep {} { bytes := [1, 2, 3], pos := 2 } (.write [9, 9])).2.bytes.take 2 = [1, 2]) :=
  (accepted_prefix_preserved {} { bytes := [1, 2, 3], pos := 2 } (.write [9, 9]) (by decide)).1

end Sf.C15
