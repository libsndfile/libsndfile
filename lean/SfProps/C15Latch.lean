/-
  C15 — "data the I/O layer accepted before the failure is not corrupted by later calls": the seek latch.

  KF-C15-HEADER-POSITION (repaired in /repo by 9667294).  Every header writer is `psf_fseek (psf, 0, SEEK_SET)` … build the
  header … `psf_fwrite (header)` … `psf_fseek (psf, current, SEEK_SET)`, with both seek results ignored.  psf_fseek records a
  failure (`Sf.Faults.seekFailed`, a function of the callback history) and psf_fwrite makes no callback while the latch is set;
  `fwriteOld` is the rule before the repair.  The theorems are over the memory store of the harness under ANY fault (kind,
  point, persistent or single-shot).
-/
import SfProofs.CodecWriter
import SfProps.C15
namespace Sf.C15
open Sf Sf.Faults

def bytesAfter (f : Fault) (m0 : Mem) (hist : Hist) : List Byte := (memAfter f m0 hist).bytes

theorem memAfter_cons (f : Fault) (m0 : Mem) (r : Req) (a : Ans) (hist : Hist) :
    memAfter f m0 ((r, a) :: hist) = (memStep f (memAfter f m0 hist) r).2 := rfl

theorem memStep_read_bytes (f : Fault) (m : Mem) (n : Nat) : (memStep f m (.read n)).2.bytes = m.bytes :=
  memStep_bytes_eq (fun _ h => by cases h)

theorem ioTell_bytes (f : Fault) (m0 : Mem) (hist : Hist) :
    bytesAfter f m0 (ioTell (memOracle f m0) hist).2 = bytesAfter f m0 hist := by
  simp only [bytesAfter, ioTell, call, memAfter_cons]; exact memStep_bytes_eq (fun _ h => by cases h)
theorem ioLen_bytes (f : Fault) (m0 : Mem) (hist : Hist) :
    bytesAfter f m0 (ioLen (memOracle f m0) hist).2 = bytesAfter f m0 hist := by
  simp only [bytesAfter, ioLen, call, memAfter_cons]; exact memStep_bytes_eq (fun _ h => by cases h)
theorem ioSeek_bytes (f : Fault) (m0 : Mem) (hist : Hist) (off : Int) (wh : Nat) :
    bytesAfter f m0 (ioSeek (memOracle f m0) hist off wh).2 = bytesAfter f m0 hist := by
  simp only [bytesAfter, ioSeek, call, memAfter_cons]; exact memStep_bytes_eq (fun _ h => by cases h)

theorem memStep_seek0 (f : Fault) (m : Mem) :
    ((memStep f m (.seek 0 0)).1.n = -1) ∨ ((memStep f m (.seek 0 0)).1.n = 0 ∧ (memStep f m (.seek 0 0)).2.pos = 0) := by
  simp only [memStep]
  split
  · left; rfl
  · right; simp

theorem memStep_write_at0 (f : Fault) (m : Mem) (d : List Byte) (L : Nat) (hp : m.pos = 0) (hd : d.length ≤ L) :
    (memStep f m (.write d)).2.bytes.drop L = m.bytes.drop L := by
  rcases memStep_bytes f m (.write d) with h | ⟨d', k, e, h⟩
  · rw [h]
  · cases e
    rw [h, hp]
    exact writeAt_zero_drop _ _ _ (Nat.le_trans (by simp [List.length_take]; exact Nat.min_le_right _ _) hd)

/-- a psf_fseek whose callback answers with a negative value sets the latch, any other answer clears it (every oracle) -/
theorem failed_seek_latches (o : Oracle) (hist : Hist) (off : Int) (wh : Nat) :
    seekFailed (ioSeek o hist off wh).2 = true ↔ (ioSeek o hist off wh).1 < 0 := by
  simp [ioSeek, call, seekFailed]

theorem good_seek_unlatches (o : Oracle) (hist : Hist) (off : Int) (wh : Nat) (h : 0 ≤ (ioSeek o hist off wh).1) :
    seekFailed (ioSeek o hist off wh).2 = false := by
  have := failed_seek_latches o hist off wh
  cases hs : seekFailed (ioSeek o hist off wh).2
  · rfl
  · have := this.1 hs; omega

/-- nothing but a psf_fseek moves the latch: tell, length, read and write callbacks leave it as it is -/
theorem latch_only_moved_by_seeks (o : Oracle) (hist : Hist) (w n : Nat) (d : List Byte) :
    seekFailed (ioTell o hist).2 = seekFailed hist ∧ seekFailed (ioLen o hist).2 = seekFailed hist ∧
    seekFailed (fread o hist w n).2.2 = seekFailed hist ∧ seekFailed (fwrite o hist w n d).2 = seekFailed hist := by
  refine ⟨rfl, rfl, ?_, fwrite_keeps_latch o hist w n d⟩
  unfold fread; split <;> rfl

/-- FULL STATEMENT (every oracle, every sample-granular codec, every caller type): a write call whose codec loop starts with the
    latch set -- the seek back from a header rewrite failed, or sf_seek's own seek -- makes NO callback and reports 0 items:
    the audio is not written at the wrong place.  (Before the repair it was written wherever the file position was.) -/
theorem write_refused_after_failed_seek (o : Oracle) (h : H) (hist : Hist) (ty : Ty) (fc : Bool) (len : Int) (data : List Int)
    (hl : seekFailed hist = true) :
    (writeTail o h hist ty fc len data).hist = hist ∧ (writeTail o h hist ty fc len data).out.ret = 0 ∧
    (writeTail o h hist ty fc len data).h.wpos = h.wpos := by
  have hw := writeLoop_latched o h.nb (stageLen h.enc ty true) (h.enc.encodeAll h.conv ty (data.take len.toNat)) len.toNat hist 0 0 hl
  refine ⟨?_, ?_, ?_⟩
  · unfold writeTail; exact hw.2
  · unfold writeTail
    simp only [hw.1, wholeFrames]
    cases fc <;> simp
  · unfold writeTail
    simp only [hw.1]
    simp

/-- `psf_fseek (psf, 0, SEEK_SET) ; psf_fwrite (header, len, 1)` on the store under ANY fault: no byte at or behind `len` changes
    (`L`: `len` under the name the caller has for it).
    Either the seek fails (latch: no write callback at all) or the store is at offset 0 when the header bytes arrive. -/
theorem seek0_write_contained (f : Fault) (m0 : Mem) (hist : Hist) (hdr : List Byte) {L : Nat} (hL : hdr.length = L) :
    (bytesAfter f m0 (fwrite (memOracle f m0) (ioSeek (memOracle f m0) hist 0 0).2 hdr.length 1 hdr).2).drop L
      = (bytesAfter f m0 hist).drop L := by
  subst hL
  have hs := ioSeek_bytes f m0 hist 0 0
  unfold fwrite
  split
  · rw [hs]
  · split
    · rw [hs]
    · rename_i hnl
      simp only [call, bytesAfter, memAfter_cons]
      have hm1 : memAfter f m0 (ioSeek (memOracle f m0) hist 0 0).2 = (memStep f (memAfter f m0 hist) (.seek 0 0)).2 := rfl
      have hn : ¬ ((memStep f (memAfter f m0 hist) (.seek 0 0)).1.n < 0) := by
        intro hneg
        apply hnl
        simp only [ioSeek, call, seekFailed, memOracle]
        exact decide_eq_true hneg
      rw [hm1]
      rcases memStep_seek0 f (memAfter f m0 hist) with h1 | ⟨_, h2⟩
      · exfalso; apply hn; rw [h1]; decide
      · rw [memStep_write_at0 f _ hdr hdr.length h2 (Nat.le_refl _), memStep_bytes_eq (fun _ h => by cases h)]

/-- length of the header `xxx_write_header` builds for a handle (AU: 24 bytes; WAV: by format tag, fact and PEAK chunk) -/
def headerLen (h : H) : Nat :=
  match h.container with
  | .raw => 0
  | .au => 24
  | .wav => wavHdrLen h

/-- FULL STATEMENT for the modelled header writers (au_write_header, wav_write_header; first header, SFC_UPDATE_HEADER_NOW,
    auto-update and close), the memory store under ANY fault -- any kind, any point, persistent or single-shot, seek failures
    included: a header rewrite changes no byte of the store at or behind the header length.  With `dataoffset = headerLen` these
    are exactly the audio bytes: what the I/O layer accepted is not touched by the header. -/
theorem header_write_contained (f : Fault) (m0 : Mem) (h : H) (hist : Hist) (calcLen : Bool) :
    (bytesAfter f m0 (Faults.writeHeader (memOracle f m0) h hist calcLen).2.2).drop (headerLen h) = (bytesAfter f m0 hist).drop (headerLen h) := by
  unfold Faults.writeHeader headerLen
  cases hcont : h.container
  · simp only []
  ·
    simp only []
    have hb : ∀ (hh : H) (hist1 : Hist),
        List.drop 24 (bytesAfter f m0 (fwrite (memOracle f m0) (ioSeek (memOracle f m0) hist1 0 0).2 (auHeader hh).length 1 (auHeader hh)).2)
          = List.drop 24 (bytesAfter f m0 hist1) :=
      fun hh hist1 => seek0_write_contained f m0 hist1 (auHeader hh) (auHeader_length hh)
    cases calcLen <;>
      simp only [Bool.false_eq_true, if_false, if_true, apply_ite Prod.snd, apply_ite (bytesAfter f m0),
        ioSeek_bytes, hb, ioLen_bytes, ioTell_bytes, ite_self]
  ·
    simp only []
    have hb : ∀ (hh : H) (hist1 : Hist), wavHdrLen hh = wavHdrLen h →
        List.drop (wavHdrLen h) (bytesAfter f m0 (fwrite (memOracle f m0) (ioSeek (memOracle f m0) hist1 0 0).2 (wavHeader hh).length 1 (wavHeader hh)).2)
          = List.drop (wavHdrLen h) (bytesAfter f m0 hist1) :=
      fun hh hist1 hlen => seek0_write_contained f m0 hist1 (wavHeader hh) (by rw [wavHeader_length, hlen])
    have hb' : ∀ (fl dl : Int) (hist1 : Hist), _ := fun fl dl hist1 =>
      hb { h with container := .wav, filelength := fl, datalength := dl } hist1 (wavHdrLen_congr h _ rfl rfl rfl)
    cases calcLen <;>
      simp only [Bool.false_eq_true, if_false, if_true, apply_ite Prod.snd, apply_ite (bytesAfter f m0),
        ioSeek_bytes, hb _ _ rfl, hb', ioLen_bytes, ioTell_bytes, ite_self]

/-- the rule before the repair (`fwriteOld`: psf_fwrite wrote wherever a failed seek had left the file): the store holds
    `[1,2,3,4,5,6]` and stands at offset 4, the seek to 0 fails (fault kind 3 of `memStep`: a seek is answered −1; first callback, single-shot), the 2-byte "header"
    `[9,9]` lands on offsets 4 and 5 -- bytes behind the header length change -/
theorem header_over_audio_old_rule :
    ∃ (f : Fault) (m0 : Mem) (hdr : List Byte),
      (bytesAfter f m0 (fwriteOld (memOracle f m0) (ioSeek (memOracle f m0) [] 0 0).2 hdr.length 1 hdr).2).drop hdr.length
        ≠ (bytesAfter f m0 []).drop hdr.length :=
  ⟨{ at_ := 1, kind := 3, single := true }, { bytes := [1, 2, 3, 4, 5, 6], pos := 4 }, [9, 9], by decide⟩

/-- the same schedule on the repaired psf_fwrite: no callback, nothing changes -/
example : bytesAfter { at_ := 1, kind := 3, single := true } { bytes := [1, 2, 3, 4, 5, 6], pos := 4 }
    (fwrite (memOracle { at_ := 1, kind := 3, single := true } { bytes := [1, 2, 3, 4, 5, 6], pos := 4 })
      (ioSeek (memOracle { at_ := 1, kind := 3, single := true } { bytes := [1, 2, 3, 4, 5, 6], pos := 4 }) [] 0 0).2 2 1 [9, 9]).2
    = [1, 2, 3, 4, 5, 6] := by decide

/-- the hypothesis of `write_refused_after_failed_seek` is met after any seek the I/O layer answers with −1 -/
example : seekFailed (ioSeek (fun _ _ => { n := -1 }) [] 44 0).2 = true := by decide
example : (writeTail (fun _ _ => { n := -1 }) wH0 (ioSeek (fun _ _ => { n := -1 }) [] 44 0).2 .s16 false 4 [1, 2, 3, 4]).out.ret = 0 :=
  (write_refused_after_failed_seek _ _ _ _ _ _ _ (by decide)).2.1

/-- an AU handle whose header rewrite meets a failing seek: the instance of `header_write_contained` (24 header bytes, 4 audio bytes) -/
def wHau : H := { wH0 with container := .au, enc := .pcm ⟨16, true, false⟩, big := true, mode := .w, dataoffset := 24, fmtWord := 0x030002 }
def wMau : Mem := { bytes := List.replicate 24 0 ++ [1, 2, 3, 4], pos := 28 }
example : seekFailed (ioSeek (memOracle { at_ := 2, kind := 3 } wMau) (ioTell (memOracle { at_ := 2, kind := 3 } wMau) []).2 0 0).2 = true := by decide
example : (bytesAfter { at_ := 2, kind := 3 } wMau (Faults.writeHeader (memOracle { at_ := 2, kind := 3 } wMau) wHau [] false).2.2).drop 24 = [1, 2, 3, 4] :=
  header_write_contained { at_ := 2, kind := 3 } wMau wHau [] false

end Sf.C15
