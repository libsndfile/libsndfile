-- properties: C01 C04 C06 C07
/-
  C01 / C06 / C07 for DWVW (src/dwvw.c), on the bit-level model of SfModel/Dwvw.lean, DwvwFile.lean.
  Helpers in SfProofs/Dwvw*.lean; those of the frame count at open stand here, in front of `dwvw_scan_ge`.

  * C07: the bytes of the data region depend only on the concatenated samples (`dwvw_partition…`).
  * the delta-width state stays inside [0, bit_width) (`dwvw_width_bounded`).
  * C01: decode ∘ encode is the identity on bit_width-bit samples, wrap-around deltas included (`dwvw_roundtrip…`: one
    `decodeAll` call on the codec's 32-bit values); `dwvw_short_exact` / `dwvw_int_exact` are the arithmetic of ONE caller value
    through the codec's quantisation under the side condition of the statement (the typed session is put together in
    `C07Bridge2.dwvw_session_accepted`).
  * C06: cutting a read into calls does not change what is delivered (`dwvw_read_split`, full strength since the repair
    of KF-DWVW-TAIL-CALL; the rule before the repair — SfModel/DwvwOld.lean — refutes it: `dwvw_read_split_old_rule`).
  * C04: the frame count `dwvw_init` computes at open is at least the frames written (`dwvw_scan_ge`), so an AIFF file
    (count capped by the COMM chunk) re-opens with exactly N frames (`dwvw_aiff_frames_exact`); a RAW file has no
    header and its count is an estimate F ≥ N whose first N frames are the ones written (`dwvw_raw_frames_partial`,
    the part of C04 that holds for the class of KF-RAW-DWVW-FRAMES; `dwvw_raw_frames_full_false`: F = N does not).
-/
import SfProofs.DwvwCalls
import SfProofs.DwvwDec
import SfModel.DwvwFile
import SfModel.DwvwOld
namespace Sf.C01Dwvw
open Sf Sf.Dwvw Sf.Dwvw.Proofs

/-! ## C07: write partition -/

/-- the encoder after `xs ++ ys` is the encoder after `xs` continued with `ys`: nothing depends on where a call ends -/
theorem dwvw_partition (c : Cfg) (e : ESt) (xs ys : List Int) :
    encodeData c e (xs ++ ys) = encodeData c (encodeData c e xs) ys := by
  simp [encodeData, List.foldl_append]

/-- any number of write calls, then close: the bytes are those of one call with the concatenation -/
theorem dwvw_partition_file (c : Cfg) (parts : List (List Int)) :
    closeBytes c (parts.foldl (encodeData c) {}) = encodeAll c parts.flatten := by
  rw [encodeAll, encodeData, List.foldl_flatten]; rfl

/-- the same for the caller-type front ends (`dwvw_write_s/i/f/d`) -/
theorem dwvw_partition_caller (c : Cfg) (cv : Conv) (ty : Ty) (e : ESt) (a b : List Int) :
    writeCall c cv ty (writeCall c cv ty e a) b = writeCall c cv ty e (a ++ b) := by
  simp [writeCall, dwvw_partition]

example : closeBytes ⟨16⟩ ([[65536, -65536], [], [0x7FFF0000]].foldl (encodeData ⟨16⟩) {}) =
    encodeAll ⟨16⟩ [65536, -65536, 0x7FFF0000] := dwvw_partition_file ⟨16⟩ [[65536, -65536], [], [0x7FFF0000]]

/-! ## the width state -/

/-- after any sequence of 32-bit caller values `last_delta_width` is in [0, bit_width) and `last_sample` is a
    bit_width-bit value -/
theorem dwvw_width_bounded (c : Cfg) (hw : c.ok) (xs : List Int) (hx : ∀ x ∈ xs, -2 ^ 31 ≤ x ∧ x < 2 ^ 31) :
    0 ≤ (encodeData c {} xs).ldw ∧ (encodeData c {} xs).ldw < c.w ∧
      -c.maxDelta ≤ (encodeData c {} xs).last ∧ (encodeData c {} xs).last < c.maxDelta := by
  obtain ⟨_, e1, e2⟩ := encodeData_spec c {} xs
  obtain ⟨_, hM2, _, _, _, _, _, hw12⟩ := cfg_consts c hw
  have ok := endSt_ok c hw 0 0 xs ⟨⟨by omega, by omega⟩, ⟨by omega, by omega⟩⟩ hx
  rw [e1, e2]
  exact ⟨ok.1.1, ok.1.2, ok.2.1, ok.2.2⟩

example : (encodeData ⟨12⟩ {} [0x7FF00000, -0x80000000]).ldw = 1 ∧ (encodeData ⟨12⟩ {} [0x7FF00000, -0x80000000]).last = -2048 := by decide

/-! ## C01: caller types -/

/-- a caller `int` whose low `32 - bit_width` bits are zero is what the decoder hands back for it -/
theorem dwvw_int_exact (c : Cfg) (q : Int) : asr (q * 2 ^ c.shift) c.shift * 2 ^ c.shift = q * 2 ^ c.shift :=
  quant_exact c.shift q

/-- a caller `short` goes in as `v << 16` and comes back as `>> 16`; with 16 or 24 bits nothing is lost, with 12 bits
    the low four bits must be zero -/
theorem dwvw_short_exact (c : Cfg) (hw : c.ok) (cv : Conv) (v : Int) (hv : -32768 ≤ v ∧ v ≤ 32767)
    (hlow : c.w = 12 → v % 16 = 0) :
    toCaller cv .s16 (asr (toCodec cv .s16 v) c.shift * 2 ^ c.shift) = v := by
  rcases ok_cases c hw with rfl | rfl | rfl <;>
  · simp only [toCaller, toCodec, Cfg.shift, asr, wrapS] at hlow ⊢
    norm_num at hlow ⊢
    omega

example : toCaller {} .s16 (asr (toCodec {} .s16 (-32768)) (Cfg.shift ⟨12⟩) * 2 ^ (Cfg.shift ⟨12⟩)) = -32768 := by decide

/-! ## C01: decode ∘ encode -/

/-- every sequence of 32-bit caller values written to a file (any bit width 12 / 16 / 24, whatever follows the data —
    the AIFF pad byte — in `extra`) and read back in one call of the same length comes back with exactly the low
    `32 - bit_width` bits cleared; all wrap-around cases of the delta arithmetic are inside.  No hypothesis on the file
    (before the repair of KF-DWVW-TAIL-CALL: `dwm_maxsize ≤ 8 · length`, see `dwvw_short_file_old_rule`). -/
theorem dwvw_roundtrip (c : Cfg) (hw : c.ok) (xs : List Int) (hx : ∀ x ∈ xs, -2 ^ 31 ≤ x ∧ x < 2 ^ 31)
    (extra : List Byte) :
    decodeAll c (encodeAll c xs ++ extra) xs.length = xs.map (fun p => asr p c.shift * 2 ^ c.shift) := by
  obtain ⟨hsp, hM2, hM23, hMp, hK1, hK2, hw24, hw12⟩ := cfg_consts c hw
  obtain ⟨p, hp, hb⟩ := encodeAll_bits c xs
  have hF := codes_flush_length c hw (endSt c 0 0 xs).1 (endSt c 0 0 xs).2
  generalize codes c (endSt c 0 0 xs).1 (endSt c 0 0 xs).2 (List.replicate 12 0) = F at hb hF
  have hlen := congrArg List.length hb
  simp only [List.length_append] at hlen
  obtain ⟨t1, t2⟩ := append_split (bytesBits (encodeAll c xs)) p (codes c 0 0 xs) F hb (by omega)
  have hB : bytesBits (encodeAll c xs) = codes c 0 0 xs ++ (bytesBits (encodeAll c xs)).drop (codes c 0 0 xs).length := by
    conv_lhs => rw [← List.take_append_drop (codes c 0 0 xs).length (bytesBits (encodeAll c xs)), t1]
  unfold decodeAll decodeData
  apply decLoop_codes c hw xs (DSt.init (encodeAll c xs ++ extra))
    ((bytesBits (encodeAll c xs)).drop (codes c 0 0 xs).length ++ bytesBits extra) hx
  · simp [DSt.init]; omega
  · simp only [DSt.init]; omega
  · refine ⟨0, ?_, Nat.le_refl _, fun h => absurd h (by simp [DSt.init])⟩
    simp only [avail, DSt.init, List.nil_append, bytesBits_append, zerosB, List.replicate_zero, List.append_nil]
    rw [← List.append_assoc, ← hB]
  · simp only [List.length_append, List.length_drop]; omega
  · right; simp only [DSt.init, List.length_nil]; omega

/-- bit_width-bit samples (`q · 2^(32 - w)`, the low bits zero as C01 asks) come back bit-identical -/
theorem dwvw_roundtrip_exact (c : Cfg) (hw : c.ok) (qs : List Int) (hq : ∀ q ∈ qs, -c.maxDelta ≤ q ∧ q < c.maxDelta)
    (extra : List Byte) :
    decodeAll c (encodeAll c (qs.map (· * 2 ^ c.shift)) ++ extra) qs.length = qs.map (· * 2 ^ c.shift) := by
  -- bit_width-bit samples shifted into the top of an int are caller values
  have hx : ∀ x ∈ qs.map (· * 2 ^ c.shift), -2 ^ 31 ≤ x ∧ x < 2 ^ 31 := by
    intro x hx
    obtain ⟨q, hq1, rfl⟩ := List.mem_map.mp hx
    have := hq q hq1
    rcases ok_cases c hw with rfl | rfl | rfl <;>
    · simp only [Cfg.maxDelta, Cfg.shift] at this ⊢
      norm_num at this ⊢
      omega
  have := dwvw_roundtrip c hw (qs.map (· * 2 ^ c.shift)) hx extra
  rw [List.length_map] at this
  rw [this, List.map_map]
  apply List.map_congr_left
  intro q _
  exact quant_exact c.shift q

/-- the closed file always holds at least one byte (the twelve flush samples alone are twelve bits) -/
theorem dwvw_file_nonempty (c : Cfg) (hw : c.ok) (xs : List Int) : 1 ≤ (encodeAll c xs).length := by
  obtain ⟨p, hp, hb⟩ := encodeAll_bits c xs
  have hF := codes_flush_length c hw (endSt c 0 0 xs).1 (endSt c 0 0 xs).2
  have := congrArg List.length hb
  simp only [List.length_append, bytesBits_length] at this
  omega

/-- the rule before the repair needed a hypothesis on the file: three zero samples make the one-byte 24-bit file FF, the
    very first look-ahead (12 bits) passes its end and NOTHING was read back; the current rule reads the three samples -/
theorem dwvw_short_file_old_rule : encodeAll ⟨24⟩ [0, 0, 0] = [255] ∧ (Old.decodeData ⟨24⟩ 3 (DSt.init [255])).2 = [] ∧
    decodeAll ⟨24⟩ [255] 3 = [0, 0, 0] := by decide +kernel

/-- full scale down, full scale up, and the two ±max_delta special cases, 16 bit -/
example : encodeAll ⟨16⟩ [0x7FFF0000, -0x80000000, 0, -0x80000000, 0x7FFF0000] = [127, 255, 132, 63, 255, 223, 255, 249, 79, 255, 249, 127] ∧
    decodeAll ⟨16⟩ [127, 255, 132, 63, 255, 223, 255, 249, 79, 255, 249, 127] 5 = [0x7FFF0000, -0x80000000, 0, -0x80000000, 0x7FFF0000] := by
  decide +kernel

/-! ## C06: read partition -/

/-- the statement for a decoder `dec` (one call: state, delivered samples): cutting a read of `a + b` samples into a read
    of `a` (delivered completely) and a read of `b` delivers the same samples -/
def readSplitFull (dec : Cfg → Nat → DSt → DSt × List Int) : Prop :=
  ∀ (c : Cfg) (d : DSt) (a b : Nat), c.ok → (dec c a d).2.length = a →
    (dec c (a + b) d).2 = (dec c a d).2 ++ (dec c b (dec c a d).1).2

/-- C06 at full strength: in EVERY decoder state, a call of `a + b` cells whose first `a` are
    delivered is the call of `a` cells followed by the call of `b` cells -/
theorem dwvw_read_split (c : Cfg) (d : DSt) (a b : Nat) (h : (decodeData c a d).2.length = a) :
    (decodeData c (a + b) d).2 = (decodeData c a d).2 ++ (decodeData c b (decodeData c a d).1).2 := by
  unfold decodeData at h ⊢
  rw [decLoop_add c a b d, if_pos h]

/-- not vacuous: in the two-byte file the first five samples are delivered, and 5 + 1 is the read of six -/
example : (decodeData ⟨24⟩ 5 (DSt.init [255, 255])).2.length = 5 ∧
    (decodeData ⟨24⟩ (5 + 1) (DSt.init [255, 255])).2 = [0, 0, 0, 0, 0, 0] := by decide +kernel

theorem dwvw_read_split_full_holds : readSplitFull decodeData := fun c d a b _ h => dwvw_read_split c d a b h

/-- six zero samples in a 24-bit file are the two bytes FF FF -/
theorem dwvw_tail_witness_bytes : encodeAll ⟨24⟩ [0, 0, 0, 0, 0, 0] = [255, 255] := by decide +kernel

/-- the rule before the repair of KF-DWVW-TAIL-CALL: one read of six delivered six; five and then one delivered five and
    then NOTHING (the second call started in `tailStart`); the current rule delivers the sixth -/
theorem dwvw_read_split_old_rule :
    (Old.decodeData ⟨24⟩ 6 (DSt.init [255, 255])).2 = [0, 0, 0, 0, 0, 0] ∧
    (Old.decodeData ⟨24⟩ 5 (DSt.init [255, 255])).2 = [0, 0, 0, 0, 0] ∧
    (Old.decodeData ⟨24⟩ 1 (Old.decodeData ⟨24⟩ 5 (DSt.init [255, 255])).1).2 = [] ∧
    tailStart ⟨24⟩ (Old.decodeData ⟨24⟩ 5 (DSt.init [255, 255])).1 ∧
    decodeCalls ⟨24⟩ (DSt.init [255, 255]) [5, 1] = [[0, 0, 0, 0, 0], [0]] := by
  decide +kernel

theorem dwvw_read_split_full_old_rule_fails : ¬ readSplitFull Old.decodeData := by
  intro h
  have := h ⟨24⟩ (DSt.init [255, 255]) 5 1 (by unfold Cfg.ok; decide) (by decide +kernel)
  revert this
  decide +kernel

/-- any number of calls, none but the last cut short: the pieces are the single read -/
theorem dwvw_read_calls (c : Cfg) (d : DSt) (ns : List Nat) (h : fullCalls c d ns) :
    (decodeCalls c d ns).flatten = (decodeData c ns.sum d).2 := by
  induction ns generalizing d with
  | nil => simp [decodeCalls, decodeData, decLoop_zero]
  | cons n ns ih =>
    obtain ⟨h1, h3⟩ := h
    simp only [decodeCalls, List.flatten_cons, List.sum_cons]
    rw [ih _ h3]
    unfold decodeData at h1 ⊢
    rcases h1 with h1 | h1
    · rw [h1]; simp [decLoop_zero]
    · rw [decLoop_add c n ns.sum d, if_pos h1]

example : fullCalls ⟨24⟩ (DSt.init [255, 255]) [3, 2, 1] ∧ (decodeCalls ⟨24⟩ (DSt.init [255, 255]) [3, 2, 1]).flatten = [0, 0, 0, 0, 0, 0] :=
  ⟨⟨Or.inr (by decide +kernel), Or.inr (by decide +kernel), Or.inl rfl, trivial⟩, by decide +kernel⟩

theorem dwvw_prefix_delivered (c : Cfg) (d : DSt) (a b : Nat) (h : (decodeData c (a + b) d).2.length = a + b) :
    (decodeData c a d).2.length = a := by
  unfold decodeData at h ⊢
  rw [decLoop_add] at h
  split at h
  · assumption
  · have := decLoop_length_le c a d
    omega

/-! ## C04: the frame count at open -/

theorem frameScan_mono (c : Cfg) (fuel : Nat) (d : DSt) (t : Nat) : t ≤ frameScan c fuel d t := by
  induction fuel generalizing d t with
  | zero => simp [frameScan]
  | succ f ih =>
    simp only [frameScan]
    split
    · exact Nat.le_refl _
    · exact Nat.le_trans (Nat.le_add_right _ _) (ih _ _)

/-- `psf_decode_frame_count` counts at least every sample one call would deliver -/
theorem frameScan_ge (c : Cfg) (fuel : Nat) (d : DSt) (t N : Nat) (h : (decodeData c N d).2.length = N)
    (hf : N ≤ chunkLen * fuel) : t + N ≤ frameScan c fuel d t := by
  induction fuel generalizing d t N with
  | zero => simp at hf; subst hf; simp [frameScan]
  | succ f ih =>
    simp only [frameScan]
    by_cases hN : N ≤ chunkLen
    · have hlen : N ≤ (decodeData c chunkLen d).2.length := by
        have e : chunkLen = N + (chunkLen - N) := by omega
        rw [e, dwvw_read_split c d N (chunkLen - N) h, List.length_append, h]; omega
      split
      · omega
      · exact Nat.le_trans (by omega) (frameScan_mono c f _ _)
    · have e : N = chunkLen + (N - chunkLen) := by omega
      have h1 : (decodeData c chunkLen d).2.length = chunkLen := by
        rw [e] at h; exact dwvw_prefix_delivered c d chunkLen (N - chunkLen) h
      have h2 : (decodeData c (N - chunkLen) (decodeData c chunkLen d).1).2.length = N - chunkLen := by
        have := h
        rw [e, dwvw_read_split c d chunkLen (N - chunkLen) h1, List.length_append, h1] at this
        omega
      have hc : chunkLen = 2048 := rfl
      rw [if_neg (by rw [h1, hc]; decide)]
      have := ih (decodeData c chunkLen d).1 (t + (decodeData c chunkLen d).2.length) (N - chunkLen) h2
        (by rw [Nat.mul_succ] at hf; omega)
      rw [h1] at this ⊢
      omega

/-- a written file holds at least one bit per sample -/
theorem dwvw_samples_le_bits (c : Cfg) (hw : c.ok) (xs : List Int) : xs.length ≤ 8 * (encodeAll c xs).length + 7 := by
  obtain ⟨p, hp, hb⟩ := encodeAll_bits c xs
  have h1 := codes_length_ge c hw 0 0 xs
  have := congrArg List.length hb
  simp only [List.length_append, bytesBits_length] at this
  omega

/-- the frame count `dwvw_init` computes by decoding the file 2048 samples at a time is at least the
    number of frames written — whatever their number and whatever follows the data (before the repair of
    KF-DWVW-TAIL-CALL it could be that number rounded DOWN to a multiple of 2048) -/
theorem dwvw_scan_ge (c : Cfg) (hw : c.ok) (xs : List Int) (hx : ∀ x ∈ xs, -2 ^ 31 ≤ x ∧ x < 2 ^ 31) (extra : List Byte) :
    xs.length ≤ frameScan c ((encodeAll c xs ++ extra).length * 8 + 2) (DSt.init (encodeAll c xs ++ extra)) 0 := by
  have h := dwvw_roundtrip c hw xs hx extra
  have hl : (decodeData c xs.length (DSt.init (encodeAll c xs ++ extra))).2.length = xs.length := by
    unfold decodeAll at h; rw [h, List.length_map]
  have hb := dwvw_samples_le_bits c hw xs
  have := frameScan_ge c ((encodeAll c xs ++ extra).length * 8 + 2) (DSt.init (encodeAll c xs ++ extra)) 0 xs.length hl
    (by simp only [chunkLen, List.length_append]; omega)
  omega

/-- C04 for AIFF: the COMM chunk holds the frames written and caps the decoded count, so the
    re-opened file reports exactly N frames -/
theorem dwvw_aiff_frames_exact (c : Cfg) (hw : c.ok) (xs : List Int) (hx : ∀ x ∈ xs, -2 ^ 31 ≤ x ∧ x < 2 ^ 31) (extra : List Byte) :
    framesAtOpen c (encodeAll c xs ++ extra) (some xs.length) = xs.length := by
  have := dwvw_scan_ge c hw xs hx extra
  unfold framesAtOpen
  simp only
  split <;> omega

/-- C04 for RAW, what holds in the class of KF-RAW-DWVW-FRAMES: a headerless file re-opens
    with an ESTIMATE `F ≥ N`, and reading its first N frames in one call delivers the frames written -/
theorem dwvw_raw_frames_partial (c : Cfg) (hw : c.ok) (xs : List Int) (hx : ∀ x ∈ xs, -2 ^ 31 ≤ x ∧ x < 2 ^ 31) :
    xs.length ≤ framesAtOpen c (encodeAll c xs) none ∧
    decodeAll c (encodeAll c xs) xs.length = xs.map (fun p => asr p c.shift * 2 ^ c.shift) := by
  have h1 := dwvw_scan_ge c hw xs hx []
  have h2 := dwvw_roundtrip c hw xs hx []
  simp only [List.append_nil] at h1 h2
  exact ⟨by unfold framesAtOpen; exact h1, h2⟩

/-- C04 at full strength for RAW/DWVW (`F = N`) … -/
def dwvw_raw_frames_full : Prop :=
  ∀ (c : Cfg), c.ok → ∀ xs : List Int, (∀ x ∈ xs, -2 ^ 31 ≤ x ∧ x < 2 ^ 31) → framesAtOpen c (encodeAll c xs) none = xs.length

/-- … is false and not repairable in the codec: one 16-bit sample (the short 256) re-opens as six (the flush samples `dwvw_close` appends
    are indistinguishable from audio without a header; findings/kf_raw_dwvw_frames.txt) -/
theorem dwvw_raw_frames_full_false : ¬ dwvw_raw_frames_full := by
  intro h
  have := h ⟨16⟩ (by unfold Cfg.ok; decide) [16777216] (by decide)
  revert this
  decide +kernel

example : framesAtOpen ⟨16⟩ (encodeAll ⟨16⟩ [16777216]) none = 6 ∧ framesAtOpen ⟨16⟩ (encodeAll ⟨16⟩ [16777216] ++ [0]) (some 1) = 1 := by decide +kernel

end Sf.C01Dwvw
