/-
-- properties: C01
  C01 (ALAC, compressed path) — the adaptive Golomb coder of ag_enc.c / ag_dec.c round-trips (lean/SfModel/AlacAg.lean,
  AlacEnc.lean), with the parameters the encoder uses and the decoder finds in the 'kuki' chunk (MB0 10, PB0 40, KB0 14):

  * `alac_dyn_get32_code32` / `alac_dyn_get_code`: one code word — `dyn_get_32bit (dyn_code_32bit (n)) = n` for EVERY Golomb
    parameter k ≥ 1 (m = 2^k - 1), every bit index 0 … 7 of the stream position, every n below 2^maxbits (escape codes
    included), and `dyn_get (dyn_code (n)) = n` for every zero-run length below 65536 — whatever bits follow the code
    (the decoder cuts its symbols out of a zero-filled 32-bit window).
  * `alac_dyn_decomp_dyn_comp_inverse` (FULL for residuals of up to 31 bits): `dyn_decomp (dyn_comp (r)) = r` for every list of
    residuals — the mean tracking `mb`, the zero-run mode, the 65535 cap of a run and the clamp of the mean run identically
    on both sides; the number of bits consumed is the number written.
-/
import SfProofs.AlacGolombLoop
namespace Sf.AlacCore

theorem alac_dyn_get32_code32 (maxbits k n off : Nat) (rest : Bits) (hk1 : 1 ≤ k) (hoff : off < 8) (hn : n < 2 ^ maxbits) :
    dynGet32 (dynCode32 maxbits (2 ^ k - 1) k n ++ rest) off (2 ^ k - 1) k maxbits = (n, (dynCode32 maxbits (2 ^ k - 1) k n).length) :=
  dynGet32_dynCode32 maxbits k n off rest hk1 hoff hn

theorem alac_dyn_get_code (k n off : Nat) (rest : Bits) (hk1 : 1 ≤ k) (hoff : off < 8) (hn : n < 65536) :
    dynGet (dynCode (2 ^ k - 1) k n ++ rest) off (2 ^ k - 1) k = (n, (dynCode (2 ^ k - 1) k n).length) :=
  dynGet_dynCode k n off rest hk1 hoff hn

def FitsBits (b : Nat) (x : Int) : Prop := Fits b x

theorem alac_dyn_decomp_dyn_comp_inverse (bitSize : Nat) (hb1 : 1 ≤ bitSize) (hb : bitSize ≤ 31) (pc : List Int)
    (hfit : ∀ x ∈ pc, FitsBits bitSize x) (rest : Bits) (pos byteSize : Nat)
    (hroom : pos + (dynComp stdAg pc bitSize).length ≤ byteSize * 8) :
    dynDecomp stdAg ⟨dynComp stdAg pc bitSize ++ rest, pos⟩ byteSize pc.length bitSize =
      (⟨true, pc, (dynComp stdAg pc bitSize).length⟩, ⟨rest, pos + (dynComp stdAg pc bitSize).length⟩) :=
  dynDecomp_dynComp bitSize hb1 hb pc hfit rest pos byteSize hroom

/-- non-vacuity: residuals with a zero run, an escape code and both signs -/
example : (dynDecomp stdAg ⟨dynComp stdAg [3, -1, 0, 0, 0, 0, 70000, -70000, 0, 1] 18 ++ [true, false], 5⟩ 100
    [3, -1, 0, 0, 0, 0, 70000, -70000, 0, 1].length 18).1.out =
    [3, -1, 0, 0, 0, 0, 70000, -70000, 0, 1] := by
  rw [alac_dyn_decomp_dyn_comp_inverse 18 (by decide) (by decide) [3, -1, 0, 0, 0, 0, 70000, -70000, 0, 1]
    (by intro x hx; simp at hx; rcases hx with rfl | rfl | rfl | rfl | rfl | rfl | rfl <;> (unfold FitsBits Fits; decide)) _ 5 100 (by decide)]

end Sf.AlacCore
