/-
-- properties: C01
  C01 (ALAC: "lossless, bit exact") — the uncompressed ("escape") path of the ALAC codec core, both sides
  (lean/SfModel/AlacBits.lean, AlacCore.lean, AlacDec.lean; src/ALAC/alac_encoder.c EncodeMono / EncodeStereoEscape /
  alac_encode, alac_decoder.c alac_decode, matrix_dec.c, ALACBitUtilities.c):

  * `alac_escape_roundtrip` (FULL for the escape path): for every bit depth 16 / 20 / 24 / 32, 1 … 8 channels, every
    frame count 1 … 4096 and EVERY vector of int32 caller samples, the packet `alac_encode` writes when all elements
    take the escape path is decoded by `alac_decode` (into a cleared buffer) to exactly the frames written, the low
    `32 - depth` bits of every sample cleared; `alac_escape_roundtrip_exact`: samples within the depth's range (low bits
    clear) come back bit exact. `alac_escape_result`: status ok, `*outNumSamples` = the frame count.
  * `escape_old_rule_*`: each of the four repaired defects (3f07ef6, c268302, 210ad67, 5323441) as the OLD
    rule of the model (`Rules`) with a proved counter-example — the packet of the old encoder / the output of the old
    decoder is not the input — next to the same input under the current rule.
  * `bbWindow_eq_bits` / `bbWindowSmall_eq_bits` (lean/SfProps/C01AlacBits.lean): the 24-bit / 16-bit window arithmetic of
    BitBufferRead / BitBufferReadSmall is "the next n bits, most significant first" for every call the decoder makes
    (n ≤ 16 / n ≤ 8).
-/
import SfProofs.AlacLoop
namespace Sf.AlacCore

/-- what `alac_decode` returns for a packet in which every element was written uncompressed -/
theorem alac_escape_result (cfg : Config) (hd : Depth cfg.bitDepth) (hc1 : 1 ≤ cfg.numChannels) (hc8 : cfg.numChannels ≤ 8)
    (frames : List (List Int)) (hn : frames.length ≤ 4096)
    (hf : ∀ f ∈ frames, ∀ x ∈ f, I32 x) :
    let pk := encodeEscape cfg frames
    let res := decode cfg pk pk.length frameLen
    res.status = .ok ∧ res.outNum = frames.length ∧ res.written = chansFrom cfg.bitDepth frames 0 cfg.numChannels := by
  have hI := chanOf_I32 frames hf
  unfold encodeEscape encodeEscapeWith encodeEscapeBits
  rw [encElemsEsc_eq]
  exact decode_elemsBits cfg hc1 hc8 frames _ _
    (fun byteSize c _ _ => decMono_esc _ hd byteSize _ (hI c) (chanOf_length frames c) hn)
    (fun byteSize c _ _ => decPair_esc _ hd byteSize _ _ (by simp [chanOf_length]) (hI c) (hI (c + 1)) (chanOf_length frames c) hn _)

/-- ALAC, uncompressed packets: decode ∘ encode = clear the low `32 - depth` bits, for all depths, 1 … 8 channels,
    1 … 4096 frames and all int32 samples -/
theorem alac_escape_roundtrip (cfg : Config) (hd : Depth cfg.bitDepth) (hc1 : 1 ≤ cfg.numChannels) (hc8 : cfg.numChannels ≤ 8)
    (frames : List (List Int)) (hn : frames.length ≤ 4096)
    (hf : ∀ f ∈ frames, f.length = cfg.numChannels ∧ ∀ x ∈ f, I32 x) :
    decodeFresh cfg (encodeEscape cfg frames) = frames.map (·.map (trunc cfg.bitDepth)) := by
  obtain ⟨_, h2, h3⟩ := alac_escape_result cfg hd hc1 hc8 frames hn (fun f h => (hf f h).2)
  exact frames_of_chans _ _ _ frames h2 h3 (fun f h => (hf f h).1)

/-- a sample within the depth's range: an int32 whose low `32 - depth` bits are clear -/
def InRange (depth : Nat) (x : Int) : Prop := I32 x ∧ x % (2 : Int) ^ (32 - depth) = 0

theorem trunc_inRange {depth : Nat} {x : Int} (h : InRange depth x) : trunc depth x = x := trunc_of_low_clear depth h.1 h.2

/-- lossless, bit exact: samples within the depth's range come back unchanged -/
theorem alac_escape_roundtrip_exact (cfg : Config) (hd : Depth cfg.bitDepth) (hc1 : 1 ≤ cfg.numChannels) (hc8 : cfg.numChannels ≤ 8)
    (frames : List (List Int)) (hn : frames.length ≤ 4096)
    (hf : ∀ f ∈ frames, f.length = cfg.numChannels ∧ ∀ x ∈ f, InRange cfg.bitDepth x) :
    decodeFresh cfg (encodeEscape cfg frames) = frames := by
  rw [alac_escape_roundtrip cfg hd hc1 hc8 frames hn (fun f h => ⟨(hf f h).1, fun x hx => ((hf f h).2 x hx).1⟩)]
  exact map_id_of_fix frames fun f hfm x hx => trunc_inRange ((hf f hfm).2 x hx)

/-- non-vacuity: a 24-bit, 3-channel packet (an SCE and a CPE element) of two frames with extreme samples -/
example : decodeFresh ⟨24, 3, 40, 10, 14, 255⟩ (encodeEscape ⟨24, 3, 40, 10, 14, 255⟩ [[-2147483648, 2147483392, 256], [-256, 0, 305419776]]) =
    [[-2147483648, 2147483392, 256], [-256, 0, 305419776]] := by
  apply alac_escape_roundtrip_exact _ (by unfold Depth; decide) (by decide) (by decide) _ (by decide)
  intro f hf
  simp only [List.mem_cons, List.not_mem_nil, or_false] at hf
  rcases hf with rfl | rfl <;> (refine ⟨rfl, ?_⟩; intro x hx; simp only [List.mem_cons, List.not_mem_nil, or_false] at hx; rcases hx with rfl | rfl | rfl <;> (unfold InRange I32; decide))

/-! ## the four repaired defects, as old rules of the model -/

def cfg20s : Config := { bitDepth := 20, numChannels := 2 }
def cfg24s : Config := { bitDepth := 24, numChannels := 2 }
def cfg32s : Config := { bitDepth := 32, numChannels := 2 }
def cfg32m : Config := { bitDepth := 32, numChannels := 1 }
def noStale : Nat → List Int × List Int := fun _ => ([], [])
/-- the packet the CURRENT encoder writes, decoded under the rules `ru` into a cleared buffer -/
def decUnder (ru : Rules) (cfg : Config) (frames : List (List Int)) : List (List Int) :=
  (decodeR ru cfg (encodeEscape cfg frames) (encodeEscape cfg frames).length frameLen).frames cfg.numChannels

/-- 3f07ef6 — EncodeStereoEscape wrote the 20-bit samples of a pair in 16 bits: one frame does not come back
    (the current rule returns it, `alac_escape_roundtrip`) -/
theorem escape_old_rule_pair20_width :
    decodeFresh cfg20s (encodeEscapeWith { encPair20Width := 16 } cfg20s [[0x12345000, -0x12345000]] noStale) ≠ [[0x12345000, -0x12345000]] ∧
    decodeFresh cfg20s (encodeEscapeWith Rules.current cfg20s [[0x12345000, -0x12345000]] noStale) = [[0x12345000, -0x12345000]] := by
  decide +kernel

/-- c268302 — EncodeStereoEscape, 24 bit: the packet was built from the stale mix buffers only; whatever they hold, two
    different inputs of the same length give THE SAME packet (so no decoder can return both) -/
theorem escape_old_rule_pair24_stale (stale : Nat → List Int × List Int) (frames frames' : List (List Int))
    (h : frames.length = frames'.length) :
    encodeEscapeWith { encPair24Stale := true } cfg24s frames stale = encodeEscapeWith { encPair24Stale := true } cfg24s frames' stale := by
  simp [encodeEscapeWith, encodeEscapeBits, cfg24s, layout, encElemsEsc, encPairEsc, h]

/-- c268302, concrete: with the mix buffers EncodeStereo leaves behind (mix24 with one byte shifted off, mixres 0) the
    frame [0x123456 << 8, -0x123456 << 8] comes back as something else -/
theorem escape_old_rule_pair24_witness :
    decodeFresh cfg24s (encodeEscapeWith { encPair24Stale := true } cfg24s [[0x12345600, -0x12345600]] (fun _ => ([0x1234], [-0x1235]))) ≠
      [[0x12345600, -0x12345600]] ∧
    decodeFresh cfg24s (encodeEscapeWith Rules.current cfg24s [[0x12345600, -0x12345600]] noStale) = [[0x12345600, -0x12345600]] := by
  decide +kernel

/-- 210ad67 — the decoder's escape branch of a pair above 16 bits lost the `<< 16` of the V sample: the second
    channel of a packet the CURRENT encoder writes comes back wrong (20, 24 and 32 bits) -/
theorem escape_old_rule_pair_vshift :
    decUnder { decPairVShift := false } cfg20s [[0x12345000, 0x6789A000]] ≠ [[0x12345000, 0x6789A000]] ∧
    decUnder { decPairVShift := false } cfg24s [[0x12345600, 0x6789AB00]] ≠ [[0x12345600, 0x6789AB00]] ∧
    decUnder { decPairVShift := false } cfg32s [[0x12345678, 0x6789ABCD]] ≠ [[0x12345678, 0x6789ABCD]] ∧
    decUnder Rules.current cfg20s [[0x12345000, 0x6789A000]] = [[0x12345000, 0x6789A000]] := by
  decide +kernel

/-- 5323441 — copyPredictorTo32 shifted left by 8: a 32-bit mono sample loses its top byte -/
theorem escape_old_rule_mono32_shl8 :
    decUnder { decMono32Shl8 := true } cfg32m [[0x12345678]] = [[0x34567800]] ∧
    decUnder Rules.current cfg32m [[0x12345678]] = [[0x12345678]] := by
  decide +kernel

end Sf.AlacCore
