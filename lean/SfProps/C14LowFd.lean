/-
  C14 — "sf_close closes a descriptor passed to sf_open_fd exactly when close_desc was true" holds for EVERY descriptor number,
  0 and 1 included: ownership is a property of the handle, not of the number.  Model: SfModel/FdWorld.lean (release) and
  SfModel/FdWorldLow.lean (the close decision as a parameter); the campaign that ties it to psf_close_fd is vlib/lowfd.py
  (harness op `lowfd`: descriptors 0 / 1 free, so that sf_open / sf_open_fd get them).
-/
-- properties: C14 C19
import SfModel.FdWorldLow
import SfProps.C19Fd
namespace Sf.C14LowFd
open Sf.FdWorld Sf.FdWorldLow Sf.C19Fd

/-- the code's rule is Sf.FdWorld.release -/
theorem releaseBy_is_release (t : Table) (h : Handle) : releaseBy .byOwnership t h = release .resets t h := by
  cases h with
  | mk f o r tm =>
    cases f <;> cases r <;> cases o <;> simp [releaseBy, release, closeRsrc, closeFd, Table.closeOpt]

/-- **close_desc = 1 / sf_open**: an owned descriptor is closed by sf_close whatever its number -/
theorem release_closes_owned (r : Rule) (t : Table) (h : Handle) (n : Nat) (ho : h.ownsFile = true) (hf : h.fileFd = some n) :
    (release r t h).ent n = none := by
  cases hr : h.rsrcFd <;> simp [release, closeRsrc, ho, hf, hr, Table.closeOpt, Table.osClose]

/-- **close_desc = 0**: a lent descriptor is left alone by sf_close whatever its number (the handle's other numbers are other
    descriptors) -/
theorem release_keeps_lent (r : Rule) (t : Table) (h : Handle) (n : Nat) (ho : h.ownsFile = false) (hf : h.fileFd = some n)
    (hr : h.rsrcFd ≠ some n) (ht : h.tmpFd ≠ some n) : (release r t h).ent n = t.ent n := by
  have hr2 : ∀ v, h.rsrcFd = some v → ¬ n = v := fun v hv e => hr (by rw [hv, e])
  have ht2 : ∀ v, h.tmpFd = some v → ¬ n = v := fun v hv e => ht (by rw [hv, e])
  -- with or without a fork / spool descriptor: each close () `release` makes hits one of those two numbers, not `n`
  cases hrs : h.rsrcFd <;> cases htm : h.tmpFd <;> simp [release, closeRsrc, Table.closeOpt, Table.osClose, ho, hrs, htm] <;>
    simp_all

/-- **open ; close restores the descriptor table**, for every table (so: whichever number is the lowest free one — 0 and 1 in a
    process without standard streams), every route -/
theorem open_close_restores (t : Table) (ht : TInv t) (a : Nat) (route : Route) (m : Nat) :
    (openClose .byOwnership t a route).ent m = t.ent m := by
  have hfree := lowestFree_free t ht
  have hat := osOpen_at t (.file a) ht
  have hsnd := osOpen_snd t (.file a)
  cases route <;>
    simp only [openClose, releaseBy, closeFd, Table.closeOpt, Table.osClose, bne_iff_ne, ne_eq, reduceCtorEq, not_false_eq_true,
      not_true_eq_false, if_true, if_false, hsnd] <;>
    (by_cases hm : m = t.lowestFree
     · subst hm; simp [hfree]
     · simp [hm, hat m])

/-- the rule that infers ownership from the number: in a process whose descriptor 0 is free, sf_open ; sf_close leaves
    descriptor 0 open — on every route that hands ownership to the library -/
theorem stdio_number_rule_leaks :
    ((openClose .skipsStdio (start [2]).tab 0 .path).entries = [(0, .file 0), (2, .sentinel 1002)]) ∧
    ((openClose .skipsStdio (start [2]).tab 0 .fd1).entries = [(0, .file 0), (2, .sentinel 1002)]) ∧
    ((openClose .byOwnership (start [2]).tab 0 .path).entries = [(2, .sentinel 1002)]) ∧
    ((openClose .skipsStdio (start [0, 1, 2]).tab 0 .path).entries = (start [0, 1, 2]).tab.entries) := by
  refine ⟨by decide, by decide, by decide, by decide⟩

/-- handles with a second descriptor (SD2 resource fork, ALAC spool file) at low numbers: every configuration and route, standard
    streams closed in every combination — open ; close restores the table -/
theorem low_numbers_open_close_restores :
    ∀ taken ∈ [[2], [1, 2], [0, 2], [0, 1, 2]], ∀ route ∈ [Route.path, Route.fd1, Route.fd0], ∀ sd2 alac fails : Bool,
      (run .resets (start taken) [.open 0 { route := route, sd2 := sd2, alacW := alac, fails := fails }, .close 0]).tab.entries
        = (start taken).tab.entries := by
  decide

/-- non-vacuity: descriptor 0 is what a handle gets when it is free, and it is owned -/
example : ((start [2]).tab.osOpen (.file 0)).2 = 0 ∧ TInv (start [2]).tab ∧
    (run .resets (start [2]) [.open 0 { route := .fd1 }]).tab.entries = [(0, .file 0), (2, .sentinel 1002)] := by
  refine ⟨by decide, ?_, by decide⟩
  exact (start_WInv [2]).1

end Sf.C14LowFd
