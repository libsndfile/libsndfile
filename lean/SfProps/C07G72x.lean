/-
  C07 for G.721 / G.723 (src/g72x.c + src/G72x/*.c) on the bit-exact model of SfModel/G72x.lean, G72xFile.lean: the
  session theorem of the generic block writer (`mono_typed_session`, SfProofs/BlockSession.lean) instantiated with the
  REAL encoder (`Sf.G72x.encodeBlock`, predictor state carried across blocks).

  * `g72x_write_is_fold`        any sequence of write calls of any caller types (4096-item staging for int / float /
                                 double, none for short) is the per-sample fold `pushFrame` over the converted shorts
  * `g72x_write_partition`      the closed data region depends only on the concatenated converted shorts: ∀ rates,
                                 ∀ conversion settings, ∀ sample sequences, ∀ splits into calls, ∀ caller types
  * `g72x_write_partition_typed` … in particular two call lists with the same (type, value) sequence
  * `g72x_closed_length`        the data region of a session of N samples is ⌈N/120⌉ whole blocks
  * `g72x_frames_at_reopen`     N ≤ F < N + 120 for the frame count a reader computes from those bytes

  For one channel the item and the frame variant of a write call are the same call (count = frames), so the theorems
  cover both.
-/
import SfProofs.G72x
import SfProofs.BlockSession
import SfProofs.BlockClosed
namespace Sf.C07G72x
open Sf Sf.G72x Sf.G72x.Proofs Sf.Block Sf.Block.Proofs

/-- the shorts the codec is handed by a list of calls -/
def shorts (cv : Conv) (calls : List (Ty × List Int)) : List Int := calls.flatMap fun c => c.2.map (toCodec cv c.1)

/-- one-channel frames of a list of items -/
def frames1 (xs : List Int) : List (List Int) := xs.map fun x => [x]

theorem g72x_writer_wf (r : Rate) : WWF (writer r) := ⟨by show 0 < 120; omega, by show 0 < 1; omega⟩

theorem g72x_init_inv (r : Rate) : WInv (writer r) ((writer r).init St.init) := init_inv_w _ (g72x_writer_wf r) _

/-- **any session is the per-sample fold**: every call of every caller type, whatever its staging pieces are, stores
    its converted shorts one by one, encoding a block each time 120 are there -/
theorem g72x_write_is_fold (r : Rate) (cv : Conv) (calls : List (Ty × List Int)) (st : WState St) (inv : WInv (writer r) st) :
    calls.foldl (fun st c => writeCall r cv c.1 st c.2) st = (frames1 (shorts cv calls)).foldl (pushFrame (writer r)) st ∧
      WInv (writer r) ((frames1 (shorts cv calls)).foldl (pushFrame (writer r)) st) :=
  mono_typed_session (writer r) (g72x_writer_wf r) rfl chunkOf (toCodec cv) calls st inv

/-- **write-partition independence (full strength)**: the closed data region is a function of the concatenated
    converted shorts only -/
theorem g72x_write_partition (r : Rate) (cv : Conv) (calls1 calls2 : List (Ty × List Int))
    (h : shorts cv calls1 = shorts cv calls2) : closedBytes r cv calls1 = closedBytes r cv calls2 := by
  unfold closedBytes
  rw [(g72x_write_is_fold r cv calls1 _ (g72x_init_inv r)).1, (g72x_write_is_fold r cv calls2 _ (g72x_init_inv r)).1, h]

theorem g72x_closed_bytes_single (r : Rate) (cv : Conv) (calls : List (Ty × List Int)) :
    closedBytes r cv calls = closedBytes r cv [(.s16, shorts cv calls)] := by
  apply g72x_write_partition
  have hid : toCodec cv Ty.s16 = id := by funext v; rfl
  simp [shorts, hid]

/-- the (type, value) sequence of a session -/
def tagged (calls : List (Ty × List Int)) : List (Ty × Int) := calls.flatMap fun c => c.2.map fun v => (c.1, v)

theorem shorts_of_tagged (cv : Conv) (calls : List (Ty × List Int)) :
    shorts cv calls = (tagged calls).map fun p => toCodec cv p.1 p.2 := by
  simp [shorts, tagged, List.map_flatMap, Function.comp_def]

/-- the same values of the same types, split into calls in any two ways: identical bytes -/
theorem g72x_write_partition_typed (r : Rate) (cv : Conv) (calls1 calls2 : List (Ty × List Int))
    (h : tagged calls1 = tagged calls2) : closedBytes r cv calls1 = closedBytes r cv calls2 :=
  g72x_write_partition r cv calls1 calls2 (by rw [shorts_of_tagged, shorts_of_tagged, h])

/-- non-vacuity: 130 samples (more than a block) as 1 + 128 + 1 of three caller types against one call of shorts -/
example : closedBytes g721 {} [(.s16, [1000]), (.s32, List.replicate 128 (2000 * 65536 + 77)), (.s16, [-3000])] =
    closedBytes g721 {} [(.s16, [1000] ++ List.replicate 128 2000 ++ [-3000])] := by
  apply g72x_write_partition
  decide

example : (closedBytes g723_24 {} [(.s16, [1000, -2000, 30000])]).length = 45 := by decide +kernel

theorem encodeBlock_length (r : Rate) (hb : r.bits ≤ 8) (st : St) (buf : List Int) (h : buf.length = blockSamples) :
    (encodeBlock r st buf).2.length = r.blockBytes := by
  simp only [encodeBlock, pack]
  rw [packLoop_length r.bits hb _ 0 0 (by decide), encodeList_length, h, Rate.blockBytes, Nat.mul_comm]
  simp

/-- **geometry**: a session of N samples (any calls, any types) leaves ⌈N / 120⌉ whole blocks in the data region: the
    closed file is the encoder run over the 120-sample chunks of the converted shorts, and every chunk gives one block -/
theorem g72x_closed_length (r : Rate) (hb : r.bits ≤ 8) (cv : Conv) (calls : List (Ty × List Int)) :
    (closedBytes r cv calls).length = ((shorts cv calls).length + (blockSamples - 1)) / blockSamples * r.blockBytes := by
  rw [← Closed.nblocks_eq _ _ (by decide)]
  exact mono_typed_closed_length (writer r) (g72x_writer_wf r) rfl chunkOf (toCodec cv) calls St.init _ (encodeBlock_length r hb)

/-- **frames at re-open**: N samples written (any session): a reader of the closed data region finds F frames with
    N ≤ F < N + 120 (the last block is padded; nothing records N) — for the three rates libsndfile offers -/
theorem g72x_frames_at_reopen (r : Rate) (hr : r.bits = 3 ∨ r.bits = 4 ∨ r.bits = 5) (cv : Conv) (calls : List (Ty × List Int)) :
    (shorts cv calls).length ≤ framesAtOpen r (closedBytes r cv calls).length ∧
    framesAtOpen r (closedBytes r cv calls).length < (shorts cv calls).length + blockSamples := by
  rw [g72x_closed_length r (by omega) cv calls, framesAtOpen_blocks r (by unfold Rate.blockBytes blockSamples; omega)]
  exact Closed.nblocks_bound _ blockSamples (by decide)

example : framesAtOpen g721 (closedBytes g721 {} [(.s16, List.replicate 121 5)]).length = 240 := by decide +kernel

end Sf.C07G72x
