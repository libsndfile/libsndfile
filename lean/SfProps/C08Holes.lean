/-
  C05 / C06 / C08 — HOLES: a write, or an extending SFC_FILE_TRUNCATE, beyond the end of the data.

  -- properties: C05 C06 C08

  "writing at or past the end extends the frame count" (C08): the frames between the old end and the write position were
  written by nobody; the store fills them with zero bytes (`Sf.writeAt`, `truncBytes`; a sparse region of a real file, the
  zero-filling memory SF_VIRTUAL_IO of the harness).  The C08 hole campaign (vlib/c08holes.py) runs the predicate `Sf.Abs.check`
  with the claim `holezero=<ty>` — "a frame nobody wrote reads as 0" — for the encodings of `holeZeroFor`, and without it for the
  others.  This file states which encodings those are, and extends THE BRIDGE (SfProps/C05Bridge.lean `handle_run_accepted`, which
  covers `holeZero = ∅` only) to geometries that make the claim: the transcript of every judged operation list of the concrete
  model — writes past the end and extending truncations included — is accepted line by line.
-/
import SfProps.C05Bridge
import SfProps.C06
import SfProps.C08Refine
namespace Sf.C08Holes
open Sf Sf.Abs Sf.AbsBridge

/-- signed PCM of any width read as short or int, float data read as float, double data read as double or float: a sample
    of zero bytes is the value 0, whatever the conversion settings -/
theorem zero_bytes_decode_zero (e : Enc) (ty : Ty) (h : holeZeroFor e ty = true) (c : Conv) :
    e.decode c ty (zeros e.nbytes) = 0 := decode_zeros e ty h c

/-- … and `k` such samples are `k` zero items -/
theorem zero_region_decodes_zero (e : Enc) (ty : Ty) (h : holeZeroFor e ty = true) (c : Conv) (hnb : 0 < e.nbytes) (k : Nat) :
    e.decodeAll c ty (zeros (k * e.nbytes)) = List.replicate k 0 := by
  unfold Enc.decodeAll zeros
  rw [groups_replicate e.nbytes hnb, List.map_replicate]
  exact congrArg _ (decode_zeros e ty h c)

/-- the table, per codec of the concrete model: every signed PCM width and both float widths, no unsigned PCM, no G.711 -/
theorem hole_zero_table :
    (∀ w big, holeZeroFor (.pcm ⟨w, false, big⟩) .s16 = true ∧ holeZeroFor (.pcm ⟨w, false, big⟩) .s32 = true) ∧
    (∀ big, holeZeroFor (.flt big) .f32 = true ∧ holeZeroFor (.dbl big) .f64 = true ∧ holeZeroFor (.dbl big) .f32 = true) ∧
    (∀ w big ty, holeZeroFor (.pcm ⟨w, true, big⟩) ty = false) ∧ (∀ ty, holeZeroFor .ulaw ty = false ∧ holeZeroFor .alaw ty = false) := by
  refine ⟨fun _ _ => ⟨rfl, rfl⟩, fun _ => ⟨rfl, rfl, rfl⟩, fun _ _ ty => by cases ty <;> rfl, fun ty => by cases ty <;> exact ⟨rfl, rfl⟩⟩

/-- WITNESSES (why the claim is not made for them): a zero byte is −128·256 as unsigned 8-bit PCM, −32124 as µ-law, −5504 as A-law -/
theorem zero_byte_u8_ulaw_alaw :
    (Enc.pcm ⟨8, true, false⟩).decode {} .s16 (zeros 1) = -32768 ∧ Enc.ulaw.decode {} .s16 (zeros 1) = -32124 ∧
    Enc.alaw.decode {} .s16 (zeros 1) = -5504 := ⟨by decide, by decide, by decide⟩

/-- the store side: a write at a position past the end leaves the old bytes, then zeros, then the data -/
theorem write_past_end_zero_fills (bs data : List Byte) (pos : Nat) (h : bs.length ≤ pos) :
    Sf.writeAt bs pos data = bs ++ zeros (pos - bs.length) ++ data := by
  unfold Sf.writeAt
  have hd : bs.drop (pos + data.length) = [] := List.drop_eq_nil_of_le (by omega)
  rw [hd, List.append_nil]
  split
  · rename_i hle
    have : pos = bs.length := Nat.le_antisymm hle h
    rw [this, List.take_length, Nat.sub_self]; simp [zeros]
  · rfl

/-- … and an extending ftruncate appends zeros -/
theorem truncate_extends_with_zeros (bs : List Byte) (n : Nat) (h : bs.length ≤ n) : truncBytes bs n = bs ++ zeros (n - bs.length) := by
  unfold truncBytes
  split
  · rename_i hle
    have : n = bs.length := Nat.le_antisymm hle h
    rw [this, List.take_length, Nat.sub_self]; simp [zeros]
  · rfl

/-- the geometry of a handle with the hole claim made for the caller types that are claimed lossless AND whose zero bytes
    decode to zero (what vlib/c08holes.py `geom_for` passes) -/
def geomOfH (h : H) (strict : Bool) (loss : Ty → Bool) : Abs.Geom :=
  { C05Bridge.geomOf h strict loss with holeZero := fun t => loss t && holeZeroFor h.enc t }

theorem geomOfH_for (h : H) (strict : Bool) (loss : Ty → Bool) : GeomForH (geomOfH h strict loss) h :=
  ⟨rfl, rfl, rfl, rfl, rfl, fun t ht => by
    have : (loss t && holeZeroFor h.enc t) = true := ht
    simp only [Bool.and_eq_true] at this
    exact ⟨this.2, this.1⟩⟩

/-- THE BRIDGE WITH HOLES.  A handle as an open leaves it; the predicate started as the check starts it, with the hole
    claim of `geomOfH`: `ok` on the transcript of EVERY judged operation list. -/
theorem handle_run_accepted_holes (h : H) (s : Store) (strict : Bool) (loss : Ty → Bool) (ops : List Sf.Op) (bi : BInv h s)
    (hr0 : h.mode ≠ .w → h.rpos = 0) (hw0 : h.mode = .w → h.wpos = 0) (hw1 : h.mode = .rw → h.wpos = h.frames)
    (hj : ∀ op ∈ ops, Judged (geomOfH h strict loss) h op) (hcl : CloseLast ops) :
    Abs.holdsOn (geomOfH h strict loss) (absRef h s) (fun _ => true) (transcript h s ops) = .ok ops.length := by
  unfold Abs.holdsOn
  exact C05Bridge.handle_run_accepted_from _ h s _ ops (geomOfH_for h strict loss) bi
    (sim_init _ h s bi.frames_nn rfl rfl hr0 hw0 hw1) hj hcl

/-- … never flagged, at no line, with no clause -/
theorem model_never_flagged_holes (h : H) (s : Store) (strict : Bool) (loss : Ty → Bool) (ops : List Sf.Op) (bi : BInv h s)
    (hr0 : h.mode ≠ .w → h.rpos = 0) (hw0 : h.mode = .w → h.wpos = 0) (hw1 : h.mode = .rw → h.wpos = h.frames)
    (hj : ∀ op ∈ ops, Judged (geomOfH h strict loss) h op) (hcl : CloseLast ops) (k : Nat) (tag : String) :
    Abs.holdsOn (geomOfH h strict loss) (absRef h s) (fun _ => true) (transcript h s ops) ≠ .bad k tag ∧
    Abs.holdsOn (geomOfH h strict loss) (absRef h s) (fun _ => true) (transcript h s ops) ≠ .skip k := by
  rw [handle_run_accepted_holes h s strict loss ops bi hr0 hw0 hw1 hj hcl]
  exact ⟨fun hx => Abs.Verdict.noConfusion hx, fun hx => Abs.Verdict.noConfusion hx⟩

/-- the 8-frame mono 16-bit RAW file of C06 opened SFM_RDWR (descriptor route switched on for the truncate): move the write
    pointer 3 frames beyond the end, write 2 frames, read the whole file through the read pointer (the gap arrives as zeros),
    extend to 16 frames by SFC_FILE_TRUNCATE, read at the new end -/
def hH : H := { C06.rwH0 with canTruncate := true }
def exOps : List Sf.Op :=
  [.seek 0 11 0x20, .write 0 .s16 false 2 [9, -9], .seek 0 6 0x10, .read 0 .s16 true 10, .truncate 0 16, .seek 0 12 0x10,
   .read 0 .s16 true 8, .close 0]

theorem hH_inv : RwInv hH C06.rwStore :=
  C08Refine.RwInv_initial_raw 0 C06.rwStore 0x040002 1 8000 C06.rwH0 C06.rwStore C06.rwH0_opened rfl (by decide) true

/-- the hypotheses of the bridge hold for this history: all 8 lines are accepted under the hole claim for shorts -/
example : holdsOn (geomOfH hH true (fun t => decide (t = .s16))) (absRef hH C06.rwStore) (fun _ => true)
    (transcript hH C06.rwStore exOps) = .ok 8 :=
  handle_run_accepted_holes hH C06.rwStore true _ exOps (C05Bridge.BInv_read_write _ _ hH_inv) (fun _ => rfl)
    (fun hm => by cases hm) (fun _ => rfl)
    (by
      intro op hop
      simp only [exOps, List.mem_cons, List.mem_nil_iff, or_false] at hop
      rcases hop with h | h | h | h | h | h | h | h <;> subst h <;> simp [Judged, geomOfH, C05Bridge.geomOf] <;> decide)
    (by simp [exOps, CloseLast, isClose])
/-- what the model answers: the read across the hole delivers frames 6, 7, three zero frames, 9, −9 (0xFFF7) and stops at the
    end of the data; after the extending truncate the read at frame 12 delivers −9 and three zero frames -/
example : (transcript hH C06.rwStore exOps).map (·.2.ret) = [11, 2, 6, 7, 0, 12, 4, 0] ∧
    ((transcript hH C06.rwStore exOps).map (fun l => l.2.data.extract 0 7))[3]? = some #[7, 8, 0, 0, 0, 9, 0xFFF7] ∧
    ((transcript hH C06.rwStore exOps).map (fun l => l.2.data.extract 0 4))[6]? = some #[0xFFF7, 0, 0, 0] := by decide +kernel
/-- a transcript whose read across the hole delivers anything but zeros there is refused -/
example : holdsOn (geomOfH hH true (fun t => decide (t = .s16))) (absRef hH C06.rwStore) (fun _ => true)
    [(.seek 11 0x20, { ret := 11 }), (.write .s16 false 2 #[9, 0xFFF7], { ret := 2 }), (.seek 6 0x10, { ret := 6 }),
     (.read .s16 true 4, { ret := 4, data := #[7, 8, 0, 5] })] = .bad 3 "data" := by decide +kernel

end Sf.C08Holes
