/-
  C05 on the ABSTRACT model (SfModel/Abs.lean) — the predicate `Sf.Abs.holdsOn` the check evaluates on the implementation's
  own transcripts (`sfmodel abs`), and what an accepted transcript MEANS, whatever code produced it (opaque codecs,
  unmodelled containers).  Property theorems only; lemmas in SfProofs/Abs*.lean.
-/
import SfProofs.AbsRun
namespace Sf.C05Abs
open Sf Sf.Abs

/-- THE PREDICATE says `ok` exactly when every line of the transcript is accepted by its checker -/
theorem predicate_ok_iff (g : Geom) (ref : Ty → Array Item) (valid : Ty → Bool) (tr : List (Op × Out)) (n : Nat) :
    holdsOn g ref valid tr = .ok n ↔ (∃ st', accepts g (St.init g ref valid) tr = some st') ∧ n = tr.length := by
  unfold holdsOn
  rw [holdsFrom_ok_iff]; simp

/-- read_contract, for ANY accepted answer to a valid read request (`n > 0`, items calls a multiple of the channel count,
    handle not write-only): `0 ≤ r ≤ requested`; an items call returns whole frames; the buffer is exactly the requested
    region; no error; at the end of the data `r = 0` and the whole region is zero; inside the data the first `r` items are
    the items `rpos·ch …` of the reference stream, the read position advances by exactly `r / ch` frames and stays inside
    the file, and `r < requested` happens only when the data ends there. -/
theorem read_contract_abs (g : Geom) (st : St) (ty : Ty) (fc : Bool) (n : Int) (o : Out) (st' : St)
    (hr : ReadReq g st fc n) (h : readOk g st ty fc n o = .ok st') :
    0 ≤ o.ret ∧ o.ret ≤ n ∧ retItems g fc o.ret % g.ch = 0 ∧ o.data.size = reqItems g fc n * cells ty ∧ o.err = false ∧
    (st.frames ≤ st.rpos → o.ret = 0 ∧ st'.rpos = st.rpos ∧
      ∀ k, k < reqItems g fc n * cells ty → o.data[k]? = some 0) ∧
    (st.rpos < st.frames →
      st'.rpos = st.rpos + retItems g fc o.ret / g.ch ∧ st'.rpos ≤ st.frames ∧
      (st.valid ty = true →
        o.data.extract 0 (retItems g fc o.ret * cells ty) =
          (st.ref ty).extract (st.rpos * g.cpf ty) (st.rpos * g.cpf ty + retItems g fc o.ret * cells ty)) ∧
      (o.ret < n → st'.rpos = st.frames)) ∧
    st'.frames = st.frames ∧ st'.wpos = st.wpos ∧ st'.ref = st.ref ∧ st'.mode = st.mode := by
  obtain ⟨a, b, c, d, e, heof, hmain⟩ := readOk_valid g st ty fc n o st' hr h
  refine ⟨a, b, c, d, e, ?_, ?_, ?_⟩
  · intro hend
    obtain ⟨z, hz, hs⟩ := heof hend
    subst hs
    refine ⟨z, rfl, fun k hk => ?_⟩
    have := allOf_zero_get o.data 0 _ hz k hk
    simpa using this
  · intro hin
    obtain ⟨hs, hle, hdat, hshort⟩ := hmain hin
    subst hs
    refine ⟨rfl, hle, fun hv => ?_, hshort⟩
    have := sliceEq_extract _ _ _ _ _ (hdat hv)
    simpa using this
  · by_cases hend : st.frames ≤ st.rpos
    · obtain ⟨_, _, hs⟩ := heof hend; subst hs; exact ⟨rfl, rfl, rfl, rfl⟩
    · obtain ⟨hs, _⟩ := hmain (by omega); subst hs; exact ⟨rfl, rfl, rfl, rfl⟩

/-- an accepted answer to an INVALID read request is 0 with an error set, and no position changes -/
theorem read_invalid_abs (g : Geom) (st : St) (ty : Ty) (fc : Bool) (n : Int) (o : Out) (st' : St)
    (hn : n ≠ 0) (hr : ¬ ReadReq g st fc n) (h : readOk g st ty fc n o = .ok st') :
    o.ret = 0 ∧ o.err = true ∧ st'.rpos = st.rpos ∧ st'.wpos = st.wpos ∧ st'.frames = st.frames := by
  obtain ⟨⟨a, b⟩, rfl⟩ := (readOk_invalid_iff g st ty fc n o st' hn hr).mp h
  exact ⟨a, b, rfl, rfl, rfl⟩

/-- the abstract machine's invariant `0 ≤ rpos ≤ frames` of a read-only handle, and the constancy of the file, hold after
    EVERY accepted transcript of reads / seeks / raw reads / queries, by induction over the transcript -/
theorem read_only_invariant (g : Geom) (tr : List (Op × Out)) (st st' : St) (hm : st.mode = .r) (hle : st.rpos ≤ st.frames)
    (hops : ∀ l ∈ tr, rdOnly l.1 = true) (h : accepts g st tr = some st') :
    st'.mode = .r ∧ st'.rpos ≤ st'.frames ∧ st'.frames = st.frames ∧ st'.ref = st.ref ∧ st'.valid = st.valid := by
  refine accepts_invariant (g := g) (Q := fun op => rdOnly op = true)
    (P := fun s1 => s1.mode = .r ∧ s1.rpos ≤ s1.frames ∧ s1.frames = st.frames ∧ s1.ref = st.ref ∧ s1.valid = st.valid)
    (fun s1 op o s2 ⟨m1, l1, a, b, c⟩ hop hc => ?_) tr st st' ⟨hm, hle, rfl, rfl, rfl⟩ hops h
  obtain ⟨⟨m2, l2⟩, a', b', c'⟩ := check_RInv g s1 op o s2 ⟨m1, l1⟩ hop hc
  exact ⟨m2, l2, a'.trans a, b'.trans b, c'.trans c⟩

/-! ## non-vacuity: the 3-frame stereo file of C05.lean, as the harness prints it -/

def exG : Geom := { ch := 2, frames0 := 3, mode0 := .r }
def exRef : Ty → Array Item := fun ty => match ty with | .s16 => #[1, 2, 3, 4, 5, 6] | _ => #[]
def exValid : Ty → Bool := fun ty => ty = .s16

/-- 4 items, then 5 frames asked with 1 left (short, tail untouched), then a read at the end (zero-filled), an unaligned
    items call (refused), a position probe -/
def exTr : List (Op × Out) :=
  [(.read .s16 false 4, { ret := 4, data := #[1, 2, 3, 4] }),
   (.read .s16 true 5, { ret := 1, data := #[5, 6, 0xA5A5, 0xA5A5, 0xA5A5, 0xA5A5, 0xA5A5, 0xA5A5, 0xA5A5, 0xA5A5] }),
   (.read .s16 true 1, { ret := 0, data := #[0, 0] }),
   (.read .s16 false 3, { ret := 0, err := true, data := #[0xA5A5, 0xA5A5, 0xA5A5] }),
   (.seek 0 1, { ret := 3 })]

example : holdsOn exG exRef exValid exTr = .ok 5 := by decide
/-- a wrong item, a short read inside the data, a non-zero buffer at the end: each is refused with its clause -/
example : holdsOn exG exRef exValid [(.read .s16 false 4, { ret := 4, data := #[1, 2, 9, 4] })] = .bad 0 "data" := by decide
example : holdsOn exG exRef exValid [(.read .s16 true 2, { ret := 1, data := #[1, 2, 0, 0] })] = .bad 0 "short" := by decide
example : holdsOn exG exRef exValid (exTr.take 2 ++ [(.read .s16 true 1, { ret := 0, data := #[0, 7] })]) = .bad 2 "eof" := by decide
example : ReadReq exG (St.init exG exRef exValid) false 4 := by unfold ReadReq; decide

end Sf.C05Abs
