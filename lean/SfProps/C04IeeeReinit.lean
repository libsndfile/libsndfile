-- properties: C04 C08
/-
  C04 / C08 — SFC_TEST_IEEE_FLOAT_REPLACE issued after audio was written (model lean/SfModel/IeeeReinit.lean;
  repaired defect KF-IEEE-REPLACE-FRAMES of known_findings).
-/
import SfModel.IeeeReinit
namespace Sf.C04IeeeReinit
open Sf.IeeeReinit

/-- **replace_command_keeps_length.**  On every handle state the command leaves the frame count, the data length and
    the write pointer alone. -/
theorem replace_command_keeps_length (p : P) :
    (command .current p).frames = p.frames ∧ (command .current p).datalength = p.datalength ∧ (command .current p).writeCur = p.writeCur := by
  simp [command, codecInit]

example : (command .current (write (openNew 2 44) 6)).frames = 6 := by decide

theorem step_atEnd (p : P) (h : AtEnd p) (o : Op) : AtEnd (step .current p o) ∧ (step .current p o).frames = p.frames + written [o] := by
  cases o with
  | write k =>
    unfold AtEnd at h
    simp only [step, write, AtEnd, written]
    constructor
    · split <;> omega
    · split <;> omega
  | cmd => simp [step, command, codecInit, AtEnd, written] at *; exact h

/-- **session_frames.**  From a handle whose write pointer stands at the end of the audio (a fresh SFM_WRITE or SFM_RDWR
    handle), after ANY sequence of write calls and SFC_TEST_IEEE_FLOAT_REPLACE commands the frame count is the count at
    open plus the frames the write calls accepted — what the container's close then serialises. -/
theorem session_frames (ops : List Op) (p : P) (h : AtEnd p) :
    AtEnd (run .current p ops) ∧ (run .current p ops).frames = p.frames + written ops := by
  induction ops generalizing p with
  | nil => simp [run, written]; exact h
  | cons o t ih =>
    have hs := step_atEnd p h o
    have := ih (step .current p o) hs.1
    simp only [run, List.foldl_cons] at *
    refine ⟨this.1, ?_⟩
    rw [this.2, hs.2]
    cases o <;> simp [written] <;> omega

example : AtEnd (openNew 1 44) ∧ AtEnd (openOld 2 44 9) ∧
    (run .current (openNew 1 44) [.write 6, .cmd, .write 3, .cmd]).frames = 9 ∧
    (run .current (openOld 2 44 9) [.write 3, .cmd]).frames = 12 := by decide

/-- **session_frames_old_rule.**  Before the repair the handle fell back to the length the file had at open: a new file
    on which 6 frames were written announced 0 frames after the command, a file of 9 frames that had grown to 12
    announced 9; and the next write call counted on from there only because the write pointer had not moved. -/
theorem session_frames_old_rule :
    (run .old (openNew 1 44) [.write 6, .cmd]).frames = 0 ∧ written [.write 6, .cmd] = 6 ∧
    (run .old (openOld 2 44 9) [.write 3, .cmd]).frames = 9 ∧
    (run .old (openNew 1 44) [.write 6, .cmd, .write 3]).frames = 9 := by decide

theorem session_frames_full_old_rule_fails :
    ¬ (∀ (ops : List Op) (p : P), AtEnd p → (run .old p ops).frames = p.frames + written ops) := by
  intro h
  have := h [.write 6, .cmd] (openNew 1 44) (by decide)
  revert this; decide

end Sf.C04IeeeReinit
