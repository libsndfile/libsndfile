/-
  C08 on the ABSTRACT model (SfModel/Abs.lean): what the predicate `Sf.Abs.holdsOn` accepts about read/write histories —
  the abstract file of the statement (frames, read position, write position) evolving under ACCEPTED lines, whatever
  container produced them.
-/
import SfProofs.AbsWriteLemmas
import SfProofs.AbsSeq
namespace Sf.C08Abs
open Sf Sf.Abs

/-- write_contract: an accepted answer to a valid write request has `0 ≤ w ≤ requested`, whole frames, `w = requested`
    unless the geometry says I/O may fail, leaves the read position alone, advances the write position by exactly `w / ch`
    frames; writing inside existing data keeps the length, writing at or past the end extends the frame count to the new
    write position -/
theorem write_contract_abs (g : Geom) (st : St) (ty : Ty) (fc : Bool) (n : Int) (data : Array Item) (o : Out) (st' : St)
    (hr : WriteReq g st fc n) (h : writeOk g st ty fc n data o = .ok st') :
    0 ≤ o.ret ∧ o.ret ≤ n ∧ retItems g fc o.ret % g.ch = 0 ∧ (g.ioMayFail = false → o.ret = n) ∧
    st'.rpos = st.rpos ∧ st'.wpos = st.wpos + retItems g fc o.ret / g.ch ∧
    (st'.wpos ≤ st.frames → st'.frames = st.frames) ∧
    (st.frames ≤ st'.wpos → 0 < retItems g fc o.ret / g.ch → st'.frames = st'.wpos) := by
  obtain ⟨ret0, retLe, whole, _, full, _, rpos, _, wpos, idle, moved⟩ := writeOk_valid g st ty fc n data o st' hr h
  refine ⟨ret0, retLe, whole, full, rpos, wpos, fun hle => ?_, fun hge hk => ?_⟩
  · by_cases hk : retItems g fc o.ret / g.ch = 0
    · exact (idle hk).1
    · rw [(moved (Nat.pos_of_ne_zero hk)).1]; omega
  · rw [(moved hk).1]; omega

/-- write_then_read: the frames an accepted (complete) write of a lossless type stored at frame `p` are what an accepted
    read of as many items at read position `p` returns — in ANY later state that still holds that stream (`hsame`) -/
theorem write_then_read_abs (g : Geom) (st st1 st2 st3 : St) (ty : Ty) (fc fc' : Bool) (n n' : Int) (data : Array Item) (o o' : Out)
    (hr : WriteReq g st fc n) (hw : writeOk g st ty fc n data o = .ok st1) (hfull : o.ret = n)
    (hsame : st2.ref ty = st1.ref ty ∧ st2.valid ty = true ∧ st2.rpos = st.wpos ∧ st2.rpos < st2.frames)
    (hr' : ReadReq g st2 fc' n') (hrd : readOk g st2 ty fc' n' o' = .ok st3)
    (hcount : retItems g fc' o'.ret = reqItems g fc n) (hpos : 0 < reqItems g fc n / g.ch) :
    o'.data.extract 0 (reqItems g fc n * cells ty) = data.extract 0 (reqItems g fc n * cells ty) := by
  obtain ⟨_, _, _, hsz, _, _, _, _, _, _, moved⟩ := writeOk_valid g st ty fc n data o st1 hr hw
  have hitems : retItems g fc o.ret = reqItems g fc n := by
    rw [hfull]; unfold retItems reqItems; rfl
  rw [hitems] at moved
  obtain ⟨_, href, _⟩ := moved hpos
  obtain ⟨_, _, _, _, _, _, hmain⟩ := readOk_valid g st2 ty fc' n' o' st3 hr' hrd
  obtain ⟨_, _, hdat, _⟩ := hmain hsame.2.2.2
  have hx := sliceEq_extract _ _ _ _ _ (hdat hsame.2.1)
  rw [hcount, Nat.zero_add, hsame.1, href, hsame.2.2.1] at hx
  have hd : (data.extract 0 (reqItems g fc n * cells ty)).size = reqItems g fc n * cells ty := by
    rw [Array.size_extract]; omega
  have := writeAt_mid 0 (st.ref ty) (st.wpos * g.cpf ty) (data.extract 0 (reqItems g fc n * cells ty))
  rw [hd] at this
  rw [hx, this]

/-- untouched_preserved: an accepted write changes nothing in front of the write position (of the written type's stream;
    the streams of the other caller types become unknown, never wrong) -/
theorem untouched_preserved_abs (g : Geom) (st : St) (ty : Ty) (fc : Bool) (n : Int) (data : Array Item) (o : Out) (st' : St)
    (hr : WriteReq g st fc n) (h : writeOk g st ty fc n data o = .ok st')
    (hin : st.wpos * g.cpf ty ≤ (st.ref ty).size) :
    (st'.ref ty).extract 0 (st.wpos * g.cpf ty) = (st.ref ty).extract 0 (st.wpos * g.cpf ty) := by
  obtain ⟨_, _, _, _, _, _, _, _, _, idle, moved⟩ := writeOk_valid g st ty fc n data o st' hr h
  by_cases hk : retItems g fc o.ret / g.ch = 0
  · rw [(idle hk).2]
  · rw [(moved (Nat.pos_of_ne_zero hk)).2.1]; exact writeAt_prefix 0 _ _ _ hin

/-- whence_moves_only_that_pointer / plain_whence_moves_both: on a read/write handle an accepted seek that is not a
    refusal puts the read pointer (SFM_READ), the write pointer (SFM_WRITE) or both (plain) at the frame it reports, and
    leaves the other pointer, the frame count and the data alone -/
theorem whence_pointers_abs (g : Geom) (st : St) (off whence : Int) (o : Out) (st' : St) (hm : st.mode = .rw)
    (h : seekOk g st off whence o = .ok st') (hk : o.ret ≠ -1) :
    (seekQual whence = 0x10 → (st'.rpos : Int) = o.ret ∧ st'.wpos = st.wpos) ∧
    (seekQual whence = 0x20 → (st'.wpos : Int) = o.ret ∧ st'.rpos = st.rpos) ∧
    (seekQual whence = 0 → (st'.rpos : Int) = o.ret ∧ (st'.wpos : Int) = o.ret) ∧
    st'.frames = st.frames ∧ st'.ref = st.ref := by
  rcases seekOk_ok g st off whence o st' h with ⟨a, _, _⟩ | ⟨t, _, _, hr, _, rfl⟩
  · exact absurd a hk
  · obtain ⟨f1, _, f3, _⟩ := seekMove_frames st whence t
    refine ⟨fun hq => ?_, fun hq => ?_, fun hq => ?_, f1, f3⟩
    · rw [seekMove_rd st whence t hq]; exact ⟨hr.symm, rfl⟩
    · rw [seekMove_wr st whence t hq]; exact ⟨hr.symm, rfl⟩
    · rw [seekMove_plain_rw st whence t hq hm]; exact ⟨hr.symm, hr.symm⟩

/-- truncate_shortens (and its refusal) -/
theorem truncate_abs (g : Geom) (st : St) (n : Int) (o : Out) (st' : St) (h : truncOk g st n o = .ok st') :
    ((st.mode = .r ∨ g.canTrunc = false ∨ n < 0) → o.ret ≠ 0 ∧ st'.frames = st.frames ∧ st'.rpos = st.rpos ∧
      st'.wpos = st.wpos ∧ st'.ref = st.ref) ∧
    (st.mode ≠ .r → g.canTrunc = true → 0 ≤ n → o.ret = 0 ∧ o.err = false ∧ st'.frames = n.toNat ∧ st'.rpos = n.toNat ∧
      st'.wpos = n.toNat ∧ ∀ t, st'.ref t = upTo 0 ((st.ref t).extract 0 (n.toNat * g.cpf t)) (n.toNat * g.cpf t)) := by
  constructor
  · intro hc
    obtain ⟨hr, rfl⟩ := (truncOk_refused_iff g st n o st' hc).mp h
    exact ⟨hr, rfl, rfl, rfl, rfl⟩
  · intro hm hc hn
    obtain ⟨⟨hr, he⟩, rfl⟩ := (truncOk_eq_ok_iff g st n o st' hm hc hn).mp h
    exact ⟨hr, he, rfl, rfl, rfl, fun _ => rfl⟩

/-! ## non-vacuity: a new stereo file opened read/write on a descriptor route -/

def exG : Geom := { ch := 2, frames0 := 0, mode0 := .w, canTrunc := true, strictSeek := true, lossless := fun ty => ty = .s16 }
def exRef : Ty → Array Item := fun _ => #[]
def exValid : Ty → Bool := fun _ => true

/-- open rw; write 2 frames; read pointer to 0 (write pointer stays 2); read 3 frames: 2 delivered; write 1 more frame at
    the end (3 frames); overwrite frame 0; SEEK_END|SFM_READ −1; truncate to 1; close; a fresh open sees 1 frame -/
def exTr : List (Op × Out) :=
  [(.reopen .rw, { frames := 0 }),
   (.write .s16 true 2 #[1, 2, 3, 4], { ret := 2 }),
   (.seek 0 0x10, { ret := 0 }), (.seek 0 0x21, { ret := 2 }),
   (.read .s16 true 3, { ret := 2, data := #[1, 2, 3, 4, 0xA5A5, 0xA5A5] }),
   (.write .s16 false 2 #[5, 6], { ret := 2 }), (.info, { frames := 3 }),
   (.seek 0 0x20, { ret := 0 }), (.write .s16 true 1 #[7, 8], { ret := 1 }), (.info, { frames := 3 }),
   (.seek (-1) 0x12, { ret := 2 }), (.read .s16 true 1, { ret := 1, data := #[5, 6] }),
   (.trunc 1, { ret := 0 }), (.info, { frames := 1 }), (.seek 0 0x11, { ret := 1 }),
   (.close, { ret := 0 }), (.reopen .r, { frames := 1 }), (.read .s16 false 8, { ret := 2, data := #[7, 8, 0, 0, 0, 0, 0, 0] })]

example : holdsOn exG exRef exValid exTr = .ok 18 := by decide +kernel
/-- stale data after an overwrite, a frame count that did not grow, a pointer dragged along: refused with their clauses -/
example : holdsOn exG exRef exValid (exTr.take 4 ++ [(.read .s16 true 1, { ret := 1, data := #[9, 2] })]) = .bad 4 "data" := by decide
example : holdsOn exG exRef exValid (exTr.take 6 ++ [(.info, { frames := 2 })]) = .bad 6 "frames" := by decide +kernel
example : holdsOn exG exRef exValid (exTr.take 3 ++ [(.seek 0 0x21, { ret := 0 })]) = .bad 3 "position" := by decide
example : holdsOn exG exRef exValid (exTr.take 13 ++ [(.seek 0 0x11, { ret := 3 })]) = .bad 13 "position" := by decide +kernel
example : WriteReq exG { (St.init exG exRef exValid) with mode := .rw } true 2 := by unfold WriteReq; decide

end Sf.C08Abs
