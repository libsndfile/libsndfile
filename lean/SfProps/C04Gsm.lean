/-
  C04 / C11 (GSM 06.10 geometry) — frames reported at open by `gsm610_init` (SfModel/GsmFile.lean `blocksOfWith`,
  `framesWith`) as a function of the data length the container's parser hands over.
  -- properties: C04 C11

  A writer always emits whole blocks (N of them for n frames, N = ⌈n / samplesperblock⌉), so the data length is
  `blocksize * N` plus whatever the container adds: nothing (RAW, W64), one pad byte when odd (AIFF: dropped again by
  the 33-byte rule; WAV: `psf->datalength += chunk_size & 1` in wav.c, dropped only by the repaired rule — known
  finding KF-WAV-GSM-PAD).  Theorems are stated for an explicit rule (`both = false`: /repo f178350, `both = true`:
  after the repair) or for both; `Sf.Gsm.padRuleBoth` says which one the model run by the campaign uses.
-/
import SfModel.GsmFile
namespace Sf.C04Gsm
open Sf Sf.Gsm

/-- `gsm610_init` on `n` whole blocks and `r` further bytes -/
theorem blocksOf_add (both : Bool) (c : Cfg) (n r : Nat) (hr : r < c.blocksize) :
    blocksOfWith both c (c.blocksize * n + r) =
      if r = 0 then n else if r = 1 ∧ (both = true ∨ c.blocksize = 33) then n else n + 1 := by
  unfold blocksOfWith
  rw [Nat.mul_add_mod, Nat.mod_eq_of_lt hr, Nat.mul_add_div (Nat.zero_lt_of_lt hr), Nat.div_eq_of_lt hr, Nat.add_zero]

/-- whole blocks: the frame count is exact in both geometries, under either rule -/
theorem gsm_frames_exact (both : Bool) (c : Cfg) (n : Nat) : framesWith both c (c.blocksize * n) none = c.spb * n := by
  have hb : 0 < c.blocksize := by unfold Cfg.blocksize; split <;> decide
  unfold framesWith blocksOfWith
  simp [Nat.mul_mod_right, Nat.mul_div_cancel_left n hb]

/-- in general the count is within one block of the data: ⌊dlen / blocksize⌋ ≤ blocks ≤ ⌊dlen / blocksize⌋ + 1, and the
    frames never exceed the header's numSampleFrames when the container (AIFF) supplies one -/
theorem gsm_frames_bound (both : Bool) (c : Cfg) (dlen : Nat) (hdr : Option Nat) :
    framesWith both c dlen hdr ≤ c.spb * (dlen / c.blocksize + 1) ∧ c.spb * (dlen / c.blocksize) ≤ framesWith both c dlen none ∧
    (∀ h, hdr = some h → framesWith both c dlen hdr ≤ h) := by
  have hblk : dlen / c.blocksize ≤ blocksOfWith both c dlen ∧ blocksOfWith both c dlen ≤ dlen / c.blocksize + 1 := by
    unfold blocksOfWith; split
    · omega
    · split <;> omega
  refine ⟨?_, ?_, ?_⟩
  · have h1 : c.spb * blocksOfWith both c dlen ≤ c.spb * (dlen / c.blocksize + 1) := Nat.mul_le_mul_left _ hblk.2
    unfold framesWith
    cases hdr with
    | none => exact h1
    | some h => simp only; split <;> omega
  · exact Nat.mul_le_mul_left _ hblk.1
  · intro h hh; subst hh
    unfold framesWith; simp only; split <;> omega

/-- the model the campaign runs uses the rule `padRuleBoth` -/
theorem gsm_frames_at_open_rule (c : Cfg) (dlen : Nat) (hdr : Option Nat) :
    framesAtOpen c dlen hdr = framesWith padRuleBoth c dlen hdr := rfl

/-- AIFF: an odd number N of 33-byte frames makes an odd SSND payload; the pad byte raises the data length to
    33 N + 1 and the "weird AIFF specific case" of gsm610_init drops it again: the count is exact (either rule) -/
theorem gsm_aiff_pad_dropped (both : Bool) (n : Nat) : framesWith both ⟨false⟩ (33 * n + 1) none = 160 * n := by
  have h := blocksOf_add both ⟨false⟩ n 1 (by decide)
  rw [if_neg (by decide), if_pos ⟨rfl, Or.inr rfl⟩] at h
  unfold framesWith
  exact congrArg (160 * ·) h

/-- the full statement for WAV under a given rule: N whole blocks written re-open with 320 N frames — for the data
    length wav.c hands over, `65 N + (65 N mod 2)` -/
def wav_gsm_frames_exact_full (both : Bool) : Prop := ∀ n : Nat, framesWith both ⟨true⟩ (65 * n + (65 * n) % 2) none = 320 * n

/-- KF-WAV-GSM-PAD, proved witness (old rule): one block written, the RIFF pad byte is counted and a second, phantom
    block is reported (640 frames) -/
theorem wav_gsm_pad_counts_extra_block : framesWith false ⟨true⟩ (65 * 1 + (65 * 1) % 2) none = 640 := by decide

theorem wav_gsm_frames_exact_full_fails : ¬ wav_gsm_frames_exact_full false := by
  intro h
  have := h 1
  rw [wav_gsm_pad_counts_extra_block] at this
  omega

/-- WAV, either rule: the reader is handed the chunk and, for an odd number of blocks, its pad byte; the old rule takes
    that byte for one more block -/
theorem wav_gsm_frames (both : Bool) (n : Nat) :
    framesWith both ⟨true⟩ (65 * n + (65 * n) % 2) none = 320 * (n + if n % 2 = 1 ∧ both = false then 1 else 0) := by
  have h := blocksOf_add both ⟨true⟩ n ((65 * n) % 2) (Nat.lt_trans (Nat.mod_lt _ (by decide)) (by decide))
  unfold framesWith
  refine (congrArg (320 * ·) h).trans ?_
  have e : (65 * n) % 2 = n % 2 := by omega
  rw [e]
  rcases Nat.mod_two_eq_zero_or_one n with h0 | h0 <;> cases both <;> simp [h0, Cfg.blocksize]

/-- old rule: every odd number of blocks shows the defect, exactly one block too many -/
theorem wav_gsm_odd_blocks_one_extra (n : Nat) (h : n % 2 = 1) :
    framesWith false ⟨true⟩ (65 * n + (65 * n) % 2) none = 320 * (n + 1) := by
  rw [wav_gsm_frames, if_pos ⟨h, rfl⟩]

/-- old rule, partial statement: excluded region = exactly the class of KF-WAV-GSM-PAD (an odd number of 65-byte blocks) -/
theorem wav_gsm_frames_exact_partial (n : Nat) (h : n % 2 = 0) :
    framesWith false ⟨true⟩ (65 * n + (65 * n) % 2) none = 320 * n := by
  rw [wav_gsm_frames, if_neg (by omega), Nat.add_zero]

/-- repaired rule (one stray byte forgiven for both block sizes): the full statement holds -/
theorem wav_gsm_frames_exact_new_rule : wav_gsm_frames_exact_full true := by
  intro n
  rw [wav_gsm_frames, if_neg (by simp), Nat.add_zero]

example : (2 : Nat) % 2 = 0 ∧ (3 : Nat) % 2 = 1 ∧ framesWith false ⟨false⟩ (33 * 3 + 1) none = 480 ∧
    framesWith false ⟨true⟩ 130 none = 640 ∧ framesWith false ⟨false⟩ 40 (some 7) = 7 ∧ framesWith true ⟨true⟩ 66 none = 320 := by decide

end Sf.C04Gsm
