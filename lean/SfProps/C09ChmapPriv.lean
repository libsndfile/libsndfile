/-
  C09 — a refused SFC_SET_CHANNEL_MAP_INFO leaves the container's private channel mask / layout tag alone, so the closed file
  carries the map accepted before (the clause `file` / `reopen` of Sf.AbsTwin on the twin runs of vlib/chmapfix.py `twin_pass` and
  vlib/c09twin.py).  Model: SfModel/ChmapPriv.lean (handler × refusal branch).
-/
import SfModel.ChmapPriv
namespace Sf.C09ChmapPriv
open Sf Sf.ChmapPriv

/-- every combination of handler and refusal branch but (overwrite, no re-derivation): a refused call changes neither
    psf->channel_map nor the mask / tag that goes into the header -/
theorem refused_leaves_priv_of (hd : Handler) (rd : Bool) (hk : hd = .transactional ∨ rd = true) (s : PSt) (new : List Nat)
    (hi : PInv s) (hr : (setValid hd rd s new).1 = 0) : (setValid hd rd s new).2 = s := by
  obtain ⟨c, m, p⟩ := s
  by_cases hd0 : derive c new = 0
  · cases m with
    | none =>
      simp [PInv] at hi
      cases hd <;> simp [setValid, handler, hd0, hi]
    | some old =>
      simp [PInv] at hi
      rcases hk with rfl | rfl
      · cases rd <;> simp [setValid, handler, hd0, hi.2, hi.1]
      · cases hd <;> simp [setValid, handler, hd0, hi.2, hi.1]
  · cases hd <;> simp [setValid, handler, hd0] at hr

/-- the code as it is: every handler overwrites, the refusal branch re-derives -/
theorem refused_leaves_priv (s : PSt) (new : List Nat) (hi : PInv s) (hr : (setNow s new).1 = 0) : (setNow s new).2 = s :=
  refused_leaves_priv_of .overwrite true (.inr rfl) s new hi hr

/-- an accepted call establishes the invariant, a refused one keeps it: one call keeps it, and `inv_fresh` starts it -/
theorem inv_preserved (s : PSt) (new : List Nat) (hi : PInv s) : PInv (setNow s new).2 := by
  by_cases hd : derive s.container new = 0
  · have hr : (setNow s new).1 = 0 := by
      obtain ⟨c, m, p⟩ := s
      cases m <;> simp_all [setNow, setValid, handler]
    rw [refused_leaves_priv s new hi hr]; exact hi
  · simp [setNow, setValid, handler, hd, PInv]

theorem inv_fresh (c : Nat) : PInv { container := c, map := none, priv := 0 } := by simp [PInv]

/-- what the header writer uses is unchanged by a refused call -/
theorem refused_leaves_file_mask (s : PSt) (new : List Nat) (hi : PInv s) (hr : (setNow s new).1 = 0) :
    written (setNow s new).2 = written s := by rw [refused_leaves_priv s new hi hr]

/-- transactional handlers need no re-derivation -/
theorem transactional_refused_leaves_priv (rd : Bool) (s : PSt) (new : List Nat) (hr : (setValid .transactional rd s new).1 = 0)
    (hi : PInv s) : (setValid .transactional rd s new).2 = s :=
  refused_leaves_priv_of .transactional rd (.inl rfl) s new hi hr

/-- an RF64 handle, mono, map [3] (RIGHT) accepted: mask 2 -/
def rf64Right : PSt := { container := ChmapVerdict.cRF64, map := some [3], priv := 2 }

/-- a handler that overwrites with a refusal branch that does not re-derive (the combination no single site shows): the map
    [1] (MONO has no mask bit) is refused, psf->channel_map still says [3], and the mask that goes into the file is 0 -/
theorem overwrite_without_rederive_zeroes_mask :
    PInv rf64Right ∧ (setValid .overwrite false rf64Right [1]).1 = 0 ∧ (setValid .overwrite false rf64Right [1]).2.map = some [3] ∧
    written (setValid .overwrite false rf64Right [1]).2 = 0 ∧ written (setNow rf64Right [1]).2 = 2 := by
  refine ⟨by decide, by decide, by decide, by decide, by decide⟩

def refused_no_effect_any_combination : Prop :=
  ∀ (hd : Handler) (rd : Bool) (s : PSt) (new : List Nat), PInv s → (setValid hd rd s new).1 = 0 → (setValid hd rd s new).2 = s

theorem refused_no_effect_any_combination_fails : ¬ refused_no_effect_any_combination := by
  intro h
  have := h .overwrite false rf64Right [1] (by decide) (by decide)
  revert this; decide

/-- non-vacuity: an accepted map reaches the invariant; the refused one is really refused -/
example : (setNow { container := ChmapVerdict.cRF64, map := none, priv := 0 } [3]).2 = rf64Right ∧ (setNow rf64Right [1]).1 = 0 ∧
    PInv (setNow { container := ChmapVerdict.cRF64, map := none, priv := 0 } [3]).2 := by
  refine ⟨by decide, by decide, by decide⟩

end Sf.C09ChmapPriv
