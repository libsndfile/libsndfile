/-
  C09 / C16 — the caller's file and the ledger after a FAILING sf_open (model: SfModel/FailedOpen.lean, SfModel/Ledger.lean).
-- properties: C09 C16

  * `failed_open_never_divides_by_zero` / `failed_open_rewrites_only_from_valid_info` (full strength, the repaired error exit): no
    close function ever runs a header writer on an SF_INFO that failed validate_sfinfo, hence no division by zero — any channel count an
    `int` can hold, any byte width 1..8, any failure point, early or late installation of the close function.
  * `failed_open_old_rule_traps`, `failed_open_old_rule_traps_by_wraparound`: the error exit before the repair (witnesses: channels = 0, the
    MAT5 file of findings/c16_rdwr_failed_open_fpe.txt; channels = 2^30 with 4-byte samples, the MAT4 witness).
  * `failed_open_writes_nothing_full` is the statement "a failing open writes nothing"; it is refuted for the current code by
    `failed_open_writes_nothing_refuted` (KF-RDWR-FAILED-OPEN-WRITES: a valid file whose codec has no read/write mode) and proved outside
    exactly that class by `failed_open_writes_nothing_partial` / `failed_open_writes_iff_class`.
  * `error_exit_mode_releases_the_same`: closing the handle as a read handle changes nothing in the resource ledger of C16.
-/
import SfModel.FailedOpen
import SfModel.Ledger
import SfProofs.Bytes
namespace Sf.C09FailedOpen
open Sf.FailedOpen

/-- a valid SF_INFO and a byte width of 1..8 give a non-zero `int` product -/
theorem divisor_ne_zero (c : Cfg) (hv : infoValid c = true) (hb1 : 1 ≤ c.bytewidth) (hb8 : c.bytewidth ≤ 8) : divisor c ≠ 0 := by
  unfold infoValid at hv
  simp only [Bool.and_eq_true, SF_MAX_CHANNELS, decide_eq_true_eq] at hv
  obtain ⟨⟨_, h1⟩, h2⟩ := hv
  have hlo : 1 ≤ c.bytewidth * c.channels := by
    have := Int.mul_le_mul hb1 h1 (by omega) (by omega)
    omega
  have hhi : c.bytewidth * c.channels ≤ 8 * 1024 := Int.mul_le_mul hb8 (of_decide_eq_true h2) (by omega) (by omega)
  unfold divisor
  rw [wrapS_of_range 32 _ (by omega) (by omega)]
  omega

theorem mem_events {rule : Rule} {c : Cfg} {f : Fail} {e : Ev} (h : e ∈ events rule c f) :
    e = .provisional ∨ (e = closeWrite c ∧ writesMode (closeMode rule c) = true) := by
  unfold events at h
  rcases List.mem_append.mp h with h | h
  · split at h
    · exact .inl (List.mem_singleton.mp h)
    · cases h
  · split at h
    · exact .inr ⟨List.mem_singleton.mp h, (Bool.and_eq_true_iff.mp ‹_›).2⟩
    · cases h

theorem closes_writing_valid (c : Cfg) (hm : c.mode ≠ .w) (hw : writesMode (closeMode .validate c) = true) : infoValid c = true := by
  unfold closeMode at hw
  cases hv : infoValid c with
  | true => rfl
  | false => cases hmode : c.mode <;> simp [hmode, hv, writesMode] at hw hm

/-- With the repaired error exit no failing SFM_RDWR (or SFM_READ) open reaches the division by
    zero of a header writer: every channel count, every byte width 1..8, every failure point, either installation order. -/
theorem failed_open_never_divides_by_zero (c : Cfg) (f : Fail) (hm : c.mode ≠ .w) (hb1 : 1 ≤ c.bytewidth) (hb8 : c.bytewidth ≤ 8) :
    Ev.trap ∉ events .validate c f := by
  intro h
  rcases mem_events h with h | ⟨h, hw⟩
  · cases h
  · rw [closeWrite, if_neg (divisor_ne_zero c (closes_writing_valid c hm hw) hb1 hb8)] at h
    cases h

/-- Whatever a close function writes on the repaired error exit of a SFM_RDWR open is derived
    from an SF_INFO that passed validate_sfinfo. -/
theorem failed_open_rewrites_only_from_valid_info (c : Cfg) (f : Fail) (hm : c.mode = .rw) (v : Bool)
    (h : Ev.closeRewrite v ∈ events .validate c f) : v = true ∧ infoValid c = true := by
  rcases mem_events h with h | ⟨h, hw⟩
  · cases h
  · have hv := closes_writing_valid c (by rw [hm]; exact fun e => nomatch e) hw
    unfold closeWrite at h
    split at h
    · cases h
    · exact ⟨(Ev.closeRewrite.inj h).trans hv, hv⟩

example : Ev.trap ∉ events .validate { mode := .rw, channels := 0, bytewidth := 2 } .sfinfo :=
  failed_open_never_divides_by_zero _ _ (by decide) (by decide) (by decide)

/-- Before the repair: MAT5, channel count 0 in the file, SFM_RDWR — the witness of KF-RDWR-FAILED-OPEN-FPE. -/
theorem failed_open_old_rule_traps :
    Ev.trap ∈ events .old { mode := .rw, channels := 0, bytewidth := 2 } .sfinfo := by decide

/-- … and a channel count that makes the `int` product wrap to zero (MAT4, 4-byte samples, 2^30 columns). -/
theorem failed_open_old_rule_traps_by_wraparound :
    Ev.trap ∈ events .old { mode := .rw, channels := 1073741824, bytewidth := 4 } .codec := by decide

/-- the same two handles on the repaired error exit: the provisional header at most, no trap -/
example : events .validate { mode := .rw, channels := 0, bytewidth := 2 } .sfinfo = [.provisional] := by decide
example : events .validate { mode := .rw, channels := 1073741824, bytewidth := 4 } .codec = [.provisional] := by decide

/-- the full statement: a failing open writes nothing into the caller's file -/
def failed_open_writes_nothing_full : Prop :=
  ∀ (c : Cfg) (f : Fail), c.mode ≠ .w → events .validate c f = []

/-- KF-RDWR-FAILED-OPEN-WRITES.  A VALID file (two channels, 16-bit) whose codec has no
    read/write mode, opened SFM_RDWR: provisional header, then the close function's rewrite. -/
theorem failed_open_writes_nothing_refuted : ¬ failed_open_writes_nothing_full := by
  intro h
  have := h { mode := .rw, channels := 2, bytewidth := 2 } .codec (by decide)
  revert this
  decide

/-- The class of the finding is exact: something is written iff the case lies in it (either rule). -/
theorem failed_open_writes_iff_class (rule : Rule) (c : Cfg) (f : Fail) :
    events rule c f ≠ [] ↔ KF.lateRefusal rule c f = true := by
  unfold events KF.lateRefusal
  by_cases h1 : (writesMode c.mode && f.late) = true <;> by_cases h2 : (hookInstalled c f && writesMode (closeMode rule c)) = true <;>
    simp [h1, h2]

/-- Outside the class nothing is written: every SFM_READ open, every refusal in front of the
    container's open function, every refusal by the header reader of a container that installs its close function late. -/
theorem failed_open_writes_nothing_partial (rule : Rule) (c : Cfg) (f : Fail) (h : KF.lateRefusal rule c f = false) :
    events rule c f = [] := by
  by_cases he : events rule c f = []
  · exact he
  · have := (failed_open_writes_iff_class rule c f).mp he
    rw [h] at this
    cases this

/-- a failing SFM_READ open never writes -/
theorem read_mode_failed_open_writes_nothing (rule : Rule) (c : Cfg) (f : Fail) (hm : c.mode = .r) : events rule c f = [] := by
  apply failed_open_writes_nothing_partial
  have hc : closeMode rule c = .r := by
    unfold closeMode
    simp [hm]
  simp [KF.lateRefusal, hm, hc, writesMode]

/-- a refusal by the header reader of a container that installs its close function late (every container but AIFF) writes nothing -/
theorem reader_refusal_writes_nothing (rule : Rule) (c : Cfg) (hh : c.hookEarly = false) : events rule c .reader = [] := by
  apply failed_open_writes_nothing_partial
  simp [KF.lateRefusal, Fail.late, hookInstalled, hh]

example : events .validate { mode := .rw, channels := 2, bytewidth := 2 } .reader = [] :=
  reader_refusal_writes_nothing _ _ rfl
example : KF.lateRefusal .validate { mode := .rw, channels := 2, bytewidth := 2 } .codec = true := by decide
example : KF.lateRefusal .validate { mode := .rw, channels := 2, bytewidth := 2, hookEarly := true } .reader = true := by decide

/-! ### the ledger of C16 does not see the repaired error exit -/

open Sf.Ledger in
/-- psf_close's release program on a SFM_RDWR handle equals the one on the same handle closed as
    SFM_READ (the only mode test among the release actions is alac_close's `== SFM_WRITE`): descriptor, temporary file and heap cells are
    released exactly as before, for every handle state. -/
theorem error_exit_mode_releases_the_same (h : Sf.Ledger.Handle) (hm : h.mode = .rw) :
    releaseProg { h with mode := .r } = releaseProg h := by
  unfold releaseProg releaseHead
  simp only [hm]
  cases h.codecClose with
  | none => rfl
  | some k => cases k <;> simp [codecHookProg]

open Sf.Ledger in
example : releaseProg { ({ mode := .rw, codecClose := some .alac } : Sf.Ledger.Handle) with mode := .r }
    = releaseProg ({ mode := .rw, codecClose := some .alac } : Sf.Ledger.Handle) :=
  error_exit_mode_releases_the_same _ rfl

end Sf.C09FailedOpen
