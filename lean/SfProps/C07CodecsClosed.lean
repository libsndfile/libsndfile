-- properties: C04 C06
/-
  C07 / C04 / C06 for the three modelled block codecs with cross-block state (G.721 / G.723, NMS ADPCM, GSM 06.10) —
  the CLOSED FORM of a written file and what a re-open makes of it.

  For every rate / geometry, every conversion setting, every list of write calls of any caller types and sizes:

    `*_closed_form`      the data region after `sf_close` is `encChunks encodeBlock spb … init (converted samples)`:
                         the encoder run over the spb-chunks of the converted samples, the last chunk zero-padded, the
                         encoder state threaded from block to block (Sf.Block.Closed.encChunks) — a function of the
                         concatenated converted samples ONLY (C07 in closed form, not just "equal for equal inputs");
                         the `…` is the fuel of `encChunks`, written `length + 1` in the statements: any number above the
                         length gives the same list (`Sf.Block.Closed.encChunks_fuel`)
    `*_closed_length`    its byte length: ⌈N / spb⌉ · bytes-per-block
    `*_frames_at_reopen_closed`
                         frames at re-open computed FROM that length: F = ⌈N / spb⌉ · spb, hence N ≤ F < N + spb
                         (the C04 bound as a corollary of the closed form)
    `*_written_stream`   the C06 stream of the re-opened file (what every read delivers, SfProps/C06G72x / C06Nms /
                         C06Gsm) is the stream of the reader over `encChunks …`: a function of the written samples
    `nms_stream_flat`    NMS: that stream is `(decodedBlocks … (closed data)).flatten` cut at the position — every
                         decoded block has exactly 160 samples (`nms_decode_block_160`)
-/
import SfProps.C07Nms
import SfProps.C07G72x
import SfProps.C07Gsm
import SfProps.C06Nms
import SfProps.C04Gsm
import SfProofs.GsmFileLemmas
namespace Sf.C07CodecsClosed
open Sf Sf.Block Sf.Block.Proofs Sf.Block.Closed

/-- **closed form of the generic block writer**: any frames pushed through any calls, then the padding close -/
theorem block_writer_closed_form {σ : Type} (w : Writer σ) (wf : WWF w) (s0 : σ) (fs : List (List Int)) (hu : Uniform w.ch fs) :
    (w.close true (fs.foldl (pushFrame w) (w.init s0))).bytes = encChunks w.enc (w.spb * w.ch) (fs.length + 1) s0 fs.flatten :=
  closed_form w wf s0 fs hu

/-- non-vacuity: the toy writer that numbers its blocks (2 frames of 2 channels per block) -/
example : ((C07Block.toyW.close true (([[1, 2], [3, 4], [5, 6]] : List (List Int)).foldl (pushFrame C07Block.toyW) (C07Block.toyW.init 0))).bytes
      = [0, 1, 2, 3, 4, 1, 5, 6, 0, 0]) ∧
    encChunks C07Block.toyW.enc 4 4 0 [1, 2, 3, 4, 5, 6] = [0, 1, 2, 3, 4, 1, 5, 6, 0, 0] := by decide

section nms
open Sf.Nms Sf.C07Nms Sf.Nms.Proofs

theorem nms_encode_all_eq (r : Rate) : ∀ (fuel : Nat) (s : St) (xs : List Int),
    encodeAll r fuel s xs = encChunks (encodeBlock r) spb fuel s xs := by
  intro fuel
  induction fuel with
  | zero => intro s xs; rfl
  | succ fuel ih =>
    intro s xs
    unfold encodeAll encChunks
    by_cases hx : xs = []
    · simp [hx]
    · simp only [hx, if_false]
      rw [ih]

theorem nms_closed_form (r : Rate) (cv : Conv) (calls : List (Ty × List Int)) :
    closedData r cv calls = encChunks (encodeBlock r) spb ((shortsOf cv calls).length + 1) (St.init r) (shortsOf cv calls) ∧
    closedData r cv calls = encodeAll r ((shortsOf cv calls).length + 1) (St.init r) (shortsOf cv calls) := by
  have e : closedData r cv calls = encChunks (encodeBlock r) spb ((shortsOf cv calls).length + 1) (St.init r) (shortsOf cv calls) :=
    mono_typed_closed (writer r) (writer_wf r) rfl chunkOf (ofCaller cv) calls (St.init r)
  exact ⟨e, by rw [nms_encode_all_eq]; exact e⟩

theorem nms_closed_length (r : Rate) (cv : Conv) (calls : List (Ty × List Int)) :
    (closedData r cv calls).length = nblocks (shortsOf cv calls).length spb * r.blockBytes :=
  mono_typed_closed_length (writer r) (writer_wf r) rfl chunkOf (ofCaller cv) calls (St.init r) _ (encodeBlock_length r)

/-- **frames at re-open, from the closed length** (C04 for NMS as a corollary) -/
theorem nms_frames_at_reopen_closed (r : Rate) (cv : Conv) (calls : List (Ty × List Int)) :
    framesAtOpen r (closedData r cv calls).length = nblocks (shortsOf cv calls).length spb * spb ∧
    (shortsOf cv calls).length ≤ framesAtOpen r (closedData r cv calls).length ∧
    framesAtOpen r (closedData r cv calls).length < (shortsOf cv calls).length + spb := by
  rw [nms_closed_length, framesAtOpen_blocks]
  exact ⟨rfl, nblocks_bound _ spb (Nat.succ_pos 159)⟩

/-- **`nms_adpcm_decode_block` always yields 160 samples**: every block of the sequential decode of ANY data region -/
theorem nms_decode_block_160 (r : Rate) (data : List Byte) : ∀ b ∈ decodedBlocks r blockWords data, b.length = 160 :=
  decodeBlocks_length r _ _ _ _

/-- the stream of the reader is the flat list of the decoded blocks, for any data region -/
theorem nms_stream_flat (r : Rate) (data : List Byte) (p m : Nat) (h : p + m ≤ framesAtOpen r data.length) :
    (reader r data).slice p m = ((stream r data).drop p).take m := by
  have hl := nms_decode_block_160 r data
  have hc : (decodedBlocks r blockWords data).length = blocksTotal r data.length := decodeBlocks_count r _ _ _ _ _
  unfold stream
  apply Sf.Block.Stream.slice_eq_flatten (reader r data) (decodedBlocks r blockWords data) (by decide : 0 < 160 * 1)
  · intro b hb; exact hl b hb
  · intro k hk
    rw [hc] at hk
    show (if k < blocksTotal r data.length then fixLen spb ((decodedBlocksIn r blockWords data.length data).getD k []) else zeros spb) = _
    rw [if_pos hk]
    have hm : (decodedBlocks r blockWords data).getD k [] ∈ decodedBlocks r blockWords data := by
      rw [List.getD_eq_getElem?_getD, List.getElem?_eq_getElem (by rw [hc]; exact hk)]
      exact List.getElem_mem _
    exact fixLen_id _ _ (hl _ hm)
  · rw [hc]
    exact h

/-- **written stream, NMS**: a file written by any calls and re-opened: every request of any caller type that ends
    inside the frames delivers the caller image of `decodeAll (encodeAll (written samples))` at the position -/
theorem nms_written_stream (r : Rate) (cv cv2 : Conv) (calls : List (Ty × List Int)) (ty : Ty) (m : Nat)
    (hm : m ≤ framesAtOpen r (closedData r cv calls).length) :
    (Nms.read cv2 ty (openR r (closedData r cv calls)) m).2.1 =
      ((stream r (encodeAll r ((shortsOf cv calls).length + 1) (St.init r) (shortsOf cv calls))).take m).map (toCaller cv2 ty) ∧
    (Nms.read cv2 ty (openR r (closedData r cv calls)) m).2.2 = m := by
  have hi := C06Nms.nms_open_inv r false (closedData r cv calls).length (closedData r cv calls)
  obtain ⟨h', e, _, _, _, _⟩ := C06Nms.nms_read_inside cv2 ty _ hi m (by
    show 0 + m ≤ framesAtOpen r (closedData r cv calls).length
    omega)
  have e2 : openRIn r false (closedData r cv calls).length (closedData r cv calls) = openR r (closedData r cv calls) := rfl
  rw [e2] at e
  rw [e]
  have hs := nms_stream_flat r (closedData r cv calls) 0 m (by omega)
  simp only
  have e3 : (openR r (closedData r cv calls)).r = reader r (closedData r cv calls) := rfl
  have e4 : (openR r (closedData r cv calls)).pos = 0 := rfl
  rw [e3, e4, hs, List.drop_zero, ← (nms_closed_form r cv calls).2]
  exact ⟨rfl, trivial⟩

/-- non-vacuity: 161 samples in three calls of three caller types: 2 blocks = 84 bytes, 320 frames at re-open -/
example : framesAtOpen .r16 (closedData .r16 {} [(.s16, [700]), (.s32, List.replicate 159 (-65536000)), (.s16, [5])]).length = 320 ∧
    nblocks 161 spb = 2 := by decide +kernel

end nms

section g72x
open Sf.G72x Sf.C07G72x

theorem g72x_closed_form (r : Rate) (cv : Conv) (calls : List (Ty × List Int)) :
    closedBytes r cv calls = encChunks (encodeBlock r) blockSamples ((shorts cv calls).length + 1) St.init (shorts cv calls) := by
  exact mono_typed_closed (writer r) (g72x_writer_wf r) rfl chunkOf (toCodec cv) calls St.init

/-- byte length, from the closed form (the same number as `g72x_closed_length`, derived from the chunks) -/
theorem g72x_closed_length_chunks (r : Rate) (hb : r.bits ≤ 8) (cv : Conv) (calls : List (Ty × List Int)) :
    (closedBytes r cv calls).length = nblocks (shorts cv calls).length blockSamples * r.blockBytes := by
  rw [g72x_closed_length r hb, nblocks_eq _ _ (by decide)]

/-- **frames at re-open from the closed length**: F = ⌈N / 120⌉ · 120, so N ≤ F < N + 120 -/
theorem g72x_frames_at_reopen_closed (r : Rate) (hr : r.bits = 3 ∨ r.bits = 4 ∨ r.bits = 5) (cv : Conv) (calls : List (Ty × List Int)) :
    framesAtOpen r (closedBytes r cv calls).length = nblocks (shorts cv calls).length blockSamples * blockSamples ∧
    (shorts cv calls).length ≤ framesAtOpen r (closedBytes r cv calls).length ∧
    framesAtOpen r (closedBytes r cv calls).length < (shorts cv calls).length + blockSamples := by
  rw [g72x_closed_length_chunks r (by omega), Sf.G72x.Proofs.framesAtOpen_blocks r (by unfold Rate.blockBytes blockSamples; omega)]
  exact ⟨rfl, nblocks_bound _ blockSamples (by decide)⟩

/-- **written stream, G.72x**: the handle opened on a written file reads the stream of the reader over the encoder run
    — a function of the written samples; what every read of it delivers (any size, any type, past the end or not) is
    `g72x_read_contract` (SfProps/C06G72x.lean) on this reader -/
theorem g72x_written_stream (r : Rate) (cv : Conv) (calls : List (Ty × List Int)) :
    (RHandle.open r (closedBytes r cv calls)).r =
      reader r (encChunks (encodeBlock r) blockSamples ((shorts cv calls).length + 1) St.init (shorts cv calls)) ∧
    (RHandle.open r (closedBytes r cv calls)).frames = framesAtOpen r (closedBytes r cv calls).length := by
  rw [← g72x_closed_form]
  exact ⟨rfl, rfl⟩

example : framesAtOpen g721 (closedBytes g721 {} [(.s16, List.replicate 121 5)]).length = 240 ∧ nblocks 121 blockSamples = 2 := by
  decide +kernel

end g72x

section gsm
open Sf.Gsm Sf.C07Gsm

theorem gsm_closed_form (c : Cfg) (cv : Conv) (calls : List (Ty × List Int)) :
    closeBytes c (calls.foldl (fun st k => writeCall c cv k.1 st k.2) (writeInit c)) =
      encChunks (fun st buf => encodeBlock c.wav st buf) c.spb ((samplesOf cv calls).length + 1)
        (if c.wav then State.initWav else State.init) (samplesOf cv calls) := by
  exact mono_typed_closed (writer c) (gsm_writer_wwf c) rfl chunkOf (ofCaller cv) calls _

theorem gsm_closed_length (c : Cfg) (cv : Conv) (calls : List (Ty × List Int)) :
    (closeBytes c (calls.foldl (fun st k => writeCall c cv k.1 st k.2) (writeInit c))).length =
      nblocks (samplesOf cv calls).length c.spb * c.blocksize :=
  mono_typed_closed_length (writer c) (gsm_writer_wwf c) rfl chunkOf (ofCaller cv) calls _ _ (fun s b _ => gsm_block_size c s b)

/-- **frames at re-open from the closed length** (RAW and W64: `datalength` is the region; WAV adds a pad byte for an
    odd region, AIFF likewise — both forgiven by the current rule, SfProps/C04GsmPad.lean): F = ⌈N / spb⌉ · spb, so
    N ≤ F < N + spb -/
theorem gsm_frames_at_reopen_closed (c : Cfg) (cv : Conv) (calls : List (Ty × List Int)) (pad : Nat) (hp : pad ≤ 1) :
    framesAtOpen c ((closeBytes c (calls.foldl (fun st k => writeCall c cv k.1 st k.2) (writeInit c))).length + pad) none =
      nblocks (samplesOf cv calls).length c.spb * c.spb ∧
    (samplesOf cv calls).length ≤ nblocks (samplesOf cv calls).length c.spb * c.spb ∧
    nblocks (samplesOf cv calls).length c.spb * c.spb < (samplesOf cv calls).length + c.spb := by
  refine ⟨?_, nblocks_bound _ c.spb (Sf.Gsm.Proofs.spb_pos c)⟩
  have hb : 1 < c.blocksize := by unfold Cfg.blocksize; split <;> decide
  rw [gsm_closed_length, Nat.mul_comm _ c.blocksize]
  -- the pad byte is the one stray byte `gsm610_init` forgives
  refine (congrArg (c.spb * ·) (C04Gsm.blocksOf_add padRuleBoth c _ pad (by omega))).trans ?_
  rw [Nat.mul_comm]
  obtain rfl | rfl : pad = 0 ∨ pad = 1 := by omega
  · rfl
  · rw [if_neg (by decide), if_pos ⟨rfl, Or.inl rfl⟩]

/-- **written stream, GSM**: the handle opened on the written data region reads the stream of the reader over the
    encoder run: a function of the written samples; what every read delivers is `gsm_read_call_contract` /
    `gsm_read_crossing_end` on this reader -/
theorem gsm_written_stream (c : Cfg) (cv : Conv) (calls : List (Ty × List Int)) :
    (openRead c (closeBytes c (calls.foldl (fun st k => writeCall c cv k.1 st k.2) (writeInit c)))
        (closeBytes c (calls.foldl (fun st k => writeCall c cv k.1 st k.2) (writeInit c))).length none).r =
      reader c (encChunks (fun st buf => encodeBlock c.wav st buf) c.spb ((samplesOf cv calls).length + 1)
        (if c.wav then State.initWav else State.init) (samplesOf cv calls))
        (nblocks (samplesOf cv calls).length c.spb * c.blocksize) := by
  rw [gsm_closed_length, gsm_closed_form]
  rfl

example : nblocks 161 (Cfg.spb ⟨false⟩) = 2 ∧ nblocks 161 (Cfg.spb ⟨true⟩) = 1 ∧ nblocks 0 160 = 0 := by decide

end gsm

end Sf.C07CodecsClosed
