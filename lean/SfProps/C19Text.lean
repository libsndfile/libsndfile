/-
  SfProps.C19Text — a header writer's optional text and handle isolation (model: SfModel/HeaderText.lean).

  * `header_isolated` (full strength, rules `constant` = the code as it is and `handle` = the per-handle repair): for EVERY
    interleaving of opens / closes of any number of handles, the header text of handle k's file is what it is when handle k's calls run
    alone in a fresh process.
  * `global_rule_old_rule`: under the file-scope buffer (seeded regression C19-svx-anno-global) a writer opened BEFORE a read/write
    handle on a foreign file closes with the foreign text, and a writer opened AFTER that handle was closed starts with it.
-/
import SfModel.HeaderText
import SfProofs.Slots
namespace Sf.C19Text
open Sf.HeaderText

/-- the two worlds agree on everything handle k can see -/
def Agree (k : Nat) (a b : W) : Prop := a.own k = b.own k ∧ a.hdr k = b.hdr k

/-- a call on another handle writes neither field of handle k (under any rule: only the file-scope buffer is shared) -/
theorem step_other (r : Rule) (d : Text) (a b : W) (o : Op) (k : Nat) (hk : o.id ≠ k) (h : Agree k a b) : Agree k (step r d a o) b := by
  have e : ∀ (f : Nat → Option Text) v, upd f o.id v k = f k := fun _ _ => if_neg (Ne.symm hk)
  cases o with
  | openW i => exact ⟨(e _ _).trans h.1, (e _ _).trans h.2⟩
  | openRW i found => cases r <;> exact ⟨(e _ _).trans h.1, (e _ _).trans h.2⟩
  | close i => exact ⟨h.1, (e _ _).trans h.2⟩

theorem step_same (r : Rule) (hr : r ≠ .global) (d : Text) (a b : W) (o : Op) (k : Nat) (hk : o.id = k) (h : Agree k a b) :
    Agree k (step r d a o) (step r d b o) := by
  obtain ⟨h1, h2⟩ := h
  -- under `constant` and `handle` the text written (`textOf`) is made of `dflt` and `own k`, on which the two worlds agree; the case
  -- `global`, where it is the shared buffer `glob`, is the one `hr` excludes
  cases o <;> cases r <;> simp_all [step, Agree, upd, Op.id, textOf]

theorem run_isolated (r : Rule) (hr : r ≠ .global) (d : Text) (k : Nat) :
    ∀ (ops : List Op) (a b : W), Agree k a b → Agree k (run r d a ops) (run r d b (solo k ops)) := by
  intro ops a b h
  -- `run` is a fold without a transcript: give it the empty one
  have hr' : Slots.Runs (fun w o => (step r d w o, ())) Op.id fun w ops => (run r d w ops, ops.map fun o => (o.id, ())) :=
    ⟨fun _ => rfl, fun _ _ _ => rfl⟩
  exact (hr'.project k (Agree k) id ops
    (fun o _ hk w w' => step_other r d w w' o k hk)
    (fun o _ hk w w' h => ⟨step_same r hr d w w' o k hk h, rfl⟩) a b h).1

/-- FULL STRENGTH: the header of handle k's file does not depend on the other handles -/
theorem header_isolated (r : Rule) (hr : r ≠ .global) (d : Text) (k : Nat) (ops : List Op) :
    (run r d (init d) ops).hdr k = (run r d (init d) (solo k ops)).hdr k :=
  (run_isolated r hr d k ops (init d) (init d) ⟨rfl, rfl⟩).2

-- non-vacuity: a writer (0) around a read/write handle (1) on a foreign file, per-handle rule: the writer keeps the default, the
-- read/write handle keeps the foreign text
example : let ops := [Op.openW 0, .openRW 1 [70, 71], .close 1, .close 0]
    (run .handle [1, 2, 3] (init [1, 2, 3]) ops).hdr 0 = some [1, 2, 3] ∧ (run .handle [1, 2, 3] (init [1, 2, 3]) ops).hdr 1 = some [70, 71] ∧
    (run .constant [1, 2, 3] (init [1, 2, 3]) ops).hdr 1 = some [1, 2, 3] := by decide

/-- the file-scope buffer: interleaved (writer closes with the foreign text) and sequential (a later writer starts with it) -/
theorem global_rule_old_rule :
    (run .global [1, 2, 3] (init [1, 2, 3]) [Op.openW 0, .openRW 1 [70, 71], .close 1, .close 0]).hdr 0 = some [70, 71] ∧
    (run .global [1, 2, 3] (init [1, 2, 3]) (solo 0 [Op.openW 0, .openRW 1 [70, 71], .close 1, .close 0])).hdr 0 = some [1, 2, 3] ∧
    (run .global [1, 2, 3] (init [1, 2, 3]) [Op.openRW 1 [70, 71], .close 1, .openW 0, .close 0]).hdr 0 = some [70, 71] := by decide

theorem global_rule_not_isolated : ¬ ∀ (d : Text) (k : Nat) (ops : List Op),
    (run .global d (init d) ops).hdr k = (run .global d (init d) (solo k ops)).hdr k := by
  intro h
  have := h [1, 2, 3] 0 [Op.openW 0, .openRW 1 [70, 71], .close 1, .close 0]
  revert this
  decide

end Sf.C19Text
