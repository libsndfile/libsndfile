-- properties: C04 C11
/-
  C04 / C11 — the Akai MPC 2000 container (stand-alone L1 model SfModel/Mpc2k.lean; helpers SfProofs/Mpc2kImage.lean,
  SfProofs/Small2Session.lean).

  A *session* is `openW` (sf_open SFM_WRITE; the caller's frames value is a parameter — it is visible in the very
  first header, see `mpc2k_open_image_stale`), any list of `WOp`s, then `close`.
-/
import SfProofs.Mpc2kImage
namespace Sf.C04Mpc2k
open Sf Sf.Small2 Sf.Mpc2k

/-- rates up to 65535 are stored exactly, larger ones as 65535; the stored value is always a non-zero 16-bit number
    (so the file can be re-opened) and storing is idempotent -/
theorem mpc2k_rate16 (sr : Nat) : (sr < 65536 → quant sr = sr) ∧ (65536 ≤ sr → quant sr = 65535) ∧ quant sr < 65536 ∧
    quant (quant sr) = quant sr ∧ (1 ≤ sr → 1 ≤ quant sr) := by
  unfold quant; omega

example : quant 44100 = 44100 ∧ quant 65535 = 65535 ∧ quant 65536 = 65535 ∧ quant 96000 = 65535 := by decide

/-- the class of the repaired defect KF-RATE16-WRAP: the rate is a multiple of 65536 -/
def KF.rate16Wrap (sr : Nat) : Prop := sr % 65536 = 0
instance (sr : Nat) : Decidable (KF.rate16Wrap sr) := by unfold KF.rate16Wrap; infer_instance

theorem closedBytesQ_eq (q : Nat → Nat) (c : Cfg) (hwf : c.wf) (stale : Nat) (ops : List WOp) :
    closedBytes (fmtQ q c) stale ops =
      hdrQ (q c.sr) c ⟨(((opsData ops).length / (2 * c.ch) : Nat) : Int), ((42 + (opsData ops).length : Nat) : Int), ((opsData ops).length : Nat)⟩ ++ opsData ops :=
  closed_std (fmtQ q c) (lawfulQ q c hwf.2.2.2) rfl (2 * c.ch) (fun _ _ => rfl) stale ops

theorem closedBytes_eq (c : Cfg) (hwf : c.wf) (stale : Nat) (ops : List WOp) :
    closedBytes (fmt c) stale ops =
      hdr c { frames := (((opsData ops).length / (2 * c.ch) : Nat) : Int), filelength := ((42 + (opsData ops).length : Nat) : Int),
              datalength := ((opsData ops).length : Nat) } ++ opsData ops :=
  closedBytesQ_eq quant c hwf stale ops

/-- what C04 asks of MPC2K under the rate rule `q` (the rate "quantised by the documented unit") -/
def reopenFull (q : Nat → Nat) : Prop :=
  ∀ (c : Cfg), c.wf → ∀ (stale : Nat) (ops : List WOp),
    parse (closedBytes (fmtQ q c) stale ops) =
      .ok { ch := c.ch, fmt := 0x210002, sr := q c.sr, frames := (opsData ops).length / (2 * c.ch) }

def mpc2k_reopen_full : Prop := reopenFull quant

/-- **mpc2k_reopen_info** (full strength since the repair of KF-RATE16-WRAP).  For every accepted configuration — every
    rate in [1, 2^31-1] — and every session — no size guard: the reader takes the length from the file — the closed
    file re-opens with the requested channels, MPC2K / PCM_16, the rate saturated to 16 bits (exact up to 65535) and
    frames = audio bytes / (2 · channels). -/
theorem mpc2k_reopen_info (c : Cfg) (hwf : c.wf) (stale : Nat) (ops : List WOp) :
    parse (closedBytes (fmt c) stale ops) =
      .ok { ch := c.ch, fmt := 0x210002, sr := quant c.sr, frames := (opsData ops).length / (2 * c.ch) } := by
  rw [closedBytes_eq c hwf]
  show parse (hdrQ (quant c.sr) c _ ++ _) = _
  obtain ⟨_, _, _, _, quantPos⟩ := mpc2k_rate16 c.sr
  rw [parse_image _ c hwf, readHeader_image _ c hwf, quant_field, if_neg (by have := quantPos hwf.2.1; omega)]

theorem mpc2k_reopen_full_holds : mpc2k_reopen_full := fun c hwf stale ops => mpc2k_reopen_info c hwf stale ops

/-- **mpc2k_reopen_old_rule.**  Under the rule before the repair (`(uint16_t) samplerate`) a rate in the class
    KF.rate16Wrap was stored as 0 and validate_sfinfo refused the closed file -/
theorem mpc2k_reopen_old_rule (c : Cfg) (hwf : c.wf) (stale : Nat) (ops : List WOp) (hk : KF.rate16Wrap c.sr) :
    parse (closedBytes (fmtOld c) stale ops) = .err := by
  show parse (closedBytes (fmtQ quantOld c) stale ops) = .err
  unfold KF.rate16Wrap at hk
  rw [closedBytesQ_eq quantOld c hwf, parse_image _ c hwf, readHeader_image _ c hwf, if_pos (by unfold quantOld; omega)]

/-- the full statement failed under the old rule: 65536 Hz is the witness (findings/kf_rate16_wrap.txt) -/
theorem mpc2k_reopen_full_old_rule_fails : ¬ reopenFull quantOld := by
  intro h
  have hwf : (⟨2, 65536, List.replicate 17 0x20⟩ : Cfg).wf := by decide
  have h1 := h ⟨2, 65536, List.replicate 17 0x20⟩ hwf 0 [.write [0, 1, 0, 2] false]
  have h2 := mpc2k_reopen_old_rule ⟨2, 65536, List.replicate 17 0x20⟩ hwf 0 [.write [0, 1, 0, 2] false] (by decide)
  rw [show fmtOld _ = fmtQ quantOld _ from rfl] at h2
  rw [h2] at h1
  cases h1

-- the present rule re-opens the witness of the repaired defect, at 65535 Hz
example : parse (closedBytes (fmt ⟨2, 65536, List.replicate 17 0x20⟩) 0 [.write [0, 1, 0, 2] false]) = .ok ⟨2, 0x210002, 65535, 1⟩ ∧
    parse (closedBytes (fmtOld ⟨2, 65536, List.replicate 17 0x20⟩) 0 [.write [0, 1, 0, 2] false]) = .err :=
  ⟨(mpc2k_reopen_info _ (by decide) 0 _).trans (by decide), mpc2k_reopen_old_rule _ (by decide) 0 _ (by decide)⟩

def exCfg : Cfg := { ch := 2, sr := 44100 }
def exOps : List WOp := [.write [0, 1, 0, 2] false, .update, .write [0, 3, 0, 4, 0, 5, 0, 6] true]
example : exCfg.wf ∧ (closedBytes (fmt exCfg) 77 exOps).length = 54 ∧
    parse (closedBytes (fmt exCfg) 77 exOps) = .ok ⟨2, 0x210002, 44100, 3⟩ := by decide +kernel

/-- **mpc2k_size_fields.**  The file is the 42-byte header plus the audio; the three frame-count fields (loop end,
    sample frames, loop length at offsets 26, 30, 34) hold the low 32 bits of audio bytes / (2 · channels), and the
    rate field (offset 40) the rate saturated to 16 bits. -/
theorem mpc2k_size_fields (c : Cfg) (hwf : c.wf) (stale : Nat) (ops : List WOp) (bytes : List Byte) (D : Nat)
    (hbytes : bytes = closedBytes (fmt c) stale ops) (hD : D = (opsData ops).length) :
    bytes.length = 42 + D ∧
    ofLE ((bytes.drop 26).take 4) = (D / (2 * c.ch)) % 2 ^ 32 ∧ ofLE ((bytes.drop 30).take 4) = (D / (2 * c.ch)) % 2 ^ 32 ∧
    ofLE ((bytes.drop 34).take 4) = (D / (2 * c.ch)) % 2 ^ 32 ∧ ofLE ((bytes.drop 40).take 2) = quant c.sr ∧
    bytes.drop 42 = opsData ops := by
  have hn := hwf.2.2.2
  rw [closedBytes_eq c hwf, ← hD] at hbytes
  have hl : ∀ f, (hdr c f).length = 42 := (lawful c hn).hlen
  refine ⟨by rw [hbytes, List.length_append, hl, hD], ?_, ?_, ?_, ?_, by rw [hbytes]; exact List.drop_left' (hl _)⟩ <;>
    simp only [hbytes, hdr, hdrQ, List.append_assoc, drop_app_skip, take_app_head, hn, le32_length, le16_length, List.length_cons, List.length_nil,
      Nat.reduceAdd, Nat.reduceSub, Nat.reduceLeDiff, Nat.le_refl, List.drop_zero, ofLE_le32, wrapU_natCast, le16_q, quant_field]

example : ofLE (((closedBytes (fmt exCfg) 77 exOps).drop 30).take 4) = 3 ∧ ofLE (((closedBytes (fmt exCfg) 77 exOps).drop 40).take 2) = 44100 := by
  decide +kernel

/-- **mpc2k_frames_bound.**  16-bit PCM is sample-granular and nothing is padded: `N` frames re-open as `N`. -/
theorem mpc2k_frames_bound (ch N : Nat) (hch : 0 < ch) : (N * (2 * ch)) / (2 * ch) = N ∧ N ≤ (N * (2 * ch)) / (2 * ch) ∧
    (N * (2 * ch)) / (2 * ch) < N + 1 :=
  frames_bound (2 * ch) N (by omega)

example : (3 * (2 * 2)) / (2 * 2) = 3 := by decide

/-- **stale_frames_ignored_mpc2k.**  Closed bytes and update images do not depend on the caller's frames value. -/
theorem stale_frames_ignored_mpc2k (c : Cfg) (hwf : c.wf) (a b : Nat) (ops : List WOp) :
    closedBytes (fmt c) a ops = closedBytes (fmt c) b ops ∧ snapshotBytes (fmt c) a ops = snapshotBytes (fmt c) b ops :=
  ⟨stale_ignored (fmt c) (lawful c hwf.2.2.2) rfl a b ops, stale_ignored_snapshot (fmt c) (lawful c hwf.2.2.2) a b ops⟩

example : closedBytes (fmt exCfg) 0 exOps = closedBytes (fmt exCfg) 123456 exOps := (stale_frames_ignored_mpc2k exCfg (by decide) 0 123456 exOps).1

/-- …but the header written by sf_open itself (before any write call or update) carries the stale value in its three
    frame-count fields: mpc2k_open writes the header before pcm_init resets sf.frames -/
theorem mpc2k_open_image_stale : (openW (fmt exCfg) 0).bytes ≠ (openW (fmt exCfg) 99).bytes := by decide

/-- **mpc2k_snapshot_valid.**  After any session prefix, the image a header update leaves in the store parses
    with the same parameters and frames = audio bytes so far / (2 · channels), and is the
    42-byte header followed by the audio written so far. -/
theorem mpc2k_snapshot_valid (c : Cfg) (hwf : c.wf) (stale : Nat) (ops : List WOp) :
    parse (snapshotBytes (fmt c) stale ops) =
      .ok { ch := c.ch, fmt := 0x210002, sr := quant c.sr, frames := (opsData ops).length / (2 * c.ch) } ∧
    ∃ hdr, hdr.length = 42 ∧ snapshotBytes (fmt c) stale ops = hdr ++ opsData ops :=
  ⟨closed_is_snapshot (fmt c) rfl stale ops ▸ mpc2k_reopen_info c hwf stale ops, snapshot_split (fmt c) (lawful c hwf.2.2.2) stale ops⟩

example : parse (snapshotBytes (fmt exCfg) 5 [.write [1, 2, 3, 4] false]) = .ok ⟨2, 0x210002, 44100, 1⟩ :=
  (mpc2k_snapshot_valid exCfg (by decide) 5 _).1.trans (by decide)

end Sf.C04Mpc2k
