-- properties: C04 C07 C11
/-
  C04 / C07 / C11 — the FastTracker 2 Extended Instrument container (stand-alone L1 model SfModel/Xi.lean; helpers
  SfProofs/XiImage.lean).  The DPCM codec is Sf.Dpcm (SfProps/C01Block.lean); here a frame
  is `bytewidth` bytes of delta-coded audio.

  `fmt c` is the rule after the repair of KF-XI-HEADER (xi_close rewrites the header): every statement below holds
  at full strength.  `fmtOld c` is the rule before it; `xi_close_old_rule` keeps its failure.
-/
import SfProofs.XiImage
namespace Sf.C04Xi
open Sf Sf.Small2 Sf.Xi

/-- the rate is fixed: XI has no rate field, xi_open and the reader both say 44100 -/
theorem xi_rate_fixed (sr : Nat) : quant sr = 44100 := rfl
example : quant 8000 = 44100 ∧ quant 2147483647 = 44100 := by decide

def sw : List Byte := asc "libsndfile-1.2.2    "
def ex8 : Cfg := ⟨0x50, sw⟩
def ex16 : Cfg := ⟨0x51, sw⟩
def exOps : List WOp := [.write [1, 2, 3, 4] false, .update, .write [5, 6] true]

/-- **xi_reopen_info.**  For both encodings and every session the closed file re-opens as mono, XI / the requested
    encoding, 44100 Hz and exactly the frames written (audio bytes / bytewidth). -/
theorem xi_reopen_info (c : Cfg) (hwf : c.wf) (stale : Nat) (ops : List WOp) :
    parse (closedBytes (fmt c) stale ops) = .ok { ch := 1, fmt := c.fmtWord, sr := quant 0, frames := (opsData ops).length / c.bw } := by
  rw [(closed_eq c stale ops).1]; exact parse_image c hwf _ _

theorem ex_wf : ex16.wf ∧ ex8.wf := by decide +kernel

example : ex16.wf ∧ parse (closedBytes (fmt ex16) 9 exOps) = .ok ⟨1, 0x0F0051, 44100, 3⟩ :=
  ⟨ex_wf.1, xi_reopen_info ex16 ex_wf.1 9 exOps⟩
example : ex8.wf ∧ parse (closedBytes (fmt ex8) 0 exOps) = .ok ⟨1, 0x0F0050, 44100, 6⟩ :=
  ⟨ex_wf.2, xi_reopen_info ex8 ex_wf.2 0 exOps⟩

/-- **xi_size_fields.**  The closed file is the 338 bytes of the two headers plus the audio; the sample length field
    (offset 298, 32 bits little-endian) holds the frames written — audio bytes / bytewidth —, nothing is padded. -/
theorem xi_size_fields (c : Cfg) (hwf : c.wf) (stale : Nat) (ops : List WOp) (bytes : List Byte) (D : Nat)
    (hbytes : bytes = closedBytes (fmt c) stale ops) (hD : D = (opsData ops).length) :
    bytes.length = 338 + D ∧ bytes.drop 338 = opsData ops ∧ leAt bytes 298 4 = (D / c.bw) % 2 ^ 32 := by
  rw [(closed_eq c stale ops).1, ← hD] at hbytes
  have hl := hdr_length c hwf { frames := ((D / c.bw : Nat) : Int) }
  refine ⟨by rw [hbytes, List.length_append, hl, hD], by rw [hbytes]; exact List.drop_left' hl, ?_⟩
  rw [hbytes, leAt_field (image_fields c hwf _ _).2.2.1 4 (le32_length _), ofLE_le32, wrapU_natCast]

example : leAt (closedBytes (fmt ex16) 9 exOps) 298 4 = 3 ∧ (closedBytes (fmt ex16) 9 exOps).length = 344 :=
  have h := xi_size_fields ex16 ex_wf.1 9 exOps _ _ rfl rfl
  ⟨h.2.2, h.1⟩

/-- **xi_frames_bound.**  DPCM is sample-granular and nothing is padded: `N` frames re-open as `N`. -/
theorem xi_frames_bound (bw N : Nat) (hbw : 0 < bw) : (N * bw) / bw = N ∧ N ≤ (N * bw) / bw ∧ (N * bw) / bw < N + 1 :=
  frames_bound bw N hbw
example : (3 * 2) / 2 = 3 := by decide

/-- **stale_frames_ignored_xi.**  Closed bytes and update images do not depend on the caller's frames value. -/
theorem stale_frames_ignored_xi (c : Cfg) (hwf : c.wf) (a b : Nat) (ops : List WOp) :
    closedBytes (fmt c) a ops = closedBytes (fmt c) b ops ∧ snapshotBytes (fmt c) a ops = snapshotBytes (fmt c) b ops := by
  rw [(closed_eq c a ops).1, (closed_eq c b ops).1, (closed_eq c a ops).2, (closed_eq c b ops).2]
  exact ⟨rfl, rfl⟩

example : closedBytes (fmt ex16) 0 [] = closedBytes (fmt ex16) 54321 [] :=
  (stale_frames_ignored_xi ex16 ex_wf.1 0 54321 []).1

/-- **xi_snapshot_valid.**  After any session prefix the image a header update leaves parses with the same
    parameters and exactly the frames written so far, and is the 338 header bytes followed by the audio. -/
theorem xi_snapshot_valid (c : Cfg) (hwf : c.wf) (stale : Nat) (ops : List WOp) :
    parse (snapshotBytes (fmt c) stale ops) = .ok { ch := 1, fmt := c.fmtWord, sr := quant 0, frames := (opsData ops).length / c.bw } ∧
    ∃ h, h.length = 338 ∧ snapshotBytes (fmt c) stale ops = h ++ opsData ops := by
  rw [(closed_eq c stale ops).2]
  exact ⟨parse_image c hwf _ _, _, hdr_length c hwf _, rfl⟩

example : parse (snapshotBytes (fmt ex16) 5 [.write [1, 2, 3, 4] false]) = .ok ⟨1, 0x0F0051, 44100, 2⟩ :=
  (xi_snapshot_valid ex16 ex_wf.1 5 _).1

/-- **xi_updates_dont_change_file** (C07 / C11): the closed bytes depend on the audio only, not on how it was split
    over write calls nor on the header updates requested in between. -/
theorem xi_updates_dont_change_file (c : Cfg) (hwf : c.wf) (stale : Nat) (ops : List WOp) :
    closedBytes (fmt c) stale ops = closedBytes (fmt c) stale [.write (opsData ops) false] := by
  rw [(closed_eq c stale ops).1, (closed_eq c stale _).1]; simp [opsData]

example : closedBytes (fmt ex16) 0 exOps = closedBytes (fmt ex16) 0 [.write (opsData exOps) false] :=
  xi_updates_dont_change_file ex16 ex_wf.1 0 exOps

/-- **xi_close_old_rule** (KF-XI-HEADER before the repair): with a close function that leaves the header alone, the
    same three 16-bit frames give different files with and without a header update (sample length 3 vs 0), and a
    session that writes nothing keeps the caller's stale frames value in the sample length field. -/
theorem xi_close_old_rule :
    closedBytes (fmtOld ex16) 0 [.write [1, 2, 3, 4, 5, 6] false] ≠ closedBytes (fmtOld ex16) 0 [.write [1, 2, 3, 4, 5, 6] false, .update] ∧
    leAt (closedBytes (fmtOld ex16) 0 [.write [1, 2, 3, 4, 5, 6] false]) 298 4 = 0 ∧
    leAt (closedBytes (fmtOld ex16) 0 [.write [1, 2, 3, 4, 5, 6] false, .update]) 298 4 = 3 ∧
    closedBytes (fmtOld ex16) 0 [] ≠ closedBytes (fmtOld ex16) 7 [] ∧
    parse (closedBytes (fmtOld ex16) 0 [.write [1, 2, 3, 4, 5, 6] false]) = .ok ⟨1, 0x0F0051, 44100, 3⟩ := by decide +kernel

end Sf.C04Xi
