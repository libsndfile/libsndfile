/-
  C08 (and the read/write half of C05 / C11): raw reads and raw writes as operations of a read/write history, every read entry
  point as a bystander of the write side, and the length rule of a header update on a file with content behind the audio
  (SfModel/RdwrTail.lean).
-- properties: C08 C11 C05
-/
import SfModel.RdwrTail
import SfProps.C08Abs
import SfProofs.AbsRun
namespace Sf.C08Raw
open Sf Sf.Abs

/-- an accepted sf_read_raw — ANY byte count, also one that runs past the end of the audio, also a refused one — leaves the WRITE
    side of the handle alone: write position, frame count, streams.  (`last_op` is not part of the abstract state; this is its
    observable meaning: the next write is judged at the write position from before the read.) -/
theorem rawRead_keeps_write_side (g : Geom) (st : St) (n : Int) (o : Out) (st' : St) (h : rawReadOk g st n o = .ok st') :
    st'.wpos = st.wpos ∧ st'.frames = st.frames ∧ st'.ref = st.ref ∧ st'.valid = st.valid ∧ st'.mode = st.mode ∧
    st'.raw = st.raw ∧ st'.rawValid = st.rawValid := by
  obtain ⟨p, e, rfl, _⟩ := rawReadOk_frame g st n o st' h
  exact ⟨rfl, rfl, rfl, rfl, rfl, rfl, rfl⟩

/-- the count and position clauses of an accepted, well-formed sf_read_raw inside the data: whole frames, clamped at the end of
    the audio (NOT at the end of the file: bytes behind the audio are never delivered), read position advanced by exactly that -/
theorem rawRead_meaning (g : Geom) (st : St) (n : Int) (o : Out) (st' : St) (hb : g.bw ≠ 0) (hm : st.mode ≠ .w)
    (hn : 0 ≤ n) (ha : n.toNat % g.bw = 0) (hin : st.rpos < st.frames) (h : rawReadOk g st n o = .ok st') :
    o.ret = ((min (n.toNat / g.bw) (st.frames - st.rpos) * g.bw : Nat) : Int) ∧ o.err = false ∧
    st'.rpos = st.rpos + min (n.toNat / g.bw) (st.frames - st.rpos) ∧
    (st.frames - st.rpos ≤ n.toNat / g.bw → st'.rpos = st.frames) := by
  have h := (rawReadOk_eq_ok_iff g st n o st' hb).mp h
  rw [if_neg hm, if_neg (by omega), if_neg (by omega)] at h
  obtain ⟨hret, _, herr, rfl⟩ := h
  exact ⟨hret, herr, rfl, fun hle => by simp only; rw [Nat.min_eq_right hle]; omega⟩

/-- the pattern of the seeded regression C08-readraw-lastop as a theorem: write, sf_read_raw (any count), write — the second
    write is judged at the position the first one ended at, whatever the raw read did with the descriptor -/
theorem write_rawRead_write (g : Geom) (st st1 st2 st3 : St) (ty : Ty) (fc fc' : Bool) (n n' m : Int) (d d' : Array Item)
    (o o' oq : Out) (hr : WriteReq g st fc n) (hw : writeOk g st ty fc n d o = .ok st1)
    (hq : rawReadOk g st1 m oq = .ok st2) (hr' : WriteReq g st2 fc' n') (hw' : writeOk g st2 ty fc' n' d' o' = .ok st3) :
    st3.wpos = st.wpos + retItems g fc o.ret / g.ch + retItems g fc' o'.ret / g.ch ∧ st2.wpos = st1.wpos ∧ st2.ref = st1.ref := by
  obtain ⟨_, _, _, _, _, hwp, _⟩ := C08Abs.write_contract_abs g st ty fc n d o st1 hr hw
  obtain ⟨_, _, _, _, _, hwp', _⟩ := C08Abs.write_contract_abs g st2 ty fc' n' d' o' st3 hr' hw'
  obtain ⟨a, _, c, _⟩ := rawRead_keeps_write_side g st1 m oq st2 hq
  exact ⟨by rw [hwp', a, hwp], a, c⟩

theorem read_keeps_write_side (g : Geom) (st : St) (ty : Ty) (fc : Bool) (n : Int) (o : Out) (st' : St)
    (h : readOk g st ty fc n o = .ok st') :
    st'.wpos = st.wpos ∧ st'.frames = st.frames ∧ st'.ref = st.ref ∧ st'.valid = st.valid ∧ st'.mode = st.mode ∧
    st'.raw = st.raw ∧ st'.rawValid = st.rawValid := by
  obtain ⟨p, e, rfl, _⟩ := readOk_frame g st ty fc n o st' h
  exact ⟨rfl, rfl, rfl, rfl, rfl, rfl, rfl⟩

/-- the lines that only read or ask: the 8 typed read entry points, sf_read_raw, SFC_GET_CURRENT_SF_INFO, any query -/
def readLike : Op → Bool
  | .read _ _ _ | .rawRead _ | .info | .other => true
  | _ => false

/-- FULL STRENGTH: ANY accepted run of read-like lines — every read entry point, any counts (zero, partial frames, past the end),
    in any order, with any queries in between — leaves write position, frame count and streams exactly as they were: the next
    write, through whichever entry point, is judged where the previous one ended -/
theorem readLike_keeps_write_side (g : Geom) : ∀ (tr : List (Op × Out)) (st st' : St),
    (∀ l ∈ tr, readLike l.1 = true) → accepts g st tr = some st' →
    st'.wpos = st.wpos ∧ st'.frames = st.frames ∧ st'.ref = st.ref ∧ st'.valid = st.valid ∧ st'.mode = st.mode := by
  intro tr st st' hall h
  refine accepts_invariant (g := g) (Q := fun op => readLike op = true)
    (P := fun s1 => s1.wpos = st.wpos ∧ s1.frames = st.frames ∧ s1.ref = st.ref ∧ s1.valid = st.valid ∧ s1.mode = st.mode)
    (fun s1 op o s2 hp hl hc => ?_) tr st st' ⟨rfl, rfl, rfl, rfl, rfl⟩ hall h
  -- a read-like line is one of the lines that leave the file alone, and it is no seek
  obtain ⟨r, w, e, rfl, _, hw⟩ := check_rdOnly g s1 op o s2 (by cases op <;> first | rfl | cases hl) hc
  rw [hw (fun off wh hx => by subst hx; cases hl)]
  exact hp

/-- an accepted, well-formed sf_write_raw on a handle that may write: everything is written, the write position and the frame count
    advance by whole frames, the read position stays, the byte stream holds the bytes at the write position -/
theorem rawWrite_meaning (g : Geom) (st : St) (n : Int) (d : Array Item) (o : Out) (st' : St) (hb : g.bw ≠ 0) (hm : st.mode ≠ .r)
    (hn : 0 < n) (ha : n.toNat % g.bw = 0) (h : rawWriteOk g st n d o = .ok st') :
    o.ret = n ∧ o.err = false ∧ st'.wpos = st.wpos + n.toNat / g.bw ∧ st'.frames = max st.frames (st.wpos + n.toNat / g.bw) ∧
    st'.rpos = st.rpos ∧ st'.raw = writeAt 0 st.raw (st.wpos * g.bw) (d.extract 0 n.toNat) := by
  have h := (rawWriteOk_eq_ok_iff g st n d o st' hb).mp h
  rw [if_neg (by intro hc; rcases hc with hc | hc | hc; exact hm hc; omega; exact hc ha), if_neg (by omega)] at h
  obtain ⟨_, hret, herr, rfl⟩ := h
  exact ⟨hret, herr, rfl, rfl, rfl, rfl⟩

open Sf.RdwrTail

/-- FULL STRENGTH (current rule of wav.c, caf.c, rf64.c): on a seekable fixed-width file without an end-of-audio mark a header
    update keeps the frame count of the handle, WHATEVER the length of the file — bytes left over behind the audio are not audio -/
theorem update_keeps_frames (s : Len) (h0 : s.dataend = 0) (hw : 0 < s.width) (hs : s.seekable = true) :
    framesAfter (dataLen s) s = s.frames := by
  simp [framesAfter, dataLen, h0, hw, hs, Nat.mul_div_cancel _ hw]

/-- … in particular right after ANY write entry point grew the file (the guard drops the mark) -/
theorem update_after_growth (s : Len) (wpos : Nat) (hg : s.frames < wpos) (hw : 0 < s.width) (hs : s.seekable = true) :
    framesAfter (dataLen (grow s wpos)) (grow s wpos) = wpos := by
  have : grow s wpos = { s with frames := wpos, dataend := 0 } := by simp [grow, hg]
  rw [this]
  exact update_keeps_frames _ rfl hw hs

/-- old rule of caf.c / rf64.c (before FX-CAF-UPDATE-STALE-TAIL / FX-RF64-UPDATE-STALE-TAIL): the witness of the finding — a CAF
    file of 9 16-bit frames with a 40-byte info chunk behind them, 3 frames written from frame 8 on: 11 frames, 58 bytes behind
    the data offset; the update makes it 29 frames -/
theorem update_old_rule_inflates :
    ∃ s : Len, s.dataend = 0 ∧ 0 < s.width ∧ s.seekable = true ∧ framesAfter (dataLenOld s) s ≠ s.frames :=
  ⟨{ filelength := 4096 + 58, dataoffset := 4096, dataend := 0, frames := 11, width := 2 }, rfl, by decide, rfl, by decide⟩

/-- where the file ends with its audio (every write-mode session; a read/write session on a file without trailing content) the two
    rules agree: `Sf.Caf.writeHeader` / `Sf.Rf64.writeHeader` (old formula) stay exact descriptions of those sessions -/
theorem rules_agree_without_tail (s : Len) (h : s.filelength - s.dataoffset = s.frames * s.width) : dataLen s = dataLenOld s := by
  unfold dataLen dataLenOld
  simp only
  split
  · rfl
  · split
    · exact h.symm
    · rfl

/-- a mark that is still set wins: the data ends there -/
theorem update_with_mark (s : Len) (h : s.dataend ≠ 0) (h1 : s.dataoffset ≤ s.dataend) (h2 : s.dataend ≤ s.filelength) :
    dataLen s = s.dataend - s.dataoffset := by
  simp [dataLen, h]; omega

/-- the seeded regression C11-writef-int-dataend as a theorem about the rule with the lost assignment: the mark survives the
    growth, and the update shrinks the frame count back to the old end of the audio -/
theorem stale_mark_loses_frames (s : Len) (wpos : Nat) (hg : s.frames < wpos) (hw : 0 < s.width) (h : s.dataend ≠ 0)
    (hend : s.dataend = s.dataoffset + s.frames * s.width) (h2 : s.dataend ≤ s.filelength) :
    framesAfter (dataLen (growKeepsMark s wpos)) (growKeepsMark s wpos) = s.frames ∧ s.frames < (growKeepsMark s wpos).frames := by
  have e : growKeepsMark s wpos = { s with frames := wpos } := by simp [growKeepsMark, hg]
  rw [e]
  refine ⟨?_, hg⟩
  have : dataLen { s with frames := wpos } = s.dataend - s.dataoffset := by
    simp [dataLen, h]; omega
  rw [this, hend]
  simp [framesAfter, hw, Nat.mul_div_cancel _ hw]

def exG : Geom := { ch := 1, bw := 2, frames0 := 0, mode0 := .w, strictSeek := true, lossless := fun ty => ty = .s16 }

/-- a file of 4 frames; read/write: write 1 frame at 1, raw read of 8 bytes from frame 3 (1 frame is left: 2 bytes delivered),
    write 1 frame (lands at 2), read back frames 1..3 -/
def exTr : List (Op × Out) :=
  [(.reopen .w, {}), (.write .s16 true 4 #[1, 2, 3, 4], { ret := 4 }), (.close, { ret := 0 }), (.reopen .rw, { frames := 4 }),
   (.seek 1 0x20, { ret := 1 }), (.seek 3 0x10, { ret := 3 }), (.write .s16 false 1 #[7], { ret := 1 }),
   (.rawRead 8, { ret := 2, data := #[4, 0, 0, 0, 0, 0, 0, 0] }), (.write .s16 true 1 #[8], { ret := 1 }),
   (.seek 0 0x21, { ret := 3 }), (.seek 1 0x10, { ret := 1 }), (.read .s16 true 3, { ret := 3, data := #[7, 8, 4] })]

example : holdsOn exG (fun _ => #[]) (fun _ => true) exTr = .ok 12 := by decide +kernel
/-- the seeded behaviour (the second write lands behind the audio, frame 2 keeps its old value): refused, clause `data` -/
example : holdsOn exG (fun _ => #[]) (fun _ => true) (exTr.take 11 ++ [(.read .s16 true 3, { ret := 3, data := #[7, 3, 4] })]) = .bad 11 "data" := by
  decide +kernel
/-- a raw read that delivers the bytes behind the audio as audio: refused, clause `count` -/
example : holdsOn exG (fun _ => #[]) (fun _ => true) (exTr.take 7 ++ [(.rawRead 8, { ret := 8, data := #[4, 0, 9, 9, 9, 9, 9, 9] })]) = .bad 7 "count" := by
  decide +kernel
example : (Len.mk 4154 4096 0 11 2 true).dataend = 0 ∧ framesAfter (dataLen (Len.mk 4154 4096 0 11 2 true)) (Len.mk 4154 4096 0 11 2 true) = 11 ∧
    framesAfter (dataLenOld (Len.mk 4154 4096 0 11 2 true)) (Len.mk 4154 4096 0 11 2 true) = 29 := by decide
example : framesAfter (dataLen (growKeepsMark (Len.mk 4154 4096 4114 9 2 true) 11)) (growKeepsMark (Len.mk 4154 4096 4114 9 2 true) 11) = 9 ∧
    framesAfter (dataLen (grow (Len.mk 4154 4096 4114 9 2 true) 11)) (grow (Len.mk 4154 4096 4114 9 2 true) 11) = 11 := by decide

end Sf.C08Raw
