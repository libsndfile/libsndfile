/-
  C01 / C04 / C07 / C11 — THE WRITE-SIDE BRIDGE for a LOSSLESS BLOCK CODEC with crash points: the XI delta coders DPCM_16 / DPCM_8
  inside their container.  `xi_session_accepted` says: the record the all-format write campaign would write down of ANY job on that model — any caller
  type, any split into item / frame calls, a crash point after any of the calls — passes every clause of `judge` (`sfmodel
  abs-write` evaluates `judgeG`, which accepts the same XI records: `acceptedG_eq_accepted`); for short / int callers that includes the C01 clause, through
  the WHOLE-FILE byte-level round trip `decode (closed data region) = samples` of the model's own reader.

  -- properties: C01 C04 C07 C11
-/
import SfProps.C07Bridge
import SfProofs.AbsWriteBridgeEnc
import SfProps.C04Xi
import SfProps.C04Geometry
import SfProofs.AbsWriteBridgeBlock3
import SfProps.C07BridgeDpcm
namespace Sf.C07Bridge3
open Sf Sf.AbsWrite Sf.AbsWriteBridge Sf.C07Bridge Sf.Geometry

section Xi
open Sf.Xi Sf.AbsWriteBridge.Dpcm3

def xiWide (c : Xi.Cfg) : Bool := decide (c.codec = 0x51)

/-- an XI job: the data region is `Dpcm.write` call by call (the running value `last_16` carried from call to call); the header in
    front of a region of `n` bytes is `xi_write_header` with `n / bytewidth` frames; the store at a crash point holds the header
    and every byte written so far (nothing is buffered); the read-back goes through the handle model `DpcmR` -/
def xiJob (c : Xi.Cfg) (cv : Conv) (sr : Nat) (ty : Ty) (one split : List LCall) (marks : List Nat) : SnapJob :=
  { g := { word := c.fmtWord, ch := 1, sr := sr }, ty := ty, one := one, split := split,
    data := Dpcm3.data (xiWide c) cv ty,
    hdr := fun n => Xi.hdr c { frames := ((n / c.bw : Nat) : Int) }, tail := fun _ => [],
    framesAt := fun n => n / c.bw,
    back := Dpcm3.back (xiWide c) cv ty,
    marks := marks, stored := Dpcm3.data (xiWide c) cv ty }

theorem xi_bw (c : Xi.Cfg) : (if xiWide c = true then 2 else 1) = c.bw := by
  unfold xiWide Xi.Cfg.bw Xi.bytewidth
  by_cases h : c.codec = 0x51 <;> simp [h]

/-- THE JOB'S FILES ARE THE CONTAINER MODEL'S FILES: the closed file of a run is `Sf.Small2.closedBytes` of the XI session that
    writes the run's delta bytes, the image at a crash point its `snapshotBytes` — whatever the stale frames value at open -/
theorem xi_job_is_container (c : Xi.Cfg) (hwf : c.wf) (cv : Conv) (sr : Nat) (ty : Ty) (one split : List LCall) (marks : List Nat)
    (stale : Nat) (cs : List LCall) (k : Nat) :
    (xiJob c cv sr ty one split marks).file cs = Small2.closedBytes (Xi.fmt c) stale [.write (Dpcm3.data (xiWide c) cv ty cs) false] ∧
    (xiJob c cv sr ty one split marks).image k =
      Small2.snapshotBytes (Xi.fmt c) stale [.write (Dpcm3.data (xiWide c) cv ty (split.take k)) false] := by
  obtain ⟨h1, _⟩ := Xi.closed_eq c stale [.write (Dpcm3.data (xiWide c) cv ty cs) false]
  obtain ⟨_, h2⟩ := Xi.closed_eq c stale [.write (Dpcm3.data (xiWide c) cv ty (split.take k)) false]
  rw [h1, h2]
  simp [BlockJob.file, SnapJob.image, xiJob, Small2.opsData]

/-- what comes back is what was written, for a short / an int that meets the side condition of C01 -/
theorem xi_sample_exact (c : Xi.Cfg) (hwf : c.wf) (cv cv2 : Conv) (ty : Ty) (hty : ty = .s16 ∨ ty = .s32) (v : Int)
    (hr : ty.inRange v) (hs : sampleOk c.codec ty v) :
    rt (xiWide c) cv cv2 ty ty v = v := by
  unfold rt xiWide
  rcases hwf.1 with h | h
  · have hiw : intWidth c.codec = some 8 := by rw [h]; rfl
    simp only [h, show ¬ ((0x50 : Nat) = 0x51) by decide, decide_false, Bool.false_eq_true, if_false]
    rcases hty with rfl | rfl
    · exact out8_cur8 cv cv2 .s16 v hr (Or.inl ⟨rfl, sampleOk_low16 hiw hs⟩)
    · exact out8_cur8 cv cv2 .s32 v hr (Or.inr ⟨rfl, sampleOk_low32 hiw hs⟩)
  · have hiw : intWidth c.codec = some 16 := by rw [h]; rfl
    simp only [h, decide_true, if_true]
    rcases hty with rfl | rfl
    · exact out16_cur16 cv cv2 .s16 v (Or.inl rfl)
    · exact out16_cur16 cv cv2 .s32 v (Or.inr ⟨rfl, sampleOk_low32 hiw hs⟩)

theorem xi_lossy (c : Xi.Cfg) (hwf : c.wf) (ty : Ty) (hty : ¬ (ty = .s16 ∨ ty = .s32)) : losslessLow c.codec ty = none := by
  cases ty
  · exact absurd (Or.inl rfl) hty
  · exact absurd (Or.inr rfl) hty
  · rcases hwf.1 with h | h <;> rw [h] <;> rfl
  · rcases hwf.1 with h | h <;> rw [h] <;> rfl

/-- **XI (DPCM_16 and DPCM_8), every job with crash points after any calls is accepted** — C07 (`run_eq_one_call`: the bytes of any
    split are the bytes of one call), C04 (F = N: `data_length`), C11 (a crash point re-opens with the frames written so far and
    reads back that prefix), and C01 through the WHOLE-FILE round trip `back_data_take` for short / int callers (DPCM_8: shorts whose
    low 8 bits, ints whose low 24 bits are zero; DPCM_16: any short, ints whose low 16 bits are zero).  A sample-granular codec:
    the closed file and every crash image are `Decoded` for the per-sample round trip `rt`. -/
theorem xi_session_accepted (c : Xi.Cfg) (hwf : c.wf) (cv : Conv) (sr : Nat) (ty : Ty) (one split : List LCall) (marks : List Nat)
    (h1 : ∀ k ∈ one, k.good 1) (h2 : ∀ k ∈ split, k.good 1) (hs : samples split = samples one)
    (hr : ∀ v ∈ samples one, ty.inRange v) :
    accepted (xiJob c cv sr ty one split marks).pred.record = true := by
  apply Pred.accepted_of_good
  have hbwpos : 0 < c.bw := by unfold Xi.Cfg.bw Xi.bytewidth; split <;> decide
  have hcodec : (xiJob c cv sr ty one split marks).g.codec = c.codec := by
    show c.fmtWord % 0x10000 = c.codec
    unfold Xi.Cfg.fmtWord; rcases hwf.1 with h | h <;> rw [h]
  have hmajor : (xiJob c cv sr ty one split marks).g.major = 0x0F := by
    show c.fmtWord / 0x10000 % 0x1000 = 0x0F
    unfold Xi.Cfg.fmtWord; rcases hwf.1 with h | h <;> rw [h]
  have hB : (xiJob c cv sr ty one split marks).g.block = 1 :=
    C04.frames_bound_granular _ _ _ _ (by rw [hcodec]; rcases hwf.1 with h | h <;> rw [h] <;> decide) (by rw [hmajor]; exact fun h => absurd h.1 (by decide))
  have hlenD : ∀ cs, (Dpcm3.data (xiWide c) cv ty cs).length / c.bw = (samples cs).length := by
    intro cs; rw [data_length, xi_bw, Nat.mul_div_cancel _ hbwpos]
  have hdata : (xiJob c cv sr ty one split marks).data one = (xiJob c cv sr ty one split marks).data split := by
    show Dpcm3.data _ _ _ one = Dpcm3.data _ _ _ split
    rw [Dpcm3.data_eq, Dpcm3.data_eq, hs]
  -- the image holding the data region of the calls `cs`, read back with `m` items asked
  have himg : ∀ (cs : List LCall) (m : Nat), (∀ v ∈ samples cs, ty.inRange v) → (samples cs).length ≤ m →
      Decoded (xiJob c cv sr ty one split marks).g (List.map (rt (xiWide c) cv cv ty ty)) (samples cs) (framesOf 1 cs)
        { ch := 1, sr := sr, fmt := c.fmtWord, frames := (((Dpcm3.data (xiWide c) cv ty cs).length / c.bw : Nat) : Int) }
        ((((Dpcm3.data (xiWide c) cv ty cs).length / c.bw * 1 : Nat) : Nat) : Int)
        (Dpcm3.back (xiWide c) cv ty (Dpcm3.data (xiWide c) cv ty cs) m) := fun cs m hcs hm =>
    { opened := rfl, info := by unfold infoOk; simp [xiJob],
      frames := by rw [hlenD, framesOf_one], ret := by rw [hlenD, Nat.mul_one],
      len := by rw [back_length]; exact hm,
      data := back_data_take (xiWide c) cv cv ty ty cs hcs m hm }
  refine good_of_decoded _ (List.map (rt (xiWide c) cv cv ty ty)) (fun xs ys => by simp) ?_ Nat.one_pos hB h1 h2 hs
    (himg one _ hr (by show _ ≤ (framesOf 1 one + _ + _ + 8) * 1; rw [framesOf_one]; omega))
    (show rateOk (xiJob c cv sr ty one split marks).g.major sr (sr : Int) = true by unfold rateOk; rw [hmajor]; rfl) rfl
    (by show BlockJob.file _ one = BlockJob.file _ split
        unfold BlockJob.file; rw [hdata]) rfl ?_
  · intro xs ys hxy hok
    by_cases hty : ty = .s16 ∨ ty = .s32
    · exact map_eq_self fun v hv => xi_sample_exact c hwf cv cv ty hty v
        (hr v (by rw [show samples one = xs ++ ys from hxy]; exact List.mem_append_left _ hv)) (hcodec ▸ hok v hv)
    · -- a float / double caller: no sample meets the side condition
      rw [lossy_nil (hcodec ▸ xi_lossy c hwf ty hty) hok]; rfl
  · intro _ s hsm
    obtain ⟨k, _, rfl⟩ := List.mem_map.1 hsm
    exact himg (split.take k) _ (fun v hv => hr v (by rw [← hs, samples_take split k]; exact List.mem_append_left _ hv))
      (by show _ ≤ (framesOf 1 (split.take k) + 8) * 1; rw [framesOf_one]; omega)

def exOne : List LCall := [⟨true, [1000, -2000, 30000], 3⟩]
def exSplit : List LCall := [⟨true, [1000], 1⟩, ⟨false, [-2000, 30000], 2⟩]
def exOne8 : List LCall := [⟨true, [256, -512, 32512], 3⟩]
def exSplit8 : List LCall := [⟨true, [256], 1⟩, ⟨false, [-512, 32512], 2⟩]
def exJ16 : SnapJob := xiJob C04Xi.ex16 {} 44100 .s16 exOne exSplit [1, 2]
def exJ8 : SnapJob := xiJob C04Xi.ex8 {} 8000 .s16 exOne8 exSplit8 [1, 2]

/-- the hypotheses of `xi_session_accepted` hold, the side condition of C01 holds (the records are judged LOSSLESS), and the records
    evaluate: F = N = 3, the read-back begins with the samples, the crash points re-open with 1 and 3 frames, accepted -/
example : C04Xi.ex16.wf ∧ (∀ k ∈ exOne, k.good 1) ∧ (∀ k ∈ exSplit, k.good 1) ∧ samples exSplit = samples exOne ∧
    (∀ v ∈ samples exOne, Ty.s16.inRange v) ∧
    losslessFor exJ16.g .s16 (written exJ16.g.ch exJ16.pred.record.one.calls) = true ∧
    exJ16.pred.record.info.frames = 3 ∧ exJ16.pred.rbData.take 3 = [1000, -2000, 30000] ∧
    exJ16.pred.snaps.map (·.info.frames) = [1, 3] ∧ (exJ16.file exOne).length = 344 ∧ (exJ16.image 1).length = 340 ∧
    accepted exJ16.pred.record = true := by
  have hwf : C04Xi.ex16.wf := by decide +kernel
  have h1 : ∀ k ∈ exOne, k.good 1 := by decide +kernel
  have h2 : ∀ k ∈ exSplit, k.good 1 := by decide +kernel
  have hs : samples exSplit = samples exOne := by decide +kernel
  have hr : ∀ v ∈ samples exOne, Ty.s16.inRange v := by decide +kernel
  refine ⟨hwf, h1, h2, hs, hr, ?_, ?_, ?_, ?_, ?_, ?_, xi_session_accepted _ hwf _ _ _ _ _ _ h1 h2 hs hr⟩
  all_goals decide +kernel

example : C04Xi.ex8.wf ∧ (∀ k ∈ exOne8, k.good 1) ∧ (∀ k ∈ exSplit8, k.good 1) ∧ samples exSplit8 = samples exOne8 ∧
    (∀ v ∈ samples exOne8, Ty.s16.inRange v) ∧
    losslessFor exJ8.g .s16 (written exJ8.g.ch exJ8.pred.record.one.calls) = true ∧
    exJ8.pred.record.info.frames = 3 ∧ exJ8.pred.rbData.take 3 = [256, -512, 32512] ∧
    exJ8.pred.snaps.map (·.info.frames) = [1, 3] ∧ accepted exJ8.pred.record = true := by
  have hwf : C04Xi.ex8.wf := by decide +kernel
  have h1 : ∀ k ∈ exOne8, k.good 1 := by decide +kernel
  have h2 : ∀ k ∈ exSplit8, k.good 1 := by decide +kernel
  have hs : samples exSplit8 = samples exOne8 := by decide +kernel
  have hr : ∀ v ∈ samples exOne8, Ty.s16.inRange v := by decide +kernel
  refine ⟨hwf, h1, h2, hs, hr, ?_, ?_, ?_, ?_, xi_session_accepted _ hwf _ _ _ _ _ _ h1 h2 hs hr⟩
  all_goals decide +kernel

end Xi

end Sf.C07Bridge3
