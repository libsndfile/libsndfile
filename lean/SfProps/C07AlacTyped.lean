/-
  C07 (CAF/ALAC, every caller type) — the closed file does not depend on how the samples were split over write calls, for
  short, int, float and double callers, item and frame variants, types mixed freely: the bytes are a function of the
  CONVERTED item stream alone (`Sf.AlacTyped.codecItems`).  Lifts `Sf.C07Alac.closed_bytes_partition_independent` (frames of an
  abstract type) through the per-type conversions of `alac_write_s / _i / _f / _d`.  Model: SfModel/AlacTyped.lean.
-/
import SfModel.AlacTyped
import SfProps.C07Alac
import SfProofs.Groups
namespace Sf.C07AlacTyped
open Sf Sf.Alac Sf.AlacTyped Sf.C07Alac

variable {σ : Type}

theorem framesOf_append (ch : Nat) (a b : List Int) (k : Nat) (h : a.length = k * ch) :
    framesOf ch (a ++ b) = framesOf ch a ++ framesOf ch b := by
  unfold framesOf
  by_cases hc : ch = 0
  · simp [hc]
  · rw [if_neg hc, if_neg hc, if_neg hc]
    exact groups_append ch (Nat.pos_of_ne_zero hc) k a b h

/-- the frames a history hands the codec, call by call, are the frames of the converted stream -/
theorem frames_of_history (cv : Conv) (ch : Nat) : ∀ (calls : List (Ty × List Int)),
    (∀ c ∈ calls, ch ∣ c.2.length) →
    (calls.map fun c => framesOf ch (c.2.map (toCodec cv c.1))).flatten = framesOf ch (codecItems cv calls) := by
  intro calls
  induction calls with
  | nil =>
    intro _
    unfold codecItems framesOf
    by_cases hc : ch = 0
    · simp [hc]
    · simp [hc, groups, groupsAux]
  | cons c cs ih =>
    intro hw
    have hc : ch ∣ c.2.length := hw c (by simp)
    obtain ⟨k, hk⟩ := hc
    have hcs : ∀ c ∈ cs, ch ∣ c.2.length := fun x hx => hw x (by simp [hx])
    have e : codecItems cv (c :: cs) = c.2.map (toCodec cv c.1) ++ codecItems cv cs := by
      simp [codecItems]
    rw [e, framesOf_append ch _ _ k (by rw [List.length_map, hk, Nat.mul_comm]), ← ih hcs]
    simp

theorem writeTypedCalls_eq (cv : Conv) (ch : Nat) (cd : Codec σ Frame) : ∀ (calls : List (Ty × List Int)) (w : W σ Frame),
    writeTypedCalls cv ch cd w calls = writeCalls cd w (calls.map fun c => framesOf ch (c.2.map (toCodec cv c.1))) :=
  fun _ _ => List.foldl_map.symm

/-- C07 for CAF/ALAC at the public API: two histories of typed write calls (whole frames each; short / int / float / double
    callers mixed in any way, `sf_write_T` or `sf_writef_T`) whose converted item streams agree close to the same bytes, for
    every codec core -/
theorem typed_partition_independent (c : Cfg) (cv : Conv) (ch : Nat) (cd : Codec σ Frame)
    (calls1 calls2 : List (Ty × List Int))
    (hw1 : ∀ x ∈ calls1, ch ∣ x.2.length) (hw2 : ∀ x ∈ calls2, ch ∣ x.2.length)
    (h : codecItems cv calls1 = codecItems cv calls2) :
    closedBytes c cd (writeTypedCalls cv ch cd (W.init cd) calls1) = closedBytes c cd (writeTypedCalls cv ch cd (W.init cd) calls2) := by
  rw [writeTypedCalls_eq, writeTypedCalls_eq]
  apply closed_bytes_partition_independent
  rw [frames_of_history cv ch calls1 hw1, frames_of_history cv ch calls2 hw2, h]

/-- the statement as the property words it: ONE caller type, the same samples, any two splits into calls -/
theorem same_type_partition_independent (c : Cfg) (cv : Conv) (ch : Nat) (cd : Codec σ Frame) (ty : Ty)
    (split1 split2 : List (List Int))
    (hw1 : ∀ x ∈ split1, ch ∣ x.length) (hw2 : ∀ x ∈ split2, ch ∣ x.length)
    (h : split1.flatten = split2.flatten) :
    closedBytes c cd (writeTypedCalls cv ch cd (W.init cd) (split1.map fun x => (ty, x))) =
      closedBytes c cd (writeTypedCalls cv ch cd (W.init cd) (split2.map fun x => (ty, x))) := by
  apply typed_partition_independent
  · intro x hx; simp only [List.mem_map] at hx; obtain ⟨y, hy, rfl⟩ := hx; exact hw1 y hy
  · intro x hx; simp only [List.mem_map] at hx; obtain ⟨y, hy, rfl⟩ := hx; exact hw2 y hy
  · have e : ∀ (s : List (List Int)), codecItems cv (s.map fun x => (ty, x)) = s.flatten.map (toCodec cv ty) := by
      intro s
      induction s with
      | nil => simp [codecItems]
      | cons a s ih =>
        have : codecItems cv ((a :: s).map fun x => (ty, x)) = a.map (toCodec cv ty) ++ codecItems cv (s.map fun x => (ty, x)) := by
          simp [codecItems]
        rw [this, ih]; simp
    rw [e, e, h]

/-- non-vacuity: three stereo frames of a short (and of an int) caller written as 1 + 2 frames and in one call, through a codec whose packets
    list the low byte of every staged sample: the same 6 items reach the codec -/
example :
    let cd : Codec Unit Frame := { init := (), enc := fun _ st => ((), st.flatten.map fun v => (v % 256).toNat), dec := fun _ => [] }
    let c : Cfg := ⟨16, 2, 8000⟩
    closedBytes c cd (writeTypedCalls {} 2 cd (W.init cd) [(.s16, [1, 2]), (.s16, [3, 4, 5, 6])]) =
      closedBytes c cd (writeTypedCalls {} 2 cd (W.init cd) [(.s16, [1, 2, 3, 4, 5, 6])]) ∧
    (finish cd (writeTypedCalls {} 2 cd (W.init cd) [(.s32, [1, 2]), (.s32, [3, 4, 5, 6])])).sizes = [6] := by
  intro cd c
  exact ⟨typed_partition_independent c {} 2 cd _ _ (by decide) (by decide) (by decide), by decide +kernel⟩

end Sf.C07AlacTyped
