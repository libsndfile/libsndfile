/-
  C19 / C07 — a handle's first block and first samples do not depend on what the heap held, PROVIDED the private state is obtained
  with calloc or cleared entirely; a partial clear leaks the heap exactly where the tests do not look (a first block that is never
  completed, the held sample of a fresh handle).  Model: SfModel/HeapInit.lean; campaign vlib/heapcodec.py.
-/
-- properties: C19 C07
import SfModel.HeapInit
namespace Sf.C19HeapInit
open Sf.HeapInit

theorem fresh_calloc_independent (j j' : Junk) (size : Nat) : fresh .calloc j size = fresh .calloc j' size := rfl

/-- malloc + memset of the whole block is calloc -/
theorem fresh_clear_all (j j' : Junk) {n size : Nat} (h : size ≤ n) : fresh (.mallocClear n) j size = fresh .calloc j' size := by
  have e : (List.range size).map (fun _ => (0 : Int)) = List.replicate size 0 := by rw [List.map_const', List.length_range]
  exact (List.map_congr_left fun k hk => if_pos (Nat.lt_of_lt_of_le (List.mem_range.mp hk) h)).trans e

/-- first block, any encoder: with calloc (or a full clear) the bytes of the only block are a function of the caller's samples -/
theorem first_block_independent {β : Type} (enc : List Int → β) (j j' : Junk) (size : Nat) (xs : List Int) :
    enc (firstBlock .calloc j size xs) = enc (firstBlock .calloc j' size xs) := rfl

theorem first_block_independent_clear_all {β : Type} (enc : List Int → β) (j j' : Junk) (n size : Nat) (xs : List Int) (h : size ≤ n) :
    enc (firstBlock (.mallocClear n) j size xs) = enc (firstBlock (.mallocClear n) j' size xs) := by
  simp only [firstBlock, fresh_clear_all j j h, fresh_clear_all j' j h]

/-- why the test-suite cannot see a partial clear: a COMPLETE block overwrites every cell, whatever the block held -/
theorem full_block_hides_init (i : Init) (j j' : Junk) (size : Nat) (xs : List Int) (h : size ≤ xs.length) :
    firstBlock i j size xs = firstBlock i j' size xs := by
  have hl : ∀ jj, (fresh i jj size).length = size := by
    intro jj; cases i <;> simp [fresh]
  have hd : ∀ jj, (fresh i jj size).drop (min xs.length size) = [] := by
    intro jj; apply List.drop_eq_nil_of_le; rw [hl]; omega
  simp [firstBlock, hd]

/-- a partial clear leaks the heap into a first block that is not completed (state cells cleared, sample buffer left as found):
    one sample written, block of 4 cells of which 2 were cleared -/
theorem partial_clear_leaks_into_first_block :
    firstBlock (.mallocClear 2) (fun _ => 0) 4 [5] = [5, 0, 0, 0] ∧
    firstBlock (.mallocClear 2) (fun _ => 0x4b4b) 4 [5] = [5, 0, 0x4b4b, 0x4b4b] ∧
    firstBlock .calloc (fun _ => 0x4b4b) 4 [5] = [5, 0, 0, 0] := by
  refine ⟨by decide, by decide, by decide⟩

/-- held sample of a fresh handle: with a cleared struct nothing is prepended -/
theorem carry_in_fresh_calloc (j : Junk) (size flagAt carryAt : Nat) (xs : List Int) :
    carryIn (fresh .calloc j size) flagAt carryAt xs = xs := by
  have : (fresh .calloc j size).getD flagAt 0 = 0 := by
    simp only [fresh, List.getD_eq_getElem?_getD]
    by_cases h : flagAt < size <;> simp [h]
  simp only [carryIn, this]
  simp

theorem carry_in_fresh_clear_all (j : Junk) (n size flagAt carryAt : Nat) (xs : List Int) (h : size ≤ n) :
    carryIn (fresh (.mallocClear n) j size) flagAt carryAt xs = xs := by
  rw [fresh_clear_all j j h, carry_in_fresh_calloc]

/-- a struct of 4 cells whose first 2 (the embedded coder state) are cleared, flag in cell 2, held sample in cell 3: recycled heap
    makes the first call start with a sample nobody wrote -/
theorem partial_clear_bogus_carry :
    carryIn (fresh (.mallocClear 2) (fun _ => 0) 4) 2 3 [7, 8] = [7, 8] ∧
    carryIn (fresh (.mallocClear 2) (fun _ => -16706) 4) 2 3 [7, 8] = [-16706, 7, 8] := by
  refine ⟨by decide, by decide⟩

/-- non-vacuity of the independence statements: a partial first block, two different heaps -/
example : firstBlock .calloc (fun k => (k : Int) + 1) 4 [5] = firstBlock .calloc (fun _ => 0x4b4b) 4 [5] ∧
    firstBlock .calloc (fun _ => 0x4b4b) 4 [5] = [5, 0, 0, 0] := ⟨rfl, by decide⟩

end Sf.C19HeapInit
