-- properties: C04 C11
/-
  C04 / C11 — the MATLAB 5 container (stand-alone L1 model SfModel/Mat5.lean; helpers SfProofs/Mat5Image.lean,
  SfProofs/Small2Session.lean).

  A *session* is `openW` (sf_open SFM_WRITE; the caller's frames value is a parameter — it shows in the size fields
  of the very first header only), any list of `WOp`s storing whole frames, then `close`.  The 124-byte text field
  (package name and version, date string) is a parameter of the configuration.
-/
import SfProofs.Mat5Image
namespace Sf.C04Mat5
open Sf Sf.Small2 Sf.Mat5
open Sf.Mat4 (w32 r32 w32_length r32_w32)

/-- **mat5_rate_exact.**  The rate is stored as a compressed 16-bit element up to 65535 and as a compressed 32-bit
    element above: every rate in [1, 2^31 − 1] is reported back exactly. -/
theorem mat5_rate_exact (sr : Nat) (_h1 : 1 ≤ sr) (h2 : sr ≤ 0x7FFFFFFF) : quant sr = sr := by
  unfold quant
  split
  · exact wrapU_of_lt 32 sr (by omega)
  · exact wrapU_of_lt 16 sr (by omega)

example : quant 1 = 1 ∧ quant 65535 = 65535 ∧ quant 65536 = 65536 ∧ quant 2147483647 = 2147483647 := by decide +kernel

/-- the boundary between the two rate elements: 65535 is the last 16-bit one (bytes 04 00 02 00 FF FF 00 00 in a
    little-endian file), 65536 the first 32-bit one (06 00 04 00 00 00 01 00) -/
theorem mat5_rate_element_boundary :
    rateElem true 65535 = [4, 0, 2, 0, 0xFF, 0xFF, 0, 0] ∧ rateElem true 65536 = [6, 0, 4, 0, 0, 0, 1, 0] ∧
    rateElem false 65535 = [0, 2, 0, 4, 0xFF, 0xFF, 0, 0] ∧ rateElem false 65536 = [0, 4, 0, 6, 0, 1, 0, 0] := by decide +kernel

theorem closedBytes_eq (c : Cfg) (ht : c.text.length = 124) (stale : Nat) (ops : List WOp) :
    closedBytes (fmt c) stale ops =
      hdr c { frames := (((opsData ops).length / c.bw : Nat) : Int), filelength := ((264 + (opsData ops).length : Nat) : Int),
              datalength := ((opsData ops).length : Nat) } ++ opsData ops :=
  closed_std (fmt c) (lawful c ht) rfl c.bw (fun _ _ => rfl) stale ops

/-- **mat5_reopen_info.**  For every accepted configuration (five encodings, both byte orders, 1 … 1024 channels,
    every rate in [1, 2^31 − 1], any text field the writer can produce) and every session — whatever the caller's
    stale frames value, however the audio was split over write calls and header updates — the closed file re-opens
    with the requested channels, MAT5 / the requested encoding in the byte order of the file, exactly the requested
    rate and exactly the frames written.  There is no size guard: the reader takes the frame count from the file
    length, not from the 32-bit fields. -/
theorem mat5_reopen_info (c : Cfg) (hwf : c.wf) (stale : Nat) (ops : List WOp) :
    parse (closedBytes (fmt c) stale ops) =
      .ok { ch := c.ch, fmt := c.fmtWord, sr := quant c.sr, frames := (opsData ops).length / c.bw } := by
  have ⟨_, _, _, _, hsr1, hsr2, _⟩ := hwf
  rw [closedBytes_eq c hwf.text_len, mat5_rate_exact c.sr hsr1 hsr2]
  exact parse_image c hwf _ _

def exText : List Byte :=
  asc "MATLAB 5.0 MAT-file, written by libsndfile-1.2.2, 2001-08-09 01:46:40 UTC" ++ [0] ++ List.replicate 50 0x20
def exCfg : Cfg := ⟨2, 2, 2, 44100, exText⟩
def exLe : Cfg := ⟨6, 0, 1, 96000, exText⟩
def exU8 : Cfg := ⟨5, 1, 3, 8000, exText⟩
def exOps : List WOp := [.write [0, 1, 0, 2] false, .update, .write [0, 3, 0, 4, 0, 5, 0, 6] true]
theorem ex_wf : exCfg.wf ∧ exLe.wf ∧ exU8.wf := by decide +kernel

example : exCfg.wf ∧ exLe.wf ∧ exU8.wf ∧ WholeFrames exCfg.bw exOps ∧ (closedBytes (fmt exCfg) 77 exOps).length = 276 ∧
    parse (closedBytes (fmt exCfg) 77 exOps) = .ok ⟨2, 0x200D0002, 44100, 3⟩ :=
  ⟨ex_wf.1, ex_wf.2.1, ex_wf.2.2, by decide,
    by rw [closedBytes_eq exCfg ex_wf.1.text_len, List.length_append, hdr_length exCfg ex_wf.1.text_len]; rfl,
    mat5_reopen_info exCfg ex_wf.1 77 exOps⟩
example : parse (closedBytes (fmt exLe) 0 exOps) = .ok ⟨1, 0x100D0006, 96000, 3⟩ ∧
    parse (closedBytes (fmt exU8) 5 exOps) = .ok ⟨3, 0x100D0005, 8000, 4⟩ :=
  ⟨mat5_reopen_info exLe ex_wf.2.1 0 exOps, mat5_reopen_info exU8 ex_wf.2.2 5 exOps⟩

/-- **mat5_size_fields.**  The file is the 264-byte header plus the audio (nothing is padded, no tailer); in the
    byte order of the file the rows field (offset 232) holds the channels, the cols field (offset 236) the low 32
    bits of audio bytes / block width, the data element's size field (offset 260) the audio bytes clamped to
    0x7FFFFFFF, and the matrix element's size field (offset 204) the low 32 bits of audio bytes + 64 — eight more
    than the 56 bytes of sub-element headers that really precede the audio (the reader ignores the field).  `hw`: the
    writer computes the two size fields as frames · channels · bytewidth, which is the audio byte count only when the
    audio is whole frames (MAT4 has no such field). -/
theorem mat5_size_fields (c : Cfg) (hwf : c.wf) (stale : Nat) (ops : List WOp) (hw : WholeFrames c.bw ops) (bytes : List Byte) (D : Nat)
    (hbytes : bytes = closedBytes (fmt c) stale ops) (hD : D = (opsData ops).length) :
    bytes.length = 264 + D ∧ r32 c.little ((bytes.drop 232).take 4) = c.ch ∧
    r32 c.little ((bytes.drop 236).take 4) = (D / c.bw) % 2 ^ 32 ∧
    r32 c.little ((bytes.drop 260).take 4) = min D 0x7FFFFFFF ∧
    r32 c.little ((bytes.drop 204).take 4) = (D + 64) % 2 ^ 32 ∧ bytes.drop 264 = opsData ops := by
  have ht := hwf.text_len
  rw [closedBytes_eq c ht, ← hD] at hbytes
  have hm : D % c.bw = 0 := by rw [hD]; exact opsData_whole c.bw ops hw
  -- datasize = frames * channels * bytewidth = D for whole frames
  have hds : datasize c { frames := ((D / c.bw : Nat) : Int), filelength := ((264 + D : Nat) : Int), datalength := (D : Nat) } = (D : Int) := by
    have h1 := Nat.div_add_mod D c.bw
    rw [hm, Nat.add_zero] at h1
    have key : ∀ q : Nat, ((q : Nat) : Int) * (c.ch : Int) * (bytewidth c.codec : Int) = ((c.bw * q : Nat) : Int) := by
      intro q; unfold Cfg.bw; push_cast; rw [Int.mul_assoc, Int.mul_comm (c.ch : Int), Int.mul_comm]
    unfold datasize
    simp only []
    rw [key, h1]
  generalize hf : ({ frames := ((D / c.bw : Nat) : Int), filelength := ((264 + D : Nat) : Int), datalength := (D : Nat) } : Fields) = f at hbytes hds
  have hlen : bytes.length = 264 + D := by rw [hbytes, hD]; simp [hdr_length c ht]
  have hfr : f.frames = ((D / c.bw : Nat) : Int) := by rw [← hf]
  have hw4 : ∀ v, (w32 c.little v).length = 4 := w32_length c.little
  refine ⟨hlen, ?_, ?_, ?_, ?_, by rw [hbytes]; exact List.drop_left' (hdr_length c ht f)⟩ <;>
    simp only [hbytes, hdr, hdrB, mxFields, List.flatten_cons, List.flatten_nil, List.append_assoc, List.append_nil, drop_app_skip, take_app_head, ht,
      hdrA_length, hw4, show wdName.length = 8 from rfl, Nat.reduceSub, Nat.reduceLeDiff, Nat.le_refl, List.drop_zero, r32_w32, hfr, hds, wrapU_natCast]
  · exact wrapU_of_lt 32 _ (by obtain ⟨_, _, _, hch, _⟩ := hwf; omega)
  · unfold dataField
    rw [hds]
    by_cases hbig : (D : Int) > 0x7FFFFFFF
    · rw [if_pos hbig]
      have : min D 0x7FFFFFFF = 0x7FFFFFFF := by omega
      rw [this]; decide
    · rw [if_neg hbig, wrapU_of_lt 32 D (by omega)]; omega
  · have : ((D : Nat) : Int) + 64 = ((D + 64 : Nat) : Int) := by push_cast; rfl
    rw [this, wrapU_natCast]

example : r32 exCfg.little (((closedBytes (fmt exCfg) 77 exOps).drop 236).take 4) = 3 ∧
    r32 exCfg.little (((closedBytes (fmt exCfg) 77 exOps).drop 260).take 4) = 12 ∧
    r32 exCfg.little (((closedBytes (fmt exCfg) 77 exOps).drop 204).take 4) = 76 :=
  have ⟨_, _, cols, dataSize, matrixSize, _⟩ := mat5_size_fields exCfg ex_wf.1 77 exOps (by decide) _ _ rfl rfl
  ⟨cols, dataSize, matrixSize⟩

/-- **mat5_frames_bound.**  All five encodings are sample-granular and nothing is padded: `N` frames re-open as `N`. -/
theorem mat5_frames_bound (bw N : Nat) (hbw : 0 < bw) : (N * bw) / bw = N ∧ N ≤ (N * bw) / bw ∧ (N * bw) / bw < N + 1 :=
  frames_bound bw N hbw

example : (3 * 4) / 4 = 3 := by decide

/-- **stale_frames_ignored_mat5.**  Closed bytes and update images do not depend on the caller's frames value… -/
theorem stale_frames_ignored_mat5 (c : Cfg) (ht : c.text.length = 124) (a b : Nat) (ops : List WOp) :
    closedBytes (fmt c) a ops = closedBytes (fmt c) b ops ∧ snapshotBytes (fmt c) a ops = snapshotBytes (fmt c) b ops :=
  ⟨stale_ignored (fmt c) (lawful c ht) rfl a b ops, stale_ignored_snapshot (fmt c) (lawful c ht) a b ops⟩

example : closedBytes (fmt exCfg) 0 exOps = closedBytes (fmt exCfg) 123456 exOps :=
  (stale_frames_ignored_mat5 exCfg ex_wf.1.text_len 0 123456 exOps).1

/-- …but the header written by sf_open itself carries it (matrix size, cols, data size) until the first write call
    or update; such an image still re-opens with the right parameters and 0 frames, because the reader ignores
    those fields -/
theorem mat5_open_image_stale : (openW (fmt exCfg) 0).bytes ≠ (openW (fmt exCfg) 99).bytes ∧
    parse (openW (fmt exCfg) 99).bytes = .ok ⟨2, 0x200D0002, 44100, 0⟩ := by
  refine ⟨fun h => ?_, parse_image exCfg ex_wf.1 _ []⟩
  -- both images start with the text and the fixed part of the header: the size fields behind them differ
  have h' : hdr exCfg { frames := 0, filelength := 0, datalength := -1 } ++ [] =
      hdr exCfg { frames := 99, filelength := 0, datalength := -1 } ++ [] := h
  rw [List.append_nil, List.append_nil, hdr, hdr, List.append_cancel_left_eq, List.append_cancel_left_eq] at h'
  revert h'
  decide +kernel

/-- **mat5_snapshot_valid.**  After any session prefix, the image a header update leaves in the store parses with
    the same parameters and exactly the frames written so far, and is the 264-byte header followed by the audio
    written so far. -/
theorem mat5_snapshot_valid (c : Cfg) (hwf : c.wf) (stale : Nat) (ops : List WOp) :
    parse (snapshotBytes (fmt c) stale ops) =
      .ok { ch := c.ch, fmt := c.fmtWord, sr := quant c.sr, frames := (opsData ops).length / c.bw } ∧
    ∃ hdr, hdr.length = 264 ∧ snapshotBytes (fmt c) stale ops = hdr ++ opsData ops :=
  ⟨closed_is_snapshot (fmt c) rfl stale ops ▸ mat5_reopen_info c hwf stale ops, snapshot_split (fmt c) (lawful c hwf.text_len) stale ops⟩

example : parse (snapshotBytes (fmt exCfg) 5 [.write [1, 2, 3, 4] false]) = .ok ⟨2, 0x200D0002, 44100, 1⟩ :=
  (mat5_snapshot_valid exCfg ex_wf.1 5 _).1

/-- **mat5_crash_image_any_header.**  Stronger than C11 asks: ANY header the writer can emit (any values of the
    running fields) in front of ANY number of audio bytes is a valid file with the frames its length holds — so
    also the image between a write call and the next header update re-opens with every whole frame stored so far. -/
theorem mat5_crash_image_any_header (c : Cfg) (hwf : c.wf) (f : Fields) (data : List Byte) :
    parse (hdr c f ++ data) = .ok { ch := c.ch, fmt := c.fmtWord, sr := c.sr, frames := data.length / c.bw } :=
  parse_image c hwf f data

example : parse (hdr exCfg { frames := 12345 } ++ [1, 2, 3, 4, 5]) = .ok ⟨2, 0x200D0002, 44100, 1⟩ :=
  mat5_crash_image_any_header exCfg ex_wf.1 _ _

/-- **mat5_updates_dont_change_file** (C07 / C11): the closed bytes depend on the audio only, not on how it was
    split over write calls nor on the header updates requested in between. -/
theorem mat5_updates_dont_change_file (c : Cfg) (ht : c.text.length = 124) (stale : Nat) (ops : List WOp) :
    closedBytes (fmt c) stale ops = closedBytes (fmt c) stale [.write (opsData ops) false] := by
  rw [closedBytes_eq c ht, closedBytes_eq c ht]; simp [opsData]

example : closedBytes (fmt exCfg) 0 exOps = closedBytes (fmt exCfg) 0 [.write (opsData exOps) false] :=
  mat5_updates_dont_change_file exCfg ex_wf.1.text_len 0 exOps

/-- **mat5_reader_variants.**  The layouts other writers use are read as the C code reads them: the rate as a double
    (here 48000.0), names as compressed elements, and a file whose first matrix is not 1 x 1 (no sample rate: the
    first matrix is the audio, 44100 Hz is assumed); a rate element of any other type is refused. -/
theorem mat5_reader_variants :
    let pre := exText ++ verMark true ++ (mxFields true 64 1 1).flatten
    let aud := (mxFields true 0 2 0).flatten ++ (w32 true 8 ++ (wdName ++ (w32 true 3 ++ w32 true 0))) ++ [1, 0, 2, 0, 3, 0, 4, 0]
    parse (pre ++ w32 true 10 ++ srName ++ w32 true 9 ++ w32 true 8 ++ [0, 0, 0, 0, 0, 0x70, 0xE7, 0x40] ++ aud) = .ok ⟨2, 0x100D0002, 48000, 2⟩ ∧
    parse (exText ++ verMark true ++ (mxFields true 64 1 1).flatten.take 40 ++ w32 true 0x00020001 ++ [0x73, 0x72, 0, 0] ++
           rateElem true 22050 ++ aud) = .ok ⟨2, 0x100D0002, 22050, 2⟩ ∧
    parse (exText ++ verMark true ++ (mxFields true 0 2 0).flatten ++ (w32 true 8 ++ (wdName ++ (w32 true 3 ++ w32 true 0))) ++ [1, 0, 2, 0, 3, 0, 4, 0]) =
      .ok ⟨2, 0x100D0002, 44100, 2⟩ ∧
    parse (pre ++ w32 true 10 ++ srName ++ w32 true 5 ++ w32 true 4 ++ w32 true 8000 ++ w32 true 0 ++ aud) = .err := by decide +kernel

end Sf.C04Mat5
