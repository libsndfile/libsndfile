-- properties: C04 C11
/-
  C04 / C11 — the NIST / SPHERE container (stand-alone L1 model SfModel/Nist.lean; helpers SfProofs/NistSearch.lean,
  NistImage.lean, NistParse.lean, Small2Session.lean).

  A *session* is `Sf.Nist.openW` (sf_open SFM_WRITE — nist_open zeroes `sf.frames` before it writes the first header,
  so the caller's frames value reaches no byte of the store), any list of `WOp`s (write calls, SFC_UPDATE_HEADER_NOW,
  auto mode), then `close`.  The header is 1024 bytes of "key -type value" text lines, NUL filled; its only length
  field is the `sample_count -i <frames>` line.
-/
import SfProofs.NistParse
namespace Sf.C04Nist
open Sf Sf.Small2 Sf.Nist
open Sf.Pvf (digits scanInt)

/-- the rate is stored as decimal text (`sample_rate -i %d`): every rate in [1, 2^31 − 1] is reported back exactly -/
theorem nist_rate_exact (sr : Nat) : quant sr = sr := rfl

example : quant 2147483647 = 2147483647 ∧ quant 1 = 1 := by decide

/-- printf "%d" followed by sscanf "%d" is the identity in front of the line feed that ends a header line
    (in front of any non-digit: `scanInt_digits_then`) -/
theorem nist_decimal_roundtrip (n : Nat) (rest : List Byte) : scanInt (digits n ++ 0x0A :: rest) = some ((n : Int), 0x0A :: rest) :=
  scanInt_digits_then n 0x0A rest (by decide)

example : scanInt (digits 44100 ++ 0x0A :: [0x65]) = some (44100, [0x0A, 0x65]) := by decide +kernel

theorem closedBytes_eq (c : Cfg) (stale : Nat) (ops : List WOp) :
    Nist.closedBytes c stale ops = hdr c (stdFields 1024 c.bw (opsData ops).length) ++ opsData ops :=
  closed_std (fmt c) (lawful c) rfl c.bw (fun _ _ => rfl) 0 ops

/-- **nist_reopen_info.**  For every accepted configuration (six encodings, any byte order request, 1…1024 channels,
    any rate in [1, 2^31 − 1]) and every session, under the guard of the 64-bit `sample_count` line, the closed file
    re-opens with the requested channels, NIST / the requested encoding — with the byte order for the multi-byte PCM
    encodings, which is where the file records it —, exactly the requested rate and exactly the frames written. -/
theorem nist_reopen_info (c : Cfg) (hwf : c.wf) (stale : Nat) (ops : List WOp) (hguard : (opsData ops).length / c.bw < 2 ^ 63) :
    parse (Nist.closedBytes c stale ops) =
      .ok { ch := c.ch, fmt := c.fmtWord, sr := quant c.sr, frames := (opsData ops).length / c.bw } := by
  rw [closedBytes_eq]
  exact parse_image c hwf _ hguard _ rfl _

def exCfg : Cfg := ⟨2, 2, 2, 44100⟩
def exLaw : Cfg := ⟨0x10, 0, 1, 8000⟩
def exS8 : Cfg := ⟨1, 3, 3, 2147483647⟩
def exOps : List WOp := [.write [0, 1, 0, 2] false, .update, .write [0, 3, 0, 4, 0, 5, 0, 6] true]

example : exCfg.wf ∧ (Nist.closedBytes exCfg 77 exOps).length = 1036 ∧
    parse (Nist.closedBytes exCfg 77 exOps) = .ok ⟨2, 0x20070002, 44100, 3⟩ :=
  ⟨by decide, by rw [closedBytes_eq, List.length_append, hdr_length]; rfl, nist_reopen_info exCfg (by decide) 77 exOps (by decide)⟩
example : exLaw.wf ∧ parse (Nist.closedBytes exLaw 0 exOps) = .ok ⟨1, 0x00070010, 8000, 12⟩ :=
  ⟨by decide, nist_reopen_info exLaw (by decide) 0 exOps (by decide)⟩
example : exS8.wf ∧ parse (Nist.closedBytes exS8 5 exOps) = .ok ⟨3, 0x00070001, 2147483647, 4⟩ :=
  ⟨by decide, nist_reopen_info exS8 (by decide) 5 exOps (by decide)⟩

/-- the `sample_count` line of a header text -/
def kCount : List Byte := Small2.asc "sample_count -i "
def sampleCount (bs : List Byte) : Option Int := ((after kCount (headerText bs)).bind scanInt).map (·.1)

/-- **nist_size_fields.**  The file is the 1024-byte header plus the audio, nothing is padded and nothing follows
    the audio; the header is the text (ending in `sample_count -i <audio bytes / block width>` and `end_head`) and a
    zero fill; an independent reading of the `sample_count` line gives audio bytes / block width. -/
theorem nist_size_fields (c : Cfg) (hwf : c.wf) (stale : Nat) (ops : List WOp) (bytes : List Byte) (D : Nat)
    (hbytes : bytes = Nist.closedBytes c stale ops) (hD : D = (opsData ops).length) (hguard : D / c.bw < 2 ^ 63) :
    bytes.length = 1024 + D ∧ bytes.drop 1024 = opsData ops ∧
    (∃ k, bytes.take 1024 = text c ((D / c.bw : Nat) : Int) ++ List.replicate (k + 1) 0) ∧
    sampleCount bytes = some ((D / c.bw : Nat) : Int) := by
  rw [closedBytes_eq, ← hD] at hbytes
  have hl := hdr_length c (stdFields 1024 c.bw D)
  obtain ⟨k, hh, hk⟩ := hdr_eq c hwf (D / c.bw) hguard (stdFields 1024 c.bw D) rfl
  have htake : bytes.take 1024 = hdr c (stdFields 1024 c.bw D) := by
    rw [hbytes, List.take_append_of_le_length (by rw [hl]; exact Nat.le_refl _), List.take_of_length_le (by rw [hl]; exact Nat.le_refl _)]
  refine ⟨by rw [hbytes, List.length_append, hl, hD], by rw [hbytes]; exact List.drop_left' hl, ⟨k, ?_⟩, ?_⟩
  · rw [htake, hh, text_eq c _ hguard]
  · obtain ⟨_, _, _, fCount, _⟩ := lit_facts_cfg c hwf
    obtain ⟨_, _, ⟨_, _, hD1⟩, _⟩ := head_facts
    unfold sampleCount
    rw [hbytes, headerText_image c hwf _ hguard _ rfl, after_number kCount _ (goodEnv c (D / c.bw)) _ 2 (D / c.bw) headD _ _ fCount rfl hD1]
    simp only [Option.bind_some, nist_decimal_roundtrip, Option.map_some]

example : sampleCount (Nist.closedBytes exCfg 77 exOps) = some 3 ∧ (Nist.closedBytes exCfg 77 exOps).drop 1024 = opsData exOps :=
  have h := nist_size_fields exCfg (by decide) 77 exOps _ _ rfl rfl (by decide)
  ⟨h.2.2.2, h.2.1⟩

/-- **nist_frames_bound.**  All six encodings are sample-granular and nothing is padded: `N` frames re-open as `N`
    (C04's `N ≤ F < N + B + pad` with `B = 1`, `pad = 0`). -/
theorem nist_frames_bound (bw N : Nat) (hbw : 0 < bw) : (N * bw) / bw = N ∧ N ≤ (N * bw) / bw ∧ (N * bw) / bw < N + 1 :=
  frames_bound bw N hbw

example : (3 * 4) / 4 = 3 := by decide

/-- **stale_frames_ignored_nist.**  No store image of a session — not even the header sf_open itself writes —
    depends on the caller's frames value. -/
theorem stale_frames_ignored_nist (c : Cfg) (a b : Nat) (ops : List WOp) :
    Nist.closedBytes c a ops = Nist.closedBytes c b ops ∧ Nist.snapshotBytes c a ops = Nist.snapshotBytes c b ops ∧
    (Nist.openW c a).bytes = (Nist.openW c b).bytes := ⟨rfl, rfl, rfl⟩

example : Nist.closedBytes exCfg 0 exOps = Nist.closedBytes exCfg 123456 exOps ∧ (Nist.openW exCfg 99).bytes.length = 1024 :=
  ⟨(stale_frames_ignored_nist exCfg 0 123456 exOps).1, by
    rw [St.bytes, List.length_append, Nist.openW, open_data, open_hdr_len _ (lawful exCfg)]; rfl⟩

/-- **nist_snapshot_valid.**  After any session prefix, the image a header update leaves in the store parses with
    the same parameters and exactly the frames written so far, and is the 1024-byte header followed by the audio
    written so far. -/
theorem nist_snapshot_valid (c : Cfg) (hwf : c.wf) (stale : Nat) (ops : List WOp) (hguard : (opsData ops).length / c.bw < 2 ^ 63) :
    parse (Nist.snapshotBytes c stale ops) =
      .ok { ch := c.ch, fmt := c.fmtWord, sr := quant c.sr, frames := (opsData ops).length / c.bw } ∧
    ∃ hdr, hdr.length = 1024 ∧ Nist.snapshotBytes c stale ops = hdr ++ opsData ops := by
  have e : Nist.snapshotBytes c stale ops = Nist.closedBytes c stale ops :=
    (closed_is_snapshot (fmt c) rfl 0 ops).symm
  rw [e]
  refine ⟨nist_reopen_info c hwf stale ops hguard, _, hdr_length c _, closedBytes_eq c stale ops⟩

example : parse (Nist.snapshotBytes exCfg 5 [.write [1, 2, 3, 4] false]) = .ok ⟨2, 0x20070002, 44100, 1⟩ :=
  (nist_snapshot_valid exCfg (by decide) 5 _ (by decide)).1

/-- header updates never change the audio of the finished file: with or without them the closed bytes are equal -/
theorem nist_updates_dont_change_file (c : Cfg) (stale : Nat) (ops : List WOp) :
    Nist.closedBytes c stale ops = Nist.closedBytes c stale [.write (opsData ops) false] := by
  rw [closedBytes_eq, closedBytes_eq]; simp [opsData]

example : Nist.closedBytes exCfg 0 exOps = Nist.closedBytes exCfg 0 [.write (opsData exOps) false] :=
  nist_updates_dont_change_file exCfg 0 exOps

end Sf.C04Nist
