/-
  C07 (NMS ADPCM) — the codeword packers and unpackers of the 16 and 24 kbit/s layouts are inverse on the codewords
  their encoder produces (two-bit codewords: multiples of 4 below 16; three-bit codewords: even numbers below 16):
  `unpack (pack cs) = cs`; for 32 kbit/s the same of one word (whole lists: SfProps/C07Nms.lean).  A packed word is
  the `|||` of its codewords, each shifted into its own bits (`word4_or`, `word8_or`), and everything the unpackers do
  to a word distributes over `|||`.  So what a word unpacks to is the `|||` of what its codewords unpack to one at a
  time, and that is a finite fact about one codeword in each position.
-/
import SfModel.Nms
namespace Sf.C07NmsPack
open Sf Sf.Nms

theorem nibbles_or (m a b : Nat) : nibbles m (a ||| b) = List.zipWith (· ||| ·) (nibbles m a) (nibbles m b) := by
  unfold nibbles
  simp only [Nat.shiftRight_or_distrib, Nat.and_or_distrib_right, List.zipWith_cons_cons, List.zipWith_nil_right]

theorem u16_or (a b : Nat) : u16 (a ||| b) = u16 a ||| u16 b := by
  unfold u16
  exact @Nat.or_mod_two_pow a b 16

theorem u16_of_lt {x : Nat} (h : x < 2 ^ 16) : u16 x = x := Nat.mod_eq_of_lt h

theorem shl_lt {c : Nat} (h : c < 16) (k : Nat) (hk : k ≤ 12) : c <<< k < 2 ^ 16 := by
  rw [Nat.shiftLeft_eq]
  calc c * 2 ^ k < 16 * 2 ^ k := Nat.mul_lt_mul_of_pos_right h (Nat.two_pow_pos k)
    _ ≤ 16 * 2 ^ 12 := Nat.mul_le_mul_left 16 (Nat.pow_le_pow_right (by decide) hk)

/-- `w = c0 << 12 ; w |= c1 << 8 ; w |= c2 << 4 ; w |= c3`: nothing is cut off -/
theorem word4_or (c0 c1 c2 c3 : Nat) (h0 : c0 < 16) (h1 : c1 < 16) (h2 : c2 < 16) (h3 : c3 < 16) :
    word4 c0 c1 c2 c3 = c0 <<< 12 ||| c1 <<< 8 ||| c2 <<< 4 ||| c3 := by
  have b0 := shl_lt h0 12 (by decide)
  have b1 := Nat.or_lt_two_pow b0 (shl_lt h1 8 (by decide))
  have b2 := Nat.or_lt_two_pow b1 (shl_lt h2 4 (by decide))
  unfold word4
  rw [u16_of_lt b0, u16_of_lt b1, u16_of_lt b2, u16_of_lt (Nat.or_lt_two_pow b2 (by omega))]

/-- the lists an unpacker delivers for the `|||` of single codewords: all but one entry of each are zero -/
theorem zipWith_or_zero : List.zipWith (· ||| ·) ([] : List Nat) [] = [] ∧
    (∀ (a : Nat) (l m : List Nat), List.zipWith (· ||| ·) (a :: l) (0 :: m) = a :: List.zipWith (· ||| ·) l m) ∧
    (∀ (b : Nat) (l m : List Nat), List.zipWith (· ||| ·) (0 :: l) (b :: m) = b :: List.zipWith (· ||| ·) l m) :=
  ⟨rfl, fun a l m => by rw [List.zipWith_cons_cons, Nat.or_zero], fun b l m => by rw [List.zipWith_cons_cons, Nat.zero_or]⟩

/-! ## 32 kbit/s: four 4-bit codewords per word -/

/-- one four-bit codeword in each of the four positions of a word -/
theorem lanes32 : ∀ c, c < 16 → nibbles 0xf (c <<< 12) = [c, 0, 0, 0] ∧ nibbles 0xf (c <<< 8) = [0, c, 0, 0] ∧
    nibbles 0xf (c <<< 4) = [0, 0, c, 0] ∧ nibbles 0xf c = [0, 0, 0, c] := by decide +kernel

theorem word4_nibbles (c0 c1 c2 c3 : Nat) (h0 : c0 < 16) (h1 : c1 < 16) (h2 : c2 < 16) (h3 : c3 < 16) :
    nibbles 0xf (word4 c0 c1 c2 c3) = [c0, c1, c2, c3] := by
  rw [word4_or c0 c1 c2 c3 h0 h1 h2 h3, nibbles_or, nibbles_or, nibbles_or, (lanes32 c0 h0).1, (lanes32 c1 h1).2.1,
    (lanes32 c2 h2).2.2.1, (lanes32 c3 h3).2.2.2]
  simp only [zipWith_or_zero]

/-! ## 16 kbit/s: eight 2-bit codewords per word -/

/-- what `nms_adpcm_block_unpack_16` reads out of a word: `hi` from the word itself, `lo` from the word shifted left by two -/
def Unpacks16 (x : Nat) (hi lo : List Nat) : Prop := nibbles 0xc x = hi ∧ nibbles 0xc (u16 (x <<< 2)) = lo

instance (x : Nat) (hi lo : List Nat) : Decidable (Unpacks16 x hi lo) := by unfold Unpacks16; infer_instance

theorem Unpacks16.or {x y : Nat} {hi lo hi' lo' : List Nat} (hx : Unpacks16 x hi lo) (hy : Unpacks16 y hi' lo') :
    Unpacks16 (x ||| y) (List.zipWith (· ||| ·) hi hi') (List.zipWith (· ||| ·) lo lo') := by
  constructor
  · rw [nibbles_or, hx.1, hy.1]
  · rw [Nat.shiftLeft_or_distrib, u16_or, nibbles_or, hx.2, hy.2]

theorem lanes16 : ∀ c, c < 16 → c % 4 = 0 →
    Unpacks16 (c <<< 12) [c, 0, 0, 0] [0, 0, 0, 0] ∧ Unpacks16 (c <<< 8) [0, c, 0, 0] [0, 0, 0, 0] ∧
    Unpacks16 (c <<< 4) [0, 0, c, 0] [0, 0, 0, 0] ∧ Unpacks16 c [0, 0, 0, c] [0, 0, 0, 0] ∧
    Unpacks16 (c <<< 10) [0, 0, 0, 0] [c, 0, 0, 0] ∧ Unpacks16 (c <<< 6) [0, 0, 0, 0] [0, c, 0, 0] ∧
    Unpacks16 (c <<< 2) [0, 0, 0, 0] [0, 0, c, 0] ∧ Unpacks16 (c >>> 2) [0, 0, 0, 0] [0, 0, 0, c] := by decide +kernel

theorem word8_or (c0 c1 c2 c3 c4 c5 c6 c7 : Nat) (h0 : c0 < 16) (h1 : c1 < 16) (h2 : c2 < 16) (h3 : c3 < 16)
    (h4 : c4 < 16) (h5 : c5 < 16) (h6 : c6 < 16) (h7 : c7 < 16) :
    word8 c0 c1 c2 c3 c4 c5 c6 c7 =
      c0 <<< 12 ||| c1 <<< 8 ||| c2 <<< 4 ||| c3 ||| c4 <<< 10 ||| c5 <<< 6 ||| c6 <<< 2 ||| c7 >>> 2 := by
  have b3 : c0 <<< 12 ||| c1 <<< 8 ||| c2 <<< 4 ||| c3 < 2 ^ 16 := by
    rw [← word4_or c0 c1 c2 c3 h0 h1 h2 h3]; exact Nat.mod_lt _ (by decide)
  have b4 := Nat.or_lt_two_pow b3 (shl_lt h4 10 (by decide))
  have b5 := Nat.or_lt_two_pow b4 (shl_lt h5 6 (by decide))
  have b6 := Nat.or_lt_two_pow b5 (shl_lt h6 2 (by decide))
  have b7 : c7 >>> 2 < 2 ^ 16 := Nat.lt_of_le_of_lt (Nat.shiftRight_le _ _) (by omega)
  unfold word8
  rw [word4_or c0 c1 c2 c3 h0 h1 h2 h3, u16_of_lt b4, u16_of_lt b5, u16_of_lt b6, u16_of_lt (Nat.or_lt_two_pow b6 b7)]

theorem word8_unpack (c0 c1 c2 c3 c4 c5 c6 c7 : Nat) (h0 : c0 < 16 ∧ c0 % 4 = 0) (h1 : c1 < 16 ∧ c1 % 4 = 0)
    (h2 : c2 < 16 ∧ c2 % 4 = 0) (h3 : c3 < 16 ∧ c3 % 4 = 0) (h4 : c4 < 16 ∧ c4 % 4 = 0) (h5 : c5 < 16 ∧ c5 % 4 = 0)
    (h6 : c6 < 16 ∧ c6 % 4 = 0) (h7 : c7 < 16 ∧ c7 % 4 = 0) :
    Unpacks16 (word8 c0 c1 c2 c3 c4 c5 c6 c7) [c0, c1, c2, c3] [c4, c5, c6, c7] := by
  obtain ⟨l0, -⟩ := lanes16 c0 h0.1 h0.2
  obtain ⟨-, l1, -⟩ := lanes16 c1 h1.1 h1.2
  obtain ⟨-, -, l2, -⟩ := lanes16 c2 h2.1 h2.2
  obtain ⟨-, -, -, l3, -⟩ := lanes16 c3 h3.1 h3.2
  obtain ⟨-, -, -, -, l4, -⟩ := lanes16 c4 h4.1 h4.2
  obtain ⟨-, -, -, -, -, l5, -⟩ := lanes16 c5 h5.1 h5.2
  obtain ⟨-, -, -, -, -, -, l6, -⟩ := lanes16 c6 h6.1 h6.2
  obtain ⟨-, -, -, -, -, -, -, l7⟩ := lanes16 c7 h7.1 h7.2
  have h := ((((((l0.or l1).or l2).or l3).or l4).or l5).or l6).or l7
  simp only [zipWith_or_zero] at h
  rw [word8_or c0 c1 c2 c3 c4 c5 c6 c7 h0.1 h1.1 h2.1 h3.1 h4.1 h5.1 h6.1 h7.1]
  exact h

theorem unpack16_pack16 : ∀ (n : Nat) (cs : List Nat), cs.length = 8 * n → (∀ c ∈ cs, c < 16 ∧ c % 4 = 0) →
    unpack16 (pack16 cs) = cs := by
  intro n
  induction n with
  | zero => intro cs h _; have : cs = [] := List.eq_nil_of_length_eq_zero (by omega); subst this; rfl
  | succ n ih =>
    intro cs h hc
    match cs, h with
    | c0 :: c1 :: c2 :: c3 :: c4 :: c5 :: c6 :: c7 :: rest, h =>
      have hr : rest.length = 8 * n := by simp only [List.length_cons] at h; omega
      simp only [List.forall_mem_cons] at hc
      obtain ⟨h0, h1, h2, h3, h4, h5, h6, h7, hrest⟩ := hc
      obtain ⟨hi, lo⟩ := word8_unpack c0 c1 c2 c3 c4 c5 c6 c7 h0 h1 h2 h3 h4 h5 h6 h7
      have ih' := ih rest hr hrest
      unfold unpack16 at ih' ⊢
      rw [pack16, List.flatMap_cons, hi, lo, ih']
      rfl

/-! ## 24 kbit/s: sixteen 3-bit codewords in three words -/

/-- the three spread-out bit planes of the residual word -/
def plane (res k : Nat) : Nat := u16 ((res >>> k) &&& 0x1111)

theorem plane_or (a b k : Nat) : plane (a ||| b) k = plane a k ||| plane b k := by
  unfold plane
  rw [Nat.shiftRight_or_distrib, Nat.and_or_distrib_right, u16_or]

/-- the planes are invisible to the codeword mask and lie in the free bits (0x1111), whatever the residual word -/
theorem plane_free (res k : Nat) : nibbles 0xe (plane res k) = [0, 0, 0, 0] ∧ plane res k &&& 0x1111 = plane res k := by
  have e : plane res k = (res >>> k) &&& 0x1111 := u16_of_lt (Nat.lt_of_le_of_lt Nat.and_le_right (by decide))
  rw [e]
  unfold nibbles
  simp only [Nat.shiftRight_and_distrib, Nat.and_assoc, Nat.reduceShiftRight, Nat.reduceAnd, Nat.and_zero, Nat.and_self, and_self]

/-- the unpacker's residual, rebuilt from the planes of `res` -/
def rebuilt (res : Nat) : Nat :=
  u16 (u16 (u16 (u16 (0 <<< 1 ||| plane res 3) <<< 1 ||| plane res 2) <<< 1 ||| plane res 1) <<< 1)

theorem rebuilt_or (a b : Nat) : rebuilt (a ||| b) = rebuilt a ||| rebuilt b := by
  unfold rebuilt
  simp only [plane_or, Nat.zero_shiftLeft, Nat.zero_or, u16_or, Nat.shiftLeft_or_distrib]
  ac_rfl

/-- what `nms_adpcm_block_unpack_24` needs of a word `x` holding the three-bit codewords `l`: they come back under the
    codeword mask, the free bits of `x` are clear, and the residual rebuilt from the planes of `x` gives them back too -/
def Unpacks24 (x : Nat) (l : List Nat) : Prop := nibbles 0xe x = l ∧ x &&& 0x1111 = 0 ∧ nibbles 0xe (rebuilt x) = l

instance (x : Nat) (l : List Nat) : Decidable (Unpacks24 x l) := by unfold Unpacks24; infer_instance

theorem Unpacks24.or {x y : Nat} {l m : List Nat} (hx : Unpacks24 x l) (hy : Unpacks24 y m) :
    Unpacks24 (x ||| y) (List.zipWith (· ||| ·) l m) := by
  refine ⟨?_, ?_, ?_⟩
  · rw [nibbles_or, hx.1, hy.1]
  · rw [Nat.and_or_distrib_right, hx.2.1, hy.2.1, Nat.or_zero]
  · rw [rebuilt_or, nibbles_or, hx.2.2, hy.2.2]

/-- a 24 kbit/s codeword, as the coder leaves it in a 4-bit lane, is twice a 3-bit value -/
theorem code2 (c : Nat) (h : c < 16 ∧ c % 2 = 0) : c = 2 * (c / 2) ∧ c / 2 < 8 := by omega

theorem lanes24 : ∀ c, c < 16 → c % 2 = 0 → Unpacks24 (c <<< 12) [c, 0, 0, 0] ∧ Unpacks24 (c <<< 8) [0, c, 0, 0] ∧
    Unpacks24 (c <<< 4) [0, 0, c, 0] ∧ Unpacks24 c [0, 0, 0, c] := by decide +kernel

theorem word4_even (c0 c1 c2 c3 : Nat) (h0 : c0 < 16 ∧ c0 % 2 = 0) (h1 : c1 < 16 ∧ c1 % 2 = 0) (h2 : c2 < 16 ∧ c2 % 2 = 0)
    (h3 : c3 < 16 ∧ c3 % 2 = 0) : Unpacks24 (word4 c0 c1 c2 c3) [c0, c1, c2, c3] := by
  obtain ⟨l0, -⟩ := lanes24 c0 h0.1 h0.2
  obtain ⟨-, l1, -⟩ := lanes24 c1 h1.1 h1.2
  obtain ⟨-, -, l2, -⟩ := lanes24 c2 h2.1 h2.2
  obtain ⟨-, -, -, l3⟩ := lanes24 c3 h3.1 h3.2
  have h := ((l0.or l1).or l2).or l3
  simp only [zipWith_or_zero] at h
  rw [word4_or c0 c1 c2 c3 h0.1 h1.1 h2.1 h3.1]
  exact h

theorem group24_words (c0 c1 c2 c3 c4 c5 c6 c7 c8 c9 c10 c11 c12 c13 c14 c15 : Nat) :
    group24 [c0, c1, c2, c3, c4, c5, c6, c7, c8, c9, c10, c11, c12, c13, c14, c15] =
      [word4 c0 c1 c2 c3 ||| plane (word4 c12 c13 c14 c15) 3,
       word4 c4 c5 c6 c7 ||| plane (word4 c12 c13 c14 c15) 2,
       word4 c8 c9 c10 c11 ||| plane (word4 c12 c13 c14 c15) 1] := by
  have e (a b c d : Nat) : u16 (word4 a b c d) = word4 a b c d := Nat.mod_mod _ _
  unfold group24 plane
  simp only [List.getD_cons_zero, List.getD_cons_succ, u16_or, ← Nat.shiftRight_add, e]

/-- 24 kbit/s: a group of sixteen 3-bit codewords survives pack + unpack -/
theorem group24_unpack (g : List Nat) (hl : g.length = 16) (hc : ∀ c ∈ g, c < 16 ∧ c % 2 = 0) (rest : List Nat) :
    unpack24 (group24 g ++ rest) = g ++ unpack24 rest := by
  match g, hl with
  | [c0, c1, c2, c3, c4, c5, c6, c7, c8, c9, c10, c11, c12, c13, c14, c15], _ =>
    simp only [List.forall_mem_cons] at hc
    obtain ⟨h0, h1, h2, h3, h4, h5, h6, h7, h8, h9, h10, h11, h12, h13, h14, h15, -⟩ := hc
    obtain ⟨b0, z0, -⟩ := word4_even c0 c1 c2 c3 h0 h1 h2 h3
    obtain ⟨b1, z1, -⟩ := word4_even c4 c5 c6 c7 h4 h5 h6 h7
    obtain ⟨b2, z2, -⟩ := word4_even c8 c9 c10 c11 h8 h9 h10 h11
    obtain ⟨-, -, hr⟩ := word4_even c12 c13 c14 c15 h12 h13 h14 h15
    obtain ⟨p1, q1⟩ := plane_free (word4 c12 c13 c14 c15) 1
    obtain ⟨p2, q2⟩ := plane_free (word4 c12 c13 c14 c15) 2
    obtain ⟨p3, q3⟩ := plane_free (word4 c12 c13 c14 c15) 3
    unfold rebuilt at hr
    rw [group24_words]
    simp only [List.cons_append, List.nil_append, unpack24, ungroup24]
    simp only [nibbles_or, Nat.and_or_distrib_right, b0, b1, b2, z0, z1, z2, p1, p2, p3, q1, q2, q3, Nat.zero_or, hr,
      List.zipWith_cons_cons, List.zipWith_nil_right, Nat.or_zero, List.cons_append, List.nil_append]

example : unpack16 (pack16 [4, 12, 0, 8, 8, 8, 0, 12]) = [4, 12, 0, 8, 8, 8, 0, 12] := by decide
example : unpack24 (pack24 2 [2, 14, 0, 8, 6, 6, 0, 12, 10, 4, 2, 0, 14, 14, 2, 8]) = [2, 14, 0, 8, 6, 6, 0, 12, 10, 4, 2, 0, 14, 14, 2, 8] := by decide

end Sf.C07NmsPack
