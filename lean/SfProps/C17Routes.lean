/-
  C17, the ROUTE in the state dimension of the grid.  `sf_command` decides what it does with `data` from SF_PRIVATE fields it
  reads BEFORE it touches the pointer; two of them depend on how the handle was opened and not on anything the commands can
  change: `psf->virtual_io` (SFC_FILE_TRUNCATE returns early on an SF_VIRTUAL_IO handle, so the `data == NULL` guard behind it
  is only reachable on path / descriptor handles) and `psf->sf.seekable` (the per-channel CALC scans refuse a pipe before they
  write).  `cmd_in_bounds` (C17.lean) quantifies over them like over every other field of `H`; the theorems here spell out the
  guard order of those two commands, which is what the grid handles `plain@path`, `used@fd`, `plain@pipe` exercise.
-/
import SfProofs.Command
namespace Sf.C17Routes
open Sf.Command

/-- SFC_FILE_TRUNCATE, every route, every mode, every datasize, every data pointer: a NULL pointer is never dereferenced, the
    only bytes ever read are [0, 8) of a block of exactly 8 bytes, nothing is written, and the return value is defined.
    The guards in the order the code applies them: read-only handle, SF_VIRTUAL_IO handle, datasize ≠ sizeof (sf_count_t) —
    each returns SF_TRUE before `data` is looked at —, then `data == NULL` → SF_FALSE with SFE_BAD_COMMAND_PARAM. -/
theorem truncate_route_guards (g : G) (h : H) (size : Nat) (data : Option Mem) :
    let r := run g (some h) 0x1080 size data
    r.derefNull = false ∧ r.writes = [] ∧ (r.reads = [] ∨ (r.reads = [(0, szCount)] ∧ size = szCount ∧ data.isSome = true ∧
        writable h = true ∧ h.virtualIo = false)) ∧
    (writable h = false → r.ret = .exact 1 ∧ r.reads = []) ∧
    (h.virtualIo = true → r.ret = .exact 1 ∧ r.reads = []) ∧
    (writable h = true → h.virtualIo = false → size ≠ szCount → r.ret = .exact 1 ∧ r.reads = []) ∧
    (writable h = true → h.virtualIo = false → size = szCount → data = none → r.ret = .exact 0 ∧ r.err = some eBadParam ∧ r.reads = []) := by
  have hp : preHandle g (some h) 0x1080 size data = none := by simp [preHandle]
  have hcl : classify 0x1080 = Cls.k1080 := by decide
  simp only [run, hp, withHandle, hcl]
  by_cases hw : writable h = true
  · by_cases hv : h.virtualIo = true
    · simp [hw, hv]
    · have hv' : h.virtualIo = false := by simpa using hv
      by_cases hs : size = szCount
      · cases data <;> simp [hw, hv', hs]
      · simp [hw, hv', hs]
  · have hw' : writable h = false := by simpa using hw
    simp [hw']

/-- a write-mode WAV handle on a real file (the `w plain@path` handle of the grid): `Sf.C17.wavW` with `logLen := 48` and
    `virtualIo := false` -/
def wavWPath : H :=
  { mode := .w, container := cWAV, codec := 2, channels := 2, seekable := true, hasCommand := true, haveWritten := false,
    readCur := 0, writeCur := 0, normFloat := true, normDouble := true, clipping := false, floatIntMult := false,
    scaleIntFloat := false, autoHeader := false, ieeeReplace := false, endswap := false, ambisonic := 0x40,
    rf64Downgrade := false, bext := none, cart := none, cues := none, hasInstrument := false, hasLoop := false,
    hasChanMap := false, hasPeak := false, logLen := 48, metaEpoch := 0, fileEpoch := 0, virtualIo := false }

def g0 : G := { verLen := 16, gLogLen := 0, simpleCount := 13, majorCount := 23, subtypeCount := 28 }

/-- non-vacuity: on the path handle the command reaches `data` (8-byte block: read; NULL with datasize 8: refused with an error and
    no access; datasize 7: SF_TRUE), on the same handle opened through SF_VIRTUAL_IO nothing is looked at -/
example : (run g0 (some wavWPath) 0x1080 8 (some ⟨8, fun _ => 0⟩)).reads = [(0, 8)] ∧
          (run g0 (some wavWPath) 0x1080 8 none).ret = .exact 0 ∧ (run g0 (some wavWPath) 0x1080 8 none).err = some eBadParam ∧
          (run g0 (some wavWPath) 0x1080 8 none).derefNull = false ∧
          (run g0 (some wavWPath) 0x1080 7 none).ret = .exact 1 ∧
          (run g0 (some { wavWPath with virtualIo := true }) 0x1080 8 (some ⟨8, fun _ => 0⟩)).reads = [] := by decide

/-- SFC_CALC_MAX_ALL_CHANNELS / SFC_CALC_NORM_MAX_ALL_CHANNELS: the size guard comes first (NULL or a datasize other than
    channels · sizeof (double): SFE_BAD_COMMAND_PARAM, nothing touched); behind it a non-seekable handle (pipe) and a handle that
    cannot read are refused before anything is written; otherwise exactly the block is written.  NULL is never dereferenced. -/
theorem calc_all_route_guards (g : G) (h : H) (cmd : Int) (hc : cmd = 0x1042 ∨ cmd = 0x1043) (size : Nat) (data : Option Mem) :
    let r := run g (some h) cmd size data
    r.derefNull = false ∧ r.reads = [] ∧
    ((data = none ∨ size ≠ szDouble * h.channels) → r.writes = [] ∧ r.ret = .exact eBadParam) ∧
    (data.isSome = true → size = szDouble * h.channels → h.seekable = false → r.writes = [] ∧ r.ret = .exact eNotSeekable) ∧
    (data.isSome = true → size = szDouble * h.channels → h.seekable = true → canRead h = true → r.writes = [(0, size)] ∧ r.ret = .exact 0) := by
  simp only [run_all_channels g h cmd size data hc, guardEq]
  cases data with
  | none => simp
  | some m =>
    by_cases hs : size = szDouble * h.channels
    · by_cases hk : h.seekable = true
      · by_cases hr : canRead h = true <;> simp [hs, hk, hr]
      · simp [hs, hk]
    · simp [hs]

/-- non-vacuity: a read handle on a pipe (`r plain@pipe`) and the same file on a path -/
example : (run g0 (some { wavWPath with mode := .r, seekable := false }) 0x1042 16 (some ⟨16, fun _ => 0xA5⟩)).ret = .exact eNotSeekable ∧
          (run g0 (some { wavWPath with mode := .r, seekable := false }) 0x1042 16 (some ⟨16, fun _ => 0xA5⟩)).writes = [] ∧
          (run g0 (some { wavWPath with mode := .r }) 0x1042 16 (some ⟨16, fun _ => 0xA5⟩)).writes = [(0, 16)] ∧
          (run g0 (some { wavWPath with mode := .r }) 0x1042 16 none).ret = .exact eBadParam := by decide

/-- SFC_CALC_SIGNAL_MAX / SFC_CALC_NORM_SIGNAL_MAX (since the repair of KF-C09-CALC-SIGNAL-MAX-RET0: `return psf->error` behind
    psf_calc_signal_max): the size guard comes first (NULL or a datasize other than sizeof (double): SFE_BAD_COMMAND_PARAM, nothing
    touched); behind it a non-seekable handle (pipe, GSM) and a handle that cannot read (write-only) are answered with the error
    number — the 0.0 psf_calc_signal_max returns is stored in the block —, otherwise the double is written and 0 returned.  NULL is
    never dereferenced and the block is never read. -/
theorem calc_signal_max_route_guards (g : G) (h : H) (cmd : Int) (hc : cmd = 0x1040 ∨ cmd = 0x1041) (size : Nat) (data : Option Mem) :
    let r := run g (some h) cmd size data
    r.derefNull = false ∧ r.reads = [] ∧ r.h' = some h ∧
    ((data = none ∨ size ≠ szDouble) → r.writes = [] ∧ r.ret = .exact eBadParam) ∧
    (data.isSome = true → size = szDouble → h.seekable = false → r.writes = [(0, size)] ∧ r.ret = .exact eNotSeekable ∧ r.err = some eNotSeekable) ∧
    (data.isSome = true → size = szDouble → h.seekable = true → canRead h = false →
      r.writes = [(0, size)] ∧ r.ret = .exact eUnimplemented ∧ r.err = some eUnimplemented) ∧
    (data.isSome = true → size = szDouble → h.seekable = true → canRead h = true → r.writes = [(0, size)] ∧ r.ret = .exact 0) := by
  simp only [run_signal_max g h cmd size data hc, guardEq]
  cases data with
  | none => simp
  | some m =>
    by_cases hs : size = szDouble
    · by_cases hk : h.seekable = true
      · by_cases hr : canRead h = true <;> simp [calcSignalMax, hs, hk, hr]
      · simp [calcSignalMax, hs, hk]
    · simp [hs]

/-- non-vacuity: a write-only handle on a path, a read handle on a pipe, the same file readable; the rule before the repair -/
example : (run g0 (some wavWPath) 0x1040 8 (some ⟨8, fun _ => 0xA5⟩)).ret = .exact eUnimplemented ∧
          (run g0 (some { wavWPath with mode := .r, seekable := false }) 0x1041 8 (some ⟨8, fun _ => 0xA5⟩)).ret = .exact eNotSeekable ∧
          (run g0 (some { wavWPath with mode := .r }) 0x1040 8 (some ⟨8, fun _ => 0xA5⟩)).ret = .exact 0 ∧
          (run g0 (some { wavWPath with mode := .r }) 0x1040 8 none).ret = .exact eBadParam ∧
          (calcSignalMax true wavWPath).ret = .exact 0 ∧ (calcSignalMax true wavWPath).err = some eUnimplemented := by decide

end Sf.C17Routes
