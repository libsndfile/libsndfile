/-
  C03 — arbitrary input bytes never cause memory errors, hangs or insane info.   PARTIAL.

  Proved here (for every argument, every file content, every behaviour of the I/O layer and of the
  codec that respects its contract):
    * the header cache all ~25 parsers read through stays inside its buffer            (hdr_*)
    * whatever a parser leaves behind, a non-NULL sf_open result satisfies the SF_INFO
      postcondition, and a NULL result carries a non-zero error with a non-empty message (open_*)
    * the read wrappers never ask the codec for more than the caller's buffer holds, their own
      zero-fills stay inside it, returns are in [0, requested]; sf_seek hands the codec a position
      in [0, frames]                                                            (read_*, seek_range)
    * sf_get_chunk_data copies no more than the caller's buffer holds and returns on every route (chunk_query_*)
    * the SDS block-count scan ends within a number of iterations bounded by the input, for every announced length,
      a pipe included; the rule before the repair did not                             (sds_scan_*)
    * the chunk loop of the IFF-family parsers as it was before the repair (`Sf.SvxLoop`): where it ended and where it
      ran for ever (svx_*); the loops as they are now are in SfProps/C03Loops.lean
    * NIST `sample_coding`: the string sscanf fills is defined when it is read        (nist_coding*)
  NOT proved (monitored by the correspondence runs under ASan with per-call alarms): what the
  parsers and codecs themselves do with memory and time.
  The header-cache lemmas are in SfProofs/HeaderCache.lean.
-/
import SfModel.ChunkQuery
import SfModel.SdsScan
import SfModel.Generated.C03Consts
import SfProofs.HeaderCache
namespace Sf.C03
open Sf.HeaderCache

/-- psf_allocate establishes the invariant -/
theorem hdr_inv_init : Inv St.init := by decide

/-- `0 ≤ indx ≤ len ∧ 0 ≤ end ≤ len ∧ 256 ≤ len ≤ 102400` is preserved by every primitive
    (header_read, header_seek with any whence, header_gets, psf_bump_header_allocation, the '!' reset,
    and one psf_binheader_readf format character with its guards), for every argument in the range the
    call sites use (`Op.argsOk`: read sizes and SEEK_SET positions are not negative) and every answer
    of the allocator and of the I/O layer. -/
theorem hdr_inv (s : St) (op : Op) (o : Oracle) (h : Inv s) (ha : op.argsOk) : Inv (step s op o).1 :=
  (step_spec h ha).1

/-- every access a primitive makes to the header buffer lies inside the buffer as allocated at that moment -/
theorem hdr_in_bounds (s : St) (op : Op) (o : Oracle) (h : Inv s) (ha : op.argsOk) :
    ∀ e ∈ (step s op o).2, e.inBounds (step s op o).1.len :=
  (step_spec h ha).2.1

theorem hdr_len_monotone (s : St) (op : Op) (o : Oracle) (h : Inv s) (ha : op.argsOk) : s.len ≤ (step s op o).1.len :=
  (step_spec h ha).2.2

/-- lifted to ALL sequences of primitives, each with its own oracle answers, starting from psf_allocate:
    after every step the invariant holds and all of that step's accesses were in bounds -/
theorem hdr_all_sequences (ops : List (Op × Oracle)) (ha : ∀ x ∈ ops, x.1.argsOk) :
    (∀ x ∈ run St.init ops, Inv x.1 ∧ ∀ e ∈ x.2, e.inBounds x.1.len) ∧ Inv (finalState St.init ops) :=
  run_spec ops St.init hdr_inv_init ha

/-- a whole psf_binheader_readf call (any format string, the byte_count bookkeeping and the early
    `break`s included) from any state satisfying the invariant -/
theorem hdr_readf_safe (pipe : Bool) (s : St) (items : List (Item × Oracle)) (h : Inv s) (ha : ∀ x ∈ items, x.1.argsOk) :
    Inv (readf pipe s items).1.st ∧ ∀ e ∈ (readf pipe s items).2, e.inBounds (readf pipe s items).1.st.len := by
  unfold readf
  exact List.foldlRecOn (motive := fun acc : Rf × List Ev => Inv acc.1.st ∧ AllIn acc.1.st.len acc.2) items _ ⟨h, AllIn.nil _⟩
    fun acc ⟨hi, hb⟩ hd hm =>
      let ⟨a, b, d⟩ := readfItem_spec pipe (r := acc.1) hd.2 hi (ha hd hm)
      ⟨a, AllIn.append (AllIn.mono d hb) b⟩

/-- the oracle used in the concrete examples: allocations succeed, the file is at EOF, no newline -/
def eofOracle : Oracle := { alloc := fun _ => true, io := fun _ => 0, nl := fun _ => false }
/-- allocations succeed, every read is satisfied in full -/
def fullOracle : Oracle := { alloc := fun _ => true, io := fun _ => 1000000, nl := fun _ => false }

/-- non-vacuity: the primitives move (a 300-byte read grows the buffer to 600 and lands at 300;
    a 60000-byte read grows it to the cap since the repair of psf_bump_header_allocation, a 110000-byte read is refused by the
    cap and changes nothing; a jump past the cache re-anchors it) -/
example : (step St.init (.read 300) fullOracle).1 = ⟨300, 300, 600⟩ ∧
          (step St.init (.read 60000) fullOracle).1 = ⟨60000, 60000, 102400⟩ ∧
          (step St.init (.read 110000) fullOracle) = (St.init, [Ev.denied 220000]) ∧
          (step ⟨24, 24, 256⟩ (.seek false 120000 1) fullOracle) = (⟨24, 24, 256⟩, [Ev.denied 240000, Ev.ioSeek 120000 1]) ∧
          (step ⟨24, 24, 256⟩ (.seek false 100000 1) fullOracle).1 = ⟨100024, 100024, 102400⟩ ∧
          (step ⟨24, 24, 256⟩ (.gets 10) eofOracle).1 = ⟨24, 24, 256⟩ := by decide +kernel

/-- The hypotheses are forced, not convenient: with a negative size header_read's memcpy leaves the
    buffer, and a negative SEEK_SET position makes indx negative so that the next read starts before
    the buffer.  No call site in src/*.c passes a negative 'p' argument (constants, the PAF header
    length, the 28-bit ID3 size); 'b' sizes are sizeof-style or range-checked by the caller — except
    caf_read_strings on a pipe, where the hypothesis WAS violated by a reachable input before the repair (KF-C03-caf-info-pipe;
    `caf_info_count_fails_old_rule` in SfProps/C03Loops.lean). -/
theorem hdr_args_necessary :
    (¬ ∀ e ∈ (step ⟨4, 4, 256⟩ (.read (-1)) fullOracle).2, e.inBounds (step ⟨4, 4, 256⟩ (.read (-1)) fullOracle).1.len) ∧
    ¬ HeaderCache.Inv (step St.init (.seek false (-1) 0) fullOracle).1 ∧
    (¬ ∀ e ∈ (step (step St.init (.seek false (-8) 0) fullOracle).1 (.read 4) fullOracle).2,
        e.inBounds (step (step St.init (.seek false (-8) 0) fullOracle).1 (.read 4) fullOracle).1.len) := by decide

/-- the allocation rule before the repair refused a request as soon as its double passed the cap, although the bytes the
    caller was about to use fitted: a 60000-byte read at offset 0 was denied (known finding C13-header-cache-51200) -/
theorem bump_denied_old_rule :
    bumpOld St.init 60000 true = (St.init, true, [Ev.denied 120000]) ∧ (bump St.init 60000 true).1 = ⟨0, 0, 102400⟩ ∧
    (bump St.init 60000 true).2.1 = false := by decide

/-- the C computes these quantities in 64-bit integers; with `int` arguments nothing can wrap, so the
    mathematical integers of the model are the C values -/
theorem bump_newlen_small (s : St) (needed : Int) (h : Inv s) (hn : -2147483648 ≤ needed ∧ needed ≤ 2147483647) :
    let newlen := if needed > s.len then 2 * (if needed > INITIAL then needed else INITIAL) else 2 * s.len
    512 ≤ newlen ∧ newlen ≤ 4294967294 ∧ -2147483648 ≤ s.indx + needed ∧ s.indx + needed ≤ 2147483647 + 102400 := by
  unfold HeaderCache.Inv INITIAL CAP at h
  simp only [INITIAL]
  omega

theorem firstError_none {l : List (Bool × Int)} (h : Sf.OpenGate.firstError l = none) : ∀ x ∈ l, x.1 = false := by
  induction l with
  | nil => intro x hx; cases hx
  | cons hd tl ih =>
    obtain ⟨b, e⟩ := hd
    simp only [Sf.OpenGate.firstError] at h
    cases b with
    | true => simp at h
    | false =>
      simp only [Bool.false_eq_true, if_false] at h
      intro x hx
      rcases List.mem_cons.mp hx with rfl | hx
      · rfl
      · exact ih h x hx

theorem firstError_some {l : List (Bool × Int)} {e : Int} (h : Sf.OpenGate.firstError l = some e) : (true, e) ∈ l := by
  induction l with
  | nil => simp [Sf.OpenGate.firstError] at h
  | cons hd tl ih =>
    obtain ⟨b, e'⟩ := hd
    simp only [Sf.OpenGate.firstError] at h
    cases b with
    | true =>
      simp only [if_true, Option.some.injEq] at h
      subst h; exact List.mem_cons_self ..
    | false =>
      simp only [Bool.false_eq_true, if_false] at h
      exact List.mem_cons_of_mem _ (ih h)

open Sf.OpenGate in
/-- psf_open_file by its result: a handle means no check fired, NULL carries the code of a check that did -/
theorem openFile_spec (E : Errs) (c : Ctx) (p : Parsed) :
    match openFile E c p with
    | .ok info => (∀ x ∈ checks E c p, x.1 = false) ∧ (c.mode ≠ SFM_WRITE → info = p.sf)
    | .error e => (true, e) ∈ checks E c p := by
  unfold openFile
  cases hf : firstError (checks E c p) with
  | some e => exact firstError_some hf
  | none =>
    simp only
    by_cases hm : c.mode = SFM_WRITE
    · rw [if_pos hm]; exact ⟨firstError_none hf, fun h => absurd hm h⟩
    · rw [if_neg hm]; exact ⟨firstError_none hf, fun _ => rfl⟩

open Sf.OpenGate in
/-- Whatever the parser did: if sf_open returns a handle in read (or read/write) mode, the SF_INFO
    handed back is sane. -/
theorem open_postcondition (E : Errs) (c : Ctx) (p : Parsed) (info : SfInfo)
    (hm : c.mode ≠ SFM_WRITE) (h : openFile E c p = .ok info) :
    1 ≤ info.channels ∧ info.channels ≤ 1024 ∧ 1 ≤ info.samplerate ∧ 0 ≤ info.frames ∧ 1 ≤ info.sections ∧
    container info.format ≠ 0 ∧ codec info.format ≠ 0 ∧ info = p.sf := by
  have hs := openFile_spec E c p
  rw [h] at hs
  obtain ⟨hall, hi⟩ := hs
  cases hi hm
  have hv : validateSfinfo p.sf = true := by
    simpa using hall (!validateSfinfo p.sf, E.badSfInfo) (by unfold checks; simp only [List.mem_cons, true_or, or_true])
  simp [validateSfinfo, SF_MAX_CHANNELS] at hv
  refine ⟨?_, ?_, ?_, ?_, ?_, ?_, ?_, rfl⟩ <;> omega

open Sf.OpenGate in
/-- … and the geometry the read paths trust is not negative / not inconsistent -/
theorem open_geometry (E : Errs) (c : Ctx) (p : Parsed) (info : SfInfo) (h : openFile E c p = .ok info) :
    0 ≤ p.datalength ∧ 0 ≤ p.dataoffset ∧ (p.blockwidth = 0 ∨ p.blockwidth = p.sf.channels * p.bytewidth) := by
  have hs := openFile_spec E c p
  rw [h] at hs
  have hv : validatePsf p = true := by
    simpa using hs.1 (!validatePsf p, E.internal) (by unfold checks; simp only [List.mem_cons, true_or, or_true])
  simp [validatePsf] at hv
  omega

open Sf.OpenGate in
/-- a NULL return always leaves a non-zero sf_errno -/
theorem open_failure_reports (E : Errs) (c : Ctx) (p : Parsed) (e : Int) (hE : E.nonzero)
    (h : openFile E c p = .error e) : e ≠ 0 := by
  obtain ⟨e1, e2, e3, e4, e5, e6, e7, e8, e9, e10, e11, e12, e13⟩ := hE
  have hmem := openFile_spec E c p
  rw [h] at hmem
  simp only [checks, List.mem_cons, Prod.mk.injEq, List.not_mem_nil, or_false] at hmem
  -- every check carries one of the (non-zero) numbers of `E`, or passes on an error it has just tested to be non-zero
  rcases hmem with ⟨hd, rfl⟩ | ⟨hd, rfl⟩ | ⟨hd, rfl⟩ | ⟨hd, rfl⟩ | ⟨hd, rfl⟩ | ⟨hd, rfl⟩ | ⟨hd, rfl⟩ | ⟨hd, rfl⟩ | ⟨hd, rfl⟩ |
    ⟨hd, rfl⟩ | ⟨hd, rfl⟩ | ⟨hd, rfl⟩ | ⟨hd, rfl⟩ | ⟨hd, rfl⟩ | ⟨hd, rfl⟩
  all_goals first | assumption | exact of_decide_eq_true hd.symm

/-- the numbers this build uses are non-zero (regenerated from common.h on every run) -/
theorem open_errs_nonzero : Sf.Generated.C03.openErrs.nonzero := by decide

/-- the literals of the gate model are this tree's (masks, channel limit, embedding whitelist, modes) -/
theorem open_consts_agree :
    Sf.Generated.C03.maxChannels = Sf.OpenGate.SF_MAX_CHANNELS ∧ Sf.Generated.C03.typeMask = 0x0FFF0000 ∧
    Sf.Generated.C03.subMask = 0xFFFF ∧
    Sf.Generated.C03.embedContainers = [Sf.OpenGate.FMT_WAV, Sf.OpenGate.FMT_WAVEX, Sf.OpenGate.FMT_AIFF, Sf.OpenGate.FMT_AU, Sf.OpenGate.FMT_MPEG, Sf.OpenGate.FMT_FLAC] ∧
    Sf.Generated.C03.rawContainer = Sf.OpenGate.FMT_RAW ∧
    Sf.Generated.C03.modes = [Sf.OpenGate.SFM_READ, Sf.OpenGate.SFM_WRITE, Sf.OpenGate.SFM_RDWR] := by decide

/-- what sf_strerror (NULL) returns for sf_errno = e -/
def errMsgLen (e : Int) : Nat :=
  if e < 0 ∨ e > Sf.Generated.C03.maxError then Sf.Generated.C03.badErrnumLen
  else Sf.Generated.C03.errMsgLens.getD e.toNat 0

/-- … and the message is never empty, whatever the number (table from the running library) -/
theorem open_failure_message (e : Int) : 0 < errMsgLen e := by
  unfold errMsgLen
  split
  · decide +kernel
  · rename_i h
    have hall : ∀ x ∈ Sf.Generated.C03.errMsgLens, 0 < x := by decide +kernel
    have hlen : Sf.Generated.C03.errMsgLens.length = Sf.Generated.C03.maxError + 1 := by decide +kernel
    have h1 : e.toNat < Sf.Generated.C03.errMsgLens.length := by omega
    rw [List.getD_eq_getElem?_getD, List.getElem?_eq_getElem h1]
    exact hall _ (List.getElem_mem h1)

/-- non-vacuity: a sane parser result opens, an insane one (0 channels) is SFE_BAD_SF_INFO, a
    parser error is passed through unmapped -/
example :
    let good : Sf.OpenGate.Parsed := { error := 0, sf := ⟨100, 44100, 2, 0x10002, 1, 1⟩, datalength := 400, dataoffset := 44, blockwidth := 4, bytewidth := 2 }
    Sf.OpenGate.openFile Sf.Generated.C03.openErrs {} good = .ok good.sf ∧
    Sf.OpenGate.openFile Sf.Generated.C03.openErrs {} { good with sf := { good.sf with channels := 0 } } = .error Sf.Generated.C03.openErrs.badSfInfo ∧
    Sf.OpenGate.openFile Sf.Generated.C03.openErrs {} { good with blockwidth := 3 } = .error Sf.Generated.C03.openErrs.internal ∧
    Sf.OpenGate.openFile Sf.Generated.C03.openErrs {} { good with error := 77 } = .error 77 := by decide +kernel

open Sf.ReadWrap

theorem readTail_asked (h : H) (k : Kind) (n c : Int) : (readTail h k n c).asked = some (capacity h k n) := by
  unfold readTail
  simp only
  split <;> rfl

/-- the four ways a read wrapper ends: nothing to do, an early error return, a handle already at the end, the codec call -/
theorem readWrap_ind {P : ROut → Prop} (E : Errs) (h : H) (k : Kind) (n seekRet codecRet : Int)
    (h0 : P { ret := 0, h := h }) (hf : ∀ e, P (fail h e))
    (hz : 0 < n → P { ret := 0, zeroed := [(0, capacity h k n)], h := { h with err := 0 } })
    (ht : 0 < n → h.rc < h.frames → P (readTail h k n codecRet)) : P (readWrap E h k n seekRet codecRet) := by
  unfold readWrap
  exact iteInduction (fun _ => h0) fun _ => iteInduction (fun _ => hf _) fun _ => iteInduction (fun _ => hf _) fun _ =>
    iteInduction (fun _ => hf _) fun _ => iteInduction (fun _ => hz (by omega)) fun _ => iteInduction (fun _ => hf _) fun _ =>
    iteInduction (fun _ => hf _) fun _ => ht (by omega) (by omega)

/-- the codec is never asked for more items than the caller's buffer holds -/
theorem read_clamp (E : Errs) (h : H) (k : Kind) (n seekRet codecRet a : Int)
    (ha : (readWrap E h k n seekRet codecRet).asked = some a) : a = capacity h k n := by
  revert ha
  refine readWrap_ind (P := fun r => r.asked = some a → a = capacity h k n) E h k n seekRet codecRet ?_ ?_ ?_ ?_
  · intro ha; cases ha
  · intro e ha; cases ha
  · intro _ ha; cases ha
  · intro _ _ ha
    rw [readTail_asked] at ha
    exact (Option.some.inj ha).symm

theorem tdiv_le_of_le_mul {a b c : Int} (ha : 0 ≤ a) (hc : 0 < c) (h : a ≤ b * c) : Int.tdiv a c ≤ b := by
  rw [Int.tdiv_eq_ediv_of_nonneg ha]
  exact Int.ediv_le_of_le_mul hc h

/-- what "the wrapper itself is safe" means for one call -/
def Safe (h : H) (cap n : Int) (out : ROut) : Prop :=
  (∀ z ∈ out.zeroed, 0 ≤ z.1 ∧ 0 ≤ z.2 ∧ z.1 + z.2 ≤ cap) ∧
  0 ≤ out.ret ∧ out.ret ≤ n ∧ (h.rc ≤ h.frames → out.h.rc ≤ out.h.frames) ∧ (0 ≤ h.rc → 0 ≤ out.h.rc) ∧
  out.h.frames = h.frames ∧ out.h.ch = h.ch

theorem safe_fail (h : H) (cap n e : Int) (hn : 0 ≤ n) : Safe h cap n (fail h e) := by
  refine ⟨?_, Int.le_refl _, hn, fun x => x, fun x => x, rfl, rfl⟩
  intro z hz; cases hz

theorem wholeItems_bounds (c ch : Int) (hc : 0 ≤ c) : 0 ≤ wholeItems c ch ∧ wholeItems c ch ≤ c := by
  unfold wholeItems
  split
  · exact ⟨hc, Int.le_refl _⟩
  · have h0 : 0 ≤ Int.tmod c ch := Int.tmod_nonneg _ hc
    have h1 : Int.tmod c ch ≤ c := by
      rw [Int.tmod_eq_emod_of_nonneg hc]
      have hd : 0 ≤ c / ch := Int.ediv_nonneg hc (by omega)
      have hm : 0 ≤ ch * (c / ch) := Int.mul_nonneg (by omega) hd
      have := Int.emod_add_mul_ediv c ch
      omega
    omega

theorem safe_tail (h : H) (k : Kind) (n codecRet : Int)
    (hch : 1 ≤ h.ch) (hlt : h.rc < h.frames) (hc0 : 0 ≤ codecRet) (hc1 : codecRet ≤ capacity h k n) :
    Safe h (capacity h k n) n (readTail h k n codecRet) := by
  have hd0 : 0 ≤ Int.tdiv codecRet h.ch := Int.tdiv_nonneg hc0 (by omega)
  unfold readTail Safe
  simp only
  split
  · rename_i hle
    have hpos : h.rc + Int.tdiv codecRet h.ch ≤ h.frames := by
      have : Int.tdiv codecRet h.ch ≤ h.frames - h.rc := tdiv_le_of_le_mul hc0 (by omega) hle
      omega
    refine ⟨(by intro z hz; cases hz), ?_, ?_, fun _ => hpos, fun h0 => (by show 0 ≤ h.rc + Int.tdiv codecRet h.ch; omega), rfl, rfl⟩
    · cases k
      · exact (wholeItems_bounds _ _ hc0).1
      · exact hd0
    · cases k <;> simp only [capacity] at hc1 ⊢
      · exact Int.le_trans (wholeItems_bounds _ _ hc0).2 hc1
      · exact tdiv_le_of_le_mul hc0 (by omega) hc1
  · rename_i hgt
    have hc2 : 0 ≤ (h.frames - h.rc) * h.ch := Int.mul_nonneg (by omega) (by omega)
    refine ⟨?_, ?_, ?_, fun _ => Int.le_refl _, fun h0 => (by show 0 ≤ h.frames; omega), rfl, rfl⟩
    · exact List.forall_mem_singleton.mpr ⟨hc2, by omega, by omega⟩
    · cases k
      · exact (wholeItems_bounds _ _ hc2).1
      · exact Int.tdiv_nonneg hc2 (by omega)
    · cases k <;> simp only [capacity] at hc1 ⊢
      · have := (wholeItems_bounds _ h.ch hc2).2
        omega
      · exact tdiv_le_of_le_mul hc2 (by omega) (by omega)

/-- every psf_memset the wrapper itself performs lies inside the caller's buffer, the return value is
    in [0, requested], and the read position stays ≤ frames — for any codec that returns between 0
    and the number of items it was asked for -/
theorem read_wrapper_safe (E : Errs) (h : H) (k : Kind) (n seekRet codecRet : Int)
    (hch : 1 ≤ h.ch) (hn : 0 ≤ n) (hc0 : 0 ≤ codecRet) (hc1 : codecRet ≤ capacity h k n) :
    Safe h (capacity h k n) n (readWrap E h k n seekRet codecRet) := by
  have hcap : 0 ≤ capacity h k n := by
    cases k <;> simp only [capacity]
    · exact hn
    · exact Int.mul_nonneg hn (by omega)
  refine readWrap_ind E h k n seekRet codecRet ?_ (fun e => safe_fail h _ n e hn) ?_ ?_
  · exact safe_fail h _ n h.err hn
  · exact fun _ => ⟨List.forall_mem_singleton.mpr ⟨Int.le_refl _, hcap, by omega⟩, Int.le_refl _, hn, fun x => x, fun x => x, rfl, rfl⟩
  · exact fun _ hlt => safe_tail h k n codecRet hch hlt hc0 hc1

/-- sf_seek's promise about one outcome: what the codec was asked for, if anything, lies in [0, frames] -/
def InRange (h : H) (p : Int) (r : SOut) : Prop := r.asked = some p → 0 ≤ p ∧ p ≤ h.frames

/-- sf_seek on a read handle passes the codec a frame position inside [0, frames] or nothing at all,
    for every offset and every whence value (invalid ones included) -/
theorem seek_range (E : Errs) (h : H) (offset whence codecRet p : Int)
    (hp : (sfSeekRead E h offset whence codecRet).asked = some p) : 0 ≤ p ∧ p ≤ h.frames := by
  revert hp
  show InRange h p _
  have quiet : ∀ (ret : Int) (h' : H), InRange h p { ret := ret, h := h' } := fun _ _ hp => by cases hp
  unfold sfSeekRead
  simp only
  refine iteInduction (fun _ => quiet _ _) fun _ => iteInduction (fun _ => quiet _ _) fun _ => ?_
  -- whatever `whence` selects, a position reaches the codec only through the range check
  generalize (if whence = 0 ∨ whence = 0x10 ∨ whence = 0x20 ∨ whence = 0x30 then ((none : Option Int), offset, (0 : Int)) else _) = r
  obtain ⟨_ | v, sfs, e⟩ := r
  · refine iteInduction (fun _ => quiet _ _) fun _ => iteInduction (fun _ => quiet _ _) fun hr =>
      iteInduction (fun _ => quiet _ _) fun _ => iteInduction ?_ ?_
    all_goals
      intro _ hp
      cases hp
      omega
  · exact quiet _ _

/-- non-vacuity: a read that runs into the end is clamped and the tail zero-filled; a seek in range
    reaches the codec, one past the end does not -/
example :
    let E : Errs := Sf.Generated.C03.rwErrs
    let h : H := { rc := 8, frames := 10, ch := 2 }
    (readWrap E h .items 8 0 8).ret = 4 ∧ (readWrap E h .items 8 0 8).zeroed = [(4, 4)] ∧ (readWrap E h .items 8 0 8).h.rc = 10 ∧
    (readWrap E h .frames 4 0 2).ret = 1 ∧ (readWrap E h .items 3 0 0).h.err = E.badReadAlign ∧
    (readWrap E { h with rc := 9 } .items 4 0 3).ret = 2 ∧ (sfSeekRead E h 3 0 (-1)).h.rc = 8 ∧ (sfSeekRead E h 3 0 (-1)).h.err = E.seekFailed ∧
    (sfSeekRead E h 3 0 3).asked = some 3 ∧ (sfSeekRead E h 1 2 0).asked = none ∧ (sfSeekRead E h 1 2 0).h.err = E.badSeek ∧
    (sfSeekRead E h (-2) 2 8).asked = some 8 ∧ (sfSeekRead E h 0 77 0).ret = -1 := by decide +kernel

/-! `sf_get_chunk_data` transfers `min (caller's datalen, chunk length)` bytes — never more than the
caller's buffer holds.  Until /repo c8a9c60 psf_fread divided by that number on the virtual-I/O path
(known finding KF-C03-chunk-data-zero, `fixed`; its witness is replayed on every run). -/
open Sf.ChunkQuery in
theorem chunk_query_in_buffer (datalen len : Nat) : request datalen len ≤ datalen := by
  unfold request; split <;> omega

/-- C03 for this call, at full strength: it returns, whatever the sizes and the route -/
theorem chunk_query_total (virtualIO : Bool) (datalen len ans : Nat) :
    (Sf.ChunkQuery.getChunkData virtualIO datalen len ans).isSome := by
  unfold Sf.ChunkQuery.getChunkData Sf.ChunkQuery.psfFread1
  split
  · rfl
  · cases virtualIO with
    | false => simp only [Bool.false_eq_true, if_false]; split <;> rfl
    | true =>
      simp only [if_true]
      rfl

/-- non-vacuity: an ordinary query returns one item; the cases that trapped before c8a9c60 return 0 -/
example : Sf.ChunkQuery.getChunkData true 32 31 1000 = some 1 ∧ Sf.ChunkQuery.getChunkData true 0 31 1000 = some 0 ∧
    Sf.ChunkQuery.getChunkData true 8 0 0 = some 0 := by decide

/-! The SDS block-count scan: a loop whose termination depended on the I/O layer.
Repaired in /repo 62c7950 (known finding KF-C03-sds-pipe-scan, `fixed`; its witness is replayed as a
regression test on every run).  The current rule is proved at full strength; the old rule's failure is
kept as a theorem about `Rule.old`. -/

open Sf.SdsScan in
theorem scan_terminates (r : Rule) (filelength : Int) (o : Nat → Nat × Nat) : ∀ (fuel k : Nat) (b : Int) (m : Nat),
    0 ≤ b → filelength - b ≤ 125 * fuel → (scan r filelength o fuel k b m).isSome := by
  intro fuel
  induction fuel with
  | zero =>
    intro k b m h0 h
    unfold scan
    have : ¬ b < filelength := by omega
    simp [this]
  | succ n ih =>
    intro k b m h0 h
    unfold scan
    by_cases hlt : b < filelength
    · simp only [hlt, if_true]
      generalize (if (o k).1 = 0 then m else (o k).2) = m'
      generalize stopNow r (if (o k).1 ≥ 2 then (2 : Int) else ((o k).1 : Int)) m' = stop
      cases stop with
      | true => simp
      | false =>
        simp only [Bool.false_eq_true, if_false]
        have hg : 0 ≤ (if (o k).1 ≥ 2 then (2 : Int) else ((o k).1 : Int)) := by omega
        apply ih
        · simp only [SDS_BLOCK_SIZE]; omega
        · simp only [SDS_BLOCK_SIZE]; omega
    · simp [hlt]

open Sf.SdsScan in
/-- for a real file length the scan ends within filelength/125 + 1 iterations, under either rule, for
    every behaviour of the I/O layer and every file content -/
theorem sds_scan_bounded_by_length (r : Rule) (filelength : Int) (o : Nat → Nat × Nat) (bytesread : Int) (marker : Nat)
    (h0 : 0 ≤ bytesread) (hf : 0 ≤ filelength) :
    (scan r filelength o (filelength / 125 + 1).toNat 0 bytesread marker).isSome := by
  apply scan_terminates
  · exact h0
  · have h1 : 0 ≤ filelength / 125 := Int.ediv_nonneg hf (by omega)
    have h2 : ((filelength / 125 + 1).toNat : Int) = filelength / 125 + 1 := Int.toNat_of_nonneg (by omega)
    rw [h2]
    have := Int.emod_add_mul_ediv filelength 125
    have := Int.emod_lt_of_pos filelength (show (0 : Int) < 125 by omega)
    omega

open Sf.SdsScan in
theorem scan_current_stops_on_short_read (filelength : Int) (o : Nat → Nat × Nat) (N : Nat)
    (hN : ∀ k, N ≤ k → (o k).1 < 2) : ∀ (n k : Nat) (b : Int) (m : Nat), N ≤ k + n →
    (scan .current filelength o (n + 1) k b m).isSome := by
  intro n
  induction n with
  | zero =>
    intro k b m h
    unfold scan
    by_cases hlt : b < filelength
    · have hk := hN k (by omega)
      have hg : (if (o k).1 ≥ 2 then (2 : Int) else ((o k).1 : Int)) ≠ 2 := by
        omega
      simp [hlt, stopNow, hg]
    · simp [hlt]
  | succ n ih =>
    intro k b m h
    unfold scan
    by_cases hlt : b < filelength
    · simp only [hlt, if_true]
      generalize (if (o k).1 = 0 then m else (o k).2) = m'
      generalize stopNow .current (if (o k).1 ≥ 2 then (2 : Int) else ((o k).1 : Int)) m' = stop
      cases stop with
      | true => simp
      | false =>
        simp only [Bool.false_eq_true, if_false]
        exact ih (k + 1) _ _ (by omega)
    · simp [hlt]

open Sf.SdsScan in
/-- C03's "time bounded by the input size" for the scan, at FULL strength for the current code: whatever
    length the file announces (SF_COUNT_MAX for a pipe included), whatever the bytes are, if the input can
    satisfy at most N complete 2-byte reads (N ≤ input bytes / 2) the scan ends within N + 1 iterations -/
theorem sds_scan_bounded (filelength : Int) (o : Nat → Nat × Nat) (N : Nat) (bytesread : Int) (marker : Nat)
    (hN : ∀ k, N ≤ k → (o k).1 < 2) :
    (scan .current filelength o (N + 1) 0 bytesread marker).isSome :=
  scan_current_stops_on_short_read filelength o N hN N 0 bytesread marker (by omega)

open Sf.SdsScan in
theorem scan_eof_runs_old_rule (filelength : Int) : ∀ (fuel k : Nat) (b : Int) (m : Nat), m ≠ 0 → b + 125 * fuel < filelength →
    scan .old filelength eof fuel k b m = none := by
  intro fuel
  induction fuel with
  | zero =>
    intro k b m _ hb
    unfold scan
    have h1 : b < filelength := by omega
    simp [h1]
  | succ n ih =>
    intro k b m hm hb
    unfold scan
    have h1 : b < filelength := by omega
    simp only [h1, if_true, eof, stopNow]
    simp only [hm, decide_false, Bool.false_eq_true, if_false]
    apply ih _ _ _ hm
    simp [SDS_BLOCK_SIZE]
    omega

/-- the class the old rule failed on: the scan runs against an unbounded announced length (non-seekable input) -/
def KF.sdsPipe (filelength : Int) : Prop := filelength = Sf.SdsScan.SF_COUNT_MAX

instance (l : Int) : Decidable (KF.sdsPipe l) := by unfold KF.sdsPipe; infer_instance

open Sf.SdsScan in
/-- OLD RULE (before 62c7950): with an exhausted input (N = 0 in `sds_scan_bounded`) on a pipe, `marker`
    kept its last non-zero value and the loop was still running after 10^15 iterations on a 19-byte input
    (findings/C03-sds-pipe-scan.txt, kept as a regression script) -/
theorem sds_scan_unbounded_old_rule : ∃ (o : Nat → Nat × Nat) (marker : Nat), (∀ k, 0 ≤ k → (o k).1 < 2) ∧
    KF.sdsPipe SF_COUNT_MAX ∧ scan .old SF_COUNT_MAX o 1000000000000000 0 19 marker = none :=
  ⟨eof, 0xF07E, by intro k _; simp [eof], rfl,
    scan_eof_runs_old_rule SF_COUNT_MAX 1000000000000000 0 19 0xF07E (by decide) (by decide)⟩

/-- non-vacuity: a 402-byte file (3 blocks) is scanned in 3 iterations under both rules; on the old
    witness input the current rule stops at once -/
example : Sf.SdsScan.scan .current 402 (fun _ => (2, 0xF07E)) 4 0 21 0xF07E = some 3 ∧
    Sf.SdsScan.scan .old 402 (fun _ => (2, 0xF07E)) 4 0 21 0xF07E = some 3 ∧
    Sf.SdsScan.scan .current Sf.SdsScan.SF_COUNT_MAX Sf.SdsScan.eof 1 0 19 0xF07E = some 0 ∧
    Sf.SdsScan.scan .old Sf.SdsScan.SF_COUNT_MAX Sf.SdsScan.eof 50 0 19 0xF07E = none := by decide +kernel

/-! The chunk loops of the IFF-family parsers under the OLD rule.
Repaired (psf_binheader_tell + "an iteration must end behind the offset it started
at"; known findings KF-C03-pipe-chunk-loop, KF-C03-svx-backjump, KF-C15-SCAN-HANG, `fixed`, witnesses replayed
as regression scripts).  The current loops are proved bounded at full strength in SfProps/C03Loops.lean
(`chunk_loop_bounded_by_input`, `chunk_loop_bounded_by_length`).  What follows is about `Sf.SvxLoop.loop`, the loop
before the repair: wav.c, rf64.c, aiff.c, svx.c, caf.c left their `while (! done)` loop only through
`if (psf_ftell (psf) >= psf->filelength - k) break`.  An iteration that makes no progress in the FILE (end of
input, or a chunk whose size field is 0xFFFFFFF8: the 'j' jump of -8 stays inside the header cache and the same
chunk is parsed again) is the `eof` oracle below. -/
open Sf.SvxLoop in
/-- at end of input the loop is left within one iteration -/
def svx_eof_exits_full_old_rule : Prop :=
  ∀ (filelength pos : Int) (k : Nat), 0 ≤ pos → (loop filelength eof 1 k pos).isSome

/-- the known-finding class: non-seekable input, psf->filelength = SF_COUNT_MAX -/
def KF.chunkLoopPipe (filelength : Int) : Prop := filelength = Sf.SdsScan.SF_COUNT_MAX

instance (l : Int) : Decidable (KF.chunkLoopPipe l) := by unfold KF.chunkLoopPipe; infer_instance

open Sf.SvxLoop in
theorem svx_eof_runs_old_rule (filelength : Int) : ∀ (fuel k : Nat) (pos : Int), pos < filelength - 4 → loop filelength eof fuel k pos = none := by
  intro fuel
  induction fuel with
  | zero => intro k pos _; rfl
  | succ n ih =>
    intro k pos h
    unfold loop
    simp only [eof, Bool.false_eq_true, if_false]
    have : ¬ (pos + ((0 : Nat) : Int) ≥ filelength - 4) := by omega
    simp only [this, if_false]
    exact ih _ _ (by omega)

open Sf.SvxLoop in
/-- on a pipe the loop is still running after any number of iterations
    (witnesses: findings/C03-svx-pipe-loop.txt, findings/C03-wav-pipe-backjump.txt) -/
theorem svx_eof_exits_fails_old_rule : ¬ svx_eof_exits_full_old_rule := by
  intro h
  have h1 := h Sf.SdsScan.SF_COUNT_MAX 53 0 (by decide)
  rw [svx_eof_runs_old_rule Sf.SdsScan.SF_COUNT_MAX 1 0 53 (by decide)] at h1
  cases h1

open Sf.SvxLoop in
/-- on a regular file (psf_ftell = filelength at end of input) it is left at once -/
theorem svx_eof_exits_partial_old_rule (filelength pos : Int) (k : Nat) (hend : filelength ≤ pos) :
    (loop filelength eof 1 k pos).isSome := by
  unfold loop
  simp only [eof, Bool.false_eq_true, if_false]
  have h2 : filelength - 4 ≤ pos := by omega
  simp [h2]

/-- non-vacuity: the old loop at the end of a regular file, and over 8-byte chunks of a 100-byte file; SF_COUNT_MAX is in the pipe class -/
example : Sf.SvxLoop.loop 100 Sf.SvxLoop.eof 1 0 100 = some 0 ∧ Sf.SvxLoop.loop 100 (fun _ => (8, false)) 20 0 12 = some 10 ∧
    KF.chunkLoopPipe Sf.SdsScan.SF_COUNT_MAX := by decide

open Sf.SvxLoop in
theorem loop_progress_terminates_old_rule (filelength : Int) (o : Nat → Nat × Bool) (hprog : ∀ k, 1 ≤ (o k).1) :
    ∀ (n k : Nat) (pos : Int), filelength - 4 - pos ≤ n + 1 → (loop filelength o (n + 1) k pos).isSome := by
  intro n
  induction n with
  | zero =>
    intro k pos h
    unfold loop
    have := hprog k
    by_cases hd : (o k).2 = true
    · simp [hd]
    · have h2 : pos + ((o k).1 : Int) ≥ filelength - 4 := by omega
      simp [hd, h2]
  | succ n ih =>
    intro k pos h
    unfold loop
    have := hprog k
    by_cases hd : (o k).2 = true
    · simp [hd]
    · by_cases h2 : pos + ((o k).1 : Int) ≥ filelength - 4
      · simp [hd, h2]
      · simp only [hd, h2, if_false]
        exact ih (k + 1) _ (by omega)

/-- the known-finding class on seekable input: an iteration of svx_read_header that does not move the
    file position — a NAME / ANNO / unknown chunk whose size field is negative as `int` (0xFFFFFFF8: the
    'j' jump of -8 re-parses the same chunk header) with more than 4 bytes of file still unread -/
def KF.svxBackJump (o : Nat → Nat × Bool) : Prop := ∃ k, (o k).1 = 0

/-- outside that class (every iteration consumes at least one byte of the file) the chunk loop ends
    within filelength - pos iterations, on every route with a finite length
    (the looping case is `svx_eof_runs_old_rule`, which holds for every filelength; witness findings/C03-svx-backjump.txt) -/
theorem svx_loop_bounded_partial_old_rule (filelength : Int) (o : Nat → Nat × Bool) (pos : Int) (k : Nat)
    (hpos : 0 ≤ pos) (hf : pos ≤ filelength) (h : ¬ KF.svxBackJump o) :
    (Sf.SvxLoop.loop filelength o ((filelength - pos).toNat + 1) k pos).isSome := by
  apply loop_progress_terminates_old_rule
  · intro j
    unfold KF.svxBackJump at h
    have : ¬ (o j).1 = 0 := fun hz => h ⟨j, hz⟩
    omega
  · have : ((filelength - pos).toNat : Int) = filelength - pos := Int.toNat_of_nonneg (by omega)
    omega

/-! CAF `info` over a pipe: a reachable violation of the header-cache hypothesis `Op.argsOk`, repaired.
caf_read_strings passed `(size_t) (chunk_size - 4)` to the 'b' conversion of psf_binheader_readf, which stores it
in an `int`; on a pipe nothing bounded chunk_size (known finding KF-C03-caf-info-pipe, repaired in /repo by 5963409,
`fixed`).  The current rule (`caf_info_count`, full strength) and the old rule's failure
(`caf_info_count_fails_old_rule`, `caf_info_count_partial_old_rule`) are in SfProps/C03Loops.lean. -/

/-! NIST `sample_coding`: an unchecked sscanf.
Repaired in /repo 6408f3b (`str [0] = 0` before the sscanf; known finding KF-C03-nist-sample-coding,
`fixed`, witness kept as a regression script). -/

/-- no read of indeterminate memory, at full strength for the current code: whatever sscanf matched,
    `str` is a C string when strcmp and "%s" read it -/
theorem nist_coding (matched : Nat) : Sf.NistCoding.strDefined .current matched = true := rfl

/-- the class the old rule failed on: the key is present but a number and a word do not both follow it -/
def KF.nistCoding (matched : Nat) : Prop := matched < 2

instance (m : Nat) : Decidable (KF.nistCoding m) := by unfold KF.nistCoding; infer_instance

/-- OLD RULE (before 6408f3b): "sample_coding -s3" followed by a NUL byte matches one item only; strcmp
    and "%s" then walked over uninitialised stack memory (findings/C03-nist-sample-coding.txt) -/
theorem nist_coding_fails_old_rule : ∃ matched, matched ≤ 2 ∧ KF.nistCoding matched ∧ Sf.NistCoding.strDefined .old matched = false :=
  ⟨1, by decide, by decide, by decide⟩

/-- OLD RULE: outside that class `str` was defined -/
theorem nist_coding_partial_old_rule (matched : Nat) (h : ¬ KF.nistCoding matched) : Sf.NistCoding.strDefined .old matched = true := by
  unfold KF.nistCoding at h
  simp [Sf.NistCoding.strDefined]
  omega

/-- non-vacuity: the current rule defines `str` even when nothing matched; the old one only from two matches on -/
example : Sf.NistCoding.strDefined .current 0 = true ∧ Sf.NistCoding.strDefined .old 2 = true ∧ KF.nistCoding 0 ∧ ¬ KF.nistCoding 2 := by decide

end Sf.C03
