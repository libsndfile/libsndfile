-- properties: C04 C11
/-
  C04 / C11 — the Creative Voice container (stand-alone L1 model SfModel/Voc.lean; helpers SfProofs/VocImage.lean,
  Small2Session.lean).

  A *session* is `openW`, any list of `WOp`s storing whole frames, then voc_close (terminator byte, header).
  Since the repair of KF-VOC-MONO-G711 / KF-VOC-UPDATE (voc_close records where the audio ends, type 1 length =
  datalength + 2, every block reader accepts a missing terminator) both statements hold at full strength for every
  accepted configuration; the failures of the rule before the repair (SfModel/VocOld.lean: u-law / A-law mono re-opened
  with one frame too many, PCM_U8 update images one byte short) stay as `…_old_rule` theorems.
-/
import SfModel.VocOld
import SfProofs.VocImage
namespace Sf.C04Voc
open Sf Sf.Small2 Sf.Voc

/-- **the 8-bit divisor** (type 1 block): for 3907 ≤ sr ≤ 1000000 the byte holds 256 − 1000000 / sr without wrapping
    and a reader computes 1000000 / (1000000 / sr) -/
theorem voc_rate8_inrange (sr : Nat) (h1 : 3907 ≤ sr) (h2 : sr ≤ 1000000) : unrate8 (rate8 sr) = 1000000 / (1000000 / sr) :=
  unrate8_rate8 sr (Nat.div_pos h2 (by omega)) ((Nat.div_lt_iff_lt_mul (by omega)).mpr (by omega))

/-- the quantised rate is never below the requested one, and exact when the rate divides 1000000 -/
theorem voc_rate8_ge (sr : Nat) (h1 : 3907 ≤ sr) (h2 : sr ≤ 1000000) : sr ≤ unrate8 (rate8 sr) := by
  rw [voc_rate8_inrange sr h1 h2]; exact div_div_ge _ _ (by omega) h2

theorem voc_rate8_exact (sr k : Nat) (h1 : 3907 ≤ sr) (h : 1000000 = sr * k) : unrate8 (rate8 sr) = sr := by
  obtain ⟨h2, e⟩ := div_div_exact 1000000 sr k (by decide) h (by omega)
  rw [voc_rate8_inrange sr h1 h2]; exact e

example : unrate8 (rate8 8000) = 8000 ∧ unrate8 (rate8 11025) = 11111 ∧ unrate8 (rate8 44100) = 45454 ∧ rate8 8000 = 131 := by decide

/-- **the 16-bit divisor** (type 8 block, stereo): for 1954 ≤ sr ≤ 128000000 -/
theorem voc_rate16_inrange (sr : Nat) (h1 : 1954 ≤ sr) (h2 : sr ≤ 128000000) :
    unrate16 true (rate16 sr) = 128000000 / (128000000 / sr) :=
  unrate16_rate16 sr (Nat.div_pos h2 (by omega)) ((Nat.div_lt_iff_lt_mul (by omega)).mpr (by omega))

theorem voc_rate16_ge (sr : Nat) (h1 : 1954 ≤ sr) (h2 : sr ≤ 128000000) : sr ≤ unrate16 true (rate16 sr) := by
  rw [voc_rate16_inrange sr h1 h2]; exact div_div_ge _ _ (by omega) h2

theorem voc_rate16_exact (sr k : Nat) (h1 : 1954 ≤ sr) (h : 128000000 = sr * k) : unrate16 true (rate16 sr) = sr := by
  obtain ⟨h2, e⟩ := div_div_exact 128000000 sr k (by decide) h (by omega)
  rw [voc_rate16_inrange sr h1 h2]; exact e

example : unrate16 true (rate16 8000) = 8000 ∧ unrate16 true (rate16 44100) = 44107 ∧ unrate16 true (rate16 11025) = 11025 := by decide

/-- the type 9 block stores the rate itself -/
theorem voc_rate_exact9 (c : Cfg) (h : c.codec ≠ 5) : quant c = c.sr := by unfold quant; rw [if_neg h]

/-- class of the repaired KF-VOC-MONO-G711 -/
def KF.monoLaw (c : Cfg) : Prop := (c.codec = 0x10 ∨ c.codec = 0x11) ∧ c.ch = 1
instance (c : Cfg) : Decidable (KF.monoLaw c) := by unfold KF.monoLaw; infer_instance

/-- class of the repaired KF-VOC-UPDATE -/
def KF.u8 (c : Cfg) : Prop := c.codec = 5
instance (c : Cfg) : Decidable (KF.u8 c) := by unfold KF.u8; infer_instance

/-- the fields `calc_length` leaves on an open handle when `n` bytes follow the header -/
def calcFields (c : Cfg) (n : Nat) : Fields :=
  { filelength := ((c.hdrLen + n : Nat) : Int), datalength := ((c.hdrLen + n : Nat) : Int) - c.hdrLen,
    frames := (((c.hdrLen + n : Nat) : Int) - c.hdrLen) / ((c.bw : Nat) : Int) }

theorem calcHdr_eq (c : Cfg) (n : Nat) : calcHdr (fmt c) (c.hdrLen + n) = hdr c (calcFields c n) := rfl

theorem close_datalength (c : Cfg) (n : Nat) : (closeFields c n).datalength + 2 = ((n + 2 : Nat) : Int) := by
  simp only [closeFields]; omega

theorem close_frames (c : Cfg) (n : Nat) : (closeFields c n).frames = ((n / c.bw : Nat) : Int) := rfl

theorem closed_eq (c : Cfg) (stale : Nat) (ops : List WOp) :
    closedBytes c stale ops = hdr c (closeFields c (opsData ops).length) ++ (opsData ops ++ [0]) := Voc.closedBytes_eq c stale ops

theorem snapshot_eq (c : Cfg) (stale : Nat) (ops : List WOp) :
    snapshotBytes c stale ops = hdr c (calcFields c (opsData ops).length) ++ opsData ops := by
  unfold Voc.snapshotBytes
  rw [Small2.snapshotBytes_eq (fmt c) (lawful c) stale ops]; rfl

/-- **voc_reopen_info (C04, full strength).**  For EVERY accepted configuration (PCM_U8 / PCM_16 / u-law / A-law, one
    or two channels, any rate) and every session of whole frames (guard: the 3-byte block length), the closed file
    re-opens with the requested channels and encoding, the quantised rate (`quant`: exact for the type 9 block, the
    divisor rules above for PCM_U8) and exactly the frames written. -/
theorem voc_reopen_info (c : Cfg) (hwf : c.wf) (stale : Nat) (ops : List WOp) (hw : WholeFrames c.bw ops)
    (hguard : (opsData ops).length + 14 < 2 ^ 24) :
    parse (closedBytes c stale ops) = .ok { ch := c.ch, fmt := c.fmtWord, sr := quant c, frames := (opsData ops).length / c.bw } := by
  rw [closed_eq]
  exact parse_image c hwf _ _ [0] rfl rfl (opsData_whole c.bw ops hw) hguard (Nat.le_refl 1)

/-- C04 at full strength for VOC, as a proposition about a writer / reader pair -/
def reopenInfoFull (closed : Cfg → Nat → List WOp → List Byte) (prs : List Byte → ParseRes) : Prop :=
  ∀ (c : Cfg), c.wf → ∀ (stale : Nat) (ops : List WOp), WholeFrames c.bw ops → (opsData ops).length + 14 < 2 ^ 24 →
    prs (closed c stale ops) = .ok { ch := c.ch, fmt := c.fmtWord, sr := quant c, frames := (opsData ops).length / c.bw }

theorem voc_reopen_info_full_holds : reopenInfoFull closedBytes parse :=
  fun c hwf stale ops hw hg => voc_reopen_info c hwf stale ops hw hg

def exLaw : Cfg := ⟨0x10, 1, 8000⟩
def exU8 : Cfg := ⟨5, 2, 11025⟩
def exU8m : Cfg := ⟨5, 1, 8000⟩
def exPcm : Cfg := ⟨2, 2, 44100⟩
def exOps : List WOp := [.write [1, 2, 3, 4] false, .update, .write [5, 6, 7, 8] true]

/-- `reopenInfoFull` failed under the rule before the repair of KF-VOC-MONO-G711: three u-law mono frames re-opened as four
    (findings/kf_voc_mono_ulaw.txt), with the old reader and with the current one -/
theorem voc_mono_g711_old_rule :
    KF.monoLaw exLaw ∧
    Old.parse (Old.closedBytes exLaw 0 [.write [1, 2, 3] false]) = .ok ⟨1, 0x080010, 8000, 4⟩ ∧
    parse (Old.closedBytes exLaw 0 [.write [1, 2, 3] false]) = .ok ⟨1, 0x080010, 8000, 4⟩ ∧
    parse (closedBytes exLaw 0 [.write [1, 2, 3] false]) = .ok ⟨1, 0x080010, 8000, 3⟩ := by decide +kernel

theorem voc_reopen_info_full_old_rule_fails : ¬ reopenInfoFull Old.closedBytes Old.parse := by
  intro h
  have := h exLaw (by decide) 0 [.write [1, 2, 3] false] (by decide) (by decide)
  exact absurd this (by decide +kernel)

example : exPcm.wf ∧ WholeFrames exPcm.bw exOps ∧
    parse (closedBytes exPcm 7 exOps) = .ok ⟨2, 0x080002, 44100, 2⟩ :=
  ⟨by decide, by decide, voc_reopen_info exPcm (by decide) 7 exOps (by decide) (by decide)⟩
example : exU8.wf ∧ parse (closedBytes exU8 7 exOps) = .ok ⟨2, 0x080005, 11025, 4⟩ :=
  ⟨by decide, voc_reopen_info exU8 (by decide) 7 exOps (by decide) (by decide)⟩
example : exU8m.wf ∧ parse (closedBytes exU8m 7 exOps) = .ok ⟨1, 0x080005, 8000, 8⟩ :=
  ⟨by decide, voc_reopen_info exU8m (by decide) 7 exOps (by decide) (by decide)⟩
example : exLaw.wf ∧ parse (closedBytes exLaw 0 [.write [1, 2, 3] false]) = .ok ⟨1, 0x080010, 8000, 3⟩ :=
  ⟨by decide, voc_reopen_info exLaw (by decide) 0 _ (by decide) (by decide)⟩

/-- **voc_frames_bound.**  `F = N` for every configuration: the terminator byte is never counted. -/
theorem voc_frames_bound (c : Cfg) (hwf : c.wf) (stale : Nat) (ops : List WOp) (hw : WholeFrames c.bw ops)
    (hguard : (opsData ops).length + 14 < 2 ^ 24) :
    ∃ F, parse (closedBytes c stale ops) = .ok { ch := c.ch, fmt := c.fmtWord, sr := quant c, frames := F } ∧
      F = (opsData ops).length / c.bw :=
  ⟨_, voc_reopen_info c hwf stale ops hw hguard, rfl⟩

example : (4 * 2) / 2 = 4 := by decide

/-- **voc_size_fields.**  The closed file is the header, the audio and one terminator byte; the header is the one
    `voc_write_header` computes from the audio bytes alone (`closeFields`): type 1 length field = audio + 2 (rate and
    compression bytes + audio), type 9 length field = 12 + the whole frames among the audio bytes. -/
theorem voc_size_fields (c : Cfg) (stale : Nat) (ops : List WOp) (bytes : List Byte) (D : Nat)
    (hbytes : bytes = closedBytes c stale ops) (hD : D = (opsData ops).length) :
    bytes.length = c.hdrLen + D + 1 ∧ bytes.drop c.hdrLen = opsData ops ++ [0] ∧ bytes.take c.hdrLen = hdr c (closeFields c D) ∧
    (closeFields c D).datalength + 2 = ((D + 2 : Nat) : Int) ∧ (closeFields c D).frames = ((D / c.bw : Nat) : Int) := by
  rw [closed_eq, ← hD] at hbytes
  have hl := hdr_length c (closeFields c D)
  refine ⟨by rw [hbytes, List.length_append, hl, List.length_append, ← hD, List.length_singleton]; omega, by rw [hbytes]; exact List.drop_left' hl,
    by rw [hbytes]; exact List.take_left' hl, close_datalength c D, close_frames c D⟩

example : (closedBytes exPcm 7 exOps).length = 42 + 8 + 1 ∧ (closedBytes exPcm 7 exOps).drop 42 = opsData exOps ++ [0] :=
  have h := voc_size_fields exPcm 7 exOps _ _ rfl rfl
  ⟨h.1, h.2.1⟩

/-- **stale_frames_ignored_voc.**  Closed bytes and update images do not depend on the caller's frames value
    (the type 9 header sf_open itself writes does: `voc_open_image_stale`). -/
theorem stale_frames_ignored_voc (c : Cfg) (a b : Nat) (ops : List WOp) :
    closedBytes c a ops = closedBytes c b ops ∧ snapshotBytes c a ops = snapshotBytes c b ops := by
  constructor
  · rw [closed_eq, closed_eq]
  · rw [snapshot_eq, snapshot_eq]

example : closedBytes exPcm 0 exOps = closedBytes exPcm 123456 exOps := (stale_frames_ignored_voc exPcm 0 123456 exOps).1

theorem voc_open_image_stale : (openW (fmt exPcm) 0).bytes ≠ (openW (fmt exPcm) 99).bytes := by decide +kernel

/-- **voc_snapshot_valid (C11, full strength).**  For EVERY accepted configuration: after any session prefix of whole
    frames the image a header update leaves parses with the same parameters and exactly the frames written so far (the
    readers' "missing zero byte" rule), and is the header followed by the audio. -/
theorem voc_snapshot_valid (c : Cfg) (hwf : c.wf) (stale : Nat) (ops : List WOp) (hw : WholeFrames c.bw ops)
    (hguard : (opsData ops).length + 14 < 2 ^ 24) :
    parse (snapshotBytes c stale ops) = .ok { ch := c.ch, fmt := c.fmtWord, sr := quant c, frames := (opsData ops).length / c.bw } ∧
    ∃ h, h.length = c.hdrLen ∧ snapshotBytes c stale ops = h ++ opsData ops := by
  rw [Voc.snapshotBytes, snapshot_std (fmt c) (lawful c) c.bw (fun _ _ => rfl)]
  refine ⟨?_, _, hdr_length c _, rfl⟩
  have := parse_image c hwf (stdFields c.hdrLen c.bw (opsData ops).length) _ [] rfl rfl (opsData_whole c.bw ops hw) hguard (Nat.zero_le 1)
  rwa [List.append_nil] at this

/-- C11 at full strength for VOC, as a proposition about a writer / reader pair -/
def snapshotValidFull (snap : Cfg → Nat → List WOp → List Byte) (prs : List Byte → ParseRes) : Prop :=
  ∀ (c : Cfg), c.wf → ∀ (stale : Nat) (ops : List WOp), WholeFrames c.bw ops → (opsData ops).length + 14 < 2 ^ 24 →
    prs (snap c stale ops) = .ok { ch := c.ch, fmt := c.fmtWord, sr := quant c, frames := (opsData ops).length / c.bw }

theorem voc_snapshot_valid_full_holds : snapshotValidFull snapshotBytes parse :=
  fun c hwf stale ops hw hg => (voc_snapshot_valid c hwf stale ops hw hg).1

/-- the rule before the repair of KF-VOC-UPDATE: three stereo PCM_U8 frames, header update, the image re-opened with
    two (findings/kf_voc_update.txt); the current writer's image re-opens with three -/
theorem voc_snapshot_u8_old_rule :
    KF.u8 exU8 ∧
    Old.parse (Old.snapshotBytes exU8 0 [.write [1, 2, 3, 4, 5, 6] false]) = .ok ⟨2, 0x080005, 11025, 2⟩ ∧
    Old.parse (Old.snapshotBytes exU8m 0 [.write [1, 2, 3] false]) = .ok ⟨1, 0x080005, 8000, 2⟩ ∧
    parse (snapshotBytes exU8 0 [.write [1, 2, 3, 4, 5, 6] false]) = .ok ⟨2, 0x080005, 11025, 3⟩ ∧
    parse (snapshotBytes exU8m 0 [.write [1, 2, 3] false]) = .ok ⟨1, 0x080005, 8000, 3⟩ := by decide +kernel

theorem voc_snapshot_valid_full_old_rule_fails : ¬ snapshotValidFull Old.snapshotBytes Old.parse := by
  intro h
  have := h exU8 (by decide) 0 [.write [1, 2, 3, 4, 5, 6] false] (by decide) (by decide)
  exact absurd this (by decide +kernel)

/-- the old READER refused the current writer's update image of a type 1 file ("truncated"): the reader had to learn the
    missing-terminator rule together with the writer's new length -/
theorem voc_old_reader_refuses_new_image : Old.parse (snapshotBytes exU8m 0 [.write [1, 2, 3] false]) = .err := by decide +kernel

example : parse (snapshotBytes exPcm 5 [.write [1, 2, 3, 4] false]) = .ok ⟨2, 0x080002, 44100, 1⟩ :=
  (voc_snapshot_valid exPcm (by decide) 5 _ (by decide) (by decide)).1
example : parse (snapshotBytes exLaw 5 [.write [1, 2, 3, 4] false]) = .ok ⟨1, 0x080010, 8000, 4⟩ :=
  (voc_snapshot_valid exLaw (by decide) 5 _ (by decide) (by decide)).1

/-- header updates never change the finished file: with or without them the closed bytes are equal -/
theorem voc_updates_dont_change_file (c : Cfg) (stale : Nat) (ops : List WOp) :
    closedBytes c stale ops = closedBytes c stale [.write (opsData ops) false] := by
  rw [closed_eq, closed_eq]; simp [opsData]

example : closedBytes exPcm 0 exOps = closedBytes exPcm 0 [.write (opsData exOps) false] :=
  voc_updates_dont_change_file exPcm 0 exOps

end Sf.C04Voc
