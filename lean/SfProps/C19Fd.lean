/-
  C19 on real descriptors — theorems about Sf.FdWorld (SfModel/FdWorld.lean): the process-wide descriptor table (lowest free number on
  open, close frees the number whatever it is) and the descriptor numbers each SF_PRIVATE keeps.  The isolation theorems (`step_isolated`,
  `caller_step_isolated`, `run_isolated`) are about `Rule.resets`, the rule of the code; under `Rule.keeps` (psf_close_rsrc without
  `rsrc.filedes = -1`) the history of `keeps_rule_closes_foreign` closes another handle's descriptor: the model can express the defect.
-/
import SfModel.FdWorld
namespace Sf.C19Fd
open Sf.FdWorld

/-- every number at or above `hi` is free -/
def TInv (t : Table) : Prop := ∀ m, t.hi ≤ m → t.ent m = none

/-- `n` is one of the numbers the handle keeps: its file, its SD2 resource fork or its ALAC spool file -/
def Keeps (h : Handle) (n : Nat) : Prop := h.fileFd = some n ∨ h.rsrcFd = some n ∨ h.tmpFd = some n

/-- every number a handle keeps is open and refers to a file of that handle's slot; every sentinel number refers to that sentinel -/
def WInv (w : World) : Prop :=
  TInv w.tab ∧
  (∀ a h n, w.hs a = some h → Keeps h n → ∃ id, w.tab.ent n = some id ∧ id.owner = some a) ∧
  (∀ k n, w.sent k = some n → w.tab.ent n = some (.sentinel k))

/-- t' still has every entry of t that does not belong to slot i -/
def Foreign (i : Option Nat) (t t' : Table) : Prop := ∀ n id, t.ent n = some id → id.owner ≠ i → t'.ent n = some id

theorem Foreign.refl (i : Option Nat) (t : Table) : Foreign i t t := fun _ _ h _ => h

theorem Foreign.trans {i : Option Nat} {a b c : Table} (h1 : Foreign i a b) (h2 : Foreign i b c) : Foreign i a c :=
  fun n id h hne => h2 n id (h1 n id h hne) hne

theorem lowestFree_free (t : Table) (ht : TInv t) : t.ent t.lowestFree = none := by
  unfold Table.lowestFree
  cases hf : (List.range t.hi).find? (fun n => decide (t.ent n = none)) with
  | none => simpa using ht t.hi (Nat.le_refl _)
  | some n =>
    have := List.find?_some hf
    simpa using this

theorem osOpen_at (t : Table) (id : Ident) (ht : TInv t) (m : Nat) :
    (t.osOpen id).1.ent m = if m = t.lowestFree then some id else t.ent m := by
  have hfree := lowestFree_free t ht
  simp [Table.osOpen, hfree, Table.set]

theorem osOpen_snd (t : Table) (id : Ident) : (t.osOpen id).2 = t.lowestFree := by
  unfold Table.osOpen
  dsimp only
  split <;> rfl

theorem osOpen_new (t : Table) (id : Ident) (ht : TInv t) : (t.osOpen id).1.ent (t.osOpen id).2 = some id := by
  rw [osOpen_at t id ht, osOpen_snd, if_pos rfl]

theorem osOpen_keeps (t : Table) (id : Ident) (ht : TInv t) {n : Nat} {x : Ident} (h : t.ent n = some x) : (t.osOpen id).1.ent n = some x := by
  rw [osOpen_at t id ht, if_neg, h]
  intro e
  rw [e, lowestFree_free t ht] at h
  cases h

theorem osOpen_foreign (i : Option Nat) (t : Table) (id : Ident) (ht : TInv t) : Foreign i t (t.osOpen id).1 :=
  fun _ _ hx _ => osOpen_keeps t id ht hx

theorem set_TInv (t : Table) (n : Nat) (v : Option Ident) (ht : TInv t) : TInv (t.set n v) := by
  intro m hm
  have hm : (if n < t.hi then t.hi else n + 1) ≤ m := hm
  show (if m = n then v else t.ent m) = none
  split at hm <;> rw [if_neg (by omega)] <;> exact ht m (by omega)

theorem osOpen_TInv (t : Table) (id : Ident) (ht : TInv t) : TInv (t.osOpen id).1 := by
  unfold Table.osOpen
  dsimp only
  split
  · exact set_TInv t _ _ ht
  · exact ht

theorem osClose_at (t : Table) (n m : Nat) : (t.osClose n).ent m = if m = n then none else t.ent m := rfl

theorem closeOpt_at (t : Table) (o : Option Nat) (m : Nat) : (t.closeOpt o).ent m = if o = some m then none else t.ent m := by
  cases o with
  | none => rfl
  | some n => simp [Table.closeOpt, osClose_at, eq_comm]

theorem closeOpt_TInv (t : Table) (o : Option Nat) (ht : TInv t) : TInv (t.closeOpt o) := by
  intro m hm
  have hhi : (t.closeOpt o).hi = t.hi := by cases o <;> rfl
  rw [closeOpt_at]
  split
  · rfl
  · exact ht m (hhi ▸ hm)

/-- a descriptor opened and closed again (the resource fork inside sd2_open) leaves the table as it was -/
theorem osOpen_close_at (t : Table) (id : Ident) (ht : TInv t) (m : Nat) :
    ((t.osOpen id).1.closeOpt (some (t.osOpen id).2)).ent m = t.ent m := by
  rw [closeOpt_at, osOpen_at t id ht, osOpen_snd]
  by_cases e : m = t.lowestFree
  · simp [e, lowestFree_free t ht]
  · simp [e, Ne.symm e]

theorem release_TInv (r : Rule) (t : Table) (h : Handle) (ht : TInv t) : TInv (release r t h) := by
  unfold release closeRsrc
  refine closeOpt_TInv _ _ ?_
  split
  · exact closeOpt_TInv _ _ (closeOpt_TInv _ _ ht)
  · exact closeOpt_TInv _ _ ht

/-- psf_close and, for a descriptor the caller lent, the caller's own close: between them they touch only the numbers the handle keeps -/
theorem closeKept_other (r : Rule) (t : Table) (h : Handle) (n : Nat) (hk : ¬ Keeps h n) :
    (if h.ownsFile then release r t h else (release r t h).closeOpt h.fileFd).ent n = t.ent n := by
  simp only [Keeps, not_or] at hk
  unfold release closeRsrc
  cases h.ownsFile <;> simp [closeOpt_at, hk]

theorem closeKept_TInv (r : Rule) (t : Table) (h : Handle) (ht : TInv t) :
    TInv (if h.ownsFile then release r t h else (release r t h).closeOpt h.fileFd) := by
  split
  · exact release_TInv r t h ht
  · exact closeOpt_TInv _ _ (release_TInv r t h ht)

/-- the number (if any) is open and refers to a file of slot i -/
def Live (i : Nat) (t : Table) (o : Option Nat) : Prop := ∀ n, o = some n → ∃ id, t.ent n = some id ∧ id.owner = some i

/-- what is known of a table position while an open is under way -/
def Mine (i : Nat) (t : Table) (o : Option Nat) : Prop := ∀ n, o = some n → t.ent n = none ∨ ∃ id, t.ent n = some id ∧ id.owner = some i

theorem Live.mine {i : Nat} {t : Table} {o : Option Nat} (h : Live i t o) : Mine i t o := fun n hn => Or.inr (h n hn)

theorem closeKept_foreign (r : Rule) (i : Nat) (t : Table) (h : Handle)
    (hk : ∀ n, Keeps h n → ∃ id, t.ent n = some id ∧ id.owner = some i) :
    Foreign (some i) t (if h.ownsFile then release r t h else (release r t h).closeOpt h.fileFd) := by
  intro n id hn hid
  rw [closeKept_other, hn]
  intro k
  obtain ⟨x, hx, ho⟩ := hk n k
  rw [hx] at hn
  cases hn
  exact hid ho

/-- the state of an open under way: table, handle so far, and that everything the handle holds is free or its own -/
structure Mid (i : Nat) (t0 t : Table) (h : Handle) : Prop where
  tinv : TInv t
  foreign : Foreign (some i) t0 t
  file : Mine i t h.fileFd
  rsrc : Mine i t h.rsrcFd
  tmp : Mine i t h.tmpFd
  fileL : Live i t h.fileFd
  tmpL : Live i t h.tmpFd
  rsrcN : h.rsrcFd = none

theorem Mid.of_live {i : Nat} {t0 t : Table} {h : Handle} (tinv : TInv t) (foreign : Foreign (some i) t0 t)
    (fileL : Live i t h.fileFd) (tmpL : Live i t h.tmpFd) (rsrcN : h.rsrcFd = none) : Mid i t0 t h :=
  ⟨tinv, foreign, fileL.mine, fun _ e => (by rw [rsrcN] at e; cases e), tmpL.mine, fileL, tmpL, rsrcN⟩

theorem Mid.keeps {i : Nat} {t0 t : Table} {h : Handle} (m : Mid i t0 t h) {n : Nat} (k : Keeps h n) :
    ∃ id, t.ent n = some id ∧ id.owner = some i := by
  rcases k with k | k | k
  · exact m.fileL n k
  · rw [m.rsrcN] at k
    cases k
  · exact m.tmpL n k

/-- psf_fopen / the caller's open: the audio file's descriptor -/
theorem Mid.start (i : Nat) (t : Table) (ht : TInv t) (own : Bool) :
    Mid i t (t.osOpen (.file i)).1 { fileFd := some (t.osOpen (.file i)).2, ownsFile := own } :=
  .of_live (osOpen_TInv _ _ ht) (osOpen_foreign _ _ _ ht) (fun _ e => by cases e; exact ⟨_, osOpen_new _ _ ht, rfl⟩)
    (fun _ e => by cases e) rfl

/-- sd2_open: the resource fork, opened and closed again -/
theorem Mid.rsrcStage {i : Nat} {t0 t : Table} {h : Handle} (m : Mid i t0 t h) :
    Mid i t0 (closeRsrc .resets (t.osOpen (.rsrc i)).1 { h with rsrcFd := some (t.osOpen (.rsrc i)).2 }).1
      (closeRsrc .resets (t.osOpen (.rsrc i)).1 { h with rsrcFd := some (t.osOpen (.rsrc i)).2 }).2 :=
  .of_live (closeOpt_TInv _ _ (osOpen_TInv _ _ m.tinv))
    (fun n x hx hne => (osOpen_close_at t _ m.tinv n).trans (m.foreign n x hx hne))
    (fun n hn => osOpen_close_at t _ m.tinv n ▸ m.fileL n hn) (fun n hn => osOpen_close_at t _ m.tinv n ▸ m.tmpL n hn) rfl

/-- alac_writer_init: the spool file -/
theorem Mid.tmpStage {i : Nat} {t0 t : Table} {h : Handle} (m : Mid i t0 t h) :
    Mid i t0 (t.osOpen (.tmp i)).1 { h with tmpFd := some (t.osOpen (.tmp i)).2 } :=
  .of_live (osOpen_TInv _ _ m.tinv) (m.foreign.trans (osOpen_foreign _ _ _ m.tinv))
    (fun n hn => (m.fileL n hn).imp fun _ hx => ⟨osOpen_keeps _ _ m.tinv hx.1, hx.2⟩)
    (fun _ e => by cases e; exact ⟨_, osOpen_new _ _ m.tinv, rfl⟩) m.rsrcN

/-- table and handle when psf_open_file reaches its exit: the audio file, then SD2's resource fork, then ALAC's spool file -/
def opened (r : Rule) (t : Table) (a : Nat) (c : OpenCfg) : Table × Handle :=
  let (t, n) := t.osOpen (.file a)
  let h : Handle := { fileFd := some n, ownsFile := c.route != .fd0 }
  let (t, h) := if c.sd2 && c.rsrcFound then closeRsrc r (t.osOpen (.rsrc a)).1 { h with rsrcFd := some (t.osOpen (.rsrc a)).2 } else (t, h)
  if c.alacW then ((t.osOpen (.tmp a)).1, { h with tmpFd := some (t.osOpen (.tmp a)).2 }) else (t, h)

theorem doOpen_eq (r : Rule) (w : World) (a : Nat) (c : OpenCfg) : doOpen r w a c =
    match opened r w.tab a c with
    | (t, h) =>
      if c.fails then { w with tab := if h.ownsFile then release r t h else (release r t h).closeOpt h.fileFd }
      else { (w.setH a (some h)) with tab := t } := rfl

theorem opened_mid (i : Nat) (t : Table) (c : OpenCfg) (ht : TInv t) : Mid i t (opened .resets t i c).1 (opened .resets t i c).2 := by
  have m := Mid.start i t ht (c.route != .fd0)
  unfold opened
  dsimp only
  split <;> split
  · exact m.rsrcStage.tmpStage
  · exact m.tmpStage
  · exact m.rsrcStage
  · exact m

theorem setH_same (w : World) (a : Nat) (h : Option Handle) : (w.setH a h).hs a = h := if_pos rfl

theorem setH_other (w : World) {a b : Nat} (h : Option Handle) (e : b ≠ a) : (w.setH a h).hs b = w.hs b := if_neg e

/-- what a call on slot i may do to the world: entries foreign to i stay, what slot i's handle keeps afterwards is open and its own, the
    handles of the other slots and the caller's sentinels are as before -/
def Local (i : Nat) (w w' : World) : Prop :=
  Foreign (some i) w.tab w'.tab ∧ TInv w'.tab ∧
  (∀ h n, w'.hs i = some h → Keeps h n → ∃ id, w'.tab.ent n = some id ∧ id.owner = some i) ∧
  (∀ b, b ≠ i → w'.hs b = w.hs b) ∧ w'.sent = w.sent

theorem Local.refl {w : World} (hw : WInv w) (i : Nat) : Local i w w :=
  ⟨Foreign.refl _ _, hw.1, fun h n hh => hw.2.1 i h n hh, fun _ _ => rfl, rfl⟩

theorem Local.winv {i : Nat} {w w' : World} (l : Local i w w') (hw : WInv w) : WInv w' := by
  obtain ⟨hf, htn, hnew, hoth, hsent⟩ := l
  obtain ⟨_, hinv, hs⟩ := hw
  refine ⟨htn, ?_, ?_⟩
  · intro b h n hh hk
    by_cases e : b = i
    · subst e
      exact hnew h n hh hk
    · rw [hoth b e] at hh
      obtain ⟨x, hx, ho⟩ := hinv b h n hh hk
      exact ⟨x, hf n x hx (by rw [ho]; exact fun q => e (Option.some.inj q)), ho⟩
  · intro j n hj
    rw [hsent] at hj
    exact hf n _ (hs j n hj) (fun q => nomatch q)

theorem doOpen_local (w : World) (i : Nat) (c : OpenCfg) (ht : TInv w.tab) (hnone : w.hs i = none) :
    Local i w (doOpen .resets w i c) := by
  rw [doOpen_eq]
  have m := opened_mid i w.tab c ht
  generalize opened .resets w.tab i c = s at m ⊢
  obtain ⟨t, h⟩ := s
  dsimp only at m ⊢
  split
  · exact ⟨m.foreign.trans (closeKept_foreign _ _ _ _ fun _ => m.keeps), closeKept_TInv _ _ _ m.tinv,
      fun h n hh => (by rw [show _ = w.hs i from rfl, hnone] at hh; cases hh), fun _ _ => rfl, rfl⟩
  · refine ⟨m.foreign, m.tinv, fun h n hh hk => ?_, fun b hb => setH_other w _ hb, rfl⟩
    cases (setH_same w i _).symm.trans hh
    exact m.keeps hk

theorem doClose_local (w : World) (i : Nat) (hw : WInv w) : Local i w (doClose .resets w i) := by
  unfold doClose
  cases hh : w.hs i with
  | none => exact Local.refl hw i
  | some h =>
    dsimp only
    exact ⟨closeKept_foreign _ _ _ _ fun n => hw.2.1 i h n hh, closeKept_TInv _ _ _ hw.1,
      fun h' n hh' => (by cases (setH_same w i _).symm.trans hh'), fun b hb => setH_other w _ hb, rfl⟩

theorem step_local (w : World) (hw : WInv w) (op : Op) (i : Nat) (hop : op.slot = some i) : Local i w (step .resets w op) := by
  cases op with
  | sentinel k => cases hop
  | unsent k => cases hop
  | io a => exact Local.refl hw i
  | «open» a c =>
    cases hop
    show Local i w (if (w.hs i).isSome then w else doOpen .resets w i c)
    split
    · exact Local.refl hw i
    · exact doOpen_local w i c hw.1 (Option.not_isSome_iff_eq_none.1 ‹_›)
  | close a =>
    cases hop
    exact doClose_local w i hw

/-- A call on handle slot i changes no descriptor that refers to a file of another slot or to a file the library does
    not own: the number is still open and still refers to the same file. -/
theorem step_isolated (w : World) (hw : WInv w) (op : Op) (i : Nat) (hop : op.slot = some i) (n : Nat) (id : Ident)
    (hn : w.tab.ent n = some id) (hid : id.owner ≠ some i) : (step .resets w op).tab.ent n = some id :=
  (step_local w hw op i hop).1 n id hn hid

/-- The caller opening a descriptor of its own, or closing it, changes no other descriptor. -/
theorem caller_step_isolated (w : World) (hw : WInv w) (op : Op) (hop : op.slot = none) (n : Nat) (id : Ident)
    (hn : w.tab.ent n = some id) (hid : ∀ k, op = .unsent k → id ≠ .sentinel k) : (step .resets w op).tab.ent n = some id := by
  cases op with
  | sentinel k => exact osOpen_keeps _ _ hw.1 hn
  | unsent k =>
    show (w.tab.closeOpt (w.sent k)).ent n = some id
    rw [closeOpt_at, if_neg, hn]
    intro hk
    rw [hw.2.2 k n hk] at hn
    cases hn
    exact hid k rfl rfl
  | io a => cases hop
  | «open» a c => cases hop
  | close a => cases hop

theorem step_WInv (w : World) (hw : WInv w) (op : Op) : WInv (step .resets w op) := by
  cases op with
  | io a => exact hw
  | «open» a c => exact (step_local w hw _ a rfl).winv hw
  | close a => exact (step_local w hw _ a rfl).winv hw
  | sentinel k =>
    refine ⟨osOpen_TInv _ _ hw.1, fun a h n hh hk => ?_, fun j n hj => ?_⟩
    · exact (hw.2.1 a h n hh hk).imp fun _ hx => ⟨osOpen_keeps _ _ hw.1 hx.1, hx.2⟩
    · have hj : (if j = k then some (w.tab.osOpen (.sentinel k)).2 else w.sent j) = some n := hj
      split at hj
      · cases hj
        subst j
        exact osOpen_new _ _ hw.1
      · exact osOpen_keeps _ _ hw.1 (hw.2.2 j n hj)
  | unsent k =>
    have kept := caller_step_isolated w hw (.unsent k) rfl
    refine ⟨closeOpt_TInv _ _ hw.1, fun a h n hh hk => ?_, fun j n hj => ?_⟩
    · obtain ⟨x, hx, ho⟩ := hw.2.1 a h n hh hk
      exact ⟨x, kept n x hx (fun _ _ e => by rw [e] at ho; cases ho), ho⟩
    · have hj : (if j = k then none else w.sent j) = some n := hj
      by_cases e : j = k
      · rw [if_pos e] at hj
        cases hj
      · rw [if_neg e] at hj
        exact kept n _ (hw.2.2 j n hj) (fun _ hk' e' => e ((Ident.sentinel.inj e').trans (Op.unsent.inj hk').symm))

theorem run_WInv (w : World) (hw : WInv w) (ops : List Op) : WInv (run .resets w ops) :=
  List.foldlRecOn ops _ hw fun w hw op _ => step_WInv w hw op

theorem start_WInv (taken : List Nat) : WInv (start taken) := by
  refine ⟨?_, (fun _ _ _ h => by cases h), (fun _ _ h => by cases h)⟩
  intro m hm
  show (if taken.contains m then _ else none) = none
  have key : ∀ (l : List Nat) (acc : Nat), (l.foldl (fun a n => max a (n + 1)) acc ≤ m) → acc ≤ m ∧ ∀ x ∈ l, x < m := by
    intro l
    induction l with
    | nil => intro acc h; exact ⟨h, fun _ hx => by cases hx⟩
    | cons y ys ih =>
      intro acc h
      have := ih (max acc (y + 1)) h
      refine ⟨by omega, ?_⟩
      intro x hx
      cases hx with
      | head => omega
      | tail _ hx' => exact this.2 x hx'
  have hlt := (key taken 0 hm).2
  have hnot : ¬ m ∈ taken := fun hmem => by have := hlt m hmem; omega
  simp [hnot]

/-- Along every history from a process start (any descriptors already taken, any number of handle slots and
    sentinels, any interleaving, no bound on the length): a call on slot i leaves every descriptor that refers to a file of another slot,
    or to a file the library does not own, open and referring to the same file. -/
theorem run_isolated (taken : List Nat) (ops : List Op) (op : Op) (i : Nat) (hop : op.slot = some i) (n : Nat) (id : Ident)
    (hn : (run .resets (start taken) ops).tab.ent n = some id) (hid : id.owner ≠ some i) :
    (step .resets (run .resets (start taken) ops) op).tab.ent n = some id :=
  step_isolated _ (run_WInv _ (start_WInv taken) ops) op i hop n id hn hid

def sd2W : OpenCfg := { route := .path, sd2 := true }
def wavFd1 : OpenCfg := { route := .fd1 }
def alacPath : OpenCfg := { route := .path, alacW := true }

/-- psf_close_rsrc without `rsrc.filedes = -1`: an SD2 handle (slot 0) is opened — its resource fork got
    number 4 and was closed again —, a WAV handle (slot 1) is opened and gets number 4; closing the SD2 handle closes number 4 a second
    time: the WAV handle's descriptor is gone.  Under the rule of the code it stays. -/
theorem keeps_rule_closes_foreign :
    (run .keeps (start [0, 1, 2]) [.open 0 sd2W, .open 1 wavFd1]).tab.ent 4 = some (.file 1) ∧
    (run .keeps (start [0, 1, 2]) [.open 0 sd2W, .open 1 wavFd1, .close 0]).tab.ent 4 = none ∧
    (run .resets (start [0, 1, 2]) [.open 0 sd2W, .open 1 wavFd1, .close 0]).tab.ent 4 = some (.file 1) := by decide

-- the hypotheses of run_isolated are met by a non-trivial world: three handles on real descriptors and a sentinel
example : (run .resets (start [0, 1, 2]) [.sentinel 0, .open 0 sd2W, .open 1 wavFd1, .open 2 alacPath]).tab.entries =
    [(0, .sentinel 1000), (1, .sentinel 1001), (2, .sentinel 1002), (3, .sentinel 0), (4, .file 0), (5, .file 1), (6, .file 2), (7, .tmp 2)] := by decide
example : (Ident.file 1).owner ≠ some 0 ∧ (Op.close 0).slot = some 0 := by decide
-- numbers are re-used: after the SD2 handle is closed the next open gets its number
example : (run .resets (start [0, 1, 2]) [.open 0 sd2W, .open 1 wavFd1, .close 0, .open 2 alacPath]).tab.entries =
    [(0, .sentinel 1000), (1, .sentinel 1001), (2, .sentinel 1002), (3, .file 2), (4, .file 1), (5, .tmp 2)] := by decide
-- a failing open leaves the table as it was
example : (run .resets (start [0, 1, 2]) [.open 0 { sd2W with fails := true }]).tab.entries = (start [0, 1, 2]).tab.entries := by decide

end Sf.C19Fd
