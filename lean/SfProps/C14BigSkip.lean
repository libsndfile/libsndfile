/-
  C14 — a header block too big for the header cache (more than 100 KiB in front of the audio: JUNK / bext / unknown chunk, AIFF ANNO
  or SSND offset, AU annotation) is skipped with lseek on the seekable routes and with a read-and-discard loop on a pipe; both land
  on the same byte of the logical file, so the first audio read delivers the same samples.  Model: SfModel/RoutesBigSkip.lean; the
  campaign slice that ties it to header_seek is vlib/bigskip.py (sizes around the cap and around multiples of the 16 KiB buffer).
-/
import SfModel.RoutesBigSkip
import SfProps.C14
namespace Sf.C14BigSkip
open Sf Sf.Routes Sf.RoutesBigSkip Sf.C14

/-- the loop cuts the gap into pieces (any scratch-buffer size p > 0, any fuel ≥ gap): what it issues are reads of sizes that add up to
    the gap -/
theorem junkReadsP_pieces (p : Nat) (hp : 0 < p) : ∀ (fuel gap : Nat), gap ≤ fuel →
    ∃ ks : List Nat, junkReadsP p fuel gap = ks.map (fun (k : Nat) => Op.read 1 (k : Int)) ∧ ks.sum = gap
  | 0, gap, hf => by
    have : gap = 0 := by omega
    subst this; exact ⟨[], rfl, rfl⟩
  | fuel + 1, gap, hf => by
    by_cases hg : gap = 0
    · subst hg; exact ⟨[], rfl, rfl⟩
    · obtain ⟨ks, e, hs⟩ := junkReadsP_pieces p hp fuel (gap - min gap p) (by omega)
      refine ⟨min gap p :: ks, ?_, by simp only [List.sum_cons, hs]; omega⟩
      simp only [junkReadsP] at e ⊢
      simp only [junkLoop, hg, if_false, decBytes, e, List.map_cons]

theorem asked_reads (ks : List Nat) : asked (ks.map fun (k : Nat) => Op.read 1 (k : Int)) = ks.sum := by
  induction ks with
  | nil => rfl
  | cons k ks ih => simp [asked, ih]

/-- **the loop consumes exactly the gap** (any scratch-buffer size p > 0, any fuel ≥ gap): on the logical file it lands `gap`
    bytes further on -/
theorem junk_loop_lands (p : Nat) (hp : 0 < p) : ∀ (fuel gap : Nat) (a : Abs), gap ≤ fuel → a.pos + gap ≤ a.content.length →
    (absRun a (junkReadsP p fuel gap)).2 = { a with pos := a.pos + gap } := by
  intro fuel gap a hf hin
  obtain ⟨ks, e, hs⟩ := junkReadsP_pieces p hp fuel gap hf
  rw [e, absRun_reads ks a (hs ▸ hin), hs]

/-- the bytes the loop asks the stream for add up to the gap: nothing of the audio data is swallowed -/
theorem junk_loop_asks_gap (p : Nat) (hp : 0 < p) : ∀ (fuel gap : Nat), gap ≤ fuel → asked (junkReadsP p fuel gap) = gap := by
  intro fuel gap hf
  obtain ⟨ks, e, hs⟩ := junkReadsP_pieces p hp fuel gap hf
  rw [e, asked_reads, hs]

theorem junkReads_lands (a : Abs) (gap : Nat) (hin : a.pos + gap ≤ a.content.length) :
    (absRun a (junkReads gap)).2 = { a with pos := a.pos + gap } :=
  junk_loop_lands PIECE (by decide) gap gap a (Nat.le_refl _) hin

/-- the seekable branch lands on the same byte -/
theorem seekCur_lands (a : Abs) (gap : Nat) : (absRun a (seekCur gap)).2 = { a with pos := a.pos + gap } :=
  absStep_seek_lands a gap 1 (a.pos + gap) (by decide) (by simp [whBase])

/-- **route independence of the uncached skip**: pipe branch and seek branch reach the same state of the logical file -/
theorem big_skip_branches_agree (a : Abs) (gap : Nat) (hin : a.pos + gap ≤ a.content.length) :
    (absRun a (junkReads gap)).2 = (absRun a (seekCur gap)).2 := by
  rw [junkReads_lands a gap hin, seekCur_lands]

theorem opsPipe_reads : ∀ (ops : List Op) (a : Abs), (∀ op ∈ ops, ∃ b i, op = .read b i) → OpsPipe a ops
  | [], _, _ => trivial
  | op :: ops, a, h => by
    obtain ⟨b, i, rfl⟩ := h _ (List.mem_cons_self ..)
    exact ⟨rfl, opsPipe_reads ops _ (fun o ho => h o (List.mem_cons_of_mem _ ho))⟩

/-- **pipe**: the read-and-discard loop followed by the first audio read observes on a non-seekable descriptor exactly what the
    logical file gives — for every gap and every read size -/
theorem pipe_big_skip_first_audio (sh : Shim) (w : World) (a : Abs) (h : RelPipe sh w a) (gap m : Nat) :
    (run sh w (firstAudioPipe gap m)).1 = (absRun a (firstAudioPipe gap m)).1 := by
  apply pipe_equivalent _ sh w a h
  apply opsPipe_reads
  intro op hop
  simp only [firstAudioPipe, junkReads, junkReadsP, List.mem_append, List.mem_singleton] at hop
  rcases hop with hop | rfl
  · obtain ⟨ks, e, -⟩ := junkReadsP_pieces PIECE (by decide) gap gap (Nat.le_refl _)
    rw [junkReadsP] at e
    rw [e] at hop
    obtain ⟨k, -, rfl⟩ := List.mem_map.mp hop
    exact ⟨_, _, rfl⟩
  · exact ⟨_, _, rfl⟩

/-- 2 header bytes consumed, a gap of 5 bytes, the audio 1, 2, 3, 4; scratch buffer of 2 bytes so that the loop turns three times -/
def demoAbs : Abs := ⟨[9, 9, 7, 7, 7, 7, 7, 1, 2, 3, 4], 2⟩

/-- the loop as the code has it and the loop that subtracts the ITEM count of an `fread (buf, to_skip, 1, f)`: the second one asks
    for 9 bytes where the gap has 5 and the audio read behind it finds nothing left -/
theorem items_not_bytes_swallows_the_audio :
    asked (junkLoop decBytes 2 5 5) = 5 ∧ asked (junkLoop decItems 2 5 5) = 9 ∧
    (absRun demoAbs (junkLoop decBytes 2 5 5 ++ [.read 1 4])).1.getLast? = some (4, [1, 2, 3, 4]) ∧
    (absRun demoAbs (junkLoop decItems 2 5 5 ++ [.read 1 4])).1.getLast? = some (0, []) := by
  refine ⟨by decide, by decide, by decide, by decide⟩

example : cached 44 (CAP - 44) = true ∧ cached 44 (CAP - 43) = false ∧ (junkReads (7 * PIECE + 1)).length = 8 := by
  refine ⟨by decide, by decide, ?_⟩
  decide

end Sf.C14BigSkip
