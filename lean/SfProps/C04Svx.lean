-- properties: C04 C11
/-
  C04 / C11 — the Amiga IFF 8SVX / 16SV container (stand-alone L1 model SfModel/Svx.lean over
  SfModel/SmallSession.lean; helpers SfProofs/SmallSession.lean, SfProofs/Svx.lean).

  Proved here: the closed and header-update images of every session in closed form (every header byte, incl. the NAME
  chunk with the file name), their size fields, independence of the caller's frames value, the 16-bit rate quantiser (saturating
  since the repair of KF-RATE16-WRAP; the wrap of before is `svx_rate_old_rule`).  The reader `parse` is validated against the library by the correspondence campaign
  (vlib/small1.py) and evaluated here on concrete closed files; the universal `parse (closedBytes …)` theorem over the chunk
  loop is `svx_reopens` of SfProps/C04SvxReopen.lean.
-/
import SfProofs.Svx
namespace Sf.C04Svx
open Sf Sf.Small Sf.Svx

/-- the closed bytes of a session: the header of the final lengths (FORM size = file length − 8, VHDR frames,
    BODY size = audio bytes), then the audio; nothing is appended -/
theorem closedBytes_eq (c : Cfg) (hwf : c.wf) (stale : Nat) (ops : List WOp) :
    closedBytes (spec c) stale ops =
      hdr c ((opsData ops).length / c.bw) ((hdrLen c + (opsData ops).length : Nat) : Int) (((opsData ops).length : Nat) : Int) ++ opsData ops := by
  rw [closed_is_snapshot (spec c) (spec_plain c hwf) rfl]
  simpa [spec] using snapshot_calc (spec c) (spec_plain c hwf) rfl stale ops

theorem snapshotBytes_eq (c : Cfg) (hwf : c.wf) (stale : Nat) (ops : List WOp) :
    snapshotBytes (spec c) stale ops = closedBytes (spec c) stale ops :=
  (closed_is_snapshot (spec c) (spec_plain c hwf) rfl stale ops).symm

/-- **svx_size_fields.**  For every session: the file is header + audio; the FORM size field holds the low 32 bits
    of (file length − 8); the last four header bytes (the BODY size) hold the low 32 bits of the audio byte count. -/
theorem svx_size_fields (c : Cfg) (hwf : c.wf) (stale : Nat) (ops : List WOp) (bytes : List Byte) (D : Nat)
    (hbytes : bytes = closedBytes (spec c) stale ops) (hD : D = (opsData ops).length) :
    bytes.length = hdrLen c + D ∧ ofBE (slice bytes 4 4) = (hdrLen c + D - 8) % 2 ^ 32 ∧
    ofBE (slice bytes (hdrLen c - 4) 4) = D % 2 ^ 32 := by
  have hch : c.ch ≤ 1 := by have := (cfg_facts c hwf).2.1; omega
  have hl := hdr_length c hch (D / c.bw) ((hdrLen c + D : Nat) : Int) ((D : Nat) : Int)
  have h98 : 98 ≤ hdrLen c := by unfold hdrLen; omega
  rw [hbytes, closedBytes_eq c hwf, ← hD]
  refine ⟨by rw [List.length_append, hl, hD], ?_, ?_⟩
  · have : ((hdrLen c + D : Nat) : Int) - 8 = ((hdrLen c + D - 8 : Nat) : Int) := by omega
    simp only [hdr, if_neg (by omega : ¬ ((hdrLen c + D : Nat) : Int) < 8), List.append_assoc, slice_skip, slice_head, be32_length,
      show (mk4 "FORM").length = 4 from rfl, Nat.le_refl, Nat.sub_self, ofBE_be32, this, wrapU_natCast]
  · obtain ⟨pre, hpre⟩ : ∃ pre, hdr c (D / c.bw) ((hdrLen c + D : Nat) : Int) ((D : Nat) : Int) = pre ++ be32 ((D : Nat) : Int) := by
      unfold hdr
      rw [if_neg (by omega : ¬ ((D : Nat) : Int) < 0)]
      exact ⟨_, rfl⟩
    have hpl : pre.length = hdrLen c - 4 := by
      have := congrArg List.length hpre
      rw [hl, List.length_append, be32_length] at this
      omega
    rw [hpre, List.append_assoc, slice_field pre _ _ (hdrLen c - 4) 4 hpl.symm (be32_length _).symm, ofBE_be32, wrapU_natCast]

/-- **stale_frames_ignored_svx.**  `svx_open` keeps the caller's frames value in the first header it writes; every
    header update and `svx_close` recompute it: the closed bytes and every header-update image do not depend on it. -/
theorem stale_frames_ignored_svx (c : Cfg) (hwf : c.wf) (a b : Nat) (ops : List WOp) :
    closedBytes (spec c) a ops = closedBytes (spec c) b ops ∧ snapshotBytes (spec c) a ops = snapshotBytes (spec c) b ops := by
  rw [snapshotBytes_eq c hwf, snapshotBytes_eq c hwf, closedBytes_eq c hwf, closedBytes_eq c hwf]
  exact ⟨rfl, rfl⟩

/-- **svx_snapshot_is_closed_file** (C11).  A header update leaves exactly the bytes `svx_close` would leave at that
    moment (nothing is appended at close): every crash-point image is a closed SVX file of the audio written so far. -/
theorem svx_snapshot_is_closed_file (c : Cfg) (hwf : c.wf) (stale : Nat) (ops : List WOp) :
    snapshotBytes (spec c) stale ops = closedBytes (spec c) stale ops ∧
    ∃ h, h.length = hdrLen c ∧ snapshotBytes (spec c) stale ops = h ++ opsData ops := by
  refine ⟨snapshotBytes_eq c hwf stale ops, _, ?_, by rw [snapshotBytes_eq c hwf, closedBytes_eq c hwf]⟩
  exact hdr_length c (by have := (cfg_facts c hwf).2.1; omega) _ _ _

/-- what C04 asks of a rate rule `q`: every rate a caller may pass produces a file that can be re-opened, and a rate the
    16-bit field can hold is reported exactly -/
def rateFull (q : Nat → Option Nat) : Prop := ∀ sr : Nat, 1 ≤ sr → sr ≤ 0x7FFFFFFF → q sr ≠ none ∧ (sr ≤ 65535 → q sr = some sr)

def svx_rate_full : Prop := rateFull rateQ

/-- the class of the repaired defect KF-RATE16-WRAP -/
def KF.rate16Wrap (sr : Nat) : Prop := sr % 65536 = 0
instance (sr : Nat) : Decidable (KF.rate16Wrap sr) := by unfold KF.rate16Wrap; infer_instance

/-- **svx_rate** (full strength since the repair of KF-RATE16-WRAP).  The quantiser saturates: exact up to 65535,
    65535 above; the field is never 0 for a rate ≥ 1, so every closed file can be re-opened. -/
theorem svx_rate (sr : Nat) (h1 : 1 ≤ sr) :
    rateQ sr = some (min sr 65535) ∧ (sr ≤ 65535 → rateQ sr = some sr) ∧ (65536 ≤ sr → rateQ sr = some 65535) ∧ rateQ sr ≠ none := by
  have hf : rateField sr = min sr 65535 := rfl
  have hne : ¬ rateField sr = 0 := by rw [hf]; omega
  unfold rateQ
  rw [if_neg hne, hf]
  refine ⟨rfl, fun h => ?_, fun h => ?_, by simp⟩
  · rw [Nat.min_eq_left h]
  · rw [Nat.min_eq_right (by omega)]

theorem svx_rate_full_holds : svx_rate_full := fun sr h1 _ => ⟨(svx_rate sr h1).2.2.2, (svx_rate sr h1).2.1⟩

example : rateQ 44100 = some 44100 ∧ rateQ 65536 = some 65535 ∧ rateQ 0x7FFFFFFF = some 65535 := by decide

/-- **svx_rate_old_rule.**  Before the repair the field held the low 16 bits: inside the class it was 0 (a file that
    cannot be re-opened), outside the class it was the residue — exact only below 65536. -/
theorem svx_rate_old_rule (sr : Nat) :
    (KF.rate16Wrap sr → rateQOld sr = none) ∧ (¬ KF.rate16Wrap sr → rateQOld sr = some (sr % 65536)) := by
  unfold KF.rate16Wrap rateQOld rateFieldOld
  exact ⟨fun h => by rw [if_pos h], fun h => by rw [if_neg h]⟩

theorem svx_rate_full_old_rule_fails : ¬ rateFull rateQOld := fun h => (h 65536 (by decide) (by decide)).1 (by decide)

theorem svx_rate_field (sr : Nat) : ofBE (be16 (rateField sr : Int)) = min sr 65535 := by
  rw [ofBE_be16, wrapU_natCast]
  have : rateField sr = min sr 65535 := rfl
  rw [this]; omega

def exCfg : Cfg := ⟨0x02, 0, 1, 44100, ascii "s0.iff"⟩
def exVio : Cfg := ⟨0x01, 2, 1, 96000, []⟩
def exWrap : Cfg := ⟨0x01, 0, 1, 131072, []⟩
def exOps : List WOp := [.write [0, 1, 0, 2] false, .update, .write [0, 3] true]

/-- a 16-bit session with a file name: 3 frames; an 8-bit session at 96000 Hz re-opens at 65535 Hz (the field saturates);
    a rate that is a multiple of 65536 — the class of the repaired KF-RATE16-WRAP — re-opens at 65535 Hz as well -/
theorem svx_reopen_examples :
    exCfg.wf ∧ parse (closedBytes (spec exCfg) 99 exOps) = .ok ⟨1, 0x060002, 44100, 3⟩ ∧
    exVio.wf ∧ parse (closedBytes (spec exVio) 0 [.write [1, 2, 3] false]) = .ok ⟨1, 0x060001, 65535, 3⟩ ∧
    parse (snapshotBytes (spec exVio) 5 [.write [1, 2, 3] false]) = .ok ⟨1, 0x060001, 65535, 3⟩ ∧
    exWrap.wf ∧ KF.rate16Wrap exWrap.sr ∧ parse (closedBytes (spec exWrap) 0 [.write [1, 2, 3] false]) = .ok ⟨1, 0x060001, 65535, 3⟩ := by decide +kernel

example : ofBE (slice (closedBytes (spec exCfg) 99 exOps) 4 4) = 104 ∧ (closedBytes (spec exCfg) 99 exOps).length = 112 ∧
    closedBytes (spec exCfg) 0 exOps = closedBytes (spec exCfg) 123456 exOps := by
  have hwf : exCfg.wf := by decide
  have h := svx_size_fields exCfg hwf 99 exOps _ _ rfl rfl
  exact ⟨h.2.1.trans (by decide), h.1.trans (by decide), (stale_frames_ignored_svx exCfg hwf 0 123456 exOps).1⟩

end Sf.C04Svx
