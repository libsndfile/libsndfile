/-
  C02 (cross-type part) — per-sample lemmas that tie the typed conversions of the codec models to the cross-type agreement contract
  `Sf.CrossType` (lean/SfModel/CrossType.lean), which `sfmodel crosstype` evaluates on the implementation's files and transcripts, and
  the meaning of an accepted record.  No theorem here concludes that a whole record built from a model is accepted (`refsAgree`,
  `narrowOk`, `widenOk`, `floatOk`, `switchOk` occur as hypotheses and in `example`s only).

  (R) `pcm_read_agree`: `readAgree` accepts the four reads of one PCM code, any layout, normalisation on or off; VOX, GSM, NMS, G.72x,
      XI DPCM, DWVW, PAF24 and (normalisation on) SDS present their decoded sample exactly as the PCM layout of their width does
      (`*_view` lemmas), hence `cross_type_read_agree_<codec>`; G.711 for any `Law` and code whose table value is a 16-bit number
      (hypothesis `hd`, not discharged for `G711.ulaw` / `alaw` here).
      Not covered: float / double data (`Kind.flt`, `.dbl`), ALAC (`Sf.AlacTyped`), IMA / MS ADPCM (no typed read conversion in the model).
  (W) `cross_type_write_agree_<codec>`: the int x and the short `narrowOf x` become the same codec sample (narrowing: G.72x, NMS, VOX,
      GSM, XI DPCM, 8- / 16-bit PCM), the short s and the int `widenOf s` likewise (widening); G.711 by sign and magnitude, for any
      `Law` under the table hypothesis `g711_tables_top` discharges, with the rule before the repair of KF-G711-INTMIN-SIGN as
      `g711_int_min_sign_old_rule`; `cross_type_write_float_<codec>`: a float / double and its int `floatTwin` become the same sample
      (G.72x, NMS, VOX, GSM, XI DPCM; PAF24 with normalisation off).  IMA / MS ADPCM (`Sf.AdpcmEnc.toCodec`: narrowing is
      `C07Adpcm.adpcm_int_narrowing`), ALAC, DWVW 12 / 16, and the float twin of PCM, DWVW, SDS are left to the campaign.
  (S) meaning of an accepted plan; at the models: the XI DPCM reader keeps one predictor for all caller types, and G.72x read calls
      of mixed types deliver, each by its own conversion, slices of the one decoded stream.
-/
import SfModel.CrossType
import SfModel.NmsFile
import SfModel.GsmFile
import SfModel.DwvwFile
import SfProps.C02Float
import SfProofs.G72xRead
import SfModel.G72xFile
import SfModel.BlockFile
import SfProps.C06G72x
import SfProofs.G711
namespace Sf.C02Cross
open Sf Sf.Float Sf.Block Sf.CrossType Sf.C02

/-! ## the codec descriptors the campaign uses (vlib/crosstype.py `CODEC`) -/

def cdPcm (p : PcmFmt) : Codec := { kind := .int, w := p.w, fw := p.w, noff := 32 - p.w, scale := 2 ^ (p.w - 1) - 1 }
def cd16 : Codec := {}                                                   -- IMA, MS, GSM, VOX, DPCM_16 (scale 0x7FFF)
def cd16p : Codec := { scale := 0x8000 }                                 -- G.72x, NMS
def cd8 : Codec := { w := 8, fw := 8, noff := 24, scale := 0x7F }        -- DPCM_8
def cdWide (w : Nat) : Codec := { w := w, fw := 32, noff := 0, scale := 0x7FFFFFFF }   -- DWVW
def cdPaf24 : Codec := { w := 24, fw := 32, noff := 8, scale := 0x7FFFFFFF, woff := 8 }
def cdG711 : Codec := { kind := .g711 }

def pcm8 : PcmFmt := ⟨8, false, false⟩
def pcm16 : PcmFmt := ⟨16, false, false⟩
def pcm24 : PcmFmt := ⟨24, false, false⟩
def pcm32 : PcmFmt := ⟨32, false, false⟩

/-- one stored PCM code through the four API types (the `Enc.decode` arms of SfModel/Pcm.lean) -/
def pcmView (p : PcmFmt) (cv : Conv) (ty : Ty) (c : Int) : Int :=
  match ty with
  | .s16 => p.toS16 c
  | .s32 => p.toS32 c
  | .f32 => p.toFloat f32 cv.normF c
  | .f64 => p.toFloat f64 cv.normD c

/-! ## (R) read side -/

/-- **(R) for every PCM layout**: "Reading the same stored sample through different API types gives results that agree under these
    rules" — the checker `readAgree` accepts the four reads of ANY in-range code, normalisation on or off (independently for float and
    double), every width, both byte orders, signed and unsigned -/
theorem pcm_read_agree (p : PcmFmt) (hp : PcmFmt.valid p) (cv : Conv) (c : Int) (hc : inRange p.w c) :
    readAgree (cdPcm p) cv (pcmView p cv .s16 c) (pcmView p cv .s32 c) (pcmView p cv .f32 c) (pcmView p cv .f64 c) = true := by
  have h16 := cross_type_agree_int p hp c hc
  have h32 := float_read_of_int_read p hp f32 (Or.inl rfl) cv.normF c hc
  have h64 := float_read_of_int_read p hp f64 (Or.inr rfl) cv.normD c hc
  unfold readAgree cdPcm pcmView fltOfInt
  simp only [h16, h32, h64, beq_self_eq_true, Bool.true_and]

example : PcmFmt.valid ⟨24, false, true⟩ ∧ inRange 24 (-8388607) ∧
    readAgree (cdPcm ⟨24, false, true⟩) { normF := false } (-32768) (-2147483392) 0xCAFFFFFE 0xBFEFFFFFC0000000 = true :=
  ⟨by unfold PcmFmt.valid; decide, by unfold inRange; decide, by decide⟩

/-! ### the block / stream codecs present their decoded sample as the PCM layout of their width does -/

theorem wrapS32_shl16 (v : Int) (hv : inRange 16 v) : wrapS 32 (v * 65536) = v * 65536 := by
  unfold inRange at hv
  have h := wrapS_mul_pow 16 16 (by decide) v
  rw [wrapS_of_range 16 v (by omega) (by omega)] at h
  exact h

theorem pcm16_valid : PcmFmt.valid pcm16 := by unfold PcmFmt.valid pcm16; decide
theorem pcm8_valid : PcmFmt.valid pcm8 := by unfold PcmFmt.valid pcm8; decide
theorem pcm24_valid : PcmFmt.valid pcm24 := by unfold PcmFmt.valid pcm24; decide
theorem pcm32_valid : PcmFmt.valid pcm32 := by unfold PcmFmt.valid pcm32; decide

/-- VOX (vox_adpcm.c); `Gsm.toCaller` is the same function -/
theorem oki_view (cv : Conv) (ty : Ty) (v : Int) (hv : inRange 16 v) : Oki.toCaller cv ty v = pcmView pcm16 cv ty v := by
  cases ty
  · simp [Oki.toCaller, pcmView, pcm16, PcmFmt.toS16, asr]
  · simp only [Oki.toCaller, pcmView, pcm16, PcmFmt.toS32]; rw [show (2 : Int) ^ (32 - 16) = 65536 by norm_num, wrapS32_shl16 v hv]
  · cases h : cv.normF <;> simp [Oki.toCaller, pcmView, pcm16, PcmFmt.toFloat, intTimes, pow2, h]
  · cases h : cv.normD <;> simp [Oki.toCaller, pcmView, pcm16, PcmFmt.toFloat, intTimes, pow2, h]

theorem gsm_view (cv : Conv) (ty : Ty) (v : Int) (hv : inRange 16 v) : Gsm.toCaller cv ty v = pcmView pcm16 cv ty v :=
  oki_view cv ty v hv

/-- NMS ADPCM and XI DPCM_16 hand out their shorts by the same expressions -/
theorem nms_view (cv : Conv) (ty : Ty) (v : Int) (hv : inRange 16 v) : Nms.toCaller cv ty v = pcmView pcm16 cv ty v :=
  oki_view cv ty v hv

/-- G.72x wraps the shifted short (`arith_shift_left`), which changes nothing for a short -/
theorem g72x_view (cv : Conv) (ty : Ty) (v : Int) (hv : inRange 16 v) : G72x.toCaller cv ty v = pcmView pcm16 cv ty v := by
  rw [← oki_view cv ty v hv]
  cases ty <;> [rfl; exact wrapS32_shl16 v hv; rfl; rfl]

theorem dpcm16_view (cv : Conv) (ty : Ty) (v : Int) (hv : inRange 16 v) : Dpcm.out16 cv ty v = pcmView pcm16 cv ty v :=
  oki_view cv ty v hv

theorem dpcm8_view (cv : Conv) (ty : Ty) (v : Int) (hv : inRange 8 v) : Dpcm.out8 cv ty v = pcmView pcm8 cv ty v := by
  cases ty
  · exact (int_msb_rule_read_s16 pcm8 pcm8_valid v hv).symm
  · exact (int_msb_rule_read_s32 pcm8 pcm8_valid v hv).symm
  · cases h : cv.normF <;> simp [Dpcm.out8, pcmView, pcm8, PcmFmt.toFloat, intTimes, pow2, h]
  · cases h : cv.normD <;> simp [Dpcm.out8, pcmView, pcm8, PcmFmt.toFloat, intTimes, pow2, h]

/-- DWVW hands out left-justified 32-bit ints: the 32-bit PCM view of the cell -/
theorem dwvw_view (cv : Conv) (ty : Ty) (v : Int) (hv : inRange 32 v) : Dwvw.toCaller cv ty v = pcmView pcm32 cv ty v := by
  cases ty
  · exact (int_msb_rule_read_s16 pcm32 pcm32_valid v hv).symm
  · exact ((int_msb_rule_read_s32 pcm32 pcm32_valid v hv).trans (Int.mul_one v)).symm
  · cases h : cv.normF <;> simp [Dwvw.toCaller, pcmView, pcm32, PcmFmt.toFloat, intTimes, pow2, h]
  · cases h : cv.normD <;> simp [Dwvw.toCaller, pcmView, pcm32, PcmFmt.toFloat, intTimes, pow2, h]

/-- PAF 24-bit hands out the 24-bit code in the top of an int (`c · 256`): the 24-bit PCM view of the code -/
theorem paf24_view (cv : Conv) (ty : Ty) (c : Int) (hc : inRange 24 c) : Paf24.toCaller cv ty (c * 256) = pcmView pcm24 cv ty c := by
  cases ty
  · rw [pcmView, int_msb_rule_read_s16 pcm24 pcm24_valid c hc]
    show c * 256 / 2 ^ 16 = c / 2 ^ (24 - 16)
    omega
  · exact (int_msb_rule_read_s32 pcm24 pcm24_valid c hc).symm
  · cases h : cv.normF <;> simp [Paf24.toCaller, pcmView, pcm24, PcmFmt.toFloat, intTimes, pow2, h]
  · cases h : cv.normD <;> simp [Paf24.toCaller, pcmView, pcm24, PcmFmt.toFloat, intTimes, pow2, h]

/-- the descriptor only matters through `kind` and `noff` on the read side -/
theorem readAgree_congr (a b : Codec) (hk : a.kind = b.kind) (hn : a.noff = b.noff) (cv : Conv) (s16 s32 f32 f64 : Int) :
    readAgree a cv s16 s32 f32 f64 = readAgree b cv s16 s32 f32 f64 := by
  unfold readAgree; rw [hk, hn]

/-- **(R)** VOX, and with the same expressions GSM 06.10: every decoded short, all four API types, norm on/off -/
theorem cross_type_read_agree_vox (cv : Conv) (v : Int) (hv : inRange 16 v) :
    readAgree cd16 cv (Oki.toCaller cv .s16 v) (Oki.toCaller cv .s32 v) (Oki.toCaller cv .f32 v) (Oki.toCaller cv .f64 v) = true := by
  simp only [oki_view cv _ v hv]
  rw [readAgree_congr cd16 (cdPcm pcm16) rfl rfl]
  exact pcm_read_agree pcm16 pcm16_valid cv v hv

theorem cross_type_read_agree_gsm (cv : Conv) (v : Int) (hv : inRange 16 v) :
    readAgree cd16 cv (Gsm.toCaller cv .s16 v) (Gsm.toCaller cv .s32 v) (Gsm.toCaller cv .f32 v) (Gsm.toCaller cv .f64 v) = true :=
  cross_type_read_agree_vox cv v hv

theorem cross_type_read_agree_nms (cv : Conv) (v : Int) (hv : inRange 16 v) :
    readAgree cd16p cv (Nms.toCaller cv .s16 v) (Nms.toCaller cv .s32 v) (Nms.toCaller cv .f32 v) (Nms.toCaller cv .f64 v) = true := by
  simp only [nms_view cv _ v hv]
  rw [readAgree_congr cd16p (cdPcm pcm16) rfl rfl]
  exact pcm_read_agree pcm16 pcm16_valid cv v hv

theorem cross_type_read_agree_g72x (cv : Conv) (v : Int) (hv : inRange 16 v) :
    readAgree cd16p cv (G72x.toCaller cv .s16 v) (G72x.toCaller cv .s32 v) (G72x.toCaller cv .f32 v) (G72x.toCaller cv .f64 v) = true := by
  simp only [g72x_view cv _ v hv]
  rw [readAgree_congr cd16p (cdPcm pcm16) rfl rfl]
  exact pcm_read_agree pcm16 pcm16_valid cv v hv

theorem cross_type_read_agree_dpcm16 (cv : Conv) (v : Int) (hv : inRange 16 v) :
    readAgree cd16 cv (Dpcm.out16 cv .s16 v) (Dpcm.out16 cv .s32 v) (Dpcm.out16 cv .f32 v) (Dpcm.out16 cv .f64 v) = true := by
  simp only [dpcm16_view cv _ v hv]
  rw [readAgree_congr cd16 (cdPcm pcm16) rfl rfl]
  exact pcm_read_agree pcm16 pcm16_valid cv v hv

theorem cross_type_read_agree_dpcm8 (cv : Conv) (v : Int) (hv : inRange 8 v) :
    readAgree cd8 cv (Dpcm.out8 cv .s16 v) (Dpcm.out8 cv .s32 v) (Dpcm.out8 cv .f32 v) (Dpcm.out8 cv .f64 v) = true := by
  simp only [dpcm8_view cv _ v hv]
  rw [readAgree_congr cd8 (cdPcm pcm8) rfl rfl]
  exact pcm_read_agree pcm8 pcm8_valid cv v hv

theorem cross_type_read_agree_dwvw (w : Nat) (cv : Conv) (v : Int) (hv : inRange 32 v) :
    readAgree (cdWide w) cv (Dwvw.toCaller cv .s16 v) (Dwvw.toCaller cv .s32 v) (Dwvw.toCaller cv .f32 v) (Dwvw.toCaller cv .f64 v) = true := by
  simp only [dwvw_view cv _ v hv]
  rw [readAgree_congr (cdWide w) (cdPcm pcm32) rfl rfl]
  exact pcm_read_agree pcm32 pcm32_valid cv v hv

theorem cross_type_read_agree_paf24 (cv : Conv) (c : Int) (hc : inRange 24 c) :
    readAgree cdPaf24 cv (Paf24.toCaller cv .s16 (c * 256)) (Paf24.toCaller cv .s32 (c * 256)) (Paf24.toCaller cv .f32 (c * 256))
      (Paf24.toCaller cv .f64 (c * 256)) = true := by
  simp only [paf24_view cv _ c hc]
  rw [readAgree_congr cdPaf24 (cdPcm pcm24) rfl rfl]
  exact pcm_read_agree pcm24 pcm24_valid cv c hc

/-- SDS hands out 32-bit ints too; with normalisation on its four reads are the 32-bit PCM view (off: `1 / 2^bitwidth`, the
    campaign's `noff`, checked by the run only) -/
theorem cross_type_read_agree_sds (bw : Nat) (cv : Conv) (hF : cv.normF = true) (hD : cv.normD = true) (v : Int) (hv : inRange 32 v) :
    readAgree { w := 28, fw := 32, noff := bw, scale := 0x80000000, trunc := true } cv
      (Sds.toCaller bw cv .s16 v) (Sds.toCaller bw cv .s32 v) (Sds.toCaller bw cv .f32 v) (Sds.toCaller bw cv .f64 v) = true := by
  have h := pcm_read_agree pcm32 pcm32_valid cv v hv
  unfold readAgree cdPcm pcmView at h
  unfold readAgree
  simp only [hF, hD, if_true] at h ⊢
  have e16 : Sds.toCaller bw cv .s16 v = pcm32.toS16 v := by simp [Sds.toCaller, pcm32, PcmFmt.toS16]
  have e32 : Sds.toCaller bw cv .s32 v = pcm32.toS32 v := by
    unfold inRange at hv; simp only [Sds.toCaller, pcm32, PcmFmt.toS32]; unfold wrapS; simp at *; omega
  have ef : Sds.toCaller bw cv .f32 v = pcm32.toFloat f32 true v := by simp [Sds.toCaller, pcm32, PcmFmt.toFloat, intTimes, pow2, hF]
  have ed : Sds.toCaller bw cv .f64 v = pcm32.toFloat f64 true v := by simp [Sds.toCaller, pcm32, PcmFmt.toFloat, intTimes, pow2, hD]
  rw [e16, e32, ef, ed]
  exact h

/-- G.711: the table value (a 16-bit number) as short, in the top of the int, and scaled by 1/2^15 (or not) as float / double -/
theorem cross_type_read_agree_g711 (l : G711.Law) (cv : Conv) (c : Nat) (hd : inRange 16 (l.dec c)) :
    readAgree cdG711 cv (l.decS16 c) (l.decS32 c) (l.decFloat f32 cv.normF c) (l.decFloat f64 cv.normD c) = true := by
  have h32 : l.decS32 c = l.dec c * 65536 := by unfold G711.Law.decS32; exact wrapS32_shl16 _ hd
  have key : ∀ (f : Fmt) (norm : Bool), (l.decFloat f norm c : Int) = (fltOfInt f (l.dec c * 65536) (if norm then 31 else 16) : Int) := by
    intro f norm
    unfold G711.Law.decFloat fltOfInt Dy.ofInt
    congr 1
    apply ofDy_congr
    · cases norm <;> simp <;> omega
    · cases norm <;> simp only [Dy.mag, Bool.false_eq_true, if_false, if_true] <;> rw [Int.natAbs_mul] <;> push_cast <;> norm_num
      · rw [mul_assoc]; norm_num
      · rw [mul_assoc]; norm_num
  unfold readAgree cdG711
  simp only [h32, key, G711.Law.decS16, Bool.and_eq_true, beq_iff_eq, and_true]
  unfold asr; omega

example : inRange 16 (G711.ulaw.dec 0) ∧ G711.ulaw.decS16 0 = -32124 ∧ G711.ulaw.decS32 0 = -2105278464 ∧
    G711.ulaw.decFloat f32 true 0 = 0xBF7AF800 := ⟨by unfold inRange; decide, by decide, by decide, by decide⟩

/-! ## (W) write side, per sample -/

theorem narrowOf_int (cd : Codec) (h : cd.kind = .int) (x : Int) : narrowOf cd x = asr x 16 := by
  unfold narrowOf; simp [h]

/-- **(W) narrowing**, G.72x: "narrowing truncates" — the int and its top 16 bits become the same codec sample, for every int -/
theorem cross_type_write_agree_g72x (cv : Conv) (x : Int) : G72x.toCodec cv .s32 x = G72x.toCodec cv .s16 (narrowOf cd16p x) := by
  rw [narrowOf_int _ rfl]; rfl

theorem cross_type_write_agree_nms (cv : Conv) (x : Int) : Nms.ofCaller cv .s32 x = Nms.ofCaller cv .s16 (narrowOf cd16p x) := by
  rw [narrowOf_int _ rfl]; rfl

/-- VOX, and with the same expressions GSM 06.10 (`Gsm.ofCaller` is `Oki.ofCaller`) -/
theorem cross_type_write_agree_vox (cv : Conv) (x : Int) : Oki.ofCaller cv .s32 x = Oki.ofCaller cv .s16 (narrowOf cd16 x) := by
  rw [narrowOf_int _ rfl]; rfl

theorem cross_type_write_agree_gsm (cv : Conv) (x : Int) : Gsm.ofCaller cv .s32 x = Gsm.ofCaller cv .s16 (narrowOf cd16 x) :=
  cross_type_write_agree_vox cv x

theorem cross_type_write_agree_dpcm16 (cv : Conv) (x : Int) : Dpcm.cur16 cv .s32 x = Dpcm.cur16 cv .s16 (narrowOf cd16 x) := by
  rw [narrowOf_int _ rfl]; rfl

theorem cross_type_write_agree_dpcm8 (cv : Conv) (x : Int) : Dpcm.cur8 cv .s32 x = Dpcm.cur8 cv .s16 (narrowOf cd8 x) := by
  rw [narrowOf_int _ rfl]
  simp only [Dpcm.cur8, asr]
  congr 1
  omega

/-- 8- and 16-bit PCM, signed or not, either byte order -/
theorem cross_type_write_agree_pcm (p : PcmFmt) (hw : p.w = 8 ∨ p.w = 16) (x : Int) : p.ofS32 x = p.ofS16 (narrowOf (cdPcm p) x) := by
  rw [narrowOf_int _ rfl]
  unfold PcmFmt.ofS32 PcmFmt.ofS16 asr
  rcases hw with h | h <;> simp [h] <;> omega

/-- the stored code is then the same, hence the same bytes -/
theorem cross_type_write_agree_pcm_bytes (p : PcmFmt) (hw : p.w = 8 ∨ p.w = 16) (cv : Conv) (x : Int) :
    (Enc.pcm p).encode cv .s32 x = (Enc.pcm p).encode cv .s16 (narrowOf (cdPcm p) x) := by
  simp only [Enc.encode, cross_type_write_agree_pcm p hw x]

/-- **(W) widening**: "widening zero-pads" — the short and the short in the top of an int become the same sample -/
theorem cross_type_widen_agree_pcm (p : PcmFmt) (hp : PcmFmt.valid p) (s : Int) : p.ofS16 s = p.ofS32 (widenOf s) := by
  unfold PcmFmt.ofS32 PcmFmt.ofS16 widenOf asr
  rcases hp.1 with h | h | h | h <;> simp [h] <;> omega

theorem cross_type_widen_agree_16bit (cv : Conv) (s : Int) :
    G72x.toCodec cv .s16 s = G72x.toCodec cv .s32 (widenOf s) ∧ Nms.ofCaller cv .s16 s = Nms.ofCaller cv .s32 (widenOf s) ∧
    Oki.ofCaller cv .s16 s = Oki.ofCaller cv .s32 (widenOf s) ∧ Dpcm.cur16 cv .s16 s = Dpcm.cur16 cv .s32 (widenOf s) := by
  simp only [G72x.toCodec, Nms.ofCaller, Oki.ofCaller, Dpcm.cur16, widenOf, asr]
  omega

theorem cross_type_widen_agree_wide (bw : Nat) (cv : Conv) (s : Int) (hs : inRange 16 s) :
    Sds.ofCaller bw cv .s16 s = Sds.ofCaller bw cv .s32 (widenOf s) ∧ Paf24.ofCaller cv .s16 s = Paf24.ofCaller cv .s32 (widenOf s) ∧
    Dwvw.toCodec cv .s16 s = Dwvw.toCodec cv .s32 (widenOf s) := by
  refine ⟨rfl, rfl, ?_⟩
  simp only [Dwvw.toCodec, widenOf]
  exact wrapS32_shl16 s hs

example : Dwvw.toCodec {} .s16 (-32768) = -2147483648 ∧ widenOf (-32768) = -2147483648 := by decide


/-! ### (W) floats / doubles vs the int twin -/

/-- the product `normfact * x` rounded to the caller's type depends on the factor's value only -/
theorem mulNf_congr (f : Fmt) (a b : Dy) (hn : a.neg = b.neg) (hm : a.mag = b.mag) (x : Nat) : mulNf f a x = mulNf f b x := by
  unfold mulNf
  congr 1
  apply ofDy_congr
  · simp [Dy.mul, hn]
  · rw [Dy.mul_mag, Dy.mul_mag, hm]

/-- the rounded product placed in the top `w` bits of an int, narrowed again, is its low `w` bits -/
theorem top_of_twin (w : Nat) (hw : 0 < w) (hw32 : w ≤ 32) (r : Int) :
    asr (wrapS 32 (r * 2 ^ (32 - w))) (32 - w) = wrapS w r := by
  have h := wrapS_mul_pow w (32 - w) hw r
  rw [show w + (32 - w) = 32 by omega] at h
  rw [h, asr, Int.mul_ediv_cancel _ (Int.pow_ne_zero (by decide))]

/-- the campaign's factors as the caller's type holds them: 0x8000, 0x7FFF and 0x7F are exact in both formats, so they have
    the sign and magnitude of the factors the codecs use -/
theorem scale_consts (f : Fmt) (hf : f.Std) :
    ((f.toDy (f.ofInt 0x8000)).neg = (pow2 15).neg ∧ (f.toDy (f.ofInt 0x8000)).mag = (pow2 15).mag) ∧
    ((f.toDy (f.ofInt 0x7FFF)).neg = (Dy.ofInt 0x7FFF).neg ∧ (f.toDy (f.ofInt 0x7FFF)).mag = (Dy.ofInt 0x7FFF).mag) ∧
    ((f.toDy (f.ofInt 0x7F)).neg = (Dy.ofInt 0x7F).neg ∧ (f.toDy (f.ofInt 0x7F)).mag = (Dy.ofInt 0x7F).mag) := by
  have a1 : f32.toDy (f32.ofInt 0x8000) = ⟨false, 8388608, -8⟩ := by decide
  have a2 : f64.toDy (f64.ofInt 0x8000) = ⟨false, 4503599627370496, -37⟩ := by decide
  have a3 : f32.toDy (f32.ofInt 0x7FFF) = ⟨false, 16776704, -9⟩ := by decide
  have a4 : f64.toDy (f64.ofInt 0x7FFF) = ⟨false, 9006924376834048, -38⟩ := by decide
  have a5 : f32.toDy (f32.ofInt 0x7F) = ⟨false, 16646144, -17⟩ := by decide
  have a6 : f64.toDy (f64.ofInt 0x7F) = ⟨false, 8936830510563328, -46⟩ := by decide
  rcases hf with rfl | rfl
  · rw [a1, a3, a5]; unfold pow2 Dy.ofInt Dy.mag; norm_num
  · rw [a2, a4, a6]; unfold pow2 Dy.ofInt Dy.mag; norm_num

/-- a codec whose float / double writers store the low `w` bits of `lrint (normfact · x)`, no clipping: that sample is the
    top `w` bits of the int `floatTwin x`.  `nf` is the codec's factor; its value is that of the campaign's `scale` in the
    caller's type (`scale_consts`). -/
theorem float_twin (cd : Codec) (w : Nat) (hw : 0 < w) (hw32 : w ≤ 32) (hfw : cd.fw = w) (hk : cd.trunc = false)
    (hwo : cd.woff = 0) (nf : Dy) (cv : Conv) (ty : Ty)
    (h : ((fmtOf ty).toDy ((fmtOf ty).ofInt cd.scale)).neg = nf.neg ∧ ((fmtOf ty).toDy ((fmtOf ty).ofInt cd.scale)).mag = nf.mag)
    (x : Nat) :
    wrapS w (lrintInt cv.variant (mulNf (fmtOf ty) (if cv.norm ty then nf else pow2 0) x)) = asr (floatTwin cd cv ty x) (32 - w) := by
  unfold floatTwin
  simp only [hk, hfw, hwo, Bool.false_eq_true, if_false, top_of_twin w hw hw32, Nat.cast_zero]
  cases cv.norm ty
  · rfl
  · simp only [if_true]; rw [mulNf_congr _ _ _ h.1 h.2]

/-- **(W) float / double writes**, G.72x (factor 0x8000, no clipping): the float x and the int `floatTwin x` become the same codec
    sample — for EVERY bit pattern, normalisation on or off, both build variants -/
theorem cross_type_write_float_g72x (cv : Conv) (x : Nat) :
    G72x.toCodec cv .f32 x = G72x.toCodec cv .s32 (floatTwin cd16p cv .f32 x) ∧
    G72x.toCodec cv .f64 x = G72x.toCodec cv .s32 (floatTwin cd16p cv .f64 x) :=
  ⟨float_twin cd16p 16 (by decide) (by decide) rfl rfl rfl (pow2 15) cv .f32 (scale_consts f32 (.inl rfl)).1 x,
   float_twin cd16p 16 (by decide) (by decide) rfl rfl rfl (pow2 15) cv .f64 (scale_consts f64 (.inr rfl)).1 x⟩

/-- NMS ADPCM: the same expressions as G.72x -/
theorem cross_type_write_float_nms (cv : Conv) (x : Nat) :
    Nms.ofCaller cv .f32 x = Nms.ofCaller cv .s32 (floatTwin cd16p cv .f32 x) ∧
    Nms.ofCaller cv .f64 x = Nms.ofCaller cv .s32 (floatTwin cd16p cv .f64 x) :=
  cross_type_write_float_g72x cv x

/-- VOX (and GSM 06.10: the same expressions), factor 0x7FFF -/
theorem cross_type_write_float_vox (cv : Conv) (x : Nat) :
    Oki.ofCaller cv .f32 x = Oki.ofCaller cv .s32 (floatTwin cd16 cv .f32 x) ∧
    Oki.ofCaller cv .f64 x = Oki.ofCaller cv .s32 (floatTwin cd16 cv .f64 x) :=
  ⟨float_twin cd16 16 (by decide) (by decide) rfl rfl rfl (Dy.ofInt 0x7FFF) cv .f32 (scale_consts f32 (.inl rfl)).2.1 x,
   float_twin cd16 16 (by decide) (by decide) rfl rfl rfl (Dy.ofInt 0x7FFF) cv .f64 (scale_consts f64 (.inr rfl)).2.1 x⟩

theorem cross_type_write_float_gsm (cv : Conv) (x : Nat) :
    Gsm.ofCaller cv .f32 x = Gsm.ofCaller cv .s32 (floatTwin cd16 cv .f32 x) ∧
    Gsm.ofCaller cv .f64 x = Gsm.ofCaller cv .s32 (floatTwin cd16 cv .f64 x) := cross_type_write_float_vox cv x

theorem cross_type_write_float_dpcm16 (cv : Conv) (x : Nat) :
    Dpcm.cur16 cv .f32 x = Dpcm.cur16 cv .s32 (floatTwin cd16 cv .f32 x) ∧
    Dpcm.cur16 cv .f64 x = Dpcm.cur16 cv .s32 (floatTwin cd16 cv .f64 x) := cross_type_write_float_vox cv x

/-- XI DPCM_8, factor 0x7F: the int path wraps the top byte of the twin once more -/
theorem cross_type_write_float_dpcm8 (cv : Conv) (x : Nat) :
    Dpcm.cur8 cv .f32 x = Dpcm.cur8 cv .s32 (floatTwin cd8 cv .f32 x) ∧
    Dpcm.cur8 cv .f64 x = Dpcm.cur8 cv .s32 (floatTwin cd8 cv .f64 x) := by
  have h32 := float_twin cd8 8 (by decide) (by decide) rfl rfl rfl (Dy.ofInt 0x7F) cv .f32 (scale_consts f32 (.inl rfl)).2.2 x
  have h64 := float_twin cd8 8 (by decide) (by decide) rfl rfl rfl (Dy.ofInt 0x7F) cv .f64 (scale_consts f64 (.inr rfl)).2.2 x
  constructor
  · show _ = wrapS 8 (asr _ 24)
    rw [← h32]; exact (wrapS_wrapS 8 _).symm
  · show _ = wrapS 8 (asr _ 24)
    rw [← h64]; exact (wrapS_wrapS 8 _).symm

/-- halves go to even, 1.0 wraps (no clipping), the twin carries the low 16 bits of the rounded product -/
example : floatTwin cd16p {} .f32 0x3F000000 = 0x40000000 ∧ floatTwin cd16p {} .f32 0x3F800000 = -2147483648 ∧
    floatTwin cd16 {} .f32 0x3F000000 = 0x40000000 ∧ floatTwin cd16 {} .f64 0x3FE0000000000000 = 0x40000000 ∧
    floatTwin cd16 {} .f32 0xBF800000 = -2147418112 ∧ G72x.toCodec {} .f32 0x3F800000 = -32768 := by decide


/-! ### PAF 24-bit with normalisation off ("integers pass through unscaled") -/

/-- the repaired writers: an unnormalised float / double and the int `floatTwin` (the value shifted into the top 24 bits) become
    the same working sample — every bit pattern, both build variants -/
theorem cross_type_write_float_paf24_norm_off (cv : Conv) (hF : cv.normF = false) (hD : cv.normD = false) (x : Nat) :
    Paf24.ofCaller cv .f32 x = lrintInt cv.variant (mulNf f32 (pow2 8) x) ∧
    floatTwin cdPaf24 cv .f32 x = wrapS 32 (Paf24.ofCaller cv .f32 x) ∧
    floatTwin cdPaf24 cv .f64 x = wrapS 32 (Paf24.ofCaller cv .f64 x) := by
  refine ⟨by simp [Paf24.ofCaller, hF], ?_, ?_⟩
  · simp [Paf24.ofCaller, floatTwin, cdPaf24, fmtOf, Conv.norm, hF]
  · simp [Paf24.ofCaller, floatTwin, cdPaf24, fmtOf, Conv.norm, hD]

/-- the rule before the repair of KF-PAF24-NORMOFF-WRITE (`Paf24.ofCallerOld`, factor 1/0x100): the unnormalised 1000.0 became the
    working sample 4, i.e. the stored code 0 — read back (norm off) as 0.0; the repaired rule stores 1000 and reads back 1000.0 -/
theorem paf24_norm_off_write_old_rule :
    Paf24.ofCallerOld { normF := false } .f32 0x447A0000 = 4 ∧ Paf24.toCaller { normF := false } .f32 (asr 4 8 * 256) = 0 ∧
    Paf24.ofCaller { normF := false } .f32 0x447A0000 = 256000 ∧ Paf24.toCaller { normF := false } .f32 (asr 256000 8 * 256) = 0x447A0000 ∧
    floatTwin cdPaf24 { normF := false } .f32 0x447A0000 = 256000 := by decide

/-! ### G.711: sign and magnitude -/

/-- **(W) G.711, its own rule**: the int x and the short of the same sign whose magnitude is `|x| / 2^16` (−1 for a negative x of
    smaller magnitude) get the same code — for EVERY int, INT_MIN included since the repair of KF-G711-INTMIN-SIGN -/
theorem cross_type_write_agree_g711 (l : G711.Law) (hs : l.shift = 2 ∨ l.shift = 4)
    (htop : l.encTab (2 ^ (15 - l.shift) - 1) = l.encTab (2 ^ (15 - l.shift))) (x : Int) (hx : inRange 32 x) :
    l.encS32 x = l.encS16 (narrowOf cdG711 x) := by
  unfold inRange at hx
  by_cases hmin : x = -2147483648
  · -- INT_MIN: the int path looks up INT_MAX >> (16 + shift), the short path 32768 >> shift, one index above
    subst hmin
    rw [show narrowOf cdG711 (-2147483648) = -32768 by decide, G711.Law.encS16_natAbs, if_neg (by decide)]
    unfold G711.Law.encS32 asr
    rw [if_pos rfl]
    rcases hs with h | h <;> rw [h] at htop ⊢ <;> exact congrArg (· % 128) htop
  · -- otherwise the short has the sign of x and the magnitude |x| / 2^16, or 1 where that is 0 and x < 0
    have hn : (narrowOf cdG711 x ≥ 0 ↔ x ≥ 0) ∧
        (narrowOf cdG711 x).natAbs / 2 ^ l.shift = x.natAbs / 2 ^ (16 + l.shift) := by
      have ht : (Int.tdiv x 65536).natAbs = x.natAbs / 65536 := by rw [Int.natAbs_tdiv]; rfl
      have hd : x.natAbs / 2 ^ (16 + l.shift) = x.natAbs / 65536 / 2 ^ l.shift := by
        rw [Nat.pow_add, Nat.div_div_eq_div_mul]
      have h1 : 1 / 2 ^ l.shift = 0 := by rcases hs with h | h <;> rw [h] <;> rfl
      unfold narrowOf cdG711
      simp only [beq_self_eq_true, if_true]
      rw [hd, ← ht]
      by_cases h0 : 0 ≤ x
      · have := Int.tdiv_nonneg h0 (by decide : (0 : Int) ≤ 65536)
        rw [if_neg (by omega)]; exact ⟨by omega, rfl⟩
      · have hle : Int.tdiv x 65536 ≤ 0 := by
          have := Int.tdiv_nonneg (a := -x) (b := 65536) (by omega) (by decide)
          rw [Int.neg_tdiv] at this; omega
        by_cases hz : Int.tdiv x 65536 = 0
        · rw [if_pos ⟨by omega, hz⟩, hz]; exact ⟨by omega, h1.trans (Nat.zero_div _).symm⟩
        · rw [if_neg (fun h => hz h.2)]; exact ⟨by omega, rfl⟩
    rw [G711.Law.encS32_natAbs l x hmin, G711.Law.encS16_natAbs, hn.2]
    by_cases h0 : x ≥ 0
    · rw [if_pos h0, if_pos (hn.1.mpr h0)]
    · rw [if_neg h0, if_neg (fun h => h0 (hn.1.mp h))]

/-- both laws meet the table hypothesis: the top magnitude index and the one above it share a code -/
theorem g711_tables_top : G711.ulaw.encTab (2 ^ (15 - 2) - 1) = G711.ulaw.encTab (2 ^ (15 - 2)) ∧
    G711.alaw.encTab (2 ^ (15 - 4) - 1) = G711.alaw.encTab (2 ^ (15 - 4)) := by decide

/-- the rule before the repair (`Law.encS32Old`): INT_MIN got the code of the most POSITIVE sample, its short twin −32768 the most
    negative one — the full-strength statement failed exactly there -/
theorem g711_int_min_sign_old_rule :
    G711.ulaw.encS32Old (-2147483648) = 0x80 ∧ G711.ulaw.encS16 (narrowOf cdG711 (-2147483648)) = 0x00 ∧
    G711.ulaw.encS32 (-2147483648) = 0x00 ∧
    G711.alaw.encS32Old (-2147483648) = 0xAA ∧ G711.alaw.encS16 (narrowOf cdG711 (-2147483648)) = 0x2A ∧
    G711.alaw.encS32 (-2147483648) = 0x2A ∧
    (∀ x : Int, x ≠ -2147483648 → G711.ulaw.encS32Old x = G711.ulaw.encS32 x ∧ G711.alaw.encS32Old x = G711.alaw.encS32 x) := by
  refine ⟨by decide, by decide, by decide, by decide, by decide, by decide, ?_⟩
  intro x hx
  unfold G711.Law.encS32Old G711.Law.encS32
  simp [hx]

/-! ## (W) meaning of an accepted twin record -/

theorem relAll_meaning (p : Int → Int → Bool) : ∀ (xs ys : List Int), relAll p xs ys = true →
    xs.length = ys.length ∧ ∀ i (h1 : i < xs.length) (h2 : i < ys.length), p xs[i] ys[i] = true
  | [], [], _ => ⟨rfl, fun i h => absurd h (Nat.not_lt_zero i)⟩
  | x :: xs, y :: ys, h => by
    simp only [relAll, Bool.and_eq_true] at h
    obtain ⟨hl, hi⟩ := relAll_meaning p xs ys h.2
    refine ⟨by simp [hl], ?_⟩
    intro i h1 h2
    cases i with
    | zero => exact h.1
    | succ k => exact hi k (by simpa using h1) (by simpa using h2)
  | [], _ :: _, h => by simp [relAll] at h
  | _ :: _, [], h => by simp [relAll] at h

/-- an accepted narrowing record IS the C02 clause on that input: the codec stores no more than 16 bits, every short is the
    narrowed int, and the two closed files are the same file -/
theorem narrow_accept_meaning (cd : Codec) (t : Twin String) (h : narrowOk cd t = true) :
    cd.narrows = true ∧ t.xs.length = t.ys.length ∧
    (∀ i (h1 : i < t.xs.length) (h2 : i < t.ys.length), t.ys[i] = narrowOf cd t.xs[i]) ∧ t.fileX = t.fileY := by
  unfold narrowOk at h
  simp only [Bool.and_eq_true, beq_iff_eq] at h
  obtain ⟨hl, hi⟩ := relAll_meaning _ _ _ h.1.2
  exact ⟨h.1.1, hl, fun i h1 h2 => by simpa using hi i h1 h2, h.2⟩

theorem widen_accept_meaning (cd : Codec) (t : Twin String) (h : widenOk cd t = true) :
    t.xs.length = t.ys.length ∧ (∀ i (h1 : i < t.xs.length) (h2 : i < t.ys.length), t.xs[i] = widenOf t.ys[i]) ∧ t.fileX = t.fileY := by
  unfold widenOk at h
  simp only [Bool.and_eq_true, beq_iff_eq] at h
  obtain ⟨hl, hi⟩ := relAll_meaning _ _ _ h.1.2
  exact ⟨hl, fun i h1 h2 => by simpa using hi i h1 h2, h.2⟩

theorem float_accept_meaning (cd : Codec) (cv : Conv) (ty : Ty) (t : Twin String) (h : floatOk cd cv ty t = true) :
    t.xs.length = t.ys.length ∧ (∀ i (h1 : i < t.xs.length) (h2 : i < t.ys.length), t.ys[i] = floatTwin cd cv ty t.xs[i].toNat) ∧
    t.fileX = t.fileY := by
  unfold floatOk at h
  simp only [Bool.and_eq_true, beq_iff_eq] at h
  obtain ⟨hl, hi⟩ := relAll_meaning _ _ _ h.1.2
  exact ⟨hl, fun i h1 h2 => by simpa using hi i h1 h2, h.2⟩

example : narrowOk cd16 ({ xs := [-32767, 65535, -2147483648], ys := [-1, 0, -32768], fileX := "00", fileY := "00" } : Twin String) = true ∧
    narrowOk cdG711 ({ xs := [-32767, -65537, -2147483648], ys := [-1, -1, -32768], fileX := "7f", fileY := "7f" } : Twin String) = true ∧
    narrowOk cd16 ({ xs := [-32767], ys := [0], fileX := "00", fileY := "00" } : Twin String) = false := by decide

/-! ## (R) / (S) meaning of accepted records -/

theorem firstDisagree_none (cd : Codec) (cv : Conv) (r : Refs) : ∀ (fuel i : Nat), firstDisagree cd cv r fuel i = none →
    ∀ j, i ≤ j → j < i + fuel → readAgree cd cv (r.s16.getD j 0) (r.s32.getD j 0) (r.f32.getD j 0) (r.f64.getD j 0) = true
  | 0, _, _, j, h1, h2 => by omega
  | fuel + 1, i, h, j, h1, h2 => by
    unfold firstDisagree at h
    split at h
    · rename_i hi
      by_cases e : j = i
      · subst e; exact hi
      · exact firstDisagree_none cd cv r fuel (i + 1) h j (by omega) (by omega)
    · cases h

/-- accepted reference streams: one length, and EVERY item agrees across the four API types -/
theorem refs_accept_meaning (cd : Codec) (cv : Conv) (r : Refs) (h : refsAgree cd cv r = true) :
    r.s32.size = r.s16.size ∧ r.f32.size = r.s16.size ∧ r.f64.size = r.s16.size ∧
    ∀ j, j < r.s16.size → readAgree cd cv (r.s16.getD j 0) (r.s32.getD j 0) (r.f32.getD j 0) (r.f64.getD j 0) = true := by
  unfold refsAgree at h
  simp only [Bool.and_eq_true, beq_iff_eq, Option.isNone_iff_eq_none] at h
  exact ⟨h.1.1.1, h.1.1.2, h.1.2, fun j hj => firstDisagree_none cd cv r _ 0 h.2 j (Nat.zero_le _) (by omega)⟩

/-- an accepted read call of ANY type delivered the slice of THAT type's reference stream at the handle's position, whole frames,
    and moved the position by the frames delivered — whatever the types of the calls before it -/
theorem switch_step_meaning (ch : Nat) (refs : Refs) (pos : Nat) (ty : Ty) (n : Nat) (ret : Int) (data : Array Int) (p : Nat)
    (h : stepOk ch refs pos (.read ty n ret data) = some p) :
    0 ≤ ret ∧ ret.toNat ≤ n ∧ ret.toNat % ch = 0 ∧
    data.extract 0 ret.toNat = (refs.get ty).extract (pos * ch) (pos * ch + ret.toNat) ∧ p = pos + ret.toNat / ch := by
  unfold stepOk at h
  simp only at h
  split at h
  · cases h
  · rename_i hc
    split at h
    · rename_i he
      simp only [Option.some.injEq] at h
      refine ⟨by omega, by omega, by omega, by simpa using he, h.symm⟩
    · cases h

theorem switch_accept_cons (ch : Nat) (refs : Refs) (pos k : Nat) (c : Call) (cs : List Call) :
    switchFrom ch refs pos k (c :: cs) = none ↔ ∃ p, stepOk ch refs pos c = some p ∧ switchFrom ch refs p (k + 1) cs = none := by
  rw [switchFrom]
  cases h : stepOk ch refs pos c with
  | none => simp
  | some p => simp

/-- the position a plan leaves, computed from the return values alone (frames delivered, seek answers), never from the types;
    `switch_accept_append`: every call of an accepted plan passes `stepOk` at this position -/
def posAfter (ch : Nat) : Nat → List Call → Nat
  | pos, [] => pos
  | pos, .read _ _ ret _ :: cs => posAfter ch (pos + ret.toNat / ch) cs
  | pos, .seek ret :: cs => posAfter ch (if ret < 0 then pos else ret.toNat) cs

theorem switch_accept_append (ch : Nat) (refs : Refs) : ∀ (cs : List Call) (pos k : Nat) (c : Call),
    switchFrom ch refs pos k (cs ++ [c]) = none →
    switchFrom ch refs pos k cs = none ∧ (stepOk ch refs (posAfter ch pos cs) c).isSome = true
  | [], pos, k, c, h => by
    rw [List.nil_append, switch_accept_cons] at h
    obtain ⟨p, hp, _⟩ := h
    exact ⟨rfl, by simp [posAfter, hp]⟩
  | d :: ds, pos, k, c, h => by
    rw [List.cons_append, switch_accept_cons] at h
    obtain ⟨p, hp, hr⟩ := h
    obtain ⟨a, b⟩ := switch_accept_append ch refs ds p (k + 1) c hr
    refine ⟨(switch_accept_cons ch refs pos k d ds).mpr ⟨p, hp, a⟩, ?_⟩
    have hpos : posAfter ch pos (d :: ds) = posAfter ch p ds := by
      cases d with
      | read ty n ret data =>
        obtain ⟨_, _, _, _, e⟩ := switch_step_meaning ch refs pos ty n ret data p hp
        simp [posAfter, e]
      | seek ret =>
        unfold stepOk at hp
        simp only [posAfter]
        by_cases hr0 : ret < 0
        · simp only [hr0, if_true, Option.some.injEq] at hp ⊢; rw [hp]
        · simp only [hr0, if_false, Option.some.injEq] at hp ⊢; rw [hp]
    rw [hpos]; exact b

example : switchOk 1 { s16 := #[1, 2, 3, 4], f32 := #[0x38000000, 0x38800000, 0x38C00000, 0x39000000] }
    [.read .f32 2 2 #[0x38000000, 0x38800000], .read .s16 1 1 #[3], .seek 1, .read .s16 5 3 #[2, 3, 4, 0xA5, 0xA5]] = true ∧
    switchOk 1 { s16 := #[1, 2, 3, 4], f32 := #[0x38000000, 0x38800000, 0x38C00000, 0x39000000] }
    [.read .f32 2 2 #[0x38000000, 0x38800000], .read .s16 1 1 #[768]] = false := by decide

/-! ## (S) at the model: the XI DPCM reader keeps ONE predictor for all caller types -/

/-- the state a read call leaves, and the number of items it delivers, do not depend on the caller's type: the next call — of any
    type — continues from the same predictor.  (The seeded regression C02-xi-dpcm8-float-last broke exactly this in xi.c.) -/
theorem dpcm_read_state_type_independent (h : DpcmR) (c : Conv) (ty ty2 : Ty) (n : Nat) :
    (h.read c ty n).1 = (h.read c ty2 n).1 ∧ (h.read c ty n).2.2 = (h.read c ty2 n).2.2 := by
  unfold DpcmR.read
  by_cases h0 : n = 0
  · simp [h0]
  · by_cases h1 : h.pos ≥ h.frames
    · simp [h0, h1]
    · simp only [h0, h1, if_false]
      unfold Dpcm.read
      cases h.wide <;> simp

/-- what a call of type `ty` delivers is the conversion of the SAME decoded integers any other type would have got -/
theorem dpcm_read_values (h : DpcmR) (c : Conv) (ty : Ty) (n : Nat) (hn : n ≠ 0) (hp : h.pos < h.frames) :
    (h.read c ty n).2.1 = some (
      if h.wide then ((Dpcm.undelta16 h.last16 ((groups 2 (h.rest.take (min n (h.rest.length / 2) * 2))).map fun g => sext 16 (ofLE g))).2).map (Dpcm.out16 c ty)
      else ((Dpcm.undelta8 (wrapS 8 (asr h.last16 8)) ((h.rest.take (min n (h.rest.length / 1) * 1)).map fun b => sext 8 b)).2).map (Dpcm.out8 c ty)) := by
  unfold DpcmR.read
  have h1 : ¬ h.pos ≥ h.frames := by omega
  simp only [hn, h1, if_false]
  unfold Dpcm.read
  cases h.wide <;> simp

example : ((DpcmR.open false [0x10, 0x20, 0xF0]).read {} .f32 2).2.1 = some [0x3E000000, 0x3EC00000] ∧
    (((DpcmR.open false [0x10, 0x20, 0xF0]).read {} .f32 2).1.read {} .s16 1).2.1 = some [0x2000] := by decide


/-! ## (S) at the model: G.721 / G.723 -/

/-- run read requests of any types on one handle; every call's delivery is converted by ITS type:
    (type, position before the call, delivered items) -/
def g72xRun (cv : Conv) : G72x.RHandle → List (Ty × Nat) → List (Ty × Nat × List Int)
  | _, [] => []
  | h, (ty, n) :: rest =>
    (ty, h.pos, (((h.read ty n).2.1).take (h.read ty n).2.2).map (G72x.toCaller cv ty)) :: g72xRun cv (h.read ty n).1 rest

/-- **(S) for G.72x**: whatever the types and sizes of the calls before it, every call delivers the conversion, by its own type, of
    the decoded stream items at the handle's position — the slice of its type's reference stream `stream.map (toCaller cv ty)` -/
theorem cross_type_switch_g72x (cv : Conv) : ∀ (reqs : List (Ty × Nat)) (h : G72x.RHandle), Sf.G72x.Proofs.HInv h →
    ∀ e ∈ g72xRun cv h reqs, e.2.2 = (h.r.slice e.2.1 e.2.2.length).map (G72x.toCaller cv e.1) := by
  intro reqs
  induction reqs with
  | nil => intro h _ e he; simp [g72xRun] at he
  | cons q qs ih =>
    intro h hi e he
    obtain ⟨ty, n⟩ := q
    obtain ⟨h1, h2, _, h4, _, h6⟩ := Sf.G72x.Proofs.read_spec h hi ty n
    simp only [g72xRun, List.mem_cons] at he
    rcases he with rfl | he
    · simp only [List.length_map]
      rw [h1, h2, List.take_left' (Sf.Block.Proofs.slice_length _ _ _), Sf.Block.Proofs.slice_length]
    · have := ih (h.read ty n).1 h6 e he
      rw [h4] at this
      exact this

example : Sf.G72x.Proofs.HInv (G72x.RHandle.open G72x.g721 [0x12, 0x34]) := Sf.C06G72x.g72x_open_inv _ _

end Sf.C02Cross
