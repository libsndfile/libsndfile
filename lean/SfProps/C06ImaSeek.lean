-- properties: C06 C20
/-
  C06 / C20 — `sf_seek` on the IMA ADPCM readers AS WRITTEN (lean/SfModel/ImaSeek.lean: block counter in the C code's own unit,
  one per block for the WAV / W64 layout, `channels` per block for the AIFF layout).  `Cfg` gives the decoded blocks as a
  function `src` of the packet index; the same blocks as a generic `Block.Reader` are `asReader` (SfProofs/ImaSeek.lean), the
  shape of `imaWavReader` about which `C06Block.ima_wav_seek_then_read` speaks (the seek of the generic reader, "load block k / spb").

  * `seek_forgets` / `seek_after_history`: the state a successful or failed seek leaves does not depend on the state it found —
    whatever block was loaded, whatever was read before.  Hence "whenever sf_seek reports success for target frame k the following
    reads deliver exactly frames k, k+1, …": the reads after the seek are the reads a fresh handle makes after the same seek.
  * `seek_lands`: for every channel count, every unit, every target inside the data it is block k / spb with k % spb frames consumed.
  * `read_within`, `read_across`: what the reads after it deliver — the rest of the target block, then the block behind it (the
    file position moved with the seek).
  * `seek_then_read`: the three composed, for every history, target and channel count;
    `read_slice` / `read_partition` / `seek_then_read_stream` (helpers lean/SfProofs/ImaSeek.lean): the same for reads of ANY length — the items
    delivered are the slice of the decoded stream at the position, two calls deliver what one call delivers.
  * `fast_path_unit_one`: the fast path "target block = blockcount − 1" is sound where the counter counts blocks (`unit = 1`);
    `fast_path_aiff_stereo_wrong`: in the AIFF unit it hands out block c for a seek into block 2c + 1 (concrete 2-channel witness) —
    the regression of seeded/C20-aiff-ima-seek-fastpath-stereo is outside what these theorems allow.
-/
import SfProofs.ImaSeek
namespace Sf.ImaSeek

theorem seek_forgets (c : Cfg) (s s' : St) (k : Nat) : seek c s k = seek c s' k := by
  unfold seek decodeBlock
  simp

theorem seek_after_history (c : Cfg) (s : St) (ops : List Op) (k : Nat) : seek c (run c s ops) k = seek c (init c) k :=
  seek_forgets c _ _ k

theorem seek_lands (c : Cfg) (nb : Nat) (h : c.Wf nb) (s : St) (k : Nat) (hk : k / c.spb < nb) :
    seek c s k = some (atBlock c (k / c.spb) (k % c.spb)) := by
  have hu := h.unit_pos
  have hs := h.spb_pos
  have hb := h.blocks
  have h1 : (k / c.spb + 1) * c.unit ≤ nb * c.unit := Nat.mul_le_mul_right _ hk
  by_cases h0 : k = 0
  · subst h0
    simp [seek, decodeBlock, atBlock, hb] at *
    have : ¬ nb * c.unit < c.unit := by
      have : 1 * c.unit ≤ nb * c.unit := Nat.mul_le_mul_right _ hk
      omega
    simp [this]
  · have hkb : ¬ k > c.blocks * c.spb := by
      rw [hb]
      have h2 := (Nat.div_lt_iff_lt_mul hs).mp hk
      have h3 := Nat.mul_le_mul_right c.spb (Nat.le_mul_of_pos_right nb hu)
      omega
    have hd : ¬ (k / c.spb * c.unit + c.unit > c.blocks) := by
      rw [hb]
      have : (k / c.spb + 1) * c.unit = k / c.spb * c.unit + c.unit := by rw [Nat.add_mul, Nat.one_mul]
      omega
    simp [seek, h0, hkb, decodeBlock, hd, atBlock, Nat.add_mul]


/-- a read that stays inside the loaded block: the next `n` items of it -/
theorem read_within (c : Cfg) (b cnt n : Nat) (hc : cnt < c.spb) (hn : 0 < n) (hle : n ≤ (c.spb - cnt) * c.ch) :
    (read c (atBlock c b cnt) n).2 = (((c.src (b * c.unit)).drop (cnt * c.ch)).take n, n) := by
  obtain ⟨m, rfl⟩ : ∃ m, n = m + 1 := ⟨n - 1, by omega⟩
  have hc' : ¬ c.spb ≤ cnt := by omega
  simp [read, readLoop, atBlock, hc', Nat.min_eq_right hle]

/-- a read that crosses the end of the loaded block: its rest, then the head of the NEXT block of the file -/
theorem read_across (c : Cfg) (nb : Nat) (h : c.Wf nb) (b cnt m : Nat) (hc : cnt < c.spb) (hb : b + 2 ≤ nb)
    (hm : 0 < m) (hle : m ≤ c.spb * c.ch) :
    (read c (atBlock c b cnt) ((c.spb - cnt) * c.ch + m)).2 =
      ((c.src (b * c.unit)).drop (cnt * c.ch) ++ (c.src ((b + 1) * c.unit)).take m, (c.spb - cnt) * c.ch + m) := by
  have hk : 0 < (c.spb - cnt) * c.ch := Nat.mul_pos (by omega) h.ch_pos
  have hdrop : ((c.src (b * c.unit)).drop (cnt * c.ch)).length = (c.spb - cnt) * c.ch := by
    rw [List.length_drop, h.len, Nat.sub_mul]
  obtain ⟨fuel, hf⟩ : ∃ fuel, (c.spb - cnt) * c.ch + m + 1 = fuel + 2 := ⟨(c.spb - cnt) * c.ch + m - 1, by omega⟩
  unfold read
  -- the rest of block `b`, the decode of block `b + 1` at the lazy state, `m` items of it
  rw [hf, readLoop_in_block c (fuel + 1) b cnt _ hc (by omega)]
  simp only [Nat.min_eq_left (Nat.le_add_right _ m), Nat.mul_div_cancel _ h.ch_pos, Nat.add_sub_cancel_left,
    show cnt + (c.spb - cnt) = c.spb by omega]
  rw [readLoop_lazy c nb h fuel b m hb (by omega), readLoop_in_block c fuel (b + 1) 0 m h.spb_pos (by omega)]
  simp only [Nat.sub_zero, Nat.zero_mul, List.drop_zero, Nat.min_eq_right hle, Nat.sub_self, readLoop_zero,
    List.take_of_length_le (Nat.le_of_eq hdrop), List.append_nil, Nat.add_zero]


theorem pos_atBlock (c : Cfg) (hu : 0 < c.unit) (b cnt : Nat) : pos c (atBlock c b cnt) = b * c.spb + cnt := by
  simp [pos, atBlock, Nat.mul_div_cancel _ hu]

/-- C06 for the IMA readers as written: after ANY history of reads and seeks on the handle (any loaded block, any channel count, either
    block-counter unit) a seek to frame `k` succeeds, leaves the position `k`, and the read behind it delivers the rest of block `k / spb`
    from frame `k` on followed by the head of the block that follows it IN THE FILE -/
theorem seek_then_read (c : Cfg) (nb : Nat) (h : c.Wf nb) (s : St) (ops : List Op) (k m : Nat)
    (hk : k / c.spb + 2 ≤ nb) (hm : 0 < m) (hle : m ≤ c.spb * c.ch) :
    ∃ s', seek c (run c s ops) k = some s' ∧ pos c s' = k ∧
      (read c s' ((c.spb - k % c.spb) * c.ch + m)).2 =
        ((c.src (k / c.spb * c.unit)).drop (k % c.spb * c.ch) ++ (c.src ((k / c.spb + 1) * c.unit)).take m, (c.spb - k % c.spb) * c.ch + m) := by
  refine ⟨atBlock c (k / c.spb) (k % c.spb), seek_lands c nb h _ k (by omega), ?_, ?_⟩
  · rw [pos_atBlock c h.unit_pos, Nat.mul_comm]; exact Nat.div_add_mod k c.spb
  · exact read_across c nb h _ _ m (Nat.mod_lt _ h.spb_pos) hk hm hle

/-- the fast path "the target block is `blockcount − 1`" is sound where the counter counts whole blocks (WAV / W64 layout) -/
theorem fast_path_unit_one (c : Cfg) (nb : Nat) (h : c.Wf nb) (hu : c.unit = 1) (b cnt k : Nat) (hk : k / c.spb < nb) :
    seekFast c (atBlock c b cnt) k = seek c (atBlock c b cnt) k := by
  unfold seekFast
  by_cases h0 : k = 0
  · simp [h0]
  · by_cases hkb : k > c.blocks * c.spb
    · simp [h0, hkb, seek]
    · simp only [h0, hkb, if_false]
      by_cases hf : k / c.spb + 1 = (atBlock c b cnt).blockcount
      · rw [if_pos hf, seek_lands c nb h _ k hk]
        have : k / c.spb = b := by simp [atBlock, hu] at hf; omega
        simp [atBlock, this]
      · rw [if_neg hf]

/-- a 2-channel AIFF-layout configuration: 4 blocks of 2 frames, block at packet p decodes to [p, p, p, p] -/
def aiffStereo : Cfg := { ch := 2, spb := 2, unit := 2, blocks := 8, src := fun p => [(p : Int), p, p, p] }

theorem aiffStereo_wf : aiffStereo.Wf 4 := ⟨by decide, by decide, by decide, by decide, fun _ => rfl⟩

/-- … and in the AIFF unit (`channels` per block) the same fast path is WRONG: straight after the open (block 0 loaded,
    `blockcount = 2`) a seek to frame 2 = block 1 = 2·0 + 1 keeps block 0's samples (seeded/C20-aiff-ima-seek-fastpath-stereo) -/
theorem fast_path_aiff_stereo_wrong :
    (seekFast aiffStereo (init aiffStereo) 2).map (·.samples) = some [0, 0, 0, 0] ∧
    (seek aiffStereo (init aiffStereo) 2).map (·.samples) = some [2, 2, 2, 2] := by decide

/-- non-vacuity: `seek_then_read` on the stereo AIFF-layout configuration, after a history that read into block 0 and sought around:
    seek to frame 3 (block 1, second frame), read 2 + 3 items -/
example : ∃ s', seek aiffStereo (run aiffStereo (init aiffStereo) [.read 3, .seek 5, .read 1]) 3 = some s' ∧ pos aiffStereo s' = 3 ∧
    (read aiffStereo s' 5).2 = ([2, 2, 4, 4, 4], 5) := by
  have := seek_then_read aiffStereo 4 aiffStereo_wf (init aiffStereo) [.read 3, .seek 5, .read 1] 3 3 (by decide) (by decide) (by decide)
  simpa [aiffStereo] using this

example : seek aiffStereo (run aiffStereo (init aiffStereo) [.read 3]) 2 = seek aiffStereo (init aiffStereo) 2 := seek_after_history _ _ _ _
example : (read aiffStereo (atBlock aiffStereo 1 0) 3).2 = ([2, 2, 2], 3) := by
  have := read_within aiffStereo 1 0 3 (by decide) (by decide) (by decide)
  simpa [aiffStereo] using this

/-- `sf_read_*` for `f` frames at position `p = b·spb + cnt`: the items [p·ch, (p + f)·ch) of the stream -/
theorem read_slice (c : Cfg) (nb : Nat) (h : c.Wf nb) (b cnt f : Nat) (hc : cnt ≤ c.spb) (hb : b < nb) (hle : b * c.spb + cnt + f ≤ nb * c.spb) :
    ∃ b2 cnt2, cnt2 ≤ c.spb ∧ b2 < nb ∧ b2 * c.spb + cnt2 = b * c.spb + cnt + f ∧
      read c (atBlock c b cnt) (f * c.ch) = (atBlock c b2 cnt2, slice c ((b * c.spb + cnt) * c.ch) (f * c.ch), f * c.ch) := by
  have hf : f < f * c.ch + 1 := by
    have := Nat.le_mul_of_pos_right f h.ch_pos
    omega
  obtain ⟨b2, cnt2, d, t, h1, h2, e1, e2⟩ := readLoop_asReader c nb h (f * c.ch + 1) b cnt (f * c.ch) hc hb
  obtain ⟨st', e3, _, hp⟩ := Block.Proofs.readLoop_spec (asReader c nb) ⟨h.spb_pos, h.ch_pos, fun _ => h.len _⟩ _
    ⟨b, cnt, c.src (b * c.unit)⟩ f ⟨rfl, hc⟩ hf hle
  cases e1.symm.trans e3
  exact ⟨b2, cnt2, h1, h2, hp, by rw [read, e2, slice_asReader]; rfl⟩

/-- C06, partition: two calls of `f1` and `f2` frames deliver what one call of `f1 + f2` frames delivers (and, by `read_slice`, whatever
    follows depends on the position reached only) -/
theorem read_partition (c : Cfg) (nb : Nat) (h : c.Wf nb) (b cnt f1 f2 : Nat) (hc : cnt ≤ c.spb) (hb : b < nb)
    (hle : b * c.spb + cnt + (f1 + f2) ≤ nb * c.spb) :
    (read c (atBlock c b cnt) (f1 * c.ch)).2.1 ++ (read c (read c (atBlock c b cnt) (f1 * c.ch)).1 (f2 * c.ch)).2.1 =
      (read c (atBlock c b cnt) ((f1 + f2) * c.ch)).2.1 := by
  obtain ⟨b1, c1, h1, h2, h3, hr1⟩ := read_slice c nb h b cnt f1 hc hb (by omega)
  obtain ⟨b2, c2, _, _, _, hr2⟩ := read_slice c nb h b1 c1 f2 h1 h2 (by omega)
  obtain ⟨b3, c3, _, _, _, hr3⟩ := read_slice c nb h b cnt (f1 + f2) hc hb hle
  simp only [hr1, hr2, hr3]
  have e : (b1 * c.spb + c1) * c.ch = (b * c.spb + cnt) * c.ch + f1 * c.ch := by rw [h3, Nat.add_mul]
  rw [e, ← slice_append, ← Nat.add_mul]

/-- C06 for the IMA readers as written, any length: after ANY history of reads and seeks on the handle, a seek to frame `k` followed by a read of
    `f` frames delivers exactly the frames k, k+1, …, k+f−1 of the stream — for every channel count, either block-counter unit, every target -/
theorem seek_then_read_stream (c : Cfg) (nb : Nat) (h : c.Wf nb) (s : St) (ops : List Op) (k f : Nat)
    (hk : k / c.spb < nb) (hle : k + f ≤ nb * c.spb) :
    ∃ s', seek c (run c s ops) k = some s' ∧ pos c s' = k ∧ (read c s' (f * c.ch)).2 = (slice c (k * c.ch) (f * c.ch), f * c.ch) := by
  have hkm : k / c.spb * c.spb + k % c.spb = k := by rw [Nat.mul_comm]; exact Nat.div_add_mod k c.spb
  refine ⟨atBlock c (k / c.spb) (k % c.spb), seek_lands c nb h _ k hk, ?_, ?_⟩
  · rw [pos_atBlock c h.unit_pos]; exact hkm
  · obtain ⟨b2, c2, _, _, _, hr⟩ := read_slice c nb h (k / c.spb) (k % c.spb) f (Nat.le_of_lt (Nat.mod_lt _ h.spb_pos)) hk (by omega)
    rw [hr, hkm]


/-- non-vacuity of `seek_then_read_stream` / `read_partition`: the stereo AIFF-layout configuration, a read of 5 frames across two block ends -/
example : ∃ s', seek aiffStereo (run aiffStereo (init aiffStereo) [.read 3, .seek 5]) 1 = some s' ∧ pos aiffStereo s' = 1 ∧
    (read aiffStereo s' (5 * 2)).2 = ([0, 0, 2, 2, 2, 2, 4, 4, 4, 4], 10) := by
  obtain ⟨s', h1, h2, h3⟩ := seek_then_read_stream aiffStereo 4 aiffStereo_wf (init aiffStereo) [.read 3, .seek 5] 1 5 (by decide) (by decide)
  exact ⟨s', h1, h2, by rw [show aiffStereo.ch = 2 from rfl] at h3; rw [h3]; decide⟩

/-- a mono WAV-layout configuration: 4 blocks of 3 frames, counter in whole blocks -/
def wavMono : Cfg := { ch := 1, spb := 3, unit := 1, blocks := 4, src := fun p => [(10 * p : Int), 10 * p + 1, 10 * p + 2] }

theorem wavMono_wf : wavMono.Wf 4 := ⟨by decide, by decide, by decide, by decide, fun _ => rfl⟩

/-- non-vacuity of `fast_path_unit_one`: block 1 loaded, a seek to frame 5 (block 1) takes the fast path, a seek to frame 7 (block 2) does not -/
example : seekFast wavMono (atBlock wavMono 1 1) 5 = seek wavMono (atBlock wavMono 1 1) 5 ∧
    (seekFast wavMono (atBlock wavMono 1 1) 5).map (·.samples) = some [10, 11, 12] ∧
    seekFast wavMono (atBlock wavMono 1 1) 7 = seek wavMono (atBlock wavMono 1 1) 7 :=
  ⟨fast_path_unit_one wavMono 4 wavMono_wf rfl 1 1 5 (by decide), by decide, fast_path_unit_one wavMono 4 wavMono_wf rfl 1 1 7 (by decide)⟩

/-- non-vacuity of `read_slice` / `read_partition`: from the lazy state at the end of block 0 (3 of 3 frames consumed), 2 + 5 frames -/
example : (read wavMono (atBlock wavMono 0 3) (2 * wavMono.ch)).2.1 ++
      (read wavMono (read wavMono (atBlock wavMono 0 3) (2 * wavMono.ch)).1 (5 * wavMono.ch)).2.1 = [10, 11, 12, 20, 21, 22, 30] := by
  rw [read_partition wavMono 4 wavMono_wf 0 3 2 5 (by decide) (by decide) (by decide)]
  obtain ⟨b2, c2, _, _, _, hr⟩ := read_slice wavMono 4 wavMono_wf 0 3 (2 + 5) (by decide) (by decide) (by decide)
  rw [hr]; show slice wavMono ((0 * wavMono.spb + 3) * wavMono.ch) ((2 + 5) * wavMono.ch) = _; decide

end Sf.ImaSeek
