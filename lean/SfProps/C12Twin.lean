/-
  C12 — the twin clause on the models: "Setting an item the container cannot store, or too late, is reported as failure or ignored,
  but never alters the audio data or other metadata", for WHOLE histories.  The predicate (Sf.AbsMeta.twinFails) compares a run
  with the run that leaves out the refused calls, the calls made after the audio and those of a kind the container has no place
  for (`SetCall.removed`), the items an ACCEPTED left-out call touched excepted.  Here the refused calls, for the models: a handle
  driven through any list of operations ends in the SAME state as the handle driven through the list without the calls the library
  refuses
  (`twin_run_model` for WAV / WAVEX / RF64 handles, `twin_run_model_x` for AIFF / CAF handles) — hence the same file, the same
  answers of every getter after re-open, the same audio.
-/
import SfProps.C12Order
import SfModel.MetaXState
namespace Sf.C12Twin
open Sf Sf.Meta

def refusedAt (pn pv : List Byte) (h : MetaState) (op : Op) : Bool := !op.isAudio && refused op (step pn pv h op).1

/-- the twin run: the same operations without the calls the library refuses (decided as the run goes) -/
def runTwin (pn pv : List Byte) : MetaState → List Op → MetaState
  | h, [] => h
  | h, op :: ops => if refusedAt pn pv h op then runTwin pn pv h ops else runTwin pn pv (step pn pv h op).2 ops

/-- The model satisfies the twin clause: leaving out every refused call (too late, a kind the container has no
    place for, inconsistent sizes, a full string table) changes NOTHING: the handle ends in the same state, so the closed file,
    the audio and every getter's answer after re-open are the same -/
theorem twin_run_model (pn pv : List Byte) : ∀ (ops : List Op) (h : MetaState), runTwin pn pv h ops = runOps pn pv h ops
  | [], _ => rfl
  | op :: ops, h => by
    unfold runTwin
    simp only [runOps, List.foldl_cons]
    by_cases hr : refusedAt pn pv h op = true
    · simp only [hr, if_true]
      simp only [refusedAt, Bool.and_eq_true, Bool.not_eq_true'] at hr
      rw [step_refused_eq pn pv h op hr.1 hr.2]
      exact twin_run_model pn pv ops h
    · simp only [hr, Bool.false_eq_true, if_false]
      exact twin_run_model pn pv ops _

/-- non-vacuity: bext on an AIFF handle, a cue list and an instrument after the audio are refused and left out by the twin; the
    string and the audio stay -/
example :
    let h0 := MetaState.open .aiff
    let h1 := (step [] [] h0 (.setString 1 (ascii "T"))).2
    let h3 := (step [] [] h1 (.writeAudio [1, 2])).2
    refusedAt [] [] h0 (.setString 1 (ascii "T")) = false ∧ refusedAt [] [] h1 (.setBext [] bextSample 6 614) = true ∧
    refusedAt [] [] h3 (.setCues []) = true ∧ refusedAt [] [] h3 (.setInst instSample) = true ∧
    (runTwin [] [] h0 [.setString 1 (ascii "T"), .setBext [] bextSample 6 614, .writeAudio [1, 2], .setCues [], .setInst instSample]).strings = h3.strings ∧
    (runTwin [] [] h0 [.setString 1 (ascii "T"), .setBext [] bextSample 6 614, .writeAudio [1, 2], .setCues [], .setInst instSample]).cues = none ∧
    (runTwin [] [] h0 [.setString 1 (ascii "T"), .setBext [] bextSample 6 614, .writeAudio [1, 2], .setCues [], .setInst instSample]).audio = [1, 2] := by
  decide +kernel

open Sf.MetaXS Sf.MetaX

def xrefused : XOp → Nat → Bool
  | .setString _ _, r => r != 0
  | .writeAudio _, _ => false
  | _, r => r == 0

/-- SFC_SET_CHANNEL_MAP_INFO answers SF_FALSE for a valid map only when no layout tag exists for it -/
theorem setChannelMap_refused (ch : Nat) (map m : List Nat) (r tag : Nat) (h : setChannelMap ch map = some (r, m, tag)) (hr : r = 0) : tag = 0 := by
  unfold setChannelMap at h
  split at h
  · cases h
  · simp only [Option.some.injEq, Prod.mk.injEq] at h
    obtain ⟨h1, _, h3⟩ := h
    subst hr
    by_cases hf : findTag map ≠ 0
    · simp [hf] at h1
    · simp only [ne_eq, Decidable.not_not] at hf; rw [← h3, hf]

/-- a refused metadata call leaves the WHOLE AIFF / CAF handle as it was (the channel map too, since the repair) -/
theorem xstep_refused_eq (pn pv : List Byte) (h : XState) (op : XOp) (hr : xrefused op (xstep pn pv h op).1 = true) :
    (xstep pn pv h op).2 = h := by
  cases op with
  | writeAudio n => simp [xrefused] at hr
  | setString ty s =>
    simp only [xstep, xstepW, xrefused, bne_iff_ne, ne_eq] at hr ⊢
    have := store_refused_unchanged ⟨.write, h.haveWritten, pn, pv⟩ h.strings ty s hr
    cases h
    simp_all
  | setCues cs => revert hr; simp only [xstep, xstepW]; split <;> simp [xrefused]
  | setInst => revert hr; simp only [xstep, xstepW]; split <;> simp [xrefused]
  | setChmap m =>
    revert hr
    simp only [xstep, xstepW]
    split
    · simp
    · split
      · simp
      · rename_i r mm tag hsc
        intro hr
        simp only [xrefused, beq_iff_eq] at hr
        have ht := setChannelMap_refused h.ch m mm r tag hsc hr
        subst ht
        cases h
        simp [applyChmap]

/-- since the repair ("fix: a refused SFC_SET_CHANNEL_MAP_INFO erased the channel map set before it"), at full strength: on ANY
    AIFF / CAF handle a channel map the call answers SF_FALSE for leaves the handle — the stored map and its layout tag — as it was -/
theorem chmap_refused_keeps_map (pn pv : List Byte) (h : XState) (m : List Nat) (hr : (xstep pn pv h (.setChmap m)).1 = 0) :
    (xstep pn pv h (.setChmap m)).2 = h :=
  xstep_refused_eq pn pv h (.setChmap m) (by simp [xrefused, hr])

def xrunTwin (pn pv : List Byte) : XState → List XOp → XState
  | h, [] => h
  | h, op :: ops => if xrefused op (xstep pn pv h op).1 then xrunTwin pn pv h ops else xrunTwin pn pv (xstep pn pv h op).2 ops

/-- AIFF / CAF: leaving out every refused call changes nothing -/
theorem twin_run_model_x (pn pv : List Byte) : ∀ (ops : List XOp) (h : XState), xrunTwin pn pv h ops = xrun pn pv h ops
  | [], _ => rfl
  | op :: ops, h => by
    unfold xrunTwin
    simp only [xrun, List.foldl_cons]
    by_cases hr : xrefused op (xstep pn pv h op).1 = true
    · simp only [hr, if_true]
      rw [xstep_refused_eq pn pv h op hr]
      exact twin_run_model_x pn pv ops h
    · simp only [hr, Bool.false_eq_true, if_false]
      exact twin_run_model_x pn pv ops _

/-- the rule before the repair of the channel-map command: a refused map DID change the handle — the twin statement failed.
    Witness: stereo CAF, map [2, 3] (front left / right, accepted), then [3, 2] (no layout tag, refused) -/
theorem chmap_refused_erases_old_rule :
    (xreopen (xrunOld [] [] (XState.open .caf 2) [.setChmap [2, 3], .setChmap [3, 2]])).chmap = none ∧
    (xreopen (xrunOld [] [] (XState.open .caf 2) [.setChmap [2, 3]])).chmap = some [2, 3] ∧
    (xstepOld [] [] (xrunOld [] [] (XState.open .caf 2) [.setChmap [2, 3]]) (.setChmap [3, 2])).1 = 0 ∧
    (xreopen (xrun [] [] (XState.open .caf 2) [.setChmap [2, 3], .setChmap [3, 2]])).chmap = some [2, 3] := by decide +kernel

end Sf.C12Twin
