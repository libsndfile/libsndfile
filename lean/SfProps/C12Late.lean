/-
  C12 — the trailing LIST: strings set AFTER the audio on a WAV / WAVEX / RF64 file (wav_write_tailer / rf64_write_tailer put them
  into a LIST/INFO chunk behind the `data` chunk).  `meta_roundtrip_riff_any` is `C12Round.meta_roundtrip_riff` without the
  hypothesis that no string was set late: for EVERY handle state within the limits the re-opened file returns the header's
  strings followed by the trailer's — on RF64 behind an odd number of audio bytes too since the repair of KF-C12-RF64-ODD-PAD
  (before it rf64_read_header did not skip the pad byte and the trailing list was not found: `Sf.Meta.trailerFoundOld`,
  `rf64_odd_late_strings_lost_old_rule`).
-/
import SfProps.C12Round
namespace Sf.C12Late
open Sf Sf.Meta Sf.C12Round

/-- the strings a LIST chunk of that location carries (none when no string has the location: the chunk is not written) -/
def listEntries (h : MetaState) (loc : Nat) : List (Nat × List Byte) :=
  if (h.strings.flags &&& loc) ≠ 0 ∧ locationCount h.strings loc ≠ 0 then entriesOf h.strings loc else []

/-- is the trailing LIST found again?  Always, since the repair of KF-C12-RF64-ODD-PAD (rf64_read_header skips the pad byte behind an
    odd number of audio bytes as wav_read_header does); the rule before the repair is `Sf.Meta.trailerFoundOld` -/
def trailerFound (_h : MetaState) : Bool := true

def normaliseRiffAny (h : MetaState) : Reopened :=
  { normaliseRiff h with
    strings := listEntries h SF_STR_LOCATE_START ++ (if trailerFound h then listEntries h SF_STR_LOCATE_END else []) }

/-- the limits of a RIFF handle with strings at both ends -/
structure WithinRiffAny (period : Nat) (h : MetaState) : Prop where
  early : ∀ e ∈ listEntries h SF_STR_LOCATE_START, infoOk e
  earlyFits : (infoBody (listEntries h SF_STR_LOCATE_START)).length ≤ HEADER_CAP
  late : ∀ e ∈ listEntries h SF_STR_LOCATE_END, infoOk e
  lateFits : (infoBody (listEntries h SF_STR_LOCATE_END)).length ≤ HEADER_CAP
  bext : ∀ b, h.bext = some b → b.wf ∧ b.history.length ≤ 16384
  cart : ∀ c, h.cart = some c → c.wf ∧ c.tag.length ≤ 16384
  cues : ∀ cs, h.cues = some cs → cs.length ≤ MAX_CUES ∧ (∀ c ∈ cs, c.wf) ∧ (cs.map (·.indx)).Nodup
  inst : ∀ i, h.inst = some i → period < 2 ^ 32 ∧ i.loops.length ≤ 16 ∧ ∀ l ∈ i.loops, l.start < 2 ^ 32 ∧ l.stop < 2 ^ 32 ∧ l.count < 2 ^ 32

theorem list_back (h : MetaState) (loc : Nat) (hok : ∀ e ∈ listEntries h loc, infoOk e) (hfit : (infoBody (listEntries h loc)).length ≤ HEADER_CAP) :
    (if (h.strings.flags &&& loc) ≠ 0 ∧ locationCount h.strings loc ≠ 0 then parseInfo (writeStrings h.strings loc) else []) = listEntries h loc := by
  unfold listEntries at hok hfit ⊢
  by_cases hc : (h.strings.flags &&& loc) ≠ 0 ∧ locationCount h.strings loc ≠ 0
  · rw [if_pos hc] at hok hfit
    rw [if_pos hc, if_pos hc, strings_back _ _ hc.2 hok hfit]
  · rw [if_neg hc, if_neg hc]

/-- **meta_roundtrip** for WAV, WAVEX and RF64 with strings set before AND after the audio -/
theorem meta_roundtrip_riff_any (period : Nat) (h : MetaState) (w : WithinRiffAny period h) : reopenNow period h = normaliseRiffAny h := by
  obtain ⟨he, hef, hl, hlf, hbext, hcart, hcues, hinst⟩ := w
  have hs : (reopen period h).strings = listEntries h SF_STR_LOCATE_START ++ listEntries h SF_STR_LOCATE_END := by
    unfold reopen
    rw [list_back h SF_STR_LOCATE_START he hef, list_back h SF_STR_LOCATE_END hl hlf]
  rw [reopenNow_items period h hbext hcart hcues hinst, hs]
  rfl

/-- non-vacuity: a WAV handle with a title set before the audio, a comment set after it and the title replaced after it -/
def lateHandle (c : Container) (audio : List Byte) : MetaState :=
  let pn := ascii "libsndfile"
  let pv := ascii "1.2.2"
  let h1 := (step pn pv (MetaState.open c) (.setString 1 (ascii "Title"))).2
  let h2 := (step pn pv h1 (.setString 4 (ascii "Artist"))).2
  let h3 := (step pn pv h2 (.writeAudio audio)).2
  let h4 := (step pn pv h3 (.setString 5 (ascii "late"))).2
  (step pn pv h4 (.setString 1 (ascii "New"))).2

example : (reopenNow 22675 (lateHandle .wav [1, 2, 3])).strings = [(4, ascii "Artist"), (5, ascii "late"), (1, ascii "New")] ∧
    (reopenNow 22675 (lateHandle .rf64 [1, 2, 3])).strings = [(4, ascii "Artist"), (5, ascii "late"), (1, ascii "New")] ∧
    (reopenNow 22675 (lateHandle .rf64 [1, 2, 3, 4])).strings = [(4, ascii "Artist"), (5, ascii "late"), (1, ascii "New")] := by decide +kernel

/-- the rule before the repair of KF-C12-RF64-ODD-PAD lost the strings set after an ODD number of audio bytes on RF64 (and only there):
    the witness of the finding -/
theorem rf64_odd_late_strings_lost_old_rule :
    trailerFoundOld (lateHandle .rf64 [1, 2, 3]) = false ∧ trailerFoundOld (lateHandle .rf64 [1, 2, 3, 4]) = true ∧
    trailerFoundOld (lateHandle .wav [1, 2, 3]) = true ∧ trailerFound (lateHandle .rf64 [1, 2, 3]) = true := by decide +kernel

example : WithinRiffAny 22675 (lateHandle .wav [1, 2, 3]) := by
  have h1 : listEntries (lateHandle .wav [1, 2, 3]) SF_STR_LOCATE_START = [(4, ascii "Artist")] := by decide +kernel
  have h2 : listEntries (lateHandle .wav [1, 2, 3]) SF_STR_LOCATE_END = [(5, ascii "late"), (1, ascii "New")] := by decide +kernel
  refine ⟨?_, ?_, ?_, ?_, ?_, ?_, ?_, ?_⟩
  · rw [h1]; intro e he
    simp only [List.mem_cons, List.mem_nil_iff, or_false] at he
    subst he; exact ⟨by decide, by decide⟩
  · rw [h1]; decide +kernel
  · rw [h2]; intro e he
    simp only [List.mem_cons, List.mem_nil_iff, or_false] at he
    rcases he with rfl | rfl <;> exact ⟨by decide, by decide⟩
  · rw [h2]; decide +kernel
  · intro b hb; have : (lateHandle .wav [1, 2, 3]).bext = none := by decide +kernel
    rw [this] at hb; cases hb
  · intro c hc; have : (lateHandle .wav [1, 2, 3]).cart = none := by decide +kernel
    rw [this] at hc; cases hc
  · intro cs hcs; have : (lateHandle .wav [1, 2, 3]).cues = none := by decide +kernel
    rw [this] at hcs; cases hcs
  · intro i hi; have : (lateHandle .wav [1, 2, 3]).inst = none := by decide +kernel
    rw [this] at hi; cases hi

end Sf.C12Late
