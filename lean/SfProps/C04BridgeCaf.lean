-- properties: C01 C04 C07 C11
/-
  SfProps.C04BridgeCaf — the Core Audio Format container model (SfModel/Caf.lean; session invariant SfProofs/CafSession.lean,
  parser on the written image SfProofs/CafParse.lean) as a sample-level container `SCont` of the write-side bridge
  (SfProofs/AbsWriteBridgeSample.lean), and its `SLaws`.

  CAF writes a 'peak' chunk into FLOAT / DOUBLE files: the closed bytes are a function of the SAMPLES handed to the write
  calls (per-channel maxima and their frame positions), not of the audio bytes alone.  A sample-level operation becomes
  operations of the CAF session machine (`cafOps`, threading the PEAK table of `Sf.Peak.upd` and the write position): a write
  call sets the auto flag in force and hands over `xs.length / ch` frames of encoded samples together with the PEAK table after
  it; SFC_UPDATE_HEADER_NOW is `.update`.  The guard `cafGuard`: whole frames per call, the reader's 2^31 − 1 guard on the
  audio byte count, and — for the float configurations — what the PEAK theorems ask of a call (`PeakOk`).
  The closed file and the store after a header rewrite are read off the session invariant `Sf.Caf.Inv`, followed along the
  operations (`cafOp_inv`, `cafOps_inv`): its parameters are the audio so far, the frames and the PEAK table.
-/
import SfProofs.AbsWriteBridgeSamplePeak
import SfProps.C04Bridge
import SfProofs.CafSession
import SfProofs.CafParse
namespace Sf.AbsWriteBridge.Sample
open Sf Sf.AbsWrite Sf.AbsWriteBridge Sf.Geometry

/-- the sample encoding CAF installs for a configuration -/
def cafEnc (c : Caf.Cfg) : Enc := C04Bridge.encFor c.codec (!c.little)

/-- a PEAK entry of the handle model as an entry of the CAF model -/
def cafPk (p : Sf.Peak) : Caf.Peak := { value := p.value, position := p.position }

def cafPeaks : Option (List Sf.Peak) → List Caf.Peak
  | none => []
  | some ps => ps.map cafPk

/-- the PEAK table a write call hands to the session machine (`Caf.Op.valid` wants `ch` entries for every codec; the machine
    ignores them for the integer and companded encodings) -/
def cafWritePeaks (c : Caf.Cfg) (pk : Option (List Sf.Peak)) : List Caf.Peak :=
  if Caf.isFloat c.codec then cafPeaks pk else List.replicate c.ch {}

/-- sample-level operations as operations of the CAF session machine; `pk` / `wpos`: PEAK table and write position (in frames)
    before the first of them -/
def cafOps (c : Caf.Cfg) (e : Enc) (ty : Ty) : Option (List Sf.Peak) → Int → List SOp → List Caf.Op
  | _, _, [] => []
  | pk, wpos, .write xs a :: r =>
    .auto a :: .write (xs.length / c.ch) (e.encodeAll {} ty xs) (cafWritePeaks c (Sf.Peak.upd pk e {} c.ch wpos ty xs)) ::
      cafOps c e ty (Sf.Peak.upd pk e {} c.ch wpos ty xs) (wpos + (xs.length : Int) / c.ch) r
  | pk, wpos, .update :: r => .update :: cafOps c e ty pk wpos r

/-- the PEAK table right after open -/
def cafPk0 (c : Caf.Cfg) : Option (List Sf.Peak) := if Caf.isFloat c.codec then some (mkPeaks c.ch) else none

def cafGeom (c : Caf.Cfg) : AbsWrite.Geom := { word := c.endian * 0x10000000 + 0x180000 + c.codec, ch := c.ch, sr := c.sr }

def cafRes : Caf.ParseRes → Small2.ParseRes
  | .ok i => .ok { ch := i.ch, fmt := i.fmtWord, sr := i.sr.toNat, frames := i.frames }
  | .err => .err
  | .unmodelled => .unmodelled

def cafCont (c : Caf.Cfg) : SCont :=
  { g := cafGeom c, enc := cafEnc c, L := Caf.dataOffset c,
    closed := fun ty st ops => (Caf.close c (Caf.run c (Caf.openW c (st : Int)) (cafOps c (cafEnc c) ty (cafPk0 c) 0 ops))).bytes,
    store := fun ty st ops => (Caf.run c (Caf.openW c (st : Int)) (cafOps c (cafEnc c) ty (cafPk0 c) 0 ops)).bytes,
    parse := fun bs => cafRes (Caf.parse bs) }

/-- every write call hands over whole frames -/
def cafWhole (ch : Nat) (ops : List SOp) : Prop :=
  ∀ op ∈ ops, match op with | .write xs _ => xs.length % ch = 0 | .update => True

/-- THE GUARD of CAF: whole frames per write call, the reader's 2^31 − 1 guard on the audio bytes (a condition on the number of
    samples handed over only), and for FLOAT / DOUBLE what the PEAK theorems ask of the calls (not empty, finite values) -/
def cafGuard (c : Caf.Cfg) (ty : Ty) (ops : List SOp) : Prop :=
  cafWhole c.ch ops ∧ (sData ops).length * (cafEnc c).nbytes ≤ 0x7FFFFFFF ∧
    (Caf.isFloat c.codec = true → PeakOk (cafEnc c) c.ch ty ops)

theorem cafCont_parse (c : Caf.Cfg) (bs : List Byte) : (cafCont c).parse bs = cafRes (Caf.parse bs) := rfl

/-- the encodings CAF carries, in either byte order: the sample codec is as wide as the model's `bytewidth`, and the code is one of the
    raw codec codes -/
theorem caf_codec_table : ∀ codec ∈ Caf.codecs, ∀ big : Bool, (C04Bridge.encFor codec big).nbytes = Caf.bytewidth codec ∧
    codec ∈ C04Bridge.rawCodecs := by decide

theorem cafEnc_nbytes {c : Caf.Cfg} (hwf : c.wf) : (cafEnc c).nbytes = Caf.bytewidth c.codec := (caf_codec_table _ hwf.1 _).1

theorem cafEnc_float {c : Caf.Cfg} (hf : Caf.isFloat c.codec = true) : (cafEnc c).isFloatData = true := by
  unfold cafEnc C04Bridge.encFor
  simp only [Caf.isFloat, Bool.or_eq_true, beq_iff_eq] at hf
  rcases hf with h | h <;> rw [h] <;> simp [encOf, Enc.isFloatData]

theorem cafGeom_facts {c : Caf.Cfg} (hwf : c.wf) :
    (cafGeom c).codec = c.codec ∧ (cafGeom c).major = 0x18 ∧ 0 < (cafEnc c).nbytes ∧ (cafEnc c).wf ∧ (cafGeom c).block = 1 ∧
      (cafGeom c).major ≠ 0x04 ∧ ∃ b, encOf .raw (cafGeom c).codec b = some (cafEnc c) :=
  C04Bridge.geom_facts (cafGeom c) c.endian 0x18 c.codec (!c.little) rfl (by decide) (by decide) (caf_codec_table _ hwf.1 true).2 (Or.inl (by decide))

/-- what the translation threads: a float configuration has a table of `ch` entries -/
def cafTableOk (c : Caf.Cfg) (pk : Option (List Sf.Peak)) : Prop :=
  Caf.isFloat c.codec = true → ∃ ps, pk = some ps ∧ ps.length = c.ch

theorem cafTableOk_upd (c : Caf.Cfg) (e : Enc) (ty : Ty) (pk : Option (List Sf.Peak)) (wpos : Int) (xs : List Int) (h : cafTableOk c pk) :
    cafTableOk c (Sf.Peak.upd pk e {} c.ch wpos ty xs) := by
  intro hf
  obtain ⟨ps, rfl, hl⟩ := h hf
  exact peakUpdate_some _ ty xs ps rfl hl

theorem cafWritePeaks_length (c : Caf.Cfg) (pk : Option (List Sf.Peak)) (h : cafTableOk c pk) :
    (cafWritePeaks c pk).length = c.ch := by
  unfold cafWritePeaks
  by_cases hf : Caf.isFloat c.codec = true
  · obtain ⟨ps, rfl, hl⟩ := h hf
    simp [hf, cafPeaks, hl]
  · simp [hf]

theorem caf_run_append (c : Caf.Cfg) (s : Caf.St) (a b : List Caf.Op) :
    Caf.run c (Caf.run c s a) b = Caf.run c s (a ++ b) := by simp [Caf.run, List.foldl_append]

theorem cafOps_append (c : Caf.Cfg) (e : Enc) (ty : Ty) : ∀ (xs ys : List SOp) (pk : Option (List Sf.Peak)) (wpos : Int),
    cafOps c e ty pk wpos (xs ++ ys) =
      cafOps c e ty pk wpos xs ++ cafOps c e ty (peakFrom e c.ch ty pk wpos xs) (wposAfter c.ch wpos xs) ys
  | [], _, _, _ => rfl
  | .write x a :: xs, ys, pk, wpos => by
    simp only [List.cons_append, cafOps, wposAfter, peakFrom_cons_write]
    rw [cafOps_append c e ty xs ys]
  | .update :: xs, ys, pk, wpos => by
    simp only [List.cons_append, cafOps, wposAfter, peakFrom_cons_update]
    rw [cafOps_append c e ty xs ys]

/-- the PEAK table of the CAF machine when the handle's table is `pk`: its entries for FLOAT / DOUBLE, none otherwise -/
def cafTab (c : Caf.Cfg) (pk : Option (List Sf.Peak)) : List Caf.Peak := if Caf.isFloat c.codec then cafPeaks pk else []

/-- the session invariant says so: the handle of a float configuration has a table of `ch` entries -/
theorem cafTableOk_of_inv {c : Caf.Cfg} (hwf : c.wf) {s : Caf.St} {D : List Byte} {w : Nat} {pk : Option (List Sf.Peak)}
    (i : Caf.Inv c s D w (cafTab c pk)) : cafTableOk c pk := by
  intro hf
  have hl := i.pklen hf
  have hch := hwf.2.2.1
  cases pk with
  | none => simp [cafTab, hf, cafPeaks] at hl; omega
  | some ps => exact ⟨ps, rfl, by simpa [cafTab, hf, cafPeaks] using hl⟩

/-- one sample-level operation on a state between calls (`pk`, `wpos`: the handle's PEAK table and write position): the encoded samples are
    appended, the frames counted, the table updated; after a header rewrite (SFC_UPDATE_HEADER_NOW, a write call in auto mode that
    transferred something) the store is header ++ audio -/
theorem cafOp_inv (c : Caf.Cfg) (hwf : c.wf) (ty : Ty) {s : Caf.St} {D : List Byte} {w : Nat} {pk : Option (List Sf.Peak)} (wpos : Int)
    (i : Caf.Inv c s D w (cafTab c pk)) (x : SOp) (hx : Whole c.ch [x])
    (hok : Caf.isFloat c.codec = true → PeakOk (cafEnc c) c.ch ty [x]) :
    let s' := Caf.run c s (cafOps c (cafEnc c) ty pk wpos [x])
    let D' := D ++ (cafEnc c).encodeAll {} ty (sData [x])
    let pk' := peakFrom (cafEnc c) c.ch ty pk wpos [x]
    Caf.Inv c s' D' (w + (sData [x]).length / c.ch) (cafTab c pk') ∧
      ((x = .update ∨ ∃ xs, xs ≠ [] ∧ x = .write xs true) →
        s'.bytes = Caf.hdr c (w + (sData [x]).length / c.ch) (cafTab c pk') ++ D') := by
  have hbw := Caf.wf_bw_pos hwf
  cases x with
  | update =>
    have h := Caf.writeHeader_inv i hbw true
    exact ⟨by simpa [Caf.run, cafOps, Caf.step, sData, Enc.encodeAll, peakFrom_cons_update, peakFrom_nil] using h.1,
      fun _ => by simpa [Caf.run, cafOps, Caf.step, sData, Enc.encodeAll, peakFrom_cons_update, peakFrom_nil] using h.2.1 rfl⟩
  | write xs a =>
    have hmod : xs.length % c.ch = 0 := hx.head
    have hpk1 := cafTableOk_upd c (cafEnc c) ty pk wpos xs (cafTableOk_of_inv hwf i)
    have hv : ((cafEnc c).encodeAll {} ty xs).length = xs.length / c.ch * c.bw :=
      Enc.encodeAll_length_frames _ _ ty xs (cafEnc_nbytes hwf) c.ch hmod
    have hk : Caf.isFloat c.codec = true → xs.length / c.ch ≠ 0 := fun hf h0 => by
      have := (hok hf (ty, xs) (by simp [sCalls])).1
      rw [(frames_eq_zero_iff c.ch xs hmod).1 h0] at this; simp at this
    have hnext : Caf.nextPeaks c (cafTab c pk) (.write (xs.length / c.ch) ((cafEnc c).encodeAll {} ty xs)
        (cafWritePeaks c (Sf.Peak.upd pk (cafEnc c) {} c.ch wpos ty xs))) = cafTab c (Sf.Peak.upd pk (cafEnc c) {} c.ch wpos ty xs) := by
      cases hf : Caf.isFloat c.codec
      · simp [Caf.nextPeaks, cafTab, hf]
      · have := hk hf
        simp [Caf.nextPeaks, cafTab, cafWritePeaks, hf, this]
    have ia : Caf.Inv c (Caf.step c s (.auto a)) D w (cafTab c pk) := by
      simpa [Caf.Op.data, Caf.Op.frames, Caf.nextPeaks] using (Caf.step_inv i hbw (.auto a) trivial).1
    have iw := Caf.step_inv ia hbw (.write (xs.length / c.ch) ((cafEnc c).encodeAll {} ty xs)
      (cafWritePeaks c (Sf.Peak.upd pk (cafEnc c) {} c.ch wpos ty xs))) ⟨hv, cafWritePeaks_length c _ hpk1⟩
    rw [Caf.Op.data_of_valid hv, hnext] at iw
    refine ⟨by simpa [Caf.run, cafOps, Caf.Op.frames, sData, peakFrom_write] using iw.1, ?_⟩
    rintro (h | ⟨ys, hne, h⟩) <;> cases h
    have := iw.2 _ _ _ rfl (fun h0 => hne ((frames_eq_zero_iff c.ch xs hmod).1 h0)) rfl
    simpa [Caf.run, cafOps, sData, peakFrom_write] using this

theorem cafOps_inv (c : Caf.Cfg) (hwf : c.wf) (ty : Ty) : ∀ (ops : List SOp) {s : Caf.St} {D : List Byte} {w : Nat}
    {pk : Option (List Sf.Peak)} (wpos : Int), Caf.Inv c s D w (cafTab c pk) → Whole c.ch ops →
    (Caf.isFloat c.codec = true → PeakOk (cafEnc c) c.ch ty ops) →
    Caf.Inv c (Caf.run c s (cafOps c (cafEnc c) ty pk wpos ops)) (D ++ (cafEnc c).encodeAll {} ty (sData ops))
      (w + (sData ops).length / c.ch) (cafTab c (peakFrom (cafEnc c) c.ch ty pk wpos ops))
  | [], _, _, _, _, _, i, _, _ => by simpa [cafOps, Caf.run, sData, Enc.encodeAll, peakFrom_nil] using i
  | x :: r, _, _, _, _, wpos, i, hw, hok => by
    have hwx : Whole c.ch [x] := Whole.left (a := [x]) hw
    have i1 := (cafOp_inv c hwf ty wpos i x hwx (fun hf => peakOk_prefix _ _ _ [x] r (hok hf))).1
    have h2 := cafOps_inv c hwf ty r (wposAfter c.ch wpos [x]) i1 hw.tail (fun hf => peakOk_suffix _ _ _ [x] r (hok hf))
    rw [caf_run_append, ← cafOps_append c _ ty [x] r, ← peakFrom_append _ _ _ [x] r, List.append_assoc, ← Enc.encodeAll_append,
      ← sData_append, Nat.add_assoc, ← div_add_of_whole _ _ _ hwf.2.2.1 (Whole.sData hwx), ← List.length_append, ← sData_append] at h2
    exact h2

/-- the PEAK table of the closed file: the per-channel maxima and positions of the samples (FLOAT / DOUBLE), none otherwise -/
def cafTable (c : Caf.Cfg) (ty : Ty) (ops : List SOp) : List Caf.Peak := cafTab c (peakFrom (cafEnc c) c.ch ty (cafPk0 c) 0 ops)

/-- **PEAK value and position of the closed file do not depend on the split** -/
theorem cafTable_partition (c : Caf.Cfg) (hwf : c.wf) (ty : Ty) (ops ops' : List SOp)
    (hok : Caf.isFloat c.codec = true → PeakOk (cafEnc c) c.ch ty ops)
    (hok' : Caf.isFloat c.codec = true → PeakOk (cafEnc c) c.ch ty ops') (h : sData ops = sData ops') :
    cafTable c ty ops = cafTable c ty ops' := by
  unfold cafTable cafTab cafPk0
  by_cases hf : Caf.isFloat c.codec = true
  · simp only [hf, if_true]
    exact congrArg _ (peak_partition (cafEnc c) (cafEnc_float hf) c.ch hwf.2.2.1 ty ops ops' (hok hf) (hok' hf) h)
  · simp [hf]

/-- the state after open, seen from the handle's PEAK table -/
theorem caf_open_inv (c : Caf.Cfg) (st : Nat) : Caf.Inv c (Caf.openW c (st : Int)) [] 0 (cafTab c (cafPk0 c)) := by
  have : cafTab c (cafPk0 c) = Caf.initPeaks c := by
    cases hf : Caf.isFloat c.codec <;> simp [cafTab, cafPk0, Caf.initPeaks, hf, cafPeaks, mkPeaks, List.map_replicate, cafPk]
  rw [this]; exact Caf.openW_inv c st

theorem caf_run_inv (c : Caf.Cfg) (hwf : c.wf) (ty : Ty) (st : Nat) (ops : List SOp) (hg : cafGuard c ty ops) :
    Caf.Inv c (Caf.run c (Caf.openW c (st : Int)) (cafOps c (cafEnc c) ty (cafPk0 c) 0 ops)) ((cafEnc c).encodeAll {} ty (sData ops))
      ((sData ops).length / c.ch) (cafTable c ty ops) := by
  have i := cafOps_inv c hwf ty ops 0 (caf_open_inv c st) hg.1 hg.2.2
  rwa [Nat.zero_add, List.nil_append] at i

theorem caf_closed_image (c : Caf.Cfg) (hwf : c.wf) (ty : Ty) (st : Nat) (ops : List SOp) (hg : cafGuard c ty ops) :
    (cafCont c).closed ty st ops =
      Caf.image c ((sData ops).length / c.ch) (cafTable c ty ops) ((cafEnc c).encodeAll {} ty (sData ops)) := by
  -- elaborated on its own first: against the expected type the unifier unfolds `Caf.close` on the projection of `cafCont`
  have h := Caf.close_bytes (caf_run_inv c hwf ty st ops hg)
  exact h

theorem caf_store_hdr (c : Caf.Cfg) (hwf : c.wf) (ty : Ty) (st : Nat) (ops : List SOp) (hg : cafGuard c ty ops)
    (he : EndsInRewrite ops) :
    (cafCont c).store ty st ops =
      Caf.hdr c ((sData ops).length / c.ch) (cafTable c ty ops) ++ (cafEnc c).encodeAll {} ty (sData ops) := by
  obtain ⟨pre, x, rfl, hx⟩ := he
  have hw : Whole c.ch (pre ++ [x]) := hg.1
  have i := cafOps_inv c hwf ty pre 0 (caf_open_inv c st) hw.left (fun hf => peakOk_prefix _ _ _ pre [x] (hg.2.2 hf))
  have h := (cafOp_inv c hwf ty (wposAfter c.ch 0 pre) i x hw.right (fun hf => peakOk_suffix _ _ _ pre [x] (hg.2.2 hf))).2 hx
  show (Caf.run c (Caf.openW c (st : Int)) (cafOps c (cafEnc c) ty (cafPk0 c) 0 (pre ++ [x]))).bytes = _
  rw [cafOps_append, ← caf_run_append, h, cafTable, peakFrom_append, sData_append, Enc.encodeAll_append, List.length_append,
    div_add_of_whole _ _ _ hwf.2.2.1 (Whole.sData hw.left), Nat.zero_add, List.nil_append]

theorem caf_form_parse (c : Caf.Cfg) (hwf : c.wf) (ty : Ty) (xs : List Int) (pk : List Caf.Peak) (tl : List Byte)
    (hmod : xs.length % c.ch = 0) (hsz : xs.length * (cafEnc c).nbytes ≤ 0x7FFFFFFF)
    (hpk : Caf.isFloat c.codec = true → pk.length = c.ch) (htl : tl.length ≤ 1) :
    ∃ i, (cafCont c).parse (Caf.hdr c (xs.length / c.ch) pk ++ (cafEnc c).encodeAll {} ty xs ++ tl) = .ok i ∧
      i.frames = ((cafCont c).enc.encodeAll {} ty xs).length / (cafCont c).bw ∧
      i.ch = (cafCont c).g.ch ∧ i.fmt % 0x10000000 = (cafCont c).g.word % 0x10000000 ∧
      rateOk (cafCont c).g.major (cafCont c).g.sr (i.sr : Int) = true := by
  have hch : 0 < c.ch := hwf.2.2.1
  have hnbw := cafEnc_nbytes hwf
  obtain ⟨_, hmajor, hnb, _⟩ := cafGeom_facts hwf
  have hd : ((cafEnc c).encodeAll {} ty xs).length = xs.length / c.ch * c.bw := Enc.encodeAll_length_frames _ _ ty xs hnbw c.ch hmod
  have hsz2 : xs.length / c.ch * c.bw ≤ 0x7FFFFFFF := by
    rw [← hd, Enc.encodeAll_length_cw]; exact hsz
  have hp := Caf.parse_hdr_tail c hwf (xs.length / c.ch) pk _ tl hpk hd hsz2 htl
  have hx : xs.length = xs.length / c.ch * (cafCont c).g.ch := (Nat.div_mul_cancel (Nat.dvd_of_mod_eq_zero hmod)).symm
  have hp2 : (cafCont c).parse (Caf.hdr c (xs.length / c.ch) pk ++ (cafEnc c).encodeAll {} ty xs ++ tl) =
      .ok { ch := c.ch, fmt := (if c.little then 0x10000000 else 0) + 0x180000 + c.codec, sr := c.sr,
            frames := xs.length / c.ch } := by
    rw [cafCont_parse, hp]
    simp [cafRes]
  refine ⟨_, hp2, ?_, rfl, ?_, ?_⟩
  · exact (frames_of_samples (cafCont c) hnb hch ty xs _ hx).symm
  · show ((if c.little then 0x10000000 else 0) + 0x180000 + c.codec) % 0x10000000 =
      (c.endian * 0x10000000 + 0x180000 + c.codec) % 0x10000000
    have e : (if c.little then 0x10000000 else 0) = (if c.little then 1 else 0) * 0x10000000 := by split <;> rfl
    rw [e]; exact word_mask _ _ _ _
  · show rateOk (cafGeom c).major c.sr _ = true
    rw [hmajor]
    simp [rateOk, rateClass]

theorem caf_slaws (c : Caf.Cfg) (hwf : c.wf) (ty : Ty) : SLaws (cafCont c) ty (cafGuard c ty) := by
  obtain ⟨_, _, hnb, hewf, hblock, hnotRaw, hcodec⟩ := cafGeom_facts hwf
  have htab : ∀ ops, cafGuard c ty ops → Caf.isFloat c.codec = true → (cafTable c ty ops).length = c.ch :=
    fun ops hg => (caf_run_inv c hwf ty 0 ops hg).pklen
  refine { chpos := hwf.2.2.1, nb := hnb, wf := hewf, block := hblock, notRaw := hnotRaw, codec := hcodec,
           closedForm := ?_, closedParse := ?_, closedFn := ?_, storeForm := ?_, storeParse := ?_ }
  · intro st ops hg
    rw [caf_closed_image c hwf ty st ops hg]
    exact ⟨Caf.hdr c _ _, Caf.tail c _, Caf.hdrRaw_length c _ _ (htab ops hg), rfl⟩
  · intro st ops hg
    rw [caf_closed_image c hwf ty st ops hg]
    exact caf_form_parse c hwf ty (sData ops) _ _ (Whole.sData hg.1) hg.2.1 (htab ops hg) (Caf.tail_length_le c _)
  · intro a b ops ops' hg hg' e
    rw [caf_closed_image c hwf ty a ops hg, caf_closed_image c hwf ty b ops' hg',
      cafTable_partition c hwf ty ops ops' hg.2.2 hg'.2.2 e, e]
  · intro st ops hg he
    rw [caf_store_hdr c hwf ty st ops hg he]
    exact ⟨Caf.hdr c ((sData ops).length / c.ch) (cafTable c ty ops), [], Caf.hdrRaw_length c _ _ (htab ops hg),
      (List.append_nil _).symm⟩
  · intro st ops hg he
    rw [caf_store_hdr c hwf ty st ops hg he]
    obtain ⟨i, h1, h2, h3, h4, _⟩ :=
      caf_form_parse c hwf ty (sData ops) _ [] (Whole.sData hg.1) hg.2.1 (htab ops hg) (by simp)
    exact ⟨i, by simpa using h1, h2, h3, h4⟩

/-- the integer and companded configurations: no PEAK chunk, the guard is whole frames and the size guard -/
theorem caf_slaws_pcm (c : Caf.Cfg) (hwf : c.wf) (hnf : Caf.isFloat c.codec = false) (ty : Ty) :
    SLaws (cafCont c) ty (fun ops => cafWhole c.ch ops ∧ (sData ops).length * (cafEnc c).nbytes ≤ 0x7FFFFFFF) :=
  (caf_slaws c hwf ty).mono fun _ hg => ⟨hg.1, hg.2, fun hf => by rw [hnf] at hf; exact absurd hf (by simp)⟩

end Sf.AbsWriteBridge.Sample
