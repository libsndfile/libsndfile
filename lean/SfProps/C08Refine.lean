/-
  C08 — read/write mode keeps independent, correct read and write positions: the REFINEMENT theorem.

  The abstract file of the statement (SfProofs/RdwrSpec.lean):

      structure AbsFile α where frames : List α; rpos : Nat; wpos : Nat
      read k      got = (frames.drop rpos).take k;  rpos += got.length
      write fs    frames = upTo zero frames wpos ++ fs ++ frames.drop (wpos + fs.length);  wpos += fs.length
                  (upTo: the frames in front of wpos, a hole past the end filled with `zero`)
      seek w p o  t = base w p + o  (base: 0 | rpos for SFM_READ, wpos otherwise | frames.length);
                  t < 0: −1, nothing moves;  else t is returned and rpos / wpos / both := t
      truncate n  frames = upTo zero frames n;  rpos = wpos = n
                  (promised only where the route has `ftruncate`; through SF_VIRTUAL_IO the command is a refused
                   call — return value 1, nothing changes — and stands for no abstract operation: `ROp.toAOp`)

  The abstraction map `absOf : H → Store → AbsFile (List Byte)` (SfProofs/RdwrInv.lean) reads the frames off the
  store's data section — one frame = `bw` stored bytes, so the map is independent of the caller's sample type and of
  the conversion settings — and the two positions off the handle.  `zero` is the frame of `bw` zero bytes.
  Values enter through the codec: a write hands over `encodeAll` of the caller's samples, a read returns
  `decodeAll` of the stored frames; with C01's lossless side condition the two cancel (`write_then_read`).
  For the same reason "the abstract run" of a call list is `absRunR` (SfProofs/RdwrRun.lean), not a run over a list of
  abstract operations fixed beforehand: the frames a write hands over depend on the conversion settings in force at
  that call, so `absRunR` carries the concrete handle along and takes each abstract operation from it (`op.toAOp h`).

  `RwInv` (SfProofs/RdwrInv.lean) is the invariant: HInv's sign conditions, `0 ≤ frames`, data offset = the header
  length the container writes, a PEAK table (if any) of one entry per channel in front of the data (`PeakOk`),
  `dataend = 0` (RAW, AU), the store is header region ++ exactly `frames`
  whole frames ++ at most the zero pad byte behind an odd-length WAV data chunk (`TailOk`), and the descriptor position
  agrees with the pointer the last operation used.
  Containers: RAW, AU, WAV as modelled in SfModel/Handle.lean; every sample-granular encoding they offer.
-/
import SfProofs.RdwrCor
import SfProps.C01
import SfProps.C04
namespace Sf.C08Refine
open Sf

/-- a new (empty) file opened SFM_RDWR — RAW, AU or WAV, any encoding — satisfies the invariant; `b` is the flag
    the harness records after the open (does the route support `ftruncate`) -/
theorem RwInv_initial_new (ix : Nat) (s0 : Store) (fmt : Nat) (ch sr : Int) (h : H) (s : Store)
    (ho : openHandle ix s0 .rw fmt ch sr = .ok h s) (he : s0.bytes = []) (b : Bool) :
    RwInv { h with canTruncate := b } s :=
  (RwInv_open_padded ix s0 fmt ch sr h s ho (open_fresh_tight ix s0 fmt ch sr h s ho he).padded).setTruncate b

/-- a pre-populated RAW file of whole frames opened SFM_RDWR satisfies it -/
theorem RwInv_initial_raw (ix : Nat) (s0 : Store) (fmt : Nat) (ch sr : Int) (h : H) (s : Store)
    (ho : openHandle ix s0 .rw fmt ch sr = .ok h s) (hc : h.container = .raw) (hw : s0.bytes.length % h.bw = 0)
    (b : Bool) : RwInv { h with canTruncate := b } s :=
  (RwInv_open_padded ix s0 fmt ch sr h s ho (open_raw_tight ix s0 fmt ch sr h s ho hc hw).padded).setTruncate b

/-- any pre-populated file whose opened handle is "tight" (header of the length the container writes, no PEAK
    chunk, nothing behind the data, whole frames) satisfies it -/
theorem RwInv_initial_tight (ix : Nat) (s0 : Store) (fmt : Nat) (ch sr : Int) (h : H) (s : Store)
    (ho : openHandle ix s0 .rw fmt ch sr = .ok h s) (ht : OpenTight h s) (b : Bool) :
    RwInv { h with canTruncate := b } s :=
  (RwInv_open_padded ix s0 fmt ch sr h s ho ht.padded).setTruncate b

/-- … or "padded": tight up to the single zero pad byte behind an odd-length WAV data chunk -/
theorem RwInv_initial_padded (ix : Nat) (s0 : Store) (fmt : Nat) (ch sr : Int) (h : H) (s : Store)
    (ho : openHandle ix s0 .rw fmt ch sr = .ok h s) (ht : OpenPadded h s) (b : Bool) :
    RwInv { h with canTruncate := b } s :=
  (RwInv_open_padded ix s0 fmt ch sr h s ho ht).setTruncate b

/-- every call of the alphabet preserves it, on every route -/
theorem RwInv_preserved (h : H) (s : Store) (op : ROp) (inv : RwInv h s) (hok : op.ok h) :
    RwInv (stepAny h s (op.toOp h)).1 (stepAny h s (op.toOp h)).2.1 :=
  (rdwr_step h s op inv hok).2.1

/-- hence it holds after every call sequence -/
theorem RwInv_reachable (h : H) (s : Store) (ops : List ROp) (inv : RwInv h s) (hok : ∀ op ∈ ops, op.ok h) :
    RwInv (runR h s ops).1 (runR h s ops).2 :=
  (RwInv_runR ops h s inv hok).1

/-- it implies C05's `HInv`, and says in plain terms: -/
theorem RwInv_gives (h : H) (s : Store) (inv : RwInv h s) :
    HInv h s ∧ h.mode = .rw ∧ 0 ≤ h.rpos ∧ 0 ≤ h.wpos ∧ 0 ≤ h.frames ∧ h.dataoffset = (hdrLenOf h : Nat) ∧
    PeakOk h ∧ (h.container ≠ .wav → h.dataend = 0) ∧
    (∃ t : Nat, (s.bytes.length : Int) = h.dataoffset + h.frames * (h.bw : Int) + t ∧
      (t = 0 ∨ (t = 1 ∧ h.container = .wav)) ∧ s.bytes.drop (s.bytes.length - t) = zeros t) ∧
    ((absOf h s).frames.length : Int) = h.frames ∧ ((absOf h s).rpos : Int) = h.rpos ∧
    ((absOf h s).wpos : Int) = h.wpos ∧ (∀ g ∈ (absOf h s).frames, g.length = h.bw) :=
  let ⟨_, _, _, _, _, v⟩ := inv
  ⟨inv.toHInv, v.mode, inv.toHInv.rpos_nn, inv.toHInv.wpos_nn, inv.frames_nn, v.doff, v.peak, v.dataend, inv.size,
    inv.nframes, inv.abs_rpos, inv.abs_wpos, inv.frame_len⟩

/-- ONE STEP.  From any state satisfying the invariant, every call of the alphabet — read `k` frames (items or
    frames variant, any caller type), write a whole-frame buffer, seek (3 whence × {plain, SFM_READ, SFM_WRITE}, any
    offset), SFC_FILE_TRUNCATE to `n`, and the flag commands incl. SFC_UPDATE_HEADER_NOW / _AUTO —
    answers what the abstract operation answers (`ROp.outOk`), keeps the invariant, and commutes with `absOf`.
    FULL strength: every route.  `op.ok` only asks that a write buffer holds whole frames (an unaligned items call is an
    invalid call, C09).  SFC_FILE_TRUNCATE needs no side condition: where the route has no `ftruncate` (SF_VIRTUAL_IO)
    it is refused before anything is touched — answer 1, no error — and `ROp.toAOp` maps it to no abstract operation;
    the abstract file of the statement promises truncation only where the route supports it.  (The rule of the
    unrepaired library, KF-C14-TRUNC-VIO, loses the invariant on such a route: `rdwr_refines_old_rule`.) -/
theorem rdwr_refines (h : H) (s : Store) (op : ROp) (inv : RwInv h s) (hok : op.ok h) :
    op.outOk h s (absOf h s) (stepAny h s (op.toOp h)).2.2 ∧
    RwInv (stepAny h s (op.toOp h)).1 (stepAny h s (op.toOp h)).2.1 ∧
    absOf (stepAny h s (op.toOp h)).1 (stepAny h s (op.toOp h)).2.1 =
      (absOf h s).stepOpt (zeroFrame h.bw) (op.toAOp h) :=
  rdwr_step h s op inv hok

/-- ALL SEQUENCES, by induction: along every call sequence every answer is the abstract one (`RefinesRun`), and at
    the end the handle stands for the result of the abstract run -/
theorem rdwr_refines_run (h : H) (s : Store) (ops : List ROp) (inv : RwInv h s) (hok : ∀ op ∈ ops, op.ok h) :
    RefinesRun (zeroFrame h.bw) h s (absOf h s) ops ∧
    absOf (runR h s ops).1 (runR h s ops).2 = absRunR (zeroFrame h.bw) h s (absOf h s) ops :=
  let r := rdwr_run ops h s inv hok
  ⟨r, (RefinesRun.final _ ops h s _ r).2⟩

/-- Data written at frame `p` is what a later read at `p` returns.  Write a whole-frame buffer
    of lossless samples at the write position `p`, move the read pointer to `p` (SEEK_SET | SFM_READ or plain
    SEEK_SET), read as many frames with the same type (items or frames call, independently of the write call):
    every call succeeds in full and the buffer read is the buffer written, bit for bit. -/
theorem write_then_read (h : H) (s : Store) (inv : RwInv h s) (ty : Ty) (fc fc' : Bool) (data : List Int) (ptr : Ptr)
    (hmod : data.length % h.ch = 0) (hpos : 0 < data.length) (hptr : ptr ≠ .wr) (p : Nat) (hp : h.wpos = (p : Int))
    (hwf : h.enc.wf) (hv : ∀ v ∈ data, ty.inRange v) (hl : ∀ v ∈ data, lossless h.enc ty v) :
    let r1 := stepAny h s ((ROp.write ty fc data).toOp h)
    let r2 := stepAny r1.1 r1.2.1 ((ROp.seek .set ptr (p : Int)).toOp r1.1)
    let r3 := stepAny r2.1 r2.2.1 ((ROp.read ty fc' (data.length / h.ch)).toOp r2.1)
    r1.2.2.ret = callCount h fc (data.length / h.ch) ∧ r1.2.2.err = 0 ∧ r2.2.2.ret = (p : Int) ∧
    r3.2.2.ret = callCount h fc' (data.length / h.ch) ∧ r3.2.2.err = 0 ∧ r3.2.2.data = data := by
  intro r1 r2 r3
  have hnb := inv.toHInv.nb_pos
  obtain ⟨hne, wl, a1, _, _, _, ret1, err1⟩ := write_effect h s inv ty fc data hmod hpos
  have hk : 0 < data.length / h.ch := wl ▸ List.length_pos_of_ne_nil hne
  have wf := writtenFrames_flatten h ty (Nat.mul_pos hnb inv.toHInv.ch_pos) (Nat.div_mul_cancel (Nat.dvd_of_mod_eq_zero hmod)).symm
  have i1 := (rdwr_step h s (.write ty fc data) inv hmod).2.1
  have c1 := SameCfg.stepAny h s ((ROp.write ty fc data).toOp h)
  obtain ⟨o2, i2, a2⟩ := rdwr_step r1.1 r1.2.1 (.seek .set ptr (p : Int)) i1 trivial
  have c2 := SameCfg.stepAny r1.1 r1.2.1 ((ROp.seek .set ptr (p : Int)).toOp r1.1)
  obtain ⟨o3, _, _⟩ := rdwr_step r2.1 r2.2.1 (.read ty fc' (data.length / h.ch)) i2 trivial
  simp only [ROp.outOk] at o2 o3
  simp only [ROp.toAOp, AbsFile.stepOpt, AbsFile.step] at a2
  have hW : (absOf h s).wpos = p := by have := inv.abs_wpos; omega
  rw [AbsFile.seek_set_nat] at a2 o2
  have hr2 : (absOf r2.1 r2.2.1).rpos = (absOf h s).wpos ∧ (absOf r2.1 r2.2.1).frames = (absOf r1.1 r1.2.1).frames := by
    rw [a2]; cases ptr
    · exact ⟨hW.symm, rfl⟩
    · exact ⟨hW.symm, rfl⟩
    · exact absurd rfl hptr
  have hread : ((absOf r2.1 r2.2.1).read (data.length / h.ch)).1 = writtenFrames h ty data := by
    unfold AbsFile.read
    simp only
    rw [hr2.1, hr2.2, a1, ← wl]
    exact AbsFile.write_read_back _ _ _ hne
  have e2 : r2.1.ch = h.ch := c2.ch.trans c1.ch
  have e3 : r2.1.enc = h.enc := c2.enc.trans c1.enc
  obtain ⟨o3a, o3b⟩ := o3
  obtain ⟨o3b, o3c⟩ := o3b hk
  rw [hread, wl, wf, Nat.sub_self, Nat.zero_mul, List.replicate_zero, List.append_nil, e3] at o3c
  refine ⟨ret1, err1, o2.1, ?_, o3b, ?_⟩
  · rw [o3a, hread, wl]; unfold callCount; rw [e2]
  · -- the bytes written, decoded: C01's round trip
    rw [o3c]
    exact C01.data_roundtrip C01.widenExact h.enc hwf hnb _ _ ty data hv hl

/-- the same two facts in the VALUES view `absValues h s ty` (every stored frame decoded to its `ch` items of the caller's
    type): after a write of lossless samples at write position `p`, frames `p … p+k` of the file are the caller's
    frames (the buffer cut into groups of `ch` items) … -/
theorem write_puts_values (h : H) (s : Store) (inv : RwInv h s) (ty : Ty) (fc : Bool) (data : List Int)
    (hmod : data.length % h.ch = 0) (hpos : 0 < data.length)
    (hwf : h.enc.wf) (hv : ∀ v ∈ data, ty.inRange v) (hl : ∀ v ∈ data, lossless h.enc ty v) :
    let r := stepAny h s ((ROp.write ty fc data).toOp h)
    ((absValues r.1 r.2.1 ty).drop (absOf h s).wpos).take (data.length / h.ch) = groups h.ch data := by
  intro r
  have hsub := groups_mem_sub h.ch inv.toHInv.ch_pos data hmod
  obtain ⟨hne, wl, a, _⟩ := write_effect h s inv ty fc data hmod hpos
  have c := SameCfg.stepAny h s ((ROp.write ty fc data).toOp h)
  unfold absValues
  rw [← List.map_drop, ← List.map_take, a, ← wl, AbsFile.write_read_back _ _ _ hne,
    writtenFrames_eq h ty data inv.toHInv.ch_pos inv.toHInv.nb_pos hmod, List.map_map, c.enc]
  -- frame by frame, decode ∘ encode is the identity on lossless samples (C01), whatever the settings at the read
  calc (groups h.ch data).map (h.enc.decodeAll r.1.conv ty ∘ h.enc.encodeAll h.conv ty)
      = (groups h.ch data).map id := List.map_congr_left fun x hx =>
          C01.data_roundtrip C01.widenExact h.enc hwf inv.toHInv.nb_pos _ _ ty x (fun v hvx => hv v (hsub x hx v hvx))
            (fun v hvx => hl v (hsub x hx v hvx))
    _ = groups h.ch data := by simp

/-- … and a read of `k` frames returns the frames `rpos … rpos+k` of that view (as many as exist), the rest of the
    requested region untouched — or zero when the read position was at / after the end, and (`readFill`) when the
    request ran past the end of a WAV of 1-byte samples into the pad byte behind its odd-length data -/
theorem read_returns_values (h : H) (s : Store) (inv : RwInv h s) (ty : Ty) (fc : Bool) (k : Nat) (hk : 0 < k) :
    let r := stepAny h s ((ROp.read ty fc k).toOp h)
    let got := ((absValues h s ty).drop (absOf h s).rpos).take k
    r.2.2.ret = callCount h fc got.length ∧ r.2.2.err = 0 ∧
    r.2.2.data = got.flatten ++ List.replicate ((k - got.length) * h.ch)
      (if (absOf h s).rpos < (absOf h s).frames.length then readFill h s ty k got.length else 0) := by
  intro r got
  obtain ⟨o, _, _⟩ := rdwr_step h s (.read ty fc k) inv trivial
  simp only [ROp.outOk] at o
  obtain ⟨o1, o2⟩ := o
  obtain ⟨o2, o3⟩ := o2 hk
  have hgot : got = (((absOf h s).read k).1).map (h.enc.decodeAll h.conv ty) := by
    show ((absValues h s ty).drop _).take k = _
    unfold absValues AbsFile.read
    rw [← List.map_drop, ← List.map_take]
  have hlen : got.length = ((absOf h s).read k).1.length := by rw [hgot, List.length_map]
  have hfl : h.enc.decodeAll h.conv ty ((absOf h s).read k).1.flatten = got.flatten := by
    rw [hgot]
    apply Enc.decodeAll_flatten _ _ _ inv.toHInv.nb_pos h.ch
    intro x hx
    have : x ∈ (absOf h s).frames := List.mem_of_mem_drop (List.mem_of_mem_take hx)
    rw [inv.frame_len x this]; exact Nat.mul_comm _ _
  exact ⟨by rw [o1, hlen], o2, by rw [o3, hfl, hlen]⟩

/-- Writing inside existing data replaces exactly the frames `wpos … wpos+k` and leaves
    the frame count alone -/
theorem overwrite_keeps_length (h : H) (s : Store) (inv : RwInv h s) (ty : Ty) (fc : Bool) (data : List Int)
    (hmod : data.length % h.ch = 0) (hpos : 0 < data.length)
    (hin : h.wpos + ((data.length / h.ch : Nat) : Int) ≤ h.frames) :
    let r := stepAny h s ((ROp.write ty fc data).toOp h)
    r.1.frames = h.frames ∧ (absOf r.1 r.2.1).frames.length = (absOf h s).frames.length ∧
    (absOf r.1 r.2.1).frames = (absOf h s).frames.take (absOf h s).wpos ++ writtenFrames h ty data ++
      (absOf h s).frames.drop ((absOf h s).wpos + data.length / h.ch) := by
  intro r
  obtain ⟨hne, wl, a, f, _⟩ := write_effect h s inv ty fc data hmod hpos
  have hin' : (absOf h s).wpos + (writtenFrames h ty data).length ≤ (absOf h s).frames.length := by
    have := inv.nframes; have := inv.abs_wpos; omega
  obtain ⟨e1, e2⟩ := AbsFile.write_inside (zeroFrame h.bw) (absOf h s) _ hne hin'
  exact ⟨by rw [f]; omega, by rw [a, e2], by rw [a, e1, wl]⟩

/-- Writing at or past the end makes the frame count `wpos + k`; the file is then the old
    frames, the hole a seek past the end left — `wpos − frames` frames of ZERO BYTES (`zeroFrame`) — and the new frames.
    (Real library, harness scripts on the memory and the descriptor route, RAW unsigned 8-bit / WAV µ-law / AU 16-bit
    stereo: the hole reads back as zero bytes — 0x8000, 0x8284, 0 as shorts — and the re-opened file has `wpos + k` frames.) -/
theorem write_at_end_extends (h : H) (s : Store) (inv : RwInv h s) (ty : Ty) (fc : Bool) (data : List Int)
    (hmod : data.length % h.ch = 0) (hpos : 0 < data.length) (hge : h.frames ≤ h.wpos) :
    let r := stepAny h s ((ROp.write ty fc data).toOp h)
    r.1.frames = h.wpos + ((data.length / h.ch : Nat) : Int) ∧
    (absOf r.1 r.2.1).frames = (absOf h s).frames ++
      List.replicate ((absOf h s).wpos - (absOf h s).frames.length) (zeroFrame h.bw) ++ writtenFrames h ty data := by
  intro r
  obtain ⟨hne, wl, a, f, _⟩ := write_effect h s inv ty fc data hmod hpos
  have hge' : (absOf h s).frames.length ≤ (absOf h s).wpos := by
    have := inv.nframes; have := inv.abs_wpos; omega
  exact ⟨by rw [f]; omega, by rw [a]; exact (AbsFile.write_at_end _ _ _ hne hge').1⟩

/-- For every whence and offset, `| SFM_READ` leaves the write position alone and
    `| SFM_WRITE` leaves the read position alone; an accepted seek puts the named pointer at the returned frame; a
    refused one (−1) moves nothing; frame count and content never change -/
theorem whence_moves_only_that_pointer (h : H) (s : Store) (inv : RwInv h s) (w : Whence) (off : Int) :
    let rd := stepAny h s ((ROp.seek w .rd off).toOp h)
    let wr := stepAny h s ((ROp.seek w .wr off).toOp h)
    rd.1.wpos = h.wpos ∧ rd.1.frames = h.frames ∧ (absOf rd.1 rd.2.1).frames = (absOf h s).frames ∧
      (0 ≤ rd.2.2.ret → rd.1.rpos = rd.2.2.ret) ∧ (rd.2.2.ret = -1 → rd.1.rpos = h.rpos) ∧
    wr.1.rpos = h.rpos ∧ wr.1.frames = h.frames ∧ (absOf wr.1 wr.2.1).frames = (absOf h s).frames ∧
      (0 ≤ wr.2.2.ret → wr.1.wpos = wr.2.2.ret) ∧ (wr.2.2.ret = -1 → wr.1.wpos = h.wpos) := by
  intro rd wr
  obtain ⟨a1, a2, a3, a4, a5⟩ := seek_effect h s inv w .rd off
  obtain ⟨b1, b2, b3, b4, b5⟩ := seek_effect h s inv w .wr off
  refine ⟨?_, a1, a2, fun hc => (a5 hc).2.1, fun hc => (a4 hc).1, ?_, b1, b2, fun hc => (b5 hc).2.2, fun hc => (b4 hc).2⟩
  · rcases a3 with hc | hc
    · exact (a4 hc).2
    · exact (a5 hc).2.2
  · rcases b3 with hc | hc
    · exact (b4 hc).1
    · exact (b5 hc).2.1

/-- An accepted seek with a plain whence value puts BOTH pointers at the returned frame
    (a plain SEEK_CUR is relative to the write position: `AbsFile.base`) -/
theorem plain_whence_moves_both (h : H) (s : Store) (inv : RwInv h s) (w : Whence) (off : Int) :
    let r := stepAny h s ((ROp.seek w .both off).toOp h)
    r.2.2.ret = ((absOf h s).seek w .both off).1 ∧
    (0 ≤ r.2.2.ret → r.1.rpos = r.2.2.ret ∧ r.1.wpos = r.2.2.ret ∧ r.2.2.err = 0) ∧
    (r.2.2.ret = -1 → r.1.rpos = h.rpos ∧ r.1.wpos = h.wpos) ∧ r.1.frames = h.frames := by
  intro r
  obtain ⟨a1, _, _, a4, a5⟩ := seek_effect h s inv w .both off
  exact ⟨(rdwr_step h s (.seek w .both off) inv trivial).1.1, fun hc => ⟨(a5 hc).2.1, (a5 hc).2.2, (a5 hc).1⟩, a4, a1⟩

/-- the 12 whence values: besides the 9 of the alphabet, SEEK_SET|SFM_RDWR is a plain SEEK_SET, and SEEK_CUR|SFM_RDWR,
    SEEK_END|SFM_RDWR are refused (−1, error set, nothing else changes) -/
theorem whence_sfm_rdwr (h : H) (s : Store) (inv : RwInv h s) (off : Int) :
    stepSeek h s off 0x30 = stepSeek h s off (whenceCode .set .both) ∧
    stepSeek h s off 0x31 = ({ h with error := E_BAD_SEEK }, s, { ret := -1, err := E_BAD_SEEK }) ∧
    stepSeek h s off 0x32 = ({ h with error := E_BAD_SEEK }, s, { ret := -1, err := E_BAD_SEEK }) := by
  have hm := inv.mode
  refine ⟨stepSeek_set_rdwr h s off hm, ?_, ?_⟩ <;>
    simp [stepSeek_eq_spec, seekSpec, seekWm, seekBase, seekFail, hm]

/-- SFC_FILE_TRUNCATE (on a route with `ftruncate`) returns 0, makes the frame count `n`, puts
    both pointers at `n`, and keeps every frame below `n` (a count past the end extends with zero-byte frames) -/
theorem truncate_shortens (h : H) (s : Store) (inv : RwInv h s) (n : Nat) (hc : h.canTruncate = true) :
    let r := stepAny h s ((ROp.truncate n).toOp h)
    r.2.2.ret = 0 ∧ r.2.2.err = 0 ∧ r.1.frames = (n : Int) ∧ r.1.rpos = (n : Int) ∧ r.1.wpos = (n : Int) ∧
    (absOf r.1 r.2.1).frames.length = n ∧
    (n ≤ (absOf h s).frames.length → (absOf r.1 r.2.1).frames = (absOf h s).frames.take n) ∧
    (∀ i, i < n → i < (absOf h s).frames.length → (absOf r.1 r.2.1).frames[i]? = (absOf h s).frames[i]?) := by
  intro r
  obtain ⟨o, i', a'⟩ := rdwr_step h s (.truncate n) inv trivial
  simp only [ROp.outOk, hc, if_true] at o
  simp only [ROp.toAOp, hc, if_true, AbsFile.stepOpt, AbsFile.step] at a'
  have hf' := i'.nframes
  have hr' := i'.abs_rpos
  have hw' := i'.abs_wpos
  rw [a'] at hf' hr' hw'
  rw [AbsFile.truncate_length] at hf'
  refine ⟨o.1, o.2, hf'.symm, hr'.symm, hw'.symm, by rw [a']; exact AbsFile.truncate_length _ _ _, fun hle => ?_, fun i hi hl => ?_⟩
  · rw [a']; exact AbsFile.upTo_of_le _ _ _ hle
  · rw [a']; exact AbsFile.truncate_keeps _ _ _ _ hi hl

/-- … and where the route has no `ftruncate` (SF_VIRTUAL_IO) the command is refused: it returns 1 with no error, the
    handle is unchanged up to the cleared error field — frame count and both positions included — and the store, hence
    the abstract file, is untouched (the repair of KF-C14-TRUNC-VIO) -/
theorem truncate_refused_without_ftruncate (h : H) (s : Store) (inv : RwInv h s) (n : Nat) (hc : h.canTruncate = false) :
    let r := stepAny h s ((ROp.truncate n).toOp h)
    r.2.2.ret = 1 ∧ r.2.2.err = 0 ∧ r.1 = { h with error := 0 } ∧ r.2.1 = s ∧ absOf r.1 r.2.1 = absOf h s := by
  intro r
  have e : r = ({ h with error := 0 }, s, { ret := 1 }) :=
    stepTruncate_vio h s n (by rw [inv.mode]; decide) hc
  rw [e]
  exact ⟨rfl, rfl, rfl, rfl, rfl⟩

/-- A write changes no frame outside `wpos … wpos+k` -/
theorem untouched_preserved (h : H) (s : Store) (inv : RwInv h s) (ty : Ty) (fc : Bool) (data : List Int)
    (hmod : data.length % h.ch = 0) (hpos : 0 < data.length) (i : Nat) (hi : i < (absOf h s).frames.length)
    (hout : i < (absOf h s).wpos ∨ (absOf h s).wpos + data.length / h.ch ≤ i) :
    let r := stepAny h s ((ROp.write ty fc data).toOp h)
    (absOf r.1 r.2.1).frames[i]? = (absOf h s).frames[i]? := by
  intro r
  obtain ⟨_, wl, a, _⟩ := write_effect h s inv ty fc data hmod hpos
  rw [a]
  rcases hout with hb | ha
  · exact AbsFile.write_before _ _ _ _ hb hi
  · exact AbsFile.write_after _ _ _ _ (by rw [wl]; exact ha)

/-- Close the handle, open the file read-only: the open succeeds and sees exactly the final
    frame count and the final frame sequence, read position 0.  (`CfgOf`: the handle was created with `fmt ch sr`;
    WAV: data below the 4 GiB RIFF limit; sample rate a positive `int`.) -/
theorem reopen_sees_final (h : H) (s : Store) (inv : RwInv h s) (fmt : Nat) (ch sr : Int) (cfg : CfgOf fmt ch sr h)
    (hsr : sr ≤ 0x7FFFFFFF) (hguard : h.container = .wav → h.frames * (h.bw : Int) < 0xFFFFFFFF) (ix pos : Nat) :
    ∃ h' s', openHandle ix ⟨(closeHandle h s).bytes, pos⟩ .r fmt ch sr = .ok h' s' ∧
      h'.mode = .r ∧ h'.frames = h.frames ∧ h'.ch = h.ch ∧ h'.enc = h.enc ∧ h'.rpos = 0 ∧
      (absOf h' s').frames = (absOf h s).frames := by
  obtain ⟨R, W, F, hdr, D, v⟩ := inv
  obtain ⟨h', s', ho, r⟩ := v.reopen cfg hsr hguard ix pos
  exact ⟨h', s', ho, r.mode, by rw [r.frames, v.frames], r.ch, r.enc, r.rpos, by rw [r.abs v.dlen, v.abs]⟩

/-- … and what it then delivers: a frames call for the whole file returns every frame, and the buffer is the decoding
    of exactly the final stored frames (so, for lossless samples, the values written: `write_then_read`'s codec step) -/
theorem reopen_reads_final (h : H) (s : Store) (inv : RwInv h s) (fmt : Nat) (ch sr : Int) (cfg : CfgOf fmt ch sr h)
    (hsr : sr ≤ 0x7FFFFFFF) (hguard : h.container = .wav → h.frames * (h.bw : Int) < 0xFFFFFFFF) (hF : 0 < h.frames)
    (ix pos : Nat) (ty : Ty) :
    ∃ h' s', openHandle ix ⟨(closeHandle h s).bytes, pos⟩ .r fmt ch sr = .ok h' s' ∧ h'.frames = h.frames ∧
      (stepRead h' s' ty true h.frames).2.2.ret = h.frames ∧ (stepRead h' s' ty true h.frames).2.2.err = 0 ∧
      (stepRead h' s' ty true h.frames).2.2.data = h'.enc.decodeAll h'.conv ty (absOf h s).frames.flatten := by
  obtain ⟨R, W, F, hdr, D, v⟩ := inv
  have hflat : (absOf h s).frames.flatten = D := by rw [v.abs]; exact groups_join _ v.bw_pos F D v.dlen
  rw [hflat, v.frames]
  rw [v.frames] at hF
  obtain ⟨h', s', ho, r⟩ := v.reopen cfg hsr hguard ix pos
  exact ⟨h', s', ho, r.frames, r.read_all (HInv_openHandle _ _ _ _ _ _ _ _ ho) v.dlen (by omega) ty⟩

/-- the "pre-populated file" of the statement: close, then open SFM_RDWR again — the open succeeds, the new handle
    satisfies the invariant (so every theorem above applies to the second session), it stands for the final frames
    with the read position at 0 and the write position at the end.  FULL strength for RAW, AU and WAV: a WAV whose
    odd-length data is followed by the pad byte is covered (the invariant admits that zero byte). -/
theorem reopen_rdwr_continues (h : H) (s : Store) (inv : RwInv h s) (fmt : Nat) (ch sr : Int) (cfg : CfgOf fmt ch sr h)
    (hsr : sr ≤ 0x7FFFFFFF) (hguard : h.container = .wav → h.frames * (h.bw : Int) < 0xFFFFFFFF)
    (ix pos : Nat) :
    ∃ h' s', openHandle ix ⟨(closeHandle h s).bytes, pos⟩ .rw fmt ch sr = .ok h' s' ∧ RwInv h' s' ∧
      absOf h' s' = { frames := (absOf h s).frames, rpos := 0, wpos := (absOf h s).frames.length } ∧
      h'.frames = h.frames ∧ h'.ch = h.ch ∧ h'.enc = h.enc := by
  obtain ⟨R, W, F, hdr, D, v⟩ := inv
  obtain ⟨h', s', ho, r⟩ := v.reopen_rw cfg hsr hguard ix pos
  exact ⟨h', s', ho, r.inv, by rw [r.abs, v.abs]; simp only; rw [v.nframes]; rfl, by rw [r.frames, v.frames], r.ch, r.enc⟩

/-- the other "pre-populated file": one written by a write-only session (open SFM_WRITE on a new file, any valid write
    calls and header updates, close — the sessions of C04 / C07).  Opened SFM_RDWR it satisfies the invariant and stands
    for exactly the frames written, read position 0, write position at the end.  FULL strength for RAW, AU and WAV:
    WAV float/double files (they carry a PEAK chunk: the invariant admits a PEAK table in front of the data) and WAVs
    whose odd-length data is followed by the pad byte are covered; `hex` is only the 4 GiB RIFF limit. -/
theorem prepopulated_opens_rdwr (ix fmt : Nat) (ch sr : Int) (h0 : H) (s0 : Store) (ops : List SOp)
    (ho : openHandle ix {} .w fmt ch sr = .ok h0 s0) (hsr : sr ≤ 0x7FFFFFFF) (hv : ∀ op ∈ ops, op.valid ch.toNat)
    (hex : ∀ c, openCfg fmt ch sr = some c → c.container = .wav → (sessData c ops).length < 0xFFFFFFFF)
    (ix' pos : Nat) :
    ∃ c h' s', openCfg fmt ch sr = some c ∧
      openHandle ix' ⟨(closeHandle (runS (h0, s0) ops).1 (runS (h0, s0) ops).2).bytes, pos⟩ .rw fmt ch sr = .ok h' s' ∧
      RwInv h' s' ∧
      absOf h' s' = { frames := groups c.bw (sessData c ops), rpos := 0, wpos := sessFrames ch.toNat ops } := by
  obtain ⟨c, hcfg, h1, h2, h3, i⟩ := session_inv ops ho hv
  obtain ⟨f1, f2, f3, f4, _, f6⟩ := openCfg_facts hcfg
  have hok : c.Ok := ⟨by rw [f2]; exact f6, by rw [f4]; omega, by rw [f3]; omega⟩
  obtain ⟨fl, t, hci, ht, _⟩ := closedImage_eq c (c.init.run c ops)
  rw [close_bytes i, hci]
  obtain ⟨h', s', ho', o⟩ := image_opened hok _ i.absOk fl _ (zeros_tail ht) (fun hw => init_run_data c ops ▸ hex c hcfg hw) .rw
    (by decide) ix' pos fmt ch sr (fun _ => hcfg) (fun hnr => by rw [f1]; exact fun e => hnr (Option.some.inj e))
  have r := o.reopenedRw ho' i.absOk ht
  rw [init_run_data, init_run_frames] at r
  exact ⟨c, h', s', hcfg, ho', r.inv, f4 ▸ r.abs⟩

/-- the whole history of the statement: create a file SFM_RDWR (RAW, AU or WAV), run ANY sequence of calls, close,
    open read-only: the frames seen are those of the abstract run (`absRunR`) from the empty file -/
theorem rdwr_session (ix : Nat) (s0 : Store) (fmt : Nat) (ch sr : Int) (h : H) (s : Store) (b : Bool)
    (ho : openHandle ix s0 .rw fmt ch sr = .ok h s) (he : s0.bytes = []) (ops : List ROp)
    (hok : ∀ op ∈ ops, op.ok { h with canTruncate := b }) (hsr : sr ≤ 0x7FFFFFFF) (ix' pos : Nat) :
    let hb : H := { h with canTruncate := b }
    let e := runR hb s ops
    absOf hb s = { frames := [], rpos := 0, wpos := 0 } ∧
    ((e.1.container = .wav → e.1.frames * (e.1.bw : Int) < 0xFFFFFFFF) →
      ∃ h' s', openHandle ix' ⟨(closeHandle e.1 e.2).bytes, pos⟩ .r fmt ch sr = .ok h' s' ∧ h'.frames = e.1.frames ∧
        (absOf h' s').frames = (absRunR (zeroFrame h.bw) hb s { frames := [], rpos := 0, wpos := 0 } ops).frames) := by
  intro hb e
  have inv : RwInv hb s := RwInv_initial_new ix s0 fmt ch sr h s ho he b
  have r := open_rw_facts ix s0 fmt ch sr h s ho
  have hf0 : h.frames = 0 := (r.fresh he).1
  have habs : absOf hb s = { frames := [], rpos := 0, wpos := 0 } := by
    show AbsFile.mk (groups h.bw ((s.bytes.drop h.dataoffset.toNat).take (h.frames.toNat * h.bw))) h.rpos.toNat h.wpos.toNat = _
    rw [r.rpos, r.wpos, hf0, Int.toNat_zero, Nat.zero_mul, List.take_zero]
    rfl
  refine ⟨habs, fun hguard => ?_⟩
  obtain ⟨invE, sc⟩ := RwInv_runR ops hb s inv hok
  have cfg : CfgOf fmt ch sr hb := (open_rw_cfg ix s0 fmt ch sr h s ho (Or.inl he)).setTruncate _
  obtain ⟨h', s', ho', _, hfr, _, _, _, hab⟩ := reopen_sees_final e.1 e.2 invE fmt ch sr (cfg.congr sc) hsr hguard ix' pos
  refine ⟨h', s', ho', hfr, ?_⟩
  have := (rdwr_refines_run hb s ops inv hok).2
  rw [hab, this, habs]
  rfl

/-! ## where the side conditions are needed (full statements, witnesses, what was proved instead) -/

def tS : Store := { bytes := [1, 0, 2, 0], pos := 0 }
/-- a 2-frame 16-bit mono RAW file opened RDWR through virtual I/O (`canTruncate = false`) -/
def tH : H := { store := 0, mode := .rw, container := .raw, enc := .pcm ⟨16, false, false⟩, big := false, ch := 1,
                sr := 8000, fmtWord := 0x040002, frames := 2, wpos := 2, lastOp := .rw, haveWritten := true,
                datalength := 4, filelength := 4 }
theorem tH_opened : openHandle 0 tS .rw 0x040002 1 8000 = .ok tH tS := by rfl
theorem tH_inv : RwInv tH tS := RwInv_initial_raw 0 tS 0x040002 1 8000 tH tS tH_opened rfl (by decide) false

/-- NEW RULE on the old witness: SFC_FILE_TRUNCATE to 3 frames through virtual I/O is refused — 1, no error, handle and
    store as they were, invariant kept (an instance of `rdwr_refines` / `truncate_refused_without_ftruncate`).
    Repaired library, same script: `ret=1 err=0`, then `frames=2`, store 4 bytes. -/
theorem truncate_vio_witness_new_rule :
    stepAny tH tS ((ROp.truncate 3).toOp tH) = ({ tH with error := 0 }, tS, { ret := 1 }) ∧
    RwInv (stepAny tH tS ((ROp.truncate 3).toOp tH)).1 (stepAny tH tS ((ROp.truncate 3).toOp tH)).2.1 :=
  ⟨by rfl, RwInv_preserved tH tS (.truncate 3) tH_inv trivial⟩

/-- OLD RULE (before the repair of KF-C14-TRUNC-VIO, `stepTruncateOld`): the same call returned −1 with SFE_SYSTEM, but
    `sf.frames` was 3 afterwards while the store still held 2 frames, so the invariant was lost (C09
    `truncate_minus_one_sets_frames_old_rule` is the same staging defect).  Unrepaired library, same script:
    `ret=-1 err=2`, then `frames=3`, store 4 bytes. -/
theorem rdwr_refines_old_rule :
    (stepTruncateOld tH tS 3).2.2.ret = -1 ∧ (stepTruncateOld tH tS 3).2.2.err = 2 ∧
    (stepTruncateOld tH tS 3).1.frames = 3 ∧ (stepTruncateOld tH tS 3).2.1.bytes.length = 4 ∧
    ¬ RwInv (stepTruncateOld tH tS 3).1 (stepTruncateOld tH tS 3).2.1 := by
  refine ⟨by decide, by decide, by decide, by decide, ?_⟩
  intro i'
  obtain ⟨t, h1, _, _⟩ := i'.size
  have e1 : (stepTruncateOld tH tS 3).2.1.bytes.length = 4 := by decide
  have e2 : (stepTruncateOld tH tS 3).1.dataoffset = 0 := by decide
  have e3 : (stepTruncateOld tH tS 3).1.frames = 3 := by decide
  have e4 : (stepTruncateOld tH tS 3).1.bw = 2 := by decide
  rw [e1, e2, e3, e4] at h1
  omega

/-- on routes where `ftruncate` works the repair changed nothing -/
theorem truncate_rule_unchanged_with_ftruncate (h : H) (s : Store) (f : Int) (hc : h.canTruncate = true) :
    stepTruncate h s f = stepTruncateOld h s f := by
  unfold stepTruncate stepTruncateOld
  simp only []
  have hs := (SameCfg.stepSeek { h with error := 0 } s f 0).canTruncate
  generalize stepSeek { h with error := 0 } s f 0 = r at hs ⊢
  obtain ⟨h1, s1, o1⟩ := r
  have h1c : h1.canTruncate = true := hs.trans hc
  simp [hc, h1c]

/-- "every successful RDWR open establishes the invariant" -/
def RwInv_initial_full : Prop :=
  ∀ (ix : Nat) (s0 : Store) (fmt : Nat) (ch sr : Int) (h : H) (s : Store),
    openHandle ix s0 .rw fmt ch sr = .ok h s → RwInv h s

def pS : Store := { bytes := [0x55, 0x66, 0x77], pos := 0 }
def pH : H := { store := 0, mode := .rw, container := .raw, enc := .pcm ⟨16, false, false⟩, big := false, ch := 1,
                sr := 8000, fmtWord := 0x040002, frames := 1, wpos := 1, lastOp := .rw, haveWritten := true,
                datalength := 3, filelength := 3 }
theorem pH_opened : openHandle 0 pS .rw 0x040002 1 8000 = .ok pH pS := by rfl

/-- witness: a RAW file with a trailing partial frame (3 bytes, 16-bit mono).  The stale byte is not part of any
    frame, but a write past the end makes it one: seek the write pointer to 3, write one frame — frame 1 is then
    `77 00`, not the zero frame the abstract file puts into a hole.  (Real library, same script: read-back
    `6655 0077 0000 0007`.)  Not a defect of the library: the content of a hole is not promised by the property;
    it is the reason the refinement needs "nothing but whole frames (and the WAV pad byte) behind the header". -/
theorem RwInv_initial_full_fails : ¬ RwInv_initial_full := by
  intro hfull
  obtain ⟨t, h1, h2, _⟩ := (hfull 0 pS 0x040002 1 8000 pH pS pH_opened).size
  have e1 : pS.bytes.length = 3 := by decide
  have e2 : pH.dataoffset = 0 := by decide
  have e3 : pH.frames = 1 := by decide
  have e4 : pH.bw = 2 := by decide
  rw [e1, e2, e3, e4] at h1
  rcases h2 with h0 | ⟨_, hw⟩
  · omega
  · exact absurd hw (by decide)

theorem partial_frame_hole_not_zero :
    (runR pH pS [.seek .set .wr 3, .write .s16 true [7]]).2.bytes = [0x55, 0x66, 0x77, 0, 0, 0, 7, 0] := by decide

/-- what holds: `RwInv_initial_tight` / `RwInv_initial_padded` (and the instances `RwInv_initial_new`,
    `RwInv_initial_raw`).  `OpenPadded` admits the WAV pad byte and a PEAK table in front of the data.  NOT covered:
    files with other bytes behind the data (a partial frame, a PEAK chunk at the END of a foreign WAV, a LIST chunk …).
    For files the library wrote — by an RDWR session (`reopen_rdwr_continues`) or a write-only session
    (`prepopulated_opens_rdwr`) — the shape is proved, not assumed. -/
theorem RwInv_initial_partial (ix : Nat) (s0 : Store) (fmt : Nat) (ch sr : Int) (h : H) (s : Store)
    (ho : openHandle ix s0 .rw fmt ch sr = .ok h s) (ht : OpenTight h s) : RwInv h s :=
  RwInv_open_padded ix s0 fmt ch sr h s ho ht.padded

/-! ## non-vacuity -/

def eH : H := { store := 0, mode := .rw, container := .raw, enc := .pcm ⟨16, false, false⟩, big := false, ch := 2,
                sr := 8000, fmtWord := 0x040002, frames := 0, lastOp := .rw, canTruncate := true }
theorem eH_opened : openHandle 0 {} .rw 0x040002 2 8000 = .ok { eH with canTruncate := false } {} := by rfl
theorem eH_inv : RwInv eH {} := RwInv_initial_new 0 {} 0x040002 2 8000 _ _ eH_opened rfl true

/-- the invariant is met by new files of the other containers too (WAV µ-law mono, AU 24-bit stereo) -/
example : ∃ h s, openHandle 0 {} .rw 0x010010 1 8000 = .ok h s ∧ RwInv h s ∧ s.bytes.length = 58 := by
  refine ⟨_, _, rfl, ?_, by decide⟩
  exact RwInv_initial_partial 0 {} 0x010010 1 8000 _ _ rfl (open_fresh_tight 0 {} 0x010010 1 8000 _ _ rfl rfl)
example : ∃ h s, openHandle 0 {} .rw 0x030003 2 48000 = .ok h s ∧ RwInv h s ∧ s.bytes.length = 24 := by
  refine ⟨_, _, rfl, ?_, by decide⟩
  exact RwInv_initial_partial 0 {} 0x030003 2 48000 _ _ rfl (open_fresh_tight 0 {} 0x030003 2 48000 _ _ rfl rfl)

/-- every kind of call is admitted by `ROp.ok eH` -/
example : ∀ op ∈ [ROp.write .s16 true [1, 2, 3, 4], .seek .cur .rd (-1), .read .s16 false 3, .truncate 1, .flag 0x1060 0],
    op.ok eH := by decide

/-- write_then_read: two stereo frames written at 0, read pointer back to 0, three frames asked: two delivered, the
    third cell pair untouched; hypotheses of `write_then_read` hold (16-bit PCM, shorts: lossless) -/
example : (runR eH {} [.write .s16 true [1, -2, 3, 32767], .seek .set .rd 0]).1.rpos = 0 ∧
    (stepAny (runR eH {} [.write .s16 true [1, -2, 3, 32767], .seek .set .rd 0]).1
             (runR eH {} [.write .s16 true [1, -2, 3, 32767], .seek .set .rd 0]).2
             ((ROp.read .s16 true 3).toOp eH)).2.2.data = [1, -2, 3, 32767, -23131, -23131] ∧
    eH.enc.wf ∧ (∀ v ∈ [1, -2, 3, 32767], Ty.inRange .s16 v) ∧ (∀ v ∈ [1, -2, 3, 32767], lossless eH.enc .s16 v) := by decide

/-- the values view: after the two frames above are written, the file is `[[1, -2], [3, 32767]]` for a caller of shorts -/
example : absValues (runR eH {} [.write .s16 true [1, -2, 3, 32767]]).1 (runR eH {} [.write .s16 true [1, -2, 3, 32767]]).2 .s16 =
    [[1, -2], [3, 32767]] := by decide

/-- write_at_end_extends, with a hole: on the empty file seek the write pointer to frame 2 and write one frame: 3 frames,
    the first two are zero bytes; overwrite_keeps_length: rewriting frame 0 afterwards keeps 3 frames -/
example : (runR eH {} [.seek .set .wr 2, .write .s16 true [5, 6]]).2.bytes = [0, 0, 0, 0, 0, 0, 0, 0, 5, 0, 6, 0] ∧
    (runR eH {} [.seek .set .wr 2, .write .s16 true [5, 6]]).1.frames = 3 ∧
    (runR eH {} [.seek .set .wr 2, .write .s16 true [5, 6], .seek .set .wr 0, .write .s16 false [9, 9]]).1.frames = 3 ∧
    (runR eH {} [.seek .set .wr 2, .write .s16 true [5, 6], .seek .set .wr 0, .write .s16 false [9, 9]]).2.bytes =
      [9, 0, 9, 0, 0, 0, 0, 0, 5, 0, 6, 0] := by decide

/-- whence × pointer: after 3 frames written (write position 3), SEEK_END|SFM_READ −1 moves only the read pointer,
    SEEK_CUR|SFM_WRITE −2 only the write pointer, plain SEEK_CUR 0 brings the read pointer to the write pointer,
    and a target below 0 is refused -/
example :
    let st := runR eH {} [.write .s16 true [1, 2, 3, 4, 5, 6], .seek .fromEnd .rd (-1), .seek .cur .wr (-2)]
    st.1.rpos = 2 ∧ st.1.wpos = 1 ∧ st.1.frames = 3 ∧
    (runR st.1 st.2 [.seek .cur .both 0]).1.rpos = 1 ∧ (runR st.1 st.2 [.seek .cur .both 0]).1.wpos = 1 ∧
    (stepAny st.1 st.2 ((ROp.seek .cur .rd (-5)).toOp eH)).2.2.ret = -1 := by decide

/-- truncate_refused_without_ftruncate: the same handle on virtual I/O: 3 frames stay 3 frames, positions stay -/
example :
    let st := runR { eH with canTruncate := false } {} [.write .s16 true [1, 2, 3, 4, 5, 6], .seek .set .rd 1, .truncate 1]
    st.1.frames = 3 ∧ st.1.rpos = 1 ∧ st.1.wpos = 3 ∧ st.2.bytes.length = 12 := by decide

/-- truncate_shortens / reopen_sees_final: 3 frames, truncate to 1, close, re-open read-only: 1 frame, the first one -/
example :
    let st := runR eH {} [.write .s16 true [1, 2, 3, 4, 5, 6], .truncate 1]
    st.1.frames = 1 ∧ st.1.rpos = 1 ∧ st.1.wpos = 1 ∧ (closeHandle st.1 st.2).bytes = [1, 0, 2, 0] := by decide
example : CfgOf 0x040002 2 8000 eH := (open_rw_cfg 0 {} 0x040002 2 8000 _ _ eH_opened (Or.inl rfl)).setTruncate _

/-- `reopen_rdwr_continues` / `reopen_sees_final`: a new 16-bit mono WAV meets `CfgOf` -/
example : ∃ h s, openHandle 0 {} .rw 0x010002 1 8000 = .ok h s ∧ CfgOf 0x010002 1 8000 h := by
  refine ⟨_, _, rfl, open_rw_cfg 0 {} 0x010002 1 8000 _ _ rfl (Or.inl rfl)⟩

/-- `prepopulated_opens_rdwr`: C04's AU session (stereo 16-bit, three frames) meets the hypotheses -/
example : (∃ h0 s0, openHandle 0 {} .w 0x030002 2 44100 = .ok h0 s0) ∧ (∀ op ∈ C04.exOps, op.valid (2 : Int).toNat) ∧
    (∀ c, openCfg 0x030002 2 44100 = some c → c.container = .wav → False) := by
  refine ⟨OpenRes.exists_of_isOk (by decide), by decide, ?_⟩
  intro c hc
  obtain ⟨f1, _⟩ := openCfg_facts hc
  have h0 : containerOf 0x030002 = some Container.au := by decide
  have hcc : c.container = .au := (Option.some.inj (f1.symm.trans h0))
  exact fun hw => by rw [hcc] at hw; cases hw

/-- `prepopulated_opens_rdwr` on a PEAK-carrying file: two float frames written into a new mono float WAV in SFM_WRITE mode;
    the session is valid, stays below the RIFF limit, and the file re-opened SFM_RDWR does carry a PEAK table (one
    entry, in front of the data) — the case the invariant admits through `PeakOk` -/
def pkOps : List SOp := [.write ⟨.f32, true, 2, [0x3F000000, 0xBF800000]⟩]
def pkReopen : Option (Int × Option Nat × Bool) :=
  match sessionBytes 0 0x010006 1 8000 pkOps with
  | some bs => (match openHandle 0 ⟨bs, 0⟩ .rw 0 0 0 with
      | .ok h _ => some (h.frames, h.peak.map List.length, h.peakAtStart)
      | _ => none)
  | none => none
example : (∀ op ∈ pkOps, op.valid (1 : Int).toNat) ∧ pkReopen = some (2, some 1, true) := by decide +kernel

/-! ### the pad byte -/

def okDataend : OpenRes → Int
  | .ok h _ => h.dataend
  | _ => -1
/-- one 8-bit frame written into a new mono WAV, closed -/
def oddWav : List Byte :=
  match openHandle 0 {} .rw 0x010005 1 8000 with
  | .ok h s => (closeHandle (runR h s [.write .s16 true [256]]).1 (runR h s [.write .s16 true [256]]).2).bytes
  | _ => []

/-- the file is 46 bytes (44 header, 1 data, 1 pad); re-opened SFM_RDWR its handle has `dataend = 45 ≠ 0` and the store
    holds one byte behind the data — the case the invariant admits through `TailOk` -/
theorem odd_wav_reopens_with_dataend :
    oddWav.length = 46 ∧ okDataend (openHandle 0 ⟨oddWav, 0⟩ .rw 0 0 0) = 45 := by decide +kernel

def oH : H := match openHandle 0 {} .rw 0x010005 1 8000 with | .ok h _ => h | _ => default
def oS : Store := match openHandle 0 {} .rw 0x010005 1 8000 with | .ok _ s => s | _ => default
theorem oH_opened : openHandle 0 {} .rw 0x010005 1 8000 = .ok oH oS := by rfl

/-- non-vacuity of `reopen_rdwr_continues` on the pad-byte case: the one-frame 8-bit mono WAV, closed and opened SFM_RDWR
    again, satisfies the invariant and stands for its one frame; a read of 3 frames there runs into the pad byte: one
    frame delivered, the other two cells ZERO (not the untouched pattern) — `readFill` -/
theorem odd_wav_second_session :
    ∃ h' s', openHandle 0 ⟨(closeHandle (runR oH oS [.write .s16 true [256]]).1 (runR oH oS [.write .s16 true [256]]).2).bytes, 0⟩
        .rw 0x010005 1 8000 = .ok h' s' ∧ RwInv h' s' ∧ (absOf h' s').frames = [[129]] ∧ (absOf h' s').wpos = 1 := by
  have inv0 : RwInv oH oS := RwInv_initial_partial 0 {} 0x010005 1 8000 oH oS oH_opened (open_fresh_tight 0 {} 0x010005 1 8000 oH oS oH_opened rfl)
  have cfg0 := open_rw_cfg 0 {} 0x010005 1 8000 oH oS oH_opened (Or.inl rfl)
  have hok : ∀ op ∈ [ROp.write .s16 true [256]], op.ok oH := by decide
  obtain ⟨inv1, sc⟩ := RwInv_runR [ROp.write .s16 true [256]] oH oS inv0 hok
  obtain ⟨h', s', ho, inv', ha, _⟩ := reopen_rdwr_continues _ _ inv1 0x010005 1 8000 (cfg0.congr sc) (by decide)
    (fun _ => by decide) 0 0
  refine ⟨h', s', ho, inv', ?_, ?_⟩
  · rw [ha]; decide
  · rw [ha]; decide

def padRead : Out :=
  match openHandle 0 ⟨oddWav, 0⟩ .rw 0x010005 1 8000 with
  | .ok h s => (stepAny h s ((ROp.read .s16 true 3).toOp h)).2.2
  | _ => {}
example : padRead.ret = 1 ∧ padRead.data = [256, 0, 0] := by decide +kernel

end Sf.C08Refine
