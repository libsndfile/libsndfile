-- properties: C01 C06
/-
  C06 / C01 (CAF/ALAC) — the read side of src/alac.c ACROSS packet boundaries, for EVERY codec core
  (`read_partition_within` of SfProps/C06Alac.lean stays inside one decoded packet).  A good file is any list of packets of
  1 … maxPacket bytes stored back to back, with the packet table the 'pakt' chunk decodes to (the extra zero entry of a padded
  chunk included); `streamOf cd pkts` is the concatenation of what the codec makes of the packets.  Helpers:
  SfProofs/AlacStream.lean (`At` = where a reader state stands in the stream, `readLoop_stream` by induction on the fuel).

-/
import SfProofs.AlacStream
namespace Sf.C06AlacStream
open Sf Sf.Alac Sf.AlacStream

variable {σ α : Type}

/-- the state `alac_reader_init` / a rewind leaves (`alac_seek (psf, SFM_READ, 0)`: table position 0, data offset 0, no frames
    of a decoded packet; partial_block_frames is left as it was) stands at stream position 0 -/
theorem fresh_at_zero (cd : Codec σ α) (pkts : List (List Byte)) (r : R α) (hc : r.cur = 0) (hi : r.inPos = 0) (hf : r.ftb = 0) :
    At cd pkts r 0 :=
  Or.inl ⟨[], pkts, rfl, hc, hi, by omega, rfl⟩

/-- C06, the read-stream theorem across packets: one `alac_read_*` call of `len` frames from a reader that stands at stream
    position `pos` delivers exactly `stream[pos .. pos+len)` (fewer only at the end of the stream), whatever the packet
    boundaries are, keeps the packet table, and leaves the reader at position pos + (frames delivered) -/
theorem read_stream_cross_packet (cd : Codec σ α) (pkts : List (List Byte)) (extra : List Nat) (hg : Good pkts extra)
    (r : R α) (len pos : Nat) (hs : r.sizes = sizesOf pkts extra) (hat : At cd pkts r pos) :
    (readCall cd (fileIO pkts.flatten) r len).2 = ((streamOf cd pkts).drop pos).take len ∧
    (readCall cd (fileIO pkts.flatten) r len).1.sizes = r.sizes ∧
    At cd pkts (readCall cd (fileIO pkts.flatten) r len).1 (pos + (readCall cd (fileIO pkts.flatten) r len).2.length) := by
  unfold readCall
  exact readLoop_stream cd pkts extra hg _ r len pos hs hat (by unfold readFuel; omega)

/-- the count: min (len, frames left in the stream) -/
theorem read_count_cross_packet (cd : Codec σ α) (pkts : List (List Byte)) (extra : List Nat) (hg : Good pkts extra)
    (r : R α) (len pos : Nat) (hs : r.sizes = sizesOf pkts extra) (hat : At cd pkts r pos) :
    (readCall cd (fileIO pkts.flatten) r len).2.length = min len ((streamOf cd pkts).length - pos) := by
  rw [(read_stream_cross_packet cd pkts extra hg r len pos hs hat).1, List.length_take, List.length_drop]

/-- two consecutive pieces of a stream, the second starting where the first ended (cut at the end of the stream), are one piece -/
theorem take_take_drop (st : List α) (pos a b : Nat) :
    (st.drop pos).take a ++ (st.drop (pos + min a (st.length - pos))).take b = (st.drop pos).take (a + b) := by
  by_cases h : a ≤ st.length - pos
  · rw [Nat.min_eq_left h, List.take_add, List.drop_drop]
  · have h1 : min a (st.length - pos) = st.length - pos := Nat.min_eq_right (by omega)
    rw [h1, List.drop_of_length_le (l := st) (i := pos + (st.length - pos)) (by omega)]
    rw [List.take_of_length_le (by rw [List.length_drop]; omega), List.take_of_length_le (l := st.drop pos) (by rw [List.length_drop]; omega)]
    simp

/-- a whole sequence of calls from a reader that stands at stream position `pos`: the deliveries, one behind the other, are the
    next `lens.sum` frames of the stream (cut at its end), however the total is divided among the calls -/
theorem read_sequence_cross_packet (cd : Codec σ α) (pkts : List (List Byte)) (extra : List Nat) (hg : Good pkts extra) :
    ∀ (lens : List Nat) (r : R α) (pos : Nat), r.sizes = sizesOf pkts extra → At cd pkts r pos →
      ((lens.foldl (fun (acc : R α × List α) len => ((readCall cd (fileIO pkts.flatten) acc.1 len).1, acc.2 ++ (readCall cd (fileIO pkts.flatten) acc.1 len).2))
          (r, [])).2) = ((streamOf cd pkts).drop pos).take lens.sum := by
  intro lens
  suffices H : ∀ (lens : List Nat) (r : R α) (pos : Nat) (pre : List α), r.sizes = sizesOf pkts extra → At cd pkts r pos →
      ((lens.foldl (fun (acc : R α × List α) len => ((readCall cd (fileIO pkts.flatten) acc.1 len).1, acc.2 ++ (readCall cd (fileIO pkts.flatten) acc.1 len).2))
          (r, pre)).2) = pre ++ ((streamOf cd pkts).drop pos).take lens.sum by
    intro r pos hs hat
    simpa using H lens r pos [] hs hat
  intro lens
  induction lens with
  | nil => intro r pos pre _ _; simp
  | cons len rest ih =>
    intro r pos pre hs hat
    obtain ⟨e1, s1, a1⟩ := read_stream_cross_packet cd pkts extra hg r len pos hs hat
    rw [List.foldl_cons, ih _ _ _ (s1.trans hs) a1, e1, List.append_assoc]
    rw [List.length_take, List.length_drop, List.sum_cons]
    exact congrArg (pre ++ ·) (take_take_drop _ pos len rest.sum)

/-- C06, partition independence ACROSS packets: two calls of a and b frames deliver what one call of a + b frames delivers,
    for every position, every a and b (packet boundaries and the end of the stream inside either call included) -/
theorem read_partition_cross_packet (cd : Codec σ α) (pkts : List (List Byte)) (extra : List Nat) (hg : Good pkts extra)
    (r : R α) (a b pos : Nat) (hs : r.sizes = sizesOf pkts extra) (hat : At cd pkts r pos) :
    let io := fileIO pkts.flatten
    (readCall cd io r a).2 ++ (readCall cd io (readCall cd io r a).1 b).2 = (readCall cd io r (a + b)).2 := by
  intro io
  have h2 := read_sequence_cross_packet cd pkts extra hg [a, b] r pos hs hat
  rw [(read_stream_cross_packet cd pkts extra hg r (a + b) pos hs hat).1]
  simpa using h2

/-- non-vacuity: three packets of 3, 2 and 4 bytes behind a byte-per-frame codec, a padded table (extra zero entry); reads of
    2 + 4 frames cross both boundaries, one read of 15 from the start runs into the end of the stream and delivers all 9 -/
example :
    let cd : Codec Unit Nat := { init := (), enc := fun _ st => ((), st), dec := fun p => p }
    let pkts : List (List Byte) := [[10, 11, 12], [20, 21], [30, 31, 32, 33]]
    let r0 : R Nat := { sizes := sizesOf pkts [0] }
    Good pkts [0] ∧ At cd pkts r0 0 ∧
    (readCall cd (fileIO pkts.flatten) r0 2).2 = [10, 11] ∧
    (readCall cd (fileIO pkts.flatten) (readCall cd (fileIO pkts.flatten) r0 2).1 4).2 = [12, 20, 21, 30] ∧
    (readCall cd (fileIO pkts.flatten) r0 15).2 = [10, 11, 12, 20, 21, 30, 31, 32, 33] := by
  refine ⟨⟨by decide, Or.inr rfl⟩, fresh_at_zero _ _ _ rfl rfl rfl, by decide, by decide, by decide⟩

end Sf.C06AlacStream
