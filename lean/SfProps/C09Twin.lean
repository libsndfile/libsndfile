/-
  C09, twin runs.  "An invalid call leaves positions, frame count, metadata and FILE CONTENTS unchanged" is a statement about
  everything observable LATER: a history with refused calls interleaved must end in the same closed file as the history without
  them.  For the handle model (RAW / AU / WAV, every sample-granular codec):

  * `Twin`                                  : a history in which some calls are marked as refused;
  * `Wf`                                    : every marked call is an invalid call in the state it is issued in (`OpInvalid`: the read /
                                              write / seek classes of C09.lean, or an SFC_FILE_TRUNCATE that reports failure), every
                                              other call is any call but a zero-count read / write (and `sf_close`, which ends it);
  * `invalid_calls_do_not_change_state`     : after the twin the handle equals the handle after the base history up to the error
                                              field, and the store (bytes AND position) is the same;
  * `invalid_calls_do_not_change_closed_file` : `sf_close` then writes the same file;
  * `twin_reopen_equal`                     : so re-opening gives the same handle, and every later call the same answers.
  The predicate the check evaluates on the implementation's transcripts is `Sf.AbsTwin.twinOk` (SfModel/AbsTwin.lean).
-/
import SfProps.C09
import SfModel.AbsTwin
namespace Sf.C09Twin
open Sf

/-! ## the error field is read by nothing that produces file bytes, and every call but a zero-count read / write clears it on entry -/

theorem writeHeader_error (h : H) (s : Store) (c : Bool) (e : Int) :
    writeHeader { h with error := e } s c = ({ (writeHeader h s c).1 with error := e }, (writeHeader h s c).2) := by
  cases h
  rename_i st mode cont enc big ch sr fw frames rpos wpos lo hw ah er conv doff dlen dend flen pk pas ct
  cases cont
  · rfl
  · unfold writeHeader
    dsimp only
    cases c
    · rfl
    · rfl
  · unfold writeHeader
    dsimp only
    cases c
    · rfl
    · rfl

theorem wavTailer_error (h : H) (s : Store) (e : Int) :
    wavTailer { h with error := e } s = ({ (wavTailer h s).1 with error := e }, (wavTailer h s).2) := by
  cases h
  rename_i st mode cont enc big ch sr fw frames rpos wpos lo hw ah er conv doff dlen dend flen pk pas ct
  unfold wavTailer H.nb
  dsimp only
  by_cases c : doff + frames * ↑enc.nbytes * ↑ch > 0
  · simp only [c, if_true]; rfl
  · simp only [c, if_false]; rfl

theorem closeHandle_error (h : H) (s : Store) (e : Int) : closeHandle { h with error := e } s = closeHandle h s := by
  have key : ∀ (h' : H) (s' : Store), (writeHeader { h' with error := e } s' true).2 = (writeHeader h' s' true).2 :=
    fun h' s' => by rw [writeHeader_error]
  have key2 : ∀ (h' : H) (s' : Store) (c : Int), (writeHeader { h' with error := e, filelength := c } s' true).2 = (writeHeader { h' with filelength := c } s' true).2 :=
    fun h' s' c => key { h' with filelength := c } s'
  unfold closeHandle
  rw [wavTailer_error]
  dsimp only
  by_cases c2 : ((wavTailer h s).1.mode == Mode.rw) = true
  · by_cases c3 : (↑(wavTailer h s).2.pos : Int) < (wavTailer h s).1.filelength
    · simp only [c2, c3, if_true, key, key2]
    · simp only [c2, c3, if_true, if_false, key]
  · simp only [c2, Bool.false_eq_true, if_false, key]

/-- a call whose result does not depend on the error left by earlier calls: everything but `sf_read_* (…, 0)` /
    `sf_write_* (…, 0)` (which return before looking at the handle) and `sf_close` (which ends the history) -/
def ErrBlind : Op → Prop
  | .read _ _ _ n => n ≠ 0
  | .write _ _ _ n _ => n ≠ 0
  | .close _ => False
  | _ => True

theorem stepAny_error_blind (h : H) (s : Store) (op : Op) (e : Int) (hb : ErrBlind op) :
    stepAny { h with error := e } s op = stepAny h s op := by
  cases op with
  | read _ ty fc n => exact read_error_irrelevant h s ty fc n e hb
  | write _ ty fc n data => exact write_error_irrelevant h s ty fc n data e hb
  | seek _ off whence => rfl
  | cmdFlag _ cmd size => rfl
  | truncate _ f => rfl
  | close _ => exact absurd hb id

/-- a refused call: an invalid read / write / seek (`OpInvalid`), or SFC_FILE_TRUNCATE answering non-zero -/
def Refused (h : H) (s : Store) : Op → Prop
  | .truncate _ f => (stepTruncate h s f).2.2.ret ≠ 0
  | op => OpInvalid h op

theorem refused_no_effect (h : H) (s : Store) (op : Op) (hr : Refused h s op) :
    ∃ e, (stepAny h s op).1 = { h with error := e } ∧ (stepAny h s op).2.1 = s := by
  have other : ∀ op, OpInvalid h op → ∃ e, (stepAny h s op).1 = { h with error := e } ∧ (stepAny h s op).2.1 = s :=
    fun op hv => (C09.stepAny_invalid h s op hv).imp fun _ hx => hx.2
  cases op with
  | truncate _ f => exact (C09.truncate_invalid_no_effect h s f hr).imp fun _ hx => ⟨hx.1, hx.2.1⟩
  | _ => exact other _ hr

/-- a history with refused calls marked (`true`) -/
abbrev Twin := List (Bool × Op)

def twinOps (t : Twin) : List Op := t.map (·.2)
def baseOps : Twin → List Op
  | [] => []
  | (true, _) :: r => baseOps r
  | (false, op) :: r => op :: baseOps r

/-- marked calls are refused where they are issued; unmarked calls are error-blind -/
def Wf : H → Store → Twin → Prop
  | _, _, [] => True
  | h, s, (true, op) :: r => Refused h s op ∧ Wf (stepAny h s op).1 (stepAny h s op).2.1 r
  | h, s, (false, op) :: r => ErrBlind op ∧ Wf (stepAny h s op).1 (stepAny h s op).2.1 r

theorem twin_state (t : Twin) : ∀ (h : H) (s : Store) (e0 : Int), Wf h s t →
    ∃ e, runOps h s (twinOps t) =
      ({ (runOps { h with error := e0 } s (baseOps t)).1 with error := e }, (runOps { h with error := e0 } s (baseOps t)).2) := by
  induction t with
  | nil => intro h s e0 _; exact ⟨h.error, rfl⟩
  | cons x r ih =>
    intro h s e0 hw
    obtain ⟨b, op⟩ := x
    cases b with
    | true =>
      -- the refused call leaves `h` with some error: the rest runs from there in the twin, from `h` in the base history
      obtain ⟨e1, q1, q2⟩ := refused_no_effect h s op hw.1
      obtain ⟨e, he⟩ := ih _ _ e0 hw.2
      refine ⟨e, he.trans ?_⟩
      rw [q1, q2]
      rfl
    | false =>
      -- an error-blind call does the same in both
      obtain ⟨e, he⟩ := ih _ _ (stepAny h s op).1.error hw.2
      refine ⟨e, he.trans ?_⟩
      rw [baseOps, runOps, stepAny_error_blind h s op e0 hw.1]

/-- Refused calls interleaved anywhere in a history leave the handle (up to the error field) and the store — bytes and
    position — exactly as the history without them does. -/
theorem invalid_calls_do_not_change_state (t : Twin) (h : H) (s : Store) (hw : Wf h s t) :
    ∃ e, (runOps h s (twinOps t)).1 = { (runOps h s (baseOps t)).1 with error := e } ∧
         (runOps h s (twinOps t)).2 = (runOps h s (baseOps t)).2 := by
  obtain ⟨e, he⟩ := twin_state t h s h.error hw
  exact ⟨e, by rw [he], by rw [he]⟩

/-- … and `sf_close` then writes the same file. -/
theorem invalid_calls_do_not_change_closed_file (t : Twin) (h : H) (s : Store) (hw : Wf h s t) :
    closeHandle (runOps h s (twinOps t)).1 (runOps h s (twinOps t)).2 =
    closeHandle (runOps h s (baseOps t)).1 (runOps h s (baseOps t)).2 := by
  obtain ⟨e, e1, e2⟩ := invalid_calls_do_not_change_state t h s hw
  rw [e1, e2, closeHandle_error]

/-- so whatever is done with the closed file afterwards — re-open in any mode, `info`, reads — sees no difference -/
theorem twin_reopen_equal (t : Twin) (h : H) (s : Store) (hw : Wf h s t) (ix : Nat) (m : Mode) (fmt : Nat) (ch sr : Int) :
    openHandle ix (closeHandle (runOps h s (twinOps t)).1 (runOps h s (twinOps t)).2) m fmt ch sr =
    openHandle ix (closeHandle (runOps h s (baseOps t)).1 (runOps h s (baseOps t)).2) m fmt ch sr := by
  rw [invalid_calls_do_not_change_closed_file t h s hw]

/-! ## non-vacuity: a stereo 16-bit WAV written in two calls, with a read, a misaligned write, an out-of-range seek target
(negative), an unknown whence and a refused SFC_FILE_TRUNCATE in between -/

def wS : Store := {}
def twinEx : Twin :=
  [(false, .write 0 .s16 true 1 [1, 2]), (true, .read 0 .s16 false 2), (true, .write 0 .s16 false 3 [7, 7, 7]),
   (true, .seek 0 (-4) 0), (true, .seek 0 0 7), (true, .truncate 0 0), (false, .write 0 .s16 true 1 [3, 4])]

example : (match openHandle 0 wS .w 0x010002 2 8000 with
    | .ok h s =>
      decide ((closeHandle (runOps h s (twinOps twinEx)).1 (runOps h s (twinOps twinEx)).2).bytes =
              (closeHandle (runOps h s (baseOps twinEx)).1 (runOps h s (baseOps twinEx)).2).bytes ∧
              (closeHandle (runOps h s (baseOps twinEx)).1 (runOps h s (baseOps twinEx)).2).bytes.length = 52 ∧
              (runOps h s (twinOps (twinEx.take 5))).1.error ≠ 0 ∧ (runOps h s (baseOps (twinEx.take 5))).1.error = 0)
    | _ => false) = true := by decide +kernel

/-- the hypothesis is met: on the read-only handle of C09.lean, an unknown whence is refused and a one-frame read is error-blind -/
example : Wf C09.eH C09.eS [(true, .seek 0 0 7), (false, .read 0 .s16 true 1)] :=
  ⟨Or.inl (by unfold seekKnown; decide), by show (1 : Int) ≠ 0; decide, trivial⟩

end Sf.C09Twin

/-! ## what the predicate of the check means (`Sf.AbsTwin.twinOk`, evaluated by `sfmodel abs-twin` on the implementation's transcripts) -/
namespace Sf.C09Twin
open Sf.AbsTwin

theorem insFail_none (i : Ins) : insFail i = none ↔ (i.must = true → i.refused = true ∧ i.err ≠ 0 ∧ 0 < i.msgLen) := by
  unfold insFail
  cases hm : i.must <;> cases hr : i.refused <;> simp

theorem pairFail_none (p : Pair) : pairFail p = none ↔ p.base = p.twin := by
  unfold pairFail
  by_cases h : p.base = p.twin <;> simp [h]

/-- A twin record is accepted exactly when every call of an invalid class was refused with an error code and a message, and every
    line the two histories share — later calls on the handle, the close, the bytes of the closed file, info / metadata / audio of the
    re-opened file — is the same with and without the refused calls. -/
theorem twinOk_meaning (r : Record) :
    twinOk r = true ↔
      (∀ i ∈ r.ins, i.must = true → i.refused = true ∧ i.err ≠ 0 ∧ 0 < i.msgLen) ∧ (∀ p ∈ r.pairs, p.base = p.twin) := by
  unfold twinOk judge
  simp only [List.isEmpty_iff, List.append_eq_nil_iff, List.filterMap_eq_nil_iff, insFail_none, pairFail_none]

/-- in particular the closed files are byte-identical -/
theorem accepted_closed_files_equal (r : Record) (h : twinOk r = true) (p : Pair) (hp : p ∈ r.pairs) (_ : p.phase = .file) :
    p.base = p.twin := ((twinOk_meaning r).mp h).2 p hp

/-- non-vacuity: an accepted record, and one rejected by each clause (a seek that was not refused; a refusal without error code;
    a closed file that differs) -/
example : twinOk { ins := [⟨3, true, true, 5, 9⟩, ⟨7, false, false, 0, 9⟩], pairs := [⟨5, .state, "ret=1", "ret=1"⟩, ⟨9, .file, "len=2 hex=0102", "len=2 hex=0102"⟩] } = true ∧
    judge { ins := [⟨3, true, false, 0, 9⟩], pairs := [] } = [.failValue 3] ∧
    judge { ins := [⟨3, true, true, 0, 9⟩], pairs := [] } = [.errorCode 3] ∧
    judge { ins := [], pairs := [⟨9, .file, "len=2 hex=0102", "len=3 hex=010200"⟩] } = [.differs .file 9] := by decide

end Sf.C09Twin
