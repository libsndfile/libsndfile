/-
  C01 / C04 / C07 / C11 — THE WRITE-SIDE BRIDGE: exact rate clauses, SVX without hypothesis, the sample-level instances (W64, AIFF, CAF).
  -- properties: C01 C04 C07 C11

  PART 1 — the rate clauses are EXACT.  `Sf.AbsWrite.rateOk` accepts, for the 16-bit class (SVX, MPC2K) exactly `min sr 65535`, for
  the binary32 class (IRCAM) exactly `float32Quant sr` (the integer rounded to binary32, 2^31 − 128 from 2^31 − 64 Hz on), and
  `rateOkG` — the clause on the whole geometry, what `sfmodel abs-write` evaluates (`judgeG`) — for VOC exactly what the block type
  selected by encoding and channel count makes of the rate (type 9: the rate; type 1 / 8: the time-constant quantiser).
  `ircam_rate_exact_accepted / _only`, `voc_rate_exact_accepted / _only`, `svx_rate_exact_accepted / _only`: the models' quantisers
  are accepted AT EVERY RATE and nothing else is; the looser clauses they replace are `_old_rule` witnesses.  Hence
  `ircam_session_accepted_every_rate`, `voc_session_accepted_every_rate` (under `acceptedG`), which carry no rate hypothesis.
-/
import SfProps.C04Bridge2
import SfProps.C04IrcamRateExact
import SfProps.C04SvxReopen
import SfProps.C04BridgeW64
import SfProps.C04BridgeAiff
import SfProps.C04BridgeCaf
namespace Sf.C04Bridge3
open Sf Sf.AbsWrite Sf.AbsWriteBridge Sf.C04Bridge Sf.C04Bridge2
open Sf.AbsWriteBridge.Small (Cont Laws Valid small2Cont)

/-- FULL: at EVERY rate sf_open accepts, the model's quantiser (the IEEE round trip of the rate
    through the byte-exact float writer / reader, capped) answers a rate, and the predicate's clause accepts it -/
theorem ircam_rate_exact_accepted (sr : Nat) (h1 : 1 ≤ sr) (h2 : sr ≤ 0x7FFFFFFF) :
    ∃ q, Ircam.rateQ sr = some q ∧ rateOk 0x0A sr (q : Int) = true :=
  ⟨_, IrcamRateExact.ircam_rateQ_exact sr h1 h2, (AbsWriteRate.rateOk_float32_iff 0x0A sr _ AbsWriteRate.rateClass_ircam).2 rfl⟩

/-- FULL: an accepted rate IS the model's quantiser value -/
theorem ircam_rate_exact_only (sr : Nat) (h1 : 1 ≤ sr) (h2 : sr ≤ 0x7FFFFFFF) (got : Int) (h : rateOk 0x0A sr got = true) :
    ∃ q : Nat, got = (q : Int) ∧ Ircam.rateQ sr = some q :=
  ⟨_, (AbsWriteRate.rateOk_float32_iff 0x0A sr got AbsWriteRate.rateClass_ircam).1 h, IrcamRateExact.ircam_rateQ_exact sr h1 h2⟩

/-- the old clause `float32CapOld` asked nothing from 2^31 − 64 Hz on (a reader answering 1 Hz for 2^31 − 1 Hz passed); the exact clause
    pins 2^31 − 128 there; below the cap the two agree -/
theorem ircam_rate_cap_old_rule :
    float32CapOld (2 ^ 31 - 1) 1 = true ∧ rateOk 0x0A (2 ^ 31 - 1) 1 = false ∧ rateOk 0x0A (2 ^ 31 - 1) (2 ^ 31 - 128) = true ∧
    float32CapOld (2 ^ 31 - 64) 12345 = true ∧ rateOk 0x0A (2 ^ 31 - 64) 12345 = false ∧
    float32CapOld (2 ^ 24 + 3) (2 ^ 24 + 4) = true ∧ rateOk 0x0A (2 ^ 24 + 3) (2 ^ 24 + 4) = true ∧ rateOk 0x0A (2 ^ 24 + 3) (2 ^ 24 + 3) = false := by
  decide

/-- IRCAM: every job of whole frames at EVERY rate is accepted — `ircam_session_accepted` without its two rate hypotheses -/
theorem ircam_session_accepted_every_rate (c : Ircam.Cfg) (hwf : c.wf) (ty : Ty) (stale stale' : Nat) (ops : List Small.Op)
    (hv : Valid c.ch ty ops) :
    accepted (Small.recordOf (Small.small1Cont (Ircam.spec c) Ircam.parse (ircamGeom c) (encFor c.codec c.big)) ty stale stale' ops) = true := by
  obtain ⟨q, hq, hr⟩ := ircam_rate_exact_accepted c.sr hwf.2.2.1 hwf.2.2.2
  exact ircam_session_accepted c hwf q hq hr ty stale stale' ops hv

example : C04Bridge2.exIrcam.wf ∧ Valid C04Bridge2.exIrcam.ch .s16 C04Bridge2.exOps ∧ float32Quant C04Bridge2.exIrcam.sr = 2 ^ 24 := by decide

theorem svx_rate_exact_accepted (sr : Nat) : rateOk 0x06 sr ((Svx.rateField sr : Nat) : Int) = true :=
  (AbsWriteRate.rateOk_field16_iff 0x06 sr _ AbsWriteRate.rateClass_svx).2 rfl

theorem svx_rate_exact_only (sr : Nat) (got : Int) (h : rateOk 0x06 sr got = true) : got = ((Svx.rateField sr : Nat) : Int) :=
  (AbsWriteRate.rateOk_field16_iff 0x06 sr got AbsWriteRate.rateClass_svx).1 h

theorem mpc2k_rate_exact_only (sr : Nat) (got : Int) (h : rateOk 0x21 sr got = true) : got = ((Mpc2k.quant sr : Nat) : Int) :=
  (AbsWriteRate.rateOk_field16_iff 0x21 sr got AbsWriteRate.rateClass_mpc2k).1 h

/-- the old clause `field16Old` asked nothing above 65535 Hz; the wrapped value of the defect KF-RATE16-WRAP (65537 → 1) passed it -/
theorem field16_old_rule : field16Old 65537 1 = true ∧ rateOk 0x06 65537 1 = false ∧ rateOk 0x06 65537 65535 = true ∧
    field16Old 131072 0 = true ∧ rateOk 0x21 131072 0 = false := by decide

theorem vocGeom_major (c : Voc.Cfg) (hwf : c.wf) : (vocGeom c).major = 0x08 :=
  (geom_facts (vocGeom c) 0 0x08 c.codec false rfl (by decide) (by decide) (voc_codec c hwf).1 (Or.inl (by decide))).2.1

theorem vocGeom_codec (c : Voc.Cfg) (hwf : c.wf) : (vocGeom c).codec = c.codec :=
  (geom_facts (vocGeom c) 0 0x08 c.codec false rfl (by decide) (by decide) (voc_codec c hwf).1 (Or.inl (by decide))).1

/-- FULL: at EVERY rate, for every configuration sf_open accepts, the exact clause accepts the model's
    quantiser — the type 9 block's rate, the 8-bit and the 16-bit time constant, the wrapped constants outside the fields included -/
theorem voc_rate_exact_accepted (c : Voc.Cfg) (hwf : c.wf) : rateOkG (vocGeom c) ((Voc.quant c : Nat) : Int) = true := by
  rw [AbsWriteRate.rateOkG_voc_iff _ _ (vocGeom_major c hwf), vocGeom_codec c hwf]
  show _ ∨ (_ ∧ c.ch = 1 ∧ periodOk _ _ c.sr _ = true) ∨ (_ ∧ c.ch ≠ 1 ∧ periodOk _ _ c.sr _ = true)
  by_cases h5 : c.codec = 5
  · by_cases h1 : c.ch = 1
    · refine Or.inr (Or.inl ⟨h5, h1, ?_⟩)
      rw [Voc.quant_type1 h5 h1]
      exact AbsWriteRate.periodOk_complete _ _ _ _ (fun a b => Voc.unrate8_rate8 c.sr a b) (Voc.unrate8_pos _ (Voc.rate8_lt _))
    · refine Or.inr (Or.inr ⟨h5, h1, ?_⟩)
      rw [Voc.quant_type8 h5 h1]
      exact AbsWriteRate.periodOk_complete _ _ _ _ (fun a b => Voc.unrate16_rate16 c.sr a b) (Voc.unrate16_pos true _ (Voc.rate16_lt _))
  · exact Or.inl ⟨h5, by rw [C04Voc.voc_rate_exact9 c h5]; rfl⟩

/-- … hence the clause that sees only the container and the rate accepts it as well: the hypothesis `hrate` of `voc_laws` /
    `voc_session_accepted` holds at every rate -/
theorem voc_rate_ok (c : Voc.Cfg) (hwf : c.wf) : rateOk 0x08 c.sr ((Voc.quant c : Nat) : Int) = true := by
  have := AbsWriteRate.rateOk_of_rateOkG _ _ (voc_rate_exact_accepted c hwf)
  rw [vocGeom_major c hwf] at this
  exact this

/-- FULL: where the block's field can hold the period (type 1: 3907 … 10^6 Hz, type 8: 1954 … 128·10^6 Hz;
    type 9: every rate) an accepted rate IS the model's quantiser -/
theorem voc_rate_exact_only (c : Voc.Cfg) (hwf : c.wf) (got : Int) (h : rateOkG (vocGeom c) got = true)
    (hin : c.codec = 5 → if c.ch = 1 then 3907 ≤ c.sr ∧ c.sr ≤ 10 ^ 6 else 1954 ≤ c.sr ∧ c.sr ≤ 128 * 10 ^ 6) :
    got = ((Voc.quant c : Nat) : Int) := by
  rw [AbsWriteRate.rateOkG_voc_iff _ _ (vocGeom_major c hwf), vocGeom_codec c hwf] at h
  change (_ ∧ got = (c.sr : Int)) ∨ (_ ∧ c.ch = 1 ∧ periodOk _ _ c.sr got = true) ∨ (_ ∧ c.ch ≠ 1 ∧ periodOk _ _ c.sr got = true) at h
  rcases h with ⟨h5, e⟩ | ⟨h5, h1, e⟩ | ⟨h5, h1, e⟩
  · rw [C04Voc.voc_rate_exact9 c h5]; exact e
  · have hr := hin h5; rw [if_pos h1] at hr
    have h0 : 0 < 10 ^ 6 / c.sr := Nat.div_pos hr.2 (by omega)
    have hb : 10 ^ 6 / c.sr < 2 ^ 8 := (Nat.div_lt_iff_lt_mul (by omega)).2 (by omega)
    rcases (AbsWriteRate.periodOk_iff _ _ _ _).1 e with ⟨_, _, e'⟩ | ⟨h' | h', _⟩
    · rw [Voc.quant_type1 h5 h1, Voc.unrate8_rate8 c.sr h0 hb]; exact e'
    · omega
    · omega
  · have hr := hin h5; rw [if_neg h1] at hr
    have h0 : 0 < 128 * 10 ^ 6 / c.sr := Nat.div_pos hr.2 (by omega)
    have hb : 128 * 10 ^ 6 / c.sr < 2 ^ 16 := (Nat.div_lt_iff_lt_mul (by omega)).2 (by omega)
    rcases (AbsWriteRate.periodOk_iff _ _ _ _).1 e with ⟨_, _, e'⟩ | ⟨h' | h', _⟩
    · rw [Voc.quant_type8 h5 h1, Voc.unrate16_rate16 c.sr h0 hb]; exact e'
    · omega
    · omega

/-- the old tolerance (`divisorTolOld`): 44101 Hz passed for a mono PCM_U8 file asked at 44100 Hz (time constant
    234 = 45454 Hz), the true answer 45454 Hz passed only because the tolerance is wide, and outside 4000 … 200000 Hz nothing was asked
    (3907 Hz: 1 Hz passed); the exact clause accepts 45454 and 3921 and nothing else; for stereo 44107 (16-bit constant) -/
theorem voc_rate_tolerance_old_rule :
    divisorTolOld 44100 44101 = true ∧ rateOkG ⟨0x080005, 1, 44100⟩ 44101 = false ∧ rateOkG ⟨0x080005, 1, 44100⟩ 45454 = true ∧
    rateOkG ⟨0x080005, 2, 44100⟩ 45454 = false ∧ rateOkG ⟨0x080005, 2, 44100⟩ 44107 = true ∧ rateOkG ⟨0x080002, 2, 44100⟩ 44107 = false ∧
    rateOkG ⟨0x080002, 2, 44100⟩ 44100 = true ∧ divisorTolOld 3907 1 = true ∧ rateOkG ⟨0x080005, 1, 3907⟩ 1 = false ∧
    rateOkG ⟨0x080005, 1, 3907⟩ 3921 = true ∧ rateOkG ⟨0x080005, 1, 3906⟩ 1 = true ∧ rateOkG ⟨0x080005, 1, 3906⟩ 0 = false ∧
    rateOk 0x08 44100 44101 = false ∧ rateOk 0x08 44100 45454 = true ∧ rateOk 0x08 44100 44107 = true ∧ rateOk 0x08 44100 44100 = true := by
  decide

/-- the closed reference file of a VOC job re-opens with the model's quantiser as its rate -/
theorem voc_record_rate (c : Voc.Cfg) (hwf : c.wf) (ty : Ty) (stale stale' : Nat) (ops : List Small.Op) (hv : Valid c.ch ty ops)
    (hguard : vocGuard ((Small.sampleList ops).length * (encFor c.codec false).nbytes)) :
    (Small.recordOf (vocCont c) ty stale stale' ops).info.sr = ((Voc.quant c : Nat) : Int) := by
  have L := voc_laws c hwf (voc_rate_ok c hwf)
  -- the reference run's operations meet the guard (`guardOf_toW`), so `voc_reopen_info` speaks of its closed file (`parse_single`)
  have hg := guardOf_toW (vocCont c) vocGuard ty _ (Small.refOps_valid c.ch ty ops hv) (by rw [Small.refOps_samples]; exact hguard)
  rw [show (vocCont c).enc.nbytes * (vocCont c).g.ch = c.bw from voc_bw c hwf] at hg
  show (Small.infoOf (Voc.parse (Voc.closedBytes c stale _))).sr = _
  rw [parse_single (img := Voc.closedBytes c) (fun D => ⟨c.ch, c.fmtWord, Voc.quant c, D / c.bw⟩) L.closedFn (C04Voc.voc_reopen_info c hwf) stale _ hg]
  rfl

/-- VOC: every job of whole frames at EVERY rate passes THE PREDICATE WITH THE EXACT RATE CLAUSE (`judgeG`, what `sfmodel abs-write`
    evaluates): `voc_session_accepted` without its rate hypothesis, and the re-open rate is exactly the block's quantiser -/
theorem voc_session_accepted_every_rate (c : Voc.Cfg) (hwf : c.wf) (ty : Ty) (stale stale' : Nat) (ops : List Small.Op)
    (hv : Valid c.ch ty ops) (hguard : vocGuard ((Small.sampleList ops).length * (encFor c.codec false).nbytes)) :
    acceptedG (Small.recordOf (vocCont c) ty stale stale' ops) = true := by
  rw [AbsWriteRate.acceptedG_iff]
  refine ⟨voc_session_accepted c hwf (voc_rate_ok c hwf) ty stale stale' ops hv hguard, ?_⟩
  rw [voc_record_rate c hwf ty stale stale' ops hv hguard]
  exact voc_rate_exact_accepted c hwf

/-- non-vacuity: mono PCM_U8 at 11025 Hz (time constant 166 = 11111 Hz) — hypotheses, the record's rate, the verdict of `judgeG` -/
example : (⟨5, 1, 11025⟩ : Voc.Cfg).wf ∧ Valid 1 .s16 C04Bridge2.exOps1 ∧
    (Small.sampleList C04Bridge2.exOps1).length * (encFor 5 false).nbytes + 14 < 2 ^ 24 ∧
    (Small.recordOf (vocCont ⟨5, 1, 11025⟩) .s16 0 99999 C04Bridge2.exOps1).info.sr = 11111 ∧
    acceptedG (Small.recordOf (vocCont ⟨5, 1, 11025⟩) .s16 0 99999 C04Bridge2.exOps1) = true ∧
    (judgeG { Small.recordOf (vocCont ⟨5, 1, 11025⟩) .s16 0 99999 C04Bridge2.exOps1 with
              info := { ch := 1, sr := 11025, fmt := 0x080005, frames := 3 } }).map (·.tag) = ["rate"] := by
  have hwf : (⟨5, 1, 11025⟩ : Voc.Cfg).wf := by decide
  have hv : Valid 1 .s16 C04Bridge2.exOps1 := by decide
  have hg : (Small.sampleList C04Bridge2.exOps1).length * (encFor 5 false).nbytes + 14 < 2 ^ 24 := by decide
  exact ⟨hwf, hv, hg, (voc_record_rate _ hwf .s16 0 99999 _ hv hg).trans (by decide),
    voc_session_accepted_every_rate _ hwf .s16 0 99999 _ hv hg, by decide +kernel⟩

/-- every container but VOC: the two predicates agree, so every `<x>_session_accepted` theorem is a theorem about `acceptedG` -/
theorem acceptedG_of_accepted (r : Record) (h : r.g.major ≠ 0x08) (ha : accepted r = true) : acceptedG r = true := by
  rw [AbsWriteRate.acceptedG_eq_accepted r h]; exact ha

/-! ## PART 2 — SVX: the re-open theorem of the chunk-loop reader discharges `SvxReopens` -/

/-- FULL within the 32-bit BODY size field: for every configuration sf_open accepts — every file name up to 255
    characters included, since the repair of KF-SVX-NAME-LENGTH — every stale frames value and every session, the closed file re-opens
    through the chunk loop of svx_read_header (VHDR, NAME, ANNO, BODY) with the requested channels and encoding, the saturated rate and
    D / bw frames -/
theorem svx_reopen_info (c : Svx.Cfg) (hwf : c.wf) : SvxReopens c :=
  fun st w _ hD => SvxReopen.svx_reopens c hwf st w hD

/-- … and so does the image every header update leaves (C11) -/
theorem svx_snapshot_valid_parse (c : Svx.Cfg) (hwf : c.wf) (st : Nat) (w : List Sf.Small.WOp) (hD : (Sf.Small.opsData w).length < 2 ^ 32) :
    Svx.parse (Sf.Small.snapshotBytes (Svx.spec c) st w) =
      .ok { ch := c.ch, fmt := c.fmtWord, sr := min c.sr 65535, frames := (Sf.Small.opsData w).length / c.bw } :=
  SvxReopen.svx_snapshot_reopens c hwf st w hD

/-- SVX: every job of whole frames (below 2^32 audio bytes) is accepted — `svx_session_accepted` without the reader hypothesis -/
theorem svx_session_accepted_all (c : Svx.Cfg) (hwf : c.wf) (ty : Ty) (stale stale' : Nat) (ops : List Small.Op)
    (hv : Valid c.ch ty ops) (hguard : svxGuard ((Small.sampleList ops).length * (encFor c.codec true).nbytes)) :
    accepted (Small.recordOf (Small.small1Cont (Svx.spec c) Svx.parse (svxGeom c) (encFor c.codec true)) ty stale stale' ops) = true :=
  svx_session_accepted c hwf (svx_reopen_info c hwf) ty stale stale' ops hv hguard

example : C04Svx.exCfg.wf ∧ Valid C04Svx.exCfg.ch .s16 C04Bridge2.exOps1 ∧
    (Small.sampleList C04Bridge2.exOps1).length * (encFor C04Svx.exCfg.codec true).nbytes < 2 ^ 32 := by decide

/-- the reader before the repair of KF-SVX-NAME-LENGTH (`Svx.parseNameOld`: a NAME chunk above 255 bytes fails the open): the library
    could not re-open the file it wrote under a 254 or 255 character name (NAME chunk of 256 bytes) — the full statement failed, and
    held for names up to 253 characters (`SvxReopen.svx_reopens_old_rule`) -/
theorem svx_reopen_info_old_rule_fails :
    ¬ (∀ c : Svx.Cfg, c.wf → ∀ st (w : List Sf.Small.WOp), (Sf.Small.opsData w).length < 2 ^ 32 →
        Svx.parseNameOld (Sf.Small.closedBytes (Svx.spec c) st w) =
          .ok { ch := c.ch, fmt := c.fmtWord, sr := min c.sr 65535, frames := (Sf.Small.opsData w).length / c.bw }) := by
  intro h
  have w := SvxReopen.svx_name_254_not_reopened_old_rule
  have := h ⟨0x01, 0, 1, 44100, List.replicate 254 65⟩ w.1 0 [.write [1, 2, 3] false] (by decide)
  rw [w.2.1] at this
  exact absurd this (by decide)

theorem svx_reopen_info_old_rule (c : Svx.Cfg) (hwf : c.wf) (hname : c.name.length ≤ 253) (st : Nat) (w : List Sf.Small.WOp)
    (hD : (Sf.Small.opsData w).length < 2 ^ 32) :
    Svx.parseNameOld (Sf.Small.closedBytes (Svx.spec c) st w) =
      .ok { ch := c.ch, fmt := c.fmtWord, sr := min c.sr 65535, frames := (Sf.Small.opsData w).length / c.bw } :=
  SvxReopen.svx_reopens_old_rule c hwf hname st w hD

end Sf.C04Bridge3

/-! ## PART 3 — containers whose closed bytes are a function of the SAMPLES (PEAK chunk): the sample-level bridge

  `Sf.AbsWriteBridge.Sample`: `SCont` / `SLaws` (lean/SfProofs/AbsWriteBridgeSample.lean), `sample_cont_session_accepted`
  (…SampleRun.lean), PEAK bookkeeping and its partition independence on samples (…SamplePeak.lean, from `Sf.Peak.run_partition`),
  instances lean/SfProps/C04BridgeW64.lean, C04BridgeAiff.lean, C04BridgeCaf.lean. -/

namespace Sf.C04Bridge3
open Sf Sf.AbsWrite Sf.AbsWriteBridge Sf.C04Bridge Sf.C04Bridge2
open Sf.AbsWriteBridge.Small (Valid)
open Sf.AbsWriteBridge.Sample (SCont SLaws toS sData sData_toS sample_cont_session_accepted)

theorem whole_toS (ch : Nat) (ty : Ty) (p : List Small.Op) (a : Bool) (hv : Valid ch ty p) : Sample.Whole ch (toS a p) := by
  intro op h
  rcases Sample.mem_toS p a h with rfl | ⟨fc, xs, b, rfl, hm⟩
  · trivial
  · exact (hv _ hm).1

/-- every write call of the job hands over at least one sample and only values that are finite in the file's type ("all sample
    sequences of finite values"; an empty call never reaches the PEAK bookkeeping, `Sf.Peak.WellFormed` leaves it out) -/
def PeakJob (e : Enc) (ty : Ty) (ops : List Small.Op) : Prop :=
  ∀ fc xs, Small.Op.write fc xs ∈ ops → xs ≠ [] ∧ ∀ x ∈ xs, (Sf.Peak.fileFmt e).isFinite (Sf.Peak.convVal e {} ty x) = true

theorem peakOk_toS (e : Enc) (ch : Nat) (ty : Ty) (p : List Small.Op) (a : Bool) (hv : Valid ch ty p) (hj : PeakJob e ty p) :
    Sample.PeakOk e ch ty (toS a p) := by
  intro c hc
  obtain ⟨b, hm, e1⟩ := Sample.mem_sCalls hc
  rcases Sample.mem_toS p a hm with h | ⟨fc, xs, b', h, hm'⟩
  · cases h
  · cases h
    obtain ⟨h1, h2⟩ := hj fc c.2 hm'
    exact ⟨List.length_pos_iff.2 h1, (hv _ hm').1, e1 ▸ h2⟩

theorem peakJob_refOps (e : Enc) (ty : Ty) (ops : List Small.Op) (hj : PeakJob e ty ops) : PeakJob e ty (Small.refOps ops) := by
  intro fc xs hm
  unfold Small.refOps at hm
  split at hm
  · cases hm
  · rename_i hne
    simp only [List.mem_singleton, Small.Op.write.injEq] at hm
    obtain ⟨_, rfl⟩ := hm
    refine ⟨fun h0 => hne (by rw [h0]; rfl), fun x hx => ?_⟩
    obtain ⟨fc', ys, hm', hys⟩ := Small.mem_sampleList hx
    exact (hj fc' ys hm').2 x hys

theorem peakJob_prefix (e : Enc) (ty : Ty) (ops p post : List Small.Op) (h : ops = p ++ post) (hj : PeakJob e ty ops) : PeakJob e ty p :=
  fun fc xs hm => hj fc xs (by rw [h]; exact List.mem_append_left _ hm)

/-- the float job of the non-vacuity examples below (0.5 | update | auto: −1.0, 0.25) for an encoding in which its three values are finite -/
theorem peakJob_example (e : Enc)
    (h : ∀ x ∈ [(0x3F000000 : Int), 0xBF800000, 0x3E800000], (Sf.Peak.fileFmt e).isFinite (Sf.Peak.convVal e {} .f32 x) = true) :
    PeakJob e .f32 [.write true [0x3F000000], .update, .auto true, .write false [0xBF800000, 0x3E800000]] := by
  intro fc xs hm
  simp only [List.mem_cons, Small.Op.write.injEq, List.mem_nil_iff, or_false, reduceCtorEq, false_or] at hm
  rcases hm with ⟨_, rfl⟩ | ⟨_, rfl⟩
  · exact ⟨by simp, fun x hx => h x (by simp only [List.mem_singleton] at hx; simp [hx])⟩
  · exact ⟨by simp, fun x hx => h x (List.mem_cons_of_mem _ hx)⟩

/-- the generic step for a guard of the shape "whole frames ∧ a bound on the number of samples ∧ (float file → PEAK-well-formed calls)";
    `hG` builds the guard from its three parts (a container without PEAK chunk passes `isFloat := false`) -/
theorem peak_session_good (K : SCont) (ty : Ty) (G : List Sample.SOp → Prop) (L : SLaws K ty G) (isFloat : Bool) (bound : Nat)
    (hG : ∀ w : List Sample.SOp, Sample.Whole K.g.ch w → (sData w).length ≤ bound →
      (isFloat = true → Sample.PeakOk K.enc K.g.ch ty w) → G w)
    (stale stale' : Nat) (ops : List Small.Op) (hv : Valid K.g.ch ty ops) (hb : (Small.sampleList ops).length ≤ bound)
    (hj : isFloat = true → PeakJob K.enc ty ops) :
    Good (Sample.predOf K ty stale stale' ops) := by
  apply Sample.sample_pred_good K ty G L stale stale' ops hv
  · have hvr := Small.refOps_valid K.g.ch ty ops hv
    exact hG _ (whole_toS K.g.ch ty _ false hvr) (by rw [sData_toS, Small.refOps_samples]; exact hb)
      (fun hf => peakOk_toS K.enc K.g.ch ty _ false hvr (peakJob_refOps K.enc ty ops (hj hf)))
  · intro p post e
    have hvp : Valid K.g.ch ty p := fun o ho => hv o (by rw [e]; simp [ho])
    exact hG _ (whole_toS K.g.ch ty p false hvp) (by rw [sData_toS]; exact Nat.le_trans (sampleList_prefix_le e) hb)
      (fun hf => peakOk_toS K.enc K.g.ch ty p false hvp (peakJob_prefix K.enc ty ops p post e (hj hf)))

/-! ### W64 (PCM_U8 / 16 / 24 / 32, FLOAT, DOUBLE, ULAW, ALAW; no PEAK chunk: through the sample-level interface for uniformity) -/

theorem w64_session_good (c : W64.Cfg) (hwf : c.wf) (ty : Ty) (stale stale' : Nat) (ops : List Small.Op) (hv : Valid c.ch ty ops)
    (hsz : W64.hdrLen c + (Small.sampleList ops).length * (Sample.w64Enc c.codec).nbytes + 24 < 2 ^ 62) :
    Good (Sample.predOf (Sample.w64Cont c) ty stale stale' ops) := by
  apply peak_session_good (Sample.w64Cont c) ty (Sample.w64Guard c ty) (Sample.w64_slaws c hwf ty) false (Small.sampleList ops).length ?_
    stale stale' ops hv (Nat.le_refl _) (fun h => Bool.noConfusion h)
  intro w hw hlen _
  have := Nat.mul_le_mul_right (Sample.w64Enc c.codec).nbytes hlen
  exact ⟨hw, by omega⟩

/-- FULL within the reader's 2^62 size guard: every job of whole frames on the W64 model — any split into
    item / frame calls, header updates, auto mode, any stale frames value — is accepted: C04 info / rate / frames / eof, C01 round trip
    under the side condition, C07 partition / stale, C11 at every crash point.  From the session invariant `Sf.W64.Inv` along the
    operations (`Sample.w64Ops_inv`: what `stale_frames_ignored_w64`, `snapshot_valid_w64`, `auto_write_is_snapshot_w64` say at `openW`) and
    the parser on header ++ audio, `Sf.W64.parse_image` (cited in SfProps/C04BridgeW64.lean). -/
theorem w64_session_accepted (c : W64.Cfg) (hwf : c.wf) (ty : Ty) (stale stale' : Nat) (ops : List Small.Op) (hv : Valid c.ch ty ops)
    (hsz : W64.hdrLen c + (Small.sampleList ops).length * (Sample.w64Enc c.codec).nbytes + 24 < 2 ^ 62) :
    accepted (Sample.recordOf (Sample.w64Cont c) ty stale stale' ops) = true :=
  Pred.accepted_of_good _ (w64_session_good c hwf ty stale stale' ops hv hsz)

/-- non-vacuity: a stereo 16-bit W64 job (frames call, update, auto mode, items call) — hypotheses, crash points, the verdict, evaluated -/
example : (⟨0x02, 2, 44100⟩ : W64.Cfg).wf ∧ Valid 2 .s16 C04Bridge2.exOps ∧
    (Sample.recordOf (Sample.w64Cont ⟨0x02, 2, 44100⟩) .s16 0 99999 C04Bridge2.exOps).snaps.map (·.info.frames) = [1, 3] ∧
    (Sample.recordOf (Sample.w64Cont ⟨0x02, 2, 44100⟩) .s16 0 99999 C04Bridge2.exOps).info.frames = 3 ∧
    accepted (Sample.recordOf (Sample.w64Cont ⟨0x02, 2, 44100⟩) .s16 0 99999 C04Bridge2.exOps) = true := by
  have hwf : (⟨0x02, 2, 44100⟩ : W64.Cfg).wf := by decide
  have hv : Valid 2 .s16 C04Bridge2.exOps := by decide
  have hg := w64_session_good _ hwf .s16 0 99999 _ hv (by decide)
  obtain ⟨h1, h2⟩ := Sample.good_frames hg rfl rfl
  exact ⟨hwf, hv, h2.trans (by decide), h1.trans (by decide), Pred.accepted_of_good _ hg⟩

/-! ### AIFF / AIFF-C (PCM_S8 / U8 / 16 / 24 / 32 in both byte orders, FLOAT, DOUBLE, ULAW, ALAW) -/

theorem aiff_session_good (c : Aiff.Cfg) (k : Aiff.Kind) (e : Enc) (hwf : c.wf) (hk : Aiff.kindOf c = some k) (he : Aiff.encOf c k = some e)
    (ty : Ty) (stale stale' : Nat) (ops : List Small.Op) (hv : Valid c.ch ty ops)
    (hsz : Aiff.hdrLen c k + (Small.sampleList ops).length * e.nbytes + 1 < 2 ^ 32)
    (hj : c.isFloat = true → PeakJob e ty ops) :
    Good (Sample.predOf (Sample.aiffCont c k e) ty stale stale' ops) := by
  have hnb : 0 < e.nbytes := (Sample.aiff_slaws c k e hwf hk he ty).nb
  apply peak_session_good (Sample.aiffCont c k e) ty (Sample.aiffGuard c k e ty) (Sample.aiff_slaws c k e hwf hk he ty) c.isFloat
    (Small.sampleList ops).length ?_ stale stale' ops hv (Nat.le_refl _) hj
  intro w hw hlen hpk
  have := Nat.mul_le_mul_right e.nbytes hlen
  exact ⟨hw, by omega, hpk⟩

/-- FULL within the 32-bit FORM / SSND size fields: every job of whole frames on the AIFF model — any split
    into item / frame calls, header updates, auto mode, any stale frames value; for FLOAT / DOUBLE files every call non-empty with finite
    values (what the PEAK theorems ask) — is accepted.  The closed bytes hold the PEAK chunk: its values and positions are those of
    `Sf.Peak.run` (the handle model's `peakUpdate`, chunk by chunk through the staging buffer) and do not depend on the split
    (`Sample.peak_partition` = C18 `peak_partition_independent`).  From `closedBytes_eq`, `aiff_reopen_info`, `aiff_snapshot_valid`,
    `auto_write_is_update`. -/
theorem aiff_session_accepted (c : Aiff.Cfg) (k : Aiff.Kind) (e : Enc) (hwf : c.wf) (hk : Aiff.kindOf c = some k) (he : Aiff.encOf c k = some e)
    (ty : Ty) (stale stale' : Nat) (ops : List Small.Op) (hv : Valid c.ch ty ops)
    (hsz : Aiff.hdrLen c k + (Small.sampleList ops).length * e.nbytes + 1 < 2 ^ 32)
    (hj : c.isFloat = true → PeakJob e ty ops) :
    accepted (Sample.recordOf (Sample.aiffCont c k e) ty stale stale' ops) = true :=
  Pred.accepted_of_good _ (aiff_session_good c k e hwf hk he ty stale stale' ops hv hsz hj)

/-- non-vacuity: a mono FL32 AIFF-C job (0.5 | update | auto: −1.0, 0.25): hypotheses, crash points, the verdict -/
example : Sample.aiffExC.wf ∧ Aiff.kindOf Sample.aiffExC = some Sample.aiffExK ∧ Aiff.encOf Sample.aiffExC Sample.aiffExK = some (.flt true) ∧
    Valid 1 .f32 [.write true [0x3F000000], .update, .auto true, .write false [0xBF800000, 0x3E800000]] ∧
    (Sample.recordOf (Sample.aiffCont Sample.aiffExC Sample.aiffExK (.flt true)) .f32 0 99999
      [.write true [0x3F000000], .update, .auto true, .write false [0xBF800000, 0x3E800000]]).snaps.map (·.info.frames) = [1, 3] ∧
    accepted (Sample.recordOf (Sample.aiffCont Sample.aiffExC Sample.aiffExK (.flt true)) .f32 0 99999
      [.write true [0x3F000000], .update, .auto true, .write false [0xBF800000, 0x3E800000]]) = true := by
  have hwf : Sample.aiffExC.wf := by decide
  have hk : Aiff.kindOf Sample.aiffExC = some Sample.aiffExK := by decide
  have he : Aiff.encOf Sample.aiffExC Sample.aiffExK = some (.flt true) := by decide
  have hv : Valid 1 .f32 [.write true [0x3F000000], .update, .auto true, .write false [0xBF800000, 0x3E800000]] := by decide
  have hg := aiff_session_good _ _ _ hwf hk he .f32 0 99999 _ hv (by decide) (fun _ => peakJob_example _ (by decide +kernel))
  exact ⟨hwf, hk, he, hv, (Sample.good_frames hg rfl rfl).2.trans (by decide), Pred.accepted_of_good _ hg⟩

example : PeakJob (.flt true) .f32 [.write true [0x3F000000], .update, .auto true, .write false [0xBF800000, 0x3E800000]] :=
  peakJob_example _ (by decide +kernel)

/-! ### CAF (PCM_S8 / 16 / 24 / 32 in both byte orders, FLOAT, DOUBLE, ULAW, ALAW) -/

theorem caf_session_good (c : Caf.Cfg) (hwf : c.wf) (ty : Ty) (stale stale' : Nat) (ops : List Small.Op) (hv : Valid c.ch ty ops)
    (hsz : (Small.sampleList ops).length * (Sample.cafEnc c).nbytes ≤ 0x7FFFFFFF)
    (hj : Caf.isFloat c.codec = true → PeakJob (Sample.cafEnc c) ty ops) :
    Good (Sample.predOf (Sample.cafCont c) ty stale stale' ops) := by
  apply peak_session_good (Sample.cafCont c) ty (Sample.cafGuard c ty) (Sample.caf_slaws c hwf ty) (Caf.isFloat c.codec)
    (Small.sampleList ops).length ?_ stale stale' ops hv (Nat.le_refl _) hj
  exact fun w hw hlen hpk => ⟨hw, Nat.le_trans (Nat.mul_le_mul_right (Sample.cafEnc c).nbytes hlen) hsz, hpk⟩

/-- FULL within the reader's 2^31 − 1 byte guard on the audio: every job of whole frames on the CAF model —
    any split into item / frame calls, header updates, auto mode, any stale frames value; for FLOAT / DOUBLE files every call non-empty
    with finite values — is accepted.  The closed file holds the 'peak' chunk (binary32 value, 64-bit frame position per channel):
    `Sf.Peak.run` threaded through the calls, partition independent on samples.  From the session invariant `Sf.Caf.Inv` along the operations
    (`Sample.cafOps_inv`: what `stale_frames_ignored_caf`, `snapshot_valid_caf`, `auto_write_is_snapshot_caf` say at `openW`) and
    `Sf.Caf.parse_hdr_tail` (cited in SfProps/C04BridgeCaf.lean: the parser on header ++ audio ++ tail, which is the closed
    file and also the update image without its pad byte). -/
theorem caf_session_accepted (c : Caf.Cfg) (hwf : c.wf) (ty : Ty) (stale stale' : Nat) (ops : List Small.Op) (hv : Valid c.ch ty ops)
    (hsz : (Small.sampleList ops).length * (Sample.cafEnc c).nbytes ≤ 0x7FFFFFFF)
    (hj : Caf.isFloat c.codec = true → PeakJob (Sample.cafEnc c) ty ops) :
    accepted (Sample.recordOf (Sample.cafCont c) ty stale stale' ops) = true :=
  Pred.accepted_of_good _ (caf_session_good c hwf ty stale stale' ops hv hsz hj)

/-- non-vacuity: a mono little-endian FLOAT CAF job (0.5 | update | auto: −1.0, 0.25) — configuration, job, crash points,
    the re-opened frame count -/
example : (⟨0x06, 1, 1, 8000⟩ : Caf.Cfg).wf ∧
    Valid 1 .f32 [.write true [0x3F000000], .update, .auto true, .write false [0xBF800000, 0x3E800000]] ∧
    (Sample.recordOf (Sample.cafCont ⟨0x06, 1, 1, 8000⟩) .f32 0 99999
      [.write true [0x3F000000], .update, .auto true, .write false [0xBF800000, 0x3E800000]]).snaps.map (·.info.frames) = [1, 3] ∧
    (Sample.recordOf (Sample.cafCont ⟨0x06, 1, 1, 8000⟩) .f32 0 99999
      [.write true [0x3F000000], .update, .auto true, .write false [0xBF800000, 0x3E800000]]).info.frames = 3 := by
  have hwf : (⟨0x06, 1, 1, 8000⟩ : Caf.Cfg).wf := by decide
  have hv : Valid 1 .f32 [.write true [0x3F000000], .update, .auto true, .write false [0xBF800000, 0x3E800000]] := by decide
  have hg := caf_session_good _ hwf .f32 0 99999 _ hv (by decide) (fun _ => peakJob_example _ (by decide +kernel))
  obtain ⟨h1, h2⟩ := Sample.good_frames hg rfl rfl
  exact ⟨hwf, hv, h2.trans (by decide), h1.trans (by decide)⟩

example : PeakJob (Sample.cafEnc ⟨0x06, 1, 1, 8000⟩) .f32 [.write true [0x3F000000], .update, .auto true, .write false [0xBF800000, 0x3E800000]] :=
  peakJob_example _ (by decide +kernel)

end Sf.C04Bridge3
