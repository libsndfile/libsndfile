-- properties: C02 C20
/-
  C20 (and C02) — the portable IEEE path through every caller type equals the native path.

  Write side: for every caller type, conversion setting, file byte order and buffer whose staged values are finite,
  `replace_write_s2f / i2f / f / d2f` (resp. the double64.c four) produce exactly `Sf.Enc.encodeAll` — the bytes of the native
  path — so the closed files of the two paths are identical (what vlib/ieeecross.py compares on the library).  Read side: the
  native bytes of finite values, read through the portable path, deliver `deliver32 / deliver64` for every caller type, which
  is `Sf.Enc.decode` (incl. clipping for the int readers).  The `_old_rule_fails` theorems state the rules before the repairs
  of KF-C20-REPLACE-READ-D2F and KF-C02-REPLACE-CLIP-READ.
-/
import SfModel.IeeeCross
import SfProps.C20Ieee
namespace Sf.C20Cross
open Sf Sf.Float Sf.Ieee Sf.IeeeCross Sf.C20Ieee

theorem encode_flt_eq (big : Bool) (c : Conv) (ty : Ty) (v : Int) :
    (Enc.flt big).encode c ty v = if big then Spec.bytesBE f32 (stage32 c ty v) else Spec.bytesLE f32 (stage32 c ty v) := by
  cases ty <;> rfl

theorem encode_dbl_eq (big : Bool) (c : Conv) (ty : Ty) (v : Int) :
    (Enc.dbl big).encode c ty v = if big then Spec.bytesBE f64 (stage64 c ty v) else Spec.bytesLE f64 (stage64 c ty v) := by
  cases ty <;> rfl

/-- **write side, FLOAT files**: every caller type through the portable path = the native bytes -/
theorem replace_write_cross_f32 (fileBE : Bool) (c : Conv) (ty : Ty) (vs : List Int)
    (h : ∀ v ∈ vs, stage32 c ty v < 2 ^ 32 ∧ f32.isFinite (stage32 c ty v) = true) :
    replaceWrite32 fileBE c ty vs = (Enc.flt fileBE).encodeAll c ty vs := by
  unfold replaceWrite32 Enc.encodeAll
  rw [replace_write_finite_f32 fileBE _ (by
    intro x hx
    obtain ⟨v, hv, rfl⟩ := List.mem_map.mp hx
    exact h v hv), hostWrite, List.flatMap_map]
  exact congrArg (fun f => List.flatMap f vs) (funext fun v => (encode_flt_eq fileBE c ty v).symm)

theorem replace_write_cross_f64 (fileBE : Bool) (c : Conv) (ty : Ty) (vs : List Int)
    (h : ∀ v ∈ vs, stage64 c ty v < 2 ^ 64 ∧ f64.isFinite (stage64 c ty v) = true) :
    replaceWrite64 fileBE c ty vs = (Enc.dbl fileBE).encodeAll c ty vs := by
  unfold replaceWrite64 Enc.encodeAll
  rw [replace_write_finite_f64 fileBE _ (by
    intro x hx
    obtain ⟨v, hv, rfl⟩ := List.mem_map.mp hx
    exact h v hv), hostWrite, List.flatMap_map]
  exact congrArg (fun f => List.flatMap f vs) (funext fun v => (encode_dbl_eq fileBE c ty v).symm)

/-- non-vacuity: the shorts 1, −2 and the int 3 staged for a FLOAT file are finite -/
example : replaceWrite32 true {} .s16 [1, -2] = (Enc.flt true).encodeAll {} .s16 [1, -2] :=
  replace_write_cross_f32 true {} .s16 [1, -2] (by decide +kernel)
example : replaceWrite64 false { scaleIF := true } .s32 [3] = (Enc.dbl false).encodeAll { scaleIF := true } .s32 [3] :=
  replace_write_cross_f64 false { scaleIF := true } .s32 [3] (by decide +kernel)

/-- **read side, FLOAT files**: the native bytes of finite values, read through the portable path by any caller type -/
theorem replace_read_cross_f32 (fileBE : Bool) (c : Conv) (ty : Ty) (xs : List Nat)
    (h : ∀ x ∈ xs, x < 2 ^ 32 ∧ f32.isFinite x = true) :
    replaceRead32 fileBE c ty (hostWrite f32 fileBE xs) = xs.map (deliver32 c ty) := by
  unfold replaceRead32
  rw [replace_read_finite_f32 fileBE xs h]

/-- **read side, DOUBLE files** (repaired `replace_read_d2f`: the float caller gets the converted values) -/
theorem replace_read_cross_f64 (fileBE : Bool) (c : Conv) (ty : Ty) (xs : List Nat)
    (h : ∀ x ∈ xs, x < 2 ^ 64 ∧ f64.isFinite x = true) :
    replaceRead64 fileBE c ty (hostWrite f64 fileBE xs) = xs.map (deliver64 c ty) := by
  unfold replaceRead64
  rw [replace_read_finite_f64 fileBE xs h]

/-- `deliver32` is what the native reader makes of the stored bytes (`Sf.Enc.decode`, clipping included) -/
theorem deliver32_is_decode (big : Bool) (c : Conv) (ty : Ty) (x : Nat) (hx : x < 2 ^ 32) :
    (Enc.flt big).decode c ty (if big then beBytes 4 x else leBytes 4 x) = deliver32 c ty x := by
  have hm : x % 4294967296 = x := Nat.mod_eq_of_lt (by omega)
  cases big <;> cases ty <;> simp [Enc.decode, deliver32, ofBE_beBytes, ofLE_leBytes, hm]

theorem deliver64_is_decode (big : Bool) (c : Conv) (ty : Ty) (x : Nat) (hx : x < 2 ^ 64) :
    (Enc.dbl big).decode c ty (if big then beBytes 8 x else leBytes 8 x) = deliver64 c ty x := by
  have hm : x % 18446744073709551616 = x := Nat.mod_eq_of_lt (by omega)
  cases big <;> cases ty <;> simp [Enc.decode, deliver64, ofBE_beBytes, ofLE_leBytes, hm]

example : replaceRead64 true {} .f32 (hostWrite f64 true [0x3FE0000000000000, 0xBFD0000000000000]) = [0x3F000000, 0xBE800000] := by
  rw [replace_read_cross_f64 true {} .f32 _ (by decide +kernel)]
  decide +kernel

/-- KF-C20-REPLACE-READ-D2F: two floats asked of the doubles 0.5, −0.25 — the old rule wrote FOUR cells (the caller's buffer
    overrun by its own length), and the two the caller looks at are not 0.5f, −0.25f -/
theorem replace_read_d2f_old_rule_fails :
    readD2fOld [0x3FE0000000000000, 0xBFD0000000000000] = [0, 0x3FE00000, 0, 0xBFD00000] ∧
    (readD2fOld [0x3FE0000000000000, 0xBFD0000000000000]).length = 2 * 2 ∧
    (readD2fOld [0x3FE0000000000000, 0xBFD0000000000000]).take 2 ≠ [0x3FE0000000000000, 0xBFD0000000000000].map f64to32 := by
  decide +kernel

/-- KF-C02-REPLACE-CLIP-READ: 40000.0f read as a short with clipping on: 32767 under the current rule, −25536 (wrapped) under the old one -/
theorem replace_read_clip_old_rule_fails :
    deliver32 { clip := true } .s16 0x471C4000 = 32767 ∧ deliver32Old { clip := true } .s16 0x471C4000 = -25536 := by
  decide +kernel

end Sf.C20Cross
