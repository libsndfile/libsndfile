/-
  C05 / C06 / C08 — THE MECHANICAL BRIDGE: soundness of the predicate `Sf.Abs.holdsOn` (SfModel/Abs.lean, what `sfmodel abs`
  evaluates on the implementation's transcripts) against the CONCRETE handle model (SfModel/Handle.lean):

      a library that behaves as the concrete model does can never be flagged.

  -- properties: C05 C06 C08

  `transcript h s ops` is the transcript the concrete model produces for the operation list `ops` from the handle `h` on the
  store `s`: one (script line, transcript line) pair per operation, caller buffers (`List Int`) encoded as the cell arrays
  of the abstract model (`encBuf`: the bit pattern of each item as the harness prints it, a double as two 32-bit cells).
  `absSt h s` is the abstraction map (mode, frame count, positions; reference stream := `absRef h s ty`, the DECODED DATA
  REGION of the store).  `handle_run_accepted`: for RAW / AU / WAV, every sample-granular codec, every mode, every operation
  list, the predicate answers `ok` with every line accepted — by induction over the operation list (SfProofs/AbsBridge*.lean);
  each step joins a closed form of the concrete call (`read_answer` over `stepRead_region`, `write_contract_valid`,
  `stepSeek_eq_spec`, and `RwView.write_view` for the stream after a write) to the completeness lemma of the predicate
  for that call (`readOk_complete_gen`, `writeOk_complete`, `seekOk_complete_*`, `truncOk_complete`).

  What the hypotheses say.  `BInv h s`: the handle invariant `HInv` of C05 (holds for every opened handle, kept by every
  operation), a non-negative frame count, and for read/write handles the RDWR invariant `RwInv` of C08 (holds for new files,
  whole-frame RAW files, tight and padded WAV / AU files, files written by write-only sessions, and is kept by every call).
  `Judged g h op`: a write line supplies the whole requested region (the harness always does); the operation is not one of
  the four conversion-setting commands (they REPLACE the reference stream; the statements are about one stream); not
  SFC_FILE_TRUNCATE(−1) on a descriptor route (C09: `sf_seek`'s −1 is taken for success).  `CloseLast`: nothing follows a
  `close`.  The geometry: `geomOf h strict loss` — channels and `ftruncate` support of the handle, seekable, no I/O failures
  (the model has none), `strictSeek` either way, ANY claim `loss` of lossless caller types (where a type is claimed, `Judged`
  asks of a write line what C01 asks: values of that type, lossless for the encoding — then the stream after the write is
  still compared, against `writeAt` of the cells written: SfProofs/AbsBridgeLossless.lean), no hole / tail claims.
-/
import SfProofs.AbsBridgeRun
import SfProofs.AbsRun
import SfProps.C05
import SfProps.C01
namespace Sf.C05Bridge
open Sf Sf.AbsBridge

/-- the geometry the predicate runs with for a handle of the concrete model -/
def geomOf (h : H) (strict : Bool) (loss : Ty → Bool := fun _ => false) : Abs.Geom :=
  { ch := h.ch, canTrunc := h.canTruncate, strictSeek := strict, lossless := loss, frames0 := h.frames.toNat,
    mode0 := absMode h.mode }

theorem geomOf_for (h : H) (strict : Bool) (loss : Ty → Bool) : GeomFor (geomOf h strict loss) h :=
  ⟨rfl, rfl, rfl, rfl, rfl, fun _ => rfl⟩

/-- read-only handles: `HInv` is enough (it holds after every successful open, `HInv_openHandle`) -/
theorem BInv_read_only (h : H) (s : Store) (hi : HInv h s) (hm : h.mode = .r) : BInv h s :=
  ⟨hi, hi.frames_nn hm, fun hx => by rw [hm] at hx; cases hx⟩

theorem BInv_write_only (h : H) (s : Store) (hi : HInv h s) (hm : h.mode = .w) (hf : 0 ≤ h.frames) : BInv h s :=
  ⟨hi, hf, fun hx => by rw [hm] at hx; cases hx⟩

/-- read/write handles: the RDWR invariant of C08 (`C08Refine.RwInv_initial_*`, `RwInv_reachable`) -/
theorem BInv_read_write (h : H) (s : Store) (inv : RwInv h s) : BInv h s :=
  ⟨inv.toHInv, inv.frames_nn, fun _ => inv⟩

/-- one step of the bridge: the predicate accepts the line of every judged operation, the state it reaches stands for the
    new handle (`Sim`), and the invariant is kept -/
theorem BInv_preserved (g : Abs.Geom) (h : H) (s : Store) (st : Abs.St) (op : Sf.Op) (gf : GeomFor g h) (bi : BInv h s)
    (sim : Sim h s st) (hj : Judged g h op) (hc : isClose op = false) :
    ∃ st', Abs.check g st (absOp op) (absOut op (stepAny h s op).2.2) = .ok st' ∧
      Sim (stepAny h s op).1 (stepAny h s op).2.1 st' ∧ BInv (stepAny h s op).1 (stepAny h s op).2.1 :=
  step_bridge_h C01.widenExact g h s st op gf.toH bi sim hj hc

theorem transcript_length : ∀ (ops : List Sf.Op) (h : H) (s : Store), (transcript h s ops).length = ops.length := by
  intro ops
  induction ops with
  | nil => intro _ _; rfl
  | cons op ops ih => intro h s; simp only [transcript, List.length_cons, ih]

/-- For every handle and store satisfying the invariant, every abstract state that stands for them
    (`Sim`; `absSt h s` is one), every geometry that describes the handle (`GeomForH`: hole claims where zero bytes decode
    to zero; `GeomFor.toH` for a geometry that makes none), and every judged operation list: the predicate accepts every
    line of the transcript the concrete model produces. -/
theorem handle_run_accepted_from (g : Abs.Geom) (h : H) (s : Store) (st : Abs.St) (ops : List Sf.Op)
    (gf : GeomForH g h) (bi : BInv h s) (sim : Sim h s st) (hj : ∀ op ∈ ops, Judged g h op) (hcl : CloseLast ops) :
    Abs.holdsFrom g 0 st (transcript h s ops) = .ok ops.length := by
  rw [Abs.holdsFrom_ok_iff]
  exact ⟨run_bridge_h C01.widenExact g ops h s st gf bi sim hj hcl, by rw [transcript_length]; omega⟩

theorem absSt_stands_for (h : H) (s : Store) (bi : BInv h s) : Sim h s (absSt h s) :=
  ⟨rfl, Int.toNat_of_nonneg bi.frames_nn, fun _ => Int.toNat_of_nonneg bi.hinv.rpos_nn,
   fun _ => Int.toNat_of_nonneg bi.hinv.wpos_nn, fun _ _ _ => rfl⟩

/-- A handle as an open leaves it (read position 0; write position 0, or the frame count on a read/write
    handle): `holdsOn`, started as the check starts it — `St.init` with the geometry of the handle and ref := the decoded
    data region — answers `ok` on the transcript of EVERY judged operation list. -/
theorem handle_run_accepted (h : H) (s : Store) (strict : Bool) (loss : Ty → Bool) (ops : List Sf.Op) (bi : BInv h s)
    (hr0 : h.mode ≠ .w → h.rpos = 0) (hw0 : h.mode = .w → h.wpos = 0) (hw1 : h.mode = .rw → h.wpos = h.frames)
    (hj : ∀ op ∈ ops, Judged (geomOf h strict loss) h op) (hcl : CloseLast ops) :
    Abs.holdsOn (geomOf h strict loss) (absRef h s) (fun _ => true) (transcript h s ops) = .ok ops.length := by
  unfold Abs.holdsOn
  exact handle_run_accepted_from _ h s _ ops (geomOf_for h strict loss).toH bi
    (sim_init _ h s bi.frames_nn rfl rfl hr0 hw0 hw1) hj hcl

/-- No hypothesis on the state but the successful open (`openHandle … = .ok h s`, any mode, RAW / AU /
    WAV, any encoding the container offers) — and, for SFM_RDWR, that the opened file is one the RDWR invariant covers
    (`C08Refine.RwInv_initial_new / _raw / _tight / _padded`, `prepopulated_opens_rdwr`): the positions an open leaves are the
    ones `St.init` assumes (`open_facts`), the invariant holds (`HInv_openHandle`), so every judged operation list is accepted. -/
theorem opened_run_accepted (ix : Nat) (s0 : Store) (mode : Sf.Mode) (fmt : Nat) (ch sr : Int) (h : H) (s : Store)
    (ho : openHandle ix s0 mode fmt ch sr = .ok h s) (hrw : mode = .rw → RwInv h s) (strict : Bool) (loss : Ty → Bool)
    (ops : List Sf.Op) (hj : ∀ op ∈ ops, Judged (geomOf h strict loss) h op) (hcl : CloseLast ops) :
    Abs.holdsOn (geomOf h strict loss) (absRef h s) (fun _ => true) (transcript h s ops) = .ok ops.length := by
  obtain ⟨hm, hr, hf, hw⟩ := open_facts ix s0 mode fmt ch sr h s ho
  refine handle_run_accepted h s strict loss ops
    ⟨HInv_openHandle ix s0 mode fmt ch sr h s ho, hf, fun hx => hrw (by rw [← hm]; exact hx)⟩ (fun _ => hr) (fun hx => ?_) (fun hx => ?_) hj hcl
  · rw [hw, ← hm, hx]; rfl
  · rw [hw, ← hm, hx]; rfl

/-- a model-conformant library is never flagged, at no line, with no clause -/
theorem model_never_flagged (h : H) (s : Store) (strict : Bool) (loss : Ty → Bool) (ops : List Sf.Op) (bi : BInv h s)
    (hr0 : h.mode ≠ .w → h.rpos = 0) (hw0 : h.mode = .w → h.wpos = 0) (hw1 : h.mode = .rw → h.wpos = h.frames)
    (hj : ∀ op ∈ ops, Judged (geomOf h strict loss) h op) (hcl : CloseLast ops) (k : Nat) (tag : String) :
    Abs.holdsOn (geomOf h strict loss) (absRef h s) (fun _ => true) (transcript h s ops) ≠ .bad k tag ∧
    Abs.holdsOn (geomOf h strict loss) (absRef h s) (fun _ => true) (transcript h s ops) ≠ .skip k := by
  rw [handle_run_accepted h s strict loss ops bi hr0 hw0 hw1 hj hcl]
  exact ⟨fun hx => Abs.Verdict.noConfusion hx, fun hx => Abs.Verdict.noConfusion hx⟩

/-- SFC_SET_NORM_FLOAT replaces the stream a float read delivers: the 16-bit samples 1, 2 read as 1/32768, 2/32768 with
    normalisation (the default) and as 1.0, 2.0 without — a transcript across the command is not a history of ONE stream.  (The campaigns issue
    no conversion-setting command; `absOp` here and the line parser of Driver/Abs.lean hand the predicate every command but
    SFC_FILE_TRUNCATE as `Op.other`.) -/
theorem conv_command_replaces_stream :
    convCmd 0x1013 ∧
    (stepRead C05.exH C05.exStore .f32 true 1).2.2.data = [0x38000000, 0x38800000] ∧
    (stepRead (stepCmdFlag C05.exH C05.exStore 0x1013 0).1 (stepCmdFlag C05.exH C05.exStore 0x1013 0).2.1 .f32 true 1).2.2.data
      = [0x3F800000, 0x40000000] := by
  refine ⟨by decide, by decide, by decide⟩

/-! ## non-vacuity: the 3-frame stereo 16-bit RAW file of C05, read-only; a new file, write-only -/

def exOps : List Sf.Op :=
  [.read 0 .s16 false 4, .seek 0 1 0, .read 0 .s16 true 5, .seek 0 0 1, .read 0 .s16 false 3, .seek 0 9 0, .truncate 0 1,
   .read 0 .f32 true 1, .cmdFlag 0 0x1060 0, .close 0]

example : BInv C05.exH C05.exStore :=
  BInv_read_only _ _ (HInv_openHandle 0 C05.exStore .r 0x040002 2 8000 C05.exH C05.exStore (by rfl)) rfl
theorem exOps_judged : (∀ op ∈ exOps, Judged (geomOf C05.exH true) C05.exH op) ∧ CloseLast exOps := by
  refine ⟨?_, by simp [exOps, CloseLast, isClose]⟩
  intro op hop
  simp only [exOps, List.mem_cons, List.mem_nil_iff, or_false] at hop
  rcases hop with h | h | h | h | h | h | h | h | h | h <;> subst h <;> simp [Judged, convCmd]
example : (∀ op ∈ exOps, Judged (geomOf C05.exH true) C05.exH op) ∧ CloseLast exOps := exOps_judged
/-- the ten lines are accepted … -/
example : Abs.holdsOn (geomOf C05.exH true) (absRef C05.exH C05.exStore) (fun _ => true) (transcript C05.exH C05.exStore exOps)
    = .ok 10 :=
  handle_run_accepted C05.exH C05.exStore true (fun _ => false) exOps
    (BInv_read_only _ _ (HInv_openHandle 0 C05.exStore .r 0x040002 2 8000 C05.exH C05.exStore (by rfl)) rfl)
    (fun _ => rfl) (fun h => by cases h) (fun h => by cases h) exOps_judged.1 exOps_judged.2
/-- … and they are these: 4 items, seek to 1, 2 of 5 frames (the data ends), position query, a misaligned request
    (0 + error), a refused seek (−1 + error), a refused truncate, end of data, a command, close -/
example : (transcript C05.exH C05.exStore exOps).map (fun l => (l.2.ret, l.2.err)) =
    [(4, false), (1, false), (2, false), (3, false), (0, true), (-1, true), (1, false), (0, false), (0, false), (0, false)] := by
  decide
example : absRef C05.exH C05.exStore .s16 = #[1, 2, 3, 4, 5, 6] ∧
    ((transcript C05.exH C05.exStore exOps).map (fun l => l.2.data)).take 3 = [#[1, 2, 3, 4], #[], #[3, 4, 5, 6, 0xA5A5, 0xA5A5, 0xA5A5, 0xA5A5, 0xA5A5, 0xA5A5]] := by
  decide

/-- the same through `opened_run_accepted`: nothing is assumed but the open -/
example : Abs.holdsOn (geomOf C05.exH true) (absRef C05.exH C05.exStore) (fun _ => true) (transcript C05.exH C05.exStore exOps)
    = .ok 10 :=
  opened_run_accepted 0 C05.exStore .r 0x040002 2 8000 C05.exH C05.exStore (by rfl) (fun h => by cases h) true _ exOps
    exOps_judged.1 exOps_judged.2

def exWOps : List Sf.Op := [.write 0 .s16 true 2 [1, 2, 3, 4, 99], .seek 0 0 1, .write 0 .s16 false 3 [5, 6, 7], .seek 0 0 0, .close 0]
example : Abs.holdsOn (geomOf C05.exW false) (absRef C05.exW {}) (fun _ => true) (transcript C05.exW {} exWOps) = .ok 5 :=
  handle_run_accepted C05.exW {} false (fun _ => false) exWOps
    (BInv_write_only _ _ (HInv_openHandle 0 {} .w 0x040002 2 8000 C05.exW {} (by rfl)) rfl (by decide))
    (fun h => absurd rfl h) (fun _ => rfl) (fun h => by cases h)
    (by
      intro op hop
      simp only [exWOps, List.mem_cons, List.mem_nil_iff, or_false] at hop
      rcases hop with h | h | h | h | h <;> subst h <;> simp [Judged, geomOf] <;> decide)
    (by simp [exWOps, CloseLast, isClose])
example : (transcript C05.exW {} exWOps).map (fun l => (l.2.ret, l.2.err)) = [(2, false), (2, false), (0, true), (0, false), (0, false)] := by
  decide

end Sf.C05Bridge
