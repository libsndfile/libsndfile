/-
  C18 — the PEAK position inside ONE call that is longer than the staging buffer (a late unique maximum).

  A converting writer (`host_write_s2f / i2f / d2f`, `s2d / i2d / f2d` and the `replace_*` twins) hands the caller's data to
  `float32_peak_update` / `double64_peak_update` one staging buffer ("pass") at a time, together with the offset of the
  pass inside the call.  `Sf.peakUpdate` passes that offset in FRAMES (`acc.2 / h.ch`) and `Sf.peakChunkUpdate` adds the frame
  of the item inside the buffer (`pos / ch`).  What makes the sum the frame of the item inside the CALL is that every pass is
  a whole number of frames (`stagingLen`, the repair of KF-C18-STAGING-MISALIGN).  An offset in frames added to an item index BEFORE
  the division is wrong only from the second pass on and with two or more channels, which is why only a maximum that is UNIQUE
  and LATE in a long multi-channel call shows it (campaign vlib/c18long.py).
  The whole-call statement for every call length is `Sf.C18.peak_is_max_first` / `peak_partition_independent`.
-/
import SfProofs.Peak
import SfModel.Peak
namespace Sf.C18Long
open Sf Sf.Float Sf.Peak

/-- frame offset the model adds for item `k` of a pass that starts `total` items into the call -/
def posFrames (total k ch : Nat) : Nat := total / ch + k / ch
/-- frame of item `total + k` of the call -/
def posItems (total k ch : Nat) : Nat := (total + k) / ch
/-- a frame offset added to an item index (the two units mixed) -/
def posMixed (total k ch : Nat) : Nat := (total / ch + k) / ch

/-- the staging buffer holds whole frames, hence so does every pass offset `j * stagingLen` -/
theorem staging_whole_frames (f : Float.Fmt) (ch j : Nat) : ch ∣ j * stagingLen f ch :=
  (stagingLen_dvd f ch).mul_left j

/-- offset in frames + frame inside the buffer = the frame of the item inside the call -/
theorem pass_offset_is_item_frame (total k ch : Nat) (hch : 0 < ch) (hdiv : ch ∣ total) :
    posFrames total k ch = posItems total k ch := by
  obtain ⟨q, rfl⟩ := hdiv
  unfold posFrames posItems
  rw [Nat.mul_div_cancel_left q hch, Nat.mul_add_div hch]

/-- for the passes of a converting writer (pass `j`, item `k` of its buffer): the recorded frame is the item's frame -/
theorem pass_offset_units (f : Float.Fmt) (ch j k : Nat) (hch : 0 < ch) :
    posFrames (j * stagingLen f ch) k ch = posItems (j * stagingLen f ch) k ch :=
  pass_offset_is_item_frame _ _ _ hch (staging_whole_frames f ch j)

/-- mixing the units is wrong: 2 channels, second pass (2048 items in), item 3 of the buffer is frame 1025, not 513 -/
theorem mixed_units_differ : posMixed 2048 3 2 ≠ posItems 2048 3 2 ∧ posItems 2048 3 2 = 1025 ∧ posMixed 2048 3 2 = 513 := by decide

/-- … and cannot be seen with one channel … -/
theorem mixed_units_agree_mono (total k : Nat) : posMixed total k 1 = posItems total k 1 := by
  simp [posMixed, posItems]

/-- … nor inside the first pass -/
theorem mixed_units_agree_first_pass (k ch : Nat) : posMixed 0 k ch = posItems 0 k ch := by
  simp [posMixed, posItems]

/-- non-vacuity of `pass_offset_units`: FLOAT file, 3 channels: a pass is 2046 items; item 5 of the third pass is frame 1365 -/
example : stagingLen Float.f32 3 = 2046 ∧ posFrames (2 * stagingLen Float.f32 3) 5 3 = 1365 ∧ posItems (2 * 2046) 5 3 = 1365 := by decide

/-- the second pass of a 2-channel FLOAT call: buffer [0.25f, 0.5f, 0.125f, 0.75f] handed over with `indx = 2048 / 2`:
    channel 0 has its maximum in frame 1024, channel 1 in frame 1025 -/
theorem long_call_second_pass :
    peakChunkUpdate Float.f32 2 0 ((2048 / 2 : Nat) : Int) [0x3E800000, 0x3F000000, 0x3E000000, 0x3F400000] (mkPeaks 2) =
      [{ value := 0x3FD0000000000000, position := 1024 }, { value := 0x3FE8000000000000, position := 1025 }] := by
  decide +kernel

end Sf.C18Long
