/-
  C16 — no leaked memory, descriptors or temporary files for any call history.

  Theorems about Sf.Ledger (SfModel/Ledger.lean), the resource ledger written where the C allocates and frees.
  A history is any list of `Op`: opens (any route, mode, container, codec class, any list of header-parse events, failing
  after any number of allocation steps), calls that allocate or are refused, writes, close — no bound on its length.
  `World.held k` is what the world holds of kind k (heap blocks, descriptors, files on disk): the live cells of the open handle
  plus everything lost for good; `Acct.dfree` counts releases of something already released.
  The last section is about two repaired defects that are not about resources (known findings KF-C16-dither-twice and
  KF-C16-aiff-ima-seek-write; model SfModel/LedgerCalls.lean).
-/
import SfProofs.Ledger
import SfModel.LedgerCalls
namespace Sf.C16
open Sf.Ledger

/-- the ledger is empty: nothing held, nothing lost -/
def Empty (w : World) : Prop := ∀ k, w.held k = 0

theorem held_closed (w : World) (h : w.h = none) (ha : w.a = {}) : Empty w := by
  intro k
  unfold World.held
  rw [h, ha]
  cases k <;> rfl

/-- **close_releases_all.**  For every history: nothing is ever lost (the account of leaks stays zero after every call, failed
    calls included), and whenever no handle is open — after sf_close, after a failed open — the ledger is empty. -/
theorem close_releases_all (ops : List Op) :
    (run {} ops).a.leakedHeap = 0 ∧ (run {} ops).a.leakedFd = 0 ∧ (run {} ops).a.leakedDisk = 0 ∧
    ((run {} ops).h = none → Empty (run {} ops)) := by
  have hw := run_WInv WInv_init ops
  refine ⟨by rw [hw.1], by rw [hw.1], by rw [hw.1], fun h => held_closed _ h hw.1⟩

/-- sf_close always ends the handle, whatever happened before -/
theorem close_ends_handle (w : World) (ioOk : Bool) : (step w (.close ioOk)).1.h = none := by
  cases h : w.h <;> simp [step, h]

/-- an open that fails (after any number k of allocation steps, or because the file cannot be opened) leaves no handle -/
theorem failed_open_leaves_no_handle (w : World) (c : OpenCfg) (k : Nat) (hw : w.h = none) (hf : c.failAt = some k) :
    (step w (.open c)).1.h = none := by
  simp only [step, hw]
  exact doOpen_fail_closed c w.a k hf

/-- close_releases_all, spelled out for the two ways a history ends -/
theorem close_releases_all_after_close (ops : List Op) (ioOk : Bool) : Empty (run {} (ops ++ [.close ioOk])) := by
  have h := close_releases_all (ops ++ [.close ioOk])
  apply h.2.2.2
  simp only [run, List.foldl_append, List.foldl_cons, List.foldl_nil]
  exact close_ends_handle _ _

theorem close_releases_all_after_failed_open (ops : List Op) (c : OpenCfg) (k : Nat) (hf : c.failAt = some k)
    (hclosed : (run {} ops).h = none) : Empty (run {} (ops ++ [.open c])) := by
  have h := close_releases_all (ops ++ [.open c])
  apply h.2.2.2
  simp only [run, List.foldl_append, List.foldl_cons, List.foldl_nil]
  exact failed_open_leaves_no_handle _ c k hclosed hf

/-- **no_double_free.**  Along every history no cell is released twice. -/
theorem no_double_free (ops : List Op) : (run {} ops).a.dfree = 0 := by
  rw [(run_WInv WInv_init ops).1]

/-- **replace_frees_old**, at the level of the disciplines the C uses: on a cell that is live (and was not already freed),
    `free (p) ; p = malloc ()` and `free (p) ; p = NULL ; … p = malloc ()` leave exactly one live block under that owner and
    lose nothing. -/
theorem replace_frees_old (c : Cell) (s : S) (h : s.1.cell c ≠ .dangling) :
    (replace c s).2 = s.2 ∧ (replace c s).1.cell c = .live ∧ (∀ x, x ≠ c → (replace c s).1.cell x = s.1.cell x) ∧
    (alloc c (freeNull c s)).2 = s.2 ∧ (alloc c (freeNull c s)).1.cell c = .live := by
  refine ⟨replace_acct c s h, by simp [replace_cell], fun x hx => by simp [replace_cell, hx], ?_, by simp [alloc_cell]⟩
  rw [alloc_acct, freeNull_acct c s h]
  simp [freeNull_cell]

/-- replace_frees_old for the command that replaces: after any history, SFC_SET_CHANNEL_MAP_INFO on a handle that already has a
    channel map holds exactly as many heap blocks as before, and nothing was lost. -/
theorem replace_frees_old_channel_map (ops : List Op) (h : Handle) (valid : Bool)
    (hh : (run {} ops).h = some h) (hl : h.cell (.owner .channelMap) = .live) :
    ((step (run {} ops) (.setChannelMap valid)).1).held .heap = (run {} ops).held .heap ∧
    ((step (run {} ops) (.setChannelMap valid)).1).a = {} := by
  have hw := run_WInv WInv_init ops
  have hw2 := step_WInv hw (.setChannelMap valid)
  refine ⟨?_, hw2.1⟩
  have key : ∀ (w' : World) (h' : Handle), w'.h = some h' → w'.a = (run {} ops).a → (∀ x, h'.cell x = h.cell x) →
      h'.payloads = h.payloads → w'.held .heap = (run {} ops).held .heap := by
    intro w' h' e1 e2 hc hp
    simp only [World.held, e1, hh, e2, Handle.liveOf, liveCells, hp]
    have : (List.filter (fun c => decide (h'.cell c = .live)) Cell.all) = (List.filter (fun c => decide (h.cell c = .live)) Cell.all) :=
      List.filter_congr (fun x _ => by rw [hc x])
    rw [this]
  simp only [step, hh, stepOpen]
  split
  · exact key _ h rfl rfl (fun _ => rfl) rfl
  · apply key _ _ rfl
    · exact replace_acct _ _ (by show h.cell _ ≠ _; rw [hl]; simp)
    · intro x
      rw [replace_cell]
      by_cases hx : x = .owner .channelMap
      · subst hx; simp [hl]
      · simp [hx]
    · exact congrArg CloseView.payloads (view_replace _ _)

/-- **close_returns_zero_when_io_ok.**  sf_close on an open handle returns 0 when the descriptor closes (and always for virtual
    I/O or a borrowed descriptor): psf_close keeps only psf_fclose's result, whatever the codec and container hooks returned. -/
theorem close_returns_zero_when_io_ok (w : World) (h : Handle) (hw : w.h = some h) :
    (step w (.close true)).2 = 0 ∧ ((h.vio = true ∨ h.doNotClose = true) → (step w (.close false)).2 = 0) := by
  constructor
  · simp [step, hw, closeRet]
  · intro hv
    rcases hv with hv | hv <;> simp [step, hw, closeRet, hv]

def wavFloatW : OpenCfg := { route := .path true, mode := .w, cont := .wav, isFloat := true }
def alacW : OpenCfg := { route := .vio, mode := .w, cont := .caf, codec := .alac }
def aiffGsmR (k : Option Nat) : OpenCfg :=
  { route := .fd true, mode := .r, cont := .aiff, codec := .gsm610, evs := [.chunkRec, .mark, .cue, .mark, .cue, .peak, .peak], failAt := k }

-- a history really holds things while the handle is open: SF_PRIVATE, header, container data, PEAK, strings, chunk table + 2 payloads, map
example : (run {} [.open wavFloatW, .setString true, .setChunk true, .setChunk true, .setChannelMap true, .setChannelMap true]).held .heap = 9 := by decide +kernel
example : (run {} [.open wavFloatW]).held .fd = 1 := by decide +kernel
-- ALAC's spool: a FILE, its descriptor, a file on disk; all gone after close
example : (run {} [.open alacW]).held .disk = 1 ∧ (run {} [.open alacW]).held .fd = 1 ∧ (run {} [.open alacW]).held .heap = 6 := by decide +kernel
example : Empty (run {} [.open alacW, .write true, .close true]) := close_releases_all_after_close [.open alacW, .write true] true
-- an AIFF/GSM open with duplicated MARK and PEAK chunks, succeeding or failing after 3 steps
example : (run {} [.open (aiffGsmR none)]).held .heap = 9 := by decide +kernel
example : (run {} [.open (aiffGsmR (some 3))]).h = none := by decide
-- the hypotheses of the channel-map theorem are satisfiable
example : ∃ h, (run {} [.open wavFloatW, .setChannelMap true]).h = some h ∧ h.cell (.owner .channelMap) = .live := ⟨_, rfl, by decide⟩
-- the model can express every way of getting it wrong, so the theorems are not true by construction:
example : (alloc (.owner .cues) (alloc (.owner .cues) ({}, {}))).2.leakedHeap = 1 := by decide          -- overwrite without free
example : (free (.owner .cues) (free (.owner .cues) (alloc (.owner .cues) ({}, {})))).2.dfree = 1 := by decide  -- free, not NULLed, freed again
example : (clear .fileFd (alloc .fileFd ({}, {}))).2.leakedFd = 1 := by decide                          -- descriptor forgotten without close
-- a handle whose gsm state is live but whose close hook is missing would leak at close (the invariant is needed):
example : (retire (releaseAll (alloc (.nested .gsmState) ({}, {})))).leakedHeap = 1 := by decide +kernel
example : (step { h := some {} } (.close false)).2 = -1 := by decide

/-- **multi_close_releases_all.**  For every history over any number of handles (each call names its handle; opens, calls and closes of
    different handles interleave freely): nothing is ever lost or released twice, and when no handle is open nothing is held. -/
theorem multi_close_releases_all (ops : List (Nat × Op)) :
    (runAt {} ops).a = {} ∧ ((runAt {} ops).hs = [] → ∀ k, (runAt {} ops).held k = 0) := by
  have hw := runAt_WsInv WsInv_init ops
  refine ⟨hw.1, ?_⟩
  intro hnil k
  unfold Worlds.held
  rw [hnil, hw.1]
  cases k <;> rfl

/-- **handles_isolated.**  A call on handle i leaves every other handle's ledger exactly as it was. -/
theorem handles_isolated (w : Worlds) (i j : Nat) (op : Op) (hne : j ≠ i) : (stepAt w i op).1.get j = w.get j := by
  unfold stepAt
  exact get_set_other w i j _ _ hne

-- two handles open at once: a WAV writer with a chunk and an ALAC writer; closing one leaves the other's holdings in place
example : (runAt {} [(0, .open wavFloatW), (1, .open alacW), (0, .setChunk true)]).held .heap = 6 + 6 := by decide +kernel
example : (runAt {} [(0, .open wavFloatW), (1, .open alacW), (0, .setChunk true), (1, .close true)]).held .heap = 6 := by decide +kernel
example : (runAt {} [(0, .open wavFloatW), (1, .open alacW), (0, .close true), (1, .close true)]).hs = [] := by decide

section
open Sf.Ledger.Calls

/-- what every history of dither commands keeps true under the current rule -/
def DitherGood (s : Sf.Ledger.Calls.Slot) : Prop :=
  (s.saved = none ∨ s.saved = some .codec) ∧ (s.cur = .wrapper → s.saved = some .codec)

theorem dither_good_step (twice : Bool) (s : Sf.Ledger.Calls.Slot) (h : DitherGood s) (c : Cmd) :
    DitherGood (applyCmd installNew twice s c) := by
  obtain ⟨cur, saved⟩ := s
  cases c <;> cases twice <;> cases cur <;> rcases h with ⟨h1 | h1, h2⟩ <;>
    simp_all [DitherGood, applyCmd, installNew, restore]

/-- **dither_write_terminates** (KF-C16-dither-twice, repaired).  Under the current rule of dither_init, after every sequence of SFC_SET_DITHER_ON_WRITE commands
    (dither on / off, in any order, any number of times, also for the entry point a float file handles twice) a write call reaches
    the codec after at most one wrapper. -/
theorem dither_write_terminates (twice : Bool) (cmds : List Cmd) :
    callDepth (runCmds installNew twice cmds) = some 0 ∨ callDepth (runCmds installNew twice cmds) = some 1 := by
  have h : DitherGood (cmds.foldl (applyCmd installNew twice) {}) :=
    List.foldlRecOn cmds _ ⟨Or.inl rfl, by intro h; cases h⟩ fun s h c _ => dither_good_step twice s h c
  unfold runCmds
  generalize cmds.foldl (applyCmd installNew twice) {} = s at h
  obtain ⟨cur, saved⟩ := s
  cases cur
  · left; rfl
  · right; have := h.2 rfl; simp at this; subst this; rfl

/-- the rule before the repair: enabling twice — or once on the doubly handled entry point — makes the wrapper call itself -/
theorem dither_write_old_rule :
    callDepth (runCmds installOld false [.on, .on]) = none ∧ callDepth (runCmds installOld true [.on]) = none := by decide

/-- **aiff_ima_seek_never_calls_null** (KF-C16-aiff-ima-seek-write, repaired): aiff_ima_seek to offset 0 on a handle without
    `decode_block` answers SFE_BAD_SEEK; under the rule before the repair (`aiff_ima_seek_old_rule`) it called the NULL pointer -/
theorem aiff_ima_seek_never_calls_null (a b : Bool) : aiffImaSeek0New a b ≠ .callsNull := by
  cases a <;> cases b <;> decide

theorem aiff_ima_seek_old_rule : aiffImaSeek0Old false true = .callsNull := by decide

end

open Sf.Ledger.Calls in
example : callDepth (runCmds installNew true [.on, .on, .off, .on]) = some 1 := by decide
open Sf.Ledger.Calls in
example : aiffImaSeek0New false true = .badSeek ∧ aiffImaSeek0New true false = .ok := by decide

end Sf.C16
