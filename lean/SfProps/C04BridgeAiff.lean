-- properties: C01 C04 C07 C11
/-
  SfProps.C04BridgeAiff — the AIFF / AIFF-C container model (SfModel/Aiff.lean, SfModel/AiffAudio.lean; theorems in
  SfProps/C04Aiff.lean) as a sample-level container `SCont` of the write-side bridge (SfProofs/AbsWriteBridgeSample.lean), and
  its `SLaws`.

  The AIFF model's write operation takes the PEAK table the call leaves behind as a PARAMETER.  The sample-level machine
  supplies it (`aiffOps`) from `Sf.Peak.upd` — the handle model's `peakUpdate` — threading (PEAK table, write position in
  frames) the way `Sf.Peak.run` / `peakFrom` / `wposAfter` do; the chunk holds the binary32 narrowing of the double the handle
  keeps (`aiffPeaks`).  The closed bytes of a FLOAT / DOUBLE file therefore depend on the SAMPLES handed over; that they do not
  depend on the split is `peak_partition` (C18 `peak_partition_independent`).
  The guard `aiffGuard`: whole frames per call, the 2^32 guard of the FORM / SSND size fields on the number of samples, and — for
  FLOAT / DOUBLE — what the PEAK theorems ask of a call (not empty, finite values).
-/
import SfProofs.AbsWriteBridgeSamplePeak
import SfProps.C04Bridge
import SfProps.C01Aiff
namespace Sf.AbsWriteBridge.Sample
open Sf Sf.AbsWrite Sf.AbsWriteBridge Sf.Geometry

/-- the PEAK table of the handle as the AIFF header writer stores it: binary32 value, 32-bit position -/
def aiffPeaks : Option (List Sf.Peak) → List Aiff.Peak
  | none => []
  | some ps => ps.map fun p => { v32 := Float.f64to32 p.value, pos := p.position.toNat }

/-- sample-level operations as operations of the AIFF session machine, from the PEAK table `pk` and the write position `wpos`
    (frames) in force before the first of them -/
def aiffOps (c : Aiff.Cfg) (e : Enc) (ty : Ty) : Option (List Sf.Peak) → Int → List SOp → List Aiff.WOp
  | _, _, [] => []
  | pk, wpos, .write xs a :: r =>
    .write (e.encodeAll {} ty xs) (aiffPeaks (Sf.Peak.upd pk e {} c.ch wpos ty xs)) a ::
      aiffOps c e ty (Sf.Peak.upd pk e {} c.ch wpos ty xs) (wpos + (xs.length : Int) / c.ch) r
  | pk, wpos, .update :: r => .update :: aiffOps c e ty pk wpos r

/-- the PEAK table of the handle right after open -/
def aiffPk0 (c : Aiff.Cfg) : Option (List Sf.Peak) := if c.isFloat then some (mkPeaks c.ch) else none

def aiffGeom (c : Aiff.Cfg) : AbsWrite.Geom := { word := c.endian * 0x10000000 + 0x020000 + c.codec, ch := c.ch, sr := c.sr }

def aiffRes : Aiff.ParseRes → Small2.ParseRes
  | .ok i => .ok { ch := i.ch, fmt := i.fmt, sr := i.sr, frames := i.frames }
  | .err => .err
  | .unmodelled => .unmodelled

def aiffCont (c : Aiff.Cfg) (k : Aiff.Kind) (e : Enc) : SCont :=
  { g := aiffGeom c, enc := e, L := Aiff.hdrLen c k,
    closed := fun ty st ops => C04Aiff.closedBytes c k st (aiffOps c e ty (aiffPk0 c) 0 ops),
    store := fun ty st ops => (Aiff.run c k (Aiff.openW c k st) (aiffOps c e ty (aiffPk0 c) 0 ops)).bytes,
    parse := fun bs => aiffRes (Aiff.parse bs) }

theorem aiffCont_closed (c : Aiff.Cfg) (k : Aiff.Kind) (e : Enc) (ty : Ty) (st : Nat) (ops : List SOp) :
    (aiffCont c k e).closed ty st ops = C04Aiff.closedBytes c k st (aiffOps c e ty (aiffPk0 c) 0 ops) := rfl

theorem aiffCont_store (c : Aiff.Cfg) (k : Aiff.Kind) (e : Enc) (ty : Ty) (st : Nat) (ops : List SOp) :
    (aiffCont c k e).store ty st ops = (Aiff.run c k (Aiff.openW c k st) (aiffOps c e ty (aiffPk0 c) 0 ops)).bytes := rfl

theorem aiffCont_parse (c : Aiff.Cfg) (k : Aiff.Kind) (e : Enc) (bs : List Byte) :
    (aiffCont c k e).parse bs = aiffRes (Aiff.parse bs) := rfl

/-- every write call hands over whole frames -/
def aiffWhole (ch : Nat) (ops : List SOp) : Prop :=
  ∀ op ∈ ops, match op with | .write xs _ => xs.length % ch = 0 | .update => True

/-- THE GUARD of AIFF: whole frames per write call, the 2^32 guard of the FORM / SSND size fields (a condition on the number of
    samples handed over only: header + audio + pad byte), and for FLOAT / DOUBLE the well-formedness the PEAK theorems ask -/
def aiffGuard (c : Aiff.Cfg) (k : Aiff.Kind) (e : Enc) (ty : Ty) (ops : List SOp) : Prop :=
  aiffWhole c.ch ops ∧ Aiff.hdrLen c k + (sData ops).length * e.nbytes + 1 < 2 ^ 32 ∧
  (c.isFloat = true → PeakOk e c.ch ty ops)

/-- the encoder `aiff_open` installs is the one the format word names -/
theorem aiff_encOf_raw (c : Aiff.Cfg) (k : Aiff.Kind) (e : Enc) (he : Aiff.encOf c k = some e) :
    encOf .raw c.codec (!k.little) = some e := by
  unfold Aiff.encOf at he
  split at he <;> first | (rename_i h; rw [h]; simpa [encOf] using he) | simp at he

theorem aiffGeom_facts (c : Aiff.Cfg) (k : Aiff.Kind) (e : Enc) (ha : Aiff.accepted c = true) (he : Aiff.encOf c k = some e) :
    (aiffGeom c).codec = c.codec ∧ (aiffGeom c).major = 0x02 ∧ 0 < e.nbytes ∧ e.wf ∧ (aiffGeom c).block = 1 ∧
      (aiffGeom c).major ≠ 0x04 ∧ ∃ b, encOf .raw (aiffGeom c).codec b = some e := by
  have hraw : c.codec ∈ C04Bridge.rawCodecs := by
    simp only [Aiff.accepted, decide_eq_true_eq] at ha
    simp only [C04Bridge.rawCodecs, List.mem_cons, List.not_mem_nil, or_false]
    omega
  have h := C04Bridge.geom_facts (aiffGeom c) c.endian 0x02 c.codec (!k.little) rfl (by decide) (by decide) hraw (Or.inl (by decide))
  have hee : C04Bridge.encFor c.codec (!k.little) = e :=
    Option.some.inj ((C04Bridge.encFor_raw _ _ hraw).symm.trans (aiff_encOf_raw c k e he))
  rwa [hee] at h

theorem aiff_enc_nbytes (c : Aiff.Cfg) (k : Aiff.Kind) (e : Enc) (ha : Aiff.accepted c = true) (hk : Aiff.kindOf c = some k)
    (he : Aiff.encOf c k = some e) : e.nbytes = Aiff.bytewidthOf c.codec := by
  obtain ⟨e', h1, _, h3, _⟩ := C01Aiff.encOf_props c k ha hk
  rw [he] at h1
  cases h1
  exact h3

theorem aiff_enc_float (c : Aiff.Cfg) (k : Aiff.Kind) (e : Enc) (he : Aiff.encOf c k = some e) (hf : c.isFloat = true) :
    e.isFloatData = true := by
  have hc : c.codec = 0x06 ∨ c.codec = 0x07 := by simpa [Aiff.Cfg.isFloat] using hf
  unfold Aiff.encOf at he
  rcases hc with h | h <;> rw [h] at he <;> simp at he <;> subst he <;> rfl

theorem aiff_fmtWord (c : Aiff.Cfg) (k : Aiff.Kind) (hk : Aiff.kindOf c = some k) :
    c.fmtWord % 0x10000000 = (aiffGeom c).word % 0x10000000 := by
  have e : ∀ (p q : Prop) [Decidable p] [Decidable q],
      (if p then 0x20000000 else if q then 0x10000000 else 0) = (if p then 2 else if q then 1 else 0) * 0x10000000 := by
    intro p q _ _; split <;> (try split) <;> rfl
  show c.fmtWord % 0x10000000 = (c.endian * 0x10000000 + 0x020000 + c.codec) % 0x10000000
  unfold Aiff.Cfg.fmtWord
  rw [hk]
  dsimp only
  rw [e]
  exact word_mask _ _ _ _

theorem aiffOps_append (c : Aiff.Cfg) (e : Enc) (ty : Ty) : ∀ (xs ys : List SOp) (pk : Option (List Sf.Peak)) (wpos : Int),
    aiffOps c e ty pk wpos (xs ++ ys) =
      aiffOps c e ty pk wpos xs ++ aiffOps c e ty (peakFrom e c.ch ty pk wpos xs) (wposAfter c.ch wpos xs) ys
  | [], _, _, _ => rfl
  | .write x a :: xs, ys, pk, wpos => by
    simp only [List.cons_append, aiffOps, peakFrom_cons_write, wposAfter]
    congr 1
    exact aiffOps_append c e ty xs ys _ _
  | .update :: xs, ys, pk, wpos => by
    simp only [List.cons_append, aiffOps, peakFrom_cons_update, wposAfter]
    congr 1
    exact aiffOps_append c e ty xs ys _ _

theorem opsData_aiffOps (c : Aiff.Cfg) (e : Enc) (ty : Ty) : ∀ (ops : List SOp) (pk : Option (List Sf.Peak)) (wpos : Int),
    Aiff.opsData (aiffOps c e ty pk wpos ops) = e.encodeAll {} ty (sData ops)
  | [], _, _ => by simp [aiffOps, Aiff.opsData, sData, Enc.encodeAll]
  | .write xs a :: r, pk, wpos => by
    simp only [aiffOps, Aiff.opsData, sData, Enc.encodeAll_append]
    rw [opsData_aiffOps c e ty r]
  | .update :: r, pk, wpos => by
    simp only [aiffOps, Aiff.opsData, sData]
    exact opsData_aiffOps c e ty r pk wpos

theorem aiff_run_append (c : Aiff.Cfg) (k : Aiff.Kind) (s : Aiff.St) (a b : List Aiff.WOp) :
    Aiff.run c k s (a ++ b) = Aiff.run c k (Aiff.run c k s a) b := by simp [Aiff.run, List.foldl_append]

theorem aiff_applyOp_peaks (c : Aiff.Cfg) (k : Aiff.Kind) (s : Aiff.St) (op : Aiff.WOp) :
    (Aiff.applyOp c k s op).peaks =
      match op with
      | .write _ pk _ => if c.isFloat then some pk else s.peaks
      | .update => s.peaks := by
  cases op with
  | update => exact (Aiff.writeHeader_fields c k s true).2.2.2
  | write enc pk a => exact Aiff.write_peaks c k s enc (some pk) a

/-- the header's PEAK table when the handle's is `pk` -/
def aiffTab (c : Aiff.Cfg) (pk : Option (List Sf.Peak)) : Option (List Aiff.Peak) := if c.isFloat then some (aiffPeaks pk) else none

/-- the PEAK table of the state along a list of sample-level operations: the handle's table, narrowed -/
theorem aiff_run_peaks (c : Aiff.Cfg) (k : Aiff.Kind) (e : Enc) (ty : Ty) : ∀ (ops : List SOp) (pk : Option (List Sf.Peak)) (wpos : Int)
    (s : Aiff.St), s.peaks = aiffTab c pk →
    (Aiff.run c k s (aiffOps c e ty pk wpos ops)).peaks = aiffTab c (peakFrom e c.ch ty pk wpos ops)
  | [], _, _, _, h => h
  | .write xs a :: r, pk, wpos, s, h => by
    simp only [aiffOps, Aiff.run, List.foldl_cons, peakFrom_cons_write]
    refine aiff_run_peaks c k e ty r _ _ _ ?_
    rw [aiff_applyOp_peaks, h]
    unfold aiffTab
    cases c.isFloat <;> rfl
  | .update :: r, pk, wpos, s, h => by
    simp only [aiffOps, Aiff.run, List.foldl_cons, peakFrom_cons_update]
    refine aiff_run_peaks c k e ty r pk wpos _ ?_
    rw [aiff_applyOp_peaks, h]

theorem aiff_finalPeaks (c : Aiff.Cfg) (k : Aiff.Kind) (e : Enc) (ty : Ty) (st : Nat) (ops : List SOp) :
    (Aiff.run c k (Aiff.openW c k st) (aiffOps c e ty (aiffPk0 c) 0 ops)).peaks = aiffTab c (peakFrom e c.ch ty (aiffPk0 c) 0 ops) := by
  apply aiff_run_peaks
  have h0 : ({ v32 := Float.f64to32 (0 : Nat), pos := (0 : Int).toNat } : Aiff.Peak) = {} := by decide
  show (if c.isFloat then some (List.replicate c.ch ({} : Aiff.Peak)) else none) = _
  cases hf : c.isFloat
  · simp [aiffTab, hf]
  · simp only [aiffTab, aiffPk0, hf, if_true, aiffPeaks, mkPeaks, List.map_replicate, h0]

theorem aiff_closed_eq (c : Aiff.Cfg) (k : Aiff.Kind) (e : Enc) (hwf : c.wf) (hk : Aiff.kindOf c = some k) (ty : Ty) (st : Nat)
    (ops : List SOp) :
    (aiffCont c k e).closed ty st ops =
      Aiff.closedHdr c k (e.encodeAll {} ty (sData ops)).length (aiffTab c (peakFrom e c.ch ty (aiffPk0 c) 0 ops)) ++
        e.encodeAll {} ty (sData ops) ++ Aiff.tailBytes (e.encodeAll {} ty (sData ops)).length := by
  rw [aiffCont_closed, C04Aiff.closedBytes_eq c k hwf hk, opsData_aiffOps]
  unfold C04Aiff.finalPeaks
  rw [aiff_finalPeaks]

theorem aiff_hdr_length (c : Aiff.Cfg) (k : Aiff.Kind) (hwf : c.wf) (hk : Aiff.kindOf c = some k) (fr : Nat) (fl dl : Int)
    (pk : Option (List Sf.Peak)) :
    (Aiff.hdrRaw c k fr fl dl (aiffTab c pk)).length = Aiff.hdrLen c k := by
  apply Aiff.hdrRaw_length c k hwf.1 hk
  cases hf : c.isFloat <;> simp [aiffTab, hf]

theorem aiff_snapshot_form (c : Aiff.Cfg) (k : Aiff.Kind) (hwf : c.wf) (hk : Aiff.kindOf c = some k) (st : Nat)
    (wops : List Aiff.WOp) :
    ∃ hdr, hdr.length = Aiff.hdrLen c k ∧ C04Aiff.snapshotBytes c k st wops = hdr ++ Aiff.opsData wops := by
  obtain ⟨i, _⟩ := Aiff.session_inv c k hwf.1 hk st wops
  exact ⟨_, Aiff.hdrRaw_length c k hwf.1 hk _ _ _ _ i.pk, C04Aiff.snapshotBytes_eq c k hwf hk st wops⟩

theorem aiff_store_snapshot (c : Aiff.Cfg) (k : Aiff.Kind) (e : Enc) (ty : Ty) (st : Nat) (ops : List SOp)
    (he : EndsInRewrite ops) :
    ∃ ops', (aiffCont c k e).store ty st ops = C04Aiff.snapshotBytes c k st (aiffOps c e ty (aiffPk0 c) 0 ops') ∧
      sData ops' = sData ops := by
  obtain ⟨w, x, rfl, hx⟩ := he
  rcases hx with rfl | ⟨xs, _, rfl⟩
  · refine ⟨w, ?_, by simp [sData_append, sData]⟩
    rw [aiffCont_store, aiffOps_append, aiff_run_append]
    rfl
  · refine ⟨w ++ [.write xs false], ?_, by simp [sData_append, sData]⟩
    rw [aiffCont_store]
    unfold C04Aiff.snapshotBytes
    rw [aiffOps_append, aiff_run_append, aiffOps_append, aiff_run_append]
    simp only [aiffOps, Aiff.run, List.foldl_cons, List.foldl_nil, Aiff.applyOp]
    rw [C04Aiff.auto_write_is_update]

theorem aiff_slaws (c : Aiff.Cfg) (k : Aiff.Kind) (e : Enc) (hwf : c.wf) (hk : Aiff.kindOf c = some k)
    (he : Aiff.encOf c k = some e) (ty : Ty) : SLaws (aiffCont c k e) ty (aiffGuard c k e ty) := by
  have ha := hwf.1
  have hch : 0 < c.ch := hwf.2.1
  obtain ⟨_, hmajor, hnb, hewf, hblock, hnotRaw, hcodec⟩ := aiffGeom_facts c k e ha he
  have hnbw := aiff_enc_nbytes c k e ha hk he
  have hbw : c.bw = (aiffCont c k e).bw := by
    show Aiff.bytewidthOf c.codec * c.ch = e.nbytes * c.ch
    rw [hnbw]
  have hrate : rateOk (aiffGeom c).major c.sr ((c.sr : Nat) : Int) = true := by
    rw [hmajor]; simp [rateOk, rateClass]
  have hpad : ∀ D : Nat, (Aiff.tailBytes D).length ≤ 1 := fun D => (Aiff.tailBytes_length D).trans_le (Aiff.padLen_le_one D)
  refine { chpos := hch, nb := hnb, wf := hewf, block := hblock, notRaw := hnotRaw, codec := hcodec,
           closedForm := ?_, closedParse := ?_, closedFn := ?_, storeForm := ?_, storeParse := ?_ }
  · intro st ops _
    rw [aiff_closed_eq c k e hwf hk]
    exact ⟨_, _, aiff_hdr_length c k hwf hk _ _ _ _, rfl⟩
  · intro st ops hg
    have hlen : (C04Aiff.closedBytes c k st (aiffOps c e ty (aiffPk0 c) 0 ops)).length < 2 ^ 32 := by
      rw [← aiffCont_closed, aiff_closed_eq c k e hwf hk ty st ops]
      simp only [List.length_append]
      unfold Aiff.closedHdr
      rw [aiff_hdr_length c k hwf hk, Enc.encodeAll_length_cw]
      have := hpad ((sData ops).length * e.nbytes)
      have := hg.2.1
      omega
    have hp := C04Aiff.aiff_reopen_info c k hwf hk st _ hlen
    refine ⟨{ ch := c.ch, fmt := c.fmtWord, sr := c.sr, frames := (Aiff.opsData (aiffOps c e ty (aiffPk0 c) 0 ops)).length / c.bw },
      ?_, ?_, rfl, aiff_fmtWord c k hk, hrate⟩
    · rw [aiffCont_parse, aiffCont_closed, hp]; rfl
    · show (Aiff.opsData (aiffOps c e ty (aiffPk0 c) 0 ops)).length / c.bw = _
      rw [opsData_aiffOps, hbw]; rfl
  · -- the one law that is not a property theorem of C04Aiff read at `aiffOps …`: jobs with the same samples close to the same bytes,
    -- because the PEAK table in the header does not see how the samples were split over calls (`peak_partition`)
    intro a b ops ops' hg hg' hs
    rw [aiff_closed_eq c k e hwf hk, aiff_closed_eq c k e hwf hk, hs]
    cases hf : c.isFloat
    · simp [aiffTab, hf]
    · have := peak_partition e (aiff_enc_float c k e he hf) c.ch hch ty ops ops' (hg.2.2 hf) (hg'.2.2 hf) hs
      simp only [aiffTab, aiffPk0, hf, if_true]
      exact congrArg (fun t => Aiff.closedHdr c k _ (some (aiffPeaks t)) ++ _ ++ _) this
  · intro st ops hg hr
    obtain ⟨ops', e1, e2⟩ := aiff_store_snapshot c k e ty st ops hr
    obtain ⟨hdr, h1, h2⟩ := aiff_snapshot_form c k hwf hk st (aiffOps c e ty (aiffPk0 c) 0 ops')
    exact ⟨hdr, [], h1, by rw [e1, h2, opsData_aiffOps, e2]; exact (List.append_nil _).symm⟩
  · intro st ops hg hr
    obtain ⟨ops', e1, e2⟩ := aiff_store_snapshot c k e ty st ops hr
    obtain ⟨hdr, h1, h2⟩ := aiff_snapshot_form c k hwf hk st (aiffOps c e ty (aiffPk0 c) 0 ops')
    have hlen : (C04Aiff.snapshotBytes c k st (aiffOps c e ty (aiffPk0 c) 0 ops')).length < 2 ^ 32 := by
      rw [h2, List.length_append, h1, opsData_aiffOps, e2, Enc.encodeAll_length_cw]
      have := hg.2.1
      omega
    obtain ⟨hp, _⟩ := C04Aiff.aiff_snapshot_valid c k hwf hk st _ hlen
    refine ⟨{ ch := c.ch, fmt := c.fmtWord, sr := c.sr, frames := (Aiff.opsData (aiffOps c e ty (aiffPk0 c) 0 ops')).length / c.bw },
      ?_, ?_, rfl, aiff_fmtWord c k hk⟩
    · rw [aiffCont_parse, e1, hp]; rfl
    · show (Aiff.opsData (aiffOps c e ty (aiffPk0 c) 0 ops')).length / c.bw = _
      rw [opsData_aiffOps, e2, hbw]; rfl

def aiffExC : Aiff.Cfg := ⟨0x06, 0, 1, 8000⟩
def aiffExK : Aiff.Kind := ⟨true, Aiff.mk4 "FL32", false⟩
def aiffExOps : List SOp := [.write [0x3F000000] false, .update, .write [0xBF800000, 0x3E800000] true]
def aiffExRef : List SOp := [.write [0x3F000000, 0xBF800000, 0x3E800000] false]

theorem aiff_example_cfg : aiffExC.wf ∧ Aiff.kindOf aiffExC = some aiffExK ∧ Aiff.encOf aiffExC aiffExK = some (.flt true) := by
  decide

theorem aiff_example_guard : aiffGuard aiffExC aiffExK (.flt true) .f32 aiffExOps ∧
    aiffGuard aiffExC aiffExK (.flt true) .f32 aiffExRef := by
  refine ⟨⟨?_, by decide, fun _ => ?_⟩, ⟨?_, by decide, fun _ => ?_⟩⟩
  · intro op hop
    simp only [aiffExOps, List.mem_cons, List.not_mem_nil, or_false] at hop
    rcases hop with rfl | rfl | rfl <;> decide
  · intro call hc
    simp only [aiffExOps, sCalls, List.mem_cons, List.not_mem_nil, or_false] at hc
    rcases hc with rfl | rfl <;> exact ⟨by decide, by decide, by decide +kernel⟩
  · intro op hop
    simp only [aiffExRef, List.mem_cons, List.not_mem_nil, or_false] at hop
    subst hop; decide
  · intro call hc
    simp only [aiffExRef, sCalls, List.mem_cons, List.not_mem_nil, or_false] at hc
    subst hc; exact ⟨by decide, by decide, by decide +kernel⟩

/-- by evaluation: the split session (stale frames value 0) and the one-call session (stale 7) close to the same 108 bytes; the
    PEAK chunk (bytes 56 …) holds 1.0f at frame 1; the store after the auto-mode write re-opens with 3 frames -/
example : (aiffCont aiffExC aiffExK (.flt true)).closed .f32 0 aiffExOps = (aiffCont aiffExC aiffExK (.flt true)).closed .f32 7 aiffExRef ∧
    ((aiffCont aiffExC aiffExK (.flt true)).closed .f32 0 aiffExOps).length = 108 ∧
    (((aiffCont aiffExC aiffExK (.flt true)).closed .f32 0 aiffExOps).drop 56).take 24 =
      Aiff.mk4 "PEAK" ++ [0, 0, 0, 16, 0, 0, 0, 1, 0x3B, 0x9A, 0xCA, 0x00, 0x3F, 0x80, 0, 0, 0, 0, 0, 1] ∧
    (aiffCont aiffExC aiffExK (.flt true)).parse ((aiffCont aiffExC aiffExK (.flt true)).closed .f32 0 aiffExOps) =
      .ok ⟨1, 0x020006, 8000, 3⟩ ∧
    (aiffCont aiffExC aiffExK (.flt true)).parse ((aiffCont aiffExC aiffExK (.flt true)).store .f32 0 aiffExOps) =
      .ok ⟨1, 0x020006, 8000, 3⟩ := by decide +kernel

/-- the same equality from the law -/
example : (aiffCont aiffExC aiffExK (.flt true)).closed .f32 0 aiffExOps = (aiffCont aiffExC aiffExK (.flt true)).closed .f32 7 aiffExRef :=
  (aiff_slaws aiffExC aiffExK (.flt true) aiff_example_cfg.1 aiff_example_cfg.2.1 aiff_example_cfg.2.2 .f32).closedFn 0 7 _ _
    aiff_example_guard.1 aiff_example_guard.2 rfl

end Sf.AbsWriteBridge.Sample
