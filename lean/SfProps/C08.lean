/-
  C08 — read/write mode keeps independent, correct read and write positions.
  The clauses of the statement on single calls of the handle model, at SEEK_SET and at the zero-offset SEEK_CUR.  The
  theorem of the property is in SfProps/C08Refine.lean: `rdwr_refines` (every call of a read/write handle is the operation
  of the abstract file of the statement), with these clauses for every whence value and offset as its consequences.
-/
import SfProps.C05
namespace Sf.C08
open Sf

/-- SEEK_SET | SFM_READ on a read/write handle moves only the read position -/
theorem seek_read_moves_only_read (h : H) (s : Store) (k : Int) (hm : h.mode = .rw) (hk : 0 ≤ k) :
    (stepSeek h s k 0x10).1.rpos = k ∧ (stepSeek h s k 0x10).1.wpos = h.wpos ∧ (stepSeek h s k 0x10).1.frames = h.frames ∧
    (stepSeek h s k 0x10).2.2.ret = k ∧ (stepSeek h s k 0x10).2.1.bytes = s.bytes := by
  have : ¬ k < 0 := by omega
  simp [stepSeek, hm, this, defaultSeek, Store.seekSet]

/-- SEEK_SET | SFM_WRITE on a read/write handle moves only the write position -/
theorem seek_write_moves_only_write (h : H) (s : Store) (k : Int) (hm : h.mode = .rw) (hk : 0 ≤ k) :
    (stepSeek h s k 0x20).1.wpos = k ∧ (stepSeek h s k 0x20).1.rpos = h.rpos ∧ (stepSeek h s k 0x20).1.frames = h.frames ∧
    (stepSeek h s k 0x20).2.2.ret = k ∧ (stepSeek h s k 0x20).2.1.bytes = s.bytes := by
  have : ¬ k < 0 := by omega
  simp [stepSeek, hm, this, defaultSeek, Store.seekSet]

/-- a plain SEEK_SET on a read/write handle moves both positions -/
theorem seek_plain_moves_both (h : H) (s : Store) (k : Int) (hm : h.mode = .rw) (hk : 0 ≤ k) :
    (stepSeek h s k 0).1.rpos = k ∧ (stepSeek h s k 0).1.wpos = k ∧ (stepSeek h s k 0).1.frames = h.frames ∧
    (stepSeek h s k 0).2.1.bytes = s.bytes := by
  have : ¬ k < 0 := by omega
  simp [stepSeek, hm, this, modeBits, defaultSeek, Store.seekSet]

/-- SEEK_CUR | SFM_READ with offset 0 is a pure query of the read position on a read/write handle -/
theorem read_position_query (h : H) (s : Store) (hm : h.mode = .rw) :
    (stepSeek h s 0 0x11).2.2.ret = h.rpos ∧ (stepSeek h s 0 0x11).1.rpos = h.rpos ∧ (stepSeek h s 0 0x11).1.wpos = h.wpos ∧
    (stepSeek h s 0 0x11).2.1 = s := by
  simp [stepSeek, hm]

/-- SEEK_CUR | SFM_WRITE with offset 0 is a pure query of the write position -/
theorem write_position_query (h : H) (s : Store) (hm : h.mode = .rw) :
    (stepSeek h s 0 0x21).2.2.ret = h.wpos ∧ (stepSeek h s 0 0x21).1.rpos = h.rpos ∧ (stepSeek h s 0 0x21).1.wpos = h.wpos ∧
    (stepSeek h s 0 0x21).2.1 = s := by
  simp [stepSeek, hm]

/-- writing inside existing data keeps the length, writing at or past the end extends it to the new write position;
    the read position is untouched (C05 `write_contract`, restated for the read/write reading of C08) -/
theorem write_extends_or_keeps (h : H) (s : Store) (ty : Ty) (fc : Bool) (n : Int) (d : List Int)
    (hi : HInv h s) (hv : WriteValid h fc n) :
    (stepWrite h s ty fc n d).1.frames = max h.frames (stepWrite h s ty fc n d).1.wpos ∧
    (stepWrite h s ty fc n d).1.rpos = h.rpos :=
  let ⟨_, _, _, _, frames, rpos, _⟩ := Sf.C05.write_contract h s ty fc n d hi hv
  ⟨frames, rpos⟩

/-- SFC_FILE_TRUNCATE (descriptor routes) shortens the file to the requested frame count and moves both positions there -/
theorem truncate_shortens (h : H) (s : Store) (k : Int) (hm : h.mode = .rw) (hk : 0 ≤ k) (hc : h.canTruncate = true) :
    (stepTruncate h s k).1.frames = k ∧ (stepTruncate h s k).1.rpos = k ∧ (stepTruncate h s k).1.wpos = k ∧
    (stepTruncate h s k).2.2.ret = 0 := by
  have : ¬ k < 0 := by omega
  simp [stepTruncate, stepSeek, hm, this, hc, modeBits, defaultSeek, Store.seekSet]

example : (stepSeek { store := 0, mode := .rw, container := .raw, enc := .pcm ⟨16, false, false⟩, big := false, ch := 1, sr := 8000,
                      fmtWord := 0x040002, frames := 5, wpos := 5, lastOp := .rw } { bytes := List.replicate 10 0 } 2 0x10).1.rpos = 2 := by decide

end Sf.C08
