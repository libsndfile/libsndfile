-- properties: C04
/-
  C04 — SD2, the universally quantified re-open theorem.  The walk of sd2_parse_rsrc_fork / parse_str_rsrc over
  the writer's fork is carried out symbolically (SfProofs/Sd2Eval.lean: the value-level evaluator `Prog.eval` and the layout
  of the fork as fields at offsets; SfProofs/Sd2Walk.lean: the three iterations of the string loop that find the 'STR ' resources,
  after which no later iteration changes a number, `Kept` of SfProofs/Sd2Fuel.lean; `parse_written`), so the
  statement holds for EVERY configuration sf_open accepts: sample size 1…4, 1 ≤ channels ≤ 1024, 1 ≤ rate ≤ 2^31 − 1, any file
  name of ≤ 200 bytes.
-/
import SfProps.C04Sd2
namespace Sf.C04Sd2All
open Sf Sf.Small2 Sf.Sd2 Sf.Sd2.Prog Sf.Sd2.Walk
open Sf.Pvf (digits)

/-- C04 for SD2, universally: the resource fork sd2_write_rsrc_fork writes for ANY accepted configuration is parsed back by
    sd2_parse_rsrc_fork / parse_str_rsrc to exactly that sample size, rate and channel count. -/
theorem sd2_reopen_info (c : Cfg) (hc : c.wf) : parseRsrc (rsrc c) = .ok { size := c.size, rate := c.rate, ch := c.ch } :=
  parse_written c hc

/-- the length of the fork is the closed form `total c` (≤ 452 bytes) for every accepted configuration -/
theorem sd2_rsrc_length (c : Cfg) (hc : c.wf) : (rsrc c).length = total c ∧ total c ≤ 452 :=
  ⟨rsrc_length c hc.name_le, total_le c hc⟩

/-- end to end: re-opening the fork the writer made next to a data file of `n` bytes reports the channels, the format word of
    the sample size, the rate, and n / (size · channels) frames — for every accepted configuration and every n -/
theorem sd2_reopen_info_full (c : Cfg) (hc : c.wf) (n : Nat) :
    reopen (rsrc c) n = .ok { ch := c.ch, fmt := 0x160000 + c.size, sr := c.rate, frames := n / (c.size * c.ch) } :=
  Sf.C04Sd2.sd2_reopen_written c hc n

/-- the same through guess_file_type for a data file too short for the 12-byte probe (the repaired rule) -/
theorem sd2_reopen_file_short (c : Cfg) (hc : c.wf) (data : List Byte) (h : data.length < 12) :
    reopenFile data (rsrc c) = .ok { ch := c.ch, fmt := 0x160000 + c.size, sr := c.rate, frames := data.length / (c.size * c.ch) } := by
  rw [Sf.C04Sd2.sd2_short_data_reopens data _ h]
  exact sd2_reopen_info_full c hc data.length

/-- non-vacuity: a configuration outside the six instances of `sd2_reopen_info_instances` (24-bit, 7 channels, 96 kHz, a
    13-character name) is accepted, and the universal theorem answers for it -/
example : ({ size := 3, rate := 96000, ch := 7, name := asc "take-0007.sd2" } : Cfg).wf ∧
    parseRsrc (rsrc { size := 3, rate := 96000, ch := 7, name := asc "take-0007.sd2" }) = .ok { size := 3, rate := 96000, ch := 7 } ∧
    reopen (rsrc { size := 3, rate := 96000, ch := 7, name := asc "take-0007.sd2" }) 2100
      = .ok { ch := 7, fmt := 0x160003, sr := 96000, frames := 100 } :=
  ⟨by decide, sd2_reopen_info _ (by decide), sd2_reopen_info_full _ (by decide) 2100⟩

example : parseRsrc (rsrc { size := 3, rate := 96000, ch := 7, name := asc "take-0007.sd2" }) = .ok { size := 3, rate := 96000, ch := 7 } :=
  sd2_reopen_info _ (by decide)

end Sf.C04Sd2All
