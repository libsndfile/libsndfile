/-
  C08 — accepted RDWR histories REFINE the abstract file of the statement; the bridge for read/write handles.

  -- properties: C08

  The abstract file of C08 (SfProofs/RdwrSpec.lean): `structure AbsFile α where frames : List α; rpos wpos : Nat` with
  `read`, `write`, `seek`, `truncate`.  `Abs.view g st ty` is the ITEM VIEW of a state of the predicate for the caller type
  `ty`: ⟨the cells of `st.ref ty`, rpos·cpf, wpos·cpf⟩ (a frame of the handle is `cpf = channels · cells ty` cells, so frame
  offsets scale by `cpf`).  `accepted_rdwr_refines`: along EVERY transcript the predicate accepts on a read/write handle
  (typed calls through `ty`, the nine whence values, SFC_FILE_TRUNCATE, queries, commands; any answers whatever code
  produced them) every answer is the abstract file's answer and the state the predicate reaches stands for the result of
  the abstract run — `Abs.writeAt` mirrors `AbsFile.write`, the truncation rule mirrors `AbsFile.truncate`, a read that is
  accepted delivered `AbsFile.read`, a seek that was not refused is `AbsFile.seek`.  (A refused seek / truncate, an invalid
  or zero-length request stand for no abstract operation: `Abs.lineAOp`, as `ROp.toAOp` does for the concrete model.)
  Together with C05Bridge.handle_run_accepted (the concrete model's transcripts ARE accepted) and C08Refine.rdwr_refines
  (the concrete model refines the byte-frame AbsFile) the three layers agree.
-/
import SfProofs.AbsRefineRun
import SfProofs.AbsSized
import SfProps.C05Bridge
import SfProps.C08Refine
import SfProps.C06
namespace Sf.C08Bridge
open Sf Sf.Abs

/-- ONE LINE.  On a read/write handle, an accepted line of the alphabet answers what the abstract file answers
    (`LineOk`), the item view after it is the abstract step, and the size invariant `ref.size = frames · cpf` is kept. -/
theorem accepted_line_refines (g : Geom) (ty : Ty) (st st1 : St) (op : Abs.Op) (o : Abs.Out) (hch : 0 < g.ch)
    (hio : g.ioMayFail = false) (hm : st.mode = .rw) (hs : (st.ref ty).size = st.frames * g.cpf ty) (ha : Alpha ty op)
    (hc : check g st op o = .ok st1) :
    LineOk g ty st (view g st ty) (op, o) ∧ view g st1 ty = (view g st ty).stepOpt 0 (lineAOp g ty (op, o)) ∧
    st1.mode = .rw ∧ (st1.ref ty).size = st1.frames * g.cpf ty := by
  have hmw : st.mode ≠ .w := by rw [hm]; decide
  have hmr : st.mode ≠ .r := by rw [hm]; decide
  cases op with
  | read t fc n =>
    simp only [Alpha] at ha; subst ha
    simp only [check] at hc
    by_cases hn : n = 0
    · subst hn
      obtain ⟨_, rfl⟩ := (readOk_zero_iff g st t fc o st1).mp hc
      have hv : validReq g fc 0 = false := by simp [validReq]
      simp only [LineOk, lineAOp, hv, AbsFile.stepOpt]
      exact ⟨fun hx => absurd hx (by simp), rfl, hm, hs⟩
    · by_cases hv : validReq g fc n = true
      · obtain ⟨a, b, f1, f2, _, f4⟩ := read_refines g st t fc n o st1 ⟨hv, hmw⟩ hs hc
        simp only [LineOk, lineAOp, hv, if_true, AbsFile.stepOpt, AbsFile.step]
        exact ⟨fun _ hval => a hval, b, by rw [f4]; exact hm, by rw [f2, f1]; exact hs⟩
      · have hr : ¬ ReadReq g st fc n := fun hx => hv hx.1
        obtain ⟨_, rfl⟩ := (readOk_invalid_iff g st t fc n o st1 hn hr).mp hc
        have hv' : validReq g fc n = false := by simpa using hv
        simp only [LineOk, lineAOp, hv', AbsFile.stepOpt]
        exact ⟨fun hx => absurd hx (by simp), rfl, hm, hs⟩
  | write t fc n data =>
    simp only [Alpha] at ha; subst ha
    simp only [check] at hc
    by_cases hv : validReq g fc n = true
    · obtain ⟨a, b, f1, f2, f3, _⟩ := write_refines g st t fc n data o st1 hch ⟨hv, hmr⟩ hio hc
      simp only [LineOk, lineAOp, hv, if_true, AbsFile.stepOpt, AbsFile.step]
      refine ⟨fun _ => a, b, by rw [f2]; exact hm, ?_⟩
      rw [f3, f1, hs, ← Nat.add_mul, Nat.mul_max_mul_right]
    · have hv' : validReq g fc n = false := by simpa using hv
      have hst : st1 = st ∨ st1 = { st with err := true } := by
        by_cases hn : n = 0
        · subst hn; exact Or.inl ((writeOk_zero_iff g st t fc data o st1).mp hc).2.symm
        · exact Or.inr ((writeOk_invalid_iff g st t fc n data o st1 hn (fun hx => hv hx.1)).mp hc).2.symm
      simp only [LineOk, lineAOp, hv', AbsFile.stepOpt]
      rcases hst with hst | hst <;> subst hst <;> exact ⟨fun hx => absurd hx (by simp), rfl, hm, hs⟩
  | seek off whence =>
    simp only [Alpha] at ha
    simp only [check] at hc
    by_cases hk : o.ret = -1
    · rcases seekOk_ok g st off whence o st1 hc with ⟨_, _, hst⟩ | ⟨t, _, _, hr, _, _⟩
      · subst hst
        simp only [LineOk, lineAOp, hk, if_true, AbsFile.stepOpt]
        exact ⟨fun hx => absurd rfl hx, rfl, hm, hs⟩
      · omega
    · cases hwo : whenceOf whence with
      | none => exact absurd hwo ha
      | some wp =>
        obtain ⟨w, p⟩ := wp
        have hwc := whenceOf_some whence w p hwo
        subst hwc
        obtain ⟨a, b, f1, f2, _, f4⟩ := seek_refines g st ty w p off o st1 hm hs hc hk
        simp only [LineOk, lineAOp, hk, if_false, hwo, Option.map, AbsFile.stepOpt, AbsFile.step]
        refine ⟨fun _ w' p' hx => ?_, b, by rw [f4]; exact hm, by rw [f2, f1]; exact hs⟩
        injection hx with hx; injection hx with h1 h2; subst h1; subst h2; exact a
  | trunc n =>
    simp only [check] at hc
    by_cases hx : g.canTrunc = true ∧ 0 ≤ n
    · obtain ⟨a, b, f1, f2, f3, _⟩ := trunc_refines g st ty n o st1 hmr hx.1 hx.2 hc
      simp only [LineOk, lineAOp, hx, and_self, if_true, AbsFile.stepOpt, AbsFile.step]
      exact ⟨fun _ _ => a, b, by rw [f2]; exact hm, by rw [f3, f1]⟩
    · have hrefuse : st.mode = .r ∨ g.canTrunc = false ∨ n < 0 := by
        by_cases hc1 : g.canTrunc = true
        · exact Or.inr (Or.inr (Int.not_le.mp fun h0 => hx ⟨hc1, h0⟩))
        · exact Or.inr (Or.inl (Bool.not_eq_true _ ▸ hc1))
      obtain ⟨_, rfl⟩ := (truncOk_refused_iff g st n o st1 hrefuse).mp hc
      simp only [LineOk, lineAOp, hx, if_false, AbsFile.stepOpt]
      exact ⟨fun h1 h2 => absurd ⟨h1, h2⟩ hx, rfl, hm, hs⟩
  | rawRead n => exact absurd ha (by simp [Alpha])
  | rawWrite n d => exact absurd ha (by simp [Alpha])
  | reopen m => exact absurd ha (by simp [Alpha])
  | info =>
    obtain ⟨_, rfl⟩ := (infoOk_eq_ok_iff st o st1).mp hc
    exact ⟨trivial, rfl, hm, hs⟩
  | close =>
    obtain ⟨_, rfl⟩ := (closeOk_eq_ok_iff st o st1).mp hc
    exact ⟨trivial, rfl, hm, hs⟩
  | other =>
    simp only [check] at hc
    injection hc with hc; subst hc; exact ⟨trivial, rfl, hm, hs⟩

/-- ALL HISTORIES.  Every transcript accepted from a read/write state refines the abstract file: every answer is the
    abstract one (`AnswersRefine`), the final state stands for the result of the abstract run, and `ref.size = frames · cpf`
    holds at the end (hence, by the same theorem, at every line). -/
theorem accepted_rdwr_refines (g : Geom) (ty : Ty) (st st' : St) (tr : List (Abs.Op × Abs.Out)) (hch : 0 < g.ch)
    (hio : g.ioMayFail = false) (hm : st.mode = .rw) (hs : (st.ref ty).size = st.frames * g.cpf ty)
    (ha : ∀ l ∈ tr, Alpha ty l.1) (h : accepts g st tr = some st') :
    AnswersRefine g ty st tr ∧ view g st' ty = absRunLines g ty (view g st ty) tr ∧
    st'.mode = .rw ∧ (st'.ref ty).size = st'.frames * g.cpf ty := by
  induction tr generalizing st with
  | nil =>
    simp only [accepts] at h
    injection h with h; subst h
    exact ⟨trivial, rfl, hm, hs⟩
  | cons l tr ih =>
    obtain ⟨op, o⟩ := l
    simp only [accepts] at h
    split at h
    · rename_i st1 hc
      obtain ⟨a, b, m1, s1⟩ := accepted_line_refines g ty st st1 op o hch hio hm hs (ha (op, o) (by simp)) hc
      obtain ⟨a', b', m', s'⟩ := ih st1 m1 s1 (fun x hx => ha x (by simp [hx])) h
      refine ⟨⟨a, fun st2 hc2 => ?_⟩, ?_, m', s'⟩
      · simp only at hc2
        rw [hc] at hc2
        injection hc2 with hc2; subst hc2; exact a'
      · simp only [absRunLines]; rw [← b]; exact b'
    · exact absurd h (by simp)

/-- … stated for the predicate as the check runs it: `holdsOn … = ok` on a read/write geometry -/
theorem holdsOn_rdwr_refines (g : Geom) (ty : Ty) (ref : Ty → Array Item) (valid : Ty → Bool) (tr : List (Abs.Op × Abs.Out)) (n : Nat)
    (hch : 0 < g.ch) (hio : g.ioMayFail = false) (hm : g.mode0 = .rw) (hs : (ref ty).size = g.frames0 * g.cpf ty)
    (ha : ∀ l ∈ tr, Alpha ty l.1) (h : holdsOn g ref valid tr = .ok n) :
    ∃ st', accepts g (St.init g ref valid) tr = some st' ∧ AnswersRefine g ty (St.init g ref valid) tr ∧
      view g st' ty = absRunLines g ty { frames := (ref ty).toList, rpos := 0, wpos := g.frames0 * g.cpf ty } tr := by
  unfold holdsOn at h
  obtain ⟨⟨st', hacc⟩, _⟩ := (holdsFrom_ok_iff g tr 0 _ n).1 h
  obtain ⟨a, b, _, _⟩ := accepted_rdwr_refines g ty (St.init g ref valid) st' tr hch hio hm hs ha hacc
  refine ⟨st', hacc, a, ?_⟩
  rw [b]
  congr 1
  simp [view, St.init, hm]

theorem frames_is_length (g : Geom) (ty : Ty) (st : St) (hs : (st.ref ty).size = st.frames * g.cpf ty) :
    (view g st ty).frames.length = st.frames * g.cpf ty := by
  simp [view, hs]

/-- THE SIZE INVARIANT under writes: `ref.size = frames · cpf` for every caller type whose stream the predicate still claims
    to know is kept by every accepted line — writes inside and past the end (`writeAt`), truncations, re-opens, raw calls,
    reads, seeks — hence along every accepted transcript, in every mode -/
theorem ref_size_invariant (g : Geom) (st st' : St) (tr : List (Abs.Op × Abs.Out)) (hs : RefSized g st)
    (h : accepts g st tr = some st') : RefSized g st' := by
  exact accepts_invariant (Q := fun _ => True) (fun s1 op o s2 hp _ hc => check_RefSized g s1 s2 op o hp hc) tr st st' hs
    (fun _ _ => trivial) h

/-- … from the state the check starts in, when the reference streams handed over are whole (`frames0 · cpf` cells) -/
theorem ref_size_from_init (g : Geom) (ref : Ty → Array Item) (valid : Ty → Bool) (st' : St) (tr : List (Abs.Op × Abs.Out))
    (hs : ∀ t, valid t = true → (ref t).size = g.frames0 * g.cpf t) (h : accepts g (St.init g ref valid) tr = some st') :
    RefSized g st' :=
  ref_size_invariant g _ st' tr (fun t ht => hs t ht) h

/-- a handle as an SFM_RDWR open leaves it (`RwInv`: a new file, a whole-frame RAW file, a tight or padded AU / WAV file,
    C08Refine.RwInv_initial_*; read pointer at 0, write pointer at the end): every judged operation list produces an
    accepted transcript -/
theorem rdwr_handle_run_accepted (h : H) (s : Store) (inv : RwInv h s) (strict : Bool) (loss : Ty → Bool) (ops : List Sf.Op)
    (hr0 : h.rpos = 0) (hw1 : h.wpos = h.frames) (hj : ∀ op ∈ ops, AbsBridge.Judged (C05Bridge.geomOf h strict loss) h op)
    (hcl : AbsBridge.CloseLast ops) :
    holdsOn (C05Bridge.geomOf h strict loss) (AbsBridge.absRef h s) (fun _ => true) (AbsBridge.transcript h s ops) = .ok ops.length :=
  C05Bridge.handle_run_accepted h s strict loss ops (C05Bridge.BInv_read_write h s inv) (fun _ => hr0)
    (fun hm => by rw [inv.mode] at hm; cases hm) (fun _ => hw1) hj hcl

/-- a mono 16-bit read/write file of 2 frames `[7, 8]`; the history: overwrite frame 1 and extend by one frame, move the
    read pointer to 0, read 4 frames (3 arrive), query both positions, truncate to 1, read at the end -/
def exG : Geom := { ch := 1, strictSeek := true, canTrunc := true, lossless := fun _ => true, frames0 := 2, mode0 := .rw }
def exRef : Ty → Array Item := fun _ => #[7, 8]
def exTr : List (Abs.Op × Abs.Out) :=
  [(.seek 1 0x20, { ret := 1 }), (.write .s16 true 2 #[5, 6], { ret := 2 }), (.seek 0 0x10, { ret := 0 }),
   (.read .s16 false 4, { ret := 3, data := #[7, 5, 6, 0xA5A5] }), (.seek 0 0x11, { ret := 3 }), (.seek 0 0x21, { ret := 3 }),
   (.trunc 1, { ret := 0 }), (.read .s16 true 1, { ret := 0, data := #[0] }), (.seek (-5) 1, { ret := -1, err := true })]

example : holdsOn exG exRef (fun _ => true) exTr = .ok 9 := by decide
example : (∀ l ∈ exTr, Alpha .s16 l.1) := by
  intro l hl
  simp only [exTr, List.mem_cons, List.mem_nil_iff, or_false] at hl
  rcases hl with h | h | h | h | h | h | h | h | h <;> subst h <;> simp [Alpha] <;> decide
/-- the abstract run of the same lines: the file is `[7]`, both pointers at 1 -/
example : (absRunLines exG .s16 { frames := [7, 8], rpos := 0, wpos := 2 } exTr).frames = [7] ∧
    (absRunLines exG .s16 { frames := [7, 8], rpos := 0, wpos := 2 } exTr).rpos = 1 ∧
    (absRunLines exG .s16 { frames := [7, 8], rpos := 0, wpos := 2 } exTr).wpos = 1 := by decide
example : RefSized exG (St.init exG exRef (fun t => decide (t = .s16))) := by
  intro t ht
  cases t
  · decide
  all_goals exact absurd ht (by decide)
/-- a transcript whose read disagrees with the abstract file is refused -/
example : holdsOn exG exRef (fun _ => true)
    [(.seek 1 0x20, { ret := 1 }), (.write .s16 true 1 #[5], { ret := 1 }), (.seek 0 0x10, { ret := 0 }),
     (.read .s16 false 2, { ret := 2, data := #[7, 8] })] = .bad 3 "data" := by decide

/-- the concrete model, read/write: the 8-frame mono RAW file of C06 opened SFM_RDWR -/
def exOps : List Sf.Op :=
  [.read 0 .s16 true 3, .seek 0 2 0x20, .write 0 .s16 false 2 [9, 9], .seek 0 0 0x11, .read 0 .s16 true 8, .seek 0 0 1,
   .truncate 0 4, .close 0]
example : RwInv C06.rwH0 C06.rwStore :=
  C08Refine.RwInv_initial_raw 0 C06.rwStore 0x040002 1 8000 C06.rwH0 C06.rwStore C06.rwH0_opened rfl (by decide) false
/-- the geometry of the C08 campaign: strict seeks, the history's caller type claimed lossless — after the write the read
    of the whole file is compared with `writeAt` of the cells written, and accepted -/
example : holdsOn (C05Bridge.geomOf C06.rwH0 true (fun t => decide (t = .s16))) (AbsBridge.absRef C06.rwH0 C06.rwStore) (fun _ => true)
    (AbsBridge.transcript C06.rwH0 C06.rwStore exOps) = .ok 8 :=
  rdwr_handle_run_accepted C06.rwH0 C06.rwStore
    (C08Refine.RwInv_initial_raw 0 C06.rwStore 0x040002 1 8000 C06.rwH0 C06.rwStore C06.rwH0_opened rfl (by decide) false)
    true _ exOps rfl rfl
    (by
      intro op hop
      simp only [exOps, List.mem_cons, List.mem_nil_iff, or_false] at hop
      rcases hop with h | h | h | h | h | h | h | h <;> subst h <;> simp [AbsBridge.Judged, C05Bridge.geomOf] <;> decide)
    (by simp [exOps, AbsBridge.CloseLast, AbsBridge.isClose])
/-- the read after the write (read position 3) starts with the sample written at frame 3 -/
example : ((AbsBridge.transcript C06.rwH0 C06.rwStore exOps).map (fun l => l.2.data))[4]? = some #[9, 5, 6, 7, 8, 0xA5A5, 0xA5A5, 0xA5A5] := by
  decide
example : (AbsBridge.transcript C06.rwH0 C06.rwStore exOps).map (fun l => (l.2.ret, l.2.err)) =
    [(3, false), (2, false), (2, false), (3, false), (5, false), (4, false), (1, false), (0, false)] := by decide

end Sf.C08Bridge
