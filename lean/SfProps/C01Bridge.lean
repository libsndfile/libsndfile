/-
  C01 / C04 / C07 / C11 — THE WRITE-SIDE BRIDGE: soundness of the write-side predicate `Sf.AbsWrite.judge`
  (SfModel/AbsWrite.lean; `sfmodel abs-write` evaluates `judgeG` = `judge` + the exact rate clause on the implementation's
  own records, and `acceptedG_eq_accepted`, SfProofs/AbsWriteRateExact.lean, says the two accept the same records of every
  major format but VOC) against the models:

      a library that behaves as the model does can never be flagged by the write campaign.

  -- properties: C01 C04 C07 C11

  `recordOf S` is the RECORD the all-format write campaign (vlib/writecamp.py) would write down of the job `S` if the
  library behaved like the model: the reference run (all samples in one frames call) and the split run (`S.ops`: write calls
  of either variant, SFC_UPDATE_HEADER_NOW, SFC_SET_UPDATE_HEADER_AUTO) with the values `stepWrite` returns and the closed
  bytes of `closeHandle`; the re-open through the model's own parser (`openHandle … .r`, RAW with the writer's parameters,
  every other container with an empty SF_INFO); the read-back through the model's decoder (`stepRead`: one items read of
  (N + B + pad + 8)·ch items, one further read); one crash point after every SFC_UPDATE_HEADER_NOW and after every write
  made in auto-update mode (the store's bytes at that moment, re-opened and read back the same way); the stale-frames run
  (= the reference run: `openHandle` in write mode has no frames parameter, C04.stale_frames_ignored).
  `recordOf` / `predOf` (SfProofs/AbsWriteBridgeHandle.lean) are proof-side definitions which the driver does not run: that they
  build the campaign's record is read off vlib/writecamp.py; what the driver evaluates is the predicate (Driver/AbsWrite.lean).
  `Sess.Ok` lists what is asked of the session — only what the statements quantify over: the open succeeded, the calls are
  calls the API accepts, one caller type, values of that C type, a rate the 32-bit header fields hold, the RIFF guard, and
  finite samples on PEAK-carrying files (C07's quantifier).
  Proof: level A (SfProofs/AbsWriteBridge.lean: `Pred.accepted_of_good`, cells / arrays / crash-point indexing once for
  every model) + level B (`handle_pred_good`, from C01.data_roundtrip, C04 `close_bytes` / `image_opened`,
  C07.file_bytes_partition_finite, C11 `stepUpdate_inv` / `stepWrite_inv`, C05 `stepRead_region` / `stepRead_eof`).
-/
import SfProps.C01BridgeRun
namespace Sf.C01Bridge
open Sf Sf.AbsWrite Sf.AbsWriteBridge

/-- THE WRITE-SIDE BRIDGE for Sf.Handle (RAW / AU / WAV, every sample-granular codec, every caller type, any split, header
    updates and auto-update mode anywhere): the record of every session that meets `Sess.Ok` is accepted — no clause of
    C01 / C04 / C07 / C11 fails on what the model does. -/
theorem model_session_accepted (S : Sess) (h : H) (s : Store) (ok : S.Ok h s) : accepted (recordOf S) = true := by
  unfold recordOf; rw [ok.opened]
  exact Pred.accepted_of_good _ (handle_pred_good S h s ok)

/-- … `judge` names no clause (the driver prints `judgeG`, see the head) -/
theorem model_session_never_flagged (S : Sess) (h : H) (s : Store) (ok : S.Ok h s) : judge (recordOf S) = [] := by
  have := model_session_accepted S h s ok
  unfold accepted at this
  simpa using this

/-- … and therefore every clause of the four statements holds of what the model records (`accepted_meaning`): calls
    accepted in full, the file re-opens with the requested parameters, N ≤ F < N + B, F frames then end of file, the
    lossless round trip, byte-identical split run, stale frames ignored, every crash point a valid file holding exactly the
    frames written so far -/
theorem model_session_clauses (S : Sess) (h : H) (s : Store) (ok : S.Ok h s) : Accepted (recordOf S) :=
  accepted_meaning _ (model_session_accepted S h s ok)

/-- the prediction itself has the list-level properties (level B alone; what other models instantiate) -/
theorem model_session_good (S : Sess) (h : H) (s : Store) (ok : S.Ok h s) : Good (predOf S (h, s)) :=
  handle_pred_good S h s ok

/-- every crash point the record holds is the snapshot image of a prefix of the session (C11's `snapImage`) -/
theorem model_crash_points (S : Sess) (h : H) (s : Store) (ok : S.Ok h s) :
    ∀ x ∈ crashPoints S.ch.toNat (h, s) 0 0 S.ops, ∃ c pre post, openCfg S.fmt S.ch S.sr = some c ∧ S.ops = pre ++ post ∧
      x.1 = (callsOf S.ch.toNat (h, s) pre).length ∧ x.2.1 = sessFrames S.ch.toNat pre ∧
      x.2.2 = snapImage c (c.init.run c pre) := by
  intro x hx
  obtain ⟨c, hcfg, _, _, _, i0⟩ := open_ok ok.opened
  have f4 := openCfg_ch hcfg
  obtain ⟨pre, post, e, e1, e2, e3⟩ := crashPoints_spec S.ops i0 (by rw [f4]; exact ok.valid) 0 0 x (by rw [f4]; exact hx)
  rw [f4] at e1 e2
  exact ⟨c, pre, post, hcfg, e, by simpa using e1, by simpa using e2, e3⟩

instance (ty : Ty) (op : SOp) : Decidable (SOp.hasTy ty op) := by cases op <;> (simp only [SOp.hasTy]; infer_instance)

/-- a stereo 16-bit AU job: a frames call, an explicit header update, auto mode switched on, an items call -/
def exS : Sess :=
  { fmt := 0x030002, ch := 2, sr := 44100, ty := .s16,
    ops := [.write ⟨.s16, true, 1, [1, -2]⟩, .update, .auto true, .write ⟨.s16, false, 4, [3, -4, 5, 6]⟩] }

theorem exS_ok : ∃ h s, exS.Ok h s := by
  obtain ⟨h, s, ho⟩ := OpenRes.exists_of_isOk (r := openHandle 0 {} .w exS.fmt exS.ch exS.sr) (by decide)
  exact ⟨h, s, ho, by decide, by decide, by decide, by decide, fun hc => absurd hc (by decide), fun hc => absurd hc (by decide)⟩

example : ∃ h s, exS.Ok h s := exS_ok

/-- … the record holds both runs, two crash points (after the update: 1 frame; after the auto-mode write: 3 frames), the
    36 closed bytes, a re-open line with 3 frames; accepted -/
example : (recordOf exS).one.calls.length = 1 ∧ (recordOf exS).snaps.map (·.calls) = [1, 2] ∧
    (recordOf exS).snaps.map (·.info.frames) = [1, 3] ∧ (recordOf exS).one.bytes.size = 36 ∧
    (recordOf exS).info.frames = 3 ∧ (recordOf exS).rb.ret = 6 ∧ accepted (recordOf exS) = true := by
  obtain ⟨h, s, ok⟩ := exS_ok
  -- the six values in ONE evaluation of the record
  refine (fun ⟨calls, snapCalls, snapFrames, size, frames, ret⟩ =>
      ⟨calls, snapCalls, snapFrames, size, frames, ret, model_session_accepted exS h s ok⟩ : (_ ∧ _ ∧ _ ∧ _ ∧ _ ∧ _) → _) ?_
  decide +kernel

/-- a mono float WAV job (fact + PEAK chunks) written from shorts: the hypotheses hold (finite samples) -/
def exF : Sess :=
  { fmt := 0x010006, ch := 1, sr := 8000, ty := .s16,
    ops := [.auto true, .write ⟨.s16, true, 2, [16384, -8192]⟩, .write ⟨.s16, false, 1, [100]⟩] }

example : ∃ h s, exF.Ok h s := by
  obtain ⟨h, s, ho⟩ := OpenRes.exists_of_isOk (r := openHandle 0 {} .w exF.fmt exF.ch exF.sr) (by decide)
  have hh : h = (match openHandle 0 {} .w exF.fmt exF.ch exF.sr with | .ok h _ => h | _ => default) := by rw [ho]
  have hs : s = (match openHandle 0 {} .w exF.fmt exF.ch exF.sr with | .ok _ s => s | _ => default) := by rw [ho]
  refine ⟨h, s, ho, by decide, by decide, by decide, by decide, fun _ => ?_, fun _ => ?_⟩
  · rw [hh, hs]; decide +kernel
  · rw [hh]; unfold FiniteSamples; decide +kernel

/-- a record the model does NOT produce is refused: one byte of the split run's file changed -/
example : judge { recordOf exS with split := (recordOf exS).split.map (fun r => { r with bytes := r.bytes.set! 30 7 }) } =
    [{ tag := "partition", run := 2 }] := by decide +kernel

end Sf.C01Bridge
