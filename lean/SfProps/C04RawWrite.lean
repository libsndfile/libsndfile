/-
  SfProps.C04RawWrite — sf_write_raw as a write entry point: the position counts FRAMES (bytes / blockwidth), not bytes per channel.
  -- properties: C04 C05

  `Sf.FaultsRaw.stepWriteRaw` is sf_write_raw (guards, re-seek, first header, ONE psf_fwrite (ptr, 1, n), `write_current += count /
  blockwidth`, `whole_frames`).  On a RAW handle whose last call was a write (no re-seek, no first header) and for every oracle inside
  the callback contract, the call returns the bytes of the whole frames the I/O layer accepted and advances the write position by
  exactly those frames (`write_raw_counts_frames`); `write_raw_complete` evaluates one such call (16-bit stereo, 8 bytes, an I/O layer
  that accepts everything: 2 frames).  The rule of the seeded regression
  C04-write-raw-blockwidth-channels (`count / channels`) agrees with it exactly when a sample is one byte wide
  (`channels_rule_iff_one_byte`) — which is why only the multi-byte encodings of vlib/rawwrite.py show it.
-/
import SfModel.FaultsRaw
import SfProps.C05Stage
namespace Sf.C04RawWrite
open Sf Sf.Faults Sf.FaultsRaw Sf.StageLoop

/-- sf_write_raw on a handle that needs neither the re-seek nor a header (RAW container, the last call was a write): what it does -/
theorem stepWriteRaw_plain (o : Oracle) (h : H) (hist : Hist) (n : Int) (data : List Byte)
    (hn : n ≠ 0) (hg : rawWriteGuard h n = none) (hl : h.lastOp = Mode.w) (hc : h.container = Container.raw) :
    (stepWriteRaw o h hist n data).hist = (fwrite o hist 1 n.toNat (data.take n.toNat)).2 ∧
    (stepWriteRaw o h hist n data).out.ret = (wholeFrames ((fwrite o hist 1 n.toNat (data.take n.toNat)).1 : Int) (blockwidth1 h) .w).1 ∧
    (stepWriteRaw o h hist n data).h.wpos = h.wpos + ((fwrite o hist 1 n.toNat (data.take n.toNat)).1 : Int) / (blockwidth1 h : Nat) := by
  have hn' : (n == 0) = false := by simpa using hn
  unfold stepWriteRaw
  simp only [hn', hg]
  unfold writeRawCore
  simp [hl, hc, blockwidth1, H.bw]

/-- C05 / C04 for sf_write_raw on the handles of `stepWriteRaw_plain`, every oracle inside the contract: `d` bytes were accepted; the
    call returns the bytes of the whole frames among them and the write position advances by exactly those FRAMES (d / blockwidth) -/
theorem write_raw_counts_frames (o : Oracle) (hco : o.Contract) (h : H) (hist : Hist) (n : Int) (data : List Byte)
    (hn : n ≠ 0) (hg : rawWriteGuard h n = none) (hl : h.lastOp = Mode.w) (hc : h.container = Container.raw) :
    ∃ d, stored (stepWriteRaw o h hist n data).hist = stored hist + d ∧
         (stepWriteRaw o h hist n data).out.ret = ((d / blockwidth1 h * blockwidth1 h : Nat) : Int) ∧
         (stepWriteRaw o h hist n data).h.wpos = h.wpos + ((d / blockwidth1 h : Nat) : Int) := by
  obtain ⟨e1, e2, e3⟩ := stepWriteRaw_plain o h hist n data hn hg hl hc
  obtain ⟨d, _, hs, hr⟩ := fwrite_stored o hco hist 1 n.toNat (data.take n.toNat)
  have hb : 0 < blockwidth1 h := by unfold blockwidth1; split <;> omega
  refine ⟨d, by rw [e1, hs], ?_, ?_⟩
  · rw [e2, hr, Nat.div_one]; exact wholeFrames_eq _ _ _ hb
  · rw [e3, hr, Nat.div_one]; congr 1

/-- the I/O layer that accepts every byte -/
def fullOracle : Oracle := fun _ r => match r with
  | .write d => { n := (d.length : Nat) }
  | _ => {}

theorem fullOracle_contract : fullOracle.Contract := by
  intro hist r
  cases r <;> simp [fullOracle, Ans.ok]

/-- the seeded rule: `write_current += count / channels` -/
def wposByChannels (h : H) (count : Nat) : Int := h.wpos + ((count / h.ch : Nat) : Int)
/-- the rule of the code: `write_current += count / blockwidth` -/
def wposByBlockwidth (h : H) (count : Nat) : Int := h.wpos + ((count / blockwidth1 h : Nat) : Int)

/-- the two rules agree on every byte count exactly when a frame has as many bytes as channels -/
theorem channels_rule_iff_one_byte (h : H) (hch : 0 < h.ch) :
    (∀ count, wposByChannels h count = wposByBlockwidth h count) ↔ blockwidth1 h = h.ch := by
  constructor
  · intro hall
    have hb : 0 < blockwidth1 h := by unfold blockwidth1; split <;> omega
    have h1 := hall (blockwidth1 h * h.ch)
    unfold wposByChannels wposByBlockwidth at h1
    rw [Nat.mul_div_cancel _ hch, Nat.mul_div_cancel_left _ hb] at h1
    omega
  · intro he count
    unfold wposByChannels wposByBlockwidth
    rw [he]

def wH : H := { store := 0, mode := .w, container := .raw, enc := .pcm ⟨16, false, false⟩, big := false, ch := 2, sr := 8000,
                fmtWord := 0x10040002, frames := 0, lastOp := .w }

/-- 16-bit stereo: 404 bytes are 101 frames; the seeded rule counts 202 -/
example : wposByBlockwidth wH 404 = 101 ∧ wposByChannels wH 404 = 202 := by decide

example : ∃ d, stored (stepWriteRaw fullOracle wH [] 8 [1, 2, 3, 4, 5, 6, 7, 8]).hist = stored ([] : Hist) + d ∧
    (stepWriteRaw fullOracle wH [] 8 [1, 2, 3, 4, 5, 6, 7, 8]).out.ret = ((d / blockwidth1 wH * blockwidth1 wH : Nat) : Int) ∧
    (stepWriteRaw fullOracle wH [] 8 [1, 2, 3, 4, 5, 6, 7, 8]).h.wpos = wH.wpos + ((d / blockwidth1 wH : Nat) : Int) :=
  write_raw_counts_frames fullOracle fullOracle_contract wH [] 8 [1, 2, 3, 4, 5, 6, 7, 8] (by decide) (by decide) rfl rfl

/-- one call evaluated: 16-bit stereo, 8 bytes, an I/O layer that accepts everything; position and frame count advance by 8 / 4 frames -/
theorem write_raw_complete : (stepWriteRaw fullOracle wH [] 8 [1, 2, 3, 4, 5, 6, 7, 8]).h.wpos = 2 ∧
    (stepWriteRaw fullOracle wH [] 8 [1, 2, 3, 4, 5, 6, 7, 8]).out.ret = 8 ∧
    (stepWriteRaw fullOracle wH [] 8 [1, 2, 3, 4, 5, 6, 7, 8]).h.frames = 2 := by
  decide

end Sf.C04RawWrite
