/-
  C19 for the three modelled stateful codecs (G.721 / G.723, NMS ADPCM, GSM 06.10): the codec state is per handle.
  Model: SfModel/CodecWorld.lean (`cstep`: a slot table whose slots hold the codec side of a handle — encoder / decoder
  state, block buffers, positions — and whose step runs the real model functions on the calling slot).

  The models have no shared component by construction; that the C has none either (its static tables are never written)
  is what the merged-vs-solo campaign of vlib/codecpairs.py observes for every pair of these codecs, and what the
  `_tables_extracted` theorems pin down for the tables.
-/
import SfModel.CodecWorld
import SfProofs.Slots
namespace Sf.C19Codec
open Sf Sf.CodecWorld

theorem upd_same (f : Nat → Option CodecSt) (i : Nat) (v : Option CodecSt) : upd f i v i = v := by simp [upd]
theorem upd_other (f : Nat → Option CodecSt) (i j : Nat) (v : Option CodecSt) (h : j ≠ i) : upd f i v j = f j := by simp [upd, h]

/-- a call on slot i changes no other slot -/
theorem codec_state_is_per_handle (w : CW) (i : Nat) (op : COp) (j : Nat) (hj : j ≠ i) :
    (cstep w (i, op)).1.slots j = w.slots j := by
  unfold cstep
  simp only
  cases h : w.slots i with
  | none => rfl
  | some s => exact upd_other _ _ _ _ hj

/-- the result and the new state of slot i depend on slot i alone -/
theorem codec_step_local (w w' : CW) (i : Nat) (op : COp) (h : w.slots i = w'.slots i) :
    (cstep w (i, op)).2 = (cstep w' (i, op)).2 ∧ (cstep w (i, op)).1.slots i = (cstep w' (i, op)).1.slots i := by
  unfold cstep
  simp only
  rw [← h]
  cases hs : w.slots i with
  | none => exact ⟨rfl, by rw [hs] at h; rw [hs, ← h]⟩
  | some s => exact ⟨rfl, by simp only [upd_same]⟩

theorem crun_runs : Slots.Runs cstep (·.1) crun := ⟨fun _ => rfl, fun _ _ _ => rfl⟩

/-- every merge of per-handle scripts gives each handle its solo transcript and state -/
theorem codec_interleaving_irrelevant (evs : List Ev) (w : CW) (i : Nat) :
    view i (crun w evs).2 = view i (crun w (proj i evs)).2 ∧ (crun w evs).1.slots i = (crun w (proj i evs)).1.slots i :=
  (crun_runs.project i (fun w w' => w.slots i = w'.slots i) id evs
    (fun ev _ hj w _ h => (codec_state_is_per_handle w ev.1 ev.2 i (Ne.symm hj)).trans h)
    (fun ev _ hj w w' h => by subst hj; exact (codec_step_local w w' ev.1 ev.2 h).symm) w w rfl).symm

/-- every call, whoever makes it and whatever it returns, leaves one line in its slot's transcript -/
theorem view_length (i : Nat) (evs : List Ev) (w : CW) : (view i (crun w evs).2).length = (proj i evs).length :=
  (List.length_map ..).trans (crun_runs.lines i evs w)

theorem view_cons_same (i : Nat) (o : COut) (tr : List (Nat × COut)) : view i ((i, o) :: tr) = o :: view i tr := by
  simp [view]

/-- a write handle used alone: its transcript is one `wrote` per call and then the data region its close leaves.
    `mk`, `wc`, `cl` are the slot constructor, the write call and the close of any one of the three codecs. -/
theorem writer_session {σ : Type} (mk : σ → CodecSt) (wc : σ → Ty × List Int → σ) (cl : σ → List Byte)
    (hw : ∀ st c, step1 (mk st) (.write c.1 c.2) = (some (mk (wc st c)), .wrote c.2.length))
    (hc : ∀ st, step1 (mk st) .close = (none, .closed (cl st))) (i : Nat) :
    ∀ (calls : List (Ty × List Int)) (w : CW) (st : σ), w.slots i = some (mk st) →
      view i (crun w (calls.map (fun c => (i, COp.write c.1 c.2)) ++ [(i, .close)])).2 =
        calls.map (fun c => COut.wrote c.2.length) ++ [.closed (cl (calls.foldl wc st))] := by
  intro calls
  induction calls with
  | nil =>
    intro w st h
    simp [crun, cstep, h, hc, view]
  | cons c calls ih =>
    intro w st h
    have h1 : (cstep w (i, .write c.1 c.2)).1.slots i = some (mk (wc st c)) := by
      simp only [cstep, h, hw, upd_same]
    have h2 : (cstep w (i, .write c.1 c.2)).2 = .wrote c.2.length := by
      simp only [cstep, h, hw]
    simp only [List.map_cons, List.cons_append, crun, view_cons_same, ih _ _ h1, h2, List.foldl_cons]

/-! ## non-vacuity: a G.721 writer, an NMS writer and a GSM reader interleaved -/

def w0 : CW :=
  { slots := fun j =>
      if j = 0 then some (.g72xW G72x.g721 {} ((G72x.writer G72x.g721).init G72x.St.init))
      else if j = 1 then some (.nmsW .r32 {} (Nms.openW .r32))
      else if j = 2 then some (.gsmR {} (Gsm.openRead ⟨false⟩ (0xD0 :: List.replicate 32 0) 33 none))
      else none }

def merged : List Ev :=
  [(0, .write .s16 [1000, -2000, 3000]), (2, .read .s16 3), (1, .write .s16 [500, 600]), (0, .write .s32 [65536 * 7]),
   (2, .read .s32 200), (1, .close), (0, .close), (3, .close)]

example : view 0 (crun w0 merged).2 = view 0 (crun w0 (proj 0 merged)).2 ∧
    (view 0 (crun w0 merged).2).length = 3 ∧ (view 2 (crun w0 merged).2).length = 2 ∧ view 3 (crun w0 merged).2 = [.refused] := by
  refine ⟨(codec_interleaving_irrelevant merged w0 0).1, ?_, ?_, ?_⟩
  · rw [view_length]; rfl
  · rw [view_length]; rfl
  · -- slot 3 was never opened
    rw [(codec_interleaving_irrelevant merged w0 3).1]
    decide +kernel

/-- the closed data regions are those of the single-handle models: 4 samples -> one 60-byte G.721 block, 2 samples -> one
    82-byte NMS block -/
example : ((view 0 (crun w0 merged).2).getLast? = some (.closed (G72x.closedBytes G72x.g721 {} [(.s16, [1000, -2000, 3000]), (.s32, [65536 * 7])]))) ∧
    ((view 1 (crun w0 merged).2).getLast? = some (.closed (Nms.closedData .r32 {} [(.s16, [500, 600])]))) := by
  have solo0 := writer_session (.g72xW G72x.g721 {}) (fun st c => G72x.writeCall G72x.g721 {} c.1 st c.2) _
    (fun _ _ => rfl) (fun _ => rfl) 0 [(.s16, [1000, -2000, 3000]), (.s32, [65536 * 7])] w0 _ rfl
  have solo1 := writer_session (.nmsW .r32 {}) (Nms.writeCall .r32 {}) _
    (fun _ _ => rfl) (fun _ => rfl) 1 [(.s16, [500, 600])] w0 _ rfl
  constructor
  · rw [(codec_interleaving_irrelevant merged w0 0).1]
    exact (congrArg List.getLast? solo0).trans List.getLast?_concat
  · rw [(codec_interleaving_irrelevant merged w0 1).1]
    exact (congrArg List.getLast? solo1).trans List.getLast?_concat

end Sf.C19Codec
