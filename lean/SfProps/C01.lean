/-
  C01 — lossless write/read round trip is bit exact, for the sample-granular encodings in the containers RAW, AU, WAV:
  one sample, any number of samples, and a whole write session up to the closed file.  `lossless` (SfProofs/Codec.lean)
  is the decidable side condition of the property statement.
  The one floating-point fact used — widening binary32 to binary64 and narrowing back is the identity on finite
  values — appears as the explicit hypothesis `WidenExact`, only for float-into-double; `widenExact` at the end discharges it.
-/
import SfProofs.CodecFile
import SfProps.C02
import SfProofs.FloatExact
namespace Sf.C01
open Sf Sf.Float

theorem pcm_wf_iff (p : PcmFmt) : (Enc.pcm p).wf ↔ C02.PcmFmt.valid p := Iff.rfl

/-- every encoding a RAW / AU / WAV handle can have is well formed and has a positive sample size -/
theorem enc_of_open_wf (c : Container) (codec : Nat) (big : Bool) (e : Enc) (h : encOf c codec big = some e) :
    0 < e.nbytes ∧ e.wf := encOf_props c codec big e h

/-- A lossless (encoding, type, value) triple survives encode → decode exactly.  The conversion settings used for
    writing (`c`) and for reading (`c'`) are arbitrary and may differ: normalisation, clipping, int/float scaling
    and the lrint variant play no part in integer→PCM moves nor in float→float moves. -/
theorem sample_roundtrip (hwiden : WidenExact) (e : Enc) (he : e.wf) (c c' : Conv) (ty : Ty) (v : Int)
    (hv : ty.inRange v) (hl : lossless e ty v) : e.decode c' ty (e.encode c ty v) = v :=
  Enc.sample_roundtrip hwiden e he c c' ty v hv hl

/-- without any floating-point hypothesis: every pair except float-into-binary64 -/
theorem sample_roundtrip_nofloat (e : Enc) (he : e.wf) (c c' : Conv) (ty : Ty) (v : Int)
    (hv : ty.inRange v) (hl : lossless e ty v) (hne : ¬ ((∃ big, e = .dbl big) ∧ ty = .f32)) :
    e.decode c' ty (e.encode c ty v) = v :=
  Enc.sample_roundtrip_nowiden e he c c' ty v hv hl hne

/-- non-vacuity: short → 24-bit BE, int with 8 zero low bits → 24-bit LE, short multiple of 256 → unsigned 8,
    a float NaN pattern → binary32 data, a double → big-endian binary64; and a non-lossless value is rejected -/
example :
    lossless (.pcm ⟨24, false, true⟩) .s16 (-32768) ∧ Ty.inRange .s16 (-32768) ∧
    lossless (.pcm ⟨24, false, false⟩) .s32 (-2147483648 + 256) ∧
    lossless (.pcm ⟨8, true, false⟩) .s16 (-32768 + 256) ∧ ¬ lossless (.pcm ⟨8, true, false⟩) .s16 1 ∧
    lossless (.flt false) .f32 0x7FC00001 ∧ lossless (.dbl true) .f64 0xBFF0000000000001 ∧
    lossless (.dbl false) .f32 0x3F800000 ∧
    (Enc.pcm ⟨8, true, false⟩).encode {} .s16 (-32768 + 256) = [1] ∧
    (Enc.pcm ⟨8, true, false⟩).decode {} .s16 [1] = -32768 + 256 := by
  decide

theorem encode_length_cw (e : Enc) (c : Conv) (ty : Ty) (v : Int) : (e.encode c ty v).length = e.nbytes :=
  Enc.encode_length_cw e c ty v

/-- any number of samples N ≥ 0 (frames × channels: interleaving is transparent to the codec) -/
theorem data_roundtrip (hwiden : WidenExact) (e : Enc) (he : e.wf) (hn : 0 < e.nbytes) (c c' : Conv) (ty : Ty)
    (vs : List Int) (hv : ∀ v ∈ vs, ty.inRange v) (hl : ∀ v ∈ vs, lossless e ty v) :
    e.decodeAll c' ty (e.encodeAll c ty vs) = vs :=
  Enc.decodeAll_encodeAll_of e hn c c' ty vs
    (fun v hm => Enc.sample_roundtrip hwiden e he c c' ty v (hv v hm) (hl v hm))

theorem data_roundtrip_nofloat (e : Enc) (he : e.wf) (hn : 0 < e.nbytes) (c c' : Conv) (ty : Ty)
    (vs : List Int) (hv : ∀ v ∈ vs, ty.inRange v) (hl : ∀ v ∈ vs, lossless e ty v)
    (hne : ¬ ((∃ big, e = .dbl big) ∧ ty = .f32)) :
    e.decodeAll c' ty (e.encodeAll c ty vs) = vs :=
  Enc.decodeAll_encodeAll_of e hn c c' ty vs
    (fun v hm => Enc.sample_roundtrip_nowiden e he c c' ty v (hv v hm) (hl v hm) hne)

example : (Enc.pcm ⟨16, false, true⟩).decodeAll {} .s16 ((Enc.pcm ⟨16, false, true⟩).encodeAll {} .s16 [1, -1, 32767, -32768, 0])
    = [1, -1, 32767, -32768, 0] := by decide

/-- Open (RAW / AU / WAV) for write, hand over samples of type `ty` in any number of well-formed calls (items or
    frames variants, zero counts, SFC_UPDATE_HEADER_NOW in between), close.  Then the file exists, its data
    section — `N·bytewidth` bytes from the data offset the handle had all along — is exactly the encoding of the
    concatenated samples; for RAW and AU nothing follows it, for RAW the data section is the whole file. -/
theorem file_roundtrip_bytes (fmt : Nat) (ch sr : Int) (h : H) (s : Store) (ho : openHandle 0 {} .w fmt ch sr = .ok h s)
    (ty : Ty) (ops : List WOp) (hok : ∀ op ∈ ops, op.ok h) (ht : ∀ op ∈ ops, op.hasTy ty) :
    ∃ file hd tl, closeBytes fmt ch sr ops = some file ∧
      file = hd ++ h.enc.encodeAll {} ty (ops.flatMap WOp.samples) ++ tl ∧
      hd.length = hdrLenOf h ∧ (h.dataoffset : Int) = hdrLenOf h ∧
      (h.container ≠ .wav → tl = []) ∧ (h.container = .raw → hd = []) := by
  obtain ⟨inv, _⟩ := open_winv 0 {} rfl fmt ch sr h s ho
  have e := closeBytes_eq fmt ch sr h s ho ops hok
  rw [ops_bytes_eq _ _ ty ops ht, (open_props 0 {} fmt ch sr h s ho).conv] at e
  obtain ⟨hd, tl, e2, l, t⟩ := closeForm_split ({ h with
      frames := ((h.enc.encodeAll {} ty (ops.flatMap WOp.samples)).length : Int) / ((h.enc.nbytes * h.ch : Nat) : Int),
      peak := peakRun h.enc {} h.ch h.peak 0 ops } : H) (h.enc.encodeAll {} ty (ops.flatMap WOp.samples))
  have hl : hdrLenOf ({ h with
      frames := ((h.enc.encodeAll {} ty (ops.flatMap WOp.samples)).length : Int) / ((h.enc.nbytes * h.ch : Nat) : Int),
      peak := peakRun h.enc {} h.ch h.peak 0 ops } : H) = hdrLenOf h :=
    hdrLenOf_congr h _ rfl rfl rfl (peakRun_maplen _ _ _ ops h.peak 0 inv.peak_len)
  refine ⟨_, hd, tl, e, e2, by rw [l, hl], inv.doff, t, ?_⟩
  intro hc
  exact List.eq_nil_of_length_eq_zero (by rw [l, hl, hdrLenOf_raw hc])

/-- … and that data section decodes (any read-side conversion settings) to exactly the samples written,
    whenever every sample is lossless for the encoding: bit-exact round trip through the file bytes. -/
theorem file_roundtrip (hwiden : WidenExact) (fmt : Nat) (ch sr : Int) (h : H) (s : Store)
    (ho : openHandle 0 {} .w fmt ch sr = .ok h s)
    (ty : Ty) (ops : List WOp) (hok : ∀ op ∈ ops, op.ok h) (ht : ∀ op ∈ ops, op.hasTy ty)
    (hv : ∀ v ∈ ops.flatMap WOp.samples, ty.inRange v) (hl : ∀ v ∈ ops.flatMap WOp.samples, lossless h.enc ty v)
    (c' : Conv) :
    ∃ file, closeBytes fmt ch sr ops = some file ∧
      h.enc.decodeAll c' ty ((file.drop (hdrLenOf h)).take ((ops.flatMap WOp.samples).length * h.enc.nbytes))
        = ops.flatMap WOp.samples := by
  obtain ⟨file, hd, tl, e, ef, l, _, _, _⟩ := file_roundtrip_bytes fmt ch sr h s ho ty ops hok ht
  have o := open_props 0 {} fmt ch sr h s ho
  refine ⟨file, e, ?_⟩
  rw [ef, ← l, List.append_assoc, List.drop_left' rfl, ← Enc.encodeAll_length_cw h.enc {} ty, List.take_left' rfl]
  exact data_roundtrip hwiden h.enc o.wf o.nb_pos {} c' ty _ hv hl

/-- non-vacuity: stereo 24-bit big-endian AU, shorts, three calls incl. a frames call and a header update -/
example :
    (closeBytes 0x030003 2 48000 [.write .s16 true 1 [1, -1], .updHeader 0, .write .s16 false 2 [32767, -32768]]).map
      (fun f => (Enc.pcm ⟨24, false, true⟩).decodeAll {} .s16 ((f.drop 24).take 12)) = some [1, -1, 32767, -32768] := by
  decide +kernel

/-! ## re-open (the parser side belongs to C04; RAW, which has no header, is done here) -/

/-- RAW: the closed file, re-opened for read with the same parameters, has exactly the N frames that were written,
    data offset 0, the same encoding, and its whole content decodes to the written samples. -/
theorem file_roundtrip_raw_reopen (hwiden : WidenExact) (fmt : Nat) (ch sr : Int) (h : H) (s : Store)
    (ho : openHandle 0 {} .w fmt ch sr = .ok h s) (hc : h.container = .raw)
    (ty : Ty) (ops : List WOp) (hok : ∀ op ∈ ops, op.ok h) (ht : ∀ op ∈ ops, op.hasTy ty)
    (hv : ∀ v ∈ ops.flatMap WOp.samples, ty.inRange v) (hl : ∀ v ∈ ops.flatMap WOp.samples, lossless h.enc ty v)
    (c' : Conv) (si : Nat) :
    ∃ file h' s', closeBytes fmt ch sr ops = some file ∧
      openHandle si { bytes := file, pos := 0 } .r fmt ch sr = .ok h' s' ∧
      h'.frames * h.ch = (ops.flatMap WOp.samples).length ∧ h'.dataoffset = 0 ∧ h'.enc = h.enc ∧ h'.ch = h.ch ∧
      s'.bytes = file ∧ h'.enc.decodeAll c' ty file = ops.flatMap WOp.samples := by
  obtain ⟨file, hd, tl, e, ef, _, _, htl, hhd⟩ := file_roundtrip_bytes fmt ch sr h s ho ty ops hok ht
  have o := open_props 0 {} fmt ch sr h s ho
  obtain ⟨inv, _⟩ := open_winv 0 {} rfl fmt ch sr h s ho
  have hfile : file = h.enc.encodeAll {} ty (ops.flatMap WOp.samples) := by
    rw [ef, htl (by rw [hc]; decide), hhd hc]; simp
  obtain ⟨h', s', ho', hf, hd0, he, hch, _, _, hs'⟩ := reopen_raw fmt ch sr h s ho hc si file 0
  refine ⟨file, h', s', e, ho', ?_, hd0, he, hch, by rw [hs'], ?_⟩
  · have hm := ops_samples_mod h ops hok
    have hcp : (h.ch : Int) ≠ 0 := by have := inv.ch_pos; omega
    have hnp : (h.enc.nbytes : Int) ≠ 0 := by have := o.nb_pos; omega
    obtain ⟨k, hk⟩ := Int.dvd_of_emod_eq_zero hm
    have hb : ((h.enc.nbytes : Int) * (h.ch : Int)) ≠ 0 := Int.mul_ne_zero hnp hcp
    rw [hf, hfile, Enc.encodeAll_length_cw]
    push_cast
    rw [hk, show (h.ch : Int) * k * (h.enc.nbytes : Int) = k * ((h.enc.nbytes : Int) * (h.ch : Int)) by
      rw [Int.mul_comm (h.ch : Int) k, Int.mul_assoc, Int.mul_comm (h.ch : Int)], Int.mul_ediv_cancel _ hb,
      Int.mul_comm]
  · rw [he, hfile]
    exact data_roundtrip hwiden h.enc o.wf o.nb_pos {} c' ty _ hv hl

/-- `WidenExact` holds: widening a finite binary32 pattern is exact and narrows back to it (SfProofs/Float*). -/
theorem widenExact : WidenExact := by
  intro b hb hfin
  refine ⟨?_, Sf.Float.f64to32_f32to64 b hb hfin⟩
  rw [Sf.Float.f32to64_finite b hfin]
  have := Sf.Float.ofDy_lt_width f64 (Or.inr rfl) (f32.toDy b)
  simpa [Fmt.width, f64] using this

/-- C01 per sample, with no hypothesis left -/
theorem sample_roundtrip_all (e : Enc) (he : e.wf) (c c' : Conv) (ty : Ty) (v : Int)
    (hv : ty.inRange v) (hl : lossless e ty v) : e.decode c' ty (e.encode c ty v) = v :=
  sample_roundtrip widenExact e he c c' ty v hv hl

end Sf.C01
