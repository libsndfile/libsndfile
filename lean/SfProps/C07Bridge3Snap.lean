/-
  C04 / C07 / C11 — CRASH POINTS OF BLOCK-CODEC WRITERS: the image SFC_UPDATE_HEADER_NOW / an auto-mode write leaves
  of a G.721 / G.723 file and of an IMA / MS ADPCM file (WAV / W64 / AIFF layouts, 1 or 2 channels, every rate) re-opens with
  the frames in the COMPLETE blocks flushed so far — `floorToBlock N_k B`, C11's "rounded down to whole blocks" — and reads back
  exactly that prefix of what the finished file reads back; with the facts of `<x>_session_accepted` the whole record (reference
  run, split run, stale run, every crash point) is accepted by the write-side predicate.

  The writers are instances of the generic block writer: a header update rewrites the header from the store length and leaves the
  partly filled block in the codec's buffer (`stored` = `WState.bytes` of the state between two calls).  `hstream` — the reader
  decodes the data region front to back: the frames it finds in a region `d` it delivers identically from any longer region
  `d ++ e` — is the one hypothesis on the read side (the readers of C06G72x / C06Block are block decoders with forward state).

  -- properties: C04 C07 C11
-/
import SfProps.C07Bridge2
import SfProofs.AbsWriteBridgeBlock3Codec
namespace Sf.C07Bridge3Snap
open Sf Sf.AbsWrite Sf.AbsWriteBridge Sf.C07Bridge Sf.Geometry Sf.Block Sf.Block.Proofs Sf.Block.Snap

/-- the hypothesis on the read side: front-to-back decoding -/
def Stream (J : SnapJob) : Prop :=
  ∀ (d e : List Byte) (n n' : Nat), J.framesAt d.length * J.g.ch ≤ n → J.framesAt d.length * J.g.ch ≤ n' →
    (J.back d n).take (J.framesAt d.length * J.g.ch) = (J.back (d ++ e) n').take (J.framesAt d.length * J.g.ch)

section G72x
open Sf.G72x Sf.C07G72x

def g72xCodec (r : Rate) (cv : Conv) (ty : Ty) : WCodec G72x.St :=
  { w := writer r, s0 := St.init, bpb := r.blockBytes, frames := monoFrames (toCodec cv ty), closeSt := (writer r).close true }

def g72xSnapJob (r : Rate) (cv : Conv) (g : AbsWrite.Geom) (ty : Ty) (one split : List LCall) (hdr tail : Nat → List Byte)
    (marks : List Nat) : SnapJob :=
  { toBlockJob := g72xJob r cv g ty one split hdr tail, marks := marks,
    stored := fun cs => ((typed ty cs).foldl (fun st c => writeCall r cv c.1 st c.2) ((writer r).init St.init)).bytes }

theorem g72x_after (r : Rate) (cv : Conv) (ty : Ty) (cs : List LCall) :
    (typed ty cs).foldl (fun st c => writeCall r cv c.1 st c.2) ((writer r).init St.init) = (g72xCodec r cv ty).after cs := by
  rw [(g72x_write_is_fold r cv (typed ty cs) _ (g72x_init_inv r)).1]
  have : shorts cv (typed ty cs) = (samples cs).map (toCodec cv ty) := flatMap_typed ty (toCodec cv) cs
  rw [this]; rfl

/-- **G.72x, crash points**: every job with crash points after any of its calls is accepted.  `hstream` is a hypothesis
    here too, although this job reads back through the model's reader, and it is discharged nowhere: as `Stream` is stated (over
    every region `d`, also one that ends inside a block, which that reader zero-pads) the model's reader does not meet it -/
theorem g72x_snap_session_accepted (r : Rate) (hr : r.bits = 3 ∨ r.bits = 4 ∨ r.bits = 5) (cv : Conv) (g : AbsWrite.Geom) (ty : Ty)
    (one split : List LCall) (hdr tail : Nat → List Byte) (marks : List Nat)
    (hch : g.ch = 1) (hcodec : g.codec = 0x30 ∨ g.codec = 0x31 ∨ g.codec = 0x32)
    (hrate : rateOk g.major g.sr (g.sr : Int) = true)
    (h1 : ∀ c ∈ one, c.good 1) (h2 : ∀ c ∈ split, c.good 1) (hs : samples split = samples one)
    (hstream : Stream (g72xSnapJob r cv g ty one split hdr tail marks)) :
    accepted (g72xSnapJob r cv g ty one split hdr tail marks).pred.record = true := by
  apply snap_session_accepted
  have base := g72x_block_facts r hr cv g ty one split hdr tail hch hcodec hrate h1 h2 hs
  have hB := g72x_block g hcodec
  have hb : r.bits ≤ 8 := by omega
  have hpos : 0 < r.blockBytes := by
    unfold Rate.blockBytes blockSamples
    rcases hr with h | h | h <;> rw [h] <;> decide
  apply writer_snap_facts (g72xCodec r cv ty) _ ?_ base ?_ hstream
  · refine { wf := g72x_writer_wf r, bpbPos := hpos, chEq := hch.symm, blockEq := hB,
             framesLen := fun cs h => by
               show (monoFrames (toCodec cv ty) cs).length = framesOf g.ch cs
               rw [hch]; exact monoFrames_length _ cs (by rw [← hch]; exact h),
             framesApp := fun a b => monoFrames_append _ a b,
             storedLen := fun cs _ =>
               flushed_length (writer r) (g72x_writer_wf r) r.blockBytes (fun s b hl => encodeBlock_length r hb s b (by rw [hl]; rfl))
                 St.init _ (monoFrames_uniform _ cs),
             closePrefix := fun st => close_prefix _ true st,
             dataEq := fun cs _ => by
               show closedBytes r cv (typed ty cs) = _
               unfold closedBytes; rw [g72x_after]; rfl,
             storedEq := fun cs _ => by
               show ((typed ty cs).foldl (fun st c => writeCall r cv c.1 st c.2) ((writer r).init St.init)).bytes = _
               rw [g72x_after],
             framesAtBlocks := Sf.G72x.Proofs.framesAtOpen_blocks r hpos }
  · exact g72x_lossy g.codec ty hcodec

end G72x

section Adpcm
open Sf.Adpcm Sf.AdpcmEnc Sf.C07Adpcm Sf.C07Bridge2

def adpcmCodec (G : Geo) (cv : Conv) (ty : Ty) : WCodec ES :=
  { w := AdpcmEnc.writer G, s0 := ES.init G, bpb := G.blockBytes, frames := fun cs => frameList G cv (typed ty cs), closeSt := closeSt G }

def adpcmSnapJob (k : Kind) (cv : Conv) (g : AbsWrite.Geom) (ty : Ty) (one split : List LCall) (hdr tail : Nat → List Byte)
    (back : List Byte → Nat → List Int) (marks : List Nat) : SnapJob :=
  { toBlockJob := adpcmJob k cv g ty one split hdr tail back, marks := marks,
    stored := fun cs => (session (geoOf k g.sr g.ch) cv (typed ty cs)).bytes }

theorem typed_append (ty : Ty) (a b : List LCall) : typed ty (a ++ b) = typed ty a ++ typed ty b := by simp [typed]

theorem closeSt_prefix (G : Geo) (st : WState ES) : ∃ e, (closeSt G st).bytes = st.bytes ++ e := by
  unfold closeSt
  split
  · exact ⟨[], by simp⟩
  · exact ⟨_, emit_bytes _ _⟩

/-- **IMA / MS ADPCM, crash points**: the store between two calls holds N_k / samplesperblock whole blocks; an MS ADPCM (or IMA)
    image taken after SFC_UPDATE_HEADER_NOW therefore re-opens with `floorToBlock N_k B` frames — NOT with the frames of the
    block still being filled — and reads back that prefix -/
theorem adpcm_snap_session_accepted (k : Kind) (cv : Conv) (g : AbsWrite.Geom) (ty : Ty) (one split : List LCall)
    (hdr tail : Nat → List Byte) (back : List Byte → Nat → List Int) (marks : List Nat) (hback : ∀ d n, (back d n).length = n)
    (hch : g.ch = 1 ∨ g.ch = 2) (hk : kindWord k g.major g.codec) (hrate : rateOk g.major g.sr (g.sr : Int) = true)
    (h1 : ∀ c ∈ one, c.good g.ch) (h2 : ∀ c ∈ split, c.good g.ch) (hs : samples split = samples one)
    (hstream : Stream (adpcmSnapJob k cv g ty one split hdr tail back marks)) :
    accepted (adpcmSnapJob k cv g ty one split hdr tail back marks).pred.record = true := by
  apply snap_session_accepted
  have base := adpcm_block_facts k cv g ty one split hdr tail back hback hch hk hrate h1 h2 hs
  have hG : Sf.AdpcmEnc.Proofs.WGeo (geoOf k g.sr g.ch) := adpcm_geometry k g.sr g.ch hch
  have hgch : (geoOf k g.sr g.ch).ch = g.ch := by cases k <;> rfl
  obtain ⟨hspb, hchp, _, hba⟩ := Sf.AdpcmEnc.Proofs.wgeo_pos _ hG
  have hB : g.block = (geoOf k g.sr g.ch).spb := adpcm_block_agrees k g.major g.codec g.sr g.ch hk hch
  have hwhole : ∀ cs, (∀ c ∈ cs, c.good g.ch) → Whole (geoOf k g.sr g.ch) (typed ty cs) :=
    fun cs h => whole_typed _ ty cs (by rw [hgch]; exact h)
  have hbpb : 0 < (geoOf k g.sr g.ch).blockBytes := by
    unfold Geo.blockBytes; split
    · exact Nat.mul_pos hchp hba
    · exact hba
  have hafter : ∀ cs, (∀ c ∈ cs, c.good g.ch) →
      session (geoOf k g.sr g.ch) cv (typed ty cs) = (adpcmCodec (geoOf k g.sr g.ch) cv ty).after cs := by
    intro cs h
    unfold session
    rw [(adpcm_write_is_fold _ hG cv (typed ty cs) _ (adpcm_init_inv _ hG) (hwhole cs h)).1]
    rfl
  apply writer_snap_facts (adpcmCodec (geoOf k g.sr g.ch) cv ty) _ ?_ base ?_ hstream
  · refine { wf := adpcm_writer_wf _ hG, bpbPos := hbpb, chEq := hgch, blockEq := hB,
             framesLen := fun cs h => by
               show (frameList (geoOf k g.sr g.ch) cv (typed ty cs)).length = framesOf g.ch cs
               rw [frameList_length _ hG cv _ (hwhole cs h), nframes_typed _ hchp cv ty cs (by rw [hgch]; exact h), hgch],
             framesApp := fun a b => by
               show frameList _ cv (typed ty (a ++ b)) = frameList _ cv (typed ty a) ++ frameList _ cv (typed ty b)
               rw [typed_append]; simp [frameList],
             storedLen := fun cs h => by
               rw [← hafter cs h]
               rw [(adpcm_session_ran _ hG cv (typed ty cs) (hwhole cs h)).bytes_length]
               show _ = (frameList (geoOf k g.sr g.ch) cv (typed ty cs)).length / _ * _
               rw [frameList_length _ hG cv _ (hwhole cs h)]; rfl,
             closePrefix := fun st => closeSt_prefix _ st,
             dataEq := fun cs h => by
               show closedBytes (geoOf k g.sr g.ch) cv (typed ty cs) = _
               unfold closedBytes; rw [hafter cs h]; rfl,
             storedEq := fun cs h => by
               show (session (geoOf k g.sr g.ch) cv (typed ty cs)).bytes = _
               rw [hafter cs h],
             framesAtBlocks := fun m => framesAtOpen_blocks _ hG m }
  · exact adpcm_lossy k g.major g.codec ty hk

end Adpcm

def exOne : List LCall := [⟨true, [1000, -2000, 30000], 3⟩]
def exSplit : List LCall := [⟨true, [1000], 1⟩, ⟨false, [-2000, 30000], 2⟩]
def exG : AbsWrite.Geom := { word := 0x00030030, ch := 1, sr := 8000 }
def exJ : SnapJob := g72xSnapJob G72x.g721 {} exG .s16 exOne exSplit (fun _ => []) (fun _ => []) [1, 2]

/-- G.721 in AU with the REAL reader of SfModel/G72xFile.lean: nothing is flushed before the close (0 frames at either crash
    point, `floorToBlock 1 120 = floorToBlock 3 120 = 0`), so the crash-point facts hold without `Stream`: the frame counts by
    evaluation, the read-back clauses because they compare prefixes of no items; accepted by `snap_session_accepted` -/
example : exJ.pred.snaps.map (·.info.frames) = [0, 0] ∧ exJ.pred.record.info.frames = 120 ∧ accepted exJ.pred.record = true := by
  have base : BlockFacts exJ.toBlockJob :=
    g72x_block_facts G72x.g721 (by decide) {} exG .s16 exOne exSplit _ _ rfl (by decide) (by decide) (by decide) (by decide)
      (by decide)
  have hitems : ∀ k ∈ exJ.marks, exJ.items k = 0 := by decide +kernel
  have facts : SnapFacts exJ :=
    { base := base
      snapFrames := by decide +kernel
      snapFinal := fun k hk => by rw [hitems k hk, List.take_zero, List.take_zero]
      snapExact := Or.inl (by decide) }
  exact ⟨by decide +kernel, by decide +kernel, snap_session_accepted exJ facts⟩

def zeroBack : List Byte → Nat → List Int := fun _ n => List.replicate n 0
def exGi : AbsWrite.Geom := { word := 0x00020012, ch := 1, sr := 8000 }
def exOneI : List LCall := [⟨true, (List.range 70).map fun (i : Nat) => (i : Int) * 100, 70⟩]
def exSplitI : List LCall := [⟨true, (List.range 65).map fun (i : Nat) => (i : Int) * 100, 65⟩,
  ⟨false, [6500, 6600, 6700, 6800, 6900], 5⟩]
def exJi : SnapJob := adpcmSnapJob .imaAiff {} exGi .s16 exOneI exSplitI (fun _ => []) (fun _ => []) zeroBack [1, 2]

theorem zeroBack_stream : Stream exJi := by
  intro d e n n' h1 h2
  show (List.replicate n 0).take _ = (List.replicate n' 0).take _
  rw [List.take_replicate, List.take_replicate, Nat.min_eq_left h1, Nat.min_eq_left h2]

/-- IMA ADPCM in AIFF (B = 64): 70 frames written as 65 + 5 with a crash point after either call: every hypothesis of
    `adpcm_snap_session_accepted` holds (a reader that fills zeros is front-to-back; `zeroBack_stream`); the crash points lie at
    65 and 70 frames: `floorToBlock 65 64 = floorToBlock 70 64 = 64` (kernel evaluation of the whole record: 5 minutes, left out) -/
example : (exGi.ch = 1 ∨ exGi.ch = 2) ∧ Sf.C07Bridge2.kindWord .imaAiff exGi.major exGi.codec ∧
    rateOk exGi.major exGi.sr (exGi.sr : Int) = true ∧
    (∀ c ∈ exOneI, c.good exGi.ch) ∧ (∀ c ∈ exSplitI, c.good exGi.ch) ∧ samples exSplitI = samples exOneI ∧
    [1, 2].map exJi.nk = [65, 70] ∧ exGi.block = 64 ∧ floorToBlock 65 64 = 64 ∧ floorToBlock 70 64 = 64 := by
  decide +kernel

end Sf.C07Bridge3Snap
