/-
  C11 — crash points exactly ON a codec block boundary ("a frame count equal to the frames written so far, rounded
  down to whole blocks").

  The clause of the predicate is `Sf.AbsWrite.snapFramesOk` (F = floorToBlock Nk B, `snapFramesOk_iff`): the image must
  hold ALL complete blocks of the frames handed over so far, and nothing else.  The header update of a block codec computes the data length from
  the bytes that are in the file, so the clause holds exactly when the block writer has EMITTED every complete block at
  the moment a write call returns.  This file proves that for the generic block writer `Sf.Block.Writer` (the model of
  `*_write_block` of gsm610.c, ima_adpcm.c, ms_adpcm.c, g72x.c, nms_adpcm.c, paf.c, sds.c: the test "buffer full ->
  encode" sits at the BOTTOM of the copy loop), for any encoder, any call sizes and any staging; the loop with the test
  at the TOP (`lazyLoop`: encode the full buffer "to make room" when the next sample arrives; the regression of seed
  C11-gsm-full-block-deferred) fails it: a call that fills the block exactly leaves it pending, so the image after a
  header update is one block short.

  The campaign side is vlib/blockedge.py (crash points ON / one frame before / one frame behind a boundary, every block
  codec, both update modes, deterministic).
-/
import SfProofs.BlockSession
import SfModel.GsmFile
namespace Sf.C11BlockEdge
open Sf Sf.Block Sf.Block.Proofs

variable {σ : Type}

/-- frames the writer has been handed so far, as its own counters account for them -/
def framesSoFar (w : Writer σ) (st : WState σ) : Nat := st.nblk * w.spb + st.cnt

theorem fold_leaves_no_full_block (w : Writer σ) (wf : WWF w) (st : WState σ) (fs : List (List Int))
    (inv : WInv w st) (hout : st.out.length = st.nblk) (hu : Uniform w.ch fs) :
    let st' := fs.foldl (pushFrame w) st
    st'.cnt < w.spb ∧ st'.out.length = (framesSoFar w st + fs.length) / w.spb ∧
      st'.cnt = (framesSoFar w st + fs.length) % w.spb ∧ WInv w st' ∧ st'.out.length = st'.nblk := by
  have h := fold_ran w wf (fun _ => True) (fun _ => True) (fun _ _ _ _ => ⟨trivial, trivial⟩) fs st _
    ⟨inv, rfl, hout, fun _ _ => trivial, trivial⟩ hu
  exact ⟨h.inv.cnt, h.out_length, h.cnt, h.inv, h.out⟩

/-- C11, block writer: when a write call of whole frames returns, NO complete block is pending — the emitted blocks are
    all complete blocks of the frames handed over so far, the buffer holds the remainder -/
theorem write_leaves_no_full_block (w : Writer σ) (wf : WWF w) (st : WState σ) (fs : List (List Int))
    (inv : WInv w st) (hout : st.out.length = st.nblk) (hu : Uniform w.ch fs) :
    let st' := w.write st fs.flatten
    st'.cnt < w.spb ∧ st'.out.length = (framesSoFar w st + fs.length) / w.spb ∧
      st'.cnt = (framesSoFar w st + fs.length) % w.spb ∧ WInv w st' ∧ st'.out.length = st'.nblk := by
  rw [(write_fold w wf st fs inv hu).1]
  exact fold_leaves_no_full_block w wf st fs inv hout hu

/-- the same through the staging loop of `*_write_i/f/d` (pieces of `q` whole frames; `q = 0`: one piece) -/
theorem wcall_leaves_no_full_block (w : Writer σ) (wf : WWF w) (q : Nat) (st : WState σ) (fs : List (List Int))
    (inv : WInv w st) (hout : st.out.length = st.nblk) (hu : Uniform w.ch fs) :
    let st' := wcall w (q * w.ch) st fs.flatten
    st'.cnt < w.spb ∧ st'.out.length = (framesSoFar w st + fs.length) / w.spb ∧
      st'.cnt = (framesSoFar w st + fs.length) % w.spb ∧ WInv w st' ∧ st'.out.length = st'.nblk := by
  rw [wcall_fold w wf q st fs inv hu]
  exact fold_leaves_no_full_block w wf st fs inv hout hu

/-- a session: calls of whole frames, each through the staging of its caller type (`c.1` frames per piece) -/
def runCalls (w : Writer σ) (st : WState σ) (calls : List (Nat × List (List Int))) : WState σ :=
  calls.foldl (fun s c => wcall w (c.1 * w.ch) s c.2.flatten) st

def totalFrames (calls : List (Nat × List (List Int))) : Nat := (calls.map (fun c => c.2.length)).sum

/-- C11, block writer, whole session: after ANY sequence of write calls from the open on, the blocks in the file are
    exactly the complete blocks of the frames written so far (`total / spb`), whatever the call sizes — in particular
    when the total is a multiple of the block size nothing is pending -/
theorem session_all_complete_blocks (w : Writer σ) (wf : WWF w) (s0 : σ) (calls : List (Nat × List (List Int)))
    (hu : ∀ c ∈ calls, Uniform w.ch c.2) :
    let st := runCalls w (w.init s0) calls
    st.out.length = totalFrames calls / w.spb ∧ st.cnt = totalFrames calls % w.spb ∧
      (totalFrames calls % w.spb = 0 → st.cnt = 0) := by
  have h := fold_ran w wf (fun _ => True) (fun _ => True) (fun _ _ _ _ => ⟨trivial, trivial⟩) (calls.flatMap (·.2)) _ 0
    (init_ran w wf _ _ s0 trivial) (uniform_flatMap (·.2) calls hu)
  rw [← foldl_calls_fold w wf _ (·.2) calls (fun st c _ inv hc => wcall_fold w wf c.1 st c.2 inv hc) _ (init_inv_w w wf s0) hu,
    Nat.zero_add, List.length_flatMap] at h
  exact ⟨h.out_length, h.cnt, fun hz => by rw [← hz]; exact h.cnt⟩

/-- a two-frame block, one channel, an encoder that stores the low bytes -/
def toy : Writer Unit := ⟨2, 1, fun s b => (s, b.map (fun v => v.toNat % 256))⟩

example : (runCalls toy (toy.init ()) [(0, [[1], [2]]), (1, [[3]]), (0, [[4]])]).out.length = 2 := by
  decide

/-- gsm610.c (AIFF / RAW: 160 frames per block; WAV / WAVEX / W64: 320): after any sequence of write calls the file holds
    `total / spb` blocks -/
theorem gsm_session_all_complete_blocks (c : Gsm.Cfg) (calls : List (Nat × List (List Int)))
    (hu : ∀ cl ∈ calls, Uniform 1 cl.2) :
    let st := runCalls (Gsm.writer c) (Gsm.writeInit c) calls
    st.out.length = totalFrames calls / c.spb ∧ st.cnt = totalFrames calls % c.spb := by
  intro st
  have wf : WWF (Gsm.writer c) := ⟨by simp only [Gsm.writer, Gsm.Cfg.spb]; split <;> decide, by simp [Gsm.writer]⟩
  obtain ⟨h1, h2, _⟩ := session_all_complete_blocks (Gsm.writer c) wf (if c.wav then Gsm.State.initWav else Gsm.State.init) calls hu
  exact ⟨h1, h2⟩

example : ∀ cl ∈ [(0, [[(1 : Int)], [2]]), (4096, [[3]])], Uniform 1 cl.2 := by
  intro cl h
  simp at h
  rcases h with rfl | rfl <;> intro f hf <;> simp at hf <;> (try rcases hf with rfl | rfl) <;> simp_all

/-- `*_write_block` with the test at the TOP of the copy loop: a full buffer is encoded only when more samples arrive -/
def lazyLoop (w : Writer σ) : Nat → WState σ → List Int → Nat → WState σ
  | 0, st, _, _ => st
  | fuel + 1, st, xs, n =>
    if n = 0 then st
    else
      let st0 := if st.cnt ≥ w.spb then w.emit st else st
      let count := min ((w.spb - st0.cnt) * w.ch) n
      let buf := overwrite st0.buf (st0.cnt * w.ch) (xs.take count) count
      let st1 : WState σ := { st0 with buf := buf, cnt := st0.cnt + count / w.ch }
      lazyLoop w fuel st1 (xs.drop count) (n - count)

def lazyWrite (w : Writer σ) (st : WState σ) (xs : List Int) : WState σ := lazyLoop w (xs.length + 1) st xs xs.length

/-- the lazy loop breaks the clause exactly ON the boundary: a call of one block leaves it pending (0 blocks in the file,
    1 complete block written), a call that ends inside a block does not show it, and the flush `cnt > 0` at close makes
    the finished file equal -/
theorem lazy_rule_defers_block :
    (lazyWrite toy (toy.init ()) [1, 2]).out.length = 0 ∧ (toy.write (toy.init ()) [1, 2]).out.length = 1 ∧
    (lazyWrite toy (toy.init ()) [1, 2, 3]).out.length = (toy.write (toy.init ()) [1, 2, 3]).out.length ∧
    (toy.emit (lazyWrite toy (toy.init ()) [1, 2])).out = (toy.write (toy.init ()) [1, 2]).out := by
  decide

end Sf.C11BlockEdge
