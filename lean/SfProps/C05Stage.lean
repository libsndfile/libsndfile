/-
  SfProps.C05Stage — the staging loops of the write kernels under short transfers (C04 / C05 / C15).
  -- properties: C04 C05 C15

  `Sf.Faults.writeLoop` is the loop every write kernel of pcm.c / float32.c / double64.c / ulaw.c / alaw.c runs
  (`total += writecount ; if (writecount < bufferlen) break ; len -= writecount`).  For EVERY oracle inside the callback
  contract — every schedule of short transfers, not only the single one the campaign injects — what the loop returns is
  the number of whole items among the bytes the I/O layer accepted (`writeLoop_counts_stored`), so sf_write_* returns
  the whole frames among them and advances the position by exactly that (`write_call_counts_stored`).  The two shapes
  the seeded regressions have (a short round counted in full; a short round not counted) are refuted by concrete
  schedules (`countedFull_overcounts`, `notCounted_undercounts`).  `judge_meaning` says what an accepted record of the
  staging-loop matrix (vlib/stagecamp.py, `sfmodel stage judge`) means; `kernels_*` tie the kernel table to `stageLen`.
  KF-C15-TORN-ITEM: `no_fragment_full` (a call that will not be followed by a seek left no fragment) is refuted by `no_fragment_full_fails`
  (7 of 8 bytes, 16-bit mono) and holds outside the class `KF.tornItem` (`no_fragment_partial`).
-/
import SfModel.StageLoop
import SfProofs.Faults
namespace Sf.StageLoop
open Sf Sf.Faults

theorem stored_call_write (o : Oracle) (hist : Hist) (d : List Byte) :
    stored (call o hist (.write d)).2 = (o hist (.write d)).n.toNat + stored hist := by
  simp [call, stored]

/-- one psf_fwrite: it accepts `d` bytes (at most the bytes handed over) and reports `d / width` items -/
theorem fwrite_stored (o : Oracle) (hc : o.Contract) (hist : Hist) (w items : Nat) (data : List Byte) :
    ∃ d, d ≤ data.length ∧ stored (fwrite o hist w items data).2 = stored hist + d ∧ (fwrite o hist w items data).1 = d / w := by
  unfold fwrite
  split
  · exact ⟨0, Nat.zero_le _, by simp, by simp⟩
  · split
    · exact ⟨0, Nat.zero_le _, by simp, by simp⟩
    · refine ⟨(o hist (.write data)).n.toNat, ?_, ?_, rfl⟩
      · have h := hc hist (.write data)
        simp only [Ans.ok] at h
        omega
      · rw [stored_call_write]; omega

/-- THE LOOP COUNTS WHAT WAS STORED: for every oracle inside the contract (every schedule of short transfers), every
    staging length and every call length, the loop's result is `total` plus the whole items among the bytes accepted
    during the loop. -/
theorem writeLoop_counts_stored (o : Oracle) (hc : o.Contract) (w B : Nat) (hw : 0 < w) (bytes : List Byte) :
    ∀ (len : Nat) (hist : Hist) (total attempted : Nat),
      ∃ d, stored (writeLoop o w B bytes len hist total attempted).2.2 = stored hist + d ∧
           (writeLoop o w B bytes len hist total attempted).1 = total + d / w := by
  intro len
  induction len using Nat.strongRecOn with
  | _ len ih =>
    intro hist total attempted
    rw [writeLoop]
    by_cases hl : len = 0
    · subst hl; exact ⟨0, by simp, by simp⟩
    · simp only [hl, dite_false]
      have hp := roundLen_pos (B := B) hl
      obtain ⟨d1, hd1, hs1, hr1⟩ := fwrite_stored o hc hist w (roundLen B len) ((bytes.drop (total * w)).take (roundLen B len * w))
      have hlen : ((bytes.drop (total * w)).take (roundLen B len * w)).length ≤ roundLen B len * w := List.length_take_le _ _
      generalize fwrite o hist w (roundLen B len) ((bytes.drop (total * w)).take (roundLen B len * w)) = r at hs1 hr1 ⊢
      split
      · exact ⟨d1, hs1, by show total + _ = _; rw [hr1]⟩
      · rename_i hb
        -- a round that is not short accepted exactly roundLen * w bytes
        have hge : roundLen B len ≤ d1 / w := by rw [← hr1]; omega
        have hd1w : d1 = roundLen B len * w := by
          have h1 : roundLen B len * w ≤ d1 := by
            calc roundLen B len * w ≤ d1 / w * w := Nat.mul_le_mul_right w hge
              _ ≤ d1 := Nat.div_mul_le_self d1 w
          omega
        have hr1' : r.1 = roundLen B len := by rw [hr1, hd1w, Nat.mul_div_cancel _ hw]
        obtain ⟨d2, hs2, hr2⟩ := ih (len - r.1) (by omega) r.2 (total + r.1) (attempted + roundLen B len)
        refine ⟨d1 + d2, by rw [hs2, hs1]; omega, ?_⟩
        rw [hr2, hr1', hd1w, Nat.add_comm (roundLen B len * w) d2, Nat.add_mul_div_right _ _ hw]
        omega

theorem wholeFrames_eq (c : Nat) (ch : Nat) (op : Mode) (hch : 0 < ch) :
    (wholeFrames (c : Int) ch op).1 = ((c / ch * ch : Nat) : Int) := by
  rw [wholeFrames_fst _ _ _ hch]; simp

/-- C05 / C15 for sf_write_<type> on every sample-granular encoding, every caller type, every schedule inside the
    contract: the call returns the WHOLE FRAMES among the bytes the I/O layer accepted during it, and the write
    position advances by exactly the frames returned. -/
theorem write_call_counts_stored (o : Oracle) (hc : o.Contract) (h : H) (hist : Hist) (ty : Ty) (len : Int) (data : List Int)
    (hnb : 0 < h.nb) (hch : 0 < h.ch) :
    ∃ d, stored (writeTail o h hist ty false len data).hist = stored hist + d ∧
         (writeTail o h hist ty false len data).out.ret = ((d / h.nb / h.ch * h.ch : Nat) : Int) ∧
         (writeTail o h hist ty false len data).h.wpos = h.wpos + ((d / h.nb / h.ch : Nat) : Int) := by
  obtain ⟨d, hs, hr⟩ := writeLoop_counts_stored o hc h.nb (stageLen h.enc ty true) hnb
    (h.enc.encodeAll h.conv ty (data.take len.toNat)) len.toNat hist 0 0
  refine ⟨d, hs, ?_, ?_⟩
  · show (wholeFrames _ h.ch .w).1 = _
    rw [hr, Nat.zero_add]
    exact wholeFrames_eq _ _ _ hch
  · show h.wpos + _ / (h.ch : Int) = _
    rw [hr, Nat.zero_add]
    congr 1

/-! ## the two shapes of the seeded regressions, refuted -/

/-- `total += bufferlen ; len -= bufferlen ; if (writecount < bufferlen) break ;` — a short round counted in full -/
def loopCountedFull (o : Oracle) (w B : Nat) (bytes : List Byte) : Nat → Nat → Hist → Nat → Nat × Hist
  | 0, _, hist, total => (total, hist)
  | fuel + 1, len, hist, total =>
    if len = 0 then (total, hist) else
    let r := fwrite o hist w (roundLen B len) ((bytes.drop (total * w)).take (roundLen B len * w))
    if r.1 < roundLen B len then (total + roundLen B len, r.2)
    else loopCountedFull o w B bytes fuel (len - roundLen B len) r.2 (total + roundLen B len)

/-- `if (writecount < bufferlen) break ; total += writecount ;` — the part of a short round that reached the file is not counted -/
def loopNotCounted (o : Oracle) (w B : Nat) (bytes : List Byte) : Nat → Nat → Hist → Nat → Nat × Hist
  | 0, _, hist, total => (total, hist)
  | fuel + 1, len, hist, total =>
    if len = 0 then (total, hist) else
    let r := fwrite o hist w (roundLen B len) ((bytes.drop (total * w)).take (roundLen B len * w))
    if r.1 < roundLen B len then (total, r.2)
    else loopNotCounted o w B bytes fuel (len - r.1) r.2 (total + r.1)

/-- the oracle that accepts half of every write (fault kind 2 of the harness, persistent) -/
def halfOracle : Oracle := fun _ r => match r with
  | .write d => { n := (d.length / 2 : Nat) }
  | _ => {}

theorem halfOracle_contract : halfOracle.Contract := by
  intro hist r
  cases r <;> simp [halfOracle, Ans.ok]
  omega

def wBytes : List Byte := List.replicate 12 7

theorem countedFull_overcounts :
    (loopCountedFull halfOracle 1 8 wBytes 4 12 [] 0).1 = 8 ∧ stored (loopCountedFull halfOracle 1 8 wBytes 4 12 [] 0).2 = 4 := by
  decide

theorem notCounted_undercounts :
    (loopNotCounted halfOracle 1 8 wBytes 4 12 [] 0).1 = 0 ∧ stored (loopNotCounted halfOracle 1 8 wBytes 4 12 [] 0).2 = 4 := by
  decide

/-- the loop as written, on the same schedule: 4 bytes accepted, 4 items counted -/
theorem asWritten_counts :
    (writeLoop halfOracle 1 8 wBytes 12 [] 0 0).1 = 4 ∧ stored (writeLoop halfOracle 1 8 wBytes 12 [] 0 0).2.2 = 4 := by
  obtain ⟨d, hs, hr⟩ := writeLoop_counts_stored halfOracle halfOracle_contract 1 8 (by decide) wBytes 12 [] 0 0
  have h1 : (writeLoop halfOracle 1 8 wBytes 12 [] 0 0).1 = 4 := by
    rw [writeLoop]; simp [roundLen, fwrite, seekFailed, call, halfOracle, wBytes]
  simp only [stored, Nat.zero_add, Nat.div_one] at hs hr
  omega

example : ∃ d, stored (writeLoop halfOracle 1 8 wBytes 12 [] 0 0).2.2 = stored ([] : Hist) + d ∧
    (writeLoop halfOracle 1 8 wBytes 12 [] 0 0).1 = 0 + d / 1 :=
  writeLoop_counts_stored halfOracle halfOracle_contract 1 8 (by decide) wBytes 12 [] 0 0

/-! ## KF-C15-TORN-ITEM: a transfer that ends inside an ITEM (full statement, its refutation, the partial theorem) -/

/-- FULL STRENGTH: a write call that keeps `last_op` (so that the next call will not seek) left no fragment behind — the bytes
    the I/O layer accepted are exactly the items the call returned -/
def no_fragment_full : Prop :=
  ∀ (o : Oracle), o.Contract → ∀ (h : H) (hist : Hist) (ty : Ty) (len : Int) (data : List Int), 0 < h.nb → 0 < h.ch →
    (writeTail o h hist ty false len data).h.lastOp = .w →
    ∃ d, stored (writeTail o h hist ty false len data).hist = stored hist + d ∧
         ((d : Nat) : Int) = (writeTail o h hist ty false len data).out.ret * (h.nb : Int)

/-- the class of the known finding: the bytes accepted end inside an item while the complete items are whole frames -/
def KF.tornItem (d nb ch : Nat) : Prop := d % nb ≠ 0 ∧ (d / nb) % ch = 0

/-- PARTIAL: outside the class the statement holds, for every oracle inside the contract -/
theorem no_fragment_partial (o : Oracle) (hc : o.Contract) (h : H) (hist : Hist) (ty : Ty) (len : Int) (data : List Int)
    (hnb : 0 < h.nb) (hch : 0 < h.ch) (hl : (writeTail o h hist ty false len data).h.lastOp = .w) :
    ∃ d, stored (writeTail o h hist ty false len data).hist = stored hist + d ∧
         (¬ KF.tornItem d h.nb h.ch → ((d : Nat) : Int) = (writeTail o h hist ty false len data).out.ret * (h.nb : Int)) := by
  obtain ⟨d, hs, hr⟩ := writeLoop_counts_stored o hc h.nb (stageLen h.enc ty true) hnb
    (h.enc.encodeAll h.conv ty (data.take len.toNat)) len.toNat hist 0 0
  refine ⟨d, hs, ?_⟩
  intro hk
  have hl' : (wholeFrames ((writeLoop o h.nb (stageLen h.enc ty true) (h.enc.encodeAll h.conv ty (data.take len.toNat)) len.toNat hist 0 0).1 : Int) h.ch .w).2 = .w := hl
  have hret : (writeTail o h hist ty false len data).out.ret =
      (wholeFrames ((writeLoop o h.nb (stageLen h.enc ty true) (h.enc.encodeAll h.conv ty (data.take len.toNat)) len.toNat hist 0 0).1 : Int) h.ch .w).1 := rfl
  rw [hret]
  rw [hr, Nat.zero_add] at hl' ⊢
  -- last_op kept: the item count is a whole number of frames, the call returns it unchanged
  have hm : ((d / h.nb : Nat) : Int) % (h.ch : Int) = (((d / h.nb) % h.ch : Nat) : Int) := by simp
  unfold wholeFrames at hl' ⊢
  by_cases hcase : h.ch ≤ 1 ∨ ((d / h.nb : Nat) : Int) % (h.ch : Int) = 0
  · simp only [hcase, if_true] at hl' ⊢
    have hframes : (d / h.nb) % h.ch = 0 := by
      rcases hcase with h1 | h1
      · have : h.ch = 1 := by omega
        rw [this]; exact Nat.mod_one _
      · rw [hm] at h1; exact_mod_cast h1
    have hno : d % h.nb = 0 := by
      by_cases h0 : d % h.nb = 0
      · exact h0
      · exact absurd ⟨h0, hframes⟩ hk
    have hd := Nat.div_add_mod d h.nb
    have hmul : h.nb * (d / h.nb) = d / h.nb * h.nb := Nat.mul_comm _ _
    have e : d / h.nb * h.nb = d := by omega
    exact_mod_cast e.symm
  · rw [if_neg hcase] at hl'
    exact absurd hl' (by simp)

/-- 16-bit mono, four items, the write callback accepts 7 of the 8 bytes -/
def tH : H := { store := 0, mode := .w, container := .raw, enc := .pcm ⟨16, false, false⟩, big := false, ch := 1, sr := 8000,
                fmtWord := 0x10040002, frames := 0, lastOp := .w }
def tO : Oracle := fun _ r => match r with
  | .write d => { n := ((d.length - 1 : Nat) : Int) }
  | _ => {}

theorem tO_contract : tO.Contract := by
  intro hist r
  cases r <;> simp [tO, Ans.ok]

theorem torn_item_witness :
    (writeTail tO tH [] .s16 false 4 [1, 2, 3, 4]).out.ret = 3 ∧ (writeTail tO tH [] .s16 false 4 [1, 2, 3, 4]).h.lastOp = .w ∧
    stored (writeTail tO tH [] .s16 false 4 [1, 2, 3, 4]).hist = 7 := by
  unfold writeTail
  have hnb : tH.nb = 2 := by decide
  have hst : stageLen tH.enc .s16 true = 0 := by decide
  have h4 : (4 : Int).toNat = 4 := by decide
  simp only [hnb, hst, h4]
  rw [writeLoop]
  simp [roundLen, fwrite, call, seekFailed, tH, tO, wholeFrames, Enc.encodeAll]
  decide

/-- THE CODE VIOLATES THE FULL STATEMENT (KF-C15-TORN-ITEM): 3 items returned, 7 bytes stored, no re-seek ahead -/
theorem no_fragment_full_fails : ¬ no_fragment_full := by
  intro hfull
  obtain ⟨r, l, st⟩ := torn_item_witness
  obtain ⟨d, hs, he⟩ := hfull tO tO_contract tH [] .s16 4 [1, 2, 3, 4] (by decide) (by decide) l
  rw [st] at hs
  rw [r] at he
  have hnb : (tH.nb : Int) = 2 := by decide
  rw [hnb] at he
  simp only [stored, Nat.zero_add] at hs
  omega

/-- non-vacuity of `write_call_counts_stored` and `no_fragment_partial` (the witness of the finding meets their hypotheses) -/
example : ∃ d, stored (writeTail tO tH [] .s16 false 4 [1, 2, 3, 4]).hist = stored ([] : Hist) + d ∧
    (writeTail tO tH [] .s16 false 4 [1, 2, 3, 4]).out.ret = ((d / tH.nb / tH.ch * tH.ch : Nat) : Int) ∧
    (writeTail tO tH [] .s16 false 4 [1, 2, 3, 4]).h.wpos = tH.wpos + ((d / tH.nb / tH.ch : Nat) : Int) :=
  write_call_counts_stored tO tO_contract tH [] .s16 4 [1, 2, 3, 4] (by decide) (by decide)
example : ∃ d, stored (writeTail tO tH [] .s16 false 4 [1, 2, 3, 4]).hist = stored ([] : Hist) + d ∧
    (¬ KF.tornItem d tH.nb tH.ch → ((d : Nat) : Int) = (writeTail tO tH [] .s16 false 4 [1, 2, 3, 4]).out.ret * (tH.nb : Int)) :=
  no_fragment_partial tO tO_contract tH [] .s16 4 [1, 2, 3, 4] (by decide) (by decide) torn_item_witness.2.1
example : KF.tornItem 7 2 1 := by unfold KF.tornItem; decide
example : ¬ KF.tornItem 8191 2 2 := by unfold KF.tornItem; decide      -- 4095 items, two channels: the item count is rounded and the next call seeks
example : KF.tornItem 8191 2 3 := by unfold KF.tornItem; decide        -- 4095 items = 1365 frames of three channels: nothing re-aligns

/-! ## the predicate of the campaign -/

theorem judge_meaning (r : Rec) :
    accepted r = true ↔
      (r.ret1 = ((r.framesStored * r.ch : Nat) : Int) ∧
       (r.probe = true → r.pos1 * (r.ch : Int) = r.ret1) ∧
       r.ret2 = r.asked2 ∧ (r.probe = true → (r.pos2 - r.pos1) * (r.ch : Int) = r.ret2) ∧
       (if r.exact then r.closed = r.ref.take (r.hdr + r.accepted * r.w) else r.closed.length = r.hdr + r.accepted * r.w)) := by
  -- no clause is reported iff all four checkers hold
  have one : ∀ (b : Bool) (s : String) (l : List String), (l ++ if b = true then [] else [s]).isEmpty = (l.isEmpty && b) := by
    intro b s l; cases b <;> simp
  have hacc : accepted r = (((countOk r && posOk r) && resumeOk r) && fileOk r) := by
    rw [accepted, judge, one, one, one, ← List.nil_append (if countOk r = true then _ else _), one]
    rfl
  rw [hacc]
  have hpos : ∀ (p : Bool) (a b : Int), (!p || a == b) = true ↔ (p = true → a = b) := by
    intro p a b; cases p <;> simp
  have hfile : fileOk r = true ↔
      (if r.exact then r.closed = r.ref.take (r.hdr + r.accepted * r.w) else r.closed.length = r.hdr + r.accepted * r.w) := by
    unfold fileOk; split <;> simp
  simp only [Bool.and_eq_true, countOk, posOk, resumeOk, hpos, hfile, beq_iff_eq]
  exact ⟨fun ⟨⟨⟨a, b⟩, c, d⟩, e⟩ => ⟨a, b, c, d, e⟩, fun ⟨a, b, c, d, e⟩ => ⟨⟨⟨a, b⟩, c, d⟩, e⟩⟩

/-- an accepted record: the short call returned the whole frames on the device after it, as items -/
theorem accepted_count (r : Rec) (h : accepted r = true) : r.ret1 = ((r.stored1 / (r.w * r.ch) * r.ch : Nat) : Int) :=
  ((judge_meaning r).1 h).1

def wRec : Rec := { w := 2, ch := 2, n := 8, ret1 := 2, pos1 := 1, stored1 := 7, asked2 := 6, ret2 := 6, pos2 := 4,
                    closed := List.replicate 16 1, ref := List.replicate 16 1 }

example : accepted wRec = true := by decide
/-- the seeded shape "counted in full": 8 items returned although 7 bytes (one whole frame) were stored -/
example : judge { wRec with ret1 := 8, pos1 := 4, asked2 := 0, ret2 := 0, pos2 := 4, closed := List.replicate 7 1 } = ["count", "file"] := by decide
/-- the seeded shape "not counted": 0 items returned although a whole frame was stored -/
example : judge { wRec with ret1 := 0, pos1 := 0, asked2 := 8, ret2 := 8, pos2 := 4 } = ["count"] := by decide

/-! ## the kernel table -/

theorem kernels_length : kernels.length = 56 := by decide
theorem kernels_stage (k : Kernel) (hk : k ∈ kernels) : k.stage = stageLen k.enc k.ty true ∧ k.w = k.enc.nbytes ∧ k.name = cName k.enc k.ty := by
  simp only [kernels, List.mem_flatMap, List.mem_map] at hk
  obtain ⟨e, _, ty, _, rfl⟩ := hk
  exact ⟨rfl, rfl, rfl⟩
/-- a kernel that hands the caller's buffer to psf_fwrite in one piece exists only where no conversion is needed -/
theorem direct_kernels : (kernels.filter (fun k => k.stage == 0)).map (·.name) =
    ["pcm_write_s2les", "pcm_write_i2lei", "host_write_f", "host_write_d"] := by decide
example : (kernelOf (.dbl true) .f64).stage = 1024 ∧ (kernelOf .alaw .f32).name = "alaw_write_f2alaw" := by decide

end Sf.StageLoop
