/-
  C02 — state-reading commands do not change conversions; the two normalisation switches are independent.

  Predicate (`Sf.CrossTypeQ`):
  * `switchOkQ_iff_strip`        : a plan with queries is accepted iff the plan without them is (queries are transparent);
  * `switchOkQ_query_insert`     : inserting a query anywhere in a plan does not change the verdict;
  * `wqueryOk_meaning`.
  Handle model (what the library does, `Sf.Peak.stepCalc`, `Sf.stepCmdFlag`):
  * `calc_keeps_normalisation`   : the four SFC_CALC_* on a read handle leave BOTH switches, clipping and the scale flags as the caller
                                   set them (re-statement of `Sf.C18.calc_restores_state` for C02), position and bytes too;
  * `calc_folded_save_fails`     : about `foldedRestore` (defined here, no handle in it): the flag a scan written with ONE call
                                   `save = SET_NORM_DOUBLE (normalize)` restores is the caller's when SET returns the PREVIOUS mode
                                   (`setNormD_returns_previous`: it does), the scan's own when it returns the new one — the two-site class;
  * `get_norm_keeps_state`       : SFC_GET_NORM_FLOAT / _DOUBLE change nothing but the error word;
  * `decode_own_switch_only`     : for EVERY sample-granular encoding a read of caller type `ty` depends on `conv.norm ty` only: the float
                                   switch never reaches the double reader (and vice versa), neither reaches the int readers;
  * `mixed_switches_witness`     : 16-bit PCM 0x4000 on a handle with the float switch off and the double switch on: 16384.0f and 0.5.
-/
import SfModel.CrossTypeQ
import SfProps.C18
namespace Sf.C02Query
open Sf Sf.CrossType Sf.CrossTypeQ Sf.Peak

theorem switchFrom_isNone_index (ch : Nat) (refs : Refs) (cs : List Call) :
    ∀ pos k k', (switchFrom ch refs pos k cs).isNone = (switchFrom ch refs pos k' cs).isNone := by
  induction cs with
  | nil => intro pos k k'; rfl
  | cons c cs ih =>
    intro pos k k'
    simp only [switchFrom]
    cases stepOk ch refs pos c with
    | none => rfl
    | some p => exact ih p (k + 1) (k' + 1)

theorem switchFromQ_strip (ch : Nat) (refs : Refs) (qs : List QCall) :
    ∀ pos k k', (switchFromQ ch refs pos k qs).isNone = (switchFrom ch refs pos k' (strip qs)).isNone := by
  induction qs with
  | nil => intro pos k k'; rfl
  | cons q qs ih =>
    intro pos k k'
    cases q with
    | call c =>
      simp only [switchFromQ, stepOkQ, strip, switchFrom]
      cases stepOk ch refs pos c with
      | none => rfl
      | some p => exact ih p (k + 1) (k' + 1)
    | query id =>
      simp only [switchFromQ, stepOkQ, strip]
      exact ih pos (k + 1) k'

/-- **queries are transparent**: the verdict on a plan with queries is the verdict on the plan without them -/
theorem switchOkQ_iff_strip (ch : Nat) (refs : Refs) (qs : List QCall) :
    switchOkQ ch refs qs = switchOk ch refs (strip qs) :=
  switchFromQ_strip ch refs qs 0 0 0

theorem strip_append (a b : List QCall) : strip (a ++ b) = strip a ++ strip b := by
  induction a with
  | nil => rfl
  | cons q a ih => cases q <;> simp [strip, ih]

theorem switchOkQ_query_insert (ch : Nat) (refs : Refs) (a b : List QCall) (id : Nat) :
    switchOkQ ch refs (a ++ .query id :: b) = switchOkQ ch refs (a ++ b) := by
  rw [switchOkQ_iff_strip, switchOkQ_iff_strip, strip_append, strip_append]
  rfl

theorem wqueryOk_meaning [BEq α] [LawfulBEq α] (t : Twin α) : wqueryOk t = true ↔ t.xs = t.ys ∧ t.fileX = t.fileY := by
  simp [wqueryOk]

/-- non-vacuity: a 1-channel file of two shorts; read one, SFC_CALC_SIGNAL_MAX, read the other as double -/
example : switchOkQ 1 { s16 := #[5, 7], f64 := #[0x3F24000000000000, 0x3F2C000000000000] }
    [.call (.read .s16 1 1 #[5]), .query 0x1040, .call (.read .f64 1 1 #[0x3F2C000000000000])] = true := by decide +kernel
/-- … and a plan whose read after the query delivers the unnormalised value is rejected -/
example : switchOkQ 1 { s16 := #[5, 7], f64 := #[0x3F24000000000000, 0x3F2C000000000000] }
    [.call (.read .s16 1 1 #[5]), .query 0x1040, .call (.read .f64 1 1 #[0x401C000000000000])] = false := by decide +kernel

/-- the four SFC_CALC_* commands on a read handle: both normalisation switches, clipping, the scale flags, the read position and the
    file bytes are what they were -/
theorem calc_keeps_normalisation (h : H) (s : Store) (normalize : Bool) (hi : HInv h s) (hm : h.mode = .r) :
    (stepCalc h s normalize).1.conv.normD = h.conv.normD ∧ (stepCalc h s normalize).1.conv.normF = h.conv.normF ∧
    (stepCalc h s normalize).1.conv = h.conv ∧ (stepCalc h s normalize).1.rpos = h.rpos ∧ (stepCalc h s normalize).2.1.bytes = s.bytes := by
  obtain ⟨a, b, c, _, _⟩ := Sf.C18.calc_restores_state h s normalize hi hm
  exact ⟨by rw [b], by rw [b], b, a, c⟩

/-- SFC_SET_NORM_DOUBLE returns the PREVIOUS mode (docs/command.md) -/
theorem setNormD_returns_previous (h : H) (s : Store) (b : Bool) :
    (stepCmdFlag h s 0x1012 (if b then 1 else 0)).2.2.ret = (if h.conv.normD then 1 else 0) ∧
    (stepCmdFlag h s 0x1012 (if b then 1 else 0)).1.conv.normD = b := by
  cases b <;> simp [stepCmdFlag]

/-- the flag a scan restores when it is written as ONE call `save = SET (normalize)`: what that call returned -/
def foldedRestore (returnsPrevious : Bool) (callerFlag normalize : Bool) : Bool := if returnsPrevious then callerFlag else normalize

/-- with a SET that returns the previous mode the folded form restores the caller's flag; with a SET that returns the NEW mode it
    restores the scan's own flag — wrong whenever the two differ (the two sites only fail together) -/
theorem calc_folded_save_fails :
    (∀ callerFlag normalize, foldedRestore true callerFlag normalize = callerFlag) ∧
    (∀ callerFlag normalize, callerFlag ≠ normalize → foldedRestore false callerFlag normalize ≠ callerFlag) := by
  refine ⟨fun _ _ => rfl, ?_⟩
  intro a b hab
  simpa [foldedRestore] using fun h => hab h.symm

/-- SFC_GET_NORM_FLOAT (0x1011) / SFC_GET_NORM_DOUBLE (0x1010): nothing but the error word changes -/
theorem get_norm_keeps_state (h : H) (s : Store) (v : Int) :
    (stepCmdFlag h s 0x1010 v).1 = { h with error := 0 } ∧ (stepCmdFlag h s 0x1011 v).1 = { h with error := 0 } ∧
    (stepCmdFlag h s 0x1010 v).2.1 = s ∧ (stepCmdFlag h s 0x1011 v).2.1 = s := by
  simp [stepCmdFlag]

/-! ## the two switches are independent -/

/-- every sample-granular encoding: a read of caller type `ty` looks at its OWN switch only (and at nothing else of the two) -/
theorem decode_own_switch_only (e : Enc) (c : Conv) (ty : Ty) (bF bD : Bool) (bs : List Byte)
    (h : ({ c with normF := bF, normD := bD } : Conv).norm ty = c.norm ty) :
    e.decode { c with normF := bF, normD := bD } ty bs = e.decode c ty bs := by
  -- `Enc.decode` reads the settings through `c.normF` (float caller), `c.normD` (double caller) and, for the int readers,
  -- through fields of `c` that the update leaves alone
  cases ty
  · cases e <;> rfl
  · cases e <;> rfl
  · have hF : bF = c.normF := h
    subst hF; cases e <;> rfl
  · have hD : bD = c.normD := h
    subst hD; cases e <;> rfl

/-- the double reader never sees the float switch, the float reader never sees the double switch, the int readers see neither -/
theorem decode_f64_ignores_normF (e : Enc) (c : Conv) (b : Bool) (bs : List Byte) :
    e.decode { c with normF := b } .f64 bs = e.decode c .f64 bs :=
  decode_own_switch_only e c .f64 b c.normD bs rfl

theorem decode_f32_ignores_normD (e : Enc) (c : Conv) (b : Bool) (bs : List Byte) :
    e.decode { c with normD := b } .f32 bs = e.decode c .f32 bs :=
  decode_own_switch_only e c .f32 c.normF b bs rfl

/-- 16-bit little-endian PCM, stored 0x4000, handle with the float switch off and the double switch on -/
theorem mixed_switches_witness :
    (Enc.pcm ⟨16, false, false⟩).decode { normF := false, normD := true } .f32 [0x00, 0x40] = 0x46800000 ∧
    (Enc.pcm ⟨16, false, false⟩).decode { normF := false, normD := true } .f64 [0x00, 0x40] = 0x3FE0000000000000 := by
  decide +kernel

end Sf.C02Query
