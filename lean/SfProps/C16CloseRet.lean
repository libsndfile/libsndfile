/-
  C16 — sf_close returns the status of the descriptor's close, whatever the hooks answered (model: SfModel/CloseRet.lean), and the
  seeded rule: each of its two sites alone is harmless, both together hand a header writer's status to the caller.
-/
import SfModel.CloseRet
namespace Sf.C16CloseRet
open Sf.CloseRet

theorem close_returns_fclose_status (c : Calls) : psfClose c = c.fclose := rfl

theorem close_zero_when_descriptor_closes (c : Calls) (h : c.fclose = 0) : psfClose c = 0 := by
  rw [close_returns_fclose_status, h]

-- non-vacuity: hooks that answer non-zero on a descriptor that closes
example : psfClose { codec := some 3, container := some 29, fclose := 0 } = 0 ∧
    psfClose { codec := none, container := some 0, fclose := 9 } = 9 := by decide

/-- site A with every container hook returning 0 (site B not applied) -/
theorem site_a_alone_harmless (codec : Option Int) (f status : Int) :
    psfCloseSeeded { codec := codec, container := some (wavClose false status), fclose := f } =
    psfClose { codec := codec, container := some (wavClose false status), fclose := f } := by
  unfold psfCloseSeeded psfClose wavClose
  by_cases hf : f = 0 <;> simp [hf]

/-- site B under psf_close as written -/
theorem site_b_alone_harmless (codec : Option Int) (f status : Int) :
    psfClose { codec := codec, container := some (wavClose true status), fclose := f } = f := rfl

/-- both sites: the status of the header writer becomes the result of sf_close although the descriptor closed -/
theorem seeded_rule_returns_header_status :
    psfCloseSeeded { codec := none, container := some (wavClose true 29), fclose := 0 } = 29 ∧
    ¬ ∀ c : Calls, c.fclose = 0 → psfCloseSeeded c = 0 := by
  refine ⟨by decide, fun h => ?_⟩
  have := h { codec := none, container := some 29, fclose := 0 } rfl
  revert this
  decide

end Sf.C16CloseRet
