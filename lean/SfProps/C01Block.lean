/-
  C01 (block codecs) — the sample packings of PAF24 and SDS and the XI delta coders lose nothing that the format
  stores; the OKI/VOX step stays in range; VOX write calls report the count they were given, whatever its parity (KF-VOX-ODD,
  repaired; the rule before the repair as `…_old_rule` witnesses).  Helpers: SfProofs/BlockCodecs.lean, BlockVoxCarry.lean, Dpcm.lean.
-/
import SfProofs.BlockCodecs
import SfProofs.BlockVoxCarry
import SfProofs.Dpcm
namespace Sf.C01Block
open Sf Sf.Block Sf.Block.Proofs Sf.VoxCarry

/-! ## PAF24: 24 bits in 3 bytes -/

/-- a sample whose low 8 bits are zero (what a 24-bit file promises to keep) survives pack + unpack; the bytes are
    the ones `paf24_write_block` stores (`paf24_sampleBytes`) -/
theorem paf24_pack_roundtrip (q : Int) (h1 : -8388608 ≤ q) (h2 : q ≤ 8388607) :
    ∃ b0 b1 b2, Paf24.sampleBytes (q * 256) = [b0, b1, b2] ∧ Paf24.unpackSample b0 b1 b2 = q * 256 := by
  refine ⟨_, _, _, paf24_sampleBytes _, ?_⟩
  rw [paf24_sample (q * 256) (by omega) (by omega)]
  omega

/-- any 32-bit value comes back with its low 8 bits cleared -/
theorem paf24_pack_truncates (x : Int) (h1 : -2147483648 ≤ x) (h2 : x ≤ 2147483647) :
    ∃ b0 b1 b2, Paf24.sampleBytes x = [b0, b1, b2] ∧ Paf24.unpackSample b0 b1 b2 = x / 256 * 256 :=
  ⟨_, _, _, paf24_sampleBytes _, paf24_sample x h1 h2⟩

example : Paf24.sampleBytes (-256) = [255, 255, 255] ∧ Paf24.unpackSample 255 255 255 = -256 := by decide

/-! ## SDS: 2, 3, 4 seven-bit bytes keep the top 14, 21, 28 bits -/

theorem sds_pack_roundtrip_2 (x : Int) (h1 : -2147483648 ≤ x) (h2 : x ≤ 2147483647) :
    Sds.decSample (Sds.encSample 2 x) = x / 262144 * 262144 := by
  simpa using sds_sample 2 (by omega) x h1 h2
theorem sds_pack_roundtrip_3 (x : Int) (h1 : -2147483648 ≤ x) (h2 : x ≤ 2147483647) :
    Sds.decSample (Sds.encSample 3 x) = x / 2048 * 2048 := by
  simpa using sds_sample 3 (by omega) x h1 h2
theorem sds_pack_roundtrip_4 (x : Int) (h1 : -2147483648 ≤ x) (h2 : x ≤ 2147483647) :
    Sds.decSample (Sds.encSample 4 x) = x / 16 * 16 := by
  simpa using sds_sample 4 (by omega) x h1 h2

/-- a 16-bit caller sample in a 16-bit SDS file (3 bytes per sample) is exact -/
theorem sds16_short_exact (v : Int) (h1 : -32768 ≤ v) (h2 : v ≤ 32767) :
    asr (Sds.decSample (Sds.encSample 3 (v * 65536))) 16 = v := by
  rw [sds_pack_roundtrip_3 _ (by omega) (by omega)]
  unfold asr
  omega

/-- a 24-bit sample (low 8 bits zero) in a 24-bit SDS file (4 bytes per sample) is exact -/
theorem sds24_exact (q : Int) (h1 : -8388608 ≤ q) (h2 : q ≤ 8388607) :
    Sds.decSample (Sds.encSample 4 (q * 256)) = q * 256 := by
  rw [sds_pack_roundtrip_4 _ (by omega) (by omega)]
  omega

example : Sds.encSample 3 0 = [64, 0, 0] ∧ Sds.decSample [64, 0, 0] = 0 ∧ Sds.decSample (Sds.encSample 3 (-65536)) = -65536 := by decide

/-! ## XI DPCM: undelta ∘ delta = id modulo 2^16 (2^8), wrap-around included -/

theorem dpcm16_pair (last : Int) (xs : List Int) (h : ∀ x ∈ xs, -32768 ≤ x ∧ x ≤ 32767) :
    Dpcm.undelta16 last (Dpcm.delta16 last xs).2 = ((Dpcm.delta16 last xs).1, xs) := by
  rw [undelta16_eq, delta16_eq]
  exact undelta_delta 16 xs last fun x hx => by have := h x hx; exact wrapS_of_range 16 x (by omega) (by omega)

theorem dpcm16_roundtrip (last : Int) (xs : List Int) (h : ∀ x ∈ xs, -32768 ≤ x ∧ x ≤ 32767) :
    (Dpcm.undelta16 last (Dpcm.delta16 last xs).2).2 = xs := by
  rw [dpcm16_pair last xs h]

theorem dpcm8_roundtrip (last : Int) (xs : List Int) (h : ∀ x ∈ xs, -128 ≤ x ∧ x ≤ 127) :
    (Dpcm.undelta8 last (Dpcm.delta8 last xs).2).2 = xs := by
  rw [undelta8_eq, delta8_eq, undelta_delta 8 xs last fun x hx => by have := h x hx; exact wrapS_of_range 8 x (by omega) (by omega)]

/-- encoder and decoder end in the same running value, so the round trip composes over successive calls -/
theorem dpcm16_state_agrees (last : Int) (xs : List Int) (h : ∀ x ∈ xs, -32768 ≤ x ∧ x ≤ 32767) :
    (Dpcm.undelta16 last (Dpcm.delta16 last xs).2).1 = (Dpcm.delta16 last xs).1 := by
  rw [dpcm16_pair last xs h]

/-- wrap-around: the step from 32767 to −32768 is stored as +1 and read back exactly -/
example : (Dpcm.delta16 0 [32767, -32768]).2 = [32767, 1] ∧ (Dpcm.undelta16 0 [32767, 1]).2 = [32767, -32768] := by decide

/-! ## OKI ADPCM: a decode step keeps the step index inside the table and the output inside 16 bits -/

theorem oki_decode_step (st : Oki.St) (code : Nat) :
    (Oki.decode st code).1.idx ≤ 48 ∧ -32768 ≤ (Oki.decode st code).2 ∧ (Oki.decode st code).2 ≤ 32767 ∧
      (Oki.decode st code).1.last = (Oki.decode st code).2 := by
  simp only [Oki.decode, Oki.maxStepIndex]
  refine ⟨?_, ?_, ?_, ?_⟩
  · generalize (st.idx : Int) + Oki.stepChanges.getD (code % 8) 0 = v
    by_cases h0 : v < 0
    · simp [h0]
    · by_cases h1 : v > 48
      · simp [h0, h1]
      · simp only [h0, if_false]; omega
  · split
    · omega
    · split <;> omega
  · split
    · omega
    · split <;> omega
  · trivial

/-- the first codes of the reference vector in ima_oki_adpcm.c (`test_codes` 0x08 0x08 0x04 -> 32 0 32 0 32 320) -/
example : (Oki.decBytes {} [0x08, 0x08, 0x04]).2 = [32, 0, 32, 0, 32, 320] := by decide

/-! ## VOX and odd counts (KF-VOX-ODD, repaired: the odd sample of a call is held for the next call / for close)

  `Oki.writeBlock fuel st held xs n` answers (coder state, held sample, bytes, count) and `Oki.readBlock fuel st held bytes n`
  (coder state, held sample, bytes left, samples, count); the rules before the repair have no held sample.  The first argument is
  the fuel of the 512-sample loop (any value above `n` is enough: `writeBlock_spec`), `n` the number of items of the call. -/

/-- the full statement: a write call reports exactly the number of items it was given — any coder state, any held
    sample, any count (odd or even, longer than the 512-sample pieces or not) -/
theorem vox_write_count (st : Oki.St) (c : Option Int) (xs : List Int) :
    (Oki.writeBlock (xs.length + 1) st c xs xs.length).2.2.2 = xs.length := by
  rw [writeBlock_spec _ st c xs (Nat.lt_succ_self _)]; rfl

/-- non-vacuity: three samples -> one byte, the third sample held, the call reports three; the held sample and one
    more give the second byte -/
example : (Oki.writeBlock 4 {} none [256, 512, 768] 3).2.2.2 = 3 ∧ (Oki.writeBlock 4 {} none [256, 512, 768] 3).2.2.1.length = 1 ∧
    (Oki.writeBlock 4 {} none [256, 512, 768] 3).2.1 = some 768 ∧
    (Oki.writeBlock 2 (Oki.writeBlock 4 {} none [256, 512, 768] 3).1 (some 768) [1024] 1).2.2.1.length = 1 := by decide

/-- the same statement for the rule before the repair -/
def vox_write_count_full_old : Prop :=
  ∀ (st : Oki.St) (xs : List Int), (Oki.writeBlockOld (xs.length + 1) st xs xs.length).2.2 = xs.length

/-- old rule, witness: three samples were stored as two bytes (a zero sample appended) and the call reported four -/
theorem vox_odd_write_pads_old_rule :
    (Oki.writeBlockOld 4 {} [256, 512, 768] 3).2.2 = 4 ∧ (Oki.writeBlockOld 4 {} [256, 512, 768] 3).2.1.length = 2 ∧
      (Oki.writeBlockOld 4 {} [256, 512, 768] 3).2.1 = (Oki.writeBlockOld 5 {} [256, 512, 768, 0] 4).2.1 := by decide

theorem vox_write_count_old_rule_fails : ¬ vox_write_count_full_old := by
  intro h
  have := h {} [256, 512, 768]
  revert this
  decide

/-- old rule: an even number of items was reported exactly (the class of KF-VOX-ODD was exactly the odd counts) -/
theorem vox_write_count_even_old_rule (st : Oki.St) (xs : List Int) (n : Nat) (he : n % 2 = 0) :
    (Oki.writeBlockOld (n + 1) st xs n).2.2 = n := vox_writeBlock_even (n + 1) st xs n he (by omega)

example : (Oki.writeBlockOld 5 {} [256, 512, 768, 1024] 4).2.2 = 4 := by decide

/-- the repair changes nothing for a caller that never uses an odd count: on an even number of samples with nothing
    held, the new rule gives the state, the bytes and the count of the old one and holds nothing -/
theorem vox_even_unchanged (st : Oki.St) (xs : List Int) (he : xs.length % 2 = 0) :
    Oki.writeBlock (xs.length + 1) st none xs xs.length =
      ((Oki.writeBlockOld (xs.length + 1) st xs xs.length).1, none,
       (Oki.writeBlockOld (xs.length + 1) st xs xs.length).2.1, (Oki.writeBlockOld (xs.length + 1) st xs xs.length).2.2) := by
  rw [writeBlock_spec _ st none xs (Nat.lt_succ_self _), writeBlockOld_even _ st xs he (Nat.lt_succ_self _)]
  have h1 : ¬ xs.length % 2 = 1 := by omega
  simp [writeSpec, evenPart, oddLast, h1]

example : Oki.writeBlock 5 {} none [256, 512, 768, 1024] 4 =
    ((Oki.writeBlockOld 5 {} [256, 512, 768, 1024] 4).1, none, (Oki.writeBlockOld 5 {} [256, 512, 768, 1024] 4).2.1, 4) := by decide

/-- old rule, witness on the read side: asked for three items, `vox_read_block` copied four into the caller's buffer
    and reported four -/
theorem vox_odd_read_overcounts_old_rule :
    (Oki.readBlockOld 4 {} [0x12, 0x34, 0x56] 3).2.2.1.length = 4 ∧ (Oki.readBlockOld 4 {} [0x12, 0x34, 0x56] 3).2.2.2 = 4 := by decide

/-- the same request under the repaired rule: three items copied and reported, the fourth sample held -/
theorem vox_odd_read_exact :
    (Oki.readBlock 4 {} none [0x12, 0x34, 0x56] 3).2.2.2.1.length = 3 ∧ (Oki.readBlock 4 {} none [0x12, 0x34, 0x56] 3).2.2.2.2 = 3 ∧
      (Oki.readBlock 4 {} none [0x12, 0x34, 0x56] 3).2.1 = (Oki.readBlockOld 4 {} [0x12, 0x34, 0x56] 3).2.2.1.getLast? := by decide

end Sf.C01Block
