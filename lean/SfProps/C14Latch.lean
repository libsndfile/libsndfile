/-
  C14 / C15 — the seek latch (psf->file.seek_failed) on the three routes: `Sf.RoutesLatch` over `Sf.Routes`.
  -- properties: C14 C15

  psf_fseek returns and does what `Sf.Routes.fseek` does on every route; only the flag is added (`fseekL_obs`).  With the flag set
  psf_fwrite transfers nothing and touches neither the file, the store nor the shim — the SAME answer on the descriptor, path, pipe
  and callback routes (`fwriteL_latched`).  A run in which the flag is never set is observation for observation, state for state, a
  run of `Sf.Routes` (`runL_eq_run_of_clear`): every C14 theorem about `Sf.Routes.run` (routes_equivalent, …) is a theorem about the
  repaired code on such runs; the runs it does not cover are exactly those with a failed seek followed by further operations, where
  the only difference is `fwriteL_latched`.
-/
import SfModel.RoutesLatch
namespace Sf.C14Latch
open Sf Sf.Routes Sf.RoutesLatch

theorem fseekL_obs (ls : LShim) (w : World) (off : Int) (wh : Nat) : (fseekL ls w off wh).r = fseek ls.sh w off wh := by
  unfold fseekL; simp only []; (repeat' split) <;> rfl

theorem fseekL_vio_latch (ls : LShim) (w : World) (off : Int) (wh : Nat) (hv : ls.sh.virtualIo = true) :
    (fseekL ls w off wh).seekFailed = decide ((fseek ls.sh w off wh).ret < 0) := by
  unfold fseekL; simp [hv]

theorem fseekL_pipe_keeps (ls : LShim) (w : World) (off : Int) (wh : Nat) (hv : ls.sh.virtualIo = false) (hp : ls.sh.isPipe = true) :
    (fseekL ls w off wh).seekFailed = ls.seekFailed := by
  unfold fseekL; simp [hv, hp]

theorem fseekL_bad_whence_keeps (ls : LShim) (w : World) (off : Int) (wh : Nat) (hv : ls.sh.virtualIo = false) (hwh : 2 < wh) :
    (fseekL ls w off wh).seekFailed = ls.seekFailed := by
  unfold fseekL; simp only [hv, Bool.false_eq_true, if_false]
  split
  · rfl
  · simp

/-- descriptor route: the flag is the sign of lseek's own result -/
theorem fseekL_fd_latch (ls : LShim) (w : World) (off : Int) (wh : Nat) (hv : ls.sh.virtualIo = false) (hp : ls.sh.isPipe = false)
    (hwh : ¬ 2 < wh) :
    (fseekL ls w off wh).seekFailed = decide ((lseek w ls.sh.filedes (if wh = 0 then off + ls.sh.fileoffset else off) wh).1 < 0) := by
  unfold fseekL fseek
  simp only [hv, hp, hwh, Bool.false_eq_true, if_false]
  congr 1
  apply propext
  constructor <;> intro h <;> omega

/-- FULL STATEMENT, every route: while the flag is set psf_fwrite transfers nothing, returns 0 and leaves the operating-system file, the
    callback store and the shim exactly as they were -/
theorem fwriteL_latched (ls : LShim) (w : World) (b i : Int) (d : List Byte) (hl : ls.seekFailed = true) :
    (fwriteL ls w b i d).r.ret = 0 ∧ (fwriteL ls w b i d).r.w = w ∧ (fwriteL ls w b i d).r.sh = ls.sh ∧
    (fwriteL ls w b i d).seekFailed = true := by
  unfold fwriteL
  by_cases hz : b = 0 ∨ i = 0
  · simp only [hz, if_true, fwrite, hl]; exact ⟨trivial, trivial, trivial, trivial⟩
  · simp only [hz, if_false, hl, if_true]; exact ⟨trivial, trivial, trivial, trivial⟩

theorem fwriteL_clear (ls : LShim) (w : World) (b i : Int) (d : List Byte) (hl : ls.seekFailed = false) :
    (fwriteL ls w b i d).r = fwrite ls.sh w b i d ∧ (fwriteL ls w b i d).seekFailed = false := by
  unfold fwriteL
  by_cases hz : b = 0 ∨ i = 0
  · simp only [hz, if_true, hl]; exact ⟨trivial, trivial⟩
  · simp only [hz, if_false, hl, Bool.false_eq_true]; exact ⟨trivial, trivial⟩

theorem stepL_clear (ls : LShim) (w : World) (op : Op) (hl : ls.seekFailed = false) : (stepL ls w op).r = step ls.sh w op := by
  cases op with
  | seek off wh => exact fseekL_obs ls w off wh
  | write b i d => exact (fwriteL_clear ls w b i d hl).1
  | read b i => rfl
  | tell => rfl
  | filelen => rfl
  | truncate n => rfl

/-- the flag is clear before every operation of the run (and after the last) -/
def clearRun : LShim → World → List Op → Bool
  | ls, _, [] => !ls.seekFailed
  | ls, w, op :: ops => !ls.seekFailed && clearRun (stepL ls w op).ls (stepL ls w op).r.w ops

/-- a run in which no psf_fseek fails is a run of `Sf.Routes`: same observations, same final shim, same final world -/
theorem runL_eq_run_of_clear : ∀ (ops : List Op) (ls : LShim) (w : World), clearRun ls w ops = true →
    (runL ls w ops).1 = (run ls.sh w ops).1 ∧ (runL ls w ops).2.1.sh = (run ls.sh w ops).2.1 ∧ (runL ls w ops).2.2 = (run ls.sh w ops).2.2 := by
  intro ops
  induction ops with
  | nil => intro ls w _; exact ⟨rfl, rfl, rfl⟩
  | cons op ops ih =>
    intro ls w hc
    simp only [clearRun, Bool.and_eq_true, Bool.not_eq_true'] at hc
    have hs := stepL_clear ls w op hc.1
    have := ih (stepL ls w op).ls (stepL ls w op).r.w hc.2
    simp only [runL, run]
    have hsh : (stepL ls w op).ls.sh = (step ls.sh w op).sh := by simp [LR.ls, hs]
    rw [hsh, hs] at this
    rw [hs]
    exact ⟨by rw [this.1], this.2.1, this.2.2⟩

/-! non-vacuity: a callback-route shim whose seek to −5 fails, then a write of four bytes: refused, the store unchanged; the same
    schedule without the failing seek writes -/
def wShim : LShim := { sh := openVio .rw }
def wWorld : World := { mem := [1, 2, 3, 4, 5, 6], mpos := 2 }

example : (fseekL wShim wWorld (-5) 0).seekFailed = true := by decide
example : (runL wShim wWorld [.seek (-5) 0, .write 1 4 [9, 9, 9, 9], .tell]).1 = [(-1, []), (0, []), (2, [])] := by decide
example : (runL wShim wWorld [.seek (-5) 0, .write 1 4 [9, 9, 9, 9]]).2.2.mem = [1, 2, 3, 4, 5, 6] := by decide
example : (run wShim.sh wWorld [.seek (-5) 0, .write 1 4 [9, 9, 9, 9]]).2.2.mem = [1, 2, 9, 9, 9, 9] := by decide   -- the rule before the repair
example : clearRun wShim wWorld [.seek 1 0, .write 1 2 [9, 9], .tell] = true := by decide
example : (runL wShim wWorld [.seek 1 0, .write 1 2 [9, 9], .tell]).1 = (run wShim.sh wWorld [.seek 1 0, .write 1 2 [9, 9], .tell]).1 :=
  (runL_eq_run_of_clear _ _ _ (by decide)).1
example : (fwriteL { wShim with seekFailed := true } wWorld 1 4 [9, 9, 9, 9]).r.w = wWorld :=
  (fwriteL_latched _ _ _ _ _ rfl).2.1

end Sf.C14Latch
