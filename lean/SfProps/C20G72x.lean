-- properties: C05
/-
  C20 for G.721 / G.723 (CCITT G.721 / G.723, today ITU-T G.726) — the model SfModel/G72x.lean is a transcription of the
  Sun Microsystems reference code libsndfile ships in src/G72x, which itself follows the block diagram of the
  Recommendation.  Names of the Recommendation's blocks next to the Lean definitions:

      Recommendation block                         C (src/G72x)                    Lean (Sf.G72x)
      ------------------------------------------   -----------------------------   --------------------------------
      FMULT  (floating multiply a_i·sr, b_i·dq)    fmult                           fmult
      ACCUM  (SEZI, SEI -> SEZ, SE)                predictor_zero / _pole + >> 1   predictorZero, predictorPole, `se`/`sez` in encode / decode
      EXPAND + SUBTA (D = SL − SE)                 sl >>= 2 ; d = sl − se          encode: `shr sample 2`, `d`
      LOG, SUBTB (DLN = DL − Y>>2)                 quantize (first half)           quantize: `expon`, `mant`, `dl`, `dln`
      QUAN   (decision levels)                     quan (dln, qtab_*)              quan dln r.qtab
      RECONST (DQLN), ADDA, ANTILOG                _dqlntab [i], reconstruct       tabAt r.dqlntab, reconstruct
      ADDB   (SR = SE + DQ)                        sr = …                          finish: `sr`
      ADDC   (DQSEZ, PK0, SIGPK)                   dqsez, pk0                      finish: `dqsez`, update: `pk0`
      FUNCTW, FILTD, LIMB, DELAY (YU)              _witab, update: yu              tabAt r.witab, updYu (LIMB = the clamp to [544, 5120])
      FILTE  (YL)                                  update: yl                      update: `yl`
      MIX, LIMA (AL = min (AP >> 2, 64))           step_size                       stepSize (`ap ≥ 256` is LIMA)
      FUNCTF, FILTA (DMS), FILTB (DML)             _fitab, update: dms, dml        tabAt r.fitab, update: `dms`, `dml`
      SUBTC, FILTC, TRIGA (AP)                     update: ap                      updAp
      TRANS  (TR)                                  update: tr                      trans
      TONE   (TD: A2 < −0.71875)                   update: td = a2p < −11776       update: `td`
      UPA2, LIMC (|A2| ≤ 0.75)                     update: a2p                     updA2 (LIMC = the ±12288 clamps)
      UPA1, LIMD (|A1| ≤ 1 − 2^−4 − A2)            update: a [0]                   updA1 (LIMD = the ±(15360 − a2p) clamp)
      UPB, XOR (six B_i, leak 2^−8 / 2^−9)         update: b [cnt]                 updB, updBs
      TRIGB  (reset on TR)                         update: if (tr) …               update: `if tr then 0 …`
      FLOATA, FLOATB (11-bit floating DQ, SR)      update: dq [0], sr [0]          floatA, floatB

  Spec-level facts the Recommendation states, proved on the transcription (tables tied to the tree under test by
  `g72x_tables_extracted`, restated here for C20): decision levels strictly increasing, DQLN / W / F tables even in the sign bit,
  every reconstruction level inside its own decision cell (hence "reconstruct ∘ quantize within one step"), LIMB, LIMC, LIMD and
  the range of AP (LIMA's input; LIMA itself, AL = min (AP >> 2, 64), is not stated) as numbers in every reachable state, and the
  comparison `a2p ≥ 12416` of LIMC dead code under LIMD.
  Encoder / decoder tracking is in SfProps/C20G72xTrack.lean.
-/
import SfProps.C05G72x
namespace Sf.C20G72x
open Sf Sf.G72x Sf.G72x.Proofs

/-- the decision levels and reconstruction levels (`qtab`, `dqlntab`) of G.721, G.723-24 and G.723-40 in the model are those of the
    tree under test: six of the conjuncts of `g72x_tables_extracted`, which also has `witab`, `fitab`, G.723-16, `power2` and the
    block geometry -/
theorem g72x_published_tables :
    g721.qtab = Generated.G72x.g721_qtab ∧ g721.dqlntab = Generated.G72x.g721_dqlntab ∧
    g723_24.qtab = Generated.G72x.g723_24_qtab ∧ g723_24.dqlntab = Generated.G72x.g723_24_dqlntab ∧
    g723_40.qtab = Generated.G72x.g723_40_qtab ∧ g723_40.dqlntab = Generated.G72x.g723_40_dqlntab := by
  obtain ⟨q21, dq21, _, _, _, _, _, _, q24, dq24, _, _, q40, dq40, _⟩ := C05G72x.g72x_tables_extracted
  exact ⟨q21, dq21, q24, dq24, q40, dq40⟩

def strictlyIncreasing : List Int → Bool
  | a :: b :: rest => decide (a < b) && strictlyIncreasing (b :: rest)
  | _ => true

/-- decision levels strictly increasing -/
theorem g72x_quantizer_monotone :
    strictlyIncreasing g721.qtab = true ∧ strictlyIncreasing g723_16.qtab = true ∧
    strictlyIncreasing g723_24.qtab = true ∧ strictlyIncreasing g723_40.qtab = true := by decide

/-- the sign-symmetric layout of the three per-code tables: entry i equals entry 2^bits − 1 − i -/
def symmetric (t : List Int) : Bool := t == t.reverse

theorem g72x_tables_symmetric :
    (symmetric g721.dqlntab && symmetric g721.witab && symmetric g721.fitab &&
     symmetric g723_16.dqlntab && symmetric g723_16.witab && symmetric g723_16.fitab &&
     symmetric g723_24.dqlntab && symmetric g723_24.witab && symmetric g723_24.fitab &&
     symmetric g723_40.dqlntab && symmetric g723_40.witab && symmetric g723_40.fitab) = true := by decide

/-- cell i (1 ≤ i ≤ size) of a decision table: `[qtab [i − 1], qtab [i])`, open above for the last -/
def inCell (qtab : List Int) (i : Nat) (v : Int) : Bool :=
  decide (1 ≤ i) && decide (qtab.getD (i - 1) 0 ≤ v) && (decide (i ≥ qtab.length) || decide (v < qtab.getD i 0))

/-- the reconstruction level of every magnitude code i ≥ 1 lies inside decision cell i; code 0 (G.721, G.723 24 / 40:
    "below the first level") reconstructs to −2048 = the most negative DQLN -/
def reconInCells (r : Rate) : Bool :=
  (List.range r.qtab.length).all fun k => inCell r.qtab (k + 1) (r.dqlntab.getD (k + 1) 0)

theorem g72x_reconstruction_in_cell :
    reconInCells g721 = true ∧ reconInCells g723_24 = true ∧ reconInCells g723_40 = true ∧
    g721.dqlntab.getD 0 0 = -2048 ∧ g723_24.dqlntab.getD 0 0 = -2048 ∧ g723_40.dqlntab.getD 0 0 = -2048 := by decide +kernel

/-- G.723 16 kbit/s has one decision level (261) and the two levels 116 / 365 around it -/
theorem g723_16_levels : g723_16.dqlntab.getD 0 0 < g723_16.qtab.getD 0 0 ∧ g723_16.qtab.getD 0 0 ≤ g723_16.dqlntab.getD 1 0 := by decide

/-- QUAN: `quan v t = i` is the number of leading entries ≤ v; for a strictly increasing table that is the cell of v -/
theorem quan_cell (v : Int) : ∀ (t : List Int), strictlyIncreasing t = true →
    (∀ k : Nat, (k : Int) < quan v t → t.getD k 0 ≤ v) ∧ (quan v t < t.length → v < t.getD (quan v t).toNat 0) := by
  intro t
  induction t with
  | nil => intro _; simp [quan]
  | cons a rest ih =>
    intro hs
    have hs' : strictlyIncreasing rest = true := by
      cases rest with
      | nil => rfl
      | cons b r => simp only [strictlyIncreasing, Bool.and_eq_true] at hs; exact hs.2
    obtain ⟨ih1, ih2⟩ := ih hs'
    have hq := quan_bounds v rest
    by_cases hv : v < a
    · simp only [quan, hv, if_true]
      exact ⟨fun k hk => by omega, fun _ => by simpa using hv⟩
    · simp only [quan, hv, if_false]
      constructor
      · intro k hk
        cases k with
        | zero => simp only [List.getD_cons_zero]; omega
        | succ k => simp only [List.getD_cons_succ]; exact ih1 k (by omega)
      · intro hl
        have hl' : quan v rest < rest.length := by simp only [List.length_cons] at hl; omega
        have := ih2 hl'
        have e : (1 + quan v rest).toNat = (quan v rest).toNat + 1 := by omega
        rw [e, List.getD_cons_succ]
        exact this

theorem quan_then_recon (r : Rate) (hmono : strictlyIncreasing r.qtab = true) (hall : reconInCells r = true) (dln : Int)
    (hpos : 1 ≤ quan dln r.qtab) :
    inCell r.qtab (quan dln r.qtab).toNat dln = true ∧
    inCell r.qtab (quan dln r.qtab).toNat (r.dqlntab.getD (quan dln r.qtab).toNat 0) = true := by
  obtain ⟨c1, c2⟩ := quan_cell dln r.qtab hmono
  have hb := quan_bounds dln r.qtab
  generalize hi : quan dln r.qtab = i at *
  obtain ⟨n, rfl⟩ : ∃ n : Nat, i = (n : Int) := ⟨i.toNat, by omega⟩
  simp only [Int.toNat_natCast]
  have hn1 : 1 ≤ n := by omega
  have hn2 : n ≤ r.qtab.length := by omega
  constructor
  · unfold inCell
    have ha := c1 (n - 1) (by omega)
    simp only [Bool.and_eq_true, Bool.or_eq_true, decide_eq_true_eq]
    by_cases hlt : n < r.qtab.length
    · have hb' := c2 (by omega)
      simp only [Int.toNat_natCast] at hb'
      exact ⟨⟨hn1, ha⟩, Or.inr hb'⟩
    · exact ⟨⟨hn1, ha⟩, Or.inl (Nat.le_of_not_lt hlt)⟩
  · unfold reconInCells at hall
    rw [List.all_eq_true] at hall
    have := hall (n - 1) (List.mem_range.mpr (by omega))
    have e : n - 1 + 1 = n := by omega
    rw [e] at this
    exact this

theorem quan_pos (v : Int) (t : List Int) (hne : t ≠ []) (h1 : t.getD 0 0 ≤ v) : 1 ≤ quan v t := by
  match t, hne with
  | a :: rest, _ =>
    simp only [List.getD_cons_zero] at h1
    have : ¬ v < a := by omega
    simp only [quan, this, if_false]
    have := (quan_bounds v rest).1
    omega

/-- **reconstruct ∘ quantize within one step** (log domain): for a non-negative difference whose normalised log DLN
    reaches the first decision level, the code QUAN picks and the reconstruction level RECONST reads for that code lie
    in the same decision cell — |DQLN − DLN| is less than the cell width, except in the last cell, which `inCell` leaves open
    above -/
theorem g72x_quantize_then_reconstruct (r : Rate) (hr : r = g721 ∨ r = g723_24 ∨ r = g723_40) (dln : Int)
    (h1 : r.qtab.getD 0 0 ≤ dln) :
    inCell r.qtab (quan dln r.qtab).toNat dln = true ∧
    inCell r.qtab (quan dln r.qtab).toNat (r.dqlntab.getD (quan dln r.qtab).toNat 0) = true := by
  rcases hr with rfl | rfl | rfl
  · exact quan_then_recon _ g72x_quantizer_monotone.1 g72x_reconstruction_in_cell.1 dln (quan_pos dln _ (by decide) h1)
  · exact quan_then_recon _ g72x_quantizer_monotone.2.2.1 g72x_reconstruction_in_cell.2.1 dln (quan_pos dln _ (by decide) h1)
  · exact quan_then_recon _ g72x_quantizer_monotone.2.2.2 g72x_reconstruction_in_cell.2.2.1 dln (quan_pos dln _ (by decide) h1)

example : inCell g721.qtab (quan 250 g721.qtab).toNat 250 = true ∧ quan 250 g721.qtab = 4 ∧ g721.dqlntab.getD 4 0 = 273 := by decide

/-- LIMC, LIMD, LIMB, the range of AP (LIMA's input), in every state reachable by any mix of encoder and decoder steps:
    |A2| ≤ 0.75 (12288 / 2^14), |A1| ≤ 1 − 2^−4 − A2 (15360 / 2^14), 1.06 ≤ YU ≤ 10.00 (544 … 5120 / 2^9), 0 ≤ AP ≤ 2 (512 / 2^8) -/
theorem g72x_predictor_limits (r : Rate) (st : St) (h : C05G72x.Reachable r st) :
    (-12288 ≤ st.a1 ∧ st.a1 ≤ 12288) ∧ (-(15360 - st.a1) ≤ st.a0 ∧ st.a0 ≤ 15360 - st.a1) ∧
    (544 ≤ st.yu ∧ st.yu ≤ 5120) ∧ (0 ≤ st.ap ∧ st.ap ≤ 512) := by
  have inv := C05G72x.g72x_state_inv r st h
  exact ⟨⟨inv.a.1, inv.a.2.1⟩, ⟨inv.a.2.2.1, inv.a.2.2.2⟩, inv.yu, inv.ap⟩

/-- UPA2 without the upper comparison of LIMC's sign-change branch (`a2p >= 12416`) -/
def updA2NoUpper (st : St) (pk0 : Bool) (dqsez : Int) : Int :=
  let pks1 := pk0 != st.pk0
  let a2p0 := s16 (st.a1 - shr st.a1 7)
  if dqsez ≠ 0 then
    let fa1 := s16 (if pks1 then st.a0 else -st.a0)
    let a2p1 := s16 (if fa1 < -8191 then a2p0 - 0x100 else if fa1 > 8191 then a2p0 + 0xFF else a2p0 + shr fa1 5)
    if pk0 != st.pk1 then
      (if a2p1 ≤ -12160 then -12288 else s16 (a2p1 - 0x80))
    else if a2p1 ≤ -12416 then -12288
    else if a2p1 ≥ 12160 then 12288
    else s16 (a2p1 + 0x80)
  else a2p0

/-- the value LIMC looks at stays below 12416 whenever LIMC / LIMD held before (|a1| ≤ 12288, |a0| ≤ 15360 − a1) -/
theorem a2p_before_limc (a1 a0 : Int) (h : -12288 ≤ a1 ∧ a1 ≤ 12288 ∧ -(15360 - a1) ≤ a0 ∧ a0 ≤ 15360 - a1) (neg : Bool) :
    s16 (if s16 (if neg then a0 else -a0) < -8191 then s16 (a1 - shr a1 7) - 0x100
      else if s16 (if neg then a0 else -a0) > 8191 then s16 (a1 - shr a1 7) + 0xFF
      else s16 (a1 - shr a1 7) + shr (s16 (if neg then a0 else -a0)) 5) < 12416 := by
  have e0 : s16 (a1 - shr a1 7) = a1 - a1 / 128 := by rw [shr7]; exact s16_id _ (by omega) (by omega)
  -- ±a0, bounded by LIMD: where it is beyond ±8191, a1 is small
  have hf : -(15360 - a1) ≤ (if neg then a0 else -a0) ∧ (if neg then a0 else -a0) ≤ 15360 - a1 := by
    cases neg
    · simp only [Bool.false_eq_true, if_false]; omega
    · simp only [if_true]; omega
  generalize (if neg then a0 else -a0) = f at hf
  rw [e0, s16_id f (by omega) (by omega), shr5]
  generalize hx : (if f < -8191 then _ else _) = x
  have hr : -32768 ≤ x ∧ x < 12416 := by
    rw [← hx]
    split
    · omega
    · split
      · omega
      · omega
  rw [s16_id x hr.1 (by omega)]
  exact hr.2

/-- **deadness of the LIMC upper comparison**: in every state satisfying the invariant (so: every reachable state),
    UPA2 equals UPA2 with the comparison `a2p ≥ 12416` removed -/
theorem g72x_limc_upper_dead (st : St) (h : Inv st) (pk0 : Bool) (dqsez : Int) :
    updA2 st pk0 dqsez = updA2NoUpper st pk0 dqsez := by
  unfold updA2 updA2NoUpper
  extract_lets pks1 a2p0 fa1 a2p1
  have hb : ¬ a2p1 ≥ 12416 := Int.not_le.2 (a2p_before_limc st.a1 st.a0 h.a (pk0 != st.pk0))
  rw [if_neg hb]

/-- non-vacuity: the initial state satisfies the invariant, and at the corner a1 = 12288, a0 = 3072 the value LIMC sees
    is 12288 — the bound is nearly attained -/
example : Inv St.init ∧ updA2 { St.init with a1 := 12288, a0 := 3072, pk0 := true, pk1 := true } false 5 = 12160 := ⟨init_inv_st, by decide⟩

end Sf.C20G72x
