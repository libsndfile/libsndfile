/-
-- properties: C06 C15
  C06 / C15 (CAF/ALAC) — the copy loop of `alac_read_*`, `alac_decode_block` and `alac_seek` for EVERY codec core and EVERY
  I/O oracle (the function that says which bytes a read at a data offset delivers — short, empty or wrong answers
  included):
  * a read delivers what is left of the decoded packet first: inside the current packet the items are the slice of the
    packet at the position, whatever the call size, and two calls deliver what one call delivers (C06);
  * a successful seek to frame k leaves the reader in packet k / 4096 at frame k % 4096 of it, and the next read
    delivers that packet's frames from there (C06);
  * the loops are total functions (structural recursion on a fuel that is an upper bound of the iterations, `readFuel`):
    a read call never delivers more than it was asked for, consumes at most one table entry per packet decoded and
    never moves the table position backwards, whatever the I/O oracle answers (C15: returns within bounded time, count in
    range).
  Model: SfModel/AlacFile.lean.
-/
import SfModel.AlacFile
namespace Sf.C06Alac
open Sf Sf.Alac

variable {σ α : Type}

/-- `alac_decode_block` consumes at most one table entry and never moves backwards, for every I/O answer -/
theorem decodeBlock_cur (cd : Codec σ α) (io : Alac.IO) (r : R α) :
    r.cur ≤ (decodeBlock cd io r).1.cur ∧ (decodeBlock cd io r).1.cur ≤ r.cur + 1 := by
  unfold decodeBlock
  split
  · simp
  · simp only
    split
    · simp
    · split
      · simp
      · split <;> simp

/-- a failing `alac_decode_block` at the end of the table changes nothing (so the next call fails the same way) -/
theorem decodeBlock_exhausted (cd : Codec σ α) (io : Alac.IO) (r : R α) (h : r.cur ≥ r.sizes.length) :
    decodeBlock cd io r = (r, false) := by
  unfold decodeBlock; rw [if_pos h]

/-- a successful `alac_decode_block` read the packet of the current table entry, decoded it and stands at its first frame -/
theorem decodeBlock_true (cd : Codec σ α) (io : Alac.IO) (r : R α) (h : (decodeBlock cd io r).2 = true) :
    decodeBlock cd io r =
      ({ r with cur := r.cur + 1, inPos := r.inPos + r.sizes.getD r.cur 0, block := cd.dec (io r.inPos (r.sizes.getD r.cur 0)),
                ftb := (cd.dec (io r.inPos (r.sizes.getD r.cur 0))).length, part := 0 }, true) := by
  unfold decodeBlock at h ⊢
  by_cases hc : r.cur ≥ r.sizes.length
  · rw [if_pos hc] at h; cases h
  rw [if_neg hc] at h ⊢
  simp only [] at h ⊢
  by_cases h0 : r.sizes.getD r.cur 0 = 0
  · rw [if_pos h0] at h; cases h
  rw [if_neg h0] at h ⊢
  by_cases h1 : r.sizes.getD r.cur 0 > maxPacket
  · rw [if_pos h1] at h; cases h
  rw [if_neg h1] at h ⊢
  by_cases h2 : (io r.inPos (r.sizes.getD r.cur 0)).length ≠ r.sizes.getD r.cur 0
  · rw [if_pos h2] at h; cases h
  rw [if_neg h2]

theorem decodeBlock_ok (cd : Codec σ α) (io : Alac.IO) (r : R α) (h : (decodeBlock cd io r).2 = true) :
    (decodeBlock cd io r).1.part = 0 ∧ (decodeBlock cd io r).1.ftb = (decodeBlock cd io r).1.block.length ∧
    (decodeBlock cd io r).1.block = cd.dec (io r.inPos (r.sizes.getD r.cur 0)) := by
  rw [decodeBlock_true cd io r h]
  exact ⟨rfl, rfl, rfl⟩

/-- C15: a read never delivers more frames than asked, for every codec, every I/O oracle, every state, every fuel -/
theorem readLoop_le (cd : Codec σ α) (io : Alac.IO) : ∀ (fuel : Nat) (r : R α) (len : Nat),
    (readLoop cd io fuel r len).2.length ≤ len := by
  intro fuel
  induction fuel with
  | zero => intro r len; simp [readLoop]
  | succ fuel ih =>
    intro r len
    rw [readLoop]
    split
    · simp
    · split
      rename_i r1 ok hd
      split
      · simp
      · simp only [List.length_append, List.length_take, List.length_drop]
        have := ih { r1 with part := r1.part + min (r1.ftb - r1.part) len } (len - min (r1.ftb - r1.part) len)
        omega

/-- C15: the table position only moves forward during a read, by at most one entry per iteration -/
theorem readLoop_cur (cd : Codec σ α) (io : Alac.IO) : ∀ (fuel : Nat) (r : R α) (len : Nat),
    r.cur ≤ (readLoop cd io fuel r len).1.cur ∧ (readLoop cd io fuel r len).1.cur ≤ r.cur + fuel := by
  intro fuel
  induction fuel with
  | zero => intro r len; simp [readLoop]
  | succ fuel ih =>
    intro r len
    rw [readLoop]
    split
    · simp
    · split
      rename_i r1 ok hd
      have hr1 : r.cur ≤ r1.cur ∧ r1.cur ≤ r.cur + 1 := by
        split at hd
        · have := decodeBlock_cur cd io r
          rw [hd] at this; exact this
        · cases hd; simp
      split
      · simp only; omega
      · have := ih { r1 with part := r1.part + min (r1.ftb - r1.part) len } (len - min (r1.ftb - r1.part) len)
        simp only at this ⊢
        omega

/-- C06: inside the current packet a read is a slice of the packet at the position: no decode, no I/O -/
theorem readLoop_within (cd : Codec σ α) (io : Alac.IO) (fuel : Nat) (r : R α) (len : Nat)
    (hl : 0 < len) (hp : r.part + len ≤ r.ftb) :
    readLoop cd io (fuel + 2) r len = ({ r with part := r.part + len }, (r.block.drop r.part).take len) := by
  rw [readLoop]
  rw [if_neg (by omega), if_neg (by omega)]
  simp only [Bool.not_true, Bool.false_eq_true, if_false]
  have hm : min (r.ftb - r.part) len = len := by omega
  rw [hm, Nat.sub_self, readLoop]
  simp

/-- C06, partition inside a packet: two reads deliver what one read of the sum delivers, and leave the same state -/
theorem read_partition_within (cd : Codec σ α) (io : Alac.IO) (r : R α) (a b : Nat)
    (ha : 0 < a) (hb : 0 < b) (hp : r.part + (a + b) ≤ r.ftb) (hblk : r.ftb = r.block.length) :
    let one := readLoop cd io 2 r (a + b)
    let r1 := readLoop cd io 2 r a
    let r2 := readLoop cd io 2 r1.1 b
    r2.1 = one.1 ∧ r1.2 ++ r2.2 = one.2 := by
  intro one r1 r2
  have h1 : r1 = ({ r with part := r.part + a }, (r.block.drop r.part).take a) :=
    readLoop_within cd io 0 r a ha (by omega)
  have h2 : r2 = ({ r with part := r.part + a + b }, (r.block.drop (r.part + a)).take b) := by
    show readLoop cd io 2 r1.1 b = _
    rw [h1]
    exact readLoop_within cd io 0 _ b hb (by simp only; omega)
  have h3 : one = ({ r with part := r.part + (a + b) }, (r.block.drop r.part).take (a + b)) :=
    readLoop_within cd io 0 r (a + b) (by omega) hp
  rw [h1, h2, h3]
  refine ⟨by simp [Nat.add_assoc], ?_⟩
  simp only
  rw [List.take_add, List.drop_drop]

/-- C06, seek: a seek to frame k > 0 inside the table that finds its packet leaves the reader in packet k / 4096, at frame
    k % 4096 of the freshly decoded packet -/
theorem seekR_lands (cd : Codec σ α) (io : Alac.IO) (r : R α) (k : Nat) (hk : 0 < k) (hin : k ≤ r.sizes.length * fpb)
    (hok : (decodeBlock cd io { r with inPos := blockOffset r.sizes (k / fpb), cur := k / fpb }).2 = true) :
    ∃ r1, seekR cd io r k = some r1 ∧ r1.part = k % fpb ∧ r1.cur = k / fpb + 1 ∧
      r1.block = cd.dec (io (blockOffset r.sizes (k / fpb)) (r.sizes.getD (k / fpb) 0)) ∧ r1.ftb = r1.block.length := by
  unfold seekR
  rw [if_neg (by omega), if_neg (by omega)]
  refine ⟨_, rfl, rfl, ?_, ?_, ?_⟩
  · rw [decodeBlock_true cd io _ hok]
  · exact (decodeBlock_ok cd io _ hok).2.2
  · exact (decodeBlock_ok cd io _ hok).2.1

/-- C06: a rewind (seek to frame 0) forces the next read to decode the first packet again from data offset 0 -/
theorem seekR_zero (cd : Codec σ α) (io : Alac.IO) (r : R α) :
    seekR cd io r 0 = some { r with ftb := 0, inPos := 0, cur := 0 } := by
  unfold seekR; simp

/-- non-vacuity: two packets of three and two frames behind a byte-per-frame codec; reads of 2 + 2 cross the packet boundary, a
    read of 9 delivers the five frames there are, and `alac_decode_block` fails on an I/O oracle that delivers nothing -/
example :
    let cd : Codec Unit Nat := { init := (), enc := fun _ st => ((), st), dec := fun p => p }
    let io := fileIO [10, 11, 12, 20, 21]
    let r0 : R Nat := { sizes := [3, 2] }
    (readCall cd io r0 2).2 = [10, 11] ∧
    (readCall cd io (readCall cd io r0 2).1 2).2 = [12, 20] ∧
    (readCall cd io r0 9).2 = [10, 11, 12, 20, 21] ∧
    (decodeBlock cd (fun _ _ => []) r0).2 = false := by
  refine ⟨?_, ?_, ?_, ?_⟩ <;> decide

end Sf.C06Alac
