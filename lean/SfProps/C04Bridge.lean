/-
  C01 / C04 / C07 / C11 — THE WRITE-SIDE BRIDGE for the stand-alone container models: the record the all-format write
  campaign would write down of ANY job on a container, if the library behaved like that container's model, is accepted by
  the write-side predicate `Sf.AbsWrite.judge` (what `sfmodel abs-write` evaluates on the implementation's records).

  -- properties: C01 C04 C07 C11

  `small_pred_good` (SfProofs/AbsWriteBridgeSmallRun.lean) over `Cont` / `Laws`, instantiated per container through
  `small2_facts`: a container whose parser returns the configuration on the writer's images (`<x>_snapshot_valid`) is lawful;
  a container of the `Sf.Small` machine (AVR, and PAF / IRCAM / SVX in C04Bridge2) is the `small2Cont` of its `Spec.fmt`
  (`small1Cont_eq`).  The hypotheses of each `<x>_session_accepted` are the container's
  guards and the complement of its known-finding classes, asked of the job, of the reference run and of every prefix (crash image).
-/
import SfProofs.AbsWriteBridgeSmall1
import SfProofs.AbsWriteBridgeSmallRun
import SfProofs.AbsWriteRateExact
import SfProps.C04Geometry
import SfProps.C04Wve
import SfProps.C04Mat4
import SfProps.C04Mpc2k
import SfProps.C04Htk
import SfProps.C04Pvf
import SfProps.C04Avr
import SfProofs.AbsWriteRate
namespace Sf.C04Bridge
open Sf Sf.AbsWrite Sf.AbsWriteBridge
open Sf.AbsWriteBridge.Small (Cont Laws Valid small2Cont laws_of_small2 small2_machine_facts small_pred_good)

theorem cont_session_accepted (K : Cont) (G : List Small2.WOp → Prop) (L : Laws K G) (ty : Ty) (stale stale' : Nat)
    (ops : List Small.Op) (hv : Valid K.g.ch ty ops) (hGref : G (Small.toW K ty false (Small.refOps ops)))
    (hG : ∀ p post, ops = p ++ post → G (Small.toW K ty false p)) :
    accepted (Small.recordOf K ty stale stale' ops) = true :=
  Pred.accepted_of_good _ (small_pred_good K G L ty stale stale' ops hv hGref hG)

/-- the guard `G` of a container: whole frames of audio, and a predicate `P` on the audio byte count -/
def guardOf (bw : Nat) (P : Nat → Prop) (ops : List Small2.WOp) : Prop :=
  (Small2.opsData ops).length % bw = 0 ∧ P (Small2.opsData ops).length

theorem whole_single (bw : Nat) (d : List Byte) (h : d.length % bw = 0) : Small2.WholeFrames bw [.write d false] := by
  intro op hop; simp only [List.mem_singleton] at hop; subst hop; exact h

theorem guardOf_data (bw : Nat) (P : Nat → Prop) (a b : List Small2.WOp) (e : Small2.opsData a = Small2.opsData b)
    (h : guardOf bw P a) : guardOf bw P b := by
  unfold guardOf at *; rw [← e]; exact h

/-- an image that is a function of the audio bytes parses as it does for the session that writes them in one call: what a
    container's re-open theorem asks of whole calls is then asked of the guard alone -/
theorem parse_single {img : Nat → List Small2.WOp → List Byte} {parse : List Byte → Small2.ParseRes} {bw : Nat} {P : Nat → Prop}
    (info : Nat → Small2.Info) (hfn : ∀ a b ops ops', Small2.opsData ops = Small2.opsData ops' → img a ops = img b ops')
    (hparse : ∀ st ops, Small2.WholeFrames bw ops → P (Small2.opsData ops).length →
      parse (img st ops) = .ok (info (Small2.opsData ops).length))
    (st : Nat) (ops : List Small2.WOp) (hg : guardOf bw P ops) : parse (img st ops) = .ok (info (Small2.opsData ops).length) := by
  have hone : Small2.opsData [.write (Small2.opsData ops) false] = Small2.opsData ops := by simp [Small2.opsData]
  have h := hparse st [.write (Small2.opsData ops) false] (whole_single _ _ hg.1) (by rw [hone]; exact hg.2)
  rwa [hone, ← hfn st st ops _ hone.symm] at h

theorem sampleList_prefix_le {ops p post : List Small.Op} (e : ops = p ++ post) :
    (Small.sampleList p).length ≤ (Small.sampleList ops).length := by
  rw [e, Small.sampleList_append, List.length_append]; exact Nat.le_add_right _ _

/-- the operations a valid job stores meet the guard when its sample count does: they are whole frames -/
theorem guardOf_toW (K : Cont) (P : Nat → Prop) (ty : Ty) (p : List Small.Op) (hvp : Valid K.g.ch ty p)
    (hp : P ((Small.sampleList p).length * K.enc.nbytes)) : guardOf (K.enc.nbytes * K.g.ch) P (Small.toW K ty false p) := by
  obtain ⟨g1, g2⟩ := Small.callsOf_good K.g.ch ty p hvp
  have hl := samples_length K.g.ch _ g1
  rw [g2] at hl
  unfold guardOf
  rw [Small.opsData_toW, Enc.encodeAll_length_cw]
  refine ⟨?_, hp⟩
  rw [hl, Nat.mul_assoc, Nat.mul_comm K.g.ch]; exact Nat.mul_mod_left _ _

theorem guarded_session_accepted (K : Cont) (P : Nat → Prop) (L : Laws K (guardOf (K.enc.nbytes * K.g.ch) P)) (ty : Ty) (stale stale' : Nat)
    (ops : List Small.Op) (hv : Valid K.g.ch ty ops)
    (hP : ∀ p post, ops = p ++ post → P ((Small.sampleList p).length * K.enc.nbytes)) :
    accepted (Small.recordOf K ty stale stale' ops) = true := by
  apply cont_session_accepted _ _ L ty stale stale' ops hv
  · apply guardOf_toW K P ty _ (Small.refOps_valid K.g.ch ty ops hv)
    rw [Small.refOps_samples]
    simpa using hP ops [] (by simp)
  · intro p post e
    exact guardOf_toW K P ty p (fun o ho => hv o (by rw [e]; simp [ho])) (hP p post e)

/-- the encoding a sample-granular codec code selects, by byte order -/
def encFor (codec : Nat) (big : Bool) : Enc := (encOf .raw codec big).getD .ulaw

/-- the codec codes of the stand-alone containers: integer PCM, float, double, µ-law, A-law -/
def rawCodecs : List Nat := [0x01, 0x02, 0x03, 0x04, 0x05, 0x06, 0x07, 0x10, 0x11]

theorem encFor_raw (codec : Nat) (big : Bool) (h : codec ∈ rawCodecs) : encOf .raw codec big = some (encFor codec big) := by
  simp only [rawCodecs, List.mem_cons, List.not_mem_nil, or_false] at h
  rcases h with rfl | rfl | rfl | rfl | rfl | rfl | rfl | rfl | rfl <;> rfl

/-- the geometry fields of `Small2Facts` / `Small1Facts` / `Laws`, for a format word with one of the raw codec codes: the word's
    fields come back, the encoding is `encFor`, B = 1 (`hpaf`: 24-bit PAF is the one block encoding among these codes) -/
theorem geom_facts (g : AbsWrite.Geom) (e m c : Nat) (big : Bool) (hw : g.word = e * 0x10000000 + m * 0x10000 + c)
    (hm : m < 0x1000) (hraw : m ≠ 0x04) (hc : c ∈ rawCodecs) (hpaf : m ≠ 0x05 ∨ c ≠ 0x03) :
    g.codec = c ∧ g.major = m ∧ 0 < (encFor c big).nbytes ∧ (encFor c big).wf ∧ g.block = 1 ∧ g.major ≠ 0x04 ∧
      ∃ b, encOf .raw g.codec b = some (encFor c big) := by
  have hlt : c < 0x10000 := by
    simp only [rawCodecs, List.mem_cons, List.not_mem_nil, or_false] at hc
    omega
  obtain ⟨hcodec, hmajor⟩ : g.codec = c ∧ g.major = m := by unfold Geom.codec Geom.major; rw [hw]; omega
  have henc := encFor_raw c big hc
  obtain ⟨hnb, hewf⟩ := encOf_props _ _ _ _ henc
  refine ⟨hcodec, hmajor, hnb, hewf, ?_, by rw [hmajor]; exact hraw, big, by rw [hcodec]; exact henc⟩
  unfold Geom.block
  rw [hcodec, hmajor]
  exact C04.frames_bound_granular _ _ _ _ (encOf_granular henc) (fun h => hpaf.elim (absurd h.1) (absurd h.2))

/-- A CONTAINER WHOSE PARSER RETURNS THE CONFIGURATION ON THE WRITER'S IMAGE IS LAWFUL (`Sf.Small2` machine): `hparse` is the
    container's `<x>_snapshot_valid` — channels, a word `fw` that is the format word up to the byte-order bits, a rate `q` the
    rate clause accepts, D / bw frames — on whole frames whose byte count meets the guard `P` -/
theorem small2_facts {F : Small2.Fmt} {parse : List Byte → Small2.ParseRes} (M : Small.Small2Machine F) (g : AbsWrite.Geom)
    (e m c : Nat) (big : Bool) (hw : g.word = e * 0x10000000 + m * 0x10000 + c) (hm : m < 0x1000) (hraw : m ≠ 0x04)
    (hc : c ∈ rawCodecs) (hpaf : m ≠ 0x05 ∨ c ≠ 0x03) (hch : 0 < g.ch)
    (bw fw q : Nat) (P : Nat → Prop) (hbw : (encFor c big).nbytes * g.ch = bw)
    (hfmt : fw % 0x10000000 = g.word % 0x10000000) (hrate : rateOk m g.sr (q : Int) = true)
    (hparse : ∀ st ops, Small2.WholeFrames bw ops → P (Small2.opsData ops).length →
      parse (Small2.snapshotBytes F st ops) = .ok { ch := g.ch, fmt := fw, sr := q, frames := (Small2.opsData ops).length / bw }) :
    Small.Small2Facts F parse g (encFor c big) (guardOf ((encFor c big).nbytes * g.ch) P) := by
  obtain ⟨_, hmajor, hnb, hewf, hblock, hnotRaw, hcodec⟩ := geom_facts g e m c big hw hm hraw hc hpaf
  refine { toSmall2Machine := M, chpos := hch, nb := hnb, wf := hewf, block := hblock, notRaw := hnotRaw, codec := hcodec,
           snapParse := ?_, Gdata := guardOf_data _ _ }
  intro st ops hg
  rw [hbw] at hg ⊢
  exact ⟨_, parse_single (fun D => ⟨g.ch, fw, q, D / bw⟩) M.snapFn hparse st ops hg, rfl, rfl, hfmt, by rw [hmajor]; exact hrate⟩

/-! ## WVE (Psion A-law, one channel, 8000 Hz) -/

def wveGeom (sr : Nat) : AbsWrite.Geom := { word := 0x190011, ch := 1, sr := sr }
def wveCont (sr : Nat) : Cont := small2Cont Wve.fmt Wve.parse (wveGeom sr) .alaw

theorem wve_laws (sr : Nat) (hwf : Wve.wf 1 sr) : Laws (wveCont sr) (guardOf (1 * 1) fun _ => True) :=
  laws_of_small2 (small2_facts (small2_machine_facts Wve.fmt Wve.lawful rfl) (wveGeom sr) 0 0x19 0x11 false rfl (by decide) (by decide)
    (by decide) (Or.inl (by decide)) Nat.one_pos 1 0x190011 (Wve.quant sr) _ rfl rfl (by simp [rateOk, rateClass])
    fun st ops _ _ => by rw [Nat.div_one]; exact (C04Wve.wve_snapshot_valid 1 sr hwf st ops).1)

/-- WVE: every job (whole frames of values of the caller's type) is accepted — no guard, no class -/
theorem wve_session_accepted (sr : Nat) (hwf : Wve.wf 1 sr) (ty : Ty) (stale stale' : Nat) (ops : List Small.Op)
    (hv : Valid 1 ty ops) : accepted (Small.recordOf (wveCont sr) ty stale stale' ops) = true :=
  guarded_session_accepted _ _ (wve_laws sr hwf) ty stale stale' ops hv (fun _ _ _ => trivial)

/-! ## MAT4 (PCM_16 / PCM_32 / FLOAT / DOUBLE, both byte orders) -/

def mat4Geom (c : Mat4.Cfg) : AbsWrite.Geom := { word := c.endian * 0x10000000 + 0x0C0000 + c.codec, ch := c.ch, sr := c.sr }

theorem mat4_facts (c : Mat4.Cfg) (hwf : c.wf) :
    Small.Small2Facts (Mat4.fmt c) Mat4.parse (mat4Geom c) (encFor c.codec (!c.little))
      (guardOf ((encFor c.codec (!c.little)).nbytes * (mat4Geom c).ch) (fun D => D / c.bw < 2 ^ 31)) := by
  have hcd := (by decide : ∀ big, ∀ k ∈ [2, 4, 6, 7], k ∈ rawCodecs ∧ (encFor k big).nbytes = Mat4.bytewidth k)
    (!c.little) c.codec (by simpa using hwf.1)
  refine small2_facts (small2_machine_facts _ (Mat4.lawful c) rfl) (mat4Geom c) c.endian 0x0C c.codec (!c.little) rfl (by decide)
    (by decide) hcd.1 (Or.inl (by decide)) hwf.2.2.1 c.bw c.fmtWord (Mat4.quant c.sr) _ (by rw [hcd.2]; rfl)
    (word_mask_ite c.little 1 2 c.endian 0x0C0000 c.codec) ?_ (fun st ops hw hg => (C04Mat4.mat4_snapshot_valid c hwf st ops hw hg).1)
  rw [C04Mat4.mat4_rate_exact c.sr hwf.2.2.2.2.1 hwf.2.2.2.2.2]; simp [rateOk, rateClass, mat4Geom]

/-- MAT4: every job of whole frames is accepted under the guard of the 32-bit cols field (fewer than 2^31 frames) -/
theorem mat4_session_accepted (c : Mat4.Cfg) (hwf : c.wf) (ty : Ty) (stale stale' : Nat) (ops : List Small.Op)
    (hv : Valid c.ch ty ops) (hguard : (Small.sampleList ops).length * (encFor c.codec (!c.little)).nbytes / c.bw < 2 ^ 31) :
    accepted (Small.recordOf (small2Cont (Mat4.fmt c) Mat4.parse (mat4Geom c) (encFor c.codec (!c.little))) ty stale stale' ops) = true :=
  guarded_session_accepted _ _ (laws_of_small2 (mat4_facts c hwf)) ty stale stale' ops hv fun _ _ e =>
    Nat.lt_of_le_of_lt (Nat.div_le_div_right (Nat.mul_le_mul_right _ (sampleList_prefix_le e))) hguard

/-! ## MPC2K (PCM_16 little endian, one or two channels, 16-bit rate field) -/

def mpc2kGeom (c : Mpc2k.Cfg) : AbsWrite.Geom := { word := 0x210002, ch := c.ch, sr := c.sr }

theorem mpc2k_facts (c : Mpc2k.Cfg) (hwf : c.wf) :
    Small.Small2Facts (Mpc2k.fmt c) Mpc2k.parse (mpc2kGeom c) (encFor 2 false) (guardOf (2 * c.ch) (fun _ => True)) :=
  small2_facts (small2_machine_facts (Mpc2k.fmt c) (Mpc2k.lawful c hwf.2.2.2) rfl) (mpc2kGeom c) 0 0x21 2 false rfl (by decide)
    (by decide) (by decide) (Or.inl (by decide)) (by show 0 < c.ch; rcases hwf.1 with h | h <;> omega) (2 * c.ch) 0x210002
    (Mpc2k.quant c.sr) _ rfl rfl
    ((AbsWriteRate.rateOk_field16_iff 0x21 c.sr _ rfl).2 rfl)      -- the 16-bit clause is exact: `Mpc2k.quant` = min sr 65535
    fun st ops _ _ => (C04Mpc2k.mpc2k_snapshot_valid c hwf st ops).1

/-- MPC2K: every job of whole frames is accepted -/
theorem mpc2k_session_accepted (c : Mpc2k.Cfg) (hwf : c.wf) (ty : Ty) (stale stale' : Nat) (ops : List Small.Op)
    (hv : Valid c.ch ty ops) :
    accepted (Small.recordOf (small2Cont (Mpc2k.fmt c) Mpc2k.parse (mpc2kGeom c) (.pcm ⟨16, false, false⟩)) ty stale stale' ops) = true :=
  guarded_session_accepted _ _ (laws_of_small2 (mpc2k_facts c hwf)) ty stale stale' ops hv (fun _ _ _ => trivial)

/-! ## HTK (PCM_16 big endian, one channel, sample period in 100 ns units) -/

def htkGeom (sr : Nat) : AbsWrite.Geom := { word := 0x100002, ch := 1, sr := sr }

/-- the guards of `htk_reopen_info`: the 32-bit `2 * sample_count` arithmetic and the class KF-HTK-MAGIC-CLASH -/
def htkGuard (sr D : Nat) : Prop := 12 + D < 2 ^ 31 ∧ ¬ C04Htk.KF.magicClash sr (D / 2)

/-- THE PERIOD CLAUSE IS EXACT AND COMPLETE FOR HTK: what the model's quantiser (`Htk.quant`: 10^7 / (10^7 / sr), 16000 for a
    zero period) makes of ANY positive rate is accepted by the rate clause of the write-side predicate, so `htk_session_accepted`
    carries no rate hypothesis -/
theorem htk_rate_exact_accepted (sr : Nat) (_h1 : 1 ≤ sr) : rateOk 0x10 sr ((Htk.quant sr : Nat) : Int) = true := by
  apply AbsWriteRate.rateOk_period_complete 0x10 (10 ^ 7) 31 sr _ AbsWriteRate.rateClass_htk
  · intro hp _
    unfold Htk.quant Htk.period; rw [if_pos hp]
  · unfold Htk.quant Htk.period
    split
    · rename_i hp
      exact Nat.div_pos (Nat.div_le_self _ _) hp
    · decide

/-- … and it accepts nothing else where the field can express the rate: the clause pins the re-open rate to the quantiser -/
theorem htk_rate_exact_only (sr : Nat) (h1 : 1 ≤ sr) (h2 : sr ≤ 10000000) (got : Int) (h : rateOk 0x10 sr got = true) :
    got = ((Htk.quant sr : Nat) : Int) := by
  have hpos : 0 < 10000000 / sr := Nat.div_pos h2 h1
  rcases (AbsWriteRate.rateOk_period_iff 0x10 (10 ^ 7) 31 sr got AbsWriteRate.rateClass_htk).1 h with ⟨_, _, hg⟩ | ⟨h0 | hb, _⟩
  · rw [hg]; unfold Htk.quant Htk.period; rw [if_pos hpos]
  · have : 10 ^ 7 / sr = 10000000 / sr := rfl
    omega
  · have hlt : 10 ^ 7 / sr < 2 ^ 31 := Nat.lt_of_le_of_lt (Nat.div_le_self _ _) (by decide)
    omega

theorem htk_facts (sr : Nat) (hwf : Htk.wf sr) :
    Small.Small2Facts (Htk.fmt sr) Htk.parse (htkGeom sr) (encFor 2 true) (guardOf (2 * 1) (htkGuard sr)) := by
  have M := small2_machine_facts (Htk.fmt sr) (Htk.lawful sr) rfl
  refine small2_facts M (htkGeom sr) 0 0x10 2 true rfl (by decide) (by decide) (by decide) (Or.inl (by decide)) Nat.one_pos
    2 0x100002 (Htk.quant sr) _ rfl rfl (htk_rate_exact_accepted sr hwf.1) fun st ops hw hg => ?_
  -- the guard of `htk_snapshot_valid` is on the length of the image: 12 header bytes and the audio
  obtain ⟨hdr, hl, hf⟩ := M.snapForm st ops
  exact (C04Htk.htk_snapshot_valid sr hwf st ops hw (by rw [hf, List.length_append, hl]; exact hg.1) hg.2).1

/-- HTK: every job at EVERY rate is accepted under the guards of `htk_reopen_info` (asked of the finished file and of every
    crash image) -/
theorem htk_session_accepted (sr : Nat) (hwf : Htk.wf sr)
    (ty : Ty) (stale stale' : Nat) (ops : List Small.Op) (hv : Valid 1 ty ops)
    (hguard : ∀ p post, ops = p ++ post → htkGuard sr ((Small.sampleList p).length * 2)) :
    accepted (Small.recordOf (small2Cont (Htk.fmt sr) Htk.parse (htkGeom sr) (.pcm ⟨16, false, true⟩)) ty stale stale' ops) = true :=
  guarded_session_accepted _ _ (laws_of_small2 (htk_facts sr hwf)) ty stale stale' ops hv hguard

/-- the clause at the rates the campaigns ask for, by evaluation (6 MHz is stored as period 1 and read as 10 MHz; above 10 MHz the
    period is 0 and the reader's guess 16000 is "any positive rate") -/
theorem htk_rate_tolerance : ∀ sr ∈ [1, 8000, 11025, 16000, 22050, 44100, 48000, 65535, 65536, 96000, 3200000, 3333334, 5000000, 6000000, 9999999,
      10000000, 10000001, 2 ^ 30 - 1, 2 ^ 30, 2 ^ 30 + 1, 2 ^ 31 - 1],
    rateOk 0x10 sr ((Htk.quant sr : Nat) : Int) = true := by decide

/-- a first-order tolerance for the period clause, in place of the exact quantiser of `rateOk`: |got − sr| ≤ max 1 (sr² / u + 1) -/
def periodTolOld (u sr : Nat) (got : Int) : Bool := (got - (sr : Int)).natAbs ≤ max 1 (sr * sr / u + 1)

/-- why the period clause is exact: the first-order tolerance refuses what a
    CORRECT library answers between about 3.2 MHz and 10 MHz (6 MHz is period 1 = 10 MHz), and accepts wrong answers at
    ordinary rates (44101 for 44100 Hz, whose period 226 reads back as 44247 and as nothing else) -/
theorem htk_rate_tolerance_old_rule :
    periodTolOld (10 ^ 7) 6000000 ((Htk.quant 6000000 : Nat) : Int) = false ∧ rateOk 0x10 6000000 ((Htk.quant 6000000 : Nat) : Int) = true ∧
    periodTolOld (10 ^ 7) 44100 44101 = true ∧ rateOk 0x10 44100 44101 = false := by decide

/-! ## PVF (PCM_S8 / PCM_16 / PCM_32 big endian, text header, no close function) -/

def pvfGeom (c : Pvf.Cfg) : AbsWrite.Geom := { word := 0x0E0000 + c.codec, ch := c.ch, sr := c.sr }

theorem pvf_facts (c : Pvf.Cfg) (hwf : c.wf) :
    Small.Small2Facts (Pvf.fmt c) Pvf.parse (pvfGeom c) (encFor c.codec true)
      (guardOf ((encFor c.codec true).nbytes * (pvfGeom c).ch) fun _ => True) := by
  have hcd := (by decide : ∀ k ∈ [1, 2, 4], k ∈ rawCodecs ∧ (encFor k true).nbytes = Pvf.bytewidth k) c.codec (by simpa using hwf.1)
  exact small2_facts (Small.small2_const_machine (Pvf.fmt c) (Pvf.lawfulConst c) rfl) (pvfGeom c) 0 0x0E c.codec true rfl (by decide)
    (by decide) hcd.1 (Or.inl (by decide)) hwf.2.1 (Pvf.bytewidth c.codec * c.ch) (0x0E0000 + c.codec) (Pvf.quant c.sr) _
    (by rw [hcd.2]; rfl) rfl (by simp [rateOk, rateClass, Pvf.quant, pvfGeom]) fun st ops _ _ => (C04Pvf.pvf_snapshot_valid c hwf st ops).1

/-- PVF: every job of whole frames is accepted — no guard, no class -/
theorem pvf_session_accepted_all (c : Pvf.Cfg) (hwf : c.wf) (ty : Ty) (stale stale' : Nat) (ops : List Small.Op)
    (hv : Valid c.ch ty ops) :
    accepted (Small.recordOf (small2Cont (Pvf.fmt c) Pvf.parse (pvfGeom c) (encFor c.codec true)) ty stale stale' ops) = true :=
  guarded_session_accepted _ _ (laws_of_small2 (pvf_facts c hwf)) ty stale stale' ops hv (fun _ _ _ => trivial)

/-- … under a guard (a file of at least 12 bytes, asked of the finished file and of every crash image: the class KF-PVF-TINY-FILE,
    repaired) that `pvf_snapshot_valid` does not need: `hk` is not used -/
theorem pvf_session_accepted (c : Pvf.Cfg) (hwf : c.wf) (ty : Ty) (stale stale' : Nat) (ops : List Small.Op)
    (hv : Valid c.ch ty ops)
    (hk : ∀ p post, ops = p ++ post → ¬ (Pvf.hdr c).length + (Small.sampleList p).length * (encFor c.codec true).nbytes < 12) :
    accepted (Small.recordOf (small2Cont (Pvf.fmt c) Pvf.parse (pvfGeom c) (encFor c.codec true)) ty stale stale' ops) = true :=
  pvf_session_accepted_all c hwf ty stale stale' ops hv

/-! ## AVR (PCM_S8 / PCM_U8 / PCM_16 big endian, one or two channels; the `Sf.Small` session machine) -/

def avrGeom (c : Avr.Cfg) : AbsWrite.Geom := { word := c.endian * 0x10000000 + 0x120000 + c.codec, ch := c.ch, sr := c.sr }

theorem avr_facts (c : Avr.Cfg) (hwf : c.wf) :
    Small.Small2Facts (Avr.spec c).fmt (fun bs => Small.resOf (Avr.parse bs)) (avrGeom c) (encFor c.codec true)
      (guardOf ((encFor c.codec true).nbytes * (avrGeom c).ch) fun _ => True) := by
  have hcodec := hwf.1
  simp only [Avr.accepted, Bool.decide_and, Bool.and_eq_true, decide_eq_true_eq] at hcodec
  have hcd := (by decide : ∀ k ∈ [1, 2, 5], k ∈ rawCodecs ∧ (encFor k true).nbytes = if k = 0x02 then 2 else 1) c.codec
    (by simpa using hcodec.1)
  -- the reader reports no byte order: `word_mask 0`
  exact small2_facts (small2_machine_facts _ (Sf.Small.fmt_lawful _ (Avr.spec_plain c) rfl) rfl) (avrGeom c) c.endian 0x12 c.codec true rfl
    (by decide) (by decide) hcd.1 (Or.inl (by decide)) hwf.2.1 c.bw c.fmtWord c.sr _ (by rw [hcd.2]; rfl)
    (word_mask 0 c.endian 0x120000 c.codec) (by simp [rateOk, rateClass, avrGeom])
    fun st ops _ _ => Small.opsData_toS1 ops ▸ Small.parse_toS1 (Avr.spec_plain c) (C04Avr.avr_snapshot_valid c hwf st _).1

/-- AVR: every job of whole frames is accepted — no guard, no class -/
theorem avr_session_accepted (c : Avr.Cfg) (hwf : c.wf) (ty : Ty) (stale stale' : Nat) (ops : List Small.Op)
    (hv : Valid c.ch ty ops) :
    accepted (Small.recordOf (Small.small1Cont (Avr.spec c) Avr.parse (avrGeom c) (encFor c.codec true)) ty stale stale' ops) = true :=
  Small.small1Cont_eq _ _ _ _ (Avr.spec_plain c) ▸
    guarded_session_accepted _ _ (laws_of_small2 (avr_facts c hwf)) ty stale stale' ops hv (fun _ _ _ => trivial)

def exOps : List Small.Op := [.write true [1, -2], .update, .auto true, .write false [3, -4, 5, 6]]
def exC : Mat4.Cfg := ⟨2, 2, 2, 44100⟩

example : exC.wf ∧ (Small.recordOf (small2Cont (Mat4.fmt exC) Mat4.parse (mat4Geom exC) (encFor 2 true)) .s16 0 99999 exOps).snaps.map (·.info.frames) = [1, 3] ∧
    (Small.recordOf (small2Cont (Mat4.fmt exC) Mat4.parse (mat4Geom exC) (encFor 2 true)) .s16 0 99999 exOps).info.frames = 3 ∧
    accepted (Small.recordOf (small2Cont (Mat4.fmt exC) Mat4.parse (mat4Geom exC) (encFor 2 true)) .s16 0 99999 exOps) = true := by
  have hwf : exC.wf := by decide
  have hv : Valid exC.ch .s16 exOps := by
    intro op hop
    simp only [exOps, List.mem_cons, List.not_mem_nil, or_false] at hop
    rcases hop with rfl | rfl | rfl | rfl <;> decide
  -- the two values in one evaluation of the record
  refine (fun h2 => ⟨hwf, h2.1, h2.2, mat4_session_accepted exC hwf .s16 0 99999 exOps hv (by decide)⟩ : (_ ∧ _) → _) ?_
  decide +kernel

end Sf.C04Bridge
