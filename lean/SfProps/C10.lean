/-
  C10 — sf_format_check agrees with what can really be written; the format enumeration lists are sound.
  The model (`Sf.Fmt.check`, `openWrite`, `outcome`, `roundTrips`) is in
  SfModel/FormatCheck.lean; the lists are regenerated from the running library on every check run
  (SfModel/Generated/FormatLists.lean), so the `decide` proofs below are about today's tables.
-/
import SfModel.Generated.FormatLists
import SfProofs.FormatCheck
namespace Sf.C10
open Sf.Fmt Sf.Generated

def majorWords : List Int := majorFormats.map (·.1)
def subtypeWords : List Int := subtypeFormats.map (·.1)

/-- container in the SFC_GET_FORMAT_MAJOR list and encoding in the SFC_GET_FORMAT_SUBTYPE list;
    endianness bits, channels and sample rate are unconstrained -/
def Enumerated (f : Int) : Prop := container f ∈ majorWords ∧ codec f ∈ subtypeWords
instance (f : Int) : Decidable (Enumerated f) := by unfold Enumerated; infer_instance

/-- needs no external library (FLAC / Ogg / MPEG are stubs in this build) -/
def Internal (f : Int) : Prop :=
  container f ≠ FLAC ∧ container f ≠ OGG ∧ container f ≠ MPEG ∧ codec f ≠ MPEG_LAYER_III

theorem majors_internal : ∀ c ∈ majorWords, c ≠ FLAC ∧ c ≠ OGG ∧ c ≠ MPEG := by decide
theorem subtypes_internal : ∀ s ∈ subtypeWords, s ≠ MPEG_LAYER_III := by decide

/-- every entry carries a non-empty name; majors are pure container words, subtypes pure encoding words,
    simple formats have both parts -/
theorem format_lists_wellformed :
    (∀ x ∈ simpleFormats, x.2.1 ≠ "" ∧ container x.1 ≠ 0 ∧ codec x.1 ≠ 0 ∧ endian x.1 = 0) ∧
    (∀ x ∈ majorFormats, x.2.1 ≠ "" ∧ container x.1 = x.1 ∧ x.1 ≠ 0) ∧
    (∀ x ∈ subtypeFormats, x.2.1 ≠ "" ∧ codec x.1 = x.1 ∧ x.1 ≠ 0) := by decide +kernel

theorem enumerated_internal (f : Int) (h : Enumerated f) : Internal f := by
  obtain ⟨hm, hs⟩ := h
  obtain ⟨a, b, c⟩ := majors_internal _ hm
  exact ⟨a, b, c, subtypes_internal _ hs⟩

theorem check_channel_bounds (f ch sr : Int) (h : ch < 1 ∨ ch > 1024) : check f ch sr = false := by
  unfold check; simp [h]

theorem check_samplerate_neg (f ch sr : Int) (h : sr < 0) : check f ch sr = false := by
  unfold check; simp [h]

theorem check_true_bounds (f ch sr : Int) (h : check f ch sr = true) : 1 ≤ ch ∧ ch ≤ 1024 ∧ 0 ≤ sr := by
  by_cases hch : ch < 1 ∨ ch > 1024
  · rw [check_channel_bounds f ch sr hch] at h; cases h
  by_cases hsr : sr < 0
  · rw [check_samplerate_neg f ch sr hsr] at h; cases h
  omega

/-- The statement one would like (and `validate_sfinfo` enforces at open time): no rate below 1 passes. -/
def check_samplerate_pos_full : Prop := ∀ f ch sr : Int, sr < 1 → check f ch sr = false

/-- It fails today: `sf_format_check` only rejects negative rates (WAV / PCM16 / mono / 0 Hz passes). -/
theorem check_samplerate_pos_fails : ¬ check_samplerate_pos_full := by
  intro h
  have := h (WAV + PCM_16) 1 0 (by decide)
  revert this; decide

/-- What does hold: below zero is rejected, and zero is the only non-positive rate that passes. -/
theorem check_samplerate_pos_partial (f ch sr : Int) (h : sr < 1) (hk : sr ≠ 0) : check f ch sr = false :=
  check_samplerate_neg f ch sr (by omega)

theorem check_false_error {f ch sr : Int} (h : check f ch sr = false) :
    openWrite f ch sr = .zeroMajor ∨ openWrite f ch sr = .zeroMinor ∨ openWrite f ch sr = .badOpenFormat := by
  unfold openWrite
  by_cases hc : container f = 0
  · simp [hc]
  by_cases hs : codec f = 0
  · simp [hc, hs]
  · simp [hc, hs, h]

theorem check_false_rejected (f ch sr : Int) (h : check f ch sr = false) : openWrite f ch sr ≠ .ok := by
  rcases check_false_error h with h | h | h <;> rw [h] <;> decide

theorem accepts_check (f ch sr : Int) (h : accepts f ch sr = true) : check f ch sr = true := by
  cases hc : check f ch sr
  · exact absurd (accepts_iff.1 h).1 (check_false_rejected f ch sr hc)
  · rfl

theorem accepts_of_good (f ch sr : Int) (h : check f ch sr = true) (hsr : 1 ≤ sr ∨ rateRepaired f)
    (g : Good f ch sr) : accepts f ch sr = true := by
  obtain ⟨gerr, ginst, gpsf, _, gch, gsr⟩ := g
  have hv : validateSfinfo f (containerOpen f ch sr).ch (containerOpen f ch sr).sr = true := by
    rw [gch]
    apply check_validates h
    by_cases hr : rateRepaired f
    · simpa [hr] using gsr
    · simp only [hr, if_false] at gsr
      rw [gsr]; exact hsr.resolve_right hr
  have hw := hv
  unfold validateSfinfo at hw
  simp at hw
  unfold accepts openWrite installed
  simp [h, gerr, ginst, gpsf, hv, hw.2.2.1, hw.2.2.2]

theorem check_good (f ch sr : Int) (hi : Internal f) (h : check f ch sr = true) : Good f ch sr :=
  good_of_check h hi.1 hi.2.1 hi.2.2.1 hi.2.2.2

/-- KF-C10-rate0: a sample rate of 0 passes `sf_format_check` but `validate_sfinfo` stops the open — except where the
    container repairs the rate.  (The division by the rate in the HTK / SDS / VOC header writers, which killed the process
    before validate_sfinfo was reached, is repaired: `rate0_open_fails_cleanly`, `rate0_died_old_rule`.  The check itself
    cannot be tightened: the library's own test-suite and examples/list_formats.c call it with a zeroed sample rate.) -/
def KF.rateZero (f sr : Int) : Prop := sr = 0 ∧ ¬ rateRepaired f
-- KF-C10-alac8 (DESIGN §8 #25, CAF/ALAC with more than 8 channels; /repo fix: 0aa127c + e9742d9) is not an
-- excluded class: `alac_over8_rejected` below is the regression statement.
-- KF-C10-vox-odd (DESIGN §8 #3, OKI/VOX reported an odd item count rounded up; repaired, vox_adpcm.c holds the odd
-- sample of a call) is not an excluded class: `KF.voxOddOld` is the class of the rule before the repair and
-- `vox_odd_write_old_rule` below the regression statement.
def KF.voxOddOld (f n : Int) : Prop := container f = RAW ∧ codec f = VOX_ADPCM ∧ n % 2 = 1
/-- KF-C10-ircam-rate (DESIGN §8 #21, repaired): IRCAM keeps the rate as float32; ≥ 2^31 − 64 came back as a negative
    int before ircam_write_header capped the float -/
def KF.ircamRate (f sr : Int) : Prop := ircamRateLostOld f sr = true

instance (f sr : Int) : Decidable (KF.rateZero f sr) := by unfold KF.rateZero; infer_instance
instance (f n : Int) : Decidable (KF.voxOddOld f n) := by unfold KF.voxOddOld; infer_instance
instance (f sr : Int) : Decidable (KF.ircamRate f sr) := by unfold KF.ircamRate; infer_instance

/-- C10, first half, at full strength over every enumerated container/encoding, every endianness word,
    every channel count and every sample rate. -/
def check_iff_writable_full : Prop :=
  ∀ f ch sr : Int, Enumerated f → (check f ch sr = true ↔ accepts f ch sr = true)

/-- It fails today: WAV / PCM16 / mono at 0 Hz passes the check and cannot be opened. -/
theorem rate0_witness : ∃ m ∈ majorWords, ∃ s ∈ subtypeWords,
    Enumerated (m + s) ∧ check (m + s) 1 0 = true ∧ accepts (m + s) 1 0 = false :=
  ⟨WAV, by decide, PCM_16, by decide, by decide⟩

theorem check_iff_writable_fails : ¬ check_iff_writable_full := by
  intro h
  obtain ⟨m, _, s, _, he, h1, h2⟩ := rate0_witness
  have := (h (m + s) 1 0 he).1 h1
  rw [h2] at this; exact absurd this (by decide)

theorem rate_ok {f ch sr : Int} (h : check f ch sr = true) (hk : ¬ KF.rateZero f sr) : 1 ≤ sr ∨ rateRepaired f := by
  have hb := check_true_bounds f ch sr h
  by_cases h0 : sr = 0
  · right; exact Classical.byContradiction fun hn => hk ⟨h0, hn⟩
  · left; omega

/-- the first half of C10 for every format word that needs no external library, enumerated or not -/
theorem check_iff_writable_internal (f ch sr : Int) (hi : Internal f) (hk : ¬ KF.rateZero f sr) :
    check f ch sr = true ↔ accepts f ch sr = true :=
  ⟨fun h => accepts_of_good f ch sr h (rate_ok h hk) (check_good f ch sr hi h), accepts_check f ch sr⟩

theorem check_iff_writable_partial (f ch sr : Int) (he : Enumerated f) (hk : ¬ KF.rateZero f sr) :
    check f ch sr = true ↔ accepts f ch sr = true :=
  check_iff_writable_internal f ch sr (enumerated_internal f he) hk

/-- non-vacuity: enumerated formats exist on both sides of the equivalence -/
example :
    (∃ m ∈ majorWords, ∃ s ∈ subtypeWords, Enumerated (m + s) ∧ ¬ KF.rateZero (m + s) 44100 ∧
        check (m + s) 2 44100 = true ∧ accepts (m + s) 2 44100 = true) ∧
    (∃ m ∈ majorWords, ∃ s ∈ subtypeWords, Enumerated (m + s) ∧ ¬ KF.rateZero (m + s) 44100 ∧
        check (m + s) 2 44100 = false ∧ accepts (m + s) 2 44100 = false) :=
  ⟨⟨WAV, by decide, PCM_16, by decide, by decide⟩, ⟨WAV, by decide, DWVW_12, by decide, by decide⟩⟩

theorem word_parts {m s e : Int} (hm : container m = m) (hs : codec s = s)
    (he : e = 0 ∨ e = E_LITTLE ∨ e = E_BIG ∨ e = E_CPU) :
    container (m + s + e) = m ∧ codec (m + s + e) = s := by
  obtain ⟨j, hj0, hj4, rfl⟩ : ∃ j : Int, 0 ≤ j ∧ j < 4 ∧ e = j * 0x10000000 := by
    rcases he with rfl | rfl | rfl | rfl
    · exact ⟨0, by decide⟩
    · exact ⟨1, by decide⟩
    · exact ⟨2, by decide⟩
    · exact ⟨3, by decide⟩
  unfold container codec at *
  constructor <;> omega

theorem container_rebuilt (f e : Int) (he : e = 0 ∨ e = E_LITTLE ∨ e = E_BIG ∨ e = E_CPU) :
    container (container f + codec f + e) = container f ∧ codec (container f + codec f + e) = codec f :=
  word_parts (by unfold container; omega) (by unfold codec; omega) he

theorem reopenEndian_mem (f e : Int) :
    reopenEndian f e = 0 ∨ reopenEndian f e = E_LITTLE ∨ reopenEndian f e = E_BIG ∨ reopenEndian f e = e
      ∨ reopenEndian f e = endian f := by
  let P (x : Int) : Prop := x = 0 ∨ x = E_LITTLE ∨ x = E_BIG ∨ x = e ∨ x = endian f
  have h0 : P 0 := Or.inl rfl
  have hl : P E_LITTLE := Or.inr (Or.inl rfl)
  have hb : P E_BIG := Or.inr (Or.inr (Or.inl rfl))
  have he : P e := Or.inr (Or.inr (Or.inr (Or.inl rfl)))
  have hf : P (endian f) := Or.inr (Or.inr (Or.inr (Or.inr rfl)))
  show P (reopenEndian f e)
  -- every leaf of the container switch is one of the five
  unfold reopenEndian
  exact ite_mem (ite_mem hb h0) <| ite_mem (ite_mem he h0) <| ite_mem (ite_mem hl h0) <| ite_mem hf <|
    ite_mem he <| ite_mem (ite_mem he h0) <| ite_mem (ite_mem hl h0) h0

theorem reopenEndian_cases (f e : Int) (he : e = 0 ∨ e = E_LITTLE ∨ e = E_BIG) :
    reopenEndian f e = 0 ∨ reopenEndian f e = E_LITTLE ∨ reopenEndian f e = E_BIG ∨ reopenEndian f e = E_CPU := by
  have hf := endian_cases f
  rcases reopenEndian_mem f e with h | h | h | h | h
  · exact Or.inl h
  · exact Or.inr (Or.inl h)
  · exact Or.inr (Or.inr (Or.inl h))
  · rw [h]; rcases he with h' | h' | h' <;> simp [h']
  · rw [h]; exact hf

/-- C10, the whole property: on every enumerated format, `sf_format_check` is TRUE exactly when the open succeeds, every
    write of `n` frames returns `n`, and the file re-opens as the same container and encoding with the same channel count
    (`roundTrips`; its clauses "close returns 0" and "no temp file left" are the constants `close := 0`, `tmpLeft := 0` of
    the model, so they are carried by the grid campaign and not by a theorem). -/
def C10_full : Prop :=
  ∀ f ch sr n : Int, Enumerated f → 0 < n → (check f ch sr = true ↔ roundTrips f ch sr n = true)

/-- It fails today: some enumerated format passes the check at 0 Hz and cannot be opened (KF-C10-rate0).
    The IRCAM rate class was a second, independent reason before its repair (`ircam_rate_old_rule`). -/
theorem rate0_roundtrip_witness : ∃ m ∈ majorWords, ∃ s ∈ subtypeWords,
    Enumerated (m + s) ∧ check (m + s) 1 0 = true ∧ roundTrips (m + s) 1 0 3 = false :=
  ⟨WAV, by decide, PCM_16, by decide, by decide⟩

/-- Before the repair of KF-C10-ircam-rate no point of the class produced a file that re-opened (`reopenOld = none`);
    IRCAM / PCM_16 at 2^31 − 1 Hz is the recorded witness: it lies in the class, passes the check, and round-trips under
    the repaired rule. -/
theorem ircam_rate_old_rule :
    (∀ f ch sr : Int, KF.ircamRate f sr → reopenOld f ch sr = none) ∧
    (∃ m ∈ majorWords, ∃ s ∈ subtypeWords, Enumerated (m + s) ∧ check (m + s) 1 2147483647 = true ∧
      KF.ircamRate (m + s) 2147483647 ∧ roundTrips (m + s) 1 2147483647 4 = true) := by
  refine ⟨fun f ch sr h => ?_, IRCAM, by decide, PCM_16, by decide, by decide⟩
  unfold KF.ircamRate at h
  unfold reopenOld; simp [h]

/-- At 0 Hz a point that passes the check and whose format does not repair the rate is refused by `validate_sfinfo`:
    the container's open succeeds (`check_good`) and hands the rate through. -/
theorem rate0_open_refused (f ch : Int) (hi : Internal f) (h : check f ch 0 = true) (hr : ¬ rateRepaired f) :
    openWrite f ch 0 = .badSfInfo := by
  obtain ⟨gerr, _, _, _, _, gsr⟩ := check_good f ch 0 hi h
  simp only [hr, if_false] at gsr
  have hv := check_validates h (sr' := 1) (by decide)
  unfold validateSfinfo at hv
  simp at hv
  unfold openWrite
  simp [h, gerr, gsr, validateSfinfo, hv.2.1, hv.2.2]

/-- No open dies: a rejected format gets an error from `psf_open_file` itself, an accepted one opens or is refused
    for its rate.  (`Err.divZero` is the answer of no arm of the model as it is; the points where the header writer
    divided by the rate are the class `diedOld`.) -/
theorem open_never_dies (f ch sr : Int) (hi : Internal f) : openWrite f ch sr ≠ .divZero := by
  cases hc : check f ch sr
  · rcases check_false_error hc with h | h | h <;> rw [h] <;> decide
  · by_cases hk : KF.rateZero f sr
    · obtain ⟨rfl, hr⟩ := hk
      rw [rate0_open_refused f ch hi hc hr]; decide
    · rw [(accepts_iff.1 (accepts_of_good f ch sr hc (rate_ok hc hk) (check_good f ch sr hi hc))).1]; decide

theorem enumerated_of_words {m s e : Int} (hm : m ∈ majorWords) (hs : s ∈ subtypeWords)
    (he : e = 0 ∨ e = E_LITTLE ∨ e = E_BIG ∨ e = E_CPU) : Enumerated (m + s + e) := by
  obtain ⟨x, hx, rfl⟩ := List.mem_map.1 hm
  obtain ⟨y, hy, rfl⟩ := List.mem_map.1 hs
  obtain ⟨hc, hd⟩ := word_parts (format_lists_wellformed.2.1 x hx).2.1 (format_lists_wellformed.2.2 y hy).2.1 he
  exact ⟨by rw [hc]; exact hm, by rw [hd]; exact hs⟩

/-- At 0 Hz no container's open dies (repaired rule): on every enumerated container × encoding,
    every endianness word and 1, 2 or 9 channels, a point that passes the check and whose container does
    not repair the rate is refused by sf_open with SFE_BAD_SF_INFO — `openWrite` never yields `divZero`. -/
theorem rate0_open_fails_cleanly :
    ∀ m ∈ majorWords, ∀ s ∈ subtypeWords, ∀ e ∈ ([0, E_LITTLE, E_BIG, E_CPU] : List Int), ∀ ch ∈ ([1, 2, 9] : List Int),
      openWrite (m + s + e) ch 0 ≠ .divZero ∧
      (check (m + s + e) ch 0 = true → ¬ rateRepaired (m + s + e) → openWrite (m + s + e) ch 0 = .badSfInfo) := by
  intro m hm s hs e he ch _
  have hi := enumerated_internal _ (enumerated_of_words hm hs (by simpa using he))
  exact ⟨open_never_dies _ ch 0 hi, rate0_open_refused _ ch hi⟩

/-- `diedOld` is the class of points at which the header writer divided by the rate before the repair (HTK; SDS with a
    legal bit width; VOC 8-bit PCM with one or two channels).  One witness, HTK / PCM_16 mono at 0 Hz: it is enumerated,
    passes the check, lies in the class, and the open as it is refuses it with SFE_BAD_SF_INFO. -/
theorem rate0_died_old_rule :
    ∃ m ∈ majorWords, ∃ s ∈ subtypeWords, Enumerated (m + s) ∧ check (m + s) 1 0 = true ∧ diedOld (m + s) 1 0 = true ∧
      openWrite (m + s) 1 0 = .badSfInfo := ⟨HTK, by decide, PCM_16, by decide, by decide⟩

theorem C10_fails : ¬ C10_full := by
  intro h
  obtain ⟨m, _, s, _, he, h1, h2⟩ := rate0_roundtrip_witness
  have := (h (m + s) 1 0 3 he (by decide)).1 h1
  rw [h2] at this; exact absurd this (by decide)

/-- regression statement for the repaired DESIGN §8 #25: CAF/ALAC with more than 8 channels is refused by the
    check, hence (`check_false_rejected`) by sf_open -/
theorem alac_over8_rejected (f ch sr : Int) (hc : container f = CAF) (hs : isAlac (codec f) = true) (h : ch > 8) :
    check f ch sr = false ∧ openWrite f ch sr ≠ .ok := by
  have hcf : check f ch sr = false := by
    unfold isAlac at hs
    unfold check
    simp only [hc]
    simp at hs
    have h8 : ¬ ch ≤ 8 := by omega
    rcases hs with hs | hs | hs | hs <;>
      simp [hs, h8, CAF, WAV, WAVEX, AIFF, AU, ALAC_16, ALAC_20, ALAC_24, ALAC_32, PCM_S8, PCM_16, PCM_24, PCM_32, ULAW, ALAW, FLOAT, DOUBLE]
  exact ⟨hcf, check_false_rejected f ch sr hcf⟩

theorem roundTrips_opened (f ch sr n : Int) (h : roundTrips f ch sr n = true) : openWrite f ch sr = .ok := by
  by_cases ho : openWrite f ch sr = .ok
  · exact ho
  · unfold roundTrips outcome at h; simp [ho] at h

/-- the whole property for every format word that needs no external library and every frame count -/
theorem roundTrips_iff_internal (f ch sr n : Int) (hi : Internal f) (k1 : ¬ KF.rateZero f sr) :
    check f ch sr = true ↔ roundTrips f ch sr n = true := by
  constructor
  · intro h
    have g := check_good f ch sr hi h
    have ha := accepts_iff.1 (accepts_of_good f ch sr h (rate_ok h k1) g)
    obtain ⟨_, _, _, gend, gch, _⟩ := g
    have hw : writeRet f ch sr n = n := by
      unfold writeRet
      simp [ha.2]
    have h4 : ircamRateLost f sr = false := rfl
    have hre := container_rebuilt f _ (reopenEndian_cases f _ gend)
    unfold roundTrips outcome reopen tmpLeft sameEncoding
    simp [ha.1, hw, h4, hre.1, hre.2, gch]
  · intro h
    cases hc : check f ch sr
    · exact absurd (roundTrips_opened f ch sr n h) (check_false_rejected f ch sr hc)
    · rfl

/-- what holds: `C10_full` outside the class KF-C10-rate0 -/
theorem C10_partial (f ch sr n : Int) (he : Enumerated f) (hn : 0 < n)
    (k1 : ¬ KF.rateZero f sr) :
    check f ch sr = true ↔ roundTrips f ch sr n = true :=
  roundTrips_iff_internal f ch sr n (enumerated_internal f he) k1

/-- non-vacuity of `C10_partial`: its hypotheses hold on ordinary points, both sides occur -/
example :
    ∃ m ∈ majorWords, ∃ s ∈ subtypeWords, Enumerated (m + s) ∧ ¬ KF.rateZero (m + s) 8000
      ∧ roundTrips (m + s) 1 8000 3 = true ∧ roundTrips (m + s) 1025 8000 3 = false :=
  ⟨WAV, by decide, PCM_16, by decide, by decide⟩

/-- the class of KF-C10-vox-odd (repaired) is inside `C10_partial`: RAW / VOX_ADPCM with an odd number of frames per write -/
example : Enumerated (RAW + VOX_ADPCM) ∧ KF.voxOddOld (RAW + VOX_ADPCM) 3 ∧ ¬ KF.rateZero (RAW + VOX_ADPCM) 8000 ∧
    check (RAW + VOX_ADPCM) 1 8000 = true ∧ roundTrips (RAW + VOX_ADPCM) 1 8000 3 = true := by decide

/-- old rule: on every point of the class KF-C10-vox-odd whose handle works, the four writes of `n` frames
    returned `n + 1` — "every write returns the requested count" failed exactly there — while the rule of the repaired
    library returns `n`; outside the class the two rules agree.  (The rate-0 class is covered by
    `check_iff_writable_fails` and the grid of `rate0_open_fails_cleanly`.) -/
theorem vox_odd_write_old_rule (f ch sr n : Int) (hi : installed f ch sr = true) :
    (KF.voxOddOld f n → writeRetOld f ch sr n = n + 1 ∧ writeRet f ch sr n = n) ∧
    (¬ KF.voxOddOld f n → writeRetOld f ch sr n = writeRet f ch sr n) := by
  unfold writeRetOld writeRet KF.voxOddOld
  constructor
  · rintro ⟨h1, h2, h3⟩
    simp [hi, h1, h2]; omega
  · intro hk
    by_cases hv : container f = RAW ∧ codec f = VOX_ADPCM
    · have : ¬ n % 2 = 1 := fun h1 => hk ⟨hv.1, hv.2, h1⟩
      simp [hi, hv]; omega
    · simp [hi, hv]

example : installed (RAW + VOX_ADPCM) 1 8000 = true ∧ writeRetOld (RAW + VOX_ADPCM) 1 8000 3 = 4 ∧ writeRet (RAW + VOX_ADPCM) 1 8000 3 = 3 := by decide

/-- distinct format words and distinct names inside each list -/
theorem format_lists_nodup :
    (simpleFormats.map (·.1)).Nodup ∧ (simpleFormats.map (·.2.1)).Nodup ∧
    (majorFormats.map (·.1)).Nodup ∧ (majorFormats.map (·.2.1)).Nodup ∧
    (subtypeFormats.map (·.1)).Nodup ∧ (subtypeFormats.map (·.2.1)).Nodup := by decide +kernel

/-- every simple format passes `sf_format_check` with one or with two channels at an ordinary rate -/
theorem simple_formats_pass :
    ∀ x ∈ simpleFormats, check x.1 1 44100 = true ∨ check x.1 2 44100 = true := by decide

/-- every major format has at least one subtype (from the subtype list) that is accepted and writable
    mono at an ordinary rate with the default endianness -/
theorem major_has_subtype :
    ∀ m ∈ majorWords, ∃ s ∈ subtypeWords, check (m + s) 1 44100 = true ∧ roundTrips (m + s) 1 44100 4 = true := by
  decide +kernel

/-- SFC_GET_FORMAT_INFO agrees with the lists: every listed major / subtype is found under its own name,
    and nothing outside the lists is reported -/
theorem format_info_consistent :
    (∀ x ∈ majorFormats, (x.1, x.2.1) ∈ formatInfoMajor) ∧ (∀ y ∈ formatInfoMajor, y.1 ∈ majorWords) ∧
    (∀ x ∈ subtypeFormats, (x.1, x.2.1) ∈ formatInfoSubtype) ∧ (∀ y ∈ formatInfoSubtype, y.1 ∈ subtypeWords) := by
  decide +kernel

end Sf.C10
