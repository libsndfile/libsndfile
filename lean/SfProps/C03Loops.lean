/-
  C03 — "returns in time bounded by the input size" for the chunk loops of the IFF-family parsers
  (svx.c, caf.c, wav.c, rf64.c, aiff.c), and the CAF 'info' size rule.
-- properties: C03 C15

  Since the repairs /repo 2eb7bb7 and 8c31ef5 (psf_binheader_tell + "an iteration must end behind the offset it started at") the loops
  are bounded at FULL strength: for every announced file length (SF_COUNT_MAX of a pipe included), every file content
  and every behaviour of the I/O layer.  The failures of the old rule (known findings KF-C03-svx-backjump,
  KF-C03-pipe-chunk-loop, KF-C15-SCAN-HANG, KF-C03-caf-info-pipe; witnesses kept as regression scripts) stay as
  `…_old_rule` theorems.
-/
import SfModel.ChunkLoop
import SfModel.HeaderCache
namespace Sf.C03
open Sf.ChunkLoop

/-- one iteration under the current rule: the loop is left in it, or the parser has moved forward, the file position is short of
    the end and the loop goes on behind it -/
theorem loop_current_step (filelength tail : Int) (o : Nat → It) (fuel k : Nat) (p : Int) :
    (∃ e, loop .current filelength tail o (fuel + 1) k p = some (k, e)) ∨
    (p < (o k).p ∧ (o k).f < filelength - tail ∧
      loop .current filelength tail o (fuel + 1) k p = loop .current filelength tail o fuel (k + 1) (o k).p) := by
  by_cases h1 : (o k).brk = true
  · exact .inl ⟨.brk, by simp [loop, h1]⟩
  · by_cases h2 : (o k).p ≤ p
    · exact .inl ⟨.noProgress, by simp [loop, h1, h2]⟩
    · by_cases h3 : (o k).f ≥ filelength - tail
      · exact .inl ⟨.endOfFile, by simp [loop, h1, h2, h3]⟩
      · by_cases h5 : (o k).done = true
        · exact .inl ⟨.done, by simp [loop, h1, h2, h3, h5]⟩
        · exact .inr ⟨by omega, by omega, by simp only [loop, h1, h2, h3, h5, Bool.false_eq_true, if_false, and_false]⟩

theorem chunk_loop_terminates (filelength tail : Int) (o : Nat → It) (B : Int)
    (hB : ∀ k, (o k).p ≤ B ∨ (o k).f ≥ filelength - tail) :
    ∀ (n k : Nat) (p : Int), B - p ≤ n → (loop .current filelength tail o (n + 1) k p).isSome := by
  intro n
  induction n with
  | zero =>
    intro k p h
    rcases loop_current_step filelength tail o 0 k p with ⟨e, he⟩ | ⟨hp, hf, -⟩
    · rw [he]; rfl
    · rcases hB k with h4 | h4 <;> omega
  | succ n ih =>
    intro k p h
    rcases loop_current_step filelength tail o (n + 1) k p with ⟨e, he⟩ | ⟨hp, hf, he⟩
    · rw [he]; rfl
    · rw [he]
      exact ih _ _ (by rcases hB k with h4 | h4 <;> omega)

/-- C03's "time bounded by the input size" for the five chunk loops, FULL strength: whatever length the file announces
    (SF_COUNT_MAX for a pipe), whatever the bytes are and whatever the I/O layer answers — if the header cache is ahead
    of the parser (`p ≤ f`, an invariant of header_read / header_seek SEEK_CUR / header_gets) and the file position
    cannot pass the N bytes of input (a pipe delivers no more than it holds), the loop ends within N - p + 1 iterations -/
theorem chunk_loop_bounded_by_input (filelength tail : Int) (o : Nat → It) (N p : Int) (k : Nat)
    (hpf : ∀ k, (o k).p ≤ (o k).f) (hN : ∀ k, (o k).f ≤ N) :
    (loop .current filelength tail o ((N - p).toNat + 1) k p).isSome := by
  apply chunk_loop_terminates filelength tail o N
  · intro j; left; exact Int.le_trans (hpf j) (hN j)
  · have := Int.self_le_toNat (N - p); omega

/-- … and on a seekable file (psf_fseek may move beyond the end; the `psf_ftell () >= filelength - tail` test then
    fires) within filelength - tail - p + 1 iterations -/
theorem chunk_loop_bounded_by_length (filelength tail : Int) (o : Nat → It) (p : Int) (k : Nat)
    (hpf : ∀ k, (o k).p ≤ (o k).f) :
    (loop .current filelength tail o ((filelength - tail - p).toNat + 1) k p).isSome := by
  apply chunk_loop_terminates filelength tail o (filelength - tail)
  · intro j
    by_cases h : (o j).f ≥ filelength - tail
    · right; exact h
    · left; have := hpf j; omega
  · have := Int.self_le_toNat (filelength - tail - p); omega

/-- the iteration the loop is left in is not before the one it started at; that every iteration but the last moved the
    parser forward (no offset is visited twice) is `loop_current_step` -/
theorem chunk_loop_last_iteration (filelength tail : Int) (o : Nat → It) :
    ∀ (fuel k : Nat) (p : Int) (j : Nat) (e : Exit), loop .current filelength tail o fuel k p = some (j, e) → k ≤ j := by
  intro fuel
  induction fuel with
  | zero => intro k p j e h; simp [loop] at h
  | succ n ih =>
    intro k p j e h
    rcases loop_current_step filelength tail o n k p with ⟨e', he⟩ | ⟨-, -, he⟩ <;> rw [he] at h
    · cases h; exact Nat.le_refl _
    · have := ih (k + 1) _ j e h
      omega

theorem chunk_loop_stuck_runs_old_rule (filelength tail p f : Int) (h : f < filelength - tail) :
    ∀ (fuel k : Nat) (q : Int), loop .old filelength tail (stuck p f) fuel k q = none := by
  intro fuel
  induction fuel with
  | zero => intro k q; rfl
  | succ n ih =>
    intro k q
    unfold loop
    have h3 : ¬ f ≥ filelength - tail := by omega
    simp only [stuck, Bool.false_eq_true, if_false, reduceCtorEq, false_and, h3]
    exact ih (k + 1) p

/-- the known-finding class of the old rule: some iteration does not move the parser forward while the file position
    is still short of `filelength - tail` -/
def KF.chunkNoProgress (filelength tail : Int) (o : Nat → It) (p0 : Int) : Prop :=
  ∃ k, (o k).f < filelength - tail ∧ (o k).p ≤ (if k = 0 then p0 else (o (k - 1)).p)

/-- OLD RULE, KF-C03-svx-backjump (findings/C03-svx-backjump.txt): the 61-byte 16SV file whose ANNO chunk at offset 48
    has the size 0xFFFFFFF8.  Every iteration ends at offset 48 with the file position at 56 < 61 - 4: still running
    after 10^15 iterations, on every route — and under the current rule it is left in the first such iteration. -/
theorem svx_backjump_unbounded_old_rule :
    loop .old 61 4 (stuck 48 56) 1000000000000000 0 48 = none ∧
    loop .current 61 4 (stuck 48 56) 1 0 48 = some (0, .noProgress) :=
  ⟨chunk_loop_stuck_runs_old_rule 61 4 48 56 (by decide) _ _ _, by decide⟩

/-- OLD RULE, KF-C03-pipe-chunk-loop / KF-C15-SCAN-HANG (findings/C03-svx-pipe-loop.txt, c15_scan_hang_*.txt): input that
    ends inside the header of a pipe (53 bytes delivered, filelength = SF_COUNT_MAX) or whose reads start to return
    nothing: the parser stays where it is -/
theorem pipe_eof_unbounded_old_rule :
    loop .old SF_COUNT_MAX 4 (stuck 53 53) 1000000000000000 0 53 = none ∧
    loop .current SF_COUNT_MAX 4 (stuck 53 53) 1 0 53 = some (0, .noProgress) :=
  ⟨chunk_loop_stuck_runs_old_rule SF_COUNT_MAX 4 53 53 (by decide) _ _ _, by decide⟩

/-- OLD RULE: outside the class (every iteration moves the parser forward) the old loop is the current loop -/
theorem chunk_loop_same_outside_class_old_rule (filelength tail : Int) (o : Nat → It) :
    ∀ (fuel k : Nat) (p : Int), (∀ j, k ≤ j → (o j).brk = false → (o j).p > (if j = k then p else (o (j - 1)).p)) →
      loop .old filelength tail o fuel k p = loop .current filelength tail o fuel k p := by
  intro fuel
  induction fuel with
  | zero => intro k p _; rfl
  | succ n ih =>
    intro k p h
    unfold loop
    by_cases h1 : (o k).brk = true
    · simp [h1]
    · have hk := h k (Nat.le_refl k) (by simpa using h1)
      simp only [if_true] at hk
      have h2 : ¬ (o k).p ≤ p := by omega
      simp only [h1, h2, Bool.false_eq_true, if_false, reduceCtorEq, and_false]
      by_cases h3 : (o k).f ≥ filelength - tail
      · simp [h3]
      · by_cases h5 : (o k).done = true
        · simp [h3, h5]
        · simp only [h3, h5, Bool.false_eq_true, if_false]
          apply ih
          intro j hj hb
          have := h j (by omega) hb
          by_cases hjk : j = k + 1
          · subst hjk; simpa using this
          · have hne : j ≠ k := by omega
            simpa [hne, hjk] using this

/-- non-vacuity: a well-formed chunk list (three chunks of 8 + 20 bytes in a 100-byte file) is walked in the same
    three iterations under both rules and the hypotheses of the bounds are met; a back jump in the second chunk ends
    the current loop there -/
example :
    let o : Nat → It := fun k => { p := 12 + 28 * (k + 1), f := 12 + 28 * (k + 1) }
    loop .current 100 4 o 10 0 12 = some (2, .endOfFile) ∧ loop .old 100 4 o 10 0 12 = some (2, .endOfFile) ∧
    (∀ k, (o k).p ≤ (o k).f) ∧
    loop .current 100 4 (fun k => if k = 1 then { p := 12, f := 68 } else o k) 10 0 12 = some (1, .noProgress) ∧
    loop .old 100 4 (fun k => if k = 1 then { p := 12, f := 68 } else o k) 3 0 12 = some (2, .endOfFile) := by
  refine ⟨by decide, by decide, ?_, by decide, by decide⟩
  intro k; exact Int.le_refl _

open Sf.CafInfo in
/-- FULL strength for the current code: whatever size the chunk announces, on every route, the 'b' conversion (if it
    is reached at all) gets an argument in the range the header-cache theorems demand (`Item.argsOk`: not negative), it
    equals the number of bytes allocated less one, and no more than 100k + 1 bytes are allocated -/
theorem caf_info_count (n : Int) (hn : 1 ≤ n) :
    (∀ c, bCount .current n = some c → (HeaderCache.Item.b c).argsOk ∧ c = n ∧ allocated .current n = c + 1) ∧
    allocated .current n ≤ HEADER_CAP + 1 := by
  unfold allocated bCount HEADER_CAP
  by_cases h : n > 102400
  · simp [h]
  · simp only [h, if_false]
    have hc : asInt n = n := by unfold asInt; omega
    refine ⟨?_, by omega⟩
    intro c hc'
    simp only [Option.some.injEq] at hc'
    subst hc'
    rw [hc]
    exact ⟨by unfold HeaderCache.Item.argsOk; omega, rfl, rfl⟩

/-- the class of the old rule's failure: the string area does not fit an `int` as a positive number -/
def KF.cafInfoCount (n : Int) : Prop := Sf.CafInfo.asInt n < 0

instance (n : Int) : Decidable (KF.cafInfoCount n) := by unfold KF.cafInfoCount; infer_instance

open Sf.CafInfo in
/-- OLD RULE, KF-C03-caf-info-pipe (findings/C03-caf-info-pipe.txt): an 'info' chunk of 0xFF0000E6 bytes read from a
    pipe reached memset with the count -16776990 -/
theorem caf_info_count_fails_old_rule :
    ∃ n : Int, 1 ≤ n ∧ KF.cafInfoCount n ∧ bCount .old n = some (-16776990) ∧ ¬ (HeaderCache.Item.b (-16776990)).argsOk :=
  ⟨0xFF0000E6 - 4, by decide, by decide, by decide, by decide⟩

open Sf.CafInfo in
/-- OLD RULE: outside that class the count was in range -/
theorem caf_info_count_partial_old_rule (n : Int) (h : ¬ KF.cafInfoCount n) :
    ∀ c, bCount .old n = some c → (HeaderCache.Item.b c).argsOk := by
  intro c hc
  unfold bCount at hc
  simp only [Option.some.injEq] at hc
  subst hc
  unfold KF.cafInfoCount at h
  unfold HeaderCache.Item.argsOk
  omega

/-- non-vacuity: an ordinary chunk is read under both rules; the witness size and a 1 MB chunk are refused by the current rule -/
example : Sf.CafInfo.bCount .current 226 = some 226 ∧ Sf.CafInfo.bCount .old 226 = some 226 ∧
    Sf.CafInfo.bCount .current (0xFF0000E6 - 4) = none ∧ Sf.CafInfo.bCount .current 1048576 = none ∧
    Sf.CafInfo.bCount .current 102400 = some 102400 ∧ ¬ KF.cafInfoCount 226 := by decide

end Sf.C03
