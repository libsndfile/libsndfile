/-
  C12 on THE PREDICATE (SfModel/AbsMeta.lean) — `Sf.AbsMeta.judge`, which the check evaluates on the implementation's own records
  (`sfmodel abs-meta`): what an accepted record MEANS, whatever code produced it (meaning), that a record on which the statement
  holds is accepted (completeness: never an alarm where the property holds), and that the expectations of the predicate ARE the
  answers the concrete models (Sf.Meta, Sf.MetaX, Sf.MetaFix) are proved to give (`meta_roundtrip_*`, `bext_set_reopen`, …).
  Lemmas in SfProofs/AbsMetaMeaning.lean.
-/
import SfProofs.AbsMetaMeaning
import SfProps.C12
namespace Sf.C12Abs
open Sf Sf.Meta Sf.AbsMeta

/-- MEANING (C12 at full strength, any container): on an accepted record the write handle opened, the audio write, sf_close and
    the re-open succeeded, the audio came back unchanged, every valid item set before the audio on a container that stores the
    kind was accepted, every getter of the re-opened file answers `normalise` of the last accepted value of its item (strings set
    after the audio may be missing), and getters of kinds never set answer "absent" -/
theorem metadata_survives_abs (r : Record) (h : accepted r = true) : Holds r.g r.main := ((accepted_iff r).mp h).1

/-- MEANING of the twin clause: "Setting an item the container cannot store, or too late, is reported as failure or ignored, but
    never alters the audio data or other metadata" — the run that leaves those calls out reads the same audio and returns the same
    answers for every other item -/
theorem refused_or_late_harmless_abs (r : Record) (h : accepted r = true) (t : Run) (ht : r.twin = some t) : TwinHolds r.g r.main t :=
  ((accepted_iff r).mp h).2.1 t ht

/-- MEANING of the order clause: "forall orders of setting the items" -/
theorem order_independent_abs (r : Record) (h : accepted r = true) (p : Run) (hp : r.perm = some p) : PermHolds r.main p :=
  ((accepted_iff r).mp h).2.2 p hp

/-- COMPLETENESS: a record on which the statement holds — on the main run, on the twin run and on the permuted run — is accepted:
    the predicate never raises an alarm where the property holds -/
theorem never_alarm_abs (r : Record) (hm : Holds r.g r.main) (ht : ∀ t, r.twin = some t → TwinHolds r.g r.main t)
    (hp : ∀ p, r.perm = some p → PermHolds r.main p) : accepted r = true := (accepted_iff r).mpr ⟨hm, ht, hp⟩

theorem expOf_append (g : Geom) (a b : List SetCall) : expOf g (a ++ b) = b.foldl (Exp.step g) (expOf g a) := by
  simp [expOf, List.foldl_append]

theorem foldl_bext_untouched (g : Geom) (cs : List SetCall) (e : Exp) (h : ∀ c ∈ cs, ¬ (c.ok = true ∧ c.kind = .bext)) :
    (cs.foldl (Exp.step g) e).bext = e.bext := by
  refine List.foldlRecOn (motive := fun x : Exp => x.bext = e.bext) cs _ rfl fun x ih c hc => Eq.trans ?_ ih
  have hc := h c hc
  unfold Exp.step
  by_cases hok : c.ok = true
  · simp only [hok, Bool.not_true, Bool.false_eq_true, if_false]
    cases hk : c.kind with
    | bext => exact absurd ⟨hok, hk⟩ hc
    | str ty => dsimp only; split <;> (try split) <;> rfl
    | _ => rfl
  · simp [hok]

/-- the broadcast info the predicate expects back is the block of the LAST accepted SFC_SET_BROADCAST_INFO -/
theorem expOf_bext_last (g : Geom) (pre post : List SetCall) (c : SetCall) (hok : c.ok = true) (hk : c.kind = .bext)
    (hpost : ∀ d ∈ post, ¬ (d.ok = true ∧ d.kind = .bext)) : (expOf g (pre ++ c :: post)).bext = some c.blob := by
  rw [expOf_append, List.foldl_cons, foldl_bext_untouched g post _ hpost]
  simp [Exp.step, hok, hk]

/-- C12 for broadcast info, read off an accepted record: the block of the last accepted SET call comes
    back as `normBext` of it (fixed fields as set, version 2, reserved bytes zero, coding history with CR/LF line ends, the added
    line end, the library's own line, even length) -/
theorem bext_survives_abs (r : Record) (h : accepted r = true) (pre post : List SetCall) (c : SetCall)
    (hsets : r.main.sets = pre ++ c :: post) (hok : c.ok = true) (hk : c.kind = .bext)
    (hpost : ∀ d ∈ post, ¬ (d.ok = true ∧ d.kind = .bext)) (hs : bextSupport r.g.cont = true) (m : Got) (hm : r.main.got = some m) :
    m.bext = some (AbsMeta.normBext r.g c.blob) := by
  have hh := metadata_survives_abs r h
  obtain ⟨_, hb, _⟩ := hh.items m hm
  exact hb c.blob (by rw [hsets]; exact expOf_bext_last r.g pre post c hok hk hpost) hs

/-- strings: the text the predicate expects is the text psf_store_string stores (`Sf.Meta.storedText`: library suffix on the
    software string in write mode) -/
theorem normString_model (g : Geom) (hw : Bool) (ty : Nat) (s : List Byte) :
    normString g ty s = Sf.Meta.storedText ⟨.write, hw, g.pkgName, g.pkgVersion⟩ (ty : Int) s := by
  unfold normString Sf.Meta.storedText isWriteMode
  by_cases h : ty = 3
  · subst h; simp
  · have : ¬ ((ty : Int) = 3) := by omega
    simp [h, this]

/-- cue points: WAV keeps every field and the name as a C string of at most 255 bytes — `Sf.MetaFix.Cue.normName`, the
    normalisation of `C12Round.normaliseRiff` / `C12Fix.cue_names_roundtrip` -/
theorem normCueWav_model (c : Cue) : normCueWav c = MetaFix.Cue.normName c := rfl

/-- … AIFF keeps what a MARK entry holds — `cueOfMark (markOfCue c)`, the normalisation of `C12Fix.aiff_cues_with_inst` /
    `C12XState.meta_roundtrip_aiff_state` -/
theorem normCueAiff_model (c : Cue) : normCueAiff c = MetaX.cueOfMark (MetaX.markOfCue c) := rfl

theorem normCues_aiff_model (cs : List Cue) : normCues .aiff cs = (cs.map MetaX.markOfCue).map MetaX.cueOfMark := by
  simp [normCues, normCueAiff_model]

/-- the fields in front of the two alignment bytes (338 bytes) -/
def bextP1 (b : Bext) : List Byte := b.description ++ b.originator ++ b.originatorRef ++ b.date ++ b.time
/-- time reference (8 bytes) -/
def bextP2 (b : Bext) : List Byte := le4 b.timeLow ++ le4 b.timeHigh
/-- umid and the five loudness fields (74 bytes) -/
def bextP3 (b : Bext) : List Byte := b.umid ++ le2 b.l1 ++ le2 b.l2 ++ le2 b.l3 ++ le2 b.l4 ++ le2 b.l5

/-- SF_BROADCAST_INFO as the C struct lays the fields of `b` out: two alignment bytes `pad` behind origination_time,
    coding_history_size = `declared`, then the coding history -/
def bextBlock (b : Bext) (pad : List Byte) (declared : Nat) : List Byte :=
  bextP1 b ++ (pad ++ (bextP2 b ++ (le2 b.version ++ (bextP3 b ++ (b.reserved ++ (le4 declared ++ b.history))))))

theorem bextP1_length (b : Bext) (h : b.wf) : (bextP1 b).length = 338 := by
  obtain ⟨d1, d2, d3, d4, d5, _⟩ := h
  simp [bextP1, d1, d2, d3, d4, d5]

theorem bextP3_length (b : Bext) (h : b.wf) : (bextP3 b).length = 74 := by
  obtain ⟨_, _, _, _, _, _, _, _, um, _⟩ := h
  simp [bextP3, um]

theorem seg_eq (b a : List Byte) (off n : Nat) (h : (b.drop off).take n = a) (hn : a.length = n) : seg b off n = a := by
  subst hn
  unfold seg fixW
  rw [h]
  have : a.length ≤ (b.drop off).length := by
    have := congrArg List.length h
    simp only [List.length_take] at this; omega
  rw [Nat.sub_eq_zero_of_le this]; simp [zeros]

/-- Completeness of the `bext` clause against the model: for a well-formed block, what the predicate expects
    (`Sf.AbsMeta.normBext` on the caller's struct bytes) is, byte for byte, the struct image of what the model's re-opened file
    returns (`Sf.Meta.normBext` = `reopenNow` after `step (.setBext …)`, theorem `C12Round.bext_set_reopen`) -/
theorem normBext_model (g : Geom) (b : Bext) (hwf : b.wf) (pad : List Byte) (hpad : pad.length = 2) (declared : Nat) :
    AbsMeta.normBext g (bextBlock b pad declared)
      = bextBlock (Sf.Meta.normBext .write (historyLine g) b) [0, 0] (Sf.Meta.normBext .write (historyLine g) b).history.length := by
  have l1 := bextP1_length b hwf
  have l3 := bextP3_length b hwf
  have l2 : (bextP2 b).length = 8 := by simp [bextP2]
  obtain ⟨-, -, -, -, -, -, -, -, -, -, -, -, -, -, lr⟩ := hwf   -- the last clause of `Bext.wf`: `b.reserved.length = 180`
  -- every part the predicate cuts out of the block is the part that was laid there: the parts in front of it are dropped whole
  have s1 : seg (bextBlock b pad declared) 0 338 = bextP1 b := seg_eq _ _ _ _ (List.take_left' l1) l1
  have s2 : seg (bextBlock b pad declared) 340 8 = bextP2 b :=
    seg_eq _ _ _ _ (by simp only [bextBlock, drop_app_skip, l1, hpad, Nat.reduceLeDiff, Nat.reduceSub, List.drop_zero, List.take_left' l2]) l2
  have s3 : seg (bextBlock b pad declared) 350 74 = bextP3 b :=
    seg_eq _ _ _ _ (by simp only [bextBlock, drop_app_skip, l1, hpad, l2, le2_length, Nat.reduceLeDiff, Nat.reduceSub, List.drop_zero,
      List.take_left' l3]) l3
  have s4 : (bextBlock b pad declared).drop 608 = b.history := by
    simp only [bextBlock, drop_app_skip, l1, hpad, l2, l3, lr, le2_length, le4_length, Nat.reduceLeDiff, Nat.reduceSub, List.drop_zero]
  unfold AbsMeta.normBext
  simp only [s1, s2, s3, s4]
  simp [bextBlock, Sf.Meta.normBext, setBext, Bext.reread, bextP1, bextP2, bextP3, List.append_assoc]

/-- … so the model's transcript passes the `bext` clause: a handle on which SFC_SET_BROADCAST_INFO was accepted before the audio
    (WAV, WAVEX, RF64), re-opened by the model, rendered as the harness prints it -/
theorem model_bext_accepted (g : Geom) (b : Bext) (hwf : b.wf) (pad : List Byte) (hpad : pad.length = 2) (declared : Nat) (e : Exp) (m : Got)
    (he : e.bext = some (bextBlock b pad declared))
    (hm : m.bext = some (bextBlock (Sf.Meta.normBext .write (historyLine g) b) [0, 0] (Sf.Meta.normBext .write (historyLine g) b).history.length)) :
    bextFail g e m = [] := by
  rw [bextFail_nil_iff]
  intro blob hb _
  rw [he] at hb; cases hb
  rw [hm, normBext_model g b hwf pad hpad declared]

/-- SF_CART_INFO as the C struct lays the fields of `c` out: tag_text_size = `declared`, then the tag text -/
def cartBlock (c : Cart) (declared : Nat) : List Byte := c.head ++ (c.reserved ++ (c.url ++ (le4 declared ++ c.tag)))

/-- Completeness of the `cart` clause against the model: for a well-formed block, `Sf.AbsMeta.normCart` on the
    caller's struct bytes is the struct image of what the model's re-opened file returns (`Sf.Meta.normCart 0` = `reopenNow` after
    `step (.setCart 0 …)`, theorem `C12Round.cart_set_reopen`; the byte behind an even-length text is masked on both sides) -/
theorem normCart_model (c : Cart) (hwf : c.wf) (declared : Nat) :
    AbsMeta.normCart (cartBlock c declared) = cartBlock (Sf.Meta.normCart 0 c) (Sf.Meta.normCart 0 c).tag.length := by
  obtain ⟨h1, h2, h3⟩ := hwf
  have s1 : seg (cartBlock c declared) 0 748 = c.head := seg_eq _ _ _ _ (List.take_left' h1) h1
  have s2 : seg (cartBlock c declared) 1024 1024 = c.url :=
    seg_eq _ _ _ _ (by simp only [cartBlock, drop_app_skip, h1, h2, Nat.reduceLeDiff, Nat.reduceSub, List.drop_zero, List.take_left' h3]) h3
  have s3 : (cartBlock c declared).drop 2052 = c.tag := by
    simp only [cartBlock, drop_app_skip, h1, h2, h3, le4_length, Nat.reduceLeDiff, Nat.reduceSub, List.drop_zero]
  unfold AbsMeta.normCart
  simp only [s1, s2, s3]
  simp [cartBlock, Sf.Meta.normCart, setCart, Cart.reread, List.append_assoc]

theorem model_cart_accepted (g : Geom) (c : Cart) (hwf : c.wf) (declared : Nat) (e : Exp) (m : Got) (hs : cartSupport g.cont = true)
    (he : e.cart = some (cartBlock c declared))
    (hm : m.cart = some (cartBlock (Sf.Meta.normCart 0 c) (Sf.Meta.normCart 0 c).tag.length)) : cartFail g e m = [] := by
  rw [cartFail_nil_iff]
  intro blob hb _
  rw [he] at hb; cases hb
  exact ⟨_, hm, by rw [normCart_model c hwf declared]⟩

def gWav : Geom := { cont := .wav, ch := 2, sr := 44100, sub := 2, pkgName := ascii "libsndfile", pkgVersion := ascii "1.2.2" }

/-- a title and a software string before the audio, two cue points (one named), a comment after the audio that the library
    stores, a cue list after the audio that it refuses -/
def c1 : SetCall := { kind := .str 1, ok := true, text := some (ascii "Title") }
def c2 : SetCall := { kind := .str 3, ok := true, text := some (ascii "me") }
def c3 : SetCall := { kind := .cues, ok := true, cues := [⟨1, 10, 0x61746164, 0, 0, 10, ascii "one"⟩, ⟨7, 20, 0x61746164, 1, 2, 3, []⟩] }
def c4 : SetCall := { kind := .str 5, late := true, ok := true, text := some (ascii "late") }
def c5 : SetCall := { kind := .cues, late := true, ok := false, cues := [] }

def sampleMain : Run :=
  { openOk := true,
    sets := [c1, c2, c3, c4, c5],
    items := [1, 2, 3, 4], wret := some (4, 0), close := some 0, reopen := some { ok := true, frames := 2 },
    got := some { strs := [(1, some (ascii "Title")), (3, some (ascii "me (libsndfile-1.2.2)")), (5, some (ascii "late"))],
                  cueCount := (1, 2), cues := some (2, [⟨1, 10, 0x61746164, 0, 0, 10, ascii "one"⟩, ⟨7, 20, 0x61746164, 1, 2, 3, []⟩]) },
    read := some { ret := 4, err := 0, data := [1, 2, 3, 4, 0xA5A5, 0xA5A5] } }

def sampleTwin : Run :=
  { sampleMain with
    sets := [c1, c2, c3],
    got := some { strs := [(1, some (ascii "Title")), (3, some (ascii "me (libsndfile-1.2.2)"))],
                  cueCount := (1, 2), cues := some (2, [⟨1, 10, 0x61746164, 0, 0, 10, ascii "one"⟩, ⟨7, 20, 0x61746164, 1, 2, 3, []⟩]) },
    read := some { ret := 4, err := 0, data := [1, 2, 3, 4, 0, 0] } }

def samplePerm : Run :=
  { sampleMain with sets := [c3, c2, c1, c4, c5] }

/-- the record is accepted (so `Holds`, `TwinHolds`, `PermHolds` are inhabited by a non-trivial value) … -/
example : accepted { g := gWav, main := sampleMain, twin := some sampleTwin, perm := some samplePerm } = true := by decide +kernel

/-- … and the clauses are not vacuous: a changed string, a string that appears from nowhere, a late call that alters another item,
    an order that matters, audio one sample off — each is refused with its clause -/
example :
    (judge { g := gWav, main := { sampleMain with got := sampleMain.got.map fun m => { m with strs := [(1, some (ascii "Titel"))] } } }).map (·.tag)
      = ["str-1", "str-3"] ∧
    (judge { g := gWav, main := { sampleMain with got := sampleMain.got.map fun m => { m with strs := m.strs ++ [(4, some (ascii "x"))] } } }).map (·.tag)
      = ["absent-str-4"] ∧
    (judge { g := gWav, main := sampleMain, twin := some { sampleTwin with got := sampleTwin.got.map fun m => { m with strs := [(1, some (ascii "Title"))] } } }).map (·.tag)
      = ["twin-str-3"] ∧
    (judge { g := gWav, main := sampleMain, perm := some { samplePerm with got := samplePerm.got.map fun m => { m with cueCount := (1, 1) } } }).map (·.tag)
      = ["order-meta"] ∧
    (judge { g := gWav, main := { sampleMain with read := some { ret := 4, err := 0, data := [1, 2, 3, 5] } } }).map (·.tag) = ["audio"] := by
  decide +kernel

/-- `normBext` on a concrete block: CR / LF line ends become CR LF, the missing line end and the library's line are added -/
example : (AbsMeta.normBext gWav (bextBlock bextSample [7, 7] 6)).drop 608 = ascii "A=PCM\r\nA=PCM,F=44100,W=16,M=stereo,T=libsndfile-1.2.2\r\n" ++ [0] ∧
    (AbsMeta.normBext gWav (bextBlock bextSample [7, 7] 6)).length = 608 + 56 := by decide +kernel

end Sf.C12Abs
