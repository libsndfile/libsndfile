/-
  SfProps.C09CmdFail — the refusal convention `code` of sf_command's failure-value table (`Sf.CmdFail.refusedBy .code`,
  lean/SfModel/CmdFail.lean) on the four CALC commands of the command model Sf.Command.run.

  * `calc_all_refusal_convention` (full strength): SFC_CALC_MAX_ALL_CHANNELS / SFC_CALC_NORM_MAX_ALL_CHANNELS with a block of the right
    size on ANY handle that cannot scan the file (not seekable, or no read functions: a write-only handle) are refused by convention
    `code` — non-zero return value = the recorded error —, write nothing into the block and leave the handle as it was.
  * `calc_all_success_clean`: whenever these two report success (0) the handle can scan, the size is right and the whole block is
    filled in.  (The error after a success is not stated: the success arm of the model leaves `err` open.)
  * `calc_signal_max_refusal_convention` / `calc_signal_max_refusal_holds` are the same statement for SFC_CALC_SIGNAL_MAX /
    SFC_CALC_NORM_SIGNAL_MAX at full strength (since the repair of KF-C09-CALC-SIGNAL-MAX-RET0: `return psf->error` behind the call);
    `calc_signal_max_success_clean` is `calc_all_success_clean` for this pair.  The rule before the repair (`runOld`: the case ended
    in `break`) is kept: `calc_signal_max_old_rule` (a write-only WAV handle and a GSM read handle were answered 0 with the error
    recorded) and `calc_signal_max_refusal_old_rule` (the statement failed for it).
  * the seeded rule C09-calc-all-returns-false (`return SF_FALSE` in the shared guard) is `calcAllSeeded`; it is refuted
    by the same handle.
-/
import SfProofs.Command
import SfModel.CmdFail
namespace Sf.C09CmdFail
open Sf Sf.Command Sf.CmdFail

/-- the handle cannot serve a scanning command -/
def cannotScan (h : H) : Bool := !h.seekable || !canRead h

/-- the return value where the model determines it -/
def retInt : Ret → Option Int
  | .exact v => some v
  | _ => none

/-- the refusal clause on a model answer -/
def refusedRes (c : Conv) (r : Res) : Bool :=
  match retInt r.ret, r.err with
  | some v, some e => refusedBy c v e
  | _, _ => false

theorem calc_all_refusal_convention (g : G) (h : H) (cmd : Int) (m : Mem) (hc : cmd = 0x1042 ∨ cmd = 0x1043)
    (hs : cannotScan h = true) :
    let r := run g (some h) cmd (szDouble * h.channels) (some m)
    refusedRes .code r = true ∧ r.writes = [] ∧ r.h' = some h := by
  rw [run_all_channels g h cmd _ _ hc, guardEq_pass]
  revert hs
  unfold cannotScan
  cases h.seekable <;> cases canRead h <;> simp [refusedRes, retInt, refusedBy, eNotSeekable, eUnimplemented]

theorem calc_all_success_clean (g : G) (h : H) (cmd : Int) (size : Nat) (data : Option Mem) (hc : cmd = 0x1042 ∨ cmd = 0x1043)
    (h0 : (run g (some h) cmd size data).ret = .exact 0) :
    cannotScan h = false ∧ (run g (some h) cmd size data).writes = [(0, szDouble * h.channels)] ∧ size = szDouble * h.channels := by
  rw [run_all_channels g h cmd _ _ hc] at h0 ⊢
  obtain ⟨m, hsz, e⟩ := guardEq_zero h0
  rw [e] at h0 ⊢
  revert h0
  unfold cannotScan
  cases h.seekable <;> cases canRead h <;> simp [hsz, eNotSeekable, eUnimplemented]

/-- a write-only WAV / PCM16 handle with 8 frames written (`Sf.C17.wavW` with `haveWritten := true`, `writeCur := 8`) -/
def wavW : H :=
  { mode := .w, container := cWAV, codec := 2, channels := 2, seekable := true, hasCommand := true, haveWritten := true,
    readCur := 0, writeCur := 8, normFloat := true, normDouble := true, clipping := false, floatIntMult := false,
    scaleIntFloat := false, autoHeader := false, ieeeReplace := false, endswap := false, ambisonic := 0x40,
    rf64Downgrade := false, bext := none, cart := none, cues := none, hasInstrument := false, hasLoop := false,
    hasChanMap := false, hasPeak := false, logLen := 11, metaEpoch := 0, fileEpoch := 0 }

/-- a read handle of a codec that cannot seek (WAV / GSM 6.10) -/
def gsmR : H := { wavW with mode := .r, codec := 0x20, channels := 1, seekable := false, haveWritten := false, writeCur := 0 }

def g0 : G := { verLen := 16, gLogLen := 0, simpleCount := 13, majorCount := 23, subtypeCount := 28 }

-- non-vacuity: both kinds of handle, both error numbers
example : cannotScan wavW = true ∧ cannotScan gsmR = true ∧
    (run g0 (some wavW) 0x1042 16 (some ⟨16, fun _ => 0⟩)).ret = .exact 18 ∧
    (run g0 (some gsmR) 0x1043 8 (some ⟨8, fun _ => 0⟩)).ret = .exact 40 ∧
    (run g0 (some { wavW with mode := .r }) 0x1042 16 (some ⟨16, fun _ => 0⟩)).ret = .exact 0 := by decide

/-- the refusal statement for the pair under an arbitrary answer function (the current `run`, or the rule before the repair) -/
def calcSignalMaxRefusal (f : G → H → Int → Mem → Res) : Prop :=
  ∀ (g : G) (h : H) (cmd : Int) (m : Mem), (cmd = 0x1040 ∨ cmd = 0x1041) → cannotScan h = true →
    ∃ v : Int, (f g h cmd m).ret = .exact v ∧ v ≠ 0

def calc_signal_max_refusal_full : Prop :=
  calcSignalMaxRefusal fun g h cmd m => run g (some h) cmd szDouble (some m)

/-- FULL STRENGTH (since the repair of KF-C09-CALC-SIGNAL-MAX-RET0): on ANY handle that cannot scan the file the pair is refused by
    convention `code` — the non-zero return value is the recorded error —, and the handle is left as it was.  (The block receives the
    0.0 psf_calc_signal_max returns: `writes` is the double.) -/
theorem calc_signal_max_refusal_convention (g : G) (h : H) (cmd : Int) (m : Mem) (hc : cmd = 0x1040 ∨ cmd = 0x1041)
    (hs : cannotScan h = true) :
    let r := run g (some h) cmd szDouble (some m)
    refusedRes .code r = true ∧ r.writes = [(0, szDouble)] ∧ r.h' = some h := by
  rw [run_signal_max g h cmd _ _ hc, guardEq_pass]
  revert hs
  unfold cannotScan calcSignalMax
  cases h.seekable <;> cases canRead h <;> simp [refusedRes, retInt, refusedBy, eNotSeekable, eUnimplemented]

theorem calc_signal_max_refusal_holds : calc_signal_max_refusal_full := by
  intro g h cmd m hc hs
  have h1 := calc_signal_max_refusal_convention g h cmd m hc hs
  simp only [refusedRes] at h1
  show ∃ v : Int, (run g (some h) cmd szDouble (some m)).ret = .exact v ∧ v ≠ 0
  generalize run g (some h) cmd szDouble (some m) = r at h1 ⊢
  obtain ⟨h1, _, _⟩ := h1
  cases hr : r.ret with
  | exact v =>
    refine ⟨v, rfl, ?_⟩
    intro hv
    subst hv
    cases he : r.err <;> simp [hr, he, retInt, refusedBy] at h1
  | among l => simp [hr, retInt] at h1
  | undef => simp [hr, retInt] at h1

/-- whenever the pair reports success (0) the handle can scan, the size is right and the double is written -/
theorem calc_signal_max_success_clean (g : G) (h : H) (cmd : Int) (size : Nat) (data : Option Mem) (hc : cmd = 0x1040 ∨ cmd = 0x1041)
    (h0 : (run g (some h) cmd size data).ret = .exact 0) :
    cannotScan h = false ∧ (run g (some h) cmd size data).writes = [(0, szDouble)] ∧ size = szDouble := by
  rw [run_signal_max g h cmd _ _ hc] at h0 ⊢
  obtain ⟨m, hsz, e⟩ := guardEq_zero h0
  rw [e] at h0 ⊢
  revert h0
  unfold cannotScan calcSignalMax
  cases h.seekable <;> cases canRead h <;> simp [hsz, eNotSeekable, eUnimplemented]

-- non-vacuity: both kinds of handle, both error numbers, both ids; a read handle scans
example : (run g0 (some wavW) 0x1040 8 (some ⟨8, fun _ => 0⟩)).ret = .exact 18 ∧
    (run g0 (some wavW) 0x1041 8 (some ⟨8, fun _ => 0⟩)).err = some 18 ∧
    (run g0 (some gsmR) 0x1041 8 (some ⟨8, fun _ => 0⟩)).ret = .exact 40 ∧
    (run g0 (some { wavW with mode := .r }) 0x1040 8 (some ⟨8, fun _ => 0⟩)).ret = .exact 0 ∧
    cannotScan { wavW with mode := .r } = false := by decide

/-- the rule before the repair: the case ended in `break` (return 0) whatever psf_calc_signal_max had recorded -/
def runOld (g : G) (h : H) (cmd : Int) (size : Nat) (data : Option Mem) : Res :=
  if cmd = 0x1040 ∨ cmd = 0x1041 then
    guardEq szDouble size data (some h) eBadParam (some eBadParam) fun _ => calcSignalMax true h
  else run g (some h) cmd size data

/-- KF-C09-CALC-SIGNAL-MAX-RET0 (repaired): under the old rule a write-only WAV handle was answered 0 with error 18 recorded … -/
theorem calc_signal_max_old_rule :
    (runOld g0 wavW 0x1040 szDouble (some ⟨8, fun _ => 0⟩)).ret = .exact 0 ∧
    (runOld g0 wavW 0x1040 szDouble (some ⟨8, fun _ => 0⟩)).err = some eUnimplemented ∧ cannotScan wavW = true ∧
    (runOld g0 gsmR 0x1041 szDouble (some ⟨8, fun _ => 0⟩)).ret = .exact 0 ∧
    (runOld g0 gsmR 0x1041 szDouble (some ⟨8, fun _ => 0⟩)).err = some eNotSeekable := by decide

/-- … so the full statement failed for it -/
theorem calc_signal_max_refusal_old_rule : ¬ calcSignalMaxRefusal fun g h cmd m => runOld g h cmd szDouble (some m) := by
  intro hf
  obtain ⟨v, hv, hne⟩ := hf g0 wavW 0x1040 ⟨8, fun _ => 0⟩ (Or.inl rfl) (by decide)
  have h0 : (runOld g0 wavW 0x1040 szDouble (some ⟨8, fun _ => 0⟩)).ret = .exact 0 := by decide
  rw [h0] at hv
  injection hv with hv
  exact hne hv.symm

/-- the two rules differ in nothing but the return value of a refused call -/
theorem calc_signal_max_old_rule_differs_only_in_ret (h : H) :
    { calcSignalMax true h with ret := (calcSignalMax false h).ret } = calcSignalMax false h := by
  unfold calcSignalMax
  cases h.seekable <;> cases canRead h <;> rfl

/-- `if (! calc_max_possible (psf)) return SF_FALSE ;` — the refusal of the _ALL_CHANNELS pair answers 0 -/
def calcAllSeeded (g : G) (h : H) (cmd : Int) (size : Nat) (data : Option Mem) : Res :=
  let r := run g (some h) cmd size data
  if (cmd = 0x1042 ∨ cmd = 0x1043) ∧ cannotScan h = true ∧ r.ret ≠ .exact eBadParam then { r with ret := .exact 0 } else r

theorem calcAllSeeded_old_rule : refusedRes .code (calcAllSeeded g0 wavW 0x1042 16 (some ⟨16, fun _ => 0⟩)) = false ∧
    refusedRes .code (run g0 (some wavW) 0x1042 16 (some ⟨16, fun _ => 0⟩)) = true := by decide

end Sf.C09CmdFail
