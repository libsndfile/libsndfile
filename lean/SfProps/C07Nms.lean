/-
  C07 / C05 (NMS ADPCM, src/nms_adpcm.c) — the codec core and the write side.
  -- properties: C05

  * codec-level invariants, for every state reachable from `nms_adpcm_codec_init` by any sequence of encoded samples
    and decoded codewords: every table index is in range, the shift count of `nms_adpcm_antilog` is in [16, 25],
    the coefficient and delta arrays keep their lengths (memory safety of the codec core, proved, not observed);
    decoded samples lie in [-32767, 32767]; codewords are < 16 and carry only the bits their rate keeps;
    `unpack (pack cs) = cs` for the 32 kbit/s layout (`unpack32_pack32`; 16 kbit/s and one group of 24 kbit/s are in
    C07NmsPack.lean, whole lists at 24 kbit/s in C07NmsBlock.lean).
  * write-partition independence with the real encoder: the state of the block writer after any list of write calls
    of any caller types (so the bytes in the file, the pending samples, the encoder state, and the data region
    after close) is the fold of "store one short, encode when 160 are there" over the concatenated converted shorts.
    Item and frame call variants coincide (one channel).
-/
import SfModel.NmsFile
import SfProofs.NmsCodec
import SfProps.C07Block
import SfProps.C07NmsPack
namespace Sf.C07Nms
open Sf Sf.Nms Sf.Nms.Proofs Sf.Block Sf.Block.Proofs

/-- `table_expn [(exp & 0x7c0) >> 6]`: in range for every `short` (every integer) `exp` -/
theorem antilog_index_in_range (e : Int) : antilogIndex e < tableExpn.length := by
  have : tableExpn.length = 32 := rfl
  rw [this]
  unfold antilogIndex
  omega

/-- `r >>= (26 - (exp >> 11))`: with the scale factor clamped to [2171, 20480] the count is between 16 and 25 — never
    negative, never ≥ the width of the operand -/
theorem antilog_shift_in_range (e : Int) (h1 : 2171 ≤ e) (h2 : e ≤ 20480) : 16 ≤ antilogShift e ∧ antilogShift e ≤ 25 := by
  unfold antilogShift asr
  have : (2 : Int) ^ 11 = 2048 := by decide
  rw [this]
  omega

/-- `s->t_off + (I & 7)` into the 24-entry codeword tables -/
theorem code_index_in_range (r : Rate) (i : Nat) :
    codeIndex r.tOff i < tableScaleFactorStep.length ∧ codeIndex r.tOff i < tableStep.length := by
  have e1 : tableScaleFactorStep.length = 24 := rfl
  have e2 : tableStep.length = 24 := rfl
  rw [e1, e2]
  unfold codeIndex
  cases r <;> simp only [Rate.tOff] <;> omega

/-- `table_step_search [s->t_off + k]`, k = 0 … 6 -/
theorem search_index_in_range (r : Rate) (k : Nat) (hk : k ≤ 6) : r.tOff + k < tableStepSearch.length := by
  have e : tableStepSearch.length = 24 := rfl
  rw [e]
  cases r <;> simp only [Rate.tOff] <;> omega

/-- the states a handle's codec can be in: after `nms_adpcm_codec_init`, any samples encoded, any codewords decoded -/
inductive Reach (r : Rate) : St → Prop
  | init : Reach r (St.init r)
  | enc (s : St) (x : Int) : Reach r s → Reach r (encodeSample s x).1
  | dec (s : St) (i : Nat) : Reach r s → Reach r (decodeSample s i).1

theorem encodeSample_state (s : St) (x : Int) :
    ∃ i, (encodeSample s x).1 = (reconstruct { update s with parity := (s.parity + 1) % 2 } i).1 := by
  unfold encodeSample
  exact ⟨_, rfl⟩

theorem decodeSample_state (s : St) (i : Nat) : (decodeSample s i).1 = (reconstruct (update s) i).1 := by
  unfold decodeSample
  rfl

theorem reach_shape (r : Rate) (s : St) (h : Reach r s) : s.tOff = r.tOff ∧ Shape s ∧ s.ik < 16 := by
  induction h with
  | init => exact ⟨rfl, shape_init r, Nat.zero_lt_succ _⟩
  | enc s x _ ih =>
    obtain ⟨i, hi⟩ := encodeSample_state s x
    rw [hi]
    refine ⟨?_, ?_, ?_⟩
    · rw [reconstruct_tOff]; exact ih.1
    · apply reconstruct_shape
      have := update_shape s ih.2.1
      exact ⟨this.b, this.dq⟩
    · rw [reconstruct_ik]; exact Nat.mod_lt _ (by decide)
  | dec s i _ ih =>
    rw [decodeSample_state]
    refine ⟨?_, ?_, ?_⟩
    · rw [reconstruct_tOff, update_tOff]; exact ih.1
    · exact reconstruct_shape _ _ (update_shape s ih.2.1)
    · rw [reconstruct_ik]; exact Nat.mod_lt _ (by decide)

/-- everything one `nms_adpcm_update` + `nms_adpcm_reconstruct_sample (I)` + quantizer search step indexes or shifts by -/
structure SafeStep (s : St) (i : Nat) : Prop where
  sfs    : codeIndex s.tOff s.ik < tableScaleFactorStep.length          -- table_scale_factor_step [t_off + (Ik & 7)]
  expn   : antilogIndex (nextYl s) < tableExpn.length                   -- table_expn [(yl & 0x7c0) >> 6]
  shift  : 16 ≤ antilogShift (nextYl s) ∧ antilogShift (nextYl s) ≤ 25   -- r >>= 26 - (yl >> 11)
  step   : codeIndex s.tOff i < tableStep.length                        -- table_step [t_off + (I & 7)]
  search : ∀ k, k ≤ 6 → s.tOff + k < tableStepSearch.length             -- table_step_search [t_off + k]
  b      : s.b.length = 6                                               -- b [0..5]
  dq     : s.dq.length = 7                                              -- d_q [0..6]

/-- **memory safety of the codec core**: in every reachable state, for every codeword, every table index of the
    next step is in range, the shift count is legal, and the arrays have their declared lengths -/
theorem codec_step_safe (r : Rate) (s : St) (h : Reach r s) (i : Nat) : SafeStep s i := by
  obtain ⟨ht, hs, _⟩ := reach_shape r s h
  have hy := nextYl_range s
  exact {
    sfs := by rw [ht]; exact (code_index_in_range r s.ik).1
    expn := antilog_index_in_range _
    shift := antilog_shift_in_range _ hy.1 hy.2
    step := by rw [ht]; exact (code_index_in_range r i).2
    search := by intro k hk; rw [ht]; exact search_index_in_range r k hk
    b := hs.b
    dq := hs.dq }

/-- non-vacuity: a state reached by encoding three samples and decoding two codewords at 24 kbit/s -/
example : Reach .r24 (decodeSample (decodeSample (encodeSample (encodeSample (encodeSample (St.init .r24) 1000).1 (-32768)).1 32767).1 14).1 3).1 :=
  .dec _ _ (.dec _ _ (.enc _ _ (.enc _ _ (.enc _ _ .init))))

/-- decoded samples are within 16 bits — in fact within ±32767 — for every state and every codeword -/
theorem decode_sample_range (s : St) (i : Nat) : -32767 ≤ (decodeSample s i).2 ∧ (decodeSample s i).2 ≤ 32767 := by
  unfold decodeSample
  simp only
  generalize (reconstruct (update s) i).2 = sl
  have key : ∀ c : Int, -8159 ≤ c → c ≤ 8159 → -32767 ≤ wrapS 16 (cdiv (c * 0x7fff) 0x1fdf) ∧ wrapS 16 (cdiv (c * 0x7fff) 0x1fdf) ≤ 32767 := by
    intro c h1 h2
    have hb : -32767 ≤ cdiv (c * 0x7fff) 0x1fdf ∧ cdiv (c * 0x7fff) 0x1fdf ≤ 32767 := by
      by_cases hc : 0 ≤ c
      · rw [cdiv_nonneg _ _ (by omega)]; omega
      · have e : c * 0x7fff = - ((-c) * 0x7fff) := by omega
        rw [e, cdiv_neg, cdiv_nonneg _ _ (by omega)]; omega
    rw [wrapS_of_range 16 _ (by omega) (by omega)]
    exact hb
  split
  · exact key _ (by decide) (by decide)
  · split
    · exact key _ (by decide) (by decide)
    · exact key sl (by omega) (by omega)

example : (decodeSample (St.init .r32) 7).2 = 20 ∧ (decodeSample (St.init .r32) 15).2 = -24 := by decide

/-- codewords are < 16 and carry only the bits their rate keeps -/
theorem encode_sample_code (s : St) (x : Int) :
    (encodeSample s x).2 < 16 ∧ (encodeSample s x).2 &&& maskOf s.tOff = (encodeSample s x).2 := by
  unfold encodeSample
  simp only
  generalize (if _ < (0 : Int) then 8 else 0) + quantize _ _ = c
  show c &&& maskOf s.tOff < 16 ∧ c &&& maskOf s.tOff &&& maskOf s.tOff = c &&& maskOf s.tOff
  have hm : maskOf s.tOff ≤ 15 := by
    unfold maskOf
    split
    · decide
    · split <;> decide
  refine ⟨?_, ?_⟩
  · exact Nat.lt_of_le_of_lt (Nat.le_trans Nat.and_le_right hm) (by decide)
  · rw [Nat.and_assoc, Nat.and_self]

/-- the mask of a rate: two-bit codewords are multiples of 4, three-bit ones of 2 -/
theorem masked_code_shape : ∀ c, c < 16 → (c &&& 0xc = c → c % 4 = 0) ∧ (c &&& 0xe = c → c % 2 = 0) := by decide

example : (encodeSample (St.init .r16) 12000).2 = 4 ∧ (encodeSample (St.init .r24) (-12000)).2 = 14 ∧ (encodeSample (St.init .r32) 300).2 = 7 := by decide

theorem unpack32_pack32 : ∀ (n : Nat) (cs : List Nat), cs.length = 4 * n → (∀ c ∈ cs, c < 16) → unpack32 (pack32 cs) = cs := by
  intro n
  induction n with
  | zero => intro cs h _; have : cs = [] := List.eq_nil_of_length_eq_zero (by omega); subst this; rfl
  | succ n ih =>
    intro cs h hc
    match cs, h with
    | c0 :: c1 :: c2 :: c3 :: rest, h =>
      have hr : rest.length = 4 * n := by simp only [List.length_cons] at h; omega
      have := ih rest hr (fun c hc' => hc c (by simp [hc']))
      simp only [pack32, unpack32, List.flatMap_cons]
      rw [C07NmsPack.word4_nibbles c0 c1 c2 c3 (hc c0 (by simp)) (hc c1 (by simp)) (hc c2 (by simp)) (hc c3 (by simp))]
      unfold unpack32 at this
      rw [this]
      rfl

example : unpack32 (pack32 [1, 15, 0, 8, 7, 7, 2, 9]) = [1, 15, 0, 8, 7, 7, 2, 9] := by decide

/-- the shorts the codec sees for a list of write calls of any caller types -/
def shortsOf (cv : Conv) (calls : List (Ty × List Int)) : List Int := calls.flatMap fun c => c.2.map (ofCaller cv c.1)

/-- the per-sample step: store the short in the block buffer; when 160 are there, encode the block with the running
    encoder state (`nms_adpcm_encode_block`), emit its bytes, start the next block -/
def pushSample (r : Rate) (st : WState St) (x : Int) : WState St := pushFrame (writer r) st [x]

theorem writer_wf (r : Rate) : WWF (writer r) := ⟨Nat.succ_pos 159, Nat.succ_pos 0⟩

/-- any list of `sf_write_T` calls of any caller types and lengths (the 4096-short staging loop of the int / float /
    double entry points included), from any state between calls: the fold of `pushSample` over the converted shorts -/
theorem nms_write_calls_fold (r : Rate) (cv : Conv) : ∀ (calls : List (Ty × List Int)) (st : WState St), WInv (writer r) st →
    calls.foldl (writeCall r cv) st = (shortsOf cv calls).foldl (pushSample r) st ∧
      WInv (writer r) ((shortsOf cv calls).foldl (pushSample r) st) := by
  intro calls st inv
  have := mono_typed_session (writer r) (writer_wf r) rfl chunkOf (ofCaller cv) calls st inv
  rwa [List.foldl_map] at this

/-- **write-partition independence, full strength**: ∀ rate, ∀ conversion settings, ∀ two lists of write calls — any
    number of calls, any sizes (0, 1, odd, 159, 160, 161, beyond the 4096-short staging buffer), any mix of the four
    caller types, item or frame variants (one channel: the same call) — that hand the codec the same sequence of
    shorts: the writer ends in the same state (bytes in the file so far, samples pending, encoder state) and the data
    region of the closed file is byte-identical -/
theorem nms_write_partition (r : Rate) (cv : Conv) (calls1 calls2 : List (Ty × List Int))
    (h : shortsOf cv calls1 = shortsOf cv calls2) :
    calls1.foldl (writeCall r cv) (openW r) = calls2.foldl (writeCall r cv) (openW r) ∧
    closedData r cv calls1 = closedData r cv calls2 := by
  have inv : WInv (writer r) (openW r) := init_inv_w (writer r) (writer_wf r) _
  have e : calls1.foldl (writeCall r cv) (openW r) = calls2.foldl (writeCall r cv) (openW r) := by
    rw [(nms_write_calls_fold r cv calls1 _ inv).1, (nms_write_calls_fold r cv calls2 _ inv).1, h]
  exact ⟨e, by unfold closedData; rw [e]⟩

theorem shortsOf_pieces (cv : Conv) (ty : Ty) (pieces : List (List Int)) :
    shortsOf cv (pieces.map fun p => (ty, p)) = shortsOf cv [(ty, pieces.flatten)] := by
  induction pieces with
  | nil => rfl
  | cons p ps ih =>
    simp only [shortsOf, List.map_cons, List.flatMap_cons, List.flatMap_nil, List.append_nil, List.flatten_cons, List.map_append] at ih ⊢
    rw [ih]

theorem nms_write_splits (r : Rate) (cv : Conv) (ty : Ty) (pieces : List (List Int)) :
    closedData r cv (pieces.map fun p => (ty, p)) = closedData r cv [(ty, pieces.flatten)] :=
  (nms_write_partition r cv _ _ (shortsOf_pieces cv ty pieces)).2

/-- what the close does with a started block: nothing pending — nothing written; otherwise the pending samples,
    the rest of the block zero, encoded with the running state (`nms_adpcm_close`) -/
theorem nms_close_flush (r : Rate) (st : WState St) :
    (st.cnt = 0 → closeW r st = st) ∧
    (st.cnt ≠ 0 → (closeW r st).out = (encodeBlock r st.es (st.buf.take st.cnt ++ zeros (spb - st.cnt))).2 :: st.out) := by
  have h := Sf.C07Block.block_writer_close (writer r) st true
  constructor
  · exact h.1
  · intro hc
    have := h.2 hc
    simp only [if_true, show (writer r).ch = 1 from rfl, Nat.mul_one] at this
    exact this

/-- non-vacuity: 161 samples (one whole block and one started) written as 1 + 159 + 1 items of three caller types and
    as one short call: 2 blocks = 84 bytes, the same -/
example : (closedData .r16 {} [(.s16, [700]), (.s32, List.replicate 159 (-65536000)), (.s16, [5])]).length = 84 ∧
    closedData .r16 {} [(.s16, [700]), (.s32, List.replicate 159 (-65536000)), (.s16, [5])] =
      closedData .r16 {} [(.s16, 700 :: List.replicate 159 (-1000) ++ [5])] :=
  ⟨by decide +kernel, (nms_write_partition .r16 {} _ _ (by decide +kernel)).2⟩


end Sf.C07Nms
