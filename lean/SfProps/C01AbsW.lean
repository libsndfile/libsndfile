/-
  C01 on the WRITE-SIDE PREDICATE (SfModel/AbsWrite.lean) — the clause `roundtrip` of `Sf.AbsWrite.judge`, which the check
  evaluates on the implementation's own records (`sfmodel abs-write`): what an accepted record MEANS, whatever code
  produced it, and that the answer the concrete model is proved to give (`C01.file_roundtrip`) IS accepted.
  Lemmas in SfProofs/AbsWriteMeaning.lean, AbsWriteComplete.lean; the residue arithmetic `wrapU_mod` / `low_bits_rule` stands here
  (SfProofs/AbsWriteBridgeEnc.lean imports it).
-/
import SfProofs.AbsWriteComplete
import SfProps.C01
namespace Sf.C01AbsW
open Sf Sf.Abs Sf.AbsWrite

/-- MEANING (C01 at full strength, any container, any encoding): in an accepted record whose written stream meets the
    side condition of the statement, every write call accepted what it was handed, the closed file re-opened, the
    read-back delivered at least the N written frames, and its first N·ch items ARE the written items, bit for bit. -/
theorem roundtrip_abs (r : Record) (h : accepted r = true) (hs : sameType r.ty r.one.calls = true)
    (hl : losslessFor r.g r.ty (written r.g.ch r.one.calls) = true) :
    (∀ c ∈ r.one.calls, c.ret = c.n) ∧ r.one.close = 0 ∧ r.info.null = false ∧
    (written r.g.ch r.one.calls).size ≤ r.rb.ret.toNat * cells r.ty ∧
    r.rb.data.extract 0 (written r.g.ch r.one.calls).size = written r.g.ch r.one.calls := by
  have a := accepted_meaning r h
  obtain ⟨h1, h2⟩ := roundtripOk_meaning r.g r.ty r.one.calls r.rb a.roundtrip hs hl
  exact ⟨a.calls, a.closed, a.reopened, h1, h2⟩

/-- the side condition is a condition on the encoding and on every written cell: the pair has a lossless rule
    (`losslessLow`) and each cell meets it (low bits zero / finite float into binary64) -/
theorem side_condition_abs (g : AbsWrite.Geom) (ty : Ty) (w : Array Item) (h : losslessFor g ty w = true) :
    ∃ lz, losslessLow g.codec ty = some lz ∧ ∀ k (hk : k < w.size), cellOk g.codec ty lz w[k] = true :=
  losslessFor_cells g ty w h

/-- the low-bits rule on the printed cell is the rule on the value -/
theorem wrapU_mod (B k : Nat) (hk : k ≤ B) (v : Int) : wrapU B v % 2 ^ k = 0 ↔ v % 2 ^ k = 0 := by
  have h : ((wrapU B v % 2 ^ k : Nat) : Int) = v % 2 ^ k := by
    rw [Int.natCast_mod, wrapU_cast]; push_cast; exact Int.emod_emod_of_dvd v (pow_dvd_pow 2 hk)
  rw [← h]; exact Int.natCast_eq_zero.symm

/-- the low-bits rule for a caller integer of `W` bits under an integer encoding of `w` bits -/
theorem low_bits_rule (W w : Nat) (v : Int) : (wrapU W v % 2 ^ (W - w) == 0) = true ↔ (W ≤ w ∨ v % 2 ^ (W - w) = 0) := by
  rw [beq_iff_eq, wrapU_mod W (W - w) (by omega) v]
  constructor
  · exact Or.inr
  · rintro (hw | hv)
    · rw [show W - w = 0 by omega]; simp
    · exact hv

/-- the cell rule of the predicate against the side condition of the model (`Sf.lossless`, SfProofs/Codec.lean) for integer
    PCM: GIVEN `lz = W − w` low bits (0 when the encoding is at least as wide), the rule on the printed 16- / 32-bit pattern
    says exactly `w ≥ W ∨ v % 2^(W−w) = 0`.  `cellOk` does not look at `codec` for the integer types; that `W − w` is the
    `lz` which `losslessLow codec` yields is `sampleOk_s16` / `sampleOk_s32` (SfProofs/AbsWriteBridge.lean), and the two are
    put together in `sampleOk_lossless` (SfProofs/AbsWriteBridgeEnc.lean) -/
theorem side_condition_matches_model (p : PcmFmt) (codec : Nat) (v : Int) :
    (cellOk codec .s16 (16 - p.w) (wrapU 16 v) = true ↔ lossless (.pcm p) .s16 v) ∧
    (cellOk codec .s32 (32 - p.w) (wrapU 32 v) = true ↔ lossless (.pcm p) .s32 v) :=
  ⟨low_bits_rule 16 p.w v, low_bits_rule 32 p.w v⟩

/-- COMPLETENESS against the concrete model: for every RAW / AU / WAV session `C01.file_roundtrip` speaks about (any
    split into well-formed calls, lossless in-range samples), a record whose written stream is the cells of the session's
    samples and whose read-back starts with the cells of what the data region of the model's closed file decodes to, is
    accepted by the C01 clause: a model-conformant library is never flagged. -/
theorem file_roundtrip_accepted (fmt : Nat) (ch sr : Int) (h : H) (s : Store)
    (ho : openHandle 0 {} .w fmt ch sr = .ok h s)
    (ty : Ty) (ops : List WOp) (hok : ∀ op ∈ ops, op.ok h) (ht : ∀ op ∈ ops, op.hasTy ty)
    (hv : ∀ v ∈ ops.flatMap WOp.samples, ty.inRange v) (hl : ∀ v ∈ ops.flatMap WOp.samples, lossless h.enc ty v)
    (c' : Conv) (g : AbsWrite.Geom) (cs : List Call) (rb : ReadBack) (tail : Array Item)
    (hw : written g.ch cs = cellsOf ty (ops.flatMap WOp.samples))
    (hret : (ops.flatMap WOp.samples).length ≤ rb.ret.toNat) :
    ∃ file, closeBytes fmt ch sr ops = some file ∧
      (rb.data = cellsOf ty (h.enc.decodeAll c' ty
          ((file.drop (hdrLenOf h)).take ((ops.flatMap WOp.samples).length * h.enc.nbytes))) ++ tail →
        roundtripOk g ty cs rb = true) := by
  obtain ⟨file, hf, hdec⟩ := C01.file_roundtrip C01.widenExact fmt ch sr h s ho ty ops hok ht hv hl c'
  refine ⟨file, hf, fun hd => roundtripOk_complete g ty cs rb ?_ ?_⟩
  · rw [hw, cellsOf_size]; exact Nat.mul_le_mul_right _ hret
  · rw [hd, hdec, hw, Array.extract_append_left]; exact Array.extract_size

/-! ## non-vacuity: a stereo 16-bit AU job as the campaign records it (reference run, split run with one crash point,
    stale-frames run) -/

def exG : AbsWrite.Geom := { word := 0x00030002, ch := 2, sr := 44100 }
def exBytes : Array Item :=
  #[46,115,110,100, 0,0,0,24, 0,0,0,12, 0,0,0,3, 0,0,172,68, 0,0,0,2, 0,1,255,254,0,3,255,252,0,5,0,6]
def exInfo (f : Int) : Info := { ch := 2, sr := 44100, fmt := 0x00030002, frames := f }
def exRec : Record :=
  { g := exG, ty := .s16,
    one := { calls := [{ ty := .s16, fc := true, n := 3, data := #[1, 0xFFFE, 3, 0xFFFC, 5, 6], ret := 3 }], bytes := exBytes },
    info := exInfo 3,
    rb := { ret := 6, data := #[1, 0xFFFE, 3, 0xFFFC, 5, 6, 0xA5A5, 0xA5A5] },
    split := some { calls := [{ ty := .s16, fc := true, n := 1, data := #[1, 0xFFFE], ret := 1 },
                              { ty := .s16, fc := false, n := 4, data := #[3, 0xFFFC, 5, 6], ret := 4 }], bytes := exBytes },
    snaps := [{ calls := 1, info := exInfo 1, rb := { ret := 2, data := #[1, 0xFFFE, 0xA5A5, 0xA5A5] } }],
    stale := some exBytes }

/-- the record is accepted and meets the hypotheses of `roundtrip_abs` -/
example : accepted exRec = true ∧ sameType exRec.ty exRec.one.calls = true ∧
    losslessFor exRec.g exRec.ty (written exRec.g.ch exRec.one.calls) = true := by decide +kernel
/-- one wrong item in the read-back, a read-back that delivers fewer items than were written: refused with the clause -/
example : judge { exRec with rb := { ret := 6, data := #[1, 0xFFFE, 3, 0xFFFC, 5, 7, 0xA5A5, 0xA5A5] } } = [{ tag := "roundtrip" }] := by decide +kernel
example : judge { exRec with info := exInfo 2, rb := { ret := 4, data := #[1, 0xFFFE, 3, 0xFFFC, 0, 0, 0, 0] } } =
    [{ tag := "frames" }, { tag := "roundtrip" }] := by decide +kernel
/-- a short into 8-bit PCM with non-zero low bits is outside the side condition: not judged, even when it comes back different -/
example : losslessFor { exG with word := 0x00030001 } .s16 #[0x0100, 0x0101] = false ∧
    losslessFor { exG with word := 0x00030001 } .s16 #[0x0100, 0xFF00] = true ∧
    losslessLow 0x0010 .s16 = none ∧ losslessLow 0x0007 .f32 = some 0 ∧ losslessLow 0x0050 .s32 = some 24 := by decide

end Sf.C01AbsW
