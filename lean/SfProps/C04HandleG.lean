/-
  C04 / C05 / C07 / C08 on the GENERIC handle machine `Sf.HandleG`, second part: the eight further instances (SVX, MPC2K, WVE,
  PVF, MAT4, MAT5, NIST, VOC) and the AIFF record with the SFM_RDWR header patch are lawful, so every generic theorem of
  SfProps/C05HandleG.lean applies to them; the closed-bytes theorem (what `<x>_close` leaves = header of the final state ++
  what the tailer left behind the header) for every `Spec`; two write calls = one call with the concatenated buffer at the
  level of the whole `stepWrite` wrapper (header latch included) on any lawful container, for item-count calls on a handle
  without auto-header and without a PEAK table.  Property theorems only.
-/
-- properties: C04 C05 C07 C08 C01
import SfProofs.HandleGInv2
import SfProofs.CodecTwo
namespace Sf.C04HandleG
open Sf Sf.HandleG

/-- all eighteen container records the driver runs are lawful (`contOf`: AIFF is the record with the in-place patch) -/
theorem instances_lawful_all (name17 name text : List Byte) :
    ContLaws (contOf rawSpec) ∧ ContLaws (contOf auSpec) ∧ ContLaws (contOf wavSpec) ∧ ContLaws (contOf avrSpec) ∧
    ContLaws (contOf ircamSpec) ∧ ContLaws (contOf pafSpec) ∧ ContLaws (contOf htkSpec) ∧ ContLaws (contOf aiffSpec) ∧
    ContLaws (contOf cafSpec) ∧ ContLaws (contOf w64Spec) ∧
    ContLaws (contOf (svxSpecN name)) ∧ ContLaws (contOf (mpcSpecN name17)) ∧ ContLaws (contOf wveSpec) ∧ ContLaws (contOf pvfSpec) ∧
    ContLaws (contOf mat4Spec) ∧ ContLaws (contOf (mat5SpecT text)) ∧ ContLaws (contOf nistSpec) ∧ ContLaws (contOf vocSpec) :=
  ⟨contOf_lawful _ rawLaws, contOf_lawful _ auLaws, contOf_lawful _ wavLaws, contOf_lawful _ avrLaws, contOf_lawful _ ircamLaws,
   contOf_lawful _ pafLaws, contOf_lawful _ htkLaws, contOf_lawful _ aiffLaws, contOf_lawful _ cafLaws, contOf_lawful _ w64Laws,
   contOf_lawful _ (svxLaws name), contOf_lawful _ (mpcLaws name17), contOf_lawful _ wveLaws, contOf_lawful _ pvfLaws,
   contOf_lawful _ mat4Laws, contOf_lawful _ (mat5Laws text), contOf_lawful _ nistLaws, contOf_lawful _ vocLaws⟩

/-- the AIFF record with `aiff_rewrite_header` keeps the handle invariant on every history -/
theorem aiff_rdwr_HInv (ops : List Op) (h : H) (s : Store) (hi : HInv h s) :
    HInv (HandleG.runOps aiffCont h s ops).1 (HandleG.runOps aiffCont h s ops).2 :=
  HandleG.HInv_runOps aiffContLaws ops h s hi

/-- every restore rule in use moves the file position only -/
theorem restore_rules_keep_bytes :
    RestoreKeeps wavSpec ∧ RestoreKeeps auSpec ∧ RestoreKeeps cafSpec ∧ RestoreKeeps w64Spec ∧ RestoreKeeps avrSpec ∧ RestoreKeeps htkSpec ∧
    RestoreKeeps svxSpec ∧ RestoreKeeps mpcSpec ∧ RestoreKeeps wveSpec ∧ RestoreKeeps mat4Spec ∧ RestoreKeeps mat5Spec ∧
    RestoreKeeps nistSpec ∧ RestoreKeeps vocSpec ∧ RestoreKeeps aiffSpec :=
  ⟨restoreHasData_keeps, restoreCur_keeps, restoreCaf_keeps, restoreCur_keeps, restoreCur_keeps, restoreCur_keeps,
   restoreCur_keeps, restoreCur_keeps, restoreCur_keeps, restoreCur_keeps, restoreCur_keeps, restoreCur_keeps, restoreCur_keeps,
   restoreHasData_keeps⟩

/-- closed-bytes theorem, any `Spec` whose close rewrites the header: after `<x>_close` of a handle that can write the store is
    the header of the FINAL state (the `calc_length` block on what the tailer leaves) followed by what lay behind the header
    after the tailer — the encoded samples and the tailer bytes (VOC: the terminator; AIFF / CAF: the pad byte) -/
theorem closed_bytes_generic (sp : Spec) (K : RestoreKeeps sp) (h : H) (s : Store) (hm : h.mode ≠ .r)
    (hh : sp.hasHeader = true) (hc : sp.closeHdr = true) (hs : sp.skipAt (sp.tailer h s).2.pos = false) :
    (sp.closeStore h s).bytes =
      sp.hdr (sp.recalc (sp.tailer h s).1 (sp.tailer h s).2.bytes.length) ++
        (sp.tailer h s).2.bytes.drop (sp.hdr (sp.recalc (sp.tailer h s).1 (sp.tailer h s).2.bytes.length)).length := by
  unfold Spec.closeStore
  have hm' : (h.mode == Mode.r) = false := by cases hmm : h.mode <;> simp_all
  simp only [hm', hh, hc, Bool.not_true, Bool.false_eq_true, if_false, if_true]
  have := Spec.writeHeader_bytes sp K (sp.tailer h s).1 (sp.tailer h s).2 true hh hs
  simpa using this

/-- … and a container whose close leaves the header alone (IRCAM, PAF, PVF) leaves the store as the tailer left it -/
theorem closed_bytes_no_rewrite (sp : Spec) (h : H) (s : Store) (hm : h.mode ≠ .r) (hh : sp.hasHeader = true) (hc : sp.closeHdr = false) :
    sp.closeStore h s = (sp.tailer h s).2 := by
  unfold Spec.closeStore
  have hm' : (h.mode == Mode.r) = false := by cases hmm : h.mode <;> simp_all
  simp [hm', hh, hc]

/-- C07 at the level of the whole write wrapper: on every lawful container, from any state that can write (the first call of
    a session included) with SFC_UPDATE_HEADER_AUTO off (`hauto`) and no PEAK table (`hp`: the one part of the state that
    could see the boundary between the calls), `xs` then `ys` is `xs ++ ys` — same handle, same store -/
theorem write_two_calls_generic (c : Cont) (L : ContLaws c) (h : H) (s : Store) (ty : Ty) (xs ys : List Int)
    (hm : h.mode ≠ .r) (hch : 0 < h.ch) (hauto : h.autoHeader = false) (hp : h.peak = none)
    (hx : 0 < xs.length) (hy : 0 < ys.length) (hdx : (xs.length : Int) % h.ch = 0) (hdy : (ys.length : Int) % h.ch = 0) :
    let r1 := HandleG.stepWrite c h s ty false xs.length xs
    let r2 := HandleG.stepWrite c r1.1 r1.2.1 ty false ys.length ys
    let r := HandleG.stepWrite c h s ty false ((xs.length : Int) + ys.length) (xs ++ ys)
    r2.1 = r.1 ∧ r2.2.1 = r.2.1 :=
  HandleG.stepWrite_two c L h s ty xs ys hm hauto (PeakAgree_of_none h ty xs ys hp) hx hy hdx hdy

/-- non-vacuity + C04 on a VOC session of the generic machine: 16-bit stereo, (1 frame, 2 frames) = 3 frames; the closed file
    is header ++ 12 sample bytes ++ terminator, and re-opening it gives frames / channels / rate back -/
example :
    (match vocSpec.openH 0 {} .w 0x080002 2 8000 0 with
     | .ok h s =>
        let c := vocSpec.toCont
        let a := HandleG.stepWrite c h s .s16 false 2 [1, 2]
        let b := HandleG.stepWrite c a.1 a.2.1 .s16 false 4 [3, 4, 5, 6]
        let o := HandleG.stepWrite c h s .s16 false 6 [1, 2, 3, 4, 5, 6]
        let closed := c.closeStore b.1 b.2.1
        match vocSpec.openH 0 closed .r 0 0 0 0 with
        | .ok h2 _ => decide (b.2.1.bytes = o.2.1.bytes ∧ b.1.wpos = o.1.wpos ∧ closed.bytes.length = 42 + 12 + 1 ∧
                               closed.bytes.drop 42 = [1, 0, 2, 0, 3, 0, 4, 0, 5, 0, 6, 0, 0] ∧
                               h2.frames = 3 ∧ h2.ch = 2 ∧ h2.sr = 8000 ∧ h.mode ≠ .r ∧ h.peak = none ∧ h.autoHeader = false)
        | _ => false
     | _ => false) = true := by decide +kernel

/-- C04 on a MAT4 (float, big-endian) and an SVX session: write, close, re-open — frames / channels / rate come back -/
example :
    (match mat4Spec.openH 0 {} .w 0x200C0002 3 44100 0 with
     | .ok h s =>
        let c := mat4Spec.toCont
        let a := HandleG.stepWrite c h s .s16 true 2 [1, 2, 3, 4, 5, 6]
        match mat4Spec.openH 0 (c.closeStore a.1 a.2.1) .r 0 0 0 0 with
        | .ok h2 _ => decide (h2.frames = 2 ∧ h2.ch = 3 ∧ h2.sr = 44100 ∧ h2.big = true ∧ h2.dataoffset = 68)
        | _ => false
     | _ => false) = true := by decide +kernel

example :
    (match svxSpec.openH 0 {} .w 0x060001 1 22050 7 with
     | .ok h s =>
        let c := svxSpec.toCont
        let a := HandleG.stepWrite c h s .s16 false 3 [256, 512, 768]
        match svxSpec.openH 0 (c.closeStore a.1 a.2.1) .r 0 0 0 0 with
        | .ok h2 _ => decide (h2.frames = 3 ∧ h2.ch = 1 ∧ h2.sr = 22050 ∧ h2.dataoffset = 100)
        | _ => false
     | _ => false) = true := by decide +kernel

end Sf.C04HandleG
