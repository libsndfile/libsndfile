-- properties: C03 C04 C11
/-
  C03 / C04 / C11 — SD2: the resource fork (stand-alone model SfModel/Sd2.lean; helpers SfProofs/Sd2Bounded.lean,
  Sd2Fuel.lean, Sd2Eval.lean, Sd2Walk.lean).

  The fork is the side file `._<name>`; `rsrc c` = what sd2_write_rsrc_fork writes for (sample size, rate, channels, file
  name), `parseFork len` = sd2_parse_rsrc_fork + parse_str_rsrc as a program of byte reads, `parseRsrc bs` its answer on the
  bytes `bs`, `parseReads bs` the offsets of `bs` it touches, `openInfo` the rest of sd2_open.  SD2 has no header in the data
  file and writes the fork once, at open (`psf->write_header = NULL`), so there is no session machine here and no theorem
  about updates or crash images: what C11 asks is carried by the fork being independent of the audio (`rsrc c`) and by the
  frame count at re-open being the data file's length divided by the block width (`sd2_frames_from_data_file`).
-/
import SfProofs.Sd2Walk
namespace Sf.C04Sd2
open Sf Sf.Small2 Sf.Sd2
open Sf.Pvf (digits scanInt isDigit)

/-! ## C03: hostile resource forks -/

/-- for ARBITRARY fork bytes every offset the parser reads lies inside the fork: the guards of read_rsrc_char / _short /
    _int / _marker / _str (offset < 0 || offset + n >= rsrc_len) cover every access of sd2_parse_rsrc_fork and
    parse_str_rsrc, whatever numbers the fork supplies -/
theorem sd2_parse_in_bounds (bs : List Byte) : ∀ i ∈ parseReads bs, i < bs.length :=
  Prog.run_reads_lt parseFork_safe.bounded _

/-- the same for any contents behind any length: the statement does not depend on how the bytes are obtained -/
theorem sd2_parse_in_bounds_any (len : Nat) (g : Nat → Byte) : ∀ i ∈ ((parseFork len).run g).2, i < len :=
  Prog.run_reads_lt parseFork_safe.bounded g

/-- the copy loop of read_rsrc_str stores at most `n` = buffer_len − 1 ≤ 31 characters: `name [32]` / `value [32]`
    always keep their terminating NUL -/
theorem sd2_str_copy_fits (g : Nat → Byte) : ∀ (n : Nat) (off : Int), ((copyLoop n off).run g).1.length ≤ n
  | 0, _ => by
    show ((Prog.run g (Prog.pure ([] : List Byte))).1).length ≤ 0
    simp [Prog.run]
  | n + 1, off => by
    unfold copyLoop
    simp only [Prog.run]
    split
    · have ih := sd2_str_copy_fits g n (off + 1)
      generalize copyLoop n (off + 1) = p at ih ⊢
      induction p with
      | pure a => simp [Prog.bind, Prog.run] at ih ⊢; omega
      | read i k ihk => simp only [Prog.bind, Prog.run] at ih ⊢; exact ihk (g i) ih
    · simp [Prog.run]

/-- the buffer length parse_str_rsrc asks for is at most 32, whatever the length byte says -/
theorem sd2_buffer_len_le (slen : Int) : ((min 32 (slen + 1) : Int) - 1).toNat ≤ 31 := by omega

/-- the loop bound of the model is never reached: the string loop makes at most len / 12 + 1 iterations (iteration k reads
    the item at item_offset + 12 k, which must lie inside the fork), the type loop at most 65536 -/
theorem sd2_parse_never_fuel (bs : List Byte) : parseRsrc bs ≠ .fuel :=
  parseFork_safe.run_fst _

/-- a refusal or sane parameters: an accepted fork yields a sample size in 1…4 and non-negative rate and channels;
    sd2_open then demands 1 ≤ channels ≤ 1024 and rate ≥ 1 (`openInfo`) -/
theorem sd2_finish_sane (s : LoopSt) (p : Params) (h : finish s = .ok p) : 1 ≤ p.size ∧ p.size ≤ 4 ∧ 0 ≤ p.rate ∧ 0 ≤ p.ch := by
  unfold finish at h
  dsimp only at h
  split at h <;> dsimp only at h <;>
    (split at h
     · cases h
     · split at h
       · cases h
       · split at h
         · injection h with h; subst h; dsimp only; omega
         · cases h)

theorem sd2_open_sane (p : Params) (n : Nat) (i : Info) (h : openInfo p n = .ok i) : 1 ≤ i.ch ∧ i.ch ≤ 1024 ∧ 1 ≤ i.sr := by
  unfold openInfo at h
  split at h
  · contradiction
  · injection h with h; subst h; simp only; omega

/-- non-vacuity: on the fork the library writes for 16-bit stereo at 44100 Hz the parser makes 105 byte reads, the largest at
    offset 417 of 444, ends through the data-offset test of the sixth iteration and never comes near its loop bound -/
example : (parseReads (rsrc { size := 2, rate := 44100, ch := 2, name := asc "s0.sd2" })).length = 105 ∧
    (parseReads (rsrc { size := 2, rate := 44100, ch := 2, name := asc "s0.sd2" })).all (· < 444) = true ∧
    (parseReads (rsrc { size := 2, rate := 44100, ch := 2, name := asc "s0.sd2" })).contains 417 = true ∧
    parseRsrc (rsrc { size := 2, rate := 44100, ch := 2, name := asc "s0.sd2" }) ≠ .fuel := by decide +kernel

example : finish { strOff := 0, size := 44100, rate := 2, ch := 2 } = .ok { size := 2, rate := 44100, ch := 2 } ∧
    openInfo { size := 2, rate := 44100, ch := 2 } 16 = .ok { ch := 2, fmt := 0x160002, sr := 44100, frames := 4 } := by decide

example : parseRsrc [0, 0, 1, 0] = .err .badDataOffset ∧ parseReads [0, 0, 1, 0] = [0, 1, 2, 3] := by decide +kernel

/-! ## C04: what the writer stores is read back -/

/-- "%d" then strtol: every channel count and sample size comes back -/
theorem sd2_decimal_roundtrip (n : Nat) (h : n ≤ 0x7FFFFFFF) : strtol (digits n) = n :=
  strtol_digits_alone n h

/-- "%d.000000" then strtol: the decimal text of every rate in [0, 2^31 − 1] parses back to the rate -/
theorem sd2_rate_text_roundtrip (c : Cfg) (h : c.rate ≤ 0x7FFFFFFF) : strtol (rateText c) = c.rate :=
  strtol_rateText c h

example : strtol (rateText { size := 2, rate := 2147483647, ch := 2 }) = 2147483647 := by decide +kernel

/-- parameters that come out of the fork are reported exactly, and the frame count is the length of the data file in
    blocks: the caller's (stale) frames value and the fork play no part in it -/
theorem sd2_frames_from_data_file (size rate ch n : Nat) (hc : 1 ≤ ch ∧ ch ≤ 1024) (hr : 1 ≤ rate) :
    openInfo { size := size, rate := rate, ch := ch } n = .ok { ch := ch, fmt := 0x160000 + size, sr := rate, frames := n / (size * ch) } := by
  unfold openInfo codecOf
  have : ¬ ((ch : Int) < 1 ∨ (ch : Int) > 1024 ∨ (rate : Int) < 1) := by omega
  simp [this]

/-- re-opening what the writer wrote: every sample size, rates of 1, 4, 5, 8 and 10 digits, channel counts of 1 to 4 digits,
    file names of even / odd length and one that reaches the 0x50 fields -/
theorem sd2_reopen_info_instances :
    (∀ c ∈ [({ size := 2, rate := 44100, ch := 2, name := asc "s0.sd2" } : Cfg), { size := 1, rate := 1, ch := 1, name := asc "s0.sd22" },
            { size := 3, rate := 8000, ch := 3, name := asc "a" }, { size := 4, rate := 2147483647, ch := 1024, name := List.replicate 40 0x78 },
            { size := 2, rate := 65536, ch := 255, name := [] }, { size := 1, rate := 11025000, ch := 10, name := asc "x.y" }],
        parseRsrc (rsrc c) = .ok { size := c.size, rate := c.rate, ch := c.ch } ∧ (rsrc c).length = total c) := by
  intro c hc
  have hwf : c.wf := by revert c; decide
  exact ⟨Walk.parse_written c hwf, rsrc_length c hwf.name_le⟩

/-- the fork the writer made, next to a data file of `n` bytes -/
theorem sd2_reopen_written (c : Cfg) (hc : c.wf) (n : Nat) :
    reopen (rsrc c) n = .ok { ch := c.ch, fmt := 0x160000 + c.size, sr := c.rate, frames := n / (c.size * c.ch) } := by
  have hne : rsrc c ≠ [] := by
    intro h
    have hl := rsrc_length c hc.name_le
    have : total c = mapOff c + 147 := rfl
    rw [h, List.length_nil] at hl
    omega
  unfold reopen
  rw [if_neg hne, Walk.parse_written c hc]
  obtain ⟨_, _, hch1, hch2, hr1, _⟩ := hc
  exact sd2_frames_from_data_file c.size c.rate c.ch n ⟨hch1, hch2⟩ hr1

/-- a data file of any length re-opens: one that is too short for the 12-byte probe of guess_file_type (fewer than 12
    bytes of audio, N = 0 included) goes to the resource fork like every other SD2 file -/
theorem sd2_short_data_reaches_fork (data : List Byte) (h : data.length < 12) : reachesFork data = some true := by
  simp [reachesFork, h]

theorem sd2_short_data_reopens (data fork : List Byte) (h : data.length < 12) : reopenFile data fork = reopen fork data.length := by
  simp [reopenFile, reopenFileWith, sd2_short_data_reaches_fork data h]

/-- the rule before the repair (KF-C04-SD2-SHORT-DATA): two stereo 16-bit frames were written, the closed file was refused -/
theorem sd2_short_data_old_rule :
    reopenFileOld [0x11, 0, 0x11, 1, 0x11, 2, 0x11, 3] (rsrc { size := 2, rate := 44100, ch := 2, name := asc "s0.sd2" }) = .err ∧
    reopenFile [0x11, 0, 0x11, 1, 0x11, 2, 0x11, 3] (rsrc { size := 2, rate := 44100, ch := 2, name := asc "s0.sd2" })
      = .ok { ch := 2, fmt := 0x160002, sr := 44100, frames := 2 } :=
  ⟨by decide, by rw [sd2_short_data_reopens _ _ (by decide)]; exact sd2_reopen_written _ (by decide) 8⟩

theorem gap_congr (f f' : Nat → Byte) (start n bound : Nat) (h : ∀ i, i < bound → f i = f' i) (hb : start + n ≤ bound) :
    gap f start n = gap f' start n := by
  unfold gap
  apply List.map_congr_left
  intro j hj
  rw [List.mem_range] at hj
  exact h _ (by omega)

theorem rsrcWith_congr (f f' : Nat → Byte) (c : Cfg) (hc : c.wf) (h : ∀ i, i < 512 → f i = f' i) : rsrcWith f c = rsrcWith f' c := by
  have ht := Sd2.total_le c hc
  unfold total mapLen at ht
  unfold rsrcWith head mapRegion item
  dsimp only
  rw [gap_congr f f' 0 256 512 h (by omega), gap_congr f f' (mapOff c) 12 512 h (by omega),
      gap_congr f f' (mapOff c + 46 + 8) 4 512 h (by omega), gap_congr f f' (mapOff c + 58 + 8) 4 512 h (by omega),
      gap_congr f f' (mapOff c + 70 + 8) 4 512 h (by omega), gap_congr f f' (mapOff c + 82 + 8) 4 512 h (by omega),
      gap_congr f f' (mapOff c + 94) 12 512 h (by omega)]

/-- the bytes of the fork do not depend on what the heap held before (memset 0xEA over the 256 bytes there are, zero fill
    of what psf_bump_header_allocation adds): they are a function of the configuration alone -/
theorem sd2_rsrc_deterministic (mem mem' : Nat → Byte) (c : Cfg) (hc : c.wf) : rsrcOn true mem c = rsrcOn true mem' c :=
  rsrcWith_congr _ _ c hc (by intro i hi; simp [fill, hi])

/-- without the zero fill in psf_bump_header_allocation (seeded/C19-header-bump-stale-heap) the fork shows the heap -/
theorem sd2_rsrc_stale_heap_rule :
    ∃ (mem mem' : Nat → Byte) (c : Cfg), c.wf ∧ rsrcOn false mem c ≠ rsrcOn false mem' c :=
  ⟨fun _ => 0, fun _ => 0xBE, { size := 2, rate := 44100, ch := 2, name := asc "s0.sd2" }, by decide, by decide +kernel⟩

example : ({ size := 2, rate := 44100, ch := 2, name := asc "s0.sd2" } : Cfg).wf ∧
    (rsrc { size := 2, rate := 44100, ch := 2, name := asc "s0.sd2" }).length = 444 :=
  ⟨by decide, by rw [rsrc_length _ (by decide)]; decide +kernel⟩

end Sf.C04Sd2
