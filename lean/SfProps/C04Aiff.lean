-- properties: C04 C11
/-
  C04 / C11 — the AIFF / AIFF-C container (stand-alone L1 model SfModel/Aiff.lean; helpers SfProofs/Aiff*.lean).

  A *session* is `openW` (sf_open SFM_WRITE; the caller's frames value is a parameter that is thrown away), any list
  of `WOp`s (write calls storing whole frames of encoded audio, with or without SFC_SET_UPDATE_HEADER_AUTO;
  SFC_UPDATE_HEADER_NOW), then `close`.  `parse` is sf_open (SFM_READ) of the produced bytes.
-/
import SfProofs.AiffSession
namespace Sf.C04Aiff
open Sf Sf.Aiff Sf.Cursor

/-- what C04 asks of AIFF: every rate a caller may pass is reported back -/
def aiff_rate_full : Prop := ∀ r : Nat, 1 ≤ r → r ≤ 0x7FFFFFFF → ten2int (int2ten r) = r

/-- full strength since the repair of KF-AIFF-RATE-2P30: every rate in [1, 2^31 − 1]
    survives `uint2tenbytefloat` followed by `tenbytefloat2int` -/
theorem aiff_rate_roundtrip (r : Nat) (h1 : 1 ≤ r) (h2 : r ≤ 0x7FFFFFFF) : ten2int (int2ten r) = r :=
  ten2int_int2ten_exact r h1 (by omega)

theorem aiff_rate_full_holds : aiff_rate_full := aiff_rate_roundtrip

example : ten2int (int2ten 44100) = 44100 ∧ ten2int (int2ten 1) = 1 ∧ ten2int (int2ten (2 ^ 30)) = 2 ^ 30 ∧
    ten2int (int2ten (2 ^ 31 - 1)) = 2 ^ 31 - 1 ∧ int2ten (2 ^ 30) = [0x40, 0x1D, 0x80, 0, 0, 0, 0, 0, 0, 0] := by decide

/-- the class of the repaired finding KF-AIFF-RATE-2P30 -/
def KF.rateTooBig (r : Nat) : Prop := 2 ^ 30 ≤ r
instance (r : Nat) : Decidable (KF.rateTooBig r) := by unfold KF.rateTooBig; infer_instance

/-- the old rule (`int2tenOld`, `ten2intOld`): the statement over the whole range -/
def aiff_rate_full_old : Prop := ∀ r : Nat, 1 ≤ r → r ≤ 0x7FFFFFFF → ten2intOld (int2tenOld r) = r

/-- old rule: from 2^30 on the writer gave up and every rate re-opened as 800000000 -/
theorem aiff_rate_collapse_old_rule (r : Nat) (h : KF.rateTooBig r) : ten2intOld (int2tenOld r) = 800000000 := by
  unfold int2tenOld
  have h1 : ¬ r ≤ 1 := by unfold KF.rateTooBig at h; omega
  have h2 : r ≥ 0x40000000 := by unfold KF.rateTooBig at h; omega
  simp only [h1, h2, if_false, if_true]
  decide

/-- old rule: the full statement failed, 2^30 Hz is the witness -/
theorem aiff_rate_full_fails_old_rule : ¬ aiff_rate_full_old := by
  intro h
  have := h (2 ^ 30) (by decide) (by decide)
  revert this; decide

/-- old rule: it held outside exactly that class -/
theorem aiff_rate_partial_old_rule (r : Nat) (h1 : 1 ≤ r) (_h2 : r ≤ 0x7FFFFFFF) (hk : ¬ KF.rateTooBig r) :
    ten2intOld (int2tenOld r) = r :=
  ten2intOld_int2tenOld_small r h1 (by unfold KF.rateTooBig at hk; omega)

/-- files of the old writer under the new reader: the rate was never stored (zero mantissa), it now reads as 0
    and such a file is refused instead of being reported as 800000000 Hz -/
theorem aiff_old_files_new_reader (r : Nat) (h : KF.rateTooBig r) : ten2int (int2tenOld r) = 0 := by
  unfold int2tenOld
  have h1 : ¬ r ≤ 1 := by unfold KF.rateTooBig at h; omega
  have h2 : r ≥ 0x40000000 := by unfold KF.rateTooBig at h; omega
  simp only [h1, h2, if_false, if_true]
  decide

example : KF.rateTooBig (2 ^ 30) ∧ ¬ KF.rateTooBig (2 ^ 30 - 1) ∧ ten2intOld (int2tenOld (2 ^ 31 - 1)) = 800000000 := by decide

/-- the closed bytes of a session: header of the final lengths, the audio, one pad byte after an odd byte count -/
def closedBytes (c : Cfg) (k : Kind) (stale : Nat) (ops : List WOp) : List Byte :=
  (close c k (run c k (openW c k stale) ops)).bytes

/-- the PEAK table the header holds at the end (none unless FLOAT / DOUBLE) -/
def finalPeaks (c : Cfg) (k : Kind) (stale : Nat) (ops : List WOp) : Option (List Peak) := (run c k (openW c k stale) ops).peaks

theorem closedBytes_eq (c : Cfg) (k : Kind) (hwf : c.wf) (hk : kindOf c = some k) (stale : Nat) (ops : List WOp) :
    closedBytes c k stale ops =
      closedHdr c k (opsData ops).length (finalPeaks c k stale ops) ++ opsData ops ++ tailBytes (opsData ops).length := by
  have hbw : 0 < c.bw := bw_pos hwf hk
  obtain ⟨i, d'⟩ := session_inv c k hwf.1 hk stale ops
  unfold closedBytes finalPeaks
  rw [close_bytes c k hbw _ i, d']

/-- For every accepted configuration and every session, under the FORM-size guard (the file
    is shorter than 2^32 bytes) the closed file re-opens with the requested channels, the format word of the
    requested encoding and byte order, the requested rate, and frames = audio bytes / block width (the pad byte
    after an odd byte count lies outside the SSND chunk and is not counted). -/
theorem aiff_reopen_info (c : Cfg) (k : Kind) (hwf : c.wf) (hk : kindOf c = some k) (stale : Nat) (ops : List WOp)
    (hguard : (closedBytes c k stale ops).length < 2 ^ 32) :
    parse (closedBytes c k stale ops) =
      .ok { ch := c.ch, fmt := c.fmtWord, sr := c.sr, frames := (opsData ops).length / c.bw } := by
  obtain ⟨i, _⟩ := session_inv c k hwf.1 hk stale ops
  rw [closedBytes_eq c k hwf hk stale ops, List.append_assoc] at hguard ⊢
  exact parse_hdrRaw_file c k hwf hk _ _ _ i.pk (opsData ops) _ (by rw [tailBytes_length]; exact Nat.le_trans (padLen_le_one _) (by decide)) hguard

/-- A session that stored N whole frames re-opens with exactly N frames, for every
    encoding, channel count and N (one-byte mono encodings with an odd N included). -/
theorem aiff_frames_exact (c : Cfg) (k : Kind) (hwf : c.wf) (hk : kindOf c = some k) (stale : Nat) (ops : List WOp) (N : Nat)
    (hN : (opsData ops).length = N * c.bw) (hguard : (closedBytes c k stale ops).length < 2 ^ 32) :
    parse (closedBytes c k stale ops) = .ok { ch := c.ch, fmt := c.fmtWord, sr := c.sr, frames := N } := by
  have hbw : 0 < c.bw := bw_pos hwf hk
  rw [aiff_reopen_info c k hwf hk stale ops hguard, hN, Nat.mul_div_cancel _ hbw]

/-! #### the tailer before the repair of KF-AIFF-ODD-PAD -/

def closedBytesOld (c : Cfg) (k : Kind) (stale : Nat) (ops : List WOp) : List Byte :=
  (closeOld c k (run c k (openW c k stale) ops)).bytes

theorem closedBytesOld_eq (c : Cfg) (k : Kind) (hwf : c.wf) (hk : kindOf c = some k) (stale : Nat) (ops : List WOp) :
    closedBytesOld c k stale ops =
      closedHdrOld c k (opsData ops).length (finalPeaks c k stale ops) ++ opsData ops ++ tailBytes (opsData ops).length := by
  have hbw : 0 < c.bw := bw_pos hwf hk
  obtain ⟨i, d'⟩ := session_inv c k hwf.1 hk stale ops
  unfold closedBytesOld finalPeaks
  rw [close_bytes_old c k hbw _ i, d']

/-- old rule: the pad byte was inside the SSND chunk and counted: frames = (audio bytes + pad byte) / block width -/
theorem aiff_reopen_info_old_rule (c : Cfg) (k : Kind) (hwf : c.wf) (hk : kindOf c = some k) (stale : Nat) (ops : List WOp)
    (hguard : (closedBytesOld c k stale ops).length < 2 ^ 32) :
    parse (closedBytesOld c k stale ops) =
      .ok { ch := c.ch, fmt := c.fmtWord, sr := c.sr,
            frames := ((opsData ops).length + padLen (opsData ops).length) / c.bw } := by
  obtain ⟨i, _⟩ := session_inv c k hwf.1 hk stale ops
  have hb := closedBytesOld_eq c k hwf hk stale ops
  rw [hb] at hguard ⊢
  have hbody : (opsData ops ++ tailBytes (opsData ops).length).length = (opsData ops).length + padLen (opsData ops).length := by
    rw [List.length_append, tailBytes_length]
  have := parse_hdrRaw_file c k hwf hk (((opsData ops).length + padLen (opsData ops).length) / c.bw)
    ((hdrLen c k + (opsData ops).length + padLen (opsData ops).length : Nat) : Int) (finalPeaks c k stale ops) i.pk
    (opsData ops ++ tailBytes (opsData ops).length) [] (by simp)
  rw [hbody, List.append_nil] at this
  rw [List.append_assoc] at hguard ⊢
  exact this hguard

/-- old rule: the frame count against the number N of frames written: F = N, except that one-byte mono encodings
    with an odd N got the pad byte counted as one more frame -/
theorem aiff_frames_bound_old_rule (bw N : Nat) (hbw : 0 < bw) :
    let F := (N * bw + padLen (N * bw)) / bw
    N ≤ F ∧ F ≤ N + 1 ∧ (bw ≠ 1 → F = N) ∧ (N % 2 = 0 → F = N) := by
  intro F
  have hp := padLen_le_one (N * bw)
  have hlo : N ≤ F := by
    show N ≤ (N * bw + padLen (N * bw)) / bw
    rw [Nat.le_div_iff_mul_le hbw]; omega
  have hhi : F ≤ N + 1 := by
    show (N * bw + padLen (N * bw)) / bw ≤ N + 1
    have : N * bw + padLen (N * bw) < (N + 1 + 1) * bw := by
      have : (N + 1 + 1) * bw = N * bw + bw + bw := by rw [Nat.add_mul, Nat.add_mul]; omega
      omega
    have := (Nat.div_lt_iff_lt_mul hbw).2 this
    omega
  refine ⟨hlo, hhi, ?_, ?_⟩
  · intro h1
    show (N * bw + padLen (N * bw)) / bw = N
    have : N * bw + padLen (N * bw) < (N + 1) * bw := by rw [Nat.add_mul]; omega
    have := (Nat.div_lt_iff_lt_mul hbw).2 this
    omega
  · intro he
    have : padLen (N * bw) = 0 := by
      unfold padLen
      rw [Nat.mul_mod, he]; simp
    show (N * bw + padLen (N * bw)) / bw = N
    rw [this, Nat.add_zero, Nat.mul_div_cancel _ hbw]

/-- a 16-bit stereo big-endian AIFF-C session (one write, a header update, a second write): 3 frames -/
def exCfg : Cfg := ⟨0x02, 2, 2, 44100⟩
def exKind : Kind := ⟨true, mk4 "twos", false⟩
def exOps : List WOp := [.write [0, 1, 0, 2] [] false, .update, .write [0, 3, 0, 4, 0, 5, 0, 6] [] true]
/-- an odd-length µ-law mono session: 3 bytes of audio, a pad byte, 3 frames reported -/
def exU : Cfg := ⟨0x10, 0, 1, 8000⟩
def exUKind : Kind := ⟨true, mk4 "ulaw", false⟩
example : exCfg.wf ∧ kindOf exCfg = some exKind ∧ (closedBytes exCfg exKind 99 exOps).length = 84 ∧
    parse (closedBytes exCfg exKind 99 exOps) = .ok ⟨2, 0x20020002, 44100, 3⟩ := by
  have hl : (closedBytes exCfg exKind 99 exOps).length = 84 := by decide +kernel
  exact ⟨by decide, by decide, hl, (aiff_reopen_info exCfg exKind (by decide) (by decide) 99 exOps (by rw [hl]; decide)).trans (by decide)⟩
example : exU.wf ∧ kindOf exU = some exUKind ∧ (closedBytes exU exUKind 0 [.write [1, 2, 3] [] false]).length = 76 ∧
    parse (closedBytes exU exUKind 0 [.write [1, 2, 3] [] false]) = .ok ⟨1, 0x020010, 8000, 3⟩ := by
  have hl : (closedBytes exU exUKind 0 [.write [1, 2, 3] [] false]).length = 76 := by decide +kernel
  exact ⟨by decide, by decide, hl, (aiff_reopen_info exU exUKind (by decide) (by decide) 0 _ (by rw [hl]; decide)).trans (by decide)⟩
/-- old rule: the same session re-opened with 4 frames (3 written): `aiff_frames_exact` failed -/
theorem aiff_frames_exact_fails_old_rule :
    parse (closedBytesOld exU exUKind 0 [.write [1, 2, 3] [] false]) = .ok ⟨1, 0x020010, 8000, 4⟩ := by decide +kernel

/-- For every N (no guard): the file length is header + audio + pad and even; the FORM size
    field holds the low 32 bits of (length − 8) and the SSND size field the low 32 bits of (audio + 8): the pad byte
    follows the chunk, as IFF prescribes. -/
theorem aiff_size_fields (c : Cfg) (k : Kind) (hwf : c.wf) (hk : kindOf c = some k) (stale : Nat) (ops : List WOp)
    (bytes : List Byte) (D : Nat) (hbytes : bytes = closedBytes c k stale ops) (hD : D = (opsData ops).length) :
    bytes.length = hdrLen c k + D + padLen D ∧ bytes.length % 2 = 0 ∧
    ofBE ((bytes.drop 4).take 4) = (bytes.length - 8) % 2 ^ 32 ∧
    ofBE ((bytes.drop (hdrLen c k - 12)).take 4) = (D + 8) % 2 ^ 32 := by
  obtain ⟨i, _⟩ := session_inv c k hwf.1 hk stale ops
  have hb : bytes = closedHdr c k D (finalPeaks c k stale ops) ++ (opsData ops ++ tailBytes D) := by
    rw [hbytes, hD, ← List.append_assoc]; exact closedBytes_eq c k hwf hk stale ops
  have hhl : (closedHdr c k D (finalPeaks c k stale ops)).length = hdrLen c k := hdrRaw_length c k hwf.1 hk _ _ _ _ i.pk
  have hlen : bytes.length = hdrLen c k + D + padLen D := by
    rw [hb, List.length_append, List.length_append, hhl, tailBytes_length, ← hD, Nat.add_assoc]
  have hev := hdrLen_even c k
  have h54 := hdrLen_ge c k
  obtain ⟨f1, f2⟩ := hdrRaw_size_fields c k hwf.1 hk (D / c.bw) ((hdrLen c k + D + padLen D : Nat) : Int) ((D : Nat) : Int)
    (finalPeaks c k stale ops) i.pk (opsData ops ++ tailBytes D)
  rw [← closedHdr, ← hb] at f1 f2
  refine ⟨hlen, by rw [hlen]; unfold padLen; omega, ?_, ?_⟩
  · rw [f1.slice 4 (be32_length _), ofBE_be32, hlen]
    unfold wrapU
    omega
  · rw [f2.slice 4 (be32_length _), ofBE_be32]
    unfold wrapU
    omega

example : ofBE (((closedBytes exCfg exKind 99 exOps).drop 4).take 4) = 76 ∧
    ofBE (((closedBytes exCfg exKind 99 exOps).drop (hdrLen exCfg exKind - 12)).take 4) = 20 ∧
    ofBE (((closedBytes exU exUKind 0 [.write [1, 2, 3] [] false]).drop (hdrLen exU exUKind - 12)).take 4) = 11 := by
  have h := aiff_size_fields exCfg exKind (by decide) (by decide) 99 exOps _ _ rfl rfl
  have hu := aiff_size_fields exU exUKind (by decide) (by decide) 0 [.write [1, 2, 3] [] false] _ _ rfl rfl
  exact ⟨h.2.2.1.trans (by rw [h.1]; decide), h.2.2.2.trans (by decide), hu.2.2.2.trans (by decide)⟩

/-- `aiff_open` zeroes sf.frames in SFM_WRITE: the closed bytes (and every
    intermediate store image) do not depend on the frames value the caller left in SF_INFO. -/
theorem stale_frames_ignored_aiff (c : Cfg) (k : Kind) (a b : Nat) (ops : List WOp) :
    closedBytes c k a ops = closedBytes c k b ops ∧ openW c k a = openW c k b := ⟨rfl, rfl⟩

example : closedBytes exCfg exKind 0 exOps = closedBytes exCfg exKind 123456 exOps := rfl

/-! ### C11: header updates -/

/-- the store right after SFC_UPDATE_HEADER_NOW (or after a write call in auto mode) at the end of `ops` -/
def snapshotBytes (c : Cfg) (k : Kind) (stale : Nat) (ops : List WOp) : List Byte :=
  (update c k (run c k (openW c k stale) ops)).bytes

theorem snapshotBytes_eq (c : Cfg) (k : Kind) (hwf : c.wf) (hk : kindOf c = some k) (stale : Nat) (ops : List WOp) :
    snapshotBytes c k stale ops = snapHdr c k (opsData ops).length (finalPeaks c k stale ops) ++ opsData ops := by
  obtain ⟨i, d'⟩ := session_inv c k hwf.1 hk stale ops
  unfold snapshotBytes finalPeaks
  rw [update_bytes c k (bw_pos hwf hk) _ i, d']

/-- a write call with SFC_SET_UPDATE_HEADER_AUTO on is the plain write call followed by a header update -/
theorem auto_write_is_update (c : Cfg) (k : Kind) (s : St) (enc : List Byte) (pk : Option (List Peak)) :
    write c k s enc pk true = update c k (write c k s enc pk false) := by
  simp [write, update]

/-- After any session prefix, the image a header update leaves in the store parses — as
    a crashed writer would leave it — with the same parameters and frames = audio bytes written so far / block
    width, i.e. exactly the frames written (no pad byte exists yet). -/
theorem aiff_snapshot_valid (c : Cfg) (k : Kind) (hwf : c.wf) (hk : kindOf c = some k) (stale : Nat) (ops : List WOp)
    (hguard : (snapshotBytes c k stale ops).length < 2 ^ 32) :
    parse (snapshotBytes c k stale ops) =
      .ok { ch := c.ch, fmt := c.fmtWord, sr := c.sr, frames := (opsData ops).length / c.bw } ∧
    ∃ hdr, hdr.length = hdrLen c k ∧ snapshotBytes c k stale ops = hdr ++ opsData ops := by
  obtain ⟨i, _⟩ := session_inv c k hwf.1 hk stale ops
  have hb := snapshotBytes_eq c k hwf hk stale ops
  refine ⟨?_, _, hdrRaw_length c k hwf.1 hk _ _ _ _ i.pk, hb⟩
  rw [hb] at hguard ⊢
  have := parse_hdrRaw_file c k hwf hk ((opsData ops).length / c.bw) ((hdrLen c k + (opsData ops).length : Nat) : Int)
    _ i.pk (opsData ops) [] (by simp) (by rw [List.append_nil]; exact hguard)
  rwa [List.append_nil] at this

example : (snapshotBytes exU exUKind 0 [.write [1, 2, 3] [] false]).length = 75 ∧
    parse (snapshotBytes exU exUKind 0 [.write [1, 2, 3] [] false]) = .ok ⟨1, 0x020010, 8000, 3⟩ := by
  have hl : (snapshotBytes exU exUKind 0 [.write [1, 2, 3] [] false]).length = 75 := by decide +kernel
  exact ⟨hl, (aiff_snapshot_valid exU exUKind (by decide) (by decide) 0 _ (by rw [hl]; decide)).1.trans (by decide)⟩

end Sf.C04Aiff
