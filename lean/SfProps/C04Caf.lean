-- properties: C04 C11
/-
  C04 / C11 — the CAF container (SfModel/Caf.lean), sample-granular encodings.
  (helpers: SfProofs/CafBytes.lean, CafImage.lean, CafSession.lean, CafParse.lean).

  `image c N pk data = hdr c N pk ++ data ++ tail c N` is the closed file of N frames whose encoded audio is `data`
  and whose PEAK table (float / double files) is `pk`.
-/
import SfProofs.CafSession
import SfProofs.CafParse
namespace Sf.C04Caf
open Sf Sf.Caf Sf.CafW64

/-- the header always ends on a multiple of 4096 (the 'free' chunk fills the gap, whatever the channel count of the
    'peak' chunk), its length does not depend on the lengths or peaks written into it, and the closed file is the
    header, the audio, and one zero byte exactly when the audio ends on an odd offset — so the total is even -/
theorem caf_header_length (c : Cfg) (n : Nat) (pk : List Peak) (data : List Byte)
    (hpk : isFloat c.codec = true → pk.length = c.ch) (hd : data.length = n * c.bw) :
    (hdr c n pk).length = dataOffset c ∧ dataOffset c % 4096 = 0 ∧
    (image c n pk data).length = dataOffset c + data.length + data.length % 2 ∧ (image c n pk data).length % 2 = 0 := by
  have h1 := hdrRaw_length c ((n * c.bw : Nat) : Int) pk hpk
  have h2 := dataOffset_aligned c
  have h3 := image_length c n pk data hpk
  have h4 : (tail c n).length = data.length % 2 := by
    have hm : (dataOffset c + n * c.bw) % 2 = data.length % 2 := by omega
    unfold tail; rw [hm]
    rcases Nat.mod_two_eq_zero_or_one data.length with h | h <;> rw [h] <;> rfl
  refine ⟨h1, h2.1, by rw [h3, h4], by rw [h3, h4]; omega⟩

/-- the closed file as its sequence of fields, and where the size fields and the rate lie -/
theorem image_fields (c : Cfg) (n : Nat) (pk : List Peak) (data : List Byte) :
    let img := image c n pk data
    FieldAt img 12 (beBytes 8 32) ∧ FieldAt img 20 (beBytes 8 (Float.f64.ofInt c.sr)) ∧
    ((isFloat c.codec = true → pk.length = c.ch) → FieldAt img (preLen c + 4) (beBytes 8 (freeLen c)) ∧
      FieldAt img (dataOffset c - 12) (beBytes 8 (wrapU 64 (((n * c.bw : Nat) : Int) + 4)))) := by
  intro img
  obtain ⟨g1, g2, _, g4, g5, _⟩ := mk_lengths
  have e : img = [mk "caff" ++ beBytes 2 1 ++ beBytes 2 0, descChunk c, peakPart c pk, mk "free", beBytes 8 (freeLen c), zeros (freeLen c),
      mk "data", beBytes 8 (wrapU 64 (((n * c.bw : Nat) : Int) + 4)), beBytes 4 0, data, tail c n].flatten := by
    simp only [img, image, hdr, hdrRaw_eq, List.flatten_cons, List.flatten_nil, List.append_assoc, List.append_nil]
  have ed : descChunk c = [mk "desc", beBytes 8 32, beBytes 8 (Float.f64.ofInt c.sr), descRest c].flatten := by
    simp only [descChunk_eq, List.flatten_cons, List.flatten_nil, List.append_assoc, List.append_nil]
  have hdesc : FieldAt img 8 (descChunk c) := .seg _ e 1 _ rfl (by simp [beBytes_length, g1])
  refine ⟨hdesc.trans (.seg _ ed 1 4 rfl (by simp [g2])), hdesc.trans (.seg _ ed 2 12 rfl (by simp [g2, beBytes_length])), fun hpk => ?_⟩
  have hpl := preLen_eq c pk hpk
  refine ⟨.seg _ e 4 _ rfl ?_, .seg _ e 7 _ rfl ?_⟩
  · simp [beBytes_length, descChunk_length, g1, g4]; omega
  · simp [beBytes_length, descChunk_length, zeros, g1, g4, g5, dataOffset]; omega

/-- every size field of the closed file equals the real length, for every N: 'desc' is 32, 'free' is exactly the gap up
    to the 16 bytes of the data chunk header and edit count, and the 64-bit 'data' size is the audio byte count + 4 (the
    edit count) — it does NOT count the pad byte -/
theorem caf_size_fields (c : Cfg) (n : Nat) (pk : List Peak) (data : List Byte)
    (hpk : isFloat c.codec = true → pk.length = c.ch) (hd : data.length = n * c.bw) (hsz : n * c.bw + 4 < 2 ^ 64) :
    let img := image c n pk data
    ofBE ((img.drop 12).take 8) = 32 ∧
    ofBE ((img.drop (preLen c + 4)).take 8) = freeLen c ∧ preLen c + 12 + freeLen c + 16 = dataOffset c ∧
    ofBE ((img.drop (dataOffset c - 12)).take 8) = data.length + 4 := by
  intro img
  obtain ⟨f1, _, f34⟩ := image_fields c n pk data
  obtain ⟨f3, f4⟩ := f34 hpk
  have e64 : (256 : Nat) ^ 8 = 2 ^ 64 := by decide
  have hfl : freeLen c < 4096 := by unfold freeLen; omega
  have hw : wrapU 64 (((n * c.bw : Nat) : Int) + 4) = n * c.bw + 4 := by
    have := wrapU_of_lt 64 (n * c.bw + 4) hsz
    simpa using this
  refine ⟨ofBE_fieldAt f1, ?_, rfl, ?_⟩
  · rw [ofBE_fieldAt f3, e64]
    exact Nat.mod_eq_of_lt (by omega)
  · rw [ofBE_fieldAt f4, hw, hd, e64]
    exact Nat.mod_eq_of_lt hsz

/-- the sample rate: the 8 bytes at offset 20 are the big-endian binary64 of the rate, which is finite, and `lrint` of it
    is the rate — for EVERY rate a C `int` can hold (all of them are exactly representable; 2^53 is the real bound) -/
theorem caf_rate_field (c : Cfg) (n : Nat) (pk : List Peak) (data : List Byte) (hsr : c.sr < 2 ^ 53) :
    let img := image c n pk data
    ofBE ((img.drop 20).take 8) = Float.f64.ofInt c.sr % 2 ^ 64 ∧
    (Float.f64.toDy (Float.f64.ofInt c.sr)).rint = c.sr := by
  intro img
  exact ⟨ofBE_fieldAt (image_fields c n pk data).2.1, rate_roundtrip c.sr hsr⟩

/-- non-vacuity and concrete re-opens: a little-endian stereo float file of 1 frame (with its 'peak' chunk), an 8-bit
    mono file of 1 frame (odd length: pad byte), and a 16-bit file with no audio at the top rate -/
def exPk : List Peak := [{ value := 0x3FE0000000000000, position := 0 }, { value := 0x3FF0000000000000, position := 0 }]
example : ({ codec := 0x06, endian := 1, ch := 2, sr := 44100 } : Cfg).wf ∧ (image { codec := 0x06, endian := 1, ch := 2, sr := 44100 } 1 exPk [0, 0, 0, 63, 0, 0, 128, 191]).length = 4104 ∧
    parse (image { codec := 0x06, endian := 1, ch := 2, sr := 44100 } 1 exPk [0, 0, 0, 63, 0, 0, 128, 191]) =
      .ok { fmtWord := 0x10180006, ch := 2, sr := 44100, frames := 1, dataoffset := 4096, datalength := 8 } :=
  ⟨by decide, (caf_header_length _ 1 _ _ (by decide) (by decide)).2.2.1.trans (by decide),
    (parse_image _ (by decide) 1 _ _ (by decide) (by decide) (by decide)).trans (by decide)⟩
example : (image { codec := 0x01, endian := 0, ch := 1, sr := 8000 } 1 [] [5]).length = 4098 ∧
    parse (image { codec := 0x01, endian := 0, ch := 1, sr := 8000 } 1 [] [5]) =
      .ok { fmtWord := 0x180001, ch := 1, sr := 8000, frames := 1, dataoffset := 4096, datalength := 1 } :=
  ⟨(caf_header_length _ 1 _ _ (by decide) (by decide)).2.2.1.trans (by decide),
    (parse_image _ (by decide) 1 _ _ (by decide) (by decide) (by decide)).trans (by decide)⟩
example : parse (image { codec := 0x02, endian := 2, ch := 6, sr := 0x7FFFFFFF } 0 [] []) =
      .ok { fmtWord := 0x180002, ch := 6, sr := 0x7FFFFFFF, frames := 0, dataoffset := 4096, datalength := 0 } :=
  (parse_image _ (by decide) 0 _ _ (by decide) (by decide) (by decide)).trans (by decide)

/-- `stale_frames_ignored` for CAF: caf_open zeroes sf.frames, and whatever the caller's value was, however the frames
    were split over write calls and interleaved with header updates (explicit or automatic), the closed file is
    `image c N pk data` with N the frames accepted, `data` their encoded bytes in order and `pk` the last peak table —
    an expression in which the stale value does not occur.  Together with `caf_header_length` / `caf_size_fields` this
    gives every size field of every closed file. -/
theorem stale_frames_ignored_caf (c : Cfg) (hwf : c.wf) (stale : Int) (ops : List Op) (hv : ∀ op ∈ ops, op.valid c) :
    (close c (run c (openW c stale) ops)).bytes = image c (sessFrames ops) (sessPeaks c ops) (sessData ops) ∧
    (openW c stale).bytes = (openW c 0).bytes :=
  ⟨close_bytes (session_inv c hwf stale ops hv), rfl⟩

/-- C11 `snapshot_valid` for CAF: when SFC_UPDATE_HEADER_NOW returns, the store is the header of the frames written so
    far followed by exactly their bytes — the closed file without its tailer (a reader of the copy finds the data chunk
    running to the end of the file) -/
theorem snapshot_valid_caf (c : Cfg) (hwf : c.wf) (stale : Int) (ops : List Op) (hv : ∀ op ∈ ops, op.valid c) :
    (step c (run c (openW c stale) ops) .update).bytes = hdr c (sessFrames ops) (sessPeaks c ops) ++ sessData ops :=
  (writeHeader_inv (session_inv c hwf stale ops hv) (wf_bw_pos hwf) true).2.1 rfl

/-- …and in auto mode every write call that transferred something ends in such a crash point -/
theorem auto_write_is_snapshot_caf (c : Cfg) (hwf : c.wf) (stale : Int) (ops : List Op) (hv : ∀ op ∈ ops, op.valid c)
    (k : Nat) (data : List Byte) (p : List Peak) (hk : k ≠ 0) (hd : data.length = k * c.bw) (hp : p.length = c.ch)
    (hauto : (run c (openW c stale) ops).auto = true) :
    (step c (run c (openW c stale) ops) (.write k data p)).bytes =
      hdr c (sessFrames ops + k) (sessPeaks c (ops ++ [.write k data p])) ++ (sessData ops ++ data) := by
  have := (step_inv (session_inv c hwf stale ops hv) (wf_bw_pos hwf) (.write k data p) ⟨hd, hp⟩).2 k data p rfl hk hauto
  simpa [sessPeaks_eq, List.foldl_append] using this

/-- `reopen_info` for CAF: for every configuration sf_open accepts for writing, every frame count N, every peak table and
    every encoded audio `data` of N frames, the reader of the closed file reports the requested channels, the format word
    (CAF | encoding | the byte order the file records), the requested sample rate — every rate a C `int` holds is exact in
    the binary64 field — and frames = N; the audio starts at `dataOffset` and has exactly N·bw bytes.
    Guard: the audio is at most 2^31 − 1 bytes (caf_read_header passes `datalength` through an `int`: beyond that the scan
    would walk into the audio; no file of that size can be run through the harness, so the model does not describe it). -/
theorem caf_reopen_info (c : Cfg) (hwf : c.wf) (n : Nat) (pk : List Peak) (data : List Byte)
    (hpk : isFloat c.codec = true → pk.length = c.ch) (hd : data.length = n * c.bw) (hsz : n * c.bw ≤ 0x7FFFFFFF) :
    parse (image c n pk data) =
      .ok { fmtWord := (if c.little then 0x10000000 else 0) + 0x180000 + c.codec, ch := c.ch, sr := c.sr, frames := n,
            dataoffset := dataOffset c, datalength := n * c.bw } :=
  parse_image c hwf n pk data hpk hd hsz

/-- `read_to_eof`: the bytes between the reported data offset and data length are exactly the audio written — the pad
    byte is never part of them -/
theorem caf_reopen_data (c : Cfg) (n : Nat) (pk : List Peak) (data : List Byte)
    (hpk : isFloat c.codec = true → pk.length = c.ch) (hd : data.length = n * c.bw) :
    ((image c n pk data).drop (dataOffset c)).take (n * c.bw) = data := by
  have h := hdrRaw_length c ((n * c.bw : Nat) : Int) pk hpk
  simp only [image, hdr, List.append_assoc]
  rw [← h, ← hd]
  simp

/-- the closed file of ANY valid write session re-opens with what was written: `stale_frames_ignored_caf` and
    `caf_reopen_info` composed -/
theorem caf_session_reopen (c : Cfg) (hwf : c.wf) (stale : Int) (ops : List Op) (hv : ∀ op ∈ ops, op.valid c)
    (hsz : sessFrames ops * c.bw ≤ 0x7FFFFFFF) :
    parse (close c (run c (openW c stale) ops)).bytes =
      .ok { fmtWord := (if c.little then 0x10000000 else 0) + 0x180000 + c.codec, ch := c.ch, sr := c.sr, frames := sessFrames ops,
            dataoffset := dataOffset c, datalength := sessFrames ops * c.bw } := by
  have i := session_inv c hwf stale ops hv
  rw [(stale_frames_ignored_caf c hwf stale ops hv).1]
  exact parse_image c hwf _ _ _ i.pklen i.dlen hsz

/-- a float session: two write calls around an update, auto mode switched on in between -/
def exCfg : Cfg := { codec := 0x06, endian := 1, ch := 1, sr := 8000 }
def exOps : List Op :=
  [.write 1 [0, 0, 0, 63] [{ value := 0x3FE0000000000000, position := 0 }], .update, .auto true,
   .write 2 [0, 0, 128, 63, 0, 0, 0, 0] [{ value := 0x3FF0000000000000, position := 1 }]]
example : exCfg.wf ∧ (∀ op ∈ exOps, op.valid exCfg) ∧ sessFrames exOps = 3 ∧
    (close exCfg (run exCfg (openW exCfg 99999) exOps)).bytes.length = 4096 + 12 ∧
    parse (close exCfg (run exCfg (openW exCfg 99999) exOps)).bytes =
      .ok { fmtWord := 0x10180006, ch := 1, sr := 8000, frames := 3, dataoffset := 4096, datalength := 12 } := by
  have hwf : exCfg.wf := by decide
  have hv : ∀ op ∈ exOps, op.valid exCfg := by decide
  have hb := (stale_frames_ignored_caf exCfg hwf 99999 exOps hv).1
  refine ⟨hwf, hv, by decide, ?_, ?_⟩
  · rw [hb, (caf_header_length exCfg _ _ _ (by decide) (by decide)).2.2.1]; decide
  · rw [caf_session_reopen exCfg hwf 99999 exOps hv (by decide)]; decide

/-! KF-CAF-DATA-MINUS-ONE (a 'data' chunk of size −1 was refused) is repaired: the theorems about the new rule and the rule before the
    repair (`caf_data_to_end_walk`, `caf_data_to_end_reopens`, `caf_data_size_minus_one_old_rule`) are in SfProps/C04CafDataEnd.lean
    and C04CafDataEndFile.lean. -/

end Sf.C04Caf
