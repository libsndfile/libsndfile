/-
  C12 — `meta_order_independent`: what the GET calls return does not depend on the order in which the items were set.

  Two layers.  (1) A general fact about state machines whose steps only touch "their own" component (`foldl_perm_of_keyed`).
  (2) The string table: after any sequence of accepted sf_set_string calls with pairwise different types, `get` returns for each
  type the text set for it (`get_run`), whatever slots the calls ended up in; the other items (bext, cart, cue points,
  instrument) are separate fields of the handle and "the last accepted call wins".  The placement that does depend on the order
  — which slot a string occupies, hence the order of the items inside LIST/INFO — is not visible through the GET calls.

  The sequences themselves are defined here (`runStr` / `allOk` for sf_set_string calls, `runOps` for SET calls on the handle).
-/
import SfProps.C12
namespace Sf.Meta

theorem find_key_perm {α κ} [DecidableEq κ] (key : α → κ) (l l' : List α) (hp : l.Perm l') (hn : (l.map key).Nodup) (k : κ) :
    l.find? (fun x => decide (key x = k)) = l'.find? (fun x => decide (key x = k)) := by
  have hn' : (l'.map key).Nodup := (hp.map key).nodup_iff.mp hn
  cases h : l.find? (fun x => decide (key x = k)) with
  | some a =>
    have ha := List.mem_of_find?_eq_some h
    have hk : key a = k := by simpa using List.find?_some h
    have := find_key_of_nodup key l' hn' a (hp.mem_iff.mp ha)
    rw [hk] at this; exact this.symm
  | none =>
    symm
    rw [List.find?_eq_none] at h ⊢
    intro x hx; exact h x (hp.mem_iff.mpr hx)

/-- A fold observed through `V`, in which only the element with key `k` changes what `V` sees, and what `V` sees after that
    element depends only on what it saw before it: the observation at the end is determined by that element. -/
theorem foldl_keyed {σ α κ β} [DecidableEq κ] (f : σ → α → σ) (V : σ → β) (key : α → κ) (k : κ) (l : List α)
    (hown : ∀ a ∈ l, key a = k → ∀ x y, V x = V y → V (f x a) = V (f y a))
    (hid : ∀ a ∈ l, key a ≠ k → ∀ x, V (f x a) = V x)
    (hn : (l.map key).Nodup) (x : σ) :
    V (l.foldl f x) = match l.find? (fun a => decide (key a = k)) with | some a => V (f x a) | none => V x := by
  induction l generalizing x with
  | nil => simp
  | cons b t ih =>
    simp only [List.map_cons, List.nodup_cons] at hn
    have ih := ih (fun a ha => hown a (List.mem_cons_of_mem _ ha)) (fun a ha => hid a (List.mem_cons_of_mem _ ha)) hn.2
    simp only [List.foldl_cons, List.find?_cons]
    by_cases hb : key b = k
    · simp only [hb, decide_true]
      have hnone : t.find? (fun a => decide (key a = k)) = none := by
        rw [List.find?_eq_none]; intro a ha; simp only [decide_eq_true_eq]
        intro hak; apply hn.1; rw [hb, ← hak]; exact List.mem_map_of_mem ha
      rw [ih, hnone]
    · simp only [hb, decide_false]
      have hxb : V (f x b) = V x := hid b (List.mem_cons_self ..) hb x
      rw [ih]
      -- the element with key `k`, if there is one behind `b`, sees through `V` what it would have seen without `b`
      cases hf : t.find? (fun a => decide (key a = k)) with
      | none => exact hxb
      | some a =>
        exact hown a (List.mem_cons_of_mem _ (List.mem_of_find?_eq_some hf)) (by simpa using List.find?_some hf) _ _ hxb

theorem foldl_perm_of_keyed {σ α κ β} [DecidableEq κ] (f : σ → α → σ) (V : σ → β) (key : α → κ) (k : κ) (l l' : List α)
    (hown : ∀ a ∈ l, key a = k → ∀ x y, V x = V y → V (f x a) = V (f y a))
    (hid : ∀ a ∈ l, key a ≠ k → ∀ x, V (f x a) = V x)
    (hp : l.Perm l') (hn : (l.map key).Nodup) (x : σ) : V (l.foldl f x) = V (l'.foldl f x) := by
  rw [foldl_keyed f V key k l hown hid hn,
    foldl_keyed f V key k l' (fun a ha => hown a (hp.mem_iff.mpr ha)) (fun a ha => hid a (hp.mem_iff.mpr ha))
      ((hp.map key).nodup_iff.mp hn),
    find_key_perm key l l' hp hn k]

/-- sf_set_string calls: (type, text) -/
abbrev Call := Int × List Byte

def runStr (e : Env) (t : Strings) (calls : List Call) : Strings := calls.foldl (fun t c => (store e t c.1 c.2).2) t

/-- every call of the sequence is accepted -/
def allOk (e : Env) : Strings → List Call → Prop
  | _, [] => True
  | t, c :: rest => (store e t c.1 c.2).1 = 0 ∧ allOk e (store e t c.1 c.2).2 rest

theorem get_run (e : Env) (calls : List Call) : ∀ (t : Strings), t.Inv → allOk e t calls → ∀ ty : Int, ty > 0 →
    get (runStr e t calls) ty = calls.foldl (fun x c => if c.1 = ty then some (cstr (storedText e c.1 c.2)) else x) (get t ty) := by
  induction calls with
  | nil => intro t _ _ ty _; rfl
  | cons c rest ih =>
    intro t hinv hok ty hty
    obtain ⟨h0, hrest⟩ := hok
    have hinv' := store_inv e t c.1 c.2 hinv
    obtain ⟨hsame, hother⟩ := store_get e t c.1 c.2 hinv h0
    simp only [runStr, List.foldl_cons] at ih ⊢
    rw [ih _ hinv' hrest ty hty]
    by_cases hc : c.1 = ty
    · subst hc; simp [hsame]
    · simp only [hc, if_false]; rw [hother ty hty (fun h => hc h.symm)]

/-- `meta_order_independent`, strings: two accepted orders of the same sf_set_string calls (pairwise different types) on the same
    handle give tables from which sf_get_string returns the same text for every type -/
theorem strings_order_independent (e : Env) (t : Strings) (hinv : t.Inv) (calls calls' : List Call) (hp : calls.Perm calls')
    (hn : (calls.map (·.1)).Nodup) (hok : allOk e t calls) (hok' : allOk e t calls') (ty : Int) (hty : ty > 0) :
    get (runStr e t calls) ty = get (runStr e t calls') ty := by
  rw [get_run e calls t hinv hok ty hty, get_run e calls' t hinv hok' ty hty]
  exact foldl_perm_of_keyed _ id (fun c : Call => c.1) ty calls calls' (fun a _ hk x y _ => by simp [hk]) (fun a _ hk x => by simp [hk])
    hp hn _

def runOps (pn pv : List Byte) (h : MetaState) (ops : List Op) : MetaState := ops.foldl (fun h op => (step pn pv h op).2) h

/-- what a SET call reads of the handle besides the item it sets -/
def frame (h : MetaState) : Container × Mode × Bool := (h.cont, h.mode, h.haveWritten)

theorem step_frame (pn pv : List Byte) (h : MetaState) (op : Op) (ha : op.isAudio = false) : frame (step pn pv h op).2 = frame h := by
  obtain ⟨hc, hm, hw⟩ := (step_effect pn pv h op ha).frame
  simp only [frame, hc, hm, hw]

/-- what a call makes of an item depends on that item and the frame only: the guards of `step` read nothing else -/
theorem step_reads_own (pn pv : List Byte) (h1 h2 : MetaState) (op : Op) (hf : frame h1 = frame h2) :
    (h1.bext = h2.bext → (step pn pv h1 op).2.bext = (step pn pv h2 op).2.bext) ∧
    (h1.cart = h2.cart → (step pn pv h1 op).2.cart = (step pn pv h2 op).2.cart) ∧
    (h1.cues = h2.cues → (step pn pv h1 op).2.cues = (step pn pv h2 op).2.cues) ∧
    (h1.inst = h2.inst → (step pn pv h1 op).2.inst = (step pn pv h2 op).2.inst) := by
  obtain ⟨c1, m1, w1, s1, b1, ca1, q1, i1, a1⟩ := h1
  obtain ⟨c2, m2, w2, s2, b2, ca2, q2, i2, a2⟩ := h2
  simp only [frame, Prod.mk.injEq] at hf
  obtain ⟨rfl, rfl, rfl⟩ := hf
  -- the field is read off the branches of the guard chain: for the item's own call the two chains are the same, for any other
  -- call every branch holds the old value
  refine ⟨?_, ?_, ?_, ?_⟩
  all_goals
    intro hs
    dsimp only at hs
    subst hs
    cases op <;> simp only [step, apply_ite Prod.snd, apply_ite MetaState.bext, apply_ite MetaState.cart, apply_ite MetaState.cues,
      apply_ite MetaState.inst, ite_self]

/-- One item of the handle (the field `sel`, set by the calls with key `k`) after a sequence of SET calls made in two orders.
    `hown`: what a call makes of the item depends on the item and the frame only. -/
theorem field_order_independent {β : Type} (sel : MetaState → β) (k : Nat × Int) (pn pv : List Byte)
    (hother : ∀ h op, op.isAudio = false → itemKey op ≠ k → sel (step pn pv h op).2 = sel h)
    (hown : ∀ h1 h2 op, frame h1 = frame h2 → sel h1 = sel h2 → sel (step pn pv h1 op).2 = sel (step pn pv h2 op).2)
    (h : MetaState) (ops ops' : List Op) (hp : ops.Perm ops') (hn : (ops.map itemKey).Nodup) (hna : ∀ op ∈ ops, op.isAudio = false) :
    sel (runOps pn pv h ops) = sel (runOps pn pv h ops') := by
  have key := foldl_perm_of_keyed (fun h op => (step pn pv h op).2) (fun h => (frame h, sel h)) itemKey k ops ops'
    (fun op ho _ x y hxy => by
      have hf : frame x = frame y := congrArg Prod.fst hxy
      simp only [step_frame pn pv _ op (hna op ho), hf, hown x y op hf (congrArg Prod.snd hxy)])
    (fun op ho hk x => by simp only [step_frame pn pv _ op (hna op ho), hother x op (hna op ho) hk])
    hp hn h
  exact congrArg Prod.snd key

/-- `meta_order_independent`: two orders of the same SET calls made before the audio (pairwise different items: at most one
    bext, one cart, one cue list, one instrument, one string per type) leave the handle with the same broadcast info, cart
    info, cue points and instrument — whatever was accepted or refused on the way — and the same audio -/
theorem meta_order_independent (pn pv : List Byte) (h : MetaState) (ops ops' : List Op) (hp : ops.Perm ops')
    (hn : (ops.map itemKey).Nodup) (hna : ∀ op ∈ ops, op.isAudio = false) :
    (runOps pn pv h ops).bext = (runOps pn pv h ops').bext ∧ (runOps pn pv h ops).cart = (runOps pn pv h ops').cart ∧
    (runOps pn pv h ops).cues = (runOps pn pv h ops').cues ∧ (runOps pn pv h ops).inst = (runOps pn pv h ops').inst :=
  ⟨field_order_independent (·.bext) (1, 0) pn pv (fun h op ha hk => (step_effect pn pv h op ha).bext hk)
      (fun h1 h2 op hf => (step_reads_own pn pv h1 h2 op hf).1) h ops ops' hp hn hna,
    field_order_independent (·.cart) (2, 0) pn pv (fun h op ha hk => (step_effect pn pv h op ha).cart hk)
      (fun h1 h2 op hf => (step_reads_own pn pv h1 h2 op hf).2.1) h ops ops' hp hn hna,
    field_order_independent (·.cues) (3, 0) pn pv (fun h op ha hk => (step_effect pn pv h op ha).cues hk)
      (fun h1 h2 op hf => (step_reads_own pn pv h1 h2 op hf).2.2.1) h ops ops' hp hn hna,
    field_order_independent (·.inst) (4, 0) pn pv (fun h op ha hk => (step_effect pn pv h op ha).inst hk)
      (fun h1 h2 op hf => (step_reads_own pn pv h1 h2 op hf).2.2.2) h ops ops' hp hn hna⟩

/-- non-vacuity: cue points, a string, bext and an instrument set in two different orders -/
example :
    let ops : List Op := [.setCues [⟨1, 10, 0, 0, 0, 10, []⟩], .setString 1 [84], .setBext [] bextSample 6 614, .setInst instSample]
    (runOps [] [] (MetaState.open .wav) ops).bext = (runOps [] [] (MetaState.open .wav) ops.reverse).bext ∧
    (runOps [] [] (MetaState.open .wav) ops).cues = some [⟨1, 10, 0, 0, 0, 10, []⟩] ∧
    get (runOps [] [] (MetaState.open .wav) ops).strings 1 = get (runOps [] [] (MetaState.open .wav) ops.reverse).strings 1 := by decide +kernel

end Sf.Meta
