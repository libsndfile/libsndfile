-- properties: C01 C04 C07 C11
/-
  SfProps.C01BridgeReopen — re-opening and reading back an image of a Sf.Handle session (the closed file, or the store
  right after a header update): `image_reopen` (`image_opened` of SfProofs/ContainerWav.lean, as the campaign re-opens —
  RAW with the writer's parameters, everything else with an empty SF_INFO) and `reopen_read` (what `infoOf` / `readBack` of
  AbsWriteBridgeHandle.lean evaluate to on such an image).
-/
import SfProps.C04Geometry
import SfProofs.AbsWriteBridgeEnc
import SfProofs.AbsWriteBridgeHandle
import SfProofs.AbsWriteBridgeRead
import SfProofs.ContainerSnap
namespace Sf.AbsWriteBridge
open Sf Sf.AbsWrite Sf.Geometry

/-- an image of a session — the closed file or the store after a header update — re-opened as the campaign does
    (`h1`–`h3`: the bounds a successful write-mode open implies, `open_ok`; 1024 is SF_MAX_CHANNELS) -/
theorem image_reopen (S : Sess) (c : Cfg) (hcfg : openCfg S.fmt S.ch S.sr = some c)
    (h1 : 1 ≤ S.ch) (h2 : S.ch ≤ 1024) (h3 : 1 ≤ S.sr) (hsr : S.sr ≤ 0x7FFFFFFF)
    (a : Sf.Abs) (ha : a.Ok c)
    (img : List Byte) (himg : img = closedImage c a ∨ img = snapImage c a)
    (hg : c.container = .wav → a.data.length < 0xFFFFFFFF) :
    ∃ fmt0 ch0 sr0 h' s' tail, reopen S img = openHandle 1 ⟨img, 0⟩ .r fmt0 ch0 sr0 ∧
      openHandle 1 ⟨img, 0⟩ .r fmt0 ch0 sr0 = .ok h' s' ∧ h'.frames = a.frames ∧ h'.ch = c.ch ∧ h'.sr = S.sr ∧
      (c.container ≠ .raw → h'.fmtWord % 0x10000000 = S.fmt % 0x10000000) ∧ h'.enc = c.enc ∧
      s'.bytes.drop s'.pos = a.data ++ tail := by
  obtain ⟨f1, f2, f3, f4, _, f6⟩ := openCfg_facts hcfg
  have hc : c.Ok := ⟨by rw [f2]; exact f6, by rw [f4]; omega, by rw [f3]; omega⟩
  obtain ⟨fl, tail, rfl, htl⟩ : ∃ fl tail, img = image c a fl tail ∧ (tail = [] ∨ tail.length ≤ 1 ∧ c.container = .wav) := by
    rcases himg with h | h
    · obtain ⟨fl, t, e, ht, _⟩ := closedImage_eq c a
      exact ⟨fl, _, h.trans e, zeros_tail ht⟩
    · exact ⟨_, [], h.trans (snapImage_eq c a), Or.inl rfl⟩
  -- the parameters of the campaign's re-open fit the image: the writer's for a headerless file, none otherwise
  obtain ⟨fmt0, ch0, sr0, hre, hraw, hhdr⟩ : ∃ fmt0 ch0 sr0, reopen S (image c a fl tail) = openHandle 1 ⟨image c a fl tail, 0⟩ .r fmt0 ch0 sr0 ∧
      (c.container = .raw → openCfg fmt0 ch0 sr0 = some c) ∧ (c.container ≠ .raw → containerOf fmt0 ≠ some .raw) := by
    by_cases hr : c.container = .raw
    · exact ⟨S.fmt, S.ch, S.sr, by simp [reopen, f1, hr], fun _ => hcfg, fun h => absurd hr h⟩
    · exact ⟨0, 0, 0, by rw [reopen, if_neg]; rw [f1]; exact fun h => hr (Option.some.inj h), fun h => absurd h hr, fun _ => by decide⟩
  obtain ⟨h', s', ho, o⟩ := image_opened hc a ha fl tail htl hg .r (by decide) 1 0 fmt0 ch0 sr0 hraw hhdr
  exact ⟨fmt0, ch0, sr0, h', s', tail, hre, ho, o.frames, o.ch, o.sr.trans f3, fun _ => by rw [o.word]; exact openCfg_word_mod hcfg, o.enc,
    by rw [o.bytes, o.pos]; exact image_drop c a ha fl tail⟩

/-- the block length of every (container, encoding) of the concrete model is 1 -/
theorem geom_block (S : Sess) (c : Cfg) (hcfg : openCfg S.fmt S.ch S.sr = some c) : S.geom.block = 1 := by
  obtain ⟨f1, _, _, _, _, f6⟩ := openCfg_facts hcfg
  have hmaj := containerOf_code f1
  apply C04.frames_bound_granular
  · show S.fmt % 0x10000 ∈ sampleGranular
    exact encOf_granular f6
  · show ¬ (S.fmt / 0x10000 % 0x1000 = 0x05 ∧ _)
    rw [hmaj]; cases c.container <;> simp [Container.code]

theorem geom_rate (S : Sess) (c : Cfg) (hcfg : openCfg S.fmt S.ch S.sr = some c) (h3 : 1 ≤ S.sr) :
    rateOk S.geom.major S.geom.sr S.sr = true := by
  obtain ⟨f1, _⟩ := openCfg_facts hcfg
  have hmaj : S.geom.major = c.container.code / 0x10000 := containerOf_code f1
  have hsr : ((S.sr.toNat : Nat) : Int) = S.sr := by omega
  rw [hmaj]
  cases c.container <;> simp [rateOk, rateClass, Sess.geom, hsr, Container.code]

theorem run_data_ty (S : Sess) (c : Cfg) (hcfg : openCfg S.fmt S.ch S.sr = some c) (ops : List SOp)
    (ht : ∀ op ∈ ops, SOp.hasTy S.ty op) : (c.init.run c ops).data = c.enc.encodeAll {} S.ty (sampleList S.ch.toNat ops) := by
  rw [init_run_data, sessData_ty c S.ty ops ht, openCfg_ch hcfg]

/-- WHAT THE CAMPAIGN READS OFF AN IMAGE: the re-open line and the read-back of an image whose session state is the run
    of the operations `ops'` (all of the session's caller type) -/
theorem reopen_read (S : Sess) (c : Cfg) (hcfg : openCfg S.fmt S.ch S.sr = some c)
    (h1 : 1 ≤ S.ch) (h2 : S.ch ≤ 1024) (h3 : 1 ≤ S.sr) (hsr : S.sr ≤ 0x7FFFFFFF)
    (ops' : List SOp) {h : H} {s : Store} (i : Inv c (c.init.run c ops') h s) (ht : ∀ op ∈ ops', SOp.hasTy S.ty op)
    (hv : ∀ op ∈ ops', op.valid S.ch.toNat)
    (img : List Byte) (himg : img = closedImage c (c.init.run c ops') ∨ img = snapImage c (c.init.run c ops'))
    (hg : c.container = .wav → (c.init.run c ops').data.length < 0xFFFFFFFF) (m : Nat) (hm : sessFrames S.ch.toNat ops' < m) :
    Decoded S.geom (fun xs => c.enc.decodeAll {} S.ty (c.enc.encodeAll {} S.ty xs)) (sampleList S.ch.toNat ops')
      (sessFrames S.ch.toNat ops') (infoOf (reopen S img)) (readBack S.ty (m * S.ch.toNat) S.ch.toNat (reopen S img)).1
      (readBack S.ty (m * S.ch.toNat) S.ch.toNat (reopen S img)).2.1 ∧
    rateOk S.geom.major S.geom.sr (infoOf (reopen S img)).sr = true ∧
    (readBack S.ty (m * S.ch.toNat) S.ch.toNat (reopen S img)).2.2 = 0 := by
  obtain ⟨f1, f2, f3, f4, f5, f6⟩ := openCfg_facts hcfg
  have hlen := sampleList_length S.ch.toNat (by omega) ops' hv
  have hF : (c.init.run c ops').frames = sessFrames S.ch.toNat ops' := f4 ▸ init_run_frames c ops'
  obtain ⟨fmt0, ch0, sr0, h', s', tail, hre, hopen, q2, q3, q4, q5, q6, q7⟩ :=
    image_reopen S c hcfg h1 h2 h3 hsr _ i.absOk img himg hg
  rw [hF] at q2
  rw [run_data_ty S c hcfg ops' ht] at q7
  have hch : h'.ch = S.ch.toNat := by rw [q3, f4]
  have hdl : (c.enc.encodeAll {} S.ty (sampleList S.ch.toNat ops')).length =
      sessFrames S.ch.toNat ops' * (h'.enc.nbytes * h'.ch) := by
    rw [← run_data_ty S c hcfg ops' ht, i.dlen, hF, Cfg.bw, q6, q3]
  obtain ⟨r1, r2, r3, r4⟩ := readBack_spec hopen S.ty (sessFrames S.ch.toNat ops') q2 _ tail q7 hdl m hm 1 (by omega)
  rw [hch] at r1 r2 r3 r4
  rw [q6] at r3
  rw [← hlen] at r1 r3
  rw [hre, hopen]
  refine ⟨{ opened := rfl, info := ?_, frames := q2, ret := r1, len := ?_, data := r3 }, ?_, by simpa [readBack] using r4⟩
  · show infoOk S.geom { ch := (h'.ch : Int), sr := h'.sr, fmt := h'.fmtWord, frames := h'.frames } = true
    unfold infoOk
    simp only [Bool.and_eq_true, Bool.or_eq_true, beq_iff_eq]
    refine ⟨by rw [hch]; rfl, ?_⟩
    by_cases hr : c.container = .raw
    · left
      have := containerOf_code f1
      rw [hr] at this; exact this
    · right; exact q5 hr
  · show _ ≤ (stepRead h' s' S.ty false _).2.2.data.length
    rw [hlen, r2]; exact Nat.mul_le_mul_right _ (by omega)
  · show rateOk S.geom.major S.geom.sr h'.sr = true
    rw [q4]; exact geom_rate S c hcfg h3

end Sf.AbsWriteBridge
