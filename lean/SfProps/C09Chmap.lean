/-
  C09 — a metadata setter that answers SF_FALSE has no effect, for ALL five setters (SFC_SET_BROADCAST_INFO, SFC_SET_CART_INFO,
  SFC_SET_CUE, SFC_SET_INSTRUMENT, SFC_SET_CHANNEL_MAP_INFO), every handle, size and data.

  SFC_SET_CHANNEL_MAP_INFO copies the caller's map into psf->channel_map BEFORE it asks the container whether it can take it.
  Until the repair "fix: a refused SFC_SET_CHANNEL_MAP_INFO on a handle without a channel map left the refused map behind"
  (KF-C09-CHMAP-REFUSED-KEPT) a refused map stayed there when the handle had no map before — on AU / RAW / PAF … (no command hook)
  EVERY set was "refused but kept": SF_FALSE, and SFC_GET_CHANNEL_MAP_INFO afterwards SF_TRUE with that map.  The repaired code
  frees the refused map; the model (`Sf.Command.chmapSet false`, with the container's verdict `Sf.ChmapVerdict.containerAccepts`)
  mirrors it, the rule before (`chmapSet true`; `Sf.ChmapVerdict.Rule.keepNew`) is kept next to it.
  The same statement is proved on the state machine that carries the map itself (`Sf.ChmapVerdict`: `sfmodel chmap`, vlib/chmapfix.py);
  `remask_witness` is the residual KF-C09-CHMAP-REMASK (the handler's mask is re-derived from the old map: foreign masks with spare bits).
-/
import SfModel.Command
namespace Sf.C09Chmap
open Sf.Command

/-- the metadata setters that answer SF_FALSE on failure -/
def isSetter (cmd : Int) : Bool := cmd = 0x10F1 ∨ cmd = 0x1400 ∨ cmd = 0x10CF ∨ cmd = 0x10D1 ∨ cmd = 0x1101

/-- an AU write handle (no container command hook) -/
def auW : H :=
  { mode := .w, container := 0x030000, codec := 2, channels := 2, seekable := true, hasCommand := false, haveWritten := false,
    readCur := 0, writeCur := 0, normFloat := true, normDouble := true, clipping := false, floatIntMult := false,
    scaleIntFloat := false, autoHeader := false, ieeeReplace := false, endswap := false, ambisonic := 0,
    rf64Downgrade := false, bext := none, cart := none, cues := none, hasInstrument := false, hasLoop := false,
    hasChanMap := false, hasPeak := false, logLen := 11, metaEpoch := 0, fileEpoch := 0 }
/-- a WAV write handle (wav_command answers by the channel mask); it is `Sf.C17.wavW` but for `ambisonic := 0` -/
def wavW : H := { auW with container := 0x010000, hasCommand := true }
def g0 : G := { verLen := 16, gLogLen := 0, simpleCount := 13, majorCount := 23, subtypeCount := 28 }
/-- the ints 3, 4 (right, centre: mask bits 1 and 2) -/
def map34 : Mem := ⟨8, fun i => if i = 0 then 3 else if i = 4 then 4 else 0⟩
/-- the ints 4, 3 (centre, right: not in mask-bit order — wavlike_gen_channel_mask answers 0) -/
def map43 : Mem := ⟨8, fun i => if i = 0 then 4 else if i = 4 then 3 else 0⟩

/-- IF the answer `r` is SF_FALSE (0) THEN it hands back the handle `h` unchanged; an answer other than 0 satisfies it trivially -/
def Refuses (h : H) (r : Res) : Prop := r.ret = .exact 0 → r.h' = some h

theorem Refuses.kept {h : H} {r : Res} (e : r.h' = some h) : Refuses h r := fun _ => e

theorem Refuses.ite {h : H} {c : Prop} [Decidable c] {a b : Res} (ha : Refuses h a) (hb : Refuses h b) :
    Refuses h (if c then a else b) := by
  split <;> assumption

theorem guardEq_refuses (h : H) (want size : Nat) (data : Option Mem) (fe : Option Nat) (k : Mem → Res)
    (hk : ∀ m, Refuses h (k m)) : Refuses h (guardEq want size data (some h) 0 fe k) := by
  unfold guardEq
  cases data with
  | none => exact .kept rfl
  | some m => exact .ite (.kept rfl) (hk m)

/-- `broadcast_var_set` / `cart_var_set` store the block only on the path that answers SF_TRUE -/
theorem varSet_refuses (sizeOff fixed cap eSize eBig : Nat) (h : H) (size : Nat) (data : Option Mem) (h2 : H) :
    Refuses h (varSet sizeOff fixed cap eSize eBig h size data h2) := by
  unfold varSet
  cases data with
  | none => exact .kept rfl
  | some m => exact .ite (.kept rfl) (.ite (.kept rfl) (.ite (.kept rfl) (fun hr => nomatch hr)))

/-- a block set again after the audio answers "0 or 1" where it answered 1: never the plain SF_FALSE -/
theorem lateVar_refuses (h : H) (late : Bool) (r : Res) (hr : Refuses h r) : Refuses h (lateVar late r) := by
  unfold lateVar
  refine .ite ?_ hr
  split
  · exact fun hx => nomatch hx
  · exact hr

theorem chmapSet_refuses (h : H) (size : Nat) (data : Option Mem) : Refuses h (chmapSet false h size data) := by
  simp only [chmapSet, Bool.false_eq_true, if_false]
  exact .ite (.kept rfl) (guardEq_refuses _ _ _ _ _ _ fun m => .ite (.kept rfl) (.ite (fun hx => nomatch hx) (.kept rfl)))

/-- whichever of the five setters answers SF_FALSE, on whatever handle, size and data, the handle is what it was -/
theorem refused_setter_no_effect (g : G) (h : H) (cmd : Int) (size : Nat) (data : Option Mem) (hc : isSetter cmd = true)
    (hr : (run g (some h) cmd size data).ret = .exact 0) : (run g (some h) cmd size data).h' = some h := by
  simp only [isSetter, Bool.decide_or, Bool.or_eq_true, decide_eq_true_eq] at hc
  have hp : preHandle g (some h) cmd size data = none := by rcases hc with rfl | rfl | rfl | rfl | rfl <;> simp [preHandle]
  simp only [run, hp] at hr ⊢
  revert hr
  show Refuses h (withHandle h cmd size data)
  -- each case of the second switch keeps `h` on every path that answers 0
  rcases hc with rfl | rfl | rfl | rfl | rfl
  · have hcl : classify 0x10F1 = Cls.k10F1 := by decide
    simp only [withHandle, hcl]
    exact .ite (.kept rfl) (.ite (.kept rfl) (.ite (.kept rfl) (lateVar_refuses _ _ _ (varSet_refuses _ _ _ _ _ _ _ _ _))))
  · have hcl : classify 0x1400 = Cls.k1400 := by decide
    simp only [withHandle, hcl]
    exact .ite (.kept rfl) (.ite (.kept rfl) (.ite (.kept rfl) (lateVar_refuses _ _ _ (varSet_refuses _ _ _ _ _ _ _ _ _))))
  · have hcl : classify 0x10CF = Cls.k10CF := by decide
    simp only [withHandle, hcl]
    refine .ite (.kept rfl) ?_
    cases data with
    | none => exact .kept rfl
    | some m => exact .ite (.kept rfl) (.ite (fun hx => nomatch hx) (.kept rfl))
  · have hcl : classify 0x10D1 = Cls.k10D1 := by decide
    simp only [withHandle, hcl]
    exact .ite (.kept rfl) (guardEq_refuses _ _ _ _ _ _ fun _ hx => nomatch hx)
  · have hcl : classify 0x1101 = Cls.k1101 := by decide
    simp only [withHandle, hcl]
    exact chmapSet_refuses h size data

/-- non-vacuity: the refusal happens — AU refuses every map, WAV one that is not in mask-bit order — and the handle is untouched;
    a map in mask-bit order is accepted by WAV and changes the handle -/
example : isSetter 0x1101 = true ∧ (run g0 (some auW) 0x1101 8 (some map34)).ret = .exact 0 ∧
    (run g0 (some auW) 0x1101 8 (some map34)).h' = some auW ∧
    (run g0 (some wavW) 0x1101 8 (some map43)).ret = .exact 0 ∧ (run g0 (some wavW) 0x1101 8 (some map43)).h' = some wavW ∧
    (run g0 (some wavW) 0x1101 8 (some map34)).ret = .exact 1 ∧
    (run g0 (some wavW) 0x1101 8 (some map34)).h' = some { wavW with hasChanMap := true, metaEpoch := 1 } := by decide

/-! ## the rule before the repair (KF-C09-CHMAP-REFUSED-KEPT) -/

def refused_chmap_no_effect_old_rule : Prop :=
  ∀ (h : H) (size : Nat) (data : Option Mem), (chmapSet true h size data).ret = .exact 0 → (chmapSet true h size data).h' = some h

theorem chmap_refused_but_kept_old_rule :
    (chmapSet true auW 8 (some map34)).ret = .exact 0 ∧
    (chmapSet true auW 8 (some map34)).h' = some { auW with hasChanMap := true, metaEpoch := 1 } := by decide

theorem refused_chmap_no_effect_old_rule_fails : ¬ refused_chmap_no_effect_old_rule := by
  intro hf
  have := hf auW 8 (some map34) chmap_refused_but_kept_old_rule.1
  rw [chmap_refused_but_kept_old_rule.2] at this
  exact absurd this (by decide)

/-! ## the same on the state machine that carries psf->channel_map itself (`Sf.ChmapVerdict`, run against the library) -/

open Sf.ChmapVerdict in
theorem setMap_cases (s : St) (size : Nat) (m : Option (List Int)) :
    ((setMap s size m).ret = 0 ∧ (setMap s size m).st = s) ∨
    ((setMap s size m).ret = 1 ∧ ∃ l, m = some l ∧ l.length = s.ch ∧ validEntries l = true ∧
      containerAccepts s.container (l.map Int.toNat) = true ∧ (setMap s size m).st = { s with map := some (l.map Int.toNat) }) := by
  unfold setMap setMapW
  by_cases hw : s.haveWritten = true
  · rw [if_pos hw]
    exact .inl ⟨rfl, rfl⟩
  rw [if_neg hw]
  cases m with
  | none => exact .inl ⟨rfl, rfl⟩
  | some l =>
    dsimp only
    by_cases hsz : size ≠ 4 * s.ch ∨ l.length ≠ s.ch
    · rw [if_pos hsz]
      exact .inl ⟨rfl, rfl⟩
    rw [if_neg hsz]
    by_cases hv : validEntries l = true
    · rw [if_neg (not_not_intro hv)]
      by_cases hacc : containerAccepts s.container (l.map Int.toNat) = true
      · rw [if_pos hacc]
        exact .inr ⟨rfl, l, rfl, by omega, hv, hacc, rfl⟩
      · rw [if_neg hacc]
        exact .inl ⟨rfl, rfl⟩
    · rw [if_pos hv]
      exact .inl ⟨rfl, rfl⟩

open Sf.ChmapVerdict in
/-- a refused call (SF_FALSE) leaves psf->channel_map and everything else as it was -/
theorem setMap_refused_no_effect (s : St) (size : Nat) (m : Option (List Int)) (hr : (setMap s size m).ret = 0) :
    (setMap s size m).st = s := by
  rcases setMap_cases s size m with ⟨_, e⟩ | ⟨h1, _⟩
  · exact e
  · rw [h1] at hr
    cases hr

open Sf.ChmapVerdict in
theorem getMap_after_refused (s : St) (size : Nat) (m : Option (List Int)) (gs : Nat) (gn : Bool)
    (hr : (setMap s size m).ret = 0) : getMap (setMap s size m).st gs gn = getMap s gs gn := by
  rw [setMap_refused_no_effect s size m hr]

open Sf.ChmapVerdict in
/-- an accepted call stores exactly the caller's map, and the container had a mask / tag for it -/
theorem setMap_accepted (s : St) (size : Nat) (m : Option (List Int)) (hr : (setMap s size m).ret = 1) :
    ∃ l, m = some l ∧ l.length = s.ch ∧ validEntries l = true ∧ containerAccepts s.container (l.map Int.toNat) = true ∧
      (setMap s size m).st = { s with map := some (l.map Int.toNat) } := by
  rcases setMap_cases s size m with ⟨h0, _⟩ | ⟨_, e⟩
  · rw [h0] at hr
    cases hr
  · exact e

open Sf.ChmapVerdict in
/-- a container without a command hook accepts no map -/
theorem no_hook_refuses (c : Nat) (map : List Nat) (hc : hasHook c = false) : containerAccepts c map = false := by
  unfold hasHook at hc
  simp only [Bool.or_eq_false_iff, decide_eq_false_iff_not] at hc
  unfold containerAccepts
  simp [hc.1.1.1.1, hc.1.1.1.2, hc.1.1.2, hc.1.2, hc.2]

open Sf.ChmapVerdict in
/-- the rules before: `keepNew` (fe675bd) keeps the refused map on a handle that had none, `erase` (before that) also replaces the
    map accepted before; the current rule does neither -/
theorem setMap_old_rules :
    let au : St := ⟨0x030000, 2, false, none⟩
    let wav : St := ⟨0x010000, 2, false, some [2, 3]⟩
    (setMapW .keepNew au 8 (some [3, 4])).ret = 0 ∧ (setMapW .keepNew au 8 (some [3, 4])).st.map = some [3, 4] ∧
    (setMapW .erase wav 8 (some [4, 3])).ret = 0 ∧ (setMapW .erase wav 8 (some [4, 3])).st.map = some [4, 3] ∧
    (setMapW .keepNew wav 8 (some [4, 3])).st = wav ∧
    (setMap au 8 (some [3, 4])).ret = 0 ∧ (setMap au 8 (some [3, 4])).st = au ∧
    (setMap wav 8 (some [4, 3])).ret = 0 ∧ (setMap wav 8 (some [4, 3])).st = wav ∧
    (setMap wav 8 (some [3, 4])).ret = 1 ∧ (setMap wav 8 (some [3, 4])).st.map = some [3, 4] := by decide

open Sf.ChmapVerdict in
/-- KF-C09-CHMAP-REMASK (known finding, foreign files only): putting the old map back re-derives the handler's mask from it.  For a
    mask the library wrote itself (one bit per channel, `mapOfMask` then has no padding) that is the mask again; a foreign mask
    with more bits than channels (0x7 on two channels) comes back without the extra bits (findings/kf_c09_chmap_remask.txt) -/
theorem remask_witness :
    genChannelMask (mapOfMask 0x7 2) = 0x3 ∧ genChannelMask (mapOfMask 0x3 2) = 0x3 ∧ genChannelMask (mapOfMask 0x33 4) = 0x33 ∧
    genChannelMask (mapOfMask 0x3F 6) = 0x3F ∧ genChannelMask (mapOfMask 0xFF 8) = 0xFF ∧ genChannelMask (mapOfMask 0x4 1) = 0x4 := by decide

end Sf.C09Chmap
