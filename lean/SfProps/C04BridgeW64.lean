-- properties: C01 C04 C07 C11
/-
  SfProps.C04BridgeW64 — the Sony Wave64 container model (SfModel/W64.lean; session invariant SfProofs/W64Session.lean,
  parser on the written image SfProofs/W64Parse.lean) as a sample-level container `SCont` of the write-side bridge
  (SfProofs/AbsWriteBridgeSample.lean), and its `SLaws`.

  W64 has no PEAK chunk: its images are a function of the audio bytes.  It goes through the sample-level interface only for
  uniformity with AIFF / CAF.  A sample-level operation becomes operations of the W64 session machine (`w64Ops`): a write call
  sets the auto flag in force and hands over `xs.length / ch` frames of encoded samples; SFC_UPDATE_HEADER_NOW is `.update`.
  The guard `w64Guard`: whole frames per call, and the 2^62 guard of the reader on the audio byte count.
  The closed file and the store after a header rewrite are read off the session invariant `Sf.W64.Inv`, followed along the
  operations (`w64OpOf_inv`, `w64Ops_inv`).
-/
import SfProps.C04Bridge
import SfProofs.W64Session
import SfProofs.W64Parse
namespace Sf.AbsWriteBridge.Sample
open Sf Sf.AbsWrite Sf.AbsWriteBridge Sf.Geometry

/-- the sample encoding W64 installs for a codec code (little-endian data) -/
def w64Enc (codec : Nat) : Enc := C04Bridge.encFor codec false

def w64Geom (c : W64.Cfg) : AbsWrite.Geom := { word := 0x0B0000 + c.codec, ch := c.ch, sr := c.sr }

/-- one sample-level operation as operations of the W64 session machine -/
def w64OpOf (e : Enc) (ch : Nat) (ty : Ty) : SOp → List W64.Op
  | .write xs a => [.auto a, .write (xs.length / ch) (e.encodeAll {} ty xs)]
  | .update => [.update]

def w64Ops (e : Enc) (ch : Nat) (ty : Ty) (ops : List SOp) : List W64.Op := ops.flatMap (w64OpOf e ch ty)

def w64Res : W64.ParseRes → Small2.ParseRes
  | .ok i => .ok { ch := i.ch, fmt := i.fmtWord, sr := i.sr.toNat, frames := i.frames }
  | .err => .err
  | .unmodelled => .unmodelled

def w64Cont (c : W64.Cfg) : SCont :=
  { g := w64Geom c, enc := w64Enc c.codec, L := W64.hdrLen c,
    closed := fun ty st ops => (W64.close c (W64.run c (W64.openW c (st : Int)) (w64Ops (w64Enc c.codec) c.ch ty ops))).bytes,
    store := fun ty st ops => (W64.run c (W64.openW c (st : Int)) (w64Ops (w64Enc c.codec) c.ch ty ops)).bytes,
    parse := fun bs => w64Res (W64.parse bs) }

/-- THE GUARD of W64: whole frames per write call, and the 2^62 guard of the reader on the audio bytes (a condition on the number
    of samples handed over only) -/
def w64Guard (c : W64.Cfg) (_ty : Ty) (ops : List SOp) : Prop :=
  Whole c.ch ops ∧ W64.hdrLen c + (sData ops).length * (w64Enc c.codec).nbytes + 24 < 2 ^ 62

theorem w64Cont_parse (c : W64.Cfg) (bs : List Byte) : (w64Cont c).parse bs = w64Res (W64.parse bs) := rfl

/-- the encodings W64 carries: the sample codec is as wide as the model's `bytewidth`, and the code is one of the raw codec codes -/
theorem w64_codec_table : ∀ codec ∈ W64.codecs, (w64Enc codec).nbytes = W64.bytewidth codec ∧ codec ∈ C04Bridge.rawCodecs := by decide

theorem w64Enc_nbytes {c : W64.Cfg} (hwf : c.wf) : (w64Enc c.codec).nbytes = W64.bytewidth c.codec := (w64_codec_table _ hwf.1).1

theorem w64Geom_facts {c : W64.Cfg} (hwf : c.wf) :
    (w64Geom c).codec = c.codec ∧ (w64Geom c).major = 0x0B ∧ 0 < (w64Enc c.codec).nbytes ∧ (w64Enc c.codec).wf ∧ (w64Geom c).block = 1 ∧
      (w64Geom c).major ≠ 0x04 ∧ ∃ b, encOf .raw (w64Geom c).codec b = some (w64Enc c.codec) :=
  C04Bridge.geom_facts (w64Geom c) 0 0x0B c.codec false (by show 0x0B0000 + c.codec = 0 * 0x10000000 + 0x0B * 0x10000 + c.codec; omega) (by decide) (by decide)
    (w64_codec_table _ hwf.1).2 (Or.inl (by decide))

theorem w64Ops_append (e : Enc) (ch : Nat) (ty : Ty) (xs ys : List SOp) :
    w64Ops e ch ty (xs ++ ys) = w64Ops e ch ty xs ++ w64Ops e ch ty ys := by simp [w64Ops]

theorem w64_run_append (c : W64.Cfg) (s : W64.St) (a b : List W64.Op) :
    W64.run c (W64.run c s a) b = W64.run c s (a ++ b) := by simp [W64.run, List.foldl_append]

/-- one sample-level operation on a state between calls: the encoded samples are appended, the frames counted; after a header
    rewrite (SFC_UPDATE_HEADER_NOW, a write call in auto mode that transferred something) the store is the image of what was written -/
theorem w64OpOf_inv (c : W64.Cfg) (hwf : c.wf) (ty : Ty) {s : W64.St} {D : List Byte} {w : Nat} (i : W64.Inv c s D w) (x : SOp)
    (hx : Whole c.ch [x]) :
    let s' := W64.run c s (w64OpOf (w64Enc c.codec) c.ch ty x)
    let D' := D ++ (w64Enc c.codec).encodeAll {} ty (sData [x])
    W64.Inv c s' D' (w + (sData [x]).length / c.ch) ∧
      ((x = .update ∨ ∃ xs, xs ≠ [] ∧ x = .write xs true) → s'.bytes = W64.image c (w + (sData [x]).length / c.ch) D') := by
  have hbw := W64.wf_bw_pos hwf
  cases x with
  | update =>
    have h := W64.writeHeader_inv i hbw true
    exact ⟨by simpa [W64.run, w64OpOf, W64.step, sData, Enc.encodeAll] using h.1,
      fun _ => by simpa [W64.run, w64OpOf, W64.step, sData, Enc.encodeAll, W64.image, W64.tail] using h.2.1 rfl⟩
  | write xs a =>
    have hmod : xs.length % c.ch = 0 := hx.head
    have hv : ((w64Enc c.codec).encodeAll {} ty xs).length = xs.length / c.ch * c.bw :=
      Enc.encodeAll_length_frames _ _ ty xs (w64Enc_nbytes hwf) c.ch hmod
    have ia : W64.Inv c (W64.step c s (.auto a)) D w := by simpa [W64.Op.data, W64.Op.frames] using W64.step_inv i hbw (.auto a) trivial
    have iw := W64.step_inv ia hbw (.write (xs.length / c.ch) ((w64Enc c.codec).encodeAll {} ty xs)) hv
    rw [W64.Op.data_of_valid hv] at iw
    refine ⟨by simpa [W64.run, w64OpOf, W64.Op.frames, sData] using iw, ?_⟩
    rintro (h | ⟨ys, hne, h⟩) <;> cases h
    have := W64.step_write_auto ia hbw _ _ (fun h0 => hne ((frames_eq_zero_iff c.ch xs hmod).1 h0)) hv rfl
    simpa [W64.run, w64OpOf, sData, W64.image, W64.tail] using this

theorem w64Ops_inv (c : W64.Cfg) (hwf : c.wf) (ty : Ty) : ∀ (ops : List SOp) {s : W64.St} {D : List Byte} {w : Nat},
    W64.Inv c s D w → Whole c.ch ops →
    W64.Inv c (W64.run c s (w64Ops (w64Enc c.codec) c.ch ty ops)) (D ++ (w64Enc c.codec).encodeAll {} ty (sData ops))
      (w + (sData ops).length / c.ch)
  | [], _, _, _, i, _ => by simpa [w64Ops, W64.run, sData, Enc.encodeAll] using i
  | x :: r, _, _, _, i, hw => by
    have hwx : Whole c.ch [x] := Whole.left (a := [x]) hw
    have i1 := (w64OpOf_inv c hwf ty i x hwx).1
    have i2 := w64Ops_inv c hwf ty r i1 hw.tail
    have hx : (sData [x]).length % c.ch = 0 := hwx.sData
    rw [w64_run_append, List.append_assoc, ← Enc.encodeAll_append, ← sData_append, Nat.add_assoc,
      ← div_add_of_whole _ _ _ hwf.2.1 hx, ← List.length_append, ← sData_append] at i2
    exact i2

theorem w64_closed_image (c : W64.Cfg) (hwf : c.wf) (ty : Ty) (st : Nat) (ops : List SOp) (hw : Whole c.ch ops) :
    (w64Cont c).closed ty st ops =
      W64.image c ((sData ops).length / c.ch) ((w64Enc c.codec).encodeAll {} ty (sData ops)) := by
  have i := w64Ops_inv c hwf ty ops (W64.openW_inv c st) hw
  have := (W64.writeHeader_inv i (W64.wf_bw_pos hwf) true).2.1 rfl
  simpa [w64Cont, W64.close, W64.image, W64.tail] using this

theorem w64_store_image (c : W64.Cfg) (hwf : c.wf) (ty : Ty) (st : Nat) (ops : List SOp) (hw : Whole c.ch ops)
    (he : EndsInRewrite ops) :
    (w64Cont c).store ty st ops =
      W64.image c ((sData ops).length / c.ch) ((w64Enc c.codec).encodeAll {} ty (sData ops)) := by
  obtain ⟨pre, x, rfl, hx⟩ := he
  have i := w64Ops_inv c hwf ty pre (W64.openW_inv c st) hw.left
  have h := (w64OpOf_inv c hwf ty i x hw.right).2 hx
  show (W64.run c (W64.openW c (st : Int)) (w64Ops (w64Enc c.codec) c.ch ty (pre ++ [x]))).bytes = _
  rw [w64Ops_append, ← w64_run_append]
  simpa [w64Ops, sData_append, Enc.encodeAll_append, div_add_of_whole _ _ _ hwf.2.1 (Whole.sData hw.left)] using h

theorem w64_image_form (c : W64.Cfg) (n : Nat) (data : List Byte) :
    ∃ hdr tail : List Byte, hdr.length = W64.hdrLen c ∧ W64.image c n data = hdr ++ data ++ tail :=
  ⟨W64.hdr c n, [], W64.hdr_length c n, rfl⟩

theorem w64_image_parse (c : W64.Cfg) (hwf : c.wf) (ty : Ty) (xs : List Int) (hmod : xs.length % c.ch = 0)
    (hsz : W64.hdrLen c + xs.length * (w64Enc c.codec).nbytes + 24 < 2 ^ 62) :
    ∃ i, (w64Cont c).parse (W64.image c (xs.length / c.ch) ((w64Enc c.codec).encodeAll {} ty xs)) = .ok i ∧
      i.frames = ((w64Cont c).enc.encodeAll {} ty xs).length / (w64Cont c).bw ∧
      i.ch = (w64Cont c).g.ch ∧ i.fmt % 0x10000000 = (w64Cont c).g.word % 0x10000000 ∧
      rateOk (w64Cont c).g.major (w64Cont c).g.sr (i.sr : Int) = true := by
  have hch : 0 < c.ch := hwf.2.1
  have hnbw := w64Enc_nbytes hwf
  obtain ⟨_, hmajor, hnb, _⟩ := w64Geom_facts hwf
  have hd : ((w64Enc c.codec).encodeAll {} ty xs).length = xs.length / c.ch * c.bw := Enc.encodeAll_length_frames _ _ ty xs hnbw c.ch hmod
  have hsz2 : W64.hdrLen c + xs.length / c.ch * c.bw + 24 < 2 ^ 62 := by
    rw [← hd, Enc.encodeAll_length_cw]; exact hsz
  have hp := W64.parse_image c hwf (xs.length / c.ch) _ hd hsz2
  have hx : xs.length = xs.length / c.ch * (w64Cont c).g.ch := (Nat.div_mul_cancel (Nat.dvd_of_mod_eq_zero hmod)).symm
  have hp2 : (w64Cont c).parse (W64.image c (xs.length / c.ch) ((w64Enc c.codec).encodeAll {} ty xs)) =
      .ok { ch := c.ch, fmt := 0x0B0000 + c.codec, sr := c.sr, frames := xs.length / c.ch } := by
    rw [w64Cont_parse, hp]
    simp [w64Res]
  refine ⟨_, hp2, ?_, rfl, rfl, ?_⟩
  · exact (frames_of_samples (w64Cont c) hnb hch ty xs _ hx).symm
  · show rateOk (w64Geom c).major c.sr _ = true
    rw [hmajor]
    simp [rateOk, rateClass]

theorem w64_slaws (c : W64.Cfg) (hwf : c.wf) (ty : Ty) : SLaws (w64Cont c) ty (w64Guard c ty) := by
  obtain ⟨_, _, hnb, hewf, hblock, hnotRaw, hcodec⟩ := w64Geom_facts hwf
  refine { chpos := hwf.2.1, nb := hnb, wf := hewf, block := hblock, notRaw := hnotRaw, codec := hcodec,
           closedForm := ?_, closedParse := ?_, closedFn := ?_, storeForm := ?_, storeParse := ?_ }
  · intro st ops hg
    rw [w64_closed_image c hwf ty st ops hg.1]
    exact w64_image_form c _ _
  · intro st ops hg
    rw [w64_closed_image c hwf ty st ops hg.1]
    exact w64_image_parse c hwf ty (sData ops) (hg.1.sData) hg.2
  · intro a b ops ops2 hg hg2 e
    rw [w64_closed_image c hwf ty a ops hg.1, w64_closed_image c hwf ty b ops2 hg2.1, e]
  · intro st ops hg he
    rw [w64_store_image c hwf ty st ops hg.1 he]
    exact w64_image_form c _ _
  · intro st ops hg he
    rw [w64_store_image c hwf ty st ops hg.1 he]
    obtain ⟨i, h1, h2, h3, h4, _⟩ := w64_image_parse c hwf ty (sData ops) (hg.1.sData) hg.2
    exact ⟨i, h1, h2, h3, h4⟩

end Sf.AbsWriteBridge.Sample
