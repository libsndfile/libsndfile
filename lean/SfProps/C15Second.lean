/-
  SfProps.C15Second — the second file of a handle (SD2 resource fork): a failing open releases every descriptor (C15 / C16).
  -- properties: C15

  `Sf.RsrcSwap.session` is sf_open (path, SFM_WRITE) of an SD2 file followed — when the open succeeds — by the sf_close of the session.
  With sd2_write_rsrc_fork as written (`Rule.code`) the descriptor table after the session is the table before it, whatever numbers
  the two `open` calls were given, whether or not the fork could be opened and whether or not its write succeeded, and no close ()
  hits a number that is not open (`code_rule_releases`).  The early return of the seeded regression leaves the data file's descriptor
  open and closes the fork's number twice (`early_rule_leaks`); the two rules agree whenever the write succeeds
  (`early_rule_same_when_write_ok`).  `obsOk_meaning`: what an accepted observation of `second try` says.
-/
import SfModel.RsrcSwap
namespace Sf.RsrcSwap

theorem opened_closed_free (t : Tab) (n : Nat) (h : t n = false) : (t.opened n).closed n = t := by
  funext m; unfold Tab.opened Tab.closed; by_cases hm : m = n <;> simp [hm, h]

/-- sd2_write_rsrc_fork as written passes the swap back on every exit: the handle has its own descriptor again -/
theorem writeFork_code (c : Cfg) (p : P) (h : p.filedes ≠ p.rsrc) :
    (writeFork .code c p).filedes = p.filedes ∧ (writeFork .code c p).rsrc = p.rsrc := by
  simp only [writeFork]
  generalize (c.writeOk && (useRsrc p true).filedes.isSome) = ok
  cases ok <;> simp [useRsrc, h]

/-- THE OPEN RELEASES EVERYTHING (rule of the code): for every table, every pair of free numbers, every outcome of opening and of
    writing the fork, the session ends with the table it started from and without a close () on a number that is not open. -/
theorem code_rule_releases (c : Cfg) (t : Tab) (d r : Nat) (hd : t d = false) (hr : t r = false) (hdr : d ≠ r) :
    (session .code c t d r).tab = t ∧ (session .code c t d r).ebadf = 0 := by
  have hrd : (t.opened d) r = false := by simp [Tab.opened, hr, Ne.symm hdr]
  obtain ⟨forkOpens, writeOk⟩ := c
  cases forkOpens
  · -- no fork: only the data file's descriptor was opened, and psf_close closes it
    obtain ⟨hf, hs⟩ := writeFork_code ⟨false, writeOk⟩ { filedes := some d } (by simp)
    simp [session, closeRsrc, psfClose, closeFd, hf, hs, Tab.opened, opened_closed_free t d hd]
  · -- psf_close_rsrc closes the fork's descriptor, psf_close the data file's
    obtain ⟨hf, hs⟩ := writeFork_code ⟨true, writeOk⟩ { filedes := some d, rsrc := some r } (by simp [hdr])
    simp [session, closeRsrc, psfClose, closeFd, hf, hs, Tab.opened, opened_closed_free _ r hrd, opened_closed_free t d hd]

/-- the early return: the fork opens, its write fails -> the data file's descriptor stays open and the fork's number is closed twice -/
theorem early_rule_leaks (t : Tab) (d r : Nat) (hdr : d ≠ r) :
    (session .early { forkOpens := true, writeOk := false } t d r).tab d = true ∧
    (session .early { forkOpens := true, writeOk := false } t d r).ebadf = 1 := by
  have hrd : r ≠ d := fun h => hdr h.symm
  refine ⟨?_, ?_⟩ <;>
    simp [session, writeFork, useRsrc, closeRsrc, psfClose, closeFd, Tab.opened, Tab.closed, hdr]

theorem early_rule_same_when_write_ok (c : Cfg) (t : Tab) (d r : Nat) (hw : c.writeOk = true) (hf : c.forkOpens = true) :
    session .early c t d r = session .code c t d r := by
  cases c with
  | mk forkOpens writeOk =>
    simp only at hw hf
    subst hw; subst hf
    by_cases hdr : d = r <;> simp [session, writeFork, useRsrc, hdr]

/-- the concrete tables of the driver: stdin / stdout / stderr open, the two files get 3 and 4 -/
def t3 : Tab := fun n => n < 3

example : (session .code { forkOpens := true, writeOk := false } t3 3 4).tab = t3 ∧ (session .code { forkOpens := true, writeOk := false } t3 3 4).ebadf = 0 :=
  code_rule_releases _ t3 3 4 (by decide) (by decide) (by decide)
example : leaked t3 (session .early { forkOpens := true, writeOk := false } t3 3 4).tab (List.range 16) = 1 := by decide
example : leaked t3 (session .code { forkOpens := false, writeOk := false } t3 3 4).tab (List.range 16) = 0 := by decide

/-- an accepted observation: a failing open reported an error, no descriptor is left, the lowest free number is the old one, no
    close () failed with EBADF, the heap is balanced -/
theorem obsOk_meaning (o : Obs) :
    obsOk o = [] ↔ ((o.openNull = true → o.err ≠ 0 ∧ o.msglen ≠ 0) ∧ o.fds = 0 ∧ o.lowSame = true ∧ o.ebadf = 0 ∧ o.blocks = 0) := by
  -- a concatenation is empty when the list of each clause is
  have one : ∀ (c : Prop) [Decidable c] (s : String), (if c then [s] else []) = [] ↔ ¬ c := by
    intro c _ s; by_cases h : c <;> simp [h]
  have none : ∀ (c : Prop) [Decidable c] (s : String), (if c then [] else [s]) = [] ↔ c := by
    intro c _ s; by_cases h : c <;> simp [h]
  simp only [obsOk, List.append_eq_nil_iff, one, none]
  simp [and_assoc]

example : obsOk { openNull := true, err := 2, msglen := 39 } = [] := by decide
example : obsOk { openNull := true, err := 2, msglen := 39, fds := 1, lowSame := false, ebadf := 1 } = ["descriptor", "double-close"] := by decide +kernel

end Sf.RsrcSwap
