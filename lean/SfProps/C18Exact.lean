-- properties: C18 C20
/-
  C18 after the repair of KF-C18-PEAK-SUBNORMAL — the value field of a PEAK entry is the binary32 of the channel maximum for
  EVERY finite value, subnormal maxima included (model: SfModel/PeakExact.lean over SfModel/Ieee.lean).
  The rule before the repair is `Sf.wrF32TinyOld` (every subnormal maximum stored as 0.0f); `chunk_agrees` identifies, for finite maxima, the
  repaired chunk with `Sf.Peak.chunkBytes`, so every theorem of SfProps/C18.lean about that chunk carries over.
-/
import SfModel.PeakExact
import SfProps.C20Ieee
import SfProofs.PeakChunk
namespace Sf.C18Exact
open Sf Sf.Float Sf.Ieee Sf.Peak

/-- the repaired PEAK value field holds the binary32 pattern itself, for every finite pattern (normal, subnormal, zero) -/
theorem peak_field_exact (b : Nat) (hb : b < 2 ^ 32) (hfin : f32.isFinite b = true) : PeakExact.wrF32 b = b := by
  unfold PeakExact.wrF32
  rw [(C20Ieee.ieee_write_finite_f32 b hb hfin).1, Spec.bytesBE, show f32.width / 8 = 4 from by decide, ofBE_beBytes]
  exact Nat.mod_eq_of_lt (by norm_num; omega)

/-- the bytes of the field in the chunk are the bytes the portable writer of the header's byte order produces -/
theorem peak_field_bytes (big : Bool) (b : Nat) (hb : b < 2 ^ 32) (hfin : f32.isFinite b = true) :
    u32 big (PeakExact.wrF32 b) = if big then f32BeWrite b else f32LeWrite b := by
  obtain ⟨w1, w2⟩ := C20Ieee.ieee_write_finite_f32 b hb hfin
  rw [peak_field_exact b hb hfin, w1, w2]
  have hw : wrapU 32 (b : Int) = b := by rw [wrapU_natCast, Nat.mod_eq_of_lt hb]
  have h4 : f32.width / 8 = 4 := by decide
  cases big <;> simp [u32, hw, Spec.bytesBE, Spec.bytesLE, h4]

/-- non-vacuity: subnormal maxima (2^-149, 2^-148, 2^-127, the largest subnormal), FLT_MIN and an ordinary value -/
example : f32.isFinite 1 = true ∧ PeakExact.wrF32 1 = 1 ∧ PeakExact.wrF32 2 = 2 ∧ PeakExact.wrF32 0x00400000 = 0x00400000 ∧
    PeakExact.wrF32 0x007FFFFF = 0x007FFFFF ∧ PeakExact.wrF32 0x00800000 = 0x00800000 ∧ PeakExact.wrF32 0x3F800000 = 0x3F800000 ∧
    PeakExact.wrF32 0 = 0 ∧ u32 false (PeakExact.wrF32 2) = [2, 0, 0, 0] := by decide +kernel

/-- the rule before the repair (`Sf.wrF32TinyOld`, the writers' early return on `fabs (in) < FLT_MIN`): a maximum whose binary32 is
    subnormal was stored as 0.0f; everything else as itself -/
theorem peak_field_old_rule (b : Nat) :
    (b % 2 ^ 31 < 0x00800000 → Sf.wrF32TinyOld b = 0) ∧ (0x00800000 ≤ b % 2 ^ 31 → Sf.wrF32TinyOld b = b) ∧
    Sf.wrF32TinyOld 2 = 0 ∧ Sf.wrF32TinyOld 0x00400000 = 0 ∧ Sf.wrF32TinyOld 0x007FFFFF = 0 ∧ Sf.wrF32TinyOld 0x00800000 = 0x00800000 := by
  refine ⟨fun h => by unfold Sf.wrF32TinyOld; rw [if_pos h], fun h => ?_, by decide, by decide, by decide, by decide⟩
  have : ¬ b % 2 ^ 31 < 0x00800000 := by omega
  unfold Sf.wrF32TinyOld; rw [if_neg this]

/-- the full-strength statement about the old field … -/
def peak_field_old_rule_full : Prop := ∀ b, b < 2 ^ 32 → f32.isFinite b = true → Sf.wrF32TinyOld b = b
/-- … was false (2^-148, the witness of KF-C18-PEAK-SUBNORMAL) -/
theorem peak_field_old_rule_fails : ¬ peak_field_old_rule_full := by
  intro h
  have := h 2 (by decide) (by decide)
  revert this; decide

/-- the handle model's PEAK field (`Sf.wrF32`, SfModel/Handle.lean — the identity since the model follows 71c426d) and the
    repaired writers agree on every finite pattern: the handle model's header images are those of the repaired library,
    subnormal maxima included -/
theorem field_agrees (b : Nat) (hb : b < 2 ^ 32) (hfin : f32.isFinite b = true) :
    PeakExact.wrF32 b = Sf.wrF32 b := by
  rw [peak_field_exact b hb hfin]; rfl

/-- where the FLT_MIN rule agreed with the repaired one: a finite non-negative pattern that is zero or normal -/
theorem field_agrees_old_rule (b : Nat) (hb : b < 2 ^ 31) (hfin : f32.isFinite b = true) (hn : b = 0 ∨ 0x00800000 ≤ b) :
    PeakExact.wrF32 b = Sf.wrF32TinyOld b := by
  rw [peak_field_exact b (by omega) hfin]
  rcases hn with rfl | h
  · rfl
  · exact ((peak_field_old_rule b).2.1 (by rw [Nat.mod_eq_of_lt hb]; exact h)).symm

/-- a PEAK list of finite values gives the very chunk of `Sf.Peak.chunkBytes` (the chunk the handle / PEAK models and their
    theorems are stated with), in every container -/
theorem chunk_agrees (k : Kind) (ch : Nat) (ps : List Peak)
    (h : ∀ p ∈ ps, f64to32 p.value < 2 ^ 32 ∧ f32.isFinite (f64to32 p.value) = true) :
    PeakExact.chunkBytes k ch ps = Peak.chunkBytes k ch ps := by
  have hf : ∀ p ∈ ps, PeakExact.wrF32 (f64to32 p.value) = Sf.wrF32 (f64to32 p.value) :=
    fun p hp => field_agrees _ (h p hp).1 (h p hp).2
  have e32 : ∀ big : Bool, (ps.flatMap fun p => u32 big (PeakExact.wrF32 (f64to32 p.value)) ++ u32 big p.position) =
      (ps.flatMap fun p => u32 big (Sf.wrF32 (f64to32 p.value)) ++ u32 big p.position) :=
    fun big => List.flatMap_congr fun p hp => by rw [hf p hp]
  have e64 : (ps.flatMap fun p => u32 true (PeakExact.wrF32 (f64to32 p.value)) ++ u64be p.position) =
      (ps.flatMap fun p => u32 true (Sf.wrF32 (f64to32 p.value)) ++ u64be p.position) :=
    List.flatMap_congr fun p hp => by rw [hf p hp]
  cases k <;> simp only [PeakExact.chunkBytes, Peak.chunkBytes, e32, e64]

/-- what a WAV / AIFF chunk entry holds of a PEAK record under the repaired rule: the binary32 of the value, the low 32 bits
    of the position -/
def exact32 (p : Peak) : Peak :=
  { value := f32to64 (f64to32 p.value), position := wrapU 32 p.position }

/-- for a maximum that is finite as binary32 this is what the reader makes of the repaired entry -/
theorem heldWith_exact (p : Peak) (h : f64to32 p.value < 2 ^ 32 ∧ f32.isFinite (f64to32 p.value) = true) :
    heldWith PeakExact.wrF32 p = exact32 p := by
  unfold heldWith exact32
  rw [peak_field_exact _ h.1 h.2, wrapU_natCast, Nat.mod_eq_of_lt h.1]

/-- C18, chunk level, at full strength: for every PEAK list of the right length whose maxima are finite as binary32 — subnormal
    maxima included — the chunk the repaired writers produce (WAV / WAVEX / RF64 little-endian, RIFX and AIFF big-endian) is
    accepted by the reader and yields, per channel, the binary32 of the maximum (widened) and the low 32 bits of the position -/
theorem peak_chunk_roundtrip_exact (k : Kind) (hk : k ≠ .caf) (ch : Nat) (ps : List Peak) (hl : ps.length = ch) (hch : ch ≤ 1024)
    (hfin : ∀ p ∈ ps, f64to32 p.value < 2 ^ 32 ∧ f32.isFinite (f64to32 p.value) = true) :
    parseChunk k ch (PeakExact.chunkBytes k ch ps) = some (ps.map exact32) := by
  have hmap : ps.map (heldWith PeakExact.wrF32) = ps.map exact32 := List.map_congr_left fun p hp => heldWith_exact p (hfin p hp)
  rw [← hmap]
  cases k with
  | caf => exact absurd rfl hk
  | wavLE => exact parseChunk_chunk32 PeakExact.wrF32 .wavLE false (.inl ⟨rfl, rfl⟩) ch ps hl hch
  | wavBE => exact parseChunk_chunk32 PeakExact.wrF32 .wavBE true (.inr ⟨.inl rfl, rfl⟩) ch ps hl hch
  | aiff => exact parseChunk_chunk32 PeakExact.wrF32 .aiff true (.inr ⟨.inr rfl, rfl⟩) ch ps hl hch

/-- non-vacuity and the witness of KF-C18-PEAK-SUBNORMAL on both rules: a channel whose maximum is 2^-148 (binary64
    0x36B0000000000000) at frame 1 — the repaired chunk (and, since it follows the repair, the handle model's) holds 00000002 and re-opens as 2^-148; the FLT_MIN rule stored 00000000 -/
example : f64to32 0x36B0000000000000 = 2 ∧
    parseChunk .wavLE 1 (PeakExact.chunkBytes .wavLE 1 [{ value := 0x36B0000000000000, position := 1 }]) =
      some [{ value := 0x36B0000000000000, position := 1 }] ∧
    parseChunk .wavLE 1 (Peak.chunkBytes .wavLE 1 [{ value := 0x36B0000000000000, position := 1 }]) =
      some [{ value := 0x36B0000000000000, position := 1 }] ∧ Sf.wrF32TinyOld 2 = 0 ∧
    parseChunk .aiff 1 (PeakExact.chunkBytes .aiff 1 [{ value := 0x36B0000000000000, position := 1 }]) =
      some [{ value := 0x36B0000000000000, position := 1 }] := by decide +kernel

end Sf.C18Exact
