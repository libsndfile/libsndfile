/-
  SfProps.C04SvxReopen — the chunk loop of the SVX reader (`Sf.Svx.parse`) run symbolically over the model's own writer
  output: FORM, 8SVX | 16SV, VHDR, NAME, ANNO, BODY, audio.
-/
import SfProps.C04Svx
import SfProofs.AiffRead
namespace Sf.SvxReopen
open Sf Sf.Small Sf.Svx Sf.Cursor

-- the AIFF and SVX readers' `rdN` are the same function
theorem rd_at {bs : List Byte} {p n : Nat} {x rest : List Byte} (hd : bs.drop p = x ++ rest) (hx : x.length = n) (hn : 0 < n) :
    rdN bs p n = (x, p + n) ∧ bs.drop (p + n) = rest :=
  Aiff.rd_at hd hx hn

theorem adv_in (bs : List Byte) (pos n : Nat) (h : pos + n ≤ bs.length) : adv bs pos n = pos + n := by
  unfold adv; rw [if_pos h]

theorem walk_cont {fx nf : Bool} {bs : List Byte} {s t : Sc} (n : Nat) (h : stepX fx nf bs s = .cont t) :
    walkX fx nf bs (n + 1) s = walkX fx nf bs n t := by
  simp only [walkX, h]

theorem walk_stop {fx nf : Bool} {bs : List Byte} {s t : Sc} (n : Nat) (h : stepX fx nf bs s = .stop t) :
    walkX fx nf bs (n + 1) s = some (some t) := by
  simp only [walkX, h]

/-! ## the three kinds of iteration the writer's header asks for

  Each lemma takes the cursor fact `bs.drop s.pos = chunk ++ post` and, when the loop goes on, returns the one for `post`. -/

theorem step_vhdr (fx nf : Bool) (bs szb x12 r2 c1 cm v4 post : List Byte) (s : Sc)
    (hd : bs.drop s.pos = mk4 "VHDR" ++ (szb ++ (x12 ++ (r2 ++ (c1 ++ (cm ++ (v4 ++ post)))))))
    (hu : s.used ≤ cacheLimit) (hsz : szb.length = 4)
    (h12 : x12.length = 12) (h2 : r2.length = 2) (hc1 : c1.length = 1) (hcm : cm.length = 1) (h4 : v4.length = 4)
    (hpost : 4 < post.length) :
    stepX fx nf bs s = .cont { s with pos := s.pos + 28, used := s.used + 28, haveVhdr := true, sr := ofBE r2,
                                      compression := ofBE cm } ∧
    bs.drop (s.pos + 28) = post := by
  have hm : (mk4 "VHDR").length = 4 := by decide
  obtain ⟨e1, d1⟩ := rd_at hd hm (by decide)
  obtain ⟨e2, d2⟩ := rd_at d1 hsz (by decide)
  obtain ⟨e3, d3⟩ := rd_at d2 h12 (by decide)
  obtain ⟨e4, d4⟩ := rd_at d3 h2 (by decide)
  obtain ⟨e5, d5⟩ := rd_at d4 hc1 (by decide)
  obtain ⟨e6, d6⟩ := rd_at d5 hcm (by decide)
  obtain ⟨e7, d7⟩ := rd_at d6 h4 (by decide)
  have hlen := len_of_drop d7 (by omega)
  have n1 : mk4 "VHDR" ≠ mk4 "FORM" := by decide
  have hfin : ¬ (((s.pos + 4 + 4 + 12 + 2 + 1 + 1 + 4 : Nat) : Int) ≥ (bs.length : Int) - 4) := by omega
  refine ⟨?_, d7⟩
  unfold stepX
  rw [if_neg (by omega)]
  simp only [e1, e2, e3, e4, e5, e6, e7, n1, if_false, if_true, hfin, Nat.add_assoc, Nat.reduceAdd]

/-- a NAME or ANNO chunk that is not the last thing in the file (`nf`: the old NAME rule refuses more than 255 bytes) -/
theorem step_skip (fx nf : Bool) (bs mk szb body post : List Byte) (s : Sc)
    (hd : bs.drop s.pos = mk ++ (szb ++ (body ++ post)))
    (hu : s.used ≤ cacheLimit) (hmk : mk = mk4 "NAME" ∨ mk = mk4 "ANNO")
    (hsz : szb.length = 4) (hsize : ofBE szb = body.length) (h31 : body.length < 2 ^ 31)
    (hold : ¬ (nf = true ∧ body.length > 255)) (hpost : 4 < post.length) :
    stepX fx nf bs s = .cont { s with pos := s.pos + (8 + body.length), used := s.used + (8 + body.length) } ∧
    bs.drop (s.pos + (8 + body.length)) = post := by
  have hm : mk.length = 4 := by rcases hmk with h | h <;> rw [h] <;> decide
  obtain ⟨e1, d1⟩ := rd_at hd hm (by decide)
  obtain ⟨e2, d2⟩ := rd_at d1 hsz (by decide)
  have d3 := drop_at d2 rfl
  have hlen := len_of_drop d3 (by omega)
  have hp : s.pos + 4 + 4 + body.length = s.pos + (8 + body.length) := by omega
  rw [hp] at d3
  have ha : adv bs (s.pos + 4 + 4) body.length = s.pos + (8 + body.length) := by rw [adv_in _ _ _ (by omega)]; omega
  have hfin : ¬ (((s.pos + (8 + body.length) : Nat) : Int) ≥ (bs.length : Int) - 4) := by omega
  have h31' : ¬ body.length ≥ 2 ^ 31 := by omega
  refine ⟨?_, d3⟩
  unfold stepX
  rw [if_neg (by omega)]
  rcases hmk with h | h
  · have n1 : mk4 "NAME" ≠ mk4 "FORM" := by decide
    have n2 : mk4 "NAME" ≠ mk4 "VHDR" := by decide
    have n3 : mk4 "NAME" ≠ mk4 "BODY" := by decide
    subst h
    simp only [e1, e2, hsize, n1, n2, n3, if_false, if_true, hold, skip, h31', ha, hfin, Nat.add_assoc]
  · have n1 : mk4 "ANNO" ≠ mk4 "FORM" := by decide
    have n2 : mk4 "ANNO" ≠ mk4 "VHDR" := by decide
    have n3 : mk4 "ANNO" ≠ mk4 "BODY" := by decide
    have n4 : mk4 "ANNO" ≠ mk4 "NAME" := by decide
    subst h
    simp only [e1, e2, hsize, n1, n2, n3, n4, if_false, if_true, true_or, skip, h31', ha, hfin, Nat.add_assoc]

/-- the BODY chunk whose size field is the number of bytes behind it: the loop ends, no `dataend` -/
theorem step_body (fx nf : Bool) (bs szb data : List Byte) (s : Sc)
    (hd : bs.drop s.pos = mk4 "BODY" ++ (szb ++ data))
    (hu : s.used ≤ cacheLimit) (hv : s.haveVhdr = true)
    (hsz : szb.length = 4) (hsize : ofBE szb = data.length) :
    bs.length = s.pos + 8 + data.length ∧
    stepX fx nf bs s = .stop { s with pos := s.pos + 8 + data.length, used := s.used + 8, haveBody := true,
                                      dataoffset := ((s.pos + 8 : Nat) : Int) } := by
  have hm : (mk4 "BODY").length = 4 := by decide
  obtain ⟨e1, d1⟩ := rd_at hd hm (by decide)
  have e2 := (rd_at d1 hsz (by decide)).1
  have hlen : bs.length = s.pos + 8 + data.length := by
    have := len_of_drop d1 (by simp only [List.length_append, hsz]; omega)
    simp only [List.length_append, hsz] at this
    omega
  have n1 : mk4 "BODY" ≠ mk4 "FORM" := by decide
  have n2 : mk4 "BODY" ≠ mk4 "VHDR" := by decide
  have hdl : (if ((data.length : Nat) : Int) > (bs.length : Int) - ((s.pos + 4 + 4 : Nat) : Int)
      then (bs.length : Int) - ((s.pos + 4 + 4 : Nat) : Int) else ((data.length : Nat) : Int)) = ((data.length : Nat) : Int) := by
    rw [if_neg (by omega)]
  refine ⟨hlen, ?_⟩
  unfold stepX
  rw [if_neg (by omega)]
  simp only [e1, e2, hsize, n1, n2, if_false, if_true, hv, Bool.not_true, Bool.false_eq_true, hdl]
  rw [if_neg (by omega)]
  have hend : ¬ (fx = true ∧ ((s.pos + 4 + 4 : Nat) : Int) + ((data.length : Nat) : Int) < (bs.length : Int)) := by omega
  simp only [hend, if_false, Int.toNat_natCast]
  rw [if_pos (by omega)]

/-- the scanner between the chunks of a written header: `p` bytes read, all of them through the cache, VHDR seen -/
def atPos (sr p : Nat) : Sc := { pos := p, used := p, haveVhdr := true, sr := sr }

/-- the checks after the loop on the state the BODY chunk at offset `p` leaves -/
theorem finish_body (sr p d bw : Nat) (hsr : 1 ≤ sr) :
    finish (p + 8 + d) bw { atPos sr p with pos := p + 8 + d, used := p + 8, haveBody := true, dataoffset := ((p + 8 : Nat) : Int) } =
      .ok { ch := 1, fmt := 0x060000 + bw, sr := sr, frames := d / bw } := by
  have hc := codecFrames_body (p + 8) d (bw * 1)
  unfold finish
  simp only [atPos, hc]
  have hnn : (0 : Int) ≤ ((d / (bw * 1) : Nat) : Int) := Int.natCast_nonneg _
  rw [if_neg (by omega), if_neg (by omega), if_neg (by omega)]
  simp only [Int.toNat_natCast, Nat.mul_one]

theorem strField_split (s : List Byte) :
    strField s = be32 ((s.length + 1 + (s.length + 1) % 2 : Nat) : Int) ++ (s ++ List.replicate (1 + (s.length + 1) % 2) 0) := by
  unfold strField
  simp only [List.append_assoc]

/-- **the reader on any header the writer can emit, followed by the audio it announces**, for both NAME rules (`nf = true`: the
    rule before the repair of KF-SVX-NAME-LENGTH, which needs a name of at most 253 bytes: the chunk holds the name, a NUL
    and a pad, and 256 > 255 fails the open).  The FORM size and the VHDR frame count are not looked at; the BODY size field
    must hold the audio byte count (it wraps at 2 ^ 32).  FORM, type, VHDR, NAME, ANNO, BODY, audio: four iterations of the
    walk, then the checks after it. -/
theorem parse_image_x (nf : Bool) (c : Cfg) (hwf : c.wf) (hname : nf = true → c.name.length ≤ 253) (F : Nat) (fl : Int)
    (data : List Byte) (hD : data.length < 2 ^ 32) :
    parseX true nf (hdr c F fl ((data.length : Nat) : Int) ++ data) =
      .ok { ch := c.ch, fmt := c.fmtWord, sr := min c.sr 65535, frames := data.length / c.bw } := by
  obtain ⟨hcd, hch, hn255⟩ := cfg_facts c hwf
  have hsr : 1 ≤ c.sr := hwf.2.2.1
  have hrate := Sf.C04Svx.svx_rate_field c.sr
  have m4 : ∀ s : String, s.length = 4 → (mk4 s).length = 4 := mk4_len
  have hL : cacheLimit = 30000 := rfl
  -- the type marker and the two padded texts, as the reader meets them
  obtain ⟨t, bw, ht, htl, hbw, hfmt⟩ : ∃ (t : List Byte) (bw : Nat), (if c.bytewidth = 1 then mk4 "8SVX" else mk4 "16SV") = t ∧ t.length = 4 ∧
      (if t = mk4 "8SVX" then 1 else 2) = bw ∧ c.codec = bw := by
    unfold Cfg.bytewidth
    rcases hcd with h | h <;> rw [h] <;> exact ⟨_, _, rfl, by decide, by decide, rfl⟩
  generalize hnm : c.name ++ List.replicate (1 + (c.name.length + 1) % 2) 0 = nm
  have hnml : nm.length = c.name.length + 1 + (c.name.length + 1) % 2 := by rw [← hnm]; simp only [List.length_append, List.length_replicate]; omega
  generalize han : annotation ++ List.replicate (1 + (annotation.length + 1) % 2) 0 = an
  have hanl : an.length = 34 := by rw [← han]; simp only [List.length_append, List.length_replicate, annotation_length]
  generalize hbs : hdr c F fl ((data.length : Nat) : Int) ++ data = bs
  have e : bs = mk4 "FORM" ++ (be32 (if fl < 8 then 0 else fl - 8) ++ (t ++
      (mk4 "VHDR" ++ (be32 20 ++ ((be32 F ++ (be32 0 ++ be32 0)) ++ (be16 (rateField c.sr) ++ ([1] ++ ([0] ++
      (be32 (if c.bytewidth = 1 then 0xFF else 0xFFFF) ++ (mk4 "NAME" ++ (be32 ((nm.length : Nat) : Int) ++ (nm ++ (mk4 "ANNO" ++
      (be32 ((an.length : Nat) : Int) ++ (an ++ (mk4 "BODY" ++ (be32 ((data.length : Nat) : Int) ++ data))))))))))))))))) := by
    rw [← hbs, ← ht, hnml, hanl, ← hnm, ← han]
    unfold hdr
    rw [if_neg (by omega : ¬ c.ch = 2), if_neg (by omega : ¬ ((data.length : Nat) : Int) < 0), strField_split, strField_split, annotation_length]
    simp only [List.append_assoc, List.append_nil]
  have d8 := drop_at (drop_at (p := 0) (e : bs.drop 0 = _) (m4 "FORM" rfl)) (be32_length _)
  have hf1 : bs.take 4 = mk4 "FORM" := by rw [e]; exact List.take_left' (m4 "FORM" rfl)
  have hf2 : (bs.drop 8).take 4 = t := by rw [show bs.drop 8 = _ from d8]; exact List.take_left' htl
  obtain ⟨h1, d1⟩ := step_vhdr true nf bs (be32 20) (be32 F ++ (be32 0 ++ be32 0)) (be16 (rateField c.sr)) [1] [0] (be32 (if c.bytewidth = 1 then 0xFF else 0xFFFF)) _ {} (drop_at d8 htl) (by decide) (be32_length _)
    (by simp only [List.length_append, be32_length]) (be16_length _) rfl rfl (be32_length _) (by simp only [List.length_append, m4 "NAME" rfl]; omega)
  obtain ⟨h2, d2⟩ := step_skip true nf bs (mk4 "NAME") _ nm _ (atPos (ofBE (be16 (rateField c.sr))) 40) d1 (show 40 ≤ cacheLimit by decide) (.inl rfl)
    (be32_length _) (ofBE_be32_nat _ (by omega)) (by omega) (fun hh => absurd hh.2 (by have := hname hh.1; omega))
    (by simp only [List.length_append, m4 "ANNO" rfl]; omega)
  obtain ⟨h3, d3⟩ := step_skip true nf bs (mk4 "ANNO") _ an _ (atPos (ofBE (be16 (rateField c.sr))) (40 + (8 + nm.length))) d2
    (show 40 + (8 + nm.length) ≤ cacheLimit by omega) (.inr rfl) (be32_length _) (ofBE_be32_nat _ (by omega)) (by omega)
    (fun h => absurd h.2 (by omega)) (by simp only [List.length_append, m4 "BODY" rfl, be32_length]; omega)
  obtain ⟨hlen, h4⟩ := step_body true nf bs _ data (atPos (ofBE (be16 (rateField c.sr))) (40 + (8 + nm.length) + (8 + an.length))) d3
    (show 40 + (8 + nm.length) + (8 + an.length) ≤ cacheLimit by omega) rfl (be32_length _) (ofBE_be32_nat _ hD)
  have hlen : bs.length = 40 + (8 + nm.length) + (8 + an.length) + 8 + data.length := hlen
  have hw := (walk_cont (bs.length - 4 + 3) h1).trans ((walk_cont (bs.length - 4 + 2) h2).trans
    ((walk_cont (bs.length - 4 + 1) h3).trans (walk_stop (bs.length - 4) h4)))
  rw [show bs.length - 4 + 3 + 1 = bs.length by omega] at hw
  have hfin := finish_body (ofBE (be16 (rateField c.sr))) (40 + (8 + nm.length) + (8 + an.length)) data.length bw (by rw [hrate]; omega)
  have hty : ¬ (t = mk4 "AIFF" ∨ t = mk4 "AIFC") ∧ ¬ (t ≠ mk4 "8SVX" ∧ t ≠ mk4 "16SV") := by
    rw [← ht]; unfold Cfg.bytewidth; rcases hcd with h | h <;> rw [h] <;> decide
  unfold parseX
  rw [if_neg (by omega)]
  simp only [hf1, hf2, ne_eq, not_true_eq_false, if_false]
  rw [if_neg hty.1, if_neg hty.2, if_neg (by omega), hw]
  simp only [hlen, hbw]
  refine hfin.trans ?_
  unfold Cfg.fmtWord Cfg.bw Cfg.bytewidth
  rw [hrate, hch, Nat.mul_one, hfmt]

/-- the repaired reader on any header the writer can emit, followed by the audio it announces: no condition on the name -/
theorem parse_image (c : Cfg) (hwf : c.wf) (F : Nat) (fl : Int) (data : List Byte) (hD : data.length < 2 ^ 32) :
    parse (hdr c F fl ((data.length : Nat) : Int) ++ data) =
      .ok { ch := c.ch, fmt := c.fmtWord, sr := min c.sr 65535, frames := data.length / c.bw } :=
  parse_image_x false c hwf (fun h => Bool.noConfusion h) F fl data hD

/-- **svx_reopens.**  `sf_open (SFM_READ)` on the closed file of any session reports the channel count, the format word, the
    saturated rate and `D / bw` frames.  One guard: the audio is shorter than 2 ^ 32 bytes (the BODY size field holds
    `D % 2 ^ 32`: beyond it the reader ends the data at `D % 2 ^ 32`, sets `dataend` and, when more than 4 bytes follow, goes
    on reading chunk headers out of the audio). -/
theorem svx_reopens (c : Cfg) (hwf : c.wf) (st : Nat) (w : List WOp) (hD : (opsData w).length < 2 ^ 32) :
    parse (closedBytes (spec c) st w) =
      .ok { ch := c.ch, fmt := c.fmtWord, sr := min c.sr 65535, frames := (opsData w).length / c.bw } := by
  rw [Sf.C04Svx.closedBytes_eq c hwf]
  exact parse_image c hwf _ _ _ hD

/-- the same for every header-update image (SFC_UPDATE_HEADER_NOW at the end of `w`) -/
theorem svx_snapshot_reopens (c : Cfg) (hwf : c.wf) (st : Nat) (w : List WOp) (hD : (opsData w).length < 2 ^ 32) :
    parse (snapshotBytes (spec c) st w) =
      .ok { ch := c.ch, fmt := c.fmtWord, sr := min c.sr 65535, frames := (opsData w).length / c.bw } := by
  rw [Sf.C04Svx.snapshotBytes_eq c hwf]
  exact svx_reopens c hwf st w hD

/-! ## the NAME rule before the repair of KF-SVX-NAME-LENGTH -/

/-- the reader before the repair re-opens every session whose NAME chunk carries a name of at most 253 bytes -/
theorem svx_reopens_old_rule (c : Cfg) (hwf : c.wf) (hname : c.name.length ≤ 253) (st : Nat) (w : List WOp)
    (hD : (opsData w).length < 2 ^ 32) :
    parseNameOld (closedBytes (spec c) st w) =
      .ok { ch := c.ch, fmt := c.fmtWord, sr := min c.sr 65535, frames := (opsData w).length / c.bw } := by
  rw [Sf.C04Svx.closedBytes_eq c hwf]
  exact parse_image_x true c hwf (fun _ => hname) _ _ _ hD

/-- the defect: a well-formed configuration with a 254- or 255-byte name (NAME chunk size 256) wrote a file the reader of
    before refused (SFE_SVX_BAD_NAME_LENGTH); the repaired reader opens the same two files -/
theorem svx_name_254_not_reopened_old_rule :
    (⟨0x01, 0, 1, 44100, List.replicate 254 65⟩ : Cfg).wf ∧
    parseNameOld (closedBytes (spec ⟨0x01, 0, 1, 44100, List.replicate 254 65⟩) 0 [.write [1, 2, 3] false]) = .err ∧
    parse (closedBytes (spec ⟨0x01, 0, 1, 44100, List.replicate 254 65⟩) 0 [.write [1, 2, 3] false]) =
      .ok ⟨1, 0x060001, 44100, 3⟩ ∧
    (⟨0x01, 0, 1, 44100, List.replicate 255 65⟩ : Cfg).wf ∧
    parseNameOld (closedBytes (spec ⟨0x01, 0, 1, 44100, List.replicate 255 65⟩) 0 [.write [1, 2, 3] false]) = .err ∧
    parse (closedBytes (spec ⟨0x01, 0, 1, 44100, List.replicate 255 65⟩) 0 [.write [1, 2, 3] false]) =
      .ok ⟨1, 0x060001, 44100, 3⟩ ∧
    parseNameOld (closedBytes (spec ⟨0x01, 0, 1, 44100, List.replicate 253 65⟩) 0 [.write [1, 2, 3] false]) =
      .ok ⟨1, 0x060001, 44100, 3⟩ := by decide +kernel

end Sf.SvxReopen
