/-
  C12 — the getter level: what `sf_get_string` returns on the re-opened handle.  The `meta_roundtrip_*` theorems conclude with the
  (type, text) pairs the header parser hands to psf_store_string; `sfmodel meta` (and the library) then answer `sf_get_string`
  from the table those calls build (`Sf.Meta.loadAll`, `Sf.Meta.get`).  `get_loadAll`: for ANY list of at most 32 pairs with
  valid types and NUL-free texts every one of those psf_store_string calls is accepted and `get` returns, per type, the text of the
  LAST pair of that type — so for the pairwise-different types a file written by the library holds, exactly the text that was stored.
-/
import SfProps.C12Order
namespace Sf.C12Get
open Sf Sf.Meta

/-- psf_store_string on a handle open for reading (the header parser's calls), the table split at its first free slot: accepted when
    table and store are in step (`hsync`) and the type is valid; the text goes in as it is -/
theorem store_read (e : Env) (t : Strings) (ty : Int) (str : List Byte) (A B : List Slot) (s : Slot)
    (hm : isWriteMode e.mode = false) (hw : e.haveWritten = false)
    (hsplit : t.slots = A ++ s :: B) (hA : ∀ a ∈ A, a.type ≠ 0) (hs : s.type = 0) (hsync : A = [] ↔ t.used = 0)
    (hv : validType ty = true) :
    (store e t ty str).1 = 0 ∧
    (store e t ty str).2.slots = A.map (mark ty) ++ ⟨ty, SF_STR_LOCATE_START, t.storage.length⟩ :: B ∧
    (store e t ty str).2.storage = t.storage ++ str ++ [0] := by
  have hff : firstFree (A ++ s :: B) = A.length := by rw [firstFree_append A _ hA]; simp [firstFree, hs]
  have hr : e.mode ≠ .rdwr := fun h => by simp [h, isWriteMode] at hm
  unfold store
  simp [hm, hw, hr, hff, hv, hsplit, hsync, markBefore_set, show ¬ A.length + (B.length + 1) ≤ A.length by omega]

def eR : Env := ⟨.read, false, [], []⟩

/-- the table after `n` accepted calls: `n` entries in use (each live or replaced), the other slots free, storage in step -/
def Shape (n : Nat) (t : Strings) : Prop :=
  n ≤ 32 ∧ ∃ A : List Slot, t.slots = A ++ List.replicate (32 - n) Slot.free ∧ A.length = n ∧ (∀ s ∈ A, s.type ≠ 0) ∧ (n = 0 ↔ t.used = 0)

theorem shape_init : Shape 0 (Strings.init 0) :=
  ⟨by omega, [], by simp [Strings.init, SF_MAX_STRINGS], rfl, by simp, by simp [Strings.init, Strings.used]⟩

/-- psf_store_string in read mode is accepted whenever the table has a free slot and the type is valid, and fills the next slot -/
theorem store_read_step (n : Nat) (t : Strings) (ty : Int) (s : List Byte) (hs : Shape n t) (hn : n < 32) (hv : validType ty = true) :
    (store eR t ty s).1 = 0 ∧ Shape (n + 1) (store eR t ty s).2 := by
  obtain ⟨_, A, hsl, hl, hnz, hsync⟩ := hs
  subst hl
  -- the slot filled is the first of the free ones
  have hrep : List.replicate (32 - A.length) Slot.free = Slot.free :: List.replicate (32 - (A.length + 1)) Slot.free := by
    rw [show 32 - A.length = (32 - (A.length + 1)) + 1 by omega, List.replicate_succ]
  obtain ⟨hok, hslots, hstorage⟩ := store_read eR t ty s A _ Slot.free rfl rfl (hsl.trans (by rw [hrep])) hnz rfl
    (List.length_eq_zero_iff.symm.trans hsync) hv
  refine ⟨hok, by omega, A.map (mark ty) ++ [⟨ty, SF_STR_LOCATE_START, t.storage.length⟩], by simp [hslots], by simp, ?_, ?_⟩
  · intro x hx
    rcases List.mem_append.1 hx with h | h
    · obtain ⟨a, ha, rfl⟩ := List.mem_map.1 h
      unfold mark
      split
      · simp
      · exact hnz a ha
    · simp only [List.mem_cons, List.mem_nil_iff, or_false] at h
      subst h
      exact (validType_ne_zero ty hv).1
  · constructor
    · intro h0; omega
    · intro hu
      simp only [Strings.used, hstorage, List.length_append, List.length_cons, List.length_nil] at hu
      omega

/-- the psf_store_string calls of the re-open: (type, text) -/
def callsOf (es : List (Nat × List Byte)) : List Call := es.map fun e => ((e.1 : Int), e.2)

theorem loadAll_runStr (es : List (Nat × List Byte)) : loadAll es = runStr eR (Strings.init 0) (callsOf es) := by
  unfold loadAll runStr callsOf eR
  rw [List.foldl_map]

theorem allOk_read : ∀ (cs : List Call) (n : Nat) (t : Strings), Shape n t → n + cs.length ≤ 32 → (∀ c ∈ cs, validType c.1 = true) →
    allOk eR t cs
  | [], _, _, _, _, _ => trivial
  | c :: cs, n, t, hs, hn, hv => by
    simp only [List.length_cons] at hn
    obtain ⟨h1, h2⟩ := store_read_step n t c.1 c.2 hs (by omega) (hv c (by simp))
    exact ⟨h1, allOk_read cs (n + 1) _ h2 (by omega) (fun d hd => hv d (by simp [hd]))⟩

theorem get_init (fl : Nat) (ty : Int) (h : ty ≠ 0) : Meta.get (Strings.init fl) ty = none := by
  have : (List.replicate SF_MAX_STRINGS Slot.free).find? (fun s => decide (s.type = ty)) = none := by
    rw [List.find?_eq_none]
    intro s hs
    rw [(List.mem_replicate.1 hs).2]
    simp [Slot.free, Ne.symm h]
  unfold Meta.get Strings.init
  rw [this]; rfl

/-- `sf_get_string` on a re-opened handle whose header held the pairs `es` (at most 32, valid types, texts without
    NUL): per type the text of the last pair of that type, nothing for a type that does not occur -/
theorem get_loadAll (es : List (Nat × List Byte)) (hlen : es.length ≤ 32) (hty : ∀ e ∈ es, validType (e.1 : Int) = true)
    (hnul : ∀ e ∈ es, ∀ b ∈ e.2, b ≠ 0) (ty : Nat) (hpos : 0 < ty) :
    Meta.get (loadAll es) (ty : Int) = es.foldl (fun x e => if e.1 = ty then some e.2 else x) none := by
  have hok : allOk eR (Strings.init 0) (callsOf es) :=
    allOk_read (callsOf es) 0 _ shape_init (by simp [callsOf]; exact hlen)
      (by intro c hc; obtain ⟨e, he, rfl⟩ := List.mem_map.1 hc; exact hty e he)
  rw [loadAll_runStr, get_run eR (callsOf es) _ (init_inv 0) hok (ty : Int) (by omega), get_init 0 _ (by omega), callsOf, List.foldl_map]
  -- the two folds agree pair by pair: in read mode the text is stored as it is, and it is a C string
  refine List.foldl_rel (r := Eq) rfl fun e he x _ hx => ?_
  have hs : storedText eR (e.1 : Int) e.2 = e.2 := by simp [storedText, eR, isWriteMode]
  simp only [hx, hs, cstr_no_zero _ (hnul e he), Int.natCast_inj]

/-- … for pairwise different types (what a file written by the library holds: replaced slots are not written): the text of THE
    pair of that type -/
theorem get_loadAll_nodup (es : List (Nat × List Byte)) (hlen : es.length ≤ 32) (hty : ∀ e ∈ es, validType (e.1 : Int) = true)
    (hnul : ∀ e ∈ es, ∀ b ∈ e.2, b ≠ 0) (hnd : (es.map (·.1)).Nodup) (e : Nat × List Byte) (he : e ∈ es) (hpos : 0 < e.1) :
    Meta.get (loadAll es) (e.1 : Int) = some e.2 := by
  have key := foldl_keyed (fun x (d : Nat × List Byte) => if d.1 = e.1 then some d.2 else x) id (·.1) e.1 es
    (fun a _ hk x y _ => by simp [hk]) (fun a _ hk x => by simp [hk]) hnd none
  rw [find_key_of_nodup (·.1) es hnd e he] at key
  rw [get_loadAll es hlen hty hnul e.1 hpos]
  simpa using key

/-- non-vacuity: three pairs, the middle type asked for -/
example : Meta.get (loadAll [(1, ascii "Title"), (4, ascii "Artist"), (5, ascii "late")]) 4 = some (ascii "Artist") ∧
    Meta.get (loadAll [(1, ascii "Title"), (4, ascii "Artist")]) 5 = none := by decide +kernel

end Sf.C12Get
