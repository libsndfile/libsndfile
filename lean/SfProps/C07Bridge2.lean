/-
  C01 / C04 / C07 — THE WRITE-SIDE BRIDGE for the REMAINING BLOCK CODECS: IMA ADPCM (WAV / W64 and AIFF `ima4`
  layouts) and MS ADPCM on the bit-exact encoder model (`adpcm_*`, SfProps/C07Adpcm.lean), OKI / VOX ADPCM (C05Vox / C07Block),
  and the LOSSLESS DWVW, whose `roundtrip` fact also covers the C01 clause of `Sf.AbsWrite.judge` (`BlockFacts.c01`, right
  disjunct; the XI delta coders DPCM_16 / DPCM_8 are in SfProps/C07Bridge3.lean).  Each `<x>_session_accepted` says: the record
  the all-format write campaign would write down of ANY job (any caller type, any split into item / frame calls) on that codec's
  model passes every clause of `judge`; `sfmodel abs-write` evaluates `judgeG` on the implementation's records, which accepts
  the same records of these formats (`acceptedG_eq_accepted`, SfProofs/AbsWriteRateExact.lean).

  -- properties: C01 C04 C07
-/
import SfProps.C07Bridge
import SfProps.C07Adpcm
import SfProps.C05Vox
import SfProps.C01Dwvw
import SfProofs.AbsWriteBridgeEnc
namespace Sf.C07Bridge2
open Sf Sf.AbsWrite Sf.AbsWriteBridge Sf.C07Bridge

theorem framesOf_eq (ch : Nat) (hch : 0 < ch) (cs : List LCall) (h : ∀ c ∈ cs, c.good ch) :
    framesOf ch cs = (samples cs).length / ch := by
  rw [samples_length ch cs h, Nat.mul_div_cancel _ hch]

section Adpcm
open Sf.Adpcm Sf.AdpcmEnc Sf.C07Adpcm

/-- the frame count of the encoder model on the calls of a job is the job's -/
theorem nframes_typed (G : Geo) (hch : 0 < G.ch) (cv : Conv) (ty : Ty) (cs : List LCall) (h : ∀ c ∈ cs, c.good G.ch) :
    nframes G cv (typed ty cs) = framesOf G.ch cs := by
  have hsh : shorts cv (typed ty cs) = (samples cs).map (toCodec cv ty) := flatMap_typed ty (toCodec cv) cs
  unfold nframes
  rw [hsh, List.length_map, framesOf_eq G.ch hch cs h]

/-- the (container major, codec) pairs of a layout -/
def kindWord (k : Kind) (major codec : Nat) : Prop :=
  match k with
  | .imaWav => codec = 0x12 ∧ major ≠ 0x02
  | .imaAiff => codec = 0x12 ∧ major = 0x02
  | .ms => codec = 0x13

/-- THE GEOMETRY TABLE OF THE PREDICATE AGREES WITH THE OPEN FUNCTIONS OF THE MODEL: `Geometry.blockFrames` (Int arithmetic, as
    vlib/geometry.py) is `samplesperblock` of `geoOf` for every rate, 1 or 2 channels, all three layouts -/
theorem adpcm_block_agrees (k : Kind) (major codec sr ch : Nat) (hk : kindWord k major codec) (hch : ch = 1 ∨ ch = 2) :
    Geometry.blockFrames major codec ch sr = (geoOf k sr ch).spb := by
  unfold Geometry.blockFrames geoOf
  cases k with
  | imaWav =>
    obtain ⟨hc, hm⟩ := hk
    have hm' : (major == 0x02) = false := by simpa using hm
    subst hc
    simp only [Geometry.IMA, beq_self_eq_true, if_true, hm', Bool.false_eq_true, if_false]
    rcases Sf.AdpcmEnc.Proofs.srate2blocksize_cases (sr * ch) with h | h | h | h <;> rcases hch with rfl | rfl <;> rw [h] <;> decide
  | imaAiff =>
    obtain ⟨hc, hm⟩ := hk
    subst hc; subst hm
    simp only [Geometry.IMA, beq_self_eq_true, if_true]
    rcases hch with rfl | rfl <;> decide
  | ms =>
    have hc : codec = 0x13 := hk
    subst hc
    simp only [Geometry.IMA, Geometry.MS, beq_self_eq_true, if_true, show ((0x13 : Nat) == 0x12) = false from rfl, Bool.false_eq_true, if_false]
    rcases Sf.AdpcmEnc.Proofs.srate2blocksize_cases (sr * ch) with h | h | h | h <;> rcases hch with rfl | rfl <;> rw [h] <;> decide

def adpcmJob (k : Kind) (cv : Conv) (g : AbsWrite.Geom) (ty : Ty) (one split : List LCall) (hdr tail : Nat → List Byte)
    (back : List Byte → Nat → List Int) : BlockJob :=
  { g := g, ty := ty, one := one, split := split,
    data := fun cs => closedBytes (geoOf k g.sr g.ch) cv (typed ty cs), hdr := hdr, tail := tail,
    framesAt := framesAtOpen (geoOf k g.sr g.ch), back := back }

theorem whole_typed (G : Geo) (ty : Ty) (cs : List LCall) (h : ∀ c ∈ cs, c.good G.ch) : Whole G (typed ty cs) := by
  intro c hc
  obtain ⟨d, hd, rfl⟩ := List.mem_map.1 hc
  exact (h d hd).1

theorem adpcm_lossy (k : Kind) (major codec : Nat) (ty : Ty) (hk : kindWord k major codec) : losslessLow codec ty = none := by
  have : codec = 0x12 ∨ codec = 0x13 := by
    cases k
    · exact Or.inl hk.1
    · exact Or.inl hk.1
    · exact Or.inr hk
  rcases this with h | h <;> rw [h] <;> cases ty <;> rfl

/-- the facts of an ADPCM job: C07 `adpcm_write_partition`, C04 `adpcm_frames_at_reopen` with B = samplesperblock
    (`adpcm_block_agrees`), the pair is lossy -/
theorem adpcm_block_facts (k : Kind) (cv : Conv) (g : AbsWrite.Geom) (ty : Ty) (one split : List LCall)
    (hdr tail : Nat → List Byte) (back : List Byte → Nat → List Int) (hback : ∀ d n, (back d n).length = n)
    (hch : g.ch = 1 ∨ g.ch = 2) (hk : kindWord k g.major g.codec)
    (hrate : rateOk g.major g.sr (g.sr : Int) = true)
    (h1 : ∀ c ∈ one, c.good g.ch) (h2 : ∀ c ∈ split, c.good g.ch) (hs : samples split = samples one) :
    BlockFacts (adpcmJob k cv g ty one split hdr tail back) := by
  have hG : Sf.AdpcmEnc.Proofs.WGeo (geoOf k g.sr g.ch) := adpcm_geometry k g.sr g.ch hch
  have hgch : (geoOf k g.sr g.ch).ch = g.ch := by cases k <;> rfl
  obtain ⟨hspb, hchp, _, _⟩ := Sf.AdpcmEnc.Proofs.wgeo_pos _ hG
  have hB : g.block = (geoOf k g.sr g.ch).spb := adpcm_block_agrees k g.major g.codec g.sr g.ch hk hch
  have hsh : ∀ cs, shorts cv (typed ty cs) = (samples cs).map (toCodec cv ty) := fun cs => flatMap_typed ty (toCodec cv) cs
  have hw1 : Whole (geoOf k g.sr g.ch) (typed ty one) := whole_typed _ ty one (by rw [hgch]; exact h1)
  have hw2 : Whole (geoOf k g.sr g.ch) (typed ty split) := whole_typed _ ty split (by rw [hgch]; exact h2)
  obtain ⟨f1, f2, _⟩ := adpcm_frames_at_reopen _ hG cv (typed ty one) hw1
  rw [nframes_typed _ hchp cv ty one (by rw [hgch]; exact h1), hgch] at f1 f2
  exact { chpos := hgch ▸ hchp, block := by show 1 ≤ g.block; rw [hB]; exact hspb,
          calls1 := h1, calls2 := h2, same := hs,
          partition := fun h => adpcm_write_partition _ hG cv (typed ty split) (typed ty one) hw2 hw1 (by
            rw [hsh, hsh]; exact congrArg _ h),
          framesLo := f1,
          framesHi := by show _ < framesOf g.ch one + g.block; rw [hB]; exact f2,
          backLen := hback, rate := hrate,
          c01 := Or.inl (adpcm_lossy k g.major g.codec ty hk) }

/-- IMA / MS ADPCM, every layout, 1 or 2 channels, EVERY sample rate (the block size follows `wavlike_srate2blocksize`, wrap of
    the C int product included), any caller type, any conversion settings: every job is accepted.  The reader is any function
    that fills the requested region (SfModel/AdpcmReader.lean / C06Block describe it); the pair is lossy. -/
theorem adpcm_session_accepted (k : Kind) (cv : Conv) (g : AbsWrite.Geom) (ty : Ty) (one split : List LCall)
    (hdr tail : Nat → List Byte) (back : List Byte → Nat → List Int) (hback : ∀ d n, (back d n).length = n)
    (hch : g.ch = 1 ∨ g.ch = 2) (hk : kindWord k g.major g.codec)
    (hrate : rateOk g.major g.sr (g.sr : Int) = true)
    (h1 : ∀ c ∈ one, c.good g.ch) (h2 : ∀ c ∈ split, c.good g.ch) (hs : samples split = samples one) :
    accepted (adpcmJob k cv g ty one split hdr tail back).pred.record = true :=
  block_session_accepted _ (adpcm_block_facts k cv g ty one split hdr tail back hback hch hk hrate h1 h2 hs)

end Adpcm

section Vox
open Sf.Block Sf.Block.Proofs Sf.VoxCarry Sf.C05Vox Sf.C07Block

/-- the calls of a job as the lists of codec shorts `voxFile` takes (`f`: the caller-to-short conversion of `vox_write_*`) -/
def voxCalls (f : Int → Int) (cs : List LCall) : List (List Int) := cs.map fun c => c.xs.map f

theorem voxCalls_flatten (f : Int → Int) (cs : List LCall) : (voxCalls f cs).flatten = (samples cs).map f := by
  induction cs with
  | nil => rfl
  | cons c cs ih =>
    simp only [voxCalls, List.map_cons, List.flatten_cons, samples, List.flatMap_cons, List.map_append] at ih ⊢
    rw [ih]

def voxJob (f : Int → Int) (g : AbsWrite.Geom) (ty : Ty) (one split : List LCall) (hdr tail : Nat → List Byte)
    (back : List Byte → Nat → List Int) : BlockJob :=
  { g := g, ty := ty, one := one, split := split,
    data := fun cs => voxFile {} none (voxCalls f cs), hdr := hdr, tail := tail,
    framesAt := fun n => 2 * n, back := back }

/-- OKI / VOX ADPCM after the repair of KF-VOX-ODD: every job — calls of ANY parity — is accepted (N ≤ F = 2 ⌈N / 2⌉ < N + 2) -/
theorem vox_session_accepted (f : Int → Int) (g : AbsWrite.Geom) (ty : Ty) (one split : List LCall)
    (hdr tail : Nat → List Byte) (back : List Byte → Nat → List Int) (hback : ∀ d n, (back d n).length = n)
    (hch : g.ch = 1) (hcodec : g.codec = 0x21) (hrate : rateOk g.major g.sr (g.sr : Int) = true)
    (h1 : ∀ c ∈ one, c.good 1) (h2 : ∀ c ∈ split, c.good 1) (hs : samples split = samples one) :
    accepted (voxJob f g ty one split hdr tail back).pred.record = true := by
  apply block_session_accepted
  have hB : g.block = 2 := C04.blockFrames_vox _ _ _ _ hcodec
  obtain ⟨f0, f1, f2⟩ := vox_frames_bound (voxCalls f one)
  rw [voxCalls_flatten, List.length_map] at f1 f2
  have hfr : (VoxR.open (voxFile {} none (voxCalls f one))).frames = 2 * (voxFile {} none (voxCalls f one)).length := rfl
  rw [hfr] at f1 f2
  exact mono_block_facts _ hch (show 1 ≤ g.block by rw [hB]; decide) h1 h2 hs
    (vox_file_bytes_depend_on_samples_only _ _ (by rw [voxCalls_flatten, voxCalls_flatten]; exact congrArg _ hs))
    f1 (show _ < _ + g.block by rw [hB]; exact f2) hback hrate
    (Or.inl (show losslessLow g.codec ty = none by rw [hcodec]; cases ty <;> rfl))

end Vox

section Dwvw
open Sf.Dwvw Sf.C01Dwvw

/-- the closed data region of a run: `dwvw_write_T` call by call, then `dwvw_close` (the twelve flush samples) -/
def dwvwData (c : Dwvw.Cfg) (cv : Conv) (ty : Ty) (cs : List LCall) : List Byte :=
  Dwvw.closeBytes c (cs.foldl (fun e k => Dwvw.writeCall c cv ty e k.xs) ({} : Dwvw.ESt))

/-- C07 for DWVW: the data region is the one-call encoding of the concatenated converted samples -/
theorem dwvwData_eq (c : Dwvw.Cfg) (cv : Conv) (ty : Ty) (cs : List LCall) :
    dwvwData c cv ty cs = Dwvw.encodeAll c ((samples cs).map (Dwvw.toCodec cv ty)) := by
  have h : cs.foldl (fun e k => Dwvw.writeCall c cv ty e k.xs) ({} : Dwvw.ESt) = (voxCalls (Dwvw.toCodec cv ty) cs).foldl (Dwvw.encodeData c) {} := by
    unfold voxCalls; rw [List.foldl_map]; rfl
  unfold dwvwData
  rw [h, dwvw_partition_file, voxCalls_flatten]

attribute [local irreducible] dwvwData

/-- the job: the re-open count is what `dwvw_init` computes on the reference file (decode scan capped by the COMM chunk's count of
    the frames written); the read-back is ONE decode call of that many frames (C06 `dwvw_read_calls`: any partition delivers the
    same), the rest of the requested region keeps a fill value; `extra`: what follows the data region in the SSND chunk (pad byte) -/
def dwvwJob (c : Dwvw.Cfg) (cv : Conv) (g : AbsWrite.Geom) (ty : Ty) (one split : List LCall) (hdr tail : Nat → List Byte)
    (extra : List Byte) : BlockJob :=
  { g := g, ty := ty, one := one, split := split, data := dwvwData c cv ty, hdr := hdr, tail := tail,
    framesAt := fun _ => Dwvw.framesAtOpen c (dwvwData c cv ty one ++ extra) (some (samples one).length),
    back := fun d n =>
      (((Dwvw.decodeAll c (d ++ extra) (Dwvw.framesAtOpen c (d ++ extra) (some (samples one).length))).map (Dwvw.toCaller cv ty)) ++
        List.replicate n 0).take n }

def dwvwCode (c : Dwvw.Cfg) (codec : Nat) : Prop := (c.w = 12 ∧ codec = 0x40) ∨ (c.w = 16 ∧ codec = 0x41) ∨ (c.w = 24 ∧ codec = 0x42)

theorem dwvwCode.ok {c : Dwvw.Cfg} {codec : Nat} (h : dwvwCode c codec) : c.ok := by
  rcases h with h | h | h <;> simp [Dwvw.Cfg.ok, h.1]

/-- per sample: under the side condition of C01 (`sampleOk`: the low 16 − w / 32 − w bits zero) a short / int comes back bit-identical -/
theorem dwvw_sample_exact (c : Dwvw.Cfg) (codec : Nat) (hc : dwvwCode c codec) (cv : Conv) (ty : Ty) (hty : ty = .s16 ∨ ty = .s32) (v : Int)
    (hr : ty.inRange v) (hok : sampleOk codec ty v) :
    Dwvw.toCaller cv ty (asr (Dwvw.toCodec cv ty v) c.shift * 2 ^ c.shift) = v := by
  have hw := hc.ok
  have hiw : intWidth codec = some c.w := by rcases hc with ⟨h1, h2⟩ | ⟨h1, h2⟩ | ⟨h1, h2⟩ <;> rw [h1, h2] <;> rfl
  rcases hty with rfl | rfl
  · have h2 := sampleOk_low16 hiw hok
    apply dwvw_short_exact c hw cv v hr
    intro h12
    rw [h12] at h2; exact h2
  · have hmod : v % 2 ^ c.shift = 0 := sampleOk_low32 hiw hok
    show asr v c.shift * 2 ^ c.shift = v
    have hv : v = v / 2 ^ c.shift * 2 ^ c.shift := (Int.ediv_mul_cancel (Int.dvd_of_emod_eq_zero hmod)).symm
    have := Sf.Dwvw.Proofs.quant_exact c.shift (v / 2 ^ c.shift)
    rw [← hv] at this
    exact this

/-- DWVW in AIFF: every job is accepted — C07 (`dwvw_partition_file`), C04 (F = N exactly: `dwvw_aiff_frames_exact`), and the C01
    clause through the ROUNDTRIP fact for short / int callers (`dwvw_roundtrip`: all wrap-around cases of the delta arithmetic).
    `hx`: the converted samples are 32-bit values (always true for short / int callers: `dwvw_range_int`). -/
theorem dwvw_session_accepted (c : Dwvw.Cfg) (cv : Conv) (g : AbsWrite.Geom) (ty : Ty) (one split : List LCall)
    (hdr tail : Nat → List Byte) (extra : List Byte)
    (hch : g.ch = 1) (hcode : dwvwCode c g.codec) (hrate : rateOk g.major g.sr (g.sr : Int) = true)
    (h1 : ∀ c ∈ one, c.good 1) (h2 : ∀ c ∈ split, c.good 1) (hs : samples split = samples one)
    (hr : ∀ v ∈ samples one, ty.inRange v)
    (hx : ∀ v ∈ samples one, -2 ^ 31 ≤ Dwvw.toCodec cv ty v ∧ Dwvw.toCodec cv ty v < 2 ^ 31) :
    accepted (dwvwJob c cv g ty one split hdr tail extra).pred.record = true := by
  apply block_session_accepted
  have hw := hcode.ok
  have hB : g.block = 1 := C04.blockFrames_dwvw _ _ _ _ (hcode.imp And.right (.imp And.right And.right))
  have hxs : ∀ x ∈ (samples one).map (Dwvw.toCodec cv ty), -2 ^ 31 ≤ x ∧ x < 2 ^ 31 := by
    intro x hxm; obtain ⟨v, hv, rfl⟩ := List.mem_map.1 hxm; exact hx v hv
  have hF : Dwvw.framesAtOpen c (dwvwData c cv ty one ++ extra) (some (samples one).length) = (samples one).length := by
    have := dwvw_aiff_frames_exact c hw _ hxs extra
    rw [List.length_map] at this
    rw [dwvwData_eq]; exact this
  apply mono_block_facts (dwvwJob c cv g ty one split hdr tail extra) hch (show 1 ≤ g.block by rw [hB]) h1 h2 hs
    (show dwvwData c cv ty split = dwvwData c cv ty one by rw [dwvwData_eq, dwvwData_eq, hs])
    (by dsimp only [dwvwJob]; rw [hF]) (by dsimp only [dwvwJob]; rw [hF, hB]; omega)
    (fun d n => by
      show (List.take n _).length = n
      rw [List.length_take, List.length_append, List.length_replicate]; omega) hrate
  by_cases hty : ty = .s16 ∨ ty = .s32
  · right
    intro hok
    show (List.take _ (List.map (Dwvw.toCaller cv ty) (Dwvw.decodeAll c (dwvwData c cv ty one ++ extra)
      (Dwvw.framesAtOpen c (dwvwData c cv ty one ++ extra) (some (samples one).length))) ++ List.replicate _ 0)).take (samples one).length = samples one
    rw [hF]
    have hdec := dwvw_roundtrip c hw _ hxs extra
    rw [List.length_map, ← dwvwData_eq] at hdec
    rw [hdec, List.map_map]
    have hid : List.map (Dwvw.toCaller cv ty ∘ fun p => asr p c.shift * 2 ^ c.shift) (List.map (Dwvw.toCodec cv ty) (samples one)) = samples one := by
      rw [List.map_map]
      exact map_eq_self fun v hv => dwvw_sample_exact c g.codec hcode cv ty hty v (hr v hv) (hok v hv)
    rw [hid, List.take_take, List.take_append_of_le_length (by omega)]
    rw [Nat.min_eq_left (by
      have := samples_length 1 one h1
      show _ ≤ (framesOf g.ch one + g.block + g.pad + 8) * g.ch
      rw [hch]; omega)]
    exact List.take_length
  · left
    show losslessLow g.codec ty = none
    cases ty
    · exact absurd (Or.inl rfl) hty
    · exact absurd (Or.inr rfl) hty
    · rcases hcode with ⟨_, h⟩ | ⟨_, h⟩ | ⟨_, h⟩ <;> rw [h] <;> rfl
    · rcases hcode with ⟨_, h⟩ | ⟨_, h⟩ | ⟨_, h⟩ <;> rw [h] <;> rfl

/-- `hx` for the integer caller types: a short is shifted into the top half and wraps into 32 bits by construction, an int is itself -/
theorem dwvw_range_int (cv : Conv) (ty : Ty) (hty : ty = .s16 ∨ ty = .s32) (v : Int) (hr : ty.inRange v) :
    -2 ^ 31 ≤ Dwvw.toCodec cv ty v ∧ Dwvw.toCodec cv ty v < 2 ^ 31 := by
  rcases hty with rfl | rfl
  · obtain ⟨a, b⟩ := hr
    simp only [Dwvw.toCodec, wrapS]
    norm_num
    omega
  · obtain ⟨a, b⟩ := hr
    simp only [Dwvw.toCodec]
    omega

end Dwvw

def exOne : List LCall := [⟨true, [1000, -2000, 30000, 4, 5, -6], 3⟩]
def exSplit : List LCall := [⟨true, [1000, -2000], 1⟩, ⟨false, [30000, 4, 5, -6], 4⟩]
def exGms : AbsWrite.Geom := { word := 0x00010013, ch := 2, sr := 8000 }
def exGima : AbsWrite.Geom := { word := 0x00020012, ch := 2, sr := 2 ^ 30 }

instance (k : AdpcmEnc.Kind) (major codec : Nat) : Decidable (kindWord k major codec) := by unfold kindWord; cases k <;> infer_instance

/-- the hypotheses of `adpcm_session_accepted` hold for a stereo MS ADPCM WAV job (B = 500 at 8 kHz stereo … the table and `geoOf` agree)
    and for a stereo IMA AIFF job at 2^30 Hz (the C int product wraps; B = 64) -/
example : (exGms.ch = 1 ∨ exGms.ch = 2) ∧ kindWord .ms exGms.major exGms.codec ∧ rateOk exGms.major exGms.sr (exGms.sr : Int) = true ∧
    (∀ c ∈ exOne, c.good exGms.ch) ∧ (∀ c ∈ exSplit, c.good exGms.ch) ∧ samples exSplit = samples exOne ∧
    exGms.block = (AdpcmEnc.geoOf .ms exGms.sr exGms.ch).spb ∧ exGms.block = 500 ∧
    kindWord .imaAiff exGima.major exGima.codec ∧ exGima.block = 64 := by decide

def exOneV : List LCall := [⟨true, [256, 512, 768], 3⟩]
def exSplitV : List LCall := [⟨true, [256], 1⟩, ⟨false, [512, 768], 2⟩]
def exGv : AbsWrite.Geom := { word := 0x00040021, ch := 1, sr := 8000 }
def exJobV : BlockJob := voxJob id exGv .s16 exOneV exSplitV (fun _ => []) (fun _ => []) (fun _ n => List.replicate n 0)

/-- VOX: an odd job (3 samples as 1 + 2): hypotheses, and the record evaluated — 2 bytes, F = 4 = N + 1, accepted -/
example : exGv.ch = 1 ∧ exGv.codec = 0x21 ∧ rateOk exGv.major exGv.sr (exGv.sr : Int) = true ∧
    (∀ c ∈ exOneV, c.good 1) ∧ (∀ c ∈ exSplitV, c.good 1) ∧ samples exSplitV = samples exOneV ∧
    exJobV.pred.record.info.frames = 4 ∧ exJobV.pred.record.one.bytes.size = 2 ∧ accepted exJobV.pred.record = true := by decide +kernel

def exGd : AbsWrite.Geom := { word := 0x00020040, ch := 1, sr := 44100 }
def exOneD : List LCall := [⟨true, [16, -32, 32752], 3⟩]
def exSplitD : List LCall := [⟨true, [16], 1⟩, ⟨false, [-32, 32752], 2⟩]
def exJobD : BlockJob := dwvwJob ⟨12⟩ {} exGd .s16 exOneD exSplitD (fun _ => []) (fun _ => []) []

instance (c : Dwvw.Cfg) (codec : Nat) : Decidable (dwvwCode c codec) := by unfold dwvwCode; infer_instance

/-- DWVW_12 in AIFF, shorts whose low four bits are zero (the side condition of C01 holds: the record is LOSSLESS and the round trip is
    judged): hypotheses, and the record's values — F = N = 3, the read-back begins with the samples written — evaluated; accepted -/
example : exGd.ch = 1 ∧ dwvwCode ⟨12⟩ exGd.codec ∧ rateOk exGd.major exGd.sr (exGd.sr : Int) = true ∧
    (∀ c ∈ exOneD, c.good 1) ∧ (∀ c ∈ exSplitD, c.good 1) ∧ samples exSplitD = samples exOneD ∧
    (∀ v ∈ samples exOneD, Ty.s16.inRange v) ∧
    losslessFor exGd .s16 (written exGd.ch exJobD.pred.record.one.calls) = true ∧
    exJobD.pred.record.info.frames = 3 ∧ exJobD.pred.rbData.take 3 = [16, -32, 32752] ∧ accepted exJobD.pred.record = true := by
  have hcode : dwvwCode ⟨12⟩ exGd.codec := by decide
  have hrate : rateOk exGd.major exGd.sr (exGd.sr : Int) = true := by decide
  have h1 : ∀ c ∈ exOneD, c.good 1 := by decide
  have h2 : ∀ c ∈ exSplitD, c.good 1 := by decide
  have hs : samples exSplitD = samples exOneD := by decide
  have hr : ∀ v ∈ samples exOneD, Ty.s16.inRange v := by decide +kernel
  exact ⟨rfl, hcode, hrate, h1, h2, hs, hr, by decide +kernel, by decide +kernel, by decide +kernel,
    dwvw_session_accepted ⟨12⟩ {} exGd .s16 exOneD exSplitD _ _ [] rfl hcode hrate h1 h2 hs hr
      (fun v hv => dwvw_range_int {} .s16 (Or.inl rfl) v (hr v hv))⟩

end Sf.C07Bridge2
