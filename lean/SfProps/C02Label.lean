/-
  C02 — codec labels and codec widths (lean/SfModel/Label.lean; campaign vlib/labelcamp.py, `sfmodel label`).

  * `keepOk_meaning`: an accepted `keep` record says that every int read back is the int written cut to its top w bits —
    "integer-to-integer moves keep the most significant bits (… narrowing truncates …)" with the FORMAT's width;
    `keep_cross_container`: two containers that carry the same codec deliver the same ints for the same input;
    `keepTop_idem`, `keepTop_low_zero`: the rule is a projection onto the ints whose low 32 − w bits are zero;
    `keep_rejects_wider`: a 12-bit codec that kept 16 bits (seeded/C02-aiff-dwvw12-init16) is rejected.
  * `voc_writes_spec_label` / `voc_reads_spec_label`: the VOC container model (lean/SfModel/Voc.lean, tied to voc.c by the C04 / C11
    campaigns) stores and accepts exactly the encoding numbers of `Sf.Label.spec` — 4 = 16-bit PCM, 6 = A-law, 7 = u-law —
    `voc_label_swap_rejected`: the transposed pair (seeded/C02-voc-alaw-ulaw-enum-swap) is not what the model reads.
  * `wavex_guid_is_wave_tag`: the first GUID field of the WAVEX model (lean/SfModel/Wavex.lean) is the WAVE format tag of the table.
-/
import SfModel.Label
import SfModel.Wavex
import SfProofs.VocImage
namespace Sf.Label

theorem keepAll_meaning (w : Nat) : ∀ (xs rs : List Int), keepAll w xs rs = true → rs = xs.map (keepTop w)
  | [], [], _ => rfl
  | [], _ :: _, h => by simp [keepAll] at h
  | _ :: _, [], h => by simp [keepAll] at h
  | x :: xs, r :: rs, h => by
    simp only [keepAll, Bool.and_eq_true, beq_iff_eq] at h
    simp [h.1, keepAll_meaning w xs rs h.2]

theorem keepOk_meaning (w : Nat) (xs rs : List Int) (h : keepOk w xs rs = true) :
    1 ≤ w ∧ w ≤ 32 ∧ rs = xs.map (keepTop w) := by
  simp only [keepOk, Bool.and_eq_true, decide_eq_true_eq] at h
  exact ⟨h.1.1, h.1.2, keepAll_meaning w xs rs h.2⟩

/-- "the same stored sample … in every container": two files of one codec written from the same ints read back alike -/
theorem keep_cross_container (w : Nat) (xs r1 r2 : List Int) (h1 : keepOk w xs r1 = true) (h2 : keepOk w xs r2 = true) : r1 = r2 := by
  rw [(keepOk_meaning w xs r1 h1).2.2, (keepOk_meaning w xs r2 h2).2.2]

theorem keepTop_low_zero (w : Nat) (x : Int) : keepTop w x % 2 ^ (32 - w) = 0 := by
  simp [keepTop, Int.mul_emod_left]

theorem keepTop_idem (w : Nat) (x : Int) : keepTop w (keepTop w x) = keepTop w x := by
  have hp : (2 : Int) ^ (32 - w) ≠ 0 := by
    have : (0 : Int) < 2 ^ (32 - w) := Int.pow_pos (by decide)
    omega
  simp [keepTop, asr, Int.mul_ediv_cancel _ hp]

theorem keepTop_32 (x : Int) : keepTop 32 x = x := by simp [keepTop, asr]

/-- a 12-bit codec that keeps 16 bits is rejected (0x12345678 must come back as 0x12300000, not 0x12340000) -/
theorem keep_rejects_wider : keepOk 12 [0x12345678] [0x12340000] = false ∧ keepOk 12 [0x12345678] [0x12300000] = true ∧
    keepOk 16 [0x12345678] [0x12340000] = true := by decide

/-- non-vacuity of `keepOk_meaning` / `keep_cross_container`: negative values, low bits set -/
example : keepOk 12 [0x7FFFFFFF, -1, 0x000FFFFF, -0x12345679] [0x7FF00000, -0x100000, 0, -0x12400000] = true := by decide
example : keepOk 24 [0x7FFFFFFF, -1] [0x7FFFFF00, -0x100] = true := by decide

/-! ## the VOC model carries the specification's labels -/

open Sf.Small2 in
/-- `voc_write_header`: bytes 36, 37 of a type 9 header are the specification's encoding number, for every codec VOC stores that way -/
theorem voc_writes_spec_label (c : Voc.Cfg) (f : Small2.Fields) (h : c.codec = 2 ∨ c.codec = 0x10 ∨ c.codec = 0x11) :
    ∃ v, spec 0x08 c.codec false = some (.num v) ∧ ((Voc.hdr c f).drop 36).take 2 = Small2.le16 v := by
  have h5 : c.codec ≠ 5 := by omega
  refine ⟨Voc.encOf c.codec, by rcases h with h | h | h <;> simp [spec, vocEnc, Voc.encOf, h], ?_⟩
  -- the reader's offset walked through the writer's own concatenation
  simp only [Voc.hdr, if_neg h5, List.append_assoc, drop_app_skip, take_app_head, Voc.fileHdr_length, Voc.le24_length, le32_length, le16_length,
    List.length_cons, List.length_nil, Nat.reduceAdd, Nat.reduceSub, Nat.reduceLeDiff, Nat.le_refl, List.drop_zero]

/-- non-vacuity: an A-law configuration; bytes 36, 37 of its header are 06 00 -/
example : ∃ v, spec 0x08 0x11 false = some (.num v) ∧
    ((Voc.hdr { codec := 0x11, ch := 1, sr := 8000 } { filelength := 47, datalength := 4, frames := 4 }).drop 36).take 2 = Small2.le16 v :=
  voc_writes_spec_label { codec := 0x11, ch := 1, sr := 8000 } _ (Or.inr (Or.inr rfl))

/-- a type 9 block whose encoding field is `e`, 8 bits, one channel, 8000 Hz, 4 audio bytes + terminator -/
def vocFile (e : Nat) : List Byte :=
  Voc.fileHdr ++ [9] ++ Voc.le24 16 ++ Small2.le32 8000 ++ [8, 1] ++ Small2.le16 e ++ Small2.le32 0 ++ [1, 2, 3, 4] ++ [0]

/-- `voc_read_header`: the specification's labels select the specification's codecs … -/
theorem voc_reads_spec_label :
    Voc.readBlock (vocFile 6) = .ok 1 0x11 1 8000 42 46 ∧ spec 0x08 0x11 false = some (.num 6) ∧
    Voc.readBlock (vocFile 7) = .ok 1 0x10 1 8000 42 46 ∧ spec 0x08 0x10 false = some (.num 7) ∧
    Voc.readBlock (vocFile 4) = .ok 1 0x02 2 8000 42 46 ∧ spec 0x08 0x02 false = some (.num 4) := by decide +kernel

/-- … and not each other's: A-law data labelled 7 is not A-law to any reader of the format -/
theorem voc_label_swap_rejected :
    Voc.readBlock (vocFile 7) ≠ .ok 1 0x11 1 8000 42 46 ∧ Voc.readBlock (vocFile 6) ≠ .ok 1 0x10 1 8000 42 46 := by
  obtain ⟨h6, _, h7, _⟩ := voc_reads_spec_label
  rw [h6, h7]; decide

/-- the first field of the sub-format GUID the WAVEX model writes is the WAVE format tag of the table, for every encoding WAVEX carries -/
theorem wavex_guid_is_wave_tag : ∀ codec ∈ Wavex.codecs, spec 0x13 codec false = some (.num (Wavex.guidTag codec)) := by decide

end Sf.Label
