/-
  C12 — the repaired metadata defects (SfModel/MetaFix.lean): full-strength theorems about the current rules,
  `_old_rule` theorems about the rules they replace.

    KF-C12-CUE-NAMES            WAV cue point names (LIST / adtl / labl)       cue_names_roundtrip      cue_names_old_rule
    KF-C12-AIFF-INST-MARK       AIFF MARK chunk when an instrument is set too  aiff_cues_with_inst      aiff_cues_with_inst_old_rule
    KF-C12-AIFF-LATE-REPLACE    AIFF header shortened after the audio          late_replace_audio_in_place   late_replace_old_rule
-/
import SfModel.MetaFix
import SfProps.C12
import SfProps.C12X
namespace Sf.C12Fix
open Sf Sf.Meta Sf.MetaFix

theorem cueText_no_zero (c : Cue) : ∀ b ∈ cueText c, b ≠ 0 := by
  intro b hb
  have h1 : b ∈ cstr c.name := List.mem_of_mem_take hb
  exact cstr_ne_zero _ _ h1

theorem cueText_length (c : Cue) : (cueText c).length ≤ 255 := by
  unfold cueText; rw [List.length_take]; omega

theorem parseLabels_label (fuel : Nat) (c : Cue) (rest : List Byte) (hi : c.indx < 2 ^ 32) :
    parseLabels (fuel + 1) (serLabel c ++ rest) = (c.indx, cueText c) :: parseLabels fuel rest := by
  have hl := cueText_length c
  have hm : (mk "labl").length = 4 := by decide
  generalize ht : cueText c = t at *
  have hz : ∀ b ∈ t, b ≠ 0 := ht ▸ cueText_no_zero c
  have hpad : (t ++ zeros (1 + (t.length + 1) % 2)).length = t.length + 1 + (t.length + 1) % 2 := by simp; omega
  have hn : 4 + t.length + 1 - 4 + (4 + t.length + 1 - 4) % 2 = t.length + 1 + (t.length + 1) % 2 := by omega
  rw [parseLabels]
  -- marker, size and cue id are read by walking the label as it was written
  simp only [serLabel, ht, List.append_assoc, drop_app_skip, take_app_head, hm, le4_length, Nat.reduceLeDiff, Nat.reduceSub, Nat.le_refl,
    List.drop_zero, ofLE_le4 (show 4 + t.length + 1 < 2 ^ 32 by omega), ofLE_le4 hi, hn]
  rw [if_neg (by simp [hm]), if_neg (by decide), if_pos trivial, ← List.append_assoc t,
    if_neg (by simp only [INFO_BUFFER, List.length_append, hpad]; omega), List.take_left' hpad, List.drop_left' hpad,
    show zeros (1 + (t.length + 1) % 2) = 0 :: zeros ((t.length + 1) % 2) by unfold zeros; rw [Nat.add_comm 1]; rfl,
    cstr_append_zero t _ hz]

theorem parseLabels_labels (cs : List Cue) (h : ∀ c ∈ cs, c.indx < 2 ^ 32) (fuel : Nat) :
    parseLabels (cs.length + fuel) (cs.flatMap serLabel) = cs.map fun c => (c.indx, cueText c) := by
  have hnil : parseLabels fuel [] = [] := by cases fuel <;> simp [parseLabels]
  simpa [hnil] using walk_flatMap serLabel parseLabels (fun c => (c.indx, cueText c)) (fun c => c.indx < 2 ^ 32)
    (fun n c rest => parseLabels_label n c rest) cs h [] fuel

theorem serLabel_length_bounds (c : Cue) : 14 ≤ (serLabel c).length ∧ (serLabel c).length ≤ 270 := by
  have := cueText_length c
  simp [serLabel, mk_length, le4_length, zeros]; omega

theorem flatMap_serLabel_length_le (cs : List Cue) : (cs.flatMap serLabel).length ≤ 270 * cs.length := by
  induction cs with
  | nil => simp
  | cons c t ih => simp only [List.flatMap_cons, List.length_append, List.length_cons]; have := (serLabel_length_bounds c).2; omega

theorem readLabels_writeLabels (cs : List Cue) (hn : cs.length ≤ MAX_CUES) (h : ∀ c ∈ cs, c.indx < 2 ^ 32) :
    readLabels (writeLabels cs) = (named cs).map fun c => (c.indx, cueText c) := by
  unfold writeLabels
  by_cases hnone : named cs = []
  · simp [hnone, readLabels, ofLE]
  · rw [if_neg hnone]
    have hnl : (named cs).length ≤ cs.length := List.length_filter_le _ _
    have hpos : 1 ≤ (named cs).length := by
      cases hh : named cs with
      | nil => exact absurd hh hnone
      | cons a l => simp
    have hge := flatMap_length_ge serLabel 14 (named cs) fun c _ => (serLabel_length_bounds c).1
    have hle := flatMap_serLabel_length_le (named cs)
    generalize hb : (named cs).flatMap serLabel = body at *
    have hsize : 4 + body.length < 2 ^ 32 := by unfold MAX_CUES at hn; omega
    have hm : (mk "LIST").length = 4 := by simp [mk_length]
    have ha : (mk "adtl").length = 4 := by simp [mk_length]
    unfold readLabels
    simp only [List.append_assoc]
    rw [chunk_size _ _ _ hm hsize, chunk_payload _ _ _ hm (le4_length _)]
    rw [if_neg (by omega)]
    have htake : (mk "adtl" ++ body).take (4 + body.length) = mk "adtl" ++ body := by
      apply List.take_of_length_le; simp [ha]
    rw [htake]
    have hlen : (mk "adtl" ++ body).length = (body.length + 3) + 1 := by simp [ha]; omega
    rw [hlen]
    rw [parseLabels]
    rw [if_neg (by simp [ha]), List.take_left' ha, if_pos rfl, List.drop_left' ha]
    have hfuel : body.length + 3 = (named cs).length + (body.length + 3 - (named cs).length) := by omega
    rw [hfuel, ← hb]
    exact parseLabels_labels (named cs) (fun c hc => h c (List.mem_filter.1 hc).1) _

theorem applyLabels_cons (hd : Cue) (tl : List Cue) (ls : List (Nat × List Byte)) (h : ∀ l ∈ ls, l.1 ≠ hd.indx) :
    applyLabels (hd :: tl) ls = hd :: applyLabels tl ls := by
  induction ls generalizing tl with
  | nil => rfl
  | cons l r ih =>
    have h1 : hd.indx ≠ l.1 := fun e => h l (by simp) e.symm
    simp only [applyLabels, List.foldl_cons, setName, if_neg h1]
    exact ih _ (fun x hx => h x (by simp [hx]))

theorem strip_eq_norm_of_unnamed (c : Cue) (h : cueText c = []) : c.stripName = Cue.normName c := by
  simp [Cue.stripName, Cue.normName, h]

/-- every label finds its cue point when the ids are distinct -/
theorem applyLabels_named (cs : List Cue) (hd : (cs.map (·.indx)).Nodup) :
    applyLabels (cs.map Cue.stripName) ((named cs).map fun c => (c.indx, cueText c)) = cs.map Cue.normName := by
  induction cs with
  | nil => rfl
  | cons c t ih =>
    simp only [List.map_cons, List.nodup_cons] at hd
    obtain ⟨hc, ht⟩ := hd
    have hids : ∀ l ∈ (named t).map (fun c => (c.indx, cueText c)), l.1 ≠ (Cue.stripName c).indx := by
      intro l hl e
      obtain ⟨x, hx, rfl⟩ := List.mem_map.1 hl
      exact hc (List.mem_map.2 ⟨x, (List.mem_filter.1 hx).1, e⟩)
    by_cases hn : cueText c = []
    · have : named (c :: t) = named t := by simp [named, hn]
      rw [this, List.map_cons, applyLabels_cons _ _ _ hids, ih ht, List.map_cons, strip_eq_norm_of_unnamed c hn]
    · have : named (c :: t) = c :: named t := by simp [named, hn]
      rw [this, List.map_cons, List.map_cons]
      simp only [applyLabels, List.foldl_cons, setName, Cue.stripName, if_true]
      have hids2 : ∀ l ∈ (named t).map (fun c => (c.indx, cueText c)), l.1 ≠ ({ c with name := cueText c } : Cue).indx := hids
      have := applyLabels_cons ({ c with name := cueText c } : Cue) (t.map Cue.stripName) _ hids2
      simp only [applyLabels] at this ih
      rw [this, ih ht]
      simp [Cue.normName]

/-- Repaired writer: 0 … 2500 cue points with pairwise distinct ids (the RIFF
    specification requires unique cue point ids) come back with every field AND every name — the name as a C string of at most
    255 bytes, which is the one normalisation `SF_CUE_POINT.name [256]` imposes. -/
theorem cue_names_roundtrip (cs : List Cue) (hn : cs.length ≤ MAX_CUES) (h : ∀ c ∈ cs, c.wf) (hd : (cs.map (·.indx)).Nodup) :
    reopenCues cs = some (cs.map Cue.normName) := by
  unfold reopenCues reopenCuesWith
  rw [cue_roundtrip cs hn h, readLabels_writeLabels cs hn (fun c hc => (h c hc).1)]
  simp only [Option.map_some]
  rw [applyLabels_named cs hd]

/-- non-vacuity: a named and an unnamed cue point, and a name with an even and an odd length -/
example : reopenCues [⟨1, 10, 0x61746164, 0, 0, 10, ascii "one"⟩, ⟨7, 20, 0x61746164, 1, 2, 3, []⟩, ⟨9, 30, 0x61746164, 0, 0, 30, ascii "even"⟩]
    = some [⟨1, 10, 0x61746164, 0, 0, 10, ascii "one"⟩, ⟨7, 20, 0x61746164, 1, 2, 3, []⟩, ⟨9, 30, 0x61746164, 0, 0, 30, ascii "even"⟩] :=
  (cue_names_roundtrip _ (by decide) (by decide) (by decide)).trans (by decide +kernel)

/-- the rule before the repair: no label was written, every name came back empty -/
theorem cue_names_old_rule (cs : List Cue) (hn : cs.length ≤ MAX_CUES) (h : ∀ c ∈ cs, c.wf) :
    reopenCuesOld cs = some (cs.map Cue.stripName) := by
  unfold reopenCuesOld reopenCuesWith
  rw [cue_roundtrip cs hn h]
  simp [writeLabelsOld, readLabels, applyLabels, ofLE]

/-- … so the full statement failed for the old rule (witness: one cue point called "a") -/
theorem cue_names_lost_old_rule :
    reopenCuesOld [⟨1, 10, 0x61746164, 0, 0, 10, [97]⟩] ≠ some [Cue.normName ⟨1, 10, 0x61746164, 0, 0, 10, [97]⟩] := by decide

/-- repaired: whether or not an instrument was set, up to 2500 markers with 16-bit ids and names of at most 253 bytes come back -/
theorem aiff_cues_with_inst (inst : Bool) (cs : List Cue) (hn : cs.length ≤ 2500) (h : ∀ c ∈ cs, (MetaX.markOfCue c).ok) :
    aiffCues inst (some cs) = some ((cs.map MetaX.markOfCue).map MetaX.cueOfMark) := by
  have hr := MetaX.mark_roundtrip (cs.map MetaX.markOfCue) (by simpa using hn)
    (fun m hm => by obtain ⟨c, hc, rfl⟩ := List.mem_map.1 hm; exact h c hc)
  simp [aiffCues, aiffCuesWith, aiffMarkWritten, hr]

/-- the rule before the repair: with an instrument set, the cue points were lost (and without one they survived) -/
theorem aiff_cues_with_inst_old_rule (cs : List Cue) :
    aiffCuesOld true (some cs) = none ∧ aiffCuesOld false (some cs) = aiffCues false (some cs) := by
  simp [aiffCuesOld, aiffCues, aiffCuesWith, aiffMarkWrittenOld, aiffMarkWritten]

example : aiffCues true (some [⟨1, 0, 0, 0, 0, 10, ascii "one"⟩]) = some [⟨1, 0, 0x61746164, 0, 0, 10, ascii "one"⟩] := by decide +kernel

theorem ssndHeader_length (pad datalen : Nat) : (ssndHeader pad datalen).length = 16 + pad := by
  simp [ssndHeader, mk_length, MetaX.be4, beBytes, zeros, leBytes]; omega

/-- Repaired rule: whatever header is assembled at close, as long as it is not longer than the
    one the audio was written behind, the reader finds the audio exactly where it was written, byte for byte. -/
theorem late_replace_audio_in_place (hdrNew oldFile : List Byte) (dataoffset datalen : Nat)
    (hshort : hdrNew.length + 16 ≤ dataoffset) :
    audioStart hdrNew.length (ssndPad true hdrNew.length dataoffset) = dataoffset ∧
    (closeImage (ssndPad true hdrNew.length dataoffset) hdrNew oldFile datalen).drop dataoffset = oldFile.drop dataoffset := by
  have hp : hdrNew.length + 16 + ssndPad true hdrNew.length dataoffset = dataoffset := by
    unfold ssndPad; simp only [true_and]; split <;> omega
  refine ⟨hp, ?_⟩
  unfold closeImage
  have hl : (hdrNew ++ ssndHeader (ssndPad true hdrNew.length dataoffset) datalen).length = dataoffset := by
    rw [List.length_append, ssndHeader_length]; omega
  rw [hl, List.drop_append_of_le_length (by omega), List.drop_of_length_le (by omega), List.nil_append]

/-- the rule before the repair: the SSND chunk header followed the shorter header directly, the reader took the bytes
    behind it — the rest of the OLD header — for audio -/
theorem late_replace_old_rule :
    audioStart 40 (ssndPadOld true 40 70) ≠ 70 ∧ audioStart 40 (ssndPad true 40 70) = 70 := by decide

example : ssndPad true 40 70 = 14 ∧ ssndPad true 54 70 = 0 ∧ ssndPad false 40 70 = 0 ∧
    (closeImage 2 [1, 2] ([9, 9] ++ List.replicate 18 8 ++ [5, 6, 7]) 3).drop 20 = [5, 6, 7] := by decide

end Sf.C12Fix
