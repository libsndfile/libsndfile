/-
  C07 — output bytes are independent of how writes are split
  (sample-granular encodings in the containers whose header bytes are modelled: RAW, AU, WAV).

  Main results
  * `kernel_append`            : encoding distributes over concatenation (all encodings, all settings).
  * `write_partition_store`    : two consecutive write calls = one call with the concatenated buffer,
                                 handle and store, on every state satisfying the writer invariant `WInv`.
  * `file_bytes_fn`            : the closed file is a function of (open parameters, concatenated encoded bytes,
                                 PEAK state) — item / frame call variants and interleaved SFC_UPDATE_HEADER_NOW included.
  * `file_bytes_partition_partial` : for every format without a PEAK chunk the file depends only on the concatenation.
  * `file_bytes_partition_finite` : the full statement holds for PEAK-carrying files too, for every history of finite
                                 samples (under the rule before the repairs of KF-C18-DOUBLE-NARROW /
                                 KF-C18-STAGING-MISALIGN the PEAK chunk depended on the split:
                                 `Sf.C18.peak_partition_old_rule_fails`); the audio data do not depend on the
                                 split, finite samples or not (`file_data_partition`).
-/
import SfProofs.PeakFile
import SfProofs.CodecTwo
namespace Sf.C07
open Sf

/-- `enc (xs ++ ys) = enc xs ++ enc ys`, every encoding, every caller type, every conversion setting -/
theorem kernel_append (e : Enc) (c : Conv) (ty : Ty) (xs ys : List Int) :
    e.encodeAll c ty (xs ++ ys) = e.encodeAll c ty xs ++ e.encodeAll c ty ys :=
  Enc.encodeAll_append e c ty xs ys

theorem kernel_flatten (e : Enc) (c : Conv) (ty : Ty) (xss : List (List Int)) :
    e.encodeAll c ty xss.flatten = (xss.map (e.encodeAll c ty)).flatten :=
  Enc.encodeAll_flatten e c ty xss

example : (Enc.pcm ⟨24, false, true⟩).encodeAll {} .s16 ([1, -2] ++ [3]) = [0, 1, 0, 0xFF, 0xFE, 0, 0, 3, 0] := by decide

/-- `WInv` holds right after a successful open for write on an empty store (RAW, AU, WAV) -/
theorem winv_initial (si : Nat) (fmt : Nat) (ch sr : Int) (h : H) (s : Store)
    (ho : openHandle si {} .w fmt ch sr = .ok h s) : WInv h s s.bytes [] :=
  (open_winv si {} rfl fmt ch sr h s ho).1

/-- every well-formed write call (items or frames variant, zero count included) and every
    SFC_UPDATE_HEADER_NOW preserves `WInv`, appending exactly the encoded samples to the data -/
theorem winv_step (h : H) (s : Store) (hdr dat : List Byte) (inv : WInv h s hdr dat) (op : WOp) (o : op.ok h) :
    ∃ hdr', WInv (stepW (h, s) op).1 (stepW (h, s) op).2 hdr' (dat ++ op.bytes h.enc h.conv) :=
  let ⟨hdr', i, _⟩ := stepW_spec h s hdr dat inv op o
  ⟨hdr', i⟩

/-- For a handle in write mode satisfying the invariant, two consecutive valid calls (any mix of item and frame
    variants) with `xs` then `ys` leave exactly the same handle (all fields: wpos, frames, lengths, PEAK …) and the same
    store (all bytes, position) as one items call with `xs ++ ys` — automatic header updates
    (SFC_SET_UPDATE_HEADER_AUTO) included — provided the PEAK bookkeeping agrees (`PeakAgree`). -/
theorem write_partition_store (h : H) (s : Store) (hdr dat : List Byte) (inv : WInv h s hdr dat) (ty : Ty)
    (fc1 : Bool) (n1 : Int) (xs : List Int) (fc2 : Bool) (n2 : Int) (ys : List Int)
    (v1 : ValidW h fc1 n1 xs) (v2 : ValidW h fc2 n2 ys) (hpk : PeakAgree h ty xs ys) :
    let r1 := stepWrite h s ty fc1 n1 xs
    let r2 := stepWrite r1.1 r1.2.1 ty fc2 n2 ys
    let r := stepWrite h s ty false (callLen h fc1 n1 + callLen h fc2 n2) (xs ++ ys)
    r2.1 = r.1 ∧ r2.2.1 = r.2.1 := by
  intro r1 r2 r
  have inv1 := stepWrite_winv h s hdr dat inv ty fc1 n1 xs v1
  have e1 := stepWrite_spec h s hdr dat inv ty fc1 n1 xs v1
  have hch1 : r1.1.ch = h.ch := by simp only [r1, e1]; rw [wrH_fields]; rfl
  have v2' : ValidW r1.1 fc2 n2 ys := ValidW.congr h _ hch1 fc2 n2 ys v2
  have e2 := stepWrite_spec r1.1 r1.2.1 _ _ inv1 ty fc2 n2 ys v2'
  have hd1 := ValidW.len_mod h fc1 n1 xs v1
  have hd2 := ValidW.len_mod h fc2 n2 ys v2
  have hp1 := v1.callLen_pos inv.ch_pos
  have hp2 := v2.callLen_pos inv.ch_pos
  have v : ValidW h false (callLen h fc1 n1 + callLen h fc2 n2) (xs ++ ys) := by
    refine ⟨by omega, fun _ => ?_, ?_⟩
    · rw [← v1.len, ← v2.len, Int.add_emod, hd1, hd2]; simp
    · rw [List.length_append]; push_cast; rw [v1.len, v2.len]; rfl
  have e := stepWrite_spec h s hdr dat inv ty false _ (xs ++ ys) v
  have hl := inv.peak_len
  have hfl : r1.2.1.bytes.length + (r1.1.enc.encodeAll r1.1.conv ty ys).length
      = s.bytes.length + (h.enc.encodeAll h.conv ty (xs ++ ys)).length := by
    simp only [r1, e1, wrH_enc, wrH_conv, wrMid, List.length_append, Enc.encodeAll_append]
    rw [wrHdr_length _ _ _ _ _ hl inv.hdr_len, inv.bytes, List.length_append, inv.hdr_len]; omega
  simp only [r2, r, e2, e, hfl]
  simp only [r1, e1]
  refine ⟨wrH_wrH h ty xs ys _ _ hd1 hl inv.doff hpk, ?_⟩
  rw [wrHdr_wrHdr h ty xs ys _ _ hdr hd1 hl inv.doff hpk]
  simp only [wrH_enc, wrH_conv, wrMid, Enc.encodeAll_append, List.append_assoc, List.length_append, Nat.add_assoc]

/-- unconditional for RAW, AU and WAV without PEAK chunk (integer PCM, µ-law, A-law): `h.peak = none` -/
theorem write_partition_store_nopeak (h : H) (s : Store) (hdr dat : List Byte) (inv : WInv h s hdr dat) (ty : Ty)
    (fc1 : Bool) (n1 : Int) (xs : List Int) (fc2 : Bool) (n2 : Int) (ys : List Int)
    (v1 : ValidW h fc1 n1 xs) (v2 : ValidW h fc2 n2 ys) (hp : h.peak = none) :
    let r1 := stepWrite h s ty fc1 n1 xs
    let r2 := stepWrite r1.1 r1.2.1 ty fc2 n2 ys
    let r := stepWrite h s ty false (callLen h fc1 n1 + callLen h fc2 n2) (xs ++ ys)
    r2.1 = r.1 ∧ r2.2.1 = r.2.1 :=
  write_partition_store h s hdr dat inv ty fc1 n1 xs fc2 n2 ys v1 v2 (PeakAgree_of_none h ty xs ys hp)

/-- non-vacuity: a stereo 16-bit AU file, one frames call then one items call vs. one items call -/
example :
    (match openHandle 0 {} .w 0x030002 2 44100 with
     | .ok h s =>
        let r1 := stepWrite h s .s16 true 1 [1, 2]
        let r2 := stepWrite r1.1 r1.2.1 .s16 false 4 [3, 4, 5, 6]
        let r := stepWrite h s .s16 false 6 [1, 2, 3, 4, 5, 6]
        decide (r2.2.1.bytes = r.2.1.bytes ∧ r.2.1.bytes.length = 36 ∧ r2.1.wpos = 3)
     | _ => false) = true := by decide +kernel

/-- The closed file is `closeForm` of: the handle as opened, the frame count implied by the byte count, the
    PEAK state (`peakRun`) and the concatenation of the encoded bytes of the calls.  Nothing else of the call
    sequence enters: not the split, not the item/frame variant, not zero-count calls, not header updates. -/
theorem file_bytes_fn (fmt : Nat) (ch sr : Int) (h : H) (s : Store) (ho : openHandle 0 {} .w fmt ch sr = .ok h s)
    (ops : List WOp) (hok : ∀ op ∈ ops, op.ok h) :
    closeBytes fmt ch sr ops =
      some (closeForm { h with frames := ((ops.flatMap (WOp.bytes h.enc h.conv)).length : Int) / ((h.enc.nbytes * h.ch : Nat) : Int),
                               peak := peakRun h.enc h.conv h.ch h.peak 0 ops }
              (ops.flatMap (WOp.bytes h.enc h.conv))) :=
  closeBytes_eq fmt ch sr h s ho ops hok

/-- two call sequences with the same encoded byte stream and the same PEAK state give the same file -/
theorem file_bytes_partition_peak (fmt : Nat) (ch sr : Int) (h : H) (s : Store)
    (ho : openHandle 0 {} .w fmt ch sr = .ok h s) (ops1 ops2 : List WOp)
    (hok1 : ∀ op ∈ ops1, op.ok h) (hok2 : ∀ op ∈ ops2, op.ok h)
    (hb : ops1.flatMap (WOp.bytes h.enc h.conv) = ops2.flatMap (WOp.bytes h.enc h.conv))
    (hp : peakRun h.enc h.conv h.ch h.peak 0 ops1 = peakRun h.enc h.conv h.ch h.peak 0 ops2) :
    closeBytes fmt ch sr ops1 = closeBytes fmt ch sr ops2 := by
  rw [closeBytes_eq fmt ch sr h s ho ops1 hok1, closeBytes_eq fmt ch sr h s ho ops2 hok2, hb, hp]

/-- the single items call that hands over all samples of `ops` at once -/
def oneCall (ty : Ty) (ops : List WOp) : WOp :=
  .write ty false (ops.flatMap WOp.samples).length (ops.flatMap WOp.samples)

/-- C07 as stated, for one caller type `ty`: any list of well-formed calls (items and frames variants, any split,
    SFC_UPDATE_HEADER_NOW anywhere in between) closes to the same bytes as one call with the concatenation. -/
def file_bytes_partition_full : Prop :=
  ∀ (fmt : Nat) (ch sr : Int) (h : H) (s : Store), openHandle 0 {} .w fmt ch sr = .ok h s →
    ∀ (ty : Ty) (ops : List WOp), (∀ op ∈ ops, op.ok h) → (∀ op ∈ ops, op.hasTy ty) →
      closeBytes fmt ch sr ops = closeBytes fmt ch sr [oneCall ty ops]

/-- it holds for every format that does not carry a PEAK chunk (RAW, AU, WAV integer PCM / µ-law / A-law) -/
theorem file_bytes_partition_partial (fmt : Nat) (ch sr : Int) (h : H) (s : Store)
    (ho : openHandle 0 {} .w fmt ch sr = .ok h s) (hnp : carriesPeak fmt = false)
    (ty : Ty) (ops : List WOp) (hok : ∀ op ∈ ops, op.ok h) (ht : ∀ op ∈ ops, op.hasTy ty) :
    closeBytes fmt ch sr ops = closeBytes fmt ch sr [oneCall ty ops] := by
  have hp := open_peak_none 0 {} fmt ch sr h s ho hnp
  have hok1 : ∀ op ∈ [oneCall ty ops], op.ok h := by
    intro op hop; simp only [List.mem_singleton] at hop; subst hop; exact single_ok h ty ops hok
  apply file_bytes_partition_peak fmt ch sr h s ho ops _ hok hok1
  · rw [ops_bytes_eq _ _ ty ops ht, ops_bytes_eq _ _ ty [oneCall ty ops] (by simp [oneCall, WOp.hasTy])]
    simp only [oneCall, List.flatMap_cons, List.flatMap_nil, List.append_nil, WOp.samples_whole]
  · rw [hp, peakRun_none, peakRun_none]

/-- the splits form used in DESIGN §7: a list of buffers, each written with an items call -/
theorem file_bytes_partition_splits (fmt : Nat) (ch sr : Int) (h : H) (s : Store)
    (ho : openHandle 0 {} .w fmt ch sr = .ok h s) (hnp : carriesPeak fmt = false) (ty : Ty)
    (splits : List (List Int)) (hs : ∀ xs ∈ splits, (xs.length : Int) % h.ch = 0) :
    closeBytes fmt ch sr (splits.map fun xs => .write ty false xs.length xs) =
      closeBytes fmt ch sr [.write ty false splits.flatten.length splits.flatten] := by
  have hok : ∀ op ∈ splits.map (fun xs => WOp.write ty false xs.length xs), op.ok h := by
    intro op hop
    simp only [List.mem_map] at hop
    obtain ⟨xs, hx, rfl⟩ := hop
    by_cases h0 : (xs.length : Int) = 0
    · exact Or.inl h0
    · exact Or.inr ⟨by omega, fun _ => hs xs hx, rfl⟩
  have ht : ∀ op ∈ splits.map (fun xs => WOp.write ty false xs.length xs), op.hasTy ty := by
    intro op hop
    simp only [List.mem_map] at hop
    obtain ⟨xs, _, rfl⟩ := hop
    rfl
  have hsm : (splits.map fun xs => WOp.write ty false xs.length xs).flatMap WOp.samples = splits.flatten := by
    clear hok ht hs
    induction splits with
    | nil => rfl
    | cons x xs ih => simp only [List.map_cons, List.flatMap_cons, List.flatten_cons, ih, WOp.samples_whole]
  have := file_bytes_partition_partial fmt ch sr h s ho hnp ty _ hok ht
  rw [this, oneCall, hsm]

/-- non-vacuity / concrete instance: 3 splits (frames call, header update, items calls) of a mono 24-bit WAV -/
example : closeBytes 0x010003 1 8000 [.write .s32 true 1 [256], .updHeader 0, .write .s32 false 2 [512, -256], .write .s32 false 0 []]
    = closeBytes 0x010003 1 8000 [.write .s32 false 3 [256, 512, -256]] := by decide +kernel

/-! ## PEAK-carrying files (WAV float / double)

Before the repairs of KF-C18-DOUBLE-NARROW and KF-C18-STAGING-MISALIGN the PEAK *position* depended on the split
(`Sf.C18.peak_partition_old_rule_fails`: a = 1 + 2⁻³⁰ then b = 1 + 2⁻³¹ in one call gave position 1, in two calls position 0;
`Sf.C18.staging_misaligned_old_rule`).  With the running maximum kept in the sample's type and staging buffers of whole
frames the PEAK state is a function of the samples (`Sf.Peak.run_partition`), so the full statement holds for every
history of finite samples.  Non-finite samples (NaN / ±Inf, also a finite double that overflows a FLOAT file) are outside
the quantifier of every property: the C comparisons with NaN are all false, which *is* partition dependent, and the model's
order on such patterns is not the C one. -/

/-- every sample handed over is finite in the file's sample type -/
def FiniteOps (h : H) (ty : Ty) (ops : List WOp) : Prop :=
  ∀ x ∈ ops.flatMap WOp.samples, (Peak.fileFmt h.enc).isFinite (Peak.convVal h.enc h.conv ty x) = true

/-- **C07 at full strength, PEAK-carrying files included**: any list of well-formed calls of finite samples (items and
    frames variants, any split, SFC_UPDATE_HEADER_NOW anywhere in between) closes to the same bytes as one call with the
    concatenation. -/
theorem file_bytes_partition_finite (fmt : Nat) (ch sr : Int) (h : H) (s : Store)
    (ho : openHandle 0 {} .w fmt ch sr = .ok h s)
    (ty : Ty) (ops : List WOp) (hok : ∀ op ∈ ops, op.ok h) (ht : ∀ op ∈ ops, op.hasTy ty) (hfin : FiniteOps h ty ops) :
    closeBytes fmt ch sr ops = closeBytes fmt ch sr [oneCall ty ops] := by
  have hok1 : ∀ op ∈ [oneCall ty ops], op.ok h := by
    intro op hop; simp only [List.mem_singleton] at hop; subst hop; exact single_ok h ty ops hok
  have ht1 : ∀ op ∈ [oneCall ty ops], op.hasTy ty := by simp [oneCall, WOp.hasTy]
  have hs1 : [oneCall ty ops].flatMap WOp.samples = ops.flatMap WOp.samples := by
    simp only [oneCall, List.flatMap_cons, List.flatMap_nil, List.append_nil, WOp.samples_whole]
  apply file_bytes_partition_peak fmt ch sr h s ho ops _ hok hok1
  · rw [ops_bytes_eq _ _ ty ops ht, ops_bytes_eq _ _ ty [oneCall ty ops] ht1, hs1]
  · obtain ⟨inv, _⟩ := open_winv 0 {} rfl fmt ch sr h s ho
    rw [(open_props 0 {} fmt ch sr h s ho).peak]
    split
    · rename_i hx
      rw [Peak.peakRun_eq_run, Peak.peakRun_eq_run]
      apply Peak.run_partition h.enc hx.2 h.conv h.ch inv.ch_pos
      · rw [Peak.toCalls_fileVals _ _ ty ops ht, Peak.toCalls_fileVals _ _ ty _ ht1, hs1]
      · exact Peak.toCalls_wellFormed h inv.ch_pos ty ops hok ht hfin
      · exact Peak.toCalls_wellFormed h inv.ch_pos ty _ hok1 ht1 (by rw [hs1]; exact hfin)
    · rw [peakRun_none, peakRun_none]

def wa : Int := 0x3FF0000000400000   -- 1 + 2^-30
def wb : Int := 0x3FF0000000200000   -- 1 + 2^-31

/-- the witness that separated the two splits under the old rule (`Sf.C18.peak_partition_old_rule_fails`): the same file -/
example : closeBytes 0x010007 1 8000 [.write .f64 false 2 [wa, wb]] =
    closeBytes 0x010007 1 8000 [.write .f64 false 1 [wa], .write .f64 false 1 [wb]] := by decide +kernel

/-- the audio data depend on the concatenation alone, finite samples or not: behind a header whose length the open
    fixes (`hdrLenOf h`) the closed file holds the concatenated encoded bytes -/
theorem file_data_partition (fmt : Nat) (ch sr : Int) (h : H) (s : Store)
    (ho : openHandle 0 {} .w fmt ch sr = .ok h s) (ops : List WOp) (hok : ∀ op ∈ ops, op.ok h) :
    ∃ file, closeBytes fmt ch sr ops = some file ∧
      (file.drop (hdrLenOf h)).take (ops.flatMap (WOp.bytes h.enc h.conv)).length = ops.flatMap (WOp.bytes h.enc h.conv) := by
  refine ⟨_, closeBytes_eq fmt ch sr h s ho ops hok, ?_⟩
  have hl : hdrLenOf h = hdrLenOf ({ h with
      frames := ((ops.flatMap (WOp.bytes h.enc h.conv)).length : Int) / ((h.enc.nbytes * h.ch : Nat) : Int),
      peak := peakRun h.enc h.conv h.ch h.peak 0 ops } : H) := by
    obtain ⟨inv, _⟩ := open_winv 0 {} rfl fmt ch sr h s ho
    exact (hdrLenOf_congr h ({ h with
      frames := ((ops.flatMap (WOp.bytes h.enc h.conv)).length : Int) / ((h.enc.nbytes * h.ch : Nat) : Int),
      peak := peakRun h.enc h.conv h.ch h.peak 0 ops } : H) rfl rfl rfl (peakRun_maplen _ _ _ ops h.peak 0 inv.peak_len)).symm
  rw [hl]
  exact closeForm_data _ _

end Sf.C07
