-- properties: C01 C04 C07 C11
/-
  The WHOLE-FILE byte-level facts of the XI delta coders (DPCM_16, DPCM_8; xi.c, state `last_16`): any number of write calls,
  each started from the `last_16` the call before left, writes the bytes ONE call with the concatenated samples writes
  (`run_eq_one_call`, C07); `Dpcm.read` over those bytes gives the codec values of the samples back (`decode_data_16/8`) — all
  wrap-around cases of the delta arithmetic, the two-byte grouping and the sign extension included; on a short / int that
  meets the side condition of C01 the codec value converts back to the caller's value (`out16_cur16` / `out8_cur8`).
  Through the model's reader `DpcmR`: `back`, the requested region of a read on a fresh handle, begins with those values
  (`back_data`).  The XI job of SfProps/C07Bridge3.lean is built from `data` and `back`.
-/
import Mathlib.Tactic.NormNum
import SfModel.BlockFile
import SfProofs.Dpcm
import SfProofs.Codec
import SfProofs.AbsWriteBridge
namespace Sf.AbsWriteBridge.Dpcm3
open Sf Sf.Block Sf.Block.Proofs Sf.AbsWriteBridge

def R16 (x : Int) : Prop := -32768 ≤ x ∧ x ≤ 32767

theorem wrapS16_id (x : Int) (h : R16 x) : wrapS 16 x = x := wrapS_of_range 16 x (by have := h.1; omega) (by have := h.2; omega)

theorem sext16_ofLE (d : Int) : sext 16 (ofLE (leBytes 2 (wrapU 16 d))) = wrapS 16 d := by
  rw [ofLE_leBytes, Nat.mod_eq_of_lt (wrapU_lt_pow 16 d), sext_wrapU 16 (by decide)]

/-- the 8-bit coder's view of `last_16` -/
def st8 (l : Int) : Int := wrapS 8 (asr l 8)

theorem st8_mul (m : Int) (h : wrapS 8 m = m) : st8 (m * 256) = m := by
  unfold st8 asr
  rw [show (2 : Int) ^ 8 = 256 from rfl, Int.mul_ediv_cancel m (by decide), h]

theorem cur8_wrapS (cv : Conv) (ty : Ty) (v : Int) : wrapS 8 (Dpcm.cur8 cv ty v) = Dpcm.cur8 cv ty v := by
  cases ty <;> exact wrapS_wrapS 8 _

theorem write_wide (cv : Conv) (ty : Ty) (l : Int) (vs : List Int) :
    Dpcm.write true cv ty l vs = ((delta 16 l (vs.map (Dpcm.cur16 cv ty))).1,
      (delta 16 l (vs.map (Dpcm.cur16 cv ty))).2.flatMap fun d => leBytes 2 (wrapU 16 d)) := by
  simp [Dpcm.write, delta16_eq]

theorem write_narrow (cv : Conv) (ty : Ty) (l : Int) (vs : List Int) :
    Dpcm.write false cv ty l vs = ((delta 8 (st8 l) (vs.map (Dpcm.cur8 cv ty))).1 * 256,
      (delta 8 (st8 l) (vs.map (Dpcm.cur8 cv ty))).2.map fun d => wrapU 8 d) := by
  simp [Dpcm.write, st8, delta8_eq]

/-- a `last_16` as a write call of the 8-bit coder leaves it: a multiple of 256 whose top byte is a signed char -/
def Good8 (l : Int) : Prop := ∃ m, wrapS 8 m = m ∧ l = m * 256

theorem delta8_cur8_state (cv : Conv) (ty : Ty) (l : Int) (vs : List Int) :
    wrapS 8 (delta 8 (st8 l) (vs.map (Dpcm.cur8 cv ty))).1 = (delta 8 (st8 l) (vs.map (Dpcm.cur8 cv ty))).1 :=
  delta_state 8 (fun m => wrapS 8 m = m) _ _ (wrapS_wrapS 8 _) (List.forall_mem_map.2 fun v _ => cur8_wrapS cv ty v)

theorem write_narrow_good (cv : Conv) (ty : Ty) (l : Int) (vs : List Int) : Good8 (Dpcm.write false cv ty l vs).1 := by
  rw [write_narrow]
  exact ⟨_, delta8_cur8_state cv ty l vs, rfl⟩

/-- two calls are one call with the concatenation, from any `last_16`: the 8-bit coder reads only its top byte (`st8`), and
    the state the first call leaves is a multiple of 256 (`delta8_cur8_state`) -/
theorem write_append (wide : Bool) (cv : Conv) (ty : Ty) (l : Int) (xs ys : List Int) :
    Dpcm.write wide cv ty l (xs ++ ys) =
      ((Dpcm.write wide cv ty (Dpcm.write wide cv ty l xs).1 ys).1,
        (Dpcm.write wide cv ty l xs).2 ++ (Dpcm.write wide cv ty (Dpcm.write wide cv ty l xs).1 ys).2) := by
  cases wide with
  | true =>
    simp only [write_wide, List.map_append]
    obtain ⟨h1, h2⟩ := delta_append 16 (xs.map (Dpcm.cur16 cv ty)) l (ys.map (Dpcm.cur16 cv ty))
    rw [h1, h2, List.flatMap_append]
  | false =>
    simp only [write_narrow, List.map_append]
    rw [st8_mul _ (delta8_cur8_state cv ty l xs)]
    obtain ⟨h1, h2⟩ := delta_append 8 (xs.map (Dpcm.cur8 cv ty)) (st8 l) (ys.map (Dpcm.cur8 cv ty))
    rw [h1, h2, List.map_append]

/-- the writer over the calls of a run: (`last_16`, the bytes appended to the file so far) -/
def step (wide : Bool) (cv : Conv) (ty : Ty) (s : Int × List Byte) (k : LCall) : Int × List Byte :=
  ((Dpcm.write wide cv ty s.1 k.xs).1, s.2 ++ (Dpcm.write wide cv ty s.1 k.xs).2)

def run (wide : Bool) (cv : Conv) (ty : Ty) (cs : List LCall) : Int × List Byte := cs.foldl (step wide cv ty) (0, [])

/-- the data region of a run (XI writes nothing else behind its headers) -/
def data (wide : Bool) (cv : Conv) (ty : Ty) (cs : List LCall) : List Byte := (run wide cv ty cs).2

/-- an empty call leaves `last_16` alone — for the 8-bit coder only a `Good8` one, since it stores back `st8 l * 256` -/
theorem write_nil (wide : Bool) (cv : Conv) (ty : Ty) (l : Int) (hl : wide = true ∨ Good8 l) :
    Dpcm.write wide cv ty l [] = (l, []) := by
  cases wide with
  | true => simp [write_wide, delta]
  | false =>
    rcases hl with h | ⟨m, hm, rfl⟩
    · cases h
    · simp [write_narrow, delta, st8_mul m hm]

theorem fold_eq (wide : Bool) (cv : Conv) (ty : Ty) : ∀ (cs : List LCall) (l : Int) (acc : List Byte), (wide = true ∨ Good8 l) →
    cs.foldl (step wide cv ty) (l, acc) = ((Dpcm.write wide cv ty l (samples cs)).1, acc ++ (Dpcm.write wide cv ty l (samples cs)).2)
  | [], l, acc, hl => by
    simp only [List.foldl_nil, samples, List.flatMap_nil]
    rw [write_nil wide cv ty l hl]; simp
  | c :: cs, l, acc, hl => by
    have hl2 : wide = true ∨ Good8 (Dpcm.write wide cv ty l c.xs).1 := by
      cases wide with
      | true => exact Or.inl rfl
      | false => exact Or.inr (write_narrow_good cv ty l c.xs)
    have hs : samples (c :: cs) = c.xs ++ samples cs := by simp [samples]
    rw [List.foldl_cons, hs, write_append wide cv ty l]
    show cs.foldl (step wide cv ty) ((Dpcm.write wide cv ty l c.xs).1, acc ++ (Dpcm.write wide cv ty l c.xs).2) = _
    rw [fold_eq wide cv ty cs _ _ hl2, List.append_assoc]

/-- **C07 at the byte level**: the data region of any run is what ONE call with the concatenated samples writes -/
theorem run_eq_one_call (wide : Bool) (cv : Conv) (ty : Ty) (cs : List LCall) :
    run wide cv ty cs = Dpcm.write wide cv ty 0 (samples cs) := by
  have h := fold_eq wide cv ty cs 0 [] (by
    cases wide with
    | true => exact Or.inl rfl
    | false => exact Or.inr ⟨0, by decide, by simp⟩)
  unfold run
  rw [h]; simp

theorem data_eq (wide : Bool) (cv : Conv) (ty : Ty) (cs : List LCall) :
    data wide cv ty cs = (Dpcm.write wide cv ty 0 (samples cs)).2 := congrArg Prod.snd (run_eq_one_call wide cv ty cs)

theorem data_length (wide : Bool) (cv : Conv) (ty : Ty) (cs : List LCall) :
    (data wide cv ty cs).length = (samples cs).length * (if wide then 2 else 1) := by
  rw [data_eq]
  cases wide with
  | true =>
    rw [write_wide]
    simp [List.length_flatMap, leBytes_length, List.map_const', delta_length]
  | false =>
    rw [write_narrow]
    simp [delta_length]

theorem decode_data_16 (cv cv2 : Conv) (ty ty2 : Ty) (cs : List LCall) (hr : ∀ v ∈ samples cs, R16 (Dpcm.cur16 cv ty v)) :
    (Dpcm.read true cv2 ty2 0 (data true cv ty cs)).2 = ((samples cs).map (Dpcm.cur16 cv ty)).map (Dpcm.out16 cv2 ty2) := by
  rw [data_eq, write_wide]
  simp only [Dpcm.read, if_true]
  rw [groups_flatMap 2 (by decide) _ _ (fun d _ => leBytes_length 2 _), undelta16_eq,
    undelta_stored 16 (fun d => leBytes 2 (wrapU 16 d)) (fun g => sext 16 (ofLE g)) sext16_ofLE _ 0 (List.forall_mem_map.2 fun v hv => wrapS16_id _ (hr v hv))]

theorem decode_data_8 (cv cv2 : Conv) (ty ty2 : Ty) (cs : List LCall) :
    (Dpcm.read false cv2 ty2 0 (data false cv ty cs)).2 = ((samples cs).map (Dpcm.cur8 cv ty)).map (Dpcm.out8 cv2 ty2) := by
  rw [data_eq, write_narrow]
  have h0 : st8 0 = 0 := by decide
  simp only [Dpcm.read, Bool.false_eq_true, if_false, h0]
  have h00 : wrapS 8 (asr 0 8) = 0 := by decide
  rw [h00, undelta8_eq, undelta_stored 8 (fun d => wrapU 8 d) (fun b => sext 8 b) (sext_wrapU 8 (by decide)) _ 0 (List.forall_mem_map.2 fun v _ => cur8_wrapS cv ty v)]

theorem cur16_range (cv : Conv) (ty : Ty) (v : Int) (hr : ty.inRange v) : R16 (Dpcm.cur16 cv ty v) := by
  cases ty with
  | s16 => exact hr
  | s32 =>
    obtain ⟨a, b⟩ := hr
    show R16 (asr v 16)
    unfold R16 asr; norm_num; omega
  | f32 => exact wrapS16_range _
  | f64 => exact wrapS16_range _

theorem out16_cur16 (cv cv2 : Conv) (ty : Ty) (v : Int) (hlow : ty = .s16 ∨ (ty = .s32 ∧ v % 2 ^ 16 = 0)) :
    Dpcm.out16 cv2 ty (Dpcm.cur16 cv ty v) = v := by
  rcases hlow with rfl | ⟨rfl, h⟩
  · rfl
  · exact Int.ediv_mul_cancel (Int.dvd_of_emod_eq_zero h)

theorem top8_exact (k : Nat) (v : Int) (h1 : -(128 * 2 ^ k) ≤ v) (h2 : v < 128 * 2 ^ k) (hm : v % 2 ^ k = 0) :
    wrapS 8 (asr v k) * 2 ^ k = v := by
  have hp : (0 : Int) < 2 ^ k := Int.pow_pos (by decide)
  have hlo : -128 ≤ v / 2 ^ k := (Int.le_ediv_iff_mul_le hp).2 (by omega)
  have hhi : v / 2 ^ k < 128 := (Int.ediv_lt_iff_lt_mul hp).2 (by omega)
  unfold asr
  rw [wrapS_of_range 8 _ (by omega) (by omega), Int.ediv_mul_cancel (Int.dvd_of_emod_eq_zero hm)]

theorem out8_cur8 (cv cv2 : Conv) (ty : Ty) (v : Int) (hr : ty.inRange v)
    (hlow : (ty = .s16 ∧ v % 2 ^ 8 = 0) ∨ (ty = .s32 ∧ v % 2 ^ 24 = 0)) :
    Dpcm.out8 cv2 ty (Dpcm.cur8 cv ty v) = v := by
  rcases hlow with ⟨rfl, h⟩ | ⟨rfl, h⟩
  · obtain ⟨a, b⟩ := hr
    exact top8_exact 8 v (by omega) (by omega) h
  · obtain ⟨a, b⟩ := hr
    exact top8_exact 24 v (by omega) (by omega) h

/-- what a sample comes back as: written with (cv, ty), read with (cv2, ty2) -/
def rt (wide : Bool) (cv cv2 : Conv) (ty ty2 : Ty) (v : Int) : Int :=
  if wide then Dpcm.out16 cv2 ty2 (Dpcm.cur16 cv ty v) else Dpcm.out8 cv2 ty2 (Dpcm.cur8 cv ty v)

theorem decode_data (wide : Bool) (cv cv2 : Conv) (ty ty2 : Ty) (cs : List LCall) (hr : ∀ v ∈ samples cs, ty.inRange v) :
    (Dpcm.read wide cv2 ty2 0 (data wide cv ty cs)).2 = (samples cs).map (rt wide cv cv2 ty ty2) := by
  cases wide with
  | true =>
    rw [decode_data_16 cv cv2 ty ty2 cs (fun v hv => cur16_range cv ty v (hr v hv)), List.map_map]
    apply List.map_congr_left; intro v _; simp [rt]
  | false =>
    rw [decode_data_8, List.map_map]
    apply List.map_congr_left; intro v _; simp [rt]

/-- the requested region after `sf_read_T (n items)` on a freshly opened handle over the data region `d` (cells the reader does
    not write keep the fill value 0; at the end of the data the whole request is zero-filled) -/
def back (wide : Bool) (cv : Conv) (ty : Ty) (d : List Byte) (n : Nat) : List Int :=
  match ((DpcmR.open wide d).read cv ty n).2.1 with
  | some vs => (vs ++ List.replicate n 0).take n
  | none => List.replicate n 0

theorem back_length (wide : Bool) (cv : Conv) (ty : Ty) (d : List Byte) (n : Nat) : (back wide cv ty d n).length = n := by
  unfold back
  split
  · rw [List.length_take, List.length_append, List.length_replicate]; omega
  · exact List.length_replicate

theorem back_data (wide : Bool) (cv cv2 : Conv) (ty ty2 : Ty) (cs : List LCall) (hr : ∀ v ∈ samples cs, ty.inRange v) (n : Nat)
    (hn : (samples cs).length ≤ n) :
    back wide cv2 ty2 (data wide cv ty cs) n = ((samples cs).map (rt wide cv cv2 ty ty2) ++ List.replicate n 0).take n := by
  have hlen := data_length wide cv ty cs
  have hdec := decode_data wide cv cv2 ty ty2 cs hr
  generalize hN : (samples cs).length = N at hlen hn
  have hbw : 0 < (if wide = true then 2 else 1) := by split <;> decide
  have hfr : (data wide cv ty cs).length / (if wide = true then 2 else 1) = N := by rw [hlen, Nat.mul_div_cancel _ hbw]
  unfold back DpcmR.read DpcmR.open
  by_cases h0 : n = 0
  · subst h0
    have : N = 0 := by omega
    simp
  · simp only [h0, if_false]
    by_cases hN0 : N = 0
    · have hs : samples cs = [] := List.length_eq_zero_iff.1 (by omega)
      simp only [hfr, hN0, Nat.le_refl, ge_iff_le, if_true, hs, List.map_nil, List.nil_append]
      rw [List.take_of_length_le (by simp)]
    · have hpos : ¬ (0 ≥ (data wide cv ty cs).length / (if wide = true then 2 else 1)) := by rw [hfr]; omega
      simp only [hpos, if_false]
      have hk : min n ((data wide cv ty cs).length / (if wide = true then 2 else 1)) = N := by rw [hfr]; omega
      have ht : List.take (N * if wide = true then 2 else 1) (data wide cv ty cs) = data wide cv ty cs :=
        List.take_of_length_le (by rw [hlen])
      rw [hk, ht, hdec]

theorem back_data_take (wide : Bool) (cv cv2 : Conv) (ty ty2 : Ty) (cs : List LCall) (hr : ∀ v ∈ samples cs, ty.inRange v) (n : Nat)
    (hn : (samples cs).length ≤ n) :
    (back wide cv2 ty2 (data wide cv ty cs) n).take (samples cs).length = (samples cs).map (rt wide cv cv2 ty ty2) := by
  rw [back_data wide cv cv2 ty ty2 cs hr n hn, List.take_take, Nat.min_eq_left hn]
  exact List.take_left' (List.length_map _)

end Sf.AbsWriteBridge.Dpcm3
