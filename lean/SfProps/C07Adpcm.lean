/-
  C07 (and the C04 / C05 facts that go with it) for the WRITE side of IMA ADPCM (WAV / W64 layout, AIFF `ima4` layout) and
  MS ADPCM, on the bit-exact encoder model of SfModel/AdpcmEnc.lean, AdpcmFile.lean: the session theorems of the generic
  block writer (`frames_session`, `fold_ran`, `close_ran`, SfProofs/BlockSession.lean) instantiated with the REAL encoders (step
  index / predictor carried across blocks, the `samples` buffer as each encode call leaves it).  Helpers in SfProofs/AdpcmEnc.lean, AdpcmRound.lean, BlockWriter.lean, BlockSession.lean.
  -- properties: C02 C04 C05 C06 C07

  * `adpcm_write_is_fold`        any sequence of write calls of any caller types (4096-short staging for int / float / double,
                                  none for short), 1 or 2 channels, is the per-frame fold `pushFrame` over the converted frames
  * `adpcm_write_partition`      the closed data region depends only on the concatenated converted shorts: ∀ layouts, ∀ legal
                                  geometries, ∀ conversion settings, ∀ sample sequences, ∀ splits into calls, ∀ caller types;
                                  a call is a whole number of frames (sf_write_T refuses anything else), so the item and the
                                  frame variant of a call are the same call
  * `adpcm_write_partition_typed`, `adpcm_closed_bytes_single`
  * `adpcm_closed_length`        N frames ⇒ ⌈N / samplesperblock⌉ blocks of `blockBytes` bytes
  * `adpcm_frames_at_reopen`     N ≤ F < N + samplesperblock for the frame count a reader computes from those bytes
  * `adpcm_header_frames`        what `ima_close` / `msadpcm_close` hand to the header writer (`fact` chunk): IMA, one channel:
                                  the re-open count F; IMA, two channels: F / 2 (recorded, no reader of this library uses it);
                                  MS: N
  * `adpcm_geometry`             what `wav_open` / `w64_open` / `aiff_open` + `*_init` derive for 1–2 channels and ANY sample rate
                                  (incl. the products that wrap a C int) is a legal geometry
  * `adpcm_written_stream`       what a re-open reads = the decoders of SfModel/Adpcm.lean on the encoders' blocks; with
                                  `adpcm_written_stream_partition`: C06's stream of a library-written file is a function of the shorts
  * `ima_decoder_tracks_encoder`, `ima_decoder_run_tracks`, `ima_wav_mono_roundtrip`  the decoders of SfModel/Adpcm.lean on the
                                  encoder's codes reproduce the encoder's reconstruction (step, run, WAV mono block)
  * `adpcm_refused_seek_clean`   a refused sf_seek on a writing handle changes nothing (`adpcm_refused_seek_old_rule`: the rule
                                  before the repair of KF-IMA-WAV-SEEK-WRITE), `adpcm_write_seek_results`
  * encoder invariants (for EVERY input): `ima_step_in_range` (code < 16, predictor a short, step index in 0…88),
    `ima_table_indices_safe`, `adpcm_session_state` (every state any session reaches), `ms_predictor_in_range`
    (predictor < 7, initial delta ≥ 16), `ms_step_in_range` (code < 16, reconstruction a short, delta ≥ 16 stays ≥ 16),
    `ms_table_indices_safe`
-/
import SfProofs.AdpcmRound
import SfProofs.BlockSession
import SfProofs.AdpcmEnc
namespace Sf.C07Adpcm
open Sf Sf.Adpcm Sf.AdpcmEnc Sf.AdpcmEnc.Proofs Sf.Block Sf.Block.Proofs Sf.Generated

/-- the shorts the codec is handed by a list of calls -/
def shorts (cv : Conv) (calls : List (Ty × List Int)) : List Int := calls.flatMap fun c => c.2.map (toCodec cv c.1)

/-- every call carries a whole number of frames (`sf_write_T` refuses other item counts with SFE_BAD_WRITE_ALIGN) -/
def Whole (g : Geo) (calls : List (Ty × List Int)) : Prop := ∀ c ∈ calls, c.2.length % g.ch = 0

/-- the converted frames of a session, call by call -/
def frameList (g : Geo) (cv : Conv) (calls : List (Ty × List Int)) : List (List Int) :=
  calls.flatMap fun c => framesOf g.ch (c.2.map (toCodec cv c.1))

theorem frameList_spec (g : Geo) (cv : Conv) : ∀ (calls : List (Ty × List Int)), Whole g calls →
    (frameList g cv calls).flatten = shorts cv calls ∧ Uniform g.ch (frameList g cv calls) := by
  intro calls
  induction calls with
  | nil => intro _; exact ⟨rfl, fun f hf => by simp [frameList] at hf⟩
  | cons c cs ih =>
    intro hw
    obtain ⟨h1, h2⟩ := ih (fun d hd => hw d (by simp [hd]))
    obtain ⟨a1, a2, _⟩ := framesOf_spec g.ch (c.2.map (toCodec cv c.1)) (by rw [List.length_map]; exact hw c (by simp))
    have e : frameList g cv (c :: cs) = framesOf g.ch (c.2.map (toCodec cv c.1)) ++ frameList g cv cs := by
      simp [frameList]
    rw [e]
    refine ⟨by rw [List.flatten_append, a1, h1]; simp [shorts], ?_⟩
    intro f hf
    rcases List.mem_append.mp hf with hf | hf
    · exact a2 f hf
    · exact h2 f hf

theorem adpcm_writer_wf (g : Geo) (hg : WGeo g) : WWF (writer g) :=
  ⟨(wgeo_pos g hg).1, (wgeo_pos g hg).2.1⟩

theorem adpcm_init_inv (g : Geo) (hg : WGeo g) : WInv (writer g) (initW g) := init_inv_w _ (adpcm_writer_wf g hg) _

/-- the staging pieces are whole frames: 4096 shorts = 4096 one-channel frames = 2048 two-channel frames -/
theorem adpcm_chunk_whole_frames (g : Geo) (hg : WGeo g) (ty : Ty) : ∃ q, chunkOf ty = q * g.ch := by
  unfold chunkOf chunkLen
  by_cases h : ty = .s16
  · exact ⟨0, by simp [h]⟩
  · rcases (wgeo_pos g hg).2.2.1 with hc | hc
    · exact ⟨4096, by simp [h, hc]⟩
    · exact ⟨2048, by simp [h, hc]⟩

/-- **any session is the per-frame fold**: every call of every caller type, whatever its staging pieces are, stores its
    converted frames one by one, encoding a block each time `samplesperblock` of them are there -/
theorem adpcm_write_is_fold (g : Geo) (hg : WGeo g) (cv : Conv) : ∀ (calls : List (Ty × List Int)) (st : WState ES),
    WInv (writer g) st → Whole g calls →
    calls.foldl (fun st c => writeCall g cv c.1 st c.2) st = (frameList g cv calls).foldl (pushFrame (writer g)) st ∧
      WInv (writer g) ((frameList g cv calls).foldl (pushFrame (writer g)) st) := by
  intro calls st inv hw
  exact frames_session (writer g) (adpcm_writer_wf g hg) (fun c => chunkOf c.1) (fun c => c.2.map (toCodec cv c.1))
    (fun c => framesOf g.ch (c.2.map (toCodec cv c.1))) (fun c => adpcm_chunk_whole_frames g hg c.1) calls st inv
    (fun c hc => by
      have h := framesOf_spec g.ch (c.2.map (toCodec cv c.1)) (by rw [List.length_map]; exact hw c hc)
      exact ⟨h.1, h.2.1⟩)

/-- **write-partition independence (full strength)**: the closed data region is a function of the concatenated converted
    shorts only — any two sessions of whole-frame calls, of any caller types, item or frame variants, 1 or 2 channels -/
theorem adpcm_write_partition (g : Geo) (hg : WGeo g) (cv : Conv) (calls1 calls2 : List (Ty × List Int))
    (hw1 : Whole g calls1) (hw2 : Whole g calls2) (h : shorts cv calls1 = shorts cv calls2) :
    closedBytes g cv calls1 = closedBytes g cv calls2 := by
  obtain ⟨f1, u1⟩ := frameList_spec g cv calls1 hw1
  obtain ⟨f2, u2⟩ := frameList_spec g cv calls2 hw2
  have e : frameList g cv calls1 = frameList g cv calls2 :=
    uniform_flatten_inj g.ch (wgeo_pos g hg).2.1 _ _ u1 u2 (by rw [f1, f2, h])
  unfold closedBytes session
  rw [(adpcm_write_is_fold g hg cv calls1 _ (adpcm_init_inv g hg) hw1).1,
    (adpcm_write_is_fold g hg cv calls2 _ (adpcm_init_inv g hg) hw2).1, e]

/-- the bytes of any session are the bytes of ONE call of shorts with the concatenation -/
theorem adpcm_closed_bytes_single (g : Geo) (hg : WGeo g) (cv : Conv) (calls : List (Ty × List Int)) (hw : Whole g calls) :
    closedBytes g cv calls = closedBytes g cv [(.s16, shorts cv calls)] := by
  have hid : toCodec cv Ty.s16 = id := by funext v; rfl
  have hs : shorts cv [(.s16, shorts cv calls)] = shorts cv calls := by simp [shorts, hid]
  apply adpcm_write_partition g hg cv _ _ hw _ hs.symm
  intro c hc
  simp only [List.mem_singleton] at hc
  subst hc
  obtain ⟨f1, u1⟩ := frameList_spec g cv calls hw
  show (shorts cv calls).length % g.ch = 0
  rw [← f1, uniform_flatten_length _ u1]
  exact Nat.mul_mod_left _ _

/-- the (type, value) sequence of a session -/
def tagged (calls : List (Ty × List Int)) : List (Ty × Int) := calls.flatMap fun c => c.2.map fun v => (c.1, v)

theorem shorts_of_tagged (cv : Conv) (calls : List (Ty × List Int)) :
    shorts cv calls = (tagged calls).map fun p => toCodec cv p.1 p.2 := by
  simp [shorts, tagged, List.map_flatMap, Function.comp_def]

/-- the same values of the same types, split into calls in any two ways: identical bytes -/
theorem adpcm_write_partition_typed (g : Geo) (hg : WGeo g) (cv : Conv) (calls1 calls2 : List (Ty × List Int))
    (hw1 : Whole g calls1) (hw2 : Whole g calls2) (h : tagged calls1 = tagged calls2) :
    closedBytes g cv calls1 = closedBytes g cv calls2 :=
  adpcm_write_partition g hg cv calls1 calls2 hw1 hw2 (by rw [shorts_of_tagged, shorts_of_tagged, h])

/-- what the open functions derive is a legal geometry — for ANY sample rate, also those whose product with the channel
    count wraps a C int (2^30 Hz stereo falls back to 256-byte blocks) -/
theorem adpcm_geometry (kind : Kind) (sr ch : Nat) (hch : ch = 1 ∨ ch = 2) : WGeo (geoOf kind sr ch) := by
  cases kind with
  | imaWav =>
    simp only [geoOf, WGeo]
    refine ⟨hch, ?_⟩
    rcases hch with rfl | rfl <;> rcases srate2blocksize_cases (sr * _) with h | h | h | h <;> rw [h]
    · exact ⟨63, by decide⟩
    · exact ⟨127, by decide⟩
    · exact ⟨255, by decide⟩
    · exact ⟨511, by decide⟩
    · exact ⟨31, by decide⟩
    · exact ⟨63, by decide⟩
    · exact ⟨127, by decide⟩
    · exact ⟨255, by decide⟩
  | imaAiff =>
    simp only [geoOf, WGeo]
    refine ⟨hch, ?_⟩
    rcases hch with rfl | rfl <;> decide
  | ms =>
    simp only [geoOf, WGeo]
    rcases hch with rfl | rfl <;> rcases srate2blocksize_cases (sr * _) with h | h | h | h <;> rw [h] <;> decide

example : geoOf .imaWav 44100 2 = ⟨.imaWav, 2, 2048, 2041⟩ ∧ geoOf .imaWav (2 ^ 30) 2 = ⟨.imaWav, 2, 256, 249⟩ ∧
    geoOf .ms 8000 1 = ⟨.ms, 1, 256, 500⟩ ∧ geoOf .ms 22050 2 = ⟨.ms, 2, 2048, 2036⟩ ∧ geoOf .imaAiff 1 2 = ⟨.imaAiff, 2, 34, 64⟩ := by
  decide

/-- non-vacuity of the partition theorem: 70 stereo frames of IMA AIFF (more than a block) as 1 + 68 + 1 frames of three
    caller types against one call of shorts -/
example : closedBytes (geoOf .imaAiff 8000 2) {} [(.s16, [1000, -1000]), (.s32, List.replicate 136 (2000 * 65536 + 77)), (.s16, [-3000, 3000])] =
    closedBytes (geoOf .imaAiff 8000 2) {} [(.s16, [1000, -1000] ++ List.replicate 136 2000 ++ [-3000, 3000])] := by
  apply adpcm_write_partition _ (adpcm_geometry _ _ _ (by decide))
  · intro c hc; simp at hc; rcases hc with rfl | rfl | rfl <;> simp [geoOf]
  · intro c hc; simp at hc; subst hc; simp [geoOf]
  · decide +kernel

/-- state of the writer after `m` frames: position in the block, number of blocks out, each `blockBytes` long, the buffers
    of block size, the encoder state in range -/
structure SGeo (g : Geo) (st : WState ES) (m : Nat) : Prop where
  cnt : st.cnt = m % g.spb
  out : st.out.length = m / g.spb
  len : ∀ b ∈ st.out, b.length = g.blockBytes
  buf : st.buf.length = g.spb * g.ch
  es  : ESInv g st.es

/-- frames of a session -/
def nframes (g : Geo) (cv : Conv) (calls : List (Ty × List Int)) : Nat := (shorts cv calls).length / g.ch

theorem frameList_length (g : Geo) (hg : WGeo g) (cv : Conv) (calls : List (Ty × List Int)) (hw : Whole g calls) :
    (frameList g cv calls).length = nframes g cv calls := by
  obtain ⟨f1, u1⟩ := frameList_spec g cv calls hw
  unfold nframes
  rw [← f1, uniform_flatten_length _ u1, Nat.mul_div_cancel _ (wgeo_pos g hg).2.1]

theorem adpcm_session_ran (g : Geo) (hg : WGeo g) (cv : Conv) (calls : List (Ty × List Int)) (hw : Whole g calls) :
    Ran (writer g) (ESInv g) (·.length = g.blockBytes) (session g cv calls) (nframes g cv calls) := by
  unfold session
  rw [(adpcm_write_is_fold g hg cv calls _ (adpcm_init_inv g hg) hw).1]
  have := fold_ran (writer g) (adpcm_writer_wf g hg) (ESInv g) (·.length = g.blockBytes) (encOf_spec g hg) (frameList g cv calls) _ 0
    (init_ran _ (adpcm_writer_wf g hg) _ _ _ (esInv_init g)) (frameList_spec g cv calls hw).2
  rwa [Nat.zero_add, frameList_length g hg cv calls hw] at this

/-- **every state any session reaches**: position = frames mod block, blocks out = frames div block, every block
    `blockBytes` long, step indices inside the table -/
theorem adpcm_session_state (g : Geo) (hg : WGeo g) (cv : Conv) (calls : List (Ty × List Int)) (hw : Whole g calls) :
    SGeo g (session g cv calls) (nframes g cv calls) :=
  have h := adpcm_session_ran g hg cv calls hw
  ⟨h.cnt, h.out_length, h.blk, h.inv.len, h.es⟩

theorem flatten_length_const {α : Type} (n : Nat) (l : List (List α)) (h : ∀ b ∈ l, b.length = n) : l.flatten.length = l.length * n :=
  Sf.flatten_length_const n l h

theorem closeSt_blocks (g : Geo) (hg : WGeo g) (st : WState ES) (n : Nat) (sg : Ran (writer g) (ESInv g) (·.length = g.blockBytes) st n) :
    (closeSt g st).out.length = (n + (g.spb - 1)) / g.spb ∧ ∀ b ∈ (closeSt g st).out, b.length = g.blockBytes := by
  have hlt : st.cnt < g.spb := sg.inv.cnt
  refine close_ran (writer g) (ESInv g) (·.length = g.blockBytes) (encOf_spec g hg) st n sg _ ?_
  have hle : st.cnt * g.ch ≤ g.spb * g.ch := Nat.mul_le_mul_right _ (Nat.le_of_lt hlt)
  have hb : st.buf.length = g.spb * g.ch := sg.inv.len
  rw [List.length_append, List.length_take, List.length_drop, hb, sg.es.stale]
  show min (st.cnt * g.ch) (g.spb * g.ch) + (g.spb * g.ch - st.cnt * g.ch) = g.spb * g.ch
  omega

/-- **geometry**: a session of N frames (any calls, any types) leaves ⌈N / samplesperblock⌉ whole blocks in the data region -/
theorem adpcm_closed_length (g : Geo) (hg : WGeo g) (cv : Conv) (calls : List (Ty × List Int)) (hw : Whole g calls) :
    (closedBytes g cv calls).length = (nframes g cv calls + (g.spb - 1)) / g.spb * g.blockBytes := by
  obtain ⟨h1, h2⟩ := closeSt_blocks g hg _ _ (adpcm_session_ran g hg cv calls hw)
  unfold closedBytes WState.bytes
  rw [flatten_length_const g.blockBytes _ (by intro b hb; exact h2 b (List.mem_reverse.mp hb)), List.length_reverse, h1]

example : (closedBytes (geoOf .imaAiff 8000 1) {} [(.s16, List.replicate 65 7)]).length = 68 := by
  rw [adpcm_closed_length _ (adpcm_geometry _ _ _ (by decide)) _ _ (by intro c hc; simp at hc; subst hc; simp [geoOf])]
  decide +kernel

theorem framesAtOpen_blocks (g : Geo) (hg : WGeo g) (k : Nat) : framesAtOpen g (k * g.blockBytes) = k * g.spb := by
  obtain ⟨hspb, hch, hc12, hba⟩ := wgeo_pos g hg
  unfold framesAtOpen Geo.blockBytes
  cases hk : g.kind with
  | imaWav =>
    simp only [reduceCtorEq, if_false]
    rw [Nat.mul_mod_left, Nat.mul_div_cancel _ hba]; simp [Nat.mul_comm]
  | imaAiff =>
    simp only [if_true]
    rw [← Nat.mul_assoc, Nat.mul_mod_left, Nat.mul_div_cancel _ hba]
    simp only [ne_eq, not_true_eq_false, if_false]
    rw [Nat.mul_comm g.spb, Nat.mul_assoc, Nat.mul_comm g.ch, ← Nat.mul_assoc, Nat.mul_div_cancel _ hch]
  | ms =>
    simp only [reduceCtorEq, if_false]
    rw [Nat.mul_div_cancel _ hba]

/-- **frames at re-open**: N frames written (any session): a reader of the closed data region finds F frames with
    N ≤ F < N + samplesperblock (the last block is padded; the data length is all the reader uses) -/
theorem adpcm_frames_at_reopen (g : Geo) (hg : WGeo g) (cv : Conv) (calls : List (Ty × List Int)) (hw : Whole g calls) :
    nframes g cv calls ≤ framesAtOpen g (closedBytes g cv calls).length ∧
    framesAtOpen g (closedBytes g cv calls).length < nframes g cv calls + g.spb ∧
    framesAtOpen g (closedBytes g cv calls).length = (nframes g cv calls + (g.spb - 1)) / g.spb * g.spb := by
  rw [adpcm_closed_length g hg cv calls hw, framesAtOpen_blocks g hg]
  have hb := Closed.nblocks_bound (nframes g cv calls) g.spb (wgeo_pos g hg).1
  rw [Closed.nblocks_eq _ _ (wgeo_pos g hg).1] at hb
  exact ⟨hb.1, hb.2, rfl⟩

example : framesAtOpen (geoOf .imaAiff 8000 2) (closedBytes (geoOf .imaAiff 8000 2) {} [(.s16, List.replicate 130 5)]).length = 128 := by
  rw [(adpcm_frames_at_reopen _ (adpcm_geometry _ _ _ (by decide)) _ _ (by intro c hc; simp at hc; subst hc; simp [geoOf])).2.2]
  decide +kernel

/-- **the frame count handed to the header writer** (`fact` chunk of WAV / W64, numSampleFrames × 64 of AIFF) for a session
    of N frames closed with B encode calls: MS: N itself when the open left 0 there (WAV), the "stupidly high" length
    `w64_open` leaves otherwise; IMA with one channel: the re-open count; IMA with two channels: HALF the re-open count
    (`samplesperblock * blockcount / channels` — the division is by the channel count although `samplesperblock` already
    counts frames).  No reader of this library looks at the field for these encodings, and no property speaks about it. -/
theorem adpcm_header_frames (g : Geo) (nblk n : Nat) :
    (g.kind = .ms → headerFrames g nblk n (openFrames false) = n ∧ (n < 2 ^ 62 → headerFrames g nblk n (openFrames true) = 2 ^ 63 - 10001)) ∧
    (g.kind ≠ .ms → g.ch = 1 → ∀ o, headerFrames g nblk n o = nblk * g.spb) ∧
    (g.kind ≠ .ms → g.ch = 2 → ∀ o, headerFrames g nblk n o = nblk * g.spb / 2) := by
  unfold headerFrames openFrames
  refine ⟨fun h => ⟨by simp [h], fun hn => by simp only [h, if_true]; omega⟩,
    fun h hc o => by simp [h, hc, Nat.mul_comm], fun h hc o => by simp [h, hc, Nat.mul_comm]⟩

example : headerFrames (geoOf .imaWav 8000 2) 3 600 0 = 757 ∧ framesAtOpen (geoOf .imaWav 8000 2) (3 * 512) = 1515 ∧
    headerField (geoOf .imaAiff 8000 2) (headerFrames (geoOf .imaAiff 8000 2) 39 2463 0) = 19 := by decide

/-- one IMA encoder step, from ANY state on ANY sample: the code fits a nibble, the new predictor a `short`, the new step
    index the table -/
theorem ima_step_in_range (c : Ch) (x : Int) :
    (imaStep c x).2 < 16 ∧ -32768 ≤ (imaStep c x).1.prev ∧ (imaStep c x).1.prev ≤ 32767 ∧
    0 ≤ (imaStep c x).1.idx ∧ (imaStep c x).1.idx ≤ 88 := by
  obtain ⟨h1, h2, h3⟩ := imaStep_ok c x
  exact ⟨h3, h2.1, h2.2, h1.lo, h1.hi⟩

/-- with the step index in range, `ima_step_size [stepindx]` and `ima_indx_adjust [bytecode]` index inside their tables -/
theorem ima_table_indices_safe (c : Ch) (h0 : 0 ≤ c.idx) (h1 : c.idx ≤ 88) (x : Int) :
    c.idx.toNat < imaStepTab.length ∧ (imaStep c x).2 < imaIndexAdjust.length := by
  have := (imaStep_ok c x).2.2
  refine ⟨?_, this⟩
  show c.idx.toNat < 89
  omega

/-- every encoder state any session reaches has both step indices inside the table (the invariant that makes the table
    accesses of the next block safe) -/
theorem adpcm_session_indices (g : Geo) (hg : WGeo g) (cv : Conv) (calls : List (Ty × List Int)) (hw : Whole g calls) :
    let es := (session g cv calls).es
    0 ≤ es.st.1.idx ∧ es.st.1.idx ≤ 88 ∧ 0 ≤ es.st.2.idx ∧ es.st.2.idx ≤ 88 := by
  have := (adpcm_session_state g hg cv calls hw).es
  exact ⟨this.c0.lo, this.c0.hi, this.c1.lo, this.c1.hi⟩

example : (imaStep ⟨32767, 88⟩ (-32768)).2 = 15 ∧ (imaStep ⟨32767, 88⟩ (-32768)).1 = ⟨-28669, 88⟩ ∧ (imaStep ⟨0, 0⟩ 0).1.idx = 0 := by decide

/-- `choose_predictor`, ANY block: the predictor is one of the 7 coefficient pairs, the initial delta at least 16 -/
theorem ms_predictor_in_range (channels : Nat) (data : List Int) (chan : Nat) :
    (msChoose channels data chan).1 < 7 ∧ 16 ≤ (msChoose channels data chan).2 := by
  unfold msChoose
  simp only
  constructor
  · rcases msChooseLoop_bpred channels data 7 0 (0, 0) with h | h
    · omega
    · rw [h]; decide
  · split <;> omega

/-- one MS encoder pass from ANY state: the code fits a nibble, the reconstruction is a `short`, a delta ≥ 16 stays ≥ 16 -/
theorem ms_step_in_range (channels : Nat) (bpred : Nat × Nat) (k : Nat) (x : Int) (idelta : Int × Int) (hist : List Int) :
    (msStep channels bpred k x idelta hist).2.1 < 16 ∧
    -32768 ≤ (msStep channels bpred k x idelta hist).2.2 ∧ (msStep channels bpred k x idelta hist).2.2 ≤ 32767 ∧
    (16 ≤ idelta.1 → 16 ≤ (msStep channels bpred k x idelta hist).1.1) ∧
    (16 ≤ idelta.2 → 16 ≤ (msStep channels bpred k x idelta hist).1.2) := by
  obtain ⟨h1, h2, h3⟩ := msStep_ok channels bpred k x idelta hist
  obtain ⟨h4, h5⟩ := msStep_idelta channels bpred k x idelta hist
  exact ⟨h1, h2, h3, h4, h5⟩

/-- `AdaptCoeff1/2 [bpred]` and `AdaptationTable [errordelta]` index inside their tables -/
theorem ms_table_indices_safe (channels : Nat) (data : List Int) (chan : Nat) (bpred : Nat × Nat) (k : Nat) (x : Int)
    (idelta : Int × Int) (hist : List Int) :
    (msChoose channels data chan).1 < msCoeff1.length ∧ (msChoose channels data chan).1 < msCoeff2.length ∧
    (msStep channels bpred k x idelta hist).2.1 < msAdaptationTab.length :=
  ⟨(ms_predictor_in_range channels data chan).1, (ms_predictor_in_range channels data chan).1, (msStep_ok channels bpred k x idelta hist).1⟩

example : msChoose 1 [0, 100, 200, 300, 400] 0 = (1, 16) ∧ msChoose 2 [5, 9, 5, 9, 5, 9, 5, 9, 5, 9] 1 = (0, 16) ∧
    msChoose 1 [0, 30000, -30000, 30000, -30000] 0 = (2, 7500) := by decide

/-- **a refused seek leaves no trace** (current rule, after the repair of KF-IMA-WAV-SEEK-WRITE): whenever `sf_seek` on a
    handle opened for writing is refused, the file position, the block counter and the pending frames are untouched — every
    layout, every geometry, every target -/
theorem adpcm_refused_seek_clean (g : Geo) (off : Nat) (h : (seekWrite g off).ret = none) :
    (seekWrite g off).restart = false ∧ (seekWrite g off).dropped = false := by
  unfold seekWrite at h ⊢
  cases hk : g.kind <;> simp only [hk] at h ⊢
  · exact ⟨trivial, trivial⟩
  · exact ⟨trivial, trivial⟩
  · by_cases h0 : off = 0
    · simp [h0] at h
    · simp [h0]

/-- the rule before the repair: the statement above fails — the refused seek to frame 0 of an IMA WAV writer rewinds the file -/
theorem adpcm_refused_seek_old_rule :
    ¬ (∀ (g : Geo) (off : Nat), (seekWriteOld g off).ret = none → (seekWriteOld g off).restart = false) := by
  intro h
  have := h (geoOf .imaWav 8000 1) 0 (by decide)
  revert this
  decide

/-- IMA writers refuse every target; an MS writer accepts exactly frame 0 (and starts over) -/
theorem adpcm_write_seek_results (g : Geo) (off : Nat) :
    (g.kind ≠ .ms → (seekWrite g off).ret = none) ∧
    (g.kind = .ms → ((seekWrite g off).ret = some 0 ↔ off = 0) ∧ (off ≠ 0 → (seekWrite g off).ret = none)) := by
  unfold seekWrite
  cases hk : g.kind <;> simp
  by_cases h0 : off = 0 <;> simp [h0]

example : seekWrite (geoOf .imaWav 44100 2) 0 = ⟨none, false, false⟩ ∧ seekWriteOld (geoOf .imaWav 44100 2) 0 = ⟨none, true, false⟩ ∧
    seekWrite (geoOf .ms 44100 2) 0 = ⟨some 0, true, true⟩ ∧ seekWrite (geoOf .ms 44100 2) 7 = ⟨none, false, false⟩ := by decide

/-- the blocks of a closed session in file order -/
def closedBlocks (g : Geo) (cv : Conv) (calls : List (Ty × List Int)) : List (List Byte) := (closeSt g (session g cv calls)).out.reverse

/-- **the stream of a library-written file**: the reader of SfModel/AdpcmReader.lean (the model behind C06's `block_reader_refines_stream`,
    `partition_invariance_block`, `seek_then_read_block`) opened over the closed data region finds ⌈N / samplesperblock⌉ blocks,
    reports that many blocks' worth of frames — the value `framesAtOpen` computes from the length — and its block k is the
    DECODER (`imaWavDecodeBlock` / `imaAiffDecodeBlock` / `msDecodeBlock`, proved equal to the reference decoders in
    SfProps/C20Adpcm.lean) run on the k-th block the ENCODER emitted -/
theorem adpcm_written_stream (g : Geo) (hg : WGeo g) (cv : Conv) (calls : List (Ty × List Int)) (hw : Whole g calls) :
    (closedBlocks g cv calls).length = (nframes g cv calls + (g.spb - 1)) / g.spb ∧
    (readerOf g (closedBytes g cv calls)).frames = framesAtOpen g (closedBytes g cv calls).length ∧
    ∀ k, k < (closedBlocks g cv calls).length →
      (readerOf g (closedBytes g cv calls)).src k = fixLen (g.spb * g.ch) (decOf g ((closedBlocks g cv calls).getD k [])) := by
  obtain ⟨h1, h2⟩ := closeSt_blocks g hg _ _ (adpcm_session_ran g hg cv calls hw)
  obtain ⟨hspb, hch, _, hba⟩ := wgeo_pos g hg
  have hbb : 0 < g.blockBytes := by
    unfold Geo.blockBytes
    split
    · exact Nat.mul_pos hch hba
    · exact hba
  have hall : ∀ b ∈ closedBlocks g cv calls, b.length = g.blockBytes := fun b hb => h2 b (List.mem_reverse.mp hb)
  have hlen : (closedBlocks g cv calls).length = (nframes g cv calls + (g.spb - 1)) / g.spb := by
    unfold closedBlocks; rw [List.length_reverse, h1]
  obtain ⟨r1, r2⟩ := adpcmReader_blocks (decOf g) g.ch g.blockBytes g.spb hbb (closedBlocks g cv calls) hall
  have e : closedBytes g cv calls = (closedBlocks g cv calls).flatten := rfl
  refine ⟨hlen, ?_, ?_⟩
  · rw [(adpcm_frames_at_reopen g hg cv calls hw).2.2, e]
    unfold readerOf
    rw [r1, hlen, Nat.mul_comm]
  · intro k hk
    rw [e]
    exact r2 k hk

/-- … so the decoded stream of a library-written file is a function of the concatenated converted shorts: two sessions with
    the same shorts give the same reader (same frame count, same blocks), whatever the calls were -/
theorem adpcm_written_stream_partition (g : Geo) (hg : WGeo g) (cv : Conv) (calls1 calls2 : List (Ty × List Int))
    (hw1 : Whole g calls1) (hw2 : Whole g calls2) (h : shorts cv calls1 = shorts cv calls2) :
    readerOf g (closedBytes g cv calls1) = readerOf g (closedBytes g cv calls2) := by
  rw [adpcm_write_partition g hg cv calls1 calls2 hw1 hw2 h]

/-- non-vacuity: 3 mono frames of MS ADPCM at 8000 Hz: one 256-byte block; the re-open stream starts with the two header
    samples verbatim and has 500 frames -/
example : (readerOf (geoOf .ms 8000 1) (closedBytes (geoOf .ms 8000 1) {} [(.s16, [1000, -2000, 3000])])).frames = 500 ∧
    ((readerOf (geoOf .ms 8000 1) (closedBytes (geoOf .ms 8000 1) {} [(.s16, [1000, -2000, 3000])])).src 0).take 2 = [1000, -2000] := by
  decide +kernel

/-- `ima_write_i` / `msadpcm_write_i`: an int is narrowed by keeping its most significant 16 bits — whatever the low half
    holds, for negative values too (`>> 16`, not a division); a short passes through unchanged -/
theorem adpcm_int_narrowing (cv : Conv) (x r : Int) (hr0 : 0 ≤ r) (hr1 : r < 65536) :
    toCodec cv .s32 (x * 65536 + r) = x ∧ toCodec cv .s16 x = x := by
  refine ⟨?_, rfl⟩
  show asr (x * 65536 + r) 16 = x
  unfold asr
  have : (2 : Int) ^ 16 = 65536 := by decide
  rw [this]
  omega

example : toCodec {} .s32 (-3 * 65536 + 0x8001) = -3 ∧ toCodec {} .s32 (-1) = -1 := by decide

/-- **one sample**: fed the code the encoder emitted, the decoder's update (the same in `wavlike_ima_decode_block` and
    `aiff_ima_decode_block`) lands on the encoder's new predictor and step index; the predictor it stores is a `short` -/
theorem ima_decoder_tracks_encoder (c : Ch) (h0 : 0 ≤ c.idx) (h1 : c.idx ≤ 88) (x : Int) :
    clamp16 (c.prev + imaDiff (imaStepSize c.idx) (imaStep c x).2) = (imaStep c x).1.prev ∧
    clampImaStepIndex (wrapS 16 (c.idx + imaIndxAdjust (imaStep c x).2)) = (imaStep c x).1.idx ∧
    wrapS 16 (imaStep c x).1.prev = (imaStep c x).1.prev := ima_decoder_step c ⟨h0, h1⟩ x

/-- **a run of one channel**: the decode loop started from the encoder's state reproduces the encoder's reconstruction
    (`imaRecon`: the predictor after every sample) for ANY samples.  (In the AIFF layout the block header keeps only the top
    9 bits of the predictor, so a decoder of the FILE starts a block from the truncated value; in the WAV layout the header
    holds the first sample itself.) -/
theorem ima_decoder_run_tracks (xs : List Int) (c : Ch) (h0 : 0 ≤ c.idx) (h1 : c.idx ≤ 88) :
    aiffDecodeLoop (imaRun c xs).2 c.prev c.idx = imaRecon c xs := ima_decoder_run xs c ⟨h0, h1⟩

/-- **decode (encode block)**, WAV / W64 layout, one channel, every block size 4(m+1), every carried step index, every buffer
    of shorts: `wavlike_ima_decode_block` on the block `wavlike_ima_encode_block` made = the first sample verbatim, then the
    encoder's own reconstruction -/
theorem ima_wav_mono_roundtrip (m : Nat) (st : Ch × Ch) (h0 : 0 ≤ st.1.idx) (h1 : st.1.idx ≤ 88) (buf : List Int)
    (hb : buf.length = 8 * m + 1) (hs0 : -32768 ≤ buf.getD 0 0) (hs1 : buf.getD 0 0 ≤ 32767) :
    imaWavDecodeBlock 1 (8 * m + 1) (imaWavEncodeBlock 1 (8 * m + 1) st buf).2.1 =
      buf.getD 0 0 :: imaRecon ⟨buf.getD 0 0, st.1.idx⟩ (buf.drop 1) := by
  have hbody : (buf.drop 1).take ((8 * m + 1 - 1) * 1) = buf.drop 1 :=
    List.take_of_length_le (by rw [List.length_drop, hb]; omega)
  have hok : IdxOk (⟨buf.getD 0 0, st.1.idx⟩ : Ch) := ⟨h0, h1⟩
  obtain ⟨_, r2, r3⟩ := imaRun_ok (buf.drop 1) ⟨buf.getD 0 0, st.1.idx⟩ hok
  have hlen : (imaRun ⟨buf.getD 0 0, st.1.idx⟩ (buf.drop 1)).2.length = 8 * m := by rw [r3, List.length_drop, hb]; omega
  unfold imaWavEncodeBlock
  simp only [Nat.lt_irrefl, gt_iff_lt, if_false, hbody, wavEncLoop_mono, wavPack, if_true]
  unfold imaWavDecodeBlock
  simp only [Nat.lt_irrefl, gt_iff_lt, if_false, wavHeader_bytes _ _ hs0 hs1 h0 h1, wavUnpack, if_true, Nat.mul_one]
  have hdrop : (wavHeaderBytes (buf.getD 0 0) st.1.idx ++ wavPack1 (imaRun ⟨buf.getD 0 0, st.1.idx⟩ (buf.drop 1)).2).drop 4 =
      wavPack1 (imaRun ⟨buf.getD 0 0, st.1.idx⟩ (buf.drop 1)).2 := by
    simp [wavHeaderBytes]
  rw [hdrop, wavUnpack1_pack1 m _ hlen r2, List.take_of_length_le (by rw [hlen]; omega)]
  simp only [List.reverse_cons, List.reverse_nil, List.nil_append, List.cons_append]
  rw [show ([buf.getD 0 0] : List Int) = (⟨buf.getD 0 0, st.1.idx⟩ : Ch).prev :: [] from rfl]
  exact congrArg _ (wavDecodeLoop_mono_tracks (buf.drop 1) 1 ⟨buf.getD 0 0, st.1.idx⟩ 0 [] hok)

example : imaWavDecodeBlock 1 9 (imaWavEncodeBlock 1 9 ({}, {}) [100, 200, -300, 400, 32767, -32768, 0, 1, 2]).2.1 =
    [100, 111, 81, 144, 280, -13, 29, -9, 25] := by decide

end Sf.C07Adpcm
