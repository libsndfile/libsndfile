/-
  C05 / C06 / C08 on the GENERIC handle machine `Sf.HandleG` (SfModel/HandleG.lean): what SfProps/C05.lean, C06.lean, C08.lean
  prove about `Sf.Handle` (RAW / AU / WAV) holds for EVERY container that satisfies the law record `ContLaws` — proved once,
  instantiated for AVR, IRCAM, PAF, HTK, AIFF, CAF, W64 (and RAW / AU / WAV again, where the generic machine IS `Sf.Handle`:
  `handleG_refines_handle`).  Property theorems only.
-/
-- properties: C05 C06 C08 C04 C01
import SfProofs.HandleGRefine
namespace Sf.C05HandleG
open Sf Sf.HandleG

/-- every history: the generic machine instantiated with the RAW / AU / WAV container record computes exactly what
    `Sf.Handle`'s step functions compute (handle, store) -/
theorem handleG_refines_handle (k : Container) (ops : List Op) (h : H) (s : Store) (hc : h.container = k) :
    HandleG.runOps (classic k).toCont h s ops = Sf.runOps h s ops :=
  HandleG.handleG_refines_handle k ops h s hc

/-- one operation, including what the call returns -/
theorem handleG_step_refines (k : Container) (h : H) (s : Store) (op : Op) (hc : h.container = k) :
    HandleG.stepAny (classic k).toCont h s op = Sf.stepAny h s op :=
  stepAny_classic k h s op hc

example : (classic .au).toCont.name = "au" ∧ (classic .wav).toCont.hasHeader = true ∧ (classic .raw).toCont.hasHeader = false := by decide

/-! ## the handle invariant, every container -/

/-- the invariant `HInv` of SfProofs/HandleInv.lean (0 ≤ rpos, 0 ≤ wpos, 0 ≤ dataoffset; in read mode rpos ≤ frames, the data region lies
    inside the store and the store position is the byte position of frame rpos) is preserved by every operation of every
    container satisfying the laws -/
theorem HInv_preserved_generic (c : Cont) (L : ContLaws c) (h : H) (s : Store) (op : Op) (hi : HInv h s) :
    HInv (HandleG.stepAny c h s op).1 (HandleG.stepAny c h s op).2.1 :=
  HandleG.HInv_stepAny L h s op hi

theorem HInv_history_generic (c : Cont) (L : ContLaws c) (ops : List Op) (h : H) (s : Store) (hi : HInv h s) :
    HInv (HandleG.runOps c h s ops).1 (HandleG.runOps c h s ops).2 :=
  HandleG.HInv_runOps L ops h s hi

/-- a container given by its header (`Spec`) satisfies the laws as soon as its `calc_length` block recomputes only the
    length fields and the offset it stores after writing the header is not negative (`SpecLaws`) -/
theorem spec_satisfies_laws (sp : Spec) (L : SpecLaws sp) : ContLaws sp.toCont := specLaws L

theorem instances_lawful :
    ContLaws rawSpec.toCont ∧ ContLaws auSpec.toCont ∧ ContLaws wavSpec.toCont ∧ ContLaws avrSpec.toCont ∧
    ContLaws ircamSpec.toCont ∧ ContLaws pafSpec.toCont ∧ ContLaws htkSpec.toCont ∧ ContLaws aiffSpec.toCont ∧
    ContLaws cafSpec.toCont ∧ ContLaws w64Spec.toCont :=
  ⟨specLaws rawLaws, specLaws auLaws, specLaws wavLaws, specLaws avrLaws, specLaws ircamLaws, specLaws pafLaws,
   specLaws htkLaws, specLaws aiffLaws, specLaws cafLaws, specLaws w64Laws⟩

/-! ## the read contract, every container (C05 / C06) -/

/-- a read is the same function on every container: the generic machine's read step is `Sf.stepRead`, so the read contract
    of SfProps/C05.lean (`read_contract_rmode`: count = min (request, frames left), data = the next items of the decoded data
    region, zero fill at the end, position advance) applies verbatim to every instance -/
theorem read_is_container_independent (c c' : Cont) (h : H) (s : Store) (hn : Nat) (ty : Ty) (fc : Bool) (n : Int) :
    HandleG.stepAny c h s (.read hn ty fc n) = HandleG.stepAny c' h s (.read hn ty fc n) ∧
    HandleG.stepAny c h s (.read hn ty fc n) = Sf.stepRead h s ty fc n := ⟨rfl, rfl⟩

/-- seeks and SFC_FILE_TRUNCATE likewise -/
theorem seek_is_container_independent (c : Cont) (h : H) (s : Store) (hn : Nat) (off wh f : Int) :
    HandleG.stepAny c h s (.seek hn off wh) = Sf.stepSeek h s off wh ∧
    HandleG.stepAny c h s (.truncate hn f) = Sf.stepTruncate h s f := ⟨rfl, rfl⟩

/-- the write contract: a valid call (positive count, whole frames) on a handle that can write returns its count, clears the
    error, advances the write position by count / channels and keeps the read position, the mode and the channel count —
    every container (the whole handle after the call: `HandleG.stepWrite_fields`) -/
theorem write_contract_generic (c : Cont) (L : ContLaws c) (h : H) (s : Store) (ty : Ty) (fc : Bool) (n : Int) (data : List Int)
    (hn : 0 < n) (hm : h.mode ≠ .r) (ha : fc = true ∨ n % h.ch = 0) (hch : 0 < h.ch) :
    (HandleG.stepWrite c h s ty fc n data).2.2.ret = n ∧ (HandleG.stepWrite c h s ty fc n data).2.2.err = 0 ∧
    (HandleG.stepWrite c h s ty fc n data).1.wpos = h.wpos + reqLen h fc n / h.ch ∧
    (HandleG.stepWrite c h s ty fc n data).1.rpos = h.rpos ∧
    (HandleG.stepWrite c h s ty fc n data).1.mode = h.mode ∧ (HandleG.stepWrite c h s ty fc n data).1.ch = h.ch := by
  obtain ⟨fl, dl, off, de, pk, fr, e, _, eo, _⟩ := HandleG.stepWrite_fields L h s ty fc n data hn hm ha
  rw [e, eo]
  exact ⟨reqLen_ret h fc n hch, rfl, rfl, rfl, rfl, rfl⟩

/-- non-vacuity: a two-channel AVR file opened for write; a frames call of 2 frames returns 2 and moves the write position -/
example :
    (match avrSpec.openH 0 {} .w 0x120002 2 8000 0 with
     | .ok h s =>
        let r := HandleG.stepWrite avrSpec.toCont h s .s16 true 2 [1, 2, 3, 4]
        decide (r.2.2.ret = 2 ∧ r.1.wpos = 2 ∧ r.2.1.bytes.length = 128 + 8 ∧ h.mode ≠ .r ∧ 0 < h.ch)
     | _ => false) = true := by decide +kernel

/-- non-vacuity on a non-classic container: an IRCAM file written, closed and re-opened for reading; the header fields and one read -/
example :
    (match ircamSpec.openH 0 {} .w 0x0A0002 1 8000 0 with
     | .ok h s =>
        let r := HandleG.stepWrite ircamSpec.toCont h s .s16 false 3 [1, 2, 3]
        let closed := ircamSpec.toCont.closeStore r.1 r.2.1
        match ircamSpec.openH 0 closed .r 0 0 0 0 with
        | .ok h2 s2 => decide (h2.frames = 3 ∧ h2.ch = 1 ∧ h2.sr = 8000 ∧ h2.dataoffset = 1024 ∧ s2.pos = 1024 ∧
                               (stepRead h2 s2 .s16 false 2).2.2.data = [1, 2])
        | _ => false
     | _ => false) = true := by decide +kernel

end Sf.C05HandleG
