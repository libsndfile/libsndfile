/-
  C04 on the WRITE-SIDE PREDICATE (SfModel/AbsWrite.lean) — the clauses `open write close reopen info rate frames eof stale`
  of `Sf.AbsWrite.judge`, which the check evaluates on the implementation's own records (`sfmodel abs-write`): what an
  accepted record MEANS, and that the answers the concrete model is proved to give (`C04.frames_bound`,
  `C04.au_reopen_info`, …) ARE accepted.  Property theorems only; lemmas in SfProofs/AbsWrite*.lean.
-/
import SfProofs.AbsWriteComplete
import SfProps.C04
import SfProps.C04Geometry
namespace Sf.C04AbsW
open Sf Sf.Abs Sf.AbsWrite Sf.Geometry

/-- MEANING (C04 at full strength, any container, any encoding): in an accepted record the writer opened, every write
    call accepted what it was handed, sf_close returned 0, the closed bytes re-open with the requested channel count and
    (outside RAW) container and encoding, the frame count F satisfies `N ≤ F < N + B` with N the frames the write calls
    accepted — `F = N` when `B = 1` —, reading delivers exactly `F·ch` items and then 0, and the closed bytes of the run
    with another stale SF_INFO.frames are the same bytes. -/
theorem closed_file_abs (r : Record) (h : accepted r = true) :
    r.one.openNull = false ∧ (∀ c ∈ r.one.calls, c.ret = c.n) ∧ r.one.close = 0 ∧ r.info.null = false ∧
    r.info.ch = (r.g.ch : Int) ∧ (r.g.major ≠ 0x04 → r.info.fmt % 0x10000000 = r.g.word % 0x10000000) ∧
    ((framesAccepted r.g.ch r.one.calls : Nat) : Int) ≤ r.info.frames ∧
    r.info.frames < (framesAccepted r.g.ch r.one.calls : Int) + (r.g.block : Int) ∧
    (r.g.block = 1 → r.info.frames = (framesAccepted r.g.ch r.one.calls : Int)) ∧
    r.rb.ret = r.info.frames * (r.g.ch : Int) ∧ r.rb.more = 0 ∧
    (∀ b, r.stale = some b → r.one.bytes = b) := by
  have a := accepted_meaning r h
  obtain ⟨i1, i2⟩ := infoOk_meaning _ _ a.info
  obtain ⟨f1, f2⟩ := (framesOk_iff _ _ _).1 a.frames
  obtain ⟨e1, e2⟩ := (eofOk_iff _ _ _).1 a.eof
  exact ⟨a.opened, a.calls, a.closed, a.reopened, i1, i2, f1, f2, fun hb => by rw [hb] at f2; omega, e1, e2,
    fun b hb => (staleOk_iff _ _).1 (a.stale b hb)⟩

/-- the rate clause: the containers with integer-Hz or wider fields report exactly the rate asked for -/
theorem rate_exact_abs (r : Record) (h : accepted r = true) (hc : rateClass r.g.major = .exact) :
    r.info.sr = (r.g.sr : Int) :=
  (rateOk_exact_iff _ _ _ hc).1 (accepted_meaning r h).rate

/-- COMPLETENESS against `C04.frames_bound`: the frame count a block codec reports — N rounded up to whole blocks — is
    accepted for every N and every positive block length -/
theorem frames_bound_accepted (g : AbsWrite.Geom) (N : Nat) (hb : 1 ≤ g.block) :
    framesOk g N (ceilToBlock N g.block : Int) = true := by
  obtain ⟨h1, h2⟩ := C04.frames_bound N g.block hb
  exact (framesOk_iff g N _).2 ⟨by exact_mod_cast h1, by exact_mod_cast h2⟩

/-- … and F = N, the count of a sample-granular encoding, as well -/
theorem frames_exact_accepted (g : AbsWrite.Geom) (N : Nat) (hb : 1 ≤ g.block) : framesOk g N (N : Int) = true :=
  (framesOk_iff g N N).2 ⟨Int.le_refl _, by omega⟩

/-- COMPLETENESS against `C04.au_reopen_info`: for every AU session of the concrete model (any configuration the model
    accepts, any valid list of write calls / header updates) every reader of the closed bytes answers what the clauses
    `info` (channels), `rate` and `frames` of the predicate accept -/
theorem au_reopen_accepted (ix fmt : Nat) (ch sr : Int) (h0 : H) (s0 : Store) (ops : List SOp)
    (hc : containerOf fmt = some .au) (ho : openHandle ix {} .w fmt ch sr = .ok h0 s0)
    (hsr : sr ≤ 0x7FFFFFFF) (hv : ∀ op ∈ ops, op.valid ch.toNat)
    (g : AbsWrite.Geom) (hg : (g.ch : Int) = ch) (hgs : (g.sr : Int) = sr) (hb : 1 ≤ g.block) (hrc : rateClass g.major = .exact)
    (ix' pos fmt0 : Nat) (ch0 sr0 : Int) (hraw : containerOf fmt0 ≠ some .raw) :
    ∃ h' s', openHandle ix' ⟨(closeHandle (runS (h0, s0) ops).1 (runS (h0, s0) ops).2).bytes, pos⟩ .r fmt0 ch0 sr0 = .ok h' s' ∧
      framesOk g (sessFrames ch.toNat ops) h'.frames = true ∧ rateOk g.major g.sr h'.sr = true ∧ (h'.ch : Int) = (g.ch : Int) := by
  obtain ⟨p, c, _, _, _, _, _, _, _, hr⟩ := C04.au_reopen_info ix fmt ch sr h0 s0 ops hc ho hsr hv
  obtain ⟨h', s', q1, q2, q3, q4, _⟩ := hr ix' pos fmt0 ch0 sr0 hraw
  refine ⟨h', s', q1, ?_, ?_, by rw [q3, hg]⟩
  · rw [q2]; exact frames_exact_accepted g _ hb
  · exact (rateOk_exact_iff _ _ _ hrc).2 (by rw [q4, hgs])

/-! ## non-vacuity (the record of C01AbsW's example, spelled out here: C01AbsW is not imported) -/

def exG : AbsWrite.Geom := { word := 0x00030002, ch := 2, sr := 44100 }
def exBytes : Array Item :=
  #[46,115,110,100, 0,0,0,24, 0,0,0,12, 0,0,0,3, 0,0,172,68, 0,0,0,2, 0,1,255,254,0,3,255,252,0,5,0,6]
def exInfo (f : Int) : Info := { ch := 2, sr := 44100, fmt := 0x00030002, frames := f }
def exRec : Record :=
  { g := exG, ty := .s16,
    one := { calls := [{ ty := .s16, fc := true, n := 3, data := #[1, 0xFFFE, 3, 0xFFFC, 5, 6], ret := 3 }], bytes := exBytes },
    info := exInfo 3,
    rb := { ret := 6, data := #[1, 0xFFFE, 3, 0xFFFC, 5, 6, 0xA5A5, 0xA5A5] },
    stale := some exBytes }

example : accepted exRec = true ∧ exRec.g.block = 1 ∧ rateClass exRec.g.major = .exact := by decide +kernel
/-- one frame too many at re-open (and a read-back that follows the header): `frames`; header says 3 but 4 frames are
    delivered: `eof`; another rate: `rate`; a stale-frames run with other bytes: `stale` -/
example : judge { exRec with info := exInfo 4, rb := { ret := 8, data := #[1, 0xFFFE, 3, 0xFFFC, 5, 6, 0, 0] } } = [{ tag := "frames" }] := by decide +kernel
example : judge { exRec with rb := { ret := 8, data := #[1, 0xFFFE, 3, 0xFFFC, 5, 6, 0, 0] } } = [{ tag := "eof" }] := by decide +kernel
example : judge { exRec with info := { exInfo 3 with sr := 44101 } } = [{ tag := "rate" }] := by decide +kernel
example : judge { exRec with stale := some (exBytes.set! 15 7) } = [{ tag := "stale", run := 3 }] := by decide +kernel
/-- an IMA ADPCM WAV job (B = 505 at 8 kHz mono): 1000 frames written re-open as 1010 = ⌈1000⌉_505, accepted; 1515 is not -/
example : (⟨0x00010012, 1, 8000⟩ : AbsWrite.Geom).block = 505 ∧ ceilToBlock 1000 505 = 1010 ∧
    framesOk ⟨0x00010012, 1, 8000⟩ 1000 1010 = true ∧ framesOk ⟨0x00010012, 1, 8000⟩ 1000 1515 = false ∧
    framesOk ⟨0x00010012, 1, 8000⟩ 1000 999 = false := by decide
/-- the rate quantiser classes: SVX keeps 16 bits (saturating; the old clause asked nothing above 65535),
    IRCAM a binary32 (capped at 2^31 − 128; the old clause asked nothing from 2^31 − 64 on), HTK a period in 100 ns units and SDS one in ns (21 bits) —
    the period clause is EXACT: 44100 Hz is period 226 = 44247 Hz and nothing else; 6 MHz is period 1 = 10 MHz; above the
    unit (period 0) and, for SDS, below 477 Hz (period beyond 21 bits) the field cannot express the rate: any positive rate -/
example : rateOk 0x06 65537 65535 = true ∧ rateOk 0x06 65537 1 = false ∧ field16Old 65537 1 = true ∧ rateOk 0x06 8000 8001 = false ∧
    rateOk 0x0A 16777217 16777216 = true ∧ rateOk 0x0A 16777217 16777217 = false ∧
    rateOk 0x0A (2 ^ 31 - 1) (2 ^ 31 - 128) = true ∧ rateOk 0x0A (2 ^ 31 - 1) 1 = false ∧ float32CapOld (2 ^ 31 - 1) 1 = true ∧ rateOk 0x10 44100 44247 = true ∧ rateOk 0x10 44100 44101 = false ∧
    rateOk 0x10 44100 44100 = false ∧ rateOk 0x10 8000 8000 = true ∧ rateOk 0x10 8000 8001 = false ∧
    rateOk 0x10 6000000 10000000 = true ∧ rateOk 0x10 6000000 5000000 = false ∧ rateOk 0x10 10000001 16000 = true ∧
    rateOk 0x10 10000001 0 = false ∧ rateOk 0x11 44100 44101 = true ∧ rateOk 0x11 44100 44100 = false ∧
    rateOk 0x11 476 271149 = true ∧ rateOk 0x11 477 477 = true ∧ rateOk 0x11 477 478 = false ∧
    rateOk 0x01 44100 44100 = true ∧ rateOk 0x01 44100 44101 = false := by decide

end Sf.C04AbsW
