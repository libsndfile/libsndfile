/-
  C03 — per-site bounds theorems (DESIGN §7 C03): for every declared length / count / string size (any integer the
  32-bit field can hold, and beyond) and every amount of remaining input, each write a chunk reader makes into a
  fixed-capacity destination lies inside that destination.  The models are SfModel/Sites.lean; capacities and
  thresholds are this tree's (SfModel/Generated/SitesConsts.lean), so a changed `#define` or struct re-checks the proofs.
  Tie: vlib/c03sites.py (library-written files with exactly these fields mutated, parse log + getmeta vs `sfmodel sites`).
-/
import SfModel.Sites
namespace Sf.C03
open Sf.Sites Sf.Generated.Sites

/-- relations between the tree's capacities and thresholds (SfModel/Generated/SitesConsts.lean) that the site models rely on.  No proof
    below cites this: each unfolds the generated constants where it needs them, which is what re-opens it when a buffer size or
    threshold changes. -/
theorem sites_consts :
    bextMax - bextMin ≤ bextHistCap ∧ cartStruct - 4 - cartMin ≤ cartTagCap ∧ bextStruct = bextHistOff + bextHistCap ∧
    cartStruct = cartTagOff + cartTagCap ∧ 256 + 1 < scbuf - 1 ∧ cueName ≤ infoBuffer ∧ headerCap < 2147483647 ∧ 0 < instLoops := by decide

theorem safe_quiet (d : String) (v : List Int) : ({ decision := d, vals := v } : Outcome).safe := fun _ h => nomatch h

theorem ok_mk {d : String} {cap off n : Int} (h : 0 ≤ off ∧ 0 ≤ n ∧ off + n ≤ cap) : Write.ok ⟨d, cap, off, n⟩ := h

theorem copy_ok {d : String} {cap n : Int} (h : 0 ≤ n ∧ n ≤ cap) : ∀ w ∈ [(⟨d, cap, 0, n⟩ : Write)], w.ok := by
  intro w hw
  cases List.mem_singleton.mp hw
  exact ok_mk (by omega)

/-- the text idiom: `n` bytes read to the front of a buffer of `cap` bytes, then a terminator stored at index `t` -/
theorem text_ok {d : String} {cap n t : Int} (h : 0 ≤ n ∧ n ≤ cap ∧ 0 ≤ t ∧ t < cap) :
    ∀ w ∈ [(⟨d, cap, 0, n⟩ : Write), ⟨d, cap, t, 1⟩], w.ok := by
  intro w hw
  simp only [List.mem_cons, List.not_mem_nil, or_false] at hw
  rcases hw with rfl | rfl <;> exact ok_mk (by omega)

theorem fixed_ok (l : List Write) (h : l.all (fun w => decide w.ok) = true) : ∀ w ∈ l, w.ok := by
  intro w hw
  have := List.all_eq_true.mp h w hw
  simpa using this

theorem bextFixed_ok : ∀ w ∈ bextFixed, w.ok := fixed_ok _ (by decide)
theorem cartFixed_ok : ∀ w ∈ cartFixed, w.ok := fixed_ok _ (by decide)

/-- bext: every chunk length -/
theorem bext_in_bounds (L : Int) : (bext L).safe := by
  unfold bext
  refine iteInduction (fun _ => safe_quiet _ _) fun _ => iteInduction (fun _ => safe_quiet _ _) fun _ =>
    iteInduction (fun _ => safe_quiet _ _) fun _ => iteInduction (fun _ => ?_) fun _ => bextFixed_ok
  simp only [bextMax, bextMin, bextHistCap] at *
  exact List.forall_mem_append.mpr ⟨bextFixed_ok, copy_ok (by omega)⟩

/-- cart: every chunk length -/
theorem cart_in_bounds (L : Int) : (cart L).safe := by
  unfold cart
  refine iteInduction (fun _ => safe_quiet _ _) fun _ => iteInduction (fun _ => safe_quiet _ _) fun _ =>
    iteInduction (fun _ => safe_quiet _ _) fun _ => iteInduction (fun _ => ?_) fun _ => cartFixed_ok
  simp only [cartStruct, cartMin, cartTagCap] at *
  exact List.forall_mem_append.mpr ⟨cartFixed_ok, copy_ok (by omega)⟩

/-- SFC_GET_CART_INFO after any cart chunk the reader accepts, FULL strength for the current code: the copy out of the
    cart block stays inside the block (and inside the caller's datasize), whatever the heap held before -/
theorem cart_get_in_bounds (L datasize stale : Int) (hL : cartMin ≤ L ∧ L ≤ cartStruct - 4) (hd : 0 ≤ datasize) :
    0 ≤ cartGetSize false L datasize stale ∧ cartGetSize false L datasize stale ≤ cartStruct ∧ cartGetSize false L datasize stale ≤ datasize := by
  unfold cartGetSize
  simp only [cartMin, cartStruct, cartTagOff] at hL ⊢
  simp only [Bool.false_eq_true, if_false]
  omega

/-- the class of the old rule's failure: a cart chunk with no tag text -/
def KF.cartNoTagText (L : Int) : Prop := L = cartMin

instance (L : Int) : Decidable (KF.cartNoTagText L) := by unfold KF.cartNoTagText; infer_instance

/-- OLD RULE (malloc, before /repo 5a09bfc, KF-C03-cart-no-tag-text; findings/C03-cart-2048-uninit.txt): for a cart chunk of exactly 2048 bytes the copy
    size came from uninitialised heap: with the 0xBE fill of the sanitizer's malloc and the 34820-byte block of the
    harness, 34820 bytes were read out of the 18436-byte block -/
theorem cart_get_overreads_old_rule :
    ∃ L datasize stale : Int, KF.cartNoTagText L ∧ 0 ≤ stale ∧ stale < 4294967296 ∧ cartGetSize true L datasize stale = 34820 ∧ 34820 > cartStruct :=
  ⟨2048, 34820, 0xBEBEBEBE, by decide, by decide, by decide, by decide, by decide⟩

/-- OLD RULE: outside the class the size was determined by the file -/
theorem cart_get_in_bounds_partial_old_rule (L datasize stale : Int) (hL : cartMin ≤ L ∧ L ≤ cartStruct - 4)
    (h : ¬ KF.cartNoTagText L) : cartGetSize true L datasize stale = cartGetSize false L datasize stale := by
  unfold KF.cartNoTagText at h
  unfold cartGetSize
  have : L > cartMin := by omega
  simp only [this, if_true]

example : cartGetSize false 2048 34820 0xBEBEBEBE = 2052 ∧ cartGetSize false 2304 34820 7 = 2308 ∧ ¬ KF.cartNoTagText 2304 := by decide

/-- PEAK: every chunk length and channel count the fmt / COMM chunk can leave behind -/
theorem peak_in_bounds (L ch : Int) (hch : 0 ≤ ch) : (peak L ch).safe := by
  unfold peak
  exact iteInduction (fun _ => safe_quiet _ _) fun _ => copy_ok ⟨hch, Int.le_refl _⟩

theorem u32_range (x : Int) : 0 ≤ u32 x ∧ u32 x < 4294967296 := by
  unfold u32; constructor
  · exact Int.emod_nonneg _ (by decide)
  · exact Int.emod_lt_of_pos _ (by decide)

theorem infoBufSize_ge (lc : Int) : infoBuffer ≤ infoBufSize lc := by
  unfold infoBufSize infoBuffer headerCap
  omega

/-- LIST/INFO strings: every size field, every bytesread, every LIST length (the +1 that wraps 0xFFFFFFFF to 0 included);
    the buffer is the one allocated for this LIST chunk -/
theorem info_string_in_bounds (s b lc : Int) : (infoString s b lc).safe := by
  unfold infoString
  have h := u32_range (s + s % 2)
  exact iteInduction (fun _ => safe_quiet _ _) fun _ => iteInduction (fun _ => safe_quiet _ _) fun _ => text_ok (by omega)

/-- a skipped item lies inside the LIST chunk and the seek that skips it goes forward by less than 2^31 bytes (the `int` count of
    the 'j' conversion): the walk makes progress.  This is what the 64-bit bound in front of the skip is for. -/
theorem info_skip_goes_forward (s b lc : Int) (hb : 0 ≤ b) (h : (infoString s b lc).decision = "skip") :
    0 ≤ u32 (s + s % 2) ∧ u32 (s + s % 2) ≤ 2147483647 ∧ b + u32 (s + s % 2) ≤ lc := by
  have hr := u32_range (s + s % 2)
  unfold infoString at h
  simp only at h
  split at h
  · simp at h
  · rename_i hn
    refine ⟨hr.1, by omega, by omega⟩

example : (infoString 0xfffffff8 52 220).decision = "too-big" ∧ (infoStringOld 0xfffffff8 52 220).decision = "too-big" ∧
    (infoString 102401 12 200000).decision = "skip" := by decide +kernel

/-- … and for the fixed 2048-byte buffer of the code before the repair -/
theorem info_string_in_bounds_old_rule (s b lc : Int) : (infoStringOld s b lc).safe := by
  unfold infoStringOld
  have h := u32_range (s + s % 2)
  exact iteInduction (fun _ => safe_quiet _ _) fun _ => text_ok (by omega)

/-- adtl labl: every size field (sizes below 4 wrap to ≥ 0xFFFFFFFC and are refused); the 256 bytes copied into the cue name
    lie inside the buffer because it never has fewer than 2048 bytes -/
theorem labl_in_bounds (s b lc : Int) : (labl s b lc).safe := by
  unfold labl
  have h := u32_range (u32 (s - 4) + u32 (s - 4) % 2)
  have hb := infoBufSize_ge lc
  simp only [infoBuffer] at hb
  simp only [cueName]
  exact iteInduction (fun _ => safe_quiet _ _) fun _ => List.forall_mem_append (l₁ := [_, _]).mpr
    ⟨text_ok (by omega), List.forall_mem_cons.mpr ⟨ok_mk (by omega), copy_ok (by omega)⟩⟩

/-- cue: every count and every amount of remaining input -/
theorem cue_in_bounds (count r : Int) (hc : 0 ≤ count) : (cue count r).safe := by
  unfold cue
  exact iteInduction (fun _ => safe_quiet _ _) fun _ => copy_ok (by omega)

theorem smplIter_nonneg (lc cl : Int) : ∀ (fuel : Nat) (b r j : Int), 0 ≤ j → 0 ≤ smplIter lc cl fuel b r j := by
  intro fuel
  induction fuel with
  | zero => intro b r j h; simpa [smplIter] using h
  | succ n ih =>
    intro b r j h
    unfold smplIter
    split
    · exact ih _ _ _ (by omega)
    · exact h

/-- smpl: every chunk size, loop count and amount of input: the loop table write stays inside `loops [16]` -/
theorem smpl_in_bounds (L lc r : Int) : (smpl L lc r).safe := by
  unfold smpl
  refine iteInduction (fun _ => safe_quiet _ _) fun _ => ?_
  have := smplIter_nonneg lc (u32 (L + L % 2)) (r / 24 + 2).toNat 36 r 0 (by decide +kernel)
  generalize smplIter lc (u32 (L + L % 2)) (r / 24 + 2).toNat 36 r 0 = a at this ⊢
  refine copy_ok ?_
  simp only [instLoops]
  omega

/-- AIFF NAME / AUTH / (c) / ANNO: every chunk size; the buffer is allocated from the chunk size (padded + 1 bytes) -/
theorem aiff_text_in_bounds (slack size : Int) (h0 : 0 ≤ size) : (aiffText slack size).safe := by
  unfold aiffText
  exact iteInduction (fun _ => safe_quiet _ _) fun _ => iteInduction (fun _ => safe_quiet _ _) fun _ => text_ok (by omega)

/-- … and for the 8 KiB scratch union of the code before the repair (slack 0, 1, 2): for (c) the odd size 8191 read 8192 bytes
    into the 8192-byte buffer and the terminator went to index 8191 -/
theorem aiff_text_in_bounds_old_rule (slack size : Int) (hs : 0 ≤ slack) (h0 : 0 ≤ size) : (aiffTextOld slack size).safe := by
  unfold aiffTextOld
  simp only [scbuf]
  exact iteInduction (fun _ => safe_quiet _ _) fun _ => iteInduction (fun _ => safe_quiet _ _) fun _ => text_ok (by omega)

/-- AIFF MARK: every marker count, every number k ≤ count of markers parsed, every pascal length byte -/
theorem aiff_mark_in_bounds (count k ch : Int) (hk0 : 0 ≤ k) (hk : k ≤ count) (hch : 0 ≤ ch ∧ ch ≤ 255) : (aiffMark count k ch).safe := by
  unfold aiffMark
  simp only [scbuf, cueMax]
  have hp : (if ch % 2 = 1 then ch else ch + 1) < 8192 - 1 := by omega
  refine iteInduction (fun _ => copy_ok (by omega)) fun _ => ?_
  simp only [hp, if_true]
  exact List.forall_mem_append.mpr ⟨List.forall_mem_append.mpr
    ⟨List.forall_mem_cons.mpr ⟨ok_mk (by omega), copy_ok (by omega)⟩, text_ok (by omega)⟩, copy_ok (by decide)⟩

/-- AIFF COMT: every 16-bit comment length -/
theorem aiff_comt_in_bounds (len : Int) (h0 : 0 ≤ len) : (aiffComt len).safe := by
  unfold aiffComt
  simp only [scbuf]
  exact iteInduction (fun _ => safe_quiet _ _) fun _ => text_ok (by omega)

/-- CAF info: every string-area size (the caller guarantees n ≥ 1), on every route -/
theorem caf_info_in_bounds (n : Int) (hn : 1 ≤ n) : (cafInfo n).safe := by
  unfold cafInfo
  simp only [headerCap]
  refine iteInduction (fun _ => safe_quiet _ _) fun _ => ?_
  -- below 2^31 the `(int)` cast of the 32-bit size gives the size back
  have hs : s32 (u32 n) = n := by unfold s32 u32; omega
  exact text_ok (by omega)

/-- CAF chan: every channel count and layout tag: the copy fits the allocation and the layout's table -/
theorem caf_chan_in_bounds (channels tag : Int) (hc : 0 ≤ channels) : (cafChan channels tag).safe := by
  unfold cafChan
  exact List.forall_mem_cons.mpr ⟨ok_mk (by omega), copy_ok (by omega)⟩

/-- non-vacuity: at the boundaries the sites read (with a non-empty variable part) or refuse as the C does -/
example :
    (bext 602).decision = "read" ∧ (bext 16986).vals = [16384] ∧ (bext 16987).decision = "big" ∧ (bext 601).decision = "small" ∧
    (cart 18432).vals = [16384] ∧ (cart 18433).decision = "too-big" ∧ (cart 2047).decision = "small" ∧
    (infoString 2046 12 5000).decision = "read" ∧ (infoString 2047 12 5000).decision = "read" ∧ (infoStringOld 2047 12 5000).decision = "too-big" ∧
    (infoString 4988 12 5000).decision = "read" ∧ (infoString 4989 12 5000).decision = "too-big" ∧ (infoString 102401 12 200000).decision = "skip" ∧
    (infoString 102399 12 200000).decision = "read" ∧ (infoString 4294967295 12 5000).vals = [0] ∧
    (labl 3 16 5000).decision = "too-big" ∧ (labl 10 16 5000).vals = [6] ∧
    (cue 2500 100).vals = [2500, 4] ∧ (cue 2501 100).decision = "skip" ∧
    (smpl 60 1 24).vals = [1, 1] ∧ (smpl 8 40 1000).vals = [16, 42] ∧ (smpl 36 0 0).vals = [0, 0] ∧
    (aiffTextOld 1 8190).decision = "read" ∧ (aiffTextOld 1 8191).decision = "too-big" ∧ (aiffTextOld 0 8191).decision = "read" ∧ (aiffTextOld 2 8190).decision = "too-big" ∧
    (aiffText 2 8190).decision = "read" ∧ (aiffText 0 102400).decision = "read" ∧ (aiffText 0 102401).decision = "too-big" ∧ (aiffComt 8191).decision = "read" ∧ (aiffComt 8192).decision = "error" ∧
    (cafInfo 102400).decision = "read" ∧ (cafInfo 102401).decision = "too-big" ∧ (cafChan 2 0x650002).vals = [2] := by decide +kernel

end Sf.C03
