-- properties: C04 C11
/-
  C04 / C11 — the IRCAM container (stand-alone L1 model SfModel/Ircam.lean over SfModel/SmallSession.lean; helpers
  SfProofs/SmallSession.lean, SfProofs/Ircam.lean).

  The 1024-byte header holds no length: it is written at open, re-emitted unchanged by header updates, and
  ircam_close writes nothing.  The sample rate is stored as a binary32 number (`rateQ` is the quantiser).
-/
import SfProofs.Ircam
namespace Sf.C04Ircam
open Sf Sf.Small Sf.Ircam

theorem closedBytes_eq (c : Cfg) (stale : Nat) (ops : List WOp) : closedBytes (spec c) stale ops = hdr c ++ opsData ops :=
  (static_bytes (spec c) (spec_plain c) (hdr c) (fun _ _ _ => rfl) stale ops).1

theorem snapshotBytes_eq (c : Cfg) (stale : Nat) (ops : List WOp) : snapshotBytes (spec c) stale ops = hdr c ++ opsData ops :=
  (static_bytes (spec c) (spec_plain c) (hdr c) (fun _ _ _ => rfl) stale ops).2

/-- what C04 asks of a re-open: channels, format word (the byte order is always recorded), the rate after the
    container's binary32 quantisation, frames = audio bytes / block width; `err` when the quantised rate is lost.
    For an accepted configuration it is not lost and `q = float32Quant c.sr` (`IrcamRateExact.ircam_rateQ_some`,
    `ircam_rateQ_exact`, SfProps/C04IrcamRateExact.lean, which this file does not import). -/
def reopenSpec (c : Cfg) (D : Nat) : ParseRes :=
  match rateQ c.sr with
  | some q => .ok { ch := c.ch, fmt := c.fmtWord, sr := q, frames := D / c.bw }
  | none => .err

theorem reopenSpec_eq (c : Cfg) (D : Nat) :
    reopenSpec c D = if rateBack c.sr < 1 then .err else .ok { ch := c.ch, fmt := c.fmtWord, sr := (rateBack c.sr).toNat, frames := D / c.bw } := by
  unfold reopenSpec rateQ
  by_cases h : rateBack c.sr < 1
  · simp only [h, if_true]
  · simp only [h, if_false]

/-- the class of the repaired defect KF-IRCAM-BE-CHANNELS -/
def KF.beChannels (c : Cfg) : Prop := c.big = true ∧ 128 ≤ c.ch ∧ c.ch ≤ 255
instance (c : Cfg) : Decidable (KF.beChannels c) := by unfold KF.beChannels; infer_instance

/-- the full statement for a reader `p`: every accepted configuration re-opens as `reopenSpec` says -/
def reopenFull (p : List Byte → ParseRes) : Prop :=
  ∀ c : Cfg, c.wf → ∀ (stale : Nat) (ops : List WOp), p (closedBytes (spec c) stale ops) = reopenSpec c (opsData ops).length

def ircam_reopen_full : Prop := reopenFull parse

/-- **ircam_reopen_info** (full strength since the repair of KF-IRCAM-BE-CHANNELS).  For every accepted configuration —
    either byte order, 1..256 channels — and every session the reader answers `reopenSpec`: the requested channels
    and format word, the rate `q` of `rateQ sr = some q`, frames = audio bytes / block width. -/
theorem ircam_reopen_info (c : Cfg) (hwf : c.wf) (stale : Nat) (ops : List WOp) :
    parse (closedBytes (spec c) stale ops) = reopenSpec c (opsData ops).length := by
  rw [closedBytes_eq, reopenSpec_eq]
  exact parse_hdr c hwf _

theorem ircam_reopen_full_holds : ircam_reopen_full := fun c hwf stale ops => ircam_reopen_info c hwf stale ops

/-- **ircam_be_channels_old_rule.**  With the byte-order guess of before the repair ("channels > SF_MAX_CHANNELS read
    little-endian ⇒ big-endian") a big-endian file with 128..255 channels could not be re-opened, whatever was written:
    read little-endian the count is a negative int. -/
theorem ircam_be_channels_old_rule (c : Cfg) (hwf : c.wf) (hk : KF.beChannels c) (stale : Nat) (ops : List WOp) :
    parseOld (closedBytes (spec c) stale ops) = .err ∧ parseOld (snapshotBytes (spec c) stale ops) = .err := by
  rw [closedBytes_eq, snapshotBytes_eq]
  exact ⟨parseOld_hdr_be_missed c hwf hk.1 hk.2 _, parseOld_hdr_be_missed c hwf hk.1 hk.2 _⟩

/-- … and outside that class the old reader did what the current one does -/
theorem ircam_reopen_info_old_rule (c : Cfg) (hwf : c.wf) (hk : ¬ KF.beChannels c) (stale : Nat) (ops : List WOp) :
    parseOld (closedBytes (spec c) stale ops) = reopenSpec c (opsData ops).length := by
  rw [closedBytes_eq, reopenSpec_eq]
  exact parseOld_hdr c hwf hk _

def exBad : Cfg := ⟨0x02, 2, 128, 44100⟩

/-- the full statement failed for the old reader: 128 channels big-endian at 44100 Hz is the witness -/
theorem ircam_reopen_full_old_rule_fails : ¬ reopenFull parseOld := by
  intro h
  have h1 := h exBad (by decide) 0 []
  rw [(ircam_be_channels_old_rule exBad (by decide) (by decide) 0 []).1] at h1
  revert h1; decide +kernel

-- the present reader re-opens the witness of the repaired defect
example : parse (closedBytes (spec exBad) 0 []) = .ok ⟨128, 0x200A0002, 44100, 0⟩ := by
  rw [ircam_reopen_info exBad (by decide)]; decide +kernel

def exCfg : Cfg := ⟨0x06, 2, 2, 44100⟩
def exLe : Cfg := ⟨0x10, 0, 3, 16777217⟩
def exOps : List WOp := [.write [0, 1, 0, 2, 0, 3, 0, 4] false, .update, .write [0, 1, 0, 2, 0, 3, 0, 4, 0, 1, 0, 2, 0, 3, 0, 4] true]

example : exCfg.wf ∧ reopenSpec exCfg 24 = .ok ⟨2, 0x200A0006, 44100, 3⟩ ∧
    exLe.wf ∧ reopenSpec exLe 7 = .ok ⟨3, 0x100A0010, 16777216, 2⟩ := by decide +kernel
example : KF.beChannels exBad ∧ exBad.wf := by decide

/-- what C04 asks of a rate rule `q`: every rate a caller may pass re-opens as some positive rate (for `rateQ` this
    is `IrcamRateExact.ircam_rateQ_some`) -/
def rateFull (q : Nat → Option Nat) : Prop := ∀ sr : Nat, 1 ≤ sr → sr ≤ 0x7FFFFFFF → q sr ≠ none

def ircam_rate_full : Prop := rateFull rateQ

/-- the class of the repaired defect KF-C10-ircam-rate -/
def KF.rateLost (sr : Nat) : Prop := 2 ^ 31 - 64 ≤ sr
instance (sr : Nat) : Decidable (KF.rateLost sr) := by unfold KF.rateLost; infer_instance

/-- **ircam_rate_old_rule.**  Without the cap in the writer, 2^31 − 1 Hz (and 2^31 − 64 Hz, the first rate of the class)
    rounds to 2^31 as a float and comes back as INT_MIN: the full statement failed -/
theorem ircam_rate_old_rule : rateQOld (2 ^ 31 - 64) = none ∧ rateQOld (2 ^ 31 - 1) = none ∧ ¬ rateFull rateQOld := by
  refine ⟨by decide +kernel, by decide +kernel, fun h => h (2 ^ 31 - 1) (by decide) (by decide) (by decide +kernel)⟩

/-- boundary values of the quantiser: exact up to 2^24, round-to-nearest-even above, capped at 2^31 − 128 from
    2^31 − 64 on (the class of the repaired KF-C10-ircam-rate); outside the class the old rule gave the same -/
theorem ircam_rate_boundaries :
    rateQ 1 = some 1 ∧ rateQ 44100 = some 44100 ∧ rateQ (2 ^ 24) = some (2 ^ 24) ∧ rateQ (2 ^ 24 + 1) = some (2 ^ 24) ∧
    rateQ (2 ^ 24 + 3) = some (2 ^ 24 + 4) ∧ rateQ (2 ^ 31 - 65) = some (2 ^ 31 - 128) ∧ rateQ (2 ^ 31 - 64) = some (2 ^ 31 - 128) ∧
    rateQ (2 ^ 31 - 1) = some (2 ^ 31 - 128) ∧ KF.rateLost (2 ^ 31 - 64) ∧ ¬ KF.rateLost (2 ^ 31 - 65) ∧
    rateQOld (2 ^ 31 - 65) = rateQ (2 ^ 31 - 65) ∧ rateQOld (2 ^ 24 + 3) = rateQ (2 ^ 24 + 3) := by decide +kernel

/-- **ircam_size_fields.**  The header holds no length field; the file is 1024 header bytes plus the audio. -/
theorem ircam_size_fields (c : Cfg) (stale : Nat) (ops : List WOp) :
    (closedBytes (spec c) stale ops).length = 1024 + (opsData ops).length ∧
    (closedBytes (spec c) stale ops).take 1024 = hdr c := by
  rw [closedBytes_eq]
  exact ⟨by rw [List.length_append, hdr_length]; rfl, List.take_left' (hdr_length c)⟩

/-- **ircam_frames_bound.**  N whole frames written: the re-opened count is exactly N (`hq` names the re-opened rate; see
    `reopenSpec`). -/
theorem ircam_frames_bound (c : Cfg) (hwf : c.wf) (stale : Nat) (ops : List WOp) (N q : Nat)
    (hN : (opsData ops).length = N * c.bw) (hq : rateQ c.sr = some q) :
    ∃ F, parse (closedBytes (spec c) stale ops) = .ok { ch := c.ch, fmt := c.fmtWord, sr := q, frames := F } ∧ N ≤ F ∧ F < N + 1 := by
  refine ⟨N, ?_, Nat.le_refl _, Nat.lt_succ_self _⟩
  rw [ircam_reopen_info c hwf, hN]
  unfold reopenSpec
  rw [hq, Nat.mul_div_cancel _ (bw_pos c hwf)]

/-- **stale_frames_ignored_ircam.**  No byte of an IRCAM file depends on the frames value the caller left in
    SF_INFO: not the image after open, not a header-update image, not the closed file. -/
theorem stale_frames_ignored_ircam (c : Cfg) (a b : Nat) (ops : List WOp) :
    closedBytes (spec c) a ops = closedBytes (spec c) b ops ∧ snapshotBytes (spec c) a ops = snapshotBytes (spec c) b ops ∧
    (openW (spec c) a).bytes = (openW (spec c) b).bytes := by
  rw [closedBytes_eq, closedBytes_eq, snapshotBytes_eq, snapshotBytes_eq]
  exact ⟨rfl, rfl, rfl⟩

example : closedBytes (spec exCfg) 0 exOps = closedBytes (spec exCfg) 123456 exOps := by
  rw [closedBytes_eq, closedBytes_eq]

/-- **ircam_snapshot_valid** (C11).  After any session prefix, the image a header update leaves in the store is the
    header followed by exactly the audio written so far, and it parses like a closed file
    of that length. -/
theorem ircam_snapshot_valid (c : Cfg) (hwf : c.wf) (stale : Nat) (ops : List WOp) :
    parse (snapshotBytes (spec c) stale ops) = reopenSpec c (opsData ops).length ∧
    snapshotBytes (spec c) stale ops = closedBytes (spec c) stale ops := by
  refine ⟨?_, by rw [snapshotBytes_eq, closedBytes_eq]⟩
  rw [snapshotBytes_eq, ← closedBytes_eq c stale ops]
  exact ircam_reopen_info c hwf stale ops

example : parse (snapshotBytes (spec exLe) 7 [.write [1, 2, 3, 4, 5, 6] false]) = .ok ⟨3, 0x100A0010, 16777216, 2⟩ := by
  rw [(ircam_snapshot_valid exLe (by decide) 7 _).1]; decide +kernel

end Sf.C04Ircam
