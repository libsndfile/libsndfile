/-
  C18 — PEAK chunk data and the signal-max commands equal the true maxima.

  The PEAK bookkeeping is `Sf.peakUpdate` / `Sf.peakChunkUpdate` of SfModel.Handle (what float32.c / double64.c do);
  `Sf.Peak.run` iterates it over a list of write calls; `Sf.Peak.stepCalc` is psf_calc_signal_max /
  psf_calc_max_all_channels on the handle model.  Since the repairs of KF-C18-DOUBLE-NARROW (running maximum kept in a
  `double`) and KF-C18-STAGING-MISALIGN (staging buffer cut at whole frames) the PEAK half holds at full strength; the
  rules before the repairs are kept (`Sf.peakUpdateOld`, `Sf.Peak.runOld`) with their refutations as `…_old_rule` theorems.
  The chunk round trip is proved for WAV / RIFX / AIFF; for CAF (64-bit positions) there is a concrete instance only.
-/
import SfProofs.PeakCalc
import SfProofs.PeakChunk
namespace Sf.C18
open Sf Sf.Float Sf.Peak

/-- magnitude (exact value) of the sample of channel `c` in frame `j` of everything written by `calls` -/
def mag (enc : Enc) (conv : Conv) (ch c : Nat) (calls : List (Ty × List Int)) (j : Nat) : ℚ :=
  colK (fileFmt enc) ch c (fileVals enc conv calls) j

/-- the same sample as the bit pattern of a double (|x| widened exactly) -/
def magBits (enc : Enc) (conv : Conv) (ch c : Nat) (calls : List (Ty × List Int)) (j : Nat) : Nat :=
  colW (fileFmt enc) ch c (fileVals enc conv calls) j

/-- total frames written -/
def framesOf (enc : Enc) (conv : Conv) (ch : Nat) (calls : List (Ty × List Int)) : Nat :=
  (fileVals enc conv calls).length / ch

/-- `ps` holds, for every channel, the maximum magnitude and the first frame where it occurs -/
def IsTruePeak (enc : Enc) (conv : Conv) (ch : Nat) (calls : List (Ty × List Int)) (ps : List Peak) : Prop :=
  ps.length = ch ∧ ∀ c < ch, ∃ q < framesOf enc conv ch calls,
    (ps.getD c {}).position = (q : Int) ∧ V64 (ps.getD c {}).value = mag enc conv ch c calls q ∧
    (∀ j < framesOf enc conv ch calls, mag enc conv ch c calls j ≤ mag enc conv ch c calls q) ∧
    (∀ j < q, mag enc conv ch c calls j < mag enc conv ch c calls q) ∧
    ((ps.getD c {}).value = magBits enc conv ch c calls q ∨ ((ps.getD c {}).value = 0 ∧ mag enc conv ch c calls q = 0))

/-- C18 (PEAK half) as stated: for every floating-point file, channel count and sequence of well-formed calls
    (`Sf.Peak.WellFormed`: a positive whole number of frames of finite samples) the stored per-channel (value, position)
    is (max |x|, first frame attaining it). -/
def peak_is_max_first_full : Prop :=
  ∀ (enc : Enc), enc.isFloatData = true → ∀ (conv : Conv) (ch : Nat), 0 < ch →
    ∀ calls : List (Ty × List Int), calls ≠ [] → (∀ call ∈ calls, WellFormed enc conv ch call) →
      ∃ ps, run enc conv ch (some (mkPeaks ch)) 0 calls = some ps ∧ IsTruePeak enc conv ch calls ps

/-- **The PEAK state after ANY sequence of well-formed calls is, per channel, the maximum magnitude written and the first
    frame where it occurs** — every caller type (conversion through the staging buffer included), every split, every
    channel count; no bound on sizes. -/
theorem peak_is_max_first (enc : Enc) (hfl : enc.isFloatData = true) (conv : Conv) (ch : Nat) (hch : 0 < ch)
    (calls : List (Ty × List Int)) (hne : calls ≠ []) (hgood : ∀ call ∈ calls, WellFormed enc conv ch call) :
    ∃ ps, run enc conv ch (some (mkPeaks ch)) 0 calls = some ps ∧ IsTruePeak enc conv ch calls ps := by
  obtain ⟨ps, hrun, hinv⟩ := run_allInv enc hfl conv ch hch calls hgood
  refine ⟨ps, hrun, hinv.1, ?_⟩
  intro c hc
  have hN : 0 < framesOf enc conv ch calls := by
    obtain ⟨call, cs, rfl⟩ := List.exists_cons_of_ne_nil hne
    obtain ⟨hpos, hmod, _⟩ := hgood call List.mem_cons_self
    unfold framesOf
    apply Nat.div_pos _ hch
    have : call.2.length ≤ (fileVals enc conv (call :: cs)).length := by simp [fileVals]
    exact le_trans (Nat.le_of_dvd hpos (Nat.dvd_of_mod_eq_zero hmod)) this
  obtain ⟨q, hq, hp, hv, hmax, hfirst, hb⟩ := PInv.final _ _ (colK_nonneg _ ch c _) _ hN _ _ _ (hinv.2 c hc)
  refine ⟨q, hq, hp, hv, hmax, hfirst, ?_⟩
  rcases hb with hb | ⟨hb, hv0⟩
  · exact Or.inl hb
  · exact Or.inr ⟨hb, hv.symm.trans hv0⟩

theorem peak_is_max_first_full_holds : peak_is_max_first_full :=
  fun enc hfl conv ch hch calls hne hgood => peak_is_max_first enc hfl conv ch hch calls hne hgood

/-- non-vacuity: stereo FLOAT file, three calls of different kinds (float frames, shorts, doubles), ties across calls and
    a negative maximum — and the concrete state the theorem describes -/
example : run (.flt false) {} 2 (some (mkPeaks 2)) 0
      [(.f32, [0x3F800000, 0xBF000000, 0x3F000000, 0xC0000000]), (.s16, [1, 2]), (.f64, [0xBFF0000000000000, 0x4000000000000000])] =
    some [{ value := 0x3FF0000000000000, position := 0 }, { value := 0x4000000000000000, position := 1 }] := by decide +kernel

example : WellFormed (.flt false) {} 2 (.s16, [1, 2]) := by
  refine ⟨by decide, by decide, ?_⟩
  intro x hx
  simp only [List.mem_cons, List.mem_nil_iff, or_false] at hx
  rcases hx with rfl | rfl <;> decide

def wa : Int := 0x3FF0000000400000   -- 1 + 2^-30
def wb : Int := 0x3FF0000000200000   -- 1 + 2^-31  (both narrow to 1.0f)

/-- one call [a, b] with a > b on a mono DOUBLE file: position 0 and the exact double (repaired rule) -/
theorem narrow_witness_run :
    run (.dbl false) {} 1 (some (mkPeaks 1)) 0 [(.f64, [wa, wb])] = some [{ value := 0x3FF0000000400000, position := 0 }] := by
  decide +kernel

/-- `float fmaxval` (before the repair): after a, the running maximum 1.0f < b, so the position moved to frame 1 -/
theorem narrow_witness_old_rule :
    runOld (.dbl false) {} 1 (some (mkPeaks 1)) 0 [(.f64, [wa, wb])] = some [{ value := 0x3FF0000000000000, position := 1 }] := by
  decide +kernel

/-- the full statement about the old rule -/
def peak_is_max_first_old_rule : Prop :=
  ∀ (enc : Enc), enc.isFloatData = true → ∀ (conv : Conv) (ch : Nat), 0 < ch →
    ∀ calls : List (Ty × List Int), calls ≠ [] → (∀ call ∈ calls, WellFormed enc conv ch call) →
      ∃ ps, runOld enc conv ch (some (mkPeaks ch)) 0 calls = some ps ∧ IsTruePeak enc conv ch calls ps

theorem peak_is_max_first_old_rule_fails : ¬ peak_is_max_first_old_rule := by
  intro hf
  obtain ⟨ps, hrun, _, hp⟩ := hf (.dbl false) rfl {} 1 (by decide) [(.f64, [wa, wb])] (by simp)
    (by
      intro call hc
      simp only [List.mem_singleton] at hc
      subst hc
      refine ⟨by decide, by decide, ?_⟩
      intro x hx
      simp only [List.mem_cons, List.mem_nil_iff, or_false] at hx
      rcases hx with rfl | rfl <;> decide)
  rw [narrow_witness_old_rule] at hrun
  obtain ⟨q, _, hpos, _, _, hfirst, _⟩ := hp 0 (by decide)
  have hps : ps = [{ value := 0x3FF0000000000000, position := 1 }] := (Option.some.inj hrun).symm
  subst hps
  have hq : q = 1 := by
    have : ((1 : Int)) = (q : Int) := hpos
    omega
  subst hq
  have h01 := hfirst 0 (by decide)
  have hgt : mag (.dbl false) {} 1 0 [(.f64, [wa, wb])] 1 < mag (.dbl false) {} 1 0 [(.f64, [wa, wb])] 0 := by
    unfold mag colK
    rw [← Dy.lt_iff]
    decide +kernel
  exact absurd h01 (not_lt.mpr (le_of_lt hgt))

/-- 3-channel DOUBLE file, one sf_write_short call of 1026 items (342 frames), the only non-zero sample (5.0) in channel 2 of
    the last frame.  Old rule: the staging buffer held 1024 doubles whatever the channel count, so the second PEAK update was
    made with `indx = 1024 / 3 = 341` on the buffer [0.0, 5.0], whose item 0 is channel 1 of frame 341: the maximum of
    channel 2 was credited to channel 1.  (Whole-call witness on the real library: findings/kf_c18_staging_misalign.txt.) -/
theorem staging_misaligned_old_rule :
    peakChunkUpdateOld Float.f64 3 0 ((1024 / 3 : Nat) : Int) [0, 0x4014000000000000] (mkPeaks 3) =
      [{ value := 0, position := 0 }, { value := 0x4014000000000000, position := 341 }, { value := 0, position := 0 }] := by
  decide +kernel

/-- repaired rule: the buffer holds `stagingLen f64 3 = 1023` items = 341 whole frames; the second buffer is the whole last
    frame [0.0, 0.0, 5.0] with `indx = 341`: channel 2 gets its maximum at frame 341 -/
theorem staging_witness_run :
    stagingLen Float.f64 3 = 1023 ∧
    peakChunkUpdate Float.f64 3 0 ((1023 / 3 : Nat) : Int) [0, 0, 0x4014000000000000] (mkPeaks 3) =
      [{ value := 0, position := 0 }, { value := 0, position := 0 }, { value := 0x4014000000000000, position := 341 }] := by
  decide +kernel

/-- the written samples, as the file-typed patterns, are all that matters: two sequences of well-formed calls (different
    splits, different caller types, items or frames calls) that put the same patterns into the file end in the same PEAK
    state — the same list of (value bits, position) -/
theorem peak_partition_independent (enc : Enc) (hfl : enc.isFloatData = true) (conv : Conv) (ch : Nat) (hch : 0 < ch)
    (calls1 calls2 : List (Ty × List Int))
    (hsame : fileVals enc conv calls1 = fileVals enc conv calls2)
    (hg1 : ∀ call ∈ calls1, WellFormed enc conv ch call) (hg2 : ∀ call ∈ calls2, WellFormed enc conv ch call) :
    run enc conv ch (some (mkPeaks ch)) 0 calls1 = run enc conv ch (some (mkPeaks ch)) 0 calls2 :=
  run_partition enc hfl conv ch hch calls1 calls2 hsame hg1 hg2

example : run (.dbl false) {} 1 (some (mkPeaks 1)) 0 [(.f64, [wa, wb])] =
    run (.dbl false) {} 1 (some (mkPeaks 1)) 0 [(.f64, [wa]), (.f64, [wb])] := by decide +kernel

/-- under the old rule the PEAK position depended on the split (what SfProps/C07 cites at `file_bytes_partition_finite`) -/
theorem peak_partition_old_rule_fails :
    runOld (.dbl false) {} 1 (some (mkPeaks 1)) 0 [(.f64, [wa, wb])] ≠
    runOld (.dbl false) {} 1 (some (mkPeaks 1)) 0 [(.f64, [wa]), (.f64, [wb])] := by decide +kernel

/-- the chunk field is a binary32 (by the PEAK chunk's definition, in every container): the handle keeps the exact double
    1 + 2^-30, the file holds 1.0f, which is what SFC_GET_SIGNAL_MAX reports after re-open -/
theorem peak_chunk_value_is_binary32 :
    parseChunk .wavLE 1 (chunkBytes .wavLE 1 [{ value := wa.toNat, position := 0 }]) =
      some [{ value := 0x3FF0000000000000, position := 0 }] := by decide +kernel

/-- WAV / WAVEX / RF64 (little-endian) and RIFX (big-endian): for every PEAK list of the right length the chunk written by
    `chunkBytes` is accepted by `parseChunk` and yields, per channel, the binary32 the writer stored (widened) and the
    low 32 bits of the position.  (`hch`: SF_MAX_CHANNELS; it keeps the size field `8 + 8 * ch` inside 32 bits.) -/
theorem chunk_roundtrip_wav (big : Bool) (ch : Nat) (ps : List Peak) (hl : ps.length = ch) (hch : ch ≤ 1024) :
    parseChunk (if big then .wavBE else .wavLE) ch (chunkBytes (if big then .wavBE else .wavLE) ch ps) = some (ps.map held32) := by
  cases big
  · exact parseChunk_chunk32 wrF32 .wavLE false (.inl ⟨rfl, rfl⟩) ch ps hl hch
  · exact parseChunk_chunk32 wrF32 .wavBE true (.inr ⟨.inl rfl, rfl⟩) ch ps hl hch

/-- AIFF: the same layout, big-endian -/
theorem chunk_roundtrip_aiff (ch : Nat) (ps : List Peak) (hl : ps.length = ch) (hch : ch ≤ 1024) :
    parseChunk .aiff ch (chunkBytes .aiff ch ps) = some (ps.map held32) :=
  parseChunk_chunk32 wrF32 .aiff true (.inr ⟨.inr rfl, rfl⟩) ch ps hl hch

/-- CAF ('peak', 64-bit size and positions): a concrete instance -/
example : parseChunk .caf 2 (chunkBytes .caf 2 [{ value := 0x3FF0000000000000, position := 7 }, { value := 0x4000000000000000, position := 4294967301 }]) =
    some [{ value := 0x3FF0000000000000, position := 7 }, { value := 0x4000000000000000, position := 4294967301 }] := by decide +kernel

/-- SFC_CALC_SIGNAL_MAX: for ANY sequence of buffers the read loop delivers, the result `r` of the scan satisfies
    |x| ≤ r for every decoded sample x, and r is the magnitude of one of them (or 0 for an empty / all-zero stream):
    r is the true maximum absolute value. -/
theorem calc_scan_is_max (bufs : List (List Nat)) :
    (∀ x ∈ bufs.flatten, V64 (absD x) ≤ V64 (bufs.foldl foldMax 0)) ∧
    (bufs.foldl foldMax 0 = 0 ∨ ∃ x ∈ bufs.flatten, bufs.foldl foldMax 0 = absD x) := by
  rw [foldMax_flatten]
  obtain ⟨_, h2, h3⟩ := foldMax_spec bufs.flatten 0
  exact ⟨h2, h3⟩

/-- the result does not depend on how the stream is cut into buffers (1024 − 1024 % channels items in the library) -/
theorem calc_scan_buffering (bufs1 bufs2 : List (List Nat)) (h : bufs1.flatten = bufs2.flatten) :
    bufs1.foldl foldMax 0 = bufs2.foldl foldMax 0 := by
  rw [foldMax_flatten, foldMax_flatten, h]

example : calcSignalMax 2 [0x3FF0000000000000, 0xC000000000000000, 0xBFF8000000000000, 0x3FE0000000000000] = 0x4000000000000000 := by
  decide +kernel
example : calcMaxAll 2 [0x3FF0000000000000, 0xC000000000000000, 0xBFF8000000000000, 0x3FE0000000000000] =
    [0x3FF8000000000000, 0x4000000000000000] := by decide +kernel

/-- the read loop of the four CALC commands on a read-only handle: the handle still describes the same file (encoding,
    conversion settings incl. both normalisation flags, channels, frames, data offset, mode), no file byte changed, the
    handle invariant holds -/
theorem calc_loop_keeps_file (fuel : Nat) (h : H) (s : Store) (a : Acc) (hi : HInv h s) (hm : h.mode = .r) :
    SameFile h (calcLoop fuel h s a).1 ∧ (calcLoop fuel h s a).2.1.bytes = s.bytes ∧
    HInv (calcLoop fuel h s a).1 (calcLoop fuel h s a).2.1 :=
  calcLoop_keeps fuel h s a hi

/-- the seek that ends the command puts the read position back to any frame 0 … frames it was at -/
theorem calc_seek_back (h : H) (s : Store) (k : Int) (hi : HInv h s) (hm : h.mode = .r) (hk0 : 0 ≤ k) (hk : k ≤ h.frames) :
    (stepSeek h s k 0).1.rpos = k ∧ SameFile h (stepSeek h s k 0).1 ∧ (stepSeek h s k 0).2.1.bytes = s.bytes :=
  let ⟨a, b, c, _⟩ := seek_set_read h s k 0 (.inl rfl) hi (by rw [hm]; decide) hk0 fun _ => hk
  ⟨a, b, c⟩

/-- a 2-channel 16-bit RAW file of 3 frames -/
def cS : Store := { bytes := [1, 0, 0xFE, 0xFF, 3, 0, 4, 0, 0xFB, 0xFF, 6, 0], pos := 0 }

/-- on `cS`, read position 2, norm_double off: SFC_CALC_NORM_MAX_ALL_CHANNELS returns the per-channel maxima and leaves
    position, flags and bytes as they were -/
theorem calc_restores_state_witness :
    (match openHandle 0 cS .r 0x040002 2 8000 with
     | .ok h s =>
        let h := (stepCmdFlag h s 0x1012 0).1
        let r0 := stepSeek h s 2 0
        let r := stepCalc r0.1 r0.2.1 true
        decide (r.1.rpos = 2 ∧ r.1.conv.normD = false ∧ r.1.conv.normF = true ∧ r.2.1.bytes = cS.bytes ∧
                r.2.2.all.1 = [0x3F24000000000000, 0x3F28000000000000] ∧ r.2.2.sig = 0x3F28000000000000)
     | _ => false) = true := by decide +kernel


/-- SFC_CALC_MAX_ALL_CHANNELS: for ANY sequence of buffers, entry `c` of the result dominates the magnitude of every sample
    the scan credits to channel `c` — the samples at offsets `i` with `i % channels = c` of the stream — and is one of them
    (or 0): the true per-channel maximum. -/
theorem calc_scan_all_is_max (ch : Nat) (hch : 0 < ch) (bufs : List (List Nat)) (c : Nat) (hc : c < ch) :
    let r := ((bufs.foldl (foldMaxAll ch) (List.replicate ch 0, 0)).1).getD c 0
    (∀ i, ∀ h : i < bufs.flatten.length, i % ch = c → V64 (absD bufs.flatten[i]) ≤ V64 r) ∧
    (r = 0 ∨ ∃ i, ∃ h : i < bufs.flatten.length, i % ch = c ∧ r = absD bufs.flatten[i]) := by
  intro r
  have hr : r = foldMax 0 (chanSub ch c 0 bufs.flatten) := by
    show ((bufs.foldl (foldMaxAll ch) (List.replicate ch 0, 0)).1).getD c 0 = _
    have h := (foldMaxAll_spec ch c hch bufs.flatten (List.replicate ch 0) 0 (by simp)).1
    rw [Nat.zero_mod] at h
    rw [foldMaxAll_flatten, h]
    simp [List.getD, hc]
  obtain ⟨_, h2, h3⟩ := foldMax_spec (chanSub ch c 0 bufs.flatten) 0
  rw [← hr] at h2 h3
  constructor
  · intro i hi hm
    exact h2 _ ((mem_chanSub ch c bufs.flatten _).mpr ⟨i, hi, rfl, hm⟩)
  · rcases h3 with h | ⟨x, hx, h⟩
    · exact Or.inl h
    · obtain ⟨i, hi, hxi, hm⟩ := (mem_chanSub ch c bufs.flatten x).mp hx
      exact Or.inr ⟨i, hi, hm, by rw [h, hxi]⟩

/-- **SFC_CALC_SIGNAL_MAX, SFC_CALC_NORM_SIGNAL_MAX, SFC_CALC_MAX_ALL_CHANNELS and SFC_CALC_NORM_MAX_ALL_CHANNELS on a
    read-only handle leave the read position, every conversion setting (norm_double, norm_float, clipping, scale flags),
    the frame count and the file bytes as they were, and report no error** — for every handle state satisfying the
    handle invariant (any position 0 … frames, any flags), RAW / AU / WAV sample-granular encodings. -/
theorem calc_restores_state (h : H) (s : Store) (normalize : Bool) (hi : HInv h s) (hm : h.mode = .r) :
    (stepCalc h s normalize).1.rpos = h.rpos ∧ (stepCalc h s normalize).1.conv = h.conv ∧
    (stepCalc h s normalize).2.1.bytes = s.bytes ∧ (stepCalc h s normalize).1.frames = h.frames ∧
    (stepCalc h s normalize).1.error = 0 :=
  stepCalc_restores h s normalize hi (by rw [hm]; decide)

end Sf.C18
