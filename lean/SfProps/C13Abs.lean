/-
  C13 on THE PREDICATE (SfModel/AbsMeta.lean, namespace Sf.AbsMeta.Chunks) — `Chunks.judge`, which the check evaluates on the
  implementation's own records (`sfmodel abs-meta chunks`): what an accepted record MEANS, that a record on which the statement
  holds is accepted, and that what the concrete model `Sf.Chunk` is proved to produce (`chunks_roundtrip_within_cap`: the read
  table `expected`; `getData`; `accepts`) passes the clauses.  Lemmas in SfProofs/AbsChunkMeaning.lean.
-/
import SfProofs.AbsChunkMeaning
import SfProps.C13
namespace Sf.C13Abs
open Sf Sf.Chunk Sf.AbsMeta Sf.AbsMeta.Chunks

/-- MEANING: on an accepted record every sf_set_chunk returned 0 or failed for a call it may refuse, the write / close / re-open
    succeeded, the frame count and the audio read back are what was written (nothing behind it touched), every complete
    iteration and every single-step call passed its clause -/
theorem chunks_contract_abs (r : CRecord) (h : Chunks.accepted r = true) : CHolds r r.main := ((Chunks.accepted_iff r).mp h).1

/-- COMPLETENESS: never an alarm where the statement holds -/
theorem never_alarm_abs (r : CRecord) (hm : CHolds r r.main)
    (ht : ∀ t, r.twin = some t → (r.main.reopen.map (·.ok)) = some true → Chunks.twinFails r.main t = []) : Chunks.accepted r = true :=
  (Chunks.accepted_iff r).mpr ⟨hm, ht⟩

/-- C13 "after re-opening each one is found by the chunk iterator functions - by identifier … with identical size and payload
    bytes (padded to the container's alignment).  Iteration visits every stored chunk exactly once": read off an accepted record
    for an iteration by an id that was set -/
theorem chunks_retrievable_by_id_abs (r : CRecord) (h : Chunks.accepted r = true) (ri : ReInfo) (hre : r.main.reopen = some ri)
    (q : List Byte) (it : Bool) (ents : List Entry) (endN : Int) (hq : Query.all (some q) it ents endN ∈ r.main.queries)
    (hset : ((stored r.main.sets).map (·.1)).contains (storedId q) = true) (hown : ownCount r.own (storedId q) = 0)
    (hfree : ¬ (r.c = .caf ∧ storedId q = [102, 114, 101, 101])) :
    endN = (ents.length : Int) ∧ ents.length = ((stored r.main.sets).filter (·.1 == storedId q)).length ∧
    ∀ p ∈ ents.zip ((stored r.main.sets).filter (·.1 == storedId q)),
      p.1.id = p.2.1 ∧ p.1.size = pad4 p.2.2.length ∧ p.1.data = wantData p.2.2 p.1.buflen ∧ p.1.sizeRet = 0 ∧ p.1.dataRet = 0 := by
  obtain ⟨_, _, _, hqs, _⟩ := (chunks_contract_abs r h).reopened ri hre
  have := hqs _ hq
  simp only [queryFails] at this
  exact byId_meaning r _ q ents endN hset hown hfree this

/-- C13 "sf_get_chunk_data copies at most the caller's datalen bytes": the buffer the `data` clause demands has the caller's
    length, carries min (datalen, padded size) payload bytes and keeps its fill value behind them -/
theorem get_data_copies_min_abs (payload : List Byte) (buflen : Nat) :
    (wantData payload buflen).length = buflen ∧
    (wantData payload buflen).take (min buflen (pad4 payload.length)) =
      (payload ++ List.replicate (pad4 payload.length - payload.length) 0).take (min buflen (pad4 payload.length)) ∧
    ∀ b ∈ (wantData payload buflen).drop (min buflen (pad4 payload.length)), b = 0xA5 := by
  have hfull := padded_length payload
  unfold wantData
  simp only [hfull]
  generalize hF : payload ++ List.replicate (pad4 payload.length - payload.length) 0 = full at hfull
  refine ⟨?_, ?_, ?_⟩
  · simp only [List.length_append, List.length_take, List.length_replicate, hfull]; omega
  · rw [List.take_append_of_le_length (by simp only [List.length_take, hfull]; omega)]
    rw [List.take_take]
    congr 1
    omega
  · intro b hb
    rw [List.drop_append_of_le_length (by simp only [List.length_take, hfull]; omega)] at hb
    rcases List.mem_append.1 hb with h | h
    · have : (List.drop (min buflen (pad4 payload.length)) (List.take buflen full)) = [] := by
        apply List.drop_eq_nil_of_le
        simp only [List.length_take, hfull]; omega
      rw [this] at h; cases h
    · exact (List.mem_replicate.1 h).2

/-- C13 "audio untouched": frame count and samples of an accepted record -/
theorem audio_untouched_abs (r : CRecord) (h : Chunks.accepted r = true) (ri : ReInfo) (hre : r.main.reopen = some ri)
    (rb : ReadBack) (hrb : r.main.read = some rb) :
    rb.ret = (r.main.frames : Int) ∧ rb.err = 0 ∧ rb.data = r.main.items ++ List.replicate (r.main.readN - r.main.frames) 0xA5A5 := by
  obtain ⟨_, _, hr, _, _⟩ := (chunks_contract_abs r h).reopened ri hre
  exact hr rb hrb

/-- what the harness prints for the chunk the iterator points at, computed from the model's read-table entry: size, id, and the
    caller's buffer after `Sf.Chunk.getData` (the buffer has the reported size unless the caller names a length) -/
def entryOfModel (rc : RChunk) (want : Option Nat) : Entry :=
  { sizeRet := 0, size := rc.len, dataRet := 0, id := rc.mark.bytes, buflen := want.getD rc.len,
    data := getData rc (List.replicate (want.getD rc.len) 0xA5) }

/-- Completeness against `C13.chunks_roundtrip_within_cap`: the read table that theorem proves the
    re-opened file to have (`C13.expected`), queried entry by entry as the harness does (any buffer length), passes the clauses
    `ids`, `size`, `data`, `ret` for the chunks that were set -/
theorem model_entries_accepted (c : Container) (want : Option Nat) : ∀ (l : List C13.Req) (pos : Nat),
    entriesFail ((C13.expected c l pos).map fun rc => entryOfModel rc want) (l.map fun q => (storedId q.id, q.payload)) = []
  | [], _ => by simp [C13.expected, entriesFail]
  | q :: l, pos => by
    unfold C13.expected
    simp only [List.map_cons]
    unfold entriesFail
    have h1 : entryFails (entryOfModel ⟨markerOf q.id, pos + hdrLen c, pad4 q.payload.length,
        q.payload ++ zeros (pad4 q.payload.length - q.payload.length)⟩ want) (storedId q.id, q.payload) = [] := by
      rw [entryFails_nil_iff]
      refine ⟨rfl, rfl, ?_, rfl, rfl⟩
      exact model_getData_accepted _ _ _ _
    rw [h1]
    exact model_entries_accepted c want l _

/-- every refusal of the model's `sf_set_chunk` (`Sf.Chunk.accepts`, theorem `C13.set_chunk_refusals`) is one the `set` clause
    allows: after the audio anything, before it only ids the API need not accept -/
theorem model_set_answers_accepted (c : CCont) (wrote : Bool) (id data : List Byte) :
    setFails c [{ id := id, data := data, late := wrote, ret0 := accepts (toModel c) wrote id, refused := !accepts (toModel c) wrote id }] = [] := by
  rw [setFails_nil_iff]
  intro s hs
  simp only [List.mem_cons, List.mem_nil_iff, or_false] at hs
  subst hs
  cases ha : accepts (toModel c) wrote id
  · right
    refine ⟨rfl, ?_⟩
    cases wrote
    · exact Or.inr (model_refusals_allowed c id ha)
    · exact Or.inl rfl
  · exact Or.inl rfl

def sampleRun : CRun :=
  { sets := [{ id := [97, 98, 99, 100], data := [1, 2, 3], ret0 := true }, { id := [120, 121], data := [9], ret0 := true },
             { id := [100, 97, 116, 97], data := [5], refused := true }, { id := [97, 98, 99, 100], data := [], ret0 := true },
             { id := [108, 97, 116, 101], data := [7], late := true, refused := true }],
    frames := 2, items := [1, 258], wret := some (2, 0), close := some 0, reopen := some { ok := true, frames := 2 },
    queries :=
      [.all none true [⟨0, 16, 0, [102, 109, 116, 32], 16, List.replicate 16 0⟩, ⟨0, 4, 0, [97, 98, 99, 100], 4, [1, 2, 3, 0]⟩,
                       ⟨0, 4, 0, [120, 121, 32, 32], 4, [9, 0, 0, 0]⟩, ⟨0, 0, 0, [97, 98, 99, 100], 0, []⟩,
                       ⟨0, 4, 0, [100, 97, 116, 97], 4, [1, 0, 2, 1]⟩] 5,
       .all (some [97, 98, 99, 100]) true [⟨0, 4, 0, [97, 98, 99, 100], 2, [1, 2]⟩, ⟨0, 0, 0, [97, 98, 99, 100], 2, [0xA5, 0xA5]⟩] 2,
       .iter (some [97, 98, 99, 100]) true, .data (some ⟨0, 4, 0, [97, 98, 99, 100], 6, [1, 2, 3, 0, 0xA5, 0xA5]⟩), .next true, .next false, .next false,
       .data none],
    readN := 4, read := some { ret := 2, err := 0, data := [1, 258, 0xA5A5, 0xA5A5] } }

example : Chunks.accepted { c := .wav, main := sampleRun, twin := some { sampleRun with sets := [], queries := [] } } = true := by decide +kernel


/-- the clauses are not vacuous: a byte copied past datalen, a chunk visited twice, next-after-last not NULL, a payload byte
    changed, audio disturbed -/
example :
    (Chunks.judge { c := .wav, main := { sampleRun with queries := [.all (some [120, 121]) true [⟨0, 4, 0, [120, 121, 32, 32], 2, [9, 0, 0]⟩] 1] } }).map (·.tag) = ["data"] ∧
    (Chunks.judge { c := .wav, main := { sampleRun with queries := [.all (some [120, 121]) true [⟨0, 4, 0, [120, 121, 32, 32], 4, [9, 0, 0, 0]⟩, ⟨0, 4, 0, [120, 121, 32, 32], 4, [9, 0, 0, 0]⟩] 2] } }).map (·.tag) = ["count"] ∧
    (Chunks.judge { c := .wav, main := { sampleRun with queries := sampleRun.queries.take 2 ++ [.iter (some [97, 98, 99, 100]) true, .next true, .next true] } }).map (·.tag) = ["step-next"] ∧
    (Chunks.judge { c := .wav, main := { sampleRun with queries := [.all (some [120, 121]) true [⟨0, 4, 0, [120, 121, 32, 32], 4, [8, 0, 0, 0]⟩] 1] } }).map (·.tag) = ["data"] ∧
    (Chunks.judge { c := .wav, main := { sampleRun with read := some { ret := 2, err := 0, data := [1, 259, 0xA5A5, 0xA5A5] } } }).map (·.tag) = ["audio"] := by
  decide +kernel

end Sf.C13Abs
