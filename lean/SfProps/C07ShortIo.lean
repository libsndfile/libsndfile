/-
  C07 / C14 under SHORT TRANSFERS on a real descriptor (SfModel/ShortIo.lean): however the operating system splits a transfer --
  any number of interrupted calls, any positive amount per call -- psf_fwrite hands the descriptor exactly the caller's buffer and
  psf_fread delivers exactly the next bytes of the file; what reaches the descriptor is always a PREFIX of the buffer (nothing is sent
  twice, nothing is skipped).  The closed file therefore does not depend on the split (the clause `partition` vlib/shortio.py checks).
-- properties: C07 C14 C15
-/
import SfModel.ShortIo
namespace Sf.C07ShortIo
open Sf Sf.ShortIo

/-- answers that transfer something or ask to try again -/
def Good : Ans → Prop
  | .took n => 0 < n
  | .eintr => True
  | .fail => False

/-- calls that transfer something -/
def tooks : List Ans → Nat
  | [] => 0
  | .took _ :: os => tooks os + 1
  | _ :: os => tooks os

/-- psf_fread: what is delivered is a prefix of what the descriptor holds -/
theorem fread_prefix : ∀ (os : List Ans) (src : List Byte) (want : Nat), (freadLoop os src want).1 <+: src
  | _, _, 0 => by simp [freadLoop]
  | [], _, _ + 1 => by simp [freadLoop]
  | .eintr :: os, src, want + 1 => by
    have := fread_prefix os src (want + 1)
    simpa [freadLoop] using this
  | .fail :: _, _, _ + 1 => by simp [freadLoop]
  | .took n :: os, src, want + 1 => by
    simp only [freadLoop]
    split
    · simp
    · have ih := fread_prefix os (src.drop (min (min n (min (want + 1) SENSIBLE)) src.length)) (want + 1 - min (min n (min (want + 1) SENSIBLE)) src.length)
      obtain ⟨t, ht⟩ := ih
      refine ⟨t, ?_⟩
      rw [List.append_assoc, ht, List.take_append_drop]

/-- psf_fread is complete: with the file holding at least `want` more bytes, exactly the next `want` bytes are delivered -/
theorem fread_complete : ∀ (os : List Ans) (src : List Byte) (want : Nat), (∀ a ∈ os, Good a) → want ≤ tooks os → want ≤ src.length →
    (freadLoop os src want).1 = src.take want
  | _, _, 0, _, _, _ => by simp [freadLoop]
  | [], _, _ + 1, _, h, _ => by simp [tooks] at h
  | .eintr :: os, src, want + 1, hg, h, hs => by
    have := fread_complete os src (want + 1) (fun a ha => hg a (List.mem_cons_of_mem _ ha)) (by simpa [tooks] using h) hs
    simpa [freadLoop] using this
  | .fail :: _, _, _ + 1, hg, _, _ => by
    have := hg .fail (List.mem_cons_self ..)
    exact absurd this (by simp [Good])
  | .took n :: os, src, want + 1, hg, h, hs => by
    have hn : 0 < n := hg (.took n) (List.mem_cons_self ..)
    have hS : 0 < SENSIBLE := by decide
    have hk : ¬ min (min n (min (want + 1) SENSIBLE)) src.length = 0 := by omega
    simp only [freadLoop, if_neg hk]
    have hkle : min (min n (min (want + 1) SENSIBLE)) src.length ≤ want + 1 := by omega
    rw [fread_complete os _ _ (fun a ha => hg a (List.mem_cons_of_mem _ ha))
          (by simp only [tooks] at h; omega) (by simp only [List.length_drop]; omega)]
    generalize min (min n (min (want + 1) SENSIBLE)) src.length = k at hkle hk ⊢
    have : want + 1 = k + (want + 1 - k) := by omega
    conv => rhs; rw [this, List.take_add]

/-- psf_fwrite is psf_fread's loop run on the caller's buffer: as many bytes wanted as the buffer holds -/
theorem fwriteLoop_eq_fread : ∀ (os : List Ans) (buf : List Byte), fwriteLoop os buf = freadLoop os buf buf.length
  | _, [] => by simp [fwriteLoop, freadLoop]
  | [], _ :: _ => by simp [fwriteLoop, freadLoop]
  | .eintr :: os, b :: bs => by
    have := fwriteLoop_eq_fread os (b :: bs)
    simp only [List.length_cons] at this
    simp only [fwriteLoop, freadLoop, List.length_cons, this]
  | .fail :: _, _ :: _ => by simp [fwriteLoop, freadLoop]
  | .took n :: os, b :: bs => by
    have hk : min (min n (min (bs.length + 1) SENSIBLE)) (bs.length + 1) = min n (min (bs.length + 1) SENSIBLE) := by omega
    have ih := fwriteLoop_eq_fread os ((b :: bs).drop (min n (min (bs.length + 1) SENSIBLE)))
    simp only [List.length_drop, List.length_cons] at ih
    simp only [fwriteLoop, freadLoop, List.length_cons, hk, ih]

/-- what reaches the descriptor is a prefix of the caller's buffer, for EVERY oracle (short, failing, interrupted, exhausted) -/
theorem fwrite_prefix : ∀ (os : List Ans) (buf : List Byte), (fwriteLoop os buf).1 <+: buf :=
  fun os buf => fwriteLoop_eq_fread os buf ▸ fread_prefix os buf buf.length

/-- THE RETRY LOOP IS COMPLETE: when every answer transfers something or asks to try again, and the oracle does not run dry, the
    descriptor receives exactly the caller's buffer -/
theorem fwrite_complete : ∀ (os : List Ans) (buf : List Byte), (∀ a ∈ os, Good a) → buf.length ≤ tooks os →
    (fwriteLoop os buf).1 = buf := fun os buf hg h => by
  rw [fwriteLoop_eq_fread, fread_complete os buf buf.length hg h (Nat.le_refl _), List.take_length]

/-- C07 for the operating system's split: two runs whose oracles both keep transferring deliver the same bytes -/
theorem fwrite_split_independent (os1 os2 : List Ans) (buf : List Byte) (h1 : ∀ a ∈ os1, Good a) (h2 : ∀ a ∈ os2, Good a)
    (l1 : buf.length ≤ tooks os1) (l2 : buf.length ≤ tooks os2) :
    (fwriteLoop os1 buf).1 = (fwriteLoop os2 buf).1 := by
  rw [fwrite_complete os1 buf h1 l1, fwrite_complete os2 buf h2 l2]

theorem good_replicate_took (k c : Nat) (hc : 0 < c) : ∀ a ∈ List.replicate k (Ans.took c), Good a := by
  intro a ha; rw [List.eq_of_mem_replicate ha]; exact hc

theorem tooks_append (xs ys : List Ans) : tooks (xs ++ ys) = tooks xs + tooks ys := by
  induction xs with
  | nil => simp [tooks]
  | cons x xs ih => cases x <;> simp [tooks, ih] <;> omega

/-- the schedules of harness/shortio.c keep transferring (a positive cap) and do not run dry on a buffer of `horizon` bytes -/
theorem schedule_good (skip eintr cap : Nat) (n : Option Nat) (horizon : Nat) (hc : 0 < cap) :
    (∀ a ∈ schedule skip eintr cap n horizon, Good a) ∧ horizon ≤ tooks (schedule skip eintr cap n horizon) := by
  have hS : 0 < SENSIBLE := by decide
  have tooks_rep : ∀ k c, tooks (List.replicate k (.took c)) = k := by
    intro k c; induction k with
    | zero => rfl
    | succ k ih => simp [List.replicate_succ, tooks, ih]
  have gE : ∀ k, ∀ a ∈ List.replicate k Ans.eintr, Good a := by
    intro k a ha; rw [List.eq_of_mem_replicate ha]; trivial
  constructor
  · intro a ha
    unfold schedule at ha
    rcases List.mem_append.1 ha with h | h
    · rcases List.mem_append.1 h with h | h
      · exact good_replicate_took _ _ hS a h
      · exact gE _ a h
    · cases n with
      | none => exact good_replicate_took _ _ hc a h
      | some k =>
        rcases List.mem_append.1 h with h | h
        · exact good_replicate_took _ _ hc a h
        · exact good_replicate_took _ _ hS a h
  · unfold schedule
    cases n <;> simp only [tooks_append, tooks_rep] <;> omega

/-- every schedule the campaign arms leaves the closed bytes alone -/
theorem fwrite_schedule_complete (skip eintr cap : Nat) (n : Option Nat) (buf : List Byte) (hc : 0 < cap) :
    (fwriteLoop (schedule skip eintr cap n buf.length) buf).1 = buf :=
  fwrite_complete _ _ (schedule_good skip eintr cap n buf.length hc).1 (schedule_good skip eintr cap n buf.length hc).2

/-- ... and with the interruptions in the MIDDLE of the transfer (`scheduleAfter`): an EINTR after part of the buffer has gone out is
    answered by trying again with the rest, not by giving up -/
theorem fwrite_scheduleAfter_complete (skip after eintr cap : Nat) (n : Option Nat) (buf : List Byte) (hc : 0 < cap) :
    (fwriteLoop (scheduleAfter skip after eintr cap n buf.length) buf).1 = buf := by
  have hS : 0 < SENSIBLE := by decide
  obtain ⟨g, l⟩ := schedule_good 0 eintr cap (n.map (· - after)) buf.length hc
  apply fwrite_complete
  · intro a ha
    unfold scheduleAfter at ha
    rcases List.mem_append.1 ha with h | h
    · rcases List.mem_append.1 h with h | h
      · exact good_replicate_took _ _ hS a h
      · rcases List.mem_append.1 h with h | h
        · exact good_replicate_took _ _ hc a h
        · exact good_replicate_took _ _ hS a h
    · exact g a h
  · unfold scheduleAfter
    rw [tooks_append]
    omega

/-- the rule "an interrupted call is tried again only while nothing has been transferred yet" (own mutation c2) gives up in the middle -/
def fwriteEintrFirstOnly : List Ans → List Byte → Bool → List Byte × Nat
  | _, [], _ => ([], 0)
  | [], _ :: _, _ => ([], 1)
  | .eintr :: os, buf, started => if started then ([], 1) else ((fwriteEintrFirstOnly os buf started).1, (fwriteEintrFirstOnly os buf started).2 + 1)
  | .fail :: _, _ :: _, _ => ([], 1)
  | .took n :: os, b :: bs, _ =>
    let k := min n (min (b :: bs).length SENSIBLE)
    if k = 0 then ([], 1)
    else ((b :: bs).take k ++ (fwriteEintrFirstOnly os ((b :: bs).drop k) true).1, (fwriteEintrFirstOnly os ((b :: bs).drop k) true).2 + 1)

theorem eintr_first_only_rule_differs :
    (fwriteEintrFirstOnly (scheduleAfter 0 1 1 2 none 5) [1, 2, 3, 4, 5] false).1 = [1, 2] ∧
    (fwriteLoop (scheduleAfter 0 1 1 2 none 5) [1, 2, 3, 4, 5]).1 = [1, 2, 3, 4, 5] := by decide

/-- the loop of the seeded regression (every pass re-sends the head of the buffer) is told apart by the very first short transfer -/
theorem restart_rule_differs :
    (fwriteRestart [.took 1, .took 8] [1, 2, 3] 3).1 = [1, 1, 2] ∧ (fwriteLoop [.took 1, .took 8] [1, 2, 3]).1 = [1, 2, 3] := by decide

example : fwriteLoop [.took 2, .eintr, .took 1, .took 9] [10, 20, 30, 40, 50] = ([10, 20, 30, 40, 50], 4) := by decide
example : fwriteLoop (schedule 0 2 3 (some 2) 8) [1, 2, 3, 4, 5, 6, 7, 8] = ([1, 2, 3, 4, 5, 6, 7, 8], 5) := by decide
example : freadLoop [.took 2, .took 2, .took 2] [1, 2, 3] 5 = ([1, 2, 3], 3) := by decide
example : (∀ a ∈ [Ans.took 2, .eintr, .took 1], Good a) := by simp [Good]
example : fwriteLoop (scheduleAfter 0 2 2 3 (some 3) 20) (List.range 20) = (List.range 20, 6) := by decide

end Sf.C07ShortIo
