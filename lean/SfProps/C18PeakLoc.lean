/-
  C18 — "the per-channel peak value and position stored at close … SFC_GET_SIGNAL_MAX / SFC_GET_MAX_ALL_CHANNELS return those values
  after re-open": the chunk must still be THERE after the close, wherever the file carried it.  Property theorems only; model
  lean/SfModel/PeakLoc.lean; campaign vlib/c18foreign.py (foreign-but-valid placements x SFM_RDWR sessions).
-/
import SfModel.PeakLoc
namespace Sf.C18PeakLoc
open Sf.PeakLoc

/-- A writer whose tailer has the PEAK clause closes to a file with exactly ONE PEAK chunk, which the parser reads back
    with the values the handle held and at the location it had — for both locations, with or without strings behind the audio -/
theorem close_keeps_peak (loc : Loc) (p : Peaks) (s : Bool) :
    peakCount (closeFile ⟨true⟩ (some (loc, p)) s) = 1 ∧ parse (closeFile ⟨true⟩ (some (loc, p)) s) = some (loc, p) := by
  cases loc <;> cases s <;> simp [closeFile, header, tailer, peakCount, parse, parseGo]

/-- a handle without PEAK data closes to a file without a PEAK chunk -/
theorem close_without_peak (w : Writer) (s : Bool) :
    peakCount (closeFile w none s) = 0 ∧ parse (closeFile w none s) = none := by
  cases s <;> simp [closeFile, header, tailer, peakCount, parse, parseGo]

/-- the location is stable: closing what was parsed from a closed file gives the same chunk list -/
theorem close_parse_close (loc : Loc) (p : Peaks) (s : Bool) :
    closeFile ⟨true⟩ (parse (closeFile ⟨true⟩ (some (loc, p)) s)) s = closeFile ⟨true⟩ (some (loc, p)) s := by
  rw [(close_keeps_peak loc p s).2]

/-- a tailer WITHOUT the PEAK clause (the shared tailer of seed C18-wavlike-tailer-peak-end-lost; rf64_write_tailer) is
    indistinguishable on every file the library laid out itself (PEAK in front) … -/
theorem tailer_without_peak_same_at_start (p : Peaks) (s : Bool) :
    closeFile ⟨false⟩ (some (.start, p)) s = closeFile ⟨true⟩ (some (.start, p)) s := by
  cases s <;> simp [closeFile, header, tailer]

/-- … and silently loses the chunk of a file that carries it behind the audio: no PEAK chunk, the parser finds no PEAK data -/
theorem tailer_without_peak_loses_end_peak (p : Peaks) (s : Bool) :
    peakCount (closeFile ⟨false⟩ (some (.atEnd, p)) s) = 0 ∧ parse (closeFile ⟨false⟩ (some (.atEnd, p)) s) = none := by
  cases s <;> simp [closeFile, header, tailer, peakCount, parse, parseGo]

/-- the parser's location rule on foreign layouts: PEAK anywhere in front of `data` is `start`, anywhere behind it `atEnd`,
    whatever other chunks stand around it -/
theorem parse_foreign_layouts (p : Peaks) (a b : Nat) :
    parse [.fmt, .other a, .peak p, .data] = some (.start, p) ∧ parse [.fmt, .data, .peak p] = some (.atEnd, p) ∧
    parse [.fmt, .data, .other a, .peak p, .other b] = some (.atEnd, p) ∧ parse [.fmt, .data, .peak p, .list] = some (.atEnd, p) := by
  simp [parse, parseGo]

-- non-vacuity
example : closeFile ⟨true⟩ (some (.atEnd, [(0x3F000000, 8)])) true = [.fmt, .data, .peak [(0x3F000000, 8)], .list] := by decide
example : closeFile ⟨false⟩ (some (.atEnd, [(0x3F000000, 8)])) true = [.fmt, .data, .list] := by decide

end Sf.C18PeakLoc
