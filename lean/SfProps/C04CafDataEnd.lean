/-
  SfProps.C04CafDataEnd — the CAF reader and a 'data' chunk of size −1 ("the audio data runs to the end of the file", CAF specification),
  after the repair of KF-CAF-DATA-MINUS-ONE (src/caf.c: the −1 is resolved where the chunk header is read).

  * `caf_data_to_end_walk` (full strength, EVERY file): when the chunk walk stands in front of a chunk header `'data' −1` at offset p,
    it ends there with the audio starting at p + 16 (behind the edit count) and running to the last byte of the file.
  * `caf_data_to_end_reopens` (SfProps/C04CafDataEndFile.lean, an instance of `caf_data_to_end_reopen_info`): the closed 16-bit file of 3 frames with its 'data' size replaced by −1 re-opens with the same SF_INFO as
    the file with the explicit size (the reader before the repair refused it); with a trailing pad byte the byte is audio (there is no size that could exclude it).
  * the rule before the repair is kept (`Sf.Caf.walkOld` / `parseOld`, `negSize true`): `caf_data_to_end_walk_old_rule` (the walk ended
    in front of the chunk, on every file) and `caf_data_size_minus_one_old_rule` (the witness file was refused, a file with an explicit
    size is read alike by both rules).
-/
import SfProofs.CafDataEnd
namespace Sf.C04CafDataEnd
open Sf Sf.Caf Sf.HdrRd

theorem hdr_lengths : (mk "data").length = 4 ∧ (beBytes 8 (2 ^ 64 - 1)).length = 8 := by decide

theorem data_hdr_read (pre rest : List Byte) :
    rdSeq (pre ++ (mk "data" ++ (beBytes 8 (2 ^ 64 - 1) ++ rest))) [4, 8] ⟨pre.length, pre.length, false⟩ =
      ([mk "data", beBytes 8 (2 ^ 64 - 1)], ⟨pre.length + 12, pre.length + 12, false⟩) := by
  obtain ⟨l1, l2⟩ := hdr_lengths
  have h := rdSeq_at [mk "data", beBytes 8 (2 ^ 64 - 1)] (bs := pre ++ (mk "data" ++ (beBytes 8 (2 ^ 64 - 1) ++ rest))) (pre := pre) (rest := rest)
    (ns := [4, 8]) (e := pre.length) (by simp) (by simp [l1, l2]) (Nat.le_refl _)
  rw [h]
  simp [l1, l2]

/-- FULL STRENGTH: on every file, a chunk header `'data' −1` met by the chunk walk (whatever chunks came before: `pre`, with the scan
    state `s` they left) makes the rest of the file — edit count, then audio — the data chunk: the audio starts behind the edit count
    and has every remaining byte; nothing is cut off and nothing is invented.  Guards: the edit count is present; the audio is at most
    2^31 − 1 bytes (the guard of `caf_reopen_info`). -/
theorem caf_data_to_end_walk (pre rest : List Byte) (ch fuel : Nat) (s : Scan) (h4 : 4 ≤ rest.length) (hsz : rest.length - 4 ≤ 0x7FFFFFFF) :
    walk (pre ++ (mk "data" ++ (beBytes 8 (2 ^ 64 - 1) ++ rest))) ch (fuel + 1) ⟨pre.length, pre.length, false⟩ s =
      .done { haveData := true, dataoffset := pre.length + 16, datalength := ((rest.length - 4 : Nat) : Int), dataend := s.dataend } := by
  obtain ⟨l1, l2⟩ := hdr_lengths
  generalize hbs : pre ++ (mk "data" ++ (beBytes 8 (2 ^ 64 - 1) ++ rest)) = bs
  have hlen : bs.length = pre.length + 12 + rest.length := by rw [← hbs]; simp [l1, l2]; omega
  have hr := data_hdr_read pre rest
  rw [hbs] at hr
  rw [walk_data_minus_one bs ch fuel _ _ s hr]
  have h := dataCase_to_end bs (pre.length + 12) s (by omega) (by omega)
  have e1 : bs.length - (pre.length + 12 + 4) = rest.length - 4 := by omega
  rw [e1] at h
  simpa using h

/-- the rule before the repair: the same walk ended in front of the chunk with the scan state it had — no 'data' chunk — on every file -/
theorem caf_data_to_end_walk_old_rule (pre rest : List Byte) (ch fuel : Nat) (s : Scan) :
    walkOld (pre ++ (mk "data" ++ (beBytes 8 (2 ^ 64 - 1) ++ rest))) ch (fuel + 1) ⟨pre.length, pre.length, false⟩ s = .done s :=
  walkOld_data_minus_one _ ch fuel _ _ s (data_hdr_read pre rest)

-- non-vacuity: a two-byte audio region behind an arbitrary prefix
example : walk ([1, 2, 3] ++ (mk "data" ++ (beBytes 8 (2 ^ 64 - 1) ++ [0, 0, 0, 0, 7, 9]))) 1 1 ⟨3, 3, false⟩ {} =
    .done { haveData := true, dataoffset := 19, datalength := 2, dataend := 0 } :=
  caf_data_to_end_walk [1, 2, 3] [0, 0, 0, 0, 7, 9] 1 0 {} (by decide) (by decide)

/-- KF-CAF-DATA-MINUS-ONE under the rule before the repair: the witness file is refused; a file with an explicit size is read alike -/
theorem caf_data_size_minus_one_old_rule :
    let img := image { codec := 0x02, endian := 0, ch := 1, sr := 8000 } 3 [] [0, 1, 0, 2, 0, 3]
    parseOld (img.take 4084 ++ List.replicate 8 255 ++ img.drop 4092) = .err ∧ parseOld img = parse img := by decide +kernel

/-- every other negative chunk size still ends the walk, under both rules (the repair does not loosen the `chunk_size < 0` test) -/
theorem negative_size_still_ends_walk (old : Bool) (bs m : List Byte) (csize : Int) (r : Rd) (s : Scan) (h : csize ≠ -1) :
    negSize old bs m csize r s = .done s := by
  simp [negSize, h]

theorem negative_size_not_data_ends_walk (old : Bool) (bs m : List Byte) (csize : Int) (r : Rd) (s : Scan) (h : (m == mk "data") = false) :
    negSize old bs m csize r s = .done s := by
  simp [negSize, h]

end Sf.C04CafDataEnd
