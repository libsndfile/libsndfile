/-
  C04 / C07 — THE WRITE-SIDE BRIDGE for BLOCK CODECS: the record the all-format write campaign would write down of a job on a
  block-coded file, if the library behaved like the codec's model, passes the C07 (`partition`, `stale`), C04 (`info`,
  `frames`, `eof`) and call clauses of `Sf.AbsWrite.judge` — `block_session_accepted`, instantiated for G.721 / G.723 (3 rates),
  NMS ADPCM (3 rates) and GSM 06.10 (both layouts) from their `*_write_partition` and `*_frames_at_reopen` theorems.  The
  G.72x job reads back through the model's reader (`g72x_read_contract`); for NMS and GSM the reader is ANY function that
  fills the requested region (`hback`).  The codec models describe the data region; the container around it is any function
  of the data length (`hdr` / `tail`) that re-opens with the requested parameters (`rate`).  These pairs are lossy: the C01
  clause is outside its side condition (`losslessLow = none`), and crash points (C11) are added by a `SnapJob` (SfProps/C07Bridge3Snap.lean) or belong to the container models.

  -- properties: C04 C07
-/
import SfProofs.AbsWriteBridgeBlock
import SfProps.C07CodecsClosed
import SfProps.C06G72x
import SfProps.C04Geometry
namespace Sf.C07Bridge
open Sf Sf.AbsWrite Sf.AbsWriteBridge

theorem block_session_accepted (J : BlockJob) (X : BlockFacts J) : accepted J.pred.record = true :=
  Pred.accepted_of_good _ (block_pred_good J X)

/-- the calls of a job as the (type, samples) pairs the codec models take -/
def typed (ty : Ty) (cs : List LCall) : List (Ty × List Int) := cs.map fun c => (ty, c.xs)

theorem flatMap_typed (ty : Ty) (f : Ty → Int → Int) (cs : List LCall) :
    (typed ty cs).flatMap (fun c => c.2.map (f c.1)) = (samples cs).map (f ty) := by
  induction cs with
  | nil => rfl
  | cons c cs ih =>
    simp only [typed, List.map_cons, List.flatMap_cons, samples, List.map_append] at ih ⊢
    rw [ih]

theorem framesOf_one (cs : List LCall) : framesOf 1 cs = (samples cs).length := by
  induction cs with
  | nil => rfl
  | cons c cs ih => simp [framesOf, samples] at *; omega

/-- `BlockFacts` of a MONO job from facts about its samples (a frame is a sample: `framesOf_one`) -/
theorem mono_block_facts (J : BlockJob) (hch : J.g.ch = 1) (hB : 1 ≤ J.g.block)
    (h1 : ∀ c ∈ J.one, c.good 1) (h2 : ∀ c ∈ J.split, c.good 1) (hs : samples J.split = samples J.one)
    (hpart : J.data J.split = J.data J.one)
    (f1 : (samples J.one).length ≤ J.framesAt (J.data J.one).length)
    (f2 : J.framesAt (J.data J.one).length < (samples J.one).length + J.g.block)
    (hback : ∀ d n, (J.back d n).length = n) (hrate : rateOk J.g.major J.g.sr (J.g.sr : Int) = true)
    (c01 : losslessLow J.g.codec J.ty = none ∨
      ((∀ v ∈ samples J.one, sampleOk J.g.codec J.ty v) →
        (J.back (J.data J.one) ((framesOf J.g.ch J.one + J.g.block + J.g.pad + 8) * J.g.ch)).take (samples J.one).length = samples J.one)) :
    BlockFacts J :=
  { chpos := by rw [hch]; decide, block := hB, calls1 := by rw [hch]; exact h1, calls2 := by rw [hch]; exact h2, same := hs,
    partition := fun _ => hpart, framesLo := by rw [hch, framesOf_one]; exact f1,
    framesHi := by rw [hch, framesOf_one]; exact f2, backLen := hback, rate := hrate, c01 := c01 }

section G72x
open Sf.G72x Sf.C07G72x

/-- a G.72x job: mono, any container word whose codec is one of the three rates -/
def g72xJob (r : Rate) (cv : Conv) (g : AbsWrite.Geom) (ty : Ty) (one split : List LCall) (hdr tail : Nat → List Byte) : BlockJob :=
  { g := g, ty := ty, one := one, split := split,
    data := fun cs => closedBytes r cv (typed ty cs), hdr := hdr, tail := tail,
    framesAt := framesAtOpen r,
    back := fun d n => ((G72x.RHandle.open r d).read ty n).2.1 }

theorem g72x_block (g : AbsWrite.Geom) (hcodec : g.codec = 0x30 ∨ g.codec = 0x31 ∨ g.codec = 0x32) : g.block = 120 :=
  C04.blockFrames_g72x _ _ _ _ hcodec

theorem g72x_lossy (codec : Nat) (ty : Ty) (hcodec : codec = 0x30 ∨ codec = 0x31 ∨ codec = 0x32) : losslessLow codec ty = none := by
  rcases hcodec with h | h | h <;> rw [h] <;> cases ty <;> rfl

/-- the four facts of a G.72x job: C07 `g72x_write_partition`, C04 `g72x_frames_at_reopen` (B = 120), the reader fills the
    requested region, the pair is lossy -/
theorem g72x_block_facts (r : Rate) (hr : r.bits = 3 ∨ r.bits = 4 ∨ r.bits = 5) (cv : Conv) (g : AbsWrite.Geom) (ty : Ty)
    (one split : List LCall) (hdr tail : Nat → List Byte)
    (hch : g.ch = 1) (hcodec : g.codec = 0x30 ∨ g.codec = 0x31 ∨ g.codec = 0x32)
    (hrate : rateOk g.major g.sr (g.sr : Int) = true)
    (h1 : ∀ c ∈ one, c.good 1) (h2 : ∀ c ∈ split, c.good 1) (hs : samples split = samples one) :
    BlockFacts (g72xJob r cv g ty one split hdr tail) := by
  have hB := g72x_block g hcodec
  have hsh : ∀ cs, shorts cv (typed ty cs) = (samples cs).map (toCodec cv ty) := fun cs => flatMap_typed ty (toCodec cv) cs
  obtain ⟨f1, f2⟩ := g72x_frames_at_reopen r hr cv (typed ty one)
  rw [hsh, List.length_map] at f1 f2
  exact mono_block_facts _ hch (show 1 ≤ g.block by rw [hB]; decide) h1 h2 hs
    (g72x_write_partition r cv (typed ty split) (typed ty one) (by rw [hsh, hsh, hs]))
    f1 (show _ < _ + g.block by rw [hB]; exact f2)
    (fun d n => (C06G72x.g72x_read_contract _ (C06G72x.g72x_open_inv r d) ty n).2.2.1) hrate
    (Or.inl (g72x_lossy g.codec ty hcodec))

theorem g72x_session_accepted (r : Rate) (hr : r.bits = 3 ∨ r.bits = 4 ∨ r.bits = 5) (cv : Conv) (g : AbsWrite.Geom) (ty : Ty)
    (one split : List LCall) (hdr tail : Nat → List Byte)
    (hch : g.ch = 1) (hcodec : g.codec = 0x30 ∨ g.codec = 0x31 ∨ g.codec = 0x32)
    (hrate : rateOk g.major g.sr (g.sr : Int) = true)
    (h1 : ∀ c ∈ one, c.good 1) (h2 : ∀ c ∈ split, c.good 1) (hs : samples split = samples one) :
    accepted (g72xJob r cv g ty one split hdr tail).pred.record = true :=
  block_session_accepted _ (g72x_block_facts r hr cv g ty one split hdr tail hch hcodec hrate h1 h2 hs)

end G72x

section Nms
open Sf.Nms Sf.C07Nms Sf.C07CodecsClosed

def nmsJob (r : Nms.Rate) (cv : Conv) (g : AbsWrite.Geom) (ty : Ty) (one split : List LCall) (hdr tail : Nat → List Byte)
    (back : List Byte → Nat → List Int) : BlockJob :=
  { g := g, ty := ty, one := one, split := split,
    data := fun cs => closedData r cv (typed ty cs), hdr := hdr, tail := tail,
    framesAt := Nms.framesAtOpen r, back := back }

/-- NMS ADPCM (16 / 24 / 32 kbit/s): the reader is any function that fills the requested region (C06Nms describes it) -/
theorem nms_session_accepted (r : Nms.Rate) (cv : Conv) (g : AbsWrite.Geom) (ty : Ty) (one split : List LCall)
    (hdr tail : Nat → List Byte) (back : List Byte → Nat → List Int) (hback : ∀ d n, (back d n).length = n)
    (hch : g.ch = 1) (hcodec : g.codec = 0x22 ∨ g.codec = 0x23 ∨ g.codec = 0x24)
    (hrate : rateOk g.major g.sr (g.sr : Int) = true)
    (h1 : ∀ c ∈ one, c.good 1) (h2 : ∀ c ∈ split, c.good 1) (hs : samples split = samples one) :
    accepted (nmsJob r cv g ty one split hdr tail back).pred.record = true := by
  apply block_session_accepted
  have hB : g.block = 160 := C04.blockFrames_nms _ _ _ _ hcodec
  have hsh : ∀ cs, shortsOf cv (typed ty cs) = (samples cs).map (ofCaller cv ty) := fun cs => flatMap_typed ty (ofCaller cv) cs
  obtain ⟨_, f1, f2⟩ := nms_frames_at_reopen_closed r cv (typed ty one)
  rw [hsh, List.length_map] at f1 f2
  exact mono_block_facts _ hch (show 1 ≤ g.block by rw [hB]; decide) h1 h2 hs
    (nms_write_partition r cv (typed ty split) (typed ty one) (by rw [hsh, hsh, hs])).2
    f1 (show _ < _ + g.block by rw [hB]; exact f2) hback hrate
    (Or.inl (show losslessLow g.codec ty = none by rcases hcodec with h | h | h <;> rw [h] <;> cases ty <;> rfl))

end Nms

section Gsm
open Sf.Gsm Sf.C07Gsm Sf.C07CodecsClosed

def gsmData (c : Gsm.Cfg) (cv : Conv) (calls : List (Ty × List Int)) : List Byte :=
  closeBytes c (calls.foldl (fun st k => writeCall c cv k.1 st k.2) (writeInit c))

def gsmJob (c : Gsm.Cfg) (cv : Conv) (g : AbsWrite.Geom) (ty : Ty) (one split : List LCall) (hdr tail : Nat → List Byte)
    (back : List Byte → Nat → List Int) : BlockJob :=
  { g := g, ty := ty, one := one, split := split,
    data := fun cs => gsmData c cv (typed ty cs), hdr := hdr, tail := tail,
    framesAt := fun n => Gsm.framesAtOpen c n none, back := back }

/-- GSM 06.10, 33-byte frames (RAW / AIFF: B = 160) and WAV49 65-byte blocks (WAV / WAVEX / W64: B = 320); `hB` ties the
    geometry table of the predicate to the layout of the model -/
theorem gsm_session_accepted (c : Gsm.Cfg) (cv : Conv) (g : AbsWrite.Geom) (ty : Ty) (one split : List LCall)
    (hdr tail : Nat → List Byte) (back : List Byte → Nat → List Int) (hback : ∀ d n, (back d n).length = n)
    (hch : g.ch = 1) (hcodec : g.codec = 0x20) (hB : g.block = c.spb)
    (hrate : rateOk g.major g.sr (g.sr : Int) = true)
    (h1 : ∀ c ∈ one, c.good 1) (h2 : ∀ c ∈ split, c.good 1) (hs : samples split = samples one) :
    accepted (gsmJob c cv g ty one split hdr tail back).pred.record = true := by
  apply block_session_accepted
  have hsh : ∀ cs, samplesOf cv (typed ty cs) = (samples cs).map (ofCaller cv ty) := fun cs => flatMap_typed ty (ofCaller cv) cs
  obtain ⟨f0, f1, f2⟩ := gsm_frames_at_reopen_closed c cv (typed ty one) 0 (by decide)
  rw [hsh, List.length_map] at f0 f1 f2
  rw [Nat.add_zero] at f0
  exact mono_block_facts _ hch (show 1 ≤ g.block by rw [hB]; exact Sf.Gsm.Proofs.spb_pos c) h1 h2 hs
    (gsm_file_bytes_partition c cv (typed ty split) (typed ty one) (by rw [hsh, hsh, hs]))
    (show _ ≤ Gsm.framesAtOpen c (gsmData c cv (typed ty one)).length none by unfold gsmData; rw [f0]; exact f1)
    (show Gsm.framesAtOpen c (gsmData c cv (typed ty one)).length none < _ + g.block by unfold gsmData; rw [f0, hB]; exact f2)
    hback hrate (Or.inl (show losslessLow g.codec ty = none by rw [hcodec]; cases ty <;> rfl))

end Gsm

def exOne : List LCall := [⟨true, [1000, -2000, 30000], 3⟩]
def exSplit : List LCall := [⟨true, [1000], 1⟩, ⟨false, [-2000, 30000], 2⟩]
def exG : AbsWrite.Geom := { word := 0x00030030, ch := 1, sr := 8000 }
def exJob : BlockJob := g72xJob G72x.g721 {} exG .s16 exOne exSplit (fun _ => []) (fun _ => [])

instance (ch : Nat) (c : LCall) : Decidable (c.good ch) := by unfold LCall.good; infer_instance

/-- the hypotheses of `g72x_session_accepted` hold; the record has N = 3, F = 120 (one padded block of 60 bytes) -/
example : G72x.g721.bits = 4 ∧ exG.ch = 1 ∧ exG.codec = 0x30 ∧ rateOk exG.major exG.sr (exG.sr : Int) = true ∧
    (∀ c ∈ exOne, c.good 1) ∧ (∀ c ∈ exSplit, c.good 1) ∧ samples exSplit = samples exOne := by decide
example : exJob.pred.record.info.frames = 120 ∧ exJob.pred.record.one.bytes.size = 60 ∧ exJob.pred.record.rb.ret = 120 ∧
    accepted exJob.pred.record = true :=
  ⟨by decide +kernel, by decide +kernel, by decide +kernel,
    g72x_session_accepted G72x.g721 (by decide) {} exG .s16 exOne exSplit _ _ rfl (by decide) (by decide) (by decide) (by decide)
      (by decide)⟩

end Sf.C07Bridge
