/-
  C12 — `meta_roundtrip` for AIFF and CAF as ONE theorem per container over handle states (`Sf.MetaXS.XState`,
  lean/SfModel/MetaXState.lean): everything the handle holds — strings set before AND after the audio, cue points, the channel
  map — comes back after close and re-open as `normaliseX` says, for EVERY handle state within the containers' limits.
  (`C12Round.meta_roundtrip_aiff / _caf` state the same item by item, as conjunctions.)
-/
import SfModel.MetaXState
import SfProps.C12Round
namespace Sf.C12XState
open Sf Sf.Meta Sf.MetaX Sf.MetaXS

/-- strings of a type AIFF has no chunk for are not written at all -/
theorem aiffItem_other (e : Nat × List Byte) (h : aiffStored e = false) : aiffItem e = [] := by
  obtain ⟨ty, s⟩ := e
  simp only [aiffStored, Bool.or_eq_false_iff, decide_eq_false_iff_not] at h
  obtain ⟨⟨⟨⟨h1, h2⟩, h3⟩, h4⟩, h5⟩ := h
  unfold aiffItem
  split <;> simp_all

theorem aiffStrings_filter (es : List (Nat × List Byte)) : aiffStrings (es.filter aiffStored) = aiffStrings es := by
  induction es with
  | nil => rfl
  | cons e t ih =>
    unfold aiffStrings at ih ⊢
    by_cases h : aiffStored e = true
    · simp [h, ih]
    · have h' : aiffStored e = false := by simpa using h
      simp [h', ih, aiffItem_other e h']

/-- every text chunk takes at least one byte: the walk's fuel (file length + 1) is enough -/
theorem aiffItem_pos (e : Nat × List Byte) (h : aiffOk e) : 1 ≤ (aiffItem e).length := by
  obtain ⟨ty, s⟩ := e
  obtain ⟨_, _, hty⟩ := h
  rcases hty with ⟨h, _⟩ | ⟨h, _⟩ | ⟨h, _⟩ | ⟨h, _⟩ | ⟨h, _⟩ <;> simp only at h <;> subst h <;> simp [aiffItem, mk, ascii]

theorem aiffStrings_length_ge (es : List (Nat × List Byte)) (h : ∀ e ∈ es, aiffOk e) : es.length ≤ (aiffStrings es).length := by
  simpa only [Nat.one_mul, aiffStrings] using flatMap_length_ge aiffItem 1 es fun e he => aiffItem_pos e (h e he)

/-- the strings of the header / of the trailer, as the writers see them -/
def startE (h : XState) : List (Nat × List Byte) :=
  if (h.strings.flags &&& SF_STR_LOCATE_START) ≠ 0 then entriesOf h.strings SF_STR_LOCATE_START else []
def endE (h : XState) : List (Nat × List Byte) :=
  if (h.strings.flags &&& SF_STR_LOCATE_END) ≠ 0 then entriesOf h.strings SF_STR_LOCATE_END else []

/-- the limits of an AIFF handle, all explicit: texts of the five stored types are non-empty C strings whose chunk the header
    cache holds (copyright and software printable ASCII: KF.aiffSanitize); at most 2500 markers with a name of at most 253
    bytes; a stored channel map carries its layout tag -/
structure WithinAiff (h : XState) : Prop where
  early : ∀ e ∈ (startE h).filter aiffStored, aiffOk e
  late : ∀ e ∈ (endE h).filter aiffStored, aiffOk e
  cues : ∀ cs, h.cues = some cs → cs.length ≤ 2500 ∧ ∀ c ∈ cs, (markOfCue c).ok
  chmap : ∀ m tag, h.chmap = some (m, tag) → tag = findTag m ∧ m.length = h.ch

theorem aiff_strings_back (es : List (Nat × List Byte)) (h : ∀ e ∈ es.filter aiffStored, aiffOk e) :
    aiffParse ((aiffStrings es).length + 1) (aiffStrings es) = es.filter aiffStored := by
  rw [← aiffStrings_filter es]
  exact aiff_text_roundtrip _ h _ (by have := aiffStrings_length_ge _ h; omega)

theorem chanBack_norm (caf : Bool) (ch : Nat) (cm : Option (List Nat × Nat))
    (w : ∀ m tag, cm = some (m, tag) → tag = findTag m ∧ m.length = ch) :
    chanBack caf ch cm = cm.bind fun p => if p.2 = 0 then none else some p.1 := by
  cases hcm : cm with
  | none => rfl
  | some p =>
    obtain ⟨m, tag⟩ := p
    obtain ⟨ht, hl⟩ := w m tag hcm
    simp only [chanBack, Option.bind_some]
    by_cases h0 : tag = 0
    · simp [h0]
    · simp only [h0, if_false]
      subst ht; subst hl
      exact chan_roundtrip caf m h0

/-- **meta_roundtrip** for AIFF, one theorem over handle states: get after re-open = normaliseX (handle), for every handle
    within the limits — strings set before and after the audio, markers with or without an instrument, the channel map -/
theorem meta_roundtrip_aiff_state (h : XState) (hc : h.cont = .aiff) (w : WithinAiff h) : xreopen h = normaliseX h := by
  obtain ⟨he, hl, hq, hm⟩ := w
  unfold xreopen normaliseX stringsBack
  have hs := aiff_strings_back (startE h) he
  have hs2 := aiff_strings_back (endE h) hl
  unfold startE at hs
  unfold endE at hs2
  simp only [hc, decide_true, if_true, hs, hs2, C12Round.aiff_cues_back h.inst h.cues hq, chanBack_norm _ _ _ hm]

/-- the limits of a CAF handle: C strings (any of the ten types), at most 32 of them, within the string storage and the header
    cache; a stored channel map carries its layout tag -/
structure WithinCaf (h : XState) : Prop where
  early : ∀ e ∈ startE h, cafOk e
  late : ∀ e ∈ endE h, cafOk e
  count : (startE h).length ≤ SF_MAX_STRINGS ∧ (endE h).length ≤ SF_MAX_STRINGS
  used : storedBytes (startE h) ≤ h.strings.used ∧ storedBytes (endE h) ≤ h.strings.used
  cap : cafNeed (startE h) ≤ HEADER_CAP ∧ cafNeed (endE h) ≤ HEADER_CAP
  chmap : ∀ m tag, h.chmap = some (m, tag) → tag = findTag m ∧ m.length = h.ch

/-- **meta_roundtrip** for CAF, one theorem over handle states (the trailing `info` chunk is lost behind an odd number of audio
    bytes: `normaliseX` says so) -/
theorem meta_roundtrip_caf_state (h : XState) (hc : h.cont = .caf) (w : WithinCaf h) : xreopen h = normaliseX h := by
  obtain ⟨he, hl, hn, hu, hcap, hm⟩ := w
  unfold xreopen normaliseX stringsBack
  have hs := caf_info_roundtrip h.strings.used (startE h) he hn.1 hu.1 hcap.1
  have hs2 := caf_info_roundtrip h.strings.used (endE h) hl hn.2 hu.2 hcap.2
  unfold startE at hs
  unfold endE at hs2
  simp only [hc, hs, hs2, chanBack_norm _ _ _ hm, decide_true]
  simp

/-! ## non-vacuity: handles built with `xstep`, within the limits, and what they return

`WithinAiff` / `WithinCaf` (like `C12Round.WithinRiff`) are hypotheses on the handle state.  No lemma derives any of their fields
for the states `xrun` reaches from `XState.open` — also not `chmap` (what `setChannelMap` stores) or `used`, which look like
invariants of `xstep`; the samples below establish them by evaluation. -/

def sampleAiff : XState :=
  xrun (ascii "libsndfile") (ascii "1.2.2") (XState.open .aiff 2)
    [.setString 1 (ascii "Title"), .setString 7 (ascii "an album"), .setCues [⟨1, 5, 0, 0, 0, 10, ascii "one"⟩], .setInst, .setChmap [2, 3],
     .writeAudio 8, .setString 5 (ascii "late"), .setCues []]

theorem sampleAiff_within : WithinAiff sampleAiff := by
  refine ⟨?_, ?_, ?_, ?_⟩
  · have : (startE sampleAiff).filter aiffStored = [(1, ascii "Title")] := by decide +kernel
    rw [this]; intro e he
    simp only [List.mem_cons, List.mem_nil_iff, or_false] at he
    subst he; exact ⟨by decide, by decide, by decide⟩
  · have : (endE sampleAiff).filter aiffStored = [(5, ascii "late")] := by decide +kernel
    rw [this]; intro e he
    simp only [List.mem_cons, List.mem_nil_iff, or_false] at he
    subst he; exact ⟨by decide, by decide, by decide⟩
  · intro cs hcs
    have : sampleAiff.cues = some [⟨1, 5, 0, 0, 0, 10, ascii "one"⟩] := by decide +kernel
    rw [this] at hcs; cases hcs
    refine ⟨by decide, ?_⟩
    intro c hc
    simp only [List.mem_cons, List.mem_nil_iff, or_false] at hc
    subst hc
    exact ⟨by decide, by decide, by decide, by decide⟩
  · intro m tag hmt
    have : sampleAiff.chmap = some ([2, 3], findTag [2, 3]) := by decide +kernel
    rw [this] at hmt; cases hmt
    exact ⟨rfl, by decide +kernel⟩

example : xreopen sampleAiff = ⟨[(1, ascii "Title"), (5, ascii "late")], some [⟨1, 0, 0x61746164, 0, 0, 10, ascii "one"⟩], some [2, 3]⟩ := by
  rw [meta_roundtrip_aiff_state _ (by decide +kernel) sampleAiff_within]
  decide +kernel

example : WithinAiff sampleAiff := sampleAiff_within

def sampleCaf : XState :=
  xrun (ascii "libsndfile") (ascii "1.2.2") (XState.open .caf 2)
    [.setString 8 (ascii "a licence"), .setString 3 (ascii "me"), .setChmap [2, 3], .writeAudio 8, .setString 5 (ascii "late")]

theorem sampleCaf_within : WithinCaf sampleCaf := by
  have h1 : startE sampleCaf = [(8, ascii "a licence"), (3, ascii "me (libsndfile-1.2.2)")] := by decide +kernel
  have h2 : endE sampleCaf = [(5, ascii "late")] := by decide +kernel
  refine ⟨?_, ?_, ?_, ?_, ?_, ?_⟩
  · rw [h1]; intro e he
    simp only [List.mem_cons, List.mem_nil_iff, or_false] at he
    rcases he with rfl | rfl <;> exact ⟨by decide, by decide⟩
  · rw [h2]; intro e he
    simp only [List.mem_cons, List.mem_nil_iff, or_false] at he
    subst he; exact ⟨by decide, by decide⟩
  · rw [h1, h2]; decide
  · rw [h1, h2]; decide +kernel
  · rw [h1, h2]; decide +kernel
  · intro m tag hmt
    have : sampleCaf.chmap = some ([2, 3], findTag [2, 3]) := by decide +kernel
    rw [this] at hmt; cases hmt
    exact ⟨rfl, by decide +kernel⟩

example : xreopen sampleCaf = ⟨[(8, ascii "a licence"), (3, ascii "me (libsndfile-1.2.2)"), (5, ascii "late")], none, some [2, 3]⟩ := by
  rw [meta_roundtrip_caf_state _ (by decide +kernel) sampleCaf_within]
  decide +kernel

example : WithinCaf sampleCaf := sampleCaf_within

end Sf.C12XState
