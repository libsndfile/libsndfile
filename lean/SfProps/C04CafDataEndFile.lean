/-
  SfProps.C04CafDataEndFile — the 'data' chunk of size −1 on whole files: the closed file of any session with that size field re-opens
  with the same parameters (`caf_data_to_end_reopen_info`: the chunk walk of `Sf.Caf.parse_hdr_tail` up to the 'data' chunk, then
  `caf_data_to_end_walk`), and the witness files of KF-CAF-DATA-MINUS-ONE as its instances.
-/
import SfProps.C04CafDataEnd
import SfProofs.CafParse
namespace Sf.C04CafDataEnd
open Sf Sf.Caf Sf.HdrRd Sf.Cursor

/-- the closed file of ANY session with the size field of its 'data' chunk replaced by −1 re-opens with the same parameters; the audio
    region then runs to the last byte of the file, so a pad byte behind an odd byte count is audio (there is no size that could
    exclude it).  Guard as in `caf_reopen_info`: at most 2^31 − 1 bytes of audio. -/
theorem caf_data_to_end_reopen_info (c : Cfg) (hwf : c.wf) (n : Nat) (pk : List Peak) (data : List Byte)
    (hpk : isFloat c.codec = true → pk.length = c.ch) (hd : data.length = n * c.bw) (hsz : n * c.bw + 1 ≤ 0x7FFFFFFF) :
    parse ((image c n pk data).take (dataOffset c - 12) ++ List.replicate 8 255 ++ (image c n pk data).drop (dataOffset c - 4)) =
      .ok { fmtWord := (if c.little then 0x10000000 else 0) + 0x180000 + c.codec, ch := c.ch, sr := c.sr,
            frames := (data.length + (tail c n).length) / c.bw, dataoffset := dataOffset c,
            datalength := data.length + (tail c n).length } := by
  have hal := dataOffset_aligned c
  have htl := tail_length_le c n
  have h255 : List.replicate 8 255 = beBytes 8 (2 ^ 64 - 1) := by decide
  -- the image: everything up to the size field, the field, the rest
  obtain ⟨H, hH, himg⟩ : ∃ H : List Byte, H.length = dataOffset c - 12 ∧ ∀ sz : List Byte, sz.length = 8 →
      H ++ (sz ++ (beBytes 4 0 ++ (data ++ tail c n))) = (flds52 c).flatten ++ (peakPart c pk ++ (mk "free" ++ (beBytes 8 (freeLen c) ++
        (zeros (freeLen c) ++ (mk "data" ++ (sz ++ (beBytes 4 0 ++ (data ++ tail c n)))))))) := by
    refine ⟨(flds52 c).flatten ++ (peakPart c pk ++ (mk "free" ++ (beBytes 8 (freeLen c) ++ (zeros (freeLen c) ++ mk "data")))), ?_,
      fun sz _ => by simp only [List.append_assoc]⟩
    have := preLen_eq c pk hpk
    simp only [List.length_append, (flds52_lengths c).2, mk_free_length, mk_data_length, beBytes_length, zeros,
      List.length_replicate, dataOffset]
    omega
  have hi : image c n pk data = H ++ (beBytes 8 (wrapU 64 (((n * c.bw : Nat) : Int) + 4)) ++ (beBytes 4 0 ++ (data ++ tail c n))) := by
    rw [himg _ (beBytes_length 8 _)]
    simp only [image, hdr, hdrRaw_eq, descChunk_eq, descRest, flds52, List.flatten_cons, List.flatten_nil, List.append_assoc, List.append_nil]
  have e4 : dataOffset c - 4 = H.length + 8 := by omega
  rw [hi, ← hH, List.take_left' rfl, e4, ← List.append_assoc H, List.drop_left' (by rw [List.length_append, beBytes_length]),
    List.append_assoc, h255, himg _ (beBytes_length 8 _)]
  generalize hbs : (flds52 c).flatten ++ _ = bs
  -- the walk: up to the 'data' chunk as for the unchanged file, then `caf_data_to_end_walk`
  obtain ⟨⟨m, h1⟩, d1⟩ := walk_to_data c hwf pk hpk bs _ hbs.symm
    (by simp only [List.length_append, mk_data_length, beBytes_length]; omega) (bs.length - 3)
  obtain ⟨hsp, hpl⟩ := split_at d1 (by simp only [List.length_append, mk_data_length]; omega)
  have h2 := caf_data_to_end_walk (bs.take (dataOffset c - 16)) (beBytes 4 0 ++ (data ++ tail c n)) c.ch m {}
    (by simp only [List.length_append, beBytes_length]; omega) (by simp only [List.length_append, beBytes_length]; omega)
  rw [← hsp, hpl] at h2
  have hlen : bs.length = dataOffset c + (data.length + (tail c n).length) := by
    have := len_of_drop d1 (by simp only [List.length_append, mk_data_length]; omega)
    simp only [List.length_append, mk_data_length, beBytes_length] at this
    omega
  rw [show bs.length - 3 + 3 = bs.length by omega] at h1
  have e16 : dataOffset c - 16 + 16 = dataOffset c := by omega
  rw [e16] at h2
  exact parse_of_walk c hwf bs _ hbs.symm _ (h1.trans h2) rfl _ (by
    show initData (dataOffset c) 0 bs.length = _
    rw [hlen]; unfold initData; split <;> simp <;> omega)

/-- the witness of KF-CAF-DATA-MINUS-ONE on the repaired reader: the closed 16-bit file of 3 frames with its 'data' size replaced by −1
    re-opens like the file with the explicit size; a 1-channel 8-bit file of 3 frames has a pad byte behind the audio, which "to the end
    of the file" makes a fourth frame -/
theorem caf_data_to_end_reopens :
    let img := image { codec := 0x02, endian := 0, ch := 1, sr := 8000 } 3 [] [0, 1, 0, 2, 0, 3]
    let img8 := image { codec := 0x01, endian := 0, ch := 1, sr := 8000 } 3 [] [1, 2, 3]
    parse (img.take 4084 ++ List.replicate 8 255 ++ img.drop 4092) = parse img ∧
    parse img = .ok { fmtWord := 0x180002, ch := 1, sr := 8000, frames := 3, dataoffset := 4096, datalength := 6 } ∧
    parse (img8.take 4084 ++ List.replicate 8 255 ++ img8.drop 4092) =
      .ok { fmtWord := 0x180001, ch := 1, sr := 8000, frames := 4, dataoffset := 4096, datalength := 4 } := by
  intro img img8
  have h16 := parse_image { codec := 0x02, endian := 0, ch := 1, sr := 8000 } (by decide) 3 [] [0, 1, 0, 2, 0, 3] (by decide) (by decide) (by decide)
  have e16 := caf_data_to_end_reopen_info { codec := 0x02, endian := 0, ch := 1, sr := 8000 } (by decide) 3 [] [0, 1, 0, 2, 0, 3]
    (by decide) (by decide) (by decide)
  have e8 := caf_data_to_end_reopen_info { codec := 0x01, endian := 0, ch := 1, sr := 8000 } (by decide) 3 [] [1, 2, 3]
    (by decide) (by decide) (by decide)
  exact ⟨e16.trans (h16.trans (by decide)).symm, h16.trans (by decide), e8.trans (by decide)⟩

end Sf.C04CafDataEnd
