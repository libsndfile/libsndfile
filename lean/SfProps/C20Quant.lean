/-
  C20 — G.711 as a quantiser: decode ∘ encode lands within half a step of the input, for every 16-bit input.
  (The Recommendation is not a nearest-level quantiser at segment edges — 508 µ-law / 504 A-law inputs have a nearer
   level in the neighbouring segment, counted by evaluating the spec functions; no theorem states the count or the set, there is
   the one witness `ulaw_not_nearest_witness`; that is the standard, stated here as the proved error bound per segment.)
  Independent of the generated tables: these are facts about the spec functions.

  The argument is the same for both laws.  The encoder finds the leading one of the magnitude (`segIdx`, the segment `s`:
  `segIdx_pow2`, SfProofs/G711.lean) and keeps the four bits `q` below it; the magnitudes sharing a code `(s, q)` form a
  cell of width `2^(s+3)`, and the decoder returns the cell's midpoint (`cell_midpoint`).  What is left is the bookkeeping
  of the code byte, the µ-law bias and clip, and A-law's linear segment 0.
-/
import SfProofs.G711
namespace Sf.C20
open Sf.G711

/-- segment number of a µ-law / A-law code -/
def ulawSeg (c : Nat) : Nat := ((255 - c % 256) / 16) % 8
def alawSeg (c : Nat) : Nat := ((Nat.xor (c % 256) 0x55) / 16) % 8

/-- half the quantisation step of the code's segment (µ-law steps are 8·2^s; the top segment also absorbs clipping: its outermost
    level 32124 stands for every magnitude up to 32768, 644 away) -/
def ulawHalfStep (c : Nat) : Int := if ulawSeg c = 7 then 644 else 2 ^ (ulawSeg c + 2)
def alawHalfStep (c : Nat) : Int := if alawSeg c = 0 then 8 else 2 ^ (alawSeg c + 2)

/-- The cell of a G.711 code, in units of half its width `W`: a magnitude `Y` whose leading one is `32·W ≤ Y < 64·W` and whose
    four bits below it are `q` lies in `[(16 + q)·2W, (17 + q)·2W)`, so within `W` of that cell's midpoint `(2q + 33)·W`. -/
theorem cell_midpoint (W Y : Nat) (lo : 32 * W ≤ Y) (hi : Y < 64 * W) :
    (2 * (Y / (2 * W) % 16) + 33) * W ≤ Y + W ∧ Y < (2 * (Y / (2 * W) % 16) + 33) * W + W := by
  -- `Y = k·2W + r` with `r < 2W`, and `16 ≤ k < 32` so that `q = k - 16`: the midpoint is `(2k + 1)·W = k·2W + W`
  have h16 : 16 ≤ Y / (2 * W) := (Nat.le_div_iff_mul_le (by omega)).mpr (by omega)
  have h32 : Y / (2 * W) < 32 := (Nat.div_lt_iff_lt_mul (by omega)).mpr (by omega)
  have hY := Nat.div_add_mod Y (2 * W)
  have hr := Nat.mod_lt Y (show 0 < 2 * W by omega)
  generalize Y / (2 * W) = k at *
  rw [show 2 * (k % 16) + 33 = 2 * k + 1 by omega, Nat.add_mul, Nat.one_mul, Nat.mul_comm 2 k, Nat.mul_assoc, Nat.mul_comm k]
  omega

/-- the code with segment `s` and mantissa `q`, and the same code with the sign bit cleared, decode to `± ((8q + 132)·2^s - 132)` -/
theorem ulawDecode_fields (s q : Nat) (hs : s < 8) (hq : q < 16) :
    ulawDecode (255 - (s * 16 + q)) = ((q * 8 + 132) * 2 ^ s : Nat) - 132 ∧
    ulawDecode ((255 - (s * 16 + q)) % 128) = 132 - ((q * 8 + 132) * 2 ^ s : Nat) ∧
    ulawSeg (255 - (s * 16 + q)) = s ∧ ulawSeg ((255 - (s * 16 + q)) % 128) = s := by
  unfold ulawDecode ulawSeg
  rw [show 255 - (255 - (s * 16 + q)) % 256 = s * 16 + q by omega,
    show 255 - (255 - (s * 16 + q)) % 128 % 256 = 128 + s * 16 + q by omega]
  simp only [show (s * 16 + q) % 16 = q by omega, show (s * 16 + q) / 16 % 8 = s by omega,
    show (128 + s * 16 + q) % 16 = q by omega, show (128 + s * 16 + q) / 16 % 8 = s by omega,
    if_neg (show ¬ s * 16 + q ≥ 128 by omega), if_pos (show 128 + s * 16 + q ≥ 128 by omega), and_self]

/-- below the clip the compressed code is the segment of the biased magnitude and the four bits under its leading one -/
theorem ulawEncMag_fields (m s : Nat) (hm : m ≤ 8158)
    (hs : segIdx (m + 33) [0x3F, 0x7F, 0xFF, 0x1FF, 0x3FF, 0x7FF, 0xFFF, 0x1FFF] = s) (h8 : s < 8) :
    ulawEncMag m = 255 - (s * 16 + (m + 33) / 2 ^ (s + 1) % 16) := by
  unfold ulawEncMag
  simp only [if_neg (show ¬ m > 8158 by omega), hs, if_neg (show ¬ s ≥ 8 by omega)]

/-- The bound on magnitudes `X = |x|`: for the code of `X / 4` (a sample `x ≥ 0`) and for that code with the sign bit cleared
    (`x < 0`, decoding to the negated level). -/
theorem ulaw_magnitude_error (X : Nat) (hX : X ≤ 32768) :
    (ulawDecode (ulawEncMag (X / 4)) - X).natAbs ≤ (ulawHalfStep (ulawEncMag (X / 4))).toNat ∧
    (ulawDecode (ulawEncMag (X / 4) % 128) + X).natAbs ≤ (ulawHalfStep (ulawEncMag (X / 4) % 128)).toNat := by
  by_cases hc : X / 4 ≤ 8158
  · obtain ⟨s, hs⟩ : ∃ s, segIdx (X / 4 + 33) [0x3F, 0x7F, 0xFF, 0x1FF, 0x3FF, 0x7FF, 0xFFF, 0x1FFF] = s := ⟨_, rfl⟩
    obtain ⟨h8, hi, lo⟩ := segIdx_pow2 _ 7 5 s (by omega) hs
    have lo := lo (Or.inr (by omega))
    rw [ulawEncMag_fields _ s hc hs (by omega)]
    obtain ⟨hd, hdn, hg, hgn⟩ := ulawDecode_fields s ((X / 4 + 33) / 2 ^ (s + 1) % 16) (by omega) (by omega)
    rw [hd, hdn, ulawHalfStep, ulawHalfStep, hg, hgn]
    have hstep : 4 * 2 ^ s ≤ (if s = 7 then (644 : Int) else 2 ^ (s + 2)).toNat := by
      split
      next h => rw [h]; decide
      next => rw [Int.toNat_pow_of_nonneg (by omega), Nat.pow_add]; exact Nat.le_of_eq (Nat.mul_comm _ _)
    generalize (if s = 7 then (644 : Int) else 2 ^ (s + 2)).toNat = H at *
    rw [Nat.pow_succ, Nat.pow_add] at hi
    rw [Nat.pow_add] at lo
    rw [Nat.pow_succ]
    generalize 2 ^ s = W at *
    -- the biased magnitude `X + 132` lies in the cell of the code, `(8q + 132)·2^s` is the cell's midpoint
    have hmid := cell_midpoint (4 * W) (X + 132) (by omega) (by omega)
    rw [show (X + 132) / (2 * (4 * W)) = (X / 4 + 33) / (W * 2) by
          rw [show X / 4 + 33 = (X + 132) / 4 by omega, Nat.div_div_eq_div_mul]; congr 1; omega,
      ← Nat.mul_assoc] at hmid
    generalize (X / 4 + 33) / (W * 2) % 16 = q at *
    rw [show (2 * q + 33) * 4 = q * 8 + 132 by omega] at hmid
    omega
  · -- clipped: every magnitude above 8158 is coded as 8158, code 0x80 of the top segment, whose half step 644 allows for it
    have hcode : ulawEncMag (X / 4) = 0x80 := by
      unfold ulawEncMag
      rw [if_pos (show X / 4 > 8158 by omega)]
      decide
    rw [hcode, show ulawDecode 0x80 = 32124 by decide, show ulawDecode (0x80 % 128) = -32124 by decide,
      show ulawHalfStep 0x80 = 644 by decide, show ulawHalfStep (0x80 % 128) = 644 by decide]
    omega

/-- µ-law: for EVERY 16-bit sample, decode (encode x) is within half a quantisation step of x -/
theorem ulaw_quantiser_error (x : Int) (h1 : -32768 ≤ x) (h2 : x ≤ 32767) :
    (ulawDecode (ulawEncode x) - x).natAbs ≤ (ulawHalfStep (ulawEncode x)).toNat := by
  unfold ulawEncode
  split
  · have h := (ulaw_magnitude_error x.toNat (by omega)).1
    rwa [show (x.toNat : Int) = x by omega, show x.toNat / 4 = (x / 4).toNat by omega] at h
  · have h := (ulaw_magnitude_error (-x).toNat (by omega)).2
    rwa [show ((-x).toNat : Int) = -x by omega, show (-x).toNat / 4 = (-x / 4).toNat by omega, ← Int.sub_eq_add_neg] at h

/-- the even-bit inversion mask `0x55` is undone by the decoder; `0xD5` also sets the sign bit, `% 128` clears it again -/
theorem alaw_mask : ∀ u < 128, Nat.xor (Nat.xor u 0xD5 % 256) 0x55 = 128 + u ∧ Nat.xor (Nat.xor u 0xD5 % 128 % 256) 0x55 = u := by
  decide

/-- the code with segment `s` and mantissa `q` decodes to `± (16q + 8)` in the linear segment 0, to `± (16q + 264)·2^(s-1)` above -/
theorem alawDecode_fields (s q : Nat) (hs : s < 8) (hq : q < 16) :
    alawDecode (Nat.xor (s * 16 + q) 0xD5) = ((if s = 0 then q * 16 + 8 else (q * 16 + 264) * 2 ^ (s - 1) : Nat) : Int) ∧
    alawDecode (Nat.xor (s * 16 + q) 0xD5 % 128) = -((if s = 0 then q * 16 + 8 else (q * 16 + 264) * 2 ^ (s - 1) : Nat) : Int) ∧
    alawSeg (Nat.xor (s * 16 + q) 0xD5) = s ∧ alawSeg (Nat.xor (s * 16 + q) 0xD5 % 128) = s := by
  obtain ⟨h1, h2⟩ := alaw_mask (s * 16 + q) (by omega)
  unfold alawDecode alawSeg
  rw [h1, h2]
  simp only [show (s * 16 + q) % 16 = q by omega, show (s * 16 + q) / 16 % 8 = s by omega,
    show (128 + (s * 16 + q)) % 16 = q by omega, show (128 + (s * 16 + q)) / 16 % 8 = s by omega,
    if_neg (show ¬ s * 16 + q ≥ 128 by omega), if_pos (show 128 + (s * 16 + q) ≥ 128 by omega), and_true]
  have : (if s = 1 then q * 16 + 264 else (q * 16 + 264) * 2 ^ (s - 1)) = (q * 16 + 264) * 2 ^ (s - 1) := by
    split
    next h => rw [h, Nat.sub_self, Nat.pow_zero, Nat.mul_one]
    next => rfl
  rw [this]
  exact ⟨rfl, rfl⟩

/-- `m % 16` of segments 0 and 1 is `m / 2^(s-1) % 16` too (natural subtraction for `s = 0`) -/
theorem alawEncMag_fields (m s : Nat) (hs : segIdx m [0xF, 0x1F, 0x3F, 0x7F, 0xFF, 0x1FF, 0x3FF, 0x7FF] = s) (h8 : s < 8) :
    alawEncMag m = Nat.xor (s * 16 + m / 2 ^ (s - 1) % 16) 0xD5 := by
  unfold alawEncMag
  simp only [hs, if_neg (show ¬ s ≥ 8 by omega)]
  split
  next h =>
    rw [show s - 1 = 0 by omega, Nat.pow_zero, Nat.div_one]
  next => rfl

theorem alaw_magnitude_error (X : Nat) (hX : X ≤ 32768) :
    (alawDecode (alawEncMag (X / 16)) - X).natAbs ≤ (alawHalfStep (alawEncMag (X / 16))).toNat ∧
    (alawDecode (alawEncMag (X / 16) % 128) + X).natAbs ≤ (alawHalfStep (alawEncMag (X / 16) % 128)).toNat := by
  by_cases hc : X / 16 ≤ 2047
  · obtain ⟨s, hs⟩ : ∃ s, segIdx (X / 16) [0xF, 0x1F, 0x3F, 0x7F, 0xFF, 0x1FF, 0x3FF, 0x7FF] = s := ⟨_, rfl⟩
    obtain ⟨h8, hi, lo⟩ := segIdx_pow2 _ 7 3 s (by omega) hs
    rw [alawEncMag_fields _ s hs (by omega)]
    obtain ⟨hd, hdn, hg, hgn⟩ := alawDecode_fields s (X / 16 / 2 ^ (s - 1) % 16) (by omega) (by omega)
    rw [hd, hdn, alawHalfStep, alawHalfStep, hg, hgn]
    cases s with
    | zero =>
      -- segment 0 is linear: `X / 16 < 16` is its own mantissa, the level is the middle of the 16 values sharing it
      rw [if_pos rfl, if_pos rfl]
      omega
    | succ s =>
      rw [if_neg (by omega), if_neg (by omega), Nat.add_sub_cancel, Int.toNat_pow_of_nonneg (by omega)]
      have lo := lo (Or.inl (by omega))
      rw [Nat.pow_succ, Nat.pow_add, Nat.pow_succ] at hi
      rw [Nat.pow_add, Nat.pow_succ] at lo
      rw [show (2 : Int).toNat = 2 from rfl, Nat.pow_add, Nat.pow_succ]
      generalize 2 ^ s = W at *
      -- no bias: `X` itself lies in the cell of the code, `(16q + 264)·2^s` is the cell's midpoint
      have hmid := cell_midpoint (8 * W) X (by omega) (by omega)
      rw [show X / (2 * (8 * W)) = X / 16 / W by rw [Nat.div_div_eq_div_mul]; congr 1; omega, ← Nat.mul_assoc] at hmid
      generalize X / 16 / W % 16 = q at *
      rw [show (2 * q + 33) * 8 = q * 16 + 264 by omega] at hmid
      omega
  · -- only `X = 32768` (from `x = -32768`): coded as the top code, exactly half a step away
    have hcode : alawEncMag (X / 16) = 0xAA := by
      rw [show X / 16 = 2048 by omega]
      decide
    rw [hcode, show alawDecode 0xAA = 32256 by decide, show alawDecode (0xAA % 128) = -32256 by decide,
      show alawHalfStep 0xAA = 512 by decide, show alawHalfStep (0xAA % 128) = 512 by decide]
    omega

/-- A-law: for EVERY 16-bit sample, decode (encode x) is within half a quantisation step of x -/
theorem alaw_quantiser_error (x : Int) (h1 : -32768 ≤ x) (h2 : x ≤ 32767) :
    (alawDecode (alawEncode x) - x).natAbs ≤ (alawHalfStep (alawEncode x)).toNat := by
  unfold alawEncode
  split
  · have h := (alaw_magnitude_error x.toNat (by omega)).1
    rwa [show (x.toNat : Int) = x by omega, show x.toNat / 16 = (x / 16).toNat by omega] at h
  · have h := (alaw_magnitude_error (-x).toNat (by omega)).2
    rwa [show ((-x).toNat : Int) = -x by omega, show (-x).toNat / 16 = (-x / 16).toNat by omega, ← Int.sub_eq_add_neg] at h

/-- the quantiser is not nearest-level at segment edges: −16379 is coded 0x0F (level −16764) although level −15996
    (code 0x10, in the next segment) is nearer — G.711 itself, not a defect -/
theorem ulaw_not_nearest_witness :
    ulawEncode (-16379) = 0x0F ∧
    (ulawDecode 0x0F - (-16379)).natAbs > (ulawDecode 0x10 - (-16379)).natAbs := by decide

example : ulawEncode 1000 = 0xCE ∧ ulawDecode 0xCE = 988 ∧ ulawHalfStep 0xCE = 32 := by decide

end Sf.C20
