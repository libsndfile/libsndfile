/-
  C12 — metadata set before the audio survives close and re-open.

  Theorems about SfModel/Meta.lean (the definitions `sfmodel meta` runs against the library), chunk by chunk: each reader on
  its own writer's output.  Each round-trip theorem carries the implementation's limits as explicit hypotheses; where the
  full statement fails, the counter-example is a proved witness and the hypothesis of the `…_partial` theorem is exactly the
  known-finding class (the `KF.…` labels are the classes of known_findings.jsonl).  In the order of the file: the `cue ` chunk,
  `bext` and `cart`, LIST/INFO, `smpl`, the string table of sf_set_string (one call of `store`: SfProofs/MetaStrings.lean;
  sequences of calls: SfProps/C12Order.lean), one SET call on the handle (`step_effect`).
-/
import SfProofs.MetaBytes
import SfProofs.MetaStrings
import SfProps.C12Crlf
import SfProofs.Fields
namespace Sf.Meta

theorem serCue_length (c : Cue) : (serCue c).length = 24 := by simp [serCue]

theorem parseCue_serCue (c : Cue) (h : c.wf) : parseCue (serCue c) = c.stripName := by
  obtain ⟨h1, h2, h3, h4, h5, h6⟩ := h
  simp [parseCue, serCue, Cue.stripName, List.drop_append, ofLE_le4, List.drop_eq_nil_of_le, List.take_of_length_le, *]

theorem parseCues_flatMap (cs : List Cue) (h : ∀ c ∈ cs, c.wf) :
    parseCues cs.length (cs.flatMap serCue) = cs.map Cue.stripName := by
  have hstep : ∀ n c rest, c.wf → parseCues (n + 1) (serCue c ++ rest) = c.stripName :: parseCues n rest := by
    intro n c rest hc
    rw [parseCues, if_neg (by simp [serCue_length]), List.take_left' (serCue_length c), List.drop_left' (serCue_length c),
      parseCue_serCue c hc]
  simpa [parseCues] using walk_flatMap serCue parseCues Cue.stripName Cue.wf hstep cs h [] 0

/-- cue positions, ids and the chunk/block fields survive (0 … 2500 cue points): the re-opened file returns the cue list
    with every name emptied -/
theorem cue_roundtrip (cs : List Cue) (hn : cs.length ≤ MAX_CUES) (h : ∀ c ∈ cs, c.wf) :
    readCues (writeCues cs) = some (cs.map Cue.stripName) := by
  have hlt : cs.length < 2 ^ 32 := by unfold MAX_CUES at hn; omega
  unfold readCues writeCues
  simp only [List.append_assoc]
  rw [chunk_payload (mk "cue ") _ _ (by decide) (le4_length _)]
  simp only [List.take_left' (le4_length _), List.drop_left' (le4_length _), ofLE_le4 hlt]
  rw [if_neg (by omega), parseCues_flatMap cs h]

example : readCues (writeCues [⟨1, 10, 0x61746164, 0, 0, 10, []⟩, ⟨7, 20, 0x61746164, 1, 2, 3, []⟩])
    = some [⟨1, 10, 0x61746164, 0, 0, 10, []⟩, ⟨7, 20, 0x61746164, 1, 2, 3, []⟩] :=
  (cue_roundtrip _ (by decide) (by decide)).trans (by decide)

/-- the full statement for cue points, asked of the `cue ` chunk alone: what is set is what is returned -/
def cue_full : Prop := ∀ cs : List Cue, cs.length ≤ 100 → (∀ c ∈ cs, c.wf ∧ c.name.length < 256) → readCues (writeCues cs) = some cs

/-- the `cue ` chunk has no field for a name: read alone it returns every name empty (the names are written as `labl` entries
    of a LIST/adtl chunk, SfModel/MetaFix.lean, and come back through it: `C12Fix.cue_names_roundtrip`) -/
theorem cue_names_lost : ¬ cue_full := by
  intro h
  have := h [⟨1, 10, 0x61746164, 0, 0, 10, [111, 110, 101]⟩] (by decide) (by decide)
  revert this; decide

/-- the `cue ` chunk alone returns what was set when no cue point carries a name (a named cue point: class KF.cueNames) -/
theorem cue_roundtrip_partial (cs : List Cue) (hn : cs.length ≤ MAX_CUES) (h : ∀ c ∈ cs, c.wf) (hnames : ∀ c ∈ cs, c.name = []) :
    readCues (writeCues cs) = some cs := by
  rw [cue_roundtrip cs hn h, map_eq_self]
  intro c hc
  have := hnames c hc
  cases c; simp_all [Cue.stripName]

example : (∀ c ∈ [(⟨1, 10, 0, 0, 0, 10, []⟩ : Cue)], c.name = []) := by decide

/-- more than 2500 cue points: the chunk is skipped on re-open -/
theorem cue_count_limit_witness : readCues (mk "cue " ++ le4 (4 + 2501 * 24) ++ le4 2501) = none := by decide

/-- what a re-opened file returns for a stored bext block: everything but the reserved field -/
def Bext.reread (b : Bext) : Bext := { b with reserved := zeros 180 }

theorem bext_chunk_roundtrip_with (maxSize : Nat) (b : Bext) (h : b.wf) (hlim : BEXT_MIN + b.history.length ≤ maxSize)
    (h16 : b.history.length ≤ 16384) :
    readBextWith maxSize (writeBext b) = some b.reread := by
  obtain ⟨d1, d2, d3, d4, d5, t1, t2, v, um, a1, a2, a3, a4, a5, _⟩ := h
  have hs : BEXT_MIN + b.history.length < 2 ^ 32 := by unfold BEXT_MIN at *; omega
  unfold readBextWith writeBext
  simp only [List.append_assoc]
  rw [chunk_size (mk "bext") _ _ (by decide) hs, chunk_payload (mk "bext") _ _ (by decide) (le4_length _)]
  rw [if_neg (by unfold BEXT_MIN BEXT_STRUCT_16K at *; omega)]
  cases b
  simp only [Bext.reread, BEXT_MIN] at *
  -- each field is read at its offset: the fields in front of it are dropped whole, the field itself is the front of what is left
  simp only [drop_app_skip, List.take_left', d1, d2, d3, d4, d5, um, le4_length, le2_length, zeros_length, Nat.reduceLeDiff,
    Nat.reduceSub, List.drop_zero, ofLE_le4, ofLE_le2, t1, t2, v, a1, a2, a3, a4, a5, Nat.add_sub_cancel_left, List.take_length]

/-- the chunk round trip for every coding history the writer can emit (at most 16384 bytes): no other bound since the repair -/
theorem bext_chunk_roundtrip (b : Bext) (h : b.wf) (h16 : b.history.length ≤ 16384) : readBext (writeBext b) = some b.reread :=
  bext_chunk_roundtrip_with BEXT_MAX b h (by unfold BEXT_MAX; omega) h16

theorem crlfGo_replicate (x : Byte) (h13 : x ≠ 13) (h10 : x ≠ 10) (rest : List Byte) (n room : Nat) (h : n ≤ room) :
    crlfGo room none (List.replicate n x ++ rest) = List.replicate n x ++ crlfGo (room - n) none rest := by
  induction n generalizing room with
  | zero => simp
  | succ n ih =>
    rw [List.replicate_succ, List.cons_append, crlfGo, if_neg (by simp), if_neg (by omega), if_neg h13, if_neg h10,
      ih (room - 1) (by omega), List.cons_append, Nat.sub_sub, Nat.add_comm 1 n]

theorem crlfCopy_length (src : List Byte) : (crlfCopy src).length ≤ 16383 := by
  have := C12Crlf.crlfGo_length (VAR_TEXT - 2) src
  have := cstr_length_le (crlfGo (VAR_TEXT - 2) none src)
  unfold crlfCopy VAR_TEXT at *; omega

theorem strlcat_length (d s : List Byte) (h : d.length ≤ 16383) : (strlcat VAR_TEXT d s).length ≤ 16383 := by
  simp only [strlcat, VAR_TEXT, List.length_append, List.length_take]; omega

theorem closeLine_length (t : List Byte) (h : t.length ≤ 16383) : (closeLine t).length ≤ 16383 := by
  unfold closeLine; split
  · exact strlcat_length t _ h
  · exact h

/-- the stored coding history never exceeds the 16 KiB of SF_BROADCAST_INFO_16K -/
theorem normHistory_length (mode : Mode) (line src : List Byte) : (normHistory mode line src).length ≤ 16384 := by
  have h1 := closeLine_length _ (crlfCopy_length src)
  unfold normHistory
  simp only [List.length_append, zeros_length]
  split
  · have := strlcat_length _ line h1; omega
  · omega

/-- the value the re-opened file must return: the documented normalisations of SFC_SET_BROADCAST_INFO (CR/LF line ends, a
    line end added when missing, the library's coding-history line appended, even size) plus `version := 2` and the
    reserved field zeroed -/
def normBext (mode : Mode) (line : List Byte) (info : Bext) : Bext := (setBext mode line info).reread

/-- get after re-open = normalise (set) — at full strength since the repair of the reader's 10 KiB bound: for every
    block the SET call accepts, whatever the length of its coding history -/
theorem bext_roundtrip (mode : Mode) (line : List Byte) (info : Bext) (h : info.wf) :
    readBext (writeBext (setBext mode line info)) = some (normBext mode line info) := by
  apply bext_chunk_roundtrip
  · obtain ⟨d1, d2, d3, d4, d5, t1, t2, v, um, a1, a2, a3, a4, a5, r⟩ := h
    exact ⟨d1, d2, d3, d4, d5, t1, t2, by simp [setBext], um, a1, a2, a3, a4, a5, r⟩
  · simpa [setBext] using normHistory_length mode line info.history

def bextSample : Bext := ⟨fixW 256 (ascii "desc"), zeros 32, zeros 32, zeros 10, zeros 8, 1, 2, 1, zeros 64, 1, 2, 3, 4, 5, zeros 180, ascii "A=PCM\n"⟩

theorem bextSample_wf : bextSample.wf := by decide +kernel

example : readBext (writeBext (setBext .write (ascii "T=x\r\n") bextSample)) = some (normBext .write (ascii "T=x\r\n") bextSample) ∧
    (normBext .write (ascii "T=x\r\n") bextSample).history = ascii "A=PCM\r\nT=x\r\n" :=
  ⟨bext_roundtrip _ _ _ bextSample_wf, by decide +kernel⟩

/-- the full statement: every block with up to 16 KiB of coding history (what sndfile.h offers) survives -/
def bext_full_for (read : List Byte → Option Bext) : Prop :=
  ∀ (b : Bext), b.wf → b.history.length ≤ 16384 → read (writeBext b) = some b.reread

theorem bext_full : bext_full_for readBext := fun b h h16 => bext_chunk_roundtrip b h h16

theorem bext_over_limit_old_rule (b : Bext) (hlim : BEXT_MIN + b.history.length > BEXT_MAX_OLD) (hs : b.history.length ≤ 16384) :
    readBextOld (writeBext b) = none := by
  have hs : BEXT_MIN + b.history.length < 2 ^ 32 := by unfold BEXT_MIN; omega
  unfold readBextOld readBextWith writeBext
  simp only [List.append_assoc]
  rw [chunk_size (mk "bext") _ _ (by decide) hs]
  rw [if_pos (by omega)]

/-- before the repair: a stored coding history of more than 9638 bytes (chunk > 10 KiB) was emitted by the writer and the whole
    chunk skipped by the reader -/
theorem bext_history_limit_old_rule : ¬ bext_full_for readBextOld := by
  intro h
  -- any history of 9640 bytes on the sample block: the writer emits it, the old reader skips the chunk
  have key : ∀ hist : List Byte, hist.length = 9640 → False := by
    intro hist hl
    -- the field widths do not involve the history
    have hfull := h { bextSample with history := hist } (show bextSample.wf from bextSample_wf)
      (by show hist.length ≤ 16384; omega)
    rw [bext_over_limit_old_rule _ (by show BEXT_MIN + hist.length > BEXT_MAX_OLD; unfold BEXT_MIN BEXT_MAX_OLD; omega)
      (by show hist.length ≤ 16384; omega)] at hfull
    cases hfull
  exact key (zeros 9640) (zeros_length _)

def Cart.reread (c : Cart) : Cart := { c with reserved := zeros 276 }

theorem cart_chunk_roundtrip_with (limit : Nat) (c : Cart) (h : c.wf) (hlim : CART_MIN + c.tag.length < limit) (h16 : c.tag.length ≤ 16384) :
    readCartWith limit (writeCart c) = some c.reread := by
  obtain ⟨h1, h2, h3⟩ := h
  have hs : CART_MIN + c.tag.length < 2 ^ 32 := by unfold CART_MIN; omega
  unfold readCartWith writeCart
  simp only [List.append_assoc]
  rw [chunk_size (mk "cart") _ _ (by decide) hs, chunk_payload (mk "cart") _ _ (by decide) (le4_length _)]
  rw [if_neg (by unfold CART_MIN at *; omega)]
  cases c
  -- field by field as in `bext_chunk_roundtrip`; `h1 h2 h3` give the widths
  simp_all [Cart.reread, List.drop_append, List.drop_eq_nil_of_le, List.take_of_length_le, CART_MIN]

theorem cart_chunk_roundtrip (c : Cart) (h : c.wf) (h16 : c.tag.length ≤ 16384) : readCart (writeCart c) = some c.reread :=
  cart_chunk_roundtrip_with _ c h (by unfold CART_MIN CART_STRUCT_16K; omega) h16

def normCart (junk : Byte) (info : Cart) : Cart := (setCart junk info).reread

theorem normTag_length (junk : Byte) (src : List Byte) : (normTag junk src).length ≤ 16384 := by
  have h1 := closeLine_length _ (crlfCopy_length src)
  unfold normTag
  simp only [List.length_append, List.length_cons, List.length_nil]
  split
  · rename_i hev; simp only [List.length_cons, List.length_nil]; omega
  · simp only [List.length_nil]; omega

/-- get after re-open = normalise (set) at full strength since the repair of the reader's size test: CR/LF line ends, a line
    end added when missing, NUL padding to an even size; the reserved field is written as zeros.  `junk` is the byte after
    the terminator that cart_var_set never writes. -/
theorem cart_roundtrip (junk : Byte) (info : Cart) (h : info.wf) :
    readCart (writeCart (setCart junk info)) = some (normCart junk info) := by
  apply cart_chunk_roundtrip
  · exact h
  · simpa [setCart] using normTag_length junk info.tag

def cartSample : Cart := ⟨fixW 748 (ascii "0101title"), zeros 276, fixW 1024 (ascii "http://x"), ascii "tag\rtext"⟩

theorem cartSample_wf : cartSample.wf := by decide +kernel

example : readCart (writeCart (setCart 0 cartSample)) = some (normCart 0 cartSample) ∧
    (normCart 0 cartSample).tag = ascii "tag\r\ntext\r\n" ++ [0] :=
  ⟨cart_roundtrip 0 cartSample cartSample_wf, by decide +kernel⟩

/-- before the repair (`>=` where `>` is meant): a tag text that fills the 16 KiB was written and then refused by the reader -/
theorem cart_full_size_old_rule (c : Cart) (h16 : c.tag.length = 16384) : readCartOld (writeCart c) = none := by
  have hs : CART_MIN + c.tag.length < 2 ^ 32 := by unfold CART_MIN; omega
  unfold readCartOld readCartWith writeCart
  simp only [List.append_assoc]
  rw [chunk_size (mk "cart") _ _ (by decide) hs]
  rw [if_pos (by unfold CART_MIN CART_STRUCT_16K; omega)]

/-- a line of `n` plain characters closed by LF, short enough for the 16 KiB field: the LF becomes CR LF, one NUL follows,
    and one more byte when that leaves the size odd -/
theorem normTag_plain_line_length (junk x : Byte) (h13 : x ≠ 13) (h10 : x ≠ 10) (h0 : x ≠ 0) (n : Nat) (hn : n < VAR_TEXT - 2) :
    (normTag junk (List.replicate n x ++ [10])).length = n + 3 + (n + 1) % 2 := by
  have hcopy : crlfCopy (List.replicate n x ++ [10]) = List.replicate n x ++ [13, 10] := by
    have hroom : VAR_TEXT - 2 - n ≠ 0 := by omega
    unfold crlfCopy cstr
    rw [crlfGo_replicate x h13 h10 [10] n _ (by omega)]
    simp [crlfGo, hroom, h0]
  have hclose : closeLine (List.replicate n x ++ [13, 10]) = List.replicate n x ++ [13, 10] := by
    simp [closeLine, endsWithLF]
  have hlen : (List.replicate n x ++ [13, 10]).length = n + 2 := by simp
  unfold normTag
  simp only [hcopy, hclose, List.length_append, hlen]
  split <;> simp <;> omega

/-- … and such texts exist: 16381 characters and a line end normalise to 16383 bytes, tag_text_size 16384 -/
example : (normTag 0 (List.replicate 16381 120 ++ [10])).length = 16384 :=
  normTag_plain_line_length 0 120 (by decide) (by decide) (by decide) 16381 (by decide)

theorem infoMarker_spec {ty : Nat} {m : List Byte} (h : infoMarker ty = some m) :
    m.length = 4 ∧ markerType m = some (some ty) ∧ m ≠ mk "INFO" ∧ m ≠ mk "adtl" := by
  unfold infoMarker at h
  split at h <;> simp at h <;> subst h <;> decide

theorem serString_length (s : List Byte) : (serString s).length = 4 + (s.length + 1 + (s.length + 1) % 2) := by
  simp [serString]; omega

/-- the padded size of an item's text as the 's' conversion writes it: strlen + 1 rounded up to even -/
def paddedLen (e : Nat × List Byte) : Nat := e.2.length + 1 + (e.2.length + 1) % 2

theorem serItem_length (e : Nat × List Byte) (h : infoOk e) : (serItem e).length = 8 + paddedLen e := by
  obtain ⟨ty, s⟩ := e
  obtain ⟨_, hm⟩ := h
  obtain ⟨m, hm⟩ := Option.isSome_iff_exists.mp hm
  obtain ⟨m4, _⟩ := infoMarker_spec hm
  simp only at hm
  simp [serItem, hm, serString, m4, paddedLen]; omega

/-- one item at the front of the list, for any text buffer and either rule: parsed when its padded size is below the buffer
    size, otherwise skipped (current rule) or the end of the walk (old rule) -/
theorem parseItemsW_front (buf : Nat) (sk : Bool) (fuel : Nat) (e : Nat × List Byte) (rest : List Byte) (h : infoOk e)
    (h32 : paddedLen e < 2 ^ 32) :
    parseItemsW buf sk (fuel + 1) (serItem e ++ rest) =
      if paddedLen e ≥ buf then (if sk then parseItemsW buf sk fuel rest else []) else e :: parseItemsW buf sk fuel rest := by
  obtain ⟨ty, s⟩ := e
  obtain ⟨hz, hm⟩ := h
  simp only [paddedLen] at h32 ⊢
  simp only at hz hm
  obtain ⟨m, hm⟩ := Option.isSome_iff_exists.mp hm
  obtain ⟨m4, mt, mi, ma⟩ := infoMarker_spec hm
  have hev : (s.length + 1 + (s.length + 1) % 2) % 2 = 0 := by omega
  simp only [serItem, hm, serString, List.append_assoc]
  rw [parseItemsW]
  rw [if_neg (by simp [m4])]
  simp only [List.take_left' m4, List.drop_left' m4, List.take_left' (le4_length _), List.drop_left' (le4_length _), ofLE_le4 h32, hev,
    Nat.add_zero]
  rw [if_neg (by simp [mi, ma])]
  simp only [mt]
  have hsplit : s ++ ([0] ++ (zeros ((s.length + 1) % 2) ++ rest)) = (s ++ ([0] ++ zeros ((s.length + 1) % 2))) ++ rest := by simp
  have hlen : (s ++ ([0] ++ zeros ((s.length + 1) % 2))).length = s.length + 1 + (s.length + 1) % 2 := by simp; omega
  rw [if_neg (by rw [hsplit, List.length_append, hlen]; omega)]
  simp only [hsplit, List.take_left' hlen, List.drop_left' hlen]
  by_cases hb : buf ≤ s.length + 1 + (s.length + 1) % 2
  · simp only [ge_iff_le, hb, ↓reduceIte]
  · simp only [ge_iff_le, hb, ↓reduceIte]
    congr 1
    rw [show s ++ ([0] ++ zeros ((s.length + 1) % 2)) = s ++ 0 :: zeros ((s.length + 1) % 2) by simp, cstr_append_zero s _ hz]

theorem parseItemsW_item (buf : Nat) (sk : Bool) (fuel : Nat) (e : Nat × List Byte) (rest : List Byte) (h : infoOk e)
    (hb : paddedLen e < buf) (hbuf : buf ≤ 2 ^ 32) :
    parseItemsW buf sk (fuel + 1) (serItem e ++ rest) = e :: parseItemsW buf sk fuel rest := by
  rw [parseItemsW_front buf sk fuel e rest h (by omega), if_neg (by omega)]

/-- repair (a): an item that is too long for the text buffer (it can only come from another writer: more than 100 KiB) is
    skipped and the walk goes on with the next item … -/
theorem info_long_item_skipped (buf fuel : Nat) (e : Nat × List Byte) (rest : List Byte) (h : infoOk e) (h32 : paddedLen e < 2 ^ 32)
    (hlong : buf ≤ paddedLen e) : parseItemsW buf true (fuel + 1) (serItem e ++ rest) = parseItemsW buf true fuel rest := by
  rw [parseItemsW_front buf true fuel e rest h h32, if_pos hlong]; rfl

/-- … where the old rule ended the walk: every later item was lost -/
theorem info_long_item_ends_walk_old_rule (buf fuel : Nat) (e : Nat × List Byte) (rest : List Byte) (h : infoOk e) (h32 : paddedLen e < 2 ^ 32)
    (hlong : buf ≤ paddedLen e) : parseItemsW buf false (fuel + 1) (serItem e ++ rest) = [] := by
  rw [parseItemsW_front buf false fuel e rest h h32, if_pos hlong]; rfl

/-- non-vacuity of the two: a small buffer makes the case concrete -/
example : parseItemsW 8 true 9 (serItem (1, ascii "too long a title") ++ serItem (4, ascii "me")) = [(4, ascii "me")] ∧
    parseItemsW 8 false 9 (serItem (1, ascii "too long a title") ++ serItem (4, ascii "me")) = [] := by decide +kernel

theorem parseItemsW_items_append (buf : Nat) (sk : Bool) (hbuf : buf ≤ 2 ^ 32) (es : List (Nat × List Byte))
    (h : ∀ e ∈ es, infoOk e ∧ paddedLen e < buf) (rest : List Byte) (fuel : Nat) :
    parseItemsW buf sk (es.length + fuel) (es.flatMap serItem ++ rest) = es ++ parseItemsW buf sk fuel rest := by
  simpa using walk_flatMap serItem (parseItemsW buf sk) id (fun e => infoOk e ∧ paddedLen e < buf)
    (fun fuel e rest he => parseItemsW_item buf sk fuel e rest he.1 he.2 hbuf) es h rest fuel

theorem parseItemsW_nil (buf : Nat) (sk : Bool) (fuel : Nat) : parseItemsW buf sk fuel [] = [] := by
  cases fuel <;> simp [parseItemsW]

theorem parseItemsW_items (buf : Nat) (sk : Bool) (hbuf : buf ≤ 2 ^ 32) (es : List (Nat × List Byte))
    (h : ∀ e ∈ es, infoOk e ∧ paddedLen e < buf) (fuel : Nat) (hf : es.length ≤ fuel) :
    parseItemsW buf sk fuel (es.flatMap serItem) = es := by
  have := parseItemsW_items_append buf sk hbuf es h [] (fuel - es.length)
  rwa [Nat.add_sub_cancel' hf, List.append_nil, parseItemsW_nil, List.append_nil] at this

theorem flatMap_serItem_length (es : List (Nat × List Byte)) (h : ∀ e ∈ es, infoOk e) : es.length ≤ (es.flatMap serItem).length := by
  simpa only [Nat.one_mul] using flatMap_length_ge serItem 1 es fun e he => by rw [serItem_length e (h e he)]; omega

theorem paddedLen_le_flatMap (es : List (Nat × List Byte)) (h : ∀ e ∈ es, infoOk e) :
    ∀ e ∈ es, 8 + paddedLen e ≤ (es.flatMap serItem).length := fun e he => by
  -- the item's bytes are a sublist of the serialisation
  rw [← serItem_length e (h e he), List.flatMap_def]
  exact (List.sublist_flatten_of_mem (List.mem_map_of_mem he)).length_le

theorem infoBody_length (es : List (Nat × List Byte)) : (infoBody es).length = 4 + (es.flatMap serItem).length := by
  have i4 : (mk "INFO").length = 4 := by decide
  simp only [infoBody, List.length_append, i4]

theorem infoBody_length_sum (es : List (Nat × List Byte)) (h : ∀ e ∈ es, infoOk e) :
    (infoBody es).length = 4 + (es.map fun e => 8 + paddedLen e).sum := by
  rw [infoBody_length, List.length_flatMap, List.map_congr_left fun e he => serItem_length e (h e he)]

theorem parseInfoWith_serInfo (items : Nat → List Byte → List (Nat × List Byte)) (es : List (Nat × List Byte))
    (hsize : (infoBody es).length < 2 ^ 32) :
    parseInfoWith items (serInfo es) = if (infoBody es).length ≤ 8 then [] else items (infoBody es).length (infoBody es) := by
  unfold parseInfoWith serInfo
  simp only [List.append_assoc]
  rw [chunk_size (mk "LIST") _ _ (by decide) hsize, chunk_payload (mk "LIST") _ _ (by decide) (le4_length _)]
  simp only [List.take_length]

theorem parseItemsW_infoBody (buf : Nat) (sk : Bool) (es : List (Nat × List Byte)) :
    parseItemsW buf sk (infoBody es).length (infoBody es) =
      parseItemsW buf sk (3 + (es.flatMap serItem).length) (es.flatMap serItem) := by
  have i4 : (mk "INFO").length = 4 := by decide
  rw [infoBody_length, show 4 + (es.flatMap serItem).length = (3 + (es.flatMap serItem).length) + 1 by omega, infoBody, parseItemsW,
    if_neg (by simp [i4])]
  simp only [List.take_left' i4, List.drop_left' i4]
  rw [if_pos (Or.inl trivial)]

theorem parseInfoWith_roundtrip (buf : Nat) (sk : Bool) (hbuf : buf ≤ 2 ^ 32) (es : List (Nat × List Byte))
    (h : ∀ e ∈ es, infoOk e ∧ paddedLen e < buf) (hsize : (infoBody es).length < 2 ^ 32) :
    parseInfoWith (fun fuel body => parseItemsW buf sk fuel body) (serInfo es) = es := by
  have h' : ∀ e ∈ es, infoOk e := fun e he => (h e he).1
  rw [parseInfoWith_serInfo _ es hsize]
  cases es with
  | nil => rfl
  | cons e t =>
    have h10 : 10 ≤ (serItem e).length := by rw [serItem_length e (h' e (by simp))]; unfold paddedLen; omega
    have hpos := flatMap_serItem_length (e :: t) h'
    rw [if_neg (by rw [infoBody_length, List.flatMap_cons, List.length_append]; omega), parseItemsW_infoBody]
    exact parseItemsW_items buf sk hbuf (e :: t) h _ (by omega)

/-- `info_roundtrip` (full strength since the repairs of the reader): parse (serialise pairs) = pairs for every list of C
    strings of types RIFF INFO has an id for whose LIST chunk the header cache can hold (`HEADER_CAP` = 100 KiB: the writer
    cannot produce more either) — whatever the length of the single texts -/
theorem info_roundtrip (es : List (Nat × List Byte)) (h : ∀ e ∈ es, infoOk e) (hsize : (infoBody es).length ≤ HEADER_CAP) :
    parseInfo (serInfo es) = es := by
  have hs32 : (infoBody es).length < 2 ^ 32 := by unfold HEADER_CAP at hsize; omega
  have hbuf : infoBufSize (infoBody es).length = max (infoBody es).length 2047 + 1 := by
    unfold infoBufSize; rw [Nat.min_eq_left hsize]
  have key := parseInfoWith_roundtrip (infoBufSize (infoBody es).length) true
    (by rw [hbuf]; unfold HEADER_CAP at hsize; omega) es
    (fun e he => ⟨h e he, by have := paddedLen_le_flatMap es h e he; rw [hbuf, infoBody_length]; omega⟩) hs32
  -- the buffer the parser computes is the one of `key`: the body it sees is `infoBody es`
  rw [parseInfoWith_serInfo _ es hs32] at key
  rw [parseInfo, parseInfoWith_serInfo _ es hs32]
  exact key

/-- `info_roundtrip` for what a string table can hold (at most 32 entries), in terms of the texts: the sum of the padded
    lengths plus 8 bytes per item plus the 4 of `INFO` within the header cache -/
theorem info_roundtrip_table (es : List (Nat × List Byte)) (h : ∀ e ∈ es, infoOk e)
    (hsum : 4 + (es.map fun e => 8 + paddedLen e).sum ≤ HEADER_CAP) : parseInfo (serInfo es) = es :=
  info_roundtrip es h (by rw [infoBody_length_sum es h]; exact hsum)

example : parseInfo (serInfo [(1, ascii "Title"), (3, ascii "me (libsndfile-1.2.2)"), (16, ascii "x")]) =
    [(1, ascii "Title"), (3, ascii "me (libsndfile-1.2.2)"), (16, ascii "x")] := by decide +kernel

/-- the full statement: no length limit is documented for strings; the container's limit is what its header can hold -/
def info_full_for (parse : List Byte → List (Nat × List Byte)) : Prop :=
  ∀ es : List (Nat × List Byte), (∀ e ∈ es, (∀ b ∈ e.2, b ≠ 0) ∧ (infoMarker e.1).isSome) → es.length ≤ 32 →
  (infoBody es).length ≤ HEADER_CAP → parse (serInfo es) = es

/-- full strength for the repaired reader -/
theorem info_full : info_full_for parseInfo := fun es h _ hsize => info_roundtrip es h hsize

theorem infoOk_replicate (ty n : Nat) (x : Byte) (hx : x ≠ 0) (hm : (infoMarker ty).isSome) : infoOk (ty, List.replicate n x) :=
  ⟨fun _ hb => List.eq_of_mem_replicate hb ▸ hx, hm⟩

/-- the list of the witnesses below: a run of `A` as title, `B` as artist -/
theorem infoOk_long_title (n : Nat) : ∀ e ∈ [(1, List.replicate n 65), (4, [66])], infoOk e := by
  intro e he
  simp only [List.mem_cons, List.not_mem_nil, or_false] at he
  rcases he with rfl | rfl
  · exact infoOk_replicate 1 n 65 (by decide) (by decide)
  · exact infoOk_replicate 4 1 66 (by decide) (by decide)

theorem long_title_size (n : Nat) : (infoBody [(1, List.replicate n 65), (4, [66])]).length = 23 + n + (n + 1) % 2 := by
  rw [infoBody_length_sum _ (infoOk_long_title n)]
  simp only [List.map_cons, List.map_nil, List.sum_cons, List.sum_nil, paddedLen, List.length_replicate, List.length_cons, List.length_nil]
  omega

/-- a text of 2046 bytes and the item behind it both come back since the repair -/
example : parseInfo (serInfo [(1, List.replicate 2046 65), (4, [66])]) = [(1, List.replicate 2046 65), (4, [66])] :=
  info_roundtrip _ (infoOk_long_title 2046) (by rw [long_title_size]; decide)

/-- The reader before the repairs on a list with an item too long for its buffer of 2048 bytes: the items in front of it come
    back, the item and everything behind it are lost. -/
theorem parseInfoOld_long_item (es : List (Nat × List Byte)) (e : Nat × List Byte) (rest : List (Nat × List Byte))
    (hes : ∀ x ∈ es, infoOkOld x) (he : infoOk e) (hlong : INFO_BUFFER ≤ paddedLen e)
    (hsize : (infoBody (es ++ e :: rest)).length < 2 ^ 32) : parseInfoOld (serInfo (es ++ e :: rest)) = es := by
  have hflat : (es ++ e :: rest).flatMap serItem = es.flatMap serItem ++ (serItem e ++ rest.flatMap serItem) := by
    rw [List.flatMap_append, List.flatMap_cons]
  have hlen := serItem_length e he
  have hpos := flatMap_serItem_length es (fun x hx => (hes x hx).1)
  rw [infoBody_length, hflat, List.length_append, List.length_append] at hsize
  rw [parseInfoOld, parseInfoWith_serInfo _ _ (by rw [infoBody_length, hflat, List.length_append, List.length_append]; exact hsize),
    if_neg (by rw [infoBody_length, hflat, List.length_append, List.length_append]; unfold INFO_BUFFER at hlong; omega),
    parseItemsOld, parseItemsW_infoBody, hflat]
  -- enough fuel for the short items and one more step
  obtain ⟨f, hf⟩ : ∃ f, 3 + (es.flatMap serItem ++ (serItem e ++ rest.flatMap serItem)).length = es.length + (f + 1) :=
    ⟨2 + (es.flatMap serItem ++ (serItem e ++ rest.flatMap serItem)).length - es.length, by
      rw [List.length_append, List.length_append]; omega⟩
  rw [hf, parseItemsW_items_append INFO_BUFFER false (by decide) es
      (fun x hx => ⟨(hes x hx).1, by have := (hes x hx).2; unfold paddedLen INFO_BUFFER; omega⟩),
    info_long_item_ends_walk_old_rule _ _ e _ he (by omega) hlong, List.append_nil]

/-- the reader before the repairs: a text of 2046 bytes (2047 with its NUL, padded to 2048 = sizeof buffer) was refused and
    every item behind it was dropped with it -/
theorem info_limit_old_rule : ¬ info_full_for parseInfoOld := by
  intro h
  have hsize := long_title_size 2046
  have hall := h [(1, List.replicate 2046 65), (4, [66])] (infoOk_long_title 2046) (by decide) (by rw [hsize]; decide)
  have hnone := parseInfoOld_long_item [] (1, List.replicate 2046 65) [(4, [66])] (fun _ hx => nomatch hx)
    (infoOk_replicate 1 2046 65 (by decide) (by decide)) (by unfold paddedLen INFO_BUFFER; rw [List.length_replicate]; decide) (by rw [List.nil_append, hsize]; decide)
  exact List.cons_ne_nil _ _ (hall.symm.trans hnone)

theorem info_later_items_dropped_old_rule :
    parseInfoOld (serInfo [(5, [67]), (1, List.replicate 2046 65), (4, [66])]) = [(5, [67])] := by
  have h5 : infoOkOld (5, [67]) := ⟨⟨by decide, by decide⟩, by decide⟩
  refine parseInfoOld_long_item [(5, [67])] (1, List.replicate 2046 65) [(4, [66])] (fun x hx => by rw [List.mem_singleton.mp hx]; exact h5)
    (infoOk_replicate 1 2046 65 (by decide) (by decide)) (by unfold paddedLen INFO_BUFFER; rw [List.length_replicate]; decide) ?_
  rw [infoBody_length_sum _ (fun x hx => by
    rcases List.mem_cons.mp hx with rfl | hx
    · exact h5.1
    · exact infoOk_long_title 2046 x hx)]
  simp only [List.cons_append, List.nil_append, List.map_cons, List.map_nil, List.sum_cons, List.sum_nil, paddedLen, List.length_replicate,
    List.length_cons, List.length_nil]
  decide

/-- … and 2045 bytes passed: the old reader's round trip under its limit predicate `infoOkOld` -/
theorem info_roundtrip_short_items_old_rule (es : List (Nat × List Byte)) (h : ∀ e ∈ es, infoOkOld e) (hsize : (infoBody es).length < 2 ^ 32) :
    parseInfoOld (serInfo es) = es :=
  parseInfoWith_roundtrip INFO_BUFFER false (by decide) es
    (fun e he => ⟨(h e he).1, by have := (h e he).2; unfold paddedLen INFO_BUFFER; omega⟩) hsize

example : parseInfoOld (serInfo [(1, List.replicate 2045 65), (4, [66])]) = [(1, List.replicate 2045 65), (4, [66])] := by
  refine info_roundtrip_short_items_old_rule _ (fun e he => ⟨infoOk_long_title 2045 e he, ?_⟩) (by rw [long_title_size]; decide)
  simp only [List.mem_cons, List.not_mem_nil, or_false] at he
  rcases he with rfl | rfl
  · exact Nat.le_of_eq List.length_replicate
  · decide

theorem loopTypeEnc_lt (m : Int) : loopTypeEnc m < 2 ^ 32 := by
  unfold loopTypeEnc
  split
  · decide
  · split
    · decide
    · split <;> decide

theorem stop_roundtrip (s : Nat) (h : s < 2 ^ 32) : (wrapU 32 ((s : Int) - 1) + 1) % 2 ^ 32 = s := by
  unfold wrapU
  by_cases h0 : s = 0
  · subst h0; decide
  · have : ((s : Int) - 1) % 2 ^ 32 = (s : Int) - 1 := Int.emod_eq_of_lt (by omega) (by omega)
    rw [this]
    omega

theorem serLoop_length (k : Nat) (l : Loop) : (serLoop k l).length = 24 := by simp [serLoop]

theorem serLoops_length (k : Nat) (ls : List Loop) : (serLoops k ls).length = 24 * ls.length := by
  induction ls generalizing k with
  | nil => simp [serLoops]
  | cons l t ih => simp only [serLoops, List.length_append, serLoop_length, ih, List.length_cons]; omega

theorem parseLoop_serLoop (k : Nat) (l : Loop) (h : l.start < 2 ^ 32 ∧ l.stop < 2 ^ 32 ∧ l.count < 2 ^ 32) :
    parseLoop (serLoop k l) = normLoop l := by
  obtain ⟨h1, h2, h3⟩ := h
  have e := loopTypeEnc_lt l.mode
  have w := wrapU_lt_pow 32 ((l.stop : Int) - 1)
  have sr : (wrapU 32 ((l.stop : Int) - 1) + 1) % 4294967296 = l.stop := stop_roundtrip l.stop h2
  simp [parseLoop, serLoop, normLoop, List.drop_append, ofLE_le4, List.drop_eq_nil_of_le, List.take_of_length_le, *]

theorem parseLoops_serLoops (ls : List Loop) (h : ∀ l ∈ ls, l.start < 2 ^ 32 ∧ l.stop < 2 ^ 32 ∧ l.count < 2 ^ 32) :
    ∀ fuel k, ls.length ≤ fuel → parseLoops fuel (serLoops k ls) = ls.map normLoop := by
  induction ls with
  | nil => intro fuel k _; cases fuel <;> simp [parseLoops, serLoops]
  | cons l t ih =>
    intro fuel k hf
    cases fuel with
    | zero => simp at hf
    | succ f =>
      show parseLoops (f + 1) (serLoop k l ++ serLoops (k + 1) t) = (l :: t).map normLoop
      rw [parseLoops, List.map_cons]
      rw [if_neg (by simp [serLoop_length]), List.take_left' (serLoop_length k l), List.drop_left' (serLoop_length k l),
        parseLoop_serLoop k l (h l (by simp)), ih (fun l hl => h l (by simp [hl])) f (k + 1) (by simpa using hf)]

/-- get after re-open = normInst (set) for 0 … 16 loops: base note, loop modes, starts, ends and counts survive; gain, key
    and velocity ranges are replaced by 1, 0..127, 0..127 and detune goes through detuneDec ∘ detuneEnc -/
theorem inst_roundtrip (period : Nat) (i : Inst) (hp : period < 2 ^ 32) (hl : i.loops.length ≤ 16)
    (hw : ∀ l ∈ i.loops, l.start < 2 ^ 32 ∧ l.stop < 2 ^ 32 ∧ l.count < 2 ^ 32) :
    readSmpl (writeSmpl period i) = some (normInst i) := by
  have hs : 36 + i.loops.length * 24 < 2 ^ 32 := by omega
  have hn : i.loops.length < 2 ^ 32 := by omega
  have hb := wrapU_lt_pow 32 i.basenote
  have hd : detuneEnc i.detune < 2 ^ 32 := wrapU_lt_pow 32 _
  have hev : (36 + i.loops.length * 24) % 2 = 0 := by omega
  unfold readSmpl writeSmpl
  simp only [List.append_assoc]
  rw [chunk_size (mk "smpl") _ _ (by decide) hs, chunk_payload (mk "smpl") _ _ (by decide) (le4_length _)]
  simp only [hev, Nat.add_zero]
  have hlen : (le4 0 ++ (le4 0 ++ (le4 period ++ (le4 (wrapU 32 i.basenote) ++ (le4 (detuneEnc i.detune) ++ (le4 0 ++ (le4 0 ++
      (le4 i.loops.length ++ (le4 0 ++ serLoops 0 i.loops))))))))).length = 36 + i.loops.length * 24 := by
    simp only [List.length_append, le4_length, serLoops_length]; omega
  rw [List.take_of_length_le (Nat.le_of_eq hlen)]
  rw [if_neg (by omega)]
  simp only [drop_app_skip, List.take_left', le4_length, Nat.reduceLeDiff, Nat.reduceSub, List.drop_zero, ofLE_le4, hb, hd, hn, hlen]
  suffices hloops : List.take 16 (if i.loops.length = 0 then [] else parseLoops ((36 + i.loops.length * 24) / 24 + 1) (serLoops 0 i.loops))
      = i.loops.map normLoop by rw [hloops]; rfl
  by_cases h0 : i.loops = []
  · simp [h0]
  · rw [if_neg (by simpa using h0), parseLoops_serLoops i.loops hw _ 0 (by omega), List.take_of_length_le (by simpa using hl)]

def instSample : Inst := ⟨1, 60, 5, 0, 127, 0, 127, [⟨801, 1, 3, 7⟩, ⟨803, 2, 4, 0⟩]⟩

example : readSmpl (writeSmpl 22675 instSample) = some instSample ∧ normInst instSample = instSample :=
  have hn : normInst instSample = instSample := by decide +kernel
  ⟨(inst_roundtrip 22675 instSample (by decide) (by decide) (by decide)).trans (congrArg some hn), hn⟩

/-- the full statement for the instrument: what is set is what is returned -/
def inst_full : Prop := ∀ (i : Inst), i.loops.length ≤ 16 → -128 ≤ i.detune ∧ i.detune ≤ 127 → 0 ≤ i.keyLo ∧ i.keyLo ≤ i.keyHi ∧ i.keyHi ≤ 127 →
  readSmpl (writeSmpl 22675 i) = some i

/-- key (and velocity) ranges and the gain are not stored … -/
theorem inst_ranges_lost : ¬ inst_full := by
  intro h
  have := h { instSample with keyLo := 10, keyHi := 90 } (by decide) (by decide) (by decide)
  revert this; decide +kernel

/-- … and a negative detune comes back with the wrong sign: -50 cents re-open as +50 -/
theorem inst_detune_sign_lost : (normInst { instSample with detune := -50 }).detune = 50 ∧ (normInst { instSample with detune := 100 }).detune = 0 := by
  decide +kernel

/-- classes KF.smplRanges / KF.smplDetune: outside them (gain 1, full key and velocity ranges, detune 0 … 99, base note a
    char, loop modes from the SF_LOOP_* enum) the round trip is exact -/
theorem inst_roundtrip_partial (period : Nat) (i : Inst) (hp : period < 2 ^ 32) (hl : i.loops.length ≤ 16)
    (hw : ∀ l ∈ i.loops, l.start < 2 ^ 32 ∧ l.stop < 2 ^ 32 ∧ l.count < 2 ^ 32 ∧ (l.mode = 800 ∨ l.mode = 801 ∨ l.mode = 802 ∨ l.mode = 803))
    (hg : i.gain = 1) (hv : i.velLo = 0 ∧ i.velHi = 127) (hk : i.keyLo = 0 ∧ i.keyHi = 127)
    (hd : detuneDec (detuneEnc i.detune) = i.detune) (hb : -128 ≤ i.basenote ∧ i.basenote ≤ 127) :
    readSmpl (writeSmpl period i) = some i := by
  rw [inst_roundtrip period i hp hl (fun l hl' => ⟨(hw l hl').1, (hw l hl').2.1, (hw l hl').2.2.1⟩)]
  have hbn : wrapS 8 (wrapU 32 i.basenote) = i.basenote := by
    unfold wrapS wrapU
    obtain ⟨b1, b2⟩ := hb
    have h1 := Int.emod_emod_of_dvd i.basenote (show (2 ^ 8 : Int) ∣ 2 ^ 32 by decide)
    have h2 := Int.emod_nonneg i.basenote (show (2 ^ 32 : Int) ≠ 0 by decide)
    simp only [Int.toNat_of_nonneg h2, h1]
    omega
  have hm : i.loops.map normLoop = i.loops := by
    apply map_eq_self
    intro l hl'
    obtain ⟨_, _, _, m⟩ := hw l hl'
    cases l
    rcases m with m | m | m | m <;> simp_all [normLoop, loopTypeEnc, loopTypeDec, SF_LOOP_FORWARD, SF_LOOP_BACKWARD, SF_LOOP_ALTERNATING, SF_LOOP_NONE]
  cases i
  -- `hg hv hk hd hbn hm`: every field `normInst` touches is unchanged on this instrument
  simp_all [normInst]

/-- detune 0 … 99 is inside the exact region (checked on every value) -/
theorem detune_exact_range : ∀ d ∈ List.range 100, detuneDec (detuneEnc (d : Int)) = (d : Int) := by decide +kernel

/-- `strings_store_inv`: for every sequence of calls (any modes, types, texts; successful or refused) on a freshly opened
    handle, every live slot points at a text inside the used part of the store and `used ≤ capacity` -/
theorem strings_store_inv (fl : Nat) (calls : List (Env × Int × List Byte)) :
    (calls.foldl (fun t c => (store c.1 t c.2.1 c.2.2).2) (Strings.init fl)).Inv :=
  List.foldlRecOn calls _ (init_inv fl) fun t h c _ => store_inv c.1 t c.2.1 c.2.2 h

def envW : Env := ⟨.write, false, ascii "libsndfile", ascii "1.2.2"⟩

example : let t := (store envW (store envW (Strings.init 0x300) 1 (ascii "a")).2 1 (ascii "bc")).2
    get t 1 = some (ascii "bc") ∧ t.used = 5 ∧ t.cap = 256 ∧ (t.slots.take 3).map (·.type) = [-1, 1, 0] := by decide +kernel

/-- the software string: the suffix is appended unless the package name already occurs; nothing is cut (full strength since
    the repair of the 128-byte buffer) -/
theorem software_suffix (pn pv s : List Byte) (hs : s ≠ []) (hn : isInfix pn s = false) :
    softwareText pn pv s = s ++ [32, 40] ++ pn ++ [45] ++ pv ++ [41] := by
  unfold softwareText
  rw [if_neg (by simp [hn]), if_neg (by simpa using hs)]

example : (store envW (Strings.init 0x300) 3 (ascii "me")).2.storage = ascii "me (libsndfile-1.2.2)" ++ [0] := by decide +kernel

example : get (store envW (Strings.init 0x300) 3 (List.replicate 120 65)).2 3 = some (List.replicate 120 65 ++ ascii " (libsndfile-1.2.2)") := by
  decide +kernel

/-- before the repair the text went through `char new_str [128]`: a software string was cut to 127 bytes (and lost the suffix) -/
theorem software_truncated_old_rule :
    get (storeOld envW (Strings.init 0x300) 3 (List.replicate 120 65)).2 3 = some (List.replicate 120 65 ++ ascii " (libsn") := by decide +kernel

/-- the 33rd call on a handle is refused and, since the repair, the value the type had is still there -/
example :
    let full := (List.range 32).foldl (fun t k => (store envW t 1 [65 + k]).2) (Strings.init 0x300)
    get full 1 = some [96] ∧ (store envW full 1 [66]).1 = SFE_STR_MAX_COUNT ∧ get (store envW full 1 [66]).2 1 = some [96] := by decide +kernel

/-- before the repair a refused call could still erase: the 33rd sf_set_string failed with SFE_STR_MAX_COUNT *after* the slot loop
    had marked the existing entry of that type as replaced -/
theorem refused_set_erases_old_rule :
    let full := (List.range 32).foldl (fun t k => (storeOld envW t 1 [65 + k]).2) (Strings.init 0x300)
    get full 1 = some [96] ∧ (storeOld envW full 1 [66]).1 = SFE_STR_MAX_COUNT ∧ get (storeOld envW full 1 [66]).2 1 = none := by decide +kernel

/-- … and `sf_set_string (sf, 0, …)` marked every free slot, so that no later string could be stored -/
theorem type_zero_bricks_table_old_rule :
    (storeOld envW (storeOld envW (Strings.init 0x300) 0 [65]).2 1 [66]).1 = SFE_STR_MAX_COUNT ∧
    (store envW (store envW (Strings.init 0x300) 0 [65]).2 1 [66]).1 = 0 := by decide +kernel

def Op.isAudio : Op → Bool
  | .writeAudio _ => true
  | _ => false

/-- the result code says "refused" (`sf_set_string`: non-zero; `sf_command`: SF_FALSE) -/
def refused : Op → Nat → Bool
  | .setString _ _, r => r ≠ 0
  | .writeAudio _, _ => false
  | _, r => r = 0

/-- which item a call sets: (kind, string type); the kinds other than strings have one item each, hence 0.  Audio gets a key
    of its own only so that `itemKey` is total: the order theorems (SfProps/C12Order.lean) ask `isAudio = false` of every call. -/
def itemKey : Op → Nat × Int
  | .setString ty _ => (0, ty)
  | .setBext .. => (1, 0)
  | .setCart .. => (2, 0)
  | .setCues _ => (3, 0)
  | .setInst _ => (4, 0)
  | .writeAudio _ => (5, 0)

/-- What a metadata call `op` on the handle `h` may have done when it returns `r`: container, mode, have_written and the audio
    stay, no item but the call's own changes, and a refused call changes nothing at all. -/
structure StepKeeps (op : Op) (h : MetaState) (r : Nat × MetaState) : Prop where
  frame : r.2.cont = h.cont ∧ r.2.mode = h.mode ∧ r.2.haveWritten = h.haveWritten
  audio : r.2.audio = h.audio
  bext : itemKey op ≠ (1, 0) → r.2.bext = h.bext
  cart : itemKey op ≠ (2, 0) → r.2.cart = h.cart
  cues : itemKey op ≠ (3, 0) → r.2.cues = h.cues
  inst : itemKey op ≠ (4, 0) → r.2.inst = h.inst
  refused : refused op r.1 = true → r.2 = h

theorem step_effect (pn pv : List Byte) (h : MetaState) (op : Op) (hop : op.isAudio = false) : StepKeeps op h (step pn pv h op) := by
  have same (code : Nat) : StepKeeps op h (code, h) :=
    ⟨⟨rfl, rfl, rfl⟩, rfl, fun _ => rfl, fun _ => rfl, fun _ => rfl, fun _ => rfl, fun _ => rfl⟩
  cases op with
  | writeAudio b => cases hop
  | setString ty s =>
    refine iteInduction (motive := StepKeeps _ h) (fun _ => same _) fun _ => ?_
    refine ⟨⟨rfl, rfl, rfl⟩, rfl, fun _ => rfl, fun _ => rfl, fun _ => rfl, fun _ => rfl, fun hr => ?_⟩
    have hcode : (store ⟨h.mode, h.haveWritten, pn, pv⟩ h.strings ty s).1 ≠ 0 := by simpa [Meta.refused] using hr
    show { h with strings := _ } = h
    rw [store_refused_unchanged _ _ _ _ hcode]
  | setBext line b d ds =>
    iterate 6 refine iteInduction (motive := StepKeeps _ h) (fun _ => same _) fun _ => ?_
    exact ⟨⟨rfl, rfl, rfl⟩, rfl, fun hk => absurd rfl hk, fun _ => rfl, fun _ => rfl, fun _ => rfl, fun hr => nomatch hr⟩
  | setCart j c d ds =>
    iterate 6 refine iteInduction (motive := StepKeeps _ h) (fun _ => same _) fun _ => ?_
    exact ⟨⟨rfl, rfl, rfl⟩, rfl, fun _ => rfl, fun hk => absurd rfl hk, fun _ => rfl, fun _ => rfl, fun hr => nomatch hr⟩
  | setCues cs =>
    refine iteInduction (motive := StepKeeps _ h) (fun _ => same _) fun _ => ?_
    exact ⟨⟨rfl, rfl, rfl⟩, rfl, fun _ => rfl, fun _ => rfl, fun hk => absurd rfl hk, fun _ => rfl, fun hr => nomatch hr⟩
  | setInst i =>
    refine iteInduction (motive := StepKeeps _ h) (fun _ => same _) fun _ => ?_
    exact ⟨⟨rfl, rfl, rfl⟩, rfl, fun _ => rfl, fun _ => rfl, fun _ => rfl, fun hk => absurd rfl hk, fun hr => nomatch hr⟩

theorem step_refused_eq (pn pv : List Byte) (h : MetaState) (op : Op) (hop : op.isAudio = false)
    (hr : refused op (step pn pv h op).1 = true) : (step pn pv h op).2 = h :=
  (step_effect pn pv h op hop).refused hr

/-- `late_or_unsupported_is_harmless` (model level, full strength since the repair of the string-table slot loop): a metadata
    call never touches the audio bytes; when it is refused — because audio has been written, because the container has no
    place for the item, or because its size fields are inconsistent — the whole handle state is what it was: strings of
    every type, bext, cart, cue points and instrument -/
theorem late_or_unsupported_is_harmless (pn pv : List Byte) (h : MetaState) (op : Op) (hop : op.isAudio = false) :
    (step pn pv h op).2.audio = h.audio ∧ (step pn pv h op).2.haveWritten = h.haveWritten ∧
    (refused op (step pn pv h op).1 = true →
      (step pn pv h op).2.bext = h.bext ∧ (step pn pv h op).2.cart = h.cart ∧ (step pn pv h op).2.cues = h.cues ∧
      (step pn pv h op).2.inst = h.inst ∧ (step pn pv h op).2.strings = h.strings) := by
  have hk := step_effect pn pv h op hop
  refine ⟨hk.audio, hk.frame.2.2, fun hr => ?_⟩
  rw [step_refused_eq pn pv h op hop hr]
  exact ⟨rfl, rfl, rfl, rfl, rfl⟩

/-- non-vacuity: bext on an AIFF handle is refused, bext after the audio is refused; a string after the audio is accepted -/
example : (step [] [] (MetaState.open .aiff) (.setBext [] bextSample 6 614)).1 = 0 ∧
    (step [] [] (step [] [] (MetaState.open .wav) (.writeAudio [1, 2])).2 (.setBext [] bextSample 6 614)).1 = 0 ∧
    (step [] [] (step [] [] (MetaState.open .wav) (.writeAudio [1, 2])).2 (.setString 1 [65])).1 = 0 ∧
    (step [] [] (MetaState.open .w64) (.setString 1 [65])).1 = SFE_STR_NO_SUPPORT := by decide +kernel

/-- since the repair: once audio has been written no SFC_SET_BROADCAST_INFO changes the size of the bext chunk, so the header
    that precedes the audio keeps its length (a block of another size is refused, the block set before is kept) -/
theorem late_bext_keeps_size (pn pv : List Byte) (h : MetaState) (line : List Byte) (b : Bext) (d ds : Nat) (hw : h.haveWritten = true) :
    ((step pn pv h (.setBext line b d ds)).2.bext.map fun o => o.history.length) = h.bext.map fun o => o.history.length := by
  -- every guard that refuses keeps the block; the last one lets a block through only if its history has the length of the old one
  let P (r : Nat × MetaState) : Prop := (r.2.bext.map fun o => o.history.length) = h.bext.map fun o => o.history.length
  show P (step pn pv h (.setBext line b d ds))
  iterate 5 refine iteInduction (motive := P) (fun _ => rfl) fun _ => ?_
  refine iteInduction (motive := P) (fun _ => rfl) fun hsize => ?_
  have : (h.bext.map fun o => o.history.length) = some (setBext h.mode line b).history.length := by simpa [hw] using hsize
  exact this.symm

/-- … and likewise for the cart chunk -/
theorem late_cart_keeps_size (pn pv : List Byte) (h : MetaState) (j : Byte) (c : Cart) (d ds : Nat) (hw : h.haveWritten = true) :
    ((step pn pv h (.setCart j c d ds)).2.cart.map fun o => o.tag.length) = h.cart.map fun o => o.tag.length := by
  let P (r : Nat × MetaState) : Prop := (r.2.cart.map fun o => o.tag.length) = h.cart.map fun o => o.tag.length
  show P (step pn pv h (.setCart j c d ds))
  iterate 5 refine iteInduction (motive := P) (fun _ => rfl) fun _ => ?_
  refine iteInduction (motive := P) (fun _ => rfl) fun hsize => ?_
  have : (h.cart.map fun o => o.tag.length) = some (setCart j c).tag.length := by simpa [hw] using hsize
  exact this.symm

/-- before the repair a second block after the audio was accepted whatever its size: the header grew over the audio -/
theorem late_grow_old_rule :
    let h1 := (step [] [] (step [] [] (MetaState.open .wav) (.setBext [] bextSample 6 614)).2 (.writeAudio [1, 2, 3, 4])).2
    let big : Bext := { bextSample with history := ascii "a much longer coding history line\r\n" }
    (stepOld [] [] h1 (.setBext [] big 35 643)).1 = 1 ∧
    ((stepOld [] [] h1 (.setBext [] big 35 643)).2.bext.map fun o => o.history.length) = some 36 ∧ (h1.bext.map fun o => o.history.length) = some 8 ∧
    (step [] [] h1 (.setBext [] big 35 643)).1 = 0 ∧
    (step [] [] h1 (.setBext [] { bextSample with timeLow := 77 } 6 614)).1 = 1 := by decide +kernel

/-- SFC_SET_CUE: the later call wins (since the repair); before, the second call reported success and kept the first set -/
theorem set_cue_last_wins (pn pv : List Byte) (h : MetaState) (cs : List Cue) (hw : h.haveWritten = false) :
    (step pn pv h (.setCues cs)).1 = 1 ∧ (step pn pv h (.setCues cs)).2.cues = some cs := by
  simp [step, hw]

theorem second_set_cue_old_rule :
    let h1 := (stepOld [] [] (MetaState.open .wav) (.setCues [⟨1, 10, 0, 0, 0, 10, []⟩])).2
    (stepOld [] [] h1 (.setCues [⟨2, 20, 0, 0, 0, 20, []⟩])).1 = 1 ∧
    (stepOld [] [] h1 (.setCues [⟨2, 20, 0, 0, 0, 20, []⟩])).2.cues = some [⟨1, 10, 0, 0, 0, 10, []⟩] := by decide +kernel

example : (step [] [] (step [] [] (MetaState.open .wav) (.setCues [⟨1, 10, 0, 0, 0, 10, []⟩])).2 (.setCues [⟨2, 20, 0, 0, 0, 20, []⟩])).2.cues
    = some [⟨2, 20, 0, 0, 0, 20, []⟩] := by decide +kernel

end Sf.Meta
