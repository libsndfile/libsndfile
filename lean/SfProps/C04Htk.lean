-- properties: C04 C11
/-
  C04 / C11 — the HTK container (stand-alone L1 model SfModel/Htk.lean; helpers SfProofs/HtkImage.lean,
  SfProofs/Small2Session.lean).

  A *session* is `openW` (sf_open SFM_WRITE; the caller's frames value is a parameter), any list of `WOp`s (write
  calls storing whole frames, with or without SFC_SET_UPDATE_HEADER_AUTO; SFC_UPDATE_HEADER_NOW), then `close`.
  `parse` is sf_open (SFM_READ) of the produced bytes.
-/
import SfProofs.HtkImage
namespace Sf.C04Htk
open Sf Sf.Small2 Sf.Htk

/-- a rate that divides 10 000 000 (the number of 100 ns units in a second) is reported back exactly -/
theorem htk_rate_exact (sr : Nat) (h1 : 1 ≤ sr) (hd : 10000000 % sr = 0) : quant sr = sr := by
  obtain ⟨hle, e⟩ := div_div_exact 10000000 sr (10000000 / sr) (by decide) (Nat.mul_div_cancel' (Nat.dvd_of_mod_eq_zero hd)).symm h1
  rw [quant, if_pos (show period sr > 0 from Nat.div_pos hle h1)]; exact e

/-- up to 10 MHz the reported rate is never below the requested one, and it is itself exactly representable:
    writing again at the reported rate stores the same period -/
theorem htk_rate_quantised (sr : Nat) (h1 : 1 ≤ sr) (hle : sr ≤ 10000000) :
    sr ≤ quant sr ∧ period (quant sr) = period sr := by
  rw [quant, if_pos (show period sr > 0 from Nat.div_pos hle h1)]
  exact ⟨div_div_ge _ _ h1 hle, div_div_stable _ _ h1 hle⟩

/-- above 10 MHz the period is 0 and every reader falls back to 16 kHz -/
theorem htk_rate_fallback (sr : Nat) (h : 10000000 < sr) : quant sr = 16000 := by
  have : period sr = 0 := Nat.div_eq_of_lt h
  simp [quant, this]

example : quant 16000 = 16000 ∧ quant 8000 = 8000 ∧ quant 44100 = 44247 ∧ quant 10000001 = 16000 := by decide

/-- the class of the known finding KF-HTK-MAGIC-CLASH: HTK files carry no magic number; the sample count in bytes
    0…3 (and the period in 4…7) of a file of `N` frames is read as the marker of another container by one of the
    tests that `guess_file_type` runs before the HTK test -/
def KF.magicClash (sr N : Nat) : Prop := preHtk (be32 (N : Nat)) (be32 (period sr)) [0, 2, 0, 0] ≠ none
instance (sr N : Nat) : Decidable (KF.magicClash sr N) := by unfold KF.magicClash; infer_instance

/-- what C04 asks of HTK -/
def htk_reopen_full : Prop :=
  ∀ (sr : Nat), wf sr → ∀ (stale : Nat) (ops : List WOp), WholeFrames 2 ops →
    (closedBytes (fmt sr) stale ops).length < 2 ^ 31 →
    parse (closedBytes (fmt sr) stale ops) =
      .ok { ch := 1, fmt := 0x100002, sr := quant sr, frames := (opsData ops).length / 2 }

theorem closedBytes_eq (sr stale : Nat) (ops : List WOp) :
    closedBytes (fmt sr) stale ops = image sr (opsData ops) := by
  rw [Small2.closedBytes_eq (fmt sr) (lawful sr) rfl stale ops]
  show calcHdr (fmt sr) (12 + _) ++ _ = _
  rw [calcHdr_eq, image]; simp

/-- **htk_reopen_info** (partial, though the name has no `_partial`: everything outside the class KF.magicClash, `hk`).  For every rate and every
    session of whole frames, under the guard of the 32-bit `2 * sample_count` arithmetic (file shorter than 2^31
    bytes), the closed file re-opens as one channel of HTK / PCM_16 at the rate `quant sr` with exactly the frames
    written. -/
theorem htk_reopen_info (sr : Nat) (_hwf : wf sr) (stale : Nat) (ops : List WOp) (hw : WholeFrames 2 ops)
    (hguard : (closedBytes (fmt sr) stale ops).length < 2 ^ 31)
    (hk : ¬ KF.magicClash sr ((opsData ops).length / 2)) :
    parse (closedBytes (fmt sr) stale ops) =
      .ok { ch := 1, fmt := 0x100002, sr := quant sr, frames := (opsData ops).length / 2 } := by
  rw [closedBytes_eq] at hguard ⊢
  rw [parse_image sr _ (opsData_whole 2 ops hw) (image_length sr _ ▸ hguard), if_pos (Classical.not_not.mp hk)]

/-- inside the class the file is taken for another container: the HTK reader is never reached -/
theorem htk_clash_not_reopened (sr stale : Nat) (ops : List WOp) (hw : WholeFrames 2 ops)
    (hguard : (closedBytes (fmt sr) stale ops).length < 2 ^ 31)
    (hk : KF.magicClash sr ((opsData ops).length / 2)) :
    parse (closedBytes (fmt sr) stale ops) = .unmodelled := by
  rw [closedBytes_eq] at hguard ⊢
  rw [parse_image sr _ (opsData_whole 2 ops hw) (image_length sr _ ▸ hguard), if_neg hk]

/-- 41 828 frames: the sample count 0x0000A364 is the (byte-swapped) IRCAM marker -/
def clashOps : List WOp := [.write (List.replicate 83656 0) false]

theorem clash_witness : KF.magicClash 16000 41828 ∧ preHtk (be32 41828) (be32 (period 16000)) [0, 2, 0, 0] = some (.fmt 0x0A0000) := by
  decide

/-- the full statement fails: a 16 kHz mono file of 41 828 frames is not re-opened as HTK -/
theorem htk_reopen_full_fails : ¬ htk_reopen_full := by
  intro h
  have hw : WholeFrames 2 clashOps := by
    intro op hop
    simp only [clashOps, List.mem_singleton] at hop
    subst hop
    show (List.replicate 83656 (0 : Byte)).length % 2 = 0
    rw [List.length_replicate]
  have hD : (opsData clashOps).length = 83656 := by
    show (List.replicate 83656 (0 : Byte) ++ []).length = 83656
    rw [List.append_nil, List.length_replicate]
  have hl : (closedBytes (fmt 16000) 0 clashOps).length < 2 ^ 31 := by
    rw [closedBytes_eq, image_length, hD]; decide
  have h1 := h 16000 (by decide) 0 clashOps hw hl
  have hk : KF.magicClash 16000 ((opsData clashOps).length / 2) := by rw [hD]; exact clash_witness.1
  rw [htk_clash_not_reopened 16000 0 clashOps hw hl hk] at h1
  cases h1

/-- a two-call session with a header update in between: 3 frames at 8 kHz -/
def exOps : List WOp := [.write [0, 1, 0, 2] false, .update, .write [0, 3] true]
example : wf 8000 ∧ WholeFrames 2 exOps ∧ ¬ KF.magicClash 8000 3 ∧ (closedBytes (fmt 8000) 77 exOps).length = 18 ∧
    parse (closedBytes (fmt 8000) 77 exOps) = .ok ⟨1, 0x100002, 8000, 3⟩ := by decide +kernel

/-- **htk_size_fields.**  For every session of whole frames: the file is header + audio, and the sample-count
    field holds the low 32 bits of (file length − 12) / 2 = the number of frames written. -/
theorem htk_size_fields (sr stale : Nat) (ops : List WOp) (bytes : List Byte) (D : Nat)
    (hbytes : bytes = closedBytes (fmt sr) stale ops) (hD : D = (opsData ops).length) :
    bytes.length = 12 + D ∧ ofBE (bytes.take 4) = ((bytes.length - 12) / 2) % 2 ^ 32 ∧
    ofBE ((bytes.drop 4).take 4) = period sr ∧ bytes.drop 12 = opsData ops := by
  rw [closedBytes_eq] at hbytes
  have hlen : bytes.length = 12 + D := by rw [hbytes, hD, image_length]
  rw [hlen]
  refine ⟨rfl, ?_, ?_, ?_⟩ <;>
    simp only [hbytes, image, drop_app_skip, take_app_head, be32_length, Nat.reduceSub, Nat.reduceLeDiff, Nat.le_refl, List.drop_zero,
      ofBE_be32, wrapU_natCast, hD, Nat.add_sub_cancel_left]
  exact wrapU_of_lt 32 _ (by have := period_le sr; omega)

example : ofBE ((closedBytes (fmt 8000) 77 exOps).take 4) = 3 ∧ ofBE (((closedBytes (fmt 8000) 77 exOps).drop 4).take 4) = 1250 := by
  decide +kernel

/-- **htk_frames_bound.**  HTK is sample-granular and never pads: `N` frames of 2 bytes re-open as exactly `N`. -/
theorem htk_frames_bound (N : Nat) : (N * 2) / 2 = N ∧ N ≤ (N * 2) / 2 ∧ (N * 2) / 2 < N + 1 := by omega

example : (3 * 2) / 2 = 3 := by decide

/-- **stale_frames_ignored_htk.**  The closed bytes and every image left by a header update do not depend on the
    frames value the caller left in SF_INFO (the HTK header never holds sf.frames: the count comes from the file
    length). -/
theorem stale_frames_ignored_htk (sr a b : Nat) (ops : List WOp) :
    closedBytes (fmt sr) a ops = closedBytes (fmt sr) b ops ∧ snapshotBytes (fmt sr) a ops = snapshotBytes (fmt sr) b ops :=
  ⟨stale_ignored (fmt sr) (lawful sr) rfl a b ops, stale_ignored_snapshot (fmt sr) (lawful sr) a b ops⟩

example : closedBytes (fmt 8000) 0 exOps = closedBytes (fmt 8000) 123456 exOps := by decide +kernel

/-- **htk_snapshot_valid.**  After any session prefix, the image a header update (SFC_UPDATE_HEADER_NOW, or a write
    call in auto mode) leaves in the store is the file a close at that instant would have produced: outside the
    class KF.magicClash it parses with the same parameters and exactly the frames written so far, and it is the
    12-byte header followed by the audio written so far. -/
theorem htk_snapshot_valid (sr : Nat) (hwf : wf sr) (stale : Nat) (ops : List WOp) (hw : WholeFrames 2 ops)
    (hguard : (snapshotBytes (fmt sr) stale ops).length < 2 ^ 31)
    (hk : ¬ KF.magicClash sr ((opsData ops).length / 2)) :
    parse (snapshotBytes (fmt sr) stale ops) =
      .ok { ch := 1, fmt := 0x100002, sr := quant sr, frames := (opsData ops).length / 2 } ∧
    ∃ hdr, hdr.length = 12 ∧ snapshotBytes (fmt sr) stale ops = hdr ++ opsData ops := by
  refine ⟨?_, snapshot_split (fmt sr) (lawful sr) stale ops⟩
  rw [← closed_is_snapshot (fmt sr) rfl stale ops] at hguard ⊢
  exact htk_reopen_info sr hwf stale ops hw hguard hk

example : parse (snapshotBytes (fmt 8000) 5 [.write [0, 1, 0, 2] false]) = .ok ⟨1, 0x100002, 8000, 2⟩ := by decide +kernel

end Sf.C04Htk
