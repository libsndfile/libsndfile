/-
  C13 — custom chunks: any number set, all retrievable, audio untouched.
  The model is SfModel/Chunk.lean; its lemmas are here too, each in front of the theorems that need it.  In the order of the file:
  the write / read tables never overflow, the parsers' chunk walk over a serialised list, the iterator, the header cache
  (`HC.Ok`, `HC.Wrote`), ids to markers and `chunks_roundtrip` (`Req`, `fits`, `expected` are the statement's words),
  `sf_get_chunk_data`, a chunk set after the audio.
-/
import SfModel.Chunk
import SfProofs.Fields
namespace Sf.C13
open Sf Sf.Chunk

theorem save_ok (t : WTab) (h : t.ok) : t.save.ok := by
  obtain ⟨h1, h2, h3⟩ := h
  unfold WTab.ok WTab.save WTab.store growCount
  split
  · simp [h2]
  · split
    · simp only [h2, Bool.false_or, decide_eq_false_iff_not]
      refine ⟨by omega, by omega, trivial⟩
    · simp only [h2, Bool.false_or, decide_eq_false_iff_not]
      refine ⟨by omega, by omega, h3⟩

/-- `used ≤ capacity`, nothing stored out of bounds, after ANY number of sf_set_chunk calls -/
theorem wtab_inv (n : Nat) : (iter WTab.save n WTab.init).ok := by
  induction n with
  | zero => decide
  | succ n ih => exact save_ok _ ih

/-- the rule before commit adbbe09: calls 1…31 stay inside the allocation, the 32nd stores element 31 of a
    31-element table -/
theorem wtab_overflow_old_rule :
    (∀ n, n < 32 → (iter WTab.saveOld n WTab.init).oob = false) ∧
    (iter WTab.saveOld 32 WTab.init).oob = true ∧ (iter WTab.saveOld 32 WTab.init).alloc = 31 := by decide

/-- on a table that satisfies the invariant the two routines do the same: `used > count` does not occur -/
theorem storeRead_eq_save (t : WTab) (h : t.ok) : t.storeRead = t.save := by
  obtain ⟨h1, _, h3⟩ := h
  unfold WTab.storeRead WTab.save
  by_cases h0 : t.count = 0
  · simp [h0]
  · rw [if_neg h0, if_neg h0, if_neg (by omega)]
    by_cases he : t.used = t.count
    · rw [if_pos he, if_pos (by omega)]
    · rw [if_neg he, if_neg (by omega)]

/-- the read table (chunks seen while parsing) obeys the same invariant for any number of chunks in the file -/
theorem rtab_inv (n : Nat) : (iter WTab.storeRead n WTab.init).ok := by
  induction n with
  | zero => decide
  | succ n ih =>
    show (WTab.storeRead _).ok
    rw [storeRead_eq_save _ ih]
    exact save_ok _ ih

/-- non-vacuity: 200 calls cross the steps 20, 31, 48, 73, 111, 168 and end with capacity 253 -/
example : (iter WTab.save 200 WTab.init) = ⟨253, 253, 200, false⟩ := by decide +kernel

/-- a stored chunk for which the round trip is claimed -/
def okChunk (c : Container) (w : WChunk) : Prop :=
  legalMark c w.mark = true ∧ w.data.length = w.len ∧ w.len < 4294967296 ∧ w.len % 4 = 0

/-- what the read table must contain for the chunks `ws` serialised from byte position `pos` on -/
def entries (c : Container) : List WChunk → Nat → List RChunk
  | [], _ => []
  | w :: ws, pos => ⟨w.mark, pos + hdrLen c, w.len, w.data⟩ :: entries c ws (pos + hdrLen c + w.len)

theorem readSize_sizeField (c : Container) (n : Nat) (h : n < 4294967296) (r : List Byte) :
    readSize c (sizeField c n ++ r) = some (n, r) := by
  -- the four digits to base 256 give the number back
  have hdigits : n % 256 + 256 * (n / 256 % 256) + 65536 * (n / 65536 % 256) + 16777216 * (n / 16777216 % 256) = n := by omega
  cases c <;> simp [sizeField, le4, be4, readSize, hdigits]

theorem parse_step (c : Container) (w : WChunk) (hw : okChunk c w) (fuel pos : Nat) (rest : List Byte) :
    parse c (fuel + 1) pos (ser c w ++ rest) =
      (⟨w.mark, pos + hdrLen c, w.len, w.data⟩ :: (parse c fuel (pos + hdrLen c + w.len) rest).1,
       (parse c fuel (pos + hdrLen c + w.len) rest).2) := by
  obtain ⟨hm, hl, h32, h4⟩ := hw
  simp only [legalMark, Bool.and_eq_true, bne_iff_ne, ne_eq, Bool.not_eq_true'] at hm
  obtain ⟨⟨⟨⟨h0, hacc⟩, hint⟩, htr⟩, htag⟩ := hm
  have hodd : oddJump c w.len = 0 := by cases c <;> simp [oddJump] <;> omega
  have htr' : ¬ w.mark ∈ trailer c := by simpa using htr
  have hint' : ¬ w.mark ∈ interpreted c := by simpa using hint
  simp only [ser, List.cons_append, List.append_assoc, parse, readSize_sizeField c w.len h32]
  simp [h0, hacc, hint', htr', htag, hodd, hl]

theorem serAll_cons (c : Container) (w : WChunk) (ws : List WChunk) :
    serAll c (w :: ws) = ser c w ++ serAll c ws := by simp [serAll]

theorem ser_length (c : Container) (w : WChunk) (hl : w.data.length = w.len) :
    (ser c w).length = hdrLen c + w.len := by
  cases c <;> simp [ser, sizeField, le4, be4, hdrLen, hl] <;> omega

theorem parse_serAll (c : Container) (ws : List WChunk) (hok : ∀ w ∈ ws, okChunk c w) :
    ∀ (fuel pos : Nat) (tail : List Byte),
    parse c (ws.length + fuel) pos (serAll c ws ++ tail) =
      (entries c ws pos ++ (parse c fuel (pos + (serAll c ws).length) tail).1,
       (parse c fuel (pos + (serAll c ws).length) tail).2) := by
  induction ws with
  | nil => intro fuel pos tail; simp [serAll, entries]
  | cons w ws ih =>
    intro fuel pos tail
    have hw := hok w (by simp)
    have hrest := ih (fun x hx => hok x (by simp [hx]))
    have e1 : (w :: ws).length + fuel = (ws.length + fuel) + 1 := by simp; omega
    rw [e1, serAll_cons, List.append_assoc, parse_step c w hw, hrest]
    have hlen := ser_length c w hw.2.1
    simp only [entries, List.length_append, hlen, List.cons_append]
    have e2 : pos + hdrLen c + w.len + (serAll c ws).length = pos + (hdrLen c + w.len + (serAll c ws).length) := by omega
    rw [e2]

/-- the iterator `get_iterator`/`next` is positioned on when the table from index `i` on is `rs` -/
def first (h : Nat) (rs : List RChunk) (i : Nat) : Option Iter :=
  if h ≠ 0 then (findFrom h rs i).map fun k => ⟨k, h⟩
  else if rs.length > 0 then some ⟨i, 0⟩ else none

theorem iterRun_none (tab : List RChunk) (fuel : Nat) : iterRun tab fuel none = [] := by
  cases fuel <;> simp [iterRun]

theorem first_cons (h : Nat) (r : RChunk) (rs : List RChunk) (i : Nat) :
    first h (r :: rs) i = if h = 0 ∨ r.hash = h then some ⟨i, h⟩ else first h rs (i + 1) := by
  by_cases h0 : h = 0
  · simp [first, h0]
  · by_cases hr : r.hash = h <;> simp [first, findFrom, h0, hr]

theorem iterNext_eq_first (tab : List RChunk) (it : Iter) :
    iterNext tab it = first it.hash (tab.drop (it.current + 1)) (it.current + 1) := by
  unfold iterNext first
  by_cases h0 : it.hash = 0
  · simp only [h0, ne_eq, not_true_eq_false, if_false, List.length_drop]
    by_cases hc : it.current + 1 < tab.length
    · rw [if_pos hc, if_pos (by omega)]
    · rw [if_neg hc, if_neg (by omega)]
  · simp [h0]

theorem iterRun_first (tab : List RChunk) (h : Nat) :
    ∀ (rs : List RChunk) (i : Nat), tab.drop i = rs → ∀ fuel, fuel > rs.length →
      iterRun tab fuel (first h rs i) = wanted h rs i := by
  intro rs
  induction rs with
  | nil => intro i _ fuel _; simp [first, findFrom, wanted, iterRun_none]
  | cons r rs ih =>
    intro i hd fuel hf
    have hd1 : tab.drop (i + 1) = rs := by
      have := congrArg (List.drop 1) hd
      simpa [List.drop_drop, Nat.add_comm] using this
    rw [first_cons, wanted]
    split
    · obtain ⟨f, rfl⟩ : ∃ f, fuel = f + 1 := ⟨fuel - 1, by omega⟩
      rw [iterRun, iterNext_eq_first, hd1, ih (i + 1) hd1 f (by simp at hf; omega)]
    · exact ih (i + 1) hd1 fuel (by simp at hf; omega)

/-- the entries an iterator must visit, in closed form: the positions (counted from `i`) of the entries that match -/
theorem wanted_eq (h : Nat) : ∀ (rs : List RChunk) (i : Nat),
    wanted h rs i = ((rs.zipIdx i).filter fun p => h = 0 ∨ p.1.hash = h).map (·.2)
  | [], _ => rfl
  | r :: rs, i => by
    rw [wanted, wanted_eq h rs, List.zipIdx_cons, List.filter_cons]
    split <;> simp [*]

theorem wanted_all (rs : List RChunk) (i : Nat) : wanted 0 rs i = List.range' i rs.length := by
  rw [wanted_eq, List.filter_eq_self.mpr (fun _ _ => by simp)]; exact List.zipIdx_map_snd i rs

/-- the full statement quantifies over all iterator usage patterns, i.e. over every state the handle's single
    iterator can be in (`stale` = the hash an earlier, unfinished iteration by id left in it) -/
def iter_all_full (start : List RChunk → Nat → Option Id → Option Iter) : Prop :=
  ∀ (tab : List RChunk) (stale : Nat),
    iterRun tab (tab.length + 1) (start tab stale none) = List.range tab.length

/-- full strength, repaired rule (ee77a20): whatever an earlier iteration left behind, a NULL-id iteration visits
    every entry exactly once, in order -/
theorem iter_all_any_state : iter_all_full iterStart := fun tab stale => by
  have h := iterRun_first tab 0 tab 0 (by simp) (tab.length + 1) (by omega)
  have e : iterStart tab stale none = first 0 tab 0 := by simp [iterStart, first]
  rw [e, h, wanted_all, List.range_eq_range']

/-- the rule before the repair: an iteration by id abandoned before its end left its hash behind; the next full
    iteration then visited entry 0 and the entries of the OLD id only -/
theorem stale_iterator_old_rule : ¬ iter_all_full iterStartOld := by
  intro h
  have := h [⟨⟨97, 97, 97, 97⟩, 8, 0, []⟩, ⟨⟨98, 98, 98, 98⟩, 16, 0, []⟩, ⟨⟨97, 97, 97, 97⟩, 24, 0, []⟩]
    (mk4 "aaaa").u32
  exact absurd this (by decide)

example : iterRun [⟨⟨97, 97, 97, 97⟩, 8, 0, []⟩, ⟨⟨98, 98, 98, 98⟩, 16, 0, []⟩] 3
    (iterStart [⟨⟨97, 97, 97, 97⟩, 8, 0, []⟩, ⟨⟨98, 98, 98, 98⟩, 16, 0, []⟩] (mk4 "aaaa").u32 none) = [0, 1] := by decide

/-- iteration by id: exactly the entries whose marker hashes like the id, in file order, then NULL.  `h0`: hash 0 is how the
    iterator says "no id" (`wanted 0` is every entry), so an id that hashed to 0 would visit them all; an id of at most four
    characters never does (`markerOf_a_ne_zero`, `u32_ne_zero`). -/
theorem iter_by_id (tab : List RChunk) (id : Id) (h0 : idHash id ≠ 0) :
    ∀ stale, iterRun tab (tab.length + 1) (iterStart tab stale (some id)) = wanted (idHash id) tab 0 := by
  intro stale
  have h := iterRun_first tab (idHash id) tab 0 (by simp) (tab.length + 1) (by omega)
  have e : iterStart tab stale (some id) = first (idHash id) tab 0 := by simp [iterStart, first, h0]
  rw [e, h]

/-- an index is visited iff the entry there matches (NULL id: every entry) -/
theorem mem_wanted (h : Nat) (rs : List RChunk) :
    ∀ i k, k ∈ wanted h rs i ↔ ∃ r, rs[k - i]? = some r ∧ i ≤ k ∧ (h = 0 ∨ r.hash = h) := by
  intro i k
  simp only [wanted_eq, List.mem_map, List.mem_filter, Prod.exists, List.mk_mem_zipIdx_iff_le_and_getElem?_sub, decide_eq_true_eq]
  constructor
  · rintro ⟨r, _, ⟨⟨hk, hr⟩, hc⟩, rfl⟩; exact ⟨r, hr, hk, hc⟩
  · rintro ⟨r, hr, hk, hc⟩; exact ⟨r, k, ⟨⟨hk, hr⟩, hc⟩, rfl⟩

/-- the visited indices are strictly increasing (so no entry is visited twice) and all ≥ the start -/
theorem wanted_sorted (h : Nat) (rs : List RChunk) :
    ∀ i, List.Pairwise (· < ·) (wanted h rs i) ∧ ∀ k ∈ wanted h rs i, i ≤ k := by
  intro i
  refine ⟨?_, fun k hk => by obtain ⟨_, _, hik, _⟩ := (mem_wanted h rs i k).mp hk; exact hik⟩
  -- a sublist of the positions i, i + 1, …
  rw [wanted_eq]
  exact (List.pairwise_lt_range' (s := i) (n := rs.length)).sublist (by rw [← List.zipIdx_map_snd]; exact List.filter_sublist.map _)

/-- `next` on the last matching entry returns NULL -/
theorem next_after_last (tab : List RChunk) (it : Iter) (h : ∀ k ∈ wanted it.hash (tab.drop (it.current + 1)) (it.current + 1), False) :
    iterNext tab it = none := by
  have hr := iterRun_first tab it.hash (tab.drop (it.current + 1)) (it.current + 1) rfl ((tab.drop (it.current + 1)).length + 1) (by omega)
  rw [List.eq_nil_iff_forall_not_mem.mpr h, ← iterNext_eq_first] at hr
  cases hf : iterNext tab it with
  | none => rfl
  | some x => rw [hf] at hr; simp [iterRun] at hr

/-! ## the header cache: when nothing is dropped the region is the plain serialisation -/

theorem writef_flags_length (bump : HC → Nat → Option HC) : ∀ (items : List Item) (h : HC), (HC.writefW bump h items).2.length = items.length := by
  intro items
  induction items with
  | nil => intro h; simp [HC.writefW]
  | cons it rest ih =>
    intro h
    unfold HC.writefW
    split
    · simp
    · split
      · split
        · split <;> simp [ih]
        · simp [ih]
      · simp [ih]

theorem emitChunk_all (bump : HC → Nat → Option HC) (c : Container) (w : WChunk) (h : HC)
    (ha : (HC.writefW bump h (chunkItems c w.len)).2.all id = true) :
    emitChunk c w (HC.writefW bump h (chunkItems c w.len)).2 = ser c w := by
  -- one flag per item, all of them set
  rw [List.eq_replicate_iff.mpr ⟨writef_flags_length bump (chunkItems c w.len) h, fun b hb => by simpa using List.all_eq_true.mp ha b hb⟩]
  cases c <;> simp [chunkItems, List.replicate, emitChunk, ser, Mark.bytes, sizeField]

theorem emitChunks_all (bump : HC → Nat → Option HC) (c : Container) : ∀ (ws : List WChunk) (h : HC),
    (HC.writeChunksW bump c h (ws.map (·.len))).2.all (·.all id) = true →
    emitChunks c ws (HC.writeChunksW bump c h (ws.map (·.len))).2 = serAll c ws := by
  intro ws
  induction ws with
  | nil => intro h _; simp [emitChunks, serAll]
  | cons w ws ih =>
    intro h ha
    simp only [List.map_cons, HC.writeChunksW, List.all_cons, Bool.and_eq_true] at ha ⊢
    simp only [emitChunks, serAll_cons]
    rw [emitChunk_all bump c w h ha.1, ih _ ha.2]

/-- `hdrFits` ⇒ the bytes between the container's own chunks are exactly the serialised custom chunks -/
theorem region_of_fits (c : Container) (pre : Nat) (ws : List WChunk) (h : hdrFits c pre (ws.map (·.len)) = true) :
    customRegion c pre ws = serAll c ws := by
  unfold hdrFits cachePasses cachePassesW at h
  simp only [Bool.and_eq_true] at h
  unfold customRegion cachePasses cachePassesW
  exact emitChunks_all HC.bump c ws _ h.1

/-! ### what the header cache holds since the repair of psf_bump_header_allocation: everything up to its limit -/

end Sf.C13
namespace Sf.Chunk

/-- the header cache as its writers keep it -/
structure HC.Ok (h : HC) : Prop where
  pos : h.indx ≤ h.len
  cap : h.len ≤ HEADER_CAP

/-- `k` is the cache `h` with `n` more bytes in it -/
structure HC.Wrote (h : HC) (n : Nat) (k : HC) : Prop where
  indx : k.indx = h.indx + n
  len : h.len ≤ k.len
  ok : k.Ok

theorem HC.Wrote.refl {h : HC} (hok : h.Ok) : h.Wrote 0 h := ⟨rfl, Nat.le_refl _, hok⟩

theorem HC.Wrote.trans {h k l : HC} {n m : Nat} (a : h.Wrote n k) (b : k.Wrote m l) : h.Wrote (n + m) l :=
  ⟨by rw [b.indx, a.indx, Nat.add_assoc], Nat.le_trans a.len b.len, b.ok⟩

/-- `n` bytes go in where the guard left the position, once the buffer covers them -/
theorem HC.Wrote.advance {h k : HC} {n : Nat} (w : h.Wrote 0 k) (hn : k.indx + n ≤ k.len) :
    h.Wrote n { k with indx := k.indx + n } :=
  ⟨congrArg (· + n) w.indx, w.len, hn, w.ok.cap⟩

end Sf.Chunk
namespace Sf.C13
open Sf Sf.Chunk

/-- a request that fits the limit is granted (the repaired rule): the buffer then covers `indx + needed` -/
theorem bump_grants (h : HC) (n : Nat) (hok : h.Ok) (hn : h.indx + n ≤ HEADER_CAP) :
    ∃ k, HC.bump h n = some k ∧ h.Wrote 0 k ∧ k.indx + n ≤ k.len := by
  obtain ⟨h1, h3⟩ := hok
  unfold HC.bump
  simp only
  -- the doubled request covers what there was and what is asked for
  generalize hnl : (if n > h.len then 2 * max n 256 else 2 * h.len) = newlen
  have hb : h.len ≤ newlen ∧ h.indx + n ≤ newlen := by subst hnl; split <;> omega
  by_cases hc : newlen > HEADER_CAP
  · rw [if_pos hc, if_neg (by omega)]
    exact ⟨_, rfl, ⟨rfl, h3, Nat.le_trans (Nat.le_add_right ..) hn, Nat.le_refl _⟩, hn⟩
  · rw [if_neg hc]
    exact ⟨_, rfl, ⟨rfl, hb.1, Nat.le_trans (Nat.le_add_right ..) hb.2, Nat.le_of_not_gt hc⟩, hb.2⟩

def sumN (its : List Item) : Nat := (its.map (·.n)).sum

/-- one `psf_binheader_writef` call whose items end at least 16 bytes below the limit: every item is kept -/
theorem writef_all_kept : ∀ (its : List Item) (h : HC), (∀ it ∈ its, it.raw = false → it.n ≤ 16) →
    h.Ok → h.indx + sumN its + 16 ≤ HEADER_CAP →
    (h.writef its).2.all id = true ∧ h.Wrote (sumN its) (h.writef its).1 := by
  intro its
  induction its with
  | nil => intro h _ hok _; exact ⟨rfl, .refl hok⟩
  | cons it rest ih =>
    intro h hits hok hsum
    have hsN : sumN (it :: rest) = it.n + sumN rest := by simp [sumN]
    rw [hsN] at hsum ⊢
    have hrest : ∀ x ∈ rest, x.raw = false → x.n ≤ 16 := fun x hx => hits x (List.mem_cons_of_mem _ hx)
    -- the loop head grants its 16 bytes
    obtain ⟨k1, e1, w1, a1⟩ : ∃ k, (if h.indx + 16 ≥ h.len then HC.bump h 16 else some h) = some k ∧
        h.Wrote 0 k ∧ k.indx + 16 ≤ k.len := by
      split
      · exact bump_grants h 16 hok (by omega)
      · exact ⟨h, rfl, .refl hok, by omega⟩
    -- the item is kept, and the call goes on behind it in a cache `k`
    obtain ⟨k, wk, hstep⟩ : ∃ k, h.Wrote it.n k ∧ HC.writefW HC.bump h (it :: rest) =
        ((HC.writefW HC.bump k rest).1, true :: (HC.writefW HC.bump k rest).2) := by
      rw [HC.writefW, e1]
      simp only
      by_cases hraw : it.raw = true
      · rw [if_pos hraw]
        by_cases hbig : k1.indx + it.n > k1.len
        · obtain ⟨k2, e2, w2, a2⟩ := bump_grants k1 it.n w1.ok (by rw [w1.indx]; omega)
          rw [if_pos hbig, e2]
          exact ⟨_, (w1.trans w2).advance a2, rfl⟩
        · rw [if_neg hbig]; exact ⟨_, w1.advance (by omega), rfl⟩
      · have hn := hits it (List.mem_cons_self ..) (by simpa using hraw)
        rw [if_neg hraw]; exact ⟨_, w1.advance (by omega), rfl⟩
    unfold HC.writef at ih ⊢
    obtain ⟨r1, r2⟩ := ih k hrest wk.ok (by rw [wk.indx]; omega)
    rw [hstep]
    exact ⟨by simp [r1], wk.trans r2⟩

/-- the bytes the custom chunks occupy in the header: id and size field(s) plus the padded payload, each -/
def totalLen (c : Container) (lens : List Nat) : Nat := (lens.map fun n => hdrLen c + n).sum

theorem chunkItems_spec (c : Container) (n : Nat) :
    (∀ it ∈ chunkItems c n, it.raw = false → it.n ≤ 16) ∧ sumN (chunkItems c n) = hdrLen c + n := by
  cases c <;> simp [chunkItems, sumN, hdrLen] <;> omega

/-- the custom-chunk loop from any state of the cache: everything is kept when the chunks end 16 bytes below the limit -/
theorem writeChunks_all_kept (c : Container) : ∀ (lens : List Nat) (h : HC),
    h.Ok → h.indx + totalLen c lens + 16 ≤ HEADER_CAP →
    (HC.writeChunks c h lens).2.all (·.all id) = true ∧ h.Wrote (totalLen c lens) (HC.writeChunks c h lens).1 := by
  intro lens
  induction lens with
  | nil => intro h hok _; exact ⟨rfl, .refl hok⟩
  | cons n ns ih =>
    intro h hok hsum
    have ht : totalLen c (n :: ns) = hdrLen c + n + totalLen c ns := by simp [totalLen]
    rw [ht] at hsum ⊢
    obtain ⟨hi, hs⟩ := chunkItems_spec c n
    obtain ⟨r1, r2⟩ := writef_all_kept (chunkItems c n) h hi hok (by rw [hs]; omega)
    rw [hs] at r2
    unfold HC.writeChunks at ih ⊢
    unfold HC.writef at r1 r2
    rw [HC.writeChunksW]
    simp only
    obtain ⟨q1, q2⟩ := ih _ r2.ok (by rw [r2.indx]; omega)
    exact ⟨by simp [r1, q1], r2.trans q2⟩

/-- The repaired allocation rule, up to the limit: whatever the number and the sizes of
    the custom chunks, when they end at least 16 bytes (the head room every `psf_binheader_writef` item asks for) below the
    100 KiB of the header buffer, every byte of every chunk reaches the header, in both passes.  `hpre`: 256 is the header
    buffer's first allocation, which `cachePassesW` starts the first pass with; `pre`, what the container writes in front of
    the custom chunks, has to lie inside it for that state to be `HC.Ok`. -/
theorem hdr_fits_up_to_cap (c : Container) (pre : Nat) (lens : List Nat) (hpre : pre ≤ 256)
    (h : pre + totalLen c lens + 16 ≤ HEADER_CAP) : hdrFits c pre lens = true := by
  unfold hdrFits cachePasses cachePassesW
  have p1 := writeChunks_all_kept c lens ⟨pre, 256⟩ ⟨hpre, by simp [HEADER_CAP]⟩ h
  unfold HC.writeChunks at p1
  -- the allocation never shrinks: the second pass starts with at least the 256 bytes of the first
  have p2 := writeChunks_all_kept c lens ⟨pre, (HC.writeChunksW HC.bump c ⟨pre, 256⟩ lens).1.len⟩
    ⟨Nat.le_trans hpre p1.2.len, p1.2.ok.cap⟩ h
  unfold HC.writeChunks at p2
  simp [p1.1, p2.1]

/-- ONE chunk of any size the statement allows (payload ≤ 64 KiB) always fits, in every container, whatever precedes it in
    an ordinary header (`pre ≤ 256`): the limit for a single chunk moved from 51 200 bytes to the whole buffer -/
theorem one_chunk_always_fits (c : Container) (pre n : Nat) (hpre : pre ≤ 256) (hn : n ≤ 65536) : hdrFits c pre [n] = true := by
  apply hdr_fits_up_to_cap c pre [n] hpre
  cases c <;> simp [totalLen, hdrLen, HEADER_CAP] <;> omega

/-- The statement allows any number of payloads up to 64 KiB; no cache of 100 KiB does: "every list of chunks of at most 64 KiB
    fits" stays false (the remaining part of the known finding C13-header-cache) -/
def hdr_always_fits_full : Prop :=
  ∀ (c : Container) (pre : Nat) (lens : List Nat), pre ≤ 256 → (∀ n ∈ lens, n ≤ 65536) → hdrFits c pre lens = true

theorem hdr_not_always_fits : ¬ hdr_always_fits_full := by
  intro h
  have := h .wav 36 [65536, 65536] (by decide) (by decide)
  exact absurd this (by decide)

/-- two chunks of 64 KiB: the second one's payload is dropped (id and size are written), in every container; chunks totalling
    just under the limit are kept -/
theorem chunks_beyond_cap_dropped :
    hdrFits .wav 36 [65536, 65536] = false ∧ hdrFits .rf64 96 [65536, 65536] = false ∧
    hdrFits .aiff 38 [65536, 65536] = false ∧ hdrFits .caf 52 [65536, 65536] = false ∧
    (cachePasses .wav 36 [65536, 65536]).1 = [[true, true, true], [true, true, false]] ∧
    hdrFits .wav 36 [30000, 30000, 30000] = true ∧ hdrFits .wav 36 [51204] = true ∧ hdrFits .wav 36 [65536] = true := by decide

/-- DESIGN §8 #18, before the repair: one chunk whose padded length is 51 204 (payload 51 201 … 51 204 bytes) was dropped, in
    every container; 51 200 was the largest single chunk that was kept; several chunks totalling about 100 KiB likewise -/
theorem one_big_chunk_is_dropped_old_rule :
    hdrFitsOld .wav 36 [51204] = false ∧ hdrFitsOld .rf64 96 [51204] = false ∧
    hdrFitsOld .aiff 38 [51204] = false ∧ hdrFitsOld .caf 52 [51204] = false ∧
    (cachePassesW HC.bumpOld .wav 36 [51204]).1 = [[true, true, false]] ∧
    hdrFitsOld .wav 36 [51200] = true ∧
    hdrFitsOld .wav 36 [30000, 30000] = false ∧ hdrFitsOld .wav 36 [20000, 20000] = true := by decide

structure Req where
  id : Id
  payload : List Byte

def toW (r : Req) : WChunk := WChunk.ofInfo r.id r.payload

/-- explicit `fits` predicate: ids `sf_set_chunk` accepts before the audio (any length; the pass-through names LIST,
    INFO, PAD / APPL / free are outside the read-table model), payloads below 4 GiB, and the header cache keeps everything -/
def fits (c : Container) (pre : Nat) (l : List Req) : Prop :=
  (∀ r ∈ l, legalId c r.id = true ∧ r.payload.length ≤ 4294967292) ∧
  hdrFits c pre (l.map fun r => pad4 r.payload.length) = true

/-- what the read table must hold: the id padded with spaces to four characters, the payload start, the size padded
    to 4, payload followed by zeros -/
def expected (c : Container) : List Req → Nat → List RChunk
  | [], _ => []
  | r :: rs, pos =>
    ⟨markerOf r.id, pos + hdrLen c, pad4 r.payload.length, r.payload ++ zeros (pad4 r.payload.length - r.payload.length)⟩
      :: expected c rs (pos + hdrLen c + pad4 r.payload.length)

theorem cstr_ne_zero (id : Id) : ∀ b ∈ cstr id, b ≠ 0 := fun b hb =>
  of_decide_eq_true (List.all_eq_true.mp List.all_takeWhile b hb)

/-- the first byte of a marker is never NUL: it is the id's first character or a space -/
theorem markerOf_a_ne_zero (id : Id) : (markerOf id).a ≠ 0 := by
  have h := cstr_ne_zero id
  unfold markerOf
  split
  next a b c d _ heq => exact h a (by simp [heq])
  next a b c heq => exact h a (by simp [heq])
  next a b heq => exact h a (by simp [heq])
  next a heq => exact h a (by simp [heq])
  next => decide

theorem u32_ne_zero (m : Mark) (h : m.a ≠ 0) : m.u32 ≠ 0 := by
  intro h0
  apply h
  unfold Mark.u32 at h0
  exact Nat.eq_zero_of_add_eq_zero_right (Nat.eq_zero_of_add_eq_zero_right (Nat.eq_zero_of_add_eq_zero_right h0))

/-- every marker a container's parser interprets, and every trailing marker, is either refused by `sf_set_chunk`
    or one of the pass-through names -/
theorem interpreted_covered (c : Container) (m : Mark) (h : m ∈ interpreted c ∨ m ∈ trailer c) :
    m ∈ reserved c ∨ m ∈ passThrough c := by
  have key : ∀ c : Container, ((interpreted c ++ trailer c).all fun m => (reserved c).contains m || (passThrough c).contains m) = true := by
    intro c; cases c <;> decide +kernel
  have hm : m ∈ interpreted c ++ trailer c := by simpa using h
  have := List.all_eq_true.1 (key c) m hm
  simpa using this

/-- an id the repaired `sf_set_chunk` accepts (pass-through names aside) gives a marker the parser's default branch
    stores and skips -/
theorem legalId_mark (c : Container) (id : Id) (h : legalId c id = true) : legalMark c (markerOf id) = true := by
  simp only [legalId, accepts, Bool.and_eq_true, Bool.not_eq_true', Bool.or_eq_true, beq_iff_eq, Bool.not_false] at h
  obtain ⟨⟨⟨_, hp⟩, hr⟩, hpt⟩ := h
  have hr' : ¬ markerOf id ∈ reserved c := by simpa using hr
  have hpt' : ¬ markerOf id ∈ passThrough c := by simpa using hpt
  have hcov := interpreted_covered c (markerOf id)
  have hint : ¬ markerOf id ∈ interpreted c := fun hh => (hcov (Or.inl hh)).elim hr' hpt'
  have htr : ¬ markerOf id ∈ trailer c := fun hh => (hcov (Or.inr hh)).elim hr' hpt'
  have hz := u32_ne_zero _ (markerOf_a_ne_zero id)
  have hacc : markAccepted c (markerOf id) = true := by
    rcases hp with hc | hp
    · subst hc; rfl
    · cases c <;> simp [markAccepted, printableMark] at hp ⊢ <;> exact hp
  simp [legalMark, hz, hacc, hint, htr, tagLike]

theorem toW_ok (c : Container) (r : Req)
    (h : legalId c r.id = true ∧ r.payload.length ≤ 4294967292) : okChunk c (toW r) := by
  refine ⟨legalId_mark c r.id h.1, ?_, ?_, ?_⟩
  · simp [toW, WChunk.ofInfo, zeros, pad4]; omega
  · simp [toW, WChunk.ofInfo, pad4]; omega
  · simp [toW, WChunk.ofInfo, pad4]

theorem entries_expected (c : Container) : ∀ (l : List Req) (pos : Nat),
    entries c (l.map toW) pos = expected c l pos := by
  intro l
  induction l with
  | nil => intro pos; rfl
  | cons r rs ih => intro pos; simp [entries, expected, toW, WChunk.ofInfo, ih]

/-- For every list of (id, payload) whose ids the repaired
    `sf_set_chunk` accepts — of ANY length: shorter ones come back padded with spaces, longer ones cut to four
    characters — and which the header cache holds, whatever surrounds the custom chunks in the file (`pre` bytes
    before, `tail` after), the parser's read table gets exactly one entry per chunk, in order, with the size padded
    to 4 and the payload followed by zero padding; then the walk goes on with the container's own trailing chunks. -/
theorem chunks_roundtrip (c : Container) (pre : Nat) (l : List Req) (hf : fits c pre l)
    (fuel : Nat) (tail : List Byte) :
    let region := customRegion c pre (l.map toW)
    (parse c (l.length + fuel) pre (region ++ tail)).1
      = expected c l pre ++ (parse c fuel (pre + region.length) tail).1 := by
  intro region
  have hlens : (l.map toW).map (·.len) = l.map fun r => pad4 r.payload.length := by
    simp [toW, WChunk.ofInfo, Function.comp_def]
  have hreg : region = serAll c (l.map toW) := region_of_fits c pre _ (by rw [hlens]; exact hf.2)
  have hok : ∀ w ∈ l.map toW, okChunk c w := by
    intro w hw
    obtain ⟨r, hr, rfl⟩ := List.mem_map.1 hw
    exact toW_ok c r (hf.1 r hr)
  have := parse_serAll c (l.map toW) hok fuel pre tail
  rw [List.length_map] at this
  rw [hreg, this, entries_expected]

theorem le_totalLen (c : Container) : ∀ (lens : List Nat) (n : Nat), n ∈ lens → n ≤ totalLen c lens := by
  intro lens
  induction lens with
  | nil => intro n hn; cases hn
  | cons x xs ih =>
    intro n hn
    have ht : totalLen c (x :: xs) = hdrLen c + x + totalLen c xs := by simp [totalLen]
    rcases List.mem_cons.mp hn with rfl | hn
    · omega
    · have := ih n hn; omega

/-- `chunks_roundtrip` with the header cache's condition made explicit — every list of custom
    chunks (ANY number, ANY accepted ids, ANY payload sizes) whose serialisation ends 16 bytes below the 100 KiB of the header
    buffer round-trips.  (Beyond that limit chunks are still dropped silently: the remaining part of C13-header-cache.) -/
theorem chunks_roundtrip_within_cap (c : Container) (pre : Nat) (l : List Req) (hid : ∀ r ∈ l, legalId c r.id = true)
    (hpre : pre ≤ 256) (hsize : pre + totalLen c (l.map fun r => pad4 r.payload.length) + 16 ≤ HEADER_CAP)
    (fuel : Nat) (tail : List Byte) :
    let region := customRegion c pre (l.map toW)
    (parse c (l.length + fuel) pre (region ++ tail)).1
      = expected c l pre ++ (parse c fuel (pre + region.length) tail).1 := by
  apply chunks_roundtrip c pre l ⟨?_, hdr_fits_up_to_cap c pre _ hpre hsize⟩
  intro r hr
  refine ⟨hid r hr, ?_⟩
  have h1 := le_totalLen c (l.map fun r => pad4 r.payload.length) (pad4 r.payload.length) (List.mem_map.2 ⟨r, hr, rfl⟩)
  have h2 : r.payload.length ≤ pad4 r.payload.length := by unfold pad4; omega
  unfold HEADER_CAP at hsize
  omega

example : 36 + totalLen .wav ([⟨[97, 98, 99, 100], List.replicate 65536 7⟩, ⟨[120], [1]⟩].map fun r : Req => pad4 r.payload.length) + 16 ≤ HEADER_CAP := by
  -- only the lengths matter: 65536 and 1, padded to 65536 and 4
  simp only [List.map_cons, List.map_nil, List.length_replicate, List.length_cons, List.length_nil, totalLen, List.sum_cons, List.sum_nil]
  decide

/-- non-vacuity + concrete instance: a four-character id with an odd payload, a duplicate id, a THREE-character
    id and a ONE-character id in a WAV header -/
example :
    fits .wav 36 [⟨[97, 98, 99, 100], [1, 2, 3, 4, 5]⟩, ⟨[97, 98, 99, 100], []⟩, ⟨[97, 98, 99], [7]⟩, ⟨[120], []⟩] ∧
    (parse .wav 7 36 (customRegion .wav 36 ([⟨[97, 98, 99, 100], [1, 2, 3, 4, 5]⟩, ⟨[97, 98, 99, 100], []⟩, ⟨[97, 98, 99], [7]⟩,
        ⟨[120], []⟩].map toW) ++ [100, 97, 116, 97, 0, 0, 0, 0])).1
      = [⟨⟨97, 98, 99, 100⟩, 44, 8, [1, 2, 3, 4, 5, 0, 0, 0]⟩, ⟨⟨97, 98, 99, 100⟩, 60, 0, []⟩,
         ⟨⟨97, 98, 99, 32⟩, 68, 4, [7, 0, 0, 0]⟩, ⟨⟨120, 32, 32, 32⟩, 80, 0, []⟩] := by
  -- the read table is `expected` of the requests (`chunks_roundtrip`), then the walk stops at `data`
  refine ⟨?hf, (chunks_roundtrip .wav 36 _ ?hf 3 _).trans (by decide +kernel)⟩
  exact ⟨by decide +kernel, by decide +kernel⟩

/-- a chunk stored under a short id is found again by that same short id: storing and looking up use one rule -/
theorem lookup_uses_stored_marker (id : Id) (h : (cstr id).length ≤ 4) (payload : List Byte) :
    idHash id = (WChunk.ofInfo id payload).mark.u32 := by
  simp [idHash, WChunk.ofInfo]; omega

/-- the statement's "arbitrary identifiers … 1–4 character ids incl. reserved ids": `store id` being the chunk the
    write table holds, every such id comes back -/
def ids_roundtrip_full (store : Id → WChunk) : Prop :=
  ∀ (c : Container) (id : Id), 1 ≤ id.length → id.length ≤ 4 → (∀ b ∈ id, b ≠ 0) →
    (parse c 1 0 (ser c (store id))).1 = [⟨(store id).mark, hdrLen c, 0, []⟩]

/-- what is documented instead (sndfile.h: "will fail for format specific reserved chunks") and implemented: every
    1–4 character id either is refused — because the container reserves it or cannot represent it — or round-trips
    (the pass-through names LIST / INFO / PAD, APPL, free are accepted and left to the container's reader) -/
theorem ids_refused_or_roundtrip (c : Container) (id : Id) :
    accepts c false id = false ∨ markerOf id ∈ passThrough c ∨
    (parse c 1 0 (ser c (WChunk.ofInfo id []))).1 = [⟨markerOf id, hdrLen c, 0, []⟩] := by
  by_cases ha : accepts c false id = true
  · by_cases hp : markerOf id ∈ passThrough c
    · exact Or.inr (Or.inl hp)
    · refine Or.inr (Or.inr ?_)
      have hl : legalId c id = true := by simp [legalId, ha, hp]
      have hw : okChunk c (WChunk.ofInfo id []) := toW_ok c ⟨id, []⟩ ⟨hl, by simp⟩
      have := parse_step c (WChunk.ofInfo id []) hw 0 0 []
      rw [List.append_nil] at this
      rw [this]
      simp [WChunk.ofInfo, parse, pad4, zeros]
  · exact Or.inl (by simpa using ha)

/-- refusals: reserved markers in every container; unprintable markers in WAV, RF64, AIFF; anything once audio has
    been written -/
theorem set_chunk_refusals (c : Container) (id : Id) :
    (markerOf id ∈ reserved c → ∀ w, accepts c w id = false) ∧
    (c ≠ .caf → printableMark (markerOf id) = false → ∀ w, accepts c w id = false) ∧
    accepts c true id = false := by
  refine ⟨fun h w => by simp [accepts, h], fun hc hp w => ?_, by simp [accepts]⟩
  cases c <;> first | exact absurd rfl hc | simp [accepts, hp]

example : accepts .wav false [100, 97, 116, 97] = false ∧ accepts .aiff false [67, 79, 77, 77] = false ∧
    accepts .rf64 false [65, 65, 65, 0xa4] = false ∧ accepts .caf false [65, 65, 65, 0xa4] = true ∧
    accepts .wav false [76, 73, 83, 84] = true ∧ accepts .caf false [102, 114, 101, 101] = true ∧
    accepts .wav false [97, 98] = true ∧ accepts .wav true [97, 98, 99, 100] = false := by decide +kernel

/-- THE RULES BEFORE THE REPAIRS (C13-short-id, C13-unprintable-id, C13-reserved-id): every id was stored;
    a three-character id was stored as "abc\0" and WAV, RF64 and AIFF stop parsing there; so do ids with an
    unprintable byte; 'data' in a WAV file is taken for the audio chunk, 'COMM' in an AIFF file for the real one -/
theorem ids_outside_legal_old_rule :
    (parse .wav 1 0 (ser .wav (WChunk.ofInfoOld (0, 0, 0) [97, 98, 99] []))).2.1 = .rejected ∧
    (parse .aiff 1 0 (ser .aiff (WChunk.ofInfoOld (0, 0, 0) [97, 98, 99] []))).2.1 = .rejected ∧
    (parse .rf64 1 0 (ser .rf64 (WChunk.ofInfoOld (0, 0, 0) [65, 65, 65, 0xa4] []))).2.1 = .rejected ∧
    (parse .wav 1 0 (ser .wav (WChunk.ofInfoOld (0, 0, 0) [100, 97, 116, 97] []))).2.1 = .trailer ∧
    (parse .aiff 1 0 (ser .aiff (WChunk.ofInfoOld (0, 0, 0) [67, 79, 77, 77] []))).2.1 = .interpreted := by decide +kernel

/-- old rule: whatever the stack held, an id shorter than four characters was never accepted by the WAV, RF64, AIFF parsers -/
theorem short_id_old_rule (c : Container) (hc : c ≠ .caf) (g : Byte × Byte × Byte) (id : Id)
    (h : KF.shortId id = true) : markAccepted c (mark32Old g id) = false := by
  -- a marker with a NUL byte is not printable, and an id of fewer than four characters leaves one
  have hnul : ∀ m : Mark, m.a = 0 ∨ m.b = 0 ∨ m.c = 0 ∨ m.d = 0 → markAccepted c m = false := by
    intro m hm
    have : (isPrint m.a && isPrint m.b && isPrint m.c && isPrint m.d) = false := by
      rcases hm with h | h | h | h <;> simp [h, isPrint]
    cases c <;> first | exact absurd rfl hc | exact this
  unfold KF.shortId at h
  unfold mark32Old
  split
  · rename_i heq; rw [heq] at h; simp at h; omega
  · exact hnul _ (Or.inr (Or.inr (Or.inr rfl)))
  · exact hnul _ (Or.inr (Or.inr (Or.inl rfl)))
  · exact hnul _ (Or.inr (Or.inl rfl))
  · exact hnul _ (Or.inl rfl)

/-- old rule: the full statement was false (witness: "abc" in a WAV file) -/
theorem ids_roundtrip_old_rule : ¬ ids_roundtrip_full (fun id => WChunk.ofInfoOld (0, 0, 0) id []) := by
  intro h
  have := h .wav [97, 98, 99] (by decide) (by decide) (by decide)
  exact absurd this (by decide +kernel)

/-- old rule (WAV reader): a chunk `TAG?` was taken for an ID3v1 trailer although it stood in front of the audio -/
theorem tag_trailer_old_rule : tagLikeOld .wav (mk4 "TAGx") = true ∧ legalIdOld .wav [84, 65, 71, 120] = false ∧
    legalId .wav [84, 65, 71, 120] = true := by decide +kernel

/-- CAF takes any four bytes that are not one of its own markers; WAV wants printable ones -/
example : legalId .caf [65, 65, 65, 0xa4] = true ∧ legalId .wav [65, 65, 65, 0xa4] = false ∧
    legalId .wav [120, 121, 122, 32] = true ∧ legalId .wav [100, 97, 116, 97] = false ∧ legalId .wav [120] = true := by decide +kernel

/-! ## sf_get_chunk_data copies at most datalen bytes -/

/-- the caller's buffer keeps its length, bytes from `min datalen len` on are untouched, the first
    `min datalen len` are the chunk's -/
theorem get_data_bounded (r : RChunk) (buf : List Byte) (hd : r.data.length = r.len) :
    (getData r buf).length = buf.length ∧
    (getData r buf).drop (min buf.length r.len) = buf.drop (min buf.length r.len) ∧
    (getData r buf).take (min buf.length r.len) = r.data.take (min buf.length r.len) := by
  have hl : (r.data.take (min buf.length r.len)).length = min buf.length r.len := by
    rw [List.length_take, hd]; omega
  refine ⟨?_, ?_, ?_⟩
  · unfold getData; rw [List.length_append, hl, List.length_drop]; omega
  · unfold getData; rw [drop_app_skip _ _ (Nat.le_of_eq hl), hl, Nat.sub_self, List.drop_zero]
  · exact take_app_head _ _ hl

example : getData ⟨⟨97, 98, 99, 100⟩, 44, 8, [1, 2, 3, 4, 5, 0, 0, 0]⟩ [9, 9, 9] = [1, 2, 3] ∧
    getData ⟨⟨97, 98, 99, 100⟩, 44, 4, [1, 2, 3, 4]⟩ [9, 9, 9, 9, 9, 9] = [1, 2, 3, 4, 9, 9] := by decide

/-- repaired rule (c8a9c60): no route traps, whatever the sizes; a zero-length read leaves the buffer alone -/
theorem zero_length_read_safe (vio : Bool) (r : RChunk) (datalen : Nat) (buf : List Byte) (h : r.len = 0) :
    getDataTraps vio r datalen = false ∧ getData r buf = buf := by
  simp [getDataTraps, getData, h]

/-- old rule: through SF_VIRTUAL_IO a zero-byte read divided by zero (`psf_fread`: `… / bytes`) -/
theorem zero_length_read_old_rule (r : RChunk) (h : r.len = 0) (datalen : Nat) :
    getDataTrapsOld true r datalen = true ∧ getDataTrapsOld false r datalen = false := by
  simp [getDataTrapsOld, h]

/-- full statement: whatever a late `sf_set_chunk` does, the header written at close has the length of the one the
    audio was written behind, so the stored audio is what a reader finds -/
def late_set_harmless_full (hdrAtClose : List Byte → List Byte → List Byte) : Prop :=
  ∀ hdrOld lateChunk audio : List Byte, audioAfter hdrOld (hdrAtClose hdrOld lateChunk) audio = audio

/-- if the header did not change length (no late chunk, or CAF's `free` chunk absorbed it) the audio is
    byte-for-byte what was written -/
theorem late_set_harmless_partial (hdrOld hdrNew audio : List Byte) (h : hdrNew.length = hdrOld.length) :
    audioAfter hdrOld hdrNew audio = audio := by
  simp only [audioAfter, closeOver, drop_app_skip, Nat.le_refl, Nat.sub_self, List.drop_zero, h]

/-- repaired rule (7d7b1a3): once audio has been written `sf_set_chunk` is refused and changes nothing on the handle:
    the write table, hence the header assembled at close, is the one from before -/
theorem late_set_refused (h : WHandle) (id : Id) (payload : List Byte) :
    h.write.setChunk id payload = (h.write, false) := by
  simp [WHandle.setChunk, WHandle.write, accepts]

/-- `late_set_harmless_full` with the header at close chosen to be the old one, which is what `late_set_refused` gives (the
    write table is as before); for the nine write entry points see `C13Late.late_set_harmless_every_entry_point` -/
theorem late_set_harmless : late_set_harmless_full (fun hdrOld _ => hdrOld) :=
  fun hdrOld _ audio => late_set_harmless_partial hdrOld hdrOld audio rfl

/-- old rule: the late chunk was accepted and the longer header written over the start of the audio -/
theorem late_set_old_rule : ¬ late_set_harmless_full (fun hdrOld late => hdrOld ++ late) := by
  intro h
  exact absurd (h [1] [2] [7]) (by decide)

/-- an accepted call appends exactly one entry and keeps the table invariant; a refused one changes nothing -/
theorem set_chunk_step (h : WHandle) (id : Id) (payload : List Byte) (hok : h.tab.ok) :
    ((h.setChunk id payload).2 = true → (h.setChunk id payload).1.chunks = h.chunks ++ [WChunk.ofInfo id payload] ∧
        (h.setChunk id payload).1.tab.ok) ∧
    ((h.setChunk id payload).2 = false → (h.setChunk id payload).1 = h) := by
  unfold WHandle.setChunk
  split <;> simp [save_ok _ hok]

example : ((WHandle.init .wav).setChunk [97, 98] [1]).1.chunks = [⟨⟨97, 98, 32, 32⟩, 4, [1, 0, 0, 0]⟩] ∧
    ((WHandle.init .wav).setChunk [100, 97, 116, 97] [1]).2 = false ∧
    ((WHandle.init .wav).write.setChunk [97, 98, 99, 100] [1]).2 = false := by decide +kernel

/-- the old class predicate of the late-set finding: WAV, RF64, AIFF: any late chunk grew the
    header; CAF: a small one was absorbed by the `free` chunk -/
example : KF.lateGrow .wav 36 12 12 = true ∧ KF.lateGrow .aiff 38 0 8 = true ∧ KF.lateGrow .caf 52 16 16 = false ∧
    KF.lateGrow .caf 52 16 4096 = true := by decide

end Sf.C13
