-- properties: C08 C04
/-
  C08 (and the read/write corner of C04) — an SDS file opened SFM_RDWR keeps its sample count (model
  lean/SfModel/SdsRdwr.lean; repaired defect KF-SDS-RDWR-IDLE of known_findings).
-/
import SfModel.SdsRdwr
import SfProps.C04Sds
namespace Sf.C08SdsRdwr
open Sf Sf.Sds Sf.SdsFile Sf.SdsRdwr

/-- the sample period survives the round trip period → rate → period for every rate whose period fits the field: the
    period is 10⁹ / sr ns in 21 bits, and 477 is the smallest rate with 10⁹ / sr < 2²¹ -/
theorem period_stable (sr : Nat) (h1 : 477 ≤ sr) (h2 : sr ≤ 1000000000) :
    1000000000 / rateOf (period sr) = 1000000000 / sr := by
  have hp1 : 1 ≤ 1000000000 / sr := Nat.div_pos h2 (by omega)
  have hp2 : 1000000000 / sr < 2 ^ 21 := (Nat.div_lt_iff_lt_mul (by omega)).mpr (by omega)
  unfold period rateOf
  rw [Nat.mod_eq_of_lt hp2, if_pos (by omega)]
  apply Nat.le_antisymm
  · exact Nat.div_le_div_left (Small2.div_div_ge _ _ (by omega) h2) (by omega)
  · exact Small2.div_div_ge _ _ (by omega) (Nat.div_le_self _ _)

/-- bytes 10 … 12 of a header: the sample count -/
theorem header_count (bw sr n : Nat) (rest : List Byte) : ((header bw sr n ++ rest).drop 10).take 3 = enc3 n :=
  (header_reads bw sr n rest).2.2.2.2.2.1

theorem open_fields (bw sr n : Nat) (body : List Byte) :
    openRw (header bw sr n ++ body) =
      { bitwidth := 8 * ((bw + 7) / 8), rate := rateOf ((1000000000 / sr) % 2 ^ 21), frames := n % 2 ^ 21, written := 0, body := body } := by
  obtain ⟨_, _, _, h6, h7, h10, _⟩ := header_reads bw sr n body
  unfold openRw
  rw [h6, h7, h10, List.drop_left' (header_length bw sr n), dec3_enc3, dec3_enc3]

/-- Every file that starts with a header the library writes (bit width 8 / 16 / 24, a rate
    whose period fits the field, a sample count that fits the field) and ANY bytes behind it is byte for byte the same
    after it was opened SFM_RDWR and closed with nothing written. -/
theorem rdwr_idle_keeps_file (bw sr n : Nat) (body : List Byte) (hbw : bw = 8 ∨ bw = 16 ∨ bw = 24)
    (h1 : 477 ≤ sr) (h2 : sr ≤ 1000000000) (hn : n < 2 ^ 21) :
    idle .current (header bw sr n ++ body) = header bw sr n ++ body := by
  have hp := period_stable sr h1 h2
  unfold period at hp
  unfold idle
  rw [open_fields]
  show header (8 * ((bw + 7) / 8)) (rateOf (1000000000 / sr % 2 ^ 21)) (n % 2 ^ 21) ++ body = _
  have hb : 8 * ((bw + 7) / 8) = bw := by rcases hbw with h | h | h <;> subst h <;> rfl
  rw [hb, Nat.mod_eq_of_lt hn]
  have e : header bw (rateOf (1000000000 / sr % 2 ^ 21)) n = header bw sr n := by unfold header; rw [hp]
  rw [e]

/-- … in particular every file a write session of the model produces -/
theorem rdwr_idle_keeps_session_file (c : Cfg) (hwf : c.wf) (stale : Nat) (ops : List WOp)
    (h1 : 477 ≤ c.sr) (h2 : c.sr ≤ 1000000000) (hn : (opsData ops).length < 2 ^ 21) :
    idle .current (closedBytes c stale ops) = closedBytes c stale ops := by
  obtain ⟨body, hb, _⟩ := Sf.C04Sds.sds_size_fields c hwf stale ops _ rfl
  rw [hb]
  refine rdwr_idle_keeps_file _ _ _ body ?_ h1 h2 hn
  rcases hwf.1 with h | h | h <;> simp [Cfg.bitwidth, h]

example : (closedBytes ⟨2, 44100⟩ 0 [.write [1, 2, 3] false]).length = 148 ∧
    idle .current (closedBytes ⟨2, 44100⟩ 0 [.write [1, 2, 3] false]) = closedBytes ⟨2, 44100⟩ 0 [.write [1, 2, 3] false] ∧
    lengthField (closedBytes ⟨2, 44100⟩ 0 [.write [1, 2, 3] false]) = 3 := by decide +kernel

/-- After appending k samples through a fresh SFM_RDWR handle the header announces the old count
    plus k. -/
theorem rdwr_append_count (bw sr n k : Nat) (body body' : List Byte) (hn : n < 2 ^ 21) :
    lengthField (bytes .current (append (openRw (header bw sr n ++ body)) k body')) = (n + k) % 2 ^ 21 := by
  rw [open_fields]
  unfold lengthField bytes append count
  simp only
  rw [header_count, dec3_enc3, Nat.mod_eq_of_lt hn]

example : lengthField (bytes .current (append (openRw (header 16 44100 80 ++ [])) 40 [])) = 120 := by decide +kernel

/-- Before the repair EVERY file came out of an idle SFM_RDWR open / close with a sample count of
    0, and an append left the count of the appended samples only. -/
theorem rdwr_idle_old_rule (file : List Byte) : lengthField (idle .old file) = 0 := by
  unfold lengthField idle bytes count openRw
  simp only
  rw [header_count, dec3_enc3]

theorem rdwr_append_old_rule (file body' : List Byte) (k : Nat) :
    lengthField (bytes .old (append (openRw file) k body')) = k % 2 ^ 21 := by
  unfold lengthField bytes append count openRw
  simp only
  rw [header_count, dec3_enc3, Nat.zero_add]

/-- the full statement fails for the old rule: a file of 100 samples -/
theorem rdwr_idle_full_old_rule_fails :
    ¬ (∀ (bw sr n : Nat) (body : List Byte), (bw = 8 ∨ bw = 16 ∨ bw = 24) → 477 ≤ sr → sr ≤ 1000000000 → n < 2 ^ 21 →
        idle .old (header bw sr n ++ body) = header bw sr n ++ body) := by
  intro h
  have h1 := h 16 44100 100 [] (by decide) (by decide) (by decide) (by decide)
  have h2 := rdwr_idle_old_rule (header 16 44100 100 ++ [])
  rw [h1] at h2
  revert h2; decide +kernel

end Sf.C08SdsRdwr
