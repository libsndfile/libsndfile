/-
  SfProps.C04IrcamRateExact — the IRCAM sample-rate quantiser, universally: for every rate a caller may pass
  (1 ≤ sr ≤ 2^31 − 1) the model's round trip  int → binary32 (capped) → float32_be_write → float32_be_read → (int)
  (`Sf.Ircam.rateQ`) is the arithmetic quantiser `Sf.AbsWrite.float32Quant` of the acceptance predicate
  (the integer rounded to 24 significant bits, ties to even; 2^31 − 128 from 2^31 − 64 on).

  The route: `(float) sr` has the magnitude `roundF32 sr` (`rnd_ofInt_mag`; `roundF32` is a shift with round-to-nearest-even,
  and the cap class is exactly where it reaches 2^31), the byte round trip of a finite pattern is the identity
  (`C20Ieee.write_read_finite_f32`), and `(int)` of an integral dyadic is that integer (`f2i_of_mag`).
-/
import SfModel.Ircam
import SfModel.AbsWrite
import SfProps.C20Ieee
import Mathlib.Tactic.IntervalCases
namespace Sf.IrcamRateExact
open Sf Sf.Float Sf.Ircam Sf.AbsWrite

theorem log2_bounds (n : Nat) (h24 : 2 ^ 24 ≤ n) (h31 : n < 2 ^ 31) :
    24 ≤ Nat.log2 n ∧ Nat.log2 n ≤ 30 ∧ 2 ^ Nat.log2 n ≤ n ∧ n < 2 ^ (Nat.log2 n + 1) := by
  have hn : n ≠ 0 := by omega
  refine ⟨(Nat.le_log2 hn).mpr h24, ?_, Nat.log2_self_le hn, Nat.lt_log2_self⟩
  have : Nat.log2 n < 31 := (Nat.log2_lt hn).mpr h31
  omega

theorem roundF32_small (n : Nat) (h24 : n < 2 ^ 24) : roundF32 n = n := by unfold roundF32; exact if_pos h24

theorem roundF32_eq (n : Nat) (h24 : 2 ^ 24 ≤ n) (h31 : n < 2 ^ 31) :
    roundF32 n = rneShr n (Nat.log2 n - 23) * 2 ^ (Nat.log2 n - 23) := by
  obtain ⟨l1, _, _, _⟩ := log2_bounds n h24 h31
  obtain ⟨e, he⟩ : ∃ e, Nat.log2 n - 23 = e + 1 := ⟨Nat.log2 n - 24, by omega⟩
  unfold roundF32 rneShr
  rw [if_neg (by omega)]
  simp only [he, Nat.add_sub_cancel]
  have hp : 2 ^ (e + 1) = 2 * 2 ^ e := by rw [Nat.pow_succ]; omega
  congr 1
  generalize n / 2 ^ (e + 1) = q
  generalize n % 2 ^ (e + 1) = r
  rw [hp]
  generalize 2 ^ e = h
  by_cases c1 : h < r
  · simp [c1]
  · by_cases c2 : r = h
    · subst c2
      by_cases c3 : q % 2 = 1
      · simp [c3]
      · simp [c3]
    · have c4 : ¬ (2 * r > 2 * h) := by omega
      have c5 : ¬ (2 * r = 2 * h) := by omega
      simp [c1, c2, c4, c5]

theorem roundF32_facts (n : Nat) (h24 : 2 ^ 24 ≤ n) (h31 : n < 2 ^ 31) :
    2 ^ 24 ≤ roundF32 n ∧ (n < 2 ^ 31 - 64 → roundF32 n ≤ 2 ^ 31 - 128) ∧ (2 ^ 31 - 64 ≤ n → roundF32 n = 2 ^ 31) := by
  obtain ⟨l1, l2, l3, l4⟩ := log2_bounds n h24 h31
  rw [roundF32_eq n h24 h31]
  generalize Nat.log2 n = L at *
  have hm := Nat.div_add_mod n (2 ^ (L - 23))
  have hr := Nat.mod_lt n (Nat.two_pow_pos (L - 23))
  rcases rneShr_cases n (L - 23) with ⟨hq, hc⟩ | ⟨hq, hc⟩ <;> rw [hq] <;> clear hq <;>
    generalize n / 2 ^ (L - 23) = q at * <;> generalize n % 2 ^ (L - 23) = r at * <;>
    interval_cases L <;> simp only [Nat.reduceSub, Nat.reduceAdd, Nat.reducePow] at * <;> omega

theorem roundF32_range (n : Nat) (h31 : n < 2 ^ 31) :
    (1 ≤ n → 1 ≤ roundF32 n) ∧ (n < 2 ^ 31 - 64 → roundF32 n ≤ 2 ^ 31 - 128) ∧ (2 ^ 31 - 64 ≤ n → roundF32 n = 2 ^ 31) := by
  by_cases h24 : n < 2 ^ 24
  · rw [roundF32_small n h24]
    exact ⟨id, fun _ => by omega, fun h => by omega⟩
  · obtain ⟨f1, f2, f3⟩ := roundF32_facts n (by omega) h31
    exact ⟨fun _ => by omega, f2, f3⟩

/-- a dyadic whose magnitude is the natural number N: the truncation `f2i` computes is N -/
theorem mag_nat (d : Dy) (N : Nat) (h : d.mag = (N : ℚ)) :
    (if d.e ≥ 0 then d.m * 2 ^ d.e.toNat else d.m / 2 ^ (-d.e).toNat) = N := by
  obtain ⟨neg, m, e⟩ := d
  unfold Dy.mag at h
  simp only at h ⊢
  split
  · rename_i he
    obtain ⟨k, rfl⟩ : ∃ k : Nat, e = (k : ℤ) := ⟨e.toNat, by omega⟩
    rw [zpow_natCast] at h
    simp only [Int.toNat_natCast]
    exact_mod_cast h
  · rename_i he
    obtain ⟨k, rfl⟩ : ∃ k : Nat, e = -(k : ℤ) := ⟨(-e).toNat, by omega⟩
    rw [zpow_neg, zpow_natCast] at h
    have hp : (0 : ℚ) < 2 ^ k := by positivity
    have h' : (m : ℚ) = (N : ℚ) * 2 ^ k := by
      field_simp at h
      linarith
    have h'' : m = N * 2 ^ k := by exact_mod_cast h'
    simp only [Int.neg_neg, Int.toNat_natCast]
    rw [h'']
    exact Nat.mul_div_cancel _ (Nat.two_pow_pos _)

theorem f2i_of_mag (b N : Nat) (hfin : f32.isFinite b = true) (hneg : (f32.toDy b).neg = false)
    (hmag : (f32.toDy b).mag = (N : ℚ)) (hN : N < 2 ^ 31) : f2i b = (N : Int) := by
  unfold f2i
  simp only [hfin, Bool.not_true, Bool.false_eq_true, if_false, hneg]
  rw [mag_nat _ N hmag]
  rw [if_neg (by omega)]

/-- the value `(float) sr` has under unbounded exponent range is `roundF32 sr` -/
theorem rnd_ofInt_mag (sr : Nat) (h31 : sr < 2 ^ 31) :
    (f32.rnd (Dy.ofInt (sr : Int))).mag = (roundF32 sr : ℚ) := by
  by_cases h24 : sr < 2 ^ 24
  · rw [roundF32_small sr h24, rnd_exact, Dy.ofInt_mag]
    · simp
    · rw [Dy.ofInt_mag]; simpa using repMag_nat f32 Ieee.f32_std sr h24
  · have h24' : 2 ^ 24 ≤ sr := by omega
    obtain ⟨l1, l2, l3, l4⟩ := log2_bounds sr h24' h31
    rw [roundF32_eq sr h24' h31, rnd_mag]
    have hsr : sr ≠ 0 := by omega
    have hq : f32.quantum (Dy.ofInt (sr : Int)) = ((Nat.log2 sr - 23 : Nat) : ℤ) := by
      unfold Fmt.quantum Dy.ofInt bitLen
      simp only [Int.natAbs_natCast, hsr, if_false]
      simp only [Fmt.qmin, Fmt.bias, f32]
      omega
    have hm : (f32.rnd (Dy.ofInt (sr : Int))).m = rneShr sr (Nat.log2 sr - 23) := by
      unfold Fmt.rnd
      simp only [hq]
      unfold Dy.ofInt rneScale
      simp only [Int.natAbs_natCast]
      rw [if_neg (by omega)]
      congr 1
      omega
    rw [hq, hm, zpow_natCast]
    push_cast
    rfl

theorem ofInt_pattern (sr : Nat) (h31 : sr < 2 ^ 31) :
    f32.ofInt (sr : Int) < 2 ^ 32 ∧ f32.isFinite (f32.ofInt (sr : Int)) = true ∧
    (f32.toDy (f32.ofInt (sr : Int))).neg = false ∧ (f32.toDy (f32.ofInt (sr : Int))).mag = (roundF32 sr : ℚ) := by
  have hle : roundF32 sr ≤ 2 ^ 31 := by
    obtain ⟨_, f2, f3⟩ := roundF32_range sr h31
    omega
  have hlt : (f32.rnd (Dy.ofInt (sr : Int))).mag < f32.huge := by
    rw [rnd_ofInt_mag sr h31]
    refine lt_of_lt_of_le ?_ (std_huge f32 Ieee.f32_std)
    have : ((roundF32 sr : Nat) : ℚ) ≤ ((2 ^ 31 : Nat) : ℚ) := by exact_mod_cast hle
    refine lt_of_le_of_lt this ?_
    norm_num
  obtain ⟨t1, t2⟩ := toDy_ofDy f32 Ieee.f32_std (Dy.ofInt (sr : Int))
  refine ⟨ofDy_lt_width f32 Ieee.f32_std _, (ofDy_finite_iff f32 Ieee.f32_std _).mpr hlt, ?_, ?_⟩
  · unfold Fmt.ofInt; rw [t1]; unfold Dy.ofInt; simp
  · unfold Fmt.ofInt; rw [t2, min_eq_left (le_of_lt hlt), rnd_ofInt_mag sr h31]

theorem cap_toDy : f32.toDy rateCapBits = ⟨false, 16777215, 7⟩ := by decide +kernel

theorem cap_back : f2i (Ieee.f32BeRead (Ieee.f32BeWrite rateCapBits)) = 2147483520 := by decide +kernel

/-- the writer's comparison with the cap: taken exactly when the rounded rate exceeds 2^31 − 128 -/
theorem cap_lt_iff (sr : Nat) (h31 : sr < 2 ^ 31) :
    Dy.lt (f32.toDy rateCapBits) (f32.toDy (rateBitsOld sr)) = true ↔ 2 ^ 31 - 128 < roundF32 sr := by
  obtain ⟨_, _, p3, p4⟩ := ofInt_pattern sr h31
  rw [Dy.lt_iff, cap_toDy, rateBitsOld, Dy.val_eq, Dy.val_eq, p3, p4]
  simp only [Bool.false_eq_true, if_false, Dy.mag]
  constructor
  · intro h
    have : ((2147483520 : Nat) : ℚ) < ((roundF32 sr : Nat) : ℚ) := by
      refine lt_of_le_of_lt ?_ h; norm_num
    have := Nat.cast_lt.mp this
    omega
  · intro h
    have : ((2147483520 : Nat) : ℚ) < ((roundF32 sr : Nat) : ℚ) := Nat.cast_lt.mpr (by omega)
    refine lt_of_le_of_lt ?_ this; norm_num

theorem rateBack_eq (sr : Nat) (h1 : 1 ≤ sr) (h2 : sr ≤ 0x7FFFFFFF) : rateBack sr = (float32Quant sr : Int) := by
  have h31 : sr < 2 ^ 31 := by omega
  obtain ⟨p1, p2, p3, p4⟩ := ofInt_pattern sr h31
  have hiff := cap_lt_iff sr h31
  unfold rateBack rateBits float32Quant
  simp only
  by_cases hc : sr < 2 ^ 31 - 64
  · have hnot : ¬ (2 ^ 31 - 128 < roundF32 sr) := Nat.not_lt.mpr ((roundF32_range sr h31).2.1 hc)
    rw [if_neg (fun h => hnot (hiff.mp h)), if_pos hc, rateBitsOld,
      (C20Ieee.write_read_finite_f32 _ p1 p2).1]
    exact f2i_of_mag _ _ p2 p3 p4 (by omega)
  · have hyes : 2 ^ 31 - 128 < roundF32 sr := by rw [(roundF32_range sr h31).2.2 (by omega)]; decide
    rw [if_pos (hiff.mpr hyes), if_neg hc, cap_back]
    rfl

/-- **ircam_rateQ_exact.**  The IRCAM rate quantiser of the model is `float32Quant`, for every rate a caller may pass. -/
theorem ircam_rateQ_exact (sr : Nat) (h1 : 1 ≤ sr) (h2 : sr ≤ 0x7FFFFFFF) :
    Sf.Ircam.rateQ sr = some (Sf.AbsWrite.float32Quant sr) := by
  have hb := rateBack_eq sr h1 h2
  have hpos : 1 ≤ float32Quant sr := by
    have := (roundF32_range sr (by omega)).1 h1
    unfold float32Quant
    split <;> omega
  unfold rateQ
  rw [hb, if_neg (by omega)]
  simp

/-- every rate a caller may pass re-opens as some positive rate -/
theorem ircam_rateQ_some (sr : Nat) (h1 : 1 ≤ sr) (h2 : sr ≤ 0x7FFFFFFF) : ∃ q, Sf.Ircam.rateQ sr = some q :=
  ⟨_, ircam_rateQ_exact sr h1 h2⟩

/-- rates below 2^24 are stored exactly -/
theorem ircam_rateQ_small (sr : Nat) (h1 : 1 ≤ sr) (h : sr < 2 ^ 24) : Sf.Ircam.rateQ sr = some sr := by
  rw [ircam_rateQ_exact sr h1 (by omega)]
  unfold float32Quant
  rw [if_pos (by omega), roundF32_small sr h]

end Sf.IrcamRateExact
