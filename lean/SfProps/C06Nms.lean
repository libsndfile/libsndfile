/-
  C06 / C05 (NMS ADPCM, src/nms_adpcm.c) — the read side.
  -- properties: C05

  The sample stream of an opened NMS ADPCM file is `(reader r data).slice`: a function of the rate and of the bytes of
  the data region only (sequential decode with the decoder state carried through all blocks).  For every handle state
  reached from open by reads, every caller type (the 4096-short staging loop of the int / float / double entry points
  included), every request that ends inside the data: the call delivers exactly the next frames of that stream, reports
  the count asked, advances the position by it — so a read cut into two calls delivers the same items; at the end of
  the data a call returns 0 and zero-fills the request.  Seek contract as the code implements it: `sf.seekable` is
  false, every `sf_seek` (any offset, any whence) returns −1 with an error and changes nothing; `nms_adpcm_seek` itself
  accepts only offset 0 in the handle's own mode and rewinds.  Geometry: N frames written re-open as F frames with
  N ≤ F < N + 160.  Short final block: the words handed to the decoder do not depend on what the previous block left
  in the buffer (current rule), and did before the repair (`_old_rule` witnesses).
-/
import SfProofs.BlockPastEnd
import SfProofs.NmsBlocks
namespace Sf.C06Nms
open Sf Sf.Nms Sf.Block Sf.Block.Proofs

theorem nms_reader_wf (r : Rate) (fill : Rate → List Nat → List Byte → List Nat) (len : Nat) (bytes : List Byte) :
    WF (readerWith r fill len bytes) :=
  ⟨Nat.succ_pos 159, Nat.succ_pos 0, fun _ => tableSrc_length ..⟩

/-- what holds of a read handle between calls: the reader invariant, the codec's position is `read_current`, and
    `sf.frames` does not exceed the codec's own bound -/
structure HInv (h : RHandle) : Prop where
  wf  : WF h.r
  inv : Inv h.r h.st
  pos : h.r.pos h.st = h.pos
  fr  : h.frames ≤ h.r.frames
  ch  : h.r.ch = 1

theorem nms_open_inv (r : Rate) (old : Bool) (len : Nat) (bytes : List Byte) : HInv (openRIn r old len bytes) := by
  have wf := nms_reader_wf r (if old then blockWordsOld else blockWords) len bytes
  obtain ⟨hi, hp⟩ := init_inv (readerWith r (if old then blockWordsOld else blockWords) len bytes)
  refine ⟨wf, hi, hp, ?_, rfl⟩
  show framesAtOpen r len ≤ spb * (blocksTotal r len + 1)
  unfold framesAtOpen
  rw [Nat.mul_comm, Nat.mul_add]
  omega

theorem nms_open_pos (r : Rate) (old : Bool) (len : Nat) (bytes : List Byte) :
    (openRIn r old len bytes).pos = 0 ∧ (openRIn r old len bytes).frames = framesAtOpen r len := ⟨rfl, rfl⟩

theorem chunk_cases (ty : Ty) : chunkOf ty = 0 ∨ chunkOf ty = 4096 := by
  unfold chunkOf
  split
  · exact Or.inl rfl
  · exact Or.inr rfl

/-- **reads deliver `stream [pos, pos + m)`**: every caller type, every request that ends inside the data, from every
    handle state satisfying the invariant (open, and every state reached by such reads): the case of
    `readBrk_any` (any request) that leaves no room for a short count -/
theorem nms_read_inside (cv : Conv) (ty : Ty) (h : RHandle) (hi : HInv h) (m : Nat) (hm : h.pos + m ≤ h.frames) :
    ∃ h', Nms.read cv ty h m = (h', (h.r.slice h.pos m).map (toCaller cv ty), m) ∧ HInv h' ∧ h'.r = h.r ∧
      h'.pos = h.pos + m ∧ h'.frames = h.frames := by
  obtain ⟨h', e, hp, hf, hr, inv', hp'⟩ := (PastEnd.readBrk_any h hi.wf hi.ch hi.inv hi.pos hi.fr (chunkOf ty) m).inside hm
  refine ⟨h', ?_, ⟨hr ▸ hi.wf, inv', hp', by rw [hf, hr]; exact hi.fr, hr ▸ hi.ch⟩, hr, hp, hf⟩
  unfold Nms.read
  rw [e]

/-- partition invariance for two calls inside the data: a items then b items deliver the items, the counts and the position
    of one call for a + b items -/
theorem nms_read_partition (cv : Conv) (ty : Ty) (h : RHandle) (hi : HInv h) (a b : Nat) (hm : h.pos + (a + b) ≤ h.frames) :
    (Nms.read cv ty h (a + b)).2.1 = (Nms.read cv ty h a).2.1 ++ (Nms.read cv ty (Nms.read cv ty h a).1 b).2.1 ∧
    (Nms.read cv ty h (a + b)).2.2 = (Nms.read cv ty h a).2.2 + (Nms.read cv ty (Nms.read cv ty h a).1 b).2.2 ∧
    (Nms.read cv ty h (a + b)).1.pos = (Nms.read cv ty (Nms.read cv ty h a).1 b).1.pos := by
  obtain ⟨h1, e1, i1, r1, p1, f1⟩ := nms_read_inside cv ty h hi a (by omega)
  obtain ⟨h2, e2, _, _, p2, _⟩ := nms_read_inside cv ty h1 i1 b (by rw [p1, f1]; omega)
  obtain ⟨h3, e3, _, _, p3, _⟩ := nms_read_inside cv ty h hi (a + b) hm
  rw [e3, e1]
  simp only
  rw [e2]
  simp only
  rw [r1, p1, slice_append, List.map_append]
  refine ⟨rfl, trivial, ?_⟩
  rw [p3, p2, p1]; omega

theorem toCaller_zero (cv : Conv) (ty : Ty) : toCaller cv ty 0 = 0 := PastEnd.toCaller_zero cv ty

/-- end of data: the call returns 0, the whole request is zero-filled, the handle does not move -/
theorem nms_read_eof (cv : Conv) (ty : Ty) (h : RHandle) (n : Nat) (hn : n ≠ 0) (he : h.pos ≥ h.frames) :
    Nms.read cv ty h n = (h, zeros n, 0) := by
  unfold Nms.read RHandle.readBrk
  simp only [hn, he, if_true, if_false]
  congr 2
  simp [zeros, toCaller_zero]

/-- `sf_seek` on an NMS ADPCM handle: refused for every offset and whence — −1 with SFE_NOT_SEEKABLE (C06: "returns
    either the requested absolute position or −1 with an error set") -/
theorem nms_sf_seek_refused (h : RHandle) (offset : Int) (whence : Nat) : sfSeek h offset whence = none := rfl

/-- in particular "a zero-offset SEEK_CUR reports the position" fails on these handles, already on the freshly opened empty
    file (by `nms_sf_seek_refused` on every handle; `sf.seekable = 0`: the check requires such handles to refuse every seek
    and leave the stream undisturbed) -/
theorem nms_seek_cur_zero_refused : ¬ (∀ h : RHandle, sfSeek h 0 1 = some h.pos) := by
  intro hall
  have := hall (openR .r16 [])
  simp [sfSeek] at this

/-- `nms_adpcm_seek`: any offset but 0, or the other mode, fails … -/
theorem nms_codec_seek_fails (h : RHandle) (modeIsRead : Bool) (offset : Int) (hne : offset ≠ 0 ∨ modeIsRead = false) :
    codecSeek h modeIsRead offset = none := by
  unfold codecSeek
  cases hne with
  | inl ho => cases modeIsRead <;> simp [ho]
  | inr hm => simp [hm]

/-- … offset 0 rewinds: the following read delivers frames 0, 1, … of the stream again -/
theorem nms_codec_seek_rewinds (cv : Conv) (ty : Ty) (h : RHandle) (hi : HInv h) (m : Nat) (hm : m ≤ h.frames) :
    ∃ h0, codecSeek h true 0 = some h0 ∧ (Nms.read cv ty h0 m).2 = ((h.r.slice 0 m).map (toCaller cv ty), m) := by
  refine ⟨{ h with st := h.r.init, pos := 0 }, rfl, ?_⟩
  obtain ⟨i0, p0⟩ := init_inv h.r
  have hi0 : HInv { h with st := h.r.init, pos := 0 } := ⟨hi.wf, i0, p0, hi.fr, hi.ch⟩
  obtain ⟨h', e, _⟩ := nms_read_inside cv ty _ hi0 m (by show 0 + m ≤ h.frames; omega)
  rw [e]

/-- frames at re-open: N samples written make ⌈N / 160⌉ blocks; the file re-opens with F = 160 · ⌈N / 160⌉ frames,
    N ≤ F < N + 160 (B = 160) -/
theorem nms_frames_at_reopen (r : Rate) (n : Nat) :
    n ≤ framesAtOpen r ((n + 159) / 160 * r.blockBytes) ∧ framesAtOpen r ((n + 159) / 160 * r.blockBytes) < n + 160 := by
  rw [Nms.Proofs.framesAtOpen_blocks]
  unfold spb
  omega

/-- a data region that is not a whole number of blocks counts its last, partial block as a whole one -/
theorem nms_partial_block_counts (r : Rate) (len : Nat) (h : len % r.blockBytes ≠ 0) :
    framesAtOpen r len = (len / r.blockBytes + 1) * 160 := by
  unfold framesAtOpen blocksTotal
  rw [if_pos h]
  rfl

example : framesAtOpen .r16 52 = 320 ∧ framesAtOpen .r32 (2 * 82) = 320 ∧ framesAtOpen .r24 0 = 0 := by decide

/-- current rule: the words the decoder gets for a short block are a function of the bytes read, whatever the
    previous block left in `pnms->block` -/
theorem nms_short_block_ignores_buffer (r : Rate) (prev prev' : List Nat) (got : List Byte) :
    blockWords r prev got = blockWords r prev' got := rfl

/-- … and they are the whole shorts read followed by zeros (5 shorts of a 16 kbit/s block: 5 words, then 16 zeros) -/
example : blockWords .r16 (List.replicate 41 0xFFFF) [1, 2, 3, 4, 5, 6, 7, 8, 9, 10] =
    [0x0201, 0x0403, 0x0605, 0x0807, 0x0a09] ++ List.replicate 16 0 := by decide

/-- the rule before the repair: shorts [k, 2k) of the buffer kept what the previous block left there (k = 5 shorts
    read: words 5 … 9 are the previous block's) -/
theorem nms_short_block_old_rule :
    blockWordsOld .r16 (List.replicate 41 0xFFFF) [1, 2, 3, 4, 5, 6, 7, 8, 9, 10] =
      [0x0201, 0x0403, 0x0605, 0x0807, 0x0a09, 0xFFFF, 0xFFFF, 0xFFFF, 0xFFFF, 0xFFFF] ++ List.replicate 16 0 ++ List.replicate 15 0xFFFF ∧
    blockWordsOld .r16 (List.replicate 41 0xFFFF) [1, 2, 3, 4, 5, 6, 7, 8, 9, 10] ≠
      blockWordsOld .r16 (List.replicate 41 0) [1, 2, 3, 4, 5, 6, 7, 8, 9, 10] := by decide

/-- non-vacuity of the read theorems: a 16 kbit/s region of one block and 10 bytes (the shape of the witness of
    KF-NMS-SHORT-BLOCK) opens with 320 frames; a read of 3 + 2 items equals a read of 5 -/
example : (openR .r16 (List.replicate 52 0x5a)).frames = 320 ∧
    (Nms.read {} .s16 (openR .r16 (List.replicate 52 0x5a)) 5).2.1 =
      (Nms.read {} .s16 (openR .r16 (List.replicate 52 0x5a)) 3).2.1 ++
        (Nms.read {} .s16 (Nms.read {} .s16 (openR .r16 (List.replicate 52 0x5a)) 3).1 2).2.1 := by decide +kernel

end Sf.C06Nms
