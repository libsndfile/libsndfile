/-
  C02 — sample-type conversions follow the documented rules exactly.
  Integer part: the PCM layouts between file code and short / int.  The rest is in SfProps/C02Float.lean, C02Cross.lean,
  C02Query.lean and C02Label.lean.
-/
import SfProofs.Codec
namespace Sf.C02
open Sf

/-- the PCM layouts libsndfile has: 8/16/24/32 bit, unsigned only for 8 bit -/
def PcmFmt.valid (p : PcmFmt) : Prop := (p.w = 8 ∨ p.w = 16 ∨ p.w = 24 ∨ p.w = 32) ∧ (p.unsigned = true → p.w = 8)

def inRange (bits : Nat) (x : Int) : Prop := -(2 ^ (bits - 1) : Int) ≤ x ∧ x < (2 ^ (bits - 1) : Int)

/-- every in-range code survives serialisation, in every layout (both byte orders, signed and unsigned-8) -/
theorem pcm_code_roundtrip (p : PcmFmt) (hp : PcmFmt.valid p) (c : Int) (hc : inRange p.w c) :
    p.decCode (p.encCode c) = c :=
  PcmFmt.decCode_encCode_of_range p hp c hc

/-! ### integer ↔ integer: keep the most significant bits -/

/-- writing a short: the code is the short shifted into the top of the w-bit sample (w ≥ 16) or its top 8 bits -/
theorem int_msb_rule_write_s16 (p : PcmFmt) (x : Int) :
    p.ofS16 x = if p.w = 8 then x / 256 else x * 2 ^ (p.w - 16) := by
  unfold PcmFmt.ofS16 asr; split <;> simp

/-- writing an int keeps its top w bits (arithmetic shift, i.e. floor division) -/
theorem int_msb_rule_write_s32 (p : PcmFmt) (x : Int) : p.ofS32 x = x / 2 ^ (32 - p.w) := rfl

/-- reading as int places the code in the top w bits, zero below (widening zero-pads) -/
theorem int_msb_rule_read_s32 (p : PcmFmt) (hp : PcmFmt.valid p) (c : Int) (hc : inRange p.w c) :
    p.toS32 c = c * 2 ^ (32 - p.w) :=
  PcmFmt.toS32_of_range p hp c hc

/-- reading as short keeps the top 16 bits of the sample (narrowing truncates) / widens an 8-bit sample -/
theorem int_msb_rule_read_s16 (p : PcmFmt) (hp : PcmFmt.valid p) (c : Int) (hc : inRange p.w c) :
    p.toS16 c = if p.w = 8 then c * 256 else c / 2 ^ (p.w - 16) :=
  PcmFmt.toS16_of_range p c hc

/-- reading the same stored sample as short and as int agree: short = top half of the int -/
theorem cross_type_agree_int (p : PcmFmt) (hp : PcmFmt.valid p) (c : Int) (hc : inRange p.w c) :
    p.toS16 c = asr (p.toS32 c) 16 := by
  rw [int_msb_rule_read_s16 p hp c hc, int_msb_rule_read_s32 p hp c hc, asr]
  rcases hp.1 with h | h | h | h <;> simp [h] <;> omega

/-- the written code always fits the sample width (no wrap) for in-range caller integers -/
theorem int_write_in_range (p : PcmFmt) (hp : PcmFmt.valid p) (x : Int) :
    (inRange 16 x → inRange p.w (p.ofS16 x)) ∧ (inRange 32 x → inRange p.w (p.ofS32 x)) :=
  ⟨fun h => PcmFmt.ofS16_range p hp x (by unfold inRange at h; omega),
   fun h => PcmFmt.ofS32_range p hp x (by unfold inRange at h; omega)⟩

/-- a short written to ≥16-bit PCM reads back identically -/
theorem s16_write_read_id (p : PcmFmt) (hp : PcmFmt.valid p) (hw16 : p.w ≥ 16) (x : Int) (hx : inRange 16 x) :
    p.toS16 (p.ofS16 x) = x :=
  PcmFmt.toS16_ofS16 p hp x (by unfold inRange at hx; omega) (Or.inl hw16)

/-- narrowing then widening an int keeps exactly its top w bits -/
theorem s32_write_read_truncates (p : PcmFmt) (hp : PcmFmt.valid p) (x : Int) (hx : inRange 32 x) :
    p.toS32 (p.ofS32 x) = x - x % 2 ^ (32 - p.w) :=
  PcmFmt.toS32_ofS32 p hp x (by unfold inRange at hx; omega)

/-- unsigned 8-bit files are offset by 128 -/
theorem u8_offset (c : Int) (hc : inRange 8 c) :
    (⟨8, true, false⟩ : PcmFmt).encCode c = [(c + 128).toNat] := by
  unfold inRange at hc
  have h : wrapU 8 (c + 128) = (c + 128).toNat := by
    unfold wrapU
    have : (c + 128) % (2 ^ 8 : Int) = c + 128 := Int.emod_eq_of_lt (by omega) (by omega)
    rw [this]
  have h2 : (c + 128).toNat < 256 := by omega
  simp [PcmFmt.encCode, PcmFmt.nbytes, leBytes, h, Nat.mod_eq_of_lt h2]

/-! non-vacuity -/
example : PcmFmt.valid ⟨24, false, true⟩ ∧ inRange 24 (-8388608) ∧
    (⟨24, false, true⟩ : PcmFmt).encCode (-8388608) = [0x80, 0, 0] ∧
    (⟨24, false, true⟩ : PcmFmt).toS16 (-8388608) = -32768 :=
  ⟨by unfold PcmFmt.valid; decide, by unfold inRange; decide, by decide, by decide⟩

end Sf.C02
