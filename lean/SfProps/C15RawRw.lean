/-
  C15 for sf_write_raw / sf_read_raw in an SFM_RDWR session (SfModel/FaultsRaw.lean): when the re-seek in front of the transfer fails,
  the call returns 0, makes NO read / write request, and leaves both positions and the frame count alone -- so "data the I/O layer accepted
  before the failure is not corrupted by later calls" and "the reported position advances by exactly the returned count" hold for it.
  The rule that sets an error and transfers all the same (the seeded regression C15-write-raw-seek-fail) is `writeRawAnyway`.
-/
import SfModel.FaultsRaw
import SfProps.C15
namespace Sf.C15RawRw
open Sf Sf.Faults Sf.FaultsRaw

theorem defaultSeek_no_write (o : Oracle) (h : H) (hist : Hist) (f : Int) :
    writesOf (Faults.defaultSeek o h hist f).2.2 = writesOf hist :=
  defaultSeek_cases (P := fun r => writesOf r.2.2 = writesOf hist) o h hist f (fun _ => rfl) fun _ _ => rfl

/-- a call that ends at its failed re-seek: 0 is returned, no write request is made, no position moves -/
theorem failed_reseek_contained (o : Oracle) (h : H) (hist : Hist) (f : Int) (r : Res)
    (e : r = ⟨(Faults.defaultSeek o h hist f).2.1, (Faults.defaultSeek o h hist f).2.2,
              { ret := 0, err := (Faults.defaultSeek o h hist f).2.1.error }⟩) :
    r.out.ret = 0 ∧ writesOf r.hist = writesOf hist ∧ r.h.wpos = h.wpos ∧ r.h.rpos = h.rpos ∧ r.h.frames = h.frames := by
  subst e
  obtain ⟨a, b, _, d, _⟩ := Sf.C15.defaultSeek_keeps o h hist f
  exact ⟨rfl, defaultSeek_no_write _ _ _ _, b, a, d⟩

/-- a failed re-seek contains sf_write_raw: 0 is returned, nothing is written, no position moves -/
theorem write_raw_seek_failure_contained (o : Oracle) (h : H) (hist : Hist) (n : Int) (data : List Byte)
    (hn : n ≠ 0) (hg : rawWriteGuard h n = none) (hl : (h.lastOp != Mode.w) = true)
    (hs : (Faults.defaultSeek o { h with error := 0 } hist h.wpos).1 < 0) :
    (stepWriteRaw o h hist n data).out.ret = 0 ∧
    writesOf (stepWriteRaw o h hist n data).hist = writesOf hist ∧
    (stepWriteRaw o h hist n data).h.wpos = h.wpos ∧ (stepWriteRaw o h hist n data).h.rpos = h.rpos ∧
    (stepWriteRaw o h hist n data).h.frames = h.frames := by
  have hn' : (n == 0) = false := by simpa using hn
  refine failed_reseek_contained o { h with error := 0 } hist h.wpos _ ?_
  unfold stepWriteRaw
  simp only [hn', hg]
  unfold writeRawCore
  simp only [hl, if_true, hs]
  rfl

/-- the same for sf_read_raw: nothing is read, the read position stays -/
theorem read_raw_seek_failure_contained (o : Oracle) (h : H) (hist : Hist) (n : Int)
    (hn : n ≠ 0) (hm : (h.mode == Mode.w) = false) (hin : ¬ (n < 0 ∨ h.rpos ≥ h.frames))
    (ha : (n % ((h.ch * bytewidth1 h : Nat) : Int) != 0) = false) (hl : (h.lastOp != Mode.r) = true)
    (hs : (Faults.defaultSeek o { h with error := 0 } hist h.rpos).1 < 0) :
    (stepReadRaw o h hist n).out.ret = 0 ∧ (stepReadRaw o h hist n).h.rpos = h.rpos ∧ (stepReadRaw o h hist n).h.wpos = h.wpos := by
  have hn' : (n == 0) = false := by simpa using hn
  obtain ⟨a, _, b, c, _⟩ := failed_reseek_contained o { h with error := 0 } hist h.rpos (stepReadRaw o h hist n) (by
    unfold stepReadRaw
    simp only [hn', hm, hin, ha, if_false, Bool.false_eq_true]
    unfold readRawCore
    simp only [hl, if_true, hs])
  exact ⟨a, c, b⟩

/-- the rule of the seeded regression: the failed re-seek only latches an error, the transfer goes ahead — on the I/O layer as it was
    before 9667294 (`fwriteOld`: since that repair psf_fwrite itself transfers nothing after a failed seek, so the same edit is contained
    one level further down) -/
def writeRawAnyway (o : Oracle) (h : H) (hist : Hist) (len : Nat) (data : List Byte) : Res :=
  let sk := Faults.defaultSeek o h hist h.wpos
  let fw := fwriteOld o sk.2.2 1 len (data.take len)
  ⟨{ sk.2.1 with wpos := sk.2.1.wpos + (fw.1 : Int) / (blockwidth1 sk.2.1 : Nat), lastOp := .w }, fw.2, { ret := fw.1, err := sk.2.1.error }⟩

/-- a 16-bit stereo RAW handle in SFM_RDWR whose last call was a read; an I/O layer whose seeks fail and whose writes succeed -/
def xH : H := { store := 0, mode := .rw, container := .raw, enc := .pcm ⟨16, false, false⟩, big := false, ch := 2, sr := 8000,
                fmtWord := 0x10040002, frames := 10, rpos := 3, wpos := 10, lastOp := .r }
def xO : Oracle := fun _ r => match r with
  | .seek _ _ => { n := -1 }
  | .write d => { n := d.length }
  | _ => {}

/-- witness: under that I/O layer the code writes nothing, the seeded rule hands the caller's bytes to the I/O layer (at the read offset) -/
theorem anyway_rule_writes :
    writesOf (stepWriteRaw xO xH [] 4 [1, 2, 3, 4]).hist = [] ∧ (stepWriteRaw xO xH [] 4 [1, 2, 3, 4]).out.ret = 0 ∧
    writesOf (writeRawAnyway xO xH [] 4 [1, 2, 3, 4]).hist = [[1, 2, 3, 4]] ∧ (writeRawAnyway xO xH [] 4 [1, 2, 3, 4]).out.ret = 4 := by decide

example : (stepWriteRaw xO xH [] 4 [1, 2, 3, 4]).h.wpos = xH.wpos :=
  (write_raw_seek_failure_contained xO xH [] 4 [1, 2, 3, 4] (by decide) (by decide) (by decide) (by decide)).2.2.1
example : (stepReadRaw xO { xH with lastOp := .w } [] 4).h.rpos = 3 :=
  (read_raw_seek_failure_contained xO { xH with lastOp := .w } [] 4 (by decide) (by decide) (by decide) (by decide) (by decide) (by decide)).2.1

end Sf.C15RawRw
