/-
  C05 / C06 / C04 for OKI/VOX ADPCM (vox_adpcm.c after the repair of KF-VOX-ODD): two samples per byte, the odd sample
  of a call held in the codec's private data.
-- properties: C04 C05 C06 C07
  C05  at the handle (`vox_handle_read`): a read returns min (n, frames left), advances the position by exactly that, delivers
       the next samples of the stream, zero-fills at the end, and keeps the invariant `VInv` an open establishes; at the
       codec loops:
       a read call copies at most the requested number of samples — exactly the next ones of the stream —, falls short
       only when the data ends; a write call reports the count it was given (any parity, any staging).
  C06  the stream is a function of position only: any partition into read calls delivers the same samples.
  C04  N samples written -> (N + 1) / 2 bytes -> F = 2 * ((N + 1) / 2) frames at re-open, N <= F < N + 2 (B = 2);
       reading the file back delivers exactly F samples.
  The rule before the repair stays as `…_old_rule` witnesses.  Property theorems only; helpers in
  SfProofs/BlockVoxCarry.lean.
-/
import SfProofs.BlockVoxCarry
namespace Sf.C05Vox
open Sf Sf.Block Sf.Block.Proofs Sf.VoxCarry

/-- the read contract of `vox_read_block`, for every coder state, every held sample, every rest of the file and every
    request: the samples copied out are exactly as many as the returned count, never more than requested (no cell
    behind the caller's buffer is touched), they are the next samples of the stream, the stream behind them is what
    the handle holds afterwards, and the count falls short of the request only when the data ends.
    `Oki.readBlock fuel st c bytes n` answers (coder state, held sample, bytes left, samples copied, count); `fuel` bounds the
    passes of its loop and any value above `n` will do. -/
theorem vox_read_contract (st : Oki.St) (c : Option Int) (bytes : List Byte) (n : Nat) :
    let r := Oki.readBlock (n + 1) st c bytes n
    r.2.2.2.1.length = r.2.2.2.2 ∧ r.2.2.2.2 ≤ n ∧
    r.2.2.2.1 = (stream st c bytes).take n ∧
    stream r.1 r.2.1 r.2.2.1 = (stream st c bytes).drop n ∧
    (r.2.2.2.2 < n → stream r.1 r.2.1 r.2.2.1 = []) := by
  have h := readBlock_delivers (n + 1) st c bytes n (Nat.lt_succ_self _)
  refine ⟨h.count.1, h.count.2, h.1, h.2.2, fun hlt => ?_⟩
  rw [h.2.2, List.drop_of_length_le]
  rw [h.2.1] at hlt; omega

/-- non-vacuity: a request of 3 on a 3-byte file delivers 3 and holds the fourth sample; the next request of 5 gets
    the held sample and the two of the last byte: 3, short because the data ends -/
example :
    (Oki.readBlock 4 {} none [0x12, 0x34, 0x56] 3).2.2.2.2 = 3 ∧ (Oki.readBlock 4 {} none [0x12, 0x34, 0x56] 3).2.1.isSome ∧
    (let r := Oki.readBlock 4 {} none [0x12, 0x34, 0x56] 3
     (Oki.readBlock 6 r.1 r.2.1 r.2.2.1 5).2.2.2.2 = 3 ∧
     r.2.2.2.1 ++ (Oki.readBlock 6 r.1 r.2.1 r.2.2.1 5).2.2.2.1 = (Oki.decBytes {} [0x12, 0x34, 0x56]).2) := by decide

/-- the same through the staging loop of `vox_read_i/f/d` (pieces of `chunk` samples; 0 = `vox_read_s`, one piece) -/
theorem vox_read_call_contract (chunk : Nat) (st : Oki.St) (c : Option Int) (bytes : List Byte) (n : Nat) :
    let r := voxReadCall chunk (n + 1) st c bytes n
    r.2.2.2.1.length = r.2.2.2.2 ∧ r.2.2.2.2 ≤ n ∧
    r.2.2.2.1 = (stream st c bytes).take n ∧
    stream r.1 r.2.1 r.2.2.1 = (stream st c bytes).drop n := by
  have h := voxReadCall_spec chunk (n + 1) st c bytes n (Nat.lt_succ_self _)
  exact ⟨h.count.1, h.count.2, h.1, h.2.2⟩

example : (voxReadCall 2 6 {} none [0x12, 0x34, 0x56] 5).2.2.2.1 = ((Oki.decBytes {} [0x12, 0x34, 0x56]).2).take 5 := by decide

/-- old rule (KF-VOX-ODD), witness: a request of one sample copied two — one short behind the caller's buffer — and
    reported two -/
theorem vox_odd_read_overruns_old_rule :
    (Oki.readBlockOld 2 {} [0x12, 0x34] 1).2.2.1.length = 2 ∧ (Oki.readBlockOld 2 {} [0x12, 0x34] 1).2.2.2 = 2 := by decide

/-- a write call reports exactly the count it was given and consumes exactly those samples: with the samples held
    from earlier calls in front, whole bytes are encoded and the odd last sample is held -/
theorem vox_write_contract (chunk : Nat) (st : Oki.St) (c : Option Int) (xs : List Int) :
    let r := Oki.writeCall chunk (xs.length + 1) st c xs xs.length
    r.2.2.2 = xs.length ∧
    r.2.2.1 = (Oki.encPairs st (evenPart (c.toList ++ xs))).2 ∧ r.2.1 = oddLast (c.toList ++ xs) ∧
    2 * r.2.2.1.length + r.2.1.toList.length = c.toList.length + xs.length := by
  simp only
  rw [writeCall_spec chunk _ st c xs (Nat.lt_succ_self _)]
  refine ⟨rfl, rfl, rfl, ?_⟩
  simp only [writeSpec]
  rw [encPairs_length, evenPart_length, oddLast_toList_length, List.length_append]
  omega

example : (Oki.writeCall 0 2 {} none [256] 1).2.2.2 = 1 ∧ (Oki.writeCall 0 2 {} none [256] 1).2.2.1 = [] ∧
    (Oki.writeCall 0 2 {} none [256] 1).2.1 = some 256 := by decide

/-- old rule (KF-VOX-ODD), witness: a write of one sample reported two -/
theorem vox_odd_write_overcounts_old_rule : (Oki.writeCallOld 0 2 {} [256] 1).2.2 = 2 := by decide

/-- reading with counts `ns`, one call after the other on one handle, delivers the first `ns.sum` samples of the
    stream: the concatenation of the deliveries depends on the total only, not on how it is cut -/
theorem vox_read_partition (st : Oki.St) (c : Option Int) (bytes : List Byte) (ns : List Nat) :
    voxReads st c bytes ns = (stream st c bytes).take ns.sum := by
  induction ns generalizing st c bytes with
  | nil => simp [voxReads]
  | cons n ns ih =>
    obtain ⟨b1, _, b3⟩ := readBlock_spec (n + 1) st c bytes n (by omega)
    rw [voxReads, ih, b1, b3, List.sum_cons, List.take_add]

theorem vox_read_partition_invariant (bytes : List Byte) (ns ms : List Nat) (h : ns.sum = ms.sum) :
    voxReads {} none bytes ns = voxReads {} none bytes ms := by
  rw [vox_read_partition, vox_read_partition, h]

/-- non-vacuity: 1 + 3 + 2 is one read of 6 -/
example : voxReads {} none [0x12, 0x34, 0x56] [1, 3, 2] = voxReads {} none [0x12, 0x34, 0x56] [6] ∧
    (voxReads {} none [0x12, 0x34, 0x56] [1, 3, 2]).length = 6 := by decide

/-- old rule, witness: reads of 1, 3, 2 delivered (and counted) 2 + 4 + 0 samples -/
theorem vox_read_partition_old_rule :
    (Oki.readBlockOld 2 {} [0x12, 0x34, 0x56] 1).2.2.2 = 2 ∧
    (Oki.readBlockOld 4 (Oki.readBlockOld 2 {} [0x12, 0x34, 0x56] 1).1 (Oki.readBlockOld 2 {} [0x12, 0x34, 0x56] 1).2.1 3).2.2.2 = 4 := by
  decide

/-- a file written with any calls holding N samples in all has (N + 1) / 2 bytes; `vox_adpcm_init` reports
    F = 2 * bytes frames: N ≤ F < N + 2 (the block length of the encoding is 2 frames) and F - N ≤ 1 -/
theorem vox_frames_bound (calls : List (List Int)) :
    (voxFile {} none calls).length = (calls.flatten.length + 1) / 2 ∧
    calls.flatten.length ≤ (VoxR.open (voxFile {} none calls)).frames ∧
    (VoxR.open (voxFile {} none calls)).frames < calls.flatten.length + 2 := by
  have h : (voxFile {} none calls).length = (calls.flatten.length + 1) / 2 := by
    rw [voxFile_spec, encPairs_length, padZero_length]
    simp only [Option.toList_none, List.nil_append]
    omega
  refine ⟨h, ?_, ?_⟩ <;> simp only [VoxR.open, h] <;> omega

example : (VoxR.open (voxFile {} none [[256], [512, 768]])).frames = 4 ∧ (VoxR.open (voxFile {} none [[256], [512]])).frames = 2 := by decide

/-- old rule, witness: three calls of one sample each gave a file of six frames (F = 2 N) -/
theorem vox_frames_old_rule :
    2 * ((Oki.writeBlockOld 2 {} [256] 1).2.1 ++
      (Oki.writeBlockOld 2 (Oki.writeBlockOld 2 {} [256] 1).1 [512] 1).2.1 ++
      (Oki.writeBlockOld 2 (Oki.writeBlockOld 2 (Oki.writeBlockOld 2 {} [256] 1).1 [512] 1).1 [768] 1).2.1).length = 6 := by decide

/-- reading the closed file back delivers exactly F samples: the decoded stream has 2 * bytes entries -/
theorem vox_reopen_delivers_frames (calls : List (List Int)) :
    (stream {} none (voxFile {} none calls)).length = (VoxR.open (voxFile {} none calls)).frames := by
  simp only [stream, Option.toList_none, List.nil_append, decBytes_length, VoxR.open]

/-- the invariant of a VOX read handle: the samples it has not delivered yet (held sample first, then the decoded rest of
    the file) are exactly the frames it still counts -/
def VInv (h : VoxR) : Prop := h.pos ≤ h.frames ∧ (stream h.st h.carry h.rest).length = h.frames - h.pos

theorem vox_handle_open_inv (data : List Byte) : VInv (VoxR.open data) := by
  simp [VInv, VoxR.open, stream, decBytes_length]

/-- one `sf_read_<ty> (h, buf, n)`: it returns min (n, frames left) — so less than requested only when the data ends, and 0
    at the end —, advances the position by exactly that, delivers the next samples of the stream (converted to the caller's
    type) and nothing else (`none` = the whole request zero-filled at the end of the data), and keeps the invariant, so the
    statement applies again to the handle it returns -/
theorem vox_handle_read (h : VoxR) (c : Conv) (ty : Ty) (n : Nat) (hi : VInv h) :
    let r := h.read c ty n
    r.2.2 = min n (h.frames - h.pos) ∧ r.1.pos = h.pos + r.2.2 ∧ r.1.frames = h.frames ∧ VInv r.1 ∧
    (0 < n → h.pos < h.frames → r.2.1 = some (((stream h.st h.carry h.rest).take n).map (Oki.toCaller c ty))) ∧
    (0 < n → h.frames ≤ h.pos → r.2.1 = none) := by
  obtain ⟨hp, hl⟩ := hi
  simp only
  unfold VoxR.read
  by_cases hn : n = 0
  · subst hn; simp [VInv, hp, hl]
  · simp only [hn, if_false]
    by_cases he : h.pos ≥ h.frames
    · have : h.frames - h.pos = 0 := by omega
      simp [he, this, VInv, hp, hl]
    · simp only [he, if_false]
      have hb := voxReadCall_spec (Oki.chunkOf ty) (n + 1) h.st h.carry h.rest n (Nat.lt_succ_self _)
      generalize voxReadCall (Oki.chunkOf ty) (n + 1) h.st h.carry h.rest n = r at hb ⊢
      obtain ⟨s, cy, rest, xs, cnt⟩ := r
      obtain ⟨b1, b2, b3⟩ := hb
      dsimp only at b1 b2 b3 ⊢
      rw [hl] at b2
      have hcnt : cnt ≤ h.frames - h.pos := by omega
      simp only [hcnt, if_true]
      refine ⟨b2, trivial, trivial, ⟨by show h.pos + cnt ≤ h.frames; omega, ?_⟩, fun _ _ => ?_, fun _ h2 => h2.elim⟩
      · show (stream s cy rest).length = h.frames - (h.pos + cnt)
        rw [b3, List.length_drop, hl]; omega
      · -- `cnt` is the length of what was copied out
        rw [b1, b2, ← hl, ← List.length_take, List.take_length]

/-- non-vacuity: 3 bytes = 6 frames; reads of 3, 5, 1 items return 3, 3, 0 (the last one zero-fills) -/
example :
    ((VoxR.open [0x12, 0x34, 0x56]).read {} .s16 3).2.2 = 3 ∧
    ((((VoxR.open [0x12, 0x34, 0x56]).read {} .s16 3).1).read {} .s32 5).2.2 = 3 ∧
    (((((VoxR.open [0x12, 0x34, 0x56]).read {} .s16 3).1).read {} .s32 5).1.read {} .s16 1).2 = (none, 0) := by decide

end Sf.C05Vox
