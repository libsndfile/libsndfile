/-
  C16, allocation sites — theorems tying the site table (SfModel/LedgerSites.lean: every calloc / malloc / realloc / open / tmpfile of
  the open, header-parse, init and close functions, with its owner) to the ledger theorems of SfProps/C16.lean.
-/
import SfModel.LedgerSites
import SfProps.C16
namespace Sf.C16Sites
open Sf.Ledger Sf.LedgerSites Sf.C16

/-- **site_released.**  Every cell of every row of the site table is released by psf_close's program on any handle that satisfies the handle
    invariant (`Sf.Ledger.Inv`) — whichever owner the row names.  The proof does not look at the table: it is `releaseAll_no_live`, which
    holds of any cell; what ties the table to the ledger is `hook_cells` and `nested_all_listed` below. -/
theorem site_released (st : Site) (_ : st ∈ sites) (c : Cell) (_ : st.cell = some c) (s : S) (hI : Inv s) :
    (releaseAll s).1.cell c ≠ .live := releaseAll_no_live hI c

/-- the rows whose owner is a close hook are exactly the cells the invariant guards by "the hook is installed" -/
theorem hook_cells : hookCells = [.nested .alacTmp, .nested .aiffMarkstr, .nested .gsmState, .nested .g72xState, .nested .alacPakt,
    .nested .alacTmp, .tmpFd, .tmpDisk] := by decide +kernel

/-- every nested block of the ledger has a row -/
theorem nested_all_listed : ∀ n ∈ Nested.all, Cell.nested n ∈ siteCells := by decide +kernel

/-- **failed_open_clean_at_every_point.**  For every open program (any route, mode, container, codec class, any list of header-parse
    events) and EVERY failure point k — after 0, 1, 2, … allocation steps — the failing open leaves the ledger empty. -/
theorem failed_open_clean_at_every_point (c : OpenCfg) (k : Nat) : Empty (run {} [.open { c with failAt := some k }]) :=
  close_releases_all_after_failed_open [] { c with failAt := some k } k rfl rfl

/-- **close_on_failing_io_releases_all.**  sf_close releases everything whether or not the I/O it does succeeds: for every history. -/
theorem close_on_failing_io_releases_all (ops : List Op) : Empty (run {} (ops ++ [.close false])) :=
  close_releases_all_after_close ops false

/-- … and the two closes hold the same things (nothing) afterwards -/
theorem close_io_independent (ops : List Op) (k : Kind) :
    (run {} (ops ++ [.close false])).held k = (run {} (ops ++ [.close true])).held k := by
  rw [close_releases_all_after_close ops false k, close_releases_all_after_close ops true k]

def aiffMarkR : OpenCfg := { route := .vio, mode := .r, cont := .aiff, evs := [.chunkRec, .mark, .cue] }

/-- **late_hook_rule_leaks.**  With aiff_close installed behind the header parser, an AIFF file with a MARK chunk that is rejected inside
    the parser (failure point 2: container data allocated, header parsed, hook not yet installed) loses one heap block; with the hook
    installed where aiff.c installs it, nothing is lost at that failure point or any other. -/
theorem late_hook_rule_leaks :
    (failedOpenLateHook aiffMarkR 2).leakedHeap = 1 ∧ (failedOpenLateHook aiffMarkR 3).leakedHeap = 0 ∧
    ∀ k, (run {} [.open { aiffMarkR with failAt := some k }]).a.leakedHeap = 0 := by
  refine ⟨by decide +kernel, by decide +kernel, fun k => ?_⟩
  exact (close_releases_all [.open { aiffMarkR with failAt := some k }]).1

-- non-vacuity: the failing open really holds things before it fails (3 steps of the AIFF program: data, hook, parse with MARK + cues)
example : (runSteps aiffMarkR ((openSteps aiffMarkR).take 3) (allocate aiffMarkR {})).1.liveOf .heap = 6 := by decide +kernel
example : siteCells.length + 5 = sites.length ∧ 50 < sites.length := by decide
example : Empty (run {} [.open C16.alacW, .write true, .close false]) := close_on_failing_io_releases_all [.open C16.alacW, .write true]

end Sf.C16Sites
