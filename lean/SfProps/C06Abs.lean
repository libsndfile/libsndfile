/-
  C06 on the ABSTRACT model (SfModel/Abs.lean): what the predicate `Sf.Abs.holdsOn` accepts about seeks and about the
  partition of reads — for any file, any codec, any container, because the reference stream is a parameter.
  Property theorems only; lemmas in SfProofs/Abs*.lean.
-/
import SfProofs.AbsRun
namespace Sf.C06Abs
open Sf Sf.Abs

/-- seek_result: an accepted seek line is a refusal (−1, error set, no position changes) or reports exactly the requested
    absolute frame `base + offset` (`base` = 0 / the read or write position / the frame count, as `whence` says), with no
    error; on a read-only handle that frame lies in `[0, frames]` -/
theorem seek_result_abs (g : Geom) (st : St) (off whence : Int) (o : Out) (st' : St)
    (h : seekOk g st off whence o = .ok st') :
    (o.ret = -1 ∧ o.err = true ∧ st'.rpos = st.rpos ∧ st'.wpos = st.wpos ∧ st'.frames = st.frames) ∨
    (∃ b : Nat, seekBase st whence = some b ∧ o.ret = (b : Int) + off ∧ 0 ≤ o.ret ∧ o.err = false ∧
      (st.mode = .r → o.ret ≤ st.frames ∧ (st'.rpos : Int) = o.ret) ∧ st'.frames = st.frames ∧ st'.ref = st.ref) := by
  rcases seekOk_ok g st off whence o st' h with ⟨a, b, hs⟩ | ⟨t, _, ht, hr, he, hs⟩
  · subst hs; exact Or.inl ⟨a, b, rfl, rfl, rfl⟩
  · obtain ⟨b, hb, hsum, hle, _, _⟩ := seekTarget_some st off whence t ht
    obtain ⟨f1, _, f3, _⟩ := seekMove_frames st whence t
    subst hs
    refine Or.inr ⟨b, hb, by omega, by omega, he, fun hm => ⟨by have := hle hm; omega, ?_⟩, f1, f3⟩
    rw [seekMove_rpos_r st off whence t hm ht]; omega

/-- seek_cur_zero: an accepted zero-offset SEEK_CUR (plain on a read-only handle, or qualified with SFM_READ on a handle
    that reads) is never a refusal when the handle is seekable, and reports the read position — the index of the next frame
    a read delivers — and leaves it where it is -/
theorem seek_cur_zero_abs (g : Geom) (st : St) (whence : Int) (o : Out) (st' : St) (hs : g.seekable = true)
    (hw : (whence = 1 ∧ st.mode = .r) ∨ (whence = 0x11 ∧ st.mode ≠ .w)) (hle : st.mode = .r → st.rpos ≤ st.frames)
    (h : seekOk g st 0 whence o = .ok st') : o.ret = (st.rpos : Int) ∧ o.err = false ∧ st'.rpos = st.rpos := by
  have hwm : whence % 0x10 = 1 := by rcases hw with ⟨rfl, _⟩ | ⟨rfl, _⟩ <;> decide
  have ht : seekTarget st 0 whence = some st.rpos := by
    unfold seekTarget
    rcases hw with ⟨rfl, hm⟩ | ⟨rfl, hm⟩
    · have : ¬ ((st.frames : Int) < (st.rpos : Int)) := by have := hle hm; omega
      simp [seekBase, seekQual, hm, this]
    · simp [seekBase, seekQual, hm]
      exact hle
  by_cases hret : o.ret = -1
  · -- a position query with a target may not be refused
    obtain ⟨_, hq, _⟩ := (seekOk_refusal_iff g st 0 whence o st' hret).mp h
    exact absurd ⟨rfl, hwm⟩ (hq _ hs ht).1
  · obtain ⟨t, _, ht', hr, he, rfl⟩ := (seekOk_answer_iff g st 0 whence o st' hret).mp h
    obtain rfl : st.rpos = t := Option.some.inj (ht.symm.trans ht')
    refine ⟨hr, he, ?_⟩
    rcases hw with ⟨rfl, hm⟩ | ⟨rfl, hm⟩
    · rw [seekMove_plain_r st 1 _ (by decide) hm]
    · rw [seekMove_rd st 0x11 _ (by decide)]

/-- seek_then_read: after an accepted seek that reported frame `k` on a read-only handle, an accepted valid read delivers
    exactly the items `k·ch, k·ch+1, …` of the reference stream -/
theorem seek_then_read_abs (g : Geom) (st : St) (off whence : Int) (o1 : Out) (st1 : St) (ty : Ty) (fc : Bool) (n : Int)
    (o2 : Out) (st2 : St) (hm : st.mode = .r) (hval : st.valid ty = true)
    (h1 : seekOk g st off whence o1 = .ok st1) (hk : o1.ret ≠ -1) (hv : validReq g fc n = true)
    (h2 : readOk g st1 ty fc n o2 = .ok st2) (hin : o1.ret < st.frames) :
    o2.data.extract 0 (retItems g fc o2.ret * cells ty) =
      (st.ref ty).extract (o1.ret.toNat * g.cpf ty) (o1.ret.toNat * g.cpf ty + retItems g fc o2.ret * cells ty) ∧
    st2.rpos = o1.ret.toNat + retItems g fc o2.ret / g.ch := by
  rcases seekOk_ok g st off whence o1 st1 h1 with ⟨a, _, _⟩ | ⟨t, _, ht, hr, _, hs⟩
  · exact absurd a hk
  · obtain ⟨f1, f2, f3, f4⟩ := seekMove_frames st whence t
    have hp : st1.rpos = t := by rw [hs]; exact seekMove_rpos_r st off whence t hm ht
    have hm1 : st1.mode = .r := by rw [hs, f2]; exact hm
    have hrr : ReadReq g st1 fc n := ⟨hv, by rw [hm1]; decide⟩
    obtain ⟨_, _, _, _, _, _, hmain⟩ := readOk_valid g st1 ty fc n o2 st2 hrr h2
    have hlt : st1.rpos < st1.frames := by rw [hp, hs, f1]; omega
    obtain ⟨hs2, _, hdat, _⟩ := hmain hlt
    have hv1 : st1.valid ty = true := by rw [hs, f4]; exact hval
    have hx := sliceEq_extract _ _ _ _ _ (hdat hv1)
    have ht' : o1.ret.toNat = t := by omega
    rw [ht']
    constructor
    · rw [Nat.zero_add, hp, hs, f3] at hx; exact hx
    · rw [hs2]; simp only; rw [hp]

/-- partition independence for ANY two accepted transcripts of the same file: read sequences that start at the same
    position and end at the same position delivered the same items, however the calls were cut and whichever call
    variants (items / frames) were used; and each delivers the slice of the reference stream between the two positions -/
theorem partition_independence_abs (g : Geom) (ty : Ty) (rds1 rds2 : List RdLine) (st st1 st2 : St)
    (hv1 : ∀ r ∈ rds1, validReq g r.1 r.2.1 = true) (hv2 : ∀ r ∈ rds2, validReq g r.1 r.2.1 = true)
    (hm : st.mode = .r) (hval : st.valid ty = true) (hle : st.rpos ≤ st.frames)
    (h1 : accepts g st (rdTr ty rds1) = some st1) (h2 : accepts g st (rdTr ty rds2) = some st2)
    (hp : st1.rpos = st2.rpos) :
    deliveredAll g ty rds1 = deliveredAll g ty rds2 ∧
    deliveredAll g ty rds1 = (st.ref ty).extract (st.rpos * g.cpf ty) (st1.rpos * g.cpf ty) := by
  have e1 := (reads_concat g ty rds1 st st1 hv1 hm hval hle h1).1
  exact ⟨by rw [e1, (reads_concat g ty rds2 st st2 hv2 hm hval hle h2).1, hp], e1⟩

/-- … in particular one sequential read of the whole file and any partition of it: both deliver the whole stream -/
theorem sequential_equals_any_partition (g : Geom) (ty : Ty) (rds : List RdLine) (st st1 : St)
    (hv : ∀ r ∈ rds, validReq g r.1 r.2.1 = true) (hm : st.mode = .r) (hval : st.valid ty = true) (h0 : st.rpos = 0)
    (hsz : (st.ref ty).size = st.frames * g.cpf ty)
    (h1 : accepts g st (rdTr ty rds) = some st1) (hend : st1.rpos = st.frames) :
    deliveredAll g ty rds = st.ref ty := by
  have := (reads_concat g ty rds st st1 hv hm hval (by omega) h1).1
  rw [this, h0, hend, Nat.zero_mul, ← hsz]
  exact Array.extract_size

/-! ## non-vacuity: the 3-frame stereo file -/

def exG : Geom := { ch := 2, frames0 := 3, mode0 := .r }
def exRef : Ty → Array Item := fun ty => match ty with | .s16 => #[1, 2, 3, 4, 5, 6] | _ => #[]
def exValid : Ty → Bool := fun ty => ty = .s16
def exSt : St := St.init exG exRef exValid

/-- seek to frame 1, read 2 frames; a seek past the end is refused with an error; SEEK_END −1; the probe -/
example : holdsOn exG exRef exValid
    [(.seek 1 0, { ret := 1 }), (.read .s16 true 2, { ret := 2, data := #[3, 4, 5, 6] }),
     (.seek 4 0, { ret := -1, err := true }), (.seek (-1) 2, { ret := 2 }), (.seek 0 1, { ret := 2 })] = .ok 5 := by decide
/-- the wrong frame after a seek, a seek that lands elsewhere, a probe that lies: refused with their clauses -/
example : holdsOn exG exRef exValid [(.seek 1 0, { ret := 1 }), (.read .s16 true 1, { ret := 1, data := #[5, 6] })] = .bad 1 "data" := by decide
example : holdsOn exG exRef exValid [(.seek 1 0, { ret := 2 })] = .bad 0 "seek" := by decide
example : holdsOn exG exRef exValid [(.seek 1 0, { ret := 1 }), (.seek 0 1, { ret := 0 })] = .bad 1 "position" := by decide
/-- two partitions of the same two frames (1+1 frames, 4 items) are both accepted from the same state and end at frame 2 -/
def p1 : List RdLine := [(true, 1, { ret := 1, data := #[1, 2] }), (true, 1, { ret := 1, data := #[3, 4] })]
def p2 : List RdLine := [(false, 4, { ret := 4, data := #[1, 2, 3, 4] })]
example : (accepts exG exSt (rdTr .s16 p1)).map (·.rpos) = some 2 ∧ (accepts exG exSt (rdTr .s16 p2)).map (·.rpos) = some 2 ∧
    deliveredAll exG .s16 p1 = #[1, 2, 3, 4] ∧ deliveredAll exG .s16 p2 = #[1, 2, 3, 4] := by decide

end Sf.C06Abs
