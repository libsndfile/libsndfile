/-
  C20 for GSM 06.10 — the bit-exact arithmetic of the Recommendation (GSM 06.10 section 5.1: add, sub, mult, mult_r,
  abs, L_mult, L_add, norm, div) as SPEC definitions over unbounded `Int` with saturation (`Sf.Gsm.Rec`, SfProofs/GsmRec.lean),
  proved equal to the macro-shaped model (SfModel/Gsm.lean: GSM_ADD, GSM_SUB, GSM_MULT, GSM_MULT_R, GSM_ABS, gsm_mult,
  gsm_mult_r, GSM_L_ADD, gsm_norm, gsm_div — the code libsndfile compiles) on the ranges the codec uses:

    `gsm_add_conforms`, `gsm_sub_conforms`      ∀ a b (no range needed): GSM_ADD / GSM_SUB / gsm_add / gsm_sub = spec
    `gsm_abs_conforms`                          ∀ int16 a
    `gsm_mult_conforms`, `gsm_mult_r_conforms`  ∀ int16 a b: the FUNCTIONS gsm_mult / gsm_mult_r (special case included) = spec
    `gsm_mult_r_macro_conforms`                 ∀ int16 a b not both MIN_WORD: the MACRO GSM_MULT_R stored into an int16 = spec
    `gsm_mult_r_macro_differs`                  the one pair where the macro leaves the spec: (−32768, −32768) → −32768, spec 32767
    `gsm_decoder_mult_r_sites`                  with an entry of gsm_FAC, gsm_QLB, INVA or the constant 28180 as one operand (the operands
                                                at the decoder's four GSM_MULT_R sites, all > MIN_WORD) the macro is the spec operator; the
                                                decoder as a whole: `gsm_decoder_mult_r_is_spec`, SfProps/C06GsmNoWrap.lean
    `gsm_encoder_reflection_not_min`            the range of `gsm_div`, the encoder's recursion operand r = ± gsm_div (…): never MIN_WORD
    `gsm_l_mult_conforms`, `gsm_l_add_conforms` L_mult (not both MIN_WORD) and L_add
    `gsm_norm_conforms_pos`, `…_neg`            ∀ 0 < L < 2^31 and ∀ −2^31 ≤ L < 0: `gsm_norm` is the number of left shifts
                                                that normalises L (the table `bitoff` behind it is tied by `gsm_bitoff_extracted`);
                                                `_pos` through `Rec.normalises`, `_neg` by its own bounds −2^31 ≤ L · 2^k ≤ −2^30 (the
                                                predicate's negative branch is open at −2^30, where `gsm_norm (−2^30) = 0`)
    `gsm_div_conforms`                          ∀ 0 < num ≤ denum ≤ 32767: `gsm_div` = ⌊num · 2^15 / denum⌋ capped at 32767
-/
import SfProofs.GsmSpec
import SfProofs.GsmRec
namespace Sf.C20Gsm
open Sf Sf.Gsm Sf.Gsm.Proofs Sf.Gsm.Spec


theorem gsm_add_conforms (a b : Int) : Gsm.add a b = Rec.add a b ∧ gsmAdd a b = Rec.add a b := by
  refine ⟨add_clamped a b, ?_⟩
  unfold gsmAdd sat Rec.add Rec.sat16
  split <;> split <;> omega

theorem gsm_sub_conforms (a b : Int) : Gsm.sub a b = Rec.sub a b ∧ gsmSub a b = Rec.sub a b := by
  refine ⟨sub_clamped a b, ?_⟩
  unfold gsmSub sat Rec.sub Rec.sat16
  split <;> split <;> omega

theorem gsm_abs_conforms (a : Int) (h : W16 a) : gabs a = Rec.abs a := by
  unfold W16 at h
  unfold gabs Rec.abs
  split <;> split <;> omega

/-- the functions `gsm_mult_r` (add.c, and its open-coded twin in the short-term synthesis filter) and `gsm_mult` -/
theorem gsm_mult_r_conforms (a b : Int) (ha : W16 a) (hb : W16 b) : gsmMultR a b = Rec.multR a b :=
  gsmMultR_eq a b ha hb

theorem gsm_mult_conforms (a b : Int) (ha : W16 a) (hb : W16 b) : gsmMult a b = Rec.mult a b := by
  unfold gsmMult Rec.mult
  by_cases h : a = -32768 ∧ b = -32768
  · rw [if_pos h, if_pos h]
  · rw [if_neg h, if_neg h, asr15]
    exact w16_id _ (Int.add_zero (a * b) ▸ shr15_range a b 0 ha hb h (by omega))

/-- the MACRO `GSM_MULT_R (a, b)` stored into an `int16_t` -/
theorem gsm_mult_r_macro_conforms (a b : Int) (ha : W16 a) (hb : W16 b) (h : ¬ (a = -32768 ∧ b = -32768)) :
    w16 (Gsm.multR a b) = Rec.multR a b ∧ Gsm.multR a b = Rec.multR a b := by
  unfold Gsm.multR Rec.multR
  rw [if_neg h, asr15]
  exact ⟨w16_id _ (shr15_range a b 16384 ha hb h (by omega)), rfl⟩

/-- the macro `GSM_MULT (a, b)` -/
theorem gsm_mult_macro_conforms (a b : Int) (ha : W16 a) (hb : W16 b) (h : ¬ (a = -32768 ∧ b = -32768)) :
    w16 (Gsm.mult a b) = Rec.mult a b := by
  unfold Gsm.mult Rec.mult
  rw [if_neg h, asr15]
  exact w16_id _ (Int.add_zero (a * b) ▸ shr15_range a b 0 ha hb h (by omega))

/-- **where macro and spec differ**: exactly the pair (MIN_WORD, MIN_WORD) -/
theorem gsm_mult_r_macro_differs : w16 (Gsm.multR (-32768) (-32768)) = -32768 ∧ Rec.multR (-32768) (-32768) = 32767 := by decide

/-- **the operands of the decoder's GSM_MULT_R sites keep the macro on the spec operator**: its four macro sites are
    `GSM_MULT_R (gsm_FAC [mant], temp)` (APCM inverse quantisation), `GSM_MULT_R (gsm_QLB [bcr], drp [k − Nr])` (long-term
    synthesis), `GSM_MULT_R (INVA, temp)` (LAR decoding) and `GSM_MULT_R (msr, 28180)` (de-emphasis); the table operand is
    a table entry or 0 (index out of range), the constant is positive: never MIN_WORD, so each site equals the spec operator
    (the sites are listed here, not derived from the decoder: see `C06GsmNoWrap.gsm_decoder_mult_r_is_spec`) -/
theorem gsm_decoder_mult_r_sites (i x : Int) (hx : W16 x) :
    w16 (Gsm.multR (tab tabFAC i) x) = Rec.multR (tab tabFAC i) x ∧
    w16 (Gsm.multR (tab tabQLB i) x) = Rec.multR (tab tabQLB i) x ∧
    w16 (Gsm.multR (tab tabINVA i) x) = Rec.multR (tab tabINVA i) x ∧
    w16 (Gsm.multR x 28180) = Rec.multR x 28180 := by
  have hF := tab_pos tabFAC (by decide) i
  have hQ := tab_pos tabQLB (by decide) i
  have hI := tab_pos tabINVA (by decide) i
  refine ⟨(gsm_mult_r_macro_conforms _ x (by unfold W16; omega) hx (by omega)).1,
    (gsm_mult_r_macro_conforms _ x (by unfold W16; omega) hx (by omega)).1,
    (gsm_mult_r_macro_conforms _ x (by unfold W16; omega) hx (by omega)).1,
    (gsm_mult_r_macro_conforms x 28180 hx (by unfold W16; omega) (by omega)).1⟩

theorem gsm_l_mult_conforms (a b : Int) (ha : W16 a) (hb : W16 b) (h : ¬ (a = -32768 ∧ b = -32768)) :
    w32 (a * b * 2) = Rec.lMult a b := by
  have hp := prod_bound a b ha hb h
  exact w32_id _ (by omega)

theorem gsm_l_add_conforms (a b : Int) : lAdd a b = Rec.lAdd a b := by
  unfold lAdd Gsm.sat32 Rec.lAdd Rec.sat32
  split <;> split <;> omega

/-- a number of `b` binary digits shifted left by `31 − b`: the top bit lands on bit 30 -/
theorem shifted_lo (m : Int) (b : Nat) (b1 : 1 ≤ b) (b4 : b ≤ 31) (lo : 2 ^ (b - 1) ≤ m) : 2 ^ 30 ≤ m * 2 ^ (31 - b) := by
  have p : (2 : Int) ^ 30 = 2 ^ (b - 1) * 2 ^ (31 - b) := by rw [← pow_add]; congr 1; omega
  rw [p]
  exact Int.mul_le_mul_of_nonneg_right lo (by positivity)

theorem shifted_hi (m : Int) (b : Nat) (b4 : b ≤ 31) (hi : m ≤ 2 ^ b) : m * 2 ^ (31 - b) ≤ 2 ^ 31 := by
  have p : (2 : Int) ^ 31 = 2 ^ b * 2 ^ (31 - b) := by rw [← pow_add]; congr 1; omega
  rw [p]
  exact Int.mul_le_mul_of_nonneg_right hi (by positivity)

/-- **`gsm_norm`**, positive arguments: the result k is in [0, 30] and L · 2^k ∈ [2^30, 2^31) -/
theorem gsm_norm_conforms_pos (l : Int) (h1 : 0 < l) (h2 : l < 2 ^ 31) :
    0 ≤ gsmNorm l ∧ gsmNorm l ≤ 30 ∧ Rec.normalises l (gsmNorm l).toNat := by
  obtain ⟨n, rfl⟩ : ∃ n : Nat, l = (n : Int) := ⟨l.toNat, by omega⟩
  have hn1 : 0 < n := by omega
  have hn2 : n < 2 ^ 31 := by exact_mod_cast h2
  obtain ⟨b1, b2, b3⟩ := bitlen_spec n hn1 (Nat.lt_of_lt_of_le hn2 (by decide))
  have b4 := bitlen_le n 31 (by decide) hn2
  have hneg : ¬ ((n : Int) < 0) := by omega
  unfold gsmNorm Rec.normalises
  simp only [hneg, if_false, Int.toNat_natCast, h1, if_true]
  generalize bitlen n = b at b1 b2 b3 b4
  have e : ((31 : Int) - (b : Int)).toNat = 31 - b := by omega
  rw [e]
  have hi := shifted_hi (n + 1) b b4 (by exact_mod_cast b3)
  have hp : (0 : Int) < 2 ^ (31 - b) := by positivity
  rw [Int.add_mul, Int.one_mul] at hi
  exact ⟨by omega, by omega, shifted_lo n b b1 b4 (by exact_mod_cast b2), by omega⟩

/-- **`gsm_norm`**, negative arguments: `a <= −2^30 → 0`, else the positive rule on `~a`; the result normalises L, with the
    code's convention that −1 gives 31 (L · 2^31 = −2^31) -/
theorem gsm_norm_conforms_neg (l : Int) (h1 : l < 0) (h2 : -(2 ^ 31) ≤ l) :
    0 ≤ gsmNorm l ∧ gsmNorm l ≤ 31 ∧ -(2 ^ 31) ≤ l * 2 ^ (gsmNorm l).toNat ∧ l * 2 ^ (gsmNorm l).toNat ≤ -(2 ^ 30) := by
  unfold gsmNorm
  simp only [h1, if_true]
  by_cases hb : l ≤ -1073741824
  · simp only [hb, if_true, Int.toNat_zero, pow_zero, mul_one]
    norm_num at h2 ⊢; omega
  · simp only [hb, if_false]
    by_cases hm : l = -1
    · subst hm; decide
    · -- `~l = −l − 1 = n` has `b` digits, so `−l = n + 1` lies in (2^(b−1), 2^b]
      obtain ⟨n, hn⟩ : ∃ n : Nat, -l - 1 = (n : Int) := ⟨(-l - 1).toNat, by omega⟩
      have hn1 : 0 < n := by omega
      have hn2 : n < 2 ^ 30 := by
        have : (n : Int) < 1073741824 := by omega
        exact_mod_cast this
      obtain ⟨b1, b2, b3⟩ := bitlen_spec n hn1 (Nat.lt_of_lt_of_le hn2 (by decide))
      have b4 : bitlen n ≤ 30 := by
        by_contra hc
        have : 2 ^ 30 ≤ 2 ^ (bitlen n - 1) := Nat.pow_le_pow_right (by decide) (by omega)
        omega
      rw [hn, Int.toNat_natCast]
      generalize bitlen n = b at b1 b2 b3 b4
      have e : ((31 : Int) - (b : Int)).toNat = 31 - b := by omega
      have hl : l = -((n : Int) + 1) := by omega
      have lo := shifted_lo (n + 1) b b1 (by omega) (by have : ((2 ^ (b - 1) : Nat) : Int) ≤ n := by exact_mod_cast b2
                                                        push_cast at this; omega)
      have hi := shifted_hi (n + 1) b (by omega) (by exact_mod_cast b3)
      rw [e, hl, Int.neg_mul]
      exact ⟨by omega, by omega, Int.neg_le_neg hi, Int.neg_le_neg lo⟩

/-- **`gsm_div`**: the restoring division is the 15-bit fractional quotient of the Recommendation -/
theorem gsm_div_conforms (num denum : Int) (h1 : 0 < num) (h2 : num ≤ denum) (h3 : denum ≤ 32767) :
    gsmDiv num denum = Rec.div num denum ∧ 0 ≤ gsmDiv num denum ∧ gsmDiv num denum ≤ 32767 := by
  have hne : num ≠ 0 := by omega
  have hs := divLoop_spec 15 num denum 0 (by omega) h2 (by omega) h3 (by omega) (by norm_num)
  have e15 : (2 : Int) ^ 15 = 32768 := by norm_num
  unfold gsmDiv Rec.div
  rw [if_neg hne, hs, e15]
  have hq0 : 0 ≤ num * 32768 / denum := Int.ediv_nonneg (by omega) (by omega)
  by_cases he : num = denum
  · subst he
    have : num * 32768 / num = 32768 := Int.mul_ediv_cancel_left _ (by omega)
    rw [if_pos rfl, this]
    norm_num
  · rw [if_neg he]
    have hlt' : num < denum := by omega
    have hlt : num * 32768 / denum < 32768 := Int.ediv_lt_of_lt_mul (by omega) (by linarith)
    rw [min_eq_right (by omega)]
    omega

/-- ± gsm_div (…) ∈ [−32767, 32767]; that is the reflection coefficient the encoder's Schur recursion multiplies with (no encoder
    function occurs in the statement), never MIN_WORD, so its `GSM_MULT_R (P [m], r)` sites are spec operators too -/
theorem gsm_encoder_reflection_not_min (num denum : Int) (h1 : 0 < num) (h2 : num ≤ denum) (h3 : denum ≤ 32767) :
    -32767 ≤ -(gsmDiv num denum) ∧ gsmDiv num denum ≤ 32767 := by
  obtain ⟨_, a, b⟩ := gsm_div_conforms num denum h1 h2 h3
  omega

/-- non-vacuity / spot values of the Recommendation's own examples -/
example : gsmDiv 1 2 = 16384 ∧ gsmDiv 5 5 = 32767 ∧ gsmNorm 1 = 30 ∧ gsmNorm 1073741824 = 0 ∧ gsmNorm (-1) = 31 ∧
    gsmNorm (-1073741825) = 0 ∧ Rec.multR 32767 32767 = 32766 ∧ gsmMultR 32767 32767 = 32766 ∧ gabs (-32768) = 32767 := by decide +kernel

end Sf.C20Gsm
