/-
  C12 — "only the documented normalisations apply (… CR/LF line ends …)": what `psf_strlcpy_crlf` (src/common.c; model
  `Sf.Meta.crlfGo`, used for the bext coding history and the cart tag text) does to a text, stated against an
  INDEPENDENT description of the line structure.

  `toks` reads a text as a sequence of tokens — an ordinary byte, or a LINE END, which is one of CR LF, LF CR, a bare
  CR, a bare LF (a pair is taken only when its second half is the OTHER character: LF LF and CR CR are two line ends
  with an empty line between them).  `render` writes every line end as CR LF.

  Campaign side: vlib/props/c12.py `crlf_scripts` (empty lines, runs of line ends of every kind and mix, leading /
  trailing line ends, texts that fill the 16 KiB field up to the middle of a pair).
-/
import SfModel.Meta
namespace Sf.C12Crlf
open Sf Sf.Meta

/-- a text as tokens: `none` = a line end, `some a` = an ordinary byte -/
def toks : List Byte → List (Option Byte)
  | [] => []
  | [a] => if a = 13 ∨ a = 10 then [none] else [some a]
  | a :: b :: r =>
    if (a = 13 ∧ b = 10) ∨ (a = 10 ∧ b = 13) then none :: toks r
    else if a = 13 ∨ a = 10 then none :: toks (b :: r)
    else some a :: toks (b :: r)

/-- tokens as text, every line end written CR LF -/
def render : List (Option Byte) → List Byte
  | [] => []
  | none :: t => 13 :: 10 :: render t
  | some a :: t => a :: render t

/-- no CR / LF among the ordinary bytes -/
def Clean (ts : List (Option Byte)) : Prop := ∀ a, some a ∈ ts → a ≠ 13 ∧ a ≠ 10

/-- the `skip` state: the second half of a pair is dropped when it comes next -/
theorem crlfGo_some (room : Nat) (s a : Byte) (rest : List Byte) :
    crlfGo room (some s) (a :: rest) = if a = s then crlfGo room none rest else crlfGo room none (a :: rest) := by
  by_cases h : a = s
  · subst h; simp [crlfGo]
  · have h' : ¬ (some s = some a) := fun e => h (Option.some.inj e).symm
    simp only [crlfGo, h', if_false, h]
    simp

theorem crlfGo_none (room : Nat) (a : Byte) (rest : List Byte) :
    crlfGo room none (a :: rest) =
      if room = 0 then []
      else if a = 13 then 13 :: 10 :: crlfGo (room - 2) (some 10) rest
      else if a = 10 then 13 :: 10 :: crlfGo (room - 2) (some 13) rest
      else a :: crlfGo (room - 1) none rest := by
  simp [crlfGo]

/-- The first token of a non-empty text: what is left behind it, that an ordinary byte is neither CR nor LF, and the one step
    of the copy that writes it when there is room. -/
theorem first_token (a : Byte) (r : List Byte) : ∃ (t : Option Byte) (rest : List Byte),
    toks (a :: r) = t :: toks rest ∧ rest.length ≤ r.length ∧ (render [t]).length + 2 * rest.length ≤ 2 * (r.length + 1) ∧
    (∀ x, t = some x → x ≠ 13 ∧ x ≠ 10) ∧
    ∀ room, room ≠ 0 → crlfGo room none (a :: r) = render [t] ++ crlfGo (room - (render [t]).length) none rest := by
  by_cases heol : a = 13 ∨ a = 10
  · cases r with
    | nil =>
      refine ⟨none, [], by simp [toks, heol], by simp, by simp [render], by simp, fun room hr => ?_⟩
      rcases heol with rfl | rfl <;> simp [hr, crlfGo, render]
    | cons b r =>
      by_cases hpair : (a = 13 ∧ b = 10) ∨ (a = 10 ∧ b = 13)
      · refine ⟨none, r, by simp only [toks, if_pos hpair], by simp, by simp [render]; omega, by simp, fun room hr => ?_⟩
        rcases hpair with ⟨rfl, rfl⟩ | ⟨rfl, rfl⟩ <;> simp [crlfGo_none, hr, crlfGo_some, render]
      · refine ⟨none, b :: r, by simp only [toks, if_neg hpair, if_pos heol], by simp, by simp [render]; omega, by simp, fun room hr => ?_⟩
        rcases heol with rfl | rfl
        · have hb : b ≠ 10 := fun e => hpair (Or.inl ⟨rfl, e⟩)
          simp [crlfGo_none, hr, crlfGo_some, hb, render]
        · have hb : b ≠ 13 := fun e => hpair (Or.inr ⟨rfl, e⟩)
          simp [crlfGo_none, hr, crlfGo_some, hb, render]
  · have h13 : a ≠ 13 := fun e => heol (Or.inl e)
    have h10 : a ≠ 10 := fun e => heol (Or.inr e)
    refine ⟨some a, r, ?_, Nat.le_refl _, by simp [render]; omega, fun x hx => by cases hx; exact ⟨h13, h10⟩, fun room hr => ?_⟩
    · cases r with
      | nil => simp [toks, heol]
      | cons b r => simp only [toks, if_neg heol, if_neg (fun h : (a = 13 ∧ b = 10) ∨ (a = 10 ∧ b = 13) => heol (h.imp And.left And.left))]
    · simp [crlfGo_none, hr, h13, h10, render]
/-- the skeleton: truncated output = rendering of a token prefix, at most one byte (the LF of a line end that started on the
    last free byte) beyond the room; with room for everything = the whole rendering -/
theorem crlfGo_toks (src : List Byte) : ∀ room,
    (∃ k, crlfGo room none src = render ((toks src).take k)) ∧ (crlfGo room none src).length ≤ room + min room 1 ∧
    (2 * src.length ≤ room → crlfGo room none src = render (toks src)) := by
  induction h : src.length using Nat.strongRecOn generalizing src with
  | _ n ih =>
    intro room
    cases src with
    | nil => exact ⟨⟨0, by simp [crlfGo, render]⟩, by simp [crlfGo], fun _ => by simp [crlfGo, toks, render]⟩
    | cons a r =>
      subst h
      rcases Nat.eq_zero_or_pos room with rfl | hr
      · exact ⟨⟨0, by simp [crlfGo, render]⟩, by simp [crlfGo], fun h0 => by simp at h0⟩
      obtain ⟨t, rest, ht, hlen, hfits, _, hgo⟩ := first_token a r
      obtain ⟨⟨k, hk⟩, hle, hfull⟩ := ih rest.length (by simp; omega) rest rfl (room - (render [t]).length)
      rw [hgo room (by omega), ht]
      refine ⟨⟨k + 1, by rw [hk]; cases t <;> simp [render]⟩, ?_, fun hroom => ?_⟩
      · have : 1 ≤ (render [t]).length ∧ (render [t]).length ≤ 2 := by cases t <;> simp [render]
        rw [List.length_append]; omega
      · rw [hfull (by simp at hroom; omega)]
        cases t <;> simp [render]

theorem toks_clean (src : List Byte) : Clean (toks src) := by
  induction h : src.length using Nat.strongRecOn generalizing src with
  | _ n ih =>
    cases src with
    | nil => intro a ha; simp [toks] at ha
    | cons a r =>
      subst h
      obtain ⟨t, rest, ht, hlen, _, hord, _⟩ := first_token a r
      intro x hx
      rw [ht] at hx
      rcases List.mem_cons.mp hx with hx | hx
      · exact hord x hx.symm
      · exact ih rest.length (by simp; omega) rest rfl x hx

theorem toks_length (src : List Byte) : (toks src).length ≤ src.length := by
  induction h : src.length using Nat.strongRecOn generalizing src with
  | _ n ih =>
    cases src with
    | nil => simp [toks]
    | cons a r =>
      subst h
      obtain ⟨t, rest, ht, hlen, _⟩ := first_token a r
      have := ih rest.length (by simp; omega) rest rfl
      rw [ht]; simp; omega
theorem toks_render : ∀ (ts : List (Option Byte)), Clean ts → toks (render ts) = ts := by
  intro ts
  induction ts with
  | nil => intro _; simp [render, toks]
  | cons t ts ih =>
    intro hc
    have hc' : Clean ts := fun a h => hc a (List.mem_cons_of_mem _ h)
    cases t with
    | none =>
      show toks (13 :: 10 :: render ts) = _
      simp only [toks]
      simp [ih hc']
    | some a =>
      obtain ⟨h13, h10⟩ := hc a (List.mem_cons_self ..)
      show toks (a :: render ts) = _
      cases hr : render ts with
      | nil =>
        have : toks (render ts) = ts := ih hc'
        rw [hr] at this
        simp [toks] at this
        subst this
        simp [toks, h13, h10]
      | cons b r =>
        have : toks (render ts) = ts := ih hc'
        rw [hr] at this
        simp only [toks]
        simp [h13, h10, this]

theorem render_length (ts : List (Option Byte)) : (render ts).length ≤ 2 * ts.length := by
  induction ts with
  | nil => simp [render]
  | cons t ts ih => cases t <;> simp [render] <;> omega

/-- C12, CR/LF normalisation: with room for the text, the output is the text with every line end (CR LF, LF CR, bare CR,
    bare LF) written as CR LF and nothing else changed -/
theorem crlf_canonical (room : Nat) (src : List Byte) (h : 2 * src.length ≤ room) :
    crlfGo room none src = render (toks src) := (crlfGo_toks src room).2.2 h

/-- … so the line structure is unchanged: the same lines (empty lines included) and line ends, in the same order -/
theorem crlf_keeps_lines (room : Nat) (src : List Byte) (h : 2 * src.length ≤ room) :
    toks (crlfGo room none src) = toks src := by
  rw [crlf_canonical room src h, toks_render _ (toks_clean src)]

/-- … the number of line ends is unchanged -/
theorem crlf_eol_count (room : Nat) (src : List Byte) (h : 2 * src.length ≤ room) :
    (toks (crlfGo room none src)).count none = (toks src).count none := by
  rw [crlf_keeps_lines room src h]

/-- … and normalising twice is normalising once -/
theorem crlf_idempotent (room : Nat) (src : List Byte) (h : 4 * src.length ≤ room) :
    crlfGo room none (crlfGo room none src) = crlfGo room none src := by
  have h1 : crlfGo room none src = render (toks src) := crlf_canonical room src (by omega)
  have hl : 2 * (render (toks src)).length ≤ room := by
    have := render_length (toks src)
    have := toks_length src
    omega
  rw [h1, crlf_canonical room _ hl, toks_render _ (toks_clean src)]

/-- a destination that is too small cuts the text BETWEEN tokens: the output is the rendering of a prefix of the line
    structure, never half a CR LF pair -/
theorem crlf_truncates_at_token (room : Nat) (src : List Byte) :
    ∃ k, crlfGo room none src = render ((toks src).take k) := (crlfGo_toks src room).1

/-- psf_strlcpy_crlf writes at most `room + 1` bytes before the terminator -/
theorem crlfGo_length (room : Nat) (src : List Byte) : (crlfGo room none src).length ≤ room + 1 :=
  Nat.le_trans (crlfGo_toks src room).2.1 (by omega)

/-- the 16 KiB fields of SF_BROADCAST_INFO / SF_CART_INFO: a text of at most 8191 bytes is never truncated -/
theorem crlfCopy_keeps_lines (src : List Byte) (h : src.length ≤ 8191) :
    toks (crlfGo (VAR_TEXT - 2) none src) = toks src :=
  crlf_keeps_lines _ src (by unfold VAR_TEXT; omega)

-- non-vacuity: an empty line between bare LFs, a run of mixed line ends, a trailing pair
example : toks [97, 10, 10, 98, 10] = [some 97, none, none, some 98, none] := by decide
example : crlfGo 100 none [97, 10, 10, 98, 10] = [97, 13, 10, 13, 10, 98, 13, 10] := by decide
example : toks [13, 13, 10, 10, 13, 10] = [none, none, none, none] := by decide
example : crlfGo 100 none [13, 13, 10, 10, 13, 10] = [13, 10, 13, 10, 13, 10, 13, 10] := by decide
example : crlfGo 3 none [97, 98, 10, 99] = [97, 98, 13, 10] ∧ crlfGo 2 none [97, 98, 10, 99] = [97, 98] := by decide
example : 4 * [97, 10, 10, 98, 10].length ≤ 100 := by decide

/-! ### the collapsing rule (regression class of seed C12-crlf-empty-line-collapse) -/

/-- "a CR or LF starts a line end; the next byte belongs to it when it is a CR or LF" -/
def collapseGo : Nat → List Byte → List Byte
  | _, [] => []
  | room, [a] => if room = 0 then [] else if a = 13 ∨ a = 10 then [13, 10] else [a]
  | room, a :: b :: r =>
    if room = 0 then []
    else if a = 13 ∨ a = 10 then
      (if b = 13 ∨ b = 10 then 13 :: 10 :: collapseGo (room - 2) r else 13 :: 10 :: collapseGo (room - 2) (b :: r))
    else a :: collapseGo (room - 1) (b :: r)

/-- the collapsing rule agrees on CR LF texts and on texts without empty lines, and loses the empty line of "a LF LF b":
    it is not the documented normalisation (`crlf_keeps_lines` fails for it) -/
theorem collapse_rule_loses_empty_line :
    collapseGo 100 [97, 13, 10, 13, 10, 98] = crlfGo 100 none [97, 13, 10, 13, 10, 98] ∧
    collapseGo 100 [97, 10, 98, 13, 99] = crlfGo 100 none [97, 10, 98, 13, 99] ∧
    collapseGo 100 [97, 10, 10, 98] = [97, 13, 10, 98] ∧
    toks (collapseGo 100 [97, 10, 10, 98]) ≠ toks [97, 10, 10, 98] ∧
    toks (crlfGo 100 none [97, 10, 10, 98]) = toks [97, 10, 10, 98] := by
  decide

end Sf.C12Crlf
