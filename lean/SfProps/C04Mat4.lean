-- properties: C04 C11
/-
  C04 / C11 — the MATLAB 4 container (stand-alone L1 model SfModel/Mat4.lean; helpers SfProofs/Mat4Image.lean,
  SfProofs/Small2Session.lean).

  A *session* is `openW` (sf_open SFM_WRITE; the caller's frames value is a parameter — it shows in the cols field
  of the very first header only), any list of `WOp`s storing whole frames, then `close`.
-/
import SfProofs.Mat4Image
namespace Sf.C04Mat4
open Sf Sf.Small2 Sf.Mat4

/-- the rate is a binary64 in its own 1 x 1 matrix: every rate in [1, 2^31 − 1] is reported back exactly -/
theorem mat4_rate_exact (sr : Nat) (h1 : 1 ≤ sr) (h2 : sr ≤ 0x7FFFFFFF) : quant sr = sr := by
  unfold quant; rw [natOfF64_f64OfNat sr h1 (by omega)]; rfl

example : f64OfNat 44100 = 0x40E5888000000000 ∧ f64OfNat 1 = 0x3FF0000000000000 ∧ quant 2147483647 = 2147483647 := by decide +kernel

theorem closedBytes_eq (c : Cfg) (stale : Nat) (ops : List WOp) :
    closedBytes (fmt c) stale ops =
      hdr c { frames := (((opsData ops).length / c.bw : Nat) : Int), filelength := ((68 + (opsData ops).length : Nat) : Int),
              datalength := ((opsData ops).length : Nat) } ++ opsData ops :=
  closed_std (fmt c) (lawful c) rfl c.bw (fun _ _ => rfl) stale ops

/-- **mat4_reopen_info.**  For every accepted configuration and every session of whole frames, under the guard of
    the 32-bit cols field (fewer than 2^31 frames), the closed file re-opens with the requested channels, MAT4 / the
    requested encoding in the byte order of the file, exactly the requested rate and exactly the frames written. -/
theorem mat4_reopen_info (c : Cfg) (hwf : c.wf) (stale : Nat) (ops : List WOp) (hw : WholeFrames c.bw ops)
    (hguard : (opsData ops).length / c.bw < 2 ^ 31) :
    parse (closedBytes (fmt c) stale ops) =
      .ok { ch := c.ch, fmt := c.fmtWord, sr := quant c.sr, frames := (opsData ops).length / c.bw } := by
  have ⟨_, _, _, _, hsr1, hsr2⟩ := hwf
  rw [closedBytes_eq, mat4_rate_exact c.sr hsr1 hsr2]
  have hm := opsData_whole c.bw ops hw
  exact parse_image c hwf _ _ rfl hguard _ (by
    have := Nat.div_add_mod (opsData ops).length c.bw
    rw [hm, Nat.add_zero, Nat.mul_comm] at this; exact this.symm)

def exCfg : Cfg := ⟨2, 2, 2, 44100⟩
def exLe : Cfg := ⟨6, 0, 1, 8000⟩
def exOps : List WOp := [.write [0, 1, 0, 2] false, .update, .write [0, 3, 0, 4, 0, 5, 0, 6] true]
example : exCfg.wf ∧ WholeFrames exCfg.bw exOps ∧ (closedBytes (fmt exCfg) 77 exOps).length = 80 ∧
    parse (closedBytes (fmt exCfg) 77 exOps) = .ok ⟨2, 0x200C0002, 44100, 3⟩ := by decide +kernel
example : exLe.wf ∧ parse (closedBytes (fmt exLe) 0 exOps) = .ok ⟨1, 0x100C0006, 8000, 3⟩ :=
  ⟨by decide, (mat4_reopen_info exLe (by decide) 0 exOps (by decide) (by decide)).trans (by decide)⟩

/-- **mat4_size_fields.**  The file is the 68-byte header plus the audio; the rows field (offset 43) holds the
    channels and the cols field (offset 47) the low 32 bits of audio bytes / block width, in the byte order of the
    file; there is no other length field and nothing is padded. -/
theorem mat4_size_fields (c : Cfg) (hwf : c.wf) (stale : Nat) (ops : List WOp) (bytes : List Byte) (D : Nat)
    (hbytes : bytes = closedBytes (fmt c) stale ops) (hD : D = (opsData ops).length) :
    bytes.length = 68 + D ∧ r32 c.little ((bytes.drop 43).take 4) = c.ch ∧
    r32 c.little ((bytes.drop 47).take 4) = (D / c.bw) % 2 ^ 32 ∧ bytes.drop 68 = opsData ops := by
  rw [closedBytes_eq, ← hD] at hbytes
  have hl : ∀ f, (hdr c f).length = 68 := (lawful c).hlen
  refine ⟨by rw [hbytes, List.length_append, hl, hD], ?_, ?_, by rw [hbytes]; exact List.drop_left' (hl _)⟩ <;>
    simp only [hbytes, hdr, List.append_assoc, drop_app_skip, take_app_head, w32_length, w64_length, typeWord_length,
      show srName.length = 11 from rfl, Nat.reduceSub, Nat.reduceLeDiff, Nat.le_refl, List.drop_zero, r32_w32, wrapU_natCast]
  exact wrapU_of_lt 32 _ (by obtain ⟨_, _, _, hch, _⟩ := hwf; omega)

example : r32 exCfg.little (((closedBytes (fmt exCfg) 77 exOps).drop 47).take 4) = 3 :=
  (mat4_size_fields exCfg (by decide) 77 exOps _ _ rfl rfl).2.2.1.trans (by decide)

/-- **mat4_frames_bound.**  All four encodings are sample-granular and nothing is padded: `N` frames re-open as `N`. -/
theorem mat4_frames_bound (bw N : Nat) (hbw : 0 < bw) : (N * bw) / bw = N ∧ N ≤ (N * bw) / bw ∧ (N * bw) / bw < N + 1 :=
  frames_bound bw N hbw

example : (3 * 4) / 4 = 3 := by decide

/-- **stale_frames_ignored_mat4.**  Closed bytes and update images do not depend on the caller's frames value… -/
theorem stale_frames_ignored_mat4 (c : Cfg) (a b : Nat) (ops : List WOp) :
    closedBytes (fmt c) a ops = closedBytes (fmt c) b ops ∧ snapshotBytes (fmt c) a ops = snapshotBytes (fmt c) b ops :=
  ⟨stale_ignored (fmt c) (lawful c) rfl a b ops, stale_ignored_snapshot (fmt c) (lawful c) a b ops⟩

example : closedBytes (fmt exCfg) 0 exOps = closedBytes (fmt exCfg) 123456 exOps := (stale_frames_ignored_mat4 exCfg 0 123456 exOps).1

/-- …but the header written by sf_open itself carries it in the cols field until the first write call or update -/
theorem mat4_open_image_stale : (openW (fmt exCfg) 0).bytes ≠ (openW (fmt exCfg) 99).bytes := by decide +kernel

/-- **mat4_snapshot_valid.**  After any session prefix of whole frames, the image a header update leaves in the
    store parses with the same parameters and exactly the frames written so far, and is the 68-byte header followed
    by the audio written so far. -/
theorem mat4_snapshot_valid (c : Cfg) (hwf : c.wf) (stale : Nat) (ops : List WOp) (hw : WholeFrames c.bw ops)
    (hguard : (opsData ops).length / c.bw < 2 ^ 31) :
    parse (snapshotBytes (fmt c) stale ops) =
      .ok { ch := c.ch, fmt := c.fmtWord, sr := quant c.sr, frames := (opsData ops).length / c.bw } ∧
    ∃ hdr, hdr.length = 68 ∧ snapshotBytes (fmt c) stale ops = hdr ++ opsData ops :=
  ⟨closed_is_snapshot (fmt c) rfl stale ops ▸ mat4_reopen_info c hwf stale ops hw hguard, snapshot_split (fmt c) (lawful c) stale ops⟩

example : parse (snapshotBytes (fmt exCfg) 5 [.write [1, 2, 3, 4] false]) = .ok ⟨2, 0x200C0002, 44100, 1⟩ :=
  (mat4_snapshot_valid exCfg (by decide) 5 _ (by decide) (by decide)).1.trans (by decide)

end Sf.C04Mat4
