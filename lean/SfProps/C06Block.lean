/-
  C06 (block codecs) — the generic block reader (`Sf.Block.Reader`, the shape of paf24_read / sds_read and of the
  IMA / MS / GSM readers) delivers a function of the frame position only: every read of whole frames that ends
  inside the data is the corresponding slice of the concatenated block stream, for every `decodeBlock`, every
  block length, every channel count, any number of blocks crossed; hence a read cut into two calls gives the same
  items, and a read after a seek to frame k starts at frame k.  Helpers in
  SfProofs/BlockReader.lean.
-/
import SfProofs.BlockReader
namespace Sf.C06Block
open Sf Sf.Block Sf.Block.Proofs

theorem lt_mul_ch_succ (r : Reader) (wf : WF r) (m : Nat) : m < m * r.ch + 1 :=
  Nat.lt_succ_of_le (Nat.le_mul_of_pos_right m wf.ch_pos)

/-- invariant + refinement: from any state satisfying the reader invariant, a request of `m` frames with
    `pos + m ≤ frames` returns exactly items `[pos·ch, (pos+m)·ch)` of the block stream, reports `m·ch`, and
    leaves a state satisfying the invariant at position `pos + m` -/
theorem block_reader_refines_stream (r : Reader) (wf : WF r) (st : RState) (inv : Inv r st) (m : Nat)
    (h : r.pos st + m ≤ r.frames) :
    (r.read st (m * r.ch)).2.1 = r.slice (r.pos st * r.ch) (m * r.ch) ∧ (r.read st (m * r.ch)).2.2 = m * r.ch ∧
      Inv r (r.read st (m * r.ch)).1 ∧ r.pos (r.read st (m * r.ch)).1 = r.pos st + m := by
  obtain ⟨st', h1, h2, h3⟩ := readLoop_spec r wf (m * r.ch + 1) st m inv (lt_mul_ch_succ r wf m) h
  unfold Reader.read
  rw [h1]
  exact ⟨rfl, rfl, h2, h3⟩

/-- the state after `*_init` satisfies the invariant at position 0 (a read keeps it: `block_reader_refines_stream`) -/
theorem block_reader_init (r : Reader) : Inv r r.init ∧ r.pos r.init = 0 := init_inv r

/-- end-of-data rule of the codec loop: nothing delivered, the request zero-filled, state unchanged -/
theorem block_reader_eof (r : Reader) (st : RState) (n : Nat) (hn : n ≠ 0) (h : r.pos st ≥ r.frames) :
    r.read st n = (st, zeros n, 0) := readLoop_eof r n st n hn h

/-- reads that run past `frames`, `frames` not necessarily a whole number of blocks (SDS): the inner call
    delivers `t` frames of the stream with `min m (frames − pos) ≤ t ≤ m` — everything up to `frames`, possibly the
    rest of the block that holds frame `frames − 1` — zero-fills the rest of the request and reports `t·ch`; the
    sf_read_* wrapper then clamps the count to `frames − pos` and zero-fills from there (`RHandle.read`) -/
theorem block_reader_past_end (r : Reader) (wf : WF r) (st : RState) (inv : Inv r st) (m : Nat) :
    ∃ t, t ≤ m ∧ min m (r.frames - r.pos st) ≤ t ∧
      (r.read st (m * r.ch)).2.1 = r.slice (r.pos st * r.ch) (t * r.ch) ++ zeros ((m - t) * r.ch) ∧
      (r.read st (m * r.ch)).2.2 = t * r.ch ∧ Inv r (r.read st (m * r.ch)).1 ∧
      r.pos (r.read st (m * r.ch)).1 = r.pos st + t := by
  obtain ⟨t, st', h1, h2, h3, h4, h5⟩ := readLoop_general r wf (m * r.ch + 1) st m inv (lt_mul_ch_succ r wf m)
  refine ⟨t, h1, h2, ?_⟩
  unfold Reader.read
  rw [h3]
  exact ⟨rfl, rfl, h4, h5⟩

/-- reading a frames and then b frames gives the items, the count and the position of one read of a + b frames
    (both inside the data) -/
theorem partition_invariance_block (r : Reader) (wf : WF r) (st : RState) (inv : Inv r st) (a b : Nat)
    (h : r.pos st + (a + b) ≤ r.frames) :
    (r.read st ((a + b) * r.ch)).2.1 = (r.read st (a * r.ch)).2.1 ++ (r.read (r.read st (a * r.ch)).1 (b * r.ch)).2.1 ∧
    (r.read st ((a + b) * r.ch)).2.2 = (r.read st (a * r.ch)).2.2 + (r.read (r.read st (a * r.ch)).1 (b * r.ch)).2.2 ∧
    r.pos (r.read st ((a + b) * r.ch)).1 = r.pos (r.read (r.read st (a * r.ch)).1 (b * r.ch)).1 := by
  obtain ⟨ha1, ha2, ha3, ha4⟩ := block_reader_refines_stream r wf st inv a (by omega)
  obtain ⟨hb1, hb2, _, hb4⟩ := block_reader_refines_stream r wf _ ha3 b (by rw [ha4]; omega)
  obtain ⟨hc1, hc2, _, hc4⟩ := block_reader_refines_stream r wf st inv (a + b) h
  rw [hc1, hc2, hc4, ha1, ha2, hb1, hb2, hb4, ha4, Nat.add_mul, slice_append, Nat.add_mul]
  exact ⟨rfl, rfl, by omega⟩

/-- a seek to frame k loads block k / spb and skips k % spb: the next read delivers frames k, k+1, … -/
theorem seek_then_read_block (r : Reader) (wf : WF r) (k m : Nat) (h : k + m ≤ r.frames) :
    (r.read (r.seek k) (m * r.ch)).2.1 = r.slice (k * r.ch) (m * r.ch) ∧ (r.read (r.seek k) (m * r.ch)).2.2 = m * r.ch ∧
      r.pos (r.read (r.seek k) (m * r.ch)).1 = k + m := by
  obtain ⟨hi, hp⟩ := seek_inv r wf k
  obtain ⟨h1, h2, _, h4⟩ := block_reader_refines_stream r wf (r.seek k) hi m (by rw [hp]; exact h)
  rw [hp] at h1 h4
  exact ⟨h1, h2, h4⟩

/-- the PAF24 reader over any data region is well formed (so the theorems above apply to it) -/
theorem paf24_reader_wf (ch : Nat) (big : Bool) (data : List Byte) (hch : 0 < ch) : WF (Paf24.reader ch big data) := by
  refine ⟨Nat.succ_pos 9, hch, ?_⟩
  intro k
  simp only [Paf24.reader]
  split
  · simp [Paf24.decBlock]
  · simp [zeros]

/-! ## IMA ADPCM (WAV layout) and MS ADPCM: the readers are instances, so the theorems above are their
    model-level seek / read theorems (the block decoders are the ones proved equal to the reference decoders in
    SfProps/C20Adpcm.lean) -/

theorem adpcm_reader_wf (dec : List Byte → List Int) (ch ba spb : Nat) (data : List Byte) (hch : 0 < ch) (hspb : 0 < spb) :
    WF (adpcmReader dec ch ba spb data) :=
  ⟨hspb, hch, fun _ => tableSrc_length ..⟩

/-- IMA WAV: after a seek to frame k, a read of m frames inside the data returns frames k … k+m−1 of the decoded
    block stream, whatever the block bytes are -/
theorem ima_wav_seek_then_read (ch ba spb : Nat) (data : List Byte) (hch : 0 < ch) (hspb : 0 < spb) (k m : Nat)
    (h : k + m ≤ (imaWavReader ch ba spb data).frames) :
    ((imaWavReader ch ba spb data).read ((imaWavReader ch ba spb data).seek k) (m * ch)).2.1 =
      (imaWavReader ch ba spb data).slice (k * ch) (m * ch) :=
  (seek_then_read_block _ (adpcm_reader_wf _ ch ba spb data hch hspb) k m h).1

theorem ms_seek_then_read (ch ba spb : Nat) (data : List Byte) (hch : 0 < ch) (hspb : 0 < spb) (k m : Nat)
    (h : k + m ≤ (msReader ch ba spb data).frames) :
    ((msReader ch ba spb data).read ((msReader ch ba spb data).seek k) (m * ch)).2.1 =
      (msReader ch ba spb data).slice (k * ch) (m * ch) :=
  (seek_then_read_block _ (adpcm_reader_wf _ ch ba spb data hch hspb) k m h).1

/-- non-vacuity: a two-frames-per-block, two-channel reader over three blocks; a read that crosses two block
    boundaries after a seek into the middle of a block -/
def toy : Reader := { spb := 2, ch := 2, frames := 6, src := fun k => [100 * k, 100 * k + 1, 100 * k + 2, 100 * k + 3] }
theorem toy_wf : WF toy := ⟨by decide, by decide, fun _ => rfl⟩
example : (toy.read (toy.seek 1) (4 * 2)).2.1 = [2, 3, 100, 101, 102, 103, 200, 201] ∧
    toy.slice (1 * 2) (4 * 2) = [2, 3, 100, 101, 102, 103, 200, 201] ∧ toy.pos (toy.seek 1) + 4 ≤ toy.frames := by decide
example : (toy.read (toy.seek 6) 4).2 = ([0, 0, 0, 0], 0) := by decide
/-- a reader whose data ends inside a block (5 of 6 frames): a read of 3 frames from frame 3 delivers the rest of
    the block (t = 3 ≥ min 3 (5 − 3)); the wrapper clamps to 2 frames -/
def toy5 : Reader := { toy with frames := 5 }
example : (toy5.read (toy5.seek 3) (3 * 2)).2 = ([102, 103, 200, 201, 202, 203], 6) ∧
    ((RHandle.open toy5 5).seek 3 |>.read 0 6).2 = ([102, 103, 200, 201, 0, 0], 4) := by decide

end Sf.C06Block
