/-
  C02 (floating-point part) — sample-type conversions follow the documented rules exactly.
  The lemmas on formats, roundings and the parts of the pcm.c kernels are in SfProofs/Float*.lean.

  A float/double is its bit pattern (`Nat`); `Fmt.toDy` gives the dyadic (sign, m, e) its fields denote and
  `Dy.val : Dy → ℚ` the rational number (-1)^sign · m · 2^e.  For Inf/NaN patterns `toDy` returns the value the
  fields would have with the all-ones exponent treated as an ordinary one (magnitude ≥ 2^128 resp. 2^1024 =
  `Fmt.huge`); `Fmt.isFinite` separates the two cases, and `finite_iff_mag_lt` says so.
-/
import SfProps.C02
import SfProofs.FloatPcm
namespace Sf.C02
open Sf Sf.Float

/-- `rneShr m k` (= m / 2^k rounded half-to-even) is within half a unit: 2·|rneShr m k · 2^k − m| ≤ 2^k -/
theorem rneShr_half_ulp (m k : Nat) : 2 * ((rneShr m k : Int) * 2 ^ k - m).natAbs ≤ 2 ^ k :=
  Sf.Float.rneShr_half_ulp m k

/-- … and exactly on a tie the result is even -/
theorem rneShr_ties_to_even (m k : Nat)
    (h : 2 * (rneShr m k * 2 ^ k) = 2 * m + 2 ^ k ∨ 2 * m = 2 * (rneShr m k * 2 ^ k) + 2 ^ k) : rneShr m k % 2 = 0 :=
  Sf.Float.rneShr_tie_even m k h

theorem rneShr_monotone (m₁ m₂ k : Nat) (h : m₁ ≤ m₂) : rneShr m₁ k ≤ rneShr m₂ k := Sf.Float.rneShr_mono m₁ m₂ k h

theorem rneShr_of_multiple (a k : Nat) : rneShr (a * 2 ^ k) k = a := Sf.Float.rneShr_exact a k

example : rneShr 5 1 = 2 ∧ rneShr 7 1 = 4 ∧ rneShr 6 2 = 2 ∧ rneShr 10 2 = 2 ∧ rneShr 11 2 = 3 := by decide

/-- `Dy.rint` (what `lrint` / `cvtss2si` compute in range) is the nearest integer, ties to even:
    |rint a − a| ≤ 1/2, and rint a is even whenever |rint a − a| = 1/2 -/
theorem rint_nearest_even (a : Dy) :
    |(a.rint : ℚ) - a.val| ≤ 1 / 2 ∧ (|(a.rint : ℚ) - a.val| = 1 / 2 → a.rint % 2 = 0) := by
  have h := Dy.rint_isRNE a
  refine ⟨h.abs_le, fun he => h.2.2 ?_⟩
  rcases abs_eq (by norm_num : (0 : ℚ) ≤ 1 / 2) |>.mp he with e | e
  · left; linarith
  · right; linarith

theorem rint_monotone (a b : Dy) (h : a.val ≤ b.val) : a.rint ≤ b.rint :=
  (Dy.rint_isRNE a).mono (Dy.rint_isRNE b) h

theorem rint_of_int (a : Dy) (z : Int) (h : a.val = z) : a.rint = z := (Dy.rint_isRNE a).eq_int z h

example : (⟨false, 5, -1⟩ : Dy).rint = 2 ∧ (⟨false, 7, -1⟩ : Dy).rint = 4 ∧ (⟨true, 5, -1⟩ : Dy).rint = -2 ∧
    (⟨false, 3, 2⟩ : Dy).rint = 12 := by decide

/-! ## rounding to a format is exact on representable values -/

/-- if m·2^e = n·2^q with n < 2^(mbits+1), q ≥ qmin (normal or subnormal quantum) and the value is below the overflow
    threshold, then converting to the format and back gives the same sign, the same value, a finite pattern -/
theorem ofDy_toDy_exact (f : Fmt) (hf : f.Std) (d : Dy) (h : f.Rep d) :
    (f.toDy (f.ofDy d)).val = d.val ∧ (f.toDy (f.ofDy d)).neg = d.neg ∧ f.isFinite (f.ofDy d) = true :=
  let ⟨a, _, c, e⟩ := toDy_ofDy_exact f hf d h; ⟨c, a, e⟩

/-- non-vacuity: 0x7FFFFF·2^-23 (= 1 − 2^-23) is representable in binary32 and encodes as 0x3F7FFFFE -/
example : f32.Rep ⟨false, 0x7FFFFF, -23⟩ ∧ f32.ofDy ⟨false, 0x7FFFFF, -23⟩ = 0x3F7FFFFE := by
  refine ⟨rep_of f32 (Or.inl rfl) _ 0x7FFFFF (-23) (by decide) (by decide) (by decide) rfl, by decide⟩

/-- in general the result is the value rounded at the quantum (ties to even), capped at the overflow threshold -/
theorem toDy_ofDy_rounds (f : Fmt) (hf : f.Std) (d : Dy) :
    (f.toDy (f.ofDy d)).neg = d.neg ∧ (f.toDy (f.ofDy d)).mag = min (f.rnd d).mag f.huge ∧
    IsRNE (d.mag * 2 ^ (-(f.quantum d))) (f.rnd d).m ∧ |(f.rnd d).mag - d.mag| ≤ 2 ^ (f.quantum d - 1) :=
  ⟨(toDy_ofDy f hf d).1, (toDy_ofDy f hf d).2, rnd_isRNE f d, rnd_err f d⟩

/-- `(float) x` is exact for |x| < 2^24, `(double) x` for |x| < 2^53 -/
theorem f32_ofInt_exact (x : Int) (hx : x.natAbs < 2 ^ 24) : (f32.toDy (f32.ofInt x)).val = x :=
  ofInt_exact f32 (Or.inl rfl) x hx
theorem f64_ofInt_exact (x : Int) (hx : x.natAbs < 2 ^ 53) : (f64.toDy (f64.ofInt x)).val = x :=
  ofInt_exact f64 (Or.inr rfl) x hx

example : f32.ofInt (-8388607) = 0xCAFFFFFE ∧ f32.ofInt 16777217 = 0x4B800000 := by decide

/-- multiplying a normal number by 2^k is exact while the exponent field stays in 1 … emax−1 -/
theorem mul_pow2_exact_normal (f : Fmt) (hf : f.Std) (b : Nat) (k : Int) (hn : f.isNormal b = true)
    (h1 : 1 ≤ (f.expo b : ℤ) + k) (h2 : (f.expo b : ℤ) + k < f.emax) :
    (f.toDy (f.ofDy ((f.toDy b).mul ⟨false, 1, k⟩))).val = (f.toDy b).val * 2 ^ k := by
  have hfr := frac_lt f b
  have h0 : f.expo b ≠ 0 := by
    unfold Fmt.isNormal at hn; simp at hn; exact hn.2
  have hd := toDy_normal f b h0
  apply mul_pow2_exact f hf b k
  · rw [hd]; simp only; omega
  · rw [hd]; unfold Dy.mag; simp only
    rw [mul_assoc, ← zpow2_add]
    have := mul_zpow_lt (2 ^ f.mbits + f.frac b) (f.mbits + 1) ((f.expo b : ℤ) - 1 + f.qmin + k) (by omega)
    unfold Fmt.huge
    exact lt_of_lt_of_le this (zpow2_le (by push_cast; omega))

example : f32.isNormal 0x3F800001 = true ∧ f32.expo 0x3F800001 = 127 ∧
    f32.ofDy ((f32.toDy 0x3F800001).mul ⟨false, 1, -31⟩) = 0x30000001 := by decide

theorem f32to64_exact (b : Nat) (hfin : f32.isFinite b = true) :
    (f64.toDy (f32to64 b)).val = (f32.toDy b).val ∧ f64.isFinite (f32to64 b) = true :=
  Sf.Float.f32to64_exact b hfin

theorem f64to32_f32to64 (b : Nat) (hb : b < 2 ^ 32) (hfin : f32.isFinite b = true) : f64to32 (f32to64 b) = b :=
  Sf.Float.f64to32_f32to64 b hb hfin

example : f32.isFinite 0x00000001 = true ∧ f32to64 0x00000001 = 0x36A0000000000000 ∧
    f64to32 0x36A0000000000000 = 1 := by decide


/-! ## float / double reads of integer PCM -/

/-- **float_read_exact**: reading code c of a w-bit sample as double (any w) or as float (w ≤ 24) gives exactly
    c / 2^(w−1) with normalisation on and exactly c with normalisation off (24-bit included: the kernel's
    (c·256)/2^31 resp. (c·256)/256 is the same number); the result is finite -/
theorem float_read_exact (p : PcmFmt) (hp : PcmFmt.valid p) (f : Fmt) (hf : f.Std) (hfit : p.w = 32 → f = f64)
    (norm : Bool) (c : Int) (hc : inRange p.w c) :
    (f.toDy (p.toFloat f norm c)).val = (if norm then (c : ℚ) / 2 ^ (p.w - 1) else c) ∧
    f.isFinite (p.toFloat f norm c) = true := by
  have hw := hp.1
  obtain ⟨r1, r2, r3, r4⟩ := std_ranges f hf
  have hw32 : 1 ≤ p.w ∧ p.w ≤ 32 := by omega
  rw [toFloat_pattern p f hf norm c hw hc]
  have hK : -31 ≤ (if norm then -((p.w : ℤ) - 1) else 0) ∧ (if norm then -((p.w : ℤ) - 1) else 0) ≤ 0 := by split <;> omega
  have hrep := rep_of f hf ⟨decide (c < 0), c.natAbs, if norm then -((p.w : ℤ) - 1) else 0⟩ c.natAbs
    (if norm then -((p.w : ℤ) - 1) else 0) (code_fits p f hf c hw hc hfit) (by omega) (by omega) rfl
  obtain ⟨_, _, hv, hfin⟩ := toDy_ofDy_exact f hf _ hrep
  refine ⟨?_, hfin⟩
  rw [hv, Dy.intScaled_val]
  cases norm
  · simp
  · simp only [if_true]
    rw [show -((p.w : ℤ) - 1) = -((p.w - 1 : ℕ) : ℤ) by omega, zpow_neg, zpow_natCast, div_eq_mul_inv]

example : PcmFmt.valid ⟨24, false, false⟩ ∧ inRange 24 (-8388607) ∧
    (⟨24, false, false⟩ : PcmFmt).toFloat f32 true (-8388607) = 0xBF7FFFFE ∧
    (⟨24, false, false⟩ : PcmFmt).toFloat f32 false (-8388607) = 0xCAFFFFFE :=
  ⟨by unfold PcmFmt.valid; decide, by unfold inRange; decide, by decide, by decide⟩

/-- every normalised read, 32-bit into float included, is ONE correctly rounded (nearest, ties to even) conversion
    of c / 2^(w−1) to the caller's format; for w = 32 and float this is where rounding really happens -/
theorem float_read_single_rounding (p : PcmFmt) (hp : PcmFmt.valid p) (f : Fmt) (hf : f.Std) (c : Int)
    (hc : inRange p.w c) :
    p.toFloat f true c = f.ofDy ⟨decide (c < 0), c.natAbs, -((p.w : ℤ) - 1)⟩ :=
  toFloat_pattern p f hf true c hp.1 hc

/-- 32-bit PCM read as float without normalisation is `(float) c` -/
theorem float_read_w32_raw (p : PcmFmt) (hw : p.w = 32) (c : Int) (hc : inRange 32 c) :
    p.toFloat f32 false c = f32.ofInt c :=
  toFloat_f32_w32_raw p hw c hc

/-- the rounding is visible: 2^31 − 1 reads as 1.0f, 2^24 + 1 as 2^-7 exactly -/
example : (⟨32, false, false⟩ : PcmFmt).toFloat f32 true 2147483647 = 0x3F800000 ∧
    (⟨32, false, false⟩ : PcmFmt).toFloat f32 true 16777217 = 0x3C000000 ∧
    (⟨32, false, false⟩ : PcmFmt).toFloat f32 false 16777219 = 0x4B800002 := by decide

/-- **cross_type_agree_float**: the double read is exactly (the int read) / 2^31 -/
theorem cross_type_agree_float (p : PcmFmt) (hp : PcmFmt.valid p) (c : Int) (hc : inRange p.w c) :
    (f64.toDy (p.toFloat f64 true c)).val = (p.toS32 c : ℚ) / 2 ^ 31 := by
  rw [(float_read_exact p hp f64 (Or.inr rfl) (fun _ => rfl) true c hc).1, int_msb_rule_read_s32 p hp c hc]
  rcases hp.1 with h | h | h | h <;> simp only [h, if_true] <;> push_cast <;> norm_num <;> ring

/-- every float / double read of a PCM code is the int read of that code divided by 2^31 (normalisation on) or by
    2^(32−w) (off), rounded once to the caller's format -/
theorem float_read_of_int_read (p : PcmFmt) (hp : PcmFmt.valid p) (f : Fmt) (hf : f.Std) (norm : Bool) (c : Int)
    (hc : inRange p.w c) :
    p.toFloat f norm c =
      f.ofDy ⟨decide (p.toS32 c < 0), (p.toS32 c).natAbs, -((if norm then 31 else 32 - p.w : ℕ) : ℤ)⟩ := by
  have hw : 1 ≤ p.w ∧ p.w ≤ 32 := by rcases hp.1 with h | h | h | h <;> omega
  rw [toFloat_pattern p f hf norm c hp.1 hc, int_msb_rule_read_s32 p hp c hc]
  apply ofDy_congr
  · have h2 : (0 : ℤ) < 2 ^ (32 - p.w) := by positivity
    simp only [decide_eq_decide]
    constructor
    · intro h; exact (Int.mul_lt_mul_of_pos_right h h2).trans_eq (Int.zero_mul _)
    · intro h; by_contra hn
      exact absurd h (not_lt.mpr (Int.mul_nonneg (not_lt.mp hn) (le_of_lt h2)))
  · unfold Dy.mag; simp only
    rw [Int.natAbs_mul, Int.natAbs_pow]; push_cast
    rw [mul_assoc, ← zpow_natCast, ← zpow2_add]
    congr 2
    cases norm <;> simp <;> omega

/-- … and the float read is the int read / 2^31 rounded once to binary32 -/
theorem cross_type_agree_float32 (p : PcmFmt) (hp : PcmFmt.valid p) (c : Int) (hc : inRange p.w c) :
    p.toFloat f32 true c = f32.ofDy ⟨decide (p.toS32 c < 0), (p.toS32 c).natAbs, -31⟩ :=
  float_read_of_int_read p hp f32 (Or.inl rfl) true c hc

example : (⟨16, false, true⟩ : PcmFmt).toS32 (-12345) = -809041920 ∧
    (⟨16, false, true⟩ : PcmFmt).toFloat f64 true (-12345) = 0xBFD81C8000000000 := by decide


/-! ## writes with clipping (SFC_SET_CLIPPING on)

These hold for EVERY bit pattern x.  For a finite pattern `(f.toDy x).val` is its real value.  For an Inf/NaN pattern
`toDy` yields ±(2^mbits + frac)·2^(emax−1+qmin), a magnitude ≥ `f.huge` (2^128 / 2^1024, see `nonfinite_is_huge`), so in
the model such patterns saturate according to their sign bit; that is what the C code does for ±Inf, while NaN is
outside the property's quantifier ("finite values") and the model makes no claim of fidelity there. -/

theorem nonfinite_is_huge (f : Fmt) (hf : f.Std) (x : Nat) : f.isFinite x = true ↔ |(f.toDy x).val| < f.huge := by
  rw [Dy.abs_val]; exact finite_iff_mag_lt f hf x

/-- **clip_saturates (range)**: the stored code is always within [−2^(w−1), 2^(w−1)−1]: no wrap, for every pattern,
    both build variants, normalisation on or off -/
theorem clip_in_range (p : PcmFmt) (hp : PcmFmt.valid p) (f : Fmt) (hf : f.Std) (v : Variant) (norm : Bool) (x : Nat) :
    inRange p.w (p.ofFloat f v norm true x) := by
  have := ofFloat_clip_range p hp.1 f hf v norm x
  unfold inRange; omega

/-- **clip_saturates (extremes)**: scaled value x·2^(w−1) (norm on) or x (norm off) ≥ 2^(w−1)−1 ⇒ MAX;  ≤ −2^(w−1) ⇒ MIN -/
theorem clip_saturates (p : PcmFmt) (hp : PcmFmt.valid p) (f : Fmt) (hf : f.Std) (v : Variant) (norm : Bool) (x : Nat) :
    ((((2 ^ (p.w - 1) - 1 : ℤ) : ℚ) ≤ (f.toDy x).val * 2 ^ (if norm then p.w - 1 else 0)) →
        p.ofFloat f v norm true x = 2 ^ (p.w - 1) - 1) ∧
    (((f.toDy x).val * 2 ^ (if norm then p.w - 1 else 0) ≤ ((-2 ^ (p.w - 1) : ℤ) : ℚ)) →
        p.ofFloat f v norm true x = -2 ^ (p.w - 1)) := by
  have hw := hp.1
  have hh := pow_w_le_huge p hw f hf
  have hpos : (0 : ℚ) < f.huge := two_zpow_pos _
  rw [show (if norm then p.w - 1 else 0) = clipShift p norm from rfl]
  constructor
  · intro h
    rw [ofFloat_clip_eq, (clipSv_val p f hf norm x).1]
    rw [if_pos]
    push_cast at h hh ⊢
    exact le_max_of_le_right (le_min h (by linarith))
  · intro h
    have hP : (1 : ℚ) ≤ (((2 : ℤ) ^ (p.w - 1) : ℤ) : ℚ) := by
      rcases hw with h | h | h | h <;> simp only [h] <;> norm_num
    rw [ofFloat_clip_eq, (clipSv_val p f hf norm x).1]
    have hle : max (-f.huge) (min ((f.toDy x).val * 2 ^ clipShift p norm) f.huge) ≤ ((-2 ^ (p.w - 1) : ℤ) : ℚ) := by
      push_cast at h hh hP ⊢
      exact max_le (by linarith) (le_trans (min_le_left _ _) h)
    rw [if_neg, if_pos hle]
    push_cast at hle hP ⊢
    linarith

/-- **clip_saturates (monotone)**: a larger input never gives a smaller code -/
theorem clip_monotone (p : PcmFmt) (hp : PcmFmt.valid p) (f : Fmt) (hf : f.Std) (v : Variant) (norm : Bool)
    (x₁ x₂ : Nat) (h : (f.toDy x₁).val ≤ (f.toDy x₂).val) :
    p.ofFloat f v norm true x₁ ≤ p.ofFloat f v norm true x₂ := by
  have hw := hp.1
  have hP := pow_w_cases p hw
  have hsv := clipSv_mono p f hf norm x₁ x₂ h
  have r1 := ofFloat_clip_range p hw f hf v norm x₁
  have r2 := ofFloat_clip_range p hw f hf v norm x₂
  by_cases a2 : ((2 ^ (p.w - 1) - 1 : ℤ) : ℚ) ≤ (clipSv p f norm x₂).val
  · have : p.ofFloat f v norm true x₂ = 2 ^ (p.w - 1) - 1 := by rw [ofFloat_clip_eq, if_pos a2]
    omega
  by_cases a1 : ((2 ^ (p.w - 1) - 1 : ℤ) : ℚ) ≤ (clipSv p f norm x₁).val
  · exact absurd (le_trans a1 hsv) a2
  by_cases b1 : (clipSv p f norm x₁).val ≤ ((-2 ^ (p.w - 1) : ℤ) : ℚ)
  · have : p.ofFloat f v norm true x₁ = -2 ^ (p.w - 1) := by rw [ofFloat_clip_eq, if_neg a1, if_pos b1]
    omega
  by_cases b2 : (clipSv p f norm x₂).val ≤ ((-2 ^ (p.w - 1) : ℤ) : ℚ)
  · exact absurd (le_trans hsv b2) b1
  rw [(ofFloat_clip_mid p hw f hf v norm x₁ a1 b1).1, (ofFloat_clip_mid p hw f hf v norm x₂ a2 b2).1]
  exact (Dy.rint_isRNE _).mono (Dy.rint_isRNE _) (clipArg_mono p f norm x₁ x₂ hsv)

/-- 1.0f, −1.0f, 1.5f, 0.999…f, +Inf, −Inf, and 0.3f into 16-bit with clipping -/
example : (⟨16, false, false⟩ : PcmFmt).ofFloat f32 .sse2 true true 0x3F800000 = 32767 ∧
    (⟨16, false, false⟩ : PcmFmt).ofFloat f32 .lrint true true 0xBF800000 = -32768 ∧
    (⟨16, false, false⟩ : PcmFmt).ofFloat f32 .sse2 true true 0x3FC00000 = 32767 ∧
    (⟨16, false, false⟩ : PcmFmt).ofFloat f32 .sse2 true true 0x3F7FFFFF = 32767 ∧
    (⟨16, false, false⟩ : PcmFmt).ofFloat f32 .sse2 true true 0x7F800000 = 32767 ∧
    (⟨16, false, false⟩ : PcmFmt).ofFloat f32 .sse2 true true 0xFF800000 = -32768 ∧
    (⟨16, false, false⟩ : PcmFmt).ofFloat f32 .sse2 true true 0x3E99999A = 9830 := by decide


/-! ## writes without clipping, normalisation on: |x| ≤ 1

`c = lrint (x ·ₜ normfact)` where `·ₜ` is the product rounded in the caller's type T and normfact is
2^(w−1) − 1 converted to T (`PcmFmt.ofFloat`, which is this formula by definition).  `IsRNE v n` says: n is the integer
nearest to v, ties to even (|n − v| ≤ 1/2, and n even when |n − v| = 1/2). -/

/-- **float_write_inrange**: finite |x| ≤ 1, w ≤ 24 from float or any w from double:
    * no wrap: |c| ≤ 2^(w−1) − 1;
    * |c − x·(2^(w−1)−1)| ≤ 1/2 + 2^(w−3−mbits) (half a unit of the integer rounding plus half an ulp of the product,
      mbits = 23 / 52);
    * whenever the product x·(2^(w−1)−1) is representable in the caller's type, c is exactly the nearest integer,
      ties to even -/
theorem float_write_inrange (p : PcmFmt) (hp : PcmFmt.valid p) (f : Fmt) (hf : f.Std) (hfit : p.w = 32 → f = f64)
    (v : Variant) (x : Nat) (hx : |(f.toDy x).val| ≤ 1) :
    (p.ofFloat f v true false x).natAbs ≤ 2 ^ (p.w - 1) - 1 ∧
    |((p.ofFloat f v true false x : ℤ) : ℚ) - (f.toDy x).val * ((2 ^ (p.w - 1) - 1 : ℤ) : ℚ)|
        ≤ 1 / 2 + 2 ^ ((p.w : ℤ) - 3 - f.mbits) ∧
    (f.RepMag ((f.toDy x).mag * ((2 ^ (p.w - 1) - 1 : ℤ) : ℚ)) →
        IsRNE ((f.toDy x).val * ((2 ^ (p.w - 1) - 1 : ℤ) : ℚ)) (p.ofFloat f v true false x)) := by
  have hw := hp.1
  obtain ⟨r1, r2, r3, r4⟩ := std_ranges f hf
  obtain ⟨nn, nm⟩ := normfact_exact p hw f hf hfit
  have hP := pow_w_cases p hw
  have hcast : (((2 : ℕ) ^ (p.w - 1) : ℕ) : ℤ) = (2 : ℤ) ^ (p.w - 1) := by push_cast; rfl
  rw [ofFloat_noclip_eq]
  simp only [if_true]
  generalize hN : f.toDy (f.ofInt (2 ^ (p.w - 1) - 1)) = N at nn nm
  generalize hBdef : ((2 : ℤ) ^ (p.w - 1) - 1) = B at nm hP ⊢
  have hB0 : 0 ≤ B := by omega
  have hBlt : (B : ℚ) < 2 ^ ((p.w : ℤ) - 1) := by
    have : (B : ℚ) < ((2 ^ (p.w - 1) : ℤ) : ℚ) := by exact_mod_cast (by omega : B < 2 ^ (p.w - 1))
    have e : (((2 : ℤ) ^ (p.w - 1) : ℤ) : ℚ) = 2 ^ ((p.w : ℤ) - 1) := by
      push_cast; rw [← zpow_natCast]; congr 1
      rcases hw with h | h | h | h <;> simp [h]
    rwa [e] at this
  have hBrep : f.RepMag (B : ℚ) :=
    ⟨B.natAbs, 0, code_fits p f hf B hw ⟨by omega, by omega⟩ hfit, by omega,
      by rw [Nat.cast_natAbs, abs_of_nonneg hB0]; simp⟩
  have hmag : ((f.toDy x).mul N).mag = (f.toDy x).mag * B := by rw [Dy.mul_mag, nm]
  have hval : ((f.toDy x).mul N).val = (f.toDy x).val * B := by
    rw [Dy.mul_val, Dy.val_eq N, nn, nm]; simp
  have hle : ((f.toDy x).mul N).mag ≤ B := by
    rw [hmag]; rw [Dy.abs_val] at hx
    have : (0 : ℚ) ≤ B := by exact_mod_cast hB0
    nlinarith
  obtain ⟨r, lo, hi, herr, hrne, e⟩ := lrint_round f hf v ((f.toDy x).mul N) B hB0 (by omega) hBrep hle
  rw [← hval, ← hmag, e, if_neg (by omega : r ≠ 2147483648)]
  refine ⟨by omega, le_trans herr (add_le_add le_rfl ?_), hrne⟩
  by_cases hm0 : ((f.toDy x).mul N).m = 0
  · rw [rnd_mag_zero f _ hm0, (Dy.mag_eq_zero_iff _).mpr hm0]; simp; positivity
  · have hq := quantum_le_of_mag_lt f _ hm0 ((p.w : ℤ) - 1) (lt_of_le_of_lt hle hBlt)
      (by rcases hw with h | h | h | h <;> simp only [h] <;> omega)
    exact le_trans (rnd_err f _) (zpow2_le (by omega))

/-- non-vacuity, and halves going to even: 0.5f → 16383.5 → 16384 (up to even); 0x38A00140 → float product exactly 2.5 → 2
    (down to even); 1.0f → 32767; −1.0f → −32767 -/
example : |(f32.toDy 0x3F000000).val| ≤ 1 ∧
    (⟨16, false, false⟩ : PcmFmt).ofFloat f32 .sse2 true false 0x3F000000 = 16384 ∧
    (⟨16, false, false⟩ : PcmFmt).ofFloat f32 .lrint true false 0x3F800000 = 32767 ∧
    (⟨16, false, false⟩ : PcmFmt).ofFloat f32 .sse2 true false 0xBF800000 = -32767 ∧
    f32.toDy (f32.ofDy ((f32.toDy 0x38A00140).mul (f32.toDy (f32.ofInt 32767)))) = ⟨false, 10485760, -22⟩ ∧
    (⟨16, false, false⟩ : PcmFmt).ofFloat f32 .sse2 true false 0x38A00140 = 2 := by
  refine ⟨?_, by decide, by decide, by decide, by decide, by decide⟩
  have : f32.toDy 0x3F000000 = ⟨false, 8388608, -24⟩ := by decide
  rw [this, Dy.abs_val]; norm_num [Dy.mag]

/-- **the double-rounding gap, explicit**: for x = 0x38400180 the real product x·32767 is below 1.5 (nearest integer 1)
    but the float product is exactly 1.5, which `lrint` takes to the even neighbour 2; so "nearest integer to
    x·(2^(w−1)−1)" holds only up to the product's own rounding, as bounded in `float_write_inrange` -/
theorem double_rounding_witness :
    (f32.toDy 0x38400180).val * 32767 < 3 / 2 ∧
    (⟨16, false, false⟩ : PcmFmt).ofFloat f32 .sse2 true false 0x38400180 = 2 := by
  refine ⟨?_, by decide⟩
  have : f32.toDy 0x38400180 = ⟨false, 12583296, -38⟩ := by decide
  rw [this]; norm_num [Dy.val]

/-- the no-wrap clause of `float_write_inrange` for EVERY width and type (without `hfit`), on the closed interval [−1, 1] — false,
    see below -/
def float_write_inrange_full : Prop :=
  ∀ (p : PcmFmt), PcmFmt.valid p → ∀ (f : Fmt), f.Std → ∀ (v : Variant) (x : Nat), |(f.toDy x).val| ≤ 1 →
    (p.ofFloat f v true false x).natAbs ≤ 2 ^ (p.w - 1) - 1

/-- **the examined case w = 32 from float**: `(float) 0x7FFFFFFF` is 2^31, so x = 1.0f gives the product 2^31, which is
    outside `int`; both build variants return INT_MIN (0x80000000).  (x = 1.0 is the closed end of the interval; the
    documented input range of the property statement is [−1, 1), which `float_write_w32_from_float` covers.) -/
theorem float_write_inrange_full_fails : ¬ float_write_inrange_full := by
  intro h
  have := h ⟨32, false, false⟩ (by unfold PcmFmt.valid; decide) f32 (Or.inl rfl) .sse2 0x3F800000 (by
    have : f32.toDy 0x3F800000 = ⟨false, 8388608, -23⟩ := by decide
    rw [this, Dy.abs_val]; norm_num [Dy.mag])
  revert this; decide

theorem float_write_w32_one_wraps (v : Variant) :
    (⟨32, false, false⟩ : PcmFmt).ofFloat f32 v true false 0x3F800000 = -2147483648 := by cases v <;> decide

/-- w = 32 from float, −1 ≤ x < 1 (the documented range): no wrap, and the code is exactly the integer nearest to
    x·2^31 (ties to even) — the scale is 2^31, not 2^31 − 1, because the normfact is rounded to float;
    for |x| ≤ 1 in general the only exception is the value 2^31 itself, stored as INT_MIN -/
theorem float_write_w32_from_float (p : PcmFmt) (hw : p.w = 32) (v : Variant) (x : Nat) :
    ((-1 ≤ (f32.toDy x).val ∧ (f32.toDy x).val < 1) →
      IsRNE ((f32.toDy x).val * 2 ^ 31) (p.ofFloat f32 v true false x) ∧ inRange 32 (p.ofFloat f32 v true false x)) ∧
    (|(f32.toDy x).val| ≤ 1 → ∃ r : ℤ, IsRNE ((f32.toDy x).val * 2 ^ 31) r ∧
      p.ofFloat f32 v true false x = if r = 2147483648 then -2147483648 else r) := by
  constructor
  · rintro ⟨h1, h2⟩
    obtain ⟨r, hr, b1, b2, hc⟩ := ofFloat_w32_f32 p hw v x (by rw [abs_le]; constructor <;> linarith)
    -- the largest binary32 value below 1 is 1 − 2^-24, so the product is at most 2^31 − 2^7 = 2147483520
    have hle : (f32.toDy x).val * 2 ^ 31 ≤ ((2147483520 : ℤ) : ℚ) := by
      rw [Dy.val_eq] at h2 ⊢
      have hm0 := Dy.mag_nonneg (f32.toDy x)
      split at h2 <;> rename_i hs <;> simp only [hs, if_true, Bool.false_eq_true, if_false]
      · push_cast; nlinarith
      · have := f32_lt_one_grid x h2
        push_cast; norm_num at this ⊢; linarith
    have b3 := hr.le_int _ hle
    have hne : r ≠ 2147483648 := by omega
    rw [if_neg hne] at hc
    rw [hc]
    exact ⟨hr, by unfold inRange; omega⟩
  · intro h
    obtain ⟨r, hr, _, _, hc⟩ := ofFloat_w32_f32 p hw v x h
    exact ⟨r, hr, hc⟩

example : (⟨32, false, true⟩ : PcmFmt).ofFloat f32 .sse2 true false 0x3F7FFFFF = 2147483520 ∧
    (⟨32, false, true⟩ : PcmFmt).ofFloat f32 .sse2 true false 0xBF800000 = -2147483648 := by decide

/-- **norm_off_passthrough**: normalisation off, clipping off: a finite integer-valued input inside the `int` range is
    stored as that integer (the byte store then keeps its low w bits; inside the sample range that is the integer) -/
theorem norm_off_passthrough (p : PcmFmt) (f : Fmt) (hf : f.Std) (v : Variant) (x : Nat) (hfin : f.isFinite x = true)
    (z : ℤ) (hz : (f.toDy x).val = z) (hr : inRange 32 z) : p.ofFloat f v false false x = z := by
  unfold inRange at hr
  rw [ofFloat_noclip_eq]
  simp only [Bool.false_eq_true, if_false]
  have hrep : f.Rep ((f.toDy x).mul ⟨false, 1, 0⟩) := by
    have hm : ((f.toDy x).mul ⟨false, 1, 0⟩).mag = (f.toDy x).mag := by rw [Dy.mul_mag]; simp [Dy.mag]
    refine ⟨by rw [hm]; exact toDy_rep f x, by rw [hm]; exact (finite_iff_mag_lt f hf x).mp hfin⟩
  obtain ⟨_, _, hv, _⟩ := toDy_ofDy_exact f hf _ hrep
  have hv2 : (f.toDy (f.ofDy ((f.toDy x).mul ⟨false, 1, 0⟩))).val = z := by
    rw [hv, Dy.mul_val, hz]; simp [Dy.val]
  have hr := (Dy.rint_isRNE _).eq_int z hv2
  rw [lrintInt_of_range v _ (by omega) (by omega), hr]

example : f32.isFinite 0xC6FFFE00 = true ∧ (⟨16, false, false⟩ : PcmFmt).ofFloat f32 .sse2 false false 0xC6FFFE00 = -32767 := by
  decide

/-! ## G.711 float entry: the table index stays inside the encode table -/

/-- `Law.encFloat` reads the encode table at `g711Index` (and nowhere else) -/
theorem g711_float_reads_index (l : G711.Law) (f : Fmt) (v : Variant) (norm : Bool) (x : Nat) :
    l.encFloat f v norm x =
      if (f.toDy x).nonneg then l.encTab (g711Index l f v norm x) else l.encTab (g711Index l f v norm x) % 128 := by
  unfold G711.Law.encFloat G711.Law.encRounded g711Index
  simp only
  split <;> rfl

/-- finite |x| ≤ 1, normalisation on: the index `|lrint (normfact·x)|` is within 0 … 8192 (µ-law, 8193-entry table)
    resp. 0 … 2048 (A-law, 2049-entry table): no out-of-bounds table read inside the documented input range -/
theorem g711_float_index_in_table (f : Fmt) (hf : f.Std) (v : Variant) (x : Nat) (hx : |(f.toDy x).val| ≤ 1) :
    g711Index G711.ulaw f v true x ≤ 8192 ∧ g711Index G711.alaw f v true x ≤ 2048 := by
  have h1 := g711_index_le G711.ulaw f hf v x hx 8192 (by norm_num) (by simp only [G711.ulaw]; norm_num)
  have h2 := g711_index_le G711.alaw f hf v x hx 2048 (by norm_num) (by simp only [G711.alaw]; norm_num)
  omega

example : g711Index G711.ulaw f32 .sse2 true 0x3F800000 = 8192 ∧ g711Index G711.alaw f64 .lrint true 0xBFF0000000000000 = 2048 ∧
    G711.ulaw.encFloat f32 .sse2 true 0x3F800000 = 0x80 := by decide


/-! ## float / double files (float32.c, double64.c host paths) -/

/-- **scale_int_float_write_rule**: a short written to float or double data, and an int written to double data, is
    stored exactly as x (SFC_SET_SCALE_INT_FLOAT_WRITE off) or x / 2^15 resp. x / 2^31 (on) -/
theorem scale_int_float_write_rule (f : Fmt) (hf : f.Std) (scaleIF : Bool) (x : Int) :
    (inRange 16 x → (f.toDy (floatOfInt f scaleIF .s16 x)).val = (if scaleIF then (x : ℚ) / 2 ^ 15 else (x : ℚ))) ∧
    (inRange 32 x → (f64.toDy (floatOfInt f64 scaleIF .s32 x)).val = (if scaleIF then (x : ℚ) / 2 ^ 31 else (x : ℚ))) := by
  obtain ⟨r1, r2, r3, r4⟩ := std_ranges f hf
  have hpow : 2 ^ 24 ≤ 2 ^ (f.mbits + 1) := Nat.pow_le_pow_right (by omega) (by omega)
  constructor
  · intro hx
    unfold inRange at hx
    rw [(floatOfInt_exact f hf scaleIF .s16 x (by omega)).1]
    cases scaleIF <;> simp; norm_num [zpow_neg, div_eq_mul_inv]
  · intro hx
    unfold inRange at hx
    rw [(floatOfInt_exact f64 (Or.inr rfl) scaleIF .s32 x (by simp [f64]; omega)).1]
    cases scaleIF <;> simp; norm_num [zpow_neg, div_eq_mul_inv]

example : floatOfInt f32 true .s16 (-32768) = 0xBF800000 ∧ floatOfInt f64 true .s32 2147483647 = 0x3FEFFFFFFFC00000 ∧
    floatOfInt f32 false .s16 12345 = 0x4640E400 := by decide

/-- **float_int_read_rule**: float/double data read as short/int with scaling and clipping off is `lrint` of the stored
    value, truncated to the caller's type -/
theorem float_int_read_rule (f : Fmt) (hf : f.Std) (c : Conv) (ty : Ty) (x : Nat) (hx : x < 2 ^ f.width)
    (hfin : f.isFinite x = true) (hm : c.fiMult = false) (hc : c.clip = false) :
    intOfFloat f c ty x = wrapS (if ty = .s16 then 16 else 32) (lrintInt c.variant (f.toDy x)) := by
  have h1 : f.ofDy ((readScale c ty).mul (f.toDy x)) = x := by
    have : readScale c ty = ⟨false, 1, 0⟩ := by unfold readScale; simp [hm]
    rw [this]
    rw [ofDy_congr f _ (f.toDy x) (by simp [Dy.mul]) (by rw [Dy.mul_mag]; simp [Dy.mag])]
    exact ofDy_toDy f x hx hfin
  unfold intOfFloat
  simp only [h1, hc, Bool.false_eq_true, false_and, if_false, Bool.not_false, if_true]

example : intOfFloat f32 {} .s16 0x40200000 = 2 ∧ intOfFloat f32 {} .s16 0x40600000 = 4 ∧
    intOfFloat f64 {} .s32 0xC0F86A0000000000 = -100000 := by decide

end Sf.C02
