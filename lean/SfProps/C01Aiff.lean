/-
  C01 — lossless write/read round trip, AIFF / AIFF-C (PCM S8/U8/16/24/32 in both byte orders, FLOAT, DOUBLE).  µ-law and
  A-law files are accepted configurations too, but `lossless .ulaw / .alaw` holds of no sample (SfProofs/Codec.lean): for them
  `aiff_file_roundtrip` gives the layout of the closed file and the re-open line, and its decode clause only for sessions
  that hand over no sample.

  A typed session: `openW`, any list of `TOp`s (write calls handing over items of ONE caller type `ty` with the
  write-side conversion settings `cv`; SFC_UPDATE_HEADER_NOW; auto-header writes), `close`.  The encoder is the one
  `aiff_open` installs (`Sf.Aiff.encOf`, SfModel/AiffAudio.lean); the container is `Sf.Aiff` (SfModel/Aiff.lean).
-/
import SfModel.AiffAudio
import SfProps.C01
import SfProps.C04Aiff
namespace Sf.C01Aiff
open Sf Sf.Aiff Sf.C04Aiff

/-- one call of a typed session: a write of the caller's items `vals` (`peaks`: the PEAK table the call leaves behind, taken
    as given as in `Sf.Aiff.writeSamples`; `auto`: SFC_SET_UPDATE_HEADER_AUTO is on), or SFC_UPDATE_HEADER_NOW -/
inductive TOp
  | write (vals : List Int) (peaks : List Aiff.Peak) (auto : Bool)
  | update
deriving Repr

def TOp.samples : TOp → List Int
  | .write v _ _ => v
  | .update => []

/-- the untyped container operation behind a typed one -/
def TOp.toW (e : Enc) (cv : Conv) (ty : Ty) : TOp → Aiff.WOp
  | .write v pk auto => Aiff.WOp.write (e.encodeAll cv ty v) pk auto
  | .update => Aiff.WOp.update

theorem toW_write (c : Cfg) (k : Kind) (s : St) (e : Enc) (cv : Conv) (ty : Ty) (v : List Int) (pk : List Aiff.Peak) (auto : Bool) :
    applyOp c k s ((TOp.write v pk auto).toW e cv ty) = writeSamples c k s e cv ty v (some pk) auto := rfl

theorem opsData_typed (e : Enc) (cv : Conv) (ty : Ty) (ops : List TOp) :
    opsData (ops.map (TOp.toW e cv ty)) = e.encodeAll cv ty (ops.flatMap TOp.samples) := by
  induction ops with
  | nil => rfl
  | cons op r ih =>
    cases op with
    | write v pk auto => simp [TOp.toW, opsData, TOp.samples, ih, Enc.encodeAll_append]
    | update => simp [TOp.toW, opsData, TOp.samples, ih]

/-- the installed encoder is well formed and as wide as psf->bytewidth -/
theorem encOf_props (c : Cfg) (k : Kind) (ha : accepted c = true) (hk : kindOf c = some k) :
    ∃ e, Aiff.encOf c k = some e ∧ e.wf ∧ e.nbytes = bytewidthOf c.codec ∧ 0 < e.nbytes := by
  obtain ⟨codec, endian, ch0, sr0⟩ := c
  simp only [accepted, decide_eq_true_eq] at ha
  have hcases : (codec = 2 ∨ codec = 3 ∨ codec = 4) ∨ (codec = 1 ∨ codec = 5 ∨ codec = 6 ∨ codec = 7 ∨ codec = 0x10 ∨ codec = 0x11) := by
    rcases ha with ⟨h1, _⟩ | ⟨_, h⟩
    · exact Or.inl h1
    · exact Or.inr h
  rcases hcases with (h | h | h) | (h | h | h | h | h | h) <;> subst h <;>
    refine ⟨_, rfl, ?_, ?_, ?_⟩ <;> simp [Enc.wf, PcmFmt.wf, Enc.nbytes, PcmFmt.nbytes, bytewidthOf]

/-- For every accepted AIFF configuration, every typed session and every read-side
    conversion setting: the closed file is header ++ encodeAll (all samples) ++ pad byte; under the FORM-size guard it
    re-opens with the requested channels / format / rate and exactly the frames written; and its audio region
    decodes back to the written samples bit for bit whenever each sample is lossless for the encoding.  `stale` is the
    `frames` value the caller left in SF_INFO at open, which `aiff_open` discards (`Sf.Aiff.openW`). -/
theorem aiff_file_roundtrip (c : Cfg) (k : Kind) (hwf : c.wf) (hk : kindOf c = some k) (e : Enc) (he : Aiff.encOf c k = some e)
    (cv c' : Conv) (ty : Ty) (stale : Nat) (ops : List TOp) (N : Nat)
    (hN : (ops.flatMap TOp.samples).length = N * c.ch)
    (hv : ∀ v ∈ ops.flatMap TOp.samples, ty.inRange v) (hl : ∀ v ∈ ops.flatMap TOp.samples, lossless e ty v)
    (hguard : (closedBytes c k stale (ops.map (TOp.toW e cv ty))).length < 2 ^ 32) :
    let bytes := closedBytes c k stale (ops.map (TOp.toW e cv ty))
    let samples := ops.flatMap TOp.samples
    (∃ hdr, hdr.length = hdrLen c k ∧ bytes = hdr ++ e.encodeAll cv ty samples ++ tailBytes (samples.length * e.nbytes)) ∧
    parse bytes = .ok { ch := c.ch, fmt := c.fmtWord, sr := c.sr, frames := N } ∧
    e.decodeAll c' ty ((bytes.drop (hdrLen c k)).take (samples.length * e.nbytes)) = samples := by
  intro bytes samples
  obtain ⟨e', he', hewf, hnb, hpos⟩ := encOf_props c k hwf.1 hk
  rw [he] at he'; cases he'
  have hb : bytes = _ := closedBytes_eq c k hwf hk stale (ops.map (TOp.toW e cv ty))
  have hd : opsData (ops.map (TOp.toW e cv ty)) = e.encodeAll cv ty samples := opsData_typed e cv ty ops
  have hdl : (opsData (ops.map (TOp.toW e cv ty))).length = samples.length * e.nbytes := by
    rw [hd, Enc.encodeAll_length_cw]
  obtain ⟨i, _⟩ := session_inv c k hwf.1 hk stale (ops.map (TOp.toW e cv ty))
  have hhl : (closedHdr c k (opsData (ops.map (TOp.toW e cv ty))).length (finalPeaks c k stale (ops.map (TOp.toW e cv ty)))).length = hdrLen c k := by
    unfold closedHdr finalPeaks; exact hdrRaw_length c k hwf.1 hk _ _ _ _ i.pk
  refine ⟨⟨_, hhl, by rw [hb, hd, Enc.encodeAll_length_cw]⟩, ?_, ?_⟩
  · have hbytes : (opsData (ops.map (TOp.toW e cv ty))).length = N * c.bw := by
      rw [hdl, hN, Cfg.bw, hnb]; rw [Nat.mul_assoc, Nat.mul_comm c.ch]
    exact aiff_frames_exact c k hwf hk stale _ N hbytes hguard
  · rw [hb, List.append_assoc, List.drop_left' hhl, ← hdl, List.take_left' rfl, hd]
    exact C01.data_roundtrip C01.widenExact e hewf hpos cv c' ty samples hv hl

def exC : Cfg := ⟨0x03, 1, 2, 48000⟩
def exK : Kind := ⟨true, mk4 "42n1", true⟩
def exE : Enc := .pcm ⟨24, false, false⟩
def exT : List TOp := [.write [1, -1] [] false, .update, .write [32767, -32768] [] true]
/-- non-vacuity: 24-bit little-endian stereo AIFF-C (`sowt` family: '42n1'), shorts, two calls with a header
    update in between — 2 frames, and the audio region decodes to the shorts written -/
example : exC.wf ∧ kindOf exC = some exK ∧ Aiff.encOf exC exK = some exE ∧
    parse (closedBytes exC exK 7 (exT.map (TOp.toW exE {} .s16))) = .ok ⟨2, 0x10020003, 48000, 2⟩ ∧
    exE.decodeAll {} .s16 (((closedBytes exC exK 7 (exT.map (TOp.toW exE {} .s16))).drop (hdrLen exC exK)).take 12) =
      [1, -1, 32767, -32768] := by decide +kernel

end Sf.C01Aiff
