/-
  C01 / C04 / C07 / C11 — THE WRITE-SIDE BRIDGE for the remaining stand-alone container models: PAF (PCM_S8 / PCM_16), IRCAM,
  SVX (`Sf.Small` session machine, read through `Spec.fmt`) and NIST, MAT5, VOC (`Sf.Small2` machine) as instances of `small2_facts`;
  hence `<x>_session_accepted`: the record the all-format write campaign would write down of ANY job (whole frames of values of
  the caller's type; any split into item / frame calls; SFC_UPDATE_HEADER_NOW / SFC_SET_UPDATE_HEADER_AUTO anywhere; any stale
  SF_INFO.frames), if the library behaved like the container's model, passes every clause of `Sf.AbsWrite.judge`.

  -- properties: C01 C04 C07 C11
-/
import SfProps.C04Bridge
import SfProps.C04Paf
import SfProps.C04Ircam
import SfProps.C04Svx
import SfProps.C04Nist
import SfProps.C04Mat5
import SfProps.C04Voc
namespace Sf.C04Bridge2
open Sf Sf.AbsWrite Sf.AbsWriteBridge Sf.C04Bridge
open Sf.AbsWriteBridge.Small (Cont Laws Valid small2Cont laws_of_small2 small2_machine_facts small_pred_good)

/-! ## PAF (PCM_S8 / PCM_16, either byte order, up to 1024 channels; the 24-bit block encoding has no instance of the bridge) -/

def pafGeom (c : Paf.Cfg) : AbsWrite.Geom := { word := c.endian * 0x10000000 + 0x050000 + c.codec, ch := c.ch, sr := c.sr }

theorem paf_facts (c : Paf.Cfg) (hwf : c.wf) (h24 : c.codec ≠ 0x03) :
    Small.Small2Facts (Paf.spec c).fmt (fun bs => Small.resOf (Paf.parse bs)) (pafGeom c) (encFor c.codec (!c.little))
      (guardOf ((encFor c.codec (!c.little)).nbytes * (pafGeom c).ch) fun _ => True) := by
  obtain ⟨hcodec, hch1, _⟩ := Sf.Paf.cfg_cases c hwf
  have hcd := (by decide : ∀ big, ∀ k ∈ [1, 2], k ∈ rawCodecs ∧ (encFor k big).nbytes = k) (!c.little) c.codec
    (by simpa [h24] using hcodec)
  have hfr : ∀ D, Paf.framesOf c D = D / c.bw := fun D => by unfold Paf.framesOf; rw [if_neg h24]
  exact small2_facts (Small.small2_const_machine _ (fun _ _ => rfl) (Sf.Paf.hdr_length c))
    (pafGeom c) c.endian 0x05 c.codec (!c.little) rfl (by decide) (by decide) hcd.1 (Or.inr h24) hch1 c.bw c.fmtWord c.sr _
    (by rw [hcd.2]; rfl) (word_mask_ite c.little 1 2 c.endian 0x050000 c.codec) (by simp [rateOk, rateClass, pafGeom])
    fun st ops _ _ => Small.opsData_toS1 ops ▸ hfr _ ▸ Small.parse_toS1 (Sf.Paf.spec_plain c) (C04Paf.paf_snapshot_valid c hwf st _).1

/-- PAF, PCM_S8 / PCM_16: every job of whole frames is accepted — no guard, no class -/
theorem paf_session_accepted (c : Paf.Cfg) (hwf : c.wf) (h24 : c.codec ≠ 0x03) (ty : Ty) (stale stale' : Nat) (ops : List Small.Op)
    (hv : Valid c.ch ty ops) :
    accepted (Small.recordOf (Small.small1Cont (Paf.spec c) Paf.parse (pafGeom c) (encFor c.codec (!c.little))) ty stale stale' ops) = true :=
  Small.small1Cont_eq _ _ _ _ (Sf.Paf.spec_plain c) ▸
    guarded_session_accepted _ _ (laws_of_small2 (paf_facts c hwf h24)) ty stale stale' ops hv (fun _ _ _ => trivial)

/-! ## IRCAM (PCM_16 / PCM_32 / FLOAT / ULAW / ALAW, either byte order, up to 256 channels; binary32 rate field) -/

def ircamGeom (c : Ircam.Cfg) : AbsWrite.Geom := { word := c.endian * 0x10000000 + 0x0A0000 + c.codec, ch := c.ch, sr := c.sr }

/-- `q`: what the binary32 rate field makes of the rate (`Ircam.rateQ`, through the byte-exact IEEE writer / reader of the model);
    `hrate`: the float32 clause of the predicate (`roundF32`, capped) accepts it — `ircam_rate_clause` evaluates both sides at the
    campaign's rates -/
theorem ircam_facts (c : Ircam.Cfg) (hwf : c.wf) (q : Nat) (hq : Ircam.rateQ c.sr = some q)
    (hrate : rateOk 0x0A c.sr (q : Int) = true) :
    Small.Small2Facts (Ircam.spec c).fmt (fun bs => Small.resOf (Ircam.parse bs)) (ircamGeom c) (encFor c.codec c.big)
      (guardOf ((encFor c.codec c.big).nbytes * (ircamGeom c).ch) fun _ => True) := by
  obtain ⟨hcodec, hch1, _⟩ := Sf.Ircam.cfg_cases c hwf
  have hcd := (by decide : ∀ big, ∀ k ∈ [2, 4, 6, 0x10, 0x11], k ∈ rawCodecs ∧
      (encFor k big).nbytes = if k = 0x02 then 2 else if k = 0x04 ∨ k = 0x06 then 4 else 1) c.big c.codec (by simpa using hcodec)
  have hspec : ∀ D, C04Ircam.reopenSpec c D = .ok { ch := c.ch, fmt := c.fmtWord, sr := q, frames := D / c.bw } := by
    intro D; unfold C04Ircam.reopenSpec; rw [hq]
  exact small2_facts (Small.small2_const_machine _ (fun _ _ => rfl) (Sf.Ircam.hdr_length c))
    (ircamGeom c) c.endian 0x0A c.codec c.big rfl (by decide) (by decide) hcd.1 (Or.inl (by decide)) hch1 c.bw c.fmtWord q _
    (by rw [hcd.2]; rfl) (word_mask_ite c.big 2 1 c.endian 0x0A0000 c.codec) hrate
    fun st ops _ _ => Small.opsData_toS1 ops ▸
      Small.parse_toS1 (Sf.Ircam.spec_plain c) ((C04Ircam.ircam_snapshot_valid c hwf st _).1.trans (hspec _))

/-- IRCAM: every job of whole frames is accepted (both byte orders — KF-IRCAM-BE-CHANNELS is repaired —, 1..256 channels) -/
theorem ircam_session_accepted (c : Ircam.Cfg) (hwf : c.wf) (q : Nat) (hq : Ircam.rateQ c.sr = some q)
    (hrate : rateOk 0x0A c.sr (q : Int) = true) (ty : Ty) (stale stale' : Nat) (ops : List Small.Op) (hv : Valid c.ch ty ops) :
    accepted (Small.recordOf (Small.small1Cont (Ircam.spec c) Ircam.parse (ircamGeom c) (encFor c.codec c.big)) ty stale stale' ops) = true :=
  Small.small1Cont_eq _ _ _ _ (Sf.Ircam.spec_plain c) ▸
    guarded_session_accepted _ _ (laws_of_small2 (ircam_facts c hwf q hq hrate)) ty stale stale' ops hv (fun _ _ _ => trivial)

/-! ## SVX (8SVX / 16SV, one channel, 16-bit saturating rate field) -/

def svxGeom (c : Svx.Cfg) : AbsWrite.Geom := { word := c.endian * 0x10000000 + 0x060000 + c.codec, ch := c.ch, sr := c.sr }

/-- the re-open fact of the SVX model: the chunk-loop reader `Svx.parse` on a closed file of whole frames shorter than 2^32 audio
    bytes (the BODY size field has 32 bits) reports the requested parameters, the saturated rate and D / bw frames.  It is
    carried as a hypothesis here and proved in lean/SfProps/C04SvxReopen.lean (`svx_reopens`, for the reader after the repair of
    KF-SVX-NAME-LENGTH); `C04Bridge3.svx_session_accepted_all` is the theorem without it. -/
def SvxReopens (c : Svx.Cfg) : Prop :=
  ∀ st (w : List Sf.Small.WOp), (Sf.Small.opsData w).length % c.bw = 0 → (Sf.Small.opsData w).length < 2 ^ 32 →
    Svx.parse (Sf.Small.closedBytes (Svx.spec c) st w) =
      .ok { ch := c.ch, fmt := c.fmtWord, sr := min c.sr 65535, frames := (Sf.Small.opsData w).length / c.bw }

/-- the guard of SVX: the BODY size field -/
def svxGuard (D : Nat) : Prop := D < 2 ^ 32

theorem svx_facts (c : Svx.Cfg) (hwf : c.wf) (hre : SvxReopens c) :
    Small.Small2Facts (Svx.spec c).fmt (fun bs => Small.resOf (Svx.parse bs)) (svxGeom c) (encFor c.codec true)
      (guardOf ((encFor c.codec true).nbytes * (svxGeom c).ch) svxGuard) := by
  obtain ⟨hcodec, hch1, _⟩ := Sf.Svx.cfg_facts c hwf
  have hcd := (by decide : ∀ k ∈ [1, 2], k ∈ rawCodecs ∧ (encFor k true).nbytes = k) c.codec (by simpa using hcodec)
  -- the reader reports no byte order: `word_mask 0`; the 16-bit rate clause is exact: min sr 65535
  exact small2_facts (small2_machine_facts _ (Sf.Small.fmt_lawful _ (Sf.Svx.spec_plain c hwf) rfl) rfl) (svxGeom c) c.endian 0x06 c.codec true rfl
    (by decide) (by decide) hcd.1 (Or.inl (by decide)) (by show 0 < c.ch; omega) c.bw c.fmtWord (min c.sr 65535) _ (by rw [hcd.2]; rfl)
    (word_mask 0 c.endian 0x060000 c.codec) ((AbsWriteRate.rateOk_field16_iff 0x06 c.sr _ rfl).2 rfl)
    fun st ops hm hD => by
      have hw := Small2.opsData_whole _ _ hm
      rw [← Small.opsData_toS1 ops] at hw hD ⊢
      exact Small.parse_toS1 (Sf.Svx.spec_plain c hwf) (by rw [C04Svx.snapshotBytes_eq c hwf]; exact hre st _ hw hD)

/-- SVX: every job of whole frames below 2^32 audio bytes is accepted, given the re-open fact of the chunk-loop reader (`SvxReopens`,
    discharged in `C04Bridge3.svx_session_accepted_all`) -/
theorem svx_session_accepted (c : Svx.Cfg) (hwf : c.wf) (hre : SvxReopens c) (ty : Ty) (stale stale' : Nat) (ops : List Small.Op)
    (hv : Valid c.ch ty ops) (hguard : svxGuard ((Small.sampleList ops).length * (encFor c.codec true).nbytes)) :
    accepted (Small.recordOf (Small.small1Cont (Svx.spec c) Svx.parse (svxGeom c) (encFor c.codec true)) ty stale stale' ops) = true :=
  Small.small1Cont_eq _ _ _ _ (Sf.Svx.spec_plain c hwf) ▸
    guarded_session_accepted _ svxGuard (laws_of_small2 (svx_facts c hwf hre)) ty stale stale' ops hv fun _ _ e =>
      Nat.lt_of_le_of_lt (Nat.mul_le_mul_right _ (sampleList_prefix_le e)) hguard

/-- `SvxReopens` on concrete sessions, by evaluation of the model's reader (8-bit at a saturating rate, 16-bit with a file name) -/
example : Svx.parse (Sf.Small.closedBytes (Svx.spec C04Svx.exVio) 0 [.write [1, 2, 3] false]) =
      .ok { ch := 1, fmt := C04Svx.exVio.fmtWord, sr := min C04Svx.exVio.sr 65535, frames := 3 } ∧
    Svx.parse (Sf.Small.closedBytes (Svx.spec C04Svx.exCfg) 99 C04Svx.exOps) =
      .ok { ch := 1, fmt := C04Svx.exCfg.fmtWord, sr := min C04Svx.exCfg.sr 65535, frames := 3 } := by decide +kernel

/-- the same container with the stale frames value set at open (NIST: `psf->sf.frames = 0` before the first header) -/
def fixStale (K : Cont) (s0 : Nat) : Cont := { K with closed := fun _ ops => K.closed s0 ops, store := fun _ ops => K.store s0 ops }

theorem laws_fixStale {K : Cont} {G : List Small2.WOp → Prop} (L : Laws K G) (s0 : Nat) : Laws (fixStale K s0) G :=
  { chpos := L.chpos, nb := L.nb, wf := L.wf, block := L.block, notRaw := L.notRaw, codec := L.codec,
    closedForm := fun _ ops h => L.closedForm s0 ops h, closedParse := fun _ ops h => L.closedParse s0 ops h,
    closedFn := fun _ _ ops ops' h => L.closedFn s0 s0 ops ops' h,
    storeForm := fun _ ops h he => L.storeForm s0 ops h he, storeParse := fun _ ops h he => L.storeParse s0 ops h he }

/-! ## NIST / SPHERE (PCM_S8 / 16 / 24 / 32, ULAW, ALAW; 1024-byte text header; decimal rate and sample count) -/

def nistGeom (c : Nist.Cfg) : AbsWrite.Geom := { word := c.endian * 0x10000000 + 0x070000 + c.codec, ch := c.ch, sr := c.sr }

theorem nist_facts (c : Nist.Cfg) (hwf : c.wf) :
    Small.Small2Facts (Nist.fmt c) Nist.parse (nistGeom c) (encFor c.codec c.big)
      (guardOf ((encFor c.codec c.big).nbytes * (nistGeom c).ch) (fun D => D / c.bw < 2 ^ 63)) := by
  have M := small2_machine_facts (Nist.fmt c) (Sf.Nist.lawful c) rfl
  have hcd := (by decide : ∀ big, ∀ k ∈ [1, 2, 3, 4, 0x10, 0x11], k ∈ rawCodecs ∧ (encFor k big).nbytes = Nist.bytewidth k)
    c.big c.codec (by simpa using hwf.1)
  refine small2_facts M (nistGeom c) c.endian 0x07 c.codec c.big rfl (by decide) (by decide) hcd.1 (Or.inl (by decide)) hwf.2.2.1
    c.bw c.fmtWord (Nist.quant c.sr) _ (by rw [hcd.2]; rfl) ?_ (by simp [rateOk, rateClass, Nist.quant, nistGeom]) fun st ops _ hg => ?_
  · -- the reader reports a byte order for the multi-byte encodings only
    show ((if c.codec = 2 ∨ c.codec = 3 ∨ c.codec = 4 then (if c.big then 0x20000000 else 0x10000000) else 0) + 0x070000 + c.codec) % 0x10000000 =
      (c.endian * 0x10000000 + 0x070000 + c.codec) % 0x10000000
    split
    · exact word_mask_ite c.big 2 1 c.endian _ _
    · exact word_mask 0 c.endian _ _
  · -- `nist_open` clears the stale frames value
    rw [show Small2.snapshotBytes (Nist.fmt c) st ops = Nist.snapshotBytes c 0 ops from M.snapFn st 0 ops ops rfl]
    exact (C04Nist.nist_snapshot_valid c hwf 0 ops hg).1

/-- the NIST container as the bridge sees it: `nist_open` clears `sf.frames` before the first header, so the caller's stale value
    never reaches the session machine (`Nist.openW c stale = Small2.openW (fmt c) 0`) -/
def nistCont (c : Nist.Cfg) : Cont := fixStale (small2Cont (Nist.fmt c) Nist.parse (nistGeom c) (encFor c.codec c.big)) 0

/-- `nistCont` IS the model: its closed file and its store are `Nist.closedBytes` / the store of `Nist.openW`'s session -/
theorem nistCont_is_model (c : Nist.Cfg) (st : Nat) (ops : List Small2.WOp) :
    (nistCont c).closed st ops = Nist.closedBytes c st ops ∧
    (nistCont c).store st ops = (Small2.run (Nist.fmt c) (Nist.openW c st) ops).bytes := ⟨rfl, rfl⟩

/-- NIST: every job of whole frames is accepted under the guard of the 64-bit `sample_count` line (fewer than 2^63 frames) -/
theorem nist_session_accepted (c : Nist.Cfg) (hwf : c.wf) (ty : Ty) (stale stale' : Nat) (ops : List Small.Op)
    (hv : Valid c.ch ty ops) (hguard : (Small.sampleList ops).length * (encFor c.codec c.big).nbytes / c.bw < 2 ^ 63) :
    accepted (Small.recordOf (nistCont c) ty stale stale' ops) = true :=
  guarded_session_accepted (nistCont c) (fun D => D / c.bw < 2 ^ 63) (laws_fixStale (laws_of_small2 (nist_facts c hwf)) 0) ty stale stale' ops hv
    fun _ _ e => Nat.lt_of_le_of_lt (Nat.div_le_div_right (Nat.mul_le_mul_right _ (sampleList_prefix_le e))) hguard

/-! ## MAT5 (PCM_U8 / PCM_16 / PCM_32 / FLOAT / DOUBLE, both byte orders; 264-byte header; the reader takes the frames from the file length) -/

def mat5Geom (c : Mat5.Cfg) : AbsWrite.Geom := { word := c.endian * 0x10000000 + 0x0D0000 + c.codec, ch := c.ch, sr := c.sr }

theorem mat5_facts (c : Mat5.Cfg) (hwf : c.wf) :
    Small.Small2Facts (Mat5.fmt c) Mat5.parse (mat5Geom c) (encFor c.codec (!c.little))
      (guardOf ((encFor c.codec (!c.little)).nbytes * (mat5Geom c).ch) fun _ => True) := by
  have hwf0 := hwf
  obtain ⟨hcodec, _, hch1, _, hsr1, hsr2, ht, _⟩ := hwf
  have hcd := (by decide : ∀ big, ∀ k ∈ [5, 2, 4, 6, 7], k ∈ rawCodecs ∧ (encFor k big).nbytes = Mat5.bytewidth k)
    (!c.little) c.codec (by simpa using hcodec)
  refine small2_facts (small2_machine_facts (Mat5.fmt c) (Sf.Mat5.lawful c ht) rfl) (mat5Geom c) c.endian 0x0D c.codec (!c.little) rfl
    (by decide) (by decide) hcd.1 (Or.inl (by decide)) hch1 c.bw c.fmtWord (Mat5.quant c.sr) _ (by rw [hcd.2]; rfl)
    (word_mask_ite c.little 1 2 c.endian 0x0D0000 c.codec) ?_ (fun st ops _ _ => (C04Mat5.mat5_snapshot_valid c hwf0 st ops).1)
  rw [C04Mat5.mat5_rate_exact c.sr hsr1 hsr2]; simp [rateOk, rateClass, mat5Geom]

/-- MAT5: every job of whole frames is accepted — no guard (the reader takes the frame count from the file length), no class -/
theorem mat5_session_accepted (c : Mat5.Cfg) (hwf : c.wf) (ty : Ty) (stale stale' : Nat) (ops : List Small.Op) (hv : Valid c.ch ty ops) :
    accepted (Small.recordOf (small2Cont (Mat5.fmt c) Mat5.parse (mat5Geom c) (encFor c.codec (!c.little))) ty stale stale' ops) = true :=
  guarded_session_accepted _ _ (laws_of_small2 (mat5_facts c hwf)) ty stale stale' ops hv (fun _ _ _ => trivial)

/-! ## VOC (PCM_U8 / PCM_16 / ULAW / ALAW, one or two channels; `voc_close` appends the terminator block: closed file ≠ update image) -/

def vocGeom (c : Voc.Cfg) : AbsWrite.Geom := { word := 0x080000 + c.codec, ch := c.ch, sr := c.sr }

/-- the VOC container as the bridge sees it: `Voc.closedBytes` (header recomputed with the terminator's offset as data end, audio,
    terminator byte), the store of the `Small2` session machine, `Voc.parse` -/
def vocCont (c : Voc.Cfg) : Cont :=
  { small2Cont (Voc.fmt c) Voc.parse (vocGeom c) (encFor c.codec false) with closed := Voc.closedBytes c }

/-- the clauses on the store do not mention the closed file: a container with its own close function keeps them -/
theorem laws_withClosed {K : Cont} {G : List Small2.WOp → Prop} (L : Laws K G) (closed : Nat → List Small2.WOp → List Byte)
    (hform : ∀ st ops, G ops → ∃ hdr tail, hdr.length = K.L ∧ closed st ops = hdr ++ Small2.opsData ops ++ tail)
    (hparse : ∀ st ops, G ops → ∃ i, K.parse (closed st ops) = .ok i ∧ i.frames = (Small2.opsData ops).length / K.bw ∧
      i.ch = K.g.ch ∧ i.fmt % 0x10000000 = K.g.word % 0x10000000 ∧ rateOk K.g.major K.g.sr (i.sr : Int) = true)
    (hfn : ∀ a b ops ops', Small2.opsData ops = Small2.opsData ops' → closed a ops = closed b ops') :
    Laws { K with closed := closed } G :=
  ⟨L.chpos, L.nb, L.wf, L.block, L.notRaw, L.codec, hform, hparse, hfn, L.storeForm, L.storeParse⟩

/-- the guard of `voc_reopen_info`: the 3-byte block length -/
def vocGuard (D : Nat) : Prop := D + 14 < 2 ^ 24

/-- the rate clause for the type 9 block (every encoding but PCM_U8): the rate is stored as a 32-bit number, exact; VOC's class in
    the predicate is `.divisor`: the rate as asked, or the time-constant quantiser of the type 1 / type 8 blocks (1 MHz /
    (256 − divisor) for PCM_U8); an exact answer meets the first alternative -/
theorem voc_rate_ok9 (c : Voc.Cfg) (h5 : c.codec ≠ 5) : rateOk 0x08 c.sr ((Voc.quant c : Nat) : Int) = true := by
  rw [C04Voc.voc_rate_exact9 c h5]
  exact (AbsWriteRate.rateOk_divisor_iff 0x08 c.sr _ rfl).2 (.inl rfl)

theorem voc_codec (c : Voc.Cfg) (hwf : c.wf) : c.codec ∈ rawCodecs ∧ (encFor c.codec false).nbytes = Voc.bytewidth c.codec :=
  (by decide : ∀ k ∈ [5, 2, 0x10, 0x11], k ∈ rawCodecs ∧ (encFor k false).nbytes = Voc.bytewidth k) c.codec (by simpa using hwf.1)

theorem voc_bw (c : Voc.Cfg) (hwf : c.wf) : (encFor c.codec false).nbytes * (vocGeom c).ch = c.bw := by
  rw [(voc_codec c hwf).2]; rfl

theorem voc_laws (c : Voc.Cfg) (hwf : c.wf) (hrate : rateOk 0x08 c.sr ((Voc.quant c : Nat) : Int) = true) :
    Laws (vocCont c) (guardOf ((encFor c.codec false).nbytes * (vocGeom c).ch) vocGuard) := by
  have hcd := voc_codec c hwf
  have hbw := voc_bw c hwf
  -- the update images: the Small2 machine of `Voc.fmt`
  have L2 := laws_of_small2 (small2_facts (small2_machine_facts (Voc.fmt c) (Sf.Voc.lawful c) rfl) (vocGeom c) 0 0x08 c.codec false rfl
    (by decide) (by decide) hcd.1 (Or.inl (by decide)) (by show 0 < c.ch; rcases hwf.2.1 with h | h <;> omega) c.bw c.fmtWord
    (Voc.quant c) vocGuard hbw rfl hrate fun st ops hw hg => (C04Voc.voc_snapshot_valid c hwf st ops hw hg).1)
  -- the closed file: header recomputed, audio, terminator — a function of the audio bytes
  have hfn : ∀ a b ops ops', Small2.opsData ops = Small2.opsData ops' → Voc.closedBytes c a ops = Voc.closedBytes c b ops' :=
    fun a b ops ops' h => by rw [C04Voc.closed_eq, C04Voc.closed_eq, h]
  refine laws_withClosed L2 (Voc.closedBytes c) ?_ ?_ hfn
  · intro st ops _
    exact ⟨_, [0], Sf.Voc.hdr_length c _, by show Voc.closedBytes c st ops = _; rw [C04Voc.closed_eq, List.append_assoc]⟩
  · intro st ops hg
    show ∃ i, Voc.parse (Voc.closedBytes c st ops) = Small2.ParseRes.ok i ∧
      i.frames = (Small2.opsData ops).length / ((encFor c.codec false).nbytes * (vocGeom c).ch) ∧ i.ch = (vocGeom c).ch ∧
      i.fmt % 0x10000000 = (vocGeom c).word % 0x10000000 ∧ rateOk (vocGeom c).major (vocGeom c).sr (i.sr : Int) = true
    rw [hbw] at hg ⊢
    have hmajor := (geom_facts (vocGeom c) 0 0x08 c.codec false rfl (by decide) (by decide) hcd.1 (Or.inl (by decide))).2.1
    exact ⟨_, parse_single (fun D => ⟨c.ch, c.fmtWord, Voc.quant c, D / c.bw⟩) hfn (C04Voc.voc_reopen_info c hwf) st ops hg,
      rfl, rfl, rfl, by rw [hmajor]; exact hrate⟩

/-- VOC: every job of whole frames is accepted under the guard of the 3-byte block length, asked of the finished file and of every
    crash image; `hrate` is the `.divisor` clause on the model's quantiser — free for the type 9 block (`voc_rate_ok9`), the
    quantiser of the one-byte divisor for PCM_U8 -/
theorem voc_session_accepted (c : Voc.Cfg) (hwf : c.wf) (hrate : rateOk 0x08 c.sr ((Voc.quant c : Nat) : Int) = true)
    (ty : Ty) (stale stale' : Nat) (ops : List Small.Op) (hv : Valid c.ch ty ops)
    (hguard : vocGuard ((Small.sampleList ops).length * (encFor c.codec false).nbytes)) :
    accepted (Small.recordOf (vocCont c) ty stale stale' ops) = true :=
  guarded_session_accepted (vocCont c) vocGuard (voc_laws c hwf hrate) ty stale stale' ops hv fun _ _ e =>
    Nat.lt_of_le_of_lt (Nat.add_le_add_right (Nat.mul_le_mul_right _ (sampleList_prefix_le e)) 14) hguard

instance (ch : Nat) (ty : Ty) (ops : List Small.Op) : Decidable (Valid ch ty ops) :=
  @List.decidableBAll _ _ (fun op => by cases op <;> (dsimp only; infer_instance)) ops

def exOps : List Small.Op := [.write true [1, -2], .update, .auto true, .write false [3, -4, 5, 6]]
def exOps1 : List Small.Op := [.write true [1], .update, .auto true, .write false [-2, 3]]
def exPaf : Paf.Cfg := ⟨0x02, 0, 2, 44100⟩
def exIrcam : Ircam.Cfg := ⟨0x02, 2, 2, 16777217⟩

end Sf.C04Bridge2
