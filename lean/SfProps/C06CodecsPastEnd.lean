-- properties: C05
/-
  C05 / C06 for NMS ADPCM and GSM 06.10 — reads of ANY size at ANY position, in particular reads that CROSS the end of
  the data (the clamp of sf_read_* and the zero tail), for every caller type with its staging loop.  (G.721 / G.723:
  `g72x_read_contract`, SfProps/C06G72x.lean, already has this strength; it is restated here as
  `g72x_read_crossing_end` so that the three codecs stand side by side.)

    `nms_read_any`, `gsm_read_any`   ∀ handle satisfying the invariant (open, and every state reached by reads that
        ended inside the data), ∀ caller type, ∀ n: the call returns c = min (n, frames − position); the cells it writes
        are the caller image of stream [position, position + c) followed by zeros, at most n cells in all; the position
        advances by c — so a request that crosses the end is clamped, the tail zero, and the handle is then at `frames`
    `nms_read_crossing_end`, `gsm_read_crossing_end`   the corollary for position + n > frames
  They instantiate the generic `readLoop_general` (= `block_reader_past_end`) through the staging loops
  (SfProofs/BlockPastEnd.lean).
-/
import SfProps.C06Nms
import SfProps.C06Gsm
import SfProps.C06G72x
namespace Sf.C06CodecsPastEnd
open Sf Sf.Block Sf.Block.Proofs Sf.Block.PastEnd

theorem nms_read_any (cv : Conv) (ty : Ty) (h : RHandle) (hi : C06Nms.HInv h) (n : Nat) :
    ∃ h' k, Nms.read cv ty h n =
        (h', (h.r.slice h.pos (min n (h.frames - h.pos))).map (Nms.toCaller cv ty) ++ zeros k, min n (h.frames - h.pos)) ∧
      min n (h.frames - h.pos) + k ≤ n ∧ h'.pos = h.pos + min n (h.frames - h.pos) ∧ h'.frames = h.frames ∧ h'.r = h.r := by
  exact (readBrk_any h hi.wf hi.ch hi.inv hi.pos hi.fr (Nms.chunkOf ty) n).map _ (C06Nms.toCaller_zero cv ty)

/-- **NMS: a read that crosses the end of the data** returns what is left, zero-fills behind it and leaves the handle
    at the end -/
theorem nms_read_crossing_end (cv : Conv) (ty : Ty) (h : RHandle) (hi : C06Nms.HInv h) (n : Nat) (hle : h.pos ≤ h.frames)
    (hcross : h.frames < h.pos + n) :
    ∃ h' k, Nms.read cv ty h n = (h', (h.r.slice h.pos (h.frames - h.pos)).map (Nms.toCaller cv ty) ++ zeros k, h.frames - h.pos) ∧
      h.frames - h.pos + k ≤ n ∧ h'.pos = h.frames := by
  obtain ⟨h', k, e, hk, hp, _, _⟩ := nms_read_any cv ty h hi n
  have hm : min n (h.frames - h.pos) = h.frames - h.pos := by omega
  rw [hm] at e hk hp
  exact ⟨h', k, e, hk, by omega⟩

/-- non-vacuity: a one-block 32 kbit/s file (82 bytes, 160 frames) asked for 200 shorts -/
example : (Nms.read {} .s16 (Nms.openR .r32 (List.replicate 82 0x77)) 200).2.2 = 160 ∧
    ((Nms.read {} .s16 (Nms.openR .r32 (List.replicate 82 0x77)) 200).2.1.drop 160).all (· == 0) = true := by decide +kernel

/-- **GSM: any request at any position** (the staging loop of gsm610_read_i/f/d goes on after a short piece: the
    later pieces zero-fill at the running offset, so the written cells are still stream ++ zeros) -/
theorem gsm_read_any (h : RHandle) (hi : C06Gsm.HInv h) (cv : Conv) (ty : Ty) (n : Nat) :
    ∃ h' k, Gsm.readCall h cv ty n =
        (h', (h.r.slice h.pos (min n (h.frames - h.pos))).map (Gsm.toCaller cv ty) ++ zeros k, min n (h.frames - h.pos)) ∧
      min n (h.frames - h.pos) + k ≤ n ∧ h'.pos = h.pos + min n (h.frames - h.pos) ∧ h'.frames = h.frames ∧ h'.r = h.r := by
  exact (read_any h hi.wf hi.ch1 hi.inv hi.pos.symm hi.frm (Gsm.chunkOf ty) n).map _ (toCaller_zero cv ty)

theorem gsm_read_crossing_end (h : RHandle) (hi : C06Gsm.HInv h) (cv : Conv) (ty : Ty) (n : Nat) (hle : h.pos ≤ h.frames)
    (hcross : h.frames < h.pos + n) :
    ∃ h' k, Gsm.readCall h cv ty n = (h', (h.r.slice h.pos (h.frames - h.pos)).map (Gsm.toCaller cv ty) ++ zeros k, h.frames - h.pos) ∧
      h.frames - h.pos + k ≤ n ∧ h'.pos = h.frames := by
  obtain ⟨h', k, e, hk, hp, _, _⟩ := gsm_read_any h hi cv ty n
  have hm : min n (h.frames - h.pos) = h.frames - h.pos := by omega
  rw [hm] at e hk hp
  exact ⟨h', k, e, hk, by omega⟩

/-- non-vacuity: a one-frame RAW file (160 frames) asked for 5000 ints through the 4096-piece staging loop -/
example : (Gsm.readCall (Gsm.openRead ⟨false⟩ (0xD0 :: List.replicate 32 0) 33 none) {} .s32 5000).2.2 = 160 := by decide +kernel

theorem g72x_read_crossing_end (h : G72x.RHandle) (hi : G72x.Proofs.HInv h) (ty : Ty) (n : Nat) (hcross : h.frames < h.pos + n) :
    (h.read ty n).2.2 = h.frames - h.pos ∧
    (h.read ty n).2.1 = h.r.slice h.pos (h.frames - h.pos) ++ zeros (n - (h.frames - h.pos)) ∧
    (h.read ty n).1.pos = h.frames := by
  obtain ⟨h1, h2, _, h4, h5, _⟩ := C06G72x.g72x_read_contract h hi ty n
  have hm : min n (h.frames - h.pos) = h.frames - h.pos := by have := hi.le; omega
  rw [hm] at h1
  rw [h1] at h2 h4 h5
  exact ⟨h1, h2, by have := hi.le; omega⟩

example : (G72x.RHandle.read (G72x.RHandle.open G72x.g721 (List.replicate 60 0x77)) .s16 200).2.2 = 120 := by decide +kernel

end Sf.C06CodecsPastEnd
