/-
  C20 (ADPCM part) — the IMA (WAV and AIFF block layouts) and Microsoft ADPCM decoders produce, for any block
  bytes, the sample values of the reference algorithms.  Property theorems only; helper lemmas are in
  SfProofs/Adpcm.lean, the lib-shaped decoders in SfModel/Adpcm.lean, the references in SfModel/AdpcmSpec.lean.
-/
import SfProofs.Adpcm
namespace Sf.C20
open Sf.Adpcm Sf.Generated

/-! ## The tables the library uses are the published ones

`Generated.AdpcmTables` is re-extracted from the running library on every check run (each entry is revealed by
decoding a crafted block); these proofs are re-checked against it. -/

theorem ima_step_table_spec : imaStepTab = (List.range 89).map (fun i => Spec.imaStepTable.getD i 0) := imaStepTab_spec
theorem ima_index_table_spec : imaIndexAdjust = (List.range 16).map Spec.imaIndexDelta := imaIndexAdjust_spec
theorem ms_adaptation_table_spec : msAdaptationTab = (List.range 16).map (fun c => Spec.msAdaptionTable.getD c 0) :=
  msAdaptationTab_eq.trans (tab_getD Spec.msAdaptionTable 0)
theorem ms_coeff_table_spec :
    msCoeff1 = (List.range 7).map (fun p => (Spec.msCoefTable.getD p (0, 0)).1)
    ∧ msCoeff2 = (List.range 7).map (fun p => (Spec.msCoefTable.getD p (0, 0)).2) := msCoeff_spec

/-! ## Block geometries

What `ima_reader_init` / `wavlike_msadpcm_init` accept; for stereo IMA restricted to whole (left word, right word)
rounds (the WAVE_FORMAT_DVI_ADPCM layout). -/

/-- IMA/WAV (`ima_reader_init`: `samplesperblock = 2 * (blocksize - 4 * channels) / channels + 1`).
    Mono: 4 header bytes, then any number of data bytes, two samples each.
    Stereo: 4 header bytes per channel, then `m` rounds of one 32-bit word per channel, 8m+1 samples per channel
    (the WAVE_FORMAT_DVI_ADPCM layout; a stereo block whose data part is not a whole number of word pairs has no
    defined content for the missing half round). -/
def ImaWavGeometry (channels blockalign samplesperblock : Nat) : Prop :=
  (channels = 1 ∧ 4 ≤ blockalign ∧ samplesperblock = 2 * (blockalign - 4) + 1)
  ∨ (channels = 2 ∧ ∃ m, blockalign = 8 * (m + 1) ∧ samplesperblock = 8 * m + 1)

/-- MS: 7 header bytes per channel; `samplesperblock = 2 * (blockalign - 6 * channels) / channels` -/
def MsGeometry (channels blockalign samplesperblock : Nat) : Prop :=
  (channels = 1 ∨ channels = 2) ∧ 7 * channels ≤ blockalign
    ∧ samplesperblock = 2 * (blockalign - 6 * channels) / channels

theorem ima_wav_decode_ref (channels blockalign samplesperblock : Nat) (block : List Byte)
    (hg : ImaWavGeometry channels blockalign samplesperblock)
    (hlen : block.length = blockalign) (hb : ∀ b ∈ block, b < 256) :
    imaWavDecodeBlock channels samplesperblock block = Spec.imaWavBlock channels block := by
  -- per channel count: the header bytes are peeled off the block by `match`, both decoders then reduce to their loops over the data
  -- part, and the lib-shaped loop is the reference decoder on the unpacked codes (`wavDecodeLoop_mono` / `_stereo`)
  rcases hg with ⟨rfl, hmin, hspb⟩ | ⟨rfl, m, hba, hspb⟩
  · subst hspb
    obtain ⟨k, rfl⟩ : ∃ k, blockalign = k + 4 := ⟨blockalign - 4, by omega⟩
    match block, hlen, hb with
    | h0 :: h1 :: h2 :: h3 :: data, hlen, hb =>
      simp only [List.length_cons] at hlen
      simp only [List.forall_mem_cons] at hb
      obtain ⟨b0, b1, b2, -⟩ := hb
      have htake : (wavUnpack1 data).take (2 * (k + 4 - 4) + 1 - 1) = wavUnpack1 data :=
        List.take_of_length_le (by have := wavUnpack1_length_le data; omega)
      have hi := Sf.Adpcm.limitIndex_range (h2 : Int)
      simp only [imaWavDecodeBlock, wavHeader, wavUnpack, Spec.imaWavBlock, Spec.imaWavChannel,
        Nat.lt_irrefl, if_false, if_true, List.getD_cons_zero, List.getD_cons_succ, Nat.zero_mul, Nat.zero_add,
        Nat.mul_one, List.drop_succ_cons, List.drop_zero, List.reverse_singleton, List.singleton_append,
        wavHeader_pred h0 h1 b0 b1, wavHeader_index h2 b2, htake]
      rw [wavDecodeLoop_mono _ _ _ _ _ _ hi.1 hi.2, wavUnpack1_eq data, imaDecode_mod16]
  · subst hspb
    rw [hba] at hlen
    match block, hlen, hb with
    | l0 :: l1 :: l2 :: l3 :: r0 :: r1 :: r2 :: r3 :: data, hlen, hb =>
      simp only [List.length_cons] at hlen
      have hd : data.length = 8 * m := by omega
      simp only [List.forall_mem_cons] at hb
      obtain ⟨bl0, bl1, bl2, -, br0, br1, br2, -⟩ := hb
      have htake : (wavUnpack2 data).take ((8 * m + 1 - 1) * 2) = wavUnpack2 data :=
        List.take_of_length_le (by have := wavUnpack2_length_le data; omega)
      have hl := Sf.Adpcm.limitIndex_range (l2 : Int)
      have hr := Sf.Adpcm.limitIndex_range (r2 : Int)
      simp only [imaWavDecodeBlock, wavHeader, wavUnpack, Spec.imaWavBlock, Spec.imaWavChannel,
        show (2 : Nat) > 1 from by decide, show ((2 : Nat) = 1) = False from by simp,
        if_false, if_true, List.getD_cons_zero, List.getD_cons_succ, Nat.zero_mul, Nat.zero_add,
        Nat.one_mul, List.drop_succ_cons, List.drop_zero,
        wavHeader_pred l0 l1 bl0 bl1, wavHeader_index l2 bl2, wavHeader_pred r0 r1 br0 br1, wavHeader_index r2 br2,
        htake, Spec.frames2]
      simp only [List.reverse_cons, List.reverse_nil, List.nil_append, List.cons_append]
      rw [wavUnpack2_eq, wavDecodeLoop_stereo _ _ _ _ _ _ _ _ (by rfl) hl.1 hl.2 hr.1 hr.2,
        imaDecode_mod16, imaDecode_mod16]


/-- AIFF-C 'ima4': always 34-byte packets of 64 samples, one packet per channel per frame group
    (`aiff_ima_init (psf, AIFC_IMA4_BLOCK_LEN, AIFC_IMA4_SAMPLES_PER_BLOCK)`). -/
theorem ima_aiff_decode_ref (channels : Nat) (block : List Byte)
    (hch : channels = 1 ∨ channels = 2)
    (hlen : block.length = 34 * channels) (hb : ∀ b ∈ block, b < 256) :
    imaAiffDecodeBlock channels 34 64 block = Spec.imaAiffBlock channels block := by
  rcases hch with rfl | rfl
  · simp only [imaAiffDecodeBlock, Spec.imaAiffBlock, Nat.lt_irrefl, if_false]
    exact aiffChannel_eq block (by omega) hb
  · have h2 : ∀ b ∈ block.drop 34, b < 256 := fun b hm => hb b (List.mem_of_mem_drop hm)
    simp only [imaAiffDecodeBlock, Spec.imaAiffBlock, show (2 : Nat) > 1 from by decide, if_true]
    rw [aiffChannel_eq block (by omega) hb, aiffChannel_eq (block.drop 34) (by rw [List.length_drop]; omega) h2,
      interleave_eq_frames2]


theorem ms_decode_ref (channels blockalign samplesperblock : Nat) (block : List Byte)
    (hg : MsGeometry channels blockalign samplesperblock)
    (hlen : block.length = blockalign) (hb : ∀ b ∈ block, b < 256) :
    msDecodeBlock channels samplesperblock block = Spec.msBlock channels block := by
  -- as for IMA / WAV: the 7 header bytes per channel peeled off by `match`, then `msDecodeLoop_mono` / `_stereo`
  obtain ⟨hch, hmin, hspb⟩ := hg
  subst hspb
  rcases hch with rfl | rfl
  · obtain ⟨k, rfl⟩ : ∃ k, blockalign = k + 7 := ⟨blockalign - 7, by omega⟩
    match block, hlen, hb with
    | bp :: d0 :: d1 :: a0 :: a1 :: b0 :: b1 :: data, hlen, hb =>
      simp only [List.length_cons] at hlen
      simp only [List.forall_mem_cons] at hb
      obtain ⟨-, hd0, hd1, ha0, ha1, hb0, hb1, hd⟩ := hb
      have htake : (msUnpack data).take ((2 * (k + 7 - 6 * 1) / 1 - 2) * 1) = msUnpack data :=
        List.take_of_length_le (by rw [msUnpack_length, Nat.div_one]; omega)
      have hc := msCoeff_eq bp
      simp only [msDecodeBlock, Spec.msBlock, Spec.msChannel, Spec.msInit, if_true, List.getD_cons_zero,
        List.getD_cons_succ, List.drop_succ_cons, List.drop_zero, htake,
        msShort_eq d0 d1 hd0 hd1, msShort_eq a0 a1 ha0 ha1, msShort_eq b0 b1 hb0 hb1]
      rw [msDecodeLoop_mono, msUnpack_mono data hd, hc.1, hc.2]
      rfl
  · obtain ⟨k, rfl⟩ : ∃ k, blockalign = k + 14 := ⟨blockalign - 14, by omega⟩
    match block, hlen, hb with
    | bpL :: bpR :: dL0 :: dL1 :: dR0 :: dR1 :: aL0 :: aL1 :: aR0 :: aR1 :: bL0 :: bL1 :: bR0 :: bR1 :: data, hlen, hb =>
      simp only [List.length_cons] at hlen
      simp only [List.forall_mem_cons] at hb
      obtain ⟨-, -, hdL0, hdL1, hdR0, hdR1, haL0, haL1, haR0, haR1, hbL0, hbL1, hbR0, hbR1, hd⟩ := hb
      have htake : (msUnpack data).take ((2 * (k + 14 - 6 * 2) / 2 - 2) * 2) = msUnpack data :=
        List.take_of_length_le (by rw [msUnpack_length]; omega)
      have hcL := msCoeff_eq bpL
      have hcR := msCoeff_eq bpR
      simp only [msDecodeBlock, Spec.msBlock, Spec.msChannel, Spec.msInit, show ((2 : Nat) = 1) = False from by simp,
        if_false, List.getD_cons_zero, List.getD_cons_succ, List.drop_succ_cons, List.drop_zero, htake,
        msShort_eq dL0 dL1 hdL0 hdL1, msShort_eq dR0 dR1 hdR0 hdR1, msShort_eq aL0 aL1 haL0 haL1,
        msShort_eq aR0 aR1 haR0 haR1, msShort_eq bL0 bL1 hbL0 hbL1, msShort_eq bR0 bR1 hbR0 hbR1,
        Spec.frames2]
      rw [msUnpack_stereo, msDecodeLoop_stereo _ _ _ _ _ _ _ _ _ _ _ _ (by rfl), map_nibHi data hd, map_nibLo,
        hcL.1, hcL.2, hcR.1, hcR.2]
      rfl

/-- every sample of the decoders is inside the `short` range — for any block and any geometry, since each value they put
    into `samples` goes through a store to a `short` (`wrapS 16`); that these stores change nothing is part of `*_decode_ref`
    (the reference decoders, which saturate and never convert, give the same values) -/
theorem ima_wav_samples_int16 (channels blockalign samplesperblock : Nat) (block : List Byte)
    (hg : ImaWavGeometry channels blockalign samplesperblock)
    (hlen : block.length = blockalign) (hb : ∀ b ∈ block, b < 256) :
    ∀ x ∈ imaWavDecodeBlock channels samplesperblock block, -32768 ≤ x ∧ x ≤ 32767 :=
  imaWavDecodeBlock_in16 _ _ _

theorem ima_aiff_samples_int16 (channels : Nat) (block : List Byte)
    (hch : channels = 1 ∨ channels = 2)
    (hlen : block.length = 34 * channels) (hb : ∀ b ∈ block, b < 256) :
    ∀ x ∈ imaAiffDecodeBlock channels 34 64 block, -32768 ≤ x ∧ x ≤ 32767 :=
  imaAiffDecodeBlock_in16 _ _ _ _

theorem ms_samples_int16 (channels blockalign samplesperblock : Nat) (block : List Byte)
    (hg : MsGeometry channels blockalign samplesperblock)
    (hlen : block.length = blockalign) (hb : ∀ b ∈ block, b < 256) :
    ∀ x ∈ msDecodeBlock channels samplesperblock block, -32768 ≤ x ∧ x ≤ 32767 :=
  msDecodeBlock_in16 _ _ _

/-- `clamp_ima_step_index` always lands inside the 89-entry step table; every value the lib-shaped decoders keep in
    `stepindx` (header and after each code) is an image of it -/
theorem ima_step_index_clamped (x : Int) : 0 ≤ clampImaStepIndex x ∧ clampImaStepIndex x ≤ 88 := by
  rw [clampIdx_eq_limit]; exact limitIndex_range x

/-- reference decoder: the step index is within 0..88 after every step, for every code sequence -/
theorem ima_step_index_range (s : Spec.ImaState) (codes : List Nat) (h0 : 0 ≤ s.index) (h1 : s.index ≤ 88) :
    0 ≤ (Spec.imaRun s codes).index ∧ (Spec.imaRun s codes).index ≤ 88 :=
  imaRun_index_range codes s h0 h1

example : ImaWavGeometry 1 256 505 ∧ ImaWavGeometry 2 1024 1017 ∧ ImaWavGeometry 1 33 59 ∧ MsGeometry 1 256 500 ∧ MsGeometry 2 1024 1012 :=
  ⟨Or.inl ⟨rfl, by decide, by decide⟩, Or.inr ⟨rfl, 127, by decide, by decide⟩, Or.inl ⟨rfl, by decide, by decide⟩,
   ⟨Or.inl rfl, by decide, by decide⟩, ⟨Or.inr rfl, by decide, by decide⟩⟩

/-- IMA/WAV mono, header predictor -32768, index 40: both decoders give these 9 samples -/
example : imaWavDecodeBlock 1 9 [0x00, 0x80, 0x28, 0x00, 0x7f, 0x80, 0xf7, 0x0f]
      = [-32768, -32768, -31411, -31217, -31393, -28990, -32768, -32768, -31189]
    ∧ Spec.imaWavBlock 1 [0x00, 0x80, 0x28, 0x00, 0x7f, 0x80, 0xf7, 0x0f]
      = [-32768, -32768, -31411, -31217, -31393, -28990, -32768, -32768, -31189] := by decide +kernel

/-- IMA/WAV stereo, header index 88 (left) and 0 (right), saturating codes 7 / 8 -/
example : imaWavDecodeBlock 2 9 [0xff, 0x7f, 0x58, 0, 0, 0x80, 0, 0, 0x77, 0x77, 0x77, 0x77, 0x88, 0x88, 0x88, 0x88]
      = Spec.imaWavBlock 2 [0xff, 0x7f, 0x58, 0, 0, 0x80, 0, 0, 0x77, 0x77, 0x77, 0x77, 0x88, 0x88, 0x88, 0x88]
    ∧ (Spec.imaWavBlock 2 [0xff, 0x7f, 0x58, 0, 0, 0x80, 0, 0, 0x77, 0x77, 0x77, 0x77, 0x88, 0x88, 0x88, 0x88]).take 4
      = [32767, -32768, 32767, -32768] :=
  ⟨ima_wav_decode_ref 2 16 9 _ (.inr ⟨rfl, 1, rfl, rfl⟩) rfl (by decide), by decide +kernel⟩

/-- an out-of-range header index (255) is limited to 88 by both -/
example : imaWavDecodeBlock 1 9 [0, 0, 0xff, 0, 4, 0, 0, 0] = imaWavDecodeBlock 1 9 [0, 0, 0x58, 0, 4, 0, 0, 0]
    ∧ (Spec.imaWavBlock 1 [0, 0, 0xff, 0, 4, 0, 0, 0]).take 2 = [0, 32767] := by decide +kernel

/-- AIFF 'ima4' mono: header word 0x7FD9 = predictor 0x7F80, index 89 (limited to 88); 32 bytes 0x7F then zeros -/
example : (imaAiffDecodeBlock 1 34 64 ([0x7f, 0xd9] ++ List.replicate 16 0x7f ++ List.replicate 16 0x80)).take 4
      = [-28796, 32640, -28796, 32640]
    ∧ imaAiffDecodeBlock 1 34 64 ([0x7f, 0xd9] ++ List.replicate 16 0x7f ++ List.replicate 16 0x80)
      = Spec.imaAiffBlock 1 ([0x7f, 0xd9] ++ List.replicate 16 0x7f ++ List.replicate 16 0x80) :=
  ⟨by decide +kernel, ima_aiff_decode_ref 1 _ (.inl rfl) (by decide +kernel) (by decide +kernel)⟩

/-- MS mono: block predictor 7 (invalid) decodes as predictor 0; delta 1, samples 1000, 10 -/
example : msDecodeBlock 1 8 [0x07, 0x00, 0x01, 0xe8, 0x03, 0x0a, 0x00, 0x7f, 0x80, 0x19]
      = [10, 1000, 2792, 2178, -2230, -2230, -745, -10083]
    ∧ Spec.msBlock 1 [0x07, 0x00, 0x01, 0xe8, 0x03, 0x0a, 0x00, 0x7f, 0x80, 0x19]
      = Spec.msBlock 1 [0x00, 0x00, 0x01, 0xe8, 0x03, 0x0a, 0x00, 0x7f, 0x80, 0x19] := by decide +kernel

/-- MS stereo with delta 0x8000 (negative as a short) on the right channel -/
example : msDecodeBlock 2 4 [0x01, 0xff, 0x10, 0x00, 0x00, 0x80, 0x00, 0x01, 0xff, 0x7f, 0x00, 0x80, 0x00, 0x00, 0x1f, 0xe8]
      = [-32768, 0, 256, 32767, 32767, 32767, 32767, 32639]
    ∧ Spec.msBlock 2 [0x01, 0xff, 0x10, 0x00, 0x00, 0x80, 0x00, 0x01, 0xff, 0x7f, 0x00, 0x80, 0x00, 0x00, 0x1f, 0xe8]
      = [-32768, 0, 256, 32767, 32767, 32767, 32767, 32639] := by decide +kernel

end Sf.C20
