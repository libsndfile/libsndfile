/-
  C03 — the broken-'fmt ' detector of the WAV / RF64 readers (`wavlike_analyze`, `audio_detect`, `vote_for_format`) leaves a sane,
  self-consistent sample layout for EVERY file content: its answer is one of {0, PCM_32, FLOAT}, the format word / bytewidth /
  blockwidth it installs agree with each other (the hypotheses of the read-wrapper clamp), the votes stay far inside `int`, and the
  indices vote_for_format computes are below the length of the piece (`vote_in_bounds`: arithmetic on the index expressions alone; the
  model reads through `getD` and cannot express a read outside the piece).  Model: SfModel/AudioDetect.lean; correspondence: vlib/c03detect.py (votes per piece from
  the log, outcome line, SF_INFO.format and frames, first items read, on a deterministic family of files through vio / fd / pipe).
-/
-- properties: C03
import SfModel.AudioDetect
namespace Sf.C03AudioDetect
open Sf.AudioDetect

theorem b4_le (c : Bool) : b4 c ≤ 4 := by cases c <;> simp [b4]

theorem step_votes (d : List Nat) (k : Nat) (v : Vote) :
    (step d k v).leFloat = v.leFloat + b4 (cLeFloat d) ∧ (step d k v).leInt ≤ v.leInt + 8 ∧
    (step d k v).beFloat ≤ v.beFloat + 4 ∧ (step d k v).beInt = v.beInt := by
  have h1 := b4_le (cInt1 d k); have h2 := b4_le (cInt2 d); have h3 := b4_le (cBeFloat d)
  refine ⟨rfl, ?_, ?_, rfl⟩
  · show v.leInt + b4 (cInt1 d k) + b4 (cInt2 d) ≤ v.leInt + 8
    omega
  · show v.beFloat + b4 (cBeFloat d) ≤ v.beFloat + 4
    omega

theorem groups_votes (d : List Nat) (n k : Nat) (v : Vote) :
    (groups d n k v).leFloat = v.leFloat + n * b4 (cLeFloat d) ∧ (groups d n k v).leInt ≤ v.leInt + 8 * n ∧
    (groups d n k v).beFloat ≤ v.beFloat + 4 * n ∧ (groups d n k v).beInt = v.beInt := by
  induction n generalizing k v with
  | zero => simp [groups]
  | succ n ih =>
    rw [groups]
    obtain ⟨i1, i2, i3, i4⟩ := ih (k + 4) (step d k v)
    obtain ⟨s1, s2, s3, s4⟩ := step_votes d k v
    exact ⟨by rw [i1, s1, Nat.succ_mul]; omega, by omega, by omega, i4.trans s4⟩

/-- **all or nothing**: the little-endian float vote of a piece is 0 or the whole (4-aligned) piece length — as the code is written the
    first four bytes of a piece decide it -/
theorem vote_leFloat_all_or_nothing (d : List Nat) (n : Nat) :
    (voteForFormat d n).leFloat = 0 ∨ (voteForFormat d n).leFloat = 4 * (n / 4) := by
  unfold voteForFormat
  rw [(groups_votes d (n / 4) 0 {}).1]
  cases cLeFloat d <;> simp [b4] <;> omega

/-- **the votes are bounded by twice the piece length** (8192 for the 4096-byte piece of the only caller): no `int` overflow for any content -/
theorem vote_bounds (d : List Nat) (n : Nat) :
    (voteForFormat d n).leFloat ≤ n ∧ (voteForFormat d n).leInt ≤ 2 * n ∧ (voteForFormat d n).beFloat ≤ n ∧ (voteForFormat d n).beInt = 0 := by
  have h1 := vote_leFloat_all_or_nothing d n
  obtain ⟨-, h2, h3, h4⟩ := groups_votes d (n / 4) 0 {}
  unfold voteForFormat
  unfold voteForFormat at h1
  have e1 : ({} : Vote).leInt = 0 := rfl
  have e2 : ({} : Vote).beFloat = 0 := rfl
  have e3 : ({} : Vote).beInt = 0 := rfl
  refine ⟨by omega, by omega, by omega, by rw [h4, e3]⟩

/-- the highest index vote_for_format touches: `k + 1` with k the start of the last group, and the constants 0, 2, 3 -/
theorem vote_in_bounds (n : Nat) (hn : 4 ≤ n) : ∀ g, g < n / 4 → 4 * g + 1 < n ∧ 3 < n := by
  intro g hg; omega

/-- **the answer of audio_detect is 0, PCM_32 or FLOAT** — for every buffer and every length -/
theorem verdict_range (v : Vote) (n : Nat) : verdict v n = 0 ∨ verdict v n = PCM_32 ∨ verdict v n = FLOAT := by
  unfold verdict; split
  · exact Or.inr (Or.inr rfl)
  · split
    · exact Or.inr (Or.inl rfl)
    · exact Or.inl rfl

theorem audioDetect_range (d : List Nat) (n : Nat) : audioDetect d n = 0 ∨ audioDetect d n = PCM_32 ∨ audioDetect d n = FLOAT := by
  unfold audioDetect; split
  · exact Or.inl rfl
  · exact verdict_range _ _

/-- short buffers are never judged -/
theorem audioDetect_short (d : List Nat) (n : Nat) (h : n < 256) : audioDetect d n = 0 := by simp [audioDetect, h]

/-- the thresholds are strict: exactly three quarters of the piece is not enough -/
theorem verdict_threshold_4096 (v : Vote) :
    (verdict v 4096 = FLOAT ↔ v.leFloat ≥ 3073) ∧ (verdict v 4096 = PCM_32 ↔ v.leFloat ≤ 3072 ∧ v.leInt ≥ 3073) := by
  unfold verdict
  have e : (3 * 4096) / 4 = 3072 := by decide
  rw [e]
  constructor
  · constructor
    · intro h; split at h
      · omega
      · split at h <;> simp [PCM_32, FLOAT] at h
    · intro h; simp [show v.leFloat > 3072 by omega]
  · constructor
    · intro h; split at h
      · simp [PCM_32, FLOAT] at h
      · split at h
        · omega
        · simp [PCM_32] at h
    · intro h; simp [show ¬ v.leFloat > 3072 by omega, show v.leInt > 3072 by omega]

/-- **the scan's answer is 0, PCM_32 or FLOAT** for every file content and every number of pieces -/
theorem scan_range (fuel : Nat) (rest : List Nat) :
    (scan fuel rest).1 = 0 ∨ (scan fuel rest).1 = PCM_32 ∨ (scan fuel rest).1 = FLOAT := by
  induction fuel generalizing rest with
  | zero => exact Or.inl rfl
  | succ fuel ih =>
    rw [scan]
    by_cases hp : (List.take PIECE rest).length = PIECE
    · rw [if_pos hp]
      by_cases hf : audioDetect (List.take PIECE rest) PIECE ≠ 0
      · rw [if_pos hf]; dsimp only; exact audioDetect_range (List.take PIECE rest) PIECE
      · rw [if_neg hf]; dsimp only; exact ih (List.drop PIECE rest)
    · rw [if_neg hp]; exact Or.inl rfl

/-- a file that holds fewer than 600 + 4096 bytes is never judged: detection fails whatever it contains -/
theorem scan_short (fuel : Nat) (rest : List Nat) (h : rest.length < PIECE) : scan fuel rest = (0, []) := by
  cases fuel with
  | zero => rfl
  | succ f =>
    rw [scan]
    have : ¬ (List.take PIECE rest).length = PIECE := by rw [List.length_take]; omega
    rw [if_neg this]

theorem install_consistent (lay : Layout) (ch f : Nat) (hl : Consistent lay ch) (hf : f = 0 ∨ f = PCM_32 ∨ f = FLOAT) :
    Consistent (install lay ch f).1 ch := by
  unfold install
  rcases hf with h | h | h
  · simp [h]; exact hl
  · subst h
    have e : (lay.format - lay.format % 65536 + 4) % 65536 = 4 := by omega
    simp [PCM_32, FLOAT, Consistent, widthOf, SUBMASK, PCM_24, e]
  · subst h
    have e : (lay.format - lay.format % 65536 + 6) % 65536 = 6 := by omega
    simp [PCM_32, FLOAT, Consistent, widthOf, SUBMASK, PCM_24, e]

/-- the layout the WAV / RF64 reader holds when it calls the detector is consistent (major has no sub-format bits) -/
theorem brokenLayout_consistent (major ch : Nat) (hm : major % 65536 = 0) : Consistent (brokenLayout major ch) ch := by
  have e : (major + 3) % 65536 = 3 := by omega
  simp [brokenLayout, Consistent, widthOf, SUBMASK, PCM_24, e]

/-- **C03, detector**: whatever the file holds and whichever route it came by, after wavlike_analyze the format word names PCM_24,
    PCM_32 or FLOAT, bytewidth is that encoding's width (non-zero) and blockwidth = channels x bytewidth -/
theorem analyze_consistent (isPipe : Bool) (file : List Nat) (major ch : Nat) (hm : major % 65536 = 0) :
    Consistent (analyze isPipe file ch (brokenLayout major ch)).1 ch := by
  unfold analyze
  cases isPipe
  · simp only [Bool.false_eq_true, if_false]
    exact install_consistent _ _ _ (brokenLayout_consistent major ch hm) (scan_range _ _)
  · simp only [if_true]
    exact brokenLayout_consistent major ch hm

/-- the container bits of the format word survive -/
theorem install_keeps_major (lay : Layout) (ch f : Nat) (hf : f < 65536) :
    (install lay ch f).1.format / 65536 = lay.format / 65536 := by
  unfold install
  split
  · rfl
  · split
    · simp [SUBMASK]; omega
    · split
      · simp [SUBMASK]; omega
      · rfl

/-- **the outcome is never "unhandled" and never PCM_24**: the `case SF_FORMAT_PCM_24` and `default` arms of wavlike_analyze are dead code -/
theorem analyze_outcome (isPipe : Bool) (file : List Nat) (ch : Nat) (lay : Layout) :
    (analyze isPipe file ch lay).2.1 = .pipeRefused ∨ (analyze isPipe file ch lay).2.1 = .failed ∨
    (analyze isPipe file ch lay).2.1 = .found PCM_32 ∨ (analyze isPipe file ch lay).2.1 = .found FLOAT := by
  unfold analyze
  cases isPipe
  · simp only [Bool.false_eq_true, if_false]
    rcases scan_range ((List.drop START file).length / PIECE + 1) (List.drop START file) with h | h | h <;> rw [h] <;> simp [install, PCM_32, FLOAT]
  · simp

/-- a pipe is refused before anything is read: the layout is untouched -/
theorem analyze_pipe (file : List Nat) (ch : Nat) (lay : Layout) : analyze true file ch lay = (lay, .pipeRefused, []) := by simp [analyze]

/-- a file shorter than 600 + 4096 bytes keeps its 24-bit reading -/
theorem analyze_short_file (file : List Nat) (ch : Nat) (lay : Layout) (h : file.length < START + PIECE) :
    analyze false file ch lay = (lay, .failed, []) := by
  unfold analyze
  have hl : (List.drop START file).length < PIECE := by rw [List.length_drop]; simp only [START, PIECE] at h ⊢; omega
  simp [scan_short _ _ hl, install]

/-! non-vacuity: concrete buffers reach each answer (256-byte buffers — the shortest audio_detect judges) -/
example : audioDetect ((List.replicate 64 [1, 0, 0, 0x44]).flatten) 256 = FLOAT := by decide +kernel
example : audioDetect ((List.replicate 64 [0, 7, 0, 0]).flatten) 256 = PCM_32 := by decide +kernel
example : audioDetect ((List.replicate 48 [0, 7, 0, 0]).flatten ++ List.replicate 64 0) 256 = 0 := by decide +kernel
example : audioDetect ((List.replicate 49 [0, 7, 0, 0]).flatten ++ List.replicate 60 0) 256 = PCM_32 := by decide +kernel
example : audioDetect (List.replicate 256 0) 256 = 0 := by decide +kernel
/-- only the first group decides the float vote (as written) -/
example : audioDetect ([1, 0, 0, 0x44] ++ List.replicate 252 0) 256 = FLOAT := by decide +kernel
example : Consistent (analyze false [] 2 (brokenLayout 0x10000 2)).1 2 := analyze_consistent false [] 0x10000 2 (by decide)
example : (install (brokenLayout 0x10000 2) 2 FLOAT).1 = { format := 0x10006, bytewidth := 4, blockwidth := 8 } := by decide

end Sf.C03AudioDetect
