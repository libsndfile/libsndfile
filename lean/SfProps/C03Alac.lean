/-
-- properties: C03
  C03 (memory safety of the ALAC decoder on hostile packets) — sizes of everything `alac_decode` stores, for EVERY byte
  buffer, every configuration the 'kuki' chunk can hold (bit depth, pb, mb, kb, maxRun, channel count ≥ 1) and every
  requested frame count up to 4096 (src/alac.c refuses a larger frames-per-packet), on the model of
  lean/SfModel/AlacCore.lean, AlacAg.lean, AlacDp.lean, AlacMatrix.lean, AlacDec.lean.

  The bounds are those of the C buffers: a store `sampleBuffer [j * numChannels + c]` with `j < 4096`, `c < numChannels`
  fits the `channels * 8192` ints src/alac.c allocates; `dyn_decomp` writes into `mPredictor [4096]`; `unpc_block` writes
  mMixBufferU / V [4096], and its warm-up loop touches indices up to the predictor order, which the 5-bit field keeps
  below 32.  Bad tags, `numSamples ≥ 4096` and zero runs beyond the frame end the decode with an error status.
  What is NOT true (`alac_decode_history_witness`): that the frames handed out are a function of the packet only.  A packet
  whose second element is longer than its first delivers samples of the previous packet (alac.c never clears
  `plac->buffer`).  Not a memory error; recorded as an observation.
-/
import SfProofs.AlacBounds
namespace Sf.AlacCore

/-- what `alac_decode` may store: frame count, channel count, samples per channel -/
def Res.InBounds (res : Res) (numChannels : Nat) : Prop :=
  res.outNum ≤ frameLen ∧ res.written.length ≤ numChannels ∧ ∀ ch ∈ res.written, ch.length ≤ frameLen

theorem decLoop_inBounds (ru : Rules) (cfg : Config) (byteSize : Nat) : ∀ (fuel : Nat) (s : St),
    s.numSamples ≤ frameLen → s.outNum ≤ frameLen → s.written.length < cfg.numChannels → (∀ ch ∈ s.written, ch.length ≤ frameLen) →
    (decLoop (comp ru byteSize) ru cfg byteSize fuel s).InBounds cfg.numChannels := by
  intro fuel
  induction fuel with
  | zero => intro s h1 h2 h3 h4; exact ⟨h2, Nat.le_of_lt h3, h4⟩
  | succ fuel ih =>
    intro s h1 h2 h3 h4
    -- an iteration ends in one of four shapes, each within bounds: the state as it stands (`base`), the same zero-filled (`zf`), behind an
    -- audio element of `k` channels (`audio`), behind a DSE / FIL element (`skip`); the split on the tag at the end only picks the shape
    have base : ∀ (st : Status) (p : Nat), (Res.mk st s.outNum s.written p).InBounds cfg.numChannels := fun _ _ => ⟨h2, Nat.le_of_lt h3, h4⟩
    have zf : ∀ (st : Status) (p : Nat), (Res.mk st s.outNum (zeroFill cfg.numChannels s.numSamples s.written) p).InBounds cfg.numChannels := by
      intro st p
      have := zeroFill_inBounds cfg.numChannels s.numSamples s.written (Nat.le_of_lt h3) h1 h4
      exact ⟨h2, this.1, this.2⟩
    have audio : ∀ (e : ElemRes) (k : Nat), s.written.length + k ≤ cfg.numChannels →
        (∀ n chans r', e = .done n chans r' → (n = s.numSamples ∨ n < frameLen) ∧ chans.length = k ∧ ∀ ch ∈ chans, ch.length ≤ n) →
        (match e with
          | .fail st r => (⟨st, s.outNum, s.written, r.pos⟩ : Res)
          | .done n chans r =>
            if (s.written ++ chans).length ≥ cfg.numChannels then ⟨.ok, n, zeroFill cfg.numChannels n (s.written ++ chans), r.pos⟩
            else decLoop (comp ru byteSize) ru cfg byteSize fuel ⟨r, n, n, s.written ++ chans⟩).InBounds cfg.numChannels := by
      intro e k hk hb
      cases e with
      | fail st r => exact base _ _
      | done n chans r =>
        obtain ⟨hn, hl, hc⟩ := hb n chans r rfl
        have hn' : n ≤ frameLen := by rcases hn with rfl | h <;> omega
        have hall : ∀ ch ∈ s.written ++ chans, ch.length ≤ frameLen := by
          intro ch hch
          rcases List.mem_append.mp hch with h | h
          · exact h4 ch h
          · have := hc ch h; omega
        simp only
        split
        · have := zeroFill_inBounds cfg.numChannels n (s.written ++ chans) (by simp; omega) hn' hall
          exact ⟨hn', this.1, this.2⟩
        · rename_i hlt
          exact ih ⟨r, n, n, s.written ++ chans⟩ hn' hn' (by simpa using hlt) hall
    have skip : ∀ x : Status × Rd,
        (if x.1 ≠ .ok then (⟨x.1, s.outNum, zeroFill cfg.numChannels s.numSamples s.written, x.2.pos⟩ : Res)
          else if s.written.length ≥ cfg.numChannels then ⟨.ok, s.outNum, zeroFill cfg.numChannels s.numSamples s.written, x.2.pos⟩
          else decLoop (comp ru byteSize) ru cfg byteSize fuel { s with r := x.2 }).InBounds cfg.numChannels := by
      intro x
      by_cases hx : x.1 ≠ .ok
      · rw [if_pos hx]; exact zf _ _
      · rw [if_neg hx, if_neg (by omega)]; exact ih { s with r := x.2 } h1 h2 h3 h4
    rw [decLoop]
    by_cases hc : s.r.curByte ≥ byteSize
    · rw [if_pos hc]; exact base _ _
    · rw [if_neg hc]
      rcases s.r.read 3 with ⟨tag, r⟩
      simp only []
      by_cases t1 : tag = ID_SCE ∨ tag = ID_LFE
      · rw [if_pos t1]
        exact audio _ 1 (by omega) (decMono_within ru byteSize cfg s.numSamples r).2
      · rw [if_neg t1]
        by_cases t2 : tag = ID_CPE
        · rw [if_pos t2]
          by_cases hw : s.written.length + 2 > cfg.numChannels
          · rw [if_pos hw]; exact zf _ _
          · rw [if_neg hw]
            exact audio _ 2 (by omega) (decPair_within ru byteSize cfg s.numSamples r).2
        · rw [if_neg t2]
          by_cases t3 : tag = ID_CCE ∨ tag = ID_PCE
          · rw [if_pos t3]; exact zf _ _
          · rw [if_neg t3]
            by_cases t4 : tag = ID_DSE
            · rw [if_pos t4]; exact skip _
            · rw [if_neg t4]
              by_cases t5 : tag = ID_FIL
              · rw [if_pos t5]; exact skip _
              · rw [if_neg t5]; exact base _ _

/-- every store of `alac_decode` into the caller's sample buffer is in range, for every packet, every stale content of the
    byte buffer behind it, every configuration and every requested frame count up to 4096 -/
theorem alac_decode_in_bounds (ru : Rules) (cfg : Config) (image : List Byte) (byteSize numSamples : Nat) (hn : numSamples ≤ frameLen) :
    (decodeR ru cfg image byteSize numSamples).InBounds cfg.numChannels := by
  unfold decodeR decodeWith
  split
  · exact ⟨by simp [frameLen], by simp, by simp⟩
  · rename_i hc
    exact decLoop_inBounds ru cfg byteSize _ _ hn hn (by simpa using Nat.pos_of_ne_zero hc) (by simp)

/-- `dyn_decomp` never stores more than `numSamples` residuals, and exactly `numSamples` when it succeeds -/
theorem dyn_decomp_in_bounds (p : AgParams) (r : Rd) (byteSize numSamples maxSize : Nat) :
    (dynDecomp p r byteSize numSamples maxSize).1.out.length ≤ numSamples ∧
    ((dynDecomp p r byteSize numSamples maxSize).1.ok = true → (dynDecomp p r byteSize numSamples maxSize).1.out.length = numSamples) :=
  dynDecomp_length p r byteSize numSamples maxSize

/-- `unpc_block`: `num` residuals in, `num` samples out, whatever the coefficients, order, width and shift -/
theorem unpc_block_length (pc1 coefs : List Int) (numactive chanbits denshift : Nat) :
    (unpcBlock pc1 coefs numactive chanbits denshift).length = pc1.length :=
  unpcBlock_length pc1 coefs numactive chanbits denshift

/-- non-vacuity: a hostile packet (ID_SCE, partial frame of 5 samples, compressed, predictor order 30, then garbage) is
    decoded within the bounds, with an error status -/
example : (decode ⟨16, 2, 40, 10, 14, 255⟩ [0x00, 0x00, 0x10, 0x00, 0x00, 0x00, 0xA0, 0x00, 0x09, 0x9E, 0xFF, 0xFF, 0xFF, 0x12] 14 4096).InBounds 2 :=
  alac_decode_in_bounds _ _ _ _ _ (by decide)

/-- the element loop of `alac_decode` ends: `3 * byteSize + 1` rounds are enough for every packet (each round consumes at
    least the three tag bits while the position is inside the packet) — more fuel never changes the result -/
theorem alac_decode_total (ru : Rules) (cfg : Config) (image : List Byte) (byteSize numSamples extra : Nat) :
    decLoop (comp ru byteSize) ru cfg byteSize (3 * byteSize + 1 + extra) ⟨Rd.ofBytes image, numSamples, numSamples, []⟩ =
      decLoop (comp ru byteSize) ru cfg byteSize (3 * byteSize + 1) ⟨Rd.ofBytes image, numSamples, numSamples, []⟩ :=
  (decLoop_fuel ru cfg byteSize (3 * byteSize + 1) _ (by simp [Rd.ofBytes]; omega) _ (by omega)).symm

/-- a well-formed-looking hostile packet for a 16-bit stereo file: an ID_SCE element with a partial frame of ONE
    uncompressed sample, then an ID_LFE element with a partial frame of TWO -/
def historyPacket : List Byte :=
  pack (bitsOf ID_SCE 3 ++ bitsOf 0 4 ++ bitsOf 0 12 ++ bitsOf 9 4 ++ bitsOf 1 32 ++ bitsOf 0x1234 16 ++
        bitsOf ID_LFE 3 ++ bitsOf 0 4 ++ bitsOf 0 12 ++ bitsOf 9 4 ++ bitsOf 2 32 ++ bitsOf 1 16 ++ bitsOf 2 16 ++ bitsOf ID_END 3)

/-- the frames `alac_decode` leaves in `plac->buffer` are NOT a function of the packet alone: the packet above is decoded
    without error to 2 frames, channel 0 of frame 1 is whatever the buffer held before (two histories, two results) -/
theorem alac_decode_history_witness :
    let res := decode ⟨16, 2, 40, 10, 14, 255⟩ historyPacket historyPacket.length 4096
    res.status = .ok ∧ res.outNum = 2 ∧ res.written = [[0x12340000], [0x10000, 0x20000]] ∧
    transpose res.outNum (applyOut [[0, 0], [0, 0]] 2 res.written) = [[0x12340000, 0x10000], [0, 0x20000]] ∧
    transpose res.outNum (applyOut [[5, 0x77770000], [6, 7]] 2 res.written) = [[0x12340000, 0x10000], [0x77770000, 0x20000]] := by
  decide +kernel

end Sf.AlacCore
