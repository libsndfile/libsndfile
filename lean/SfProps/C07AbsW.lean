/-
  C07 on the WRITE-SIDE PREDICATE (SfModel/AbsWrite.lean) — the clause `partition` of `Sf.AbsWrite.judge`, which the check
  evaluates on the implementation's own records (`sfmodel abs-write`): what an accepted record MEANS, and that the bytes
  the concrete model is proved to produce (`C07.file_bytes_partition_finite`) ARE accepted.
  Lemmas in SfProofs/AbsWrite*.lean.
-/
import SfProofs.AbsWriteComplete
import SfProps.C07
namespace Sf.C07AbsW
open Sf Sf.Abs Sf.AbsWrite

/-- MEANING (C07 at full strength, any container, any encoding): in an accepted record with a split run, the two runs
    were handed EQUAL CONCATENATIONS of samples, every call of either run accepted what it was handed — whatever the
    sizes, the item / frame variants and the header updates in between — and the closed files are EQUAL BYTE FOR BYTE
    (audio data and headers). -/
theorem partition_abs (r : Record) (sp : Run) (h : accepted r = true) (hs : r.split = some sp) :
    handed sp.calls = handed r.one.calls ∧ (∀ c ∈ r.one.calls, c.ret = c.n) ∧ (∀ c ∈ sp.calls, c.ret = c.n) ∧
    r.one.bytes = sp.bytes := by
  have a := accepted_meaning r h
  obtain ⟨_, h2, h3, h4, _⟩ := a.split sp hs
  exact ⟨h2, a.calls, h3, (partitionOk_iff _ _).1 h4⟩

/-- what "equal concatenations" is made of: the supplied regions of the calls, in order -/
theorem handed_concat (c : Call) (cs : List Call) : handed (c :: cs) = c.data ++ handed cs ∧ handed [] = #[] :=
  ⟨handed_cons c cs, rfl⟩

/-- COMPLETENESS against `C07.file_bytes_partition_finite`: for every RAW / AU / WAV session of the concrete model (PEAK
    carrying files included, finite samples), the closed bytes of ANY list of well-formed calls and the closed bytes of the
    single call with the concatenation — as the campaign records them — are accepted by the `partition` clause. -/
theorem file_bytes_partition_accepted (fmt : Nat) (ch sr : Int) (h : H) (s : Store)
    (ho : openHandle 0 {} .w fmt ch sr = .ok h s)
    (ty : Ty) (ops : List WOp) (hok : ∀ op ∈ ops, op.ok h) (ht : ∀ op ∈ ops, op.hasTy ty) (hfin : C07.FiniteOps h ty ops)
    (f1 f2 : List Byte) (h1 : closeBytes fmt ch sr [C07.oneCall ty ops] = some f1) (h2 : closeBytes fmt ch sr ops = some f2)
    (one split : Run) (hb1 : one.bytes = f1.toArray) (hb2 : split.bytes = f2.toArray) :
    partitionOk one split = true := by
  have := C07.file_bytes_partition_finite fmt ch sr h s ho ty ops hok ht hfin
  rw [h1, h2] at this
  injection this with e
  exact (partitionOk_iff one split).2 (by rw [hb1, hb2, e])

/-! ## non-vacuity: the stereo 16-bit AU job (3 frames in one call vs. a frames call + an items call with a header update) -/

def exG : AbsWrite.Geom := { word := 0x00030002, ch := 2, sr := 44100 }
def exBytes : Array Item :=
  #[46,115,110,100, 0,0,0,24, 0,0,0,12, 0,0,0,3, 0,0,172,68, 0,0,0,2, 0,1,255,254,0,3,255,252,0,5,0,6]
def exInfo (f : Int) : Info := { ch := 2, sr := 44100, fmt := 0x00030002, frames := f }
def exSplit : Run :=
  { calls := [{ ty := .s16, fc := true, n := 1, data := #[1, 0xFFFE], ret := 1 },
              { ty := .s16, fc := false, n := 4, data := #[3, 0xFFFC, 5, 6], ret := 4 }], bytes := exBytes }
def exRec : Record :=
  { g := exG, ty := .s16,
    one := { calls := [{ ty := .s16, fc := true, n := 3, data := #[1, 0xFFFE, 3, 0xFFFC, 5, 6], ret := 3 }], bytes := exBytes },
    info := exInfo 3,
    rb := { ret := 6, data := #[1, 0xFFFE, 3, 0xFFFC, 5, 6, 0xA5A5, 0xA5A5] },
    split := some exSplit }

example : accepted exRec = true ∧ exRec.split = some exSplit := ⟨by decide +kernel, rfl⟩
/-- the split run's header says 2 frames (a stale length): `partition`; a call of the split run accepts less: `write` in run 2 -/
example : judge { exRec with split := some { exSplit with bytes := exBytes.set! 11 8 } } = [{ tag := "partition", run := 2 }] := by decide +kernel
example : judge { exRec with split := some { exSplit with calls := exSplit.calls.map fun c => { c with ret := 1 } } } =
    [{ tag := "write", run := 2, idx := 1 }] := by decide +kernel
/-- two runs that were NOT handed the same samples are no comparison at all -/
example : judge { exRec with split := some { exSplit with calls := exSplit.calls.take 1 } } = [{ tag := "record", run := 2 }] := by decide +kernel
/-- the model side: the two call lists of this record give the same AU file -/
example : closeBytes 0x030002 2 44100 [.write .s16 true 1 [1, -2], .updHeader 0, .write .s16 false 4 [3, -4, 5, 6]] =
    closeBytes 0x030002 2 44100 [.write .s16 false 6 [1, -2, 3, -4, 5, 6]] := by decide +kernel

end Sf.C07AbsW
