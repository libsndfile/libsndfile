-- properties: C20 C01
/-
  C20, IEEE part — "the portable IEEE-754 float and double serialisers agree bit for bit with the native
  representation for every finite normal value, and byte-order helpers are exact involutions".
  Model: SfModel/Ieee.lean; the field layout of the C routines: SfProofs/Ieee.lean.  What ties the byte-order helpers of the
  model to positional notation (`endswap_reverses_bytes`, `putBe_eq`, `getBe_eq`, `bvswap*_eq`) and the buffer argument
  (`staged_write`, `staged_read`) is proved here, next to the theorems that use it.

  * readers  : every FINITE pattern (normal, subnormal, ±0) is read back as itself (`ieee_read_finite_*`, C20's
               `ieee_read_native_*` is the normal case); Inf ↦ Inf, NaN ↦ Inf of the NaN's sign.  The readers before the two
               `fix:` commits are kept as `…Old` with `read_zero_old_rule`, `f32/f64_read_subnormal_old_rule`.
  * writers  : EVERY finite value — normal, subnormal, ±0 — is written as its own bit string (`ieee_write_finite_*`; C20's
               `ieee_write_native_*` is the normal case).  The rule before the first `fix:` commit (`fabs (in) < 1e-30`) is kept:
               `ieee_write_*_old_rule_fails`, `ieee_write_old_rule_partial`, `flushes_old_rule_iff_*` (the class in bit terms);
               so is the rule before the second (`fabs (in) < FLT_MIN` early return, sign by `in < 0.0`; `…TinyOld`):
               `ieee_write_tiny_old_rule`, `ieee_write_finite_tiny_old_rule_fails` (2^-127, −0.0), `ieee_write_native_tiny_old_rule`.
  * round trip: `replace_roundtrip` (C01 through the portable path, full strength: every finite value), with
               `replace_roundtrip_old_rule_fails` / `_partial` over the former class `KF.ieeeTiny`.
  * buffers  : `replace_write_finite_*`, `replace_read_finite_*`, `replace_buffer_roundtrip`: the array paths equal the native
               paths on every buffer of finite values (`…_native_*`: the normal values of the C20 statement).
  * byte order: `ENDSWAP_16/32/64` are involutions and reverse the byte string (Nat and BitVec forms, proved equal);
               `psf_put_be*` / `psf_get_*` are mutually inverse in both directions for 16, 32 and 64 bits.
-/
import SfProofs.Ieee
import SfProofs.Groups
namespace Sf.C20Ieee
open Sf Sf.Float Sf.Ieee

/-! ## the spec layer agrees with the exact-value semantics used everywhere else in the model -/

theorem spec_isNormal_iff (f : Fmt) (b : Nat) : Spec.isNormal f b = f.isNormal b := by
  have hlt : f.expo b < 2 ^ f.ebits := Nat.mod_lt _ (Nat.two_pow_pos _)
  rw [Bool.eq_iff_iff, Spec.isNormal, decide_eq_true_iff]
  change 1 ≤ f.expo b ∧ f.expo b ≤ 2 ^ f.ebits - 2 ↔ _
  simp only [Fmt.isNormal, Fmt.emax, Bool.and_eq_true, bne_iff_ne, ne_eq]
  omega

/-- IEEE 754 §3.4: the value of a finite bit string is the dyadic `Fmt.toDy` assigns to it -/
theorem spec_value_finite (f : Fmt) (hf : f.Std) (b : Nat) (hfin : f.isFinite b = true) :
    Spec.value f (Spec.fields f b) = .fin (f.toDy b) := by
  have hne : f.expo b ≠ 2 ^ f.ebits - 1 := by simpa [Fmt.isFinite, Fmt.emax] using hfin
  have hb : ((f.bias : Nat) : Int) = 2 ^ (f.ebits - 1) - 1 := by
    have := Nat.two_pow_pos (f.ebits - 1)
    unfold Fmt.bias; push_cast [Nat.cast_sub this]; rfl
  unfold Spec.value
  change (if f.expo b = 2 ^ f.ebits - 1 then _ else if f.expo b = 0 then _ else _) = _
  rw [if_neg hne]
  by_cases h0 : f.expo b = 0
  · rw [if_pos h0, toDy_subnormal f b h0, Fmt.qmin, hb]; rfl
  · rw [if_neg h0, toDy_normal f b h0, Fmt.qmin, hb]
    congr 2
    show (f.expo b : Int) - _ - _ = _
    omega

theorem spec_encode_fields (f : Fmt) (hf : f.Std) (b : Nat) (hb : b < 2 ^ f.width) :
    Spec.encode f (Spec.fields f b) = b :=
  encode_fields f b hb

/-- non-vacuity: 1.0f is the string 0|01111111|0…0 and denotes 2^23 · 2^-23 -/
example : Spec.fields f32 0x3F800000 = ⟨false, 127, 0⟩ ∧ Spec.value f32 ⟨false, 127, 0⟩ = .fin ⟨false, 2 ^ 23, -23⟩ ∧
    Spec.isNormal f32 0x3F800000 = true ∧ Spec.bytesBE f32 0x3F800000 = [0x3F, 0x80, 0, 0] := by decide

/-! ## readers (current rule: after the `fix:` commits "decoded subnormal numbers with a hidden bit" and
    "returned +0.0 for the bit pattern of -0.0") -/

/-- binary32: every FINITE pattern — normal, subnormal, +0, −0 — in either byte order, is read back as itself -/
theorem ieee_read_finite_f32 (b : Nat) (hb : b < 2 ^ 32) (hfin : f32.isFinite b = true) :
    f32BeRead (Spec.bytesBE f32 b) = b ∧ f32LeRead (Spec.bytesLE f32 b) = b := by
  have key := (f32ReadCore_bytes b hb).trans (ofDy_toDy f32 b hb hfin)
  rw [bytesBE_f32, bytesLE_f32]
  exact ⟨key, key⟩

/-- binary64: every finite pattern, in either byte order, is read back as itself -/
theorem ieee_read_finite_f64 (b : Nat) (hb : b < 2 ^ 64) (hfin : f64.isFinite b = true) :
    f64BeRead (Spec.bytesBE f64 b) = b ∧ f64LeRead (Spec.bytesLE f64 b) = b := by
  have key := (f64ReadCore_bytes b hb).trans (ofDy_toDy f64 b hb hfin)
  rw [bytesBE_f64, bytesLE_f64]
  exact ⟨key, key⟩

theorem finite_of_spec_normal (f : Fmt) (b : Nat) (hn : Spec.isNormal f b = true) :
    f.isNormal b = true ∧ f.isFinite b = true := by
  rw [spec_isNormal_iff f] at hn
  exact ⟨hn, finite_of_normal hn⟩

/-- the C20 statement for the readers: every finite normal pattern is read back as itself -/
theorem ieee_read_native_f32 (b : Nat) (hb : b < 2 ^ 32) (hn : Spec.isNormal f32 b = true) :
    f32BeRead (Spec.bytesBE f32 b) = b ∧ f32LeRead (Spec.bytesLE f32 b) = b :=
  ieee_read_finite_f32 b hb (finite_of_spec_normal f32 b hn).2
theorem ieee_read_native_f64 (b : Nat) (hb : b < 2 ^ 64) (hn : Spec.isNormal f64 b = true) :
    f64BeRead (Spec.bytesBE f64 b) = b ∧ f64LeRead (Spec.bytesLE f64 b) = b :=
  ieee_read_finite_f64 b hb (finite_of_spec_normal f64 b hn).2

/-- non-vacuity: the hypotheses are met by ordinary values, by subnormals and by −0, and the readers are not constant -/
example : Spec.isNormal f32 0xC2F6E979 = true ∧ f32LeRead [0x79, 0xE9, 0xF6, 0xC2] = 0xC2F6E979 ∧
    f32BeRead [0x3F, 0x80, 0, 0] = 0x3F800000 ∧ f64BeRead [0x40, 0x09, 0x21, 0xFB, 0x54, 0x44, 0x2D, 0x18] = 0x400921FB54442D18 ∧
    f32.isFinite 1 = true ∧ f32LeRead (Spec.bytesLE f32 1) = 1 ∧ f32BeRead (Spec.bytesBE f32 0x80000000) = 0x80000000 ∧
    f64LeRead (Spec.bytesLE f64 0x800FFFFFFFFFFFFF) = 0x800FFFFFFFFFFFFF := by
  decide +kernel

/-! ### outside the finite values: exponent field all ones (unchanged by the repairs; outside every property statement) -/

/-- the value of a pattern with exponent field all ones overflows the format: ±Inf of the pattern's sign -/
theorem ofDy_toDy_emax (f : Fmt) (b : Nat) (hE : f.expo b = f.emax) (h0 : f.emax ≠ 0) :
    f.ofDy (f.toDy b) = f.sgnBit (f.sign b) + f.emax * 2 ^ f.mbits := by
  rw [toDy_normal f b (hE ▸ h0), ofDy_normalised f _ _ _ (by omega) (frac_lt f b), if_pos (by omega)]

/-- exponent field 255: `pow (2.0, 128)` overflows binary32, so Inf is read as Inf and every NaN as the Inf of its sign -/
theorem f32_read_inf_nan (b : Nat) (hb : b < 2 ^ 32) (hE : f32.expo b = 255) :
    f32BeRead (Spec.bytesBE f32 b) = f32.sgnBit (f32.sign b) + 255 * 2 ^ 23 ∧
    f32LeRead (Spec.bytesLE f32 b) = f32.sgnBit (f32.sign b) + 255 * 2 ^ 23 := by
  have key := (f32ReadCore_bytes b hb).trans (ofDy_toDy_emax f32 b hE (by decide))
  rw [bytesBE_f32, bytesLE_f32]
  exact ⟨key, key⟩

theorem f64_read_inf_nan (b : Nat) (hb : b < 2 ^ 64) (hE : f64.expo b = 2047) :
    f64BeRead (Spec.bytesBE f64 b) = f64.sgnBit (f64.sign b) + 2047 * 2 ^ 52 ∧
    f64LeRead (Spec.bytesLE f64 b) = f64.sgnBit (f64.sign b) + 2047 * 2 ^ 52 := by
  have key := (f64ReadCore_bytes b hb).trans (ofDy_toDy_emax f64 b hE (by decide))
  rw [bytesBE_f64, bytesLE_f64]
  exact ⟨key, key⟩

example : f32BeRead (Spec.bytesBE f32 0x7FC00000) = 0x7F800000 ∧ f32.expo 0x7FC00000 = 255 ∧ f64.expo 0xFFF8000000000000 = 2047 := by
  decide +kernel

/-! ### the readers before the repairs (`f32BeReadOld` &c.) -/

/-- old rule: +0 and −0 were both read as +0 (`return 0.0` before the sign is applied) -/
theorem read_zero_old_rule : f32BeReadOld (Spec.bytesBE f32 0x80000000) = 0 ∧ f32LeReadOld (Spec.bytesLE f32 0x80000000) = 0 ∧
    f64BeReadOld (Spec.bytesBE f64 0x8000000000000000) = 0 ∧ f64LeReadOld (Spec.bytesLE f64 0x8000000000000000) = 0 := by
  decide +kernel

/-- old rule: a binary32 subnormal (E = 0, T ≠ 0) was read as the NORMAL number with exponent field 127 and the same T,
    i.e. as 1.T ∈ [1, 2) instead of T · 2^-149 (`mantissa |= 0x800000 ; exponent = exponent ? exponent - 127 : 0`) -/
theorem f32_read_subnormal_old_rule (b : Nat) (hb : b < 2 ^ 32) (hE : f32.expo b = 0) (hT : f32.frac b ≠ 0) :
    f32BeReadOld (Spec.bytesBE f32 b) = f32.sgnBit (f32.sign b) + 127 * 2 ^ 23 + f32.frac b ∧
    f32LeReadOld (Spec.bytesLE f32 b) = f32.sgnBit (f32.sign b) + 127 * 2 ^ 23 + f32.frac b := by
  have core : _ = readFields f32 true 0 ⟨f32.sign b, f32.expo b, f32.frac b⟩ := f32ReadCoreWith_bytes true b hb
  rw [readFields, if_neg (fun h => hT h.2), if_neg (not_not.mpr hE), if_pos rfl] at core
  -- (2^23 + T) · 2^(0 − 23) is the normal number with exponent field 127
  have := ofDy_normalised f32 (f32.sign b) 127 (f32.frac b) (by omega) (frac_lt f32 b)
  rw [if_neg (by decide)] at this
  rw [bytesBE_f32, bytesLE_f32]
  exact ⟨core.trans this, core.trans this⟩

/-- old rule: a binary64 subnormal was read as (2^52 + T) · 2^-1075 rounded to binary64 — about 2^-1023, not T · 2^-1074 -/
theorem f64_read_subnormal_old_rule (b : Nat) (hb : b < 2 ^ 64) (hE : f64.expo b = 0) (hT : f64.frac b ≠ 0) :
    f64BeReadOld (Spec.bytesBE f64 b) = f64.ofDy ⟨f64.sign b, 2 ^ 52 + f64.frac b, -1075⟩ ∧
    f64LeReadOld (Spec.bytesLE f64 b) = f64.ofDy ⟨f64.sign b, 2 ^ 52 + f64.frac b, -1075⟩ := by
  have core : _ = readFields f64 true (-1023) ⟨f64.sign b, f64.expo b, f64.frac b⟩ := f64ReadCoreWith_bytes true b hb
  rw [readFields, if_neg (fun h => hT h.2), if_neg (not_not.mpr hE), if_pos rfl] at core
  rw [bytesBE_f64, bytesLE_f64]
  exact ⟨core, core⟩

/-- witnesses: under the old rule the smallest binary32 subnormal was read as 1 + 2^-23, the largest as 2 − 2^-23, the
    smallest binary64 subnormal as 2^-1023 (pattern 0x0008000000000000) -/
example : f32LeReadOld (Spec.bytesLE f32 1) = 0x3F800001 ∧ f32BeReadOld (Spec.bytesBE f32 0x007FFFFF) = 0x3FFFFFFF ∧
    f64LeReadOld (Spec.bytesLE f64 1) = 0x0008000000000000 ∧
    f32.expo 1 = 0 ∧ f32.frac 1 ≠ 0 ∧ f64.expo 1 = 0 := by decide +kernel

/-! ## writers (current rule: after the `fix:` commits "flushed every normal value below 1e-30 to zero" and
    "wrote subnormal numbers and -0.0 as +0.0": `signbit`, exponent field 0 encoded, no early return) -/

/-- `in < FLT_MIN` / `in < DBL_MIN` (the branch the repaired writers take for exponent field 0; the early return of the
    writers before that repair): exactly the zeros and the subnormals -/
theorem flushes_iff_not_normal (f : Fmt) (b : Nat) (hfin : f.isFinite b = true) :
    flushes f b = true ↔ f.expo b = 0 := by
  constructor
  · intro h
    by_contra he
    rw [flushes_normal f b (normal_of_finite hfin he)] at h; exact Bool.false_ne_true h
  · exact flushes_expo_zero f b hfin

theorem f32WriteBytesWith_normal (fl : Nat → Bool) (b : Nat) (hb : b < 2 ^ 32) (hn : f32.isNormal b = true) (hk : fl b = false) :
    f32WriteBytesWith fl b = Spec.bytesBE f32 b := by
  rw [f32WriteBytesWith, f32WriteFieldsWith_eq fl b (finite_of_normal hn) hk (flushes_normal f32 b hn), f32WriteFields_normal b hn]
  exact f32FieldBytes_fields b hb

theorem f64WriteBytesWith_normal (fl : Nat → Bool) (b : Nat) (hb : b < 2 ^ 64) (hn : f64.isNormal b = true) (hk : fl b = false) :
    f64WriteBytesWith fl b = Spec.bytesBE f64 b := by
  rw [f64WriteBytesWith, f64WriteFieldsWith_eq fl b (finite_of_normal hn) hk (flushes_normal f64 b hn), f64WriteFields_normal b hn]
  exact f64FieldBytes_fields b 1 hb

/-- the repaired binary32 writers, at FULL strength: EVERY finite value — normal, subnormal, +0 and −0 — is serialised to
    its own bit string, in both byte orders (the C20 statement asks for the normal values; C01 through the portable path and
    C18's PEAK field need the rest) -/
theorem ieee_write_finite_f32 (b : Nat) (hb : b < 2 ^ 32) (hfin : f32.isFinite b = true) :
    f32BeWrite b = Spec.bytesBE f32 b ∧ f32LeWrite b = Spec.bytesLE f32 b := by
  refine be_le_of_eq ?_
  unfold f32BeWrite f32WriteBytes
  by_cases he : f32.expo b = 0
  · have := f32FieldBytes_fields b hb
    rwa [he, ← f32WriteFields_tiny b hfin he] at this
  · rw [f32WriteFields_normal b (normal_of_finite hfin he)]
    exact f32FieldBytes_fields b hb

theorem ieee_write_finite_f64 (b : Nat) (hb : b < 2 ^ 64) (hfin : f64.isFinite b = true) :
    f64BeWrite b = Spec.bytesBE f64 b ∧ f64LeWrite b = Spec.bytesLE f64 b := by
  refine be_le_of_eq ?_
  unfold f64BeWrite f64WriteBytes
  by_cases he : f64.expo b = 0
  · have := f64FieldBytes_fields b 0 hb
    rwa [he, Nat.zero_mul, Nat.zero_add, ← f64WriteFields_tiny b hfin he] at this
  · rw [f64WriteFields_normal b (normal_of_finite hfin he)]
    exact f64FieldBytes_fields b 1 hb

/-- the C20 statement for the binary32 writers: every finite normal value is serialised to its own bit string, in both
    byte orders -/
theorem ieee_write_native_f32 (b : Nat) (hb : b < 2 ^ 32) (hn : Spec.isNormal f32 b = true) :
    f32BeWrite b = Spec.bytesBE f32 b ∧ f32LeWrite b = Spec.bytesLE f32 b :=
  ieee_write_finite_f32 b hb (finite_of_spec_normal f32 b hn).2

theorem ieee_write_native_f64 (b : Nat) (hb : b < 2 ^ 64) (hn : Spec.isNormal f64 b = true) :
    f64BeWrite b = Spec.bytesBE f64 b ∧ f64LeWrite b = Spec.bytesLE f64 b :=
  ieee_write_finite_f64 b hb (finite_of_spec_normal f64 b hn).2

/-- non-vacuity: ordinary values, the smallest normal values, the old boundary, and the exponent-field-0 class:
    the smallest and the largest subnormal, 2^-127, −0.0 -/
example : Spec.isNormal f32 0xC2F6E979 = true ∧ f32LeWrite 0xC2F6E979 = [0x79, 0xE9, 0xF6, 0xC2] ∧
    f32BeWrite 0x00800000 = [0x00, 0x80, 0, 0] ∧ f32BeWrite 0x0DA2425F = [0x0D, 0xA2, 0x42, 0x5F] ∧
    Spec.isNormal f64 0x0010000000000000 = true ∧ f64BeWrite 0x0010000000000000 = [0, 0x10, 0, 0, 0, 0, 0, 0] ∧
    f64BeWrite 0xC00921FB54442D18 = [0xC0, 0x09, 0x21, 0xFB, 0x54, 0x44, 0x2D, 0x18] ∧
    f32.isFinite 1 = true ∧ f32BeWrite 1 = [0, 0, 0, 1] ∧ f32BeWrite 0x007FFFFF = [0, 0x7F, 0xFF, 0xFF] ∧
    f32LeWrite 0x00400000 = [0, 0, 0x40, 0] ∧ f32BeWrite 0x80000000 = [0x80, 0, 0, 0] ∧ f32BeWrite 0 = [0, 0, 0, 0] ∧
    f64BeWrite 1 = [0, 0, 0, 0, 0, 0, 0, 1] ∧ f64LeWrite 0x8000000000000000 = [0, 0, 0, 0, 0, 0, 0, 0x80] ∧
    f64BeWrite 0x800FFFFFFFFFFFFF = [0x80, 0x0F, 0xFF, 0xFF, 0xFF, 0xFF, 0xFF, 0xFF] := by decide +kernel

/-! ### the writers before the repair of KF-C01-ieee-tiny / KF-C18-PEAK-SUBNORMAL (`if (fabs (in) < FLT_MIN) return ;` in
    front of `if (in < 0.0)`; `f32BeWriteTinyOld` &c.) -/

/-- old rule: zeros and subnormals were written as zero bytes (+0), whatever the value and its sign: the writers had no
    encoding for exponent field 0 -/
theorem ieee_write_tiny_old_rule (b : Nat) :
    (f32.isFinite b = true → f32.expo b = 0 → f32BeWriteTinyOld b = [0, 0, 0, 0] ∧ f32LeWriteTinyOld b = [0, 0, 0, 0]) ∧
    (f64.isFinite b = true → f64.expo b = 0 →
      f64BeWriteTinyOld b = [0, 0, 0, 0, 0, 0, 0, 0] ∧ f64LeWriteTinyOld b = [0, 0, 0, 0, 0, 0, 0, 0]) := by
  constructor
  · intro hfin he
    have h := flushes_expo_zero f32 b hfin he
    have hw : f32WriteFieldsWith (flushes f32) b = none := by
      unfold f32WriteFieldsWith; simp only [hfin, Bool.not_true, Bool.false_eq_true, if_false, h, if_true]
    simp [f32BeWriteTinyOld, f32LeWriteTinyOld, f32WriteBytesWith, hw]
  · intro hfin he
    have h := flushes_expo_zero f64 b hfin he
    have hw : f64WriteFieldsWith (flushes f64) b = none := by
      unfold f64WriteFieldsWith; simp only [hfin, Bool.not_true, Bool.false_eq_true, if_false, h, if_true]
    simp [f64BeWriteTinyOld, f64LeWriteTinyOld, f64WriteBytesWith, hw]

/-- old rule: on the normal values (all the C20 statement asks for) those writers were already exact -/
theorem ieee_write_native_tiny_old_rule :
    (∀ b, b < 2 ^ 32 → Spec.isNormal f32 b = true →
      f32BeWriteTinyOld b = Spec.bytesBE f32 b ∧ f32LeWriteTinyOld b = Spec.bytesLE f32 b) ∧
    (∀ b, b < 2 ^ 64 → Spec.isNormal f64 b = true →
      f64BeWriteTinyOld b = Spec.bytesBE f64 b ∧ f64LeWriteTinyOld b = Spec.bytesLE f64 b) := by
  constructor
  · intro b hb hn
    have hn2 := (finite_of_spec_normal f32 b hn).1
    exact be_le_of_eq (f32WriteBytesWith_normal (flushes f32) b hb hn2 (flushes_normal f32 b hn2))
  · intro b hb hn
    have hn2 := (finite_of_spec_normal f64 b hn).1
    exact be_le_of_eq (f64WriteBytesWith_normal (flushes f64) b hb hn2 (flushes_normal f64 b hn2))

/-- the full-strength writer statement for the old writers … -/
def ieee_write_finite_tiny_old_rule_full : Prop :=
  (∀ b, b < 2 ^ 32 → f32.isFinite b = true → f32BeWriteTinyOld b = Spec.bytesBE f32 b) ∧
  (∀ b, b < 2 ^ 64 → f64.isFinite b = true → f64BeWriteTinyOld b = Spec.bytesBE f64 b)

/-- … was false: 2^-127 (pattern 0x00400000) and −0.0 were written as four zero bytes, the smallest double subnormal and
    the double −0.0 as eight -/
theorem ieee_write_finite_tiny_old_rule_fails : ¬ ieee_write_finite_tiny_old_rule_full ∧
    f32BeWriteTinyOld 0x00400000 = [0, 0, 0, 0] ∧ f32BeWriteTinyOld 0x80000000 = [0, 0, 0, 0] ∧
    f64BeWriteTinyOld 1 = [0, 0, 0, 0, 0, 0, 0, 0] ∧ f64BeWriteTinyOld 0x8000000000000000 = [0, 0, 0, 0, 0, 0, 0, 0] := by
  refine ⟨?_, by decide +kernel, by decide +kernel, by decide +kernel, by decide +kernel⟩
  intro h
  have := h.1 0x00400000 (by decide) (by decide)
  revert this
  decide +kernel

/-! ### the writers before the repair (`fabs (in) < 1e-30`, `f32BeWriteOld` &c.) -/

/-- the property for the old writers … -/
def ieee_write_f32_old_rule_full : Prop :=
  ∀ b, b < 2 ^ 32 → Spec.isNormal f32 b = true → f32BeWriteOld b = Spec.bytesBE f32 b ∧ f32LeWriteOld b = Spec.bytesLE f32 b
def ieee_write_f64_old_rule_full : Prop :=
  ∀ b, b < 2 ^ 64 → Spec.isNormal f64 b = true → f64BeWriteOld b = Spec.bytesBE f64 b ∧ f64LeWriteOld b = Spec.bytesLE f64 b

/-- … was false: the smallest normal binary32 value 2^-126 was written as four zero bytes -/
theorem ieee_write_f32_old_rule_fails : ¬ ieee_write_f32_old_rule_full := by
  intro h
  have := (h 0x00800000 (by decide) (by decide)).1
  revert this
  decide +kernel

/-- … and 2^-1022 (and every normal double below 1e-30, some 922 binades) as eight zero bytes -/
theorem ieee_write_f64_old_rule_fails : ¬ ieee_write_f64_old_rule_full := by
  intro h
  have := (h 0x0010000000000000 (by decide) (by decide)).1
  revert this
  decide +kernel

/-- the class of the repaired defect KF-C20-ieee-flush -/
def KF.ieeeFlush (f : Fmt) (b : Nat) : Bool := flushesOld f b

/-- the old class in bit terms: a finite binary32 value was flushed iff its magnitude pattern is below 0x0DA24260 -/
theorem flushes_old_rule_iff_f32 (b : Nat) (hfin : f32.isFinite b = true) :
    KF.ieeeFlush f32 b = true ↔ b % 2 ^ 31 < 0x0DA24260 := by
  unfold KF.ieeeFlush flushesOld
  rw [hfin, Bool.true_and]
  exact abs_lt_iff_pattern_lt f32 _ 0x0DA24260 b (by decide) (by decide) (by decide +kernel) (by decide +kernel)

/-- … and a finite binary64 value iff its magnitude pattern is below that of 1e-30 itself -/
theorem flushes_old_rule_iff_f64 (b : Nat) (hfin : f64.isFinite b = true) :
    KF.ieeeFlush f64 b = true ↔ b % 2 ^ 63 < 0x39B4484BFEEBC2A0 := by
  unfold KF.ieeeFlush flushesOld
  rw [hfin, Bool.true_and]
  exact abs_lt_iff_pattern_lt f64 _ 0x39B4484BFEEBC2A0 b (by decide) (by decide) (by decide +kernel) (by decide +kernel)

/-- the old boundary witnesses: 0x0DA2425F was the largest flushed binary32 magnitude, 0x0DA24260 the first written -/
theorem ieee_flush_boundary_old_rule :
    KF.ieeeFlush f32 0x0DA2425F = true ∧ KF.ieeeFlush f32 0x0DA24260 = false ∧ KF.ieeeFlush f32 0x8DA2425F = true ∧
    KF.ieeeFlush f64 0x39B4484BFEEBC29F = true ∧ KF.ieeeFlush f64 0x39B4484BFEEBC2A0 = false ∧
    f32BeWriteOld 0x0DA2425F = [0, 0, 0, 0] ∧ f32BeWriteOld 0x0DA24260 = [0x0D, 0xA2, 0x42, 0x60] ∧
    f32BeWrite 0x0DA2425F = [0x0D, 0xA2, 0x42, 0x5F] := by decide +kernel

/-- outside the old class the old writers produced the native bit string -/
theorem ieee_write_old_rule_partial :
    (∀ b, b < 2 ^ 32 → Spec.isNormal f32 b = true → KF.ieeeFlush f32 b = false →
      f32BeWriteOld b = Spec.bytesBE f32 b ∧ f32LeWriteOld b = Spec.bytesLE f32 b) ∧
    (∀ b, b < 2 ^ 64 → Spec.isNormal f64 b = true → KF.ieeeFlush f64 b = false →
      f64BeWriteOld b = Spec.bytesBE f64 b ∧ f64LeWriteOld b = Spec.bytesLE f64 b) := by
  constructor
  · intro b hb hn hk
    exact be_le_of_eq (f32WriteBytesWith_normal (flushesOld f32) b hb (finite_of_spec_normal f32 b hn).1 hk)
  · intro b hb hn hk
    exact be_le_of_eq (f64WriteBytesWith_normal (flushesOld f64) b hb (finite_of_spec_normal f64 b hn).1 hk)

/-! ## write then read (also the C01 statement for the portable path: SFC_TEST_IEEE_FLOAT_REPLACE on) -/

/-- every FINITE value survives write-then-read bit for bit, in both byte orders -/
theorem write_read_finite_f32 (b : Nat) (hb : b < 2 ^ 32) (hfin : f32.isFinite b = true) :
    f32BeRead (f32BeWrite b) = b ∧ f32LeRead (f32LeWrite b) = b := by
  obtain ⟨w1, w2⟩ := ieee_write_finite_f32 b hb hfin
  obtain ⟨r1, r2⟩ := ieee_read_finite_f32 b hb hfin
  rw [w1, w2]; exact ⟨r1, r2⟩

theorem write_read_finite_f64 (b : Nat) (hb : b < 2 ^ 64) (hfin : f64.isFinite b = true) :
    f64BeRead (f64BeWrite b) = b ∧ f64LeRead (f64LeWrite b) = b := by
  obtain ⟨w1, w2⟩ := ieee_write_finite_f64 b hb hfin
  obtain ⟨r1, r2⟩ := ieee_read_finite_f64 b hb hfin
  rw [w1, w2]; exact ⟨r1, r2⟩

/-- every finite normal value survives write-then-read bit for bit, in both byte orders -/
theorem write_read_roundtrip_f32 (b : Nat) (hb : b < 2 ^ 32) (hn : Spec.isNormal f32 b = true) :
    f32BeRead (f32BeWrite b) = b ∧ f32LeRead (f32LeWrite b) = b :=
  write_read_finite_f32 b hb (finite_of_spec_normal f32 b hn).2

theorem write_read_roundtrip_f64 (b : Nat) (hb : b < 2 ^ 64) (hn : Spec.isNormal f64 b = true) :
    f64BeRead (f64BeWrite b) = b ∧ f64LeRead (f64LeWrite b) = b :=
  write_read_finite_f64 b hb (finite_of_spec_normal f64 b hn).2

/-- C01 over ALL finite values through the portable path, as stated -/
def replace_roundtrip_f32_full : Prop := ∀ b, b < 2 ^ 32 → f32.isFinite b = true → f32LeRead (f32LeWrite b) = b
def replace_roundtrip_f64_full : Prop := ∀ b, b < 2 ^ 64 → f64.isFinite b = true → f64LeRead (f64LeWrite b) = b

/-- … holds at full strength since the repair of the writers (KF-C01-ieee-tiny) -/
theorem replace_roundtrip : replace_roundtrip_f32_full ∧ replace_roundtrip_f64_full :=
  ⟨fun b hb hfin => (write_read_finite_f32 b hb hfin).2, fun b hb hfin => (write_read_finite_f64 b hb hfin).2⟩

/-- non-vacuity: the hypotheses are met by the former class — subnormals and −0.0 — and by ordinary values -/
example : f32.isFinite 0x80000000 = true ∧ f32LeRead (f32LeWrite 0x80000000) = 0x80000000 ∧
    f32LeRead (f32LeWrite 0x007FFFFF) = 0x007FFFFF ∧ f32LeRead (f32LeWrite 1) = 1 ∧
    f32LeRead (f32LeWrite 0x3DCCCCCD) = 0x3DCCCCCD ∧ f32LeRead (f32LeWrite 0x00800000) = 0x00800000 ∧
    f64.isFinite 1 = true ∧ f64LeRead (f64LeWrite 1) = 1 ∧
    f64LeRead (f64LeWrite 0x8000000000000000) = 0x8000000000000000 := by decide +kernel

/-! ### the round trip before the repair (`f32LeWriteTinyOld`, `f64LeWriteTinyOld`) -/

def replace_roundtrip_f32_old_rule_full : Prop :=
  ∀ b, b < 2 ^ 32 → f32.isFinite b = true → f32LeRead (f32LeWriteTinyOld b) = b
def replace_roundtrip_f64_old_rule_full : Prop :=
  ∀ b, b < 2 ^ 64 → f64.isFinite b = true → f64LeRead (f64LeWriteTinyOld b) = b

/-- the class of the repaired defect KF-C01-ieee-tiny: a subnormal or −0 (exponent field 0, pattern not +0) -/
def KF.ieeeTiny (f : Fmt) (b : Nat) : Bool := f.expo b == 0 && b != 0

/-- old rule: the statement was false — −0.0 and the smallest double subnormal came back as +0 -/
theorem replace_roundtrip_old_rule_fails : ¬ replace_roundtrip_f32_old_rule_full ∧ ¬ replace_roundtrip_f64_old_rule_full := by
  constructor
  · intro h
    have := h 0x80000000 (by decide) (by decide)
    revert this; decide +kernel
  · intro h
    have := h 1 (by decide) (by decide)
    revert this; decide +kernel

/-- old rule: outside the class — every normal value and +0 — the round trip was exact; inside it the result was +0 -/
theorem replace_roundtrip_old_rule_partial :
    (∀ b, b < 2 ^ 32 → f32.isFinite b = true →
      (KF.ieeeTiny f32 b = false → f32LeRead (f32LeWriteTinyOld b) = b) ∧
      (KF.ieeeTiny f32 b = true → f32LeRead (f32LeWriteTinyOld b) = 0)) ∧
    (∀ b, b < 2 ^ 64 → f64.isFinite b = true →
      (KF.ieeeTiny f64 b = false → f64LeRead (f64LeWriteTinyOld b) = b) ∧
      (KF.ieeeTiny f64 b = true → f64LeRead (f64LeWriteTinyOld b) = 0)) := by
  constructor
  · intro b hb hfin
    by_cases he : f32.expo b = 0
    · have hw := ((ieee_write_tiny_old_rule b).1 hfin he).2
      have hz : f32LeRead [0, 0, 0, 0] = 0 := by decide
      constructor
      · intro hk
        have : b = 0 := by simpa [KF.ieeeTiny, he] using hk
        rw [hw, hz, this]
      · intro _; rw [hw, hz]
    · have hn : Spec.isNormal f32 b = true := by rw [spec_isNormal_iff f32]; exact normal_of_finite hfin he
      constructor
      · intro _
        rw [(ieee_write_native_tiny_old_rule.1 b hb hn).2]
        exact (ieee_read_native_f32 b hb hn).2
      · intro hk; simp [KF.ieeeTiny, he] at hk
  · intro b hb hfin
    by_cases he : f64.expo b = 0
    · have hw := ((ieee_write_tiny_old_rule b).2 hfin he).2
      have hz : f64LeRead [0, 0, 0, 0, 0, 0, 0, 0] = 0 := by decide
      constructor
      · intro hk
        have : b = 0 := by simpa [KF.ieeeTiny, he] using hk
        rw [hw, hz, this]
      · intro _; rw [hw, hz]
    · have hn : Spec.isNormal f64 b = true := by rw [spec_isNormal_iff f64]; exact normal_of_finite hfin he
      constructor
      · intro _
        rw [(ieee_write_native_tiny_old_rule.2 b hb hn).2]
        exact (ieee_read_native_f64 b hb hn).2
      · intro hk; simp [KF.ieeeTiny, he] at hk

/-- witnesses of the old rule: 2^-127, the largest subnormal and −0.0 came back as +0 -/
example : KF.ieeeTiny f32 0x80000000 = true ∧ KF.ieeeTiny f32 0 = false ∧ KF.ieeeTiny f32 0x3DCCCCCD = false ∧
    KF.ieeeTiny f32 0x00400000 = true ∧ f32LeRead (f32LeWriteTinyOld 0x00400000) = 0 ∧
    f32LeRead (f32LeWriteTinyOld 0x007FFFFF) = 0 ∧ f32LeRead (f32LeWriteTinyOld 0x80000000) = 0 ∧
    f32LeRead (f32LeWriteTinyOld 0x3DCCCCCD) = 0x3DCCCCCD := by decide +kernel

/-- a swap is the reversal of the byte string: the bytes of `x` in little-endian order, read as a big-endian number,
    are `ENDSWAP (x)` -/
theorem endswap_reverses_bytes (x : Nat) :
    ofBE (leBytes 2 x) = endswap16 x ∧ ofBE (leBytes 4 x) = endswap32 x := by
  constructor
  · simp only [ofBE, leBytes, List.reverse_cons, List.reverse_nil, List.nil_append, List.cons_append, ofLE, endswap16]
    ring
  · simp only [ofBE, leBytes, List.reverse_cons, List.reverse_nil, List.nil_append, List.cons_append, ofLE, endswap32,
      Nat.div_div_eq_div_mul, Nat.reduceMul]
    ring

theorem endswap32_mod (x : Nat) : endswap32 (x % 4294967296) = endswap32 x := by
  rw [← (endswap_reverses_bytes x).2, ← (endswap_reverses_bytes _).2, show 4294967296 = 256 ^ 4 from rfl, leBytes_mod]

/-- 64-bit swap = byte-string reversal: the eight bytes are the two four-byte halves, each reversed, in exchanged places -/
theorem endswap64_reverses_bytes (x : Nat) : ofBE (leBytes 8 x) = endswap64 x := by
  have h := leBytes_add 4 4 x
  rw [ofBE, show 4 + 4 = 8 from rfl] at *
  rw [h, List.reverse_append, ofLE_append, List.length_reverse, leBytes_length]
  have h1 := (endswap_reverses_bytes (x / 256 ^ 4)).2
  have h2 := (endswap_reverses_bytes x).2
  rw [ofBE] at h1 h2
  rw [h1, h2, endswap64, endswap32_mod, endswap32_mod, show (256 : Nat) ^ 4 = 4294967296 from rfl]
  omega

theorem endswap16_lt (x : Nat) : endswap16 x < 2 ^ 16 := by
  rw [← (endswap_reverses_bytes x).1]; exact ofBE_leBytes_lt 2 x
theorem endswap32_lt (x : Nat) : endswap32 x < 2 ^ 32 := by
  rw [← (endswap_reverses_bytes x).2]; exact ofBE_leBytes_lt 4 x
theorem endswap64_lt (x : Nat) : endswap64 x < 2 ^ 64 := by
  rw [← endswap64_reverses_bytes x]; exact ofBE_leBytes_lt 8 x

theorem endswap16_involutive (x : Nat) (h : x < 2 ^ 16) : endswap16 (endswap16 x) = x := by
  rw [← (endswap_reverses_bytes x).1, ← (endswap_reverses_bytes _).1, ofBE_leBytes_involutive]
  exact Nat.mod_eq_of_lt h
theorem endswap32_involutive (x : Nat) (h : x < 2 ^ 32) : endswap32 (endswap32 x) = x := by
  rw [← (endswap_reverses_bytes x).2, ← (endswap_reverses_bytes _).2, ofBE_leBytes_involutive]
  exact Nat.mod_eq_of_lt h
theorem endswap64_involutive (x : Nat) (h : x < 2 ^ 64) : endswap64 (endswap64 x) = x := by
  rw [← endswap64_reverses_bytes x, ← endswap64_reverses_bytes _, ofBE_leBytes_involutive]
  exact Nat.mod_eq_of_lt h

/-- `ENDSWAP_16/32/64` as functions on bit vectors are exact involutions, for every bit pattern -/
theorem endswap_involutive :
    (∀ x : BitVec 16, bswap16 (bswap16 x) = x) ∧ (∀ x : BitVec 32, bswap32 (bswap32 x) = x) ∧
    (∀ x : BitVec 64, bswap64 (bswap64 x) = x) := by
  refine ⟨fun x => ?_, fun x => ?_, fun x => ?_⟩
  · apply BitVec.eq_of_toNat_eq
    simp only [bswap16, BitVec.toNat_ofNat, Nat.mod_eq_of_lt (endswap16_lt _)]
    exact endswap16_involutive _ x.isLt
  · apply BitVec.eq_of_toNat_eq
    simp only [bswap32, BitVec.toNat_ofNat, Nat.mod_eq_of_lt (endswap32_lt _)]
    exact endswap32_involutive _ x.isLt
  · apply BitVec.eq_of_toNat_eq
    simp only [bswap64, BitVec.toNat_ofNat, Nat.mod_eq_of_lt (endswap64_lt _)]
    exact endswap64_involutive _ x.isLt

/-- non-vacuity: the swaps are not the identity -/
example : endswap16 0x1234 = 0x3412 ∧ endswap32 0x12345678 = 0x78563412 ∧
    endswap64 0x0102030405060708 = 0x0807060504030201 ∧ bswap32 0x12345678#32 = 0x78563412#32 := by decide

/-- `(uint8_t) (value >> k)` is byte `k / 8` of the unsigned residue of any width that contains it -/
theorem byteAt_eq_wrapU (v : Int) (k bits : Nat) (h : k + 8 ≤ bits) : byteAt v k = wrapU bits v / 2 ^ k % 256 := by
  obtain ⟨r, rfl⟩ : ∃ r, bits = r + 8 + k := ⟨bits - (k + 8), by omega⟩
  -- v = w + q · 2^r · 2^8 · 2^k with w the residue: dividing by 2^k and reducing modulo 2^8 removes the second term
  have hv : v = (wrapU (r + 8 + k) v : Int) + v / 2 ^ (r + 8 + k) * 2 ^ r * 2 ^ 8 * 2 ^ k := by
    rw [wrapU_cast, Int.mul_assoc, Int.mul_assoc, ← Int.pow_add, ← Int.pow_add, ← Nat.add_assoc, Int.mul_comm]
    exact (Int.emod_add_mul_ediv _ _).symm
  generalize wrapU (r + 8 + k) v = w at hv
  rw [byteAt, asr, wrapU]
  conv => lhs; rw [hv]
  rw [Int.add_mul_ediv_right _ _ (Int.pow_ne_zero (by decide)), Int.add_mul_emod_self_right]
  norm_cast

/-- `psf_put_be16/32/64` store the big-endian bytes of the unsigned residue -/
theorem putBe_eq (v : Int) : putBe16 v = beBytes 2 (wrapU 16 v) ∧ putBe32 v = beBytes 4 (wrapU 32 v) ∧
    putBe64 v = beBytes 8 (wrapU 64 v) := by
  refine ⟨?_, ?_, ?_⟩
  · simp only [putBe16, byteAt_eq_wrapU v _ 16, Nat.reduceLeDiff, beBytes, leBytes, Nat.reducePow, Nat.div_one,
      List.reverse_cons, List.reverse_nil, List.nil_append, List.cons_append]
  · simp only [putBe32, byteAt_eq_wrapU v _ 32, Nat.reduceLeDiff, beBytes, leBytes, Nat.div_div_eq_div_mul, Nat.reducePow,
      Nat.reduceMul, Nat.div_one, List.reverse_cons, List.reverse_nil, List.nil_append, List.cons_append]
  · simp only [putBe64, byteAt_eq_wrapU v _ 64, Nat.reduceLeDiff, beBytes, leBytes, Nat.div_div_eq_div_mul, Nat.reducePow,
      Nat.reduceMul, Nat.div_one, List.reverse_cons, List.reverse_nil, List.nil_append, List.cons_append]

theorem byteAt_lt (v : Int) (k : Nat) : byteAt v k < 256 := by
  rw [byteAt_eq_wrapU v k (k + 8) (Nat.le_refl _)]; exact Nat.mod_lt _ (by decide)

/-- `psf_get_be16/32/64` read a string of bytes as a big-endian number and reinterpret it as signed -/
theorem getBe_eq :
    (∀ a b, a < 256 → b < 256 → getBe16 [a, b] = wrapS 16 (ofBE [a, b])) ∧
    (∀ a b c d, a < 256 → b < 256 → c < 256 → d < 256 → getBe32 [a, b, c, d] = wrapS 32 (ofBE [a, b, c, d])) ∧
    (∀ a b c d e f g h, a < 256 → b < 256 → c < 256 → d < 256 → e < 256 → f < 256 → g < 256 → h < 256 →
      getBe64 [a, b, c, d, e, f, g, h] = wrapS 64 (ofBE [a, b, c, d, e, f, g, h])) := by
  refine ⟨fun a b ha hb => ?_, fun a b c d ha hb hc hd => ?_, fun a b c d e f g h ha hb hc hd he hf hg hh => ?_⟩
  · have e : ((ofBE [a, b] : Nat) : Int) = (a : Int) * 256 + b := by
      simp only [ofBE, List.reverse_cons, List.reverse_nil, List.nil_append, List.cons_append, ofLE]
      push_cast; ring
    rw [e, getBe16, wrapS_add_wrapS, Nat.mod_eq_of_lt ha, Nat.mod_eq_of_lt hb]
  · have e : ((ofBE [a, b, c, d] : Nat) : Int) = (a : Int) * 16777216 + b * 65536 + c * 256 + d := by
      simp only [ofBE, List.reverse_cons, List.reverse_nil, List.nil_append, List.cons_append, ofLE]
      push_cast; ring
    rw [e, getBe32, Nat.mod_eq_of_lt ha, Nat.mod_eq_of_lt hb, Nat.mod_eq_of_lt hc, Nat.mod_eq_of_lt hd]
  · have e : ofBE [a, b, c, d, e, f, g, h] =
        (a * 16777216 + b * 65536 + c * 256 + d) * 4294967296 + (e * 16777216 + f * 65536 + g * 256 + h) := by
      simp only [ofBE, List.reverse_cons, List.reverse_nil, List.nil_append, List.cons_append, ofLE]
      ring
    rw [e, getBe64, Nat.mod_eq_of_lt ha, Nat.mod_eq_of_lt hb, Nat.mod_eq_of_lt hc, Nat.mod_eq_of_lt hd,
      Nat.mod_eq_of_lt he, Nat.mod_eq_of_lt hf, Nat.mod_eq_of_lt hg, Nat.mod_eq_of_lt hh]

/-- put then get reinterprets the value in the width of the field -/
theorem getBe_putBe (v : Int) :
    getBe16 (putBe16 v) = wrapS 16 v ∧ getBe32 (putBe32 v) = wrapS 32 v ∧ getBe64 (putBe64 v) = wrapS 64 v := by
  obtain ⟨g16, g32, g64⟩ := getBe_eq
  obtain ⟨p16, p32, p64⟩ := putBe_eq v
  have lt := byteAt_lt v
  refine ⟨?_, ?_, ?_⟩
  · calc getBe16 (putBe16 v) = wrapS 16 (ofBE (putBe16 v)) := g16 _ _ (lt _) (lt _)
      _ = wrapS 16 v := by rw [p16, ofBE_beBytes, wrapS_natCast_mod 16, wrapS_wrapU]
  · calc getBe32 (putBe32 v) = wrapS 32 (ofBE (putBe32 v)) := g32 _ _ _ _ (lt _) (lt _) (lt _) (lt _)
      _ = wrapS 32 v := by rw [p32, ofBE_beBytes, wrapS_natCast_mod 32, wrapS_wrapU]
  · calc getBe64 (putBe64 v) = wrapS 64 (ofBE (putBe64 v)) :=
          g64 _ _ _ _ _ _ _ _ (lt _) (lt _) (lt _) (lt _) (lt _) (lt _) (lt _) (lt _)
      _ = wrapS 64 v := by rw [p64, ofBE_beBytes, wrapS_natCast_mod 64, wrapS_wrapU]

theorem get_put_roundtrip (v : Int) :
    (-32768 ≤ v → v ≤ 32767 → getBe16 (putBe16 v) = v) ∧
    (-2147483648 ≤ v → v ≤ 2147483647 → getBe32 (putBe32 v) = v) :=
  ⟨fun h1 h2 => by rw [(getBe_putBe v).1]; exact wrapS_of_range 16 v (by omega) (by omega),
   fun h1 h2 => by rw [(getBe_putBe v).2.1]; exact wrapS_of_range 32 v (by omega) (by omega)⟩

theorem get_put_be64 (v : Int) (h1 : -9223372036854775808 ≤ v) (h2 : v ≤ 9223372036854775807) : getBe64 (putBe64 v) = v := by
  rw [(getBe_putBe v).2.2]; exact wrapS_of_range 64 v (by omega) (by omega)

theorem beBytes_wrapU_wrapS_ofBE (n : Nat) (l : List Nat) (hl : l.length = n) (h : ∀ b ∈ l, b < 256) :
    beBytes n (wrapU (8 * n) (wrapS (8 * n) (ofBE l))) = l := by
  rw [wrapU_wrapS, wrapU_natCast, Nat.pow_mul, show 2 ^ 8 = 256 from rfl, beBytes, leBytes_mod, ← beBytes, ← hl]
  exact beBytes_ofBE l h

theorem put_get_be64 (a b c d e f g h : Nat) (ha : a < 256) (hb : b < 256) (hc : c < 256) (hd : d < 256)
    (he : e < 256) (hf : f < 256) (hg : g < 256) (hh : h < 256) :
    putBe64 (getBe64 [a, b, c, d, e, f, g, h]) = [a, b, c, d, e, f, g, h] := by
  rw [getBe_eq.2.2 a b c d e f g h ha hb hc hd he hf hg hh, (putBe_eq _).2.2]
  exact beBytes_wrapU_wrapS_ofBE 8 _ rfl (by simp [*])

theorem put_get_be16 (a b : Nat) (ha : a < 256) (hb : b < 256) : putBe16 (getBe16 [a, b]) = [a, b] := by
  rw [getBe_eq.1 a b ha hb, (putBe_eq _).1]
  exact beBytes_wrapU_wrapS_ofBE 2 _ rfl (by simp [*])

theorem put_get_be32 (a b c d : Nat) (ha : a < 256) (hb : b < 256) (hc : c < 256) (hd : d < 256) :
    putBe32 (getBe32 [a, b, c, d]) = [a, b, c, d] := by
  rw [getBe_eq.2.1 a b c d ha hb hc hd, (putBe_eq _).2.1]
  exact beBytes_wrapU_wrapS_ofBE 4 _ rfl (by simp [*])

/-- the little-endian and 24-bit readers are the big-endian 32-bit reader on the reversed / zero-extended string -/
theorem get_le_is_get_be_reversed (a b c d : Nat) :
    getLe32 [a, b, c, d] = getBe32 [d, c, b, a] ∧ getBe24 [a, b, c] = getBe32 [a, b, c, 0] ∧
    getLe24 [a, b, c] = getBe32 [c, b, a, 0] ∧
    getLe64 [a, b, c, d, a, b, c, d] = getBe64 [d, c, b, a, d, c, b, a] := by
  refine ⟨rfl, ?_, ?_, rfl⟩
  · simp only [getBe24, getBe32]; norm_num
  · simp only [getLe24, getBe32]; norm_num

example : putBe32 (-2) = [0xFF, 0xFF, 0xFF, 0xFE] ∧ getBe32 [0xFF, 0xFF, 0xFF, 0xFE] = -2 ∧ getLe32 [1, 2, 3, 4] = 0x04030201 ∧
    getBe16 [0x80, 0x01] = -32767 ∧ getBe24 [0x80, 0, 1] = -2147483392 ∧ getLe64 [1, 0, 0, 0, 0, 0, 0, 0x80] = -9223372036854775807 ∧
    putBe64 (-9223372036854775807) = [0x80, 0, 0, 0, 0, 0, 0, 1] := by decide

theorem or_shift_add (a b : Nat) (hb : b < 256) : a <<< 8 ||| b = a * 256 + b := by
  rw [← Nat.shiftLeft_add_eq_or_of_lt (by simpa using hb), Nat.shiftLeft_eq]

/-- the byte fields re-assembled most significant first are the little-endian byte string read as a big-endian number -/
theorem bvswap16_eq (x : BitVec 16) : bvswap16 x = bswap16 x := by
  apply BitVec.eq_of_toNat_eq
  simp only [bvswap16, bswap16, BitVec.toNat_append, BitVec.extractLsb'_toNat, BitVec.toNat_ofNat, Nat.mod_eq_of_lt (endswap16_lt _)]
  rw [or_shift_add _ _ (Nat.mod_lt _ (by norm_num)), ← (endswap_reverses_bytes x.toNat).1]
  simp only [Nat.shiftRight_eq_div_pow, Nat.reducePow, Nat.div_one, ofBE, leBytes, List.reverse_cons, List.reverse_nil,
    List.nil_append, List.cons_append, ofLE]
  ring

theorem bvswap32_eq (x : BitVec 32) : bvswap32 x = bswap32 x := by
  apply BitVec.eq_of_toNat_eq
  simp only [bvswap32, bswap32, BitVec.toNat_append, BitVec.extractLsb'_toNat, BitVec.toNat_ofNat, Nat.mod_eq_of_lt (endswap32_lt _)]
  rw [or_shift_add _ _ (Nat.mod_lt _ (by norm_num)), or_shift_add _ _ (Nat.mod_lt _ (by norm_num)),
    or_shift_add _ _ (Nat.mod_lt _ (by norm_num)), ← (endswap_reverses_bytes x.toNat).2]
  simp only [Nat.shiftRight_eq_div_pow, Nat.reducePow, Nat.div_one, ofBE, leBytes, List.reverse_cons, List.reverse_nil,
    List.nil_append, List.cons_append, ofLE, Nat.div_div_eq_div_mul, Nat.reduceMul]
  ring

theorem bvswap64_eq (x : BitVec 64) : bvswap64 x = bswap64 x := by
  apply BitVec.eq_of_toNat_eq
  simp only [bvswap64, bswap64, BitVec.toNat_append, BitVec.extractLsb'_toNat, BitVec.toNat_ofNat, Nat.mod_eq_of_lt (endswap64_lt _)]
  rw [or_shift_add _ _ (Nat.mod_lt _ (by norm_num)), or_shift_add _ _ (Nat.mod_lt _ (by norm_num)),
    or_shift_add _ _ (Nat.mod_lt _ (by norm_num)), or_shift_add _ _ (Nat.mod_lt _ (by norm_num)),
    or_shift_add _ _ (Nat.mod_lt _ (by norm_num)), or_shift_add _ _ (Nat.mod_lt _ (by norm_num)),
    or_shift_add _ _ (Nat.mod_lt _ (by norm_num)), ← endswap64_reverses_bytes x.toNat]
  simp only [Nat.shiftRight_eq_div_pow, Nat.reducePow, Nat.div_one, ofBE, leBytes, List.reverse_cons, List.reverse_nil,
    List.nil_append, List.cons_append, ofLE, Nat.div_div_eq_div_mul, Nat.reduceMul]
  ring

/-- the BitVec-level swaps (`bvswap*`: the byte fields re-assembled in reverse order with `extractLsb'` / `++`) are exact
    involutions on every bit pattern -/
theorem bvswap_involutive :
    (∀ x : BitVec 16, bvswap16 (bvswap16 x) = x) ∧ (∀ x : BitVec 32, bvswap32 (bvswap32 x) = x) ∧
    (∀ x : BitVec 64, bvswap64 (bvswap64 x) = x) := by
  obtain ⟨i16, i32, i64⟩ := endswap_involutive
  refine ⟨fun x => ?_, fun x => ?_, fun x => ?_⟩
  · rw [bvswap16_eq, bvswap16_eq]; exact i16 x
  · rw [bvswap32_eq, bvswap32_eq]; exact i32 x
  · rw [bvswap64_eq, bvswap64_eq]; exact i64 x

example : bvswap16 0x1234#16 = 0x3412#16 ∧ bvswap32 0x12345678#32 = 0x78563412#32 ∧
    bvswap64 0x0102030405060708#64 = 0x0807060504030201#64 := by decide

/-! ## C20 lifted to whole buffers: the `replace_*` array paths equal the native paths on finite values -/

/-- the word a little-endian host finds in the staging buffer, byte-swapped when the file is big-endian (`swap` reverses `n`
    bytes): on the way out its bytes are the value's bytes in file order … -/
theorem staged_write (n : Nat) (swap : Nat → Nat) (hswap : ∀ x, swap x = ofBE (leBytes n x)) (fileBE : Bool) (x : Nat)
    (hx : x < 256 ^ n) :
    leBytes n (if fileBE then swap (ofLE (leBytes n x)) else ofLE (leBytes n x)) = if fileBE then beBytes n x else leBytes n x := by
  rw [ofLE_leBytes, Nat.mod_eq_of_lt hx]
  cases fileBE
  · rfl
  · simp only [if_true]; rw [hswap, leBytes_ofBE_leBytes]

/-- … and on the way in the word made from the value's bytes in file order has the value's little-endian bytes: the native
    bytes of a buffer of values that `rd` reads back from their little-endian bytes are read back as the buffer -/
theorem staged_read (n : Nat) (hn : 0 < n) (swap : Nat → Nat) (hswap : ∀ x, swap x = ofBE (leBytes n x)) (rd : List Byte → Nat)
    (fileBE : Bool) (xs : List Nat) (h : ∀ x ∈ xs, x < 256 ^ n ∧ rd (leBytes n x) = x) :
    (groups n (xs.flatMap fun x => if fileBE then beBytes n x else leBytes n x)).map
      (fun g => rd (leBytes n (if fileBE then swap (ofLE g) else ofLE g))) = xs := by
  rw [groups_flatMap n hn _ _ (fun v _ => by cases fileBE <;> [exact leBytes_length _ v; exact beBytes_length _ v]), List.map_map]
  conv => rhs; rw [← List.map_id xs]
  refine List.map_congr_left fun x hx => ?_
  obtain ⟨hlt, hrd⟩ := h x hx
  cases fileBE
  · simp only [Function.comp, Bool.false_eq_true, if_false, id]
    rw [ofLE_leBytes, Nat.mod_eq_of_lt hlt, hrd]
  · simp only [Function.comp, if_true, id]
    rw [hswap, show ofLE (beBytes n x) = ofBE (leBytes n x) from rfl, ofBE_leBytes_involutive, Nat.mod_eq_of_lt hlt, hrd]

/-- C20 lifted to whole buffers, write side: for a buffer of finite values `replace_write_f` (f2bf_array + endswap_int_array)
    produces exactly the bytes of the native path, for both file byte orders -/
theorem replace_write_finite_f32 (fileBE : Bool) (xs : List Nat) (h : ∀ x ∈ xs, x < 2 ^ 32 ∧ f32.isFinite x = true) :
    replaceWriteF32 fileBE xs = hostWrite f32 fileBE xs := by
  unfold replaceWriteF32 hostWrite
  refine List.flatMap_congr fun x hx => ?_
  obtain ⟨hlt, hfin⟩ := h x hx
  rw [(ieee_write_finite_f32 x hlt hfin).2]
  exact staged_write 4 endswap32 (fun y => (endswap_reverses_bytes y).2.symm) fileBE x hlt

/-- … and read side: reading the native bytes of a buffer of finite values through `replace_read_f` returns the buffer -/
theorem replace_read_finite_f32 (fileBE : Bool) (xs : List Nat) (h : ∀ x ∈ xs, x < 2 ^ 32 ∧ f32.isFinite x = true) :
    replaceReadF32 fileBE (hostWrite f32 fileBE xs) = xs := by
  exact staged_read 4 (by decide) endswap32 (fun y => (endswap_reverses_bytes y).2.symm) f32LeRead fileBE xs
    fun x hx => ⟨(h x hx).1, (ieee_read_finite_f32 x (h x hx).1 (h x hx).2).2⟩

/-- the same for `replace_write_d` / `replace_read_d` (double64.c) -/
theorem replace_write_finite_f64 (fileBE : Bool) (xs : List Nat) (h : ∀ x ∈ xs, x < 2 ^ 64 ∧ f64.isFinite x = true) :
    replaceWriteF64 fileBE xs = hostWrite f64 fileBE xs := by
  unfold replaceWriteF64 hostWrite
  refine List.flatMap_congr fun x hx => ?_
  obtain ⟨hlt, hfin⟩ := h x hx
  rw [(ieee_write_finite_f64 x hlt hfin).2]
  exact staged_write 8 endswap64 (fun y => (endswap64_reverses_bytes y).symm) fileBE x hlt

theorem replace_read_finite_f64 (fileBE : Bool) (xs : List Nat) (h : ∀ x ∈ xs, x < 2 ^ 64 ∧ f64.isFinite x = true) :
    replaceReadF64 fileBE (hostWrite f64 fileBE xs) = xs := by
  exact staged_read 8 (by decide) endswap64 (fun y => (endswap64_reverses_bytes y).symm) f64LeRead fileBE xs
    fun x hx => ⟨(h x hx).1, (ieee_read_finite_f64 x (h x hx).1 (h x hx).2).2⟩

/-- the C20 form of the four buffer theorems: buffers of normal values -/
theorem replace_write_native_f32 (fileBE : Bool) (xs : List Nat) (h : ∀ x ∈ xs, x < 2 ^ 32 ∧ Spec.isNormal f32 x = true) :
    replaceWriteF32 fileBE xs = hostWrite f32 fileBE xs :=
  replace_write_finite_f32 fileBE xs fun x hx => ⟨(h x hx).1, (finite_of_spec_normal f32 x (h x hx).2).2⟩
theorem replace_read_native_f32 (fileBE : Bool) (xs : List Nat) (h : ∀ x ∈ xs, x < 2 ^ 32 ∧ Spec.isNormal f32 x = true) :
    replaceReadF32 fileBE (hostWrite f32 fileBE xs) = xs :=
  replace_read_finite_f32 fileBE xs fun x hx => ⟨(h x hx).1, (finite_of_spec_normal f32 x (h x hx).2).2⟩
theorem replace_write_native_f64 (fileBE : Bool) (xs : List Nat) (h : ∀ x ∈ xs, x < 2 ^ 64 ∧ Spec.isNormal f64 x = true) :
    replaceWriteF64 fileBE xs = hostWrite f64 fileBE xs :=
  replace_write_finite_f64 fileBE xs fun x hx => ⟨(h x hx).1, (finite_of_spec_normal f64 x (h x hx).2).2⟩
theorem replace_read_native_f64 (fileBE : Bool) (xs : List Nat) (h : ∀ x ∈ xs, x < 2 ^ 64 ∧ Spec.isNormal f64 x = true) :
    replaceReadF64 fileBE (hostWrite f64 fileBE xs) = xs :=
  replace_read_finite_f64 fileBE xs fun x hx => ⟨(h x hx).1, (finite_of_spec_normal f64 x (h x hx).2).2⟩

/-- C01 for whole buffers through the portable path, at full strength: what `replace_write_*` puts into the file is read back
    by `replace_read_*` as the very buffer, for every buffer of finite values, both file byte orders -/
theorem replace_buffer_roundtrip (fileBE : Bool) :
    (∀ xs : List Nat, (∀ x ∈ xs, x < 2 ^ 32 ∧ f32.isFinite x = true) → replaceReadF32 fileBE (replaceWriteF32 fileBE xs) = xs) ∧
    (∀ xs : List Nat, (∀ x ∈ xs, x < 2 ^ 64 ∧ f64.isFinite x = true) → replaceReadF64 fileBE (replaceWriteF64 fileBE xs) = xs) :=
  ⟨fun xs h => by rw [replace_write_finite_f32 fileBE xs h, replace_read_finite_f32 fileBE xs h],
   fun xs h => by rw [replace_write_finite_f64 fileBE xs h, replace_read_finite_f64 fileBE xs h]⟩

/-- non-vacuity: a buffer of ordinary values, both file byte orders; a buffer holding −0.0, a subnormal and 2^-127 -/
example : replaceWriteF32 true [0x3F800000, 0xC2F6E979] = [0x3F, 0x80, 0, 0, 0xC2, 0xF6, 0xE9, 0x79] ∧
    replaceReadF32 false [0, 0, 0x80, 0x3F, 0x79, 0xE9, 0xF6, 0xC2] = [0x3F800000, 0xC2F6E979] ∧
    hostWrite f32 false [0x3F800000] = [0, 0, 0x80, 0x3F] ∧
    replaceReadF64 true [0x40, 0x09, 0x21, 0xFB, 0x54, 0x44, 0x2D, 0x18] = [0x400921FB54442D18] ∧
    replaceWriteF32 true [0x80000000, 1, 0x00400000] = [0x80, 0, 0, 0, 0, 0, 0, 1, 0, 0x40, 0, 0] ∧
    replaceReadF32 true (replaceWriteF32 true [0x80000000, 1, 0x00400000]) = [0x80000000, 1, 0x00400000] ∧
    replaceWriteF64 false [0x8000000000000001] = [1, 0, 0, 0, 0, 0, 0, 0x80] := by decide +kernel

end Sf.C20Ieee
