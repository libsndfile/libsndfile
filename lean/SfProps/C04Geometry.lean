/-
  C04 — the geometry table of all containers (L0): block length and pad allowance per container and encoding, and the
  bounds they give on the frame count a closed file (ceiling to a block) or a crash-point image (floor, C11) may report.
-/
import SfModel.Geometry
namespace Sf.C04
open Sf Sf.Geometry

/-- sample-granular encodings have block length 1 in every container (PAF 24-bit, which packs 10 frames per
    block, is the one exception and is named) -/
theorem frames_bound_granular (major codec ch sr : Nat) (hg : codec ∈ sampleGranular) (hpaf : ¬ (major = 0x05 ∧ codec = 0x03)) :
    blockFrames major codec ch sr = 1 := by
  simp [sampleGranular] at hg
  unfold blockFrames IMA MS GSM VOX NMS G72X
  rcases hg with h | h | h | h | h | h | h | h | h | h | h <;> subst h <;> simp_all

/-- the encodings whose block length the codec code alone fixes: OKI / VOX ADPCM 2, NMS ADPCM 160, G.72x 120, DWVW 1 -/
theorem blockFrames_vox (major codec ch sr : Nat) (h : codec = 0x21) : blockFrames major codec ch sr = 2 := by
  simp [h, blockFrames, IMA, MS, GSM, VOX]

theorem blockFrames_nms (major codec ch sr : Nat) (h : codec = 0x22 ∨ codec = 0x23 ∨ codec = 0x24) :
    blockFrames major codec ch sr = 160 := by
  rcases h with h | h | h <;> simp [h, blockFrames, IMA, MS, GSM, VOX, NMS]

theorem blockFrames_g72x (major codec ch sr : Nat) (h : codec = 0x30 ∨ codec = 0x31 ∨ codec = 0x32) :
    blockFrames major codec ch sr = 120 := by
  rcases h with h | h | h <;> simp [h, blockFrames, IMA, MS, GSM, VOX, NMS, G72X]

theorem blockFrames_dwvw (major codec ch sr : Nat) (h : codec = 0x40 ∨ codec = 0x41 ∨ codec = 0x42) :
    blockFrames major codec ch sr = 1 := by
  rcases h with h | h | h <;> simp [h, blockFrames, IMA, MS, GSM, VOX, NMS, G72X]

/-- no container needs a pad-frame allowance (AIFF's went with the repair of KF-AIFF-ODD-PAD) -/
theorem pad_bound (major codec ch : Nat) : padFrames major codec ch = 0 := rfl

/-- the table before that repair: at most one frame, and zero outside AIFF one-byte encodings -/
theorem pad_bound_old_rule (major codec ch : Nat) : padFramesOld major codec ch ≤ 1 ∧ (major ≠ 0x02 → padFramesOld major codec ch = 0) := by
  unfold padFramesOld; constructor
  · dsimp only; split <;> omega
  · intro h; simp [h]

/-- N ≤ ⌈N⌉_B < N + B: the frame count a block codec may report -/
theorem frames_bound (n b : Nat) (hb : 1 ≤ b) : n ≤ ceilToBlock n b ∧ ceilToBlock n b < n + b := by
  unfold ceilToBlock
  have h1 := Nat.div_add_mod' (n + b - 1) b
  have h2 := Nat.mod_lt (n + b - 1) (show b > 0 by omega)
  constructor <;> omega

/-- B = 1 → F = N -/
theorem frames_bound_one (n : Nat) : ceilToBlock n 1 = n := by simp [ceilToBlock]

/-- ⌊N⌋_B ≤ N < ⌊N⌋_B + B (snapshots of block codecs, C11) -/
theorem floor_bound (n b : Nat) (hb : 1 ≤ b) : floorToBlock n b ≤ n ∧ n < floorToBlock n b + b := by
  unfold floorToBlock
  have h1 := Nat.div_add_mod' n b
  have h2 := Nat.mod_lt n (show b > 0 by omega)
  constructor <;> omega

example : blockFrames 0x01 0x12 2 44100 = 2041 ∧ blockFrames 0x01 0x13 1 8000 = 500 ∧ blockFrames 0x05 0x03 1 8000 = 10 ∧
    blockFrames 0x03 0x02 2 8000 = 1 ∧ ceilToBlock 1000 505 = 1010 := by decide

end Sf.C04
