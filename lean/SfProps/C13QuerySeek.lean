/-
  C13 ("… without disturbing audio") / C06 (query clause): a chunk query between two reads, for codecs that cannot seek.
  Property theorems only; model lean/SfModel/AbsQuerySeek.lean; campaign vlib/queryfix.py.
-- properties: C06 C13
-/
import SfModel.AbsQuerySeek
namespace Sf.C13QuerySeek
open Sf Sf.AbsQ Sf.AbsQS

/-- `*_get_chunk_data` as written (save, seek, read, restore) leaves the handle exactly as it was — for EVERY codec,
    including those whose seek function refuses every call: the read after the query is the read without the query -/
theorem restore_needs_no_codec_seek (c : Codec) (h : H) (off len datalen n : Nat) :
    queryRestore h off len datalen = h ∧ readCall c (queryRestore h off len datalen) n = readCall c h n := by
  have : queryRestore h off len datalen = h := by
    simp [queryRestore, runAll, getChunkData, Io.run]
  exact ⟨this, by rw [this]⟩

/-- between reads, a read after the restoring query returns the frames asked for, from the right place -/
theorem read_after_restore (c : Codec) (h : H) (off len datalen n : Nat) (hc : Coherent c h) :
    (readCall c (queryRestore h off len datalen) n).2 = ⟨n, true⟩ := by
  rw [(restore_needs_no_codec_seek c h off len datalen n).2]
  simp [readCall, hc.1, hc.2]

/-- the forgetting variant is indistinguishable wherever the codec can seek to the current frame … -/
theorem forget_rule_same_when_seekable (c : Codec) (h : H) (off len datalen n : Nat) (hc : Coherent c h)
    (hs : c.canSeek h.rpos = true) :
    (readCall c (queryForget h off len datalen) n).2 = (readCall c h n).2 ∧
    (readCall c (queryForget h off len datalen) n).1 = (readCall c h n).1 := by
  obtain ⟨fd, lr, rp, e⟩ := h
  obtain ⟨h1, h2⟩ := hc
  simp only at h1 h2 hs
  subst h1
  simp [readCall, queryForget, hs, h2]

/-- … and loses the audio wherever it cannot: the read after the query returns 0 frames and latches the seek error -/
theorem forget_rule_loses_audio_when_seek_refused (c : Codec) (h : H) (off len datalen n : Nat)
    (hs : c.canSeek h.rpos = false) :
    (readCall c (queryForget h off len datalen) n).2.ret = 0 ∧ (readCall c (queryForget h off len datalen) n).1.err = true ∧
    (readCall c (queryForget h off len datalen) n).1.rpos = h.rpos := by
  simp [readCall, queryForget, hs]

/-- DWVW (rewind only): the forgetting variant works at frame 0 — a query before the first read — and nowhere else -/
theorem dwvw_forget_rule (offsetOf : Nat → Nat) (h : H) (off len datalen n : Nat) :
    (h.rpos = 0 → (readCall (rewindOnly offsetOf) (queryForget h off len datalen) n).2 = ⟨n, true⟩) ∧
    (h.rpos ≠ 0 → (readCall (rewindOnly offsetOf) (queryForget h off len datalen) n).2 = ⟨0, false⟩) := by
  constructor
  · intro h0; simp [readCall, queryForget, rewindOnly, h0]
  · intro h0; simp [readCall, queryForget, rewindOnly, h0]

/-- G.72x / NMS ADPCM (seek always refused): the forgetting variant loses the audio at every position, 0 included -/
theorem never_forget_rule (offsetOf : Nat → Nat) (h : H) (off len datalen n : Nat) :
    (readCall (never offsetOf) (queryForget h off len datalen) n).2 = ⟨0, false⟩ := by
  simp [readCall, queryForget, never]

-- non-vacuity: a handle 7 frames into a file whose decoder continues at byte 54 + 2 k; chunk of 8 bytes at offset 20
example : Coherent (rewindOnly fun k => 54 + 2 * k) ⟨68, true, 7, false⟩ := by simp [Coherent, rewindOnly]
example : (readCall (rewindOnly fun k => 54 + 2 * k) (queryRestore ⟨68, true, 7, false⟩ 20 8 8) 5).2 = ⟨5, true⟩ ∧
    (readCall (rewindOnly fun k => 54 + 2 * k) (queryForget ⟨68, true, 7, false⟩ 20 8 8) 5).2 = ⟨0, false⟩ ∧
    (readCall (anywhere fun k => 54 + 2 * k) (queryForget ⟨68, true, 7, false⟩ 20 8 8) 5).2 = ⟨5, true⟩ := by decide
example : (rewindOnly fun k => 54 + 2 * k).canSeek 7 = false ∧ (anywhere fun k => 54 + 2 * k).canSeek 7 = true := by decide

end Sf.C13QuerySeek
