/-
  C05 / C06 / C08 — interleaved non-audio calls do not move the audio position: what the query clause of the abstract model
  (SfModel/AbsQuery.lean) means for an accepted transcript.
-- properties: C05 C06 C08
-/
import SfModel.AbsQuery
import SfProofs.AbsRun
namespace Sf.C06Query
open Sf Sf.Abs Sf.AbsQ

/-- the query clause is what `Sf.Abs.check` applies to a query line -/
theorem check_query (g : Geom) (st : St) (o : Out) : check g st .other o = queryOk st o := rfl

/-- a query line in front of a transcript changes nothing about its acceptance nor about the state it ends in -/
theorem accepts_cons_query (g : Geom) (st : St) (o : Out) (tr : List (Op × Out)) :
    accepts g st ((.other, o) :: tr) = accepts g st tr := rfl

theorem stripQ_query (o : Out) (tr : List (Op × Out)) : stripQ ((.other, o) :: tr) = stripQ tr := by
  simp [stripQ, isQuery]

theorem stripQ_keep (op : Op) (o : Out) (tr : List (Op × Out)) (h : isQuery op = false) :
    stripQ ((op, o) :: tr) = (op, o) :: stripQ tr := by
  simp [stripQ, h]

/-- FULL STRENGTH: a transcript is accepted exactly when the transcript WITHOUT its query lines is, with the same final state
    (frames, read position, write position, streams): wherever queries are put between reads, writes and seeks, and whatever
    they answer, every audio call is judged as if they had not been made -/
theorem accepts_strip_queries (g : Geom) : ∀ (tr : List (Op × Out)) (st : St), accepts g st tr = accepts g st (stripQ tr) := by
  intro tr
  induction tr with
  | nil => intro st; rfl
  | cons l tr ih =>
    intro st
    obtain ⟨op, o⟩ := l
    by_cases hq : isQuery op = true
    · have hop : op = .other := by cases op <;> simp_all [isQuery]
      subst hop
      rw [stripQ_query, accepts_cons_query]
      exact ih st
    · rw [stripQ_keep op o tr (by simpa using hq)]
      simp only [accepts]
      cases check g st op o <;> simp [ih]

/-- the verdict `ok` of THE PREDICATE does not depend on the query lines -/
theorem holds_iff_stripped (g : Geom) (st : St) (tr : List (Op × Out)) :
    (∃ n, holdsFrom g 0 st tr = .ok n) ↔ (∃ n, holdsFrom g 0 st (stripQ tr) = .ok n) := by
  constructor
  · intro ⟨n, h⟩
    obtain ⟨⟨st', hs⟩, _⟩ := (holdsFrom_ok_iff g tr 0 st n).mp h
    exact ⟨0 + (stripQ tr).length, (holdsFrom_ok_iff g _ 0 st _).mpr ⟨⟨st', by rw [← accepts_strip_queries]; exact hs⟩, rfl⟩⟩
  · intro ⟨n, h⟩
    obtain ⟨⟨st', hs⟩, _⟩ := (holdsFrom_ok_iff g _ 0 st n).mp h
    exact ⟨0 + tr.length, (holdsFrom_ok_iff g tr 0 st _).mpr ⟨⟨st', by rw [accepts_strip_queries]; exact hs⟩, rfl⟩⟩

/-- C06 with queries: ANY accepted history of a read handle that consists of valid reads of type `ty` (any partition, items or
    frames calls) with ANY queries in between delivered, concatenated, exactly the slice `[rpos·cpf, rpos'·cpf)` of the reference
    stream — the queries moved nothing -/
theorem reads_with_queries_concat (g : Geom) (ty : Ty) (tr : List (Op × Out)) (rds : List RdLine) (st st' : St)
    (hq : stripQ tr = rdTr ty rds) (hv : ∀ r ∈ rds, validReq g r.1 r.2.1 = true)
    (hm : st.mode = .r) (hval : st.valid ty = true) (hle : st.rpos ≤ st.frames) (h : accepts g st tr = some st') :
    deliveredAll g ty rds = (st.ref ty).extract (st.rpos * g.cpf ty) (st'.rpos * g.cpf ty) ∧ st'.frames = st.frames := by
  rw [accepts_strip_queries, hq] at h
  obtain ⟨a, _, _, b, _⟩ := reads_concat g ty rds st st' hv hm hval hle h
  exact ⟨a, b⟩

/-- the pattern of the campaign: read, query, read (no seek) — the second read continues where the first one stopped -/
theorem read_query_read (g : Geom) (ty : Ty) (r1 r2 : RdLine) (oq : Out) (st st' : St)
    (hv1 : validReq g r1.1 r1.2.1 = true) (hv2 : validReq g r2.1 r2.2.1 = true)
    (hm : st.mode = .r) (hval : st.valid ty = true) (hle : st.rpos ≤ st.frames)
    (h : accepts g st [(.read ty r1.1 r1.2.1, r1.2.2), (.other, oq), (.read ty r2.1 r2.2.1, r2.2.2)] = some st') :
    delivered g ty r1 ++ delivered g ty r2 = (st.ref ty).extract (st.rpos * g.cpf ty) (st'.rpos * g.cpf ty) := by
  have := (reads_with_queries_concat g ty _ [r1, r2] st st' (by simp [stripQ, isQuery, rdTr])
    (by intro r hr; simp at hr; rcases hr with rfl | rfl <;> assumption) hm hval hle h).1
  simpa [deliveredAll] using this

/-- FULL STRENGTH: `*_get_chunk_data` as written leaves the descriptor where it found it — for every chunk offset, every chunk
    length and every caller `datalen`, zero included -/
theorem get_chunk_data_restores_position (fd : Fd) (off len datalen : Nat) :
    (runAll fd (getChunkData off len datalen)).pos = fd.pos := by
  simp [runAll, getChunkData, Io.run]

/-- the early-return variant leaves the descriptor AT THE CHUNK whenever nothing is copied (empty chunk or `datalen = 0`) … -/
theorem early_return_moves_position (fd : Fd) (off len datalen : Nat) (h0 : min datalen len = 0) :
    (runAll fd (getChunkDataEarlyReturn off len datalen)).pos = off := by
  simp [runAll, getChunkDataEarlyReturn, h0, Io.run]

/-- … and is indistinguishable from the code as written on every non-empty transfer: only the zero-length query shows it -/
theorem early_return_same_when_nonempty (fd : Fd) (off len datalen : Nat) (h0 : min datalen len ≠ 0) :
    runAll fd (getChunkDataEarlyReturn off len datalen) = runAll fd (getChunkData off len datalen) := by
  simp [getChunkDataEarlyReturn, h0]

def exG : Geom := { ch := 1, frames0 := 6, mode0 := .r }
def exRef : Ty → Array Item := fun _ => #[10, 11, 12, 13, 14, 15]

/-- read 2, a chunk query, read 2, a metadata query, a position probe, read to the end: accepted -/
def exTr : List (Op × Out) :=
  [(.read .s16 true 2, { ret := 2, data := #[10, 11] }), (.other, { ret := 0 }),
   (.read .s16 false 2, { ret := 2, data := #[12, 13] }), (.other, { ret := -7, err := true }),
   (.seek 0 1, { ret := 4 }), (.read .s16 true 3, { ret := 2, data := #[14, 15, 0xA5A5] })]

example : holdsOn exG exRef (fun _ => true) exTr = .ok 6 := by decide +kernel
example : holdsOn exG exRef (fun _ => true) (stripQ exTr) = .ok 4 := by decide +kernel
/-- the seeded behaviour: after the query the read delivers other bytes (position probe still says 2) — refused, clause `data` -/
example : holdsOn exG exRef (fun _ => true)
    [(.read .s16 true 2, { ret := 2, data := #[10, 11] }), (.other, { ret := 0 }), (.seek 0 1, { ret := 2 }),
     (.read .s16 true 2, { ret := 2, data := #[99, 98] })] = .bad 3 "data" := by decide +kernel
example : (runAll ⟨4096, 0⟩ (getChunkData 60 0 16)).pos = 4096 ∧ (runAll ⟨4096, 0⟩ (getChunkDataEarlyReturn 60 0 16)).pos = 60 ∧
    (runAll ⟨4096, 0⟩ (getChunkDataEarlyReturn 60 8 16)).pos = 4096 := by decide
example : validReq exG true 2 = true ∧ (stripQ exTr).length = 4 := by decide

end Sf.C06Query
