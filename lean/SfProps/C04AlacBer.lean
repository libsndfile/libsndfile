/-
  C01 / C04 (CAF/ALAC) — the BER integers of the packet table at their case splits, and what they mean for the file:
  -- properties: C01 C04
  * `berEnc v` IS the big-endian base-128 numeral of v: its digits evaluate to v, every byte but the last carries the
    continuation bit, the last does not, there is no leading zero digit (so the cases 128 / 16384 / 2^21 are the first values with
    two / three / four bytes, `berEnc_boundaries`);
  * only the size 0 is written as the lone zero byte the reader takes for the end of the table (`berEnc_terminator_iff`);
  * therefore the reader counts EVERY entry of a packet table `paktEncode` made (`reopen_counts_every_packet`, for any list of
    sizes in 1 … 2^28 − 1 below the file length): no frame behind a packet of 128, 16384, … bytes is lost.
  Model: SfModel/AlacFile.lean; the round trip itself is Sf.C04Alac.paktDecode_paktEncode.  The campaign steers real packets to
  127 / 128 / 129 and 16383 / 16384 / 16385 bytes (vlib/alac.py `boundary_campaign`).
-/
import SfProps.C04Alac
namespace Sf.C04AlacBer
open Sf Sf.Alac Sf.C04Alac

/-- value of a base-128 numeral, most significant digit first (what `alac_pakt_read_decode` accumulates) -/
def berVal (bs : List Byte) : Nat := bs.foldl (fun a b => a * 128 + b % 128) 0

/-- every byte but the last has bit 7 set, the last has it clear -/
def flagsOk : List Byte → Bool
  | [] => false
  | [b] => b < 128
  | b :: rest => 128 ≤ b && b < 256 && flagsOk rest

theorem berVal_numeral (l : Nat) (hl : l < 128) : ∀ (hs : List Nat) (a : Nat), (∀ d ∈ hs, d < 128) →
    (numeral hs l).foldl (fun a b => a * 128 + b % 128) a = digitsVal a (hs ++ [l])
  | [], a, _ => by simp [numeral, digitsVal, Nat.mod_eq_of_lt hl]
  | d :: hs, a, hd => by
    have := berVal_numeral l hl hs (a * 128 + d) (fun x hx => hd x (by simp [hx]))
    have hd1 := hd d (by simp)
    simp only [numeral, List.map_cons, List.cons_append, List.foldl_cons, digitsVal] at this ⊢
    rw [show (d + 128) % 128 = d by omega, this]

theorem flagsOk_numeral (l : Nat) (hl : l < 128) : ∀ hs : List Nat, (∀ d ∈ hs, d < 128) → flagsOk (numeral hs l) = true
  | [], _ => by simp [numeral, flagsOk, hl]
  | d :: hs, hd => by
    have ih := flagsOk_numeral l hl hs (fun x hx => hd x (by simp [hx]))
    have hd1 := hd d (by simp)
    cases hs with
    | nil =>
      simp only [numeral, List.map_cons, List.map_nil, List.cons_append, List.nil_append, flagsOk, Bool.and_eq_true, decide_eq_true_eq]
      exact ⟨⟨Nat.le_add_left 128 d, Nat.add_lt_add_right hd1 128⟩, hl⟩
    | cons e hs =>
      simp only [numeral, List.map_cons, List.cons_append, flagsOk, Bool.and_eq_true, decide_eq_true_eq] at ih ⊢
      exact ⟨⟨Nat.le_add_left 128 d, Nat.add_lt_add_right hd1 128⟩, ih⟩

/-- the numeral of v: value, continuation flags, no leading zero digit -/
theorem berEnc_spec (v : Nat) (bs : List Byte) (h : berEnc v = some bs) :
    berVal bs = v ∧ flagsOk bs = true ∧ (1 < bs.length → bs.headD 0 % 128 ≠ 0) := by
  obtain ⟨hs, l, rfl, hd, hl, _, hv, h0⟩ := berEnc_numeral v bs h
  refine ⟨by rw [berVal, berVal_numeral l hl hs 0 hd, hv], flagsOk_numeral l hl hs hd, ?_⟩
  cases hs with
  | nil => intro hh; simp [numeral] at hh
  | cons d hs =>
    intro _
    have := h0 d rfl
    have := hd d (by simp)
    show (d + 128) % 128 ≠ 0
    omega

/-- the number of bytes is the number of base-128 digits of v -/
theorem berEnc_digits (v : Nat) (bs : List Byte) (h : berEnc v = some bs) :
    (bs.length = 1 ↔ v < 128) ∧ (bs.length = 2 ↔ 128 ≤ v ∧ v < 16384) ∧ (bs.length = 3 ↔ 16384 ≤ v ∧ v < 2097152) ∧
    (bs.length = 4 ↔ 2097152 ≤ v ∧ v < 268435456) := by
  unfold berEnc at h
  split at h
  · cases h; simp; omega
  split at h
  · cases h; simp; omega
  split at h
  · cases h; simp; omega
  split at h
  · cases h; simp; omega
  · cases h

/-- the lone zero byte — the reader's end-of-table mark — is written for the size 0 and for no other -/
theorem berEnc_terminator_iff (v : Nat) : berEnc v = some [0] ↔ v = 0 := by
  constructor
  · intro h
    have := (berEnc_spec v [0] h).1
    simpa [berVal] using this.symm
  · intro h; subst h; decide

/-- both sides of every case split, byte for byte -/
theorem berEnc_boundaries :
    berEnc 127 = some [0x7f] ∧ berEnc 128 = some [0x81, 0x00] ∧ berEnc 129 = some [0x81, 0x01] ∧
    berEnc 16383 = some [0xff, 0x7f] ∧ berEnc 16384 = some [0x81, 0x80, 0x00] ∧ berEnc 16385 = some [0x81, 0x80, 0x01] ∧
    berEnc 2097151 = some [0xff, 0xff, 0x7f] ∧ berEnc 2097152 = some [0x81, 0x80, 0x80, 0x00] ∧
    berEnc 268435455 = some [0xff, 0xff, 0xff, 0x7f] ∧ berEnc 268435456 = none := by decide

/-- C04 / C01 for the packet table as stored: whatever the sizes of the packets (1 … 2^28 − 1, below the file length), the
    reader finds all of them — `blocks` of alac_reader_calc_frames is the number of packets written -/
theorem reopen_counts_every_packet (sizes : List Nat) (frames saved fl : Nat) (chunk : List Byte)
    (h : paktEncode sizes frames saved = some chunk) (hs : ∀ s ∈ sizes, 0 < s ∧ s < fl) :
    countBlocks fl (paktDecode (chunk ++ zeros (pad4 chunk.length))) = sizes.length := by
  rw [paktDecode_paktEncode sizes frames saved chunk h (fun s hx => (hs s hx).1)]
  apply countBlocks_all fl sizes _ hs
  split <;> simp

/-- non-vacuity: a table with packets of 128, 16384 and 127 bytes in a file of 20000 bytes; and a coder that wrote 128 as a lone
    zero byte (0x80 & 0x7f) would make the reader stop in front of that packet -/
example : (paktEncode [128, 16384, 127] 8252 60).isSome = true ∧
    countBlocks 20000 (paktDecode ((paktEncode [128, 16384, 127] 8252 60).getD [] ++ zeros 2)) = 3 ∧
    countBlocks 20000 (paktDecode (paktHeader 3 8252 60 ++ [0x00, 0x81, 0x80, 0x00, 0x7f])) = 0 := by
  refine ⟨?_, ?_, ?_⟩ <;> decide +kernel

end Sf.C04AlacBer
