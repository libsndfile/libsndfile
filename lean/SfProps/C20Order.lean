/-
  C20 — G.711 decoding and encoding do not depend on what the process did before: no process-wide kernel state.

  The model's G.711 kernels take the normalisation flag as an ARGUMENT (`Sf.Enc.decode e conv ty`, `Sf.G711.Law.decFloat f norm`):
  there is no table built on first use and no cached scale.  Stated over histories: a process is a list of requests
  (law, conversion settings of the handle, caller type, codes); `answers` serves them one after the other.

  A read of caller type `ty` looks at `conv.norm ty` only (`g711_decode_own_flag_only`: the float switch does not reach the double
  reader and vice versa, neither reaches the int readers); the answer to a request inside ANY history is its answer in a fresh
  process, for the readers and for the encoders: with `answers := hist.map answer` the three history theorems hold of any function
  in the place of `answer` (`map_history_nth`, `List.Perm.map`), what they record is that the model threads no state.
  `cached_table_rule_fails`: a kernel that builds its float table with the FIRST
  caller's flag (the shape of the class the campaign vlib/g711order.py looks for) answers a later request wrongly — the property bites.
-/
import SfModel.Pcm
namespace Sf.C20Order
open Sf

/-- one read request: encoding (the campaign's are `Enc.ulaw` / `Enc.alaw`; nothing below restricts it), the handle's settings,
    caller type, the stored codes -/
structure Req where
  e : Enc
  conv : Conv
  ty : Ty
  codes : List Byte

def answer (r : Req) : List Int := r.e.decodeAll r.conv r.ty r.codes

/-- the process: requests served one after the other (no state is carried) -/
def answers (hist : List Req) : List (List Int) := hist.map answer

theorem g711_decode_own_flag_only (e : Enc) (he : e = .ulaw ∨ e = .alaw) (c c' : Conv) (ty : Ty)
    (h : c.norm ty = c'.norm ty) (bs : List Byte) : e.decode c ty bs = e.decode c' ty bs := by
  rcases he with rfl | rfl <;> cases ty <;> simp_all [Enc.decode, Conv.norm]

theorem map_history_nth {α β : Type} [Inhabited β] (f : α → β) (before after : List α) (r : α) :
    ((before ++ r :: after).map f)[before.length]? = some ([r].map f).head! := by
  simp [List.head!]

/-- the answer to request `i` of any history is the answer of that request alone in a fresh process -/
theorem g711_float_read_order_independent (before after : List Req) (r : Req) :
    (answers (before ++ r :: after))[before.length]? = some (answers [r]).head! :=
  map_history_nth answer before after r

theorem g711_history_permutation (h1 h2 : List Req) (hp : h1.Perm h2) : (answers h1).Perm (answers h2) :=
  hp.map answer

/-- write requests: the closed data region of one handle -/
structure WReq where
  e : Enc
  conv : Conv
  ty : Ty
  items : List Int

def wanswer (r : WReq) : List Byte := r.e.encodeAll r.conv r.ty r.items
def wanswers (hist : List WReq) : List (List Byte) := hist.map wanswer

theorem g711_encode_order_independent (before after : List WReq) (r : WReq) :
    (wanswers (before ++ r :: after))[before.length]? = some (wanswers [r]).head! :=
  map_history_nth wanswer before after r

/-- non-vacuity: µ-law code 0x00 read as float, normalisation on and then off on another handle: −32124 / 32768 and −32124.0 -/
example : answers [⟨.ulaw, {}, .f32, [0]⟩, ⟨.ulaw, { normF := false }, .f32, [0]⟩] = [[0xBF7AF800], [0xC6FAF800]] := by decide +kernel

/-- process-wide state: the flag the table was built with (none yet) -/
def cachedStep (st : Option Bool) (r : Req) : Option Bool × List Int :=
  if r.ty = .f32 then
    let flag := st.getD r.conv.normF
    (some flag, r.e.decodeAll { r.conv with normF := flag } r.ty r.codes)
  else (st, answer r)

def cachedAnswers : Option Bool → List Req → List (List Int)
  | _, [] => []
  | st, r :: rs => (cachedStep st r).2 :: cachedAnswers (cachedStep st r).1 rs

/-- with such a kernel the second request of the history above is answered with the first one's scale -/
theorem cached_table_rule_fails :
    cachedAnswers none [⟨.ulaw, {}, .f32, [0]⟩, ⟨.ulaw, { normF := false }, .f32, [0]⟩] ≠
      answers [⟨.ulaw, {}, .f32, [0]⟩, ⟨.ulaw, { normF := false }, .f32, [0]⟩] := by decide +kernel

end Sf.C20Order
