/-
  C04 — a closed file describes exactly what was written into it.
  (helpers: SfProofs/Container*.lean).  Containers with modelled header bytes: RAW, AU, WAV.

  A *session* is `openHandle … .w` on an empty store, then any list of operations `SOp`
  (write calls of any type and count, SFC_UPDATE_HEADER_NOW, SFC_SET_UPDATE_HEADER_AUTO), then `closeHandle`.
  `SOp.valid` asks of a write call only what the API asks: count ≥ 0, whole frames, and a caller buffer that
  holds the items.  N = `sessFrames` is the number of frames the write calls accepted.
-/
import SfProofs.ContainerSnap
import SfProps.C04Geometry
namespace Sf.C04
open Sf Sf.Geometry

/-- AU: for every configuration the model accepts for writing with a rate the signed 32-bit header field holds (`hsr`;
    `openHandle` itself asks `1 ≤ sr` only) and every valid session, the closed bytes parse with the requested channels,
    rate, codec and byte order, the data starts at 24 and is exactly the encoded audio, and a reader of those bytes
    reports frames = N.  No size guard is needed for these facts: beyond 2^31 − 1 data bytes the writer stores −1 and the
    reader falls back to the file length (see the `au_size_field…` theorems for the field itself). -/
theorem au_reopen_info (ix fmt : Nat) (ch sr : Int) (h0 : H) (s0 : Store) (ops : List SOp)
    (hc : containerOf fmt = some .au)
    (ho : openHandle ix {} .w fmt ch sr = .ok h0 s0)
    (hsr : sr ≤ 0x7FFFFFFF)
    (hv : ∀ op ∈ ops, op.valid ch.toNat) :
    let fin := runS (h0, s0) ops
    let bytes := (closeHandle fin.1 fin.2).bytes
    let N := sessFrames ch.toNat ops
    ∃ p c, auParse bytes = .ok p ∧ openCfg fmt ch sr = some c ∧ (p.ch : Int) = ch ∧ p.sr = sr ∧
      p.fmtWord = (if dataBig .au fmt then 0 else 0x10000000) + 0x030000 + codecOf fmt ∧
      p.dataoffset = 24 ∧ bytes.drop 24 = sessData c ops ∧
      ∀ (ix' pos fmt0 : Nat) (ch0 sr0 : Int), containerOf fmt0 ≠ some .raw →
        ∃ h' s', openHandle ix' ⟨bytes, pos⟩ .r fmt0 ch0 sr0 = .ok h' s' ∧ h'.frames = N ∧
          (h'.ch : Int) = ch ∧ h'.sr = sr ∧ h'.fmtWord = p.fmtWord ∧ h'.enc = c.enc := by
  intro fin bytes N
  obtain ⟨c, hcfg, h1, h2, h3, i⟩ := session_inv ops ho hv
  have hch := openCfg_ch hcfg
  have hk : c.container = .au := openCfg_container hcfg hc
  have hb : bytes = snapImage c (c.init.run c ops) := by
    show (closeHandle _ _).bytes = _
    rw [close_bytes i]; simp only [closedImage, hk]
  obtain ⟨p, hp, pCh, pSr, pWord, pOff, pData, reopen⟩ := image_reads hcfg (by rw [hk]; decide) h1 h2 h3 hsr _ i.absOk i.pkSome _ []
    (Or.inl rfl) (fun h => by rw [hk] at h; cases h) (hb.trans (snapImage_eq _ _))
  rw [Cfg.hdrLen_au hk] at pOff pData
  refine ⟨p, c, by simpa only [Cfg.parser, hk] using hp, hcfg, pCh, pSr, by rw [pWord, openCfg_word hcfg, hk], pOff,
    by rw [pData, List.append_nil, init_run_data], ?_⟩
  intro ix' pos fmt0 ch0 sr0 hraw
  obtain ⟨h', s', ho', oFrames, oCh, oSr, oWord, oEnc, _⟩ := reopen ix' pos fmt0 ch0 sr0 hraw
  exact ⟨h', s', ho', by rw [oFrames, init_run_frames, hch], oCh, oSr, oWord, oEnc⟩

/-- a concrete AU session (stereo 16-bit, a frame call, a header update, an item call): it opens, its calls are
    valid, it closes to these 36 bytes, and a reader finds 3 frames -/
def exOps : List SOp := [.write ⟨.s16, true, 2, [1, -2, 3, -4]⟩, .update, .write ⟨.s16, false, 2, [5, 6]⟩]
def exAu : List Byte :=
  [46,115,110,100, 0,0,0,24, 0,0,0,12, 0,0,0,3, 0,0,172,68, 0,0,0,2, 0,1,255,254,0,3,255,252,0,5,0,6]
example : ∃ h0 s0, openHandle 0 {} .w 0x030002 2 44100 = .ok h0 s0 := OpenRes.exists_of_isOk (by decide)
example : (∀ op ∈ exOps, op.valid (2 : Int).toNat) ∧ sessFrames 2 exOps = 3 := by decide
example : sessionBytes 0 0x030002 2 44100 exOps = some exAu ∧ reopenFrames exAu = some 3 := by decide +kernel

/-- the AU data-size field of the closed file, for every session: the data length N · bw as `au_write_header` stores it -/
theorem au_size_field_closed (ix fmt : Nat) (ch sr : Int) (h0 : H) (s0 : Store) (ops : List SOp)
    (hc : containerOf fmt = some .au) (ho : openHandle ix {} .w fmt ch sr = .ok h0 s0)
    (hv : ∀ op ∈ ops, op.valid ch.toNat) (c : Cfg) (hcfg : openCfg fmt ch sr = some c) :
    rd32 (dataBig .au fmt) (closeHandle (runS (h0, s0) ops).1 (runS (h0, s0) ops).2).bytes 8 =
      wrapU 32 (if ((sessFrames ch.toNat ops * c.bw : Nat) : Int) > 0x7FFFFFFF then -1
                else ((sessFrames ch.toNat ops * c.bw : Nat) : Int)) := by
  obtain ⟨c', hcfg', _, _, _, i⟩ := session_inv ops ho hv
  rw [hcfg] at hcfg'; cases hcfg'
  obtain ⟨_, _, _, cCh, cBig, _⟩ := openCfg_facts hcfg
  have hcc : c.container = .au := openCfg_container hcfg hc
  have hN : (c.init.run c ops).frames = sessFrames ch.toNat ops := by rw [init_run_frames, cCh]
  rw [close_bytes i]; simp only [closedImage, hcc]
  rw [← hcc, ← cBig, au_size_field_image c _ hcc, i.dlen, hN]

/-- the AU data-size field of the closed file holds the data length while that is ≤ 2^31 − 1 … -/
theorem au_size_field (ix fmt : Nat) (ch sr : Int) (h0 : H) (s0 : Store) (ops : List SOp)
    (hc : containerOf fmt = some .au) (ho : openHandle ix {} .w fmt ch sr = .ok h0 s0)
    (hv : ∀ op ∈ ops, op.valid ch.toNat) (c : Cfg) (hcfg : openCfg fmt ch sr = some c)
    (hsize : sessFrames ch.toNat ops * c.bw ≤ 0x7FFFFFFF) :
    let fin := runS (h0, s0) ops
    rd32 (dataBig .au fmt) (closeHandle fin.1 fin.2).bytes 8 = sessFrames ch.toNat ops * c.bw := by
  intro fin
  show rd32 _ (closeHandle _ _).bytes 8 = _
  rw [au_size_field_closed ix fmt ch sr h0 s0 ops hc ho hv c hcfg, if_neg (by omega)]
  have := wrapU_of_range 32 ((sessFrames ch.toNat ops * c.bw : Nat) : Int) (by omega) (by omega)
  omega

/-- … and −1 (0xFFFFFFFF) beyond: `au_reopen_info` shows the reader still reports frames = N -/
theorem au_size_field_overlimit (ix fmt : Nat) (ch sr : Int) (h0 : H) (s0 : Store) (ops : List SOp)
    (hc : containerOf fmt = some .au) (ho : openHandle ix {} .w fmt ch sr = .ok h0 s0)
    (hv : ∀ op ∈ ops, op.valid ch.toNat) (c : Cfg) (hcfg : openCfg fmt ch sr = some c)
    (hsize : sessFrames ch.toNat ops * c.bw > 0x7FFFFFFF) :
    let fin := runS (h0, s0) ops
    rd32 (dataBig .au fmt) (closeHandle fin.1 fin.2).bytes 8 = 0xFFFFFFFF := by
  intro fin
  show rd32 _ (closeHandle _ _).bytes 8 = _
  rw [au_size_field_closed ix fmt ch sr h0 s0 ops hc ho hv c hcfg, if_pos (by omega)]
  decide

/-- WAV (PCM_U8/16/24/32, FLOAT, DOUBLE, ULAW, ALAW; RIFF and RIFX; with the fact chunk, the PEAK chunk of
    float/double files and the pad byte after an odd-length data chunk): under the RIFF guard
    (total length < 2^32) and for a rate the signed 32-bit header field holds (`hsr`; `openHandle` itself asks `1 ≤ sr`
    only) the closed bytes parse with the requested channels, rate, codec and byte order; the
    data starts right after the header and is exactly the encoded audio followed by at most one pad byte;
    and a reader reports frames = N (the pad byte never becomes a frame: `initFrames` uses `dataend`). -/
theorem wav_reopen_info (ix fmt : Nat) (ch sr : Int) (h0 : H) (s0 : Store) (ops : List SOp)
    (hc : containerOf fmt = some .wav)
    (ho : openHandle ix {} .w fmt ch sr = .ok h0 s0)
    (hsr : sr ≤ 0x7FFFFFFF)
    (hv : ∀ op ∈ ops, op.valid ch.toNat)
    (hguard : (closeHandle (runS (h0, s0) ops).1 (runS (h0, s0) ops).2).bytes.length < 2 ^ 32) :
    let fin := runS (h0, s0) ops
    let bytes := (closeHandle fin.1 fin.2).bytes
    let N := sessFrames ch.toNat ops
    ∃ p c pad, wavParse bytes = .ok p ∧ openCfg fmt ch sr = some c ∧ (p.ch : Int) = ch ∧ p.sr = sr ∧
      p.fmtWord = (if dataBig .wav fmt then 0x20000000 else 0) + 0x010000 + codecOf fmt ∧
      p.dataoffset = c.hdrLen ∧ bytes.drop c.hdrLen = sessData c ops ++ pad ∧ pad.length ≤ 1 ∧ bytes.length % 2 = 0 ∧
      ∀ (ix' pos fmt0 : Nat) (ch0 sr0 : Int), containerOf fmt0 ≠ some .raw →
        ∃ h' s', openHandle ix' ⟨bytes, pos⟩ .r fmt0 ch0 sr0 = .ok h' s' ∧ h'.frames = N ∧
          (h'.ch : Int) = ch ∧ h'.sr = sr ∧ h'.fmtWord = p.fmtWord ∧ h'.enc = c.enc := by
  intro fin bytes N
  obtain ⟨c, hcfg, h1, h2, h3, i⟩ := session_inv ops ho hv
  have hch := openCfg_ch hcfg
  have hk : c.container = .wav := openCfg_container hcfg hc
  obtain ⟨fl, t, hci, ht, hw⟩ := closedImage_eq c (c.init.run c ops)
  have hb : bytes = image c (c.init.run c ops) fl (zeros t) := (close_bytes i).trans hci
  have hlen : bytes.length = c.hdrLen + (c.init.run c ops).data.length + (zeros t).length := by
    rw [hb, image_length c _ i.absOk, Abs.off_eq i.pkSome]
  have hpadl : (zeros t).length ≤ 1 := by rw [zeros, List.length_replicate]; omega
  have hg : (c.init.run c ops).data.length < 0xFFFFFFFF := by
    have : bytes.length < 2 ^ 32 := hguard
    have := (Cfg.hdrLen_wav hk).2
    omega
  obtain ⟨p, hp, pCh, pSr, pWord, pOff, pData, reopen⟩ :=
    image_reads hcfg (by rw [hk]; decide) h1 h2 h3 hsr _ i.absOk i.pkSome fl _ (zeros_tail ht) (fun _ => hg) hb
  refine ⟨p, c, zeros t, by simpa only [Cfg.parser, hk] using hp, hcfg, pCh, pSr, by rw [pWord, openCfg_word hcfg, hk], pOff,
    by rw [pData, init_run_data], hpadl, ?_, ?_⟩
  · rw [hlen, (hw hk).1]; unfold wavPad_ct; split <;> simp <;> omega
  · intro ix' pos fmt0 ch0 sr0 hraw
    obtain ⟨h', s', ho', oFrames, oCh, oSr, oWord, oEnc, _⟩ := reopen ix' pos fmt0 ch0 sr0 hraw
    exact ⟨h', s', ho', by rw [oFrames, init_run_frames, hch], oCh, oSr, oWord, oEnc⟩

theorem wrapU_clamp32 (n : Nat) :
    wrapU 32 (if (n : Int) < 0xFFFFFFFF then (n : Int) else 0xFFFFFFFF) = if n < 0xFFFFFFFF then n else 0xFFFFFFFF := by
  by_cases h : n < 0xFFFFFFFF
  · rw [if_pos h, if_pos (by omega)]
    have := wrapU_of_range 32 (n : Int) (by omega) (by omega)
    omega
  · rw [if_neg h, if_neg (by omega)]; decide

/-- the RIFF length field and the data-chunk size field of the closed file: the true values, clamped to
    0xFFFFFFFF — this one statement covers the guarded case (fields exact) and the over-limit branch
    (the fields saturate, and the 32-bit container can no longer describe the audio, which is why
    `wav_reopen_info` carries the guard) -/
theorem wav_size_fields_closed (ix fmt : Nat) (ch sr : Int) (h0 : H) (s0 : Store) (ops : List SOp)
    (hc : containerOf fmt = some .wav) (ho : openHandle ix {} .w fmt ch sr = .ok h0 s0)
    (hv : ∀ op ∈ ops, op.valid ch.toNat) (c : Cfg) (hcfg : openCfg fmt ch sr = some c) :
    let fin := runS (h0, s0) ops
    let bytes := (closeHandle fin.1 fin.2).bytes
    let D := sessFrames ch.toNat ops * c.bw
    rd32 (dataBig .wav fmt) bytes 4 = (if bytes.length - 8 < 0xFFFFFFFF then bytes.length - 8 else 0xFFFFFFFF) ∧
    rd32 (dataBig .wav fmt) bytes (c.hdrLen - 4) = (if D < 0xFFFFFFFF then D else 0xFFFFFFFF) := by
  intro fin bytes D
  obtain ⟨c', hcfg', _, _, _, i⟩ := session_inv ops ho hv
  rw [hcfg] at hcfg'; cases hcfg'
  obtain ⟨_, _, _, cCh, cBig, _⟩ := openCfg_facts hcfg
  have hcc : c.container = .wav := openCfg_container hcfg hc
  have hN : (c.init.run c ops).frames = sessFrames ch.toNat ops := by rw [init_run_frames, cCh]
  have hb : bytes = hdrBytes c (c.init.run c ops)
      ((c.hdrLen + (c.init.run c ops).data.length + (wavPad_ct c (c.init.run c ops)).length : Nat) : Int)
      ((c.init.run c ops).data.length : Int) ++ ((c.init.run c ops).data ++ wavPad_ct c (c.init.run c ops)) := by
    show (closeHandle _ _).bytes = _
    rw [close_bytes i]; simp [closedImage, hcc]
  have hlen : bytes.length = c.hdrLen + (c.init.run c ops).data.length + (wavPad_ct c (c.init.run c ops)).length := by
    rw [hb]; simp [hdrBytes_length c _ _ _ i.pkSome i.pkLen]; omega
  have hL := (Cfg.hdrLen_wav hcc).2
  have hD : (c.init.run c ops).data.length = D := by rw [i.dlen, hN]
  obtain ⟨r1, r2⟩ := wav_size_fields c (c.init.run c ops) _ _ _ hcc i.pkLen i.pkSome
  rw [← hb, ← hcc, ← cBig] at *
  rw [r1, r2, ← hlen, hD]
  have e8 : (bytes.length : Int) - 8 = ((bytes.length - 8 : Nat) : Int) := by omega
  rw [if_neg (by omega), e8]
  exact ⟨wrapU_clamp32 _, wrapU_clamp32 D⟩

/-- a float WAV session (fact + PEAK chunks) and an odd-length µ-law session (fact chunk + pad byte) -/
def exF : List SOp := [.write ⟨.f32, true, 1, [0x3F000000]⟩, .write ⟨.s16, true, 1, [16384]⟩]
def exU : List SOp := [.write ⟨.s16, true, 3, [0, 1000, -1000]⟩]
example : (openHandle 0 {} .w 0x010006 1 8000).isOk_ct = true ∧ (∀ op ∈ exF, op.valid 1) ∧
    (sessionBytes 0 0x010006 1 8000 exF).map List.length = some 88 ∧
    (sessionBytes 0 0x010006 1 8000 exF).bind (reopenFrames ·) = some 2 := by decide +kernel
example : (openHandle 0 {} .w 0x010010 1 8000).isOk_ct = true ∧ (∀ op ∈ exU, op.valid 1) ∧
    (sessionBytes 0 0x010010 1 8000 exU).map List.length = some 62 ∧
    (sessionBytes 0 0x010010 1 8000 exU).bind (reopenFrames ·) = some 3 := by decide +kernel

/-- RAW: a reader of any bytes reports frames = byte length / block width -/
theorem raw_reopen_frames (ix : Nat) (bs : List Byte) (pos fmt : Nat) (ch sr : Int) (enc : Enc)
    (hc : containerOf fmt = some .raw) (hch : 1 ≤ ch ∧ ch ≤ 1024) (hsr : 1 ≤ sr)
    (he : encOf .raw (codecOf fmt) (dataBig .raw fmt) = some enc) :
    ∃ h s', openHandle ix ⟨bs, pos⟩ .r fmt ch sr = .ok h s' ∧
      h.frames = ((bs.length / (enc.nbytes * ch.toNat) : Nat) : Int) ∧ (h.ch : Int) = ch ∧ h.sr = sr := by
  obtain ⟨h, s', ho, oFrames, oCh, oSr, _⟩ := openHandle_raw_r ix bs pos fmt ch sr enc hc hch hsr he
  exact ⟨h, s', ho, oFrames, oCh, oSr⟩

/-- RAW: the closed file of a session is exactly the encoded audio, and re-opening it with the same parameters
    reports frames = N -/
theorem raw_reopen_info (ix fmt : Nat) (ch sr : Int) (h0 : H) (s0 : Store) (ops : List SOp)
    (hc : containerOf fmt = some .raw) (ho : openHandle ix {} .w fmt ch sr = .ok h0 s0)
    (hv : ∀ op ∈ ops, op.valid ch.toNat) :
    let fin := runS (h0, s0) ops
    let bytes := (closeHandle fin.1 fin.2).bytes
    ∃ c, openCfg fmt ch sr = some c ∧ bytes = sessData c ops ∧
      ∀ ix' pos, ∃ h' s', openHandle ix' ⟨bytes, pos⟩ .r fmt ch sr = .ok h' s' ∧ h'.frames = sessFrames ch.toNat ops := by
  intro fin bytes
  obtain ⟨c, hcfg, h1, h2, h3, i⟩ := session_inv ops ho hv
  obtain ⟨_, _, _, cCh, cBig, cEnc⟩ := openCfg_facts hcfg
  have hcc : c.container = .raw := openCfg_container hcfg hc
  rw [hcc] at cBig cEnc
  have hb : bytes = (c.init.run c ops).data := by
    show (closeHandle _ _).bytes = _
    rw [close_bytes i]; simp [closedImage, hcc, snapImage, hdrBytes]
  refine ⟨c, hcfg, by rw [hb, init_run_data], ?_⟩
  intro ix' pos
  obtain ⟨h', s', ho', oFrames, _⟩ := openHandle_raw_r ix' bytes pos fmt ch sr c.enc hc ⟨h1, h2⟩ h3 (by rw [← cBig]; exact cEnc)
  refine ⟨h', s', ho', ?_⟩
  have hbw : 0 < c.enc.nbytes * ch.toNat := Nat.mul_pos (encOf_nbytes_pos cEnc) (by omega)
  rw [oFrames, hb, i.dlen, Cfg.bw, cCh, Nat.mul_div_cancel _ hbw, init_run_frames, cCh]

example : sessionBytes 0 0x040002 2 44100 exOps = some [1,0,254,255,3,0,252,255,5,0,6,0] ∧
    reopenFrames [1,0,254,255,3,0,252,255,5,0,6,0] 0x040002 2 44100 = some 3 := by decide

/-- `openHandle` in write mode has no `frames` parameter at all: the closed bytes are a function of
    (format word, channels, rate, the calls) only — `sessionBytes` *is* that function, and this theorem says it
    gives the bytes of every session.  It is immediate from the signature; it is stated because the property
    names it.  (The real library's W64 block-codec writers do leak the caller's stale SF_INFO.frames into the
    'fact' chunk — a known finding outside the containers modelled here.) -/
theorem stale_frames_ignored (ix fmt : Nat) (ch sr : Int) (h0 : H) (s0 : Store) (ops : List SOp)
    (ho : openHandle ix {} .w fmt ch sr = .ok h0 s0) :
    sessionBytes ix fmt ch sr ops = some (closeHandle (runS (h0, s0) ops).1 (runS (h0, s0) ops).2).bytes := by
  simp [sessionBytes, ho]

/-- …and they do not depend on the store index the handle is bound to either -/
theorem closed_bytes_canonical (ix fmt : Nat) (ch sr : Int) (ops : List SOp) (hv : ∀ op ∈ ops, op.valid ch.toNat)
    (bs : List Byte) (hb : sessionBytes ix fmt ch sr ops = some bs) :
    ∃ c, openCfg fmt ch sr = some c ∧ bs = closedImage c (c.init.run c ops) := by
  unfold sessionBytes at hb
  split at hb
  · rename_i h s ho
    obtain ⟨c, hcfg, _, _, _, i⟩ := session_inv ops ho hv
    exact ⟨c, hcfg, by cases hb; exact close_bytes i⟩
  · cases hb

end Sf.C04
