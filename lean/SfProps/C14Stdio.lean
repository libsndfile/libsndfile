/-
  C14 — sf_open ("-") is the path route on a descriptor the process already has: the handle psf_set_stdio makes is the handle
  sf_open (path) makes in a world whose next descriptor number is 0 (read) / 1 (write) except that it does NOT own the descriptor
  (the library never opened it: sf_close and a failed open leave it alone — repair of KF-C14-STDIO-CLOSE, old rule kept as
  `setStdioOld` / `stdio_close_old_rule`); SFM_RDWR is refused.  Campaign: vlib/c14stdio.py
  (harness route `stdio` / `stdiopipe`), every writable format.
-/
import SfModel.RoutesStdio
import SfProps.C14CloseOwn
namespace Sf.C14Stdio
open Sf Sf.Routes Sf.RoutesStdio

/-- **the stdio handle is the path handle, minus the ownership**: same mode, descriptor = the one a path open would have been given in a
    world whose next number is 0 / 1, not virtual — and NOT owned: the library did not open it -/
theorem setStdio_is_openPath (w : World) (mode : Mode) (hm : mode ≠ .rw) (hfd : (w.fdnum : Int) = stdioFd mode) :
    setStdio mode = some { (openPath w mode).1 with doNotClose := true } := by
  cases mode
  · simp only [setStdio, openPath, stdioFd] at *; rw [hfd]
  · simp only [setStdio, openPath, stdioFd] at *; rw [hfd]
  · exact absurd rfl hm

theorem setStdio_rdwr_refused : setStdio .rw = none ∧ setStdioOld .rw = none := ⟨rfl, rfl⟩

theorem setStdio_shim (mode : Mode) (sh : Shim) (h : setStdio mode = some sh) : sh.doNotClose = true ∧ sh.virtualIo = false ∧ sh.filedes = stdioFd mode := by
  cases mode <;> simp [setStdio] at h <;> subst h <;> simp [stdioFd]

/-- the close of a handle with this shim, in the close model of C14CloseOwn (whatever the codec / container handlers and close (2) answer) -/
def closeOf (sh : Shim) (c k : Option Int) (os : Int) : CloseOwn.Out :=
  CloseOwn.psfClose { codecClose := c, containerClose := k, virtualIo := sh.virtualIo, doNotClose := sh.doNotClose, osClose := os }

/-- **C14, sf_open ("-")**: sf_close never closes the process's descriptor 0 / 1 — "never touches descriptors it did not open" — for
    both modes, every handler result and every answer of the operating system -/
theorem stdio_close_leaves_descriptor (mode : Mode) (sh : Shim) (h : setStdio mode = some sh) (c k : Option Int) (os : Int) :
    (closeOf sh c k os).fdClosed = false := by
  have hs := setStdio_shim mode sh h
  unfold closeOf
  rw [C14CloseOwn.close_releases_iff_owned]
  simp [CloseOwn.H.owns, hs.1, hs.2.1]

/-- **the rule before the repair closed it** (KF-C14-STDIO-CLOSE): with do_not_close_descriptor clear the same close calls close (2) on 0 / 1 -/
theorem stdio_close_old_rule (mode : Mode) (sh : Shim) (h : setStdioOld mode = some sh) (c k : Option Int) (os : Int) :
    (closeOf sh c k os).fdClosed = true := by
  unfold closeOf
  rw [C14CloseOwn.close_releases_iff_owned]
  cases mode <;> simp [setStdioOld] at h <;> subst h <;> simp [CloseOwn.H.owns]

example : setStdio .r = some { mode := .r, filedes := 0, doNotClose := true } := rfl
example : (closeOf { mode := .r, filedes := 0, doNotClose := true } (some 3) none (-1)).fdClosed = false := by decide
example : (setStdio .w).map (·.filedes) = some 1 := rfl

end Sf.C14Stdio
