/-
  C07 (block codecs) — what the bytes of the stateful sample-granular coders depend on: the XI delta coders carry
  their running value across calls, so cutting the samples into calls anywhere gives the same deltas; the OKI
  coder likewise for cuts at ANY position (the odd sample of a call is held for the next call / for close: KF-VOX-ODD,
  repaired; what an odd cut did before as an `…_old_rule` witness).
  For the generic block writer `Sf.Block.Writer`: the flush rule at close, one call as the fold of the per-frame step and
  any sequence of calls as one call, and PAF24 as its instance whose staging pieces are whole frames.
-/
import SfProofs.BlockSession
import SfProofs.BlockVoxCarry
import SfProofs.Dpcm
namespace Sf.C07Block
open Sf Sf.Block Sf.Block.Proofs Sf.VoxCarry

theorem dpcm16_partition (xs : List Int) : ∀ (l : Int) (ys : List Int),
    (Dpcm.delta16 l (xs ++ ys)).2 = (Dpcm.delta16 l xs).2 ++ (Dpcm.delta16 (Dpcm.delta16 l xs).1 ys).2 ∧
    (Dpcm.delta16 l (xs ++ ys)).1 = (Dpcm.delta16 (Dpcm.delta16 l xs).1 ys).1 := delta16_eq ▸ delta_append 16 xs

theorem dpcm8_partition (xs : List Int) : ∀ (l : Int) (ys : List Int),
    (Dpcm.delta8 l (xs ++ ys)).2 = (Dpcm.delta8 l xs).2 ++ (Dpcm.delta8 (Dpcm.delta8 l xs).1 ys).2 ∧
    (Dpcm.delta8 l (xs ++ ys)).1 = (Dpcm.delta8 (Dpcm.delta8 l xs).1 ys).1 := delta8_eq ▸ delta_append 8 xs

example : (Dpcm.delta16 0 ([5, 7] ++ [4])).2 = [5, 2, -3] ∧ (Dpcm.delta16 (Dpcm.delta16 0 [5, 7]).1 [4]).2 = [-3] := by decide

/-- old rule, witness: the same four samples written as 3 + 1 and as 4 — three bytes instead of two (each odd-length
    call inserted a zero sample) -/
theorem vox_partition_pads_old_rule :
    (Oki.writeBlockOld 5 {} [256, 512, 768, 1024] 4).2.1.length = 2 ∧
    ((Oki.writeBlockOld 4 {} [256, 512, 768] 3).2.1 ++
      (Oki.writeBlockOld 2 (Oki.writeBlockOld 4 {} [256, 512, 768] 3).1 [1024] 1).2.1).length = 3 := by decide

/-- full strength: two calls, cut ANYWHERE (odd or even position, any coder state, any sample held from earlier calls),
    leave the coder state and the held sample of one call with the concatenation, their bytes concatenated are its
    bytes and the counts add up — whatever the 512-sample pieces of `vox_write_block` are.  `Oki.writeBlock`'s first
    argument is the fuel of its loop (any value above the length) -/
theorem vox_partition (st : Oki.St) (c : Option Int) (xs ys : List Int) :
    let one := Oki.writeBlock ((xs ++ ys).length + 1) st c (xs ++ ys) (xs ++ ys).length
    let a := Oki.writeBlock (xs.length + 1) st c xs xs.length
    let b := Oki.writeBlock (ys.length + 1) a.1 a.2.1 ys ys.length
    one.1 = b.1 ∧ one.2.1 = b.2.1 ∧ one.2.2.1 = a.2.2.1 ++ b.2.2.1 ∧ one.2.2.2 = a.2.2.2 + b.2.2.2 := by
  simp only
  rw [writeBlock_spec _ st c (xs ++ ys) (Nat.lt_succ_self _), writeBlock_spec _ st c xs (Nat.lt_succ_self _),
    writeBlock_spec _ _ _ ys (Nat.lt_succ_self _), writeSpec_append st c xs ys]
  dsimp only
  exact ⟨rfl, rfl, rfl, rfl⟩

/-- non-vacuity, on the witness of the old rule: 3 + 1 gives the two bytes of one call of 4 -/
example : (Oki.writeBlock 4 {} none [256, 512, 768] 3).2.2.1 ++
      (Oki.writeBlock 2 (Oki.writeBlock 4 {} none [256, 512, 768] 3).1 (Oki.writeBlock 4 {} none [256, 512, 768] 3).2.1 [1024] 1).2.2.1 =
    (Oki.writeBlock 5 {} none [256, 512, 768, 1024] 4).2.2.1 ∧ (Oki.writeBlock 5 {} none [256, 512, 768, 1024] 4).2.2.1.length = 2 := by decide

/-- the closed file: any number of calls of any sizes, then `codec_close` — the bytes are the pair encoder over the
    concatenated samples (an odd total gets the encoder's zero sample), so they depend on the concatenation only -/
theorem vox_file_bytes_partition (calls : List (List Int)) :
    voxFile {} none calls = (Oki.encPairs {} (padZero calls.flatten)).2 := by
  rw [voxFile_spec]; rfl

theorem vox_file_bytes_depend_on_samples_only (calls1 calls2 : List (List Int)) (h : calls1.flatten = calls2.flatten) :
    voxFile {} none calls1 = voxFile {} none calls2 := by
  rw [vox_file_bytes_partition, vox_file_bytes_partition, h]

example : voxFile {} none [[256], [512, 768, 1024], [1280]] = voxFile {} none [[256, 512, 768, 1024, 1280]] ∧
    (voxFile {} none [[256], [512, 768, 1024], [1280]]).length = 3 := by decide

/-- the staging of `vox_write_i/f/d` (pieces of 4096 items) is invisible too -/
theorem vox_write_call_staging (chunk : Nat) (st : Oki.St) (c : Option Int) (xs : List Int) :
    Oki.writeCall chunk (xs.length + 1) st c xs xs.length = Oki.writeBlock (xs.length + 1) st c xs xs.length := by
  rw [writeCall_spec chunk _ st c xs (Nat.lt_succ_self _), writeBlock_spec _ st c xs (Nat.lt_succ_self _)]

example : Oki.writeCall 2 6 {} none [256, 512, 768, 1024, 1280] 5 = Oki.writeBlock 6 {} none [256, 512, 768, 1024, 1280] 5 := by decide

variable {σ : Type}

/-- close with nothing pending emits nothing; with `cnt` frames pending and `padZero` it encodes the pending
    frames followed by zeros (sds_close after 8917c03); without `padZero` the buffer as it is (paf24_close) -/
theorem block_writer_close (w : Writer σ) (st : WState σ) (pad : Bool) :
    (st.cnt = 0 → w.close pad st = st) ∧
    (st.cnt ≠ 0 → (w.close pad st).out =
      (w.enc st.es (if pad then st.buf.take (st.cnt * w.ch) ++ zeros ((w.spb - st.cnt) * w.ch) else st.buf)).2 :: st.out) := by
  constructor
  · intro h; simp [Writer.close, h]
  · intro h; simp [Writer.close, h, Writer.emit]

example : ((Sds.writer 3).close true ((Sds.writer 3).write ((Sds.writer 3).init 0) [65536])).out.length = 1 := by decide

/-- one inner call with whole frames is the fold of the per-frame step `pushFrame` (store the frame, count it,
    encode + emit when the block is full) over its frames, and the invariant "buffer of block size, not full"
    is kept -/
theorem block_writer_is_fold (w : Writer σ) (wf : WWF w) (st : WState σ) (inv : WInv w st) (fs : List (List Int))
    (hu : Uniform w.ch fs) :
    w.write st fs.flatten = fs.foldl (pushFrame w) st ∧ WInv w (fs.foldl (pushFrame w) st) := write_fold w wf st fs inv hu

/-- The state after any sequence of calls (hence the emitted bytes, and the bytes after
    close) is the state after one call with the concatenated frames -/
theorem block_writer_partition (w : Writer σ) (wf : WWF w) (st : WState σ) (inv : WInv w st) (calls : List (List (List Int)))
    (hu : ∀ c ∈ calls, Uniform w.ch c) (pad : Bool) :
    calls.foldl (fun st c => w.write st c.flatten) st = w.write st calls.flatten.flatten ∧
    (w.close pad (calls.foldl (fun st c => w.write st c.flatten) st)).bytes = (w.close pad (w.write st calls.flatten.flatten)).bytes := by
  have e : calls.foldl (fun st c => w.write st c.flatten) st = w.write st calls.flatten.flatten := by
    rw [foldl_calls_fold w wf _ id calls (fun s c _ hs hc => (write_fold w wf s c hs hc).1) st inv hu, List.flatMap_id,
      (write_fold w wf st calls.flatten inv (List.flatMap_id ▸ uniform_flatMap id calls hu)).1]
  exact ⟨e, by rw [e]⟩

/-- non-vacuity: a 2-frames-per-block, 2-channel writer whose encoder numbers its blocks (cross-block state) -/
def toyW : Writer Nat := { spb := 2, ch := 2, enc := fun k b => (k + 1, k :: b.map Int.toNat) }
example : ((toyW.close true ((([[[1, 2]], [[3, 4], [5, 6]]] : List (List (List Int))).foldl (fun st c => toyW.write st c.flatten) (toyW.init 0)))).bytes
    = [0, 1, 2, 3, 4, 1, 5, 6, 0, 0]) ∧
    (toyW.close true (toyW.write (toyW.init 0) [1, 2, 3, 4, 5, 6])).bytes = [0, 1, 2, 3, 4, 1, 5, 6, 0, 0] := by decide

/-! ## PAF24 after the repair of KF-PAF24-CHUNK: staging pieces are whole frames -/

theorem paf24_chunk_whole_frames (ch : Nat) (ty : Ty) : ∃ q, Paf24.chunkOf ch ty = q * ch := by
  unfold Paf24.chunkOf
  by_cases h : ty = .s32
  · exact ⟨0, by simp [h]⟩
  · refine ⟨2048 / ch, ?_⟩
    rw [if_neg h]
    have := Nat.div_add_mod 2048 ch
    rw [Nat.mul_comm] at this
    omega

/-- the rule before the repair: 683 three-channel frames written by one short call were accounted as 682 (the
    frame cut by the 2048-item piece is lost) … -/
theorem paf24_chunk_old_rule :
    (wcall (Paf24.writer 3 false) (Paf24.chunkOfOld .s16) ((Paf24.writer 3 false).init []) (List.replicate 2049 0)).nblk * 10 +
    (wcall (Paf24.writer 3 false) (Paf24.chunkOfOld .s16) ((Paf24.writer 3 false).init []) (List.replicate 2049 0)).cnt = 682 := by
  decide +kernel

/-- … and with the current rule all 683 are -/
theorem paf24_chunk_new_rule_witness :
    (wcall (Paf24.writer 3 false) (Paf24.chunkOf 3 .s16) ((Paf24.writer 3 false).init []) (List.replicate 2049 0)).nblk * 10 +
    (wcall (Paf24.writer 3 false) (Paf24.chunkOf 3 .s16) ((Paf24.writer 3 false).init []) (List.replicate 2049 0)).cnt = 683 := by
  decide +kernel

/-- **full strength, current rule**: for every channel count, byte order, every sequence of calls of any caller
    types (each a whole number of frames, as sf_write_* enforces), the writer state — so the data region after
    close — is the per-frame fold over the concatenated frames: it depends on the concatenation only -/
theorem paf24_write_partition (ch : Nat) (hch : 0 < ch) (big : Bool) (calls : List (Ty × List (List Int)))
    (hu : ∀ c ∈ calls, Uniform ch c.2) (st : WState (List Paf24.Spare)) (inv : WInv (Paf24.writer ch big) st) :
    calls.foldl (fun st c => wcall (Paf24.writer ch big) (Paf24.chunkOf ch c.1) st c.2.flatten) st =
      (calls.flatMap (·.2)).foldl (pushFrame (Paf24.writer ch big)) st :=
  (frames_session (Paf24.writer ch big) ⟨Nat.succ_pos 9, hch⟩ (fun c => Paf24.chunkOf ch c.1) (fun c => c.2.flatten) (·.2)
    (fun c => paf24_chunk_whole_frames ch c.1) calls st inv (fun c hc => by exact ⟨rfl, hu c hc⟩)).1

end Sf.C07Block
