-- properties: C05 C20
/-
  C05 / C06 / C20 (GSM 06.10 decoder) — NO WRAP ANYWHERE IN THE DECODER.

  SfProofs/GsmTwin.lean defines a wrap-free twin of the decoder: every function of SfModel/Gsm.lean again, with every
  `int16_t` / `int32_t` conversion removed and the arithmetic on unbounded integers with the Recommendation's saturating
  operators (`Sf.Gsm.Rec`) — `gsmDecodeN`.  The theorems:

    `gsm_decoder_never_wraps`           ∀ state satisfying the decoder invariant, ∀ frame bytes (any 33 / 65 bytes, magic
                                        right or wrong, both layouts): the twin and the wrapping decoder return the same
                                        state and the same 160 samples — no conversion in the decoder ever changes a value
    `gsm_decoder_never_wraps_stream`    … hence for every sequence of frames from `gsm_create`, every delivered block and
                                        the final state are those of the wrap-free decoder (33-byte and WAV49 layouts)
    `gsm_decoder_mult_r_is_spec`        in particular the macro GSM_MULT_R, whose value at (MIN_WORD, MIN_WORD) would wrap
                                        (`gsm_multR_min_min`), is only ever evaluated where it equals the spec operator
    `gsm_postproc_is_floor8`            the one deliberate truncation, `& 0xFFF8`, is "round down to a multiple of 8"
  What the proof needs of the input is only that every parameter lies inside its bit field, which the unpackers guarantee for
  any bytes (`gsm_frame_fields_in_range`, and per LAR index `Sf.Gsm.Twin.mkParams_larInv`): with a LARc [2] of 63 (six bits
  where the frame has five) `Decoding_of_the_coded_Log_Area_Ratios` WOULD wrap — `gsm_lar_wrap_needs_out_of_field_code`.
-/
import SfProofs.GsmTwin
namespace Sf.C06GsmNoWrap
open Sf Sf.Gsm Sf.Gsm.Proofs Sf.Gsm.Twin

/-- **no wrap in `gsm_decode`**: full strength over states and bytes -/
theorem gsm_decoder_never_wraps (st : State) (c : List Byte) (inv : SInv st) : gsmDecodeN st c = gsmDecode st c := by
  unfold gsmDecodeN gsmDecode
  by_cases hw : st.wavFmt = true
  · rw [if_pos hw, if_pos hw]
    by_cases hf : 1 - st.frameIndex = 1
    · simp only [if_pos hf]
      obtain ⟨p1, p2⟩ := unpack49a_inv c
      have p3 := unpack49a_larInv c
      generalize unpack49a c = u at p1 p2 p3
      obtain ⟨p, chain⟩ := u
      simp only at p1 p2 p3 ⊢
      have inv1 := inv.frame (1 - st.frameIndex) chain (Nat.sub_le 1 _) p2
      rw [decodeParamsN_eq _ p inv1 p1 p3]
    · simp only [if_neg hf]
      have inv1 := inv.frame (1 - st.frameIndex) st.frameChain (Nat.sub_le 1 _) inv.chain_lt
      rw [decodeParamsN_eq _ _ inv1 (unpack49b_inv st.frameChain c) (unpack49b_larInv st.frameChain c)]
  · rw [if_neg hw, if_neg hw]
    cases hu : unpack33 c with
    | none => rfl
    | some p =>
      simp only
      rw [decodeParamsN_eq st p inv (unpack33_inv c p hu) (unpack33_larInv c p hu)]

def decodeAll33N : State → List (List Byte) → List (List Int)
  | _, [] => []
  | st, c :: cs =>
    let (st1, o) := gsmDecodeN st c
    (o.getD []) :: decodeAll33N st1 cs

def decodeAll49N : State → List (List Byte) → List (List Int)
  | _, [] => []
  | st, c :: cs =>
    let (st1, o1) := gsmDecodeN st c
    let (st2, o2) := gsmDecodeN st1 (c.drop 33)
    (o1.getD [] ++ o2.getD []) :: decodeAll49N st2 cs

/-- **whole streams**: any number of frames / WAV49 blocks of any bytes, from any invariant state (so from `gsm_create`) -/
theorem gsm_decoder_never_wraps_stream (frames : List (List Byte)) :
    (∀ st, SInv st → decodeAll33N st frames = decodeAll33 st frames) ∧
    (∀ st, SInv st → decodeAll49N st frames = decodeAll49 st frames) ∧
    decodeAll33N State.init frames = decodeAll33 State.init frames ∧
    decodeAll49N State.initWav frames = decodeAll49 State.initWav frames := by
  have k33 : ∀ (fs : List (List Byte)) (st : State), SInv st → decodeAll33N st fs = decodeAll33 st fs := by
    intro fs
    induction fs with
    | nil => intro st _; rfl
    | cons c cs ih =>
      intro st inv
      simp only [decodeAll33N, decodeAll33]
      rw [gsm_decoder_never_wraps st c inv, ih _ (gsmDecode_spec st c inv).1]
  have k49 : ∀ (fs : List (List Byte)) (st : State), SInv st → decodeAll49N st fs = decodeAll49 st fs := by
    intro fs
    induction fs with
    | nil => intro st _; rfl
    | cons c cs ih =>
      intro st inv
      simp only [decodeAll49N, decodeAll49]
      have i1 := (gsmDecode_spec st c inv).1
      rw [gsm_decoder_never_wraps st c inv, gsm_decoder_never_wraps _ (c.drop 33) i1, ih _ (gsmDecode_spec _ (c.drop 33) i1).1]
  exact ⟨k33 frames, k49 frames, k33 frames _ SInv_init, k49 frames _ SInv_initWav⟩

/-- the GSM_MULT_R of the long-term synthesis and of the post-processing equal the spec operator mult_r (the macro's wrap at
    (MIN_WORD, MIN_WORD) is never taken): the twin writes them with the exact `(a · b + 16384) / 2^15` and agrees with the
    macro-shaped model.  (The APCM inverse quantisation and the LAR decoding, cell by cell: `rpeDecodeN_eq`, `decodeLarN_eq` of
    SfProofs/GsmTwin.lean; all of them together: `gsm_decoder_never_wraps`.) -/
theorem gsm_decoder_mult_r_is_spec (hist erp : List Int) (nr bcr : Int) (hw : AllW16 hist) (msr : Int) (hm : W16 msr) (l : List Int) :
    ltSynthN hist nr bcr erp = ltSynth hist nr bcr erp ∧ postprocN msr l = postproc msr l :=
  ⟨ltSynthN_eq hist nr bcr erp hw, postprocN_eq l msr hm⟩

/-- Postprocessing's `& 0xFFF8` -/
theorem gsm_postproc_is_floor8 (x : Int) (h : W16 x) : w16 (((wrapU 16 x / 8 * 8 : Nat) : Int)) = x / 8 * 8 := trunc8_exact x h

/-- the bit-field hypothesis is needed: a LAR code outside its five-bit field makes the `<< 10` leave 16 bits -/
theorem gsm_lar_wrap_needs_out_of_field_code :
    larStepN 63 (tab tabB 2) (tab tabMIC 2) (tab tabINVA 2) ≠ larStep 63 (tab tabB 2) (tab tabMIC 2) (tab tabINVA 2) ∧
    larStepN 31 (tab tabB 2) (tab tabMIC 2) (tab tabINVA 2) = larStep 31 (tab tabB 2) (tab tabMIC 2) (tab tabINVA 2) := by
  decide +kernel

/-- non-vacuity: the all-ones frame (largest lag, gain, block maximum and pulse codes) through both decoders -/
example : gsmDecodeN State.init (0xDF :: List.replicate 32 0xFF) = gsmDecode State.init (0xDF :: List.replicate 32 0xFF) ∧
    ((gsmDecode State.init (0xDF :: List.replicate 32 0xFF)).2.getD []).length = 160 := by
  refine ⟨gsm_decoder_never_wraps _ _ SInv_init, ?_⟩
  -- the magic nibble is right, so there is a block; every block has 160 samples
  have hs : (gsmDecode State.init (0xDF :: List.replicate 32 0xFF)).2.isSome = true := by
    unfold gsmDecode unpack33
    rw [if_neg (by decide), if_neg (by decide)]
    split
    · rename_i h; cases h
    · generalize decodeParams _ _ = r
      rfl
  obtain ⟨o, ho⟩ := Option.isSome_iff_exists.mp hs
  rw [ho]
  exact ((gsmDecode_spec _ _ SInv_init).2 o ho).1

end Sf.C06GsmNoWrap
