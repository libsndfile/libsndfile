/-
  C14 — getting to the audio data is route independent when the parser READS forward, and is not when it seeks: on a pipe
  psf_fseek does nothing.  Model: SfModel/RoutesSkip.lean over SfModel/Routes.lean; the campaign that ties it to the code is the
  foreign-file stream of vlib/foreign.py (AU annotation, AIFF SSND offset, chunks in front of the audio, through every route).
-/
import SfModel.RoutesSkip
import SfProps.C14
namespace Sf.C14Skip
open Sf Sf.Routes Sf.RoutesSkip Sf.C14

/-- **pipe**: with the read-forward rule a non-seekable descriptor delivers what the logical file delivers — the move and the
    first audio read, for every gap and every read size -/
theorem pipe_first_audio_read_forward (sh : Shim) (w : World) (a : Abs) (h : RelPipe sh w a) (gap m : Nat) :
    (run sh w (firstAudio .readForward a.pos gap m)).1 = (absRun a (firstAudio .readForward a.pos gap m)).1 :=
  pipe_equivalent _ sh w a h (by simp [firstAudio, reach, OpsPipe, pipeOk])

/-- **seekable routes** (path, descriptor, descriptor at an offset, callbacks): either rule, as long as the operations are
    covered (`OpsOk`, decidable), gives what the logical file gives -/
theorem seekable_first_audio (r : Rule) (sh : Shim) (w : World) (a : Abs) (h : Rel sh w a) (gap m : Nat)
    (ok : OpsOk sh a (firstAudio r a.pos gap m)) :
    (run sh w (firstAudio r a.pos gap m)).1 = (absRun a (firstAudio r a.pos gap m)).1 :=
  (routes_equivalent_partial _ sh w a h ok).1

theorem abs_after_read_forward (a : Abs) (gap : Nat) (hin : a.pos + gap ≤ a.content.length) :
    (absRun a (reach .readForward a.pos gap)).2 = { a with pos := a.pos + gap } := by
  simp only [reach, absRun, absStep_read_inside a gap hin]

/-- on the logical file (and on every seekable route) the seek lands where the read-forward move lands: the two rules are the same move -/
theorem abs_after_seek_set (a : Abs) (gap : Nat) :
    (absRun a (reach .seekSet a.pos gap)).2 = { a with pos := a.pos + gap } :=
  absStep_seek_lands a _ 0 (a.pos + gap) (by decide) (by simp [whBase])

theorem rules_agree_on_the_logical_file (a : Abs) (gap : Nat) (hin : a.pos + gap ≤ a.content.length) :
    (absRun a (reach .readForward a.pos gap)).2 = (absRun a (reach .seekSet a.pos gap)).2 := by
  rw [abs_after_read_forward a gap hin, abs_after_seek_set]

/-- the AU annotation and the AIFF SSND offset on a pipe, as the code has it: the samples of the logical file -/
theorem au_pipe_first_audio (sh : Shim) (w : World) (a : Abs) (h : RelPipe sh w a) (gap m : Nat) :
    (run sh w (firstAudio auRule a.pos gap m)).1 = (absRun a (firstAudio auRule a.pos gap m)).1 :=
  pipe_first_audio_read_forward sh w a h gap m

theorem aiff_pipe_first_audio (sh : Shim) (w : World) (a : Abs) (h : RelPipe sh w a) (gap m : Nat) :
    (run sh w (firstAudio aiffPipeRule a.pos gap m)).1 = (absRun a (firstAudio aiffPipeRule a.pos gap m)).1 :=
  pipe_first_audio_read_forward sh w a h gap m

/-- a stream of 2 header bytes already consumed, a gap of 3 bytes (7, 7, 7) and the audio 1, 2, 3, 4 -/
def demoPipe : World := { file := [9, 9, 7, 7, 7, 1, 2, 3, 4], off := 2, isPipe := true, openFds := [3] }
def demoShim : Shim := { filedes := 3, isPipe := true, pipeoffset := 2 }
def demoAbs : Abs := ⟨[9, 9, 7, 7, 7, 1, 2, 3, 4], 2⟩

/-- **the seek rule on a pipe** (aiff_open before the repair; what an AU reader that seeks would do): the "seek" reports
    success and the audio read delivers the gap bytes -/
theorem aiff_pipe_old_rule :
    RelPipe demoShim demoPipe demoAbs ∧
    (run demoShim demoPipe (firstAudio aiffPipeRuleOld 2 3 4)).1 = [(5, []), (4, [7, 7, 7, 1])] ∧
    (absRun demoAbs (firstAudio aiffPipeRuleOld 2 3 4)).1 = [(5, []), (4, [1, 2, 3, 4])] ∧
    (run demoShim demoPipe (firstAudio aiffPipeRule 2 3 4)).1 = [(3, [7, 7, 7]), (4, [1, 2, 3, 4])] := by
  refine ⟨⟨rfl, rfl, by decide, rfl, rfl, rfl⟩, by decide, by decide, by decide⟩

/-- non-vacuity of the seekable statement: a descriptor at offset 1 of a larger file and the callbacks, both rules covered -/
example : OpsOk (shFd .r 1) ⟨[9, 9, 7, 7, 7, 1, 2, 3, 4], 2⟩ (firstAudio .seekSet 2 3 4) ∧
    OpsOk (openVio .r) ⟨[9, 9, 7, 7, 7, 1, 2, 3, 4], 2⟩ (firstAudio .readForward 2 3 4) := by
  refine ⟨by decide, by decide⟩

end Sf.C14Skip
