import SfProps.C20
import SfProps.C02
import SfProps.C13
import SfProps.C20Adpcm
import SfProps.C10
import SfProps.C02Float
import SfProps.C05
import SfProps.C06
import SfProps.C09
import SfProps.C01
import SfProps.C07
import SfProps.C17
import SfProps.C03
import SfProps.C09Table
import SfProps.C04Geometry
import SfProps.C04
import SfProps.C11
import SfProps.C08
import SfProps.C15
import SfProps.C20Quant
import SfProps.C01Block
import SfProps.C06Block
import SfProps.C07Block
import SfProps.C18
import SfProps.C04Caf
import SfProps.C04CafDataEnd
import SfProps.C04CafDataEndFile
import SfProps.C04W64
import SfProps.C14
import SfProps.C19
import SfProps.C04Aiff
import SfProps.C08Refine
import SfProps.C16
import SfProps.C12
import SfProps.C20Ieee
import SfProps.C14Api
import SfProps.C01Aiff
import SfProps.C04Wavex
import SfProps.C04Rf64
import SfProps.C01Dwvw
import SfProps.C04Htk
import SfProps.C04Wve
import SfProps.C04Mpc2k
import SfProps.C04Pvf
import SfProps.C04Mat4
import SfProps.C12X
import SfProps.C12Order
import SfProps.C04Avr
import SfProps.C04Ircam
import SfProps.C04Paf
import SfProps.C04Svx
import SfProps.C05Abs
import SfProps.C06Abs
import SfProps.C08Abs
import SfProps.C07Nms
import SfProps.C06Nms
import SfProps.C07NmsPack
import SfProps.C03Loops
import SfProps.C03Sites
import SfProps.C12Fix
import SfProps.C07G72x
import SfProps.C06G72x
import SfProps.C05G72x
import SfProps.C04Nist
import SfProps.C04Voc
import SfProps.C04Xi
import SfProps.C06Gsm
import SfProps.C04Gsm
import SfProps.C07Gsm
import SfProps.C04GsmPad
import SfProps.C19Fd
import SfProps.C16Sites
import SfProps.C07Alac
import SfProps.C04Alac
import SfProps.C06Alac
import SfProps.C05Bridge
import SfProps.C01AbsW
import SfProps.C04AbsW
import SfProps.C07AbsW
import SfProps.C11AbsW
import SfProps.C08Bridge
import SfProps.C04Mat5
import SfProps.C04Sds
import SfProps.C12Round
import SfProps.C02Cross
import SfProps.C07Adpcm
import SfProps.C20CodecTables
import SfProps.C07CodecsClosed
import SfProps.C06CodecsPastEnd
import SfProps.C07NmsBlock
import SfProps.C20G72x
import SfProps.C20G72xTrack
import SfProps.C20Gsm
import SfProps.C19Codec
import SfProps.C06GsmNoWrap
import SfProps.C07GsmEncSums
import SfProps.C17Routes
import SfProps.C18Stale
import SfProps.C09Twin
import SfProps.C09Chmap
import SfProps.C03Clamp
import SfProps.C13Late
import SfProps.C06Query
import SfProps.C08Raw
import SfProps.C11Rdwr
import SfProps.C07AlacTyped
import SfProps.C04AlacBer
import SfProps.C14Skip
import SfProps.C19Heap
import SfProps.C19Spool
import SfProps.C01Alac
import SfProps.C03Alac
import SfProps.C01AlacInv
import SfProps.C01AlacBits
import SfProps.C01AlacGolomb
import SfProps.C01AlacLossless
import SfProps.C01AlacLosslessAll
import SfProps.C04Sd2
import SfProps.C03Nist
import SfProps.C12XState
import SfProps.C12Late
import SfProps.C12Abs
import SfProps.C13Abs
import SfProps.C12Twin
import SfProps.C12Get
import SfProps.C05Vox
import SfProps.C01Bridge
import SfProps.C04Bridge
import SfProps.C08Holes
import SfProps.C07Bridge
import SfProps.C04Sd2All
import SfProps.C06AlacStream
import SfProps.C01AlacFile
import SfProps.C18Exact
import SfProps.C09FailedOpen
import SfProps.C15Latch
import SfProps.C14Latch
import SfProps.C04Bridge2
import SfProps.C04Bridge2Ex
import SfProps.C07Bridge2
import SfProps.C18Long
import SfProps.C20Cross
import SfProps.C20Order
import SfProps.C02Query
import SfProps.C08Calc
import SfProps.C09CmdFail
import SfProps.C17Size
import SfProps.C16Tmp
import SfProps.C16CloseRet
import SfProps.C19Text
import SfProps.C05Foreign
import SfProps.C06VocBlocks
import SfProps.C07ShortIo
import SfProps.C14CloseOwn
import SfProps.C15RawRw
import SfProps.C05SvxPad
import SfProps.C07Bridge3
import SfProps.C07Bridge3Snap
import SfProps.C05HandleG
import SfProps.C07HandleG
import SfProps.C04HandleG
import SfProps.C04IeeeReinit
import SfProps.C08SdsRdwr
import SfProps.C04Bridge3
import SfProps.C06ImaSeek
import SfProps.C02Label
import SfProps.C01WavexGuid
import SfProps.C05Stage
import SfProps.C04RawWrite
import SfProps.C15Second
import SfProps.C11BlockEdge
import SfProps.C12Crlf
import SfProps.C13QuerySeek
import SfProps.C18PeakLoc
import SfProps.C14BigSkip
import SfProps.C14LowFd
import SfProps.C09ChmapPriv
import SfProps.C19HeapInit
import SfProps.C19Caps
import SfProps.C14Id3
import SfProps.C03AudioDetect
import SfProps.C09ErrApi
import SfProps.C14Stdio
import SfProps.C01BridgeFacts
import SfProps.C01BridgeReopen
import SfProps.C01BridgeRun
import SfProps.C07BridgeDpcm
import SfProps.C04IrcamRateExact
import SfProps.C04SvxReopen
import SfProps.C04BridgeW64
import SfProps.C04BridgeAiff
import SfProps.C04BridgeCaf
